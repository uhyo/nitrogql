import NitroVerif.Lemmas.JsonText
import NitroVerif.Lemmas.JsonTextNumber
import NitroVerif.Lemmas.JsonTextCases
/-!
# C12, text level — the readers' answers do not depend on the fuel

`fuel_enough` (one induction on the fuel, for any lexical layer whose string scanner consumes what it reads): if
`value L f s = some (t, r)` then `r` is shorter than `s` and `value L g s = some (t, r)` for EVERY `g` that is at
least `f` or at least `2 * (consumed characters) - 1`; likewise `elements` / `members` with `2 * consumed`.
Consequences: more fuel never changes an answer; `fuelFor s = 2 * length s + 2` is enough for every text (not only the
writer's): `parse s = none` means that NO fuel makes `s` a JSON text.
-/
namespace NitroVerif.JsonText
open NitroVerif

theorem skipWs_length (ws : Char → Bool) : ∀ s, (skipWs ws s).length ≤ s.length
  | [] => by simp [skipWs]
  | c :: cs => by
    have := skipWs_length ws cs
    by_cases h : ws c = true <;> simp [skipWs, h] <;> omega

theorem skipWs_cons_length {ws : Char → Bool} {s : List Char} {c : Char} {r : List Char} (h : skipWs ws s = c :: r) :
    r.length + 1 ≤ s.length := by
  have := skipWs_length ws s
  rw [h] at this
  simpa using this

theorem digits_length : ∀ s, (digits s).2.length ≤ s.length
  | [] => by simp [digits]
  | c :: cs => by
    have := digits_length cs
    by_cases h : isDigit c = true <;> simp [digits, h] <;> omega

theorem intPart_length {s i r : List Char} (h : intPart s = some (i, r)) : r.length < s.length := by
  cases s with
  | nil => simp [intPart] at h
  | cons c cs =>
    simp only [intPart] at h
    split at h
    · simp only [Option.some.injEq, Prod.mk.injEq] at h; rw [← h.2]; simp
    · split at h
      · simp only [Option.some.injEq, Prod.mk.injEq] at h
        have := digits_length cs
        rw [← h.2]; simp; omega
      · cases h

theorem fracPart_length {s x r : List Char} (h : fracPart s = some (x, r)) : r.length ≤ s.length := by
  cases s with
  | nil => simp only [fracPart, Option.some.injEq, Prod.mk.injEq] at h; rw [← h.2]; simp
  | cons c cs =>
    simp only [fracPart] at h
    split at h
    · split at h
      · cases h
      · simp only [Option.some.injEq, Prod.mk.injEq] at h
        have := digits_length cs
        rw [← h.2]; simp; omega
    · simp only [Option.some.injEq, Prod.mk.injEq] at h; rw [← h.2]; simp

theorem expDigits_length {pre s x r : List Char} (h : expDigits pre s = some (x, r)) : r.length ≤ s.length := by
  unfold expDigits at h
  split at h
  · cases h
  · simp only [Option.some.injEq, Prod.mk.injEq] at h
    have := digits_length s
    rw [← h.2]; exact this

theorem expPart_length {s x r : List Char} (h : expPart s = some (x, r)) : r.length ≤ s.length := by
  cases s with
  | nil => simp only [expPart, Option.some.injEq, Prod.mk.injEq] at h; rw [← h.2]; simp
  | cons c cs =>
    simp only [expPart] at h
    split at h
    · cases cs with
      | nil => simp at h
      | cons d ds =>
        simp only at h
        split at h
        · have := expDigits_length h; simp; omega
        · have := expDigits_length h; simp at this ⊢; omega
    · simp only [Option.some.injEq, Prod.mk.injEq] at h; rw [← h.2]; simp

theorem numberFrom_length {sg s raw r : List Char} (h : numberFrom sg s = some (raw, r)) : r.length < s.length := by
  unfold numberFrom at h
  cases hi : intPart s with
  | none => simp [hi] at h
  | some p1 =>
    simp only [hi] at h
    cases hf : fracPart p1.2 with
    | none => simp [hf] at h
    | some p2 =>
      simp only [hf] at h
      cases he : expPart p2.2 with
      | none => simp [he] at h
      | some p3 =>
        simp only [he, Option.some.injEq, Prod.mk.injEq] at h
        have h1 := intPart_length hi
        have h2 := fracPart_length hf
        have h3 := expPart_length he
        rw [← h.2]; omega

theorem number_length {s raw r : List Char} (h : number s = some (raw, r)) : r.length < s.length := by
  cases s with
  | nil => simp [number, intPart] at h
  | cons c cs =>
    rw [number_cons] at h
    by_cases hc : c = '-'
    · rw [if_pos hc] at h
      exact Nat.lt_succ_of_lt (numberFrom_length h)
    · rw [if_neg hc] at h
      exact numberFrom_length h

theorem keyword_length : ∀ (ks s r : List Char), keyword ks s = some r → r.length ≤ s.length
  | [], s, r, h => by simp only [keyword, Option.some.injEq] at h; rw [h]; exact Nat.le_refl _
  | _ :: _, [], _, h => by simp [keyword] at h
  | k :: ks, c :: cs, r, h => by
    simp only [keyword] at h
    split at h
    · have := keyword_length ks cs r h; simp; omega
    · cases h

theorem push_length {c : Char} {o : Option (List Char × List Char)} {y : List Char × List Char}
    (h : push c o = some y) : ∃ p, o = some p ∧ y.2.length = p.2.length := by
  cases o with
  | none => simp [push] at h
  | some p => simp only [push, Option.some.injEq] at h; exact ⟨p, rfl, by rw [← h]⟩

theorem unicodeEscape_length {k : List Char → Option (List Char × List Char)}
    (hk : ∀ s y, k s = some y → y.2.length < s.length) (n : Nat) (r : List Char) (y : List Char × List Char)
    (h : unicodeEscape k n r = some y) : y.2.length < r.length + 1 := by
  unfold unicodeEscape at h
  split at h
  · split at h
    · rename_i b u l1 l2 l3 l4 r2
      split at h
      · split at h
        · split at h
          · obtain ⟨p, hp, he⟩ := push_length h
            have := hk _ _ hp
            simp; omega
          · cases h
        · cases h
      · cases h
    · cases h
  · split at h
    · cases h
    · obtain ⟨p, hp, he⟩ := push_length h
      have := hk _ _ hp
      omega

/-- what the induction needs of a lexical layer: its string scanner returns a shorter text -/
structure Consumes (L : Lex) : Prop where
  str : ∀ q s cs r, L.str q s = some (cs, r) → r.length < s.length

theorem codePoint_length : ∀ (s : List Char) (acc : Nat) (any : Bool) (n : Nat) (r : List Char),
    JsLit.codePoint acc any s = some (n, r) → r.length < s.length
  | [], _, _, _, _, h => by simp [JsLit.codePoint] at h
  | c :: cs, acc, any, n, r, h => by
    simp only [JsLit.codePoint] at h
    split at h
    · split at h
      · simp only [Option.some.injEq, Prod.mk.injEq] at h; rw [← h.2]; simp
      · cases h
    · split at h
      · split at h
        · have := codePoint_length cs _ _ _ _ h; simp; omega
        · cases h
      · cases h

theorem js_strBodyFuel_length (q : Char) (es : Bool) : ∀ (f : Nat) (s : List Char) (y : List Char × List Char),
    JsLit.strBodyFuel q es f s = some y → y.2.length < s.length
  | 0, _, _, h => by simp [JsLit.strBodyFuel] at h
  | _ + 1, [], _, h => by simp [JsLit.strBodyFuel] at h
  | f + 1, c :: cs, y, h => by
    have ih := js_strBodyFuel_length q es f
    -- every answer is `push _ (rec r')`, `rec r'` or `unicodeEscape rec _ r'` for some suffix `r'` of `cs`
    have hpush : ∀ {ch : Char} {r' : List Char}, push ch (JsLit.strBodyFuel q es f r') = some y →
        y.2.length < r'.length := fun hp => by
      obtain ⟨p, hp, he⟩ := push_length hp
      rw [he]; exact ih _ _ hp
    simp only [JsLit.strBodyFuel] at h
    by_cases hq : c = q
    · rw [if_pos hq] at h; cases h; simp
    rw [if_neg hq] at h
    by_cases hb : c = '\\'
    · rw [if_pos hb] at h
      match cs, h with
      | e :: r, h =>
        simp only [List.length_cons]
        simp only at h
        by_cases hu : e = 'u'
        · rw [if_pos hu] at h
          match r, h with
          | b :: r0, h =>
            simp only [List.length_cons]
            simp only at h
            by_cases hbr : b = '{'
            · rw [if_pos hbr] at h
              cases hcp : JsLit.codePoint 0 false r0 with
              | none => rw [hcp] at h; cases h
              | some p =>
                obtain ⟨n, r1⟩ := p
                have := codePoint_length _ _ _ _ _ hcp
                rw [hcp] at h
                simp only at h
                by_cases hs : isHighSurrogate n = true ∨ isLowSurrogate n = true
                · rw [if_pos hs] at h; cases h
                · rw [if_neg hs] at h
                  have := hpush h
                  omega
            · rw [if_neg hbr] at h
              match r0, h with
              | h2 :: h3 :: h4 :: r1, h =>
                simp only [List.length_cons]
                simp only at h
                cases hh : hex4 b h2 h3 h4 with
                | none => rw [hh] at h; cases h
                | some n =>
                  rw [hh] at h
                  have := unicodeEscape_length ih _ _ _ h
                  omega
        rw [if_neg hu] at h
        by_cases hx : e = 'x'
        · rw [if_pos hx] at h
          match r, h with
          | h1 :: h2 :: r1, h =>
            simp only [List.length_cons]
            simp only at h
            cases ha : hexVal h1 with
            | none => rw [ha] at h; cases h
            | some a =>
              cases hb' : hexVal h2 with
              | none => rw [ha, hb'] at h; cases h
              | some b =>
                rw [ha, hb'] at h
                have := hpush h
                omega
        rw [if_neg hx] at h
        by_cases h0 : e = '0'
        · rw [if_pos h0] at h
          match r, h with
          | d :: r1, h =>
            simp only at h
            by_cases hd : isDigit d = true
            · rw [if_pos hd] at h; cases h
            · rw [if_neg hd] at h
              have := hpush h
              omega
        rw [if_neg h0] at h
        by_cases hd : isDigit e = true
        · rw [if_pos hd] at h; cases h
        rw [if_neg hd] at h
        by_cases hl : JsLit.isLineTerminator e = true
        · rw [if_pos hl] at h
          match r, h with
          | d :: r1, h =>
            simp only [List.length_cons]
            simp only at h
            by_cases hcr : e.toNat = 0x0D ∧ d.toNat = 0x0A
            · rw [if_pos hcr] at h
              have := ih _ _ h
              omega
            · rw [if_neg hcr] at h
              have := ih _ _ h
              simp only [List.length_cons] at this
              omega
        rw [if_neg hl] at h
        cases hse : JsLit.singleEscape e with
        | none =>
          rw [hse] at h
          have := hpush h
          omega
        | some ch =>
          rw [hse] at h
          have := hpush h
          omega
    rw [if_neg hb] at h
    by_cases hn : c.toNat = 0x0A ∨ c.toNat = 0x0D
    · rw [if_pos hn] at h; cases h
    rw [if_neg hn] at h
    by_cases he : es = false ∧ (c.toNat = 0x2028 ∨ c.toNat = 0x2029)
    · rw [if_pos he] at h; cases h
    rw [if_neg he] at h
    have := hpush h
    simp only [List.length_cons]
    omega

/-- the RFC 8259 scanner consumes too: its answers are answers of the ECMA-262 scanner (`js_of_rfc_str`) -/
theorem rfc8259_consumes : Consumes rfc8259 where
  str := fun _ s cs r h => js_strBodyFuel_length '"' true _ s (cs, r) (js_of_rfc_str _ s _ h)

theorem jsLit_consumes (es : Bool) : Consumes (JsLit.lexOf es) where
  str := fun q s cs r h => js_strBodyFuel_length q es _ s (cs, r) h

theorem pos_of_or {f g n : Nat} (hn : 1 ≤ n) (h : f + 1 ≤ g ∨ 2 * n ≤ g + 1) : ∃ g', g = g' + 1 := by
  refine ⟨g - 1, ?_⟩; omega

/-- a reader that consumes at least one character (`1 ≤ n`) gets no answer at fuel 0: what holds at every successor
    fuel within the bound holds at every fuel within the bound (`k` = 1 for `value`, 0 for `elements` / `members`) -/
theorem at_succ {P : Nat → Prop} {f n k : Nat} (hn : 1 ≤ n) (hk : k ≤ 1)
    (h : ∀ g, (f ≤ g ∨ 2 * n ≤ g + 1 + k) → P (g + 1)) :
    ∀ g, (f + 1 ≤ g ∨ 2 * n ≤ g + k) → P g := by
  intro g hg
  obtain ⟨g, rfl⟩ : ∃ g', g = g' + 1 := ⟨g - 1, by omega⟩
  exact h g (by omega)

theorem leaf_length {c : Char} {r0 : List Char} {t : Json} {r : List Char} (h : leaf c r0 = some (t, r)) :
    r.length ≤ r0.length := by
  rcases leaf_some h with ⟨_, kw, hk⟩ | ⟨raw, hn⟩
  · exact keyword_length _ _ _ hk
  · simpa [Nat.lt_succ_iff] using number_length hn

theorem fuel_enough {L : Lex} (hL : Consumes L) : ∀ (f : Nat),
    (∀ s t r, value L f s = some (t, r) → r.length < s.length ∧
      ∀ g, (f ≤ g ∨ 2 * (s.length - r.length) ≤ g + 1) → value L g s = some (t, r)) ∧
    (∀ s xs r, elements L f s = some (xs, r) → r.length < s.length ∧
      ∀ g, (f ≤ g ∨ 2 * (s.length - r.length) ≤ g) → elements L g s = some (xs, r)) ∧
    (∀ s kvs r, members L f s = some (kvs, r) → r.length < s.length ∧
      ∀ g, (f ≤ g ∨ 2 * (s.length - r.length) ≤ g) → members L g s = some (kvs, r))
  | 0 => by simp [value, elements, members]
  | f + 1 => by
    obtain ⟨ihv, ihe, ihm⟩ := fuel_enough hL f
    -- in every case: the text gets shorter, so a fuel `g` within the bound is a successor (`at_succ`), and the same
    -- case applies there
    refine ⟨?_, ?_, ?_⟩
    · intro s t r h
      cases value_succ_iff.mp h with
      | str c r0 cs hsk hq hstr ht =>
        have h1 := skipWs_cons_length hsk
        have h2 := hL.str _ _ _ _ hstr
        have hlt : r.length < s.length := by omega
        exact ⟨hlt, at_succ (Nat.sub_pos_of_lt hlt) (Nat.le_refl 1) fun g hg =>
          value_succ_iff.mpr (.str c r0 cs hsk hq hstr ht)⟩
      | arrNil r0 hsk hq hsk1 ht =>
        have h1 := skipWs_cons_length hsk
        have h2 := skipWs_cons_length hsk1
        have hlt : r.length < s.length := by omega
        exact ⟨hlt, at_succ (Nat.sub_pos_of_lt hlt) (Nat.le_refl 1) fun g hg =>
          value_succ_iff.mpr (.arrNil r0 hsk hq hsk1 ht)⟩
      | arr r0 c1 r1 xs hsk hq hsk1 hc1 he ht =>
        have h1 := skipWs_cons_length hsk
        have h2 := skipWs_cons_length hsk1
        obtain ⟨h3, hg'⟩ := ihe _ _ _ he
        rw [List.length_cons] at h3 hg'
        have hlt : r.length < s.length := by omega
        exact ⟨hlt, at_succ (Nat.sub_pos_of_lt hlt) (Nat.le_refl 1) fun g hg =>
          value_succ_iff.mpr (.arr r0 c1 r1 xs hsk hq hsk1 hc1 (hg' g (by omega)) ht)⟩
      | objNil r0 hsk hq hsk1 ht =>
        have h1 := skipWs_cons_length hsk
        have h2 := skipWs_cons_length hsk1
        have hlt : r.length < s.length := by omega
        exact ⟨hlt, at_succ (Nat.sub_pos_of_lt hlt) (Nat.le_refl 1) fun g hg =>
          value_succ_iff.mpr (.objNil r0 hsk hq hsk1 ht)⟩
      | obj r0 c1 r1 kvs hsk hq hsk1 hc1 hm ht =>
        have h1 := skipWs_cons_length hsk
        have h2 := skipWs_cons_length hsk1
        obtain ⟨h3, hg'⟩ := ihm _ _ _ hm
        rw [List.length_cons] at h3 hg'
        have hlt : r.length < s.length := by omega
        exact ⟨hlt, at_succ (Nat.sub_pos_of_lt hlt) (Nat.le_refl 1) fun g hg =>
          value_succ_iff.mpr (.obj r0 c1 r1 kvs hsk hq hsk1 hc1 (hg' g (by omega)) ht)⟩
      | leaf c r0 hsk hq h1 h2 hl =>
        have h3 := skipWs_cons_length hsk
        have h4 := leaf_length hl
        have hlt : r.length < s.length := by omega
        exact ⟨hlt, at_succ (Nat.sub_pos_of_lt hlt) (Nat.le_refl 1) fun g hg =>
          value_succ_iff.mpr (.leaf c r0 hsk hq h1 h2 hl)⟩
    · intro s xs r h
      cases elements_succ_iff.mp h with
      | last x r1 hv hsk hxs =>
        obtain ⟨h1, hg1⟩ := ihv _ _ _ hv
        have h2 := skipWs_cons_length hsk
        have hlt : r.length < s.length := by omega
        exact ⟨hlt, at_succ (Nat.sub_pos_of_lt hlt) (Nat.zero_le 1) fun g hg =>
          elements_succ_iff.mpr (.last x r1 (hg1 g (by omega)) hsk hxs)⟩
      | more x r1 r2 ys hv hsk he hxs =>
        obtain ⟨h1, hg1⟩ := ihv _ _ _ hv
        have h2 := skipWs_cons_length hsk
        obtain ⟨h3, hg2⟩ := ihe _ _ _ he
        have hlt : r.length < s.length := by omega
        exact ⟨hlt, at_succ (Nat.sub_pos_of_lt hlt) (Nat.zero_le 1) fun g hg =>
          elements_succ_iff.mpr (.more x r1 r2 ys (hg1 g (by omega)) hsk (hg2 g (by omega)) hxs)⟩
    · intro s kvs r h
      obtain ⟨q, r0, k, r1, r2, v, r3, d, r4, hsk, hq, hstr, hk, hsk1, hv, hsk3, hd⟩ := members_succ_iff.mp h
      have h1 := skipWs_cons_length hsk
      have h2 := hL.str _ _ _ _ hstr
      have h3 := skipWs_cons_length hsk1
      obtain ⟨h4, hg1⟩ := ihv _ _ _ hv
      have h5 := skipWs_cons_length hsk3
      rcases hd with ⟨rfl, rfl, rfl⟩ | ⟨rfl, rest, hm, rfl⟩
      · have hlt : r.length < s.length := by omega
        exact ⟨hlt, at_succ (Nat.sub_pos_of_lt hlt) (Nat.zero_le 1) fun g hg =>
          members_succ_iff.mpr
          (.mk q r0 k r1 r2 v r3 _ _ hsk hq hstr hk hsk1 (hg1 g (by omega)) hsk3 (.inl ⟨rfl, rfl, rfl⟩))⟩
      · obtain ⟨h6, hg2⟩ := ihm _ _ _ hm
        have hlt : r.length < s.length := by omega
        exact ⟨hlt, at_succ (Nat.sub_pos_of_lt hlt) (Nat.zero_le 1) fun g hg =>
          members_succ_iff.mpr
          (.mk q r0 k r1 r2 v r3 _ r4 hsk hq hstr hk hsk1 (hg1 g (by omega)) hsk3 (.inr ⟨rfl, rest, hg2 g (by omega), rfl⟩))⟩

theorem value_fuelFor {L : Lex} (hL : Consumes L) {f : Nat} {s : List Char} {t : Json} {r : List Char}
    (h : value L f s = some (t, r)) :
    (∀ g, f ≤ g → value L g s = some (t, r)) ∧ value L (fuelFor s) s = some (t, r) := by
  obtain ⟨_, hg⟩ := (fuel_enough hL f).1 s t r h
  refine ⟨fun g hfg => hg g (Or.inl hfg), hg _ (Or.inr ?_)⟩
  simp only [fuelFor]; omega

end NitroVerif.JsonText
