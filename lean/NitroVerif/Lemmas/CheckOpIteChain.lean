/-!
Both checkers decide whether a scalar type accepts a literal by a chain of five tests on the type's name
(`Boolean`, `Int`, `Float`, `String`, `ID`), each followed by a match on the literal; the reference validators make the
same tests in another order. Two facts about such chains, as functions of the test results.
-/
namespace NitroVerif

theorem ite_chain_false (b i f s d : Bool) :
    (if b then false else if i then false else if f then false else if s then false else if d then false else true) =
      !(i || f || s || b || d) := by
  cases b <;> cases i <;> cases f <;> cases s <;> cases d <;> rfl

theorem ite_chain_true (b i f s d : Bool) :
    (if b then true else if i then true else if f then true else if s then true else if d then true else true) = true := by
  simp only [ite_self]

/-- the first test of an if-chain may be made fourth when it excludes the three it is moved past -/
theorem ite_chain_move {α : Type} (b i f s : Bool) (xb xi xf xs r : α)
    (h : b = true → i = false ∧ f = false ∧ s = false) :
    (if b then xb else if i then xi else if f then xf else if s then xs else r) =
      (if i then xi else if f then xf else if s then xs else if b then xb else r) := by
  cases b
  · rfl
  · obtain ⟨rfl, rfl, rfl⟩ := h rfl; rfl

theorem boolean_excludes {n : String} (h : (n == "Boolean") = true) :
    (n == "Int") = false ∧ (n == "Float") = false ∧ (n == "String") = false := by
  rw [eq_of_beq h]; decide

end NitroVerif
