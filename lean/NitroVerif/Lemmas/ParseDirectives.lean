/-
`Directives` (`Directive+` with `Directive = "@" ~ Name ~ Arguments?`): the rendering of a directive (`renderDir`:
`@ gap name (gap (args))?`) and of a directive list with arbitrary trivia at every gap, what is expected of it (`WFDirs`,
`DirEnd`, the children of a `Directive` pair, the directives with the positions of their tokens), and the builder on a
`Directive` pair (`dirFn_pair`). That the two rules run over these texts is proved at the document level
(`ParseDocDirs.lean`, which also identifies the list rendered here with the one there: `dirsFrom_eq`).

pest detail reproduced by the model: when the optional `Arguments` is absent, the implicit skip in front of it has already
moved over the whitespace that FOLLOWS the directive, so the span of such a `Directive` pair (and of the enclosing
`Directives` pair) includes that trailing whitespace: the end offset of these pairs is not determined by the text.
-/
import NitroVerif.Lemmas.ParseArgs
import NitroVerif.Lemmas.SpanInv
namespace NitroVerif.ValueParse
open NitroVerif.Peg NitroVerif.Gen NitroVerif.Gen.Parts NitroVerif.Build NitroVerif.TypeParse NitroVerif.StringParse NitroVerif.Gql

theorem look_Directives : gList.look R.Directives = some (.normal, .plus (.call R.Directive)) := rfl
theorem look_Directive : gList.look R.Directive =
    some (.normal, .seq (.str ['@']) (.seq (.call R.Name) (.opt (.call R.Arguments)))) := rfl

/-- the optional arguments of a directive whose name ends at offset `q` -/
def dirArgsText (τ : Trivia) (q : Nat) : List Arg → List Char
  | [] => []
  | a :: as => τ q ++ renderArgs τ (q + (τ q).length) (a :: as)

/-- end of the name of a directive written at `p` -/
def dQ (τ : Trivia) (p : Nat) (d : Directive) : Nat := p + 1 + (τ (p + 1)).length + d.name.toList.length

/-- the text of a directive written at offset `p`: `@ gap name (gap (args))?` -/
def renderDir (τ : Trivia) (p : Nat) (d : Directive) : List Char :=
  '@' :: (τ (p + 1) ++ (d.name.toList ++ dirArgsText τ (dQ τ p d) d.args))

/-- the children of the `Directive` pair -/
def dirChildren (τ : Trivia) (p : Nat) (d : Directive) : List Pair :=
  .mk R.Name (p + 1 + (τ (p + 1)).length) (dQ τ p d) [] ::
    (match d.args with
     | [] => []
     | a :: as => [argsPair τ (dQ τ p d + (τ (dQ τ p d)).length) (a :: as)])

/-- the directives from offset `q` on, each followed by the gap `τ` gives at its end -/
def dirsFrom (τ : Trivia) : Nat → List Directive → List Char
  | _, [] => []
  | q, d :: ds =>
    renderDir τ q d ++ (τ (q + (renderDir τ q d).length) ++
      dirsFrom τ (q + (renderDir τ q d).length + (τ (q + (renderDir τ q d).length)).length) ds)

/-- what may follow the directives: not whitespace (the gap is part of the rendering), not `@`, `(`, a name character -/
def DirEnd (X : List Char) : Prop := HeadNot (fun d => trivia d ∨ nameCont d ∨ d = '(' ∨ d = '@') X

def WFDir (d : Directive) : Prop := validName d.name.toList ∧ WFFs d.args
def WFDirs : List Directive → Prop
  | [] => True
  | d :: ds => WFDir d ∧ WFDirs ds

theorem skipTo_pos_le {n : Nat} {c c' : Cur} (h : SkipTo n c c') : c.pos ≤ c'.pos := by
  obtain ⟨tr', hh⟩ := h {}
  have := hh n (Nat.le_refl _)
  have hc : CurOk (List.replicate c.pos 'x' ++ c.rest) c := ⟨by simp, by simp⟩
  exact ((spanInv gList _ n).sk true .nonAtomic .none {} c tr' c' [] hc this).2.le

/-- `d` with the positions of its tokens when written at offset `q` of `inp` -/
def withPosD (τ : Trivia) (inp : List Char) (q : Nat) (d : Directive) : Directive :=
  { name := d.name, namePos := posAt inp (q + 1 + (τ (q + 1)).length),
    args := withPosFs τ inp (dQ τ q d + (τ (dQ τ q d)).length + 1) true d.args, pos := posAt inp q }

def withPosDs (τ : Trivia) (inp : List Char) : Nat → List Directive → List Directive
  | _, [] => []
  | q, d :: ds =>
    withPosD τ inp q d :: withPosDs τ inp (q + (renderDir τ q d).length + (τ (q + (renderDir τ q d).length)).length) ds

/-- the function `build_directives` maps over the `Directive` children (directives.rs) -/
def dirFn (ctx : Ctx) (fuel : Nat) : Pair → M Gql.Directive := fun d => do
  let pos := toPos ctx d
  match ← matchParts P_Directive d.children with
  | [some name, args] =>
    let args ← optArgs ctx fuel args
    .ok { name := asString ctx name, namePos := toPos ctx name, args, pos }
  | _ => .error (.modelBug "Directive")

theorem buildDirectives_eq (ctx : Ctx) (fuel : Nat) (s e : Nat) (cs : List Pair)
    (hcs : allChildrenGo AC_Directives cs = .ok ()) :
    buildDirectives ctx fuel (.mk R.Directives s e cs) = cs.mapM (dirFn ctx fuel) := by
  unfold dirFn
  simp [buildDirectives, allChildren, Pair.children, hcs, bind, Except.bind]
  rfl

theorem dirFn_pair (τ : Trivia) (inp : List Char) (fuel : Nat) (q e : Nat) (d : Directive) (Y : List Char)
    (h : inp.drop q = renderDir τ q d ++ Y) (hfuel : Value.sizeFields d.args ≤ fuel) :
    dirFn (Ctx.spec inp) fuel (.mk R.Directive q e (dirChildren τ q d)) = .ok (withPosD τ inp q d) := by
  have h1 : inp.drop (q + 1 + (τ (q + 1)).length) = d.name.toList ++ (dirArgsText τ (dQ τ q d) d.args ++ Y) := by
    have : inp.drop (q + 1) = τ (q + 1) ++ (d.name.toList ++ (dirArgsText τ (dQ τ q d) d.args ++ Y)) := by
      rw [← List.drop_drop, h]; simp [renderDir]
    exact drop_after this
  have hname : slice inp (q + 1 + (τ (q + 1)).length) (dQ τ q d) = d.name.toList := by
    have := slice_of_drop h1
    simpa [dQ] using this
  have h2 : inp.drop (dQ τ q d) = dirArgsText τ (dQ τ q d) d.args ++ Y := by
    have := drop_after h1
    simpa [dQ] using this
  cases hda : d.args with
  | nil =>
    simp [dirFn, dirChildren, hda, Pair.children, matchParts, P_Directive, Pair.rule, optArgs, withPosD, withPosFs,
      asString_spec', toPos_spec', Pair.start, Pair.stop, hname, Except.map, bind, Except.bind, R.Name, R.Arguments]
  | cons a as =>
    rw [hda] at h2 hfuel
    have h3 : inp.drop (dQ τ q d + (τ (dQ τ q d)).length) =
        renderArgs τ (dQ τ q d + (τ (dQ τ q d)).length) (a :: as) ++ Y := by
      have : inp.drop (dQ τ q d) = τ (dQ τ q d) ++ (renderArgs τ (dQ τ q d + (τ (dQ τ q d)).length) (a :: as) ++ Y) := by
        simpa [dirArgsText] using h2
      exact drop_after this
    have hb := buildArguments_argsPair τ inp (a :: as) _ Y fuel h3 hfuel
    simp only [argsPair] at hb
    simp [dirFn, dirChildren, argsPair, hda, Pair.children, matchParts, P_Directive, Pair.rule, optArgs, hb, withPosD,
      asString_spec', toPos_spec', Pair.start, Pair.stop, hname, Except.map, bind, Except.bind, R.Name, R.Arguments]

end NitroVerif.ValueParse
