/-
`render_parse_value`, assembly (helper lemmas for Props/C07): (1) every well-formed value parses (`value_runs`, strong
induction on `Value.size` over the list-level lemmas of `ParseValueList.lean` / `ParseValueObj.lean`); (2) the builder
`build_value` on the expected pair tree returns the value with the TRUE positions of its tokens (`withPosV`).
-/
import NitroVerif.Lemmas.ParseValueObj
import NitroVerif.Lemmas.ValueSize
namespace NitroVerif.ValueParse
open NitroVerif.Peg NitroVerif.Gen NitroVerif.Gen.Parts NitroVerif.Build NitroVerif.TypeParse NitroVerif.StringParse
open NitroVerif.Gql NitroVerif.Spec.Lex

theorem wfvs_mem {v : Value} : ∀ {vs : List Value}, WFVs vs → v ∈ vs → WFV v := by
  intro vs
  induction vs with
  | nil => intro _ h; cases h
  | cons w ws ih =>
    intro hwf h
    simp only [WFVs] at hwf
    rcases List.mem_cons.mp h with rfl | h
    · exact hwf.1
    · exact ih hwf.2 h

theorem wffs_mem {f : Name × Pos × Value} : ∀ {fs : List (Name × Pos × Value)}, WFFs fs → f ∈ fs →
    validName f.1.toList ∧ WFV f.2.2 := by
  intro fs
  induction fs with
  | nil => intro _ h; cases h
  | cons w ws ih =>
    intro hwf h
    obtain ⟨k, pos, v⟩ := w
    simp only [WFFs] at hwf
    rcases List.mem_cons.mp h with rfl | h
    · exact ⟨hwf.1, hwf.2.1⟩
    · exact ih hwf.2.2 h

theorem value_runs (τ : Trivia) (hτ : ∀ q, Ws (τ q)) : ∀ (n : Nat) (v : Value), v.size ≤ n → WFV v → ValRuns τ v := by
  intro n
  induction n with
  | zero => intro v hs; have := Value.size_pos v; omega
  | succ n ih =>
    intro v hs hwf
    cases v with
    | var name pos =>
      intro p rest hr
      have := value_var (show validName name.toList from hwf) p rest hr
      refine RunsRule.cast (this.mono ?_) (by simp [renderV]) (by simp [renderV]) (by simp [valuePair, innerV, renderV])
      simp [B, renderV]; omega
    | int s pos =>
      intro p rest hr
      have := value_int (show IntText s.toList from hwf) p rest hr
      refine RunsRule.cast (this.mono ?_) rfl rfl (by simp [valuePair, innerV, renderV])
      simp [B, renderV]; omega
    | float s pos =>
      intro p rest hr
      have := value_float (show FloatText s.toList from hwf) p rest hr
      refine RunsRule.cast (this.mono ?_) rfl rfl (by simp [valuePair, innerV, renderV])
      simp [B, renderV]; omega
    | str s pos =>
      intro p rest hr
      have := value_str s.toList p rest hr
      refine RunsRule.cast (this.mono ?_) rfl rfl (by simp [valuePair, innerV, renderV])
      have := specEscape_length_ge s.toList
      simp [B, renderV, quoted]; omega
    | bool b pos =>
      intro p rest hr
      have := value_bool b p rest hr
      refine RunsRule.cast (this.mono ?_) rfl rfl (by simp [valuePair, innerV, renderV])
      first | (simp [B, renderV]; done) | (simp [B, renderV]; omega)
    | null pos =>
      intro p rest hr
      have := value_null p rest hr
      refine RunsRule.cast (this.mono ?_) rfl rfl (by simp [valuePair, innerV, renderV])
      first | (simp [B, renderV]; done) | (simp [B, renderV]; omega)
    | «enum» name pos =>
      intro p rest hr
      have hw : validName name.toList ∧ name.toList ≠ kwTrue ∧ name.toList ≠ kwFalse ∧ name.toList ≠ kwNull := hwf
      have := value_enum hw.1 hw.2.1 hw.2.2.1 hw.2.2.2 p rest hr
      refine RunsRule.cast (this.mono ?_) rfl rfl (by simp [valuePair, innerV, renderV])
      simp [B, renderV]; omega
    | list vs pos =>
      have hsz : Value.sizeList vs ≤ n := by simp only [Value.size] at hs; omega
      exact value_list τ hτ vs pos fun v hv =>
        ⟨wfvs_mem (show WFVs vs from hwf) hv, ih v (Nat.le_trans (Value.size_mem_list hv) hsz) (wfvs_mem (show WFVs vs from hwf) hv)⟩
    | obj fs pos =>
      have hsz : Value.sizeFields fs ≤ n := by simp only [Value.size] at hs; omega
      exact value_obj τ hτ fs pos fun f hf =>
        ⟨(wffs_mem (show WFFs fs from hwf) hf).1, (wffs_mem (show WFFs fs from hwf) hf).2,
          ih f.2.2 (Nat.le_trans (Value.size_mem_fields hf) hsz) (wffs_mem (show WFFs fs from hwf) hf).2⟩

/-- `TypeParse.posAt` (`TypeBuild`) in the namespace of the value level: the same body -/
def posAt (inp : List Char) (p : Nat) : Pos := { line := (lineCol inp p).1, col := (lineCol inp p).2 }

mutual
/-- `v` with the positions of its tokens when rendered at offset `p` of `inp` -/
def withPosV (τ : Trivia) (inp : List Char) : Nat → Value → Value
  | p, .var n _ => .var n (posAt inp p)
  | p, .int s _ => .int s (posAt inp p)
  | p, .float s _ => .float s (posAt inp p)
  | p, .str s _ => .str s (posAt inp p)
  | p, .bool b _ => .bool b (posAt inp p)
  | p, .null _ => .null (posAt inp p)
  | p, .enum n _ => .enum n (posAt inp p)
  | p, .list vs _ => .list (withPosVs τ inp (p + 1) true vs) (posAt inp p)
  | p, .obj fs _ => .obj (withPosFs τ inp (p + 1) true fs) (posAt inp p)
def withPosVs (τ : Trivia) (inp : List Char) : Nat → Bool → List Value → List Value
  | _, _, [] => []
  | q, first, v :: vs =>
    withPosV τ inp (q + (gapOf first (τ q)).length) v ::
      withPosVs τ inp (q + (gapOf first (τ q)).length + (renderV τ (q + (gapOf first (τ q)).length) v).length) false vs
def withPosFs (τ : Trivia) (inp : List Char) : Nat → Bool → List (Name × Pos × Value) → List (Name × Pos × Value)
  | _, _, [] => []
  | q, first, (k, _, v) :: fs =>
    (k, posAt inp (fQ0 τ q first), withPosV τ inp (fQ3 τ q first k) v) ::
      withPosFs τ inp (fQ3 τ q first k + (renderV τ (fQ3 τ q first k) v).length) false fs
end

mutual
theorem withPosV_erase (τ : Trivia) (inp : List Char) : (v : Value) → ∀ p, (withPosV τ inp p v).erasePos = v.erasePos
  | .var s _ | .int s _ | .float s _ | .str s _ | .enum s _ => fun p => by simp [withPosV, Value.erasePos]
  | .bool b _ => fun p => by simp [withPosV, Value.erasePos]
  | .null _ => fun p => by simp [withPosV, Value.erasePos]
  | .list vs _ => fun p => by simp [withPosV, Value.erasePos, withPosVs_erase τ inp vs]
  | .obj fs _ => fun p => by simp [withPosV, Value.erasePos, withPosFs_erase τ inp fs]
theorem withPosVs_erase (τ : Trivia) (inp : List Char) : (vs : List Value) → ∀ q first,
    Value.erasePosList (withPosVs τ inp q first vs) = Value.erasePosList vs
  | [] => fun q first => by simp [withPosVs, Value.erasePosList]
  | v :: vs => fun q first => by
    simp [withPosVs, Value.erasePosList, withPosV_erase τ inp v, withPosVs_erase τ inp vs]
theorem withPosFs_erase (τ : Trivia) (inp : List Char) : (fs : List (Name × Pos × Value)) → ∀ q first,
    Value.erasePosFields (withPosFs τ inp q first fs) = Value.erasePosFields fs
  | [] => fun q first => by simp [withPosFs, Value.erasePosFields]
  | (k, _, v) :: fs => fun q first => by
    simp [withPosFs, Value.erasePosFields, withPosV_erase τ inp v, withPosFs_erase τ inp fs]
end

/-! `TypeParse.toPos_spec`, `asString_spec` under the names the value level uses -/
theorem toPos_spec' (inp : List Char) (q : Pair) : toPos (Ctx.spec inp) q = posAt inp q.start := rfl
theorem asString_spec' (inp : List Char) (q : Pair) :
    asString (Ctx.spec inp) q = String.ofList (slice inp q.start q.stop) := rfl

/-- statement of the builder half for one value -/
def ValBuilds (τ : Trivia) (inp : List Char) (v : Value) : Prop := ∀ p rest fuel, inp.drop p = renderV τ p v ++ rest →
  v.size ≤ fuel → buildValue (Ctx.spec inp) fuel (valuePair τ p v) = .ok (withPosV τ inp p v)

theorem items_build (τ : Trivia) (inp : List Char) (fuel : Nat) (vs : List Value)
    (hvs : ∀ v ∈ vs, ValBuilds τ inp v ∧ v.size ≤ fuel) : ∀ (q : Nat) (first : Bool) (rest : List Char),
    inp.drop q = itemsBody τ q first vs ++ rest →
    (itemPairs τ q first vs).mapM (buildValue (Ctx.spec inp) fuel) = .ok (withPosVs τ inp q first vs) := by
  induction vs with
  | nil => intro q first rest _; rfl
  | cons v vs ih =>
    intro q first rest h
    obtain ⟨hb, hsz⟩ := hvs v (List.mem_cons_self ..)
    rw [itemsBody_cons, List.append_assoc] at h
    have h1 := drop_after h
    rw [List.append_assoc] at h1
    have h2 := drop_after h1
    have e1 := hb _ _ fuel h1 hsz
    have e2 := ih (fun w hw => hvs w (List.mem_cons_of_mem _ hw)) _ false rest h2
    rw [itemPairs_cons]
    simp [List.mapM_cons, e1, e2, withPosVs, bind, Except.bind, pure, Except.pure]

/-- the function `build_value` maps over the `ObjectField` children (value.rs) -/
def objFieldFn (ctx : Ctx) (fuel : Nat) : Pair → M Gql.Arg := fun f => do
  let (n, v) ← get2 "ObjectField" (← matchParts P_ObjectField f.children)
  let v ← buildValue ctx fuel v
  .ok ((asString ctx n, toPos ctx n, v) : Gql.Arg)

theorem buildValue_obj (ctx : Ctx) (fuel : Nat) (p e s' e' : Nat) (cs : List Pair)
    (hcs : allChildrenGo AC_ObjectValue cs = .ok ()) :
    buildValue ctx (fuel + 1) (.mk R.Value p e [.mk R.ObjectValue s' e' cs]) =
      (cs.mapM (objFieldFn ctx fuel) >>= fun fs => .ok (.obj fs (ctx.pos s'))) := by
  unfold objFieldFn
  simp [buildValue, onlyChildOf, onlyChild, Pair.children, Pair.rule, OC_Value, allChildren, hcs, toPos,
    Pair.start, bind, Except.bind, R.Variable, R.IntValue, R.FloatValue, R.StringValue, R.BooleanValue, R.NullValue,
    R.EnumValue, R.ListValue, R.ObjectValue]

theorem objFieldFn_fieldPair (τ : Trivia) (inp : List Char) (fuel : Nat) (q0 q1 q3 : Nat) (v : Value) (w : Value)
    (hw : buildValue (Ctx.spec inp) fuel (valuePair τ q3 v) = .ok w) :
    objFieldFn (Ctx.spec inp) fuel (fieldPair τ q0 q1 q3 v) = .ok (String.ofList (slice inp q0 q1), posAt inp q0, w) := by
  simp only [valuePair] at hw
  simp [objFieldFn, fieldPair, Pair.children, matchParts, P_ObjectField, Pair.rule, valuePair, get2, hw,
    asString_spec', toPos_spec', Pair.start, Pair.stop, Except.map, bind, Except.bind]

/-- the entries `name : value` of an object or an argument list are built one after the other: `ps` are their pairs (`pr` one
    of them, from the offsets of its name and value) and `fn` the builder of one entry -/
theorem entries_build (τ : Trivia) (inp : List Char) (fuel : Nat) {fn : Pair → M (Name × Pos × Value)}
    {ps : Nat → Bool → List (Name × Pos × Value) → List Pair} {pr : Nat → Nat → Nat → Value → Pair}
    (hnil : ∀ q first, ps q first [] = [])
    (hcons : ∀ q first k pos v fs, ps q first ((k, pos, v) :: fs) = pr (fQ0 τ q first) (fQ1 τ q first k) (fQ3 τ q first k) v ::
      ps (fQ3 τ q first k + (renderV τ (fQ3 τ q first k) v).length) false fs)
    (hfn : ∀ q0 q1 q3 v w, buildValue (Ctx.spec inp) fuel (valuePair τ q3 v) = .ok w →
      fn (pr q0 q1 q3 v) = .ok (String.ofList (slice inp q0 q1), posAt inp q0, w))
    (fs : List (Name × Pos × Value)) (hfs : ∀ f ∈ fs, ValBuilds τ inp f.2.2 ∧ f.2.2.size ≤ fuel) :
    ∀ (q : Nat) (first : Bool) (rest : List Char), inp.drop q = fieldsBody τ q first fs ++ rest →
    (ps q first fs).mapM fn = .ok (withPosFs τ inp q first fs) := by
  induction fs with
  | nil => intro q first rest _; rw [hnil]; rfl
  | cons f fs ih =>
    intro q first rest h
    obtain ⟨k, pos, v⟩ := f
    obtain ⟨hb, hsz⟩ := hfs (k, pos, v) (List.mem_cons_self ..)
    rw [fieldsBody_cons] at h
    simp only [List.append_assoc] at h
    -- the name
    have h0 := drop_after h
    have hname : slice inp (fQ0 τ q first) (fQ1 τ q first k) = k.toList := by
      have := slice_of_drop (inp := inp) (a := q + (gapOf first (τ q)).length) (t := k.toList) h0
      simpa [fQ0, fQ1] using this
    -- up to the value
    have h1 := drop_after h0
    have h2 : inp.drop (fQ2 τ q first k) = τ (fQ2 τ q first k) ++ (renderV τ (fQ3 τ q first k) v ++
        (fieldsBody τ (fQ3 τ q first k + (renderV τ (fQ3 τ q first k) v).length) false fs ++ rest)) := by
      have := drop_after h1
      have e : inp.drop (q + (gapOf first (τ q)).length + k.toList.length + (τ (fQ1 τ q first k)).length + 1) =
          τ (fQ2 τ q first k) ++ (renderV τ (fQ3 τ q first k) v ++
            (fieldsBody τ (fQ3 τ q first k + (renderV τ (fQ3 τ q first k) v).length) false fs ++ rest)) := by
        rw [← List.drop_drop, this]; simp
      simpa [fQ0, fQ1, fQ2] using e
    have h3 := drop_after h2
    have h3' : inp.drop (fQ3 τ q first k) = renderV τ (fQ3 τ q first k) v ++
        (fieldsBody τ (fQ3 τ q first k + (renderV τ (fQ3 τ q first k) v).length) false fs ++ rest) := by
      simpa [fQ3] using h3
    have h4 := drop_after h3'
    have e1 := hfn (fQ0 τ q first) (fQ1 τ q first k) (fQ3 τ q first k) v _ (hb _ _ fuel h3' hsz)
    have e2 := ih (fun w hw => hfs w (List.mem_cons_of_mem _ hw)) _ false rest h4
    rw [hcons]
    simp [List.mapM_cons, e1, e2, hname, withPosFs, bind, Except.bind, pure, Except.pure]

theorem fields_build (τ : Trivia) (inp : List Char) (fuel : Nat) (fs : List (Name × Pos × Value))
    (hfs : ∀ f ∈ fs, ValBuilds τ inp f.2.2 ∧ f.2.2.size ≤ fuel) : ∀ (q : Nat) (first : Bool) (rest : List Char),
    inp.drop q = fieldsBody τ q first fs ++ rest →
    (fieldPairs τ q first fs).mapM (objFieldFn (Ctx.spec inp) fuel) = .ok (withPosFs τ inp q first fs) :=
  entries_build τ inp fuel (fun _ _ => by rw [fieldPairs]) (fieldPairs_cons τ) (objFieldFn_fieldPair τ inp fuel) fs hfs

theorem value_builds (τ : Trivia) (inp : List Char) : ∀ (n : Nat) (v : Value), v.size ≤ n → ValBuilds τ inp v := by
  intro n
  induction n with
  | zero => intro v hs; have := Value.size_pos v; omega
  | succ n ih =>
    intro v hs p rest fuel h hfuel
    obtain ⟨fuel, rfl⟩ : ∃ f, fuel = f + 1 := ⟨fuel - 1, by have := Value.size_pos v; omega⟩
    cases v with
    | var name pos =>
      have hs1 : slice inp (p + 1) (p + 1 + name.toList.length) = name.toList :=
        slice_of_drop (r := rest) (by rw [← List.drop_drop, h]; simp [renderV])
      simp [buildValue, valuePair, innerV, onlyChildOf, onlyChild, Pair.children, Pair.rule, OC_Value, buildVariable,
        OC_Variable, asString_spec', toPos_spec', Pair.start, Pair.stop, hs1, withPosV, bind, Except.bind, R.Variable]
    | int s pos | float s pos | «enum» s pos =>
      have hs1 : slice inp p (p + s.toList.length) = s.toList := slice_of_drop (r := rest) (by simpa [renderV] using h)
      simp [buildValue, valuePair, innerV, onlyChildOf, onlyChild, Pair.children, Pair.rule, OC_Value,
        asString_spec', toPos_spec', Pair.start, Pair.stop, hs1, withPosV, bind, Except.bind, R.Variable, R.IntValue,
        R.FloatValue, R.StringValue, R.BooleanValue, R.NullValue, R.EnumValue]
    | str s pos =>
      have hsv := stringValueChars_stringPair (inp := inp) s.toList p rest (by simpa [renderV] using h)
      have hr : (stringPair s.toList p).rule = R.StringValue := by cases s.toList <;> rfl
      simp [buildValue, valuePair, innerV, onlyChildOf, onlyChild, Pair.children, OC_Value, hr, buildStringValue, hsv,
        withPosV, posAt, bind, Except.bind, R.Variable, R.IntValue, R.FloatValue, R.StringValue]
    | bool b pos =>
      cases b <;>
        simp [buildValue, valuePair, innerV, onlyChildOf, onlyChild, Pair.children, Pair.rule, OC_Value, OC_BooleanValue,
          toPos_spec', Pair.start, withPosV, bind, Except.bind, R.Variable, R.IntValue, R.FloatValue, R.StringValue,
          R.BooleanValue, R.KEYWORD_false, R.KEYWORD_true]
    | null pos =>
      simp [buildValue, valuePair, innerV, onlyChildOf, onlyChild, Pair.children, Pair.rule, OC_Value,
        toPos_spec', Pair.start, withPosV, bind, Except.bind, R.Variable, R.IntValue, R.FloatValue, R.StringValue,
        R.BooleanValue, R.NullValue]
    | list vs pos =>
      have hsz : Value.sizeList vs ≤ n := by simp only [Value.size] at hs; omega
      have hszf : Value.sizeList vs ≤ fuel := by simp only [Value.size] at hfuel; omega
      have hd : inp.drop (p + 1) = itemsBody τ (p + 1) true vs ++
          (τ (p + 1 + (itemsBody τ (p + 1) true vs).length) ++ [']'] ++ rest) := by
        rw [← List.drop_drop, h]; simp [renderV]
      have hm := items_build τ inp fuel vs (fun v hv =>
        ⟨ih v (Nat.le_trans (Value.size_mem_list hv) hsz), Nat.le_trans (Value.size_mem_list hv) hszf⟩) (p + 1) true _ hd
      have hall : ∀ (vs : List Value) (q : Nat) (first : Bool),
          allChildrenGo AC_ListValue (itemPairs τ q first vs) = .ok () := by
        intro vs
        induction vs with
        | nil => intro q first; rfl
        | cons v vs ihv =>
          intro q first
          rw [itemPairs_cons]
          simp only [allChildrenGo, valuePair, Pair.rule, AC_ListValue, if_true]
          exact ihv _ _
      simp [buildValue, valuePair, innerV, onlyChildOf, onlyChild, Pair.children, Pair.rule, OC_Value, allChildren, hall,
        toPos_spec', Pair.start, hm, withPosV, bind, Except.bind, R.Variable, R.IntValue, R.FloatValue, R.StringValue,
        R.BooleanValue, R.NullValue, R.EnumValue, R.ListValue]
    | obj fs pos =>
      have hsz : Value.sizeFields fs ≤ n := by simp only [Value.size] at hs; omega
      have hszf : Value.sizeFields fs ≤ fuel := by simp only [Value.size] at hfuel; omega
      have hd : inp.drop (p + 1) = fieldsBody τ (p + 1) true fs ++
          (τ (p + 1 + (fieldsBody τ (p + 1) true fs).length) ++ ['}'] ++ rest) := by
        rw [← List.drop_drop, h]; simp [renderV]
      have hm := fields_build τ inp fuel fs (fun f hf =>
        ⟨ih f.2.2 (Nat.le_trans (Value.size_mem_fields hf) hsz), Nat.le_trans (Value.size_mem_fields hf) hszf⟩) (p + 1) true _ hd
      have hall : ∀ (fs : List (Name × Pos × Value)) (q : Nat) (first : Bool),
          allChildrenGo AC_ObjectValue (fieldPairs τ q first fs) = .ok () := by
        intro fs
        induction fs with
        | nil => intro q first; rfl
        | cons f fs ihf =>
          intro q first
          obtain ⟨k, kp, v⟩ := f
          rw [fieldPairs_cons]
          simp only [allChildrenGo, fieldPair, Pair.rule, AC_ObjectValue, if_true]
          exact ihf _ _
      simp only [valuePair, innerV]
      rw [buildValue_obj _ _ _ _ _ _ _ (hall fs _ _), hm]
      simp [withPosV, posAt, Ctx.spec, bind, Except.bind]

/-! ### the builder's depth bound is at most the length of the text -/

theorem intText_pos {t : List Char} (h : IntText t) : 1 ≤ t.length := by
  obtain ⟨d, r, hd, _⟩ := intText_head h
  rw [hd]; simp

theorem size_le_length (τ : Trivia) : ∀ (n : Nat) (v : Value), v.size ≤ n → WFV v → ∀ p, v.size ≤ (renderV τ p v).length := by
  intro n
  induction n with
  | zero => intro v hs; have := Value.size_pos v; omega
  | succ n ih =>
    intro v hs hwf p
    obtain ⟨d, r, hd, _⟩ := renderV_head τ p v hwf
    cases v with
    | list vs pos =>
      have hsz : Value.sizeList vs ≤ n := by simp only [Value.size] at hs; omega
      have key : ∀ (vs : List Value), (∀ v ∈ vs, v.size ≤ n ∧ WFV v) → ∀ q first,
          Value.sizeList vs ≤ (itemsBody τ q first vs).length := by
        intro vs
        induction vs with
        | nil => intro _ q first; simp [Value.sizeList]
        | cons w ws ihw =>
          intro hws q first
          have h1 := ih w (hws w (List.mem_cons_self ..)).1 (hws w (List.mem_cons_self ..)).2
            (q + (gapOf first (τ q)).length)
          have h2 := ihw (fun x hx => hws x (List.mem_cons_of_mem _ hx))
            (q + (gapOf first (τ q)).length + (renderV τ (q + (gapOf first (τ q)).length) w).length) false
          rw [itemsBody_cons]
          simp only [Value.sizeList, List.length_append]
          omega
      have := key vs (fun v hv => ⟨Nat.le_trans (Value.size_mem_list hv) hsz, wfvs_mem (show WFVs vs from hwf) hv⟩) (p + 1) true
      simp only [Value.size, renderV, List.length_cons, List.length_append, List.length_nil]
      omega
    | obj fs pos =>
      have hsz : Value.sizeFields fs ≤ n := by simp only [Value.size] at hs; omega
      have key : ∀ (fs : List (Name × Pos × Value)), (∀ f ∈ fs, f.2.2.size ≤ n ∧ WFV f.2.2) → ∀ q first,
          Value.sizeFields fs ≤ (fieldsBody τ q first fs).length := by
        intro fs
        induction fs with
        | nil => intro _ q first; simp [Value.sizeFields]
        | cons w ws ihw =>
          intro hws q first
          obtain ⟨k, kp, v⟩ := w
          have h1 := ih v (hws (k, kp, v) (List.mem_cons_self ..)).1 (hws (k, kp, v) (List.mem_cons_self ..)).2
            (fQ3 τ q first k)
          have h2 := ihw (fun x hx => hws x (List.mem_cons_of_mem _ hx))
            (fQ3 τ q first k + (renderV τ (fQ3 τ q first k) v).length) false
          rw [fieldsBody_cons]
          simp only [Value.sizeFields, List.length_append, List.length_cons]
          omega
      have := key fs (fun f hf => ⟨Nat.le_trans (Value.size_mem_fields hf) hsz, (wffs_mem (show WFFs fs from hwf) hf).2⟩)
        (p + 1) true
      simp only [Value.size, renderV, List.length_cons, List.length_append, List.length_nil]
      omega
    | _ => rw [hd]; simp [Value.size]

end NitroVerif.ValueParse
