/-
C18 composed (helper lemmas): every position `check_operation_document` reports is a position of a node of the document
it was given or of the schema it was given (`checkOp_Q`, `checkOp_positions`).  Here: the spread handler, variable
definitions, operations, fragment definitions and the main loop.  Against a VALID schema (C03's `SchemaValid`: argument /
input-field types are defined, union members are object types) the schema's own positions never occur: every reported
position is a position of a node of the operation document itself (`checkOp_positions_doc`).
-/
import NitroVerif.Lemmas.CliComposedPosWalk
import NitroVerif.Lemmas.CheckOpCompleteSites
import NitroVerif.Lemmas.SchemaFacts
namespace NitroVerif.CliComposed
open NitroVerif NitroVerif.Gql NitroVerif.CheckCommon NitroVerif.CheckOp

section defs
variable {S : Schema} {Q : Pos → Prop} (hS : SchemaQ S Q) {D : Doc} (hD : PQ Q (Doc.positions D))

theorem def_PQ {d : ExecDef} (hD : PQ Q (Doc.positions D)) (hd : d ∈ D) : PQ Q d.positions :=
  (pq_flatMap.mp hD) d hd

theorem fragMap_PQ (hD : PQ Q (Doc.positions D)) {n : Name} {f : FragmentDef} (h : fragMap D n = some f) :
    PQ Q f.positions := by
  unfold fragMap at h
  have hm : f ∈ fragsOf D := by
    have := List.mem_of_find?_eq_some h
    exact List.mem_reverse.mp this
  unfold fragsOf at hm
  obtain ⟨d, hd, he⟩ := List.mem_filterMap.mp hm
  cases d <;> simp at he
  subst he
  exact def_PQ hD hd

theorem fragment_parts {f : FragmentDef} (h : PQ Q f.positions) :
    Q f.namePos ∧ Q f.condPos ∧ Q f.pos ∧ PQ Q (dirsPositions f.dirs) ∧ PQ Q (Selection.positionsList f.sel) := by
  unfold FragmentDef.positions at h
  have h1 := pq_cons.mp h
  have h2 := pq_cons.mp h1.2
  have h3 := pq_cons.mp h2.2
  exact ⟨h1.1, h2.1, h3.1, (pq_append.mp h3.2).1, (pq_append.mp h3.2).2⟩

include hS hD in
theorem spreadHandler_HQ : ∀ fuel, HQ S Q (spreadHandler S D fuel) := by
  intro fuel
  induction fuel with
  | zero =>
    intro seen vars root name namePos pos _ _ hp
    simp only [spreadHandler]
    exact allQ_single.mpr hp
  | succ fuel ih =>
    intro seen vars root name namePos pos hr hnp hp
    simp only [spreadHandler]
    apply allQ_ite
    · intro _; exact allQ_single.mpr hp
    · intro _
      cases hf : fragMap D name with
      | none => exact allQ_single.mpr hnp
      | some f =>
        simp only
        obtain ⟨_, _, hfpos, hfd, hfs⟩ := fragment_parts (fragMap_PQ hD hf)
        rw [allQ_append]
        refine ⟨checkDirectives_Q hS vars f.dirs _ hfd, ?_⟩
        cases hct : S.typeDef? f.cond with
        | none => exact allQ_nil
        | some ct =>
          simp only
          have hctq : FromS S ct := ⟨_, hct⟩
          rw [allQ_append]
          refine ⟨spreadApplicability_Q hS root ct pos hr hctq hp, ?_⟩
          apply allQ_ite
          · intro _
            exact checkSelectionSet_Q hS _ ih _ vars ct f.sel f.pos hctq hfpos hfs
          · intro _; exact allQ_nil

include hS in
theorem checkVariablesAux_Q (seen : List Name) (vs : List VarDef) (h : PQ Q (vs.flatMap VarDef.positions)) :
    AllQ Q (checkVariablesAux S seen vs) := by
  induction vs generalizing seen with
  | nil => exact allQ_nil
  | cons v vs ih =>
    rw [List.flatMap_cons] at h
    have hv := (pq_append.mp h).1
    unfold VarDef.positions at hv
    have hpos := (pq_cons.mp hv).1
    have hty := (pq_append.mp (pq_append.mp (pq_cons.mp hv).2).1).1
    have hdef := (pq_append.mp (pq_append.mp (pq_cons.mp hv).2).1).2
    have hdirs := (pq_append.mp (pq_cons.mp hv).2).2
    have htp : Q (typePos v.ty) := hty _ (typePos_mem v.ty)
    simp only [checkVariablesAux]
    rw [allQ_append, allQ_append, allQ_append]
    refine ⟨⟨⟨?_, checkDirectives_Q hS none v.dirs _ hdirs⟩, ?_⟩, ih _ (pq_append.mp h).2⟩
    · exact allQ_ite_single hpos
    · cases isInputType? S v.ty.unwrapped with
      | none => exact allQ_single.mpr htp
      | some b =>
        cases b with
        | false => exact allQ_single.mpr htp
        | true =>
          simp only
          cases hd : v.default with
          | none => exact allQ_nil
          | some d =>
            simp only
            rw [hd] at hdef
            exact checkValue_Q hS none d v.ty false hdef (Or.inr hty)

include hS hD in
theorem checkOperation_Q (o : OperationDef) (ho : PQ Q o.positions) : AllQ Q (checkOperation S D o) := by
  unfold OperationDef.positions at ho
  have hpos := (pq_cons.mp ho).1
  have h1 := pq_append.mp (pq_cons.mp ho).2
  have hsel := h1.2
  have hdirs := (pq_append.mp h1.1).2
  have hvars := (pq_append.mp (pq_append.mp h1.1).1).2
  unfold checkOperation
  apply allQ_ite
  · intro _; exact allQ_single.mpr hpos
  · intro _
    cases hr : S.typeDef? (S.rootName o.kind) with
    | none => exact allQ_single.mpr hpos
    | some root =>
      simp only
      rw [allQ_append, allQ_append, allQ_append]
      refine ⟨⟨⟨checkDirectives_Q hS _ o.dirs _ hdirs, checkVariablesAux_Q hS [] o.vars hvars⟩, ?_⟩, ?_⟩
      · exact allQ_ite_single hpos
      · exact checkSelectionSet_Q hS _ (spreadHandler_HQ hS hD _) [] _ root o.sel o.pos ⟨_, hr⟩ hpos hsel

include hS hD in
theorem checkFragmentDefinition_Q (used : Bool) (f : FragmentDef) (hf : PQ Q f.positions) :
    AllQ Q (checkFragmentDefinition S D used f) := by
  obtain ⟨_, hcp, hpos, hdirs, hsel⟩ := fragment_parts hf
  unfold checkFragmentDefinition
  rw [allQ_append]
  constructor
  · apply allQ_ite
    · intro _; exact allQ_nil
    · intro _; exact allQ_filter (checkDirectives_Q hS none f.dirs _ hdirs)
  · cases ht : S.typeDef? f.cond with
    | none => exact allQ_single.mpr hcp
    | some t =>
      simp only
      apply allQ_ite
      · intro _
        apply allQ_ite
        · intro _; exact allQ_nil
        · intro _
          exact allQ_filter
            (checkSelectionSet_Q hS _ (spreadHandler_HQ hS hD _) [f.name] none t f.sel f.pos ⟨_, ht⟩ hpos hsel)
      · intro _; exact allQ_single.mpr hcp

theorem defHeader_Q (opNum : Nat) (earlier : List ExecDef) (d : ExecDef) (hd : PQ Q d.positions) :
    AllQ Q (defHeader opNum earlier d) := by
  cases d with
  | imp i => exact allQ_nil
  | frag f =>
    simp only [defHeader]
    exact allQ_ite_single ((fragment_parts hd).1)
  | op o =>
    simp only [defHeader]
    simp only [ExecDef.positions, OperationDef.positions] at hd
    cases hn : o.name with
    | none =>
      simp only
      exact allQ_ite_single ((pq_cons.mp hd).1)
    | some np =>
      obtain ⟨n, p⟩ := np
      simp only
      rw [hn] at hd
      have : Q p := (pq_append.mp (pq_append.mp (pq_append.mp (pq_cons.mp hd).2).1).1).1 p
        (by simp [optNamePos])
      exact allQ_ite_single this

include hS hD in
theorem defBody_Q (d : ExecDef) (hd : PQ Q d.positions) : AllQ Q (defBody S D d) := by
  cases d with
  | imp i => exact allQ_nil
  | frag f => exact checkFragmentDefinition_Q hS hD _ f hd
  | op o => exact checkOperation_Q hS hD o hd

include hS hD in
theorem checkDefs_Q (opNum : Nat) (earlier rest : List ExecDef) (hr : ∀ d ∈ rest, PQ Q d.positions) :
    AllQ Q (checkDefs S D opNum earlier rest) := by
  induction rest generalizing earlier with
  | nil => exact allQ_nil
  | cons d rest ih =>
    simp only [checkDefs]
    rw [allQ_append, allQ_append]
    exact ⟨⟨defHeader_Q opNum earlier d (hr d (by simp)), defBody_Q hS hD d (hr d (by simp))⟩,
      ih _ (fun x hx => hr x (List.mem_cons_of_mem _ hx))⟩

include hS hD in
theorem checkOp_Q : AllQ Q (checkOp S D) :=
  checkDefs_Q hS hD _ [] D (fun _ hd => def_PQ hD hd)

end defs

theorem checkOp_positions (S : Schema) (D : Doc) :
    ∀ d ∈ checkOp S D, d.2 ∈ Doc.positions D ∨ d.2 ∈ TsDoc.positions S.items :=
  checkOp_Q (Q := fun p => p ∈ Doc.positions D ∨ p ∈ TsDoc.positions S.items)
    (schemaQ_of_positions (fun _ hp => Or.inr hp)) (fun _ hp => Or.inl hp)

section valid
open NitroVerif.Valid

theorem tOk_of_inputTy {S : Schema} {Q : Pos → Prop} {t : GType} (h : InputTy S t) : TOk S Q t := by
  obtain ⟨td, htd, _⟩ := h
  left
  rw [baseNamed_fst]
  exact ⟨td, htd⟩

theorem schemaQ_of_facts {S : Schema} (h : SchemaFacts S) (Q : Pos → Prop) : SchemaQ S Q where
  inputs hn _ f hf := tOk_of_inputTy (h.inputTy _ (List.mem_of_find?_eq_some hn) f hf)
  fieldArgs hn _ fd hfd a ha := tOk_of_inputTy ((h.fieldTy _ (List.mem_of_find?_eq_some hn) fd hfd).2 a ha)
  dirArgs hn a ha := tOk_of_inputTy (h.dirArgs _ (List.mem_of_find?_eq_some hn) a ha)
  members hn _ m hm := Or.inl (h.members _ (List.mem_of_find?_eq_some hn) m hm)

theorem schemaQ_of_valid {S : Schema} (h : SchemaValid S) (Q : Pos → Prop) : SchemaQ S Q :=
  schemaQ_of_facts (schemaFacts_of_valid h) Q

theorem checkOp_positions_doc (S : Schema) (hS : SchemaValid S) (D : Doc) : ∀ d ∈ checkOp S D, d.2 ∈ Doc.positions D :=
  checkOp_Q (Q := fun p => p ∈ Doc.positions D) (schemaQ_of_valid hS _) (fun _ hp => hp)

end valid

end NitroVerif.CliComposed
