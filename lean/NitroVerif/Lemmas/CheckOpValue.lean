import NitroVerif.Lemmas.CheckOpValueParts
/-!
`check_value` against the specification's input coercion, once (`checkValue_iff`): at a position of input type the
checker reports only tolerated kinds exactly when the literal has no issue (`valueIssues = []`) and every variable
usage in it is handled quietly. Soundness (C03) reads it from left to right, completeness (C04) from right to left.
Then the nested value checks of an argument list are the typed values of its site (`checkArguments_values_iff`).
Inductions over values are the structural one (`Value.size.mutual_induct`).
-/
namespace NitroVerif.CheckOp
open NitroVerif.Gql NitroVerif.CheckCommon NitroVerif.Valid

theorem inputs_nodup {S : Schema} (hU : uniqueArgNamesB S = true) {n : Name} {td : TypeDef}
    (h : S.typeDef? n = some td) : nodupB (td.inputs.map (·.name)) = true := by
  simp only [uniqueArgNamesB, Bool.and_eq_true, List.all_eq_true] at hU
  exact (hU.1 td (Schema.typeDef?_mem h)).1

/-- the (unwrapped) named type of `t` is defined and is an input type (scalar, enum or input object) -/
def InputTy (S : Schema) (t : GType) : Prop :=
  ∃ td, S.typeDef? t.unwrapped = some td ∧ Schema.isInputKind td.kind = true

/-- the variable case of `check_value_at` is quiet on the usage `u` -/
def UseQuiet (A : ErrKind → Bool) (vars : Option (List VarDef)) (u : VarUse) : Prop :=
  Quiet A (varCheck vars u.name u.pos u.locTy u.locDefault)

theorem inputTy_iff {S : Schema} {t : GType} :
    InputTy S t ↔ ∃ k, S.kindOf? t.unwrapped = some k ∧ Schema.isInputKind k = true := by
  simp only [InputTy, Schema.kindOf?, Option.map_eq_some_iff]
  exact ⟨fun ⟨td, h, hk⟩ => ⟨_, ⟨td, h, rfl⟩, hk⟩, fun ⟨_, ⟨td, h, e⟩, hk⟩ => ⟨td, h, e ▸ hk⟩⟩

theorem useQuiet_none {A : ErrKind → Bool} {u : VarUse} : UseQuiet A none u ↔ A ErrKind.UnknownVariable = true := by
  simp [UseQuiet, varCheck, varDef?, quiet_single]

/-- every field of every input object has an input type -/
def InputFieldsTyped (S : Schema) : Prop := ∀ td ∈ S.typeDefs, ∀ a ∈ td.inputs, InputTy S a.ty

theorem inputTy_of_unwrapped {S : Schema} {t t' : GType} (h : t'.unwrapped = t.unwrapped) (hi : InputTy S t) :
    InputTy S t' := by
  unfold InputTy at hi ⊢
  rw [h]; exact hi

theorem namedLeaf_null {S : Schema} {n : Name} {np p : Pos} {td : TypeDef} (ht : S.typeDef? n = some td)
    (hk : Schema.isInputKind td.kind = true) : namedLeaf S (.null p) n np = [] := by
  unfold namedLeaf
  simp only [ht]
  unfold leafCompat
  cases hkk : td.kind <;> simp [hkk, Schema.isInputKind, scalarAccepts_null] at hk ⊢

theorem lookupField_quiet {S : Schema} {A : ErrKind → Bool} {vars : Option (List VarDef)} {n : Name} {t : GType} {ld : Bool}
    (fs : List (Name × Pos × Value)) (hq : ∀ k p v, (k, p, v) ∈ fs → k = n → Quiet A (checkValue S vars v t ld))
    (ds : List Diag) (h : lookupField S vars fs n t ld = some ds) : Quiet A ds := by
  rw [lookupField_eq_find] at h
  obtain ⟨f, hf, rfl⟩ := Option.map_eq_some_iff.mp h
  exact hq f.1 f.2.1 f.2.2 (List.mem_of_find?_eq_some hf) (by simpa using List.find?_some hf)

theorem objResult_complete {A : ErrKind → Bool} {S : Schema} {vars : Option (List VarDef)}
    {fs : List (Name × Pos × Value)} {inputs : List InputValueDef} {p : Pos}
    (hnd : nodupB (fs.map (·.1)) = true)
    (hdef : ∀ f ∈ fs, inputs.any (·.name == f.1) = true)
    (hreq : ∀ d ∈ inputs, (d.ty.isNonNull && d.default.isNone) = true → fs.any (·.1 == d.name) = true)
    (hq : ∀ k p' v, (k, p', v) ∈ fs → ∀ d ∈ inputs, d.name = k → Quiet A (checkValue S vars v d.ty d.default.isSome)) :
    Quiet A (objResult (inputs.map fun f => fieldOutcome (lookupField S vars fs f.name f.ty f.default.isSome) f) fs.length p) := by
  unfold objResult
  rw [quiet_append]
  refine ⟨?_, ?_⟩
  · rw [quiet_flatMap]
    intro oc hoc
    obtain ⟨d, hd, rfl⟩ := List.mem_map.mp hoc
    unfold fieldOutcome
    cases hl : lookupField S vars fs d.name d.ty d.default.isSome with
    | none => simp only []; split <;> exact quiet_nil
    | some ds =>
      simp only []
      exact lookupField_quiet fs (fun k p' v hm hk => hq k p' v hm d hd hk.symm) ds hl
  · have hok : ((inputs.map fun f => fieldOutcome (lookupField S vars fs f.name f.ty f.default.isSome) f).all (·.ok)) = true := by
      rw [List.all_eq_true]
      intro oc hoc
      obtain ⟨d, hd, rfl⟩ := List.mem_map.mp hoc
      rw [fieldOutcome_ok]
      cases hr : (d.ty.isNonNull && d.default.isNone) with
      | false => rfl
      | true =>
        obtain ⟨f, hf, hfn⟩ := List.any_eq_true.mp (hreq d hd hr)
        simp only [Bool.not_true, Bool.false_or, List.contains_iff_mem]
        exact List.mem_map.mpr ⟨f, hf, by simpa using hfn⟩
    have hle : fs.length ≤ ((inputs.map (·.name)).filter (fun x => (fs.map (·.1)).contains x)).length := by
      have h1 := matched_le hnd (inputs.map (·.name))
      have h2 : (fs.map (·.1)).filter (fun x => (inputs.map (·.name)).contains x) = fs.map (·.1) := by
        rw [List.filter_eq_self]
        intro x hx
        obtain ⟨f, hf, rfl⟩ := List.mem_map.mp hx
        obtain ⟨d, hd, hdn⟩ := List.any_eq_true.mp (hdef f hf)
        simp only [List.contains_iff_mem]
        exact List.mem_map.mpr ⟨d, hd, by simpa using hdn⟩
      rw [h2, List.length_map] at h1
      exact h1
    rw [hok, seenOutcomes_length]
    have : ¬ (((inputs.map (·.name)).filter (fun x => (fs.map (·.1)).contains x)).length < fs.length) := by omega
    rw [decide_eq_false this]
    exact quiet_nil

/-- what the specification asks of a value at a position: no issue, and its variable usages pass -/
def ValFact (S : Schema) (A : ErrKind → Bool) (vars : Option (List VarDef)) (v : Value) (t : GType) (ld : Bool) : Prop :=
  valueIssues S v t = [] ∧ ∀ u ∈ varUses S v t ld, UseQuiet A vars u

theorem ite_nil_iff {c : Prop} [Decidable c] {x : String} : (if c then [] else [x]) = [] ↔ c := by
  by_cases h : c <;> simp [h]

section
variable {S : Schema} {A : ErrKind → Bool} {vars : Option (List VarDef)}
  (hA : Admissible A)
  -- all that is used of the schema: the fields of a looked-up input object have distinct names and input types
  (hIn : ∀ n td, S.typeDef? n = some td → td.kind = .input →
    nodupB (td.inputs.map (·.name)) = true ∧ ∀ a ∈ td.inputs, InputTy S a.ty)
include hA hIn

/-- values, the fields of an object literal against the input fields of its type, and the elements of a list literal -/
theorem checkValue_iff_mutual :
    (∀ v t ld, InputTy S t → (Quiet A (checkValue S vars v t ld) ↔ ValFact S A vars v t ld)) ∧
    (∀ fs inputs, nodupB (inputs.map (·.name)) = true → (∀ a ∈ inputs, InputTy S a.ty) →
      ((∀ k p v, (k, p, v) ∈ fs → ∀ d ∈ inputs, d.name = k → Quiet A (checkValue S vars v d.ty d.default.isSome)) ↔
        fieldIssues S fs inputs = [] ∧ ∀ u ∈ varUsesFields S fs inputs, UseQuiet A vars u)) ∧
    (∀ vs inner, InputTy S inner → (Quiet A (checkValueList S vars vs inner) ↔
      valueIssuesList S vs inner = [] ∧ ∀ u ∈ varUsesList S vs inner, UseQuiet A vars u)) := by
  have hTM := hA _ (by decide : ErrKind.TypeMismatch ≠ ErrKind.UnknownVariable)
  apply Value.size.mutual_induct
  case case1 =>
    -- a list literal: element-wise against the item type, or (for a named type) only a custom scalar takes it
    intro vs p ih t ld hin
    simp only [ValFact, checkValue, valueIssues, varUses, stripNonNull_eq]
    cases hst : CheckCommon.stripNonNull t with
    | nonNull x => exact absurd hst (stripNonNull_not_nonNull t x)
    | list inner q =>
      exact ih inner (inputTy_of_unwrapped (by rw [← stripNonNull_unwrapped t, hst]; rfl) hin)
    | named n np =>
      obtain ⟨td, ht, _⟩ := hin
      rw [← stripNonNull_unwrapped t, hst] at ht
      have ht' : S.typeDef? n = some td := ht
      simp [namedLeaf, ht', leafCompat_nonleaf (Or.inl ⟨vs, p, rfl⟩), quiet_ite_prop hTM, Schema.typeDef?_name ht']
  case case2 =>
    -- an object literal: the counting test of `objResult` is 5.6.2 – 5.6.4, the nested checks are the fields' issues
    intro fs p ih t ld hin
    obtain ⟨td, ht, _⟩ := hin
    simp only [ValFact, checkValue, valueIssues, varUses, baseNamed_fst, ht]
    cases hki : (td.kind == TypeKind.input) with
    | true =>
      have hIn := hIn _ td ht (by cases hk : td.kind <;> first | rfl | (rw [hk] at hki; exact absurd hki (by decide)))
      simp only [if_true, List.append_eq_nil_iff, ite_nil_iff, and_assoc, ← ih td.inputs hIn.1 hIn.2]
      constructor
      · intro h
        obtain ⟨h1, h2, h3, h4⟩ := objResult_quiet hA hIn.1 h
        refine ⟨List.all_eq_true.mpr h2, h1, List.all_eq_true.mpr fun d hd => ?_, h4⟩
        cases hr : (d.ty.isNonNull && d.default.isNone) with
        | false => rfl
        | true => simpa using h3 d hd hr
      · rintro ⟨h2, h1, h3, h4⟩
        refine objResult_complete h1 (List.all_eq_true.mp h2) (fun d hd hr => ?_) h4
        simpa [hr] using List.all_eq_true.mp h3 d hd
    | false =>
      simp [leafCompat_nonleaf (Or.inr ⟨fs, p, rfl, hki⟩), quiet_ite_prop hTM]
  case case3 =>
    -- variables, `null` and the leaf literals
    intro v hl ho t ld hin
    cases v with
    | list vs p => exact (hl vs p rfl).elim
    | obj fs p => exact (ho fs p rfl).elim
    | var n p => simp [ValFact, checkValue, valueIssues, varUses, UseQuiet]
    | null p =>
      simp only [ValFact, checkValue, Value.isNull, if_true, valueIssues, varUses, List.not_mem_nil, false_imp_iff,
        implies_true, and_true]
      cases hnn : t.isNonNull with
      | true => simp [quiet_single, hTM]
      | false =>
        cases t with
        | nonNull x => simp [GType.isNonNull] at hnn
        | list x q => simp [CheckCommon.stripNonNull, quiet_nil]
        | named n q =>
          obtain ⟨td, ht, hk⟩ := hin
          simp [CheckCommon.stripNonNull, namedLeaf_null (np := q) (p := p) (show S.typeDef? n = some td from ht) hk, quiet_nil]
    | int s p | float s p | str s p | bool s p | enum s p =>
      simp only [ValFact, checkValue, Value.isNull, valueIssues, varUses, baseNamed_fst, ite_nil_iff, List.not_mem_nil,
        false_imp_iff, implies_true, and_true, Bool.false_eq_true, if_false]
      exact namedLeaf_quiet_iff hA rfl
  case case4 => intro inner _; simp [checkValueList, valueIssuesList, varUsesList, quiet_nil]
  case case5 =>
    intro v vs ih1 ih2 inner hin
    simp only [checkValueList, valueIssuesList, varUsesList, quiet_append, List.append_eq_nil_iff, List.forall_mem_append,
      ih1 inner false hin, ih2 inner hin, ValFact, and_and_and_comm]
  case case6 => intro inputs _ _; simp [fieldIssues, varUsesFields]
  case case7 =>
    intro k p v r ih1 ih2 inputs hnd hin
    simp only [List.mem_cons, Prod.mk.injEq, fieldIssues, varUsesFields, List.append_eq_nil_iff, List.forall_mem_append]
    -- with distinct names the definitions named `k` are the one `find?` returns, if any
    have hone : (∀ d ∈ inputs, d.name = k → Quiet A (checkValue S vars v d.ty d.default.isSome)) ↔
        (match inputs.find? (·.name == k) with | some d => valueIssues S v d.ty | none => []) = [] ∧
        ∀ u ∈ (match inputs.find? (·.name == k) with | some d => varUses S v d.ty d.default.isSome | none => []),
          UseQuiet A vars u := by
      cases hfd : inputs.find? (·.name == k) with
      | none =>
        simp only [List.not_mem_nil, false_imp_iff, implies_true, and_true, iff_true]
        intro d hd hdk
        simpa [hdk] using List.find?_eq_none.mp hfd d hd
      | some d =>
        have hd := List.mem_of_find?_eq_some hfd
        have hdk : d.name = k := by simpa using List.find?_some hfd
        refine Iff.trans ⟨fun h => h d hd hdk, fun h d' hd' hdk' => ?_⟩ (ih1 d.ty d.default.isSome (hin d hd))
        have := find?_key_of_nodup (·.name) ((nodupB_iff_nodup _).mp hnd) hd'
        rw [hdk', hfd] at this
        cases this; exact h
    rw [and_and_and_comm]
    refine Iff.trans ?_ (and_congr hone (ih2 inputs hnd hin))
    constructor
    · intro h
      exact ⟨fun d hd hdk => h k p v (.inl ⟨rfl, rfl, rfl⟩) d hd hdk, fun k' p' v' hm => h k' p' v' (.inr hm)⟩
    · rintro ⟨h1, h2⟩ k' p' v' (⟨rfl, rfl, rfl⟩ | hm)
      · exact h1
      · exact h2 k' p' v' hm

theorem checkValue_iff {v : Value} {t : GType} {ld : Bool} (hin : InputTy S t) :
    Quiet A (checkValue S vars v t ld) ↔ ValFact S A vars v t ld :=
  (checkValue_iff_mutual hA hIn).1 v t ld hin

end

/-- the schema hypothesis of `checkValue_iff`, from unique names and typed input fields everywhere -/
theorem inputs_ok {S : Schema} (hU : uniqueArgNamesB S = true) (hI : InputFieldsTyped S) :
    ∀ n td, S.typeDef? n = some td → td.kind = .input →
      nodupB (td.inputs.map (·.name)) = true ∧ ∀ a ∈ td.inputs, InputTy S a.ty :=
  fun _ td ht _ => ⟨inputs_nodup hU ht, hI td (Schema.typeDef?_mem ht)⟩

theorem valueIssues_tags (S : Schema) :
    (∀ v t, ∀ x ∈ valueIssues S v t, x = "5.6.1" ∨ x = "5.6.2" ∨ x = "5.6.3" ∨ x = "5.6.4") ∧
    (∀ fs inputs, ∀ x ∈ fieldIssues S fs inputs, x = "5.6.1" ∨ x = "5.6.2" ∨ x = "5.6.3" ∨ x = "5.6.4") ∧
    (∀ vs t, ∀ x ∈ valueIssuesList S vs t, x = "5.6.1" ∨ x = "5.6.2" ∨ x = "5.6.3" ∨ x = "5.6.4") := by
  apply Value.size.mutual_induct
  case case1 =>
    intro vs p ih t x hx
    simp only [valueIssues] at hx
    split at hx
    · exact ih _ x hx
    · split at hx
      · split at hx <;> simp at hx
        exact Or.inl hx
      · simp at hx; exact Or.inl hx
    · simp at hx
  case case2 =>
    intro fs p ih t x hx
    simp only [valueIssues] at hx
    split at hx
    · split at hx
      · simp only [List.mem_append] at hx
        rcases hx with ((hx | hx) | hx) | hx
        · split at hx <;> simp at hx
          exact Or.inr (Or.inl hx)
        · split at hx <;> simp at hx
          exact Or.inr (Or.inr (Or.inl hx))
        · split at hx <;> simp at hx
          exact Or.inr (Or.inr (Or.inr hx))
        · exact ih _ x hx
      · split at hx <;> simp at hx
        exact Or.inl hx
    · simp at hx; exact Or.inl hx
  case case3 =>
    intro v hl ho t x hx
    cases v with
    | list vs p => exact (hl vs p rfl).elim
    | obj fs p => exact (ho fs p rfl).elim
    | var n p => simp [valueIssues] at hx
    | null p | int s p | float s p | str s p | bool s p | enum s p =>
      simp only [valueIssues] at hx; split at hx <;> simp at hx; exact Or.inl hx
  case case4 => intro t x hx; simp [valueIssuesList] at hx
  case case5 =>
    intro v vs ih1 ih2 t x hx
    simp only [valueIssuesList, List.mem_append] at hx
    exact hx.elim (ih1 t x) (ih2 t x)
  case case6 => intro inputs x hx; simp [fieldIssues] at hx
  case case7 =>
    intro k p v r ih1 ih2 inputs x hx
    simp only [fieldIssues, List.mem_append] at hx
    rcases hx with hx | hx
    · cases hfd : inputs.find? (·.name == k) with
      | none => simp [hfd] at hx
      | some d => simp only [hfd] at hx; exact ih1 d.ty x hx
    · exact ih2 inputs x hx

theorem valueIssues_nil {S : Schema} {v : Value} {t : GType}
    (h1 : (valueIssues S v t).contains "5.6.1" = false) (h2 : (valueIssues S v t).contains "5.6.2" = false)
    (h3 : (valueIssues S v t).contains "5.6.3" = false) (h4 : (valueIssues S v t).contains "5.6.4" = false) :
    valueIssues S v t = [] := by
  cases hvi : valueIssues S v t with
  | nil => rfl
  | cons x xs =>
    exfalso
    have hx : x ∈ valueIssues S v t := by rw [hvi]; simp
    rcases (valueIssues_tags S).1 v t x hx with rfl | rfl | rfl | rfl
    · have : (valueIssues S v t).contains "5.6.1" = true := by simpa using hx
      rw [this] at h1; cases h1
    · have : (valueIssues S v t).contains "5.6.2" = true := by simpa using hx
      rw [this] at h2; cases h2
    · have : (valueIssues S v t).contains "5.6.3" = true := by simpa using hx
      rw [this] at h3; cases h3
    · have : (valueIssues S v t).contains "5.6.4" = true := by simpa using hx
      rw [this] at h4; cases h4

theorem find?_arg_of_nodup (args : List Arg) (hnd : nodupB (args.map (·.1)) = true) (a : Arg) (ha : a ∈ args)
    (n : Name) (hn : n = a.1) : args.find? (fun x => n == x.1) = some a := by
  rw [hn, show (fun x : Arg => a.1 == x.1) = (fun x => x.1 == a.1) from funext fun _ => BEq.comm]
  exact find?_key_of_nodup (·.1) ((nodupB_iff_nodup _).mp hnd) ha

/-- with distinct names on both sides, "the argument found for a definition" and "the definition found for an
    argument" are the same pairing, so the nested value checks are the site's typed values -/
theorem checkArguments_values_iff {S : Schema} {A : ErrKind → Bool} (hA : Admissible A) {vars : Option (List VarDef)}
    (hIn : ∀ n td, S.typeDef? n = some td → td.kind = .input →
      nodupB (td.inputs.map (·.name)) = true ∧ ∀ a ∈ td.inputs, InputTy S a.ty)
    {pos : Pos} {args : List Arg} {defs : List InputValueDef} (hdefs : nodupB (defs.map (·.name)) = true)
    (hty : ∀ d ∈ defs, InputTy S d.ty) :
    Quiet A (checkArguments S vars pos args defs) ↔
      nodupB (args.map (·.1)) = true ∧ (∀ a ∈ args, defs.any (·.name == a.1) = true) ∧
      (∀ d ∈ defs, (d.ty.isNonNull && d.default.isNone) = true → args.any (·.1 == d.name) = true) ∧
      ∀ tv ∈ typedValuesOf [⟨args, defs⟩], ValFact S A vars tv.value tv.ty tv.locDefault := by
  rw [checkArguments_iff hA hdefs]
  simp only [forall_and]
  refine and_congr_right fun hnd => and_congr_right fun _ => and_congr_right fun _ => ?_
  simp only [typedValuesOf, List.flatMap_cons, List.flatMap_nil, List.append_nil, List.mem_filterMap, Option.map_eq_some_iff]
  constructor
  · rintro h tv ⟨a, ha, d, hfd, rfl⟩
    have hd := List.mem_of_find?_eq_some hfd
    have hdn : d.name = a.1 := by simpa using List.find?_some hfd
    exact (checkValue_iff hA hIn (hty d hd)).mp (h d hd a (find?_arg_of_nodup args hnd a ha d.name hdn))
  · intro h d hd a hf
    have ha := List.mem_of_find?_eq_some hf
    have hdn : d.name = a.1 := by simpa using List.find?_some hf
    refine (checkValue_iff hA hIn (hty d hd)).mpr (h ⟨a.2.2, d.ty, d.default.isSome⟩ ⟨a, ha, d, ?_, rfl⟩)
    rw [← hdn]; exact find?_key_of_nodup (·.name) ((nodupB_iff_nodup _).mp hdefs) hd

theorem typedValuesOf_mem {sites : List ArgSite} {tv : TypedValue} (h : tv ∈ typedValuesOf sites) :
    ∃ site ∈ sites, tv ∈ typedValuesOf [site] := by
  simp only [typedValuesOf, List.mem_flatMap] at h ⊢
  obtain ⟨site, hs, htv⟩ := h
  exact ⟨site, hs, site, by simp, htv⟩

/-- the variable usages inside the typed values of some argument lists are all handled quietly -/
def UsesOK (S : Schema) (A : ErrKind → Bool) (vars : Option (List VarDef)) (sites : List ArgSite) : Prop :=
  ∀ tv ∈ typedValuesOf sites, ∀ u ∈ varUses S tv.value tv.ty tv.locDefault, UseQuiet A vars u

theorem usesOK_mono {S : Schema} {A : ErrKind → Bool} {vars : Option (List VarDef)} {a b : List ArgSite}
    (hsub : ∀ s ∈ a, s ∈ b) (h : UsesOK S A vars b) : UsesOK S A vars a := by
  intro tv htv
  obtain ⟨site, hs, htv'⟩ := typedValuesOf_mem htv
  apply h
  simp only [typedValuesOf, List.mem_flatMap] at htv' ⊢
  obtain ⟨s', hs', h'⟩ := htv'
  simp at hs'; subst hs'
  exact ⟨_, hsub _ hs, h'⟩

end NitroVerif.CheckOp
