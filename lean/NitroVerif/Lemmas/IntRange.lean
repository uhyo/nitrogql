import NitroVerif.Spec.IntRange
import NitroVerif.Lemmas.IntLit
/-!
The 32-bit range of Int literals is PART of rule 5.6.1 (since `Valid.leafCoercible` requires it — fix e3584a3):
a value on which `valueIssues` does not report "5.6.1" has every integer literal at an `Int` position in range
(`intRangeOk`), through nested lists (and single values for list types), input objects and their fields.
-/
namespace NitroVerif.Valid
open NitroVerif NitroVerif.Gql

theorem int_leafCoercible_inRange {S : Schema} {s : String} {p : Pos}
    (h : leafCoercible S (.int s p) "Int" = true) : SpecInt.intTextInRange s = true := by
  unfold leafCoercible at h
  cases ht : S.typeDef? "Int" with
  | none => simp [ht] at h
  | some td =>
    simp only [ht] at h
    cases hk : td.kind <;> simp [hk] at h
    exact h

theorem intRangeOk_of_no_5_6_1 (S : Schema) (v : Value) (t : GType) (h : "5.6.1" ∉ valueIssues S v t) :
    intRangeOk S v t = true := by
  suffices h' : ∀ (k : Nat) (v : Value), v.size ≤ k → ∀ (t : GType),
      "5.6.1" ∉ valueIssues S v t → intRangeOk S v t = true from h' _ v (Nat.le_refl _) t h
  clear h v t
  intro k
  induction k with
  | zero => intro v hv; cases v <;> simp [Value.size] at hv
  | succ k ih =>
    have hlist : ∀ (vs : List Value) (inner : GType), Value.sizeList vs ≤ k →
        "5.6.1" ∉ valueIssuesList S vs inner → intRangeOkList S vs inner = true := by
      intro vs inner
      induction vs with
      | nil => intro _ _; simp [intRangeOkList]
      | cons v vs ihvs =>
        intro hsz hx
        simp only [Value.sizeList] at hsz
        simp only [valueIssuesList, List.mem_append, not_or] at hx
        simp only [intRangeOkList, Bool.and_eq_true]
        exact ⟨ih v (by omega) inner hx.1, ihvs (by omega) hx.2⟩
    have hfields : ∀ (inputs : List InputValueDef) (fs : List (Name × Pos × Value)), Value.sizeFields fs ≤ k →
        "5.6.1" ∉ fieldIssues S fs inputs → intRangeOkFields S fs inputs = true := by
      intro inputs fs
      induction fs with
      | nil => intro _ _; simp [intRangeOkFields]
      | cons f fs ihfs =>
        obtain ⟨kk, p, v⟩ := f
        intro hsz hx
        simp only [Value.sizeFields] at hsz
        simp only [fieldIssues, List.mem_append, not_or] at hx
        simp only [intRangeOkFields, Bool.and_eq_true]
        refine ⟨?_, ihfs (by omega) hx.2⟩
        cases hfd : inputs.find? (·.name == kk) with
        | none => rfl
        | some d =>
          have h1 := hx.1
          simp only [hfd] at h1 ⊢
          exact ih v (by omega) d.ty h1
    intro v hsz t hx
    cases v with
    | var n p | null p | float s p | str s p | bool s p | enum s p => simp [intRangeOk]
    | int s p =>
      simp only [valueIssues] at hx
      simp only [intRangeOk, Bool.or_eq_true, Bool.not_eq_true', beq_eq_false_iff_ne, ne_eq]
      by_cases hn : t.unwrapped = "Int"
      · right
        have hc : leafCoercible S (.int s p) t.unwrapped = true := by
          cases hc : leafCoercible S (.int s p) t.unwrapped with
          | true => rfl
          | false => simp [hc] at hx
        rw [hn] at hc
        exact int_leafCoercible_inRange hc
      · exact Or.inl hn
    | list vs p =>
      simp only [Value.size] at hsz
      simp only [valueIssues] at hx
      simp only [intRangeOk]
      split
      · rename_i inner ip hst
        simp only [hst] at hx
        exact hlist vs _ (by omega) hx
      · rfl
    | obj fs p =>
      simp only [Value.size] at hsz
      simp only [valueIssues] at hx
      simp only [intRangeOk]
      cases ht : S.typeDef? t.unwrapped with
      | none => rfl
      | some td =>
        simp only [ht] at hx ⊢
        by_cases hk : (td.kind == TypeKind.input) = true
        · simp only [hk, if_true, List.mem_append, not_or] at hx ⊢
          exact hfields _ fs (by omega) hx.2
        · simp [hk]

theorem rule_int32_of_rule_5_6_1 (S : Schema) (D : Doc) (h : rule_5_6_1 S D = true) : rule_int32 S D = true := by
  unfold rule_5_6_1 valueRule at h
  unfold rule_int32
  rw [List.all_eq_true] at h ⊢
  intro tv htv
  have := h tv htv
  simp only [Bool.not_eq_true', List.contains_eq_mem, decide_eq_false_iff_not] at this
  exact intRangeOk_of_no_5_6_1 S tv.value tv.ty this

end NitroVerif.Valid
