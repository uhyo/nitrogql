import NitroVerif.Lemmas.GqlPrintOwnLeadNames
import NitroVerif.Lemmas.ParseDocTsDefObject
import NitroVerif.Lemmas.ParseDocTsExtUnion
import NitroVerif.Lemmas.ParseDocTsExtObject
import NitroVerif.Lemmas.ParseDocTsDirDef
/-!
C16 over nitrogql's own parser: the definitions whose lists are written with the leading separator —
union, object and interface type DEFINITIONS and EXTENSIONS (member / `implements` lists) and directive definitions
(`on | FIELD | …`). Each is an instance of C07's theorem about the construct with its list any text that the list's rule
reads (`unionDefG`, `objKindDefG`, `unionExtMG`, `objKindExtG`, `directiveDefG` of `Lemmas/ParseDocTsDef*`, `…Ext*`, `…DirDef`).
The suffixes are C07's: `…T` is its name for the theorem of a construct over a rendering with trivia, `…G` the same with the
construct's list any text that the list's rule reads.
-/
namespace NitroVerif.DocParseL
open NitroVerif.Peg NitroVerif.Gen NitroVerif.Gen.Parts NitroVerif.Build NitroVerif.TypeParse NitroVerif.StringParse
open NitroVerif.Gql NitroVerif.ValueParse NitroVerif.Spec.Lex NitroVerif.ParseText NitroVerif.DocParse

variable {inp : List Char}

def rUnionDef (τ : Trivia) (sep : Bool) (p : Nat) (t : TypeDef) : List Char :=
  let tH := rDefHead τ false p t.desc (kindKw .union) t.name
  let tD := rDirs τ false (p + tH.length) t.dirs
  let tE := tk τ false (p + tH.length + tD.length) ['=']
  tH ++ (tD ++ (tE ++ rNamesL τ '|' sep (p + tH.length + tD.length + tE.length) t.members))

def wpUnionDef (τ : Trivia) (inp : List Char) (sep : Bool) (p : Nat) (t : TypeDef) : TypeDef :=
  let tH := rDefHead τ false p t.desc (kindKw .union) t.name
  let tD := rDirs τ false (p + tH.length) t.dirs
  let tE := tk τ false (p + tH.length + tD.length) ['=']
  { kind := .union, desc := t.desc, name := t.name, namePos := posAt inp (dhOffN τ p t.desc (kindKw .union)),
    dirs := wpDirs τ inp false (p + tH.length) t.dirs,
    members := wpNamesL τ inp '|' sep (p + tH.length + tD.length + tE.length) t.members,
    pos := posAt inp (dhOffK τ p t.desc) }

theorem unionDefT (τ : Trivia) (hτ : ∀ q, Ws (τ q)) (t : TypeDef) (hname : validName t.name.toList)
    (hdirs : WFDirs t.dirs) (hmem : t.members ≠ []) (hmv : ∀ x ∈ t.members, validName x.1.toList) {sep : Bool} {p : Nat}
    (h : HasAt inp p (rUnionDef τ sep p t)) (hn : Nxt inp tdBad sep (p + (rUnionDef τ sep p t).length)) :
    KindDefOk inp R.UnionTypeDefinition p (rUnionDef τ sep p t) (wpUnionDef τ inp sep p t) := by
  obtain ⟨m, ms, hms⟩ := List.exists_cons_of_ne_nil hmem
  rw [hms] at hmv
  refine unionDefG τ hτ t hname hdirs _ _ ?_ ?_ h hn
  · rw [hms]
    exact (Hd.append (hd_tk (P := (· = '|')) (hd_cons [] rfl)) _).mono (by rintro d rfl; decide)
  · rw [hms]
    exact membersT τ hτ m ms hmv (Or.inr (Or.inr (Or.inr (Or.inr (Or.inl rfl)))))

/-- an object (`kw = type`) or interface type definition -/
def rObjDef (τ : Trivia) (kw : List Char) (sep : Bool) (p : Nat) (t : TypeDef) : List Char :=
  let tH := rDefHead τ (!t.implements.isEmpty || (sep && t.fields.isEmpty && t.dirs.isEmpty)) p t.desc kw t.name
  let tI := rOptImpl τ (sep && t.fields.isEmpty && t.dirs.isEmpty) (p + tH.length) t.implements
  let tD := rDirs τ (sep && t.fields.isEmpty) (p + tH.length + tI.length) t.dirs
  tH ++ (tI ++ (tD ++ rOptFields τ sep (p + tH.length + tI.length + tD.length) t.fields))

def wpObjDef (τ : Trivia) (inp : List Char) (k : TypeKind) (kw : List Char) (sep : Bool) (p : Nat) (t : TypeDef) : TypeDef :=
  let tH := rDefHead τ (!t.implements.isEmpty || (sep && t.fields.isEmpty && t.dirs.isEmpty)) p t.desc kw t.name
  let tI := rOptImpl τ (sep && t.fields.isEmpty && t.dirs.isEmpty) (p + tH.length) t.implements
  let tD := rDirs τ (sep && t.fields.isEmpty) (p + tH.length + tI.length) t.dirs
  { kind := k, desc := t.desc, name := t.name, namePos := posAt inp (dhOffN τ p t.desc kw),
    implements := wpNames τ inp '&' (sep && t.fields.isEmpty && t.dirs.isEmpty)
      (implOff τ (p + tH.length)) t.implements,
    dirs := wpDirs τ inp (sep && t.fields.isEmpty) (p + tH.length + tI.length) t.dirs,
    fields := wpFieldDefs τ inp (p + tH.length + tI.length + tD.length +
      (tk τ false (p + tH.length + tI.length + tD.length) ['{']).length) t.fields,
    pos := posAt inp (dhOffK τ p t.desc) }

theorem implText_rOptImpl (τ : Trivia) (hτ : ∀ q, Ws (τ q)) (ns : List (Name × Pos)) (hv : ∀ x ∈ ns, validName x.1.toList)
    (s : Bool) (q : Nat) : ImplText inp ns s q (rOptImpl τ s q ns) (wpNames τ inp '&' s (implOff τ q) ns) :=
  ⟨fun h0 => by rw [h0]; exact ⟨rfl, rfl⟩,
    fun h0 => (hd_rOptImpl τ s q ns).resolve_left fun e => h0 (rOptImpl_eq_nil e),
    fun h0 _ hb h hn => optImplT τ hτ ns hv h0 hb h hn⟩

theorem objDefT (τ : Trivia) (hτ : ∀ q, Ws (τ q)) (t : TypeDef) (hname : validName t.name.toList)
    (himpl : ∀ x ∈ t.implements, validName x.1.toList) (hdirs : WFDirs t.dirs) (hfields : ∀ f ∈ t.fields, WFFieldDef f)
    (hne : t.dirs ≠ [] ∨ t.fields ≠ []) {sep : Bool} {p : Nat} (h : HasAt inp p (rObjDef τ (kindKw .object) sep p t))
    (hn : Nxt inp tdBad sep (p + (rObjDef τ (kindKw .object) sep p t).length)) :
    KindDefOk inp R.ObjectTypeDefinition p (rObjDef τ (kindKw .object) sep p t)
      (wpObjDef τ inp .object (kindKw .object) sep p t) :=
  objKindDefG τ hτ (Or.inl rfl) t hname hdirs hfields _ _ (implText_rOptImpl τ hτ _ himpl _ _) h hn (fun _ => hne)
    (fun _ b c => hne.elim (absurd b) (absurd c))

/-- interface type definitions (not the bare `interface I`, which must not be followed by the word `implements`) -/
theorem ifaceDefT (τ : Trivia) (hτ : ∀ q, Ws (τ q)) (t : TypeDef) (hname : validName t.name.toList)
    (himpl : ∀ x ∈ t.implements, validName x.1.toList) (hdirs : WFDirs t.dirs) (hfields : ∀ f ∈ t.fields, WFFieldDef f)
    (hne : t.implements ≠ [] ∨ t.dirs ≠ [] ∨ t.fields ≠ []) {sep : Bool} {p : Nat} (h : HasAt inp p (rObjDef τ (kindKw .interface) sep p t))
    (hn : Nxt inp tdBad sep (p + (rObjDef τ (kindKw .interface) sep p t).length)) :
    KindDefOk inp R.InterfaceTypeDefinition p (rObjDef τ (kindKw .interface) sep p t)
      (wpObjDef τ inp .interface (kindKw .interface) sep p t) :=
  objKindDefG τ hτ (Or.inr rfl) t hname hdirs hfields _ _ (implText_rOptImpl τ hτ _ himpl _ _) h hn (fun h => by cases h)
    (fun a b c => (hne.elim (absurd a) fun h => h.elim (absurd b) (absurd c)))

def rUnionExtM (τ : Trivia) (sep : Bool) (p : Nat) (t : TypeDef) : List Char :=
  let tH := rExtHead τ false p (kindKw .union) t.name
  let tD := rDirs τ false (p + tH.length) t.dirs
  let tE := tk τ false (p + tH.length + tD.length) ['=']
  tH ++ (tD ++ (tE ++ rNamesL τ '|' sep (p + tH.length + tD.length + tE.length) t.members))

def wpUnionExtM (τ : Trivia) (inp : List Char) (sep : Bool) (p : Nat) (t : TypeDef) : TypeDef :=
  let tH := rExtHead τ false p (kindKw .union) t.name
  let tD := rDirs τ false (p + tH.length) t.dirs
  let tE := tk τ false (p + tH.length + tD.length) ['=']
  { kind := .union, name := t.name, namePos := posAt inp (ehOffN τ p (kindKw .union)),
    dirs := wpDirs τ inp false (p + tH.length) t.dirs,
    members := wpNamesL τ inp '|' sep (p + tH.length + tD.length + tE.length) t.members,
    pos := posAt inp p }

theorem unionExtMT (τ : Trivia) (hτ : ∀ q, Ws (τ q)) (t : TypeDef) (hname : validName t.name.toList)
    (hdirs : WFDirs t.dirs) (hmem : t.members ≠ []) (hmv : ∀ x ∈ t.members, validName x.1.toList) {sep : Bool} {p : Nat}
    (h : HasAt inp p (rUnionExtM τ sep p t)) (hn : Nxt inp tdBad sep (p + (rUnionExtM τ sep p t).length)) :
    KindExtOk inp R.UnionTypeExtension p (rUnionExtM τ sep p t) (wpUnionExtM τ inp sep p t) := by
  obtain ⟨m, ms, hms⟩ := List.exists_cons_of_ne_nil hmem
  rw [hms] at hmv
  refine unionExtMG τ hτ t hname hdirs _ _ ?_ ?_ h hn
  · rw [hms]
    exact (Hd.append (hd_tk (P := (· = '|')) (hd_cons [] rfl)) _).mono (by rintro d rfl; decide)
  · rw [hms]
    exact membersT τ hτ m ms hmv (Or.inr (Or.inr (Or.inr (Or.inr (Or.inl rfl)))))

/-- an object (`kw = type`) or interface type extension -/
def rObjExt (τ : Trivia) (kw : List Char) (sep : Bool) (p : Nat) (t : TypeDef) : List Char :=
  let tH := rExtHead τ (!t.implements.isEmpty || (sep && t.fields.isEmpty && t.dirs.isEmpty)) p kw t.name
  let tI := rOptImpl τ (sep && t.fields.isEmpty && t.dirs.isEmpty) (p + tH.length) t.implements
  let tD := rDirs τ (sep && t.fields.isEmpty) (p + tH.length + tI.length) t.dirs
  tH ++ (tI ++ (tD ++ rOptFields τ sep (p + tH.length + tI.length + tD.length) t.fields))

def wpObjExt (τ : Trivia) (inp : List Char) (k : TypeKind) (kw : List Char) (sep : Bool) (p : Nat) (t : TypeDef) : TypeDef :=
  let tH := rExtHead τ (!t.implements.isEmpty || (sep && t.fields.isEmpty && t.dirs.isEmpty)) p kw t.name
  let tI := rOptImpl τ (sep && t.fields.isEmpty && t.dirs.isEmpty) (p + tH.length) t.implements
  let tD := rDirs τ (sep && t.fields.isEmpty) (p + tH.length + tI.length) t.dirs
  { kind := k, name := t.name, namePos := posAt inp (ehOffN τ p kw),
    implements := wpNames τ inp '&' (sep && t.fields.isEmpty && t.dirs.isEmpty)
      (implOff τ (p + tH.length)) t.implements,
    dirs := wpDirs τ inp (sep && t.fields.isEmpty) (p + tH.length + tI.length) t.dirs,
    fields := wpFieldDefs τ inp (p + tH.length + tI.length + tD.length +
      (tk τ false (p + tH.length + tI.length + tD.length) ['{']).length) t.fields,
    pos := posAt inp p }

theorem objExtT (τ : Trivia) (hτ : ∀ q, Ws (τ q)) (t : TypeDef) (hname : validName t.name.toList)
    (himpl : ∀ x ∈ t.implements, validName x.1.toList) (hdirs : WFDirs t.dirs) (hfields : ∀ f ∈ t.fields, WFFieldDef f)
    (hne : t.dirs ≠ [] ∨ t.fields ≠ []) {sep : Bool} {p : Nat} (h : HasAt inp p (rObjExt τ (kindKw .object) sep p t))
    (hn : Nxt inp tdBad sep (p + (rObjExt τ (kindKw .object) sep p t).length)) :
    KindExtOk inp R.ObjectTypeExtension p (rObjExt τ (kindKw .object) sep p t)
      (wpObjExt τ inp .object (kindKw .object) sep p t) :=
  objKindExtG τ hτ (Or.inl rfl) t hname hdirs hfields _ _ (implText_rOptImpl τ hτ _ himpl _ _) h hn (fun _ => hne)
    (fun _ b c => hne.elim (absurd b) (absurd c))

/-- interface type extensions (not the bare `extend interface I`) -/
theorem ifaceExtT (τ : Trivia) (hτ : ∀ q, Ws (τ q)) (t : TypeDef) (hname : validName t.name.toList)
    (himpl : ∀ x ∈ t.implements, validName x.1.toList) (hdirs : WFDirs t.dirs) (hfields : ∀ f ∈ t.fields, WFFieldDef f)
    (hne : t.implements ≠ [] ∨ t.dirs ≠ [] ∨ t.fields ≠ []) {sep : Bool} {p : Nat} (h : HasAt inp p (rObjExt τ (kindKw .interface) sep p t))
    (hn : Nxt inp tdBad sep (p + (rObjExt τ (kindKw .interface) sep p t).length)) :
    KindExtOk inp R.InterfaceTypeExtension p (rObjExt τ (kindKw .interface) sep p t)
      (wpObjExt τ inp .interface (kindKw .interface) sep p t) :=
  objKindExtG τ hτ (Or.inr rfl) t hname hdirs hfields _ _ (implText_rOptImpl τ hτ _ himpl _ _) h hn (fun h => by cases h)
    (fun a b c => (hne.elim (absurd a) fun h => h.elim (absurd b) (absurd c)))

def rUnionExtD (τ : Trivia) (sep : Bool) (p : Nat) (t : TypeDef) : List Char :=
  let tH := rExtHead τ false p (kindKw .union) t.name
  tH ++ rDirs τ sep (p + tH.length) t.dirs

def wpUnionExtD (τ : Trivia) (inp : List Char) (sep : Bool) (p : Nat) (t : TypeDef) : TypeDef :=
  let tH := rExtHead τ false p (kindKw .union) t.name
  { kind := .union, name := t.name, namePos := posAt inp (ehOffN τ p (kindKw .union)),
    dirs := wpDirs τ inp sep (p + tH.length) t.dirs, pos := posAt inp p }

/-- no list with a leading separator here: the rendering is C07's, and so is the theorem -/
theorem unionExtDT (τ : Trivia) (hτ : ∀ q, Ws (τ q)) (t : TypeDef) (hname : validName t.name.toList)
    (hdirs : WFDirs t.dirs) (hd : t.dirs ≠ []) {sep : Bool} {p : Nat} (h : HasAt inp p (rUnionExtD τ sep p t))
    (hn : Nxt inp tdBad sep (p + (rUnionExtD τ sep p t).length)) :
    KindExtOk inp R.UnionTypeExtension p (rUnionExtD τ sep p t) (wpUnionExtD τ inp sep p t) :=
  DocParse.unionExtDT τ hτ t hname hdirs hd h hn

/-- a union type extension: `= members` (with optional directives), or directives only -/
def rUnionExt (τ : Trivia) (sep : Bool) (p : Nat) (t : TypeDef) : List Char :=
  if t.members.isEmpty then rUnionExtD τ sep p t else rUnionExtM τ sep p t

def wpUnionExt (τ : Trivia) (inp : List Char) (sep : Bool) (p : Nat) (t : TypeDef) : TypeDef :=
  if t.members.isEmpty then wpUnionExtD τ inp sep p t else wpUnionExtM τ inp sep p t

theorem unionExtT (τ : Trivia) (hτ : ∀ q, Ws (τ q)) (t : TypeDef) (hname : validName t.name.toList)
    (hdirs : WFDirs t.dirs) (hne : t.members ≠ [] ∨ t.dirs ≠ []) (hmv : ∀ x ∈ t.members, validName x.1.toList)
    {sep : Bool} {p : Nat} (h : HasAt inp p (rUnionExt τ sep p t))
    (hn : Nxt inp tdBad sep (p + (rUnionExt τ sep p t).length)) :
    KindExtOk inp R.UnionTypeExtension p (rUnionExt τ sep p t) (wpUnionExt τ inp sep p t) := by
  simp only [rUnionExt, wpUnionExt] at h hn ⊢
  by_cases hm : t.members = []
  · have hd : t.dirs ≠ [] := hne.resolve_left (fun h => h hm)
    simp only [hm, List.isEmpty_nil, if_true] at h hn ⊢
    exact unionExtDT τ hτ t hname hdirs hd h hn
  · have hme : t.members.isEmpty = false := by
      cases hh : t.members with
      | nil => exact absurd hh hm
      | cons a r => rfl
    simp only [hme, Bool.false_eq_true, if_false] at h hn ⊢
    exact unionExtMT τ hτ t hname hdirs hm hmv h hn

theorem objExtImplT (τ : Trivia) (hτ : ∀ q, Ws (τ q)) (t : TypeDef) (hname : validName t.name.toList)
    (himpl : ∀ x ∈ t.implements, validName x.1.toList) (hi : t.implements ≠ []) (hd : t.dirs = []) (hf : t.fields = [])
    {sep : Bool} {p : Nat} (h : HasAt inp p (rObjExt τ (kindKw .object) sep p t))
    (hn : Nxt inp tdBad sep (p + (rObjExt τ (kindKw .object) sep p t).length)) :
    KindExtOk inp R.ObjectTypeExtension p (rObjExt τ (kindKw .object) sep p t)
      (wpObjExt τ inp .object (kindKw .object) sep p t) := by
  exact objExtImplG τ hτ t hname hi hd hf _ _ (implText_rOptImpl τ hτ _ himpl _ _) h hn

theorem objExtAllT (τ : Trivia) (hτ : ∀ q, Ws (τ q)) (t : TypeDef) (hname : validName t.name.toList)
    (himpl : ∀ x ∈ t.implements, validName x.1.toList) (hdirs : WFDirs t.dirs) (hfields : ∀ f ∈ t.fields, WFFieldDef f)
    (hne : t.implements ≠ [] ∨ t.dirs ≠ [] ∨ t.fields ≠ []) {sep : Bool} {p : Nat}
    (h : HasAt inp p (rObjExt τ (kindKw .object) sep p t))
    (hn : Nxt inp tdBad sep (p + (rObjExt τ (kindKw .object) sep p t).length)) :
    KindExtOk inp R.ObjectTypeExtension p (rObjExt τ (kindKw .object) sep p t)
      (wpObjExt τ inp .object (kindKw .object) sep p t) := by
  by_cases hd : t.dirs = []
  · by_cases hf : t.fields = []
    · have hi : t.implements ≠ [] := by
        rcases hne with h | h | h
        · exact h
        · exact absurd hd h
        · exact absurd hf h
      exact objExtImplT τ hτ t hname himpl hi hd hf h hn
    · exact objExtT τ hτ t hname himpl hdirs hfields (Or.inr hf) h hn
  · exact objExtT τ hτ t hname himpl hdirs hfields (Or.inl hd) h hn

def rDirectiveDef (τ : Trivia) (sep : Bool) (p : Nat) (d : DirectiveDef) : List Char :=
  let tS := rOptDesc τ p d.desc
  let tK := tk τ false (p + tS.length) kwDirective
  let tA := tk τ false (p + tS.length + tK.length) ['@']
  let tN := tk τ d.args.isEmpty (p + tS.length + tK.length + tA.length) d.name.toList
  let tG := rOptArgsDef τ false (p + tS.length + tK.length + tA.length + tN.length) d.args
  let tR := rOptRep τ (p + tS.length + tK.length + tA.length + tN.length + tG.length) d.repeatable
  let tO := tk τ true (p + tS.length + tK.length + tA.length + tN.length + tG.length + tR.length) kwOn
  tS ++ (tK ++ (tA ++ (tN ++ (tG ++ (tR ++ (tO ++
    rNamesL τ '|' sep (p + tS.length + tK.length + tA.length + tN.length + tG.length + tR.length + tO.length)
      (locNames d)))))))

def wpDirectiveDef (τ : Trivia) (inp : List Char) (_sep : Bool) (p : Nat) (d : DirectiveDef) : DirectiveDef :=
  let tS := rOptDesc τ p d.desc
  let tK := tk τ false (p + tS.length) kwDirective
  let tA := tk τ false (p + tS.length + tK.length) ['@']
  let tN := tk τ d.args.isEmpty (p + tS.length + tK.length + tA.length) d.name.toList
  { desc := d.desc, name := d.name, namePos := posAt inp (p + tS.length + tK.length + tA.length),
    args := wpIVDs τ inp (p + tS.length + tK.length + tA.length + tN.length +
      (tk τ false (p + tS.length + tK.length + tA.length + tN.length) ['(']).length) d.args,
    repeatable := d.repeatable, locations := d.locations, pos := posAt inp (p + tS.length) }

theorem hd_rDirectiveDef (τ : Trivia) (sep : Bool) (p : Nat) (d : DirectiveDef) :
    Hd (fun c => nameStart c ∨ c = '"') (rDirectiveDef τ sep p d) := by
  simp only [rDirectiveDef]
  cases d.desc with
  | none =>
    simp only [rOptDesc, List.nil_append, List.length_nil, Nat.add_zero]
    exact Hd.append (hd_tk (P := fun d => nameStart d ∨ d = '"')
      ((hd_of_validName kw_words_valid.2.2).mono (fun _ h => Or.inl h))) _
  | some s =>
    simp only [rOptDesc]
    exact Hd.append (hd_tk (P := fun d => nameStart d ∨ d = '"') ⟨'"', _, rfl, Or.inr rfl⟩) _

theorem directiveDefT (τ : Trivia) (hτ : ∀ q, Ws (τ q)) (d : DirectiveDef) (hwf : WFDirectiveDef d) {sep : Bool} {p : Nat}
    (h : HasAt inp p (rDirectiveDef τ sep p d)) (hn : Nxt inp tdBad sep (p + (rDirectiveDef τ sep p d).length)) :
    TsItemOk inp p (rDirectiveDef τ sep p d) (.directiveDef (wpDirectiveDef τ inp sep p d)) := by
  obtain ⟨hname, hargs, hlne, hlv⟩ := hwf
  have hlmap : (locNames d).map (·.1) = d.locations := by
    rw [locNames, List.map_map]
    exact (List.map_congr_left fun _ _ => rfl).trans (List.map_id _)
  have hlv' : ∀ x ∈ locNames d, x.1.toList ∈ locWords := by
    intro x hx
    obtain ⟨l, hl, rfl⟩ := List.mem_map.mp hx
    exact hlv l hl
  cases hls : locNames d with
  | nil => exact absurd (List.map_eq_nil_iff.mp hls) hlne
  | cons l0 ls =>
    rw [hls] at hlmap hlv'
    refine directiveDefG τ hτ d hname hargs sep p (fun q => rNamesL τ '|' sep q (locNames d)) (fun q => ?_)
      (fun q h hn => ?_) h hn
    · rw [hls]
      exact (Hd.append (hd_tk (P := (· = '|')) (hd_cons [] rfl)) _).mono (by rintro c rfl; decide)
    · rw [hls] at h hn ⊢
      rw [← hlmap]
      exact locsT τ hτ l0 ls hlv' (Or.inr (Or.inr (Or.inr (Or.inr (Or.inl rfl))))) h hn

end NitroVerif.DocParseL
