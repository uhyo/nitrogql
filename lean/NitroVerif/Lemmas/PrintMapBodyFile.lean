import NitroVerif.Lemmas.PrintMapBodyNorm
import NitroVerif.Lemmas.PrintMapBodyDoc
import NitroVerif.Model.Exports
/-!
# C06 — the operation declaration file (and the JavaScript module): four models, one file

The file as the OTHER models describe it:
* its statements, names and export decisions — C14's `Exports.printDocument` (`Exports.dts`, `Exports.js`);
* the Result / fragment types — C01's `OpTypes.toTs` of `OpTypes.resultTree` (what `OpTypes.opDecls` declares);
* the Variables types — C09's `VarTypes.varsTsL`;
* the runtime documents — C12's `DocJson.toJson` of `FragClosure.runtimeDefs`.
`typeStmts` / `jsStmts` put these together: one `RStmt` per statement, carrying its content. `RStmt.skel` forgets the content
(→ C14's statement), `RStmt.text` lays the statement out (`layoutTy` for types, json-writer's compact text for documents: `jsonText` of
`Model/PrintMap.lean`, on which C12's text level stands).
The concatenated text of the printers' call sequences is the laid-out text of these statements behind the header.
-/
namespace NitroVerif.PrintMap
open NitroVerif.Gql NitroVerif.DeclCfg
open NitroVerif.Ts (Ty Field)

/-- a statement of an operation module WITH its content -/
inductive RStmt where
  /-- `[export ]type N = T;` -/
  | typeAlias (name : String) (exported : Bool) (ty : Ty)
  /-- `[export |declare ]const N: T[ = <json> as unknown as T];` of the declaration file; `doc` = index of the definition -/
  | const (name : String) (doc : Nat) (exported ambient : Bool) (ty : Ty) (value : Option String)
  /-- `[export ]const N = <json>;` of the JavaScript module -/
  | jsConst (name : String) (doc : Nat) (exported : Bool) (value : String)
  /-- `export { L as default };` -/
  | exportDefault (localName : String)

/-- the statement as C14's model has it -/
def RStmt.skel : RStmt → Exports.Stmt
  | .typeAlias n e _ => .typeAlias n.toList e
  | .const n i e a _ v => .const n.toList i e a v.isSome
  | .jsConst n i e _ => .const n.toList i e false true
  | .exportDefault l => .exportDefault l.toList

def RStmt.text : RStmt → String
  | .typeAlias n e ty => (if e then "export " else "") ++ "type " ++ n ++ " = " ++ layoutTy ty ++ ";\n\n"
  | .const n _ e a ty v =>
    (if e then "export " else if a then "declare " else "") ++ "const " ++ n ++ ": " ++ layoutTy ty
      ++ (match v with
          | none => ""
          | some j => " = " ++ j ++ " as unknown as " ++ layoutTy ty)
      ++ ";\n\n"
  | .jsConst n _ e j => (if e then "export " else "") ++ "const " ++ n ++ " = " ++ j ++ ";\n\n"
  | .exportDefault l => "export { " ++ l ++ " as default };\n\n"

def stmtsText : List RStmt → String
  | [] => ""
  | s :: r => s.text ++ stmtsText r

@[simp] theorem stmtsText_nil : stmtsText [] = "" := rfl
@[simp] theorem stmtsText_cons (s : RStmt) (r : List RStmt) : stmtsText (s :: r) = s.text ++ stmtsText r := rfl
@[simp] theorem stmtsText_append (a b : List RStmt) : stmtsText (a ++ b) = stmtsText a ++ stmtsText b := by
  induction a with
  | nil => simp
  | cons s a ih => simp [ih, String.append_assoc]

/-- `TypedDocumentNode<R, V>` -/
def tdn (r v : Ty) : Ty := .app (.ref "TypedDocumentNode") [r, v]

/-- C01: the type `OpTypes.opDecls` declares for a definition (`toTs` of its result tree) -/
def resultModelTy (ns : String) (S : Schema) (D : Doc) (x : ExecDef) : Ty :=
  match OpTypes.resultTree S D x with
  | some (.ok T) => OpTypes.toTs ns T
  | _ => .prim "never"

/-- C12: the runtime document of a definition (`DocJson.toJson` of `FragClosure.runtimeDefs`), as json-writer writes it -/
def runtimeModelText (D : Doc) (x : ExecDef) : String :=
  match FragClosure.runtimeDefs D x with
  | .ok defs => jsonText (DocJson.toJson defs)
  | .error _ => ""

def optValue (printValues : Bool) (D : Doc) (x : ExecDef) : Option String :=
  if printValues then some (runtimeModelText D x) else none

def opStmts (fo : FullOpts) (S : Schema) (D : Doc) (count i : Nat) (op : OperationDef) : List RStmt :=
  let r := operationName fo.names op ++ fo.names.resultSuffix
  let v := operationName fo.names op ++ fo.names.variablesSuffix
  [.typeAlias r fo.exportResult (resultModelTy fo.ns S D (.op op)),
   .typeAlias v fo.exportInput (VarTypes.varsTsL (inRef fo.ns) fo.optionalInput op.vars),
   .const (operationVariableName fo.names op) i fo.namedExport (!fo.namedExport && !fo.names.printValues)
     (tdn (.ref r) (.ref v)) (optValue fo.names.printValues D (.op op))]
  ++ (if fo.defaultExport && count == 1 then [.exportDefault (operationVariableName fo.names op)] else [])

def fragStmts (fo : FullOpts) (S : Schema) (D : Doc) (docFile i : Nat) (f : FragmentDef) : List RStmt :=
  let e := docFile == f.pos.file
  [.typeAlias (f.name ++ fo.names.fragmentTypeSuffix) e (resultModelTy fo.ns S D (.frag f)),
   .const (f.name ++ fo.names.fragmentVariableSuffix) i e (!e && !fo.names.printValues)
     (tdn (.ref (f.name ++ fo.names.fragmentTypeSuffix)) (.prim "never")) (optValue fo.names.printValues D (.frag f))]

/-- the statements of the declaration file; `i` = index of the head definition (`#import` lines are no definitions) -/
def typeStmts (fo : FullOpts) (S : Schema) (D : Doc) (docFile count : Nat) : Nat → Doc → List RStmt
  | _, [] => []
  | i, .op op :: rest => opStmts fo S D count i op ++ typeStmts fo S D docFile count (i + 1) rest
  | i, .frag f :: rest => fragStmts fo S D docFile i f ++ typeStmts fo S D docFile count (i + 1) rest
  | i, .imp _ :: rest => typeStmts fo S D docFile count i rest

def jsStmts (fo : FullOpts) (D : Doc) (docFile count : Nat) : Nat → Doc → List RStmt
  | _, [] => []
  | i, .op op :: rest =>
    [.jsConst (operationVariableName fo.names op) i fo.namedExport (runtimeModelText D (.op op))]
    ++ (if fo.defaultExport && count == 1 then [.exportDefault (operationVariableName fo.names op)] else [])
    ++ jsStmts fo D docFile count (i + 1) rest
  | i, .frag f :: rest =>
    .jsConst (f.name ++ fo.names.fragmentVariableSuffix) i (docFile == f.pos.file) (runtimeModelText D (.frag f))
    :: jsStmts fo D docFile count (i + 1) rest
  | i, .imp _ :: rest => jsStmts fo D docFile count i rest

/-- the two `import type` lines -/
def opHeaderText (fo : FullOpts) : String :=
  "import type { TypedDocumentNode } from \"" ++ fo.typedDocumentNodeSource ++ "\";\n"
  ++ ("import type * as " ++ fo.ns ++ " from \"" ++ fo.schemaSource ++ "\";\n\n")

theorem rawText_exportKw (b : Bool) : rawText (exportKw b) = if b then "export " else "" := by cases b <;> rfl

theorem rawText_constPrefix (e pv : Bool) :
    rawText (constPrefixOps e pv) = (if e then "export " else if (!e && !pv) then "declare " else "") ++ "const " := by
  cases e <;> cases pv <;> rfl

theorem resultTy_text {ns : String} {S : Schema} {D : Doc} {x : ExecDef} {rt : TSTy} (h : resultTy ns S D x = .ok rt) :
    rawText (printTy rt) = layoutTy (resultModelTy ns S D x) := by
  unfold resultTy at h
  unfold resultModelTy
  split at h
  · rename_i T hT
    cases h
    rw [hT, rawText_printTy_norm _ (simple_treeTy ns T false), norm_erase_toTs]
  · cases h
  · rename_i hT
    cases h
    rw [hT]
    rfl

theorem varsTy_text (ns : String) (oi : Bool) (vars : List VarDef) :
    rawText (printTy (varsTy ns oi vars)) = layoutTy (VarTypes.varsTsL (inRef ns) oi vars) := by
  rw [rawText_printTy_norm _ (simple_varsTy ns oi vars), norm_erase_varsTy]

theorem runtimeText_ok_iff {D : Doc} {x : ExecDef} {js : String} :
    runtimeText D x = .ok js ↔ ∃ ds, FragClosure.runtimeDefs D x = .ok ds ∧ js = jsonText (DocJson.toJson ds) := by
  unfold runtimeText
  cases FragClosure.runtimeDefs D x with
  | error e => simp
  | ok ds => simp [eq_comm]

theorem runtimeModelText_ok {D : Doc} {x : ExecDef} {ds : List ExecDef} (h : FragClosure.runtimeDefs D x = .ok ds) :
    runtimeModelText D x = jsonText (DocJson.toJson ds) := by rw [runtimeModelText, h]

theorem runtimeText_value {D : Doc} {x : ExecDef} {js : String} (h : runtimeText D x = .ok js) :
    js = runtimeModelText D x := by
  obtain ⟨ds, hd, rfl⟩ := runtimeText_ok_iff.mp h
  exact (runtimeModelText_ok hd).symm

theorem optRuntime_ok {pv : Bool} {D : Doc} {x : ExecDef} {js : Option String} (h : optRuntime pv D x = .ok js) :
    js = optValue pv D x ∧
      (pv = true → ∃ ds, FragClosure.runtimeDefs D x = .ok ds ∧ js = some (jsonText (DocJson.toJson ds))) := by
  cases pv
  · cases h; exact ⟨rfl, fun e => by cases e⟩
  · simp only [optRuntime, if_true] at h
    cases hr : runtimeText D x with
    | error e => rw [hr] at h; cases h
    | ok t =>
      rw [hr] at h; cases h
      obtain ⟨ds, hd, rfl⟩ := runtimeText_ok_iff.mp hr
      exact ⟨by rw [optValue, if_pos rfl, runtimeModelText_ok hd], fun _ => ⟨ds, hd, rfl⟩⟩

theorem layout_tdn (a b : Ty) : layoutTy (tdn a b) = "TypedDocumentNode" ++ "<" ++ layoutTy a ++ ", " ++ layoutTy b ++ ">" := by
  simp only [tdn, layoutTy, layoutList, joinSep, String.append_assoc]

/-- string literals the printer writes in one piece -/
theorem lit_tdn_open : ("TypedDocumentNode<" : String) = "TypedDocumentNode" ++ "<" := by decide +kernel
theorem lit_never_close : (", never>" : String) = ", " ++ "never" ++ ">" := by decide +kernel
theorem lit_as_unknown : (" as unknown as TypedDocumentNode<" : String) = " as unknown as " ++ "TypedDocumentNode" ++ "<" := by decide +kernel
theorem lit_close_end : (">;\n\n" : String) = ">" ++ ";\n\n" := by decide +kernel
theorem lit_never_close_end : (", never>;\n\n" : String) = ", " ++ "never" ++ ">" ++ ";\n\n" := by decide +kernel
theorem lit_close_eq : ("> = " : String) = ">" ++ " = " := by decide +kernel

/-! Each statement's call sequence writes that statement's text; both sides are flat concatenations once the calls are
    read as their chunks, so every proof below only re-associates. -/

theorem resultDeclOps_text (fo : FullOpts) (op : OperationDef) (sp : Pos) {rt : TSTy} {ty : Ty}
    (h : rawText (printTy rt) = layoutTy ty) :
    rawText (resultDeclOps fo op sp rt) =
      (RStmt.typeAlias (operationName fo.names op ++ fo.names.resultSuffix) fo.exportResult ty).text := by
  simp only [resultDeclOps, RStmt.text, rawText_append, rawText_cons, rawText_nil, rawText_exportKw, text_write,
    text_writeFor, h, String.append_assoc, String.append_empty]

theorem varsDeclOps_text (fo : FullOpts) (op : OperationDef) :
    rawText (varsDeclOps fo op) =
      (RStmt.typeAlias (operationName fo.names op ++ fo.names.variablesSuffix) fo.exportInput
        (VarTypes.varsTsL (inRef fo.ns) fo.optionalInput op.vars)).text := by
  simp only [varsDeclOps, RStmt.text, rawText_append, rawText_cons, rawText_nil, rawText_exportKw, text_write,
    text_writeFor, varsTy_text, String.append_assoc, String.append_empty]

theorem opConstOps_text (fo : FullOpts) (op : OperationDef) (sp : Pos) (js : Option String) (i : Nat) :
    rawText (opConstOps fo op sp js) =
      (RStmt.const (operationVariableName fo.names op) i fo.namedExport (!fo.namedExport && !fo.names.printValues)
        (tdn (.ref (operationName fo.names op ++ fo.names.resultSuffix))
          (.ref (operationName fo.names op ++ fo.names.variablesSuffix))) js).text := by
  cases js <;>
    simp only [opConstOps, RStmt.text, rawText_append, rawText_cons, rawText_nil, rawText_constPrefix, text_write,
      text_writeFor, layout_tdn, layoutTy, lit_tdn_open, lit_close_end, lit_close_eq, lit_as_unknown,
      String.append_assoc, String.append_empty]

theorem defaultExportOps_text (fo : FullOpts) (op : OperationDef) :
    rawText (defaultExportOps fo op) = (RStmt.exportDefault (operationVariableName fo.names op)).text := by
  simp only [defaultExportOps, RStmt.text, rawText_cons, rawText_nil, text_write, String.append_assoc, String.append_empty]

theorem opTypeOperationOps_text {fo : FullOpts} {S : Schema} {D : Doc} {count : Nat} {op : OperationDef} {sp : Pos}
    {a : List POp} (h : opTypeOperationOps fo S D count op sp = .ok a) (i : Nat) :
    rawText a = stmtsText (opStmts fo S D count i op) := by
  unfold opTypeOperationOps at h
  split at h
  · cases h
  · rename_i rt hrt
    split at h
    · cases h
    · rename_i js hjs
      cases h
      obtain rfl := (optRuntime_ok hjs).1
      simp only [opStmts, rawText_append, stmtsText_append, stmtsText_cons, stmtsText_nil, String.append_empty,
        resultDeclOps_text fo op sp (resultTy_text hrt), varsDeclOps_text, opConstOps_text fo op sp _ i,
        String.append_assoc]
      cases fo.defaultExport && count == 1
      · rfl
      · simp only [if_true, defaultExportOps_text, stmtsText_cons, stmtsText_nil, String.append_empty]

theorem fragDeclOps_text (fo : FullOpts) (f : FragmentDef) (e : Bool) {rt : TSTy} {ty : Ty}
    (h : rawText (printTy rt) = layoutTy ty) :
    rawText (fragDeclOps fo f e rt) = (RStmt.typeAlias (f.name ++ fo.names.fragmentTypeSuffix) e ty).text := by
  simp only [fragDeclOps, RStmt.text, rawText_append, rawText_cons, rawText_nil, rawText_exportKw, text_write,
    text_writeFor, h, String.append_assoc, String.append_empty]

theorem fragConstOps_text (fo : FullOpts) (f : FragmentDef) (e : Bool) (js : Option String) (i : Nat) :
    rawText (fragConstOps fo f e js) =
      (RStmt.const (f.name ++ fo.names.fragmentVariableSuffix) i e (!e && !fo.names.printValues)
        (tdn (.ref (f.name ++ fo.names.fragmentTypeSuffix)) (.prim "never")) js).text := by
  cases js <;>
    simp only [fragConstOps, RStmt.text, rawText_append, rawText_cons, rawText_nil, rawText_constPrefix, text_write,
      text_writeFor, layout_tdn, layoutTy, lit_tdn_open, lit_never_close, lit_never_close_end, lit_as_unknown,
      String.append_assoc, String.append_empty]

theorem opTypeFragmentOps_text {fo : FullOpts} {S : Schema} {D : Doc} {docFile : Nat} {f : FragmentDef}
    {a : List POp} (h : opTypeFragmentOps fo S D docFile f = .ok a) (i : Nat) :
    rawText a = stmtsText (fragStmts fo S D docFile i f) := by
  unfold opTypeFragmentOps at h
  split at h
  · cases h
  · rename_i rt hrt
    split at h
    · cases h
    · rename_i js hjs
      cases h
      obtain rfl := (optRuntime_ok hjs).1
      simp only [fragStmts, rawText_append, stmtsText_cons, stmtsText_nil, String.append_empty,
        fragDeclOps_text fo f _ (resultTy_text hrt), fragConstOps_text fo f _ _ i]

theorem opTypeDefsOps_text (fo : FullOpts) (S : Schema) (D : Doc) (docFile count : Nat) (L : Doc) (sps : List Pos)
    (r : List POp) (h : opTypeDefsOps fo S D docFile count L sps = .ok r) (i : Nat) :
    rawText r = stmtsText (typeStmts fo S D docFile count i L) := by
  fun_induction opTypeDefsOps fo S D docFile count L sps generalizing r i with
  | case1 => cases h; rfl
  | case4 o rest sps a ha r' hr' ih =>
    cases h; rw [typeStmts, rawText_append, stmtsText_append, opTypeOperationOps_text ha i, ih r' hr']
  | case7 f rest sps a ha r' hr' ih =>
    cases h; rw [typeStmts, rawText_append, stmtsText_append, opTypeFragmentOps_text ha i, ih r' hr']
  | case8 _ rest sps ih => exact ih r h i
  | case2 | case3 | case5 | case6 => cases h

theorem opTypeOps_text {fo : FullOpts} {S : Schema} {D : Doc} {docFile : Nat} {sps : List Pos} {ops : List POp}
    (h : opTypeOps fo S D docFile sps = .ok ops) :
    rawText ops = opHeaderText fo ++ stmtsText (typeStmts fo S D docFile (operationCount D) 0 D) := by
  unfold opTypeOps at h
  split at h
  · cases h
  · rename_i r hr
    have h' := Except.ok.inj h
    subst h'
    rw [rawText_append, opTypeDefsOps_text fo S D docFile _ D sps r hr 0]
    have hp : ∀ a b : String, rawText [.write a, .write b] = a ++ b := by
      intro a b; simp only [rawText_cons, rawText_nil, text_write, String.append_empty]
    have hh : rawText (opTypeHeaderOps fo) = opHeaderText fo := hp _ _
    rw [hh]

theorem jsConstOps_text (e : Bool) (name : String) (p : Pos) (n : Option String) (js : String) (i : Nat) :
    rawText (jsConstOps e name p n js) = (RStmt.jsConst name i e js).text := by
  simp only [jsConstOps, RStmt.text, rawText_append, rawText_cons, rawText_nil, rawText_exportKw, text_write,
    text_writeFor, String.append_assoc, String.append_empty]

theorem opJsDefsOps_text (fo : FullOpts) (D : Doc) (docFile count : Nat) (L : Doc) (r : List POp)
    (h : opJsDefsOps fo D docFile count L = .ok r) (i : Nat) :
    rawText r = stmtsText (jsStmts fo D docFile count i L) := by
  fun_induction opJsDefsOps fo D docFile count L generalizing r i with
  | case1 => cases h; rfl
  | case4 op rest js hjs r' hr' ih =>
    cases h
    obtain rfl := runtimeText_value hjs
    simp only [jsStmts, rawText_append, stmtsText_append, stmtsText_cons, stmtsText_nil, String.append_empty,
      jsConstOps_text _ _ _ _ _ i, ih r' hr' (i + 1)]
    cases fo.defaultExport && count == 1
    · rfl
    · simp only [if_true, defaultExportOps_text, stmtsText_cons, stmtsText_nil, String.append_empty]
  | case7 f rest js hjs r' hr' ih =>
    cases h
    obtain rfl := runtimeText_value hjs
    simp only [jsStmts, rawText_append, stmtsText_cons, jsConstOps_text _ _ _ _ _ i, ih r' hr' (i + 1)]
  | case8 _ rest ih => exact ih r h i
  | case2 | case3 | case5 | case6 => cases h

theorem opJsOps_text {fo : FullOpts} {D : Doc} {docFile : Nat} {ops : List POp} (h : opJsOps fo D docFile = .ok ops) :
    rawText ops = stmtsText (jsStmts fo D docFile (operationCount D) 0 D) :=
  opJsDefsOps_text fo D docFile _ D ops h 0

end NitroVerif.PrintMap
