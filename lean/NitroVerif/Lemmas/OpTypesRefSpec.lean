/-
C01/C02 refinement, specification side, part 2: the one-level check `setOkB` of Spec/Exec.lean at the level of
propositions (`CompP`, `FieldOkP`, `SetOkP`; `setOk_iff`), monotonicity of `RefLocalN` in the depth index.
-/
import NitroVerif.Lemmas.OpTypesRefFlat
namespace NitroVerif.OpTypes.Ref
open NitroVerif.Gql NitroVerif.Ts NitroVerif.Exec

theorem J.beq_str_iff (v : J) (s : String) : (v == J.str s) = true ↔ v = .str s := by
  cases v <;> simp [BEq.beq, J.beq]

/-- CompleteValue for a named type, with a propositional test for nested objects -/
def NamedP (c : Ctx) (R : Name → List Selection → J → Prop) (sub : List Selection) (n : Name) (v : J) : Prop :=
  if c.S.isComposite n = true then ∃ o ∈ c.S.possibleTypes n, R o sub v else leafOk c n v = true

/-- CompleteValue; `nn` = "the position is non-null" -/
def CompP (c : Ctx) (R : Name → List Selection → J → Prop) (sub : List Selection) : GType → Bool → J → Prop
  | .nonNull t, _, v => CompP c R sub t true v
  | .named n _, nn, v => if nn = true then v ≠ .null ∧ NamedP c R sub n v else v = .null ∨ NamedP c R sub n v
  | .list t _, nn, v => (nn = false ∧ v = .null) ∨ ∃ xs, v = .arr xs ∧ ∀ x ∈ xs, CompP c R sub t false x

theorem namedP_mono {c : Ctx} {R R' : Name → List Selection → J → Prop} (hR : ∀ o s x, R o s x → R' o s x)
    {sub : List Selection} {n : Name} {v : J} (h : NamedP c R sub n v) : NamedP c R' sub n v := by
  unfold NamedP at h ⊢
  split
  · rename_i hc; rw [if_pos hc] at h
    obtain ⟨o, ho, hr⟩ := h; exact ⟨o, ho, hR _ _ _ hr⟩
  · rename_i hc; rw [if_neg hc] at h; exact h

theorem compP_mono {c : Ctx} {R R' : Name → List Selection → J → Prop} (hR : ∀ o s x, R o s x → R' o s x)
    {sub : List Selection} : ∀ (ty : GType) (nn : Bool) (v : J), CompP c R sub ty nn v → CompP c R' sub ty nn v
  | .nonNull t, _, v, h => by simp only [CompP] at h ⊢; exact compP_mono hR t true v h
  | .named n _, nn, v, h => by
    simp only [CompP] at h ⊢
    split
    · rename_i hn; rw [if_pos hn] at h; exact ⟨h.1, namedP_mono hR h.2⟩
    · rename_i hn; rw [if_neg hn] at h; exact h.imp id (namedP_mono hR)
  | .list t _, nn, v, h => by
    simp only [CompP] at h ⊢
    rcases h with h | ⟨xs, rfl, hx⟩
    · exact Or.inl h
    · exact Or.inr ⟨xs, rfl, fun x hxm => compP_mono hR t false x (hx x hxm)⟩

theorem namedOk_iff (c : Ctx) (Rb : Name → List Selection → J → Bool) (sub : List Selection) (n : Name) (v : J) :
    namedOk c Rb sub n v = true ↔ NamedP c (fun o s x => Rb o s x = true) sub n v := by
  unfold namedOk NamedP
  split <;> simp [List.any_eq_true]

theorem completeB_iff (c : Ctx) (Rb : Name → List Selection → J → Bool) (sub : List Selection) (ty : GType) :
    (∀ v, completeB c Rb sub ty v = true ↔ CompP c (fun o s x => Rb o s x = true) sub ty false v) ∧
    (∀ v, (!v.isNull && completeNN c Rb sub ty v) = true ↔ CompP c (fun o s x => Rb o s x = true) sub ty true v) := by
  induction ty with
  | named n p =>
    constructor
    · intro v
      simp only [completeB, CompP, Bool.or_eq_true, isNull_iff, namedOk_iff, Bool.false_eq_true, ↓reduceIte]
    · intro v
      simp only [completeNN, CompP, Bool.and_eq_true, Bool.not_eq_true', namedOk_iff, ↓reduceIte]
      have : v.isNull = false ↔ v ≠ .null := by cases v <;> simp [J.isNull]
      rw [this]
  | list t p ih =>
    have hall : ∀ xs : List J, xs.all (completeB c Rb sub t) = true ↔
        ∀ x ∈ xs, CompP c (fun o s x => Rb o s x = true) sub t false x := by
      intro xs; simp only [List.all_eq_true]
      exact ⟨fun h x hx => (ih.1 x).1 (h x hx), fun h x hx => (ih.1 x).2 (h x hx)⟩
    constructor
    · intro v
      simp only [completeB, CompP, Bool.or_eq_true, isNull_iff, true_and]
      constructor
      · rintro (h | h)
        · exact Or.inl h
        · cases v with
          | arr xs => exact Or.inr ⟨xs, rfl, (hall xs).1 (by simpa using h)⟩
          | _ => simp at h
      · rintro (h | ⟨xs, rfl, h⟩)
        · exact Or.inl h
        · exact Or.inr (by simpa using (hall xs).2 h)
    · intro v
      simp only [completeNN, CompP, Bool.true_eq_false, false_and, false_or, Bool.and_eq_true, Bool.not_eq_true']
      constructor
      · rintro ⟨_, h⟩
        cases v with
        | arr xs => exact ⟨xs, rfl, (hall xs).1 (by simpa using h)⟩
        | _ => simp at h
      · rintro ⟨xs, rfl, h⟩
        exact ⟨rfl, by simpa using (hall xs).2 h⟩
  | nonNull t ih =>
    constructor
    · intro v; simp only [completeB, CompP]; exact ih.2 v
    · intro v; simp only [completeNN, CompP]; exact ih.2 v

/-- ExecuteField for one response key -/
def FieldOkP (c : Ctx) (R : Name → List Selection → J → Prop) (obj : Name) (fs : List CField) (x : J) : Prop :=
  ∃ f rest, fs = f :: rest ∧
    if (f.name == "__typename") = true then x = .str obj
    else ∃ fd, c.S.field? obj f.name = some fd ∧ CompP c R (mergedSub fs) fd.ty false x

theorem fieldOk_iff (c : Ctx) (Rb : Name → List Selection → J → Bool) (obj : Name) (fs : List CField) (x : J) :
    fieldOk c Rb obj fs x = true ↔ FieldOkP c (fun o s x => Rb o s x = true) obj fs x := by
  cases fs with
  | nil => simp [fieldOk, FieldOkP]
  | cons f rest =>
    simp only [fieldOk, FieldOkP]
    constructor
    · intro h
      refine ⟨f, rest, rfl, ?_⟩
      split at h
      · rename_i ht; rw [if_pos ht]; exact (J.beq_str_iff _ _).1 h
      · rename_i ht; rw [if_neg ht]
        split at h
        · rename_i fd hfd; exact ⟨fd, hfd, ((completeB_iff c Rb _ fd.ty).1 x).1 h⟩
        · cases h
    · rintro ⟨f', rest', hf, h⟩
      cases hf
      split
      · rename_i ht; rw [if_pos ht] at h; exact (J.beq_str_iff _ _).2 h
      · rename_i ht; rw [if_neg ht] at h
        obtain ⟨fd, hfd, hc⟩ := h
        simp only [hfd]
        exact ((completeB_iff c Rb _ fd.ty).1 x).2 hc

theorem fieldOkP_mono {c : Ctx} {R R' : Name → List Selection → J → Prop} (hR : ∀ o s x, R o s x → R' o s x)
    {obj : Name} {fs : List CField} {x : J} (h : FieldOkP c R obj fs x) : FieldOkP c R' obj fs x := by
  obtain ⟨f, rest, hfs, h⟩ := h
  refine ⟨f, rest, hfs, ?_⟩
  split
  · rename_i ht; rw [if_pos ht] at h; exact h
  · rename_i ht; rw [if_neg ht] at h
    obtain ⟨fd, hfd, hc⟩ := h
    exact ⟨fd, hfd, compP_mono hR _ _ _ hc⟩

/-- ExecuteSelectionSet, one level -/
def SetOkP (c : Ctx) (R : Name → List Selection → J → Prop) (obj : Name) (g : Groups) (v : J) : Prop :=
  ∃ kvs, v = .obj kvs ∧ (∀ e ∈ g, FieldOkP c R obj e.2 (J.get kvs e.1)) ∧
    ∀ kv ∈ kvs, kv.2 = .absent ∨ ∃ e ∈ g, e.1 = kv.1

theorem setOkB_iff (c : Ctx) (Rb : Name → List Selection → J → Bool) (obj : Name) (g : Groups) (v : J) :
    setOkB c Rb obj g v = true ↔ SetOkP c (fun o s x => Rb o s x = true) obj g v := by
  cases v with
  | obj kvs =>
    simp only [setOkB, SetOkP, J.obj.injEq, exists_eq_left', Bool.and_eq_true, List.all_eq_true, Bool.or_eq_true,
      isAbsent_iff, List.any_eq_true, beq_iff_eq, fieldOk_iff]
  | _ => exact ⟨fun h => (nomatch h), fun ⟨_, h, _⟩ => (nomatch h)⟩

theorem setOkP_mono {c : Ctx} {R R' : Name → List Selection → J → Prop} (hR : ∀ o s x, R o s x → R' o s x)
    {obj : Name} {g : Groups} {v : J} (h : SetOkP c R obj g v) : SetOkP c R' obj g v := by
  obtain ⟨kvs, hv, h1, h2⟩ := h
  exact ⟨kvs, hv, fun e he => fieldOkP_mono hR (h1 e he), h2⟩

theorem setOk_iff (c : Ctx) (R : Name → List Selection → J → Prop) (obj : Name) (g : Groups) (v : J) :
    SetOk c R obj g v ↔ SetOkP c R obj g v := by
  constructor
  · rintro ⟨Rb, hRb, hs⟩
    exact setOkP_mono hRb ((setOkB_iff c Rb obj g v).1 hs)
  · intro h
    classical
    refine ⟨fun o s x => decide (R o s x), fun o s x hx => by simpa using hx, ?_⟩
    rw [setOkB_iff]
    exact setOkP_mono (fun o s x hx => by simpa using hx) h

theorem refLocalN_succ_iff (c : Ctx) (n : Nat) (obj : Name) (ss : List Selection) (v : J) :
    RefLocalN c (n + 1) obj ss v ↔
      ∃ σ : Sigma, ∃ g, collectFields c σ obj ss = some g ∧ SetOkP c (RefLocalN c n) obj g v := by
  simp only [RefLocalN, setOk_iff]

theorem refLocalN_mono (c : Ctx) : ∀ (n m : Nat), n ≤ m → ∀ obj ss v, RefLocalN c n obj ss v → RefLocalN c m obj ss v
  | 0, _, _, _, _, _, h => by cases h
  | n + 1, 0, hnm, _, _, _, _ => by omega
  | n + 1, m + 1, hnm, obj, ss, v, h => by
    rw [refLocalN_succ_iff] at h ⊢
    obtain ⟨σ, g, hg, hs⟩ := h
    exact ⟨σ, g, hg, setOkP_mono (refLocalN_mono c n m (by omega)) hs⟩

theorem refLocal_unfold {c : Ctx} {obj : Name} {ss : List Selection} {v : J} (h : RefLocal c obj ss v) :
    ∃ σ : Sigma, ∃ g, collectFields c σ obj ss = some g ∧ SetOkP c (RefLocal c) obj g v := by
  obtain ⟨n, hn⟩ := h
  cases n with
  | zero => cases hn
  | succ n =>
    rw [refLocalN_succ_iff] at hn
    obtain ⟨σ, g, hg, hs⟩ := hn
    exact ⟨σ, g, hg, setOkP_mono (fun o s x hx => ⟨n, hx⟩) hs⟩

end NitroVerif.OpTypes.Ref
