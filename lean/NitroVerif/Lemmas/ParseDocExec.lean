/-
The rendering of a list of operations and fragments, and the parse of any document rule of the shape `SOI ~ item+ ~ EOI`
(`document_parse`; the type-system document uses it too).
-/
import NitroVerif.Lemmas.ParseDocOp
namespace NitroVerif.DocParse
open NitroVerif.Peg NitroVerif.Gen NitroVerif.Gen.Parts NitroVerif.Build NitroVerif.TypeParse NitroVerif.StringParse
open NitroVerif.Gql NitroVerif.ValueParse NitroVerif.Spec.Lex NitroVerif.ParseText

theorem look_ExecutableDocument : gList.look R.ExecutableDocument =
    some (.normal, .seq .soi (.seq (.plus (.call R.ExecutableDefinition)) (.call R.EOI))) := rfl

variable {inp : List Char}

/-- an anonymous query without variables and directives may be written as `{ … }` -/
def isPlain (o : OperationDef) : Bool := o.kind == .query && o.name.isNone && o.vars.isEmpty && o.dirs.isEmpty

/-- the text of a definition; `sh q`: an anonymous plain query at offset `q` is written as the `{ … }` shorthand -/
def rDef (τ : Trivia) (sh : Nat → Bool) : Bool → Nat → ExecDef → List Char
  | sep, p, .op o => if sh p && isPlain o then rSelSet τ sep p o.sel else rOp τ sep p o
  | sep, p, .frag f => rFrag τ sep p f
  | _, _, .imp _ => []

def wpDef (τ : Trivia) (inp : List Char) (sh : Nat → Bool) : Bool → Nat → ExecDef → ExecDef
  | _, p, .op o => if sh p && isPlain o then .op (wpOpShort τ inp p o) else .op (wpOp τ inp p o)
  | _, p, .frag f => .frag (wpFrag τ inp p f)
  | _, _, .imp i => .imp i

/-- `#import` lines are not covered (`WFDefF`, Lemmas/ParseDocExecDoc.lean) -/
def WFDef : ExecDef → Prop
  | .op o => WFOp o
  | .frag f => WFFrag f
  | .imp _ => False

theorem hd_rDef (τ : Trivia) (sh : Nat → Bool) (sep : Bool) (p : Nat) (d : ExecDef) (hwf : WFDef d) :
    Hd (fun c => c ≠ '"' ∧ ¬ wsChar c ∧ ¬ trivia c) (rDef τ sh sep p d) := by
  cases d with
  | op o =>
    simp only [rDef]
    split
    · exact (hd_rSelSet τ sep p o.sel).mono (by rintro c rfl; decide)
    · simp only [rOp]
      exact Hd.append (hd_tk ((hd_opKw o.kind).mono (by rintro c (rfl | rfl | rfl) <;> decide))) _
  | frag f =>
    simp only [rDef, rFrag]
    exact Hd.append (hd_tk (hd_cons _ (by decide))) _
  | imp i => exact absurd hwf id

/-- the FIRST test with the class of all characters, which passes on the empty rest -/
theorem execDef_fails_eoi {p : Nat} (h : inp.drop p = []) :
    Fails gList 60 true (.call R.ExecutableDefinition) .nonAtomic (At inp p) := by
  have hn : ∀ P : Char → Prop, HeadNot P (inp.drop p) := fun P => by rw [h]; exact headNot_nil P
  exact first_fails_opt (P := fun _ => True) (by decide +kernel) (hn _) (hn _) (hn _)

def rDoc (τ : Trivia) (sh : Nat → Bool) (doc : List ExecDef) : List Char :=
  τ 0 ++ renderItems (rDef τ sh) false false (τ 0).length doc

def wpDoc (τ : Trivia) (sh : Nat → Bool) (inp : List Char) (doc : List ExecDef) : Doc :=
  mapItems (rDef τ sh) false false (wpDef τ inp sh) (τ 0).length doc

def DefGood (inp : List Char) (ri : Bool → Nat → ExecDef → List Char) (wp : Bool → Nat → ExecDef → ExecDef) :
    Bool → Nat → ExecDef → Pair → Prop := fun s q d pr =>
  pr.rule = R.ExecutableDefinition ∧ CleanP pr ∧
    ∀ fuel, (ri s q d).length ≤ fuel → buildExecutableDefinition (Ctx.spec inp) fuel pr = .ok (wp s q d)

theorem filter_items {r : RuleId} (hr : R.EOI ≠ r) (pss : List Pair) (q : Nat) (h : ∀ x ∈ pss, x.rule = r) :
    (pss ++ [Pair.mk R.EOI q q []]).filter (fun c => c.rule = r) = pss := by
  rw [List.filter_append, List.filter_eq_self.mpr fun x hx => decide_eq_true (h x hx),
    List.filter_cons_of_neg (by simp [Pair.rule, hr]), List.filter_nil, List.append_nil]

/-- the parser's own depth bound suffices -/
theorem document_parse {rD rI : RuleId}
    (hl : gList.look rD = some (.normal, .seq .soi (.seq (.plus (.call rI)) (.call R.EOI)))) {q0 qE k n : Nat}
    {pss : List Pair} (h0 : SkipTo k (At inp 0) (At inp q0)) (hmany : Many1K (.call rI) n (At inp q0) (At inp qE) pss)
    (hclean : CleanL pss) (hend : inp.drop qE = []) (hk : k + 40 ≤ defaultFuel inp) (hn : n + 40 ≤ defaultFuel inp) :
    ∃ e, Peg.parse gList (defaultFuel inp) rD inp = .pairs [.mk rD 0 e (pss ++ [.mk R.EOI qE qE []])] ∧
      CleanP (.mk rD 0 e (pss ++ [.mk R.EOI qE qE []])) := by
  have htokE : Tok (At inp qE) := by simp only [Tok, At]; rw [hend]; exact headNot_nil _
  have r0 : RunsK (k + 1) .soi (At inp 0) (At inp q0) [] :=
    ⟨At inp 0, (runs_soi true .nonAtomic (At inp 0) rfl).mono (by omega), h0.mono (by omega)⟩
  have rE : RunsK 23 (.call R.EOI) (At inp qE) (At inp qE) [.mk R.EOI qE qE []] :=
    ⟨At inp qE, (runs_call (runsRule_normal rfl (notSpecial (by decide) (by decide))
      (runs_eoi true .nonAtomic _ (by simpa [At] using hend)))).mono (by omega), (skipTo_self htokE).mono (by omega)⟩
  obtain ⟨h1, h2, h3, h4⟩ := normal_ne hl
  obtain ⟨e, c1, hruns, _⟩ := runsK_rule hl (runsK_seq r0 (runsK_seq (runsK_plus1 hmany) rE))
  obtain ⟨tr', hh⟩ := hruns {}
  have hp := hh (defaultFuel inp + 1) (by omega)
  simp only [eval, At, List.drop_zero] at hp
  refine ⟨e, by simp [Peg.parse, runTr, hp], cleanP_of h3 h4 ?_⟩
  exact cleanL_append.mpr ⟨hclean, cleanP_of (by decide) (by decide) trivial, trivial⟩

end NitroVerif.DocParse
