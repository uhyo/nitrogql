import NitroVerif.Lemmas.JsChunks
import NitroVerif.Lemmas.GqlString
/-!
C16: the chunk sequences the GraphQL printer hands to `JsStringWriter` are safe. A printer token stands for one
`write` (a variable: the two writes `"$"`, name). The per-token condition `Tok.chunkOK` splits in two: `Tok.fixedOK` for the
printer's own fixed texts (its call sites of `writer.write("…")`; that every printing function emits only such tokens is read
off the walk of `Lemmas/GqlPrintLexWalk.lean`) and `Tok.nameOK` for the names / numbers of the document.
-/
namespace NitroVerif.GqlPrint
open NitroVerif.JsTemplate

def goodText (s : List Char) : Bool := noCR s && !endDollar false s

def headNotBrace : List Char → Bool
  | c :: _ => c != '{'
  | [] => false

def Tok.chunkOK : Tok → Bool
  | .p s | .name s | .int s | .float s | .lay s => goodText s.toList
  | .var n => goodText n.toList && headNotBrace n.toList
  | .str _ | .ind | .ded => true

theorem endDollar_append_quote (d : Bool) (s : List Char) : endDollar d (s ++ ['"']) = false := by
  induction s generalizing d with
  | nil => rfl
  | cons c cs ih => exact ih _

theorem escTriple_all (P : Char → Prop) (hq : P '"') (hb : P '\\') (s : List Char) :
    ∀ n, (∀ x ∈ s, P x) → ∀ x ∈ escTriple n s, P x := by
  have hrep : ∀ n, ∀ x ∈ List.replicate n '"', P x := fun n x hx => List.eq_of_mem_replicate hx ▸ hq
  induction s with
  | nil => intro n _; exact hrep n
  | cons c cs ih =>
    intro n h
    have ⟨hc, hcs⟩ := List.forall_mem_cons.mp h
    rw [escTriple]
    by_cases h1 : c ≠ '"'
    · rw [if_pos h1]
      exact List.forall_mem_append.mpr ⟨hrep n, List.forall_mem_cons.mpr ⟨hc, ih 0 hcs⟩⟩
    · rw [if_neg h1]
      by_cases h3 : n + 1 = 3
      · rw [if_pos h3]
        exact List.forall_mem_append.mpr ⟨List.forall_mem_cons.mpr ⟨hb, hrep 3⟩, ih 0 hcs⟩
      · rw [if_neg h3]
        exact ih (n + 1) hcs

theorem canBlock_no_cr (s : List Char) (h : canBlock s = true) : ∀ c ∈ s, c ≠ '\r' := by
  intro c hc hcr
  subst hcr
  have := List.all_eq_true.mp (of_decide_eq_true h).2.2 '\r' hc
  revert this
  decide

theorem printString_no_cr (s : List Char) : ∀ x ∈ printString s, x ≠ '\r' := by
  unfold printString
  by_cases hb : useBlock s = true
  · rw [if_pos hb]
    have hcan : canBlock s = true := (of_decide_eq_true hb).2
    exact List.forall_mem_append.mpr ⟨List.forall_mem_append.mpr
      ⟨by decide, escTriple_all _ (by decide) (by decide) s 0 (canBlock_no_cr s hcan)⟩, by decide⟩
  · rw [if_neg hb]
    exact printQuoted_ne_cr s

theorem printString_endDollar (s : List Char) (d : Bool) : endDollar d (printString s) = false := by
  have : ∃ pre, printString s = pre ++ ['"'] := by
    unfold printString
    by_cases hb : useBlock s = true
    · rw [if_pos hb]
      exact ⟨_, (List.append_assoc (['"', '"', '"'] ++ escTriple 0 s) ['"', '"'] ['"']).symm⟩
    · rw [if_neg hb]
      exact ⟨'"' :: quotedBody s, rfl⟩
  obtain ⟨pre, e⟩ := this
  rw [e, endDollar_append_quote]

theorem headOK_false (s : List Char) : headOK false s = true := by cases s <;> rfl

theorem safeOps_write (s : List Char) (hcr : noCR s = true) (hend : endDollar false s = false) (r : List WOp) :
    safeOps false (.write s :: r) = safeOps false r := by
  rw [safeOps, headOK_false, hcr, hend]
  rfl

theorem safeOps_write_good (s : List Char) (h : goodText s = true) (r : List WOp) :
    safeOps false (.write s :: r) = safeOps false r := by
  simp only [goodText, Bool.and_eq_true, Bool.not_eq_true'] at h
  exact safeOps_write s h.1 h.2 r

theorem safeOps_tok (t : Tok) (h : t.chunkOK = true) (r : List WOp) :
    safeOps false (t.ops ++ r) = safeOps false r := by
  cases t with
  | p s => exact safeOps_write_good _ h r
  | name s => exact safeOps_write_good _ h r
  | int s => exact safeOps_write_good _ h r
  | float s => exact safeOps_write_good _ h r
  | lay s => exact safeOps_write_good _ h r
  | ind => rfl
  | ded => rfl
  | str v =>
    refine safeOps_write _ ?_ (printString_endDollar _ _) r
    simp only [noCR, List.all_eq_true, bne_iff_ne]
    exact printString_no_cr v.toList
  | var n =>
    simp only [Tok.chunkOK, goodText, Bool.and_eq_true, Bool.not_eq_true'] at h
    obtain ⟨⟨hcr, hend⟩, hhead⟩ := h
    show safeOps false (.write ['$'] :: .write n.toList :: r) = _
    cases hn : n.toList with
    | nil => simp [hn, headNotBrace] at hhead
    | cons c cs =>
      rw [hn] at hcr hend hhead
      have e4 : headOK true (c :: cs) = true := by simpa [headOK, headNotBrace] using hhead
      simp only [safeOps, headOK_false, show noCR ['$'] = true from rfl, show endDollar false ['$'] = true from rfl, e4,
        hcr, show endDollar true (c :: cs) = false from hend, Bool.and_self, Bool.true_and]

theorem ops_cons (t : Tok) (ts : List Tok) : ops (t :: ts) = t.ops ++ ops ts := by simp [ops]

theorem safeOps_tokens (ts : List Tok) (h : ∀ t ∈ ts, t.chunkOK = true) : safeOps false (ops ts) = true := by
  induction ts with
  | nil => rfl
  | cons t ts ih =>
    rw [ops_cons, safeOps_tok t (h t (List.mem_cons_self ..))]
    exact ih fun x hx => h x (List.mem_cons_of_mem _ hx)

/-! ### the printer's part and the document's part of the condition -/

open NitroVerif.Gql

/-- punctuators and layout are fixed texts of the printer: the part of `chunkOK` that does not depend on the document -/
def Tok.fixedOK : Tok → Bool
  | .p s | .lay s => goodText s.toList
  | _ => true

/-- the part of `chunkOK` that depends on the document: names, numbers, variable names -/
def Tok.nameOK : Tok → Bool
  | .name s | .int s | .float s => goodText s.toList
  | .var n => goodText n.toList && headNotBrace n.toList
  | _ => true

theorem chunkOK_of (t : Tok) (h1 : t.fixedOK = true) (h2 : t.nameOK = true) : t.chunkOK = true := by
  cases t with
  | var n => simpa [Tok.chunkOK, Tok.nameOK] using h2
  | _ => simp_all [Tok.chunkOK, Tok.fixedOK, Tok.nameOK]

def allFixed (ts : List Tok) : Bool := ts.all Tok.fixedOK

@[simp] theorem allFixed_nil : allFixed [] = true := rfl
@[simp] theorem allFixed_append (a b : List Tok) : allFixed (a ++ b) = (allFixed a && allFixed b) := by simp [allFixed]
@[simp] theorem allFixed_cons (t : Tok) (ts : List Tok) : allFixed (t :: ts) = (t.fixedOK && allFixed ts) := by simp [allFixed]

theorem fixed_importTargets (ts : List (Option (Name × Pos))) : ∀ b, allFixed (printImportTargets ts b) = true := by
  induction ts with
  | nil => intro b; simp [printImportTargets]
  | cons t ts ih =>
    intro b
    rcases t with _ | ⟨n, p⟩ <;> cases b <;> simp [printImportTargets, Tok.fixedOK, ih] <;> decide

theorem fixed_import (i : ImportDef) : allFixed (printImport i) = true := by
  simp [printImport, Tok.fixedOK, sp, nl, fixed_importTargets]; decide

theorem safe_of_names (ts : List Tok) (hf : allFixed ts = true) (hn : ∀ t ∈ ts, t.nameOK = true) :
    safeOps false (ops ts) = true :=
  safeOps_tokens ts fun t ht => chunkOK_of t ((List.all_eq_true.mp hf) t ht) (hn t ht)

end NitroVerif.GqlPrint
