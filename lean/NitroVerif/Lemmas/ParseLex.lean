/-
Lexical layer of the `Value` sub-language (helper lemmas for Props/C07 `render_parse_value`): the digit rules and keywords of
the GENERATED grammar under an arbitrary lookahead state (they are called both directly and inside `!(…)`), and the implicit
skip over a run of whitespace characters.
-/
import NitroVerif.Lemmas.ParseRun
import NitroVerif.Lemmas.TypeParse
namespace NitroVerif.ValueParse
open NitroVerif.Peg NitroVerif.Gen NitroVerif.Build NitroVerif.TypeParse

theorem look_DIGIT : gList.look R.ASCII_DIGIT = some (.silent, .range '0' '9') := rfl
theorem look_NZDIGIT : gList.look R.ASCII_NONZERO_DIGIT = some (.silent, .range '1' '9') := rfl
theorem look_IntegerPart : gList.look R.IntegerPart = some (.atomic,
    .seq (.opt (.str ['-'])) (.choice (.str ['0']) (.seq (.call R.ASCII_NONZERO_DIGIT) (.star (.call R.ASCII_DIGIT))))) := rfl
theorem look_IntValue : gList.look R.IntValue = some (.atomic,
    .seq (.call R.IntegerPart) (.not (.choice (.str ['.']) (.call R.NameStart)))) := rfl
theorem look_FractionalPart : gList.look R.FractionalPart =
    some (.atomic, .seq (.str ['.']) (.star (.call R.ASCII_DIGIT))) := rfl
theorem look_ExponentPart : gList.look R.ExponentPart = some (.atomic,
    .seq (.insens ['e']) (.seq (.opt (.choice (.str ['+']) (.str ['-']))) (.plus (.call R.ASCII_DIGIT)))) := rfl
theorem look_FloatValue : gList.look R.FloatValue = some (.atomic,
    .choice (.seq (.call R.IntegerPart) (.seq (.call R.FractionalPart) (.seq (.call R.ExponentPart)
        (.not (.choice (.str ['.']) (.call R.NameStart))))))
      (.choice (.seq (.call R.IntegerPart) (.seq (.call R.FractionalPart) (.not (.choice (.str ['.']) (.call R.NameStart)))))
        (.seq (.call R.IntegerPart) (.seq (.call R.ExponentPart) (.not (.choice (.str ['.']) (.call R.NameStart))))))) := rfl

def digit (d : Char) : Prop := '0' ≤ d ∧ d ≤ '9'
def nzdigit (d : Char) : Prop := '1' ≤ d ∧ d ≤ '9'
instance (d : Char) : Decidable (digit d) := by unfold digit; infer_instance
instance (d : Char) : Decidable (nzdigit d) := by unfold nzdigit; infer_instance

theorem digitL_runs {la at_ p d r} (h : digit d) : RunsRuleL gList la 2 R.ASCII_DIGIT at_ ⟨p, d :: r⟩ ⟨p + 1, r⟩ [] :=
  runsRuleL_silent look_DIGIT (notSpecial (by decide) (by decide)) (runsL_range (c := ⟨p, d :: r⟩) rfl h)

theorem nzdigitL_runs {la at_ p d r} (h : nzdigit d) :
    RunsRuleL gList la 2 R.ASCII_NONZERO_DIGIT at_ ⟨p, d :: r⟩ ⟨p + 1, r⟩ [] :=
  runsRuleL_silent look_NZDIGIT (notSpecial (by decide) (by decide)) (runsL_range (c := ⟨p, d :: r⟩) rfl h)

theorem strL_head_fails {la sk at_ p rest} {x : Char} {xs : List Char} (h : HeadNot (· = x) rest) :
    FailsL gList la 1 sk (.str (x :: xs)) at_ ⟨p, rest⟩ :=
  failsL_str (c := ⟨p, rest⟩) (matchStr_none_of_head h)

/-! ### keywords `@{ "w" ~ !NameContinue }` -/

theorem matchStr_some_iff {w t r : List Char} : matchStr w t = some r ↔ t = w ++ r := by
  constructor
  · exact matchStr_eq
  · rintro rfl; exact matchStr_self_append w r

theorem keywordL_runs {la : Look} {r : RuleId} {w : List Char} {at_ : Atomicity}
    (hl : gList.look r = some (.atomic, .seq (.str w) (.not (.call R.NameContinue)))) (p : Nat) (rest : List Char)
    (hr : HeadNot nameCont rest) :
    RunsRuleL gList la 12 r at_ ⟨p, w ++ rest⟩ ⟨p + w.length, rest⟩
      (if la = .none ∧ at_ ≠ .atomic then [Pair.mk r p (p + w.length) []] else []) := by
  have hm : matchStr w (w ++ rest) = some rest := matchStr_self_append w rest
  have h1 : RunsL gList la 9 false (.str w) .atomic ⟨p, w ++ rest⟩ ⟨p + w.length, rest⟩ [] :=
    (runsL_str (c := ⟨p, w ++ rest⟩) hm).mono (by omega)
  have h2 : RunsL gList la 9 false (.not (.call R.NameContinue)) .atomic ⟨p + w.length, rest⟩ ⟨p + w.length, rest⟩ [] :=
    runsL_not (failsL_call (nameContL_fails hr))
  have := runsRuleL_atomic (at_ := at_) hl (runsL_seq_noskip (Or.inl rfl) h1 h2)
  simpa using this

theorem keywordL_fails_str {la : Look} {r : RuleId} {w : List Char} {at_ : Atomicity}
    (hl : gList.look r = some (.atomic, .seq (.str w) (.not (.call R.NameContinue)))) (p : Nat) (text : List Char)
    (hm : matchStr w text = none) : FailsRuleL gList la 12 r at_ ⟨p, text⟩ :=
  (failsRuleL_atomic hl (failsL_seq_first (failsL_str (c := ⟨p, text⟩) hm))).mono (by omega)

theorem keywordL_fails_cont {la : Look} {r : RuleId} {w : List Char} {at_ : Atomicity}
    (hl : gList.look r = some (.atomic, .seq (.str w) (.not (.call R.NameContinue)))) (p : Nat) (d : Char)
    (rest : List Char) (hd : nameCont d) : FailsRuleL gList la 12 r at_ ⟨p, w ++ d :: rest⟩ := by
  have hm : matchStr w (w ++ d :: rest) = some (d :: rest) := matchStr_self_append w _
  have h1 : RunsL gList la 9 false (.str w) .atomic ⟨p, w ++ d :: rest⟩ ⟨p + w.length, d :: rest⟩ [] :=
    (runsL_str (c := ⟨p, w ++ d :: rest⟩) hm).mono (by omega)
  have h2 : FailsL gList la 9 false (.not (.call R.NameContinue)) .atomic ⟨p + w.length, d :: rest⟩ :=
    failsL_not (runsL_call (nameContL_runs hd))
  exact (failsRuleL_atomic hl (failsL_seq_last_noskip (Or.inl rfl) h1 h2)).mono (by omega)

theorem keywordL_fails_name {la : Look} {r : RuleId} {w : List Char} {at_ : Atomicity}
    (hl : gList.look r = some (.atomic, .seq (.str w) (.not (.call R.NameContinue))))
    (hw : ∀ x ∈ w, nameCont x) (p : Nat) (n rest : List Char) (hn : ∀ x ∈ n, nameCont x) (hne : n ≠ w)
    (hr : HeadNot nameCont rest) : FailsRuleL gList la 12 r at_ ⟨p, n ++ rest⟩ := by
  cases hm : matchStr w (n ++ rest) with
  | none => exact keywordL_fails_str hl p _ hm
  | some x =>
    -- `n ++ rest = w ++ x` with `n ≠ w`: one of `n`, `w` is a proper prefix of the other
    rcases List.append_eq_append_iff.mp (matchStr_eq hm) with ⟨a, hwa, hra⟩ | ⟨c, hnc, _⟩
    · -- `w = n ++ a`: the first character of `a` is a name character of `w` at the head of `rest`
      cases a with
      | nil => exact absurd (by simpa using hwa.symm) hne
      | cons d ds => exact absurd (hw d (by rw [hwa]; simp)) (hr d (ds ++ x) (by simpa using hra))
    · -- `n = w ++ c`: `w` is followed by a name character of `n`
      cases c with
      | nil => exact absurd (by simpa using hnc) hne
      | cons d ds =>
        rw [hnc, List.append_assoc, List.cons_append]
        exact keywordL_fails_cont hl p d _ (hn d (by rw [hnc]; simp))

/-- the characters `WHITESPACE` matches (one character each, except that CR LF is matched as one NEWLINE) -/
def wsChar (d : Char) : Prop :=
  d = Char.ofNat 65279 ∨ d = '\t' ∨ d = ' ' ∨ d = '\n' ∨ d = '\r' ∨ d = ','
instance (d : Char) : Decidable (wsChar d) := by unfold wsChar; infer_instance

theorem wsChar_trivia {d : Char} (h : wsChar d) : trivia d := by
  rcases h with h | h | h | h | h | h
  · exact Or.inl h
  · exact Or.inr (Or.inl h)
  · exact Or.inr (Or.inr (Or.inl h))
  · exact Or.inr (Or.inr (Or.inr (Or.inl h)))
  · exact Or.inr (Or.inr (Or.inr (Or.inr (Or.inl h))))
  · exact Or.inr (Or.inr (Or.inr (Or.inr (Or.inr (Or.inl h)))))

theorem ws_tok {p : Nat} {tok x : List Char} (h : (∃ d, tok = [d] ∧ wsChar d) ∨ tok = ['\r', '\n'])
    (hx : tok = ['\r'] → HeadNot (· = '\n') x) :
    RunsRule gList 10 R.WHITESPACE .nonAtomic ⟨p, tok ++ x⟩ ⟨p + tok.length, x⟩ [] := by
  have no : ∀ (c : Char) {y : List Char} {x' : Char}, c ≠ x' → Fails gList 1 false (.str [c]) .atomic ⟨p, x' :: y⟩ :=
    fun c _ _ hc => fails_str (c := ⟨p, _⟩) (by simp [matchStr, hc])
  have yes : ∀ (c : Char) {y : List Char}, Runs gList 1 false (.str [c]) .atomic ⟨p, c :: y⟩ ⟨p + 1, y⟩ [] :=
    fun c _ => runs_str (c := ⟨p, _⟩) (by simp [matchStr])
  -- a line terminator: the three one-character alternatives in front of NEWLINE fail on LF / CR
  have nl : ∀ {d : Char} {r : List Char}, tok ++ x = d :: r → (d = '\n' ∨ d = '\r') →
      (tok = ['\n'] ∨ tok = ['\r', '\n'] ∨ tok = ['\r']) →
      Runs gList 9 false (.choice (.str [Char.ofNat 65279]) (.choice (.str ['\t']) (.choice (.str [' '])
        (.choice (.call R.NEWLINE) (.str [',']))))) .atomic ⟨p, tok ++ x⟩ ⟨p + tok.length, x⟩ [] := by
    intro d r he hd hnl
    have h1 := runs_choice_l (b := .str [',']) (runs_call (sk := false) (newlineL_runs (la := .none) (at_ := .atomic) (p := p) hnl hx))
    rw [he] at h1 ⊢
    refine (runs_choice_r' (no _ ?_) (runs_choice_r' (no _ ?_) (runs_choice_r' (no _ ?_) h1))).mono (by decide) <;>
      (rcases hd with rfl | rfl <;> decide)
  have body : Runs gList 9 false (.choice (.str [Char.ofNat 65279]) (.choice (.str ['\t']) (.choice (.str [' '])
      (.choice (.call R.NEWLINE) (.str [',']))))) .atomic ⟨p, tok ++ x⟩ ⟨p + tok.length, x⟩ [] := by
    rcases h with ⟨d, rfl, rfl | rfl | rfl | rfl | rfl | rfl⟩ | rfl
    · exact (runs_choice_l (yes _)).mono (by decide)
    · exact (runs_choice_r' (no _ (by decide)) (runs_choice_l (yes _))).mono (by decide)
    · exact (runs_choice_r' (no _ (by decide)) (runs_choice_r' (no _ (by decide)) (runs_choice_l (yes _)))).mono (by decide)
    · exact nl rfl (Or.inl rfl) (Or.inl rfl)
    · exact nl rfl (Or.inr rfl) (Or.inr (Or.inr rfl))
    · exact (runs_choice_r' (no _ (by decide)) (runs_choice_r' (no _ (by decide)) (runs_choice_r' (no _ (by decide))
        (runs_choice_r' (fails_call (newlineL_fails (headNot_cons (by decide) _))) (yes _))))).mono (by decide)
    · exact nl rfl (Or.inr rfl) (Or.inr (Or.inl rfl))
  exact runsRule_special look_WHITESPACE (Or.inl ws_cm.1) body

theorem ws_fails {p rest} (h : HeadNot wsChar rest) : FailsRule gList 10 R.WHITESPACE .nonAtomic ⟨p, rest⟩ :=
  failsRuleL_of_call (sk := false) (first_fails (by decide) h)

theorem cm_fails {p rest} (h : HeadNot trivia rest) : FailsRule gList 10 R.COMMENT .nonAtomic ⟨p, rest⟩ :=
  failsRuleL_of_call (sk := false) (first_fails (by decide) h)

/-- a run of whitespace trivia: characters `WHITESPACE` matches -/
def WsRun (t : List Char) : Prop := ∀ x ∈ t, wsChar x

/-- `WHITESPACE*` consumes a whole run of whitespace trivia (strong induction on its length: CR LF is one step) -/
theorem ws_star : ∀ (n : Nat) (t : List Char), t.length ≤ n → WsRun t → ∀ (p : Nat) (rest : List Char), HeadNot wsChar rest →
    Runs gList (t.length + 12) false (.star (.call R.WHITESPACE)) .nonAtomic ⟨p, t ++ rest⟩ ⟨p + t.length, rest⟩ [] := by
  intro n
  induction n with
  | zero =>
    intro t ht _ p rest hr
    have : t = [] := List.length_eq_zero_iff.mp (by omega)
    subst this
    simpa using (runs_star_nil (fails_call (ws_fails (p := p) hr))).mono (by omega : 12 ≤ 12)
  | succ n ih =>
    intro t ht hws p rest hr
    cases t with
    | nil => simpa using (runs_star_nil (fails_call (ws_fails (p := p) hr))).mono (by omega : 12 ≤ 12)
    | cons d t =>
      have hd := hws d (List.mem_cons_self ..)
      have hws' : WsRun t := fun x hx => hws x (List.mem_cons_of_mem _ hx)
      by_cases hcrlf : d = '\r' ∧ ∃ t', t = '\n' :: t'
      · obtain ⟨rfl, t', rfl⟩ := hcrlf
        have hws'' : WsRun t' := fun x hx => hws' x (List.mem_cons_of_mem _ hx)
        exact Piece.star_cons (ta := ['\r', '\n']) (by decide) (by decide)
          (Piece.of (runs_call (sk := false) (ws_tok (p := p) (x := t' ++ rest) (Or.inr rfl) (fun h => by cases h))))
          (ih t' (by simp at ht; omega) hws'' (p + 2) rest hr)
      · have hcr : d = '\r' → HeadNot (· = '\n') (t ++ rest) := by
          intro hdr y ys he hy
          subst hy
          cases t with
          | nil =>
            simp only [List.nil_append] at he
            exact hr '\n' ys he (by simp [wsChar])
          | cons z zs =>
            simp only [List.cons_append, List.cons.injEq] at he
            exact hcrlf ⟨hdr, zs, by rw [he.1]⟩
        exact Piece.star_cons (ta := [d]) (Nat.le_refl 1) (by decide)
          (Piece.of (runs_call (sk := false) (ws_tok (p := p) (x := t ++ rest) (Or.inl ⟨d, rfl, hd⟩) (fun h => hcr (by cases h; rfl)))))
          (ih t (by simp at ht; omega) hws' (p + 1) rest hr)

/-- the implicit skip moves from `c` to `c'`: `SkipsL` for the generated grammar, outside lookahead, in a non-atomic context, in a
    body generated with skip calls -/
def SkipTo (n : Nat) (c c' : Cur) : Prop :=
  ∀ tr, ∃ tr', ∀ f, n ≤ f → doSkip gList f true .nonAtomic .none tr c = (tr', .ok c' [])

theorem SkipTo.mono {n m c c'} (h : SkipTo n c c') (hnm : n ≤ m) : SkipTo m c c' := after_mono h hnm

theorem skip_wsrun (t : List Char) (hws : WsRun t) (p : Nat) (rest : List Char) (hr : HeadNot trivia rest) :
    SkipTo (t.length + 20) ⟨p, t ++ rest⟩ ⟨p + t.length, rest⟩ := by
  have hW := ws_star t.length t (Nat.le_refl _) hws p rest (headNot_mono (fun _ h => wsChar_trivia h) hr)
  have hC := runs_star_nil (fails_seq_first (b := .star (.call R.WHITESPACE)) (fails_call (cm_fails (p := p + t.length) hr)))
  exact after_mono (skips_of_runs ws_cm.1 ws_cm.2 (runs_seq_nosk' hW hC)) (by omega)

theorem runs_seq_skip {n a b c c1 c1' c2 p1 p3} (ha : Runs gList n true a .nonAtomic c c1 p1)
    (hs : SkipTo n c1 c1') (hb : Runs gList n true b .nonAtomic c1' c2 p3) :
    Runs gList (n + 1) true (.seq a b) .nonAtomic c c2 (p1 ++ p3) := runsL_seq_skip (la := .none) ha hs hb

theorem fails_seq_skip_last {n a b c c1 c1' p1} (ha : Runs gList n true a .nonAtomic c c1 p1)
    (hs : SkipTo n c1 c1') (hb : Fails gList n true b .nonAtomic c1') :
    Fails gList (n + 1) true (.seq a b) .nonAtomic c := failsL_seq_last_skip (la := .none) ha hs hb

/-! the sequence lemmas with `max` of the premises' thresholds (no `.mono` at the call) -/

theorem runs_seq_skip' {n k m a b c c1 c1' c2 p1 p3} (ha : Runs gList n true a .nonAtomic c c1 p1)
    (hs : SkipTo k c1 c1') (hb : Runs gList m true b .nonAtomic c1' c2 p3) :
    Runs gList (max n (max k m) + 1) true (.seq a b) .nonAtomic c c2 (p1 ++ p3) :=
  runs_seq_skip (ha.mono (Nat.le_max_left ..)) (hs.mono (Nat.le_trans (Nat.le_max_left ..) (Nat.le_max_right ..)))
    (hb.mono (Nat.le_trans (Nat.le_max_right ..) (Nat.le_max_right ..)))

theorem fails_seq_skip_last' {n k m a b c c1 c1' p1} (ha : Runs gList n true a .nonAtomic c c1 p1)
    (hs : SkipTo k c1 c1') (hb : Fails gList m true b .nonAtomic c1') :
    Fails gList (max n (max k m) + 1) true (.seq a b) .nonAtomic c :=
  fails_seq_skip_last (ha.mono (Nat.le_max_left ..)) (hs.mono (Nat.le_trans (Nat.le_max_left ..) (Nat.le_max_right ..)))
    (hb.mono (Nat.le_trans (Nat.le_max_right ..) (Nat.le_max_right ..)))

theorem skipTo_noop {p : Nat} {rest : List Char} (h : HeadNot trivia rest) : SkipTo 20 ⟨p, rest⟩ ⟨p, rest⟩ :=
  (skip_nothing h .none true .nonAtomic).mono (by decide)

end NitroVerif.ValueParse
