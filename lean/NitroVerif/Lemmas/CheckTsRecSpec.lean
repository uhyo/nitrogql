/-
The directive reference graph the code explores since fix 2e4a65e (`succNames` / `Reaches`, Lemmas/CheckTsRec.lean)
against the reference graph of the specification (`refs` / `SpecReaches`, Spec/ValidTs.lean).  An edge of the code's
graph is a path of the specification's (`.dir a → .ty arg → … → .ty m → .dir b`, the middle part along input-object
fields: `InReach`).  Conversely, on a document with unique names whose arguments and input fields have input types
(`inputPositions`), a path of the specification's graph between two directive nodes is a path of the code's: the walk of
`directives_in_type` returns the directives of EVERY type reached through input-object fields, and for a scalar, enum,
input object (or union) `dirsWithin` = `directivesInTypeOld`.  For an object / interface type in argument position the
specification also counts the directives on the arguments of its fields, which `directives_in_type` does not return;
such a document gets `NoOutputType`, hence the hypothesis.
-/
import NitroVerif.Lemmas.CheckTsRec
import NitroVerif.Lemmas.CheckTsWalk
import NitroVerif.Lemmas.ValidTsClosure
namespace NitroVerif.CheckTs
open NitroVerif.Gql NitroVerif.ValidTs

theorem specReaches_trans {S : Schema} {a b c : Node} (h1 : SpecReaches S a b) (h2 : SpecReaches S b c) :
    SpecReaches S a c := by
  induction h1 with
  | step h => exact .cons h h2
  | cons h _ ih => exact .cons h (ih h2)

theorem directivesInTypeOld_sub_dirsWithin (t : TypeDef) : ∀ d ∈ directivesInTypeOld t, d ∈ dirsWithin t := by
  intro d hd
  unfold directivesInTypeOld at hd
  unfold dirsWithin fieldsOfT valuesOfT inputsOfT isObjOrIface
  cases hk : t.kind <;> rw [hk] at hd <;> simp only [List.mem_append, List.mem_flatMap] at hd ⊢
  case object =>
    rcases hd with h | ⟨a, ha, h⟩
    · simp [h]
    · exact Or.inl (Or.inl (Or.inr ⟨a, by simpa using ha, Or.inl h⟩))
  case interface =>
    rcases hd with h | ⟨a, ha, h⟩
    · simp [h]
    · exact Or.inl (Or.inl (Or.inr ⟨a, by simpa using ha, Or.inl h⟩))
  all_goals simp_all

theorem dirsWithin_sub_directivesInTypeOld (t : TypeDef) (h1 : t.kind ≠ .object) (h2 : t.kind ≠ .interface) :
    ∀ d ∈ dirsWithin t, d ∈ directivesInTypeOld t := by
  intro d hd
  unfold directivesInTypeOld
  unfold dirsWithin fieldsOfT valuesOfT inputsOfT isObjOrIface at hd
  cases hk : t.kind <;> rw [hk] at hd <;> simp only [List.mem_append, List.mem_flatMap] at hd ⊢
  case object => exact absurd hk h1
  case interface => exact absurd hk h2
  all_goals simp_all

/-! ### code ⇒ specification -/

theorem ref_of_inputEdge {T : TsDoc} (hut : uniqueTypeNames T = true) {a b : Name} (h : InputEdge T a b) :
    Node.ty b ∈ refs ⟨T⟩ (.ty a) := by
  obtain ⟨u, hu, hk, f, hf, rfl⟩ := h
  rw [lastTypeDef_eq_typeDef hut] at hu
  exact mem_refs_ty.mpr ⟨u, hu, Or.inr ⟨f, mem_inputsOfT.mpr ⟨hk, hf⟩, rfl⟩⟩

theorem specReaches_of_inReach {T : TsDoc} (hut : uniqueTypeNames T = true) {a b : Name} {x : Node}
    (h : InReach T a b) : SpecReaches ⟨T⟩ (.ty b) x → SpecReaches ⟨T⟩ (.ty a) x := by
  induction h with
  | refl => exact id
  | tail _ e ih => exact fun hx => ih (.cons (ref_of_inputEdge hut e) hx)

theorem specReaches_of_edge {T : TsDoc} (hut : uniqueTypeNames T = true) (hud : uniqueDirectiveNames T = true)
    {n m : Name} (h : m ∈ succNames T n) : SpecReaches ⟨T⟩ (.dir n) (.dir m) := by
  unfold succNames at h
  cases hd : lastDirectiveDef? T n with
  | none => rw [hd] at h; cases h
  | some d =>
    rw [hd] at h
    obtain ⟨s, hs, rfl⟩ := List.mem_map.mp h
    simp only [dirSuccessors, List.mem_filterMap, List.mem_flatMap, List.mem_append] at hs
    obtain ⟨dir, ⟨a, ha, hdir⟩, hl⟩ := hs
    have hsn : s.name = dir.name := by
      unfold lastDirectiveDef? at hl
      simpa using List.find?_some hl
    rw [lastDirectiveDef_eq_directiveDef hud] at hd
    rcases hdir with h1 | h2
    · exact .step (mem_refs_dir.mpr ⟨d, hd, a, ha, Or.inl ⟨dir, h1, by rw [hsn]⟩⟩)
    · cases ht : lastTypeDef? T a.ty.unwrapped with
      | none => rw [ht] at h2; cases h2
      | some t =>
        rw [ht] at h2
        dsimp only at h2
        obtain ⟨m, u, hr, hu, hdu⟩ := (mem_directivesInType_iff T t (tcanonical_of_lookup ht) dir).mp h2
        rw [lastTypeDef_name ht] at hr
        rw [lastTypeDef_eq_typeDef hut] at hu
        refine .cons (b := .ty a.ty.unwrapped) (mem_refs_dir.mpr ⟨d, hd, a, ha, Or.inr rfl⟩)
          (specReaches_of_inReach hut hr (.step (mem_refs_ty.mpr ⟨u, hu, Or.inl ⟨dir, ?_, by rw [hsn]⟩⟩)))
        exact directivesInTypeOld_sub_dirsWithin u dir hdu

theorem specReaches_of_reaches {T : TsDoc} (hut : uniqueTypeNames T = true) (hud : uniqueDirectiveNames T = true)
    {a b : Name} (h : Reaches T a b) : SpecReaches ⟨T⟩ (.dir a) (.dir b) := by
  induction h with
  | step h1 => exact specReaches_of_edge hut hud h1
  | cons h1 _ ih => exact specReaches_trans (specReaches_of_edge hut hud h1) ih

/-! ### specification ⇒ code -/

/-- the type named `n` is reached from an argument of the directive definition the hash map holds for `a` -/
def ArgReach (T : TsDoc) (a n : Name) : Prop :=
  ∃ d, lastDirectiveDef? T a = some d ∧ ∃ arg ∈ d.args, InReach T arg.ty.unwrapped n

theorem inReach_lookup_start {T : TsDoc} {a n : Name} (h : InReach T a n) :
    ∀ u, lastTypeDef? T n = some u → ∃ t0, lastTypeDef? T a = some t0 := by
  induction h with
  | refl => exact fun u hu => ⟨u, hu⟩
  | tail _ e ih =>
    intro _ _
    obtain ⟨ub, hub, _⟩ := e
    exact ih ub hub

theorem lastDirectiveDef_name {T : TsDoc} {n : Name} {d : DirectiveDef} (h : lastDirectiveDef? T n = some d) :
    d.name = n := by
  unfold lastDirectiveDef? at h
  simpa using List.find?_some h

theorem succ_of_argDir {T : TsDoc} {a : Name} {d : DirectiveDef} (hd : lastDirectiveDef? T a = some d)
    {arg : InputValueDef} (harg : arg ∈ d.args) {dir : Directive} (hdir : dir ∈ arg.dirs)
    {s : DirectiveDef} (hs : lastDirectiveDef? T dir.name = some s) : dir.name ∈ succNames T a := by
  unfold succNames
  rw [hd]
  refine List.mem_map.mpr ⟨s, ?_, lastDirectiveDef_name hs⟩
  simp only [dirSuccessors, List.mem_filterMap, List.mem_flatMap, List.mem_append]
  exact ⟨dir, ⟨arg, harg, Or.inl hdir⟩, hs⟩

theorem succ_of_reachedDir {T : TsDoc} {a n : Name} (hA : ArgReach T a n) {u : TypeDef}
    (hu : lastTypeDef? T n = some u) {dir : Directive} (hdir : dir ∈ directivesInTypeOld u)
    {s : DirectiveDef} (hs : lastDirectiveDef? T dir.name = some s) : dir.name ∈ succNames T a := by
  obtain ⟨d, hd, arg, harg, hr⟩ := hA
  obtain ⟨t0, ht0⟩ := inReach_lookup_start hr u hu
  unfold succNames
  rw [hd]
  refine List.mem_map.mpr ⟨s, ?_, lastDirectiveDef_name hs⟩
  simp only [dirSuccessors, List.mem_filterMap, List.mem_flatMap, List.mem_append]
  refine ⟨dir, ⟨arg, harg, Or.inr ?_⟩, hs⟩
  rw [ht0]
  dsimp only
  refine ditWalk_complete T t0 (tcanonical_of_lookup ht0) ?_ hu hdir
  rw [lastTypeDef_name ht0]
  exact hr

theorem argReach_kind {T : TsDoc} (hut : uniqueTypeNames T = true) (hin : inputPositions T = true) {a n : Name}
    (hA : ArgReach T a n) {u : TypeDef} (hu : lastTypeDef? T n = some u) :
    u.kind = .scalar ∨ u.kind = .enum ∨ u.kind = .input := by
  obtain ⟨d, hd, arg, harg, hr⟩ := hA
  simp only [inputPositions, List.all_eq_true] at hin
  have key : ∀ v ∈ inputValues T, v.ty.unwrapped = n → u.kind = .scalar ∨ u.kind = .enum ∨ u.kind = .input := by
    intro v hv hvn
    have := hin v hv
    rw [lastTypeDef_eq_typeDef hut] at hu
    rw [hvn, Schema.kindOf_of_typeDef hu] at this
    have : (u.kind = .scalar ∨ u.kind = .enum) ∨ u.kind = .input := by simpa using this
    exact or_assoc.mp this
  cases hr with
  | refl =>
    apply key arg _ rfl
    have hdm : d ∈ ValidTs.directiveDefs T := by
      unfold lastDirectiveDef? at hd
      exact List.mem_reverse.mp (List.mem_of_find?_eq_some hd)
    exact mem_inputValues.mpr (Or.inl ⟨d.args, mem_argLists.mpr (Or.inr ⟨d, hdm, rfl⟩), harg⟩)
  | tail _ e =>
    obtain ⟨ub, hub, hk, f, hf, hfn⟩ := e
    apply key f _ hfn
    exact mem_inputValues.mpr (Or.inr ⟨ub, lastTypeDef_mem hub, mem_inputsOfT.mpr ⟨hk, hf⟩⟩)

theorem refs_dir_dir {T : TsDoc} (hud : uniqueDirectiveNames T = true) {a c : Name}
    (h : Node.dir c ∈ refs ⟨T⟩ (.dir a)) :
    ∃ d, lastDirectiveDef? T a = some d ∧ ∃ arg ∈ d.args, ∃ dir ∈ arg.dirs, dir.name = c := by
  obtain ⟨d, hd, arg, harg, ⟨dir, hdir, e⟩ | e⟩ := mem_refs_dir.mp h
  · exact ⟨d, by rw [lastDirectiveDef_eq_directiveDef hud]; exact hd, arg, harg, dir, hdir, by cases e; rfl⟩
  · cases e

theorem refs_dir_ty {T : TsDoc} (hud : uniqueDirectiveNames T = true) {a n : Name}
    (h : Node.ty n ∈ refs ⟨T⟩ (.dir a)) : ArgReach T a n := by
  obtain ⟨d, hd, arg, harg, ⟨_, _, e⟩ | e⟩ := mem_refs_dir.mp h
  · cases e
  · cases e
    exact ⟨d, by rw [lastDirectiveDef_eq_directiveDef hud]; exact hd, arg, harg, .refl _⟩

theorem refs_ty_dir {T : TsDoc} (hut : uniqueTypeNames T = true) {n c : Name}
    (h : Node.dir c ∈ refs ⟨T⟩ (.ty n)) :
    ∃ u, lastTypeDef? T n = some u ∧ ∃ dir ∈ dirsWithin u, dir.name = c := by
  obtain ⟨u, hu, ⟨dir, hdir, e⟩ | ⟨_, _, e⟩⟩ := mem_refs_ty.mp h
  · exact ⟨u, by rw [lastTypeDef_eq_typeDef hut]; exact hu, dir, hdir, by cases e; rfl⟩
  · cases e

theorem refs_ty_ty {T : TsDoc} (hut : uniqueTypeNames T = true) {n n' : Name}
    (h : Node.ty n' ∈ refs ⟨T⟩ (.ty n)) : InputEdge T n n' := by
  obtain ⟨u, hu, ⟨_, _, e⟩ | ⟨f, hf, e⟩⟩ := mem_refs_ty.mp h
  · cases e
  · cases e
    obtain ⟨hk, hf⟩ := mem_inputsOfT.mp hf
    exact ⟨u, by rw [lastTypeDef_eq_typeDef hut]; exact hu, hk, f, hf, rfl⟩

theorem defined_of_specReaches {T : TsDoc} (hud : uniqueDirectiveNames T = true) {c : Name} {y : Node}
    (h : SpecReaches ⟨T⟩ (.dir c) y) : ∃ s, lastDirectiveDef? T c = some s := by
  have : ∃ z, z ∈ refs ⟨T⟩ (.dir c) := by
    cases h with
    | step h1 | cons h1 _ => exact ⟨_, h1⟩
  obtain ⟨z, hz⟩ := this
  obtain ⟨d, hd, _⟩ := mem_refs_dir.mp hz
  exact ⟨d, by rw [lastDirectiveDef_eq_directiveDef hud]; exact hd⟩

/-- what a path of the specification's graph that ends in the directive `b` means for its first node -/
def PathMeans (T : TsDoc) (b : Name) : Node → Prop
  | .dir a => Reaches T a b
  | .ty n => ∀ a, ArgReach T a n → Reaches T a b

theorem succ_of_ref {T : TsDoc} (hut : uniqueTypeNames T = true) (hud : uniqueDirectiveNames T = true)
    (hin : inputPositions T = true) {c : Name} {s : DirectiveDef} (hs : lastDirectiveDef? T c = some s) :
    ∀ x : Node, Node.dir c ∈ refs ⟨T⟩ x →
      match x with
      | .dir a => c ∈ succNames T a
      | .ty n => ∀ a, ArgReach T a n → c ∈ succNames T a
  | .dir a, h => by
    obtain ⟨d, hd, arg, harg, dir, hdir, rfl⟩ := refs_dir_dir hud h
    exact succ_of_argDir hd harg hdir hs
  | .ty n, h => by
    intro a hA
    obtain ⟨u, hu, dir, hdir, rfl⟩ := refs_ty_dir hut h
    have hk := argReach_kind hut hin hA hu
    have h1 : u.kind ≠ .object := by rcases hk with h | h | h <;> rw [h] <;> decide
    have h2 : u.kind ≠ .interface := by rcases hk with h | h | h <;> rw [h] <;> decide
    exact succ_of_reachedDir hA hu (dirsWithin_sub_directivesInTypeOld u h1 h2 dir hdir) hs

theorem pathMeans_of_specReaches {T : TsDoc} (hut : uniqueTypeNames T = true) (hud : uniqueDirectiveNames T = true)
    (hin : inputPositions T = true) {b : Name} {db : DirectiveDef} (hb : lastDirectiveDef? T b = some db)
    {x y : Node} (h : SpecReaches ⟨T⟩ x y) : y = .dir b → PathMeans T b x := by
  induction h with
  | @step x y h1 =>
    intro hy
    subst hy
    have := succ_of_ref hut hud hin hb x h1
    cases x with
    | dir a => exact .step this
    | ty n => exact fun a hA => .step (this a hA)
  | @cons x z y h1 h2 ih =>
    intro hy
    have ihz := ih hy
    cases z with
    | dir c =>
      obtain ⟨s, hs⟩ := defined_of_specReaches hud h2
      have := succ_of_ref hut hud hin hs x h1
      cases x with
      | dir a => exact .cons this ihz
      | ty n => exact fun a hA => .cons (this a hA) ihz
    | ty n' =>
      cases x with
      | dir a => exact ihz a (refs_dir_ty hud h1)
      | ty n =>
        intro a hA
        obtain ⟨d, hd, arg, harg, hr⟩ := hA
        exact ihz a ⟨d, hd, arg, harg, .tail hr (refs_ty_ty hut h1)⟩

theorem reaches_of_specReaches {T : TsDoc} (hut : uniqueTypeNames T = true) (hud : uniqueDirectiveNames T = true)
    (hin : inputPositions T = true) {a b : Name} {db : DirectiveDef} (hb : lastDirectiveDef? T b = some db)
    (h : SpecReaches ⟨T⟩ (.dir a) (.dir b)) : Reaches T a b :=
  pathMeans_of_specReaches hut hud hin hb h rfl

theorem reaches_iff_specReaches {T : TsDoc} (hut : uniqueTypeNames T = true) (hud : uniqueDirectiveNames T = true)
    (hin : inputPositions T = true) {d : DirectiveDef} (hd : d ∈ ValidTs.directiveDefs T) :
    Reaches T d.name d.name ↔ SpecReaches ⟨T⟩ (.dir d.name) (.dir d.name) :=
  ⟨specReaches_of_reaches hut hud, reaches_of_specReaches hut hud hin (canonical_of_unique hud hd)⟩

end NitroVerif.CheckTs
