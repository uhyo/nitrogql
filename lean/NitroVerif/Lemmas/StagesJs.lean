/-
C08 (stages after parsing), part: the JavaScript / JSON printers of operation documents.

`print_operation_runtime` / `print_fragment_runtime` (operation_js_printer/printers.rs) have one panic site each:
`fragments.get(name).expect("fragment not found")` for a name collected by `fragment_names_in_selection_set`
(`Model/FragClosure.lean`: `RtErr.fragmentNotFound`); C12 characterises it (`C12_panic_only_on_undefined`).  Here it is
lifted over the checker: in a document the operation checker accepts every spread names a defined fragment
(the selection set of every definition is `CheckOp.Fine` = rule 5.5.2.1), the last definition of a name is what both the checker's
`fragment_map` and the printer's `fragments` map hold, hence every transitively spread name is defined and the runtime
document of EVERY definition is produced; the two side conditions of the "runtime documents from files" theorems
(`Props/C12Composed.lean`) — pairwise distinct fragment names, every written spread defined — are stated here for accepted
documents (`nodup_of_checked`, `spreadsDefined_of_checked`).  The JSON tree printer itself (`Model/DocJson.lean`) is a total structural
recursion without panic sites.
-/
import NitroVerif.Lemmas.CheckOpVisited
import NitroVerif.Lemmas.FragClosureRuntime
import NitroVerif.Lemmas.SchemaFacts
namespace NitroVerif.Stages
open NitroVerif.Gql NitroVerif.CheckOp NitroVerif.CheckCommon NitroVerif.Valid NitroVerif.FragClosure NitroVerif.ReadDoc
  NitroVerif.C12

mutual
theorem spreadsSel_eq : ∀ s : Selection, ReadDoc.spreadsSel s = spreadNamesSel s
  | .field _ _ _ _ _ (some ss) => spreads_eq ss
  | .field _ _ _ _ _ none => rfl
  | .spread .. => rfl
  | .inline _ _ ss _ => spreads_eq ss
/-- the spread collectors of the reference reader (C12) and of the checker model are the same function -/
theorem spreads_eq : ∀ ss : List Selection, ReadDoc.spreads ss = spreadNames ss
  | [] => rfl
  | s :: ss => by rw [ReadDoc.spreads, spreadNames, spreadsSel_eq s, spreads_eq ss]
end

/-- the selection set of a definition -/
def selOfDef : ExecDef → List Selection
  | .op o => o.sel
  | .frag f => f.sel
  | .imp _ => []

section
variable {S : Schema} {D : Doc}

theorem spreads_defined (h : checkOp S D = []) {d : ExecDef} (hd : d ∈ D) {n : Name}
    (hn : n ∈ spreadNames (selOfDef d)) : ∃ f, fragMap D n = some f := by
  cases d with
  | op o => exact (op_fine h (List.mem_filterMap.mpr ⟨_, hd, rfl⟩)).set.defined admissible_none hn
  | frag g =>
    obtain ⟨A, _, _, hA, _, _, hq⟩ := frag_walked h (List.mem_filterMap.mpr ⟨_, hd, rfl⟩)
    exact hq.set.defined hA hn
  | imp i => simp [selOfDef, spreadNames] at hn

end
end NitroVerif.Stages

namespace NitroVerif.Composed
open NitroVerif.Gql NitroVerif.CheckOp NitroVerif.Valid NitroVerif.FragClosure NitroVerif.Stages
variable {S : Schema} {D : Doc}

theorem spreadsDefined_of_checked (h : checkOp S D = []) : SpreadsDefined D := by
  intro d hd n hn
  have e : selOf d = selOfDef d := by cases d <;> rfl
  rw [e, spreads_eq] at hn
  obtain ⟨f, hf⟩ := spreads_defined h hd hn
  -- the printer's `fragments` map and the checker's `fragment_map` keep the LAST definition of a name, both
  rw [show getFrag D n = fragMap D n from C12.getFrag_eq_find? D n, hf]; rfl

theorem nodup_of_checked (h : checkOp S D = []) : (C12.fragNamesOf D).Nodup := by
  rw [C12.fragNamesOf_eq_map]
  exact (nodupB_iff_nodup _).mp (accepted_nodup h)

end NitroVerif.Composed

namespace NitroVerif.Stages
open NitroVerif.Gql NitroVerif.CheckOp NitroVerif.Valid NitroVerif.FragClosure
section
variable {S : Schema} {D : Doc}

theorem runtimeDefs_ok (h : checkOp S D = []) {x : ExecDef} (hx : x ∈ D) :
    ∃ ds, runtimeDefs D x = .ok ds :=
  Composed.runtimeDefs_ok_of_spreads (Composed.spreadsDefined_of_checked h) hx

end
end NitroVerif.Stages
