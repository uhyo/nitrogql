import NitroVerif.Lemmas.GqlPrintOwnLeadDoc
import NitroVerif.Lemmas.ParseDocTsErase
/-!
C16 over nitrogql's own parser: the document returned for a rendering with leading separators is the given
one up to positions (as in the last part of C07's `Lemmas/ParseDocTsErase.lean`; the positions of the names in a list with
a leading separator are erased like the others).
-/
namespace NitroVerif.DocParseL
open NitroVerif.Peg NitroVerif.Gen NitroVerif.Gen.Parts NitroVerif.Build NitroVerif.TypeParse NitroVerif.StringParse
open NitroVerif.Gql NitroVerif.ValueParse NitroVerif.Spec.Lex NitroVerif.ParseText NitroVerif.DocParse
open NitroVerif.GqlTokens

theorem tsErase_wpNamesL (τ : Trivia) (inp : List Char) (c : Char) (sep : Bool) (p : Nat) (ns : List (Name × Pos)) :
    eraseNames (wpNamesL τ inp c sep p ns) = eraseNames ns := by
  cases ns with
  | nil => rfl
  | cons n rest => simp only [wpNamesL, tsErase_wpNames]

theorem tsErase_wpTypeDefAny (τ : Trivia) (inp : List Char) (sep : Bool) (p : Nat) (t : TypeDef) (hn : KindNormal t) :
    eraseTypeDef (wpTypeDefAny τ inp sep p t) = eraseTypeDef t := by
  simp only [KindNormal] at hn
  simp only [wpTypeDefAny]
  cases hk : t.kind <;> simp only [hk] at hn ⊢ <;>
    simp [eraseTypeDef, wpScalarDef, wpObjDef, wpUnionDef, wpEnumDef, wpInputDef, tsErase_wpDirs, tsErase_wpNames,
      tsErase_wpNamesL, tsErase_wpFieldDefs, tsErase_wpEnumVals, tsErase_wpIVDs, hk, hn]

theorem tsErase_wpTypeExtAny (τ : Trivia) (inp : List Char) (sep : Bool) (p : Nat) (t : TypeDef) (hn : KindNormal t)
    (hdesc : t.desc = none) : eraseTypeDef (wpTypeExtAny τ inp sep p t) = eraseTypeDef t := by
  simp only [KindNormal] at hn
  simp only [wpTypeExtAny]
  cases hk : t.kind <;> simp only [hk] at hn ⊢
  case union =>
    -- a union extension is written with its members, or with its directives only
    simp only [wpUnionExt]
    split
    · rename_i hm
      have hm' : t.members = [] := by simpa using hm
      simp [eraseTypeDef, wpUnionExtD, tsErase_wpDirs, hk, hn, hdesc, hm', eraseNames]
    · simp [eraseTypeDef, wpUnionExtM, tsErase_wpDirs, tsErase_wpNamesL, hk, hn, hdesc]
  all_goals
    simp [eraseTypeDef, wpScalarExt, wpObjExt, wpEnumExt, wpInputExt, tsErase_wpDirs, tsErase_wpNames, tsErase_wpFieldDefs,
      tsErase_wpEnumVals, tsErase_wpIVDs, hk, hn, hdesc]

theorem tsErase_wpTsItem (τ : Trivia) (inp : List Char) (sep : Bool) (p : Nat) (it : TsItem) (hn : NormalItem it) :
    eraseTsItem (wpTsItem τ inp sep p it) = eraseTsItem it := by
  cases it with
  | typeDef t => simp [wpTsItem, eraseTsItem, tsErase_wpTypeDefAny τ inp sep p t hn]
  | schemaDef s => simp [wpTsItem, eraseTsItem, eraseSchemaDef, wpSchemaDef, tsErase_wpDirs, tsErase_wpRoots]
  | directiveDef d => simp [wpTsItem, eraseTsItem, eraseDirectiveDef, wpDirectiveDef, tsErase_wpIVDs]
  | schemaExt s =>
    have hd : s.desc = none := hn
    simp [wpTsItem, eraseTsItem, eraseSchemaDef, wpSchemaExt, tsErase_wpDirs, tsErase_wpRoots, hd]
  | typeExt t => simp [wpTsItem, eraseTsItem, tsErase_wpTypeExtAny τ inp sep p t hn.1 hn.2]

theorem tsErase_wpTsDoc (τ : Trivia) (inp : List Char) (doc : List TsItem) (hn : ∀ d ∈ doc, NormalItem d) :
    eraseTsDoc (wpTsDoc τ inp doc) = eraseTsDoc doc :=
  mapItems_map_mem _ _ _ _ eraseTsItem eraseTsItem doc _ (fun d hd s q => tsErase_wpTsItem τ inp s q d (hn d hd))

end NitroVerif.DocParseL
