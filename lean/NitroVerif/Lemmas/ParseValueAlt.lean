/-
The alternatives of the `Value` rule of the GENERATED grammar (helper lemmas for Props/C07 `render_parse_value`): which
alternative fails on which first character, and the scalar alternatives (variable, number, string, keyword, enum value)
on their canonical text. `Value = Variable | IntValue | FloatValue | StringValue | BooleanValue | NullValue | EnumValue |
ListValue | ObjectValue` is an ordered choice: for each kind every earlier alternative is shown to FAIL.
-/
import NitroVerif.Lemmas.ParseNum
import NitroVerif.Lemmas.ParseString
namespace NitroVerif.ValueParse
open NitroVerif.Peg NitroVerif.Gen NitroVerif.Build NitroVerif.TypeParse NitroVerif.StringParse NitroVerif.ParseText
open NitroVerif.Spec.Lex

theorem look_Value : gList.look R.Value = some (.normal,
    .choice (.call R.Variable) (.choice (.call R.IntValue) (.choice (.call R.FloatValue) (.choice (.call R.StringValue)
      (.choice (.call R.BooleanValue) (.choice (.call R.NullValue) (.choice (.call R.EnumValue)
        (.choice (.call R.ListValue) (.call R.ObjectValue))))))))) := rfl
theorem look_Variable : gList.look R.Variable = some (.normal, .seq (.str ['$']) (.call R.Name)) := rfl
theorem look_BooleanValue : gList.look R.BooleanValue =
    some (.normal, .choice (.call R.KEYWORD_true) (.call R.KEYWORD_false)) := rfl
theorem look_NullValue : gList.look R.NullValue = some (.normal, .call R.KEYWORD_null) := rfl
theorem look_EnumValue : gList.look R.EnumValue = some (.normal,
    .seq (.not (.choice (.call R.KEYWORD_true) (.choice (.call R.KEYWORD_false) (.call R.KEYWORD_null)))) (.call R.Name)) := rfl
theorem look_KEYWORD_true : gList.look R.KEYWORD_true =
    some (.atomic, .seq (.str ['t', 'r', 'u', 'e']) (.not (.call R.NameContinue))) := rfl
theorem look_KEYWORD_false : gList.look R.KEYWORD_false =
    some (.atomic, .seq (.str ['f', 'a', 'l', 's', 'e']) (.not (.call R.NameContinue))) := rfl
theorem look_KEYWORD_null : gList.look R.KEYWORD_null =
    some (.atomic, .seq (.str ['n', 'u', 'l', 'l']) (.not (.call R.NameContinue))) := rfl
theorem look_ListValue : gList.look R.ListValue = some (.normal,
    .choice (.seq (.str ['[']) (.str [']'])) (.seq (.str ['[']) (.seq (.plus (.call R.Value)) (.str [']'])))) := rfl
theorem look_ObjectValue : gList.look R.ObjectValue = some (.normal,
    .choice (.seq (.str ['{']) (.str ['}'])) (.seq (.str ['{']) (.seq (.plus (.call R.ObjectField)) (.str ['}'])))) := rfl
theorem look_ObjectField : gList.look R.ObjectField =
    some (.normal, .seq (.call R.Name) (.seq (.str [':']) (.call R.Value))) := rfl

abbrev kwTrue : List Char := ['t', 'r', 'u', 'e']
abbrev kwFalse : List Char := ['f', 'a', 'l', 's', 'e']
abbrev kwNull : List Char := ['n', 'u', 'l', 'l']

/-- what may follow a value: not a name character, not `.`, not `"` -/
def ValEnd (rest : List Char) : Prop := HeadNot (fun d => nameCont d ∨ d = '.' ∨ d = '"') rest

theorem ValEnd.nameCont {rest} (h : ValEnd rest) : HeadNot nameCont rest := headNot_mono (fun _ h => Or.inl h) h
theorem ValEnd.numEnd {rest} (h : ValEnd rest) : NumEnd rest :=
  headNot_mono (fun _ h => h.elim Or.inl (fun h => Or.inr (Or.inl h))) h
theorem ValEnd.quote {rest} (h : ValEnd rest) : HeadNot (· = '"') rest := headNot_mono (fun _ h => Or.inr (Or.inr h)) h

theorem variable_fails {p rest} (h : HeadNot (· = '$') rest) : FailsRule gList 3 R.Variable .nonAtomic ⟨p, rest⟩ :=
  failsRuleL_of_call (sk := true) (first_fails (by decide) h)

theorem enumGuard_runs {p : Nat} {text : List Char}
    (h1 : FailsRuleL gList .neg 12 R.KEYWORD_true .nonAtomic ⟨p, text⟩)
    (h2 : FailsRuleL gList .neg 12 R.KEYWORD_false .nonAtomic ⟨p, text⟩)
    (h3 : FailsRuleL gList .neg 12 R.KEYWORD_null .nonAtomic ⟨p, text⟩) :
    Runs gList 16 true (.not (.choice (.call R.KEYWORD_true) (.choice (.call R.KEYWORD_false) (.call R.KEYWORD_null))))
      .nonAtomic ⟨p, text⟩ ⟨p, text⟩ [] :=
  runsL_not (la := .none) (failsL_choice ((failsL_call h1).mono (by omega : 13 ≤ 14))
    (failsL_choice (failsL_call h2) (failsL_call h3)))

theorem value_rule {n : Nat} {c c' : Cur} {ps : List Pair}
    (hb : Runs gList n true (.choice (.call R.Variable) (.choice (.call R.IntValue) (.choice (.call R.FloatValue)
      (.choice (.call R.StringValue) (.choice (.call R.BooleanValue) (.choice (.call R.NullValue) (.choice (.call R.EnumValue)
        (.choice (.call R.ListValue) (.call R.ObjectValue))))))))) .nonAtomic c c' ps) :
    RunsRule gList (n + 1) R.Value .nonAtomic c c' [Pair.mk R.Value c.pos c'.pos ps] :=
  runsRule_normal look_Value (notSpecial (by decide) (by decide)) hb

/-- `Value` fails in front of a closing bracket: no alternative can start with one (the letter rule is taken as failing; the
    lookahead of `EnumValue` cannot start there either, and a closing bracket is not trivia) -/
theorem value_fails_close {p : Nat} {x : Char} {r : List Char} (hx : x = ']' ∨ x = '}' ∨ x = ')') :
    FailsRule gList 31 R.Value .nonAtomic ⟨p, x :: r⟩ :=
  have hx' : ¬ alpha x ∧ ¬ trivia x := by rcases hx with rfl | rfl | rfl <;> decide
  failsRuleL_of_call (sk := true) (first_fails_opt (P := fun d => ¬ (d = ']' ∨ d = '}' ∨ d = ')')) (by decide)
    (headNot_cons (fun h => h hx) _) (headNot_cons hx'.1 _) (headNot_cons hx'.2 _))

theorem nameStart_heads {d : Char} (h : nameStart d) :
    ¬ d = '$' ∧ ¬ (d = '-' ∨ digit d) ∧ ¬ d = '"' ∧ ¬ trivia d ∧ ¬ d = '[' ∧ ¬ d = '{' := by
  refine ⟨?_, ?_, ?_, nameStart_not_trivia h, ?_, ?_⟩
  · rintro rfl; exact absurd h (by decide)
  · rintro (rfl | hd)
    · exact absurd h (by decide)
    · exact nameStart_not_digit h hd
  · rintro rfl; exact absurd h (by decide)
  · rintro rfl; exact absurd h (by decide)
  · rintro rfl; exact absurd h (by decide)

theorem value_var {n : List Char} (hn : validName n) (p : Nat) (rest : List Char) (hr : ValEnd rest) :
    RunsRule gList (n.length + 40) R.Value .nonAtomic ⟨p, '$' :: n ++ rest⟩ ⟨p + (n.length + 1), rest⟩
      [.mk R.Value p (p + (n.length + 1)) [.mk R.Variable p (p + (n.length + 1)) [.mk R.Name (p + 1) (p + 1 + n.length) []]]] := by
  obtain ⟨d, ds, rfl⟩ : ∃ d ds, n = d :: ds := by
    cases n with
    | nil => exact absurd hn id
    | cons d ds => exact ⟨d, ds, rfl⟩
  have h1 : Runs gList ((d :: ds).length + 30) true (.str ['$']) .nonAtomic ⟨p, '$' :: (d :: ds ++ rest)⟩
      ⟨p + 1, d :: ds ++ rest⟩ [] := (runs_str (c := ⟨p, '$' :: (d :: ds ++ rest)⟩) (by simp [matchStr])).mono (by omega)
  have hs : SkipTo ((d :: ds).length + 30) ⟨p + 1, d :: ds ++ rest⟩ ⟨p + 1, d :: ds ++ rest⟩ :=
    (skipTo_noop (headNot_cons (nameStart_not_trivia hn.1) _)).mono (by omega)
  have h2 := (runs_call (sk := true) (name_runs hn (p + 1) rest hr.nameCont)).mono
    (by omega : (d :: ds).length + 12 + 1 ≤ (d :: ds).length + 30)
  have hv := runs_call (sk := true) (runsRule_normal look_Variable (notSpecial (by decide) (by decide)) (runs_seq_skip h1 hs h2))
  have := value_rule (runs_choice_l hv)
  refine RunsRule.cast (this.mono (by omega)) rfl ?_ ?_
  · congr 1; simp; omega
  · simp; omega

theorem value_int {t : List Char} (ht : IntText t) (p : Nat) (rest : List Char) (hr : ValEnd rest) :
    RunsRule gList (t.length + 40) R.Value .nonAtomic ⟨p, t ++ rest⟩ ⟨p + t.length, rest⟩
      [.mk R.Value p (p + t.length) [.mk R.IntValue p (p + t.length) []]] := by
  have hhead : HeadNot (· = '$') (t ++ rest) := by
    cases ht with
    | zero neg => cases neg <;> exact headNot_cons (by decide) _
    | nz neg d ds hd _ =>
      cases neg
      · refine headNot_cons ?_ _; rintro rfl; exact absurd hd.1 (by decide)
      · exact headNot_cons (by decide) _
  have f1 := (fails_call (sk := true) (variable_fails (p := p) hhead)).mono (by omega : 4 ≤ t.length + 22)
  have h2 := (runs_call (sk := true) (intValue_runs ht p rest hr.numEnd)).mono (by omega : t.length + 20 + 1 ≤ t.length + 21)
  have := value_rule (runs_choice_r f1 (runs_choice_l h2))
  exact RunsRule.cast (this.mono (by omega)) rfl rfl rfl

theorem intText_head {t : List Char} (h : IntText t) : ∃ d r, t = d :: r ∧ (d = '-' ∨ digit d) := by
  cases h with
  | zero neg =>
    cases neg
    · exact ⟨'0', [], rfl, Or.inr (by decide)⟩
    · exact ⟨'-', ['0'], rfl, Or.inl rfl⟩
  | nz neg d ds hd _ =>
    cases neg
    · exact ⟨d, ds, rfl, Or.inr (nzdigit_digit hd)⟩
    · exact ⟨'-', d :: ds, rfl, Or.inl rfl⟩

theorem num_head_not_dollar {d : Char} (h : d = '-' ∨ digit d) : ¬ d = '$' := by
  rintro rfl
  rcases h with h | h
  · exact absurd h (by decide)
  · exact absurd h.1 (by decide)

theorem value_float {t : List Char} (ht : FloatText t) (p : Nat) (rest : List Char) (hr : ValEnd rest) :
    RunsRule gList (t.length + 60) R.Value .nonAtomic ⟨p, t ++ rest⟩ ⟨p + t.length, rest⟩
      [.mk R.Value p (p + t.length) [.mk R.FloatValue p (p + t.length) []]] := by
  -- the text is an integer part followed by `.` or `e`/`E`
  have split : ∃ ip x tl, IntText ip ∧ t = ip ++ x :: tl ∧ (x = '.' ∨ nameStart x) := by
    cases ht with
    | fe ip fd ex hip _ _ => exact ⟨ip, '.', fd ++ ex, hip, by simp, Or.inl rfl⟩
    | f ip fd hip _ => exact ⟨ip, '.', fd, hip, rfl, Or.inl rfl⟩
    | e ip ex hip hex =>
      obtain ⟨e, er, rfl, hes⟩ := expText_head hex
      exact ⟨ip, e, er, hip, rfl, Or.inr hes⟩
  obtain ⟨ip, x, tl, hip, htxt, hx⟩ := split
  obtain ⟨d, r', hd, hdn⟩ := intText_head hip
  have hlen : t.length = ip.length + 1 + tl.length := by rw [htxt]; simp; omega
  have htxt' : t ++ rest = ip ++ x :: (tl ++ rest) := by rw [htxt]; simp
  have hhead : HeadNot (· = '$') (t ++ rest) := by
    rw [htxt', hd]; exact headNot_cons (P := (· = '$')) (num_head_not_dollar hdn) _
  have f1 := (fails_call (sk := true) (variable_fails (p := p) hhead)).mono (by omega : 4 ≤ t.length + 43)
  have f2 : Fails gList (t.length + 42) true (.call R.IntValue) .nonAtomic ⟨p, t ++ rest⟩ := by
    rw [htxt']
    exact (fails_call (intValue_fails_float hip p x (tl ++ rest) hx)).mono (by omega)
  have h3 := (runs_call (sk := true) (floatValue_runs ht p rest hr.numEnd)).mono
    (by omega : t.length + 40 + 1 ≤ t.length + 41)
  have := value_rule (runs_choice_r f1 (runs_choice_r f2 (runs_choice_l h3)))
  exact RunsRule.cast (this.mono (by omega)) rfl rfl rfl

theorem nonnum_fails {p : Nat} {text : List Char} (h1 : HeadNot (· = '$') text)
    (h2 : HeadNot (fun d => d = '-' ∨ digit d) text) :
    Fails gList 5 true (.call R.Variable) .nonAtomic ⟨p, text⟩ ∧ Fails gList 14 true (.call R.IntValue) .nonAtomic ⟨p, text⟩ ∧
    Fails gList 16 true (.call R.FloatValue) .nonAtomic ⟨p, text⟩ :=
  ⟨first_fails (by decide) h1, first_fails (by decide) h2, first_fails (by decide) h2⟩

theorem value_skip3 {p : Nat} {text : List Char} {n : Nat} {b : Expr} {c' : Cur} {ps : List Pair}
    (h1 : HeadNot (· = '$') text) (h2 : HeadNot (fun d => d = '-' ∨ digit d) text) (hn : 16 ≤ n)
    (hb : Runs gList n true b .nonAtomic ⟨p, text⟩ c' ps) :
    Runs gList (n + 3) true (.choice (.call R.Variable) (.choice (.call R.IntValue) (.choice (.call R.FloatValue) b)))
      .nonAtomic ⟨p, text⟩ c' ps :=
  have ⟨f1, f2, f3⟩ := nonnum_fails (p := p) h1 h2
  runs_choice_r (f1.mono (Nat.le_trans (by decide) (Nat.le_trans hn (Nat.le_add_right n 2))))
    (runs_choice_r (f2.mono (Nat.le_trans (by decide) (Nat.le_trans hn (Nat.le_add_right n 1))))
      (runs_choice_r (f3.mono hn) hb))

theorem value_skip4 {p : Nat} {text : List Char} {n : Nat} {b : Expr} {c' : Cur} {ps : List Pair}
    (h1 : HeadNot (· = '$') text) (h2 : HeadNot (fun d => d = '-' ∨ digit d) text) (h3 : HeadNot (· = '"') text)
    (hn : 16 ≤ n) (hb : Runs gList n true b .nonAtomic ⟨p, text⟩ c' ps) :
    Runs gList (n + 4) true (.choice (.call R.Variable) (.choice (.call R.IntValue) (.choice (.call R.FloatValue)
      (.choice (.call R.StringValue) b)))) .nonAtomic ⟨p, text⟩ c' ps :=
  value_skip3 h1 h2 (Nat.le_trans hn (Nat.le_add_right n 1))
    (runs_choice_r ((first_fails (k := 8) (by decide) h3).mono (Nat.le_trans (by decide) hn)) hb)

theorem value_skip_names {p : Nat} {text : List Char} {n : Nat} {b : Expr} {c' : Cur} {ps : List Pair}
    (h4 : HeadNot nameStart text) (h5 : HeadNot trivia text) (hn : 21 ≤ n)
    (hb : Runs gList n true b .nonAtomic ⟨p, text⟩ c' ps) :
    Runs gList (n + 3) true (.choice (.call R.BooleanValue) (.choice (.call R.NullValue) (.choice (.call R.EnumValue) b)))
      .nonAtomic ⟨p, text⟩ c' ps :=
  runs_choice_r ((first_fails (k := 7) (by decide) h4).mono (by omega))
    (runs_choice_r ((first_fails (k := 6) (by decide) h4).mono (by omega))
      (runs_choice_r ((first_fails_opt (k := 21) (by decide) h4 (headNot_mono (fun _ => Or.inl) h4) h5).mono hn) hb))

theorem value_str (s : List Char) (p : Nat) (rest : List Char) (hr : ValEnd rest) :
    RunsRule gList (s.length + 60) R.Value .nonAtomic ⟨p, quoted s ++ rest⟩ ⟨p + (quoted s).length, rest⟩
      [.mk R.Value p (p + (quoted s).length) [stringPair s p]] := by
  have e : quoted s ++ rest = '"' :: (specEscape s ++ '"' :: rest) := by simp [quoted]
  have h4 := runs_call (sk := true) (stringValue_runs s p rest (fun _ => hr.quote) (at_ := .nonAtomic))
  have := value_rule (value_skip3 (p := p) (text := quoted s ++ rest) (by rw [e]; exact headNot_cons (by decide) _)
    (by rw [e]; exact headNot_cons (by decide) _) (by omega) (runs_choice_l h4))
  exact RunsRule.cast (this.mono (by omega)) rfl rfl rfl

theorem name_text_heads {n : List Char} (hn : validName n) (rest : List Char) :
    HeadNot (· = '$') (n ++ rest) ∧ HeadNot (fun d => d = '-' ∨ digit d) (n ++ rest) ∧ HeadNot (· = '"') (n ++ rest) ∧
    HeadNot trivia (n ++ rest) := by
  cases n with
  | nil => exact absurd hn id
  | cons d ds =>
    obtain ⟨a, b, c, e, _, _⟩ := nameStart_heads hn.1
    exact ⟨headNot_cons (P := (· = '$')) a _, headNot_cons b _, headNot_cons (P := (· = '"')) c _, headNot_cons e _⟩

theorem validName_cont {n : List Char} (hn : validName n) : ∀ x ∈ n, nameCont x := by
  cases n with
  | nil => exact absurd hn id
  | cons d ds =>
    intro x hx
    rcases List.mem_cons.mp hx with rfl | hx
    · exact nameStart_nameCont hn.1
    · exact hn.2 x hx

theorem kw_valid : validName kwTrue ∧ validName kwFalse ∧ validName kwNull := by
  refine ⟨⟨by decide, ?_⟩, ⟨by decide, ?_⟩, ⟨by decide, ?_⟩⟩ <;>
    (intro x hx; simp only [List.mem_cons, List.not_mem_nil, or_false] at hx; rcases hx with rfl | rfl | rfl | rfl <;> decide)

theorem value_bool (b : Bool) (p : Nat) (rest : List Char) (hr : ValEnd rest) :
    RunsRule gList 60 R.Value .nonAtomic ⟨p, (if b then kwTrue else kwFalse) ++ rest⟩
      ⟨p + (if b then kwTrue else kwFalse).length, rest⟩
      [.mk R.Value p (p + (if b then kwTrue else kwFalse).length)
        [.mk R.BooleanValue p (p + (if b then kwTrue else kwFalse).length)
          [.mk (if b then R.KEYWORD_true else R.KEYWORD_false) p (p + (if b then kwTrue else kwFalse).length) []]]] := by
  cases b with
  | true =>
    obtain ⟨a1, a2, a3, _⟩ := name_text_heads kw_valid.1 rest
    have hk := keywordL_runs (la := .none) (at_ := .nonAtomic) look_KEYWORD_true p rest hr.nameCont
    have hb := runsRule_normal look_BooleanValue (notSpecial (by decide) (by decide))
      (runs_choice_l (b := .call R.KEYWORD_false) (runs_call (sk := true) hk))
    have := value_rule (value_skip4 a1 a2 a3 (by decide) (runs_choice_l (runs_call (sk := true) hb)))
    exact RunsRule.cast (this.mono (by decide)) rfl rfl (by simp)
  | false =>
    obtain ⟨a1, a2, a3, _⟩ := name_text_heads kw_valid.2.1 rest
    have hkt : FailsRule gList 12 R.KEYWORD_true .nonAtomic ⟨p, kwFalse ++ rest⟩ :=
      keywordL_fails_str (la := .none) look_KEYWORD_true p _ (by simp [matchStr])
    have hk := keywordL_runs (la := .none) (at_ := .nonAtomic) look_KEYWORD_false p rest hr.nameCont
    have hb := runsRule_normal look_BooleanValue (notSpecial (by decide) (by decide))
      (runs_choice_r' (fails_call (sk := true) hkt) (runs_call (sk := true) hk))
    have := value_rule (value_skip4 a1 a2 a3 (by decide) (runs_choice_l (runs_call (sk := true) hb)))
    exact RunsRule.cast (this.mono (by decide)) rfl rfl (by simp)

theorem value_null (p : Nat) (rest : List Char) (hr : ValEnd rest) :
    RunsRule gList 60 R.Value .nonAtomic ⟨p, kwNull ++ rest⟩ ⟨p + 4, rest⟩
      [.mk R.Value p (p + 4) [.mk R.NullValue p (p + 4) [.mk R.KEYWORD_null p (p + 4) []]]] := by
  obtain ⟨a1, a2, a3, _⟩ := name_text_heads kw_valid.2.2 rest
  have hkt : FailsRule gList 12 R.KEYWORD_true .nonAtomic ⟨p, kwNull ++ rest⟩ :=
    keywordL_fails_str (la := .none) look_KEYWORD_true p _ (by simp [matchStr])
  have hkf : FailsRule gList 12 R.KEYWORD_false .nonAtomic ⟨p, kwNull ++ rest⟩ :=
    keywordL_fails_str (la := .none) look_KEYWORD_false p _ (by simp [matchStr])
  have f5 := fails_call (sk := true) (failsRule_normal look_BooleanValue (notSpecial (by decide) (by decide))
    (fails_choice (fails_call (sk := true) hkt) (fails_call (sk := true) hkf)))
  have hk := keywordL_runs (la := .none) (at_ := .nonAtomic) look_KEYWORD_null p rest hr.nameCont
  have hn := runsRule_normal look_NullValue (notSpecial (by decide) (by decide)) (runs_call (sk := true) hk)
  have := value_rule (value_skip4 a1 a2 a3 (by decide) (runs_choice_r' f5 (runs_choice_l (runs_call (sk := true) hn))))
  exact RunsRule.cast (this.mono (by decide)) rfl rfl (by simp)

theorem value_enum {n : List Char} (hn : validName n) (h1 : n ≠ kwTrue) (h2 : n ≠ kwFalse) (h3 : n ≠ kwNull)
    (p : Nat) (rest : List Char) (hr : ValEnd rest) :
    RunsRule gList (n.length + 60) R.Value .nonAtomic ⟨p, n ++ rest⟩ ⟨p + n.length, rest⟩
      [.mk R.Value p (p + n.length) [.mk R.EnumValue p (p + n.length) [.mk R.Name p (p + n.length) []]]] := by
  obtain ⟨a1, a2, a3, a4⟩ := name_text_heads hn rest
  have hc := validName_cont hn
  have kf : ∀ (la : Look) (r : RuleId) (w : List Char), validName w → n ≠ w →
      gList.look r = some (.atomic, .seq (.str w) (.not (.call R.NameContinue))) →
      FailsRuleL gList la 12 r .nonAtomic ⟨p, n ++ rest⟩ := fun la r w hw hne hl =>
    keywordL_fails_name hl (validName_cont hw) p n rest hc hne hr.nameCont
  have f5 := fails_call (sk := true) (failsRule_normal look_BooleanValue (notSpecial (by decide) (by decide))
    (fails_choice (fails_call (sk := true) (kf .none _ _ kw_valid.1 h1 look_KEYWORD_true))
      (fails_call (sk := true) (kf .none _ _ kw_valid.2.1 h2 look_KEYWORD_false))))
  have f6 := fails_call (sk := true) (failsRule_normal look_NullValue (notSpecial (by decide) (by decide))
    (fails_call (sk := true) (kf .none _ _ kw_valid.2.2 h3 look_KEYWORD_null)))
  have g := enumGuard_runs (p := p) (text := n ++ rest) (kf .neg _ _ kw_valid.1 h1 look_KEYWORD_true)
    (kf .neg _ _ kw_valid.2.1 h2 look_KEYWORD_false) (kf .neg _ _ kw_valid.2.2 h3 look_KEYWORD_null)
  have hname := runs_call (sk := true) (name_runs hn p rest hr.nameCont)
  have he := runsRule_normal look_EnumValue (notSpecial (by decide) (by decide))
    (runs_seq_skip' g (skipTo_noop a4) hname)
  have := value_rule (value_skip4 a1 a2 a3 (by omega)
    (runs_choice_r' f5 (runs_choice_r' f6 (runs_choice_l (runs_call (sk := true) he)))))
  exact RunsRule.cast (this.mono (by omega)) rfl rfl (by simp)

end NitroVerif.ValueParse
