import NitroVerif.Model.SourceMap
import NitroVerif.Spec.SourceMap
/-!
Lemmas for C06 about the `mappings` text: the VLQ round trip; the mapping writer against the reference decoder — the decoder's
running values are a function of the writer's `last_*` fields (`dOf`), `decodeGo_encodeFrom` — for any sequence of entries
whose generated lines never decrease (`Mono`); what "grouped by line" means; the empty-segment scan. The writer itself is
in `Lemmas/SourceMapWriter.lean`, `FileMap` in `Lemmas/SourceMapFiles.lean`.
-/
namespace NitroVerif.SourceMap
open NitroVerif.SourceMapSpec (strictGo strictSegments b64Val vlqDecodeNat fromVlqSigned vlqDecode vlqDecodeMany Segment DState applyFields closeSeg decodeGo decodeMappings)

theorem vlqRest_zero : vlqRest 0 = [] := by
  unfold vlqRest; simp

theorem vlqRest_pos {v : Nat} (h : v ≠ 0) :
    vlqRest v = (if v / 32 > 0 then 32 + v % 32 else v % 32) :: vlqRest (v / 32) := by
  rw [vlqRest]; simp [h]

theorem vlqDecodeNat_cont {d : Nat} (h32 : 32 ≤ d) (h64 : d < 64) (acc mul : Nat) (ds : List Nat) :
    vlqDecodeNat acc mul (d :: ds) = vlqDecodeNat (acc + (d - 32) * mul) (mul * 32) ds := by
  rw [vlqDecodeNat, if_neg (by omega), if_pos h32, show d % 32 = d - 32 by omega]

theorem vlqDecodeNat_last {d : Nat} (h32 : d < 32) (acc mul : Nat) (ds : List Nat) :
    vlqDecodeNat acc mul (d :: ds) = some (acc + d * mul, ds) := by
  rw [vlqDecodeNat, if_neg (by omega), if_neg (by omega)]

theorem vlqDecodeNat_rest (v : Nat) : ∀ (acc mul : Nat) (rest : List Nat), v ≠ 0 →
    vlqDecodeNat acc mul (vlqRest v ++ rest) = some (acc + v * mul, rest) := by
  induction v using Nat.strongRecOn with
  | _ v ih =>
    intro acc mul rest hv
    rw [vlqRest_pos hv, List.cons_append]
    by_cases hq : v / 32 > 0
    · rw [if_pos hq, vlqDecodeNat_cont (by omega) (by omega), ih (v / 32) (by omega) _ _ _ (by omega),
        Nat.add_sub_cancel_left, Nat.add_assoc, Nat.mul_comm mul 32, ← Nat.mul_assoc, ← Nat.add_mul,
        Nat.mod_add_div']
    · rw [if_neg hq, show v / 32 = 0 by omega, vlqRest_zero, Nat.mod_eq_of_lt (by omega),
        vlqDecodeNat_last (by omega)]
      rfl

theorem vlqRest_shape (v : Nat) : v ≠ 0 →
    ∃ init last, vlqRest v = init ++ [last] ∧ last < 32 ∧ ∀ d ∈ init, 32 ≤ d ∧ d < 64 := by
  induction v using Nat.strongRecOn with
  | _ v ih =>
    intro hv
    rw [vlqRest_pos hv]
    by_cases hq : v / 32 > 0
    · obtain ⟨init, last, e, hl, hi⟩ := ih (v / 32) (by omega) (by omega)
      refine ⟨(32 + v % 32) :: init, last, by simp [hq, e], hl, ?_⟩
      intro d hd
      simp only [List.mem_cons] at hd
      rcases hd with rfl | hd
      · omega
      · exact hi d hd
    · have hq0 : v / 32 = 0 := by omega
      refine ⟨[], v % 32, by simp [hq0, vlqRest_zero], by omega, by simp⟩

theorem vlqEncode_shape (n : Int) :
    ∃ init last, vlqEncode n = init ++ [last] ∧ last < 32 ∧ ∀ d ∈ init, 32 ≤ d ∧ d < 64 := by
  unfold vlqEncode
  simp only
  by_cases h16 : n.natAbs < 16
  · simp only [h16, if_true]
    exact ⟨[], (if n < 0 then 1 else 0) + 2 * n.natAbs, by simp, by split <;> omega, by simp⟩
  · simp only [h16, if_false]
    obtain ⟨init, last, e, hl, hi⟩ := vlqRest_shape (n.natAbs / 16) (by omega)
    refine ⟨_ :: init, last, by rw [e]; rfl, hl, ?_⟩
    intro d hd
    simp only [List.mem_cons] at hd
    rcases hd with rfl | hd
    · split <;> omega
    · exact hi d hd

theorem vlqEncode_ne_nil (n : Int) : vlqEncode n ≠ [] := by
  obtain ⟨init, last, e, _⟩ := vlqEncode_shape n
  rw [e]; simp

theorem vlqEncode_cons (n : Int) : ∃ a l, vlqEncode n = a :: l :=
  List.exists_cons_of_ne_nil (vlqEncode_ne_nil n)

theorem vlqEncode_digits (n : Int) : ∀ d ∈ vlqEncode n, d < 64 := by
  intro d hd
  obtain ⟨init, last, e, hl, hi⟩ := vlqEncode_shape n
  rw [e] at hd
  rcases List.mem_append.mp hd with h | h
  · exact (hi d h).2
  · rw [List.mem_singleton.mp h]; omega

theorem fromVlqSigned_even (v : Nat) : fromVlqSigned (0 + 2 * v) = (v : Int) := by
  unfold fromVlqSigned
  have h1 : ¬ ((0 + 2 * v) % 2 = 1) := by omega
  have h2 : (0 + 2 * v) / 2 = v := by omega
  simp only [h1, h2, if_false]

theorem fromVlqSigned_odd (v : Nat) (h : v ≠ 0) : fromVlqSigned (1 + 2 * v) = -(v : Int) := by
  unfold fromVlqSigned
  have h1 : (1 + 2 * v) % 2 = 1 := by omega
  have h2 : (1 + 2 * v) / 2 = v := by omega
  simp only [h1, h2, h, if_true, if_false]

theorem vlqDecodeNat_encode (n : Int) (rest : List Nat) :
    vlqDecodeNat 0 1 (vlqEncode n ++ rest) = some ((if n < 0 then 1 else 0) + 2 * n.natAbs, rest) := by
  unfold vlqEncode
  obtain ⟨sg, hsg, hle⟩ : ∃ sg : Nat, (if n < 0 then 1 else 0 : Nat) = sg ∧ sg ≤ 1 :=
    ⟨_, rfl, by split <;> omega⟩
  simp only [hsg]
  generalize n.natAbs = a
  by_cases h16 : a < 16
  · rw [if_pos h16, List.cons_append, vlqDecodeNat_last (by omega)]
    simp
  · rw [if_neg h16, List.cons_append, vlqDecodeNat_cont (by omega) (by omega), vlqDecodeNat_rest _ _ _ _ (by omega)]
    congr 2
    omega

theorem vlqDecode_encode (n : Int) (rest : List Nat) :
    vlqDecode (vlqEncode n ++ rest) = some (n, rest) := by
  unfold vlqDecode
  rw [vlqDecodeNat_encode]
  by_cases hneg : n < 0
  · simp only [hneg, if_true]
    rw [fromVlqSigned_odd _ (by omega)]
    congr 2; omega
  · simp only [hneg, if_false]
    rw [fromVlqSigned_even]
    congr 2; omega

theorem b64Val_b64Char : ∀ d, d < 64 → b64Val (b64Char d) = some d := by
  decide +kernel

theorem b64Char_ne_sep (d : Nat) (h : d < 64) : b64Char d ≠ ';' ∧ b64Char d ≠ ',' := by
  have hv := b64Val_b64Char d h
  constructor <;> intro e <;> rw [e] at hv <;> cases hv

theorem vlqDecodeMany_flat (ns : List Int) : ∀ f, ns.length ≤ f →
    vlqDecodeMany f (ns.flatMap vlqEncode) = some ns := by
  induction ns with
  | nil => intro f _; cases f <;> simp [vlqDecodeMany]
  | cons n ns ih =>
    intro f hf
    cases f with
    | zero => simp at hf
    | succ f =>
      have hne : (vlqEncode n ++ ns.flatMap vlqEncode).isEmpty = false := by
        obtain ⟨a, l, h⟩ := vlqEncode_cons n
        simp [h]
      simp only [List.flatMap_cons, vlqDecodeMany, hne, vlqDecode_encode]
      rw [ih f (by simpa using hf)]
      simp

theorem length_le_flatMap_vlq (ns : List Int) : ns.length ≤ (ns.flatMap vlqEncode).length := by
  induction ns with
  | nil => simp
  | cons n ns ih =>
    have : 1 ≤ (vlqEncode n).length := by
      obtain ⟨a, l, h⟩ := vlqEncode_cons n
      simp [h]
    simp only [List.flatMap_cons, List.length_append, List.length_cons]
    omega

theorem flatMap_vlq_digits (ns : List Int) : ∀ d ∈ ns.flatMap vlqEncode, d < 64 := by
  intro d hd
  simp only [List.mem_flatMap] at hd
  obtain ⟨n, _, hn⟩ := hd
  exact vlqEncode_digits n d hn

/-- the segment the decoder must produce for an entry: `as isize` of each field -/
def segOf (e : Entry) : Segment :=
  ⟨toIsize e.genCol, some (toIsize e.src, toIsize e.origLine, toIsize e.origCol), e.name.map toIsize⟩

/-- entries grouped by generated line, starting on line `L` whose segments so far are `line` -/
def groupFrom (L : Nat) (line : List Segment) : List Entry → List (List Segment)
  | [] => [line]
  | e :: es =>
    if e.genLine = L then groupFrom L (line ++ [segOf e]) es
    else line :: (List.replicate (e.genLine - L - 1) [] ++ groupFrom e.genLine [segOf e] es)

/-- generated lines never decrease, starting from `L`: `add_entry` computes `generated_line - last_generated_line` in `usize`
    and panics otherwise (`mappings_decreasing_line_panics`, Props/C06.lean); `SourceWriter` only ever adds entries at its
    cursor (`Inv.mono`) -/
def Mono (L : Nat) : List Entry → Prop
  | [] => True
  | e :: es => L ≤ e.genLine ∧ Mono e.genLine es

/-- the VLQ fields `add_entry` writes for `e` in state `st` -/
def fieldsOf (st : MState) (e : Entry) : List Int :=
  [ (if st.lastGenLine != e.genLine then toIsize e.genCol else toIsize e.genCol - toIsize st.lastGenCol),
    toIsize e.src - toIsize st.lastSrc,
    toIsize e.origLine - toIsize st.lastOrigLine,
    toIsize e.origCol - toIsize st.lastOrigCol ]
  ++ (match e.name with
      | some n => [toIsize n - toIsize st.lastName]
      | none => [])

theorem emit_eq (st : MState) (e : Entry) :
    emit st e = List.replicate (e.genLine - st.lastGenLine) ';'
      ++ (if st.lastGenLine != e.genLine then [] else [','])
      ++ ((fieldsOf st e).flatMap vlqEncode).map b64Char := by
  unfold emit fieldsOf vlqStr
  cases e.name <;> cases (st.lastGenLine != e.genLine) <;>
    simp [List.flatMap_cons, List.map_append, List.append_assoc]

/-- the digits `add_entry` writes for `e`, as text -/
def digitsOf (st : MState) (e : Entry) : List Char := ((fieldsOf st e).flatMap vlqEncode).map b64Char

theorem emit_cases (st : MState) (e : Entry) (hle : st.lastGenLine ≤ e.genLine) :
    (e.genLine = st.lastGenLine ∧ emit st e = ',' :: digitsOf st e) ∨
    (∃ k, e.genLine = st.lastGenLine + k + 1 ∧ emit st e = ';' :: (List.replicate k ';' ++ digitsOf st e)) := by
  rw [emit_eq]
  by_cases hsame : e.genLine = st.lastGenLine
  · exact .inl ⟨hsame, by simp [hsame, digitsOf]⟩
  · refine .inr ⟨e.genLine - st.lastGenLine - 1, by omega, ?_⟩
    have hb : (st.lastGenLine != e.genLine) = true := by simp only [bne_iff_ne, ne_eq]; omega
    rw [show e.genLine - st.lastGenLine = (e.genLine - st.lastGenLine - 1) + 1 by omega]
    simp [hb, List.replicate_succ, digitsOf]

/-- what `add_entry` appends for a list of entries, as a function of the `last_*` fields -/
def encodeFrom (st : MState) : List Entry → List Char
  | [] => []
  | e :: es => emit st e ++ encodeFrom (addEntry st e) es

theorem foldl_addEntry_buf (es : List Entry) : ∀ st : MState,
    (es.foldl addEntry st).buf = st.buf ++ encodeFrom st es := by
  induction es with
  | nil => intro st; simp [encodeFrom]
  | cons e es ih =>
    intro st
    simp only [List.foldl_cons, encodeFrom]
    rw [ih]
    simp [addEntry, List.append_assoc]

theorem foldl_addEntry_log (es : List Entry) : ∀ st : MState,
    (es.foldl addEntry st).log = st.log ++ es := by
  induction es with
  | nil => intro st; simp
  | cons e es ih =>
    intro st
    simp only [List.foldl_cons]
    rw [ih]
    simp [addEntry, List.append_assoc]

theorem decodeGo_digits (ds : List Nat) : (∀ d ∈ ds, d < 64) →
    ∀ (st : DState) (seg : List Nat) (line : List Segment) (rest : List Char),
    decodeGo st seg line (ds.map b64Char ++ rest) = decodeGo st (seg ++ ds) line rest := by
  induction ds with
  | nil => intro _ st seg line rest; simp
  | cons d ds ih =>
    intro h st seg line rest
    have h1 := b64Val_b64Char d (h d (by simp))
    obtain ⟨h2, h3⟩ := b64Char_ne_sep d (h d (by simp))
    simp only [List.map_cons, List.cons_append, decodeGo, h2, h3, if_false, h1]
    rw [ih (fun x hx => h x (by simp [hx]))]
    simp [List.append_assoc]

theorem decodeGo_digitsOf (st : MState) (e : Entry) (d : DState) (seg : List Nat) (line : List Segment) (rest : List Char) :
    decodeGo d seg line (digitsOf st e ++ rest) = decodeGo d (seg ++ (fieldsOf st e).flatMap vlqEncode) line rest :=
  decodeGo_digits _ (flatMap_vlq_digits _) d seg line rest

/-- the decoder's running values as a function of the writer's `last_*` fields: each is `as isize` of its counterpart -/
def dOf (st : MState) : DState :=
  ⟨toIsize st.lastGenCol, toIsize st.lastSrc, toIsize st.lastOrigLine, toIsize st.lastOrigCol, toIsize st.lastName⟩

/-- the decoder where the segment of `e` starts: on a later generated line the column has been reset -/
def dStart (st : MState) (e : Entry) : DState :=
  if st.lastGenLine != e.genLine then { dOf st with genCol := 0 } else dOf st

theorem closeSeg_nil (d : DState) (line : List Segment) : closeSeg d [] line = some (d, line) := by
  simp [closeSeg]

theorem applyFields_entry (st : MState) (e : Entry) :
    applyFields (dStart st e) (fieldsOf st e) = some (dOf (addEntry st e), segOf e) := by
  have add : ∀ x y : Int, x + (y - x) = y := fun x y => by omega
  unfold dStart fieldsOf segOf dOf addEntry
  cases e.name <;> cases (st.lastGenLine != e.genLine) <;>
    simp [applyFields, add]

theorem fields_digits_ne_nil (st : MState) (e : Entry) : (fieldsOf st e).flatMap vlqEncode ≠ [] := by
  have hl := length_le_flatMap_vlq (fieldsOf st e)
  have : 4 ≤ (fieldsOf st e).length := by unfold fieldsOf; cases e.name <;> simp
  intro h; rw [h] at hl; simp only [List.length_nil] at hl; omega

theorem closeSeg_entry (st : MState) (e : Entry) (line : List Segment) :
    closeSeg (dStart st e) ((fieldsOf st e).flatMap vlqEncode) line = some (dOf (addEntry st e), line ++ [segOf e]) := by
  have hne : ((fieldsOf st e).flatMap vlqEncode).isEmpty = false := by
    simpa using fields_digits_ne_nil st e
  unfold closeSeg
  simp only [hne, Bool.false_eq_true, if_false]
  rw [vlqDecodeMany_flat _ _ (length_le_flatMap_vlq _)]
  simp only [applyFields_entry st e]

theorem decodeGo_semis (m : Nat) (d : DState) (hd : d.genCol = 0) (rest : List Char) :
    decodeGo d [] [] (List.replicate m ';' ++ rest) =
      (decodeGo d [] [] rest).map (fun ls => List.replicate m [] ++ ls) := by
  induction m with
  | zero => simp
  | succ m ih =>
    have hd' : ({ d with genCol := 0 } : DState) = d := by cases d; simp at hd; subst hd; rfl
    simp only [List.replicate_succ, List.cons_append, decodeGo, if_true, closeSeg_nil, hd', ih]
    cases decodeGo d [] [] rest <;> simp

/-- If closing the open segment brings the decoder to `dOf st`, decoding everything the writer emits from here gives the
    remaining entries grouped by line. -/
theorem decodeGo_encodeFrom (es : List Entry) :
    ∀ (st : MState) (d : DState) (seg : List Nat) (line line' : List Segment),
    Mono st.lastGenLine es →
    closeSeg d seg line = some (dOf st, line') →
    decodeGo d seg line (encodeFrom st es) = some (groupFrom st.lastGenLine line' es) := by
  induction es with
  | nil =>
    intro st d seg line line' _ hc
    simp [encodeFrom, decodeGo, hc, groupFrom]
  | cons e es ih =>
    intro st d seg line line' ⟨hle, hm'⟩ hc
    have hne : ¬ ((',' : Char) = ';') := by decide
    have hL : (addEntry st e).lastGenLine = e.genLine := rfl
    have hcl := closeSeg_entry st e
    rw [encodeFrom]
    rcases emit_cases st e hle with ⟨hsame, h⟩ | ⟨k, hk, h⟩ <;> rw [h]
    · -- same generated line: ',' then the segment, relative column
      rw [dStart, show (st.lastGenLine != e.genLine) = false by simp [hsame], if_neg Bool.false_ne_true] at hcl
      simp only [List.cons_append, decodeGo, hne, if_false, if_true, hc]
      -- `rw`, not `simp only`: as a `rfl` step the kernel would compare `[] ++ X` with `X` by unfolding `vlqEncode`
      rw [decodeGo_digitsOf, List.nil_append, ih (addEntry st e) _ _ line' _ (hL ▸ hm') (hcl line'), hL]
      simp [groupFrom, hsame]
    · -- a later generated line: k+1 semicolons, then the segment with an absolute column
      rw [dStart, show (st.lastGenLine != e.genLine) = true by simp only [bne_iff_ne, ne_eq]; omega, if_pos rfl] at hcl
      simp only [List.cons_append, List.append_assoc, decodeGo, if_true, hc]
      rw [decodeGo_semis k _ rfl, decodeGo_digitsOf, List.nil_append,
        ih (addEntry st e) _ _ [] _ (hL ▸ hm') (hcl []), hL]
      have : ¬ e.genLine = st.lastGenLine := by omega
      simp [groupFrom, this, show e.genLine - st.lastGenLine - 1 = k by omega]

/-- lines of segments → (generated line number, segment) pairs, in order -/
def flattenFrom (L : Nat) : List (List Segment) → List (Nat × Segment)
  | [] => []
  | l :: ls => l.map (fun s => (L, s)) ++ flattenFrom (L + 1) ls

theorem flattenFrom_empties (k : Nat) : ∀ (M : Nat) (G : List (List Segment)),
    flattenFrom M (List.replicate k [] ++ G) = flattenFrom (M + k) G := by
  induction k with
  | zero => intro M G; simp
  | succ k ih =>
    intro M G
    simp only [List.replicate_succ, List.cons_append, flattenFrom, List.map_nil, List.nil_append]
    rw [ih]; congr 1; omega

theorem flatten_groupFrom (es : List Entry) : ∀ (L : Nat) (line : List Segment), Mono L es →
    flattenFrom L (groupFrom L line es) =
      line.map (fun s => (L, s)) ++ es.map (fun e => (e.genLine, segOf e)) := by
  induction es with
  | nil => intro L line _; simp [groupFrom, flattenFrom]
  | cons e es ih =>
    intro L line hm
    obtain ⟨hle, hm'⟩ := hm
    by_cases hsame : e.genLine = L
    · simp only [groupFrom, hsame, if_true]
      rw [ih L _ (by rw [← hsame]; exact hm')]
      simp [hsame]
    · simp only [groupFrom, hsame, if_false, flattenFrom]
      rw [flattenFrom_empties]
      have : L + 1 + (e.genLine - L - 1) = e.genLine := by omega
      rw [this, ih e.genLine _ hm']
      simp

theorem strictGo_digits (ds : List Nat) : (∀ d ∈ ds, d < 64) → ds ≠ [] →
    ∀ (se ac : Bool) (rest : List Char), strictGo se ac (ds.map b64Char ++ rest) = strictGo false ac rest := by
  induction ds with
  | nil => intro _ h; exact absurd rfl h
  | cons d ds ih =>
    intro h _ se ac rest
    obtain ⟨h2, h3⟩ := b64Char_ne_sep d (h d (by simp))
    simp only [List.map_cons, List.cons_append, strictGo, h2, h3, if_false]
    cases ds with
    | nil => simp
    | cons d2 ds2 => exact ih (fun x hx => h x (by simp [hx])) (by simp) false ac rest

theorem strictGo_digitsOf (st : MState) (e : Entry) (se ac : Bool) (rest : List Char) :
    strictGo se ac (digitsOf st e ++ rest) = strictGo false ac rest :=
  strictGo_digits _ (flatMap_vlq_digits _) (fields_digits_ne_nil st e) se ac rest

theorem strictGo_semis (k : Nat) (rest : List Char) :
    strictGo true false (List.replicate k ';' ++ rest) = strictGo true false rest := by
  induction k with
  | zero => simp
  | succ k ih =>
    have hne : ¬ ((';' : Char) = ',') := by decide
    simp [List.replicate_succ, strictGo, hne, ih]

theorem strictGo_encodeFrom (es : List Entry) : ∀ (st : MState) (ac : Bool), Mono st.lastGenLine es →
    strictGo false ac (encodeFrom st es) = true := by
  induction es with
  | nil => intro st ac _; simp [encodeFrom, strictGo]
  | cons e es ih =>
    intro st ac ⟨hle, hm'⟩
    have hne : ¬ ((';' : Char) = ',') := by decide
    rw [encodeFrom]
    rcases emit_cases st e hle with ⟨_, h⟩ | ⟨k, _, h⟩ <;> rw [h]
    · simp only [List.cons_append, strictGo, if_true, Bool.not_false, Bool.true_and, strictGo_digitsOf]
      exact ih _ _ hm'
    · simp only [List.cons_append, List.append_assoc, strictGo, hne, if_false, if_true, Bool.and_false, Bool.not_false,
        Bool.true_and, strictGo_semis, strictGo_digitsOf]
      exact ih _ _ hm'

end NitroVerif.SourceMap
