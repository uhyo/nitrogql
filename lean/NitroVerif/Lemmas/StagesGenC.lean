/-
C08 (stages after parsing), the operation type printer, part C: what the assembly is stated with.

The root type and the tree of a definition with explicit fuels (`rootNameOf`, `treeOf`; `resultTree_eq`: at the model's
own fuels it is `OpTypes.resultTree`), the decidable coherence check `noKeyClashB` (= C01's `cohB`: selections with one
response key agree on field name and on having a sub-selection, recursively — the FieldsInSetCanMerge part the checker does
not implement), the wrapper depth of a schema's field types (`fieldDepthBound`), and `def_walked`: every
definition of a document the operation checker accepts has a fine selection set (`CheckOp.Fine`) with its root type in
scope.  That `get_type_for_selection_set` then returns a tree for explicit fuels (`doc_trees_ok`) is
assembled in Lemmas/OpTypesClosedDoc.lean.

From sufficiently large fuels to EVERY pair of fuels, in particular the model's own: `ref_implTree`
(Lemmas/StagesFuel.lean) says smaller fuels can only replace a result by out-of-fuel.  Hence at ANY fuels the result is a
tree or the model's out-of-fuel value — never one of the panics of the Rust code ("Type system error", "Cannot merge
fields of different types", "Cannot merge selection trees of different types"): `treeOf_ok_or_outOfFuel`, and
`doc_trees_any_fuel` (Lemmas/OpTypesClosedDoc.lean).
-/
import NitroVerif.Lemmas.StagesGenB
import NitroVerif.Lemmas.StagesJs
import NitroVerif.Lemmas.OpTypesRefCheck
import NitroVerif.Lemmas.StagesFuel
namespace NitroVerif.Stages
open NitroVerif.Gql NitroVerif.CheckOp NitroVerif.CheckCommon NitroVerif.Valid NitroVerif.OpTypes NitroVerif.OpTypes.Ref
  NitroVerif.Exec

/-- the named type in scope at the root of a definition (`resultTree`) -/
def rootNameOf (S : Schema) : ExecDef → Name
  | .op o => S.rootName o.kind
  | .frag f => f.cond
  | .imp _ => ""

/-- `OpTypes.resultTree` with the two fuels of the model as parameters -/
def treeOf (S : Schema) (D : Doc) (mfuel fuel : Nat) : ExecDef → Option (Except Panic SelTree)
  | .op o => some (implTree S (OpTypes.fragsOf D) mfuel fuel (.nonNull (.named (S.rootName o.kind) {})) o.sel)
  | .frag f => some (implTree S (OpTypes.fragsOf D) mfuel fuel (.nonNull (.named f.cond f.condPos)) f.sel)
  | .imp _ => none

theorem resultTree_eq (S : Schema) (D : Doc) (x : ExecDef) :
    resultTree S D x = treeOf S D (OpTypes.mfuelFor D) (OpTypes.fuelFor D) x := by
  cases x <;> rfl

/-- the decidable side condition for one definition, at fragment-nesting bound `Dc` and check depth `d` -/
def cohDefB (S : Schema) (D : Doc) (Dc d : Nat) (x : ExecDef) : Bool :=
  (selOfDef x).all (fits (OpTypes.fragsOf D) Dc) &&
    cohB S (OpTypes.fragsOf D) Dc d [selOfDef x] (rootNameOf S x)

def noKeyClashB (S : Schema) (D : Doc) (Dc d : Nat) : Bool := D.all (cohDefB S D Dc d)

/-- a bound on the list / non-null wrapper depth of the schema's field types -/
def fieldDepthBound (S : Schema) : Nat :=
  (S.typeDefs.flatMap (·.fields)).foldr (fun f m => max (gdepth f.ty) m) 0

theorem foldr_max_ge {α : Type} (g : α → Nat) : ∀ (l : List α) (x : α), x ∈ l →
    g x ≤ l.foldr (fun f m => max (g f) m) 0
  | a :: l, x, h => by
    rcases List.mem_cons.mp h with rfl | h
    · exact Nat.le_max_left _ _
    · exact Nat.le_trans (foldr_max_ge g l x h) (Nat.le_max_right _ _)

theorem fieldDepthBound_ok (S : Schema) : fieldDepthB S (fieldDepthBound S) = true := by
  unfold fieldDepthB
  simp only [List.all_eq_true, decide_eq_true_eq]
  intro t ht f hf
  exact foldr_max_ge (fun f : FieldDef => gdepth f.ty) _ f (List.mem_flatMap.mpr ⟨t, ht, hf⟩)

/-- the context the C01 lemmas speak about (its `scalar` and `fuel` components play no role here) -/
def ctxOf (S : Schema) (D : Doc) : Exec.Ctx := { S := S, F := OpTypes.fragsOf D, scalar := fun _ _ => true, fuel := 0 }

theorem def_walked {S : Schema} {D : Doc} (h : checkOp S D = []) {x : ExecDef} (hx : x ∈ D) (hni : ∀ i, x ≠ .imp i) :
    ∃ A seen vars, Admissible A ∧ Fine S D A vars seen (rootNameOf S x) (selOfDef x) := by
  cases x with
  | imp i => exact absurd rfl (hni i)
  | op o =>
    exact ⟨allowNone, [], some o.vars, admissible_none, op_fine h (List.mem_filterMap.mpr ⟨_, hx, rfl⟩)⟩
  | frag f =>
    obtain ⟨A, vars, seen, hA, _, _, hq⟩ := frag_walked h (List.mem_filterMap.mpr ⟨_, hx, rfl⟩)
    exact ⟨A, seen, vars, hA, hq⟩

theorem treeOf_ok_or_outOfFuel (S : Schema) (D : Doc) {mf mf' f f' : Nat} (hmf : mf ≤ mf') (hf : f ≤ f') (x : ExecDef)
    (hbig : ∀ r, treeOf S D mf' f' x = some r → ∃ T, r = .ok T) :
    ∀ r, treeOf S D mf f x = some r → (∃ T, r = .ok T) ∨ r = .error .outOfFuel := by
  intro r hr
  cases x with
  | imp i => exact nomatch hr
  | op o => exact Option.some.inj hr ▸ implTree_ok_or_outOfFuel hmf hf _ _ (hbig _ rfl)
  | frag g => exact Option.some.inj hr ▸ implTree_ok_or_outOfFuel hmf hf _ _ (hbig _ rfl)

end NitroVerif.Stages
