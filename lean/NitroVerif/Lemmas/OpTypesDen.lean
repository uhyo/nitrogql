/-
Denotation of the printed result types (helper definitions and lemmas for `toTs_denotation`, Props/C01.lean).

`DenTree` says directly, by recursion on the selection tree, which values the type `treeTs r t nn` is MEANT to admit:
`null` iff the position is nullable, lists element-wise, and for an object position a record that fits one of the
branches — a branch `(T, unaliased, aliased)` fits a record that has, for every unaliased field whose key the schema
declaration of `T` declares and for every aliased field, a value fitting the field (`empty` = key absent, typename
leaf = the string `T`, other leaf = wrapper-conforming value of the leaf type, object field = recursively), and no
other key.  `toTs_denotation` proves `Mem e v (treeTs r t nn) ↔ DenTree … t nn v` for well-formed trees under the
environment hypotheses `EnvOk` (the hook gives `__SelectionSet` its reading; leaf references are not unions / never).
-/
import NitroVerif.Lemmas.OpTypes
namespace NitroVerif.OpTypes
open NitroVerif.Gql NitroVerif.Ts

theorem mem_tsUnion_iff {e : Env} {v : J} (ts : List Ty) : Mem e v (tsUnion ts) ↔ ∃ t ∈ ts, Mem e v t := by
  match ts with
  | [] => simp [tsUnion, mem_never_iff]
  | [t] => simp [tsUnion]
  | t1 :: t2 :: r => simp only [tsUnion, mem_union_iff]

theorem mergeField_notin (f : Field) : ∀ (acc : List Field), (∀ g ∈ acc, g.1 ≠ f.1) → mergeField f acc = acc ++ [f]
  | [], _ => rfl
  | g :: gs, h => by
    have hg : g.1 ≠ f.1 := h g (by simp)
    have : (g.1 == f.1) = false := by simpa using hg
    simp only [mergeField, this, Bool.false_eq_true, ↓reduceIte, List.cons_append]
    rw [mergeField_notin f gs (fun g' hg' => h g' (by simp [hg']))]

theorem mergeFields_disjoint : ∀ (b a : List Field), (∀ f ∈ b, ∀ g ∈ a, g.1 ≠ f.1) → (b.map (·.1)).Nodup →
    mergeFields a b = a ++ b
  | [], a, _, _ => by simp [mergeFields]
  | f :: b, a, hd, hn => by
    have h1 : mergeField f a = a ++ [f] := mergeField_notin f a (fun g hg => hd f (by simp) g hg)
    have hn2 : (f.1 :: b.map (·.1)).Nodup := by simpa only [List.map_cons] using hn
    have hn' : (b.map (·.1)).Nodup := (List.nodup_cons.1 hn2).2
    have hf : ∀ f' ∈ b, f'.1 ≠ f.1 := by
      intro f' hf' heq
      have := (List.nodup_cons.1 hn2).1
      exact this (by rw [← heq]; exact List.mem_map_of_mem hf')
    have ih := mergeFields_disjoint b (a ++ [f]) (by
      intro f' hf' g hg
      rcases List.mem_append.1 hg with hg | hg
      · exact hd f' (by simp [hf']) g hg
      · simp only [List.mem_singleton] at hg; subst hg; exact fun h => hf f' hf' h.symm) hn'
    simp only [mergeFields, List.foldl_cons] at ih ⊢
    rw [h1, ih]; simp

/-- the field clause of the exact-key reading -/
def FieldClause (M : J → Ty → Prop) (kvs : List (String × J)) (F : Field) : Prop :=
  ¬ (F.2.2.1 = true ∧ J.get kvs F.1 = .absent) → M (J.get kvs F.1) F.2.2.2

theorem recordP_append {M : J → Ty → Prop} (a b : List Field) (kvs : List (String × J)) :
    RecordP M (a ++ b) kvs ↔
      (∀ F ∈ a, FieldClause M kvs F) ∧ (∀ F ∈ b, FieldClause M kvs F) ∧
      (∀ kv ∈ kvs, kv.2 = .absent ∨ (∃ F ∈ a, F.1 = kv.1) ∨ ∃ F ∈ b, F.1 = kv.1) := by
  simp only [RecordP, FieldClause, List.mem_append]
  constructor
  · rintro ⟨h1, h2⟩
    refine ⟨fun F hF => h1 F (Or.inl hF), fun F hF => h1 F (Or.inr hF), fun kv hkv => ?_⟩
    rcases h2 kv hkv with h | ⟨F, hF | hF, hk⟩
    · exact Or.inl h
    · exact Or.inr (Or.inl ⟨F, hF, hk⟩)
    · exact Or.inr (Or.inr ⟨F, hF, hk⟩)
  · rintro ⟨ha, hb, hk⟩
    refine ⟨fun F hF => hF.elim (ha F) (hb F), fun kv hkv => ?_⟩
    rcases hk kv hkv with h | ⟨F, hF, hk⟩ | ⟨F, hF, hk⟩
    · exact Or.inl h
    · exact Or.inr ⟨F, Or.inl hF, hk⟩
    · exact Or.inr ⟨F, Or.inr hF, hk⟩

/-- the environment facts the denotation needs: what `keyof Orig` is for every object type name (`orig`), that the
    hook reads `__SelectionSet<out T, Obj, Others>` accordingly, and that a leaf reference is neither a union nor
    `never` syntactically -/
structure EnvOk (e : Env) (r : Refs) (orig : Name → Option (List Field)) : Prop where
  hook : ∀ tn o oth, e.appHook e.decls r.selSet [r.out tn, .obj o, .obj oth]
    = (orig tn).map fun ofs => Ty.obj (SelSem.selectionSet ofs o oth)
  notUnion : ∀ n ts, r.out n ≠ .union ts
  notNever : ∀ n, SelSem.isNever (r.out n) = false

section
variable (e : Env) (r : Refs) (orig : Name → Option (List Field))

mutual
/-- no empty branch list, every branch's type name has a declaration, aliased keys are distinct and differ from
    the unaliased keys (what `deep_merge_selection_tree` and the alias/no-alias partition produce on valid documents) -/
def WFTree : SelTree → Prop
  | .nonNull t => WFTree t
  | .list t => WFTree t
  | .object bs => bs ≠ [] ∧ WFBranches bs
def WFBranches : List Branch → Prop
  | [] => True
  | b :: bs => WFBranch b ∧ WFBranches bs
def WFBranch : Branch → Prop
  | .mk tn _ un al =>
    (orig tn).isSome = true ∧ (al.map SField.name).Nodup ∧ (∀ f ∈ al, ∀ g ∈ un, g.name ≠ f.name) ∧
      WFFields un ∧ WFFields al
def WFFields : List SField → Prop
  | [] => True
  | f :: fs => WFField f ∧ WFFields fs
def WFField : SField → Prop
  | .empty _ => True
  | .leaf _ _ _ => True
  | .object _ sel => WFTree sel
end

mutual
def DenTree : SelTree → Bool → J → Prop
  | .nonNull t, _, v => DenTree t true v
  | .list t, nn, v => (nn = false ∧ v = .null) ∨ ∃ xs, v = .arr xs ∧ ∀ x ∈ xs, DenTree t false x
  | .object bs, nn, v => (nn = false ∧ v = .null) ∨ DenBranches bs v
def DenBranches : List Branch → J → Prop
  | [], _ => False
  | b :: bs, v => DenBranch b v ∨ DenBranches bs v
def DenBranch : Branch → J → Prop
  | .mk tn _ un al, v =>
    ∃ ofs, orig tn = some ofs ∧ ∃ kvs, v = .obj kvs ∧
      DenFields tn (fun k => ofs.any (·.1 == k)) un kvs ∧ DenFields tn (fun _ => true) al kvs ∧
      (∀ kv ∈ kvs, kv.2 = .absent ∨ (∃ f ∈ un, ofs.any (·.1 == f.name) = true ∧ f.name = kv.1) ∨ ∃ f ∈ al, f.name = kv.1)
def DenFields (parent : Name) (keep : Name → Bool) : List SField → List (String × J) → Prop
  | [], _ => True
  | f :: fs, kvs => (keep f.name = true → DenField parent f (J.get kvs f.name)) ∧ DenFields parent keep fs kvs
def DenField (parent : Name) : SField → J → Prop
  | .empty _, x => x = .absent
  | .leaf _ ty isTn, x => if isTn then x = .str parent else WrapConf (fun n v => Mem e v (r.out n)) ty x
  | .object _ sel, x => DenTree sel false x
end
end

theorem denFields_iff {e : Env} {r : Refs} {orig : Name → Option (List Field)} (p : Name) (keep : Name → Bool)
    (kvs : List (String × J)) {fs : List SField} :
    DenFields e r orig p keep fs kvs ↔ ∀ f ∈ fs, keep f.name = true → DenField e r orig p f (J.get kvs f.name) :=
  forall_mem_of_rec (P := fun fs => DenFields e r orig p keep fs kvs) trivial fun _ _ => Iff.rfl

theorem denBranches_iff {e : Env} {r : Refs} {orig : Name → Option (List Field)} (v : J) : ∀ (bs : List Branch),
    DenBranches e r orig bs v ↔ ∃ b ∈ bs, DenBranch e r orig b v
  | [] => by simp [DenBranches]
  | b :: bs => by simp only [DenBranches, List.mem_cons, exists_eq_or_imp, denBranches_iff v bs]

theorem fieldTs_key (r : Refs) (p : Name) (f : SField) : (fieldTs r p f).1 = f.name := by
  cases f <;> simp [fieldTs, SField.name]

theorem exists_fieldsTs_key (r : Refs) (p : Name) (P : String → Prop) (fs : List SField) :
    (∃ F ∈ fieldsTs r p fs, P F.1) ↔ ∃ f ∈ fs, P f.name := by
  induction fs with
  | nil => simp [fieldsTs]
  | cons f fs ih => simp only [fieldsTs, List.mem_cons, exists_eq_or_imp, fieldTs_key, ih]

theorem fieldsTs_keys (r : Refs) (p : Name) (fs : List SField) :
    (fieldsTs r p fs).map (·.1) = fs.map SField.name := by
  induction fs with
  | nil => simp [fieldsTs]
  | cons f fs ih => simp only [fieldsTs, List.map_cons, fieldTs_key, ih]

theorem mem_fieldsTs_key {r : Refs} {p : Name} {fs : List SField} {F : Field} (h : F ∈ fieldsTs r p fs) :
    ∃ f ∈ fs, f.name = F.1 :=
  (exists_fieldsTs_key r p (fun k => k = F.1) fs).1 ⟨F, h, rfl⟩

theorem isNever_orNull (t : Ty) : SelSem.isNever (orNull t) = false := by
  cases t <;> simp [orNull, SelSem.isNever]

theorem isNever_leafTs (q : Name → Ty) (hq : ∀ n, SelSem.isNever (q n) = false) (ty : GType) :
    SelSem.isNever (leafTs q ty) = false ∧ SelSem.isNever (leafCore q ty) = false := by
  induction ty with
  | named n p => exact ⟨by simp [leafTs, isNever_orNull], by simp [leafCore, hq]⟩
  | list t p _ => exact ⟨by simp [leafTs, isNever_orNull], by simp [leafCore, SelSem.isNever]⟩
  | nonNull t ih => exact ⟨by simp [leafTs, ih.2], by simp [leafCore, ih.2]⟩

theorem isNever_tsUnion_branches (r : Refs) : ∀ (bs : List Branch), bs ≠ [] →
    SelSem.isNever (tsUnion (branchesTs r bs)) = false
  | [], h => absurd rfl h
  | [.mk tn vs un al], _ => by simp [branchesTs, branchTs, tsUnion, SelSem.isNever]
  | _ :: _ :: _, _ => by simp [branchesTs, tsUnion, SelSem.isNever]

theorem isNever_treeTs (r : Refs) (orig : Name → Option (List Field)) :
    ∀ (t : SelTree) (nn : Bool), WFTree orig t → SelSem.isNever (treeTs r t nn) = false
  | .nonNull t, _, h => by
    simp only [treeTs]; exact isNever_treeTs r orig t true (by simpa only [WFTree] using h)
  | .list t, nn, _ => by
    cases nn
    · simp only [treeTs, Bool.false_eq_true, ↓reduceIte]; exact isNever_orNull _
    · simp [treeTs, SelSem.isNever]
  | .object bs, nn, h => by
    simp only [WFTree] at h
    cases nn
    · simp only [treeTs, Bool.false_eq_true, ↓reduceIte]; exact isNever_orNull _
    · simp only [treeTs, ↓reduceIte]; exact isNever_tsUnion_branches r bs h.1

theorem fieldTs_norm {e : Env} {r : Refs} {orig : Name → Option (List Field)} (h : EnvOk e r orig) (p : Name) (f : SField)
    (hw : WFField orig f) :
    ((fieldTs r p f).1, false, SelSem.isNever (fieldTs r p f).2.2.2, (fieldTs r p f).2.2.2) = fieldTs r p f := by
  cases f with
  | empty n => simp [fieldTs, SelSem.isNever]
  | leaf n ty b =>
    cases b
    · simp [fieldTs, (isNever_leafTs r.out h.notNever ty).1]
    · simp [fieldTs, SelSem.isNever]
  | object n sel =>
    simp only [WFField] at hw
    simp [fieldTs, isNever_treeTs r orig sel false hw]

theorem picked_fieldsTs {e : Env} {r : Refs} {orig : Name → Option (List Field)} (h : EnvOk e r orig) (p : Name)
    (ofs : List Field) : ∀ (fs : List SField), WFFields orig fs →
    SelSem.picked ofs (fieldsTs r p fs) = (fieldsTs r p fs).filter fun F => ofs.any (·.1 == F.1)
  | [], _ => by simp [fieldsTs, SelSem.picked]
  | f :: fs, hw => by
    simp only [WFFields] at hw
    have ih := picked_fieldsTs h p ofs fs hw.2
    simp only [SelSem.picked] at ih ⊢
    simp only [fieldsTs, List.filter_cons]
    split
    · simp only [List.map_cons, ih, fieldTs_norm h p f hw.1]
    · exact ih

section
variable {e : Env} {r : Refs} {orig : Name → Option (List Field)}

mutual
theorem den_tree (h : EnvOk e r orig) : ∀ (t : SelTree) (nn : Bool) (v : J), WFTree orig t →
    (Mem e v (treeTs r t nn) ↔ DenTree e r orig t nn v)
  | .nonNull t, _, v, hw => by
    simp only [treeTs, DenTree]
    exact den_tree h t true v (by simpa only [WFTree] using hw)
  | .list t, nn, v, hw => by
    have hw' : WFTree orig t := by simpa only [WFTree] using hw
    have harr : Mem e v (.arr (treeTs r t false)) ↔ ∃ xs, v = .arr xs ∧ ∀ x ∈ xs, DenTree e r orig t false x := by
      rw [mem_arr_iff]
      constructor
      · rintro ⟨xs, rfl, hx⟩; exact ⟨xs, rfl, fun x hxm => (den_tree h t false x hw').1 (hx x hxm)⟩
      · rintro ⟨xs, rfl, hx⟩; exact ⟨xs, rfl, fun x hxm => (den_tree h t false x hw').2 (hx x hxm)⟩
    cases nn
    · simp only [treeTs, DenTree, Bool.false_eq_true, ↓reduceIte, mem_orNull_iff, harr, true_and]
    · simp only [treeTs, DenTree, ↓reduceIte, harr, Bool.true_eq_false, false_and, false_or]
  | .object bs, nn, v, hw => by
    simp only [WFTree] at hw
    have hb := den_branches h bs v hw.2
    cases nn
    · simp only [treeTs, DenTree, Bool.false_eq_true, ↓reduceIte, mem_orNull_iff, mem_tsUnion_iff, hb, true_and]
    · simp only [treeTs, DenTree, ↓reduceIte, mem_tsUnion_iff, hb, Bool.true_eq_false, false_and, false_or]
theorem den_branches (h : EnvOk e r orig) : ∀ (bs : List Branch) (v : J), WFBranches orig bs →
    ((∃ ty ∈ branchesTs r bs, Mem e v ty) ↔ DenBranches e r orig bs v)
  | [], v, _ => by simp [branchesTs, DenBranches]
  | b :: bs, v, hw => by
    simp only [WFBranches] at hw
    simp only [branchesTs, DenBranches, List.mem_cons, exists_eq_or_imp]
    rw [den_branch h b v hw.1, den_branches h bs v hw.2]
theorem den_branch (h : EnvOk e r orig) : ∀ (b : Branch) (v : J), WFBranch orig b →
    (Mem e v (branchTs r b) ↔ DenBranch e r orig b v)
  | .mk tn vars un al, v, hw => by
    simp only [WFBranch] at hw
    obtain ⟨hsome, hnd, hdisj, hwu, hwa⟩ := hw
    obtain ⟨ofs, hofs⟩ := Option.isSome_iff_exists.1 hsome
    have hhook : e.appHook e.decls r.selSet [r.out tn, .obj (fieldsTs r tn un), .obj (fieldsTs r tn al)]
        = some (.obj (SelSem.selectionSet ofs (fieldsTs r tn un) (fieldsTs r tn al))) := by
      rw [h.hook, hofs]; rfl
    have hmerge : SelSem.selectionSet ofs (fieldsTs r tn un) (fieldsTs r tn al)
        = ((fieldsTs r tn un).filter fun F => ofs.any (·.1 == F.1)) ++ fieldsTs r tn al := by
      simp only [SelSem.selectionSet, picked_fieldsTs h tn ofs un hwu]
      apply mergeFields_disjoint
      · intro F hF G hG hGF
        obtain ⟨f, hf, hfn⟩ := mem_fieldsTs_key hF
        obtain ⟨g, hg, hgn⟩ := mem_fieldsTs_key (List.mem_filter.1 hG).1
        exact hdisj f hf g hg (by rw [hgn, hfn, hGF])
      · rw [fieldsTs_keys]; exact hnd
    have hun := den_fields h tn (fun k => ofs.any (·.1 == k)) un
    have hal := den_fields h tn (fun _ => true) al
    simp only [branchTs, DenBranch]
    rw [mem_app_iff hhook, mem_obj_iff, hmerge]
    constructor
    · rintro ⟨kvs, rfl, hrec⟩
      rw [recordP_append] at hrec
      obtain ⟨ha, hb, hk⟩ := hrec
      refine ⟨ofs, hofs, kvs, rfl, (hun kvs hwu).1 ?_, (hal kvs hwa).1 ?_, ?_⟩
      · intro F hF hkeep; exact ha F (List.mem_filter.2 ⟨hF, hkeep⟩)
      · intro F hF _; exact hb F hF
      · intro kv hkv
        rcases hk kv hkv with h0 | ⟨F, hF, hFk⟩ | ⟨F, hF, hFk⟩
        · exact Or.inl h0
        · obtain ⟨hF1, hF2⟩ := List.mem_filter.1 hF
          obtain ⟨f, hf, hfn⟩ := mem_fieldsTs_key hF1
          exact Or.inr (Or.inl ⟨f, hf, by rw [hfn]; exact hF2, by rw [hfn, hFk]⟩)
        · obtain ⟨f, hf, hfn⟩ := mem_fieldsTs_key hF
          exact Or.inr (Or.inr ⟨f, hf, by rw [hfn, hFk]⟩)
    · rintro ⟨ofs', hofs', kvs, rfl, hu, ha, hk⟩
      rw [hofs] at hofs'; cases hofs'
      refine ⟨kvs, rfl, ?_⟩
      rw [recordP_append]
      refine ⟨?_, ?_, ?_⟩
      · intro F hF
        obtain ⟨hF1, hF2⟩ := List.mem_filter.1 hF
        exact (hun kvs hwu).2 hu F hF1 hF2
      · intro F hF; exact (hal kvs hwa).2 ha F hF rfl
      · intro kv hkv
        rcases hk kv hkv with h0 | ⟨f, hf, hdecl, hfk⟩ | ⟨f, hf, hfk⟩
        · exact Or.inl h0
        · obtain ⟨F, hF, hFk⟩ := (exists_fieldsTs_key r tn (fun k => k = f.name) un).2 ⟨f, hf, rfl⟩
          exact Or.inr (Or.inl ⟨F, List.mem_filter.2 ⟨hF, by rw [hFk]; exact hdecl⟩, by rw [hFk, hfk]⟩)
        · obtain ⟨F, hF, hFk⟩ := (exists_fieldsTs_key r tn (fun k => k = f.name) al).2 ⟨f, hf, rfl⟩
          exact Or.inr (Or.inr ⟨F, hF, by rw [hFk, hfk]⟩)
theorem den_fields (h : EnvOk e r orig) : ∀ (parent : Name) (keep : Name → Bool) (fs : List SField)
    (kvs : List (String × J)), WFFields orig fs →
    ((∀ F ∈ fieldsTs r parent fs, keep F.1 = true → FieldClause (Mem e) kvs F) ↔ DenFields e r orig parent keep fs kvs)
  | _, _, [], _, _ => by simp [fieldsTs, DenFields]
  | p, keep, f :: fs, kvs, hw => by
    simp only [WFFields] at hw
    simp only [fieldsTs, DenFields, List.forall_mem_cons, fieldTs_key]
    rw [den_field h p f kvs hw.1, den_fields h p keep fs kvs hw.2]
theorem den_field (h : EnvOk e r orig) : ∀ (parent : Name) (f : SField) (kvs : List (String × J)), WFField orig f →
    (FieldClause (Mem e) kvs (fieldTs r parent f) ↔ DenField e r orig parent f (J.get kvs f.name))
  | p, .empty n, kvs, _ => by
    simp only [fieldTs, FieldClause, DenField, SField.name, mem_never_iff, true_and, imp_false, Classical.not_not]
  | p, .leaf n ty b, kvs, _ => by
    cases b
    · simp only [fieldTs, FieldClause, DenField, SField.name, Bool.false_eq_true, false_and, not_false_eq_true,
        forall_const, ↓reduceIte]
      exact (leafTs_den r.out h.notUnion ty).1 _
    · simp only [fieldTs, FieldClause, DenField, SField.name, Bool.false_eq_true, false_and, not_false_eq_true,
        forall_const, ↓reduceIte, mem_strLit_iff]
  | p, .object n sel, kvs, hw => by
    simp only [WFField] at hw
    simp only [fieldTs, FieldClause, DenField, SField.name, Bool.false_eq_true, false_and, not_false_eq_true,
      forall_const]
    exact den_tree h sel false _ hw
end
end

/-! ### binding time: `globalise` commutes with the translation -/

/-- the references of `r` resolved against the declaration table (what `globalise` makes of them) -/
def Refs.close (d : Decls) (r : Refs) : Refs :=
  { out := fun n => globalise d [] [] (r.out n), selSet := globalise d [] [] r.selSet }

theorem globalise_ref (d : Decls) (n : String) : globalise d [] [] (.ref n) =
    match d.resolveRef [] n with | some x => Ty.abs x.scope x.name | none => .ref n := rfl
theorem globalise_qref (d : Decls) (n : String) (tl : List String) : globalise d [] [] (.qref (n :: tl)) =
    match d.resolveQ [] (n :: tl) with | some x => Ty.abs x.scope x.name | none => .qref (n :: tl) := rfl
theorem globalise_arr (d : Decls) (t : Ty) : globalise d [] [] (.arr t) = .arr (globalise d [] [] t) := rfl
theorem globalise_app (d : Decls) (f : Ty) (as : List Ty) :
    globalise d [] [] (.app f as) = .app (globalise d [] [] f) (globaliseList d [] [] as) := rfl
theorem globalise_obj (d : Decls) (fs : List Field) : globalise d [] [] (.obj fs) = .obj (globaliseFields d [] [] fs) := rfl

theorem globalise_ref_shape (d : Decls) (n : String) : ∀ ts, globalise d [] [] (.ref n) ≠ .union ts := by
  rw [globalise_ref]
  cases d.resolveRef [] n <;> exact fun ts h => nomatch h

theorem globalise_qref_shape (d : Decls) (p : List String) :
    (∀ ts, globalise d [] [] (.qref p) ≠ .union ts) ∧ SelSem.isNever (globalise d [] [] (.qref p)) = false := by
  cases p with
  | nil => exact ⟨fun ts h => (nomatch h), rfl⟩
  | cons n tl =>
    rw [globalise_qref]
    cases d.resolveQ [] (n :: tl) <;> exact ⟨fun ts h => (nomatch h), rfl⟩

theorem globaliseList_append (d : Decls) : ∀ (a b : List Ty),
    globaliseList d [] [] (a ++ b) = globaliseList d [] [] a ++ globaliseList d [] [] b
  | [], _ => rfl
  | t :: a, b => congrArg (globalise d [] [] t :: ·) (globaliseList_append d a b)

theorem globalise_orNull (d : Decls) (t : Ty) : globalise d [] [] (orNull t) = orNull (globalise d [] [] t) := by
  cases t with
  | union ts => exact congrArg Ty.union (globaliseList_append d ts [.prim "null"])
  | ref n => exact (orNull_eq (globalise_ref_shape d n)).symm
  | qref p => exact (orNull_eq (globalise_qref_shape d p).1).symm
  | _ => rfl

theorem globalise_tsUnion (d : Decls) : ∀ (ts : List Ty),
    globalise d [] [] (tsUnion ts) = tsUnion (globaliseList d [] [] ts)
  | [] | [_] | _ :: _ :: _ => rfl

theorem globalise_leafTs (d : Decls) (q : Name → Ty) (ty : GType) :
    globalise d [] [] (leafTs q ty) = leafTs (fun n => globalise d [] [] (q n)) ty ∧
    globalise d [] [] (leafCore q ty) = leafCore (fun n => globalise d [] [] (q n)) ty := by
  induction ty with
  | named n p => exact ⟨by simp only [leafTs, globalise_orNull], by simp only [leafCore]⟩
  | list t p ih =>
    exact ⟨by simp only [leafTs, globalise_orNull, globalise_arr, ih.1], by simp only [leafCore, globalise_arr, ih.1]⟩
  | nonNull t ih => exact ⟨by simp only [leafTs, ih.2], by simp only [leafCore, ih.2]⟩

mutual
theorem glob_tree (d : Decls) (r : Refs) : ∀ (t : SelTree) (nn : Bool),
    globalise d [] [] (treeTs r t nn) = treeTs (r.close d) t nn
  | .nonNull t, _ => by simp only [treeTs]; exact glob_tree d r t true
  | .list t, nn => by
    cases nn
    · simp only [treeTs, Bool.false_eq_true, ↓reduceIte, globalise_orNull, globalise_arr, glob_tree d r t false]
    · simp only [treeTs, ↓reduceIte, globalise_arr, glob_tree d r t false]
  | .object bs, nn => by
    cases nn
    · simp only [treeTs, Bool.false_eq_true, ↓reduceIte, globalise_orNull, globalise_tsUnion, glob_branches d r bs]
    · simp only [treeTs, ↓reduceIte, globalise_tsUnion, glob_branches d r bs]
theorem glob_branches (d : Decls) (r : Refs) : ∀ (bs : List Branch),
    globaliseList d [] [] (branchesTs r bs) = branchesTs (r.close d) bs
  | [] => rfl
  | b :: bs => by simp only [branchesTs, globaliseList, glob_branch d r b, glob_branches d r bs]
theorem glob_branch (d : Decls) (r : Refs) : ∀ (b : Branch),
    globalise d [] [] (branchTs r b) = branchTs (r.close d) b
  | .mk tn vs un al => by
    simp only [branchTs, globalise_app, globalise_obj, globaliseList, glob_fields d r tn un, glob_fields d r tn al,
      Refs.close]
theorem glob_fields (d : Decls) (r : Refs) : ∀ (p : Name) (fs : List SField),
    globaliseFields d [] [] (fieldsTs r p fs) = fieldsTs (r.close d) p fs
  | _, [] => rfl
  | p, f :: fs => by
    cases f with
    | empty n => simp only [fieldsTs, fieldTs, globaliseFields, glob_fields d r p fs]; rfl
    | leaf n ty b =>
      cases b
      · simp only [fieldsTs, fieldTs, globaliseFields, Bool.false_eq_true, ↓reduceIte, (globalise_leafTs d r.out ty).1,
          glob_fields d r p fs, Refs.close]
      · simp only [fieldsTs, fieldTs, globaliseFields, ↓reduceIte, glob_fields d r p fs]; rfl
    | object n sel => simp only [fieldsTs, fieldTs, globaliseFields, glob_tree d r sel false, glob_fields d r p fs]
end

/-- the `8` is the number of alias steps `SelSem.hook` itself follows from `Orig` to a record type (Ts/SelSem.lean); the
    schema declaration file reaches the record in two -/
theorem envOk_of_hook (d : Decls) (r : Refs) (path : List String) (hsel : r.selSet = .other "abs" path)
    (hp : SelSem.isSelectionSet d path = true) (hu : ∀ n ts, r.out n ≠ .union ts)
    (hn : ∀ n, SelSem.isNever (r.out n) = false) :
    EnvOk { decls := d, appHook := SelSem.hook } r (fun tn => SelSem.origFields d 8 (r.out tn)) where
  hook := by intro tn o oth; simp [SelSem.hook, hsel, hp]
  notUnion := hu
  notNever := hn

end NitroVerif.OpTypes
