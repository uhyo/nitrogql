/-
Helper lemmas about positions (`Peg.lineCol` / `Peg.offsetOf`) and text slices, for Props/C07.
-/
import NitroVerif.Model.Peg
namespace NitroVerif.Peg

theorem offsetOfFrom_skip (pre rest : List Char) (k col acc : Nat) (hpre : ∀ x ∈ pre, x ≠ '\n') :
    offsetOfFrom (pre ++ rest) (k + 1) col acc = offsetOfFrom rest (k + 1) col (acc + pre.length) := by
  induction pre generalizing acc with
  | nil => simp
  | cons x pre ih =>
    have hx : x ≠ '\n' := hpre x (List.mem_cons_self ..)
    have hrest : ∀ y ∈ pre, y ≠ '\n' := fun y hy => hpre y (List.mem_cons_of_mem _ hy)
    simp only [List.cons_append, offsetOfFrom, hx, if_false]
    rw [ih (acc + 1) hrest]
    simp [Nat.add_assoc, Nat.add_comm 1]

theorem offsetOfFrom_zero (pre rest : List Char) (acc : Nat) (hpre : ∀ x ∈ pre, x ≠ '\n') :
    offsetOfFrom (pre ++ rest) 0 pre.length acc = some (acc + pre.length) := by
  rw [offsetOfFrom, if_pos]
  rw [List.takeWhile_append_of_pos fun x hx => decide_eq_true (hpre x hx), List.length_append]
  exact Nat.le_add_right _ _

/-- the generalised inverse: `pre` is the part of the current line before the cursor, `k` the lines still to go -/
theorem offsetOfFrom_lineColFrom_add (r : List Char) :
    ∀ (n l c acc : Nat) (pre : List Char), n ≤ r.length → (∀ x ∈ pre, x ≠ '\n') → pre.length = c →
      ∃ k, (lineColFrom r n l c).1 = l + k ∧
        offsetOfFrom (pre ++ r) k (lineColFrom r n l c).2 acc = some (acc + c + n) := by
  induction r with
  | nil =>
    intro n l c acc pre hn hpre hc
    obtain rfl := Nat.le_zero.mp hn
    subst hc
    exact ⟨0, rfl, offsetOfFrom_zero pre [] acc hpre⟩
  | cons ch r ih =>
    intro n l c acc pre hn hpre hc
    cases n with
    | zero =>
      subst hc
      exact ⟨0, rfl, offsetOfFrom_zero pre (ch :: r) acc hpre⟩
    | succ n =>
      have hn' := Nat.le_of_succ_le_succ hn
      rw [lineColFrom]
      by_cases hch : ch = '\n'
      · obtain ⟨k, e, h⟩ := ih n (l + 1) 0 (acc + c + 1) [] hn' (List.forall_mem_nil _) rfl
        rw [if_pos hch]
        refine ⟨k + 1, by rw [e, Nat.add_assoc, Nat.add_comm 1], ?_⟩
        rw [offsetOfFrom_skip pre _ k _ _ hpre, offsetOfFrom, if_pos hch, hc]
        exact h.trans (congrArg some (by omega))
      · obtain ⟨k, e, h⟩ := ih n l (c + 1) acc (pre ++ [ch]) hn'
          (List.forall_mem_append.mpr ⟨hpre, List.forall_mem_singleton.mpr hch⟩) (by rw [List.length_append, hc]; rfl)
        rw [if_neg hch]
        refine ⟨k, e, ?_⟩
        rw [List.append_cons]
        exact h.trans (congrArg some (by omega))

theorem offsetOfFrom_lineColFrom (r : List Char) :
    ∀ (n l c acc : Nat) (pre : List Char), n ≤ r.length → (∀ x ∈ pre, x ≠ '\n') → pre.length = c →
      l ≤ (lineColFrom r n l c).1 ∧
      offsetOfFrom (pre ++ r) ((lineColFrom r n l c).1 - l) (lineColFrom r n l c).2 acc = some (acc + c + n) := by
  intro n l c acc pre hn hpre hc
  obtain ⟨k, e, h⟩ := offsetOfFrom_lineColFrom_add r n l c acc pre hn hpre hc
  rw [e, Nat.add_sub_cancel_left]
  exact ⟨Nat.le_add_right l k, h⟩

theorem slice_prefix (input : List Char) (s e : Nat) : slice input s e <+: input.drop s := by
  unfold slice
  exact List.take_prefix _ _

end NitroVerif.Peg
