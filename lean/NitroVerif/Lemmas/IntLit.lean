import NitroVerif.Model.IntLit
import NitroVerif.Spec.IntLit
/-!
`int.value.parse::<i32>().is_ok()` (model: `IntLit.intLiteralFitsI32`, the checked-arithmetic digit loop of the Rust
standard library) is the mathematical range test on the integer the text denotes (specification:
`SpecInt.intTextInRange`): an intermediate overflow of the loop implies that the final value is out of range, because
appending digits never makes a number smaller.
-/
namespace NitroVerif.IntLit
open NitroVerif.SpecInt

theorem digitVal?_eq (c : Char) : digitVal? c = digit? c := rfl

theorem digit?_lt {c : Char} {d : Nat} (h : digit? c = some d) : d ≤ 9 := by
  unfold digit? at h
  split at h
  · rename_i hc
    simp only [Bool.and_eq_true, decide_eq_true_eq] at hc
    injection h with h
    omega
  · cases h

theorem digitsValue?_ge : ∀ (cs : List Char) (a n : Nat), digitsValue? cs a = some n → a ≤ n := by
  intro cs
  induction cs with
  | nil => intro a n h; simp only [digitsValue?] at h; injection h with h; omega
  | cons c cs ih =>
    intro a n h
    simp only [digitsValue?] at h
    cases hd : digit? c with
    | none => simp [hd] at h
    | some d =>
      simp only [hd] at h
      have := ih _ _ h
      omega

theorem inI32_iff (i : Int) : inI32 i = true ↔ (-2147483648 ≤ i ∧ i ≤ 2147483647) := by
  unfold inI32 i32Min i32Max
  rw [Bool.and_eq_true, decide_eq_true_iff, decide_eq_true_iff]

/-- without a `-` sign; `2147483647 = i32::MAX` -/
theorem i32Loop_pos : ∀ (cs : List Char) (a : Nat), a ≤ 2147483647 →
    (i32Loop false cs (a : Int) = true ↔ ∃ n, digitsValue? cs a = some n ∧ n ≤ 2147483647) := by
  intro cs
  induction cs with
  | nil => intro a ha; simp [i32Loop, digitsValue?, ha]
  | cons c cs ih =>
    intro a ha
    simp only [i32Loop, digitsValue?, digitVal?_eq]
    cases hd : digit? c with
    | none => simp
    | some d =>
      simp only []
      by_cases h1 : inI32 ((a : Int) * 10) = true
      · simp only [h1, if_true, Bool.false_eq_true, if_false]
        by_cases h2 : inI32 ((a : Int) * 10 + (d : Int)) = true
        · simp only [h2, if_true]
          have hle : a * 10 + d ≤ 2147483647 := by
            have := (inI32_iff _).mp h2; omega
          have := ih (a * 10 + d) hle
          simpa [Int.natCast_add, Int.natCast_mul] using this
        · simp only [h2, Bool.false_eq_true, if_false, false_iff]
          rintro ⟨n, hn, hle⟩
          have hge := digitsValue?_ge _ _ _ hn
          exact h2 ((inI32_iff _).mpr (by omega))
      · simp only [h1, Bool.false_eq_true, if_false, false_iff]
        rintro ⟨n, hn, hle⟩
        have hge := digitsValue?_ge _ _ _ hn
        exact h1 ((inI32_iff _).mpr (by omega))

/-- after a `-` sign the accumulator is `≤ 0`; `2147483648 = 2^31 = -i32::MIN` -/
theorem i32Loop_neg : ∀ (cs : List Char) (a : Nat), a ≤ 2147483648 →
    (i32Loop true cs (-(a : Int)) = true ↔ ∃ n, digitsValue? cs a = some n ∧ n ≤ 2147483648) := by
  intro cs
  induction cs with
  | nil => intro a ha; simp [i32Loop, digitsValue?, ha]
  | cons c cs ih =>
    intro a ha
    simp only [i32Loop, digitsValue?, digitVal?_eq]
    cases hd : digit? c with
    | none => simp
    | some d =>
      simp only []
      by_cases h1 : inI32 (-(a : Int) * 10) = true
      · simp only [h1, if_true]
        by_cases h2 : inI32 (-(a : Int) * 10 - (d : Int)) = true
        · simp only [h2, if_true]
          have hle : a * 10 + d ≤ 2147483648 := by
            have := (inI32_iff _).mp h2; omega
          have := ih (a * 10 + d) hle
          have he : -(a : Int) * 10 - (d : Int) = -((a * 10 + d : Nat) : Int) := by
            simp only [Int.natCast_add, Int.natCast_mul]; omega
          rw [he]; exact this
        · simp only [h2, Bool.false_eq_true, if_false, false_iff]
          rintro ⟨n, hn, hle⟩
          have hge := digitsValue?_ge _ _ _ hn
          exact h2 ((inI32_iff _).mpr (by omega))
      · simp only [h1, Bool.false_eq_true, if_false, false_iff]
        rintro ⟨n, hn, hle⟩
        have hge := digitsValue?_ge _ _ _ hn
        exact h1 ((inI32_iff _).mpr (by omega))

theorem parseI32Ok_iff (cs : List Char) :
    parseI32Ok cs = true ↔ ∃ i, intValue? cs = some i ∧ -2147483648 ≤ i ∧ i ≤ 2147483647 := by
  have hnat : ∀ ds : List Char, ds ≠ [] → natValue? ds = digitsValue? ds 0 := by
    intro ds hds; cases ds with | nil => exact absurd rfl hds | cons _ _ => rfl
  -- the loop started at 0, after either sign: the bound on the digits' number is the range of the signed integer
  have hpos : ∀ ds : List Char, ds ≠ [] → (i32Loop false ds 0 = true ↔
      ∃ i, (natValue? ds).map (fun n => (n : Int)) = some i ∧ -2147483648 ≤ i ∧ i ≤ 2147483647) := by
    intro ds hds
    rw [hnat ds hds]
    refine (i32Loop_pos ds 0 (by omega)).trans ?_
    cases digitsValue? ds 0 with
    | none => simp
    | some n => simp; omega
  have hneg : ∀ ds : List Char, ds ≠ [] → (i32Loop true ds 0 = true ↔
      ∃ i, (natValue? ds).map (fun n => -(n : Int)) = some i ∧ -2147483648 ≤ i ∧ i ≤ 2147483647) := by
    intro ds hds
    rw [hnat ds hds]
    refine (i32Loop_neg ds 0 (by omega)).trans ?_
    cases digitsValue? ds 0 with
    | none => simp
    | some n => simp; omega
  cases cs with
  | nil => simp [parseI32Ok, intValue?, natValue?]
  | cons c rest =>
    by_cases hp : c = '+'
    · subst hp
      cases rest with
      | nil => simp [parseI32Ok, intValue?, natValue?]
      | cons r rs =>
        rw [parseI32Ok, intValue?, hpos _ (List.cons_ne_nil r rs)]
        exact List.cons_ne_nil r rs
    · by_cases hm : c = '-'
      · subst hm
        cases rest with
        | nil => simp [parseI32Ok, intValue?, natValue?]
        | cons r rs =>
          rw [parseI32Ok, intValue?, hneg _ (List.cons_ne_nil r rs)]
          exact List.cons_ne_nil r rs
      · -- neither sign: the last equation of both definitions; their side conditions say that `c` is no sign
        have ne : ∀ (x : Char) (r : List Char), c ≠ x → c :: rest ≠ x :: r := fun _ _ hx h => hx (List.cons.inj h).1
        rw [parseI32Ok, intValue?, hpos _ (List.cons_ne_nil c rest)]
        · exact fun ds => ne '-' ds hm
        · exact fun ds => ne '+' ds hp
        · exact List.cons_ne_nil c rest
        · exact ne '+' [] hp
        · exact ne '-' [] hm
        · exact fun r => ne '+' r hp
        · exact fun r => ne '-' r hm

theorem intLiteralFitsI32_iff (s : String) :
    intLiteralFitsI32 s = true ↔ ∃ i, intValue? s.toList = some i ∧ -2147483648 ≤ i ∧ i ≤ 2147483647 :=
  parseI32Ok_iff s.toList

theorem intLiteralFitsI32_eq (s : String) : intLiteralFitsI32 s = intTextInRange s := by
  rw [Bool.eq_iff_iff, intLiteralFitsI32_iff]
  unfold intTextInRange
  cases h : intValue? s.toList with
  | none | some i => simp

/-! kernel-evaluated boundary values -/
example : intLiteralFitsI32 "2147483647" = true ∧ intLiteralFitsI32 "2147483648" = false ∧
    intLiteralFitsI32 "-2147483648" = true ∧ intLiteralFitsI32 "-2147483649" = false ∧
    intLiteralFitsI32 "4294967296" = false ∧ intLiteralFitsI32 "-0" = true ∧ intLiteralFitsI32 "0" = true ∧
    intLiteralFitsI32 "+1" = true ∧ intLiteralFitsI32 "-" = false ∧ intLiteralFitsI32 "" = false ∧
    intLiteralFitsI32 "007" = true ∧ intLiteralFitsI32 "99999999999999999999999999" = false ∧
    intLiteralFitsI32 "--1" = false ∧ intLiteralFitsI32 "1e3" = false := by
  unfold intLiteralFitsI32
  repeat rw [String.toList_ofList]
  decide +kernel
example : intTextInRange "2147483647" = true ∧ intTextInRange "2147483648" = false ∧
    intTextInRange "-2147483648" = true ∧ intTextInRange "-2147483649" = false ∧ intTextInRange "-0" = true := by
  unfold intTextInRange
  repeat rw [String.toList_ofList]
  decide +kernel

end NitroVerif.IntLit
