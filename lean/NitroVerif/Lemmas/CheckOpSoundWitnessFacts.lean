import NitroVerif.Lemmas.CheckOpSoundWitness
/-!
The facts about the witnesses of `CheckOpSoundWitness` that every non-vacuity example of `Props/C03.lean` and
`Props/C03FieldMerge.lean` starts from, evaluated here once.
-/
namespace NitroVerif.CheckOp.Witness
open NitroVerif.Gql NitroVerif.CheckCommon NitroVerif.Valid

theorem wSchema_valid : SchemaValid wSchema := by decide +kernel

theorem wDoc_accepted : checkOp wSchema wDoc = [] := by decide +kernel

/-! The counters of one collector (selections, argument sites, typed values, variable usages, directive sites) are
evaluated together, so that the collector is run once. -/

theorem wDoc_selectionCounts : 20 ≤ nFields wSchema wDoc ∧ 1 ≤ nLeafFields wSchema wDoc ∧
    1 ≤ nFieldsWithSel wSchema wDoc ∧ 1 ≤ nSpreads wSchema wDoc ∧ 4 ≤ nNarrowing wSchema wDoc := by decide +kernel

theorem wDoc_argumentCounts : 10 ≤ nArgs wSchema wDoc ∧ 1 ≤ nRequiredArgDefs wSchema wDoc ∧
    1 ≤ nMultiArgLists wSchema wDoc := by decide +kernel

theorem wDoc_typedValueCounts : 10 ≤ nTypedValues wSchema wDoc ∧ 2 ≤ nObjectValues wSchema wDoc ∧
    1 ≤ nBigObjectValues wSchema wDoc := by decide +kernel

theorem wDoc_varUseCounts : 3 ≤ nVarUses wSchema wDoc ∧ 1 ≤ nDefaultRescued wSchema wDoc := by decide +kernel

theorem wDoc_directiveCounts : 6 ≤ (dirLocations wSchema wDoc).length ∧ 9 ≤ nDirectives wSchema wDoc ∧
    1 ≤ nRepeated wSchema wDoc := by decide +kernel

end NitroVerif.CheckOp.Witness
