/-
Enum and input object type extensions, by the lemma that serves the corresponding definitions (`kindBodyK`), with the
head `extend keyword Name`:
`EnumTypeExtension = { KEYWORD_extend ~ KEYWORD_enum ~ Name ~ Directives? ~ EnumValuesDefinition |
  KEYWORD_extend ~ KEYWORD_enum ~ Name ~ Directives? ~ !"{" }`; `InputObjectTypeExtension` likewise, with `KEYWORD_input`
and `InputFieldsDefinition`.
-/
import NitroVerif.Lemmas.ParseDocTsExtItem
namespace NitroVerif.DocParse
open NitroVerif.Peg NitroVerif.Gen NitroVerif.Gen.Parts NitroVerif.Build NitroVerif.TypeParse NitroVerif.StringParse
open NitroVerif.Gql NitroVerif.ValueParse NitroVerif.Spec.Lex NitroVerif.ParseText

variable {inp : List Char}

def rEnumExt (τ : Trivia) (sep : Bool) (p : Nat) (t : TypeDef) : List Char :=
  let tH := rExtHead τ (sep && t.values.isEmpty && t.dirs.isEmpty) p (kindKw .enum) t.name
  let tD := rDirs τ (sep && t.values.isEmpty) (p + tH.length) t.dirs
  tH ++ (tD ++ rOptEnumVals τ sep (p + tH.length + tD.length) t.values)

def wpEnumExt (τ : Trivia) (inp : List Char) (sep : Bool) (p : Nat) (t : TypeDef) : TypeDef :=
  let tH := rExtHead τ (sep && t.values.isEmpty && t.dirs.isEmpty) p (kindKw .enum) t.name
  let tD := rDirs τ (sep && t.values.isEmpty) (p + tH.length) t.dirs
  { kind := .enum, name := t.name, namePos := posAt inp (ehOffN τ p (kindKw .enum)),
    dirs := wpDirs τ inp (sep && t.values.isEmpty) (p + tH.length) t.dirs,
    values := wpEnumVals τ inp (p + tH.length + tD.length + (tk τ false (p + tH.length + tD.length) ['{']).length) t.values,
    pos := posAt inp p }

theorem buildTypeExtension_enum {ctx : Ctx} {fuel : Nat} (p e p' e' : Nat) {cs : List Pair} {dirs values : Option Pair}
    {kw kk name : Pair} {ds : List Directive} {vs : List EnumValueDef}
    (hm : matchParts P_EnumTypeExtension cs = .ok [some kw, some kk, some name, dirs, values])
    (h2 : optDirs ctx fuel dirs = .ok ds) (h3 : optEnumValues ctx fuel values = .ok vs) :
    buildTypeExtension ctx fuel (.mk R.TypeExtension p e [.mk R.EnumTypeExtension p' e' cs]) =
      .ok { kind := .enum, name := asString ctx name, namePos := toPos ctx name, dirs := ds, values := vs,
            pos := toPos ctx kw } := by
  simp [buildTypeExtension, onlyChildOf, onlyChild, Pair.children, OC_TypeExtension, Pair.rule, hm, h2, h3, bind,
    Except.bind, R.ScalarTypeExtension, R.ObjectTypeExtension, R.InterfaceTypeExtension, R.UnionTypeExtension,
    R.EnumTypeExtension]

theorem enumExtT (τ : Trivia) (hτ : ∀ q, Ws (τ q)) (t : TypeDef) (hname : validName t.name.toList)
    (hdirs : WFDirs t.dirs) (hvals : ∀ v ∈ t.values, WFEnumVal v) {sep : Bool} {p : Nat}
    (h : HasAt inp p (rEnumExt τ sep p t)) (hn : Nxt inp tdBad sep (p + (rEnumExt τ sep p t).length)) :
    KindExtOk inp R.EnumTypeExtension p (rEnumExt τ sep p t) (wpEnumExt τ inp sep p t) := by
  simp only [rEnumExt, wpEnumExt] at h hn ⊢
  have n2 := hn.app.app
  obtain ⟨oV, V, n1⟩ := optEnumValsT τ hτ t.values hvals (by decide) h.right.right n2
  obtain ⟨oD, D, n0⟩ := optDirsT τ hτ t.dirs hdirs (by decide) (by decide) h.right.left n1
  obtain ⟨prE, prK, prN, H⟩ := extHeadF hτ (look_kindKw .enum) (kindKw_valid .enum) t.name hname h.left n0
  obtain ⟨e, rR⟩ := kindBodyK H.front (rule := R.EnumTypeExtension) rfl (·.mono (Nat.le_succ _)) D (fun _ => D.part)
    (V.mono (by decide)) (by decide) n2
  refine ⟨_, fun e' => ⟨rR.mono (by decide), rfl, rfl, fun fuel hf => ?_⟩⟩
  refine (buildTypeExtension_enum _ _ _ _ (matchParts_slots P_EnumTypeExtension [some prE, some prK, some prN, oD, oV]
    (by decide) ⟨⟨_, rfl, H.extRule⟩, ⟨_, rfl, H.kwRule⟩, ⟨_, rfl, H.nameRule⟩, D.rule, V.rule, trivial⟩)
    (D.build fuel (fuel_left (fuel_right hf))) (V.build fuel (fuel_right (fuel_right hf)))).trans ?_
  rw [H.name, H.namePos, H.extPos]

def rInputExt (τ : Trivia) (sep : Bool) (p : Nat) (t : TypeDef) : List Char :=
  let tH := rExtHead τ (sep && t.inputs.isEmpty && t.dirs.isEmpty) p (kindKw .input) t.name
  let tD := rDirs τ (sep && t.inputs.isEmpty) (p + tH.length) t.dirs
  tH ++ (tD ++ rOptInputs τ sep (p + tH.length + tD.length) t.inputs)

def wpInputExt (τ : Trivia) (inp : List Char) (sep : Bool) (p : Nat) (t : TypeDef) : TypeDef :=
  let tH := rExtHead τ (sep && t.inputs.isEmpty && t.dirs.isEmpty) p (kindKw .input) t.name
  let tD := rDirs τ (sep && t.inputs.isEmpty) (p + tH.length) t.dirs
  { kind := .input, name := t.name, namePos := posAt inp (ehOffN τ p (kindKw .input)),
    dirs := wpDirs τ inp (sep && t.inputs.isEmpty) (p + tH.length) t.dirs,
    inputs := wpIVDs τ inp (p + tH.length + tD.length + (tk τ false (p + tH.length + tD.length) ['{']).length) t.inputs,
    pos := posAt inp p }

theorem buildTypeExtension_input {ctx : Ctx} {fuel : Nat} (p e p' e' : Nat) {cs : List Pair} {dirs fields : Option Pair}
    {kw kk name : Pair} {ds : List Directive} {vs : List InputValueDef}
    (hm : matchParts P_InputObjectTypeExtension cs = .ok [some kw, some kk, some name, dirs, fields])
    (h2 : optDirs ctx fuel dirs = .ok ds) (h3 : optInputFields ctx fuel fields = .ok vs) :
    buildTypeExtension ctx fuel (.mk R.TypeExtension p e [.mk R.InputObjectTypeExtension p' e' cs]) =
      .ok { kind := .input, name := asString ctx name, namePos := toPos ctx name, dirs := ds, inputs := vs,
            pos := toPos ctx kw } := by
  simp [buildTypeExtension, onlyChildOf, onlyChild, Pair.children, OC_TypeExtension, Pair.rule, hm, h2, h3, bind,
    Except.bind, R.ScalarTypeExtension, R.ObjectTypeExtension, R.InterfaceTypeExtension, R.UnionTypeExtension,
    R.EnumTypeExtension, R.InputObjectTypeExtension]

theorem inputExtT (τ : Trivia) (hτ : ∀ q, Ws (τ q)) (t : TypeDef) (hname : validName t.name.toList)
    (hdirs : WFDirs t.dirs) (hvals : ∀ v ∈ t.inputs, WFIVD v) {sep : Bool} {p : Nat}
    (h : HasAt inp p (rInputExt τ sep p t)) (hn : Nxt inp tdBad sep (p + (rInputExt τ sep p t).length)) :
    KindExtOk inp R.InputObjectTypeExtension p (rInputExt τ sep p t) (wpInputExt τ inp sep p t) := by
  simp only [rInputExt, wpInputExt] at h hn ⊢
  have n2 := hn.app.app
  obtain ⟨oV, V, n1⟩ := optInputFieldsT τ hτ t.inputs hvals (by decide) h.right.right n2
  obtain ⟨oD, D, n0⟩ := optDirsT τ hτ t.dirs hdirs (by decide) (by decide) h.right.left n1
  obtain ⟨prE, prK, prN, H⟩ := extHeadF hτ (look_kindKw .input) (kindKw_valid .input) t.name hname h.left n0
  obtain ⟨e, rR⟩ := kindBodyK H.front (rule := R.InputObjectTypeExtension) rfl (·.mono (Nat.le_succ _)) D (fun _ => D.part)
    (V.mono (by decide)) (by decide) n2
  refine ⟨_, fun e' => ⟨rR.mono (by decide), rfl, rfl, fun fuel hf => ?_⟩⟩
  refine (buildTypeExtension_input _ _ _ _ (matchParts_slots P_InputObjectTypeExtension [some prE, some prK, some prN, oD, oV]
    (by decide) ⟨⟨_, rfl, H.extRule⟩, ⟨_, rfl, H.kwRule⟩, ⟨_, rfl, H.nameRule⟩, D.rule, V.rule, trivial⟩)
    (D.build fuel (fuel_left (fuel_right hf))) (V.build fuel (fuel_right (fuel_right hf)))).trans ?_
  rw [H.name, H.namePos, H.extPos]

end NitroVerif.DocParse
