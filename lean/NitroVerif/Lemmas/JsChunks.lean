import NitroVerif.Lemmas.JsTemplate
/-!
C16, template layer with the REAL chunking of `JsStringWriter`: `dollar_flag` is local to one `write` call, so a
chunk that ends in `$` followed by a chunk that starts with `{` would be written `${` (a substitution). This file
states a condition on chunk sequences (`safeOps`) and proves that under it the cooked value of everything the writer
produced is the text `JustWriter` produces for the same operations (`run_runOps`). That the condition is also
necessary is shown on one witness (`template_chunks_counterexample`, `Props/C16.lean`), not in general.
-/
namespace NitroVerif.JsTemplate
open NitroVerif.Cook

/-- was the last character written a `$` — `d` before the chunk, then the chunk `s` -/
def endDollar (d : Bool) : List Char → Bool
  | [] => d
  | c :: cs => endDollar (c == '$') cs

/-- the chunk may follow a text whose last character is (`d`) / is not a `$`: it does not start with `{` then -/
def headOK (d : Bool) : List Char → Bool
  | [] => true
  | c :: _ => !(d && c == '{')

def noCR (s : List Char) : Bool := s.all fun c => c != '\r'

/-- safety condition of a sequence of writer operations (`d` = the text written so far ends in `$`):
    no chunk starts with `{` directly after a `$` that an EARLIER chunk wrote, and no chunk holds a CR.
    (Inside one chunk `${` is fine: the writer escapes it.) -/
def safeOps : Bool → List WOp → Bool
  | _, [] => true
  | d, .write s :: ops => headOK d s && noCR s && safeOps (endDollar d s) ops
  | d, .indent :: ops => safeOps d ops
  | d, .dedent :: ops => safeOps d ops

theorem escChar_indep (c : Char) (h : c ≠ '{') (d d' : Bool) : escChar d c = escChar d' c := by
  unfold escChar; simp [h]

theorem run_spaces (n : Nat) (rest : List Char) :
    run .normal (List.replicate n ' ' ++ rest) = (run .normal rest).map (List.replicate n ' ' ++ ·) := by
  induction n with
  | zero => simp
  | succ n ih =>
    simp only [List.replicate_succ, List.cons_append, run, step, stepNormal]
    simp only [show (' ' = '`') = False by decide, show (' ' = '\\') = False by decide,
      show (' ' = '$') = False by decide, show (' ' = '\r') = False by decide, if_false, ih]
    cases run St.normal rest <;> rfl

theorem stOf_false : stOf false = .normal := rfl

/-- one chunk: `d` = the writer's flag, `d'` = the truth about the previous character -/
theorem run_writeChars (s : List Char) : ∀ (st : WSt) (d d' : Bool) (rest : List Char),
    (d = true → d' = true) → (st.flag = true → d' = false) →
    (∀ c ∈ s, c ≠ '\r') → (d = d' ∨ headOK d' s = true) →
    run (stOf d') ((writeChars true st d s).1 ++ rest)
        = (run (stOf (endDollar d' s)) rest).map ((writeChars false st d s).1 ++ ·)
      ∧ (writeChars true st d s).2 = (writeChars false st d s).2
      ∧ ((writeChars true st d s).2.flag = true → endDollar d' s = false) := by
  induction s with
  | nil =>
    intro st d d' rest _ hf _ _
    refine ⟨?_, rfl, ?_⟩
    · simp [writeChars, endDollar] <;> (cases run (stOf d') rest <;> rfl)
    · simpa [writeChars, endDollar] using hf
  | cons c cs ih =>
    intro st d d' rest hd hf hcr hh
    have hc : c ≠ '\r' := hcr c (by simp)
    have hcs : ∀ x ∈ cs, x ≠ '\r' := fun x hx => hcr x (by simp [hx])
    by_cases hnl : c = '\n'
    · subst hnl
      obtain ⟨h1, h2, h3⟩ := ih { st with flag := true } false false rest (by simp) (by simp) hcs (Or.inl rfl)
      have hstep : ∀ X, run (stOf d') ('\n' :: X) = (run .normal X).map ('\n' :: ·) := by
        intro X
        cases d' <;> simp [stOf, run, step, stepNormal] <;> (cases run St.normal X <;> rfl)
      refine ⟨?_, ?_, ?_⟩
      · simp only [writeChars, if_true, List.cons_append, hstep, endDollar]
        have : (('\n' : Char) == '$') = false := by decide
        rw [this]
        rw [stOf_false] at h1
        rw [h1]
        cases run (stOf (endDollar false cs)) rest <;> rfl
      · simp only [writeChars, if_true]; exact h2
      · simp only [writeChars, if_true, endDollar]
        have : (('\n' : Char) == '$') = false := by decide
        rw [this]; exact h3
    · have hesc : escChar d c = escChar d' c := by
        rcases hh with hh | hh
        · rw [hh]
        · by_cases hb : c = '{'
          · -- `{` may only follow a text that does not end in `$`: both flags are off
            subst hb
            have hd' : d' = false := by simpa [headOK] using hh
            have hdf : d = false := Bool.eq_false_iff.mpr fun h => by simp [hd h] at hd'
            rw [hd', hdf]
          · exact escChar_indep c hb d d'
      obtain ⟨h1, h2, h3⟩ := ih { st with flag := false } (c == '$') (c == '$') rest (fun h => h) (by simp) hcs (Or.inl rfl)
      refine ⟨?_, ?_, ?_⟩
      · simp only [writeChars, hnl, if_false, if_true, endDollar]
        by_cases hfl : st.flag = true
        · have hd' := hf hfl
          subst hd'
          have hdf : d = false := Bool.eq_false_iff.mpr fun h => Bool.noConfusion (hd h)
          subst hdf
          simp only [hfl, if_true, List.append_assoc, stOf_false, run_spaces]
          have := run_escChar false c hc ((writeChars true { st with flag := false } (c == '$') cs).1 ++ rest)
          rw [stOf_false] at this
          rw [this, h1]
          cases run (stOf (endDollar (c == '$') cs)) rest <;> simp
        · simp only [hfl, Bool.false_eq_true, if_false, List.nil_append, List.append_assoc, hesc]
          rw [run_escChar d' c hc, h1]
          cases run (stOf (endDollar (c == '$') cs)) rest <;> simp
      · simp only [writeChars, hnl, if_false]; exact h2
      · simp only [writeChars, hnl, if_false, endDollar]; exact h3

theorem run_runOps (ops : List WOp) : ∀ (st : WSt) (d : Bool), (st.flag = true → d = false) →
    safeOps d ops = true → run (stOf d) (runOps true st ops) = some (runOps false st ops) := by
  induction ops with
  | nil => intro st d _ _; cases d <;> simp [runOps, run, finish, stOf]
  | cons op ops ih =>
    intro st d hf hs
    cases op with
    | write s =>
      simp only [safeOps, Bool.and_eq_true] at hs
      obtain ⟨⟨hh, hcr⟩, hrest⟩ := hs
      have hcr' : ∀ c ∈ s, c ≠ '\r' := by
        intro c hc; have := (List.all_eq_true.mp hcr) c hc; simpa using this
      obtain ⟨h1, h2, h3⟩ := run_writeChars s st false d (runOps true (writeChars true st false s).2 ops)
        (by simp) hf hcr' (Or.inr hh)
      simp only [runOps]
      rw [h1, ih _ _ h3 hrest, h2]
      rfl
    | indent => simpa [runOps, safeOps] using ih { st with indent := st.indent + 2 } d hf (by simpa [safeOps] using hs)
    | dedent => simpa [runOps, safeOps] using ih { st with indent := st.indent - 2 } d hf (by simpa [safeOps] using hs)

theorem writeChars_indent (js : Bool) (s : List Char) : ∀ (st : WSt) (d : Bool),
    (writeChars js st d s).2.indent = st.indent := by
  induction s with
  | nil => intro st d; rfl
  | cons c cs ih =>
    intro st d
    simp only [writeChars]
    split
    · exact ih _ _
    · exact ih _ _

end NitroVerif.JsTemplate
