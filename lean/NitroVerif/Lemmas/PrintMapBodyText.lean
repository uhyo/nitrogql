import NitroVerif.Lemmas.PrintMapBodyTy
import NitroVerif.Ts.Syntax
/-!
# C06 — the text of a printed type

* `rawText ops` — the concatenation of the texts of a call sequence (`write` and `write_for` chunks, in order; `indent` /
  `dedent` contribute nothing: the indentation `SourceWriter` inserts at line starts is white space only).
* `layoutTy` — the text layout of a `Ts.Ty` (the syntax trees of the C01 / C09 / C10 models) as nitrogql's `print_type`
  lays a type out: `{` newline, one property per line, `}`; `(T)[]`; members joined by ` | `; `F<A, B>`; `A.B.C`.
* `erase` — a printer-level `TSTy` as a `Ts.Ty`, structure kept (positions and nothing else are dropped).
* `rawText_printTy` — for a type built from strings (`TSTy.simple`) the text of its call sequence IS the layout of its erasure.
-/
namespace NitroVerif.PrintMap
open NitroVerif.Gql NitroVerif.DeclCfg
open NitroVerif.Ts (Ty Field)

def POp.text : POp → String
  | .write t => t
  | .writeFor t _ _ => t
  | .indent => ""
  | .dedent => ""

/-- the concatenated text of a call sequence -/
def rawText : List POp → String
  | [] => ""
  | op :: r => op.text ++ rawText r

@[simp] theorem rawText_nil : rawText [] = "" := rfl

@[simp] theorem rawText_cons (op : POp) (r : List POp) : rawText (op :: r) = op.text ++ rawText r := rfl

@[simp] theorem rawText_append (a b : List POp) : rawText (a ++ b) = rawText a ++ rawText b := by
  induction a with
  | nil => simp
  | cons op a ih => simp [ih, String.append_assoc]

@[simp] theorem text_write (t : String) : (POp.write t).text = t := rfl
@[simp] theorem text_writeFor (t : String) (p : Pos) (n : Option String) : (POp.writeFor t p n).text = t := rfl
@[simp] theorem text_indent : POp.indent.text = "" := rfl
@[simp] theorem text_dedent : POp.dedent.text = "" := rfl

def joinSep (sep : String) : List String → String
  | [] => ""
  | [a] => a
  | a :: b :: r => a ++ sep ++ joinSep sep (b :: r)

theorem joinSep_cons_cons (sep a b : String) (r : List String) :
    joinSep sep (a :: b :: r) = a ++ sep ++ joinSep sep (b :: r) := rfl

theorem joinSep_cons (sep a : String) (X : List String) :
    joinSep sep (a :: X) = if X.isEmpty then a else a ++ sep ++ joinSep sep X := by
  cases X <;> rfl

theorem joinSep_append (sep : String) : ∀ (A B : List String), A ≠ [] →
    joinSep sep (A ++ B) = if B.isEmpty then joinSep sep A else joinSep sep A ++ sep ++ joinSep sep B
  | [], _, h => absurd rfl h
  | [a], B, _ => by
    cases B <;> simp [joinSep_cons, joinSep]
  | a :: b :: A, B, _ => by
    have ih := joinSep_append sep (b :: A) B (by simp)
    rw [List.cons_append, List.cons_append, joinSep_cons_cons, ← List.cons_append, ih, joinSep_cons_cons]
    split <;> simp [String.append_assoc]

/-- `A.B.C` -/
def dotted : List String → String := joinSep "."

mutual
/-- the layout of `TSType::print_type`, on syntax trees -/
def layoutTy : Ty → String
  | .prim s => s
  | .ref n => n
  | .qref p => dotted p
  | .app f as => layoutTy f ++ "<" ++ joinSep ", " (layoutList as) ++ ">"
  | .strLit s => "\"" ++ s ++ "\""
  | .numLit s => s
  | .obj fs => if fs.isEmpty then "{}" else "{\n" ++ layoutFields fs ++ "}"
  | .arr t => "(" ++ layoutTy t ++ ")[]"
  | .roArr t => "readonly (" ++ layoutTy t ++ ")[]"
  | .union ts => if ts.isEmpty then "never" else joinSep " | " (layoutList ts)
  | .inter ts => if ts.isEmpty then "unknown" else joinSep " & " (layoutList ts)
  | .fn _ _ => ""
  | .index _ _ => ""
  | .tuple _ => ""
  | .other _ ps => "(" ++ joinSep "" ps ++ ")"
def layoutList : List Ty → List String
  | [] => []
  | t :: ts => layoutTy t :: layoutList ts
/-- one property per line: `[readonly ]key[?]: type;` (a key that is not an identifier is quoted) -/
def layoutFields : List Field → String
  | [] => ""
  | (k, ro, opt, t) :: r =>
    (if ro then "readonly " else "") ++ (if SchemaDecls.isRawIdent k then k else "\"" ++ k ++ "\"")
      ++ (if opt then "?" else "") ++ ": " ++ layoutTy t ++ ";\n" ++ layoutFields r
end

mutual
/-- a printer-level type as a syntax tree: positions dropped, structure kept (a union inside a union stays nested) -/
def erase : TSTy → Ty
  | .var n _ => .ref n
  | .func f args => .app (erase f) (eraseList args)
  | .strLit s => .strLit s
  | .ns2 a b => .qref [a, b]
  | .ns3 a b c => .qref [a, b, c]
  | .obj fs => .obj (eraseFields fs)
  | .arr t => .arr (erase t)
  | .roArr t => .roArr (erase t)
  | .union ts => .union (eraseList ts)
  | .inter ts => .inter (eraseList ts)
  | .undefined => .prim "undefined"
  | .null => .prim "null"
  | .never => .prim "never"
  | .unknown => .prim "unknown"
  | .raw s => .other "raw" [s]
def eraseList : List TSTy → List Ty
  | [] => []
  | t :: ts => erase t :: eraseList ts
def eraseFields : List TSField → List Field
  | [] => []
  | .mk k _ ty ro opt _ :: r => (k, ro, opt, erase ty) :: eraseFields r
end

theorem eraseList_isEmpty (ts : List TSTy) : (eraseList ts).isEmpty = ts.isEmpty := by cases ts <;> rfl
theorem eraseFields_isEmpty (fs : List TSField) : (eraseFields fs).isEmpty = fs.isEmpty := by
  cases fs with
  | nil => rfl
  | cons f r => cases f; rfl

mutual
theorem rawText_printTy : ∀ t : TSTy, t.simple = true → rawText (printTy t) = layoutTy (erase t)
  | .var n p, _ => by simp [printTy, erase, layoutTy]
  | .func f args, h => by
    simp only [TSTy.simple, Bool.and_eq_true] at h
    simp [-String.reduceAppend, printTy, erase, layoutTy, rawText_printTy f h.1, (rawText_printSep ", " args h.2).1,
      String.append_assoc]
  | .strLit s, _ => by simp [printTy, erase, layoutTy, String.append_assoc]
  | .ns2 a b, _ => by simp [printTy, erase, layoutTy, dotted, joinSep, String.append_assoc]
  | .ns3 a b c, _ => by simp [printTy, erase, layoutTy, dotted, joinSep, String.append_assoc]
  | .obj fs, h => by
    simp only [TSTy.simple] at h
    simp only [printTy, erase, layoutTy, eraseFields_isEmpty]
    split
    · simp
    · simp [rawText_printFields fs h, String.append_assoc]
  | .arr t, h => by
    simp only [TSTy.simple] at h
    simp [printTy, erase, layoutTy, rawText_printTy t h, String.append_assoc]
  | .roArr t, h => by
    simp only [TSTy.simple] at h
    simp [printTy, erase, layoutTy, rawText_printTy t h, String.append_assoc]
  | .union ts, h => by
    simp only [TSTy.simple] at h
    simp only [printTy, erase, layoutTy, eraseList_isEmpty]
    split
    · simp
    · exact (rawText_printSep " | " ts h).1
  | .inter ts, h => by
    simp only [TSTy.simple] at h
    simp only [printTy, erase, layoutTy, eraseList_isEmpty]
    split
    · simp
    · exact (rawText_printSep " & " ts h).1
  | .undefined, _ => by simp [printTy, erase, layoutTy]
  | .null, _ => by simp [printTy, erase, layoutTy]
  | .never, _ => by simp [printTy, erase, layoutTy]
  | .unknown, _ => by simp [printTy, erase, layoutTy]
  | .raw s, _ => by simp [printTy, erase, layoutTy, joinSep, String.append_assoc]
/-- the loop over members: the separator before every member but the first -/
theorem rawText_printSep : ∀ (sep : String) (ts : List TSTy), simpleList ts = true →
    rawText (printSep sep ts true) = joinSep sep (layoutList (eraseList ts)) ∧
    (ts ≠ [] → rawText (printSep sep ts false) = sep ++ joinSep sep (layoutList (eraseList ts)))
  | _, [], _ => by simp [printSep, eraseList, layoutList, joinSep]
  | sep, [t], h => by
    simp only [simpleList, Bool.and_eq_true] at h
    simp [printSep, eraseList, layoutList, joinSep, rawText_printTy t h.1]
  | sep, t :: u :: ts, h => by
    simp only [simpleList, Bool.and_eq_true] at h
    have ih := (rawText_printSep sep (u :: ts) (by simp [simpleList, h.2])).2 (by simp)
    have ht := rawText_printTy t h.1
    constructor
    · rw [printSep]
      simp only [if_true, List.nil_append, rawText_append, ht, ih]
      simp [eraseList, layoutList, joinSep_cons_cons, String.append_assoc]
    · intro _
      rw [printSep]
      simp only [Bool.false_eq_true, if_false, rawText_append, ht, ih]
      simp [eraseList, layoutList, joinSep_cons_cons, String.append_assoc]
theorem rawText_printFields : ∀ fs : List TSField, simpleFields fs = true →
    rawText (printFields fs) = layoutFields (eraseFields fs)
  | [], _ => by simp [printFields, eraseFields, layoutFields]
  | .mk k kp ty ro opt d :: r, h => by
    simp only [simpleFields, Bool.and_eq_true, decide_eq_true_eq] at h
    obtain ⟨⟨⟨rfl, hd⟩, h2⟩, h3⟩ := h
    have hd' : d = none := by cases d <;> simp_all
    subst hd'
    cases ro <;> cases opt <;> cases hk : SchemaDecls.isRawIdent k <;>
      simp [-String.reduceAppend, printFields, optDescOps, eraseFields, layoutFields, hk, rawText_printTy ty h2,
        rawText_printFields r h3, String.append_assoc]
end

end NitroVerif.PrintMap
