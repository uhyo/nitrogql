/-
The documents returned by the round trip differ from the given ones only in positions: `erasePos (wpDoc …) = erasePos doc`,
with the position-erasing functions of `Spec/ReadDoc.lean`.
-/
import NitroVerif.Lemmas.ParseDocExec
import NitroVerif.Spec.ReadDoc
namespace NitroVerif.DocParse
open NitroVerif.Peg NitroVerif.Gen NitroVerif.Build NitroVerif.TypeParse NitroVerif.StringParse
open NitroVerif.Gql NitroVerif.ValueParse NitroVerif.ReadDoc

theorem mapItems_map_mem {α β γ : Type} (ri : Bool → Nat → α → List Char) (sm sl : Bool) (f : Bool → Nat → α → β)
    (g : β → γ) (g' : α → γ) : ∀ (as : List α) (p : Nat), (∀ a ∈ as, ∀ s p, g (f s p a) = g' a) →
    (mapItems ri sm sl f p as).map g = as.map g' := by
  intro as
  induction as with
  | nil => intro p _; rfl
  | cons a r ih =>
    intro p h
    cases r with
    | nil => simp [mapItems, h a (List.mem_cons_self ..)]
    | cons b r =>
      simp only [mapItems, List.map_cons, h a (List.mem_cons_self ..)]
      rw [ih _ (fun x hx => h x (List.mem_cons_of_mem _ hx))]
      rfl

theorem mapItems_map {α β γ : Type} (ri : Bool → Nat → α → List Char) (sm sl : Bool) (f : Bool → Nat → α → β)
    (g : β → γ) (g' : α → γ) (h : ∀ s p a, g (f s p a) = g' a) (as : List α) (p : Nat) :
    (mapItems ri sm sl f p as).map g = as.map g' :=
  mapItems_map_mem ri sm sl f g g' as p fun a _ s p => h s p a

theorem eraseDir_withPosD (τ : Trivia) (inp : List Char) (q : Nat) (d : Directive) :
    eraseDir (withPosD τ inp q d) = eraseDir d := by
  simp [eraseDir, withPosD, eraseArgs, withPosFs_erase]

theorem erase_wpDirs (τ : Trivia) (inp : List Char) (sep : Bool) (p : Nat) (ds : List Directive) :
    (wpDirs τ inp sep p ds).map eraseDir = ds.map eraseDir :=
  mapItems_map _ _ _ _ eraseDir eraseDir (fun _ q d => eraseDir_withPosD τ inp q d) ds p

theorem erase_wpAlias (inp : List Char) (p : Nat) (al : Option (Name × Pos)) :
    eraseOptName (wpAlias inp p al) = eraseOptName al := by
  cases al with
  | none => rfl
  | some a => rfl

theorem erase_wpCond (τ : Trivia) (inp : List Char) (p : Nat) (c : Option (Name × Pos)) :
    eraseOptName (wpCond τ inp p c) = eraseOptName c := by
  cases c with
  | none => rfl
  | some a => rfl

mutual
theorem erase_wpSel (τ : Trivia) (inp : List Char) : (s : Selection) → ∀ sep p,
    eraseSel (wpSel τ inp sep p s) = eraseSel s
  | .field al n np args dirs none => fun sep p => by
    simp [wpSel, wpField, eraseSel, erase_wpAlias, erase_wpDirs, eraseArgs, withPosFs_erase]
  | .field al n np args dirs (some ss) => fun sep p => by
    simp [wpSel, wpField, eraseSel, erase_wpAlias, erase_wpDirs, eraseArgs, withPosFs_erase, erase_wpSels τ inp ss]
  | .spread n np dirs pos => fun sep p => by simp [wpSel, eraseSel, erase_wpDirs]
  | .inline c dirs ss pos => fun sep p => by
    simp [wpSel, eraseSel, erase_wpCond, erase_wpDirs, erase_wpSels τ inp ss]
theorem erase_wpSels (τ : Trivia) (inp : List Char) : (ss : List Selection) → ∀ p,
    eraseSels (wpSels τ inp p ss) = eraseSels ss
  | [] => fun p => by simp [wpSels, eraseSels]
  | [s] => fun p => by simp [wpSels, eraseSels, erase_wpSel τ inp s]
  | s :: t :: r => fun p => by
    simp [wpSels, eraseSels, erase_wpSel τ inp s, erase_wpSels τ inp (t :: r)]
end

theorem erase_wpType (τ : Trivia) (inp : List Char) (t : GType) : ∀ p, (wpType τ inp p t).erasePos = t.erasePos := by
  induction t with
  | named n pos => intro p; simp [wpType, GType.erasePos]
  | list t pos ih => intro p; simp [wpType, GType.erasePos, ih]
  | nonNull t ih => intro p; simp [wpType, GType.erasePos, ih]

theorem erase_wpVarDef (τ : Trivia) (inp : List Char) (sep : Bool) (p : Nat) (v : VarDef) :
    eraseVarDef (wpVarDef τ inp sep p v) = eraseVarDef v := by
  cases hd : v.default with
  | none => simp [eraseVarDef, wpVarDef, erase_wpType, erase_wpDirs, hd, wpOptDefault]
  | some d => simp [eraseVarDef, wpVarDef, erase_wpType, erase_wpDirs, hd, wpOptDefault, withPosV_erase]

theorem erase_wpVarDefs (τ : Trivia) (inp : List Char) (p : Nat) (vs : List VarDef) :
    (wpVarDefs τ inp p vs).map eraseVarDef = vs.map eraseVarDef :=
  mapItems_map _ _ _ _ eraseVarDef eraseVarDef (fun s q v => erase_wpVarDef τ inp s q v) vs p

theorem erase_wpOp (τ : Trivia) (inp : List Char) (p : Nat) (o : OperationDef) : eraseOp (wpOp τ inp p o) = eraseOp o := by
  cases hn : o.name with
  | none => simp [eraseOp, wpOp, erase_wpVarDefs, erase_wpDirs, erase_wpSels, hn, eraseOptName]
  | some a => simp [eraseOp, wpOp, erase_wpVarDefs, erase_wpDirs, erase_wpSels, hn, eraseOptName]

theorem erase_wpOpShort (τ : Trivia) (inp : List Char) (p : Nat) (o : OperationDef) (h : isPlain o = true) :
    eraseOp (wpOpShort τ inp p o) = eraseOp o := by
  simp only [isPlain, Bool.and_eq_true, Option.isNone_iff_eq_none, List.isEmpty_iff] at h
  obtain ⟨⟨⟨hk, hn⟩, hv⟩, hd⟩ := h
  have hk' : o.kind = .query := by
    cases hkk : o.kind with
    | query => rfl
    | mutation => rw [hkk] at hk; exact absurd hk (by decide)
    | subscription => rw [hkk] at hk; exact absurd hk (by decide)
  simp [eraseOp, wpOpShort, erase_wpSels, hk', hn, hv, hd, eraseOptName]

theorem erase_wpFrag (τ : Trivia) (inp : List Char) (p : Nat) (f : FragmentDef) :
    eraseFrag (wpFrag τ inp p f) = eraseFrag f := by
  simp [eraseFrag, wpFrag, erase_wpDirs, erase_wpSels]

theorem erase_wpDef (τ : Trivia) (inp : List Char) (sh : Nat → Bool) (sep : Bool) (p : Nat) (d : ExecDef) :
    eraseDef (wpDef τ inp sh sep p d) = eraseDef d := by
  cases d with
  | op o =>
    simp only [wpDef]
    split
    · rename_i hc
      simp only [Bool.and_eq_true] at hc
      simp [eraseDef, erase_wpOpShort τ inp p o hc.2]
    · simp [eraseDef, erase_wpOp]
  | frag f => simp [wpDef, eraseDef, erase_wpFrag]
  | imp i => rfl

theorem erase_wpDoc (τ : Trivia) (sh : Nat → Bool) (inp : List Char) (doc : List ExecDef) :
    erasePos (wpDoc τ sh inp doc) = erasePos doc :=
  mapItems_map _ _ _ _ eraseDef eraseDef (fun s q d => erase_wpDef τ inp sh s q d) doc _

end NitroVerif.DocParse
