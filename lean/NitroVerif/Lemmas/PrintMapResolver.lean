import NitroVerif.Lemmas.PrintMapSchema
/-!
# C06 — printer call sites: the resolver type printer (no plugins)

`resolverSites doc` is a closed form of the `write_for` calls with a non-builtin position that
`ResolverTypePrinter::print_document` performs, in order; the aliases, the `Resolvers` object and the `ResolverOutput` object of the modelled operation
sequence project onto its three parts (`resolver_sites_exact` in `Props/C06Sites.lean` puts them together).
-/
namespace NitroVerif.PrintMap
open NitroVerif.Gql NitroVerif.DeclCfg NitroVerif.SchemaDecls

/-- the reference to a named type through its `TypeVariable` -/
def refSites (possible : List (Name × Pos)) : List POp := possible.flatMap fun m => node m.1 m.2 m.1

/-- the (name, name node) pairs of the object types implementing an interface -/
def implementerNodes (s : Schema) (iface : Name) : List (Name × Pos) :=
  (s.objectImplementers iface).map fun n => (n, nameNodeOf s n)

/-- `type <Name> = <resolver output type>;` -/
def outputAliasSites (s : Schema) (td : TypeDef) : List POp :=
  node td.name td.namePos td.name
  ++ (match td.kind with
      | .interface => refSites (implementerNodes s td.name)
      | .union => refSites td.members
      | _ => [])

/-- one field of an object type in `Resolvers<Context>`: its key, the parent type reference, the argument keys, the
    reference to the field's named type -/
def fieldResolverSites (td : TypeDef) (f : FieldDef) : List POp :=
  keySites f.name f.pos ++ node td.name td.namePos td.name
  ++ f.args.flatMap (fun a => keySites a.name a.pos)
  ++ node f.ty.unwrapped (leafPos f.ty) f.ty.unwrapped

/-- the entry of a type in `Resolvers<Context>` -/
def rootEntrySites (s : Schema) (td : TypeDef) : List POp :=
  match td.kind with
  | .object => keySites td.name td.namePos ++ td.fields.flatMap (fieldResolverSites td)
  | .interface => keySites td.name td.namePos ++ refSites (implementerNodes s td.name)
  | .union => keySites td.name td.namePos ++ refSites td.members
  | _ => []

/-- closed form of the mapped calls of `ResolverTypePrinter::print_document`, in order -/
def resolverSites (doc : TsDoc) : List POp :=
  let s : Schema := ⟨doc⟩
  let tds := typeDefsOf doc
  let outs := tds.filter (·.kind != .input)
  outs.flatMap (outputAliasSites s)
  ++ tds.flatMap (rootEntrySites s)
  ++ outs.flatMap (fun td => keySites td.name td.namePos ++ node td.name td.namePos td.name)

theorem tySites_resolverOutputTy (s : Schema) (td : TypeDef) :
    tySites (resolverOutputTy s td) =
      (match td.kind with
       | .interface => refSites (implementerNodes s td.name)
       | .union => refSites td.members
       | _ => []) := by
  unfold resolverOutputTy
  cases hk : td.kind <;>
    simp [tySites, tySitesList, tySites_tsUnion, tySitesList_map, refSites, implementerNodes, List.flatMap_map]

theorem tySites_argumentsTy (args : List InputValueDef) :
    tySites (argumentsTy args) = args.flatMap (fun a => keySites a.name a.pos) := by
  unfold argumentsTy
  rw [tySites_intoReadonly]
  simp only [tySites]
  rw [fieldSites_map]
  congr 1
  funext a
  simp [plainField, fieldSites, keySites, tySites_tsOfType, tySites]

theorem tySites_typeResolverTy (possible : List (Name × Pos)) :
    tySites (typeResolverTy possible) = refSites possible := by
  unfold typeResolverTy
  simp [tySites, fieldSites, plainField, tySitesList, tySites_tsUnion, tySitesList_map, refSites]

theorem fieldSites_rootEntry (s : Schema) (td : TypeDef) :
    (match resolverTy s td with
     | some t => fieldSites [TSField.mk td.name td.namePos t false (isEmptyObj t) none]
     | none => []) = rootEntrySites s td := by
  unfold resolverTy rootEntrySites
  cases hk : td.kind <;> simp only [fieldSites, List.append_nil]
  · -- object
    simp only [tySites, keySites]
    congr 1
    rw [fieldSites_map]
    congr 1
    funext f
    simp [plainField, fieldSites, tySites, tySitesList, tySites_argumentsTy, tySites_tsOfType, fieldResolverSites,
      keySites]
  · -- interface
    simp only [keySites]
    congr 1
    rw [tySites_typeResolverTy]
    simp [implementerNodes]
  · -- union
    simp only [keySites]
    congr 1
    exact tySites_typeResolverTy _

theorem aliases_mapped (s : Schema) (l : List TypeDef) :
    mappedOps (l.flatMap (fun td =>
      [POp.write "type ", .writeFor td.name td.namePos (some td.name), .write " = "]
      ++ printTy (resolverOutputTy s td) ++ [.write ";\n"])) = l.flatMap (outputAliasSites s) := by
  rw [mappedOps_flatMap]
  congr 1
  funext td
  simp [mapped_printTy, tySites_resolverOutputTy, outputAliasSites]

theorem tySites_rootObj (s : Schema) (tds : List TypeDef) :
    tySites (.obj (tds.filterMap fun td =>
      match resolverTy s td with
      | some t => some (TSField.mk td.name td.namePos t false (isEmptyObj t) none)
      | none => none)) = tds.flatMap (rootEntrySites s) := by
  simp only [tySites]
  rw [fieldSites_filterMap]
  congr 1
  funext td
  rw [← fieldSites_rootEntry s td]
  cases resolverTy s td <;> rfl

theorem tySites_namesUnion (l : List TypeDef) : tySites (tsUnion (l.map fun td => TSTy.strLit td.name)) = [] := by
  simp [tySites_tsUnion, tySitesList_map, tySites]

theorem tySites_outputObj (l : List TypeDef) :
    tySites (.obj (l.map fun td => plainField td.name td.namePos (.var td.name td.namePos) none)) =
      l.flatMap (fun td => keySites td.name td.namePos ++ node td.name td.namePos td.name) := by
  simp only [tySites]
  rw [fieldSites_map]
  simp [plainField, fieldSites, tySites, keySites]

end NitroVerif.PrintMap
