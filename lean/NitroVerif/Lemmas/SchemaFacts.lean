/-
What the lookups of a type-system document (`Gql.Schema`) and of an operation document return: a definition found by name
is a definition of the document and carries that name; the checker's fragment table and the operation type printer's are
the same function.  A fact stands in the namespace of the definition it is about, so whether its short name resolves depends
on the `open` lines of the user.
-/
import NitroVerif.Model.CheckOp
import NitroVerif.Model.OpTypes
import NitroVerif.Model.SchemaDecls
import NitroVerif.Lemmas.Collects
import NitroVerif.Lemmas.ListFacts

namespace NitroVerif.Gql

theorem typeKind_beq (a b : TypeKind) : (a == b) = decide (a = b) := by
  cases a <;> cases b <;> rfl

theorem opKind_beq (a b : OpKind) : (a == b) = decide (a = b) := by
  cases a <;> cases b <;> rfl

/-- "an object type that lists interface `i`": the test behind `objectImplementers` and the printer's `implementers` -/
def isImplementer (i : Name) (o : TypeDef) : Bool := o.kind == .object && o.implements.any (·.1 == i)

namespace Schema

theorem typeDef?_mem {S : Schema} {n : Name} {td : TypeDef} (h : S.typeDef? n = some td) : td ∈ S.typeDefs :=
  List.mem_of_find?_eq_some h

theorem typeDef?_name {S : Schema} {n : Name} {td : TypeDef} (h : S.typeDef? n = some td) : td.name = n :=
  beq_iff_eq.mp (List.find?_some (p := fun t : TypeDef => t.name == n) h)

theorem kindOf_of_typeDef {S : Schema} {n : Name} {td : TypeDef} (h : S.typeDef? n = some td) :
    S.kindOf? n = some td.kind := by
  simp [Schema.kindOf?, h]

theorem typeDef?_of_mem {S : Schema} (hnd : (S.typeDefs.map (·.name)).Nodup) {td : TypeDef} (h : td ∈ S.typeDefs) :
    S.typeDef? td.name = some td :=
  find?_key_of_nodup (fun t : TypeDef => t.name) hnd h

theorem directiveDef?_mem {S : Schema} {n : Name} {dd : DirectiveDef} (h : S.directiveDef? n = some dd) :
    dd ∈ S.directiveDefs :=
  List.mem_of_find?_eq_some h

theorem directiveDef?_name {S : Schema} {n : Name} {dd : DirectiveDef} (h : S.directiveDef? n = some dd) : dd.name = n :=
  beq_iff_eq.mp (List.find?_some (p := fun d : DirectiveDef => d.name == n) h)

theorem mem_typeNames_iff (S : Schema) (n : Name) : n ∈ S.typeNames ↔ n ∈ S.typeDefs.map (·.name) := by
  rw [typeNames, foldl_dedup_mem (fun t : TypeDef => t.name)]
  exact or_iff_right List.not_mem_nil

theorem mem_typeNames {S : Schema} {td : TypeDef} (h : td ∈ S.typeDefs) : td.name ∈ S.typeNames :=
  (mem_typeNames_iff S _).2 (List.mem_map_of_mem h)

end Schema
end NitroVerif.Gql

namespace NitroVerif.CheckCommon
open NitroVerif.Gql

theorem baseNamed_fst (t : GType) : (baseNamed t).1 = t.unwrapped := by
  induction t with
  | named n p => rfl
  | list t p ih => exact ih
  | nonNull t ih => exact ih

end NitroVerif.CheckCommon

namespace NitroVerif.CheckOp
open NitroVerif.Gql

theorem mem_fragsOf {D : Doc} {f : FragmentDef} : f ∈ fragsOf D ↔ ExecDef.frag f ∈ D := by
  rw [fragsOf, List.mem_filterMap]
  constructor
  · rintro ⟨x, hx, h⟩
    cases x <;> cases h
    exact hx
  · exact fun h => ⟨_, h, rfl⟩

theorem fragMap_cons (d : ExecDef) (r : Doc) (n : Name) :
    fragMap (d :: r) n =
      (fragMap r n).or (match d with | .frag f => if f.name == n then some f else none | _ => none) := by
  cases d with
  | frag f =>
    show (f :: fragsOf r).reverse.find? _ = _
    rw [List.reverse_cons, List.find?_append, List.find?_singleton]
    rfl
  | op o => exact Option.or_none.symm
  | imp i => exact Option.or_none.symm

theorem fragMap_eq_some {D : Doc} {n : Name} {f : FragmentDef} (h : fragMap D n = some f) :
    f ∈ fragsOf D ∧ f.name = n :=
  ⟨List.mem_reverse.mp (List.mem_of_find?_eq_some h),
    beq_iff_eq.mp (List.find?_some (p := fun g : FragmentDef => g.name == n) h)⟩

end NitroVerif.CheckOp

namespace NitroVerif.OpTypes
open NitroVerif.Gql

/-- `fragments` of the printer and `generate_fragment_map` of the checker are both collected into a `HashMap` in
    document order -/
theorem fragsOf_eq_fragMap (D : Doc) (n : Name) : fragsOf D n = CheckOp.fragMap D n := by
  rw [← Option.or_none (o := CheckOp.fragMap D n), fragsOf]
  generalize (none : Option FragmentDef) = acc
  induction D generalizing acc with
  | nil => rfl
  | cons d r ih =>
    rw [List.foldl_cons, ih, CheckOp.fragMap_cons, Option.or_assoc]
    cases d with
    | frag f => dsimp only; split <;> rfl
    | op o => rfl
    | imp i => rfl

end NitroVerif.OpTypes

namespace NitroVerif.SchemaDecls
open NitroVerif.Gql

theorem typeDefs_eq (doc : TsDoc) : (Schema.mk doc).typeDefs = typeDefsOf doc := rfl

theorem typeDefsOf_append (a b : TsDoc) : typeDefsOf (a ++ b) = typeDefsOf a ++ typeDefsOf b := by
  simp [typeDefsOf, List.filterMap_append]

theorem mem_typeDefsOf {doc : TsDoc} {td : TypeDef} : td ∈ typeDefsOf doc ↔ TsItem.typeDef td ∈ doc := by
  rw [typeDefsOf, List.mem_filterMap]
  constructor
  · rintro ⟨it, hit, h⟩
    cases it <;> cases h
    exact hit
  · exact fun h => ⟨_, h, rfl⟩

end NitroVerif.SchemaDecls
