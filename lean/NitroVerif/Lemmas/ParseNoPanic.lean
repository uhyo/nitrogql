/-
`parse_no_panic` (helper lemmas for Props/C08): validated parse trees are the second instance of the walk through the builders.
`Good inp p` is what is known of a pair of a parse tree of `inp` that passed `validate_unicode_escapes`. Where a builder reads the
text of a pair it fails on `Good` pairs only with the model's depth bound (the loop of `build_string_value` because the validation
passed, the other sites by `Lemmas/ParseText.lean`), so `Good inp` with `(· = .fuel)` is a `Walk` (`walk_quiet`). A successful
parse with a normal start rule returns one pair of that rule, which is `Good` if the validation finds nothing; hence `parseWith`
cannot return `Outcome.panic`.
-/
import NitroVerif.Lemmas.BuildWalkTs
import NitroVerif.Lemmas.ParseText
namespace NitroVerif.Shape
open NitroVerif.Peg NitroVerif.Gen NitroVerif.Gen.Parts NitroVerif.Build NitroVerif.ParseText

/-- the computation ends in a value or in the model's own depth bound, no Rust panic: `ErrIn (· = .fuel)` written out (the
    theorems `quiet_build*Document` below are stated with it); the `Quiet.*` lemmas are `ErrIn`'s under this name, for dot notation -/
def Quiet {α} (r : M α) : Prop := ∀ e, r = .error e → e = Panic.fuel

theorem Quiet.ok {α} (a : α) : Quiet (.ok a : M α) := ErrIn.ok a
theorem Quiet.of_eq {α} {r : M α} {a : α} (h : r = .ok a) : Quiet r := ErrIn.of_eq h
theorem Quiet.of_ex {α} {r : M α} (h : ∃ a, r = .ok a) : Quiet r := let ⟨_, h⟩ := h; ErrIn.of_eq h
theorem Quiet.bind {α β} {m : M α} {f : α → M β} (hm : Quiet m) (hf : ∀ a, m = .ok a → Quiet (f a)) :
    Quiet (m >>= f) := ErrIn.bind hm hf
theorem Quiet.map {α β} {m : M α} {f : α → β} (hm : Quiet m) : Quiet (f <$> m) := ErrIn.map hm
theorem Quiet.ite {α} {c : Prop} [Decidable c] {t e : M α} (ht : c → Quiet t) (he : ¬ c → Quiet e) :
    Quiet (if c then t else e) := ErrIn.ite ht he

/-- a pair of a validated parse tree of `inp`: children in the shape of the grammar down the tree, witnessed by an evaluation
    of its rule's body on `inp`, and every `NormalStringValue` pair below it passed the loop of `validate_unicode_escapes` -/
structure Good (inp : List Char) (p : Pair) : Prop where
  deep : DeepOk gList p
  wit : Wit gList inp p
  esc : ∀ q ∈ flat p, q.rule = R.NormalStringValue → scanEscapes (Ctx.spec inp) none (stringCharacters q) = none

theorem Good.child {inp : List Char} {p c : Pair} (h : Good inp p) (hc : c ∈ p.children) : Good inp c :=
  ⟨(deep_parts h.deep).2 c hc, h.wit.children c hc, fun q hq hr => h.esc q (child_flat hc hq) hr⟩

theorem hered_good {inp : List Char} : Hered (Good inp) := ⟨fun h => h.deep, fun h hc => h.child hc⟩

theorem escape_decodes {digits : List Char} (h : escapeDenotesChar digits = true) :
    ∃ c, (parseHexU32 digits >>= fun n => charFromU32 n) = .ok c := by
  unfold escapeDenotesChar at h
  cases hp : parseHexU32 digits with
  | error e => simp [hp] at h
  | ok n =>
    simp only [hp] at h
    exact ⟨Char.ofNat n, by simp [bind, Except.bind, charFromU32, h]⟩

theorem quiet_decodeChar {inp : List Char} {sc ch : Pair}
    (hoc : onlyChildOf OC_StringCharacter "StringCharacter" sc = .ok ch) (hch : ch.rule ∈ OC_StringCharacter)
    (hgch : Good inp ch) (hne : ch.rule ≠ R.EscapedUnicode4)
    (hbr : ch.rule = R.EscapedUnicodeBrace → escapeDenotesChar (((asStr (Ctx.spec inp) ch).drop 3).take
      ((asStr (Ctx.spec inp) ch).length - 4)) = true) :
    Quiet (decodeChar (Ctx.spec inp) sc) := by
  rw [decodeChar, hoc, ok_bind]
  refine Quiet.ite (fun h1 => ?_) fun h1 => Quiet.ite (fun h2 => absurd h2 hne) fun _ => Quiet.ite (fun h3 => ?_)
    fun h3 => Quiet.ite (fun h4 => ?_) fun h4 => ?_
  · obtain ⟨d, od⟩ := hered_good.only ⟨hgch, h1⟩ "EscapedUnicodeBrace" OC_EscapedUnicodeBrace
    obtain ⟨d', hd', htxt⟩ := unicodeBrace_child hgch.wit h1
    obtain rfl : d = d' := (List.cons.inj (od.children.symm.trans hd')).1
    rw [od.of, ok_bind]
    exact Quiet.of_ex (escape_decodes (htxt ▸ hbr h1))
  · exact Quiet.of_ex (escapedCharacter_ok hgch.wit h3)
  · obtain ⟨d, hd⟩ := normalChar_text hgch.wit h4
    rw [hd]
    exact Quiet.ok _
  · exact absurd hch (by simp [OC_StringCharacter, h1, hne, h3, h4])

theorem hexOk_some {digits : List Char} {c : Nat} (h : hexOk digits = some c) : parseHexU32 digits = .ok c := by
  unfold hexOk at h
  cases hp : parseHexU32 digits with
  | ok n => rw [hp] at h; cases h; rfl
  | error e => rw [hp] at h; cases h

theorem unicode4Code_of_hexOk {inp : List Char} {ch : Pair} {c : Nat} (hw : Wit gList inp ch)
    (hr : ch.rule = R.EscapedUnicode4) (h : hexOk ((asStr (Ctx.spec inp) ch).drop 2) = some c) :
    unicode4Code (Ctx.spec inp) ch = .ok c := by
  have hlen := unicode4_len hw hr
  unfold unicode4Code
  dsimp only
  rw [if_neg (by omega)]
  exact hexOk_some h

/-- the characters of a string are `StringCharacter` pairs of the tree -/
def CharsOk (inp : List Char) (l : List Pair) : Prop := ∀ sc ∈ l, sc.rule = R.StringCharacter ∧ Good inp sc

theorem charsOk_head {inp : List Char} {sc : Pair} {rest : List Pair} (h : CharsOk inp (sc :: rest)) :
    ∃ ch, OnlyOf (Good inp) OC_StringCharacter "StringCharacter" sc ch ∧ ch.rule ∈ OC_StringCharacter := by
  obtain ⟨hr, hg⟩ := h sc (List.mem_cons_self ..)
  obtain ⟨ch, och⟩ := hered_good.only ⟨hg, hr⟩ "StringCharacter" OC_StringCharacter
  exact ⟨ch, och, och.arm.resolve_left (by decide)⟩

/-! what `validate_unicode_escapes` has checked of the first character when its loop finds nothing -/

theorem scanEscapes_none_u4 {ctx : Ctx} {ch : Pair} {rest : List Pair} (hu : ch.rule = R.EscapedUnicode4)
    (h : scanEscapes ctx none (ch :: rest) = none) : ∃ c, hexOk ((asStr ctx ch).drop 2) = some c ∧
      ((isLeadSurrogate c = true ∧ scanEscapes ctx (some ch) rest = none) ∨
        (isLeadSurrogate c = false ∧ validScalar c = true ∧ scanEscapes ctx none rest = none)) := by
  cases hx : hexOk ((asStr ctx ch).drop 2) with
  | none => simp [scanEscapes, hu, hx] at h
  | some c =>
    simp only [scanEscapes, hu, if_true, hx] at h
    refine ⟨c, rfl, ?_⟩
    cases hl : isLeadSurrogate c with
    | true => exact Or.inl ⟨rfl, by simpa [hl] using h⟩
    | false =>
      cases hv : validScalar c with
      | true => exact Or.inr ⟨rfl, rfl, by simpa [hl, hv] using h⟩
      | false => simp [hl, hv] at h

theorem scanEscapes_none_other {ctx : Ctx} {ch : Pair} {rest : List Pair} (hu : ch.rule ≠ R.EscapedUnicode4)
    (h : scanEscapes ctx none (ch :: rest) = none) : scanEscapes ctx none rest = none ∧
      (ch.rule = R.EscapedUnicodeBrace → escapeDenotesChar (((asStr ctx ch).drop 3).take ((asStr ctx ch).length - 4)) = true) := by
  simp only [scanEscapes, hu, if_false] at h
  by_cases hb : ch.rule = R.EscapedUnicodeBrace
  · simp only [hb, if_true] at h
    by_cases he : escapeDenotesChar (((asStr ctx ch).drop 3).take ((asStr ctx ch).length - 4)) = true
    · exact ⟨by simpa [he] using h, fun _ => he⟩
    · simp [he] at h
  · simp only [hb, if_false] at h
    exact ⟨h, fun hb' => absurd hb' hb⟩

theorem scanEscapes_some {ctx : Ctx} {lead ch : Pair} {rest : List Pair} (h : scanEscapes ctx (some lead) (ch :: rest) = none) :
    ch.rule = R.EscapedUnicode4 ∧ ∃ c, hexOk ((asStr ctx ch).drop 2) = some c ∧ isTrailSurrogate c = true ∧
      scanEscapes ctx none rest = none := by
  by_cases hu : ch.rule = R.EscapedUnicode4
  · cases hx : hexOk ((asStr ctx ch).drop 2) with
    | none => simp [scanEscapes, hu, hx] at h
    | some c =>
      simp only [scanEscapes, hu, if_true, hx] at h
      cases ht : isTrailSurrogate c with
      | true => exact ⟨hu, c, rfl, ht, by simpa [ht] using h⟩
      | false => simp [ht] at h
  · simp only [scanEscapes, hu, if_false] at h
    by_cases hb : ch.rule = R.EscapedUnicodeBrace
    · simp only [hb, if_true] at h; cases h
    · simp only [hb, if_false] at h; cases h

/-- (a) no lead is pending; (b) a leading surrogate is pending: the next character is its trailing surrogate, which the builder
    peeks and skips -/
theorem quiet_decodeChars {inp : List Char} : ∀ (l : List Pair), CharsOk inp l →
    (scanEscapes (Ctx.spec inp) none (l.flatMap Pair.children) = none → Quiet (decodeChars (Ctx.spec inp) false l)) ∧
    (∀ lead, scanEscapes (Ctx.spec inp) (some lead) (l.flatMap Pair.children) = none →
      (∃ t, peekTrailing (Ctx.spec inp) l = .ok (some t) ∧ isTrailSurrogate t = true) ∧
      Quiet (decodeChars (Ctx.spec inp) true l)) := by
  intro l
  induction l with
  | nil =>
    intro _
    refine ⟨fun _ => ?_, fun lead h => ?_⟩
    · rw [decodeChars_nil]; exact Quiet.ok _
    · cases h
  | cons sc rest ih =>
    intro hl
    obtain ⟨ch, och, hch⟩ := charsOk_head hl
    have hrest : CharsOk inp rest := fun x hx => hl x (List.mem_cons_of_mem _ hx)
    obtain ⟨iha, ihb⟩ := ih hrest
    have hflat : (sc :: rest).flatMap Pair.children = ch :: rest.flatMap Pair.children := by
      rw [List.flatMap_cons, och.children]; rfl
    rw [hflat]
    -- what the builder peeks at `rest` when nothing is pending there
    have hpeek : scanEscapes (Ctx.spec inp) none (rest.flatMap Pair.children) = none →
        ∃ tr, peekTrailing (Ctx.spec inp) rest = .ok tr := by
      intro hs
      cases rest with
      | nil => exact ⟨none, peekTrailing_nil _⟩
      | cons sc2 r2 =>
        obtain ⟨ch2, och2, -⟩ := charsOk_head hrest
        rw [peekTrailing_cons _ r2 och2.plain]
        by_cases hu2 : ch2.rule = R.EscapedUnicode4
        · rw [List.flatMap_cons, och2.children] at hs
          obtain ⟨c2, hx, _⟩ := scanEscapes_none_u4 hu2 hs
          exact ⟨_, trailingSurrogate_u4 _ hu2 (unicode4Code_of_hexOk och2.mem.wit hu2 hx)⟩
        · exact ⟨_, trailingSurrogate_other _ hu2⟩
    refine ⟨fun hs => ?_, fun lead hs => ?_⟩
    · by_cases hu : ch.rule = R.EscapedUnicode4
      · obtain ⟨code, hx, h⟩ := scanEscapes_none_u4 hu hs
        have hcode := unicode4Code_of_hexOk och.mem.wit hu hx
        rcases h with ⟨hlead, hs'⟩ | ⟨hlead, hv, hs'⟩
        · obtain ⟨⟨t, hpk, ht⟩, hq⟩ := ihb ch hs'
          rw [decodeChars_u4 _ rest och.of hu hcode hpk]
          refine Quiet.ite (fun _ => ?_) fun h => absurd hlead h
          exact (Quiet.of_eq (a := Char.ofNat (surrogatePairCode code t))
            (by rw [charFromU32, if_pos (surrogatePair_valid hlead ht).1])).bind fun _ _ => hq.map
        · obtain ⟨tr, hpk⟩ := hpeek hs'
          rw [decodeChars_u4 _ rest och.of hu hcode hpk]
          have arm : Quiet (charFromU32 code >>= fun c => (c :: ·) <$> decodeChars (Ctx.spec inp) false rest) :=
            (Quiet.of_eq (a := Char.ofNat code) (by rw [charFromU32, if_pos hv])).bind fun _ _ => (iha hs').map
          cases tr with
          | none => exact arm
          | some t => exact Quiet.ite (fun h => absurd h (by simp [hlead])) fun _ => arm
      · obtain ⟨hs', hbr⟩ := scanEscapes_none_other hu hs
        rw [decodeChars_other _ rest och.of hu]
        exact (quiet_decodeChar och.of hch och.mem hu hbr).bind fun _ _ => (iha hs').map
    · -- a lead is pending: this character must be its trailing surrogate
      obtain ⟨hu, code, hx, ht, hs'⟩ := scanEscapes_some hs
      refine ⟨⟨code, ?_, ht⟩, ?_⟩
      · rw [peekTrailing_cons _ rest och.plain, trailingSurrogate_u4 _ hu (unicode4Code_of_hexOk och.mem.wit hu hx), if_pos ht]
      · rw [decodeChars_skip]; exact iha hs'

theorem walk_quiet (inp : List Char) : Walk (Ctx.spec inp) (· = Panic.fuel) (Good inp) :=
  { hered_good with
    fuel := rfl
    block := fun hc h => absurd (blockString_len hc.mem.wit hc.rule) (Nat.not_le_of_lt h)
    chars := fun {c} hc =>
      have hcs := (hered_good.all hc AC_NormalStringValue).2
      (quiet_decodeChars c.children fun sc hsc => ⟨(hcs sc hsc).rule, (hcs sc hsc).mem⟩).1
        (hc.mem.esc c (self_mem_flat c) hc.rule)
    opType := fun hp => Quiet.of_ex (operationType_ok hp.mem.wit hp.rule) }

theorem quiet_buildOperationDocument {inp : List Char} (fuel : Nat) {p : Pair} (hg : Good inp p)
    (hr : p.rule = R.ExecutableDocument) : Quiet (buildOperationDocument (Ctx.spec inp) fuel [p]) :=
  errIn_buildOperationDocument (walk_quiet inp) fuel ⟨hg, hr⟩

theorem quiet_buildTypeSystemDocument {inp : List Char} (fuel : Nat) {p : Pair} (hg : Good inp p)
    (hr : p.rule = R.TypeSystemExtensionDocument) : Quiet (buildTypeSystemDocument (Ctx.spec inp) fuel [p]) :=
  errIn_buildTypeSystemDocument (walk_quiet inp) fuel ⟨hg, hr⟩

theorem parse_root_single {g : G} {fuel : Nat} {r : RuleId} {inp : List Char} {ps : List Pair} {body : Expr}
    (hl : g.look r = some (.normal, body)) (hsp : ¬ (g.ws = some r ∨ g.cm = some r))
    (h : Peg.parse g fuel r inp = .pairs ps) : ∃ s e cs, ps = [Pair.mk r s e cs] := by
  obtain ⟨tr, c', hc⟩ := parse_pairs g h
  obtain ⟨f, tr0, tr1, ps0, _, hps⟩ := rule_inv g hl hc
  simp [bodyCfg, hsp] at hps
  exact ⟨_, _, _, hps⟩

theorem firstBadEscape_none {ctx : Ctx} {ps : List Pair} (h : firstBadEscape ctx ps = none) :
    ∀ q ∈ flatList ps, q.rule = R.NormalStringValue → scanEscapes ctx none (stringCharacters q) = none := by
  unfold firstBadEscape at h
  rw [List.findSome?_eq_none_iff] at h
  intro q hq hr
  have := h q hq
  rw [if_pos hr] at this
  cases hs : scanEscapes ctx none (stringCharacters q) with
  | none => rfl
  | some x => rw [hs] at this; cases this

theorem good_of_parse {fuel : Nat} {r : RuleId} {inp : List Char} {p : Pair}
    (h : Peg.parse gList fuel r inp = .pairs [p]) (hesc : firstBadEscape (Ctx.spec inp) [p] = none) : Good inp p := by
  refine ⟨parse_deepOk gList fuel r inp [p] h p (List.mem_singleton.mpr rfl),
    parse_wit gList fuel r inp [p] h p (List.mem_singleton.mpr rfl), fun q hq hr => ?_⟩
  refine firstBadEscape_none hesc q ?_ hr
  simp only [flatList, List.append_nil]
  exact hq

theorem look_ExecutableDocument : ∃ body, gList.look R.ExecutableDocument = some (.normal, body) := ⟨_, rfl⟩
theorem look_TypeSystemExtensionDocument : ∃ body, gList.look R.TypeSystemExtensionDocument = some (.normal, body) :=
  ⟨_, rfl⟩

theorem parseWith_noPanic {α} (root : RuleId) (build : Ctx → Nat → List Pair → M α) (inp : List Char)
    (hroot : ∃ body, gList.look root = some (.normal, body)) (hsp : ¬ (gList.ws = some root ∨ gList.cm = some root))
    (hq : ∀ (p : Pair) (n : Nat), Good inp p → p.rule = root → Quiet (build (Ctx.spec inp) n [p])) :
    (parseWith gList Ctx.spec root build inp).isPanic = false := by
  rw [parseWith]
  cases hp : Peg.parse gList (defaultFuel inp) root inp with
  | error att => rfl
  | outOfFuel => rfl
  | pairs ps =>
    dsimp only
    cases hb : firstBadEscape (Ctx.spec inp) ps with
    | some off => rfl
    | none =>
      dsimp only
      obtain ⟨body, hl⟩ := hroot
      obtain ⟨s, e, cs, rfl⟩ := parse_root_single hl hsp hp
      have hg := good_of_parse hp hb
      have := hq _ (4 * inp.length + 64) hg rfl
      cases hbd : build (Ctx.spec inp) (4 * inp.length + 64) [Pair.mk root s e cs] with
      | ok a => rfl
      | error e =>
        have he := this e hbd
        subst he
        rfl

end NitroVerif.Shape
