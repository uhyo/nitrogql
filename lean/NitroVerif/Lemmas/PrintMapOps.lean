import NitroVerif.Lemmas.PrintMap
/-!
# C06 — printer call sites: the operation printers (declaration file and JavaScript module)

Membership lemmas for `opTypeSites` / `opJsSites`: which calls a named operation, an anonymous operation and a fragment
contribute; each block passes nodes of the document (`optype_sites_not_invented` in `Props/C06Sites.lean` walks the blocks).
-/
namespace NitroVerif.PrintMap
open NitroVerif.Gql

/-- the nodes of an executable document that the operation printers pass to `write_for`: the NAME token of a named
    operation (with its name), the definition of an anonymous operation (no name), the DEFINITION of a fragment (its
    position is the `fragment` keyword) with the fragment's name, and the selection sets of the operations (no name) -/
inductive ExecNode (doc : Doc) (selPos : List Pos) : Pos → Option String → Prop
  | opName {o : OperationDef} {n : Name} {p : Pos} : .op o ∈ doc → o.name = some (n, p) → ExecNode doc selPos p (some n)
  | opAnon {o : OperationDef} : .op o ∈ doc → o.name = none → ExecNode doc selPos o.pos none
  | frag {f : FragmentDef} : .frag f ∈ doc → ExecNode doc selPos f.pos (some f.name)
  | sel {p : Pos} : p ∈ selPos → ExecNode doc selPos p none
  /-- the default position the model uses for an operation whose selection-set position is missing from `selPos`: it holds
      of every document, so "passes a node of the document" says nothing for an unnamed call at the default position -/
  | selDefault : ExecNode doc selPos {} none

theorem execNode_mono {doc doc' : Doc} {sp sp' : List Pos} (hd : ∀ x ∈ doc, x ∈ doc') (hs : ∀ x ∈ sp, x ∈ sp')
    {p : Pos} {n : Option String} (h : ExecNode doc sp p n) : ExecNode doc' sp' p n := by
  cases h with
  | opName h1 h2 => exact .opName (hd _ h1) h2
  | opAnon h1 h2 => exact .opAnon (hd _ h1) h2
  | frag h1 => exact .frag (hd _ h1)
  | sel h1 => exact .sel (hs _ h1)
  | selDefault => exact .selDefault

theorem namePosOf_node {doc : Doc} {sps : List Pos} {o : OperationDef} (ho : .op o ∈ doc) :
    ExecNode doc sps (namePosOf o).1 (namePosOf o).2 := by
  unfold namePosOf
  cases hn : o.name with
  | none => exact .opAnon ho hn
  | some np => obtain ⟨n, p⟩ := np; exact .opName ho hn

theorem opTypeOperationSites_nodes {doc : Doc} {sps : List Pos} {o : OperationDef} (ho : .op o ∈ doc) (opts : OpOpts)
    (sp : Pos) (hsp : ExecNode doc sps sp none) :
    ∀ op ∈ opTypeOperationSites opts o sp, ∃ t p n, op = .writeFor t p n ∧ ExecNode doc sps p n := by
  intro op hop
  have hn := namePosOf_node (sps := sps) ho
  unfold opTypeOperationSites at hop
  simp only [List.mem_cons, List.not_mem_nil, or_false] at hop
  rcases hop with rfl | rfl | rfl | rfl | rfl
  · exact ⟨_, _, _, rfl, hn⟩
  · exact ⟨_, _, _, rfl, hsp⟩
  · exact ⟨_, _, _, rfl, hn⟩
  · exact ⟨_, _, _, rfl, hn⟩
  · exact ⟨_, _, _, rfl, hsp⟩

theorem opTypeFragmentSites_nodes {doc : Doc} {sps : List Pos} {f : FragmentDef} (hf : .frag f ∈ doc) (opts : OpOpts) :
    ∀ op ∈ opTypeFragmentSites opts f, ∃ t p n, op = .writeFor t p n ∧ ExecNode doc sps p n := by
  intro op hop
  unfold opTypeFragmentSites at hop
  rcases List.mem_append.mp hop with h | h
  · simp only [List.mem_cons, List.not_mem_nil, or_false] at h
    rcases h with rfl | rfl | rfl <;> exact ⟨_, _, _, rfl, .frag hf⟩
  · split at h
    · simp only [List.mem_cons, List.not_mem_nil, or_false] at h
      subst h; exact ⟨_, _, _, rfl, .frag hf⟩
    · cases h

/-- the calls one definition contributes, given the position of its selection set -/
def defSites (o : OpOpts) (sp : Pos) : ExecDef → List POp
  | .op op => opTypeOperationSites o op sp
  | .frag f => opTypeFragmentSites o f
  | .imp _ => []

/-- the selection-set positions left for the definitions after `d` -/
def spsAfter : ExecDef → List Pos → List Pos
  | .op _, sps => sps.tail
  | _, sps => sps

theorem opTypeSites_cons (o : OpOpts) (d : ExecDef) (rest : Doc) (sps : List Pos) :
    opTypeSites o (d :: rest) sps = defSites o (sps.headD {}) d ++ opTypeSites o rest (spsAfter d sps) := by
  cases d <;> cases sps <;> rfl

theorem opTypeSites_def (o : OpOpts) (doc : Doc) (sps : List Pos) (d : ExecDef) (hd : d ∈ doc) :
    ∃ sp, ∀ op ∈ defSites o sp d, op ∈ opTypeSites o doc sps := by
  induction doc generalizing sps with
  | nil => cases hd
  | cons d0 rest ih =>
    rw [opTypeSites_cons]
    rcases List.mem_cons.mp hd with rfl | hd
    · exact ⟨sps.headD {}, fun op h => List.mem_append_left _ h⟩
    · obtain ⟨sp, h⟩ := ih (spsAfter d0 sps) hd
      exact ⟨sp, fun op hop => List.mem_append_right _ (h op hop)⟩

theorem opTypeSites_operation (opts : OpOpts) (doc : Doc) (sps : List Pos) (o : OperationDef) (h : .op o ∈ doc) :
    ∃ sp, ∀ op ∈ opTypeOperationSites opts o sp, op ∈ opTypeSites opts doc sps :=
  opTypeSites_def opts doc sps _ h

theorem opTypeSites_fragment (opts : OpOpts) (doc : Doc) (sps : List Pos) (f : FragmentDef) (h : .frag f ∈ doc) :
    ∀ op ∈ opTypeFragmentSites opts f, op ∈ opTypeSites opts doc sps :=
  (opTypeSites_def opts doc sps _ h).elim fun _ h => h

/-- the call a definition contributes to the JavaScript module -/
def jsSite (opts : OpOpts) : ExecDef → Option POp
  | .op o => some (.writeFor (operationVariableName opts o) (namePosOf o).1 (namePosOf o).2)
  | .frag f => some (.writeFor (f.name ++ opts.fragmentVariableSuffix) f.pos (some f.name))
  | .imp _ => none

theorem opJsSites_eq (opts : OpOpts) : ∀ doc : Doc, opJsSites opts doc = doc.filterMap (jsSite opts)
  | [] => rfl
  | .op o :: rest => by rw [opJsSites, List.filterMap_cons, opJsSites_eq opts rest]; rfl
  | .frag f :: rest => by rw [opJsSites, List.filterMap_cons, opJsSites_eq opts rest]; rfl
  | .imp _ :: rest => by rw [opJsSites, List.filterMap_cons, opJsSites_eq opts rest]; rfl

theorem opJsSites_nodes (opts : OpOpts) (doc : Doc) :
    ∀ op ∈ opJsSites opts doc, ∃ t p n, op = .writeFor t p n ∧ ExecNode doc [] p n := by
  intro op hop
  rw [opJsSites_eq] at hop
  obtain ⟨d, hd, e⟩ := List.mem_filterMap.mp hop
  cases d with
  | op o => exact ⟨_, _, _, (Option.some.inj e).symm, namePosOf_node hd⟩
  | frag f => exact ⟨_, _, _, (Option.some.inj e).symm, .frag hd⟩
  | imp i => cases e

theorem opJsSites_operation (opts : OpOpts) (doc : Doc) (o : OperationDef) (ho : .op o ∈ doc) :
    POp.writeFor (operationVariableName opts o) (namePosOf o).1 (namePosOf o).2 ∈ opJsSites opts doc := by
  rw [opJsSites_eq]
  exact List.mem_filterMap.mpr ⟨_, ho, rfl⟩

theorem opJsSites_fragment (opts : OpOpts) (doc : Doc) (f : FragmentDef) (hf : .frag f ∈ doc) :
    POp.writeFor (f.name ++ opts.fragmentVariableSuffix) f.pos (some f.name) ∈ opJsSites opts doc := by
  rw [opJsSites_eq]
  exact List.mem_filterMap.mpr ⟨_, hf, rfl⟩

end NitroVerif.PrintMap
