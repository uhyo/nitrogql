/-
The interpreter on texts at offsets. `RunsK n e c c' ps`: the expression `e` succeeds from `c` with the pairs `ps`, and
from the cursor where it ends the implicit skip reaches `c'`. This is what composes through pest's sequences — `a ~ b`
runs `a`, skips, runs `b`; an optional trailing item that fails leaves the cursor after the skip — so the END of a pair
is not a function of the construct alone, but "where the skip arrives" is.
-/
import NitroVerif.Lemmas.ParseDocText
import NitroVerif.Lemmas.ParseDirectives
namespace NitroVerif.DocParse
open NitroVerif.Peg NitroVerif.Gen NitroVerif.Gen.Parts NitroVerif.Build NitroVerif.TypeParse NitroVerif.StringParse
open NitroVerif.Gql NitroVerif.ValueParse

theorem Gap.skip {inp : List Char} {q : Nat} {g : List Char} (h : Gap inp q g) :
    SkipTo (g.length + 60) (At inp q) (At inp (q + g.length)) := by
  have := skip_ws g h.ws q (inp.drop (q + g.length)) h.tok
  simp only [At]
  rw [h.has.drop]
  exact this

theorem skipTo_self {c : Cur} (h : Tok c) : SkipTo 20 c c := by
  obtain ⟨p, rest⟩ := c
  exact skipTo_noop h

theorem look_WHITESPACE : ∃ b, gList.look R.WHITESPACE = some (.silent, b) := ⟨_, rfl⟩
theorem look_COMMENT : ∃ b, gList.look R.COMMENT = some (.silent, b) := ⟨_, rfl⟩
theorem look_EscapedUnicode4 : ∃ a b, gList.look R.EscapedUnicode4 = some (.atomic, .seq a (.rep 4 b)) := ⟨_, _, rfl⟩
theorem look_EscapedUnicodeBrace : ∃ b, gList.look R.EscapedUnicodeBrace = some (.compound, b) := ⟨_, rfl⟩

theorem normal_ne {r : RuleId} {body : Expr} (hl : gList.look r = some (.normal, body)) :
    r ≠ R.WHITESPACE ∧ r ≠ R.COMMENT ∧ r ≠ R.EscapedUnicode4 ∧ r ≠ R.EscapedUnicodeBrace := by
  refine ⟨?_, ?_, ?_, ?_⟩ <;> rintro rfl
  · obtain ⟨b, h⟩ := look_WHITESPACE; rw [h] at hl; cases hl
  · obtain ⟨b, h⟩ := look_COMMENT; rw [h] at hl; cases hl
  · obtain ⟨a, b, h⟩ := look_EscapedUnicode4; rw [h] at hl; cases hl
  · obtain ⟨b, h⟩ := look_EscapedUnicodeBrace; rw [h] at hl; cases hl

theorem keyword_ne {r : RuleId} {w : List Char}
    (hl : gList.look r = some (.atomic, .seq (.str w) (.not (.call R.NameContinue)))) :
    r ≠ R.EscapedUnicode4 ∧ r ≠ R.EscapedUnicodeBrace := by
  refine ⟨?_, ?_⟩ <;> rintro rfl
  · obtain ⟨a, b, h⟩ := look_EscapedUnicode4; rw [h] at hl; cases hl
  · obtain ⟨b, h⟩ := look_EscapedUnicodeBrace; rw [h] at hl; cases hl

/-- `e` (in a rule body with skip calls, non-atomic, outside lookahead) succeeds from `c` with the pairs `ps`, and from
    where it ends the implicit sKip reaches `c'`; all within depth `n` -/
def RunsK (n : Nat) (e : Expr) (c c' : Cur) (ps : List Pair) : Prop :=
  ∃ c1, Runs gList n true e .nonAtomic c c1 ps ∧ SkipTo n c1 c'

theorem RunsK.mono {n m e c c' ps} (h : RunsK n e c c' ps) (hnm : n ≤ m) : RunsK m e c c' ps := by
  obtain ⟨c1, h1, h2⟩ := h
  exact ⟨c1, h1.mono hnm, h2.mono hnm⟩

theorem RunsK.cast {n e c c' ps d d' qs} (h : RunsK n e c c' ps) (h1 : c = d) (h2 : c' = d') (h3 : ps = qs) :
    RunsK n e d d' qs := h1 ▸ h2 ▸ h3 ▸ h

/-- `RunsK` with the cursor where `e` itself ends (before the skip) made explicit: the END of the pair of a rule whose
    body ends with `e` -/
def RunsKE (n : Nat) (e : Expr) (c c1 c' : Cur) (ps : List Pair) : Prop :=
  Runs gList n true e .nonAtomic c c1 ps ∧ SkipTo n c1 c'

theorem RunsKE.toK {n e c c1 c' ps} (h : RunsKE n e c c1 c' ps) : RunsK n e c c' ps := ⟨c1, h⟩

theorem RunsKE.mono {n m e c c1 c' ps} (h : RunsKE n e c c1 c' ps) (hnm : n ≤ m) : RunsKE m e c c1 c' ps :=
  ⟨h.1.mono hnm, h.2.mono hnm⟩

theorem RunsKE.cast {n e c c1 c' ps d d1 d' qs} (h : RunsKE n e c c1 c' ps) (h1 : c = d) (h2 : c1 = d1) (h3 : c' = d')
    (h4 : ps = qs) : RunsKE n e d d1 d' qs := h1 ▸ h2 ▸ h3 ▸ h4 ▸ h

theorem Fails.cast {n sk e at_ c d} (h : Fails gList n sk e at_ c) (h1 : c = d) : Fails gList n sk e at_ d := h1 ▸ h

theorem runsK_seq {n m a b c c' c'' pa pb} (ha : RunsK n a c c' pa) (hb : RunsK m b c' c'' pb) :
    RunsK (max n m + 1) (.seq a b) c c'' (pa ++ pb) := by
  obtain ⟨c1, ha1, hs1⟩ := ha
  obtain ⟨c2, hb1, hs2⟩ := hb
  refine ⟨c2, (runs_seq_skip' ha1 hs1 hb1).mono ?_, hs2.mono ?_⟩
  · simp only [Nat.add_le_add_iff_right, Nat.max_le]; omega
  · omega

theorem runsKE_seq {n m a b c c' c1 c'' pa pb} (ha : RunsK n a c c' pa) (hb : RunsKE m b c' c1 c'' pb) :
    RunsKE (max n m + 1) (.seq a b) c c1 c'' (pa ++ pb) := by
  obtain ⟨c0, ha1, hs1⟩ := ha
  obtain ⟨hb1, hs2⟩ := hb
  refine ⟨(runs_seq_skip' ha1 hs1 hb1).mono ?_, hs2.mono ?_⟩
  · simp only [Nat.add_le_add_iff_right, Nat.max_le]; omega
  · omega

theorem runsKE_choice_l {n a b c c1 c' ps} (ha : RunsKE n a c c1 c' ps) : RunsKE (n + 1) (.choice a b) c c1 c' ps :=
  ⟨runs_choice_l ha.1, ha.2.mono (by omega)⟩

theorem runsKE_choice_r {n m a b c c1 c' ps} (ha : Fails gList n true a .nonAtomic c) (hb : RunsKE m b c c1 c' ps) :
    RunsKE (max n m + 1) (.choice a b) c c1 c' ps :=
  ⟨runs_choice_r' ha hb.1, hb.2.mono (by omega)⟩

theorem runsKE_rule {n r body c c1 c' ps} (hl : gList.look r = some (.normal, body)) (hb : RunsKE n body c c1 c' ps) :
    RunsKE (n + 2) (.call r) c c1 c' [.mk r c.pos c1.pos ps] :=
  ⟨runs_call (runsRule_normal hl (notSpecial (normal_ne hl).1 (normal_ne hl).2.1) hb.1), hb.2.mono (by omega)⟩

theorem fails_seq_K {n m a b c c' pa} (ha : RunsK n a c c' pa) (hb : Fails gList m true b .nonAtomic c') :
    Fails gList (max n m + 1) true (.seq a b) .nonAtomic c := by
  obtain ⟨c1, ha1, hs1⟩ := ha
  refine (fails_seq_skip_last' ha1 hs1 hb).mono ?_
  simp only [Nat.add_le_add_iff_right, Nat.max_le]; omega

theorem fails_seq_1 {n a b c} (ha : Fails gList n true a .nonAtomic c) : Fails gList (n + 1) true (.seq a b) .nonAtomic c :=
  fails_seq_first ha

theorem runsK_opt_some {n a c c' ps} (ha : RunsK n a c c' ps) : RunsK (n + 1) (.opt a) c c' ps := by
  obtain ⟨c1, h1, h2⟩ := ha
  exact ⟨c1, runsL_opt_some (la := .none) h1, h2.mono (by omega)⟩

theorem runsK_opt_none {n a c} (ha : Fails gList n true a .nonAtomic c) (ht : Tok c) :
    RunsK (max n 20 + 1) (.opt a) c c [] :=
  ⟨c, (runsL_opt_none (la := .none) ha).mono (by omega), (skipTo_self ht).mono (by omega)⟩

theorem runsK_choice_l {n a b c c' ps} (ha : RunsK n a c c' ps) : RunsK (n + 1) (.choice a b) c c' ps := by
  obtain ⟨c1, h1, h2⟩ := ha
  exact ⟨c1, runs_choice_l h1, h2.mono (by omega)⟩

theorem runsK_choice_r {n m a b c c' ps} (ha : Fails gList n true a .nonAtomic c) (hb : RunsK m b c c' ps) :
    RunsK (max n m + 1) (.choice a b) c c' ps := by
  obtain ⟨c1, h1, h2⟩ := hb
  exact ⟨c1, runs_choice_r' ha h1, h2.mono (by omega)⟩

theorem fails_choice_K {n m a b c} (ha : Fails gList n true a .nonAtomic c) (hb : Fails gList m true b .nonAtomic c) :
    Fails gList (max n m + 1) true (.choice a b) .nonAtomic c := fails_choice' ha hb

theorem runsK_rule {n r body c c' ps} (hl : gList.look r = some (.normal, body)) (hb : RunsK n body c c' ps) :
    ∃ e, RunsK (n + 2) (.call r) c c' [.mk r c.pos e ps] := by
  obtain ⟨c1, hb1, hs⟩ := hb
  exact ⟨c1.pos, c1, runs_call (runsRule_normal hl (notSpecial (normal_ne hl).1 (normal_ne hl).2.1) hb1), hs.mono (by omega)⟩

theorem fails_rule {n r body c} (hl : gList.look r = some (.normal, body)) (hb : Fails gList n true body .nonAtomic c) :
    Fails gList (n + 2) true (.call r) .nonAtomic c :=
  fails_call (failsRule_normal hl (notSpecial (normal_ne hl).1 (normal_ne hl).2.1) hb)

theorem runsK_not {n a c} (ha : FailsL gList .neg n true a .nonAtomic c) (ht : Tok c) :
    RunsK (max n 20 + 1) (.not a) c c [] :=
  ⟨c, (runsL_not (la := .none) ha).mono (by omega), (skipTo_self ht).mono (by omega)⟩

theorem fails_not {n a c c' ps} (ha : RunsL gList .neg n true a .nonAtomic c c' ps) :
    Fails gList (n + 1) true (.not a) .nonAtomic c := failsL_not (la := .none) ha

/-- the iterations of `a*`: each runs and its skip reaches the start of the next; at the end `a` fails -/
inductive ManyK (a : Expr) : Nat → Cur → Cur → List Pair → Prop where
  | nil {n c} : Fails gList n true a .nonAtomic c → Tok c → ManyK a n c c []
  | cons {n m c c1 c' ps pss} : RunsK n a c c1 ps → ManyK a m c1 c' pss → ManyK a (max n m + 1) c c' (ps ++ pss)

theorem manyK_sr {a : Expr} {m : Nat} {c1 c' : Cur} {pss : List Pair} (h : ManyK a m c1 c' pss) :
    ∀ (cB : Cur) (k : Nat), SkipTo k cB c1 → ∃ cEnd, RunsSR (max k m + 1) a cB cEnd pss ∧ SkipTo (max k m) cEnd c' := by
  induction h with
  | nil hf _ =>
    intro cB k hs
    exact ⟨cB, runsSR_nil hs hf, hs.mono (by omega)⟩
  | @cons n m c c1 c' ps pss ha _ ih =>
    intro cB k hs
    obtain ⟨cA, ha1, ha2⟩ := ha
    obtain ⟨cEnd, h1, h2⟩ := ih cA n ha2
    refine ⟨cEnd, (runsSR_cons hs ha1 h1).mono ?_, h2.mono ?_⟩
    · simp only [Nat.add_le_add_iff_right, Nat.max_le]; omega
    · omega

theorem runsK_star {a : Expr} {m : Nat} {c c' : Cur} {pss : List Pair} (h : ManyK a m c c' pss) :
    RunsK (max m 20 + 2) (.star a) c c' pss := by
  cases h with
  | nil hf ht => exact ⟨c, (runs_star_sk_nil hf).mono (by omega), (skipTo_self ht).mono (by omega)⟩
  | @cons n m' _ c1 _ ps pss' ha hr =>
    obtain ⟨cA, ha1, ha2⟩ := ha
    obtain ⟨cEnd, h1, h2⟩ := manyK_sr hr cA n ha2
    refine ⟨cEnd, (runs_star_sk_cons ha1 h1).mono ?_, h2.mono ?_⟩
    · simp only [Nat.add_le_add_iff_right, Nat.max_le]; omega
    · omega

theorem runsK_plus {a : Expr} {n m : Nat} {c c1 c' : Cur} {ps pss : List Pair} (ha : RunsK n a c c1 ps)
    (hr : ManyK a m c1 c' pss) : RunsK (max n (max m 20 + 2) + 2) (.plus a) c c' (ps ++ pss) := by
  obtain ⟨cE, h1, h2⟩ := runsK_seq ha (runsK_star hr)
  exact ⟨cE, runs_plus_sk h1, h2.mono (by omega)⟩

/-- the depth of a `ManyK` is exact; what a larger bound gives is this -/
theorem ManyK.mono {a : Expr} {n m : Nat} {c c' : Cur} {pss : List Pair} (h : ManyK a n c c' pss) (hnm : n ≤ m) :
    ∃ k, k ≤ m ∧ ManyK a k c c' pss := ⟨n, hnm, h⟩

/-- at least one iteration of `a`, then `a*` -/
def Many1K (a : Expr) (n : Nat) (c c' : Cur) (pss : List Pair) : Prop :=
  ∃ n1 m c1 ps pss', n1 ≤ n ∧ m ≤ n ∧ RunsK n1 a c c1 ps ∧ ManyK a m c1 c' pss' ∧ pss = ps ++ pss'

theorem Many1K.many {a : Expr} {n : Nat} {c c' : Cur} {pss : List Pair} (h : Many1K a n c c' pss) :
    ∃ k, k ≤ n + 1 ∧ ManyK a k c c' pss := by
  obtain ⟨n1, m, c1, ps, pss', h1, h2, hr, hm, rfl⟩ := h
  exact ⟨max n1 m + 1, by simp only [Nat.add_le_add_iff_right, Nat.max_le]; omega, .cons hr hm⟩

theorem runsK_plus1 {a : Expr} {n : Nat} {c c' : Cur} {pss : List Pair} (h : Many1K a n c c' pss) :
    RunsK (max n 20 + 4) (.plus a) c c' pss := by
  obtain ⟨n1, m, c1, ps, pss', h1, h2, hr, hm, rfl⟩ := h
  refine (runsK_plus hr hm).mono ?_
  simp only [Nat.add_le_add_iff_right, Nat.max_le]; omega

theorem Many1K.mono {a : Expr} {n m : Nat} {c c' : Cur} {pss : List Pair} (h : Many1K a n c c' pss) (hnm : n ≤ m) :
    Many1K a m c c' pss := by
  obtain ⟨n1, m', c1, ps, pss', h1, h2, hr, hm, he⟩ := h
  exact ⟨n1, m', c1, ps, pss', by omega, by omega, hr, hm, he⟩

theorem strK {inp : List Char} (s : List Char) {p : Nat} {g : List Char} (h : HasAt inp p s) (hg : Gap inp (p + s.length) g) :
    RunsK (g.length + 60) (.str s) (At inp p) (At inp (p + s.length + g.length)) [] := by
  refine ⟨At inp (p + s.length), ?_, hg.skip⟩
  have : matchStr s (At inp p).rest = some (inp.drop (p + s.length)) := by
    simp only [At]; rw [h.drop]; exact matchStr_self_append _ _
  exact (runs_str (c := At inp p) this).mono (by omega)

theorem str_fails {inp : List Char} {p : Nat} {x : Char} {xs : List Char} (h : HeadNot (· = x) (inp.drop p)) :
    Fails gList 1 true (.str (x :: xs)) .nonAtomic (At inp p) :=
  strL_head_fails (la := .none) h

theorem name_fails_at {inp : List Char} {p : Nat} (h : HeadNot nameStart (inp.drop p)) :
    Fails gList 10 true (.call R.Name) .nonAtomic (At inp p) := fails_call (name_fails h)

theorem kw_fails_str {inp : List Char} {la : Look} {r : RuleId} {w : List Char}
    (hl : gList.look r = some (.atomic, .seq (.str w) (.not (.call R.NameContinue)))) {p : Nat}
    (hm : matchStr w (inp.drop p) = none) : FailsL gList la 13 true (.call r) .nonAtomic (At inp p) :=
  failsL_call (keywordL_fails_str hl p _ hm)

theorem kw_fails_head {inp : List Char} {la : Look} {r : RuleId} {x : Char} {xs : List Char}
    (hl : gList.look r = some (.atomic, .seq (.str (x :: xs)) (.not (.call R.NameContinue)))) {p : Nat}
    (h : HeadNot (· = x) (inp.drop p)) : FailsL gList la 13 true (.call r) .nonAtomic (At inp p) :=
  kw_fails_str hl (matchStr_none_of_head h)

theorem kw_fails_name {inp : List Char} {la : Look} {r : RuleId} {w : List Char}
    (hl : gList.look r = some (.atomic, .seq (.str w) (.not (.call R.NameContinue)))) (hw : validName w) {p : Nat}
    {n : List Char} (hn : validName n) (hne : n ≠ w) (h : HasAt inp p n)
    (hglue : HeadNot nameCont (inp.drop (p + n.length))) : FailsL gList la 13 true (.call r) .nonAtomic (At inp p) := by
  have := keywordL_fails_name (la := la) (at_ := .nonAtomic) hl (validName_cont hw) p n (inp.drop (p + n.length))
    (validName_cont hn) hne hglue
  simp only [At]
  rw [h.drop]
  exact failsL_call this

/-- used under negative lookahead (`!KEYWORD_on`) -/
theorem kw_runsL {inp : List Char} {la : Look} {r : RuleId} {w : List Char}
    (hl : gList.look r = some (.atomic, .seq (.str w) (.not (.call R.NameContinue)))) {p : Nat}
    (h : HasAt inp p w) (hglue : HeadNot nameCont (inp.drop (p + w.length))) :
    ∃ ps, RunsL gList la 13 true (.call r) .nonAtomic (At inp p) (At inp (p + w.length)) ps := by
  have := keywordL_runs (la := la) (at_ := .nonAtomic) hl p (inp.drop (p + w.length)) hglue
  refine ⟨(if la = .none ∧ Atomicity.nonAtomic ≠ .atomic then [Pair.mk r p (p + w.length) []] else []), ?_⟩
  simp only [At]
  rw [h.drop]
  exact runsL_call this

theorem runs_soi (sk : Bool) (at_ : Atomicity) (c : Cur) (h : c.pos = 0) : Runs gList 1 sk .soi at_ c c [] := by
  intro tr; refine ⟨tr, fun f hf => ?_⟩
  obtain ⟨f', rfl⟩ : ∃ f', f = f' + 1 := ⟨f - 1, by omega⟩
  simp [eval, h]

theorem runs_eoi (sk : Bool) (at_ : Atomicity) (c : Cur) (h : c.rest = []) : Runs gList 1 sk .eoi at_ c c [] := by
  intro tr; refine ⟨tr, fun f hf => ?_⟩
  obtain ⟨f', rfl⟩ : ∃ f', f = f' + 1 := ⟨f - 1, by omega⟩
  simp [eval, h]

section ItemsRun
variable {α : Type} (ri : Bool → Nat → α → List Char) (sepMid sepLast : Bool)

/-- `F s q` is what an item written with the flag `s` needs to know of the offset `q` where it ends: it holds where the next
    item begins, and at the very end by assumption -/
theorem items_many1K_of {inp : List Char} (e : Expr) (K : Nat) (Good : Bool → Nat → α → Pair → Prop)
    (F : Bool → Nat → Prop) (hF : ∀ s q, F s q → Tok (At inp q)) :
    ∀ (r : List α) (a : α) (p : Nat),
      (∀ x ∈ a :: r, ∀ s p, HasAt inp p (ri s p x) → F s (p + (ri s p x).length) →
        ∃ pr, RunsK (B (ri s p x).length + K) e (At inp p) (At inp (p + (ri s p x).length)) [pr] ∧ Good s p x pr) →
      (∀ x ∈ a :: r, ∀ s q Y, HasAt inp q (ri s q x ++ Y) → F sepMid q) →
      (∀ x ∈ a :: r, ∀ s p, 1 ≤ (ri s p x).length) →
      HasAt inp p (renderItems ri sepMid sepLast p (a :: r)) →
      F sepLast (p + (renderItems ri sepMid sepLast p (a :: r)).length) →
      Fails gList (K + 100) true e .nonAtomic (At inp (p + (renderItems ri sepMid sepLast p (a :: r)).length)) →
      ∃ pss, Many1K e (B (renderItems ri sepMid sepLast p (a :: r)).length + K + 1) (At inp p)
          (At inp (p + (renderItems ri sepMid sepLast p (a :: r)).length)) pss ∧
        GoodItems ri sepMid sepLast Good p (a :: r) pss := by
  intro r
  induction r with
  | nil =>
    intro a p hitem _ _ hat hE hfail
    simp only [renderItems] at hat hE hfail ⊢
    obtain ⟨pr, hrun, hgood⟩ := hitem a (List.mem_cons_self ..) sepLast p hat hE
    exact ⟨[pr], ⟨_, _, _, [pr], [], Nat.le_succ _, by simp only [B]; omega, hrun, .nil hfail (hF _ _ hE), rfl⟩,
      pr, rfl, hgood⟩
  | cons b r ih =>
    intro a p hitem hnext hpos hat hE hfail
    rw [renderItems_cons2] at hat hE hfail ⊢
    have e : ∀ (ta tl : List Char), p + (ta ++ tl).length = p + ta.length + tl.length := fun ta tl => by
      rw [List.length_append, Nat.add_assoc]
    rw [e] at hE hfail ⊢
    -- the next item begins where this one ends
    obtain ⟨s', tail, htail⟩ := renderItems_cons ri sepMid sepLast (p + (ri sepMid p a).length) b r
    have hnx := hnext b (List.mem_cons_of_mem _ (List.mem_cons_self ..)) s' _ tail (htail ▸ hat.right)
    obtain ⟨pr, hrun, hgood⟩ := hitem a (List.mem_cons_self ..) sepMid p hat.left hnx
    obtain ⟨pss, hmany, hgoods⟩ := ih b _ (fun x hx => hitem x (List.mem_cons_of_mem _ hx))
      (fun x hx => hnext x (List.mem_cons_of_mem _ hx)) (fun x hx => hpos x (List.mem_cons_of_mem _ hx)) hat.right hE hfail
    obtain ⟨k, hk, hmany'⟩ := hmany.many
    have h1 := hpos a (List.mem_cons_self ..) sepMid p
    refine ⟨pr :: pss, ⟨_, k, _, [pr], pss, ?_, ?_, hrun, hmany', rfl⟩, pr, pss, rfl, hgood, hgoods⟩
    · simp only [B, List.length_append]; omega
    · simp only [B, List.length_append] at hk ⊢; omega

theorem items_many1K {inp : List Char} (e : Expr) (bad : Bool → Char → Prop) (K : Nat)
    (Good : Bool → Nat → α → Pair → Prop) :
    ∀ (r : List α) (a : α) (p : Nat),
      (∀ x ∈ a :: r, ∀ s p, HasAt inp p (ri s p x) → Nxt inp (bad s) s (p + (ri s p x).length) →
        ∃ pr, RunsK (B (ri s p x).length + K) e (At inp p) (At inp (p + (ri s p x).length)) [pr] ∧ Good s p x pr) →
      (∀ x ∈ a :: r, ∀ s p, Hd (fun d => ¬ trivia d ∧ ¬ bad sepMid d ∧ (sepMid = false → ¬ nameCont d)) (ri s p x)) →
      HasAt inp p (renderItems ri sepMid sepLast p (a :: r)) →
      Nxt inp (bad sepLast) sepLast (p + (renderItems ri sepMid sepLast p (a :: r)).length) →
      Fails gList (K + 100) true e .nonAtomic (At inp (p + (renderItems ri sepMid sepLast p (a :: r)).length)) →
      ∃ pss, Many1K e (B (renderItems ri sepMid sepLast p (a :: r)).length + K + 1) (At inp p)
          (At inp (p + (renderItems ri sepMid sepLast p (a :: r)).length)) pss ∧
        GoodItems ri sepMid sepLast Good p (a :: r) pss := fun r a p hitem hhead =>
  items_many1K_of ri sepMid sepLast e K Good (fun s q => Nxt inp (bad s) s q) (fun _ _ h => h.tok) r a p hitem
    (fun x hx s q Y hat =>
      have hd := (hhead x hx s q).append Y
      ⟨tok_of_hd hat hd (fun _ h => h.1), headNot_of_hd hat hd (fun _ h => h.2.1),
        fun hs => headNot_of_hd hat hd (fun _ h => h.2.2 hs)⟩)
    (fun x hx s p => (hhead x hx s p).length_pos)

end ItemsRun

theorem run_of_runsK {inp : List Char} {n : Nat} {r : RuleId} {off : Nat} {c' : Cur} {ps : List Pair}
    (h : RunsK n (.call r) (At inp off) c' ps) {fuel : Nat} (hf : n ≤ fuel + 1) :
    ∃ e, Peg.run gList fuel r inp off .nonAtomic = some (e, ps) ∧ e ≤ c'.pos := by
  obtain ⟨c1, hr, hs⟩ := h
  obtain ⟨tr', h'⟩ := hr {}
  have := h' (fuel + 1) hf
  simp only [eval, At] at this
  refine ⟨c1.pos, ?_, skipTo_pos_le hs⟩
  unfold Peg.run
  rw [this]

end NitroVerif.DocParse
