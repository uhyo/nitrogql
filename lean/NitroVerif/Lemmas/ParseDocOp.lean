/-
The texts of operations and fragments, the definitions with the positions of their tokens, and the pieces of
`OperationDefinition` and `FragmentDefinition`. The two rules themselves are in Lemmas/ParseDocExecDef.lean, for a text
that may end in a comment.
-/
import NitroVerif.Lemmas.ParseDocVar
import NitroVerif.Lemmas.ParseDocSel
namespace NitroVerif.DocParse
open NitroVerif.Peg NitroVerif.Gen NitroVerif.Gen.Parts NitroVerif.Build NitroVerif.TypeParse NitroVerif.StringParse
open NitroVerif.Gql NitroVerif.ValueParse NitroVerif.Spec.Lex NitroVerif.ParseText

theorem look_ExecutableDefinition : gList.look R.ExecutableDefinition = some (.normal, .choice
    (.call R.OperationDefinition) (.choice (.call R.FragmentDefinition) (.call R.ext_ImportStatement))) := rfl

variable {inp : List Char}

def rVarDefs (τ : Trivia) (p : Nat) (vs : List VarDef) : List Char := renderItems (rVarDef τ) false false p vs

def wpVarDefs (τ : Trivia) (inp : List Char) (p : Nat) (vs : List VarDef) : List VarDef :=
  mapItems (rVarDef τ) false false (wpVarDef τ inp) p vs

/-- `( gap definitions ) gap`, nothing for an empty list -/
def rOptVars (τ : Trivia) (sep : Bool) (p : Nat) : List VarDef → List Char
  | [] => []
  | v :: vs =>
    let tO := tk τ false p ['(']
    let tI := rVarDefs τ (p + tO.length) (v :: vs)
    tO ++ (tI ++ tk τ sep (p + tO.length + tI.length) [')'])

theorem variableDefinition_fails {p : Nat} (h : HeadNot (· = '$') (inp.drop p)) :
    Fails gList 10 true (.call R.VariableDefinition) .nonAtomic (At inp p) :=
  first_fails (by decide) h

/-- the variable definitions as `build_executable_definition` treats them -/
def optVarsB (ctx : Ctx) (fuel : Nat) : Option Pair → M (List VarDef)
  | some v => buildVariablesDefinition ctx fuel v
  | none => .ok []

theorem buildVariablesDefinition_eq (ctx : Ctx) (fuel : Nat) (s e : Nat) (cs : List Pair)
    (hcs : allChildrenGo AC_VariablesDefinition cs = .ok ()) :
    buildVariablesDefinition ctx fuel (.mk R.VariablesDefinition s e cs) =
      cs.mapM (buildVariableDefinition ctx fuel) := by
  simp [buildVariablesDefinition, allChildren, Pair.children, hcs, bind, Except.bind]

theorem optVarsT (τ : Trivia) (hτ : ∀ q, Ws (τ q)) (vs : List VarDef) (hwf : ∀ v ∈ vs, WFVarDef v) {sep : Bool} {p : Nat}
    {bad : Char → Prop} (hb : bad '(') (h : HasAt inp p (rOptVars τ sep p vs))
    (hn : Nxt inp bad sep (p + (rOptVars τ sep p vs).length)) :
    ∃ o, ReadsOpt inp 4 R.VariablesDefinition p (rOptVars τ sep p vs) (optVarsB (Ctx.spec inp))
        (wpVarDefs τ inp (p + (tk τ false p ['(']).length) vs) o ∧
      Nxt inp (fun c => bad c ∧ c ≠ '(') (sep && vs.isEmpty) p :=
  optBracedT (rVarDef τ) false τ hτ R.VariablesDefinition R.VariableDefinition '(' ')' rfl
    (fun _ => varBad) 30 (by decide) (buildVariableDefinition (Ctx.spec inp)) (wpVarDef τ inp)
    ⟨by decide, by decide, by decide⟩ (by decide)
    (fun q hq => (variableDefinition_fails (headNot_mono (by rintro d rfl; decide) hq)).mono (by decide))
    vs sep p (optVarsB (Ctx.spec inp)) (fun _ => rfl) (fun fuel e pss hall => buildVariablesDefinition_eq _ _ _ _ _ hall)
    (fun x hx s q hat hnx => varDefT τ hτ x (hwf x hx) (bad := varBad) (by decide)
      (by rintro _ c (rfl | rfl) <;> decide) hat hnx)
    (fun x _ s q => (hd_rVarDef τ s q x).mono (by rintro c rfl; decide))
    (by cases vs <;> simp only [rOptVars, rVarDefs, rBraced]) hb h hn

def opKw : OpKind → List Char
  | .query => ['q', 'u', 'e', 'r', 'y']
  | .mutation => ['m', 'u', 't', 'a', 't', 'i', 'o', 'n']
  | .subscription => ['s', 'u', 'b', 's', 'c', 'r', 'i', 'p', 't', 'i', 'o', 'n']

def opKwRule : OpKind → RuleId
  | .query => R.KEYWORD_query
  | .mutation => R.KEYWORD_mutation
  | .subscription => R.KEYWORD_subscription

theorem strToOperationType_opKw (k : OpKind) : strToOperationType (opKw k) = .ok k := by
  unfold strToOperationType
  rw [String.toList_ofList, String.toList_ofList, String.toList_ofList]
  cases k
  · exact if_pos rfl
  · exact (if_neg (by decide)).trans (if_pos rfl)
  · exact (if_neg (by decide)).trans ((if_neg (by decide)).trans (if_pos rfl))

/-- the builder reads the text of the pair, whose end is exact -/
theorem opTypeT {τ : Trivia} (hτ : ∀ q, Ws (τ q)) (k : OpKind) {s : Bool} {p : Nat} {bad : Char → Prop}
    (h : HasAt inp p (tk τ s p (opKw k))) (hn : Nxt inp bad s (p + (tk τ s p (opKw k)).length)) :
    ∃ pr, Reads inp 10 R.OperationType p (tk τ s p (opKw k))
      (fun _ pr => strToOperationType (asStr (Ctx.spec inp) pr)) k pr := by
  have rK : RunsKE (B (tk τ s p (opKw k)).length + 10) (.call R.OperationType) (At inp p) (At inp (p + (opKw k).length))
      (At inp (p + (tk τ s p (opKw k)).length))
      [.mk R.OperationType p (p + (opKw k).length) [.mk (opKwRule k) p (p + (opKw k).length) []]] := by
    cases k with
    | query =>
      have r : RunsKE (B (tk τ s p (opKw .query)).length) _ _ _ _ _ := kwT hτ look_KEYWORD_query h hn
      exact (runsKE_rule look_OperationType (runsKE_choice_l
        (b := .choice (.call R.KEYWORD_mutation) (.call R.KEYWORD_subscription)) r)).mono (by omega)
    | mutation =>
      have r : RunsKE (B (tk τ s p (opKw .mutation)).length) _ _ _ _ _ := kwT hτ look_KEYWORD_mutation h hn
      have f1 := kw_fails_head (la := .none) look_KEYWORD_query
        (headNot_of_hd h.left (hd_cons (P := (· = 'm')) _ rfl) (by rintro c rfl; decide))
      exact (runsKE_rule look_OperationType (runsKE_choice_r f1 (runsKE_choice_l
        (b := .call R.KEYWORD_subscription) r))).mono (by simp only [B]; omega)
    | subscription =>
      have r : RunsKE (B (tk τ s p (opKw .subscription)).length) _ _ _ _ _ := kwT hτ look_KEYWORD_subscription h hn
      have hk := headNot_of_hd h.left (hd_cons (P := (· = 's')) _ rfl) (Q := fun c => c = 'q' ∨ c = 'm')
        (by rintro c rfl; decide)
      have f1 := kw_fails_head (la := .none) look_KEYWORD_query (headNot_mono (fun _ h => Or.inl h) hk)
      have f2 := kw_fails_head (la := .none) look_KEYWORD_mutation (headNot_mono (fun _ h => Or.inr h) hk)
      exact (runsKE_rule look_OperationType (runsKE_choice_r f1 (runsKE_choice_r f2 r))).mono
        (by simp only [B]; omega)
  refine ⟨_, ⟨rK.toK, cleanP_of (by decide) (by decide)
    ⟨cleanP_of (by cases k <;> decide) (by cases k <;> decide) trivial, trivial⟩, trivial⟩, rfl, rfl, fun _ _ => ?_⟩
  rw [show asStr (Ctx.spec inp) (.mk R.OperationType p (p + (opKw k).length) [.mk (opKwRule k) p (p + (opKw k).length) []]) =
    opKw k from h.left.slice]
  exact strToOperationType_opKw k

theorem opType_fails {p : Nat} (h : HeadNot (fun c => c = 'q' ∨ c = 'm' ∨ c = 's') (inp.drop p)) :
    Fails gList 20 true (.call R.OperationType) .nonAtomic (At inp p) :=
  first_fails (by decide) h

def rOptName (τ : Trivia) (p : Nat) : Option (Name × Pos) → List Char
  | none => []
  | some (n, _) => tk τ false p n.toList

theorem hd_rOptName (τ : Trivia) (p : Nat) (n : Option (Name × Pos)) (hv : ∀ a ∈ n, validName a.1.toList) :
    rOptName τ p n = [] ∨ Hd nameStart (rOptName τ p n) := by
  cases n with
  | none => exact Or.inl rfl
  | some a => exact Or.inr (hd_tk (hd_of_validName (hv a rfl)))

theorem optNameT {τ : Trivia} (hτ : ∀ q, Ws (τ q)) (n : Option (Name × Pos)) (hv : ∀ a ∈ n, validName a.1.toList)
    {p : Nat} {bad : Char → Prop} (hbad : ∀ d, nameStart d → bad d) (h : HasAt inp p (rOptName τ p n))
    (hn : Nxt inp bad false (p + (rOptName τ p n).length)) :
    ∃ o, ReadsOpt inp 0 R.Name p (rOptName τ p n) (fun _ o => (.ok (o.map (ident (Ctx.spec inp))) : M _))
      (n.map fun a => (a.1, posAt inp p)) o := by
  cases n with
  | none =>
    exact ⟨_, .none (name_fails_at (headNot_mono hbad (hn : Nxt inp bad false p).ok)) hn.tok (by decide) fun _ => rfl⟩
  | some aa =>
    obtain ⟨a, ap⟩ := aa
    simp only [rOptName] at h hn ⊢
    refine ⟨_, Reads.opt (bld := fun _ pr => (.ok (some (ident (Ctx.spec inp) pr)) : M _))
      ⟨nameP hτ (hv (a, ap) rfl) h hn, rfl, rfl, fun _ _ => ?_⟩ fun _ => rfl⟩
    simp [ident, asString_spec', toPos_spec', Pair.start, Pair.stop, h.left.slice]

def rOp (τ : Trivia) (sep : Bool) (p : Nat) (o : OperationDef) : List Char :=
  let tK := tk τ o.name.isSome p (opKw o.kind)
  let tN := rOptName τ (p + tK.length) o.name
  let tV := rOptVars τ false (p + tK.length + tN.length) o.vars
  let tD := rDirs τ false (p + tK.length + tN.length + tV.length) o.dirs
  tK ++ (tN ++ (tV ++ (tD ++ rSelSet τ sep (p + tK.length + tN.length + tV.length + tD.length) o.sel)))

def wpOp (τ : Trivia) (inp : List Char) (p : Nat) (o : OperationDef) : OperationDef :=
  let tK := tk τ o.name.isSome p (opKw o.kind)
  let tN := rOptName τ (p + tK.length) o.name
  let tV := rOptVars τ false (p + tK.length + tN.length) o.vars
  let tD := rDirs τ false (p + tK.length + tN.length + tV.length) o.dirs
  { kind := o.kind, name := o.name.map (fun n => (n.1, posAt inp (p + tK.length))),
    vars := wpVarDefs τ inp (p + tK.length + tN.length + (tk τ false (p + tK.length + tN.length) ['(']).length) o.vars,
    dirs := wpDirs τ inp false (p + tK.length + tN.length + tV.length) o.dirs,
    sel := wpSels τ inp (p + tK.length + tN.length + tV.length + tD.length +
      (tk τ false (p + tK.length + tN.length + tV.length + tD.length) ['{']).length) o.sel,
    pos := posAt inp p }

/-- the anonymous query shorthand `{ … }` -/
def wpOpShort (τ : Trivia) (inp : List Char) (p : Nat) (o : OperationDef) : OperationDef :=
  { kind := .query, name := none, vars := [], dirs := [],
    sel := wpSels τ inp (p + (tk τ false p ['{']).length) o.sel, pos := posAt inp p }

def WFOp (o : OperationDef) : Prop :=
  (∀ n ∈ o.name, validName n.1.toList) ∧ (∀ v ∈ o.vars, WFVarDef v) ∧ WFDirs o.dirs ∧ o.sel ≠ [] ∧ WFSels o.sel

theorem hd_opKw (k : OpKind) : Hd (fun c => c = 'q' ∨ c = 'm' ∨ c = 's') (opKw k) := by
  cases k
  · exact hd_cons _ (Or.inl rfl)
  · exact hd_cons _ (Or.inr (Or.inl rfl))
  · exact hd_cons _ (Or.inr (Or.inr rfl))

theorem opDef_fails {p : Nat} (h : HeadNot (fun c => c = 'q' ∨ c = 'm' ∨ c = 's' ∨ c = '{') (inp.drop p)) :
    Fails gList 30 true (.call R.OperationDefinition) .nonAtomic (At inp p) :=
  first_fails (by decide) h

abbrev kwFragment : List Char := ['f', 'r', 'a', 'g', 'm', 'e', 'n', 't']

def rFrag (τ : Trivia) (sep : Bool) (p : Nat) (f : FragmentDef) : List Char :=
  let tK := tk τ true p kwFragment
  let tN := tk τ true (p + tK.length) f.name.toList
  let tC := rCond τ false (p + tK.length + tN.length) (some (f.cond, f.condPos))
  let tD := rDirs τ false (p + tK.length + tN.length + tC.length) f.dirs
  tK ++ (tN ++ (tC ++ (tD ++ rSelSet τ sep (p + tK.length + tN.length + tC.length + tD.length) f.sel)))

def wpFrag (τ : Trivia) (inp : List Char) (p : Nat) (f : FragmentDef) : FragmentDef :=
  let tK := tk τ true p kwFragment
  let tN := tk τ true (p + tK.length) f.name.toList
  let tC := rCond τ false (p + tK.length + tN.length) (some (f.cond, f.condPos))
  let tD := rDirs τ false (p + tK.length + tN.length + tC.length) f.dirs
  { name := f.name, namePos := posAt inp (p + tK.length), cond := f.cond,
    condPos := posAt inp (p + tK.length + tN.length + (tk τ true (p + tK.length + tN.length) kwOn).length),
    dirs := wpDirs τ inp false (p + tK.length + tN.length + tC.length) f.dirs,
    sel := wpSels τ inp (p + tK.length + tN.length + tC.length + tD.length +
      (tk τ false (p + tK.length + tN.length + tC.length + tD.length) ['{']).length) f.sel,
    pos := posAt inp p }

def WFFrag (f : FragmentDef) : Prop :=
  validName f.name.toList ∧ f.name.toList ≠ kwOn ∧ validName f.cond.toList ∧ WFDirs f.dirs ∧ f.sel ≠ [] ∧ WFSels f.sel

end NitroVerif.DocParse
