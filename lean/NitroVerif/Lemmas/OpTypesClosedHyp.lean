/-
C01/C02 closed forms: the hypotheses `Hyp` of the refinement theorem (Lemmas/OpTypesRefRel.lean) hold for the schema
declaration file the MODEL of the schema printer emits (`SchemaDecls.schemaFile`, C10's subject), linked into any flat
operation file through `import type * as <NS> from "<module>"`, read with the real `__SelectionSet` hook.

  * `__SelectionSet` of the generated prelude resolves through `NS.__SelectionSet` and carries the text the reading was
    written against (`hsel`, `hp` of `envOk_of_hook`);
  * `NS.__OperationOutput.T` is the absolute reference to the alias of `T` (C10's qualified route), whose stored body —
    for an object type — is the record `{__typename, <every field>}` (`origObj`);
  * for a leaf type the alias admits exactly `Ref_OperationOutput(T)` (C10's closed form, re-used here for an environment
    WITH the `__SelectionSet` hook: the configured scalar texts do not apply an absolute reference, so the hook never
    fires inside them), i.e. the enum's value names / the configured text read globally.
-/
import NitroVerif.Lemmas.OpTypesRefThm
import NitroVerif.Lemmas.DeclsClosedInduct
namespace NitroVerif.OpTypes.Closed
open NitroVerif.Gql NitroVerif.Ts NitroVerif.DeclCfg NitroVerif.SchemaDecls NitroVerif.RefTypes

/-- the head of an application is not an absolute reference (the only heads `SelSem.hook` interprets) -/
def notAbsHead : Ty → Bool
  | .other tag _ => tag != "abs"
  | _ => true

theorem selHook_none {d : Decls} {f : Ty} {as : List Ty} (hf : notAbsHead f = true) : SelSem.hook d f as = none := by
  unfold SelSem.hook
  split
  · simp [notAbsHead] at hf
  · rfl

theorem mem_indep_selHook {d : Decls} {v : J} {t : Ty} (ht : t.spine notAbsHead = true) :
    Mem { decls := d, appHook := SelSem.hook } v t ↔ Mem Env.empty v t :=
  mem_indep_spine (p := notAbsHead) (fun _ _ _ hf => selHook_none hf) (fun _ _ _ _ => rfl) ht

/-- what is assumed of the configuration and of the specification's parameters (besides C10's `DocOK`) -/
structure CfgOk (cfg : Cfg) (c : Exec.Ctx) : Prop where
  /-- the value set of a scalar type IS what its configured TypeScript text for `__OperationOutput` denotes (read
      globally) — the specification's parameter `scalar` is instantiated by the configuration (C09's subject) -/
  scalars : ∀ n sc v, scalarType? cfg c.S.items n = some sc →
    (c.scalar n v = true ↔ Mem Env.empty v (cfg.parseOf (sc.getType .operationOutput)))
  /-- no configured scalar text applies an absolute reference (a parser of TypeScript text never produces one) -/
  plain : ∀ p ∈ scalarTypes cfg c.S.items, ∀ t ∈ Target.all, (cfg.parseOf (p.2.getType t)).spine notAbsHead = true
  /-- no scalar is mapped to a type that admits `null` (`unknown`, `any`, `T | null`) -/
  notNull : ∀ p ∈ scalarTypes cfg c.S.items, ¬ Mem Env.empty .null (cfg.parseOf (p.2.getType .operationOutput))
  /-- every composite type has a possible runtime object type (no interface without implementing object type) -/
  inhabited : ∀ n, c.S.isComposite n = true → c.S.possibleTypes n ≠ []

theorem CfgOk.of_eq {cfg : Cfg} {c c' : Exec.Ctx} (K : CfgOk cfg c) (hS : c'.S = c.S) (hsc : c'.scalar = c.scalar) :
    CfgOk cfg c' :=
  ⟨hS ▸ hsc ▸ K.scalars, hS ▸ K.plain, hS ▸ K.notNull, hS ▸ K.inhabited⟩

def selSetDecl (P : Scope) : Ts.Decl := ⟨P, "__SelectionSet", true, [], .other "raw" [selectionSetText]⟩

theorem find_selectionSet {cfg : Cfg} {doc : TsDoc} {F : File} (hF : schemaFile cfg doc = .ok F) (P : Scope) :
    (Stmt.declsList P F).find? (isDeclAt P "__SelectionSet") = some (selSetDecl P) ∧
    (Stmt.declsList P F).find? (fun x => x.scope == P && x.name == "__SelectionSet" && x.exported)
      = some (selSetDecl P) := by
  obtain ⟨ns, _, rfl⟩ := schemaFile_eq hF
  rw [declsList_append, declsList_append]
  constructor <;>
    simp [prelude, Stmt.declsList, Stmt.decls, isDeclAt, selSetDecl]

section hosted
variable {cfg : Cfg} {doc : TsDoc} {F : File} {d : Decls} {A : String} (X : Hosting cfg doc F d [A])
  (hA : d.resolveNsAux A (([] : Scope).length + 1) [] = some [A])

include X hA in
theorem glob_selSet : globalise d [] [] (.qref [A, "__SelectionSet"]) = .other "abs" [A, "__SelectionSet"] := by
  have hexp : d.findExported [A] "__SelectionSet" = some (selSetDecl [A]) := by
    apply findExported_of_type
    have := X.hosted.exported [] "__SelectionSet"
    simp only [List.append_nil] at this
    rw [this]
    exact (find_selectionSet X.file [A]).2
  exact Ts.globalise_of_resolveQ ((Ts.resolveQ_member hA).trans hexp)

include X in
theorem isSelSet : SelSem.isSelectionSet d [A, "__SelectionSet"] = true := by
  have hl : d.findLocal [A] "__SelectionSet" = some (selSetDecl [A]) := by
    have := X.hosted.findLocal [] "__SelectionSet"
    simp only [List.append_nil] at this
    rw [this]
    exact (find_selectionSet X.file [A]).1
  have e1 : [A, "__SelectionSet"].dropLast = [A] := rfl
  have e2 : [A, "__SelectionSet"].getLast? = some "__SelectionSet" := rfl
  have e3 : (selectionSetText == SelSem.preludeText) = true := by
    rw [show selectionSetText = SelSem.preludeText from rfl]; exact beq_self_eq_true _
  simp only [SelSem.isSelectionSet, e1, e2, hl, selSetDecl, beq_self_eq_true, Bool.true_and, e3]

include X hA in
theorem glob_out {td : TypeDef} (hm : td ∈ typeDefsOf doc) (hfit : kindFits td.kind .operationOutput = true) :
    globalise d [] [] (.qref [A, "__OperationOutput", td.name]) = absRef cfg doc [A] .operationOutput td.name := by
  obtain ⟨ty, hb⟩ := fits_body X.file .operationOutput hm hfit
  exact Ts.globalise_of_resolveQ
    (hosted_qualified_outer (E := { decls := d }) X .operationOutput (sc := []) (A := A) hA hm hb)

include X in
theorem origFields_object {td : TypeDef} (hm : td ∈ typeDefsOf doc) (hk : td.kind = .object) :
    ∃ ofs, SelSem.origFields d 8 (absRef cfg doc [A] .operationOutput td.name) = some ofs ∧
      ofs.map (·.1) = "__typename" :: td.fields.map (·.name) := by
  have hb : body (Ctx.new cfg doc .operationOutput) td = .ok (some (objectBody (Ctx.new cfg doc .operationOutput) td)) := by
    simp [body, hk, Target.isInput, Target.isOutput]
  have hbody := hosted_body (D := d) X .operationOutput hm hb
  rw [objectBody, globalise_objectBodyL] at hbody
  refine ⟨("__typename", false, false, .strLit td.name) :: td.fields.map fun f =>
    (f.name, false, false, tsOf (fun n => globalise d ([A] ++ [Target.operationOutput.name]) []
      ((Ctx.new cfg doc .operationOutput).leaf n)) false f.ty), ?_, ?_⟩
  · show SelSem.origFields d 8 (.other "abs" (([A] ++ [Target.operationOutput.name]) ++ [lname cfg doc td.name])) = _
    simp only [SelSem.origFields, hbody, objectBodyL]
  · simp [List.map_map, Function.comp_def]

end hosted

section hyp
variable {cfg : Cfg} {c : Exec.Ctx} {F : File} (hF : schemaFile cfg c.S.items = .ok F) (ok : DocOK cfg c.S.items)
  (K : CfgOk cfg c) (main : File) (m ns : String) (hflat : main.all (fun s => !s.isNamespace) = true)
  (himp : starImports main = [(m, ns)])

/-- the declaration table of the operation file linked with the schema declaration file -/
abbrev tableOf (main : File) (m : String) (F : File) : Decls := Decls.ofFiles main [(m, F)]

/-- the references of the printed types, resolved in that table -/
abbrev refsOf (main : File) (m ns : String) (F : File) : Refs := (Refs.ofNs ns).close (tableOf main m F)

/-- `keyof Orig`, read off the table -/
abbrev origOf (main : File) (m ns : String) (F : File) : Name → Option (List Field) :=
  fun tn => SelSem.origFields (tableOf main m F) 8 ((refsOf main m ns F).out tn)

include hF in
theorem scalar_configured {td : TypeDef} (hm : td ∈ typeDefsOf c.S.items) (hk : td.kind = .scalar) :
    ∃ sc, scalarType? cfg c.S.items td.name = some sc ∧ (td.name, sc) ∈ scalarTypes cfg c.S.items := by
  obtain ⟨ty, hb⟩ := fits_body hF .operationOutput hm (by rw [hk]; rfl)
  unfold body at hb
  simp only [hk, Ctx.new_target, Ctx.new_cfg, Ctx.new_scalarTypes] at hb
  split at hb
  · rename_i n' sc hfind
    have hfind' : (scalarTypes cfg c.S.items).find? (·.1 == td.name) = some (n', sc) := hfind
    have hn : n' = td.name := by simpa using List.find?_some hfind'
    exact ⟨sc, by simp [scalarType?, hfind'], hn ▸ List.mem_of_find?_eq_some hfind'⟩
  · cases hb

include K in
theorem scalarsGlobal_selHook : ScalarsGlobal cfg c.S.items (SelSem.envOf main m F) :=
  fun p hp t ht _ => mem_indep_selHook (K.plain p hp t ht)

include hF ok K hflat himp in
theorem hyp_schemaFile :
    Ref.Hyp c (SelSem.envOf main m F) (refsOf main m ns F) (origOf main m ns F) := by
  have X : Hosting cfg c.S.items F (tableOf main m F) [ns] := .ofFiles hF ok hflat himp
  have hA := ofFiles_resolveNs main m ns F himp
  have hout : ∀ {td : TypeDef}, td ∈ typeDefsOf c.S.items → kindFits td.kind .operationOutput = true →
      (refsOf main m ns F).out td.name = absRef cfg c.S.items [ns] .operationOutput td.name :=
    fun hm hfit => glob_out X hA hm hfit
  refine ⟨?_, ?_, ?_, ?_, K.inhabited⟩
  · exact envOk_of_hook (tableOf main m F) (refsOf main m ns F) [ns, "__SelectionSet"] (glob_selSet X hA)
      (isSelSet X)
      (fun n => (globalise_qref_shape (tableOf main m F) [ns, "__OperationOutput", n]).1)
      (fun n => (globalise_qref_shape (tableOf main m F) [ns, "__OperationOutput", n]).2)
  · intro tn td htd hk
    have hm := Schema.typeDef?_mem htd
    obtain rfl := Schema.typeDef?_name htd
    obtain ⟨ofs, h1, h2⟩ := origFields_object X hm hk
    refine ⟨ofs, ?_, declares_iff htd h2⟩
    show SelSem.origFields _ 8 ((refsOf main m ns F).out td.name) = some ofs
    rw [hout hm (by rw [hk]; rfl)]
    exact h1
  · intro n v hl
    unfold Ref.isLeafType Schema.kindOf? at hl
    cases htd : c.S.typeDef? n with
    | none => simp [htd] at hl
    | some td =>
      have hm := Schema.typeDef?_mem htd
      obtain rfl := Schema.typeDef?_name htd
      have hfit : kindFits td.kind .operationOutput = true := by
        simp only [htd, Option.map_some] at hl
        cases hk : td.kind <;> first | rfl | (simp only [hk] at hl; cases hl)
      show Mem (SelSem.envOf main m F) v ((refsOf main m ns F).out td.name) ↔ _
      rw [hout hm hfit, hosted_alias_exact (E := SelSem.envOf main m F) X (scalarsGlobal_selHook K main m)
        .operationOutput hm hfit v]
      unfold Exec.leafOk
      rw [htd]
      cases hk : td.kind with
      | scalar =>
        rw [Ref_scalar cfg c.S .operationOutput htd hk]
        simp only [hk]
        constructor
        · rintro ⟨sc, hsc, hmem⟩; exact (K.scalars td.name sc v hsc).2 hmem
        · intro hs
          obtain ⟨sc, hsc, _⟩ := scalar_configured hF hm hk
          exact ⟨sc, hsc, (K.scalars td.name sc v hsc).1 hs⟩
      | «enum» =>
        rw [Ref_enum cfg c.S .operationOutput htd hk]
        simp only [hk]
        constructor
        · rintro ⟨x, hxv, rfl⟩
          exact List.any_eq_true.2 ⟨x, hxv, by simp⟩
        · intro h
          cases v with
          | str s =>
            obtain ⟨x, hxv, hxs⟩ := List.any_eq_true.1 h
            exact ⟨x, hxv, by simp at hxs; rw [hxs]⟩
          | _ => simp at h
      | object => simp [htd, hk] at hl
      | input => simp [htd, hk] at hl
      | interface => simp [htd, hk] at hl
      | union => simp [htd, hk] at hl
  · intro n
    unfold Exec.leafOk
    cases htd : c.S.typeDef? n with
    | none => rfl
    | some td =>
      simp only
      cases hk : td.kind with
      | scalar =>
        simp only [hk]
        cases hs : c.scalar n .null with
        | false => rfl
        | true =>
          have hm := Schema.typeDef?_mem htd
          obtain rfl := Schema.typeDef?_name htd
          obtain ⟨sc, hsc, hmem⟩ := scalar_configured hF hm hk
          exact absurd ((K.scalars td.name sc .null hsc).1 hs) (K.notNull _ hmem)
      | «enum» => rfl
      | object => rfl
      | input => rfl
      | interface => rfl
      | union => rfl

include ok in
theorem typeNamesNodup_of_docOK : Ref.TypeNamesNodup c.S := by
  unfold Ref.TypeNamesNodup
  rw [typeDefs_eq]
  exact ok.distinct

end hyp

end NitroVerif.OpTypes.Closed
