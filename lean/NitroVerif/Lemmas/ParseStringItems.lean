/-
ANY legal normal string literal (helper lemmas for Props/C07 `string_decode_general`): a literal body is a list of
`SItem`s — one per alternative of the grammar's `StringCharacter` rule:

  plain c         a character other than `"`, `\`, LF, CR                         (NormalStringCharacter)
  esc e           `\` followed by one of `" \ / b f n r t`                          (EscapedCharacter)
  u4 a b c d      `\u` followed by four hexadecimal digits                          (EscapedUnicode4)
  ubrace ds       `\u{` one or more hexadecimal digits `}`                          (EscapedUnicodeBrace)

For EVERY list of items the GENERATED grammar's `StringValue` rule run by the generic interpreter on
`"` ++ texts ++ `"` consumes exactly the literal and yields the pair tree `litPair` (the ordered choice of `StringCharacter`
is followed literally: `EscapedUnicodeBrace` fails on `\uXXXX` at the missing `{`, both `\u` rules fail on a simple escape …).
The rules of a literal are compound-atomic, so nothing is skipped inside it: every derivation is a `RunT` (Lemmas/PegPiece.lean),
a run whose cursors follow from the text; the depth of a literal is counted in items (`SItem.depth`, `lit_star`,
`litValue_runs_of`), and `litValue_runs` restates it in characters.
-/
import NitroVerif.Lemmas.ParseStringBase
import NitroVerif.Lemmas.ParseLex
namespace NitroVerif.StringParse
open NitroVerif.Peg NitroVerif.Gen NitroVerif.Gen.Parts NitroVerif.Build NitroVerif.Spec.Lex NitroVerif.TypeParse
open NitroVerif.ParseText NitroVerif.ValueParse

def hexDigit (d : Char) : Prop := ('0' ≤ d ∧ d ≤ '9') ∨ (('a' ≤ d ∧ d ≤ 'f') ∨ ('A' ≤ d ∧ d ≤ 'F'))
instance (d : Char) : Decidable (hexDigit d) := by unfold hexDigit; infer_instance

inductive SItem where
  | plain (c : Char)
  | esc (e : Char)
  | u4 (a b c d : Char)
  | ubrace (ds : List Char)
  deriving Repr

abbrev escLetters : List (List Char) := [['"'], ['\\'], ['/'], ['b'], ['f'], ['n'], ['r'], ['t']]

def SItem.text : SItem → List Char
  | .plain c => [c]
  | .esc e => ['\\', e]
  | .u4 a b c d => ['\\', 'u', a, b, c, d]
  | .ubrace ds => '\\' :: 'u' :: '{' :: (ds ++ ['}'])

/-- the item is one the grammar admits -/
def SItem.Ok : SItem → Prop
  | .plain c => c ≠ '"' ∧ c ≠ '\\' ∧ c ≠ '\n' ∧ c ≠ '\r'
  | .esc e => [e] ∈ escLetters
  | .u4 a b c d => hexDigit a ∧ hexDigit b ∧ hexDigit c ∧ hexDigit d
  | .ubrace ds => ds ≠ [] ∧ ∀ x ∈ ds, hexDigit x

/-- the pair tree of an item written at offset `p` -/
def SItem.pair : SItem → Nat → Pair
  | .plain _, p => .mk R.StringCharacter p (p + 1) [.mk R.NormalStringCharacter p (p + 1) []]
  | .esc _, p => .mk R.StringCharacter p (p + 2) [.mk R.EscapedCharacter p (p + 2) []]
  | .u4 _ _ _ _, p => .mk R.StringCharacter p (p + 6) [.mk R.EscapedUnicode4 p (p + 6) []]
  | .ubrace ds, p => .mk R.StringCharacter p (p + (ds.length + 4))
      [.mk R.EscapedUnicodeBrace p (p + (ds.length + 4)) [.mk R.EscapedUnicodeBraceDigits (p + 3) (p + 3 + ds.length) []]]

/-- the depth the `StringCharacter` rule needs on an item -/
def SItem.depth : SItem → Nat
  | .plain _ => 20
  | .esc _ => 20
  | .u4 _ _ _ _ => 25
  | .ubrace ds => ds.length + 33

def litText (its : List SItem) : List Char := its.flatMap SItem.text

def litPairs : List SItem → Nat → List Pair
  | [], _ => []
  | it :: its, p => it.pair p :: litPairs its (p + it.text.length)

theorem litText_cons (it : SItem) (its : List SItem) : litText (it :: its) = it.text ++ litText its := by
  simp [litText]

theorem text_length_pos (it : SItem) : 1 ≤ it.text.length := by cases it <;> simp [SItem.text]

theorem litText_length_ge (its : List SItem) : its.length ≤ (litText its).length := by
  induction its with
  | nil => simp [litText]
  | cons it its ih =>
    rw [litText_cons]
    have := text_length_pos it
    simp only [List.length_cons, List.length_append]; omega

theorem text_head (it : SItem) (h : it.Ok) : ∃ d r, it.text = d :: r ∧ d ≠ '"' := by
  cases it with
  | plain c => exact ⟨c, [], rfl, h.1⟩
  | esc e => exact ⟨'\\', [e], rfl, by decide⟩
  | u4 a b c d => exact ⟨'\\', _, rfl, by decide⟩
  | ubrace ds => exact ⟨'\\', _, rfl, by decide⟩

theorem look_HEX : gList.look R.ASCII_HEX_DIGIT =
    some (.silent, .choice (.range '0' '9') (.choice (.range 'a' 'f') (.range 'A' 'F'))) := rfl

theorem hexL_runs {la at_ p d r} (h : hexDigit d) :
    RunsRuleL gList la 4 R.ASCII_HEX_DIGIT at_ ⟨p, d :: r⟩ ⟨p + 1, r⟩ [] := by
  refine runsRuleL_silent look_HEX (notSpecial (by decide) (by decide)) ?_
  by_cases h1 : '0' ≤ d ∧ d ≤ '9'
  · exact (runsL_choice_l (runsL_range (c := ⟨p, d :: r⟩) rfl h1)).mono (by omega)
  · have h' := h.resolve_left h1
    refine runsL_choice_r ((failsL_range (c := ⟨p, d :: r⟩) fun _ _ he => by cases he; exact h1).mono (by omega)) ?_
    by_cases h2 : 'a' ≤ d ∧ d ≤ 'f'
    · exact runsL_choice_l (runsL_range (c := ⟨p, d :: r⟩) rfl h2)
    · exact runsL_choice_r (failsL_range (c := ⟨p, d :: r⟩) fun _ _ he => by cases he; exact h2)
        (runsL_range (c := ⟨p, d :: r⟩) rfl (h'.resolve_left h2))

theorem hexL_fails {la at_ p rest} (h : HeadNot hexDigit rest) :
    FailsRuleL gList la 4 R.ASCII_HEX_DIGIT at_ ⟨p, rest⟩ :=
  failsRuleL_of_call (sk := false) (first_fails (by decide) h)

theorem hex_star (ds : List Char) (p : Nat) (rest : List Char) (hds : ∀ x ∈ ds, hexDigit x) (hr : HeadNot hexDigit rest) :
    Runs gList (ds.length + 6) false (.star (.call R.ASCII_HEX_DIGIT)) .atomic ⟨p, ds ++ rest⟩ ⟨p + ds.length, rest⟩ [] :=
  Piece.star (fun _ _ _ h => runsL_call (hexL_runs h)) (fun _ => failsL_call (hexL_fails hr)) hds

theorem hex_piece {la sk at_ p d rest} (h : hexDigit d) : Piece gList la 5 sk (.call R.ASCII_HEX_DIGIT) at_ p [d] rest :=
  Piece.one (runsL_call (hexL_runs h))

theorem hexDigit_ne {d : Char} (h : hexDigit d) : d ≠ '+' ∧ d ≠ '{' ∧ d ≠ '}' := by
  refine ⟨?_, ?_, ?_⟩ <;> (rintro rfl; exact absurd h (by decide))

theorem brace_fails_u {p : Nat} {d : Char} {r : List Char} {at_ : Atomicity} (hd : d ≠ '{') :
    FailsRule gList 6 R.EscapedUnicodeBrace at_ ⟨p, '\\' :: 'u' :: d :: r⟩ :=
  (failsRule_compound look_EscapedUnicodeBrace (RunT.fails_seq (t := ['\\', 'u']) (Or.inl rfl)
    ((RunT.str _).mono (by decide))
    (fails_seq_first (fails_str (c := ⟨_, d :: r⟩) (by simp [matchStr, Ne.symm hd]))))).mono (by decide)

theorem u4_runs {p : Nat} {a b c d : Char} {r : List Char} (ha : hexDigit a) (hb : hexDigit b) (hc : hexDigit c)
    (hd : hexDigit d) :
    RunT gList .none 17 false (.call R.EscapedUnicode4) .compound p ['\\', 'u', a, b, c, d] r
      [.mk R.EscapedUnicode4 p (p + 6) []] := by
  have hex : ∀ {q x y}, hexDigit x → RunT gList .none 6 false (.call R.ASCII_HEX_DIGIT) .atomic q [x] y [] :=
    fun h => hex_piece h
  exact RunT.atomicRule look_EscapedUnicode4 (RunT.seq (Or.inl rfl) ((RunT.str ['\\', 'u']).mono (by decide))
    (RunT.rep (k := 4) (RunT.seq (ta := [a]) (Or.inl rfl) ((hex ha).mono (by decide))
      (RunT.seq (ta := [b]) (Or.inl rfl) ((hex hb).mono (by decide))
        (RunT.seq (ta := [c]) (tb := [d]) (Or.inl rfl) (hex hc) (hex hd)))))) (by decide)

theorem ubrace_runs {p : Nat} {ds : List Char} {r : List Char} (hne : ds ≠ []) (hds : ∀ x ∈ ds, hexDigit x) :
    RunT gList .none (ds.length + 19) false (.call R.EscapedUnicodeBrace) .compound p (SItem.ubrace ds).text r
      [.mk R.EscapedUnicodeBrace p (p + (ds.length + 4)) [.mk R.EscapedUnicodeBraceDigits (p + 3) (p + 3 + ds.length) []]] := by
  obtain ⟨d, ds', rfl⟩ := List.exists_cons_of_ne_nil hne
  -- the digits `ASCII_HEX_DIGIT+`, which stop at the closing brace
  have hdig : Piece gList .none 9 false (.plus (.call R.ASCII_HEX_DIGIT)) .atomic (p + 3) (d :: ds') ('}' :: r) :=
    Piece.plus (Piece.seq (ta := [d]) (Or.inl rfl) (hex_piece (hds d (List.mem_cons_self ..)))
      (hex_star ds' _ _ (fun x hx => hds x (List.mem_cons_of_mem _ hx)) (headNot_cons (by decide) _)))
  have hrule := RunT.atomicRule (sk := false) (at_ := .compound) look_EscapedUnicodeBraceDigits hdig (by decide)
  exact (RunT.compoundRule look_EscapedUnicodeBrace (RunT.seq (Or.inl rfl)
    ((RunT.str (p := p) ['\\', 'u']).mono (Nat.le_add_left 1 ((d :: ds').length + 14)))
    (RunT.seq (Or.inl rfl) ((RunT.str ['{']).mono (Nat.le_add_left 1 ((d :: ds').length + 12)))
      (RunT.seq (tb := ['}']) (rest := r) (Or.inl rfl) hrule ((RunT.str ['}']).mono (Nat.le_add_left 1 _)))))).cast rfl
    (by simp)

theorem sc_item_runs (it : SItem) (hok : it.Ok) (p : Nat) (rest : List Char) :
    RunT gList .none (it.depth + 1) false (.call R.StringCharacter) .compound p it.text rest [it.pair p] := by
  -- the alternatives before the one that reads the item fail on its first two characters
  have pass : ∀ {x : List Char} {m : Nat} {r : RuleId}, FailsRule gList 3 r .compound ⟨p, x⟩ → 4 ≤ m →
      Fails gList m false (.call r) .compound ⟨p, x⟩ := fun h hm => (fails_call h).mono hm
  cases it with
  | plain c =>
    obtain ⟨h1, h2, h3, h4⟩ := hok
    have hm : matchStr ['\\', 'u'] (c :: rest) = none := by simp [matchStr, Ne.symm h2]
    have hm' : matchStr ['\\'] (c :: rest) = none := by simp [matchStr, Ne.symm h2]
    have hnorm := RunT.atomicRule (sk := false) (at_ := .compound) look_NormalStringCharacter
      (RunT.nil_seq (t := [c]) (rest := rest) (Or.inl rfl) (runsL_not (la := .none) (normalGuard_fails h1 h2 h3 h4))
        (RunT.one ((runsL_any (c := ⟨p, c :: rest⟩) rfl).mono (by decide)))) (by decide)
    exact (RunT.compoundRule look_StringCharacter (RunT.choice_r (pass (brace_fails hm) (by decide))
      (RunT.choice_r (pass (u4_fails hm) (by decide)) (RunT.choice_r (pass (esc_fails hm') (by decide)) hnorm rfl) rfl)
      rfl)).mono (by simp [SItem.depth])
  | esc e =>
    have hmem : [e] ∈ escLetters := hok
    have hu : e ≠ 'u' := by rintro rfl; exact absurd hmem (by decide)
    have hm : matchStr ['\\', 'u'] ('\\' :: e :: rest) = none := by simp [matchStr, Ne.symm hu]
    have hesc := RunT.atomicRule (sk := false) (at_ := .compound) look_EscapedCharacter
      (RunT.seq (p := p) (ta := ['\\']) (tb := [e]) (rest := rest) (Or.inl rfl) ((RunT.str ['\\']).mono (by decide))
        (RunT.one ((oneChar_alts (g := gList) (la := .none) (sk := false) (at_ := .atomic) _ _ escAlts (by decide) _ e rest).1 hmem)))
      (by decide)
    exact (RunT.compoundRule look_StringCharacter (RunT.choice_r (pass (brace_fails hm) (by decide))
      (RunT.choice_r (pass (u4_fails hm) (by decide)) (RunT.choice_l hesc) rfl) rfl)).mono (by simp [SItem.depth])
  | u4 a b c d =>
    exact (RunT.compoundRule look_StringCharacter (RunT.choice_r ((fails_call (brace_fails_u (hexDigit_ne hok.1).2.1)).mono
      (by decide)) (RunT.choice_l (u4_runs hok.1 hok.2.1 hok.2.2.1 hok.2.2.2)) rfl)).mono (by simp [SItem.depth])
  | ubrace ds =>
    exact ((RunT.compoundRule look_StringCharacter (RunT.choice_l (ubrace_runs hok.1 hok.2))).mono (by simp [SItem.depth])).cast rfl
      (by simp [SItem.pair, SItem.text])

def AllOk (its : List SItem) : Prop := ∀ it ∈ its, it.Ok

/-- `D` bounds the depth of every item (and is at least the ten that the closing quote needs) -/
theorem lit_star (its : List SItem) (hok : AllOk its) {D : Nat} (hD : ∀ it ∈ its, it.depth ≤ D) (h10 : 10 ≤ D) :
    ∀ (p : Nat) (tail : List Char),
    RunT gList .none (its.length + D + 2) false (.star (.call R.StringCharacter)) .compound p (litText its) ('"' :: tail)
      (litPairs its p) := by
  induction its with
  | nil => exact fun p tail => (RunT.star_nil (fails_call (sk := false) sc_fails_quote)).mono (by simp; omega)
  | cons it its ih =>
    exact fun p tail => ((RunT.star_cons ((sc_item_runs it (hok it (List.mem_cons_self ..)) p _).mono
        (by have := hD it (List.mem_cons_self ..); omega))
      (ih (fun x hx => hok x (List.mem_cons_of_mem _ hx)) (fun x hx => hD x (List.mem_cons_of_mem _ hx)) _ tail)).mono
      (by simp; omega)).cast (litText_cons it its).symm rfl

/-- the `StringValue` pair of the literal `"` items `"` (at least one item) written at offset `p` -/
def litPair (its : List SItem) (p : Nat) : Pair :=
  .mk R.StringValue p (p + ((litText its).length + 2))
    [.mk R.NormalStringValue p (p + ((litText its).length + 2)) (litPairs its (p + 1))]

theorem litValue_runs_of (it : SItem) (its : List SItem) (hok : AllOk (it :: its)) {D : Nat}
    (hD : ∀ x ∈ it :: its, x.depth ≤ D) (p : Nat) (rest : List Char) {at_ : Atomicity} :
    RunsRule gList ((it :: its).length + D + 13) R.StringValue at_
      ⟨p, '"' :: (litText (it :: its) ++ '"' :: rest)⟩ ⟨p + ((litText (it :: its)).length + 2), rest⟩
      [litPair (it :: its) p] := by
  have hit := hok it (List.mem_cons_self ..)
  have hDit : it.depth ≤ D := hD it (List.mem_cons_self ..)
  have h10 : 10 ≤ D := Nat.le_trans (by cases it <;> simp [SItem.depth] <;> omega) hDit
  obtain ⟨d0, r0, ht0, hd0⟩ := text_head it hit
  have hempty : FailsRule gList 3 R.EmptyStringValue .compound ⟨p, '"' :: (litText (it :: its) ++ '"' :: rest)⟩ := by
    refine failsRule_atomic look_EmptyStringValue (fails_seq_first (fails_str (c := ⟨p, _⟩) ?_))
    rw [litText_cons, ht0]
    simp [matchStr, Ne.symm hd0]
  generalize hM : its.length + D + 2 = M
  -- `NormalStringValue`: the quote, `StringCharacter+` over the items, the quote
  have normal := RunT.compoundRule (sk := false) (at_ := .compound) look_NormalStringValue
    (RunT.seq (p := p) (Or.inl rfl) ((RunT.str ['"']).mono (by omega))
      (RunT.seq (tb := ['"']) (rest := rest) (Or.inl rfl) (RunT.plus (RunT.seq (Or.inl rfl)
        ((sc_item_runs it hit (p + 1) _).mono (by omega : _ ≤ M))
        ((lit_star its (fun x hx => hok x (List.mem_cons_of_mem _ hx)) (fun x hx => hD x (List.mem_cons_of_mem _ hx)) h10 _ rest).mono
          (by omega)))) ((RunT.str ['"']).mono (by omega))))
  have body := RunT.choice_r ((fails_call (sk := false) hempty).mono (by omega))
    (RunT.choice_l (b := .call R.BlockStringValue) normal) (by simp [litText_cons])
  refine RunsRule.cast ((RunT.compound look_StringValue body at_).mono (by simp only [List.length_cons]; omega))
    (by simp [litText_cons]) (by simp [litText_cons]; omega) (by simp [litPair, litPairs, litText_cons]; omega)

theorem depth_le_text (it : SItem) : it.depth ≤ it.text.length + 29 := by
  cases it <;> simp [SItem.depth, SItem.text] <;> omega

/-- an item's depth is paid for by its own text and one character of every other item -/
theorem length_depth_le {x : SItem} : ∀ {its : List SItem}, x ∈ its → its.length + x.depth ≤ (litText its).length + 30 := by
  intro its
  induction its with
  | nil => intro h; cases h
  | cons it its ih =>
    intro hx
    rw [litText_cons, List.length_append, List.length_cons]
    rcases List.mem_cons.mp hx with rfl | hx
    · have := depth_le_text x; have := litText_length_ge its; omega
    · have := ih hx; have := text_length_pos it; omega

theorem litValue_runs (it : SItem) (its : List SItem) (hok : AllOk (it :: its)) (p : Nat) (rest : List Char)
    {at_ : Atomicity} :
    RunsRule gList ((litText (it :: its)).length + 60) R.StringValue at_
      ⟨p, '"' :: (litText (it :: its) ++ '"' :: rest)⟩ ⟨p + ((litText (it :: its)).length + 2), rest⟩
      [litPair (it :: its) p] :=
  (litValue_runs_of it its hok (D := (litText (it :: its)).length + 30 - (it :: its).length)
    (fun x hx => by have := length_depth_le hx; omega) p rest).mono
    (by have := litText_length_ge (it :: its); omega)

end NitroVerif.StringParse
