/-
The two reference rules for constant input values — `ValidTs.valueOk` (type-system documents, a `Bool`) and
`Valid.valueIssues` with `Valid.varUses` (operations: the rule tags violated, the variable usages) — are one rule
written twice: a value is fine for the first exactly when it has no issue and uses no variable for the second.
-/
import NitroVerif.Spec.Valid
import NitroVerif.Spec.ValidTs
import NitroVerif.Lemmas.SchemaFacts
import NitroVerif.Lemmas.ValueSize
namespace NitroVerif.ValidTs
open NitroVerif.Gql

theorem stripNN_not_nonNull (ty t : GType) : stripNN ty ≠ .nonNull t := by
  induction ty with
  | named n p | list u p _ => simp [stripNN]
  | nonNull u ih => simpa [stripNN] using ih

theorem noDup_eq_nodupB : ∀ l : List Name, noDup l = Valid.nodupB l
  | [] => rfl
  | x :: xs => by simp only [noDup, Valid.nodupB, noDup_eq_nodupB xs]

theorem stripNN_eq_valid (t : GType) : stripNN t = Valid.stripNonNull t := by
  induction t with
  | named n p | list u p _ => rfl
  | nonNull u ih => simpa [stripNN, Valid.stripNonNull] using ih

theorem leafOk_eq (S : Schema) (n : Name) (v : Value) : leafOk S n v = Valid.leafCoercible S v n := by
  unfold leafOk Valid.leafCoercible scalarLeafOk
  cases S.typeDef? n with
  | none => rfl
  | some td => cases td.kind <;> cases v <;> rfl

theorem valueOk_iff (S : Schema) (v : Value) (ty : GType) (ld : Bool) :
    valueOk S v ty = true ↔ Valid.valueIssues S v ty = [] ∧ Valid.varUses S v ty ld = [] := by
  suffices h : ∀ (k : Nat) (v : Value), v.size ≤ k → ∀ (ty : GType) (ld : Bool),
      (valueOk S v ty = true ↔ Valid.valueIssues S v ty = [] ∧ Valid.varUses S v ty ld = []) from
    h _ v (Nat.le_refl _) ty ld
  intro k
  induction k with
  | zero => intro v hv; have := Value.size_pos v; omega
  | succ k ih =>
    intro v hsz ty ld
    cases v with
    | var x p => simp [valueOk, Valid.varUses]
    | null p => simp [valueOk, Valid.valueIssues, Valid.varUses]
    | int s p | float s p | str s p | bool b p | enum e p =>
      simp only [valueOk, Valid.valueIssues, Valid.varUses, leafOk_eq, and_true]
      split <;> simp [*]
    | list vs p =>
      simp only [valueOk, Valid.valueIssues, Valid.varUses, ← stripNN_eq_valid]
      cases hs : stripNN ty with
      | nonNull t => exact absurd hs (stripNN_not_nonNull ty t)
      | named n q =>
        simp only [and_true, Schema.kindOf?]
        cases S.typeDef? n with
        | none => simp
        | some td => simp [builtinScalar, Valid.isBuiltinScalar, and_assoc]
      | list inner q =>
        simp only []
        have hl : ∀ (l : List Value), Value.sizeList l ≤ k →
            (valueOkList S l inner = true ↔
              Valid.valueIssuesList S l inner = [] ∧ Valid.varUsesList S l inner = []) := by
          intro l
          induction l with
          | nil => intro _; simp [valueOkList, Valid.valueIssuesList, Valid.varUsesList]
          | cons a r ihr =>
            intro h
            simp only [Value.sizeList] at h
            simp only [valueOkList, Valid.valueIssuesList, Valid.varUsesList, Bool.and_eq_true,
              List.append_eq_nil_iff, ih a (by omega) inner false, ihr (by omega)]
            exact and_and_and_comm
        exact hl vs (by simp only [Value.size] at hsz; omega)
    | obj fs p =>
      simp only [valueOk, Valid.valueIssues, Valid.varUses]
      cases ht : S.typeDef? ty.unwrapped with
      | none => simp
      | some td =>
        simp only []
        have hf : ∀ (l : List (Name × Pos × Value)), Value.sizeFields l ≤ k →
            (fieldsOk S l td.inputs = true ↔
              (l.all fun f => td.inputs.any (·.name == f.1)) = true ∧
                Valid.fieldIssues S l td.inputs = [] ∧ Valid.varUsesFields S l td.inputs = []) := by
          intro l
          induction l with
          | nil => intro _; simp [fieldsOk, Valid.fieldIssues, Valid.varUsesFields]
          | cons a r ihr =>
            intro h
            obtain ⟨key, q, w⟩ := a
            simp only [Value.sizeFields] at h
            simp only [fieldsOk, Valid.fieldIssues, Valid.varUsesFields, Bool.and_eq_true,
              List.append_eq_nil_iff, List.all_cons, ihr (by omega)]
            cases hfind : td.inputs.find? (·.name == key) with
            | none =>
              have : td.inputs.any (·.name == key) = false := by
                rw [List.any_eq_false]; exact fun x hx => by simpa using List.find?_eq_none.mp hfind x hx
              simp [this]
            | some ef =>
              have : td.inputs.any (·.name == key) = true :=
                List.any_eq_true.mpr ⟨ef, List.mem_of_find?_eq_some hfind, by simpa using List.find?_some hfind⟩
              simp only [this, true_and, ih w (by omega) ef.ty ef.default.isSome]
              exact ⟨fun ⟨⟨a, b⟩, c, d, e⟩ => ⟨c, ⟨a, d⟩, b, e⟩, fun ⟨c, ⟨a, d⟩, b, e⟩ => ⟨⟨a, b⟩, c, d, e⟩⟩
        have hfs := hf fs (by simp only [Value.size] at hsz; omega)
        cases hk : td.kind
        case input =>
          simp only [typeKind_beq, decide_true, if_true, Bool.and_eq_true, List.append_eq_nil_iff, ite_eq_left_iff,
            Bool.not_eq_true, reduceCtorEq, imp_false, Bool.not_eq_false, hfs, noDup_eq_nodupB]
          have hreq : (td.inputs.all fun ef => (fs.any fun x => x.1 == ef.name) || !(ef.ty.isNonNull && ef.default.isNone)) =
              (td.inputs.all fun d => !(d.ty.isNonNull && d.default.isNone) || fs.any fun x => x.1 == d.name) :=
            List.all_congr rfl fun x => Bool.or_comm ..
          rw [hreq]
          exact ⟨fun ⟨⟨a, b⟩, c, d, e⟩ => ⟨⟨⟨⟨c, a⟩, b⟩, d⟩, e⟩, fun ⟨⟨⟨⟨c, a⟩, b⟩, d⟩, e⟩ => ⟨⟨a, b⟩, c, d, e⟩⟩
        all_goals
          simp [leafOk, ht, hk, scalarLeafOk, Valid.isBuiltinScalar, Schema.typeDef?_name ht, typeKind_beq]

end NitroVerif.ValidTs
