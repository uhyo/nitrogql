/-
The composition C12 ∘ C13: runtime documents FROM FILES.

A *project* is a finite map from resolved paths to parsed + extension-resolved source files whose definitions are
real `Gql.ExecDef`s.  `absFS` forgets everything the import resolver (`Model/Imports.lean`) does not read (a
definition becomes `frag (code name)` / `other`), `materialise` turns the (file, index) pairs the resolver returns back
into definitions, `resolveDoc` is `resolve_operation_imports` at the level of documents (the root's own definitions
followed by the imported ones, as the code appends them) and `refDoc` is the same document built from the REFERENCE
import set (`Spec/Imports.lean refImports`). The property statements are in `Props/C12Composed.lean`.
-/
import NitroVerif.Lemmas.FragClosureRuntime
import NitroVerif.Lemmas.DocJson
import NitroVerif.Lemmas.Imports
import NitroVerif.Lemmas.CliComposedCode
namespace NitroVerif.Composed
open NitroVerif NitroVerif.Gql NitroVerif.Imports NitroVerif.Imports.Spec NitroVerif.FragClosure NitroVerif.C12

variable {κ ρ : Type} [DecidableEq κ] [DecidableEq ρ]

/-- a parsed + extension-resolved operation file: merged import lines (fragment names `Nat`-coded, as in
    `Model/Imports.lean`) and the executable definitions in file order -/
structure SrcFile (ρ : Type) where
  imports : List (Import ρ)
  defs : List ExecDef

/-- the finite set of files the `OperationResolver` knows (first entry of a path wins) -/
abbrev Project (κ ρ : Type) := List (κ × SrcFile ρ)

/-- what the import resolver reads of a definition: "fragment named n" or "something else" -/
def absDef (code : Name → Nat) : ExecDef → Def
  | .frag f => .frag (code f.name)
  | _ => .other

/-- a file and a project as the import model (`Model/Imports.lean`) sees them -/
def absFile (code : Name → Nat) (f : SrcFile ρ) : File ρ := ⟨f.imports, f.defs.map (absDef code)⟩

def absFS (code : Name → Nat) (fs : Project κ ρ) : FS κ ρ := fs.map fun e => (e.1, absFile code e.2)

/-- the definition a pair (path, index) of the import model stands for -/
def defAt (fs : Project κ ρ) (x : DefId κ) : Option ExecDef :=
  match fs.lookup x.1 with
  | none => none
  | some f => f.defs[x.2]?

/-- `definitions.extend(.. def.clone())` for the pairs the resolver selected -/
def materialise (fs : Project κ ρ) (out : List (DefId κ)) : List ExecDef := out.filterMap (defAt fs)

variable (code : Name → Nat) (res : κ → ρ → κ) (fs : Project κ ρ) (root : κ) (rootFile : SrcFile ρ)

/-- `resolve_operation_imports((root, rootFile), fs)` at document level: the root's own definitions followed by the
    requested definitions of the imported files -/
def resolveDoc : Res κ ρ (List ExecDef) :=
  match resolve res (absFS code fs) root (absFile code rootFile) with
  | .ok out => .ok (rootFile.defs ++ materialise fs out)
  | .err e => .err e
  | .outOfFuel => .outOfFuel

/-- the document built from the REFERENCE import set: root's definitions followed by the definitions the
    specification says must be imported (`refImports`, in the reference's own order) -/
def refDoc : List ExecDef :=
  rootFile.defs ++ materialise fs (refImports res (absFS code fs) root (absFile code rootFile))

section
omit [DecidableEq ρ]

theorem lookup_absFS (p : κ) : (absFS code fs).lookup p = (fs.lookup p).map (absFile code) :=
  lookup_map_snd (absFile code) fs p

theorem defsAt_absFS (p : κ) : defsAt (absFS code fs) p = (fs.lookup p).map fun f => f.defs.map (absDef code) := by
  simp only [defsAt, lookup_absFS, Option.map_map]
  rfl

theorem absDef_frag {code : Name → Nat} {d : ExecDef} {n : Nat} (h : absDef code d = .frag n) :
    ∃ f, d = .frag f ∧ code f.name = n := by
  cases d with
  | frag f => simp only [absDef, Def.frag.injEq] at h; exact ⟨f, rfl, h⟩
  | op _ | imp _ => simp [absDef] at h

theorem mem_materialise (out : List (DefId κ)) (d : ExecDef) :
    d ∈ materialise fs out ↔ ∃ x ∈ out, defAt fs x = some d := by
  simp [materialise, List.mem_filterMap]

theorem materialise_perm {out out' : List (DefId κ)} (h : out.Perm out') :
    (materialise fs out).Perm (materialise fs out') := h.filterMap _

theorem defAt_of_inRef {x : DefId κ} (h : InRef res (absFS code fs) root (absFile code rootFile) x) :
    ∃ f, defAt fs x = some (.frag f) := by
  obtain ⟨⟨q, imp, ds, n, _, _, _, hds, hi, _⟩, _⟩ := h
  rw [defsAt_absFS] at hds
  cases hl : fs.lookup x.1 with
  | none => rw [hl] at hds; cases hds
  | some sf =>
    rw [hl] at hds
    simp only [Option.map_some, Option.some.injEq] at hds
    subst hds
    rw [List.getElem?_map] at hi
    cases hd : sf.defs[x.2]? with
    | none => rw [hd] at hi; cases hi
    | some d =>
      rw [hd] at hi
      simp only [Option.map_some, Option.some.injEq] at hi
      obtain ⟨f, rfl, _⟩ := absDef_frag hi
      exact ⟨f, by simp [defAt, hl, hd]⟩

theorem materialise_length_of_inRef {out : List (DefId κ)}
    (h : ∀ x ∈ out, InRef res (absFS code fs) root (absFile code rootFile) x) :
    (materialise fs out).length = out.length := by
  induction out with
  | nil => rfl
  | cons x r ih =>
    obtain ⟨f, hf⟩ := defAt_of_inRef code res fs root rootFile (h x (by simp))
    have := ih (fun y hy => h y (by simp [hy]))
    simp [materialise, hf] at this ⊢
    exact this

theorem fragNamesOf_append (a b : List ExecDef) : fragNamesOf (a ++ b) = fragNamesOf a ++ fragNamesOf b := by
  simp [fragNamesOf_eq_map, CheckOp.fragsOf]

theorem fragNamesOf_perm {l l' : List ExecDef} (h : l.Perm l') : (fragNamesOf l).Perm (fragNamesOf l') := by
  rw [fragNamesOf_eq_map, fragNamesOf_eq_map]; exact (h.filterMap _).map _

/-- the HashMap is collected in document order: in `a ++ b` a definition of `b` shadows every definition of the same
    name in `a` — an IMPORTED fragment (appended after the root's own definitions) wins over a local one -/
theorem getFrag_append (a b : List ExecDef) (n : Name) :
    getFrag (a ++ b) n = match getFrag b n with
      | some g => some g
      | none => getFrag a n := by
  simp only [getFrag_eq_find?, CheckOp.fragsOf, List.filterMap_append, List.reverse_append, List.find?_append]
  cases List.find? _ _ <;> rfl

theorem getFrag_perm {l l' : List ExecDef} (h : l.Perm l') (hu : (fragNamesOf l).Nodup) (n : Name) :
    getFrag l n = getFrag l' n := by
  have hp : (CheckOp.fragsOf l).Perm (CheckOp.fragsOf l') := h.filterMap _
  rw [fragNamesOf_eq_map] at hu
  rw [getFrag_eq_find?, getFrag_eq_find?, find?_key_reverse (fun x : FragmentDef => x.name) hu,
    find?_key_reverse (fun x : FragmentDef => x.name) ((hp.map _).nodup_iff.mp hu)]
  exact find?_key_perm (·.name) hp hu n

theorem lookupAll_congr {a b : List ExecDef} (h : ∀ n, getFrag a n = getFrag b n) (ns : List Name) :
    lookupAll a ns = lookupAll b ns := by
  induction ns with
  | nil => rfl
  | cons n r ih => simp only [lookupAll, h n, ih]

/-- the runtime documents depend on the document only through its `fragments` map and its length (the depth
    bound of the model) -/
theorem runtimeDefs_congr {a b : List ExecDef} (h : ∀ n, getFrag a n = getFrag b n) (hl : a.length = b.length)
    (x : ExecDef) : runtimeDefs a x = runtimeDefs b x := by
  have hg : getFrag a = getFrag b := funext h
  have hn : ∀ ss, fragmentNames a ss = fragmentNames b ss := by
    intro ss; simp only [fragmentNames, bound, hg, hl]
  have hw : ∀ y o, withNames a y o = withNames b y o := by
    intro y o
    cases o with
    | none => rfl
    | some ns => simp only [withNames, lookupAll_congr h ns]
  cases x with
  | op o => simp only [runtimeDefs, opNames, hn, hw]
  | frag f => simp only [runtimeDefs, fragNames, hn, hw]
  | imp i => rfl

theorem fragDefs_congr {a b : List ExecDef} (h : ∀ n, getFrag a n = getFrag b n) (ns : List Name) :
    fragDefs a ns = fragDefs b ns := by
  simp only [fragDefs, h]

/-- `RootOK` for projects: the resolver does not know the root's path, or maps it to the root file -/
def RootOKp : Prop := ∀ f, fs.lookup root = some f → f = rootFile

theorem rootOKp_head (k : κ) (f : SrcFile ρ) (l : Project κ ρ) : RootOKp ((k, f) :: l) k f := by
  intro g hg
  simpa [List.lookup] using hg.symm

theorem rootOK_abs (h : RootOKp fs root rootFile) : RootOK (absFS code fs) root (absFile code rootFile) := by
  intro f hf
  rw [lookup_absFS] at hf
  cases hl : fs.lookup root with
  | none => rw [hl] at hf; cases hf
  | some g =>
    rw [hl] at hf
    simp only [Option.map_some, Option.some.injEq] at hf
    rw [← hf, h g hl]

theorem resolveDoc_ok {R : List ExecDef} (h : resolveDoc code res fs root rootFile = .ok R) :
    ∃ out, resolve res (absFS code fs) root (absFile code rootFile) = .ok out ∧
      R = rootFile.defs ++ materialise fs out := by
  unfold resolveDoc at h
  cases hr : resolve res (absFS code fs) root (absFile code rootFile) with
  | ok out => rw [hr] at h; injection h with h; exact ⟨out, rfl, h.symm⟩
  | err e => rw [hr] at h; cases h
  | outOfFuel => rw [hr] at h; cases h

theorem resolveDoc_perm (hroot : RootOKp fs root rootFile) {R : List ExecDef}
    (h : resolveDoc code res fs root rootFile = .ok R) : R.Perm (refDoc code res fs root rootFile) := by
  obtain ⟨out, ho, rfl⟩ := resolveDoc_ok code res fs root rootFile h
  have hp := (resolve_exec res (absFS code fs) root (absFile code rootFile)
    (rootOK_abs code fs root rootFile hroot)).2 out ho
  exact (List.Perm.refl _).append (materialise_perm fs hp)

theorem mem_refDoc (d : ExecDef) :
    d ∈ refDoc code res fs root rootFile ↔
      d ∈ rootFile.defs ∨ ∃ x, InRef res (absFS code fs) root (absFile code rootFile) x ∧ defAt fs x = some d := by
  simp only [refDoc, List.mem_append, mem_materialise, mem_refImports]

theorem mem_resolveDoc (hroot : RootOKp fs root rootFile) {R : List ExecDef}
    (h : resolveDoc code res fs root rootFile = .ok R) (d : ExecDef) :
    d ∈ R ↔ d ∈ rootFile.defs ∨ ∃ x, InRef res (absFS code fs) root (absFile code rootFile) x ∧ defAt fs x = some d := by
  rw [(resolveDoc_perm code res fs root rootFile hroot h).mem_iff, mem_refDoc]

theorem mem_fragDefs_refDoc (hu : (fragNamesOf (refDoc code res fs root rootFile)).Nodup) (ns : List Name) (d : ExecDef) :
    d ∈ fragDefs (refDoc code res fs root rootFile) ns ↔ ∃ g, d = .frag g ∧ g.name ∈ ns ∧
      (ExecDef.frag g ∈ rootFile.defs ∨
        ∃ x, InRef res (absFS code fs) root (absFile code rootFile) x ∧ defAt fs x = some (.frag g)) := by
  rw [mem_fragDefs]
  constructor
  · rintro ⟨n, g, hn, hg, rfl⟩
    obtain ⟨hm, rfl⟩ := (getFrag_eq_some_iff _ hu n g).mp hg
    exact ⟨g, rfl, hn, (mem_refDoc code res fs root rootFile _).mp hm⟩
  · rintro ⟨g, rfl, hn, hm⟩
    exact ⟨g.name, g, hn, (getFrag_eq_some_iff _ hu g.name g).mpr ⟨(mem_refDoc code res fs root rootFile _).mpr hm, rfl⟩, rfl⟩

/-- with unique fragment names in the resolved document the `fragments` map, the depth bound and hence the runtime
    document of every definition are those of the reference document -/
theorem resolveDoc_ref (hroot : RootOKp fs root rootFile) {R : List ExecDef}
    (h : resolveDoc code res fs root rootFile = .ok R) (hu : (fragNamesOf R).Nodup) :
    (fragNamesOf (refDoc code res fs root rootFile)).Nodup ∧
    R.length = (refDoc code res fs root rootFile).length ∧
    (∀ n, getFrag R n = getFrag (refDoc code res fs root rootFile) n) ∧
    (∀ x, runtimeDefs R x = runtimeDefs (refDoc code res fs root rootFile) x) := by
  have hp := resolveDoc_perm code res fs root rootFile hroot h
  have hg : ∀ n, getFrag R n = getFrag (refDoc code res fs root rootFile) n := fun n => getFrag_perm hp hu n
  exact ⟨(fragNamesOf_perm hp).nodup_iff.mp hu, hp.length_eq, hg, fun x => runtimeDefs_congr hg hp.length_eq x⟩

/-- every file of the project is as the parser produces it (operations and fragments, no empty selection set) -/
def ProjectOk (fs : Project κ ρ) : Prop := ∀ p f, fs.lookup p = some f → ReadDoc.Resolved f.defs

theorem projectOk_of_forall (h : ∀ e ∈ fs, ReadDoc.Resolved e.2.defs) : ProjectOk fs :=
  fun _ _ hl => h _ (lookup_mem hl)

theorem defAt_mem {x : DefId κ} {d : ExecDef} (h : defAt fs x = some d) :
    ∃ f, fs.lookup x.1 = some f ∧ d ∈ f.defs := by
  unfold defAt at h
  cases hl : fs.lookup x.1 with
  | none => rw [hl] at h; cases h
  | some f => rw [hl] at h; exact ⟨f, rfl, List.mem_of_getElem? h⟩

theorem resolved_refDoc (h1 : ReadDoc.Resolved rootFile.defs) (h2 : ProjectOk fs) :
    ReadDoc.Resolved (refDoc code res fs root rootFile) := by
  intro d hd
  rcases (mem_refDoc code res fs root rootFile d).mp hd with h | ⟨x, _, hx⟩
  · exact h1 d h
  · obtain ⟨f, hl, hm⟩ := defAt_mem fs hx
    exact h2 _ f hl d hm

theorem resolved_fragDefs {l : List ExecDef} (h : ReadDoc.Resolved l) (x : ExecDef) (hx : x ∈ l) (ns : List Name) :
    ReadDoc.Resolved (x :: fragDefs l ns) := by
  intro d hd
  rcases List.mem_cons.mp hd with rfl | hd
  · exact h _ hx
  · obtain ⟨n, g, _, hg, rfl⟩ := (mem_fragDefs l ns d).mp hd
    exact h _ (getFrag_some l n g hg).2.2

theorem root_mem_resolveDoc {R : List ExecDef} (h : resolveDoc code res fs root rootFile = .ok R) {d : ExecDef}
    (hd : d ∈ rootFile.defs) : d ∈ R := by
  obtain ⟨out, _, rfl⟩ := resolveDoc_ok code res fs root rootFile h
  exact List.mem_append_left _ hd

/-- a definition `x` of the root file from which a name is reachable that neither a fragment of the root file nor a member of
    the reference import set carries: printing `x`'s runtime document stops at a reachable undefined name, and the resolved
    document has a written spread of an undefined name -/
theorem runtimeDefs_missing (hroot : RootOKp fs root rootFile)
    {R : List ExecDef} (h : resolveDoc code res fs root rootFile = .ok R)
    (x : ExecDef) (hi : ∀ i, x ≠ .imp i) (hX : x ∈ rootFile.defs) {n : Name} (hr : ReadDoc.Reach (envOf R) (selOf x) n)
    (hloc : ∀ f, ExecDef.frag f ∈ rootFile.defs → f.name ≠ n)
    (himp : ∀ y f, InRef res (absFS code fs) root (absFile code rootFile) y → defAt fs y = some (.frag f) → f.name ≠ n) :
    (∃ m, runtimeDefs R x = .error (.fragmentNotFound m) ∧ ReadDoc.Reach (envOf R) (selOf x) m ∧ getFrag R m = none) ∧
    (∃ m, findUndefined R = some m) ∧ ¬ SpreadsDefined R := by
  have hnone : getFrag R n = none := by
    apply getFrag_none
    rw [mem_fragNamesOf]
    rintro ⟨f, hf, hn⟩
    rcases (mem_resolveDoc code res fs root rootFile hroot h _).mp hf with hl | ⟨y, hy, hd⟩
    · exact hloc f hl hn
    · exact himp y f hy hd hn
  have hXR : x ∈ R := root_mem_resolveDoc code res fs root rootFile h hX
  have hns : ¬ SpreadsDefined R := not_spreadsDefined_of_reach hXR hr hnone
  refine ⟨?_, ?_, hns⟩
  · obtain ⟨names, _, _, hreach, ⟨hall, _⟩ | ⟨m, hm, hg, he⟩⟩ := runtimeDefs_cases R x hi
    · -- `n` is among the names looked up: a fragment's own name is defined, `n` is not
      have := hall n (mem_tailNames.mpr ⟨(hreach n).mpr hr, fun f hf hn => by
        have := (getFrag_isSome_iff R f.name).mpr ((mem_fragNamesOf R f.name).mpr ⟨f, hf ▸ hXR, rfl⟩)
        rw [← hn, hnone] at this; cases this⟩)
      rw [hnone] at this; cases this
    · exact ⟨m, he, (hreach m).mp (mem_tailNames.mp hm).1, hg⟩
  · cases hf : findUndefined R with
    | some m => exact ⟨m, rfl⟩
    | none => exact absurd ((findUndefined_none_iff R).mp hf) hns

/-- same paths, same definitions, import lines of each file permuted -/
inductive ProjPerm : Project κ ρ → Project κ ρ → Prop where
  | nil : ProjPerm [] []
  | cons {k : κ} {f f' : SrcFile ρ} {l l' : Project κ ρ} : f.defs = f'.defs → f.imports.Perm f'.imports →
      ProjPerm l l' → ProjPerm ((k, f) :: l) ((k, f') :: l')

omit [DecidableEq κ] in
theorem ProjPerm.abs {fs fs' : Project κ ρ} (h : ProjPerm fs fs') : FSPerm (absFS code fs) (absFS code fs') := by
  induction h with
  | nil => exact FSPerm.nil
  | cons hd hi _ ih =>
    exact FSPerm.cons ⟨by simp [absFile, hd], hi⟩ ih

theorem ProjPerm.defAt {fs fs' : Project κ ρ} (h : ProjPerm fs fs') (x : DefId κ) : defAt fs x = defAt fs' x := by
  induction h with
  | nil => rfl
  | @cons k f f' l l' hd hi _ ih =>
    simp only [Composed.defAt, List.lookup_cons] at ih ⊢
    cases hk : (x.1 == k) with
    | true => simp [hd]
    | false => simpa using ih

end

-- these three keep the instance `[DecidableEq ρ]` of the `variable` line in their statements; no proof in this file uses it
section
set_option linter.unusedSectionVars false

theorem length_refDoc : (refDoc code res fs root rootFile).length =
    rootFile.defs.length + (refImports res (absFS code fs) root (absFile code rootFile)).length := by
  simp only [refDoc, List.length_append]
  rw [materialise_length_of_inRef code res fs root rootFile
    (fun x hx => (mem_refImports res _ root _ x).mp hx)]

theorem defined_refDoc_iff (n : Name) :
    (getFrag (refDoc code res fs root rootFile) n).isSome = true ↔
      (∃ f, ExecDef.frag f ∈ rootFile.defs ∧ f.name = n) ∨
      (∃ x f, InRef res (absFS code fs) root (absFile code rootFile) x ∧ defAt fs x = some (.frag f) ∧ f.name = n) := by
  rw [getFrag_isSome_iff, mem_fragNamesOf]
  constructor
  · rintro ⟨f, hf, hn⟩
    rcases (mem_refDoc code res fs root rootFile _).mp hf with h | ⟨x, hx, hd⟩
    · exact Or.inl ⟨f, h, hn⟩
    · exact Or.inr ⟨x, f, hx, hd, hn⟩
  · rintro (⟨f, hf, hn⟩ | ⟨x, f, hx, hd, hn⟩)
    · exact ⟨f, (mem_refDoc code res fs root rootFile _).mpr (Or.inl hf), hn⟩
    · exact ⟨f, (mem_refDoc code res fs root rootFile _).mpr (Or.inr ⟨x, hx, hd⟩), hn⟩

theorem ProjPerm.materialise {fs fs' : Project κ ρ} (h : ProjPerm fs fs') (out : List (DefId κ)) :
    materialise fs out = materialise fs' out := by
  have : Composed.defAt fs = Composed.defAt fs' := funext h.defAt
  simp only [Composed.materialise, this]

end

theorem runtimeDefs_perm {a b : List ExecDef} (h : a.Perm b) (hu : (fragNamesOf a).Nodup) (x : ExecDef) :
    runtimeDefs a x = runtimeDefs b x :=
  runtimeDefs_congr (fun n => getFrag_perm h hu n) h.length_eq x

/-! an injective `Nat`-coding of names (base-1114113 reading of the characters): the theorems hold for every coding; this one makes
    "import by name" exact -/

def encL : List Char → Nat
  | [] => 0
  | c :: cs => (c.toNat + 1) + 1114113 * encL cs

/-- the same function as `CliComposed.charsCode`, whose injectivity is proved there -/
theorem encL_eq_charsCode : ∀ l : List Char, encL l = CliComposed.charsCode l
  | [] => rfl
  | c :: cs => by rw [encL, CliComposed.charsCode, encL_eq_charsCode cs]

theorem encL_inj {a b : List Char} (h : encL a = encL b) : a = b :=
  CliComposed.charsCode_inj a b (by rwa [encL_eq_charsCode, encL_eq_charsCode] at h)

def nameCode (s : Name) : Nat := encL s.toList

theorem nameCode_inj {a b : Name} (h : nameCode a = nameCode b) : a = b :=
  String.toList_inj.mp (encL_inj h)

end NitroVerif.Composed
