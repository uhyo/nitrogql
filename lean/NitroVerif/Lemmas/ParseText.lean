/-
The TEXT of the pairs whose text a builder inspects (helper lemmas for Props/C08 `parse_no_panic`, the text-dependent
panic sites): from the witness `Wit` of a pair (the evaluation of its rule's body on the actual input) and the body of
the rule as GENERATED (`gList.look R.X = …` by `rfl`: if grammar.pest changes one of these rules this file no longer
compiles), derived with the inversion lemmas.
-/
import NitroVerif.Lemmas.ParseWit
import NitroVerif.Lemmas.ParseRun
import NitroVerif.Model.Build
namespace NitroVerif.Peg

variable (g : G)

theorem strAlts_inv {inp : List Char} : ∀ (e : Expr) (ws : List (List Char)), strAlts e = some ws →
    ∀ {fuel sk at_ la tr c tr' c' ps}, CurOk inp c → eval g fuel sk e at_ la tr c = (tr', .ok c' ps) →
      ∃ w ∈ ws, Txt inp c.pos c'.pos w := by
  intro e
  induction e with
  | str s =>
    intro ws hws fuel sk at_ la tr c tr' c' ps hc h
    cases hws
    exact ⟨s, List.mem_singleton.mpr rfl, (txt_of_str hc (str_inv g h).1).1⟩
  | choice a b _ ihb =>
    intro ws hws fuel sk at_ la tr c tr' c' ps hc h
    obtain ⟨s, wb, rfl, hb, rfl⟩ := strAlts_choice hws
    obtain ⟨f, tr1, h1 | h2⟩ := choice_inv g h
    · exact ⟨s, List.mem_cons_self .., (txt_of_str hc (str_inv g h1).1).1⟩
    · obtain ⟨w, hw, ht⟩ := ihb wb hb hc h2
      exact ⟨w, List.mem_cons_of_mem _ hw, ht⟩
  | _ => intro ws hws; cases hws

end NitroVerif.Peg

namespace NitroVerif.ParseText
open NitroVerif.Peg NitroVerif.Gen NitroVerif.Build

theorem look_OperationType : gList.look R.OperationType =
    some (.normal, .choice (.call R.KEYWORD_query) (.choice (.call R.KEYWORD_mutation) (.call R.KEYWORD_subscription))) := rfl
theorem look_KEYWORD_query : gList.look R.KEYWORD_query =
    some (.atomic, .seq (.str ['q', 'u', 'e', 'r', 'y']) (.not (.call R.NameContinue))) := rfl
theorem look_KEYWORD_mutation : gList.look R.KEYWORD_mutation =
    some (.atomic, .seq (.str ['m', 'u', 't', 'a', 't', 'i', 'o', 'n']) (.not (.call R.NameContinue))) := rfl
theorem look_KEYWORD_subscription : gList.look R.KEYWORD_subscription =
    some (.atomic, .seq (.str ['s', 'u', 'b', 's', 'c', 'r', 'i', 'p', 't', 'i', 'o', 'n']) (.not (.call R.NameContinue))) := rfl
theorem look_EscapedCharacter : gList.look R.EscapedCharacter =
    some (.atomic, .seq (.str ['\\']) (.choice (.str ['"']) (.choice (.str ['\\']) (.choice (.str ['/'])
      (.choice (.str ['b']) (.choice (.str ['f']) (.choice (.str ['n']) (.choice (.str ['r']) (.str ['t']))))))))) := rfl
theorem look_BlockStringValue : gList.look R.BlockStringValue =
    some (.atomic, .seq (.str ['"', '"', '"']) (.seq (.star (.call R.BlockStringCharacter)) (.str ['"', '"', '"']))) := rfl
theorem look_EscapedUnicode4 : gList.look R.EscapedUnicode4 =
    some (.atomic, .seq (.str ['\\', 'u']) (.rep 4 (.call R.ASCII_HEX_DIGIT))) := rfl
theorem look_NormalStringCharacter : gList.look R.NormalStringCharacter =
    some (.atomic, .seq (.not (.choice (.str ['"']) (.choice (.str ['\\']) (.call R.NEWLINE)))) .any) := rfl
theorem look_EscapedUnicodeBrace : gList.look R.EscapedUnicodeBrace =
    some (.compound, .seq (.str ['\\', 'u']) (.seq (.str ['{']) (.seq (.call R.EscapedUnicodeBraceDigits) (.str ['}'])))) := rfl
theorem look_EscapedUnicodeBraceDigits : gList.look R.EscapedUnicodeBraceDigits =
    some (.atomic, .plus (.call R.ASCII_HEX_DIGIT)) := rfl

abbrev textOf (inp : List Char) (p : Pair) : List Char := slice inp p.start p.stop

theorem _root_.NitroVerif.Peg.Wit.run {inp : List Char} {p : Pair} (hw : Wit gList inp p) {kind : RuleKind} {body : Expr}
    (hl : gList.look p.rule = some (kind, body)) :
    ∃ at_ fuel tr0 tr1 c c', CurOk inp c ∧ CurOk inp c' ∧ asStr (Ctx.spec inp) p = slice inp c.pos c'.pos ∧
      eval gList fuel (bodyCfg (decide (gList.ws = some p.rule ∨ gList.cm = some p.rule)) kind at_).1 body
        (bodyCfg (decide (gList.ws = some p.rule ∨ gList.cm = some p.rule)) kind at_).2.1 .none tr0 c =
        (tr1, .ok c' p.children) := by
  obtain ⟨at_, fuel, tr0, tr1, c, c', _, hc, hc', hs, he, hb⟩ := hw.body hl
  exact ⟨at_, fuel, tr0, tr1, c, c', hc, hc', by rw [hs, he]; rfl, hb⟩

theorem kw_txt {inp : List Char} {r : RuleId} {w : List Char} {x : Expr} {fuel at_ tr c tr' c' ps}
    (hl : gList.look r = some (.atomic, .seq (.str w) (.not x))) (hc : CurOk inp c)
    (h : callRule gList fuel r at_ .none tr c = (tr', .ok c' ps)) : Txt inp c.pos c'.pos w := by
  obtain ⟨f, tr0, tr1, ps0, hb, _⟩ := rule_inv gList hl h
  simp only [bodyCfg] at hb
  obtain ⟨f', tr2, c1, p1, tr3, p3, h1, h2, _⟩ := seq_inv gList (Or.inl rfl) hb
  obtain ⟨ht, _⟩ := txt_of_str hc (str_inv gList h1).1
  obtain ⟨rfl, _⟩ := not_inv gList h2
  exact ht

/-- what `str_to_operation_type` relies on -/
theorem operationType_text {inp : List Char} {p : Pair} (hw : Wit gList inp p) (hr : p.rule = R.OperationType) :
    textOf inp p = ['q', 'u', 'e', 'r', 'y'] ∨ textOf inp p = ['m', 'u', 't', 'a', 't', 'i', 'o', 'n'] ∨
    textOf inp p = ['s', 'u', 'b', 's', 'c', 'r', 'i', 'p', 't', 'i', 'o', 'n'] := by
  obtain ⟨at_, fuel, tr0, tr1, c, c', hc, hc', ht, hb⟩ := hw.run (hr ▸ look_OperationType)
  rw [show textOf inp p = slice inp c.pos c'.pos from ht]
  obtain ⟨f, tr2, h1 | h2⟩ := choice_inv gList hb
  · obtain ⟨f', h1⟩ := call_inv gList h1
    exact Or.inl (kw_txt look_KEYWORD_query hc h1).slice
  · obtain ⟨f2, tr3, h3 | h4⟩ := choice_inv gList h2
    · obtain ⟨f', h3⟩ := call_inv gList h3
      exact Or.inr (Or.inl (kw_txt look_KEYWORD_mutation hc h3).slice)
    · obtain ⟨f', h4⟩ := call_inv gList h4
      exact Or.inr (Or.inr (kw_txt look_KEYWORD_subscription hc h4).slice)

theorem operationType_ok {inp : List Char} {p : Pair} (hw : Wit gList inp p) (hr : p.rule = R.OperationType) :
    ∃ k, strToOperationType (asStr (Ctx.spec inp) p) = .ok k := by
  have : asStr (Ctx.spec inp) p = textOf inp p := rfl
  rw [this]
  rcases operationType_text hw hr with h | h | h <;> rw [h]
  · exact ⟨.query, by simp [strToOperationType]⟩
  · exact ⟨.mutation, by simp [strToOperationType]⟩
  · exact ⟨.subscription, by simp [strToOperationType]⟩

/-- the site "Unknown escape sequence" of `build_string_value` is not reached -/
theorem escapedCharacter_ok {inp : List Char} {p : Pair} (hw : Wit gList inp p) (hr : p.rule = R.EscapedCharacter) :
    ∃ ch, escapedChar (asStr (Ctx.spec inp) p) = .ok ch := by
  obtain ⟨at_, fuel, tr0, tr1, c, c', hc, hc', ht, hb⟩ := hw.run (hr ▸ look_EscapedCharacter)
  simp only [bodyCfg] at hb
  obtain ⟨f, tr2, c1, p1, tr3, p3, h1, h2, _⟩ := seq_inv gList (Or.inl rfl) hb
  obtain ⟨t1, hc1⟩ := txt_of_str hc (str_inv gList h1).1
  obtain ⟨w, hw', t2⟩ := strAlts_inv gList _ _ rfl hc1 h2
  rw [ht, (t1.append t2).slice]
  simp only [List.mem_cons, List.not_mem_nil, or_false] at hw'
  rcases hw' with rfl | rfl | rfl | rfl | rfl | rfl | rfl | rfl <;> exact ⟨_, rfl⟩

/-- room for the two `split_at` that cut off the delimiters -/
theorem blockString_len {inp : List Char} {p : Pair} (hw : Wit gList inp p) (hr : p.rule = R.BlockStringValue) :
    6 ≤ (asStr (Ctx.spec inp) p).length := by
  obtain ⟨at_, fuel, tr0, tr1, c, c', hc, hc', ht, hb⟩ := hw.run (hr ▸ look_BlockStringValue)
  simp only [bodyCfg] at hb
  obtain ⟨f, tr2, c1, p1, tr3, p3, h1, h2, _⟩ := seq_inv gList (Or.inl rfl) hb
  obtain ⟨t1, hc1⟩ := txt_of_str hc (str_inv gList h1).1
  obtain ⟨f2, tr4, c2, p4, tr5, p5, h3, h4, _⟩ := seq_inv gList (Or.inl rfl) h2
  obtain ⟨hc2, hle⟩ := eval_curOk gList hc1 h3
  obtain ⟨t3, _⟩ := txt_of_str hc2 (str_inv gList h4).1
  have l1 := t1.1
  have l3 := t3.1
  have hb' := t3.2.1
  simp only [List.length_cons, List.length_nil] at l1 l3
  rw [ht]
  simp only [slice, List.length_take, List.length_drop]
  omega

/-- room for `split_at(2)` -/
theorem unicode4_len {inp : List Char} {p : Pair} (hw : Wit gList inp p) (hr : p.rule = R.EscapedUnicode4) :
    2 ≤ (asStr (Ctx.spec inp) p).length := by
  obtain ⟨at_, fuel, tr0, tr1, c, c', hc, hc', ht, hb⟩ := hw.run (hr ▸ look_EscapedUnicode4)
  simp only [bodyCfg] at hb
  obtain ⟨f, tr2, c1, p1, tr3, p3, h1, h2, _⟩ := seq_inv gList (Or.inl rfl) hb
  obtain ⟨t1, hc1⟩ := txt_of_str hc (str_inv gList h1).1
  obtain ⟨hc2, hle⟩ := eval_curOk gList hc1 h2
  have l1 := t1.1
  have hb' := hc2.1
  simp only [List.length_cons, List.length_nil] at l1
  rw [ht]
  simp only [slice, List.length_take, List.length_drop]
  omega

/-- `chars().next().unwrap()` finds a character -/
theorem normalChar_text {inp : List Char} {p : Pair} (hw : Wit gList inp p) (hr : p.rule = R.NormalStringCharacter) :
    ∃ d, asStr (Ctx.spec inp) p = [d] := by
  obtain ⟨at_, fuel, tr0, tr1, c, c', hc, hc', ht, hb⟩ := hw.run (hr ▸ look_NormalStringCharacter)
  simp only [bodyCfg] at hb
  obtain ⟨f, tr2, c1, p1, tr3, p3, h1, h2, _⟩ := seq_inv gList (Or.inl rfl) hb
  obtain ⟨rfl, _⟩ := not_inv gList h1
  obtain ⟨d, t, _⟩ := txt_of_any hc (any_inv gList h2).1
  exact ⟨d, ht.trans t.slice⟩

/-- what `validate_unicode_escapes` checked is what `build_string_value` decodes -/
theorem unicodeBrace_child {inp : List Char} {p : Pair} (hw : Wit gList inp p) (hr : p.rule = R.EscapedUnicodeBrace) :
    ∃ d, p.children = [d] ∧
      asStr (Ctx.spec inp) d =
        ((asStr (Ctx.spec inp) p).drop 3).take ((asStr (Ctx.spec inp) p).length - 4) := by
  obtain ⟨at_, fuel, tr0, tr1, c, c', hc, hc', ht, hb⟩ := hw.run (hr ▸ look_EscapedUnicodeBrace)
  simp only [bodyCfg] at hb
  obtain ⟨f, tr2, c1, p1, tr3, p3, h1, h2, hp⟩ := seq_inv gList (Or.inl rfl) hb
  obtain ⟨ht1, hp1⟩ := str_inv gList h1
  obtain ⟨t1, hc1⟩ := txt_of_str hc ht1
  obtain ⟨f2, tr4, c2, p4, tr5, p5, h3, h4, hp'⟩ := seq_inv gList (Or.inl rfl) h2
  obtain ⟨ht2, hp4⟩ := str_inv gList h3
  obtain ⟨t2, hc2⟩ := txt_of_str hc1 ht2
  obtain ⟨f3, tr6, c3, p6, tr7, p7, h5, h6, hp''⟩ := seq_inv gList (Or.inl rfl) h4
  obtain ⟨ht4, hp7⟩ := str_inv gList h6
  obtain ⟨f4, h5⟩ := call_inv gList h5
  obtain ⟨f5, tr8, tr9, ps0, hbd, hps⟩ := rule_inv gList look_EscapedUnicodeBraceDigits h5
  simp only [bodyCfg] at hbd hps
  obtain ⟨hc3, hle⟩ := eval_curOk gList hc2 hbd
  obtain ⟨t4, _⟩ := txt_of_str hc3 ht4
  have t3 := txt_of_curOk hc3 hle
  have hps' : p6 = [Pair.mk R.EscapedUnicodeBraceDigits c2.pos c3.pos ps0] := by
    rw [hps]; simp
  refine ⟨Pair.mk R.EscapedUnicodeBraceDigits c2.pos c3.pos ps0, ?_, ?_⟩
  · rw [hp, hp', hp'', hp1, hp4, hp7, hps']; rfl
  · rw [ht, (((t1.append t2).append t3).append t4).slice]
    show slice inp c2.pos c3.pos = _
    have hl := t3.length
    simp only [List.cons_append, List.nil_append, List.drop_succ_cons, List.drop_zero,
      List.length_cons, List.length_append, List.length_nil]
    rw [show (slice inp c2.pos c3.pos).length + (0 + 1) + 1 + 1 + 1 - 4 = (slice inp c2.pos c3.pos).length by omega]
    simp

end NitroVerif.ParseText
