/-
The bare `interface I` / `extend interface I`. An interface type definition / extension without interfaces, directives and
fields is followed directly by the next item of the document, and `ImplementsInterfaces?` must fail there. The next item
may begin with the letter `i` (`interface …`, `input …`), so the condition is on the WORD: the text that follows does not
begin with the letters `implements` (`objKindDefG`, `objKindExtG`) — and no item of a type-system document begins with
that word (`ItemStart`).
-/
import NitroVerif.Lemmas.ParseDocTsDoc
namespace NitroVerif.DocParse
open NitroVerif.Peg NitroVerif.Gen NitroVerif.Gen.Parts NitroVerif.Build NitroVerif.TypeParse NitroVerif.StringParse
open NitroVerif.Gql NitroVerif.ValueParse NitroVerif.Spec.Lex NitroVerif.ParseText

variable {inp : List Char}

abbrev itemWords : List (List Char) :=
  [kindKw .scalar, kindKw .object, kindKw .interface, kindKw .union, kindKw .enum, kindKw .input, kwSchema, kwDirective,
    kwExtend]

/-- the text begins with `"` (a description) or with one of the item keywords -/
def ItemStart (t : List Char) : Prop := (∃ r, t = '"' :: r) ∨ (∃ W r, W ∈ itemWords ∧ t = W ++ r)

theorem ItemStart.append {t : List Char} (h : ItemStart t) (u : List Char) : ItemStart (t ++ u) := by
  rcases h with ⟨r, rfl⟩ | ⟨W, r, hW, rfl⟩
  · exact Or.inl ⟨r ++ u, rfl⟩
  · exact Or.inr ⟨W, r ++ u, hW, by simp⟩

theorem itemStart_notImpl {t : List Char} (h : ItemStart t) : matchStr kwImplements t = none := by
  rcases h with ⟨r, rfl⟩ | ⟨W, r, hW, rfl⟩
  · simp [matchStr]
  · simp only [itemWords, List.mem_cons, List.not_mem_nil, or_false] at hW
    rcases hW with rfl | rfl | rfl | rfl | rfl | rfl | rfl | rfl | rfl <;> simp [matchStr, kindKw]

theorem itemStart_tk (τ : Trivia) (s : Bool) (q : Nat) {W : List Char} (hW : W ∈ itemWords) : ItemStart (tk τ s q W) :=
  Or.inr ⟨W, _, hW, rfl⟩

theorem itemStart_descKw (τ : Trivia) (s : Bool) (p : Nat) (desc : Option String) {W : List Char} (hW : W ∈ itemWords)
    (rest : List Char) : ItemStart (rOptDesc τ p desc ++ (tk τ s (p + (rOptDesc τ p desc).length) W ++ rest)) := by
  cases desc with
  | none => simpa [rOptDesc] using (itemStart_tk τ s p hW).append rest
  | some d => exact Or.inl ⟨_, by simp only [rOptDesc, tk, quoted, List.cons_append]; rfl⟩

theorem kindKw_mem (k : TypeKind) : kindKw k ∈ itemWords := by cases k <;> simp [itemWords]

theorem itemStart_defHead (τ : Trivia) (sN : Bool) (p : Nat) (desc : Option String) (k : TypeKind) (name : Name)
    (Y : List Char) : ItemStart (rDefHead τ sN p desc (kindKw k) name ++ Y) := by
  simp only [rDefHead, List.append_assoc]
  exact itemStart_descKw τ true p desc (kindKw_mem k) _

theorem itemStart_extHead (τ : Trivia) (sN : Bool) (p : Nat) (kw : List Char) (name : Name) (Y : List Char) :
    ItemStart (rExtHead τ sN p kw name ++ Y) := by
  simp only [rExtHead, List.append_assoc]
  exact (itemStart_tk τ true p (W := kwExtend) (by simp [itemWords])).append _

theorem itemStart_rTsItem (τ : Trivia) (sep : Bool) (p : Nat) (it : TsItem) : ItemStart (rTsItem τ sep p it) := by
  cases it with
  | typeDef t =>
    simp only [rTsItem, rTypeDefAny]
    cases t.kind <;> simp only [rScalarDef, rObjDef, rUnionDef, rEnumDef, rInputDef] <;>
      exact itemStart_defHead τ _ p t.desc _ t.name _
  | schemaDef s =>
    simp only [rTsItem, rSchemaDef]
    exact itemStart_descKw τ false p s.desc (W := kwSchema) (by simp [itemWords]) _
  | directiveDef d =>
    simp only [rTsItem, rDirectiveDef]
    exact itemStart_descKw τ false p d.desc (W := kwDirective) (by simp [itemWords]) _
  | schemaExt s =>
    simp only [rTsItem, rSchemaExt]
    exact (itemStart_tk τ true p (W := kwExtend) (by simp [itemWords])).append _
  | typeExt t =>
    simp only [rTsItem, rTypeExtAny]
    cases t.kind <;> simp only [rScalarExt, rObjExt, rUnionExt, rUnionExtD, rUnionExtM, rEnumExt, rInputExt] <;>
      first
      | exact itemStart_extHead τ _ p _ t.name _
      | (split <;> exact itemStart_extHead τ _ p _ t.name _)

theorem hd_itemStart {t : List Char} (h : ItemStart t) : Hd (fun d => nameStart d ∨ d = '"') t := by
  rcases h with ⟨r, rfl⟩ | ⟨W, r, hW, rfl⟩
  · exact hd_cons _ (Or.inr rfl)
  · simp only [itemWords, List.mem_cons, List.not_mem_nil, or_false] at hW
    rcases hW with rfl | rfl | rfl | rfl | rfl | rfl | rfl | rfl | rfl <;>
      exact Hd.append (hd_cons _ (Or.inl (by decide))) _

theorem hd_rTsItemF (τ : Trivia) (sep : Bool) (p : Nat) (it : TsItem) :
    Hd (fun d => nameStart d ∨ d = '"') (rTsItem τ sep p it) := hd_itemStart (itemStart_rTsItem τ sep p it)

/-- an interface type definition / extension without interfaces, directives and fields: `interface I`, `extend interface I` -/
def BareIface : TsItem → Prop
  | .typeDef t => t.kind = .interface ∧ validName t.name.toList ∧ t.implements = [] ∧ t.dirs = [] ∧ t.fields = []
  | .typeExt t => t.kind = .interface ∧ validName t.name.toList ∧ t.implements = [] ∧ t.dirs = [] ∧ t.fields = []
  | _ => False

def WFTsItemF (it : TsItem) : Prop := WFTsItem it ∨ BareIface it

theorem tsItemTF (τ : Trivia) (hτ : ∀ q, Ws (τ q)) (it : TsItem) (hwf : WFTsItemF it) (sep : Bool) (p : Nat)
    (h : HasAt inp p (rTsItem τ sep p it)) (hn : Nxt inp tdBad sep (p + (rTsItem τ sep p it).length))
    (hni : matchStr kwImplements (inp.drop (p + (rTsItem τ sep p it).length)) = none) :
    TsItemOk inp p (rTsItem τ sep p it) (wpTsItem τ inp sep p it) := by
  rcases hwf with hwf | hb
  · exact tsItemT τ hτ it hwf sep p h hn
  · cases it with
    | typeDef t =>
      obtain ⟨hkind, hname, hi0, hd0, hf0⟩ := hb
      simp only [rTsItem, wpTsItem, rTypeDefAny, wpTypeDefAny, hkind] at h hn hni ⊢
      have hpre := h
      simp only [rObjDef] at hpre
      obtain ⟨h1, h2⟩ := defHead_prefix hname hpre
      exact tsItem_of_kind hτ .interface t.desc
        (objKindDefG τ hτ (Or.inr rfl) t hname (by rw [hd0]; trivial) (by rw [hf0]; intro x hx; cases hx) _ _
          (implText_rOptImpl τ hτ _ (by rw [hi0]; intro x hx; cases hx) _ _) h hn (fun h => by cases h) (fun _ _ _ => hni))
        h1 h2 (by simp [rObjDef, rDefHead])
    | typeExt t =>
      obtain ⟨hkind, hname, hi0, hd0, hf0⟩ := hb
      simp only [rTsItem, wpTsItem, rTypeExtAny, wpTypeExtAny, hkind] at h hn hni ⊢
      have hpre := h
      simp only [rObjExt] at hpre
      obtain ⟨h1, h2⟩ := extHead_prefix hname hpre
      exact tsItem_of_ext hτ .interface
        (objKindExtG τ hτ (Or.inr rfl) t hname (by rw [hd0]; trivial) (by rw [hf0]; intro x hx; cases hx) _ _
          (implText_rOptImpl τ hτ _ (by rw [hi0]; intro x hx; cases hx) _ _) h hn (fun h => by cases h) (fun _ _ _ => hni))
        h1 h2 (by simp [rObjExt, rExtHead])
    | schemaDef s => exact absurd hb id
    | directiveDef d => exact absurd hb id
    | schemaExt s => exact absurd hb id

/-- an item may have to know that the word `implements` does not follow it; no item begins with that word -/
theorem tsDocF_parse (τ : Trivia) (hτ : ∀ q, Ws (τ q)) (doc : List TsItem) (hne : doc ≠ []) (hwf : ∀ d ∈ doc, WFTsItemF d) :
    ∃ pr, Peg.parse gList (defaultFuel (rTsDoc τ doc)) R.TypeSystemExtensionDocument (rTsDoc τ doc) = .pairs [pr] ∧
      CleanP pr ∧ buildTypeSystemDocument (Ctx.spec (rTsDoc τ doc)) (4 * (rTsDoc τ doc).length + 64) [pr] =
        .ok (wpTsDoc τ (rTsDoc τ doc) doc) :=
  tsDoc_parse_of (hτ 0) (rTsItem τ) (wpTsItem τ _)
    (fun s q => Nxt (rTsDoc τ doc) tdBad s q ∧ matchStr kwImplements ((rTsDoc τ doc).drop q) = none) (fun _ _ h => h.1.tok)
    doc hne rfl (fun x hx s q hx1 hx2 => tsItemTF τ hτ x (hwf x hx) s q hx1 hx2.1 hx2.2) (fun x hx s q => hd_rTsItemF τ s q x)
    (fun x hx s q Y hY => ⟨.of_hd_sep hY ((hd_rTsItemF τ s q x).append Y) fun _ => tdStart_ok,
      by rw [hY.drop]; exact itemStart_notImpl (((itemStart_rTsItem τ s q x).append Y).append _)⟩)
    fun q hq => ⟨nxt_end hq, by rw [hq]; rfl⟩

theorem parseTs_rTsDocF (τ : Trivia) (hτ : ∀ q, Ws (τ q)) (doc : List TsItem) (hne : doc ≠ []) (hwf : ∀ d ∈ doc, WFTsItemF d) :
    parseTs (rTsDoc τ doc) = .ok (wpTsDoc τ (rTsDoc τ doc) doc) :=
  parseTs_of_parse (tsDocF_parse τ hτ doc hne hwf)

end NitroVerif.DocParse
