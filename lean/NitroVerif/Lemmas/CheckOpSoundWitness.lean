import NitroVerif.Lemmas.CheckOp
/-!
Witnesses for the non-vacuity examples of `Props/C03.lean` (definitions only, no theorem): one schema with every
kind of type and three directives, one accepted document (`wDoc`) that contains every construct a rule of the
reference validator talks about, counters that say how often a rule's quantifier is exercised non-trivially, and
one small rejected document per rule (`wBad r`) on which the rule is false.
-/
namespace NitroVerif.CheckOp.Witness
open NitroVerif.Gql NitroVerif.CheckCommon NitroVerif.Valid

/-! ### terse constructors -/

def ty (n : Name) : GType := .named n {}
def tyNN (n : Name) : GType := .nonNull (.named n {})
def fld (name : Name) (args : List Arg := []) (dirs : List Directive := []) (sel : Option (List Selection) := none)
    (al : Option Name := none) : Selection :=
  .field (al.map fun a => (a, {})) name {} args dirs sel
def spr (name : Name) (dirs : List Directive := []) : Selection := .spread name {} dirs {}
def inl (cond : Option Name) (sel : List Selection) (dirs : List Directive := []) : Selection :=
  .inline (cond.map fun c => (c, {})) dirs sel {}
def arg (n : Name) (v : Value) : Arg := (n, {}, v)
def dir (n : Name) (args : List Arg := []) : Directive := { name := n, args := args }
def vInt (s : String) : Value := .int s {}
def vStr (s : String) : Value := .str s {}
def vBool (b : Bool) : Value := .bool b {}
def vVar (n : Name) : Value := .var n {}
def vEnum (n : Name) : Value := .enum n {}
def vObj (fs : List (Name × Value)) : Value := .obj (fs.map fun f => (f.1, {}, f.2)) {}
def vList (vs : List Value) : Value := .list vs {}

/-! ### schema -/

def idField : FieldDef := { name := "id", ty := tyNN "ID" }

/--
```graphql
enum Color { RED GREEN }
input Pt { x: Int!  y: Int = 0 }
interface Node { id: ID! }
type User implements Node { id: ID!  name(upper: Boolean): String  friend: User }
type Dog implements Node { id: ID!  bark: String }
union Pet = Dog | User
type Query { a: Int  f(x: Int!): Query  node(id: ID!): Node  near(p: Pt!, c: Color, tags: [String!]): User  pet: Pet }
type Subscription { tick: Int  user: User }
directive @skip(if: Boolean!) on FIELD | FRAGMENT_SPREAD | INLINE_FRAGMENT
directive @tag(name: String) repeatable on QUERY | SUBSCRIPTION | FIELD | FRAGMENT_DEFINITION | VARIABLE_DEFINITION | FRAGMENT_SPREAD | INLINE_FRAGMENT
directive @once on FIELD | QUERY
``` -/
def wSchema : Schema := ⟨[
  .typeDef { kind := .scalar, name := "Int" },
  .typeDef { kind := .scalar, name := "Float" },
  .typeDef { kind := .scalar, name := "String" },
  .typeDef { kind := .scalar, name := "Boolean" },
  .typeDef { kind := .scalar, name := "ID" },
  .typeDef { kind := .enum, name := "Color", values := [{ name := "RED" }, { name := "GREEN" }] },
  .typeDef { kind := .input, name := "Pt",
             inputs := [{ name := "x", ty := tyNN "Int" }, { name := "y", ty := ty "Int", default := some (vInt "0") }] },
  .typeDef { kind := .interface, name := "Node", fields := [idField] },
  .typeDef { kind := .object, name := "User", implements := [("Node", {})],
             fields := [idField, { name := "name", args := [{ name := "upper", ty := ty "Boolean" }], ty := ty "String" },
                        { name := "friend", ty := ty "User" }] },
  .typeDef { kind := .object, name := "Dog", implements := [("Node", {})],
             fields := [idField, { name := "bark", ty := ty "String" }] },
  .typeDef { kind := .union, name := "Pet", members := [("Dog", {}), ("User", {})] },
  .typeDef { kind := .object, name := "Query",
             fields := [{ name := "a", ty := ty "Int" },
                        { name := "f", args := [{ name := "x", ty := tyNN "Int" }], ty := ty "Query" },
                        { name := "node", args := [{ name := "id", ty := tyNN "ID" }], ty := ty "Node" },
                        { name := "near", args := [{ name := "p", ty := tyNN "Pt" }, { name := "c", ty := ty "Color" },
                                                   { name := "tags", ty := .list (tyNN "String") {} }], ty := ty "User" },
                        { name := "pet", ty := ty "Pet" }] },
  .typeDef { kind := .object, name := "Subscription",
             fields := [{ name := "tick", ty := ty "Int" }, { name := "user", ty := ty "User" }] },
  .directiveDef { name := "skip", args := [{ name := "if", ty := tyNN "Boolean" }],
                  locations := ["FIELD", "FRAGMENT_SPREAD", "INLINE_FRAGMENT"] },
  .directiveDef { name := "tag", args := [{ name := "name", ty := ty "String" }], repeatable := true,
                  locations := ["QUERY", "SUBSCRIPTION", "FIELD", "FRAGMENT_DEFINITION", "VARIABLE_DEFINITION",
                                "FRAGMENT_SPREAD", "INLINE_FRAGMENT"] },
  .directiveDef { name := "once", locations := ["FIELD", "QUERY"] }]⟩

/-! ### the accepted document -/

/--
```graphql
query Q($v: Int!, $p: Pt = {x: 1}, $on: Boolean! @tag(name: "v")) @tag(name: "q") @once {
  a
  b: f(x: $v) @skip(if: $on) @tag @tag(name: "t") { a ...QF @skip(if: true) }
  node(id: "1") { id ... on User { name(upper: true) friend { ...UF } } ... on Dog @tag { bark } ... { id } }
  near(p: {x: 2, y: 3}, c: RED, tags: ["s"]) { name }
  n2: near(p: $p) { id }
  pet { __typename ... on Dog { bark } ...PF }
}
query R { a }
subscription Sub { ...SF }
fragment QF on Query @tag(name: "f") { a }
fragment UF on User { id name ...NF }
fragment NF on Node { id }
fragment PF on Pet { ... on Node { id } }
fragment SF on Subscription { ... { t: tick } }
fragment Unused on Node { id ... on User { name } }
``` -/
def wDoc : Doc := [
  .op { kind := .query, name := some ("Q", {}),
        vars := [{ name := "v", ty := tyNN "Int" },
                 { name := "p", ty := ty "Pt", default := some (vObj [("x", vInt "1")]) },
                 { name := "on", ty := tyNN "Boolean", dirs := [dir "tag" [arg "name" (vStr "v")]] }],
        dirs := [dir "tag" [arg "name" (vStr "q")], dir "once"],
        sel := [
          fld "a",
          fld "f" [arg "x" (vVar "v")] [dir "skip" [arg "if" (vVar "on")], dir "tag", dir "tag" [arg "name" (vStr "t")]]
            (some [fld "a", spr "QF" [dir "skip" [arg "if" (vBool true)]]]) (some "b"),
          fld "node" [arg "id" (vStr "1")] []
            (some [fld "id",
                   inl (some "User") [fld "name" [arg "upper" (vBool true)], fld "friend" [] [] (some [spr "UF"])],
                   inl (some "Dog") [fld "bark"] [dir "tag"],
                   inl none [fld "id"]]),
          fld "near" [arg "p" (vObj [("x", vInt "2"), ("y", vInt "3")]), arg "c" (vEnum "RED"), arg "tags" (vList [vStr "s"])] []
            (some [fld "name"]),
          fld "near" [arg "p" (vVar "p")] [] (some [fld "id"]) (some "n2"),
          fld "pet" [] [] (some [fld "__typename", inl (some "Dog") [fld "bark"], spr "PF"])] },
  .op { kind := .query, name := some ("R", {}), sel := [fld "a"] },
  .op { kind := .subscription, name := some ("Sub", {}), sel := [spr "SF"] },
  .frag { name := "QF", cond := "Query", dirs := [dir "tag" [arg "name" (vStr "f")]], sel := [fld "a"] },
  .frag { name := "UF", cond := "User", sel := [fld "id", fld "name", spr "NF"] },
  .frag { name := "NF", cond := "Node", sel := [fld "id"] },
  .frag { name := "PF", cond := "Pet", sel := [inl (some "Node") [fld "id"]] },
  .frag { name := "SF", cond := "Subscription", sel := [inl none [fld "tick" [] [] none (some "t")]] },
  .frag { name := "Unused", cond := "Node", sel := [fld "id", inl (some "User") [fld "name"]] }]

/-- `{ a }` — a lone anonymous operation (5.2.2.1) -/
def wAnonDoc : Doc := [.op { kind := .query, sel := [fld "a"] }]

/-! ### how often a rule's quantifier is exercised non-trivially on a document -/

def selsOf (S : Schema) (D : Doc) : List (Option Name × Selection) := allSels (allCtxs S D)

def count {α} (p : α → Bool) (l : List α) : Nat := (l.filter p).length

/-- field selections with a known type in scope -/
def nFields (S : Schema) (D : Doc) : Nat :=
  count (fun | (some _, .field ..) => true | _ => false) (selsOf S D)
/-- field selections with / without a sub-selection -/
def nFieldsWithSel (S : Schema) (D : Doc) : Nat :=
  count (fun | (some _, .field _ _ _ _ _ (some _)) => true | _ => false) (selsOf S D)
def nLeafFields (S : Schema) (D : Doc) : Nat :=
  count (fun | (some _, .field _ _ _ _ _ none) => true | _ => false) (selsOf S D)
def nSpreads (S : Schema) (D : Doc) : Nat :=
  count (fun | (some _, .spread ..) => true | _ => false) (selsOf S D)
/-- spreads and conditioned inline fragments whose type condition differs from the type in scope -/
def nNarrowing (S : Schema) (D : Doc) : Nat :=
  count (fun
    | (some t, .spread n _ _ _) => (match frag? D n with | some f => f.cond != t | none => false)
    | (some t, .inline (some (c, _)) _ _ _) => c != t
    | _ => false) (selsOf S D)
/-- arguments given (over all field and directive argument lists) -/
def nArgs (S : Schema) (D : Doc) : Nat := ((argSites S D).map (·.args.length)).sum
/-- argument lists with at least two arguments -/
def nMultiArgLists (S : Schema) (D : Doc) : Nat :=
  count (fun as => as.length ≥ 2) (rule_5_4_2.fieldArgSitesAll S D ++ rule_5_4_2.dirArgSitesAll S D)
/-- required argument definitions at the argument sites -/
def nRequiredArgDefs (S : Schema) (D : Doc) : Nat :=
  ((argSites S D).map fun s => count (fun d => d.ty.isNonNull && d.default.isNone) s.defs).sum
def nTypedValues (S : Schema) (D : Doc) : Nat := (typedValues S D).length
def nObjectValues (S : Schema) (D : Doc) : Nat :=
  count (fun tv => match tv.value with | .obj .. => true | _ => false) (typedValues S D)
/-- object literals with at least two fields -/
def nBigObjectValues (S : Schema) (D : Doc) : Nat :=
  count (fun tv => match tv.value with | .obj fs _ => fs.length ≥ 2 | _ => false) (typedValues S D)
def nVarUses (S : Schema) (D : Doc) : Nat := ((ops D).map fun o => (opVarUses S D o).length).sum
/-- variable usages through a fragment-free path at a non-null location by a nullable variable with default -/
def nDefaultRescued (S : Schema) (D : Doc) : Nat :=
  ((ops D).map fun o => count (fun u => u.locTy.isNonNull &&
      (match o.vars.find? (·.name == u.name) with | some vd => !vd.ty.isNonNull | none => false)) (opVarUses S D o)).sum
def maxVars (D : Doc) : Nat := ((ops D).map (·.vars.length)).foldl max 0
/-- directive applications -/
def nDirectives (S : Schema) (D : Doc) : Nat := ((dirSites S D).map (·.2.length)).sum
/-- locations with at least one directive, as a list of location names -/
def dirLocations (S : Schema) (D : Doc) : List String :=
  dedup (((dirSites S D).filter fun s => !s.2.isEmpty).map (·.1))
/-- locations carrying the same (repeatable) directive twice -/
def nRepeated (S : Schema) (D : Doc) : Nat :=
  count (fun s => !nodupB (s.2.map (·.name))) (dirSites S D)
/-- fragments that spread other fragments -/
def nSpreadingFrags (D : Doc) : Nat := count (fun f => !(reachable D f.sel).isEmpty) (frags D)
/-- subscriptions whose single root key is only found through a fragment spread -/
def nSubsThroughSpread (D : Doc) : Nat :=
  count (fun o => o.kind == .subscription && (keysFlat o.sel).isEmpty && !(reachableFlat D o.sel).isEmpty) (ops D)

/-! ### one rejected document per rule -/

def q (sels : List Selection) (vars : List VarDef := []) (dirs : List Directive := []) : ExecDef :=
  .op { kind := .query, name := some ("Q", {}), vars := vars, dirs := dirs, sel := sels }
def fr (name cond : Name) (sels : List Selection) : ExecDef := .frag { name := name, cond := cond, sel := sels }

/-- a document that violates rule `r` (and, as far as possible, nothing else) -/
def wBad : String → Doc
  | "5.2.1.1" => [q [fld "a"], q [fld "a"]]                                     -- two operations named Q
  | "5.2.2.1" => [.op { kind := .query, sel := [fld "a"] }, q [fld "a"]]        -- anonymous + another
  | "5.2.3.1" => [.op { kind := .subscription, sel := [fld "tick", spr "SF"] },
                  fr "SF" "Subscription" [fld "user" [] [] (some [fld "id"])]]   -- two root fields, one through a spread
  | "5.3.1" => [q [fld "nope"]]
  | "5.3.3" => [q [fld "a" [] [] (some [fld "a"])]]                             -- selection on a scalar
  | "5.4.1" => [q [fld "f" [arg "x" (vInt "1"), arg "z" (vInt "1")] [] (some [fld "a"])]]
  | "5.4.2" => [q [fld "f" [arg "x" (vInt "1"), arg "x" (vInt "1")] [] (some [fld "a"])]]
  | "5.4.2.1" => [q [fld "f" [] [] (some [fld "a"])]]
  | "5.6.1" => [q [fld "f" [arg "x" (vStr "1")] [] (some [fld "a"])]]
  | "5.6.2" => [q [fld "near" [arg "p" (vObj [("x", vInt "1"), ("z", vInt "1")])] [] (some [fld "id"])]]
  | "5.6.3" => [q [fld "near" [arg "p" (vObj [("x", vInt "1"), ("x", vInt "1")])] [] (some [fld "id"])]]
  | "5.6.4" => [q [fld "near" [arg "p" (vObj [("y", vInt "1")])] [] (some [fld "id"])]]
  | "5.8.1" => [q [fld "a"] [{ name := "v", ty := ty "Int" }, { name := "v", ty := ty "Int" }]]
  | "5.8.2" => [q [fld "a"] [{ name := "v", ty := ty "User" }]]
  | "5.8.3" => [q [fld "f" [arg "x" (vVar "w")] [] (some [fld "a"])]]
  | "5.8.5" => [q [fld "f" [arg "x" (vVar "v")] [] (some [fld "a"])] [{ name := "v", ty := ty "Int" }]]
  | "5.5.1.1" => [q [spr "F"], fr "F" "Query" [fld "a"], fr "F" "Query" [fld "a"]]
  | "5.5.1.2" => [q [inl (some "Nope") [fld "a"]]]
  | "5.5.1.3" => [q [spr "F"], fr "F" "Int" [fld "a"]]
  | "5.5.2.1" => [q [spr "F"]]
  | "5.5.2.2" => [q [spr "F"], fr "F" "Query" [spr "G"], fr "G" "Query" [spr "F"]]
  | "5.5.2.3" => [q [fld "node" [arg "id" (vStr "1")] [] (some [inl (some "User") [inl (some "Dog") [fld "bark"]]])]]
  | "5.7.1" => [q [fld "a" [] [dir "nope"]]]
  | "5.7.2" => [q [fld "a"] [] [dir "skip" [arg "if" (vBool true)]]]             -- @skip on a QUERY
  | "5.7.3" => [q [fld "a" [] [dir "once", dir "once"]]]
  | _ => []

/-- rule id ↦ predicate of the implemented-rule table (`true` for an unknown id) -/
def ruleOf (r : String) (S : Schema) (D : Doc) : Bool :=
  match ruleTable.find? (·.1 == r) with
  | some p => p.2 S D
  | none => true

end NitroVerif.CheckOp.Witness
