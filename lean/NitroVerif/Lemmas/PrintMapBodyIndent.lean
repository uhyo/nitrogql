import NitroVerif.Lemmas.PrintMapBodyText
import NitroVerif.Lemmas.PrintMapRun
/-!
# C06 — the buffer of `SourceWriter` is the concatenated text of the calls, up to indentation

`SourceWriter` inserts `indent` spaces in front of the first non-empty piece it writes on a line and nothing else.
`stripLead` drops the spaces at the beginning of every line of a text. `BufInv` is kept by every move of the writer
(`bufInv_prim`), hence along every run of trait calls (`bufInv_run`): the buffer and the concatenated chunks agree up to
line-leading spaces (`run_buffer_text`).
-/
namespace NitroVerif.PrintMap
open NitroVerif.SourceMap

/-- drop the spaces at the beginning of every line; the flag says "only spaces so far on this line" -/
def stripLead : Bool → List Char → List Char
  | _, [] => []
  | b, c :: cs =>
    if c = '\n' then c :: stripLead true cs
    else if b && c = ' ' then stripLead true cs
    else c :: stripLead false cs

/-- the flag after a text -/
def startAfter : Bool → List Char → Bool
  | b, [] => b
  | b, c :: cs =>
    if c = '\n' then startAfter true cs
    else if b && c = ' ' then startAfter true cs
    else startAfter false cs

theorem stripLead_append : ∀ (b : Bool) (A B : List Char),
    stripLead b (A ++ B) = stripLead b A ++ stripLead (startAfter b A) B
  | _, [], _ => rfl
  | b, c :: cs, B => by
    simp only [List.cons_append, stripLead, startAfter]
    split
    · simp [stripLead_append true cs B]
    · split
      · exact stripLead_append true cs B
      · simp [stripLead_append false cs B]

theorem startAfter_append : ∀ (b : Bool) (A B : List Char), startAfter b (A ++ B) = startAfter (startAfter b A) B
  | _, [], _ => rfl
  | b, c :: cs, B => by
    simp only [List.cons_append, startAfter]
    split
    · exact startAfter_append true cs B
    · split
      · exact startAfter_append true cs B
      · exact startAfter_append false cs B

theorem stripLead_spaces (n : Nat) : stripLead true (List.replicate n ' ') = [] := by
  induction n with
  | zero => rfl
  | succ n ih => simp [List.replicate_succ, stripLead, ih]

theorem startAfter_spaces (n : Nat) : startAfter true (List.replicate n ' ') = true := by
  induction n with
  | zero => rfl
  | succ n ih => simp [List.replicate_succ, startAfter, ih]

/-- the writer's buffer and the text `T` written so far agree up to line-leading spaces; a pending indentation is at a
    line start -/
def BufInv (st : WState) (T : List Char) : Prop :=
  stripLead true st.buf = stripLead true T ∧ startAfter true st.buf = startAfter true T ∧
  (st.pending = true → startAfter true st.buf = true)

theorem bufInv_append {st : WState} {T : List Char} (h : BufInv st T) (l : List Char) (hp : st.pending = false) :
    BufInv { st with buf := st.buf ++ l, col := st.col + utf16Len l } (T ++ l) := by
  obtain ⟨h1, h2, _⟩ := h
  refine ⟨?_, ?_, ?_⟩
  · simp only [stripLead_append, h1, h2]
  · simp only [startAfter_append, h2]
  · intro hpen; simp [hp] at hpen

theorem bufInv_newline {st : WState} {T : List Char} (h : BufInv st T) : BufInv (newline st) (T ++ ['\n']) := by
  obtain ⟨h1, h2, _⟩ := h
  refine ⟨?_, ?_, ?_⟩
  · simp only [newline, stripLead_append, h1, h2]
  · simp only [newline, startAfter_append, h2]
  · intro _
    simp [newline, startAfter_append, startAfter]

theorem bufInv_of_buf_eq {a b : WState} {T : List Char} (h : BufInv a T) (hb : b.buf = a.buf) (hp : b.pending = a.pending) :
    BufInv b T := by
  unfold BufInv at *
  rw [hb, hp]
  exact h

theorem bufInv_prim {p : Policy} {a b : WState} {x T : List Char} (h : Prim p a x b) (hi : BufInv a T) :
    BufInv b (T ++ x) := by
  cases h with
  | text _ _ hpen => exact bufInv_append hi _ hpen
  | flush hpen =>
    -- the indentation is flushed at a line start: it is stripped
    obtain ⟨h1, h2, h3⟩ := hi
    have hs := h3 hpen
    refine ⟨?_, ?_, fun h => nomatch h⟩
    · simp only [stripLead_append, hs, stripLead_spaces, List.append_nil, h1]
    · simp only [startAfter_append, hs, startAfter_spaces, List.append_nil]; rw [← h2, hs]
  | newline => exact bufInv_newline hi
  | entry | name | indent => exact (List.append_nil T).symm ▸ bufInv_of_buf_eq hi rfl rfl

theorem bufInv_run (p : Policy) {ops : List Op} {st st' : WState} {T : List Char} (hm : ∀ op ∈ ops, NoMapper op)
    (hi : BufInv st T) (hr : run p st ops = some st') : BufInv st' (T ++ ops.flatMap opChunk) :=
  run_prims p (R := fun a x b => ∀ T, BufInv a T → BufInv b (T ++ x)) (fun _ T h => (List.append_nil T).symm ▸ h)
    (fun f g T h => List.append_assoc T _ _ ▸ g _ (f T h)) (fun hp _ h => bufInv_prim hp h) hm hr T hi

theorem chunks_toOp (ops : List POp) : (ops.map POp.toOp).flatMap opChunk = (rawText ops).toList := by
  induction ops with
  | nil => rfl
  | cons op ops ih =>
    cases op <;> simp [POp.toOp, opChunk, ih, String.toList_append]

/-- an indentation may be pending at the start: with an empty buffer it is pending at a line start -/
theorem run_buffer_text (p : Policy) (ops : List POp) (st0 st : WState) (hb : st0.buf = [])
    (h : run p st0 (ops.map POp.toOp) = some st) :
    stripLead true st.buf = stripLead true (rawText ops).toList := by
  have h0 : BufInv st0 [] := ⟨by rw [hb], by rw [hb], fun _ => by rw [hb]; rfl⟩
  simpa [chunks_toOp] using (bufInv_run p (toOp_noMapper ops) h0 h).1

end NitroVerif.PrintMap
