/-
The operation checker model `CheckOp.checkOp S D` reads the schema `S` only through by-name lookups, the SET of type
names (interface × interface applicability), the list of schema definitions (root types); and reads the document `D` —
apart from walking it — only through the fragment map, the number of fragments / operations and the set of fragments
reachable from operations.
-/
import NitroVerif.Lemmas.Determinism
import NitroVerif.Lemmas.SchemaFacts
namespace NitroVerif.Determinism
open NitroVerif.Gql NitroVerif.CheckCommon NitroVerif.CheckOp

/-- everything the operation checker (and the printers) read of a schema -/
structure SameSchema (S S' : Schema) : Prop extends SameView S S' where
  names : ∀ n, n ∈ S.typeNames ↔ n ∈ S'.typeNames
  schemaDefs : S.schemaDefs = S'.schemaDefs

section common
variable {S S' : Schema}

theorem common_namedLeaf_congr (h : SameView S S') (v : Value) (n : Name) (np : Pos) :
    namedLeaf S v n np = namedLeaf S' v n np := by
  unfold namedLeaf
  rw [h.ty]

mutual
theorem common_checkValue_congr (h : SameView S S') (vars : Option (List VarDef)) : ∀ (v : Value) (ty : GType) (ld : Bool),
    CheckCommon.checkValue S vars v ty ld = CheckCommon.checkValue S' vars v ty ld
  | .list vs p, ty, _ => by
    simp only [CheckCommon.checkValue, common_namedLeaf_congr h, common_checkValueList_congr h vars vs]
  | .obj fs p, ty, _ => by simp only [CheckCommon.checkValue, h.ty, common_lookupField_congr h vars fs]
  | .var _ _, _, _ => rfl
  | .null _, _, _ | .enum _ _, _, _ | .int _ _, _, _ | .float _ _, _, _ | .str _ _, _, _ | .bool _ _, _, _ => by
    simp only [CheckCommon.checkValue, common_namedLeaf_congr h]
theorem common_checkValueList_congr (h : SameView S S') (vars : Option (List VarDef)) : ∀ (vs : List Value) (ty : GType),
    CheckCommon.checkValueList S vars vs ty = CheckCommon.checkValueList S' vars vs ty
  | [], _ => rfl
  | v :: vs, ty => by
    simp only [CheckCommon.checkValueList, common_checkValue_congr h vars v, common_checkValueList_congr h vars vs]
theorem common_lookupField_congr (h : SameView S S') (vars : Option (List VarDef)) :
    ∀ (fs : List (Name × Pos × Value)) (n : Name) (ty : GType) (ld : Bool),
    lookupField S vars fs n ty ld = lookupField S' vars fs n ty ld
  | [], _, _, _ => rfl
  | (k, _, v) :: r, n, ty, ld => by
    simp only [lookupField, common_checkValue_congr h vars v, common_lookupField_congr h vars r]
end

theorem common_argOutcomes_congr (h : SameView S S') (vars : Option (List VarDef)) (p : Pos) (args : List Arg)
    (defs : List InputValueDef) : argOutcomes S vars p args defs = argOutcomes S' vars p args defs := by
  unfold argOutcomes
  simp only [common_checkValue_congr h]

theorem common_checkArguments_congr (h : SameView S S') (vars : Option (List VarDef)) (p : Pos) (args : List Arg)
    (defs : List InputValueDef) :
    CheckCommon.checkArguments S vars p args defs = CheckCommon.checkArguments S' vars p args defs := by
  unfold CheckCommon.checkArguments
  simp only [common_argOutcomes_congr h]

theorem common_checkDirectivesAux_congr (h : SameView S S') (vars : Option (List VarDef)) (loc : String)
    (seen : List Name) (ds : List Directive) :
    CheckCommon.checkDirectivesAux S vars loc seen ds = CheckCommon.checkDirectivesAux S' vars loc seen ds := by
  induction ds generalizing seen with
  | nil => rfl
  | cons d ds ih => simp only [CheckCommon.checkDirectivesAux, h.dir, common_checkArguments_congr h, ih]

theorem common_checkDirectives_congr (h : SameView S S') (vars : Option (List VarDef)) (ds : List Directive)
    (loc : String) : CheckCommon.checkDirectives S vars ds loc = CheckCommon.checkDirectives S' vars ds loc :=
  common_checkDirectivesAux_congr h vars loc [] ds

theorem common_isInputType?_congr (h : SameView S S') (n : Name) : isInputType? S n = isInputType? S' n := by
  unfold isInputType?
  rw [h.kind]

end common

section op
variable {S S' : Schema}

theorem unionMemberImplements_congr (h : SameView S S') (iface : Name) (ms : List (Name × Pos)) :
    unionMemberImplements S iface ms = unionMemberImplements S' iface ms := by
  induction ms with
  | nil => rfl
  | cons m ms ih =>
    obtain ⟨m, mp⟩ := m
    simp only [unionMemberImplements, h.ty, ih]

theorem spreadApplicability_congr (h : SameSchema S S') (root cond : TypeDef) (pos : Pos) :
    spreadApplicability S root cond pos = spreadApplicability S' root cond pos := by
  unfold spreadApplicability
  simp only [h.ty, unionMemberImplements_congr h.toSameView, any_eq_of_mem_iff h.names]

mutual
theorem checkSelections_schema_congr (h : SameSchema S S') (H : SpreadHandler) (seen : List Name)
    (vars : Option (List VarDef)) (root : TypeDef) (fields : List FieldDef) :
    ∀ ss, checkSelections S H seen vars root fields ss = checkSelections S' H seen vars root fields ss
  | [] => by simp only [checkSelections]
  | s :: ss => by
    simp only [checkSelections]
    rw [checkSelection_schema_congr h H seen vars root fields s,
      checkSelections_schema_congr h H seen vars root fields ss]
theorem checkSelection_schema_congr (h : SameSchema S S') (H : SpreadHandler) (seen : List Name)
    (vars : Option (List VarDef)) (root : TypeDef) (fields : List FieldDef) :
    ∀ s, checkSelection S H seen vars root fields s = checkSelection S' H seen vars root fields s
  | .field _ name namePos args dirs none => by
    simp only [checkSelection, common_checkDirectives_congr h.toSameView, common_checkArguments_congr h.toSameView, h.ty]
  | .field _ name namePos args dirs (some ss) => by
    simp only [checkSelection, common_checkDirectives_congr h.toSameView, common_checkArguments_congr h.toSameView, h.ty,
      fun ft ff => checkSelections_schema_congr h H seen vars ft ff ss]
  | .spread name namePos dirs pos => by
    simp only [checkSelection, common_checkDirectives_congr h.toSameView]
  | .inline cond dirs ss pos => by
    simp only [checkSelection, common_checkDirectives_congr h.toSameView, h.ty, spreadApplicability_congr h,
      fun ft ff => checkSelections_schema_congr h H seen vars ft ff ss]
end

theorem checkSelectionSet_schema_congr (h : SameSchema S S') (H : SpreadHandler) (seen : List Name)
    (vars : Option (List VarDef)) (root : TypeDef) (ss : List Selection) (anchor : Pos) :
    checkSelectionSet S H seen vars root ss anchor = checkSelectionSet S' H seen vars root ss anchor := by
  unfold checkSelectionSet
  simp only [checkSelections_schema_congr h]

theorem spreadHandler_schema_congr (h : SameSchema S S') (D : Doc) (fuel : Nat) :
    spreadHandler S D fuel = spreadHandler S' D fuel := by
  induction fuel with
  | zero => rfl
  | succ n ih =>
    simp only [spreadHandler, ih, common_checkDirectives_congr h.toSameView, h.ty, spreadApplicability_congr h,
      checkSelectionSet_schema_congr h]

theorem checkVariablesAux_congr (h : SameView S S') (seen : List Name) (vs : List VarDef) :
    checkVariablesAux S seen vs = checkVariablesAux S' seen vs := by
  induction vs generalizing seen with
  | nil => rfl
  | cons v vs ih =>
    simp only [checkVariablesAux, common_checkDirectives_congr h, common_isInputType?_congr h, common_checkValue_congr h, ih]

theorem hasExplicitSchema_congr (h : SameSchema S S') : hasExplicitSchema S = hasExplicitSchema S' := by
  unfold hasExplicitSchema
  rw [h.schemaDefs]

theorem explicitRoot?_congr (h : SameSchema S S') (k : OpKind) : S.explicitRoot? k = S'.explicitRoot? k := by
  unfold Schema.explicitRoot?
  rw [h.schemaDefs]

theorem rootName_congr (h : SameSchema S S') (k : OpKind) : S.rootName k = S'.rootName k := by
  unfold Schema.rootName
  rw [explicitRoot?_congr h]

theorem checkOperation_schema_congr (h : SameSchema S S') (D : Doc) (op : OperationDef) :
    checkOperation S D op = checkOperation S' D op := by
  unfold checkOperation
  simp only [hasExplicitSchema_congr h, explicitRoot?_congr h, rootName_congr h, h.ty,
    common_checkDirectives_congr h.toSameView, checkVariablesAux_congr h.toSameView, spreadHandler_schema_congr h,
    checkSelectionSet_schema_congr h]

theorem checkFragmentDefinition_schema_congr (h : SameSchema S S') (D : Doc) (used : Bool) (f : FragmentDef) :
    checkFragmentDefinition S D used f = checkFragmentDefinition S' D used f := by
  unfold checkFragmentDefinition
  simp only [h.ty, common_checkDirectives_congr h.toSameView, spreadHandler_schema_congr h,
    checkSelectionSet_schema_congr h]

theorem defBody_schema_congr (h : SameSchema S S') (D : Doc) (d : ExecDef) : defBody S D d = defBody S' D d := by
  cases d with
  | op o => simp only [defBody, checkOperation_schema_congr h]
  | frag f => simp only [defBody, checkFragmentDefinition_schema_congr h]
  | imp _ => rfl

theorem checkDefs_schema_congr (h : SameSchema S S') (D : Doc) (opNum : Nat) (earlier rest : List ExecDef) :
    checkDefs S D opNum earlier rest = checkDefs S' D opNum earlier rest := by
  induction rest generalizing earlier with
  | nil => rfl
  | cons d rest ih => simp only [checkDefs, defBody_schema_congr h, ih]

theorem checkOp_schema_congr (h : SameSchema S S') (D : Doc) : checkOp S D = checkOp S' D :=
  checkDefs_schema_congr h D _ [] D

end op

theorem sameSchema_of_perm {T T' : TsDoc} (h : T.Perm T') (ndt : NoDupTypeNames T) (ndd : NoDupDirectiveNames T)
    (one : (Schema.mk T).schemaDefs.length ≤ 1) : SameSchema ⟨T⟩ ⟨T'⟩ :=
  { toSameView := sameView_of_perm h ndt ndd
    names := fun n => by
      rw [Schema.mem_typeNames_iff, Schema.mem_typeNames_iff]
      exact ((typeDefs_perm h).map _).mem_iff
    schemaDefs := eq_of_perm_of_length_le_one (h.filterMap _) one }

end NitroVerif.Determinism
