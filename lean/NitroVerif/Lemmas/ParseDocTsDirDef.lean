/-
Directive definitions as items of a type-system document:
`DirectiveDefinition = { Description? ~ KEYWORD_directive ~ "@" ~ Name ~ ArgumentsDefinition? ~ KEYWORD_repeatable? ~
  KEYWORD_on ~ DirectiveLocations }`, `DirectiveLocations = { "|"? ~ DirectiveLocation ~ ("|" ~ DirectiveLocation)* }`.
-/
import NitroVerif.Lemmas.ParseDocTsLoc
import NitroVerif.Lemmas.ParseDocTsExtItem
namespace NitroVerif.DocParse
open NitroVerif.Peg NitroVerif.Gen NitroVerif.Gen.Parts NitroVerif.Build NitroVerif.TypeParse NitroVerif.StringParse
open NitroVerif.Gql NitroVerif.ValueParse NitroVerif.Spec.Lex NitroVerif.ParseText

abbrev kwRepeatable : List Char := ['r', 'e', 'p', 'e', 'a', 't', 'a', 'b', 'l', 'e']

variable {inp : List Char}

theorem mapItems_const {α β : Type} (ri : Bool → Nat → α → List Char) (sm sl : Bool) (g : α → β) :
    ∀ (as : List α) (p : Nat), mapItems ri sm sl (fun _ _ x => g x) p as = as.map g := by
  intro as
  induction as with
  | nil => intro p; rfl
  | cons a r ih =>
    intro p
    cases r with
    | nil => simp [mapItems]
    | cons b r => simp only [mapItems, List.map_cons, ih]

theorem locsListP (τ : Trivia) (hτ : ∀ q, Ws (τ q)) (n : Name × Pos) (rest : List (Name × Pos))
    (hv : ∀ x ∈ n :: rest, x.1.toList ∈ locWords) {sep : Bool} {p : Nat} {bad : Char → Prop}
    (hb : bad '|') (h : HasAt inp p (rNames τ '|' sep p (n :: rest)))
    (hn : Nxt inp bad sep (p + (rNames τ '|' sep p (n :: rest)).length)) :
    ∃ pss, Part inp 17 (.seq (.call R.DirectiveLocation) (.star (.seq (.str ['|']) (.call R.DirectiveLocation)))) p
        (rNames τ '|' sep p (n :: rest)) pss ∧
      (∀ x ∈ pss, x.rule = R.DirectiveLocation) ∧ pss.map (asString (Ctx.spec inp)) = (n :: rest).map (·.1) := by
  obtain ⟨pr, pss, rP, hg0, hgood⟩ := sepListP hτ '|' (by decide) (.call R.DirectiveLocation) 10
    (fun _ x pr => LocGood inp x.1.toList pr) n rest
    (fun x hx s q hat hnx => by
      obtain ⟨pr, r, hg⟩ := locT hτ (hv x hx) hat hnx
      exact ⟨pr, ⟨r, hg.2.1, trivial⟩, hg⟩)
    (fun x hx => (locWords_ok _ (hv x hx)).1.mono fun _ => nameStart_not_trivia) hb h hn
  have hrules := goodItems_forall (riSepName τ '|') false sep _ (fun x => x.rule = R.DirectiveLocation) rest
    (fun x _ s q pr hg => hg.2.1) _ pss hgood
  have hmap := goodItems_map (riSepName τ '|') false sep _ (asString (Ctx.spec inp)) (fun _ _ x => x.1) rest
    (fun x _ s q pr hg => by rw [hg.2.2.2, String.ofList_toList]) _ pss hgood
  rw [mapItems_const] at hmap
  refine ⟨pr :: pss, rP, ?_, ?_⟩
  · intro x hx
    rcases List.mem_cons.mp hx with rfl | hx
    · exact hg0.1
    · exact hrules x hx
  · rw [List.map_cons, List.map_cons, hg0.2.2, String.ofList_toList, hmap]

theorem locsT (τ : Trivia) (hτ : ∀ q, Ws (τ q)) (n : Name × Pos) (rest : List (Name × Pos))
    (hv : ∀ x ∈ n :: rest, x.1.toList ∈ locWords) {sep : Bool} {p : Nat} {bad : Char → Prop} (hb : bad '|')
    (h : HasAt inp p (rNames τ '|' sep p (n :: rest))) (hn : Nxt inp bad sep (p + (rNames τ '|' sep p (n :: rest)).length)) :
    ∃ pr, Reads inp 50 R.DirectiveLocations p (rNames τ '|' sep p (n :: rest))
      (fun _ pr => (allChildren AC_DirectiveLocations pr).map (List.map (asString (Ctx.spec inp))))
      ((n :: rest).map (·.1)) pr := by
  have hdN : Hd nameStart (rNames τ '|' sep p (n :: rest)) :=
    Hd.append (hd_tk (locWords_ok _ (hv n (List.mem_cons_self ..))).1) _
  have rBar : Part inp 0 (.opt (.str ['|'])) p [] [] :=
    .opt_none (str_fails (headNot_of_hd h hdN (fun d hd => nameStart_ne hd (by decide))))
      (tok_of_hd h hdN (fun d => nameStart_not_trivia)) (by decide)
  obtain ⟨pss, rN, hrules, hmap⟩ := locsListP τ hτ n rest hv hb h hn
  obtain ⟨e, rU⟩ := PartT.rule (r := R.DirectiveLocations) rfl (rBar.nil_seq rN)
  refine ⟨_, rU.mono (by decide), rfl, rfl, fun _ _ => ?_⟩
  rw [List.nil_append, allChildren_ok (r := AC_DirectiveLocations) (p := .mk _ _ _ pss) hrules, ← hmap]
  rfl

def rOptRep (τ : Trivia) (p : Nat) : Bool → List Char
  | true => tk τ true p kwRepeatable
  | false => []

theorem repT {τ : Trivia} (hτ : ∀ q, Ws (τ q)) (b : Bool) {p : Nat} {Rr : List Char} (h : HasAt inp p (rOptRep τ p b))
    (hR : HasAt inp (p + (rOptRep τ p b).length) Rr) (hdR : Hd (· = 'o') Rr) :
    ∃ o, ReadsOpt inp 24 R.KEYWORD_repeatable p (rOptRep τ p b) (fun _ o => (.ok o.isSome : M Bool)) b o := by
  cases b with
  | false =>
    have hR' : HasAt inp p Rr := hR
    exact ⟨_, .none (kw_fails_head (la := .none) (r := R.KEYWORD_repeatable) rfl
      (headNot_of_hd hR' hdR (by rintro d rfl; decide))) (tok_of_hd hR' hdR (by rintro d rfl; decide)) (by decide)
      fun _ => rfl⟩
  | true =>
    have r := kwP hτ (r := R.KEYWORD_repeatable) rfl h (bad := fun _ => False)
      (Nxt.of_hd_sep hR hdR (by rintro d rfl; exact ⟨by decide, id⟩))
    exact ⟨_, Reads.opt (bld := fun _ _ => (.ok true : M Bool)) ⟨r.mono (by decide), rfl, rfl, fun _ _ => rfl⟩ fun _ => rfl⟩

theorem hd_rOptRep_append {τ : Trivia} {p : Nat} {b : Bool} {Rr : List Char} (h : Hd (· = 'o') Rr) :
    Hd nameStart (rOptRep τ p b ++ Rr) := by
  cases b with
  | true => exact Hd.append (hd_tk (hd_of_validName (validName_of_lower _ (by simp) (by decide)))) _
  | false => exact h.mono (by rintro c rfl; decide)

/-- the location names as the `(name, position)` pairs `rNames` renders -/
def locNames (d : DirectiveDef) : List (Name × Pos) := d.locations.map (fun l => (l, ({} : Pos)))

def rDirectiveDef (τ : Trivia) (sep : Bool) (p : Nat) (d : DirectiveDef) : List Char :=
  let tS := rOptDesc τ p d.desc
  let tK := tk τ false (p + tS.length) kwDirective
  let tA := tk τ false (p + tS.length + tK.length) ['@']
  let tN := tk τ d.args.isEmpty (p + tS.length + tK.length + tA.length) d.name.toList
  let tG := rOptArgsDef τ false (p + tS.length + tK.length + tA.length + tN.length) d.args
  let tR := rOptRep τ (p + tS.length + tK.length + tA.length + tN.length + tG.length) d.repeatable
  let tO := tk τ true (p + tS.length + tK.length + tA.length + tN.length + tG.length + tR.length) kwOn
  tS ++ (tK ++ (tA ++ (tN ++ (tG ++ (tR ++ (tO ++
    rNames τ '|' sep (p + tS.length + tK.length + tA.length + tN.length + tG.length + tR.length + tO.length)
      (locNames d)))))))

def wpDirectiveDef (τ : Trivia) (inp : List Char) (_sep : Bool) (p : Nat) (d : DirectiveDef) : DirectiveDef :=
  let tS := rOptDesc τ p d.desc
  let tK := tk τ false (p + tS.length) kwDirective
  let tA := tk τ false (p + tS.length + tK.length) ['@']
  let tN := tk τ d.args.isEmpty (p + tS.length + tK.length + tA.length) d.name.toList
  { desc := d.desc, name := d.name, namePos := posAt inp (p + tS.length + tK.length + tA.length),
    args := wpIVDs τ inp (p + tS.length + tK.length + tA.length + tN.length +
      (tk τ false (p + tS.length + tK.length + tA.length + tN.length) ['(']).length) d.args,
    repeatable := d.repeatable, locations := d.locations, pos := posAt inp (p + tS.length) }

def WFDirectiveDef (d : DirectiveDef) : Prop :=
  validName d.name.toList ∧ (∀ v ∈ d.args, WFIVD v) ∧ d.locations ≠ [] ∧ ∀ l ∈ d.locations, l.toList ∈ locWords

theorem buildItem_directiveDef (ctx : Ctx) (fuel : Nat) (p e e2 e3 : Nat) (cs : List Pair) (dd : DirectiveDef)
    (h : buildDirectiveDefinition ctx fuel (.mk R.DirectiveDefinition p e cs) = .ok dd) :
    buildTypeSystemDefinitionOrExtension ctx fuel (.mk R.TypeSystemDefinitionOrExtension p e3
      [.mk R.TypeSystemDefinition p e2 [.mk R.DirectiveDefinition p e cs]]) = .ok (.directiveDef dd) := by
  simp [buildTypeSystemDefinitionOrExtension, onlyChildOf, onlyChild, Pair.children, Pair.rule,
    OC_TypeSystemDefinitionOrExtension, OC_TypeSystemDefinition, h, bind, Except.bind, pure, Except.pure,
    R.TypeSystemDefinition, R.SchemaDefinition, R.TypeDefinition, R.DirectiveDefinition]

/-- the text of a directive definition whose locations are written as `tL q` at the offset `q` where they begin -/
def rDirectiveDefG (τ : Trivia) (tL : Nat → List Char) (p : Nat) (d : DirectiveDef) : List Char :=
  let tS := rOptDesc τ p d.desc
  let tK := tk τ false (p + tS.length) kwDirective
  let tA := tk τ false (p + tS.length + tK.length) ['@']
  let tN := tk τ d.args.isEmpty (p + tS.length + tK.length + tA.length) d.name.toList
  let tG := rOptArgsDef τ false (p + tS.length + tK.length + tA.length + tN.length) d.args
  let tR := rOptRep τ (p + tS.length + tK.length + tA.length + tN.length + tG.length) d.repeatable
  let tO := tk τ true (p + tS.length + tK.length + tA.length + tN.length + tG.length + tR.length) kwOn
  tS ++ (tK ++ (tA ++ (tN ++ (tG ++ (tR ++ (tO ++
    tL (p + tS.length + tK.length + tA.length + tN.length + tG.length + tR.length + tO.length)))))))

/-- a directive definition whose locations are any text that begins with a token and that the `DirectiveLocations`
    rule reads as `d.locations` -/
theorem directiveDefG (τ : Trivia) (hτ : ∀ q, Ws (τ q)) (d : DirectiveDef) (hname : validName d.name.toList)
    (hargs : ∀ v ∈ d.args, WFIVD v) (sep : Bool) (p : Nat) (tL : Nat → List Char)
    (hdL : ∀ q, Hd (fun c => ¬ trivia c) (tL q))
    (hL : ∀ q, HasAt inp q (tL q) → Nxt inp tdBad sep (q + (tL q).length) →
      ∃ pr, Reads inp 50 R.DirectiveLocations q (tL q)
        (fun _ pr => (allChildren AC_DirectiveLocations pr).map (List.map (asString (Ctx.spec inp)))) d.locations pr)
    (h : HasAt inp p (rDirectiveDefG τ tL p d)) (hn : Nxt inp tdBad sep (p + (rDirectiveDefG τ tL p d).length)) :
    TsItemOk inp p (rDirectiveDefG τ tL p d) (.directiveDef (wpDirectiveDef τ inp sep p d)) := by
  simp only [rDirectiveDefG, wpDirectiveDef] at h hn ⊢
  have g1 := h.right.left
  have g2 := h.right.right.left
  have g3 := h.right.right.right.left
  have g4 := h.right.right.right.right.left
  have g5 := h.right.right.right.right.right
  have g6 := g5.right.left
  have g7 := g5.right.right
  have n7 := hn.app.app.app.app.app.app.app
  -- what follows the description, the keyword, the argument definitions, the name
  have nK : Nxt inp (fun _ => False) false _ :=
    Nxt.of_hd g2 (hd_tk (hd_cons (P := (· = '@')) _ rfl)) (by rintro c rfl; decide)
  have n5 := Nxt.of_hd_sep g5 (hd_rOptRep_append ((hd_tk (hd_cons (P := (· = 'o')) _ rfl)).append _)) (bad := (· = '(')) fun c hc =>
    ⟨nameStart_not_trivia hc, nameStart_ne hc (by decide)⟩
  obtain ⟨oG, G, n4⟩ := optArgsDefT τ hτ d.args hargs (by rfl) g4 n5
  obtain ⟨oS, S⟩ := optDescT hτ d.desc h.left g1 (hd_tk (hd_of_validName kw_words_valid.2.2))
  have rK := kwP hτ (r := R.KEYWORD_directive) rfl g1 nK
  have rA := strP hτ ['@'] g2 (tok_of_hd g3 (hd_tk (hd_of_validName hname)) fun _ => nameStart_not_trivia)
  have rN := nameP hτ hname g3 n4
  obtain ⟨oR, Rp⟩ := repT hτ d.repeatable g5.left g6 (hd_tk (hd_cons _ rfl))
  have rO := kwP hτ look_KEYWORD_on g6 (Nxt.of_hd_sep g7 (hdL _) (bad := fun _ => False) fun c hc => ⟨hc, id⟩)
  obtain ⟨prL, L⟩ := hL _ g7 n7
  obtain ⟨e, rDD⟩ := PartT.rule (r := R.DirectiveDefinition) rfl (S.part.seq (rK.seq (rA.seq
    (rN.seq ((G.part.mono (by decide : 4 + 1 ≤ 46)).seq (Rp.part.seq (rO.seq L.part)))))))
  -- the earlier alternatives of `TypeSystemDefinition` fail: the keyword is neither `schema` nor one of the six
  have h' := hasAt_append.mpr ⟨h.left, g1⟩
  have fs := schemaDef_fails_kw hτ d.desc kwDirective kw_words_valid.2.2 (by decide) h' nK
  have ft := typeDefinition_fails_kw hτ d.desc kwDirective kw_words_valid.2.2 (by intro k; cases k <;> decide) h' nK
  obtain ⟨e2, rT⟩ := PartT.rule look_TypeSystemDefinition (.choice_r fs (.choice_r ft (rDD.mono (K' := 60) (by decide))
    (Nat.add_le_add (B_mono (fuel_left (Nat.le_refl _))) (by decide)))
    (Nat.add_le_add (B_mono (fuel_left (Nat.le_refl _))) (by decide)))
  obtain ⟨e3, rI⟩ := PartT.rule look_TSDOE (.choice_l rT)
  refine ⟨_, rI.mono (by decide), rfl, rfl, fun fuel hf => ?_⟩
  have hm := matchParts_slots P_DirectiveDefinition [oS, some _, some _, oG, oR, some _, some prL] (by decide)
    ⟨S.rule, ⟨_, rfl, rK.pairRule⟩, ⟨_, rfl, rN.pairRule⟩, G.rule, Rp.rule, ⟨_, rfl, rO.pairRule⟩, ⟨_, rfl, L.rule⟩, trivial⟩
  simp only [slotPairs, Option.toList_some, List.cons_append, List.nil_append,
    show kwDirective.length = 9 from rfl, show kwOn.length = 2 from rfl] at hm
  refine buildItem_directiveDef _ _ _ _ _ _ _ _ ?_
  have hbS := S.build _ (Nat.le_refl _)
  have hoR : oR.isSome = d.repeatable := Except.ok.inj (Rp.build _ (Nat.le_refl _))
  have hbL := L.build _ (Nat.le_refl _)
  have hbG' := G.build fuel (fuel_left (fuel_right (fuel_right (fuel_right (fuel_right hf)))))
  obtain ⟨ls, hls, hlm⟩ : ∃ ls, allChildren AC_DirectiveLocations prL = .ok ls ∧
      ls.map (asString (Ctx.spec inp)) = d.locations := by
    cases hac : allChildren AC_DirectiveLocations prL with
    | error e => rw [hac] at hbL; cases hbL
    | ok v => rw [hac] at hbL; exact ⟨v, rfl, Except.ok.inj hbL⟩
  cases oG with
  | none =>
    have ha0 := (Except.ok.inj hbG').symm
    simp only [Option.toList_none, List.nil_append] at hm
    simp [buildDirectiveDefinition, Pair.children, hm, hbS, ha0, hls, hlm, hoR, asString_spec', toPos_spec',
      Pair.start, Pair.stop, g3.left.slice, bind, Except.bind, pure, Except.pure]
  | some a =>
    simp only [Option.toList_some, List.cons_append, List.nil_append] at hm
    simp [buildDirectiveDefinition, Pair.children, hm, hbS, show buildArgumentsDefinition _ _ a = _ from hbG', hls, hlm,
      hoR, asString_spec', toPos_spec', Pair.start, Pair.stop, g3.left.slice, bind, Except.bind]

theorem directiveDefT (τ : Trivia) (hτ : ∀ q, Ws (τ q)) (d : DirectiveDef) (hwf : WFDirectiveDef d) {sep : Bool} {p : Nat}
    (h : HasAt inp p (rDirectiveDef τ sep p d)) (hn : Nxt inp tdBad sep (p + (rDirectiveDef τ sep p d).length)) :
    TsItemOk inp p (rDirectiveDef τ sep p d) (.directiveDef (wpDirectiveDef τ inp sep p d)) := by
  obtain ⟨hname, hargs, hlne, hlv⟩ := hwf
  have hlmap : (locNames d).map (·.1) = d.locations := by
    rw [locNames, List.map_map]
    exact (List.map_congr_left fun _ _ => rfl).trans (List.map_id _)
  have hlv' : ∀ x ∈ locNames d, x.1.toList ∈ locWords := by
    intro x hx
    obtain ⟨l, hl, rfl⟩ := List.mem_map.mp hx
    exact hlv l hl
  cases hls : locNames d with
  | nil => exact absurd (List.map_eq_nil_iff.mp hls) hlne
  | cons l0 ls =>
    rw [hls] at hlmap hlv'
    refine directiveDefG τ hτ d hname hargs sep p (fun q => rNames τ '|' sep q (locNames d)) (fun q => ?_)
      (fun q h hn => ?_) h hn
    · rw [hls]
      exact (Hd.append (hd_tk (locWords_ok _ (hlv' l0 (List.mem_cons_self ..))).1) _).mono fun _ => nameStart_not_trivia
    · rw [hls] at h hn ⊢
      rw [← hlmap]
      exact locsT τ hτ l0 ls hlv' (Or.inr (Or.inr (Or.inr (Or.inr (Or.inl rfl))))) h hn

end NitroVerif.DocParse
