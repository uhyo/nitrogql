/-
Executable documents with `#import` statements and an optional final unterminated comment, through
`parse_operation_document` (`parseOp`). The induction over the definitions goes from the LAST one to the first: what
follows the trailing gap of a definition is the next definition — a token, or an import statement in front of which the
implicit skip stops (`impT'`, second part) — or the end of the input, possibly after a final comment without line
terminator (`tail_of_eofComment`); in every case a `Tail`.
-/
import NitroVerif.Lemmas.ParseDocImport
import NitroVerif.Lemmas.ParseDocEofComment
import NitroVerif.Lemmas.ParseDocErase
namespace NitroVerif.DocParse
open NitroVerif.Peg NitroVerif.Gen NitroVerif.Gen.Parts NitroVerif.Build NitroVerif.TypeParse NitroVerif.StringParse
open NitroVerif.Gql NitroVerif.ValueParse NitroVerif.Spec.Lex NitroVerif.ParseText

variable {inp : List Char}

def rDefF (τ : Trivia) (sh : Nat → Bool) (sp : Nat → Nat) : Bool → Nat → ExecDef → List Char
  | sep, p, .imp i => rImp τ sp sep p i
  | sep, p, .op o => rDef τ sh sep p (.op o)
  | sep, p, .frag f => rDef τ sh sep p (.frag f)

def wpDefF (τ : Trivia) (inp : List Char) (sh : Nat → Bool) (sp : Nat → Nat) : Bool → Nat → ExecDef → ExecDef
  | _, p, .imp i => .imp (wpImp τ sp inp p i)
  | s, p, .op o => wpDef τ inp sh s p (.op o)
  | s, p, .frag f => wpDef τ inp sh s p (.frag f)

def WFDefF : ExecDef → Prop
  | .op o => WFOp o
  | .frag f => WFFrag f
  | .imp i => WFImp i

theorem hd_rDefF (τ : Trivia) (sh : Nat → Bool) (sp : Nat → Nat) (sep : Bool) (p : Nat) (d : ExecDef) (hwf : WFDefF d) :
    Hd (fun c => c ≠ '"' ∧ ¬ wsChar c ∧ (c = '#' ∨ ¬ trivia c)) (rDefF τ sh sp sep p d) := by
  cases d with
  | imp i => exact (hd_rImp τ sp sep p i).mono (by rintro c rfl; decide)
  | op o => exact (hd_rDef τ sh sep p (.op o) hwf).mono fun _ h => ⟨h.1, h.2.1, Or.inr h.2.2⟩
  | frag f => exact (hd_rDef τ sh sep p (.frag f) hwf).mono fun _ h => ⟨h.1, h.2.1, Or.inr h.2.2⟩

theorem defTF (τ : Trivia) (hτ : ∀ q, Ws (τ q)) (sh : Nat → Bool) (sp : Nat → Nat) (d : ExecDef) (hwf : WFDefF d)
    (sep : Bool) (p n : Nat) (c' : Cur) (h : HasAt inp p (rDefF τ sh sp sep p d))
    (ht : Tail inp n (p + (rDefF τ sh sp sep p d).length) c')
    (hq : HeadNot (· = '"') (inp.drop (p + (rDefF τ sh sp sep p d).length))) :
    DefOk' inp p (rDefF τ sh sp sep p d) n c' (wpDefF τ inp sh sp sep p d) ∧
    Tail inp (B (rDefF τ sh sp sep p d).length + 63) p (At inp p) := by
  cases d with
  | imp i =>
    obtain ⟨h1, h2⟩ := impT' τ hτ sp i hwf h ht hq
    refine ⟨h1, (tail_of_stop ?_ h2).mono (by simp only [rDefF]; omega)⟩
    exact headNot_of_hd h (hd_rImp τ sp sep p i) (by rintro c rfl; decide)
  | op o =>
    exact ⟨defT' τ hτ sh (.op o) hwf h ht,
      (tail_of_tok (tok_of_hd h (hd_rDef τ sh sep p (.op o) hwf) fun _ h => h.2.2)).mono (Nat.zero_le _)⟩
  | frag f =>
    exact ⟨defT' τ hτ sh (.frag f) hwf h ht,
      (tail_of_tok (tok_of_hd h (hd_rDef τ sh sep p (.frag f) hwf) fun _ h => h.2.2)).mono (Nat.zero_le _)⟩

theorem defs_many (τ : Trivia) (hτ : ∀ q, Ws (τ q)) (sh : Nat → Bool) (sp : Nat → Nat) (n0 : Nat) (cE : Cur)
    (htokE : Tok cE) (hfailE : Fails gList 60 true (.call R.ExecutableDefinition) .nonAtomic cE) :
    ∀ (ds : List ExecDef) (d : ExecDef) (p : Nat), (∀ x ∈ d :: ds, WFDefF x) →
      HasAt inp p (renderItems (rDefF τ sh sp) false false p (d :: ds)) →
      Tail inp n0 (p + (renderItems (rDefF τ sh sp) false false p (d :: ds)).length) cE →
      HeadNot (· = '"') (inp.drop (p + (renderItems (rDefF τ sh sp) false false p (d :: ds)).length)) →
      ∃ pss, Many1K (.call R.ExecutableDefinition)
          (B (renderItems (rDefF τ sh sp) false false p (d :: ds)).length + 210 + n0) (At inp p) cE pss ∧
        GoodItems (rDefF τ sh sp) false false (DefGood inp (rDefF τ sh sp) (wpDefF τ inp sh sp)) p (d :: ds) pss ∧
        Tail inp (B (renderItems (rDefF τ sh sp) false false p (d :: ds)).length + 63) p (At inp p) := by
  intro ds
  induction ds with
  | nil =>
    intro d p hwf hat hT hq
    simp only [renderItems] at hat hT hq ⊢
    obtain ⟨⟨pr, Rd⟩, htl⟩ := defTF τ hτ sh sp d (hwf d (List.mem_cons_self ..)) false p n0 cE hat hT hq
    refine ⟨[pr], ⟨_, 60, cE, [pr], [], ?_, ?_, Rd.part.runsK, .nil hfailE htokE, rfl⟩,
      ⟨pr, rfl, Rd.rule, Rd.part.clean.1, Rd.build⟩, htl⟩
    · omega
    · simp [B]; omega
  | cons d2 ds ih =>
    intro d p hwf hat hT hq
    rw [renderItems_cons2] at hat hT hq ⊢
    generalize hta : rDefF τ sh sp false p d = ta at *
    generalize hrest : renderItems (rDefF τ sh sp) false false (p + ta.length) (d2 :: ds) = tl at *
    have h1 : HasAt inp p ta := hat.left
    have h3 : HasAt inp (p + ta.length) tl := hat.right
    have hlen : p + (ta ++ tl).length = p + ta.length + tl.length := by simp; omega
    rw [hlen] at hT hq
    obtain ⟨pss2, hmany2, hgood2, htl2⟩ := ih d2 (p + ta.length) (fun x hx => hwf x (List.mem_cons_of_mem _ hx))
      (hrest ▸ h3) (by rw [hrest]; exact hT) (by rw [hrest]; exact hq)
    rw [hrest] at hmany2 htl2
    -- the next definition does not begin with `"`
    obtain ⟨s', tail, htail⟩ := renderItems_cons (rDefF τ sh sp) false false (p + ta.length) d2 ds
    have hd2 := hd_rDefF τ sh sp s' (p + ta.length) d2 (hwf d2 (List.mem_cons_of_mem _ (List.mem_cons_self ..)))
    have hq1 : HeadNot (· = '"') (inp.drop (p + ta.length)) := by
      refine headNot_of_hd h3 (P := fun c => c ≠ '"' ∧ ¬ wsChar c ∧ (c = '#' ∨ ¬ trivia c)) ?_ (fun c hc => hc.1)
      rw [← hrest, htail]; exact hd2.append _
    obtain ⟨⟨pr, Rd⟩, htl1⟩ := defTF τ hτ sh sp d (hwf d (List.mem_cons_self ..)) false p _ _ (hta ▸ h1)
      (by rw [hta]; exact htl2) (by rw [hta]; exact hq1)
    rw [hta] at Rd htl1
    obtain ⟨k, hk, hmany2'⟩ := hmany2.many
    have h1len : 1 ≤ ta.length := by
      have := (hd_rDefF τ sh sp false p d (hwf d (List.mem_cons_self ..))).length_pos
      rw [hta] at this; exact this
    refine ⟨pr :: pss2, ⟨_, k, _, [pr], pss2, ?_, ?_, Rd.part.runsK, hmany2', rfl⟩,
      ⟨pr, pss2, rfl, ⟨Rd.rule, Rd.part.clean.1, by rw [hta]; exact Rd.build⟩, ?_⟩, htl1.mono ?_⟩
    · simp [B]; omega
    · simp [B] at hk ⊢; omega
    · rw [hta]; exact hgood2
    · simp [B]; omega

def eofText : Option (List Char) → List Char
  | none => []
  | some b => '#' :: b

def rDocF (τ : Trivia) (sh : Nat → Bool) (sp : Nat → Nat) (doc : List ExecDef) (eof : Option (List Char)) : List Char :=
  τ 0 ++ (renderItems (rDefF τ sh sp) false false (τ 0).length doc ++ eofText eof)

def wpDocF (τ : Trivia) (sh : Nat → Bool) (sp : Nat → Nat) (inp : List Char) (doc : List ExecDef) : Doc :=
  mapItems (rDefF τ sh sp) false false (wpDefF τ inp sh sp) (τ 0).length doc

theorem docF_parse (τ : Trivia) (hτ : ∀ q, Ws (τ q)) (sh : Nat → Bool) (sp : Nat → Nat) (doc : List ExecDef) (hne : doc ≠ [])
    (hwf : ∀ d ∈ doc, WFDefF d) (eof : Option (List Char)) (heof : ∀ b ∈ eof, EofComment b) :
    ∃ pr, Peg.parse gList (defaultFuel (rDocF τ sh sp doc eof)) R.ExecutableDocument (rDocF τ sh sp doc eof) = .pairs [pr] ∧
      CleanP pr ∧ buildOperationDocument (Ctx.spec (rDocF τ sh sp doc eof)) (4 * (rDocF τ sh sp doc eof).length + 64) [pr] =
        .ok (wpDocF τ sh sp (rDocF τ sh sp doc eof) doc) := by
  cases doc with
  | nil => exact absurd rfl hne
  | cons a r =>
    generalize hinp : rDocF τ sh sp (a :: r) eof = inp
    have hI : inp = τ 0 ++ (renderItems (rDefF τ sh sp) false false (τ 0).length (a :: r) ++ eofText eof) := by
      rw [← hinp]; rfl
    generalize hG : τ 0 = g at hI
    generalize hT : renderItems (rDefF τ sh sp) false false g.length (a :: r) = tI at hI
    generalize hEt : eofText eof = tE at hI
    have hg : HasAt inp 0 g := ⟨tI ++ tE, by simpa using hI⟩
    have hat : HasAt inp (0 + g.length) tI := ⟨tE, by rw [hI]; simp⟩
    have hdropE : inp.drop (0 + g.length + tI.length) = tE := by rw [hI]; simp [← List.append_assoc]
    have hlenI : inp.length = g.length + tI.length + tE.length := by rw [hI]; simp; omega
    -- what follows the last definition
    obtain ⟨n0, qE, hn0, hTail, hendE⟩ : ∃ n0 qE, n0 ≤ tE.length + 60 ∧
        Tail inp n0 (0 + g.length + tI.length) (At inp qE) ∧ inp.drop qE = [] := by
      cases eof with
      | none =>
        have htE : tE = [] := by rw [← hEt]; rfl
        subst htE
        have hend : inp.drop (0 + g.length + tI.length) = [] := hdropE
        have htok : Tok (At inp (0 + g.length + tI.length)) := by
          simp only [Tok, At]; rw [hend]; exact headNot_nil _
        exact ⟨0, _, by omega, tail_of_tok htok, hend⟩
      | some b =>
        have htE : tE = '#' :: b := by rw [← hEt]; rfl
        have hb := heof b rfl
        have hd : inp.drop (0 + g.length + tI.length) = '#' :: b := by rw [hdropE, htE]
        refine ⟨b.length + 47, _, by rw [htE]; simp, tail_of_eofComment hd hb, ?_⟩
        have : inp.drop (0 + g.length + tI.length + ('#' :: b).length) = [] := by
          rw [← List.drop_drop, hd]; simp
        have e : 0 + g.length + tI.length + 1 + b.length = 0 + g.length + tI.length + ('#' :: b).length := by simp; omega
        rw [e]; exact this
    have htokE : Tok (At inp qE) := by simp only [Tok, At]; rw [hendE]; exact headNot_nil _
    have hqE : HeadNot (· = '"') (inp.drop (0 + g.length + tI.length)) := by
      rw [hdropE, ← hEt]
      cases eof with
      | none => exact headNot_nil _
      | some b => exact headNot_cons (by decide) _
    obtain ⟨pss, hmany, hgood, htl0⟩ := defs_many τ hτ sh sp n0 (At inp qE) htokE (execDef_fails_eoi hendE) r a (0 + g.length)
      hwf (by simpa [hT] using hat) (by simpa [hT] using hTail) (by simpa [hT] using hqE)
    simp only [Nat.zero_add, hT] at hmany hgood htl0
    have hrule : ∀ x ∈ pss, x.rule = R.ExecutableDefinition :=
      goodItems_forall (rDefF τ sh sp) false false _ (fun x => x.rule = R.ExecutableDefinition) (a :: r)
        (fun x _ s q pr hgd => hgd.1) _ pss hgood
    have hclean : CleanL pss := goodItems_clean (rDefF τ sh sp) false false _ (a :: r)
      (fun x _ s q pr hgd => hgd.2.1) _ pss hgood
    obtain ⟨e, hp, hc⟩ := document_parse look_ExecutableDocument (htl0.skip hg (hG ▸ hτ 0) (Nat.zero_add _)) hmany hclean
      hendE (by simp only [defaultFuel, B, hlenI]; omega) (by simp only [defaultFuel, B, hlenI]; omega)
    refine ⟨_, hp, hc, ?_⟩
    · simp only [buildOperationDocument]
      rw [if_pos (show (Pair.mk R.ExecutableDocument 0 e _).rule = R.ExecutableDocument from rfl)]
      simp only [Pair.children]
      rw [filter_items (by decide) pss _ hrule]
      have := goodItems_mapM (rDefF τ sh sp) false false (DefGood inp (rDefF τ sh sp) (wpDefF τ inp sh sp))
        (buildExecutableDefinition (Ctx.spec inp) (4 * inp.length + 64)) (wpDefF τ inp sh sp) (4 * inp.length + 64) (a :: r)
        (fun x _ s q pr hgd hl => hgd.2.2 _ hl) g.length pss (by rw [hT, hlenI]; omega) hgood
      rw [this]
      simp only [wpDocF, hG]

theorem parseOp_rDocF (τ : Trivia) (hτ : ∀ q, Ws (τ q)) (sh : Nat → Bool) (sp : Nat → Nat) (doc : List ExecDef)
    (hne : doc ≠ []) (hwf : ∀ d ∈ doc, WFDefF d) (eof : Option (List Char)) (heof : ∀ b ∈ eof, EofComment b) :
    parseOp (rDocF τ sh sp doc eof) = .ok (wpDocF τ sh sp (rDocF τ sh sp doc eof) doc) := by
  obtain ⟨pr, hp, hc, hb⟩ := docF_parse τ hτ sh sp doc hne hwf eof heof
  simp only [parseOp, parseWith, hp, firstBadEscape_clean _ [pr] ⟨hc, trivial⟩, hb]

theorem wfDefF_of {d : ExecDef} (h : WFDef d) : WFDefF d := by
  cases d with
  | op o => exact h
  | frag f => exact h
  | imp i => exact absurd h id

theorem items_congr {α β : Type} (ri ri' : Bool → Nat → α → List Char) (f f' : Bool → Nat → α → β) (sm sl : Bool) :
    ∀ (l : List α) (p : Nat), (∀ x ∈ l, ∀ s q, ri s q x = ri' s q x ∧ f s q x = f' s q x) →
      renderItems ri sm sl p l = renderItems ri' sm sl p l ∧ mapItems ri sm sl f p l = mapItems ri' sm sl f' p l
  | [], _, _ => ⟨rfl, rfl⟩
  | [a], p, h => by
    obtain ⟨h1, h2⟩ := h a (List.mem_cons_self ..) sl p
    simp only [renderItems, mapItems, h1, h2, and_self]
  | a :: b :: r, p, h => by
    obtain ⟨h1, h2⟩ := h a (List.mem_cons_self ..) sm p
    obtain ⟨h3, h4⟩ := items_congr ri ri' f f' sm sl (b :: r) (p + (ri' sm p a).length)
      (fun x hx => h x (List.mem_cons_of_mem _ hx))
    simp only [renderItems, mapItems, h1, h2, h3, h4, and_self]

theorem rDocF_none (τ : Trivia) (sh : Nat → Bool) (sp : Nat → Nat) (doc : List ExecDef) (hwf : ∀ d ∈ doc, WFDef d)
    (inp : List Char) : rDocF τ sh sp doc none = rDoc τ sh doc ∧ wpDocF τ sh sp inp doc = wpDoc τ sh inp doc := by
  have h := items_congr (rDefF τ sh sp) (rDef τ sh) (wpDefF τ inp sh sp) (wpDef τ inp sh) false false doc (τ 0).length
    (fun d hd s q => by
      cases d with
      | op o => exact ⟨rfl, rfl⟩
      | frag f => exact ⟨rfl, rfl⟩
      | imp i => exact absurd (hwf _ hd) id)
  simp only [rDocF, wpDocF, rDoc, wpDoc, eofText, List.append_nil, h.1, h.2, and_self]

open NitroVerif.ReadDoc in
theorem erase_wpDefF (τ : Trivia) (inp : List Char) (sh : Nat → Bool) (sp : Nat → Nat) (sep : Bool) (p : Nat) (d : ExecDef) :
    eraseDef (wpDefF τ inp sh sp sep p d) = eraseDef d := by
  cases d with
  | op o => exact erase_wpDef τ inp sh sep p (.op o)
  | frag f => exact erase_wpDef τ inp sh sep p (.frag f)
  | imp i =>
    simp only [wpDefF, eraseDef, wpImp]
    congr 2
    refine mapItems_map _ _ _ _ eraseOptName eraseOptName (fun s q x => ?_) i.targets _
    cases x with
    | none => rfl
    | some a => rfl

open NitroVerif.ReadDoc in
theorem erase_wpDocF (τ : Trivia) (sh : Nat → Bool) (sp : Nat → Nat) (inp : List Char) (doc : List ExecDef) :
    erasePos (wpDocF τ sh sp inp doc) = erasePos doc :=
  mapItems_map _ _ _ _ eraseDef eraseDef (fun s q d => erase_wpDefF τ inp sh sp s q d) doc _

end NitroVerif.DocParse
