/-
The builder's value of a normal string literal is the value the GraphQL specification assigns to it (helper lemmas for
Props/C07 `string_decode_general`): for every literal body (a list of `SItem`s) whose items all decode (`SItem.decode`, what
`build_string_value` computes) and whose unescaped characters are SourceCharacters, the reference semantics
`GqlString.decodeStringLiteral` (spec §2.9.4, written independently for C16) returns the same characters.
Since fix fff8e9c the builder reads a surrogate PAIR `\uHHHH\uLLLL` as one supplementary character, like the specification;
`spec_items` follows the validation loop (`scanItems`), the builder loop (`decodeItems`) and the reference state machine
(`GqlString.quotedRun`, states `.normal` / `.needLow`) in lock-step over the items: the validation accepts iff the
specification assigns a value, and then the builder returns that value.
-/
import NitroVerif.Lemmas.ParseStringBuild
import NitroVerif.Spec.GqlString
namespace NitroVerif.StringParse
open NitroVerif.Peg NitroVerif.Gen NitroVerif.Build NitroVerif.TypeParse NitroVerif.GqlString

theorem hexVal_eq (c : Char) : hexVal c = hexDigitVal c := rfl

theorem hexDigit_val {d : Char} (h : hexDigit d) : ∃ v, hexDigitVal d = some v := by
  unfold hexDigitVal
  rcases h with h | h | h
  · exact ⟨_, if_pos h⟩
  · by_cases h1 : '0' ≤ d ∧ d ≤ '9'
    · exact ⟨_, if_pos h1⟩
    · exact ⟨_, by rw [if_neg h1, if_pos h]⟩
  · by_cases h1 : '0' ≤ d ∧ d ≤ '9'
    · exact ⟨_, if_pos h1⟩
    · by_cases h2 : 'a' ≤ d ∧ d ≤ 'f'
      · exact ⟨_, by rw [if_neg h1, if_pos h2]⟩
      · exact ⟨_, by rw [if_neg h1, if_neg h2, if_pos h]⟩

theorem hexFold_ge : ∀ (ds : List Char) (acc n : Nat), hexFold ds acc = some n → acc ≤ n := by
  intro ds
  induction ds with
  | nil => intro acc n h; simp [hexFold] at h; omega
  | cons d ds ih =>
    intro acc n h
    simp only [hexFold] at h
    cases hd : hexDigitVal d with
    | none => simp [hd] at h
    | some v =>
      rw [hd] at h
      have := ih _ _ h
      omega

theorem codePoint_valid {n : Nat} (h : validScalar n = true) : codePoint n = some (Char.ofNat n) ∧ isHighSurrogate n = false := by
  simp only [validScalar, Bool.or_eq_true, decide_eq_true_eq, Bool.and_eq_true] at h
  constructor
  · unfold codePoint
    split
    · rfl
    · rename_i hc
      exfalso
      apply hc
      simp [isSurrogate]
      omega
  · simp [isHighSurrogate]
    omega

theorem codePoint_invalid {n : Nat} (h : validScalar n = false) : codePoint n = none := by
  simp only [validScalar, Bool.or_eq_false_iff, decide_eq_false_iff_not, Bool.and_eq_false_imp, decide_eq_true_eq] at h
  unfold codePoint
  rw [if_neg]
  simp [isSurrogate]
  omega

theorem charFromU32_ok {n : Nat} {ch : Char} (h : charFromU32 n = .ok ch) : validScalar n = true ∧ ch = Char.ofNat n := by
  by_cases hv : validScalar n = true
  · exact ⟨hv, by simp [charFromU32, hv] at h; exact h.symm⟩
  · simp [charFromU32, hv] at h

theorem parseHex_eq {ds : List Char} (hne : ∀ d r, ds = d :: r → d ≠ '+') : parseHexU32 ds = hexDigitsU32 ds := by
  unfold parseHexU32
  split
  · rename_i r
    exact absurd rfl (hne '+' r rfl)
  · rfl

theorem parseHex_of {ds : List Char} {n : Nat} (h : parseHexU32 ds = .ok n) (hne : ∀ d r, ds = d :: r → d ≠ '+') :
    hexFold ds 0 = some n := by
  rw [parseHex_eq hne] at h
  unfold hexDigitsU32 at h
  by_cases he : ds.isEmpty = true
  · rw [if_pos he] at h; cases h
  · rw [if_neg he] at h
    cases hf : hexFold ds 0 with
    | none => rw [hf] at h; cases h
    | some m =>
      rw [hf] at h
      dsimp only at h
      by_cases hm : m < 4294967296
      · rw [if_pos hm] at h; cases h; rfl
      · rw [if_neg hm] at h; cases h

theorem ubrace_run : ∀ (ds : List Char) (acc : Nat) (any : Bool) (rest : List Char) (n : Nat), (∀ x ∈ ds, hexDigit x) →
    hexFold ds acc = some n → n ≤ 0x10FFFF →
    quotedRun (.ubrace acc any) (ds ++ '}' :: rest) = quotedRun (.ubrace n (any || !ds.isEmpty)) ('}' :: rest) := by
  intro ds
  induction ds with
  | nil =>
    intro acc any rest n _ h _
    simp only [hexFold, Option.some.injEq] at h
    subst h
    simp
  | cons d ds ih =>
    intro acc any rest n hds h hn
    obtain ⟨v, hv⟩ := hexDigit_val (hds d (List.mem_cons_self ..))
    have hd := hexDigit_ne (hds d (List.mem_cons_self ..))
    simp only [hexFold, hv] at h
    have hge := hexFold_ge _ _ _ h
    have := ih (acc * 16 + v) true rest n (fun x hx => hds x (List.mem_cons_of_mem _ hx)) h hn
    have hR : (any || !(d :: ds).isEmpty) = true := by simp
    have hR' : (true || !ds.isEmpty) = true := by simp
    rw [hR]
    rw [hR'] at this
    generalize quotedRun (.ubrace n true) ('}' :: rest) = R at this ⊢
    have hle : acc * 16 + v ≤ 1114111 := by omega
    simp only [List.cons_append, quotedRun, step, hd.2.2, if_false, hexVal_eq, hv, hle, if_true, List.nil_append]
    simpa using this

theorem isLead_high {n : Nat} : isHighSurrogate n = isLeadSurrogate n := by
  simp [isHighSurrogate, isLeadSurrogate, Bool.decide_and]
theorem isTrail_low {n : Nat} : isLowSurrogate n = isTrailSurrogate n := by
  simp [isLowSurrogate, isTrailSurrogate, Bool.decide_and]

theorem parseHex_u4 {a b c d : Char} (ha : hexDigit a) (hb : hexDigit b) (hc : hexDigit c) (hd : hexDigit d) :
    ∃ va vb vc vd, hexDigitVal a = some va ∧ hexDigitVal b = some vb ∧ hexDigitVal c = some vc ∧ hexDigitVal d = some vd ∧
      parseHexU32 [a, b, c, d] = .ok (((va * 16 + vb) * 16 + vc) * 16 + vd) ∧ ((va * 16 + vb) * 16 + vc) * 16 + vd ≤ 0xFFFF := by
  have bound : ∀ {x : Char} {v : Nat}, hexDigitVal x = some v → v < 16 := by
    intro x v h
    unfold hexDigitVal at h
    split at h
    · rename_i h1; cases h
      have := h1.1; have := h1.2
      have h2 : x.toNat ≤ '9'.toNat := h1.2
      have h3 : '0'.toNat ≤ x.toNat := h1.1
      simp at h2 h3; omega
    · split at h
      · rename_i _ h1; cases h
        have h2 : x.toNat ≤ 'f'.toNat := h1.2
        have h3 : 'a'.toNat ≤ x.toNat := h1.1
        simp at h2 h3; omega
      · split at h
        · rename_i _ _ h1; cases h
          have h2 : x.toNat ≤ 'F'.toNat := h1.2
          have h3 : 'A'.toNat ≤ x.toNat := h1.1
          simp at h2 h3; omega
        · cases h
  obtain ⟨va, hva⟩ := hexDigit_val ha
  obtain ⟨vb, hvb⟩ := hexDigit_val hb
  obtain ⟨vc, hvc⟩ := hexDigit_val hc
  obtain ⟨vd, hvd⟩ := hexDigit_val hd
  have ba := bound hva; have bb := bound hvb; have bc := bound hvc; have bd := bound hvd
  refine ⟨va, vb, vc, vd, hva, hvb, hvc, hvd, ?_, by omega⟩
  rw [parseHex_eq (fun x r he => by cases he; exact (hexDigit_ne ha).1)]
  have hlt : ((va * 16 + vb) * 16 + vc) * 16 + vd < 4294967296 := by omega
  simp [hexDigitsU32, hexFold, hva, hvb, hvc, hvd, hlt]

/-- a `\uXXXX` escape under the reference state machine, in the state `.normal` (`hi = none`) or after a leading
    surrogate (`.needLow h`, `hi = some h`) -/
theorem quotedRun_u4 {a b c d : Char} (ha : hexDigit a) (hb : hexDigit b) (hc : hexDigit c) (hd : hexDigit d) {n : Nat}
    (hp : parseHexU32 [a, b, c, d] = .ok n) (hi : Option Nat) (rest : List Char) :
    quotedRun (match hi with | none => .normal | some h => .needLow h) ((SItem.u4 a b c d).text ++ rest) =
      (match finishU4 n hi with
       | .go out st' => (quotedRun st' rest).map (out ++ ·)
       | _ => none) := by
  obtain ⟨va, vb, vc, vd, hva, hvb, hvc, hvd, hp', _⟩ := parseHex_u4 ha hb hc hd
  rw [hp'] at hp
  cases hp
  have han := (hexDigit_ne ha).2.1
  have hfin : ∀ m, finishU4 m hi ≠ .close := by
    intro m
    unfold finishU4
    cases hi <;> dsimp only <;> repeat' split
    all_goals simp
  cases hi with
  | none =>
    simp only [SItem.text, List.cons_append, List.nil_append, quotedRun, step]
    simp [han, hexVal_eq, hva, hvb, hvc, hvd]
    cases hf : finishU4 (((va * 16 + vb) * 16 + vc) * 16 + vd) none with
    | fail => rfl
    | close => exact absurd hf (hfin _)
    | go out st' => simp
  | some h =>
    simp only [SItem.text, List.cons_append, List.nil_append, quotedRun, step]
    simp [han, hexVal_eq, hva, hvb, hvc, hvd]
    cases hf : finishU4 (((va * 16 + vb) * 16 + vc) * 16 + vd) (some h) with
    | fail => rfl
    | close => exact absurd hf (hfin _)
    | go out st' => simp

theorem finishU4_valid {n : Nat} (hv : validScalar n = true) : finishU4 n none = .go [Char.ofNat n] .normal := by
  obtain ⟨hcp, hhi⟩ := codePoint_valid hv
  simp [finishU4, hhi, hcp]

theorem quotedRun_item (it : SItem) (hok : it.Ok) (hsrc : ∀ c, it = .plain c → sourceChar c = true) {ch : Char}
    (hd : it.decode = .ok ch) (rest : List Char) :
    quotedRun .normal (it.text ++ rest) = (quotedRun .normal rest).map (ch :: ·) := by
  cases it with
  | plain c =>
    obtain ⟨h1, h2, h3, h4⟩ := hok
    simp only [SItem.decode, Except.ok.injEq] at hd
    subst hd
    have hs := hsrc c rfl
    simp [SItem.text, quotedRun, step, h1, h2, h3, h4, hs]
  | esc e =>
    obtain ⟨c, hc, he, hu⟩ := esc_table hok
    obtain rfl : c = ch := Except.ok.inj (hc.symm.trans hd)
    simp [SItem.text, quotedRun, step, he, hu]
    rfl
  | u4 a b c d =>
    obtain ⟨ha, hb, hc, hdd⟩ := hok
    simp only [SItem.decode, bind, Except.bind] at hd
    cases hp : parseHexU32 [a, b, c, d] with
    | error e => simp [hp] at hd
    | ok n =>
      rw [hp] at hd
      obtain ⟨hv, hch⟩ := charFromU32_ok hd
      have hq := quotedRun_u4 ha hb hc hdd hp none rest
      rw [finishU4_valid hv] at hq
      rw [hq, hch]; rfl
  | ubrace ds =>
    obtain ⟨hne, hds⟩ := hok
    simp only [SItem.decode, bind, Except.bind] at hd
    cases hp : parseHexU32 ds with
    | error e => simp [hp] at hd
    | ok n =>
      rw [hp] at hd
      dsimp only at hd
      obtain ⟨hv, hch⟩ := charFromU32_ok hd
      have hf := parseHex_of hp (fun x r he => (hexDigit_ne (hds x (he ▸ List.mem_cons_self ..))).1)
      obtain ⟨hcp, _⟩ := codePoint_valid hv
      have hn : n ≤ 0x10FFFF := by
        simp only [validScalar, Bool.or_eq_true, decide_eq_true_eq, Bool.and_eq_true] at hv
        omega
      have hrun := ubrace_run ds 0 false rest n hds hf hn
      have hnn : ds.isEmpty = false := by cases ds <;> simp_all
      have e : SItem.text (.ubrace ds) ++ rest = '\\' :: 'u' :: '{' :: (ds ++ '}' :: rest) := by simp [SItem.text]
      rw [e]
      simp only [quotedRun, step]
      simp [hrun, hnn, quotedRun, step, hcp, hch]
      rfl

theorem quotedRun_needLow_other (it : SItem) (hok : it.Ok) (hnu : ∀ x y z w, it ≠ .u4 x y z w) (h : Nat) (rest : List Char) :
    quotedRun (.needLow h) (it.text ++ rest) = none := by
  cases it with
  | u4 x y z w => exact absurd rfl (hnu x y z w)
  | plain c =>
    obtain ⟨_, h2, _, _⟩ := hok
    simp [SItem.text, quotedRun, step, h2]
  | esc e =>
    obtain ⟨c, _, _, hu⟩ := esc_table hok
    simp [SItem.text, quotedRun, step, hu]
  | ubrace ds => simp [SItem.text, quotedRun, step]

theorem quotedRun_needLow_end (h : Nat) : quotedRun (.needLow h) ['"'] = none := by
  simp [quotedRun, step]

theorem ubrace_run_big : ∀ (ds : List Char) (acc : Nat) (any : Bool) (rest : List Char) (n : Nat), (∀ x ∈ ds, hexDigit x) →
    hexFold ds acc = some n → acc ≤ 0x10FFFF → 0x10FFFF < n →
    quotedRun (.ubrace acc any) (ds ++ '}' :: rest) = none := by
  intro ds
  induction ds with
  | nil =>
    intro acc any rest n _ h ha hn
    simp only [hexFold, Option.some.injEq] at h
    omega
  | cons d ds ih =>
    intro acc any rest n hds h ha hn
    obtain ⟨v, hv⟩ := hexDigit_val (hds d (List.mem_cons_self ..))
    have hd := hexDigit_ne (hds d (List.mem_cons_self ..))
    simp only [hexFold, hv] at h
    by_cases hle : acc * 16 + v ≤ 1114111
    · have := ih (acc * 16 + v) true rest n (fun x hx => hds x (List.mem_cons_of_mem _ hx)) h hle hn
      simp only [List.cons_append, quotedRun, step, hd.2.2, if_false, hexVal_eq, hv, hle, if_true, List.nil_append]
      simpa using this
    · simp only [List.cons_append, quotedRun, step, hd.2.2, if_false, hexVal_eq, hv, hle]

theorem hexFold_some : ∀ (ds : List Char) (acc : Nat), (∀ x ∈ ds, hexDigit x) → ∃ n, hexFold ds acc = some n := by
  intro ds
  induction ds with
  | nil => intro acc _; exact ⟨acc, rfl⟩
  | cons d ds ih =>
    intro acc h
    obtain ⟨v, hv⟩ := hexDigit_val (h d (List.mem_cons_self ..))
    obtain ⟨n, hn⟩ := ih (acc * 16 + v) fun x hx => h x (List.mem_cons_of_mem _ hx)
    exact ⟨n, by simp [hexFold, hv, hn]⟩

theorem quotedRun_ubrace_bad (ds : List Char) (hne : ds ≠ []) (hds : ∀ x ∈ ds, hexDigit x)
    (hb : escapeDenotesChar ds = false) (rest : List Char) :
    quotedRun .normal ((SItem.ubrace ds).text ++ rest) = none := by
  obtain ⟨n, hf⟩ := hexFold_some ds 0 hds
  have hnn : ds.isEmpty = false := by cases ds <;> simp_all
  have e : SItem.text (.ubrace ds) ++ rest = '\\' :: 'u' :: '{' :: (ds ++ '}' :: rest) := by simp [SItem.text]
  rw [e]
  by_cases hbig : 0x10FFFF < n
  · have := ubrace_run_big ds 0 false rest n hds hf (by omega) hbig
    simp [quotedRun, step, this]
  · have hrun := ubrace_run ds 0 false rest n hds hf (by omega)
    have hp : parseHexU32 ds = .ok n := by
      rw [parseHex_eq (fun x r he => (hexDigit_ne (hds x (by rw [he]; exact List.mem_cons_self ..))).1)]
      have hlt : n < 4294967296 := by omega
      simp [hexDigitsU32, hnn, hf, hlt]
    have hv : validScalar n = false := by
      simpa [escapeDenotesChar, hp] using hb
    have hcp := codePoint_invalid hv
    simp [quotedRun, step, hrun, hnn, hcp]

theorem peekItem_ok (its : List SItem) (hok : AllOk its) : ∃ tr, peekItem its = .ok tr := by
  cases its with
  | nil => exact ⟨none, rfl⟩
  | cons it rest =>
    cases it with
    | u4 a b c d =>
      obtain ⟨ha, hb, hc, hd⟩ := hok _ (List.mem_cons_self ..)
      obtain ⟨va, vb, vc, vd, _, _, _, _, hp, _⟩ := parseHex_u4 ha hb hc hd
      exact ⟨if isTrailSurrogate (((va * 16 + vb) * 16 + vc) * 16 + vd) then some (((va * 16 + vb) * 16 + vc) * 16 + vd) else none,
        by rw [peekItem, hp]; rfl⟩
    | plain c => exact ⟨none, rfl⟩
    | esc e => exact ⟨none, rfl⟩
    | ubrace ds => exact ⟨none, rfl⟩

theorem decodeItems_u4 {a b c d : Char} {n : Nat} {tr : Option Nat} (rest : List SItem)
    (hp : parseHexU32 [a, b, c, d] = .ok n) (hq : peekItem rest = .ok tr) :
    decodeItems false (.u4 a b c d :: rest) = u4ArmI (fun sk => decodeItems sk rest) n tr := by
  rw [decodeItems, hp]
  show (peekItem rest >>= _) = _
  rw [hq]
  rfl

theorem pairChar_spec {h t : Nat} (hh : isLeadSurrogate h = true) (ht : isTrailSurrogate t = true) :
    codePoint (0x10000 + (h - 0xD800) * 0x400 + (t - 0xDC00)) = some (Char.ofNat (surrogatePairCode h t)) := by
  rw [← surrogatePairCode_eq]
  exact (codePoint_valid (surrogatePair_valid hh ht).1).1

/-- the validation loop, the builder loop and the reference state machine in lock-step over the items of a literal body:
    (A) nothing pending / state `.normal`; (B) a leading surrogate `h` is pending / state `.needLow h` -/
theorem spec_items : ∀ (its : List SItem), AllOk its → (∀ c, SItem.plain c ∈ its → sourceChar c = true) → ∀ (p : Nat),
    ((scanItems none its p = none → ∃ s, decodeItems false its = .ok s ∧ quotedRun .normal (litText its ++ ['"']) = some s) ∧
     (scanItems none its p ≠ none → quotedRun .normal (litText its ++ ['"']) = none)) ∧
    (∀ (l h : Nat), isLeadSurrogate h = true →
      (scanItems (some l) its p = none → ∃ t s, peekItem its = .ok (some t) ∧ isTrailSurrogate t = true ∧
        decodeItems true its = .ok s ∧
        quotedRun (.needLow h) (litText its ++ ['"']) = some (Char.ofNat (surrogatePairCode h t) :: s)) ∧
      (scanItems (some l) its p ≠ none → quotedRun (.needLow h) (litText its ++ ['"']) = none)) := by
  intro its
  induction its with
  | nil =>
    intro _ _ p
    refine ⟨⟨fun _ => ⟨[], rfl, by simp [litText, quotedRun, step]⟩, fun h => absurd rfl h⟩, fun l h _ => ⟨fun hs => ?_, fun _ => ?_⟩⟩
    · simp [scanItems] at hs
    · simpa [litText] using quotedRun_needLow_end h
  | cons it its ih =>
    intro hok hsrc p
    have hoks : AllOk its := fun x hx => hok x (List.mem_cons_of_mem _ hx)
    have hsrcs : ∀ c, SItem.plain c ∈ its → sourceChar c = true := fun c hc => hsrc c (List.mem_cons_of_mem _ hc)
    have hit := hok it (List.mem_cons_self ..)
    have hA : ∀ q, _ := fun q => (ih hoks hsrcs q).1
    have hB : ∀ q, _ := fun q => (ih hoks hsrcs q).2
    rw [litText_cons, List.append_assoc]
    -- an item that is not a `\uXXXX` escape and decodes, in state `.normal`
    have plainStep : ∀ (ch : Char) (q : Nat), (∀ x y z w, it ≠ .u4 x y z w) → it.decode = .ok ch →
        (scanItems none its q = none → ∃ s, decodeItems false (it :: its) = .ok s ∧
          quotedRun .normal (it.text ++ (litText its ++ ['"'])) = some s) ∧
        (scanItems none its q ≠ none → quotedRun .normal (it.text ++ (litText its ++ ['"'])) = none) := by
      intro ch q hnu hd
      have hq := quotedRun_item it hit (fun c he => hsrc c (he ▸ List.mem_cons_self ..)) hd (litText its ++ ['"'])
      refine ⟨fun hs => ?_, fun hs => ?_⟩
      · obtain ⟨s, h1, h2⟩ := (hA q).1 hs
        exact ⟨ch :: s, by rw [decodeItems_other it its hnu, hd, h1]; rfl, by rw [hq, h2]; rfl⟩
      · rw [hq, (hA q).2 hs]; rfl
    cases it with
    | plain c =>
      refine ⟨?_, fun l h hh => ⟨fun hs => by simp [scanItems] at hs, fun _ =>
        quotedRun_needLow_other _ hit (fun _ _ _ _ e => nomatch e) h _⟩⟩
      simpa [scanItems] using plainStep c (p + 1) (fun _ _ _ _ e => nomatch e) rfl
    | esc e =>
      obtain ⟨ch, hch⟩ := escaped_ok (show [e] ∈ escLetters from hit)
      refine ⟨?_, fun l h hh => ⟨fun hs => by simp [scanItems] at hs, fun _ =>
        quotedRun_needLow_other _ hit (fun _ _ _ _ e => nomatch e) h _⟩⟩
      simpa [scanItems] using plainStep ch (p + 2) (fun _ _ _ _ e => nomatch e) hch
    | ubrace ds =>
      refine ⟨?_, fun l h hh => ⟨fun hs => by simp [scanItems] at hs, fun _ =>
        quotedRun_needLow_other _ hit (fun _ _ _ _ e => nomatch e) h _⟩⟩
      by_cases hb : escapeDenotesChar ds = true
      · have hdec : ∃ ch, (SItem.ubrace ds).decode = .ok ch := by
          simp only [SItem.decode]
          unfold escapeDenotesChar at hb
          cases hp : parseHexU32 ds with
          | error e => simp [hp] at hb
          | ok n =>
            simp only [hp] at hb
            exact ⟨Char.ofNat n, by simp [bind, Except.bind, charFromU32, hb]⟩
        obtain ⟨ch, hch⟩ := hdec
        simpa [scanItems, hb] using plainStep ch (p + (ds.length + 4)) (fun _ _ _ _ e => nomatch e) hch
      · have hb' : escapeDenotesChar ds = false := by simpa using hb
        refine ⟨fun hs => by simp [scanItems, hb'] at hs, fun _ => quotedRun_ubrace_bad ds hit.1 hit.2 hb' _⟩
    | u4 a b c d =>
      obtain ⟨ha, hb, hc, hd⟩ := hit
      obtain ⟨va, vb, vc, vd, _, _, _, _, hp, hle⟩ := parseHex_u4 ha hb hc hd
      generalize hn : ((va * 16 + vb) * 16 + vc) * 16 + vd = n at hp hle
      have hx : hexOk [a, b, c, d] = some n := by simp [hexOk, hp]
      obtain ⟨tr, htr⟩ := peekItem_ok its hoks
      refine ⟨?_, fun l h hh => ?_⟩
      · -- state `.normal`
        have hq := quotedRun_u4 ha hb hc hd hp none (litText its ++ ['"'])
        simp only at hq
        by_cases hl : isLeadSurrogate n = true
        · have hfin : finishU4 n none = .go [] (.needLow n) := by simp [finishU4, isLead_high, hl]
          rw [hfin] at hq
          dsimp only at hq
          simp only [scanItems, hx, hl, if_true]
          obtain ⟨b1, b2⟩ := hB (p + 6) p n hl
          refine ⟨fun hs => ?_, fun hs => ?_⟩
          · obtain ⟨t, s, hpk, ht, hdec, hrun⟩ := b1 hs
            refine ⟨Char.ofNat (surrogatePairCode n t) :: s, ?_, by rw [hq, hrun]; rfl⟩
            have hcc : charFromU32 (surrogatePairCode n t) = .ok (Char.ofNat (surrogatePairCode n t)) := by
              simp [charFromU32, (surrogatePair_valid hl ht).1]
            rw [decodeItems_u4 its hp hpk]
            show (if isLeadSurrogate n = true then _ else _) = _
            rw [if_pos hl]
            show (charFromU32 (surrogatePairCode n t) >>= fun c => (c :: ·) <$> decodeItems true its) = _
            rw [hcc, hdec]
            rfl
          · rw [hq, b2 hs]; rfl
        · have hl' : isLeadSurrogate n = false := by simpa using hl
          by_cases hv : validScalar n = true
          · rw [finishU4_valid hv] at hq
            dsimp only at hq
            simp only [scanItems, hx, hl', hv, if_true, Bool.false_eq_true, if_false]
            refine ⟨fun hs => ?_, fun hs => ?_⟩
            · obtain ⟨s, h1, h2⟩ := (hA (p + 6)).1 hs
              refine ⟨Char.ofNat n :: s, ?_, by rw [hq, h2]; rfl⟩
              have hcc : charFromU32 n = .ok (Char.ofNat n) := by simp [charFromU32, hv]
              rw [decodeItems_u4 its hp htr]
              cases tr with
              | none =>
                show (charFromU32 n >>= fun c => (c :: ·) <$> decodeItems false its) = _
                rw [hcc, h1]
                rfl
              | some t =>
                show (if isLeadSurrogate n = true then _ else _) = _
                rw [if_neg hl]
                show (charFromU32 n >>= fun c => (c :: ·) <$> decodeItems false its) = _
                rw [hcc, h1]
                rfl
            · rw [hq, (hA (p + 6)).2 hs]; rfl
          · have hv' : validScalar n = false := by simpa using hv
            have hcp := codePoint_invalid hv'
            have hfin : finishU4 n none = .fail := by simp [finishU4, isLead_high, hl', hcp]
            rw [hfin] at hq
            dsimp only at hq
            simp only [scanItems, hx, hl', hv', Bool.false_eq_true, if_false]
            exact ⟨fun hs => (by cases hs), fun _ => hq⟩
      · -- a lead `h` is pending: state `.needLow h`
        have hq := quotedRun_u4 ha hb hc hd hp (some h) (litText its ++ ['"'])
        simp only at hq
        by_cases ht : isTrailSurrogate n = true
        · have hfin : finishU4 n (some h) = .go [Char.ofNat (surrogatePairCode h n)] .normal := by
            simp [finishU4, isTrail_low, ht, pairChar_spec hh ht]
          rw [hfin] at hq
          dsimp only at hq
          simp only [scanItems, hx, ht, if_true]
          refine ⟨fun hs => ?_, fun hs => ?_⟩
          · obtain ⟨s, h1, h2⟩ := (hA (p + 6)).1 hs
            refine ⟨n, s, by rw [peekItem, hp]; show Except.ok (if isTrailSurrogate n = true then some n else none) = _; rw [if_pos ht],
              ht, by rw [decodeItems]; exact h1,
              by rw [hq, h2]; rfl⟩
          · rw [hq, (hA (p + 6)).2 hs]; rfl
        · have ht' : isTrailSurrogate n = false := by simpa using ht
          have hfin : finishU4 n (some h) = .fail := by simp [finishU4, isTrail_low, ht']
          rw [hfin] at hq
          dsimp only at hq
          simp only [scanItems, hx, ht', Bool.false_eq_true, if_false]
          exact ⟨fun hs => (by cases hs), fun _ => hq⟩

theorem decodeStringLiteral_lit_eq (its : List SItem) (hok : AllOk its) :
    decodeStringLiteral ('"' :: (litText its ++ ['"'])) = quotedRun .normal (litText its ++ ['"']) := by
  cases its with
  | nil => rfl
  | cons it its =>
    obtain ⟨d0, r0, ht0, hd0⟩ := text_head it (hok it (List.mem_cons_self ..))
    rw [litText_cons, ht0]
    simp only [List.cons_append]
    unfold decodeStringLiteral
    split
    · rename_i rest he
      simp only [List.cons.injEq, true_and] at he
      exact absurd he.1 hd0
    · rename_i rest hne he
      simp only [List.cons.injEq, true_and] at he
      subst he
      rfl
    · rename_i h1 h2
      exact absurd rfl (h2 _)

end NitroVerif.StringParse
