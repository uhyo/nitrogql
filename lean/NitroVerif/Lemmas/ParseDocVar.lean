/-
`VariableDefinition = Variable ~ ":" ~ Type ~ DefaultValue? ~ Directives?`, every token followed by its gap. The bracketed
list `VariablesDefinition?` is in Lemmas/ParseDocOp.lean.
-/
import NitroVerif.Lemmas.ParseDocType
namespace NitroVerif.DocParse
open NitroVerif.Peg NitroVerif.Gen NitroVerif.Gen.Parts NitroVerif.Build NitroVerif.TypeParse NitroVerif.StringParse
open NitroVerif.Gql NitroVerif.ValueParse NitroVerif.Spec.Lex

variable {inp : List Char}

/-- `= gap value gap`, nothing if there is no default value -/
def rOptDefault (τ : Trivia) (sep : Bool) (p : Nat) : Option Value → List Char
  | none => []
  | some v => tk τ false p ['='] ++ tk τ sep (p + (tk τ false p ['=']).length) (renderV τ (p + (tk τ false p ['=']).length) v)

def wpOptDefault (τ : Trivia) (inp : List Char) (p : Nat) : Option Value → Option Value
  | none => none
  | some v => some (withPosV τ inp (p + (tk τ false p ['=']).length) v)

theorem defaultValue_fails {p : Nat} (h : HeadNot (· = '=') (inp.drop p)) :
    Fails gList 4 true (.call R.DefaultValue) .nonAtomic (At inp p) :=
  first_fails (by decide) h

theorem valHead_not_trivia' {d : Char} (h : ValHead d) : ¬ trivia d := valHead_not_trivia h

theorem optDefaultT (τ : Trivia) (hτ : ∀ q, Ws (τ q)) (d : Option Value) (hwf : ∀ v ∈ d, WFV v) {sep : Bool} {p : Nat}
    {bad : Char → Prop} (hb1 : bad '=') (hb2 : sep = false → ∀ c, c = '.' ∨ c = '"' → bad c)
    (h : HasAt inp p (rOptDefault τ sep p d))
    (hn : Nxt inp bad sep (p + (rOptDefault τ sep p d).length)) :
    ∃ o, ReadsOpt inp 9 R.DefaultValue p (rOptDefault τ sep p d) (optDefault (Ctx.spec inp)) (wpOptDefault τ inp p d) o ∧
      Nxt inp (fun c => bad c ∧ c ≠ '=') (sep && d.isNone) p := by
  cases d with
  | none =>
    exact ⟨_, .none (defaultValue_fails ((hn : Nxt inp bad sep p).ne hb1)) hn.tok (by decide) fun _ => rfl, hn.beforeNil⟩
  | some v =>
    have hv : WFV v := hwf v rfl
    simp only [rOptDefault] at h hn ⊢
    obtain ⟨c, r, hc, hvh⟩ := renderV_head τ (p + (tk τ false p ['=']).length) v hv
    have r0 := strP hτ ['='] h.left (tok_of_hd h.right (hd_tk ⟨c, r, hc, hvh⟩) (fun d => valHead_not_trivia))
    obtain ⟨e, rD⟩ := PartT.rule (r := R.DefaultValue) rfl (r0.seq (valueP τ hτ v hv hb2 h.right hn.app))
    refine ⟨_, Reads.opt (bld := fun fuel pr => optDefault (Ctx.spec inp) fuel (some pr))
      ⟨rD.mono (by decide), rfl, rfl, fun fuel hf => ?_⟩ (fun _ => rfl),
      .beforeHd h (Hd.append (hd_tk (P := (· = '=')) (hd_cons [] rfl)) _) (by decide)⟩
    have hsz := size_le_length τ v.size v (Nat.le_refl _) hv (p + (tk τ false p ['=']).length)
    have hb := value_builds τ inp v.size v (Nat.le_refl _) (p + (tk τ false p ['=']).length) _ fuel h.right.left.drop
      (Nat.le_trans hsz (fuel_left (fuel_right hf)))
    simp [optDefault, onlyChild, Pair.children, hb, wpOptDefault, bind, Except.bind]

/-- flags: the gap after the type / after the default value is made non-empty iff nothing of the definition follows -/
def rVarDef (τ : Trivia) (sep : Bool) (p : Nat) (v : VarDef) : List Char :=
  let tS := tk τ false p ['$']
  let tN := tk τ false (p + tS.length) v.name.toList
  let tC := tk τ false (p + tS.length + tN.length) [':']
  let tT := rType τ (sep && v.dirs.isEmpty && v.default.isNone) (p + tS.length + tN.length + tC.length) v.ty
  let tE := rOptDefault τ (sep && v.dirs.isEmpty) (p + tS.length + tN.length + tC.length + tT.length) v.default
  tS ++ (tN ++ (tC ++ (tT ++ (tE ++ rDirs τ sep (p + tS.length + tN.length + tC.length + tT.length + tE.length) v.dirs))))

def wpVarDef (τ : Trivia) (inp : List Char) (sep : Bool) (p : Nat) (v : VarDef) : VarDef :=
  let tS := tk τ false p ['$']
  let tN := tk τ false (p + tS.length) v.name.toList
  let tC := tk τ false (p + tS.length + tN.length) [':']
  let tT := rType τ (sep && v.dirs.isEmpty && v.default.isNone) (p + tS.length + tN.length + tC.length) v.ty
  let tE := rOptDefault τ (sep && v.dirs.isEmpty) (p + tS.length + tN.length + tC.length + tT.length) v.default
  { name := v.name, pos := posAt inp p, ty := wpType τ inp (p + tS.length + tN.length + tC.length) v.ty,
    default := wpOptDefault τ inp (p + tS.length + tN.length + tC.length + tT.length) v.default,
    dirs := wpDirs τ inp sep (p + tS.length + tN.length + tC.length + tT.length + tE.length) v.dirs }

def WFVarDef (v : VarDef) : Prop := validName v.name.toList ∧ WF v.ty ∧ (∀ d ∈ v.default, WFV d) ∧ WFDirs v.dirs

/-- `(`: the arguments of a last directive; `!`, `=`, `@`: the pieces a definition may still have; `.`, `"`: a default
    value that is a number or a string would go on (asked only where no gap separates them: `typedP`'s `hb2`) -/
abbrev varBad : Char → Prop := fun c => c = '!' ∨ c = '=' ∨ c = '@' ∨ c = '(' ∨ c = '.' ∨ c = '"'

theorem hd_rVarDef (τ : Trivia) (sep : Bool) (p : Nat) (v : VarDef) : Hd (· = '$') (rVarDef τ sep p v) := by
  simp only [rVarDef]
  exact Hd.append (hd_tk (P := (· = '$')) (hd_cons [] rfl)) _

theorem tk_pos (τ : Trivia) (sep : Bool) (p : Nat) (c : Char) (s : List Char) : 1 ≤ (tk τ sep p (c :: s)).length := by
  rw [tk_length]; exact Nat.le_add_right_of_le (Nat.le_add_left ..)

theorem typedP (τ : Trivia) (hτ : ∀ q, Ws (τ q)) (ty : GType) (hty : WF ty) (d : Option Value) (hd : ∀ v ∈ d, WFV v)
    (ds : List Directive) (hds : WFDirs ds) {sep : Bool} {p : Nat} {bad : Char → Prop} {tC tT tE tD : List Char}
    (hb : bad '!' ∧ bad '=' ∧ bad '@' ∧ bad '(') (hb2 : sep = false → ∀ c, c = '.' ∨ c = '"' → bad c)
    (h : HasAt inp p (tC ++ (tT ++ (tE ++ tD)))) (hn : Nxt inp bad sep (p + (tC ++ (tT ++ (tE ++ tD))).length))
    (hC : tC = tk τ false p [':']) (hT : tT = rType τ (sep && ds.isEmpty && d.isNone) (p + tC.length) ty)
    (hE : tE = rOptDefault τ (sep && ds.isEmpty) (p + tC.length + tT.length) d)
    (hD : tD = rDirs τ sep (p + tC.length + tT.length + tE.length) ds) :
    ∃ (prT : Pair) (oE oD : Option Pair),
      Part inp 24 (.seq (.str [':']) (.seq (.call R.«Type») (.seq (.opt (.call R.DefaultValue)) (.opt (.call R.Directives)))))
        p (tC ++ (tT ++ (tE ++ tD))) (prT :: (oE.toList ++ oD.toList)) ∧
      prT.rule = R.«Type» ∧ (∀ x ∈ oE, x.rule = R.DefaultValue) ∧ (∀ x ∈ oD, x.rule = R.Directives) ∧
      ∀ fuel, (tC ++ (tT ++ (tE ++ tD))).length ≤ fuel →
        buildType (Ctx.spec inp) fuel prT = .ok (wpType τ inp (p + tC.length) ty) ∧
        optDefault (Ctx.spec inp) fuel oE = .ok (wpOptDefault τ inp (p + tC.length + tT.length) d) ∧
        optDirs (Ctx.spec inp) fuel oD = .ok (wpDirs τ inp sep (p + tC.length + tT.length + tE.length) ds) := by
  subst hC hT hE hD
  have g1 := h.right.left
  have g2 := h.right.right.left
  have g3 := h.right.right.right
  have n3 := hn.app.app.app
  -- in front of the directives: `.` and `"` must not follow the default value only if no gap has to separate them from it
  have n2 : Nxt inp (fun c => c = '!' ∨ c = '=' ∨ ((sep && ds.isEmpty) = false ∧ (c = '.' ∨ c = '"'))) (sep && ds.isEmpty) _ :=
    Nxt.rest g3 n3 (hd_rDirs τ sep _ ds) (P := (· = '@'))
      (by rintro c rfl; exact ⟨by decide, by rintro (h | h | ⟨_, h | h⟩) <;> exact absurd h (by decide), by decide⟩)
      (fun ht c hc => by
        have hd0 := rDirs_eq_nil ht
        subst hd0
        rcases hc with rfl | rfl | ⟨h1, h2⟩
        · exact hb.1
        · exact hb.2.1
        · exact hb2 (sep_of_isEmpty rfl h1) c h2)
      (fun ht => sep_of_isEmpty (rDirs_eq_nil ht))
  have r0 := strP hτ [':'] h.left (tok_of_hd g1 (hd_rType τ _ _ ty hty) (by
    rintro c (hc | rfl)
    · exact nameStart_not_trivia hc
    · decide))
  obtain ⟨oD, D, _⟩ := optDirsT τ hτ ds hds hb.2.2.2 hb.2.2.1 g3 n3
  obtain ⟨oE, E, n1⟩ := optDefaultT τ hτ d hd (Or.inr (Or.inl rfl)) (fun hs c hc => Or.inr (Or.inr ⟨hs, hc⟩)) g2 n2
  obtain ⟨prT, T⟩ := (type_all τ hτ ty hty).2 _ _ _ ⟨Or.inl rfl, by decide⟩ g1 n1
  exact ⟨prT, oE, oD, (r0.seq (T.part.seq (E.part.seq D.part))).mono (by decide), T.rule, E.rule, D.rule, fun fuel hf =>
    ⟨T.build_succ (fuel_succ hf (tk_pos ..)), E.build fuel (fuel_left (fuel_right (fuel_right hf))),
      D.build fuel (fuel_right (fuel_right (fuel_right hf)))⟩⟩

theorem varDefT (τ : Trivia) (hτ : ∀ q, Ws (τ q)) (v : VarDef) (hwf : WFVarDef v) {sep : Bool} {p : Nat}
    {bad : Char → Prop} (hb : bad '!' ∧ bad '=' ∧ bad '@' ∧ bad '(') (hb2 : sep = false → ∀ c, c = '.' ∨ c = '"' → bad c)
    (h : HasAt inp p (rVarDef τ sep p v)) (hn : Nxt inp bad sep (p + (rVarDef τ sep p v).length)) :
    ∃ pr, Reads inp 30 R.VariableDefinition p (rVarDef τ sep p v) (buildVariableDefinition (Ctx.spec inp))
      (wpVarDef τ inp sep p v) pr := by
  obtain ⟨hname, hty, hdef, hdirs⟩ := hwf
  simp only [rVarDef, wpVarDef] at h hn ⊢
  have g1 := h.right.left
  have g2 := h.right.right
  obtain ⟨prT, oE, oD, rT, hrT, hrE, hrD, hb⟩ := typedP τ hτ v.ty hty v.default hdef v.dirs hdirs hb hb2 g2 hn.app.app
    rfl rfl rfl rfl
  have r0 := strP hτ ['$'] h.left (tok_of_hd g1 (hd_tk (hd_of_validName hname)) (fun d => nameStart_not_trivia))
  have r1 := nameP hτ hname g1 (bad := fun _ => False)
    (Nxt.of_hd g2 ((hd_tk (hd_cons (P := (· = ':')) _ rfl)).append _) (by rintro c rfl; decide))
  obtain ⟨eV, rV⟩ := PartT.rule look_Variable (r0.seq r1)
  obtain ⟨e, rR⟩ := PartT.rule (r := R.VariableDefinition) rfl (rV.seq₂ rT)
  refine ⟨_, rR.mono (by decide), rfl, rfl, fun fuel hf => ?_⟩
  have hm := matchParts_slots P_VariableDefinition [some _, some prT, oE, oD] (by decide)
    ⟨⟨_, rfl, rV.pairRule⟩, ⟨_, rfl, hrT⟩, hrE, hrD, trivial⟩
  simp only [slotPairs, Option.toList_some, List.cons_append, List.nil_append] at hm
  obtain ⟨hbT, hbE, hbD⟩ := hb fuel (fuel_right (fuel_right hf))
  simp [buildVariableDefinition, Pair.children, hm, buildVariable, onlyChildOf, onlyChild, OC_Variable, hbT, hbE, hbD,
    asString_spec', toPos_spec', Pair.start, Pair.stop, g1.left.slice, bind, Except.bind]

end NitroVerif.DocParse
