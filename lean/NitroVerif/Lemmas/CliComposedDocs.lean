/-
C18 composed (helper lemmas): where the definitions of the document handed to `check_operation_document` come from —
every definition of `resolvedDoc E P v` is a (non-import) definition of the parsed document of SOME operation file of
the project: of `v` itself, or of the file an import chain fetched it from.
-/
import NitroVerif.Lemmas.CliComposed
import NitroVerif.Lemmas.CheckOpNonEmpty
namespace NitroVerif.CliComposed
open NitroVerif NitroVerif.Gql NitroVerif.Cli

variable {Text κ : Type} [DecidableEq κ]

theorem mem_opDocs {E : Env Text κ} {P : Project Text κ} {p : κ} {D : Doc} (h : (p, D) ∈ opDocs E P) :
    ∃ w ∈ views E P, w.input.path = p ∧ w.doc = D := by
  unfold opDocs at h
  rw [List.mem_reverse, List.mem_map] at h
  obtain ⟨w, hw, he⟩ := h
  cases he
  exact ⟨w, hw, rfl, rfl⟩

theorem mem_defsOf {D : Doc} {x : ExecDef} (h : x ∈ defsOf D) : x ∈ D ∧ ∀ i, x ≠ .imp i := by
  unfold defsOf at h
  rw [List.mem_filter] at h
  refine ⟨h.1, ?_⟩
  intro i hi
  subst hi
  simp at h

theorem fetch_mem {docs : List (κ × Doc)} {x : Imports.DefId κ} {d : ExecDef} (h : fetch docs x = some d) :
    ∃ D, (x.1, D) ∈ docs ∧ d ∈ defsOf D := by
  unfold fetch at h
  split at h
  · rename_i D hl
    exact ⟨D, Imports.lookup_mem hl, List.mem_of_getElem? h⟩
  · cases h

theorem mem_resolvedDoc {E : Env Text κ} {P : Project Text κ} {v : OpView Text κ} (hv : v ∈ views E P) {x : ExecDef}
    (h : x ∈ resolvedDoc E P v) : ∃ w ∈ views E P, x ∈ defsOf w.doc := by
  unfold resolvedDoc at h
  split at h
  · rw [List.mem_append] at h
    rcases h with h | h
    · exact ⟨v, hv, h⟩
    · obtain ⟨id, _, hf⟩ := List.mem_filterMap.mp h
      obtain ⟨D, hD, hx⟩ := fetch_mem hf
      obtain ⟨w, hw, _, rfl⟩ := mem_opDocs hD
      exact ⟨w, hw, hx⟩
  · exact ⟨v, hv, h⟩

theorem defsOf_sub_resolvedDoc (E : Env Text κ) (P : Project Text κ) (v : OpView Text κ) :
    ∀ x ∈ defsOf v.doc, x ∈ resolvedDoc E P v := by
  intro x hx
  unfold resolvedDoc
  split
  · exact List.mem_append_left _ hx
  · exact hx

theorem view_doc_of_parse {E : Env Text κ} {P : Project Text κ} {v : OpView Text κ} (hv : v ∈ views E P) :
    (∃ D, E.parseOp v.idx v.input.text = .ok D ∧ v.doc = D) ∨ v.doc = [] := by
  obtain ⟨j, f, _, rfl⟩ := (mem_views E P v).mp hv
  simp only [OpView.doc]
  cases h : E.parseOp (P.schemaTexts.length + j) f.text with
  | ok D => exact Or.inl ⟨D, rfl, rfl⟩
  | error e => exact Or.inr rfl

/-- if the parser only produces documents whose selection sets are non-empty (the grammar: `"{" Selection+ "}"`), the
    documents handed to the operation checker have that property -/
theorem nonEmpty_resolvedDoc {E : Env Text κ} {P : Project Text κ}
    (hp : ∀ i t D, E.parseOp i t = .ok D → Doc.NonEmptySelections D) {v : OpView Text κ} (hv : v ∈ views E P) :
    Doc.NonEmptySelections (resolvedDoc E P v) := by
  unfold Doc.NonEmptySelections Doc.nonEmptySelectionsB
  rw [List.all_eq_true]
  intro x hx
  obtain ⟨w, hw, hxw⟩ := mem_resolvedDoc hv hx
  rcases view_doc_of_parse hw with ⟨D, hD, he⟩ | he
  · rw [he] at hxw
    exact List.all_eq_true.mp (hp _ _ _ hD) x (mem_defsOf hxw).1
  · rw [he] at hxw
    simp [defsOf] at hxw

end NitroVerif.CliComposed
