/-
Definitions for `render_parse_value` (Props/C07): the rendering of a `Value` with ARBITRARY trivia between
its tokens, the well-formedness of a value (what the lexical grammar can express), and the expected pair tree.

Trivia: `τ : Nat → List Char` gives, for every offset of the text at which a gap between two tokens begins, the
trivia written there (any assignment of trivia to the gaps is of this form, since gaps begin at distinct
offsets); between two list items / object fields an empty gap is replaced by one space (`sepOf`). The canonical
rendering is `τ = fun _ => []`: `[1 2]`, `{a:1 b:2}`.
-/
import NitroVerif.Lemmas.ParseValueAlt
import NitroVerif.Lemmas.ParseComment
import NitroVerif.Gql.Ast
namespace NitroVerif.ValueParse
open NitroVerif.Peg NitroVerif.Gen NitroVerif.Build NitroVerif.TypeParse NitroVerif.StringParse NitroVerif.Gql

abbrev Trivia := Nat → List Char

def sepOf (t : List Char) : List Char := if t = [] then [' '] else t
/-- the gap in front of an item: free after the opening bracket, at least one whitespace character between items -/
def gapOf (first : Bool) (t : List Char) : List Char := if first then t else sepOf t

mutual
/-- the text of `v` written at offset `p` (positions matter only for looking up the trivia) -/
def renderV (τ : Trivia) : Nat → Value → List Char
  | _, .var n _ => '$' :: n.toList
  | _, .int s _ => s.toList
  | _, .float s _ => s.toList
  | _, .str s _ => quoted s.toList
  | _, .bool b _ => if b then kwTrue else kwFalse
  | _, .null _ => kwNull
  | _, .enum n _ => n.toList
  | p, .list vs _ =>
    '[' :: (itemsBody τ (p + 1) true vs ++ (τ (p + 1 + (itemsBody τ (p + 1) true vs).length) ++ [']']))
  | p, .obj fs _ =>
    '{' :: (fieldsBody τ (p + 1) true fs ++ (τ (p + 1 + (fieldsBody τ (p + 1) true fs).length) ++ ['}']))
/-- the items of a list from offset `q` up to the end of the last item (the padding before `]` is not included) -/
def itemsBody (τ : Trivia) : Nat → Bool → List Value → List Char
  | _, _, [] => []
  | q, first, v :: vs =>
    gapOf first (τ q) ++ (renderV τ (q + (gapOf first (τ q)).length) v ++
      itemsBody τ (q + (gapOf first (τ q)).length + (renderV τ (q + (gapOf first (τ q)).length) v).length) false vs)
/-- the fields of an object: `gap name gap ":" gap value` each -/
def fieldsBody (τ : Trivia) : Nat → Bool → List (Name × Pos × Value) → List Char
  | _, _, [] => []
  | q, first, (k, _, v) :: fs =>
    gapOf first (τ q) ++ (k.toList ++ (τ (q + (gapOf first (τ q)).length + k.toList.length) ++ (':' ::
      (τ (q + (gapOf first (τ q)).length + k.toList.length + (τ (q + (gapOf first (τ q)).length + k.toList.length)).length + 1) ++
      (renderV τ (q + (gapOf first (τ q)).length + k.toList.length + (τ (q + (gapOf first (τ q)).length + k.toList.length)).length + 1 +
          (τ (q + (gapOf first (τ q)).length + k.toList.length + (τ (q + (gapOf first (τ q)).length + k.toList.length)).length + 1)).length) v ++
       fieldsBody τ (q + (gapOf first (τ q)).length + k.toList.length + (τ (q + (gapOf first (τ q)).length + k.toList.length)).length + 1 +
          (τ (q + (gapOf first (τ q)).length + k.toList.length + (τ (q + (gapOf first (τ q)).length + k.toList.length)).length + 1)).length +
          (renderV τ (q + (gapOf first (τ q)).length + k.toList.length + (τ (q + (gapOf first (τ q)).length + k.toList.length)).length + 1 +
          (τ (q + (gapOf first (τ q)).length + k.toList.length + (τ (q + (gapOf first (τ q)).length + k.toList.length)).length + 1)).length) v).length)
          false fs)))))
end

mutual
/-- values the lexical grammar can express: valid names, number texts of the lexical grammar, enum values other
    than the three keywords; strings are arbitrary -/
def WFV : Value → Prop
  | .var n _ => validName n.toList
  | .int s _ => IntText s.toList
  | .float s _ => FloatText s.toList
  | .str _ _ => True
  | .bool _ _ => True
  | .null _ => True
  | .enum n _ => validName n.toList ∧ n.toList ≠ kwTrue ∧ n.toList ≠ kwFalse ∧ n.toList ≠ kwNull
  | .list vs _ => WFVs vs
  | .obj fs _ => WFFs fs
def WFVs : List Value → Prop
  | [] => True
  | v :: vs => WFV v ∧ WFVs vs
def WFFs : List (Name × Pos × Value) → Prop
  | [] => True
  | (k, _, v) :: fs => validName k.toList ∧ WFV v ∧ WFFs fs
end

mutual
/-- the child of the `Value` pair of `v` written at offset `p` -/
def innerV (τ : Trivia) : Nat → Value → Pair
  | p, .var n _ => .mk R.Variable p (p + (n.toList.length + 1)) [.mk R.Name (p + 1) (p + 1 + n.toList.length) []]
  | p, .int s _ => .mk R.IntValue p (p + s.toList.length) []
  | p, .float s _ => .mk R.FloatValue p (p + s.toList.length) []
  | p, .str s _ => stringPair s.toList p
  | p, .bool b _ => .mk R.BooleanValue p (p + (if b then kwTrue else kwFalse).length)
      [.mk (if b then R.KEYWORD_true else R.KEYWORD_false) p (p + (if b then kwTrue else kwFalse).length) []]
  | p, .null _ => .mk R.NullValue p (p + 4) [.mk R.KEYWORD_null p (p + 4) []]
  | p, .enum n _ => .mk R.EnumValue p (p + n.toList.length) [.mk R.Name p (p + n.toList.length) []]
  | p, .list vs pos => .mk R.ListValue p (p + (renderV τ p (.list vs pos)).length) (itemPairs τ (p + 1) true vs)
  | p, .obj fs pos => .mk R.ObjectValue p (p + (renderV τ p (.obj fs pos)).length) (fieldPairs τ (p + 1) true fs)
def itemPairs (τ : Trivia) : Nat → Bool → List Value → List Pair
  | _, _, [] => []
  | q, first, v :: vs =>
    .mk R.Value (q + (gapOf first (τ q)).length)
      (q + (gapOf first (τ q)).length + (renderV τ (q + (gapOf first (τ q)).length) v).length)
      [innerV τ (q + (gapOf first (τ q)).length) v] ::
    itemPairs τ (q + (gapOf first (τ q)).length + (renderV τ (q + (gapOf first (τ q)).length) v).length) false vs
def fieldPairs (τ : Trivia) : Nat → Bool → List (Name × Pos × Value) → List Pair
  | _, _, [] => []
  | q, first, (k, _, v) :: fs =>
    .mk R.ObjectField (q + (gapOf first (τ q)).length)
      (q + (gapOf first (τ q)).length + k.toList.length + (τ (q + (gapOf first (τ q)).length + k.toList.length)).length + 1 +
          (τ (q + (gapOf first (τ q)).length + k.toList.length + (τ (q + (gapOf first (τ q)).length + k.toList.length)).length + 1)).length +
          (renderV τ (q + (gapOf first (τ q)).length + k.toList.length + (τ (q + (gapOf first (τ q)).length + k.toList.length)).length + 1 +
          (τ (q + (gapOf first (τ q)).length + k.toList.length + (τ (q + (gapOf first (τ q)).length + k.toList.length)).length + 1)).length) v).length)
      [.mk R.Name (q + (gapOf first (τ q)).length) (q + (gapOf first (τ q)).length + k.toList.length) [],
       .mk R.Value (q + (gapOf first (τ q)).length + k.toList.length + (τ (q + (gapOf first (τ q)).length + k.toList.length)).length + 1 +
          (τ (q + (gapOf first (τ q)).length + k.toList.length + (τ (q + (gapOf first (τ q)).length + k.toList.length)).length + 1)).length)
        (q + (gapOf first (τ q)).length + k.toList.length + (τ (q + (gapOf first (τ q)).length + k.toList.length)).length + 1 +
          (τ (q + (gapOf first (τ q)).length + k.toList.length + (τ (q + (gapOf first (τ q)).length + k.toList.length)).length + 1)).length +
          (renderV τ (q + (gapOf first (τ q)).length + k.toList.length + (τ (q + (gapOf first (τ q)).length + k.toList.length)).length + 1 +
          (τ (q + (gapOf first (τ q)).length + k.toList.length + (τ (q + (gapOf first (τ q)).length + k.toList.length)).length + 1)).length) v).length)
        [innerV τ (q + (gapOf first (τ q)).length + k.toList.length + (τ (q + (gapOf first (τ q)).length + k.toList.length)).length + 1 +
          (τ (q + (gapOf first (τ q)).length + k.toList.length + (τ (q + (gapOf first (τ q)).length + k.toList.length)).length + 1)).length) v]] ::
    fieldPairs τ (q + (gapOf first (τ q)).length + k.toList.length + (τ (q + (gapOf first (τ q)).length + k.toList.length)).length + 1 +
          (τ (q + (gapOf first (τ q)).length + k.toList.length + (τ (q + (gapOf first (τ q)).length + k.toList.length)).length + 1)).length +
          (renderV τ (q + (gapOf first (τ q)).length + k.toList.length + (τ (q + (gapOf first (τ q)).length + k.toList.length)).length + 1 +
          (τ (q + (gapOf first (τ q)).length + k.toList.length + (τ (q + (gapOf first (τ q)).length + k.toList.length)).length + 1)).length) v).length)
        false fs
end

/-- the `Value` pair of `v` written at offset `p` -/
def valuePair (τ : Trivia) (p : Nat) (v : Value) : Pair :=
  .mk R.Value p (p + (renderV τ p v).length) [innerV τ p v]

/-- depth bound of the parser on a value text of length `L` -/
def B (L : Nat) : Nat := 60 * L + 100

def ValHead (d : Char) : Prop := d = '$' ∨ (d = '-' ∨ digit d) ∨ d = '"' ∨ nameStart d ∨ d = '[' ∨ d = '{'

theorem renderV_head (τ : Trivia) (p : Nat) (v : Value) (h : WFV v) : ∃ d r, renderV τ p v = d :: r ∧ ValHead d := by
  cases v with
  | var n pos => exact ⟨'$', _, rfl, Or.inl rfl⟩
  | int s pos =>
    obtain ⟨d, r, hd, hh⟩ := intText_head (show IntText s.toList from h)
    exact ⟨d, r, by simp [renderV, hd], Or.inr (Or.inl hh)⟩
  | float s pos =>
    have ht : FloatText s.toList := h
    have : ∃ ip x, IntText ip ∧ s.toList = ip ++ x := by
      generalize s.toList = t at ht
      cases ht with
      | fe ip fd ex hip _ _ => exact ⟨ip, _, hip, rfl⟩
      | f ip fd hip _ => exact ⟨ip, _, hip, rfl⟩
      | e ip ex hip _ => exact ⟨ip, _, hip, rfl⟩
    obtain ⟨ip, x, hip, hs⟩ := this
    obtain ⟨d, r, hd, hh⟩ := intText_head hip
    exact ⟨d, r ++ x, by simp [renderV, hs, hd], Or.inr (Or.inl hh)⟩
  | str s pos => exact ⟨'"', _, rfl, Or.inr (Or.inr (Or.inl rfl))⟩
  | bool b pos => cases b <;> exact ⟨_, _, rfl, Or.inr (Or.inr (Or.inr (Or.inl (by decide))))⟩
  | null pos => exact ⟨_, _, rfl, Or.inr (Or.inr (Or.inr (Or.inl (by decide))))⟩
  | «enum» n pos =>
    have hn : validName n.toList := h.1
    cases hl : n.toList with
    | nil => rw [hl] at hn; exact absurd hn id
    | cons d ds =>
      rw [hl] at hn
      exact ⟨d, ds, by simp [renderV, hl], Or.inr (Or.inr (Or.inr (Or.inl hn.1)))⟩
  | list vs pos => exact ⟨'[', _, rfl, Or.inr (Or.inr (Or.inr (Or.inr (Or.inl rfl))))⟩
  | obj fs pos => exact ⟨'{', _, rfl, Or.inr (Or.inr (Or.inr (Or.inr (Or.inr rfl))))⟩

theorem valHead_not_trivia {d : Char} (h : ValHead d) : ¬ trivia d := by
  rcases h with rfl | (rfl | hd) | rfl | hs | rfl | rfl
  · decide
  · decide
  · intro ht
    rcases ht with rfl | rfl | rfl | rfl | rfl | rfl | rfl <;>
      first | exact absurd hd.1 (by decide) | exact absurd hd.2 (by decide)
  · decide
  · exact nameStart_not_trivia hs
  · decide
  · decide

theorem valHead_not_close {d : Char} (h : ValHead d) : d ≠ ']' ∧ d ≠ '}' ∧ d ≠ ':' := by
  rcases h with rfl | (rfl | hd) | rfl | hs | rfl | rfl
  · decide
  · decide
  · have h9 : d.val ≤ 57 := hd.2
    refine ⟨?_, ?_, ?_⟩ <;> (rintro rfl; exact absurd h9 (by decide))
  · decide
  · refine ⟨?_, ?_, ?_⟩ <;> (rintro rfl; exact absurd hs (by decide))
  · decide
  · decide

theorem valEnd_of_head {rest : List Char} (h : ∀ d r, rest = d :: r → wsChar d ∨ d = ']' ∨ d = '}' ∨ d = ')' ∨ d = '#') :
    ValEnd rest := by
  intro d r he hd
  rcases h d r he with hw | rfl | rfl | rfl | rfl
  · rcases hw with rfl | rfl | rfl | rfl | rfl | rfl <;>
      (rcases hd with hd | hd | hd <;> first | exact absurd hd (by decide) | (revert hd; decide))
  all_goals (rcases hd with hd | hd | hd <;> first | exact absurd hd (by decide) | (revert hd; decide))

theorem sepOf_ne_nil (t : List Char) : sepOf t ≠ [] := by
  unfold sepOf; split <;> simp_all

theorem ws_sepOf {t : List Char} (h : Ws t) : Ws (sepOf t) := by
  unfold sepOf; split
  · exact ws_of_run fun x hx => by
      simp only [List.mem_singleton] at hx; subst hx; exact Or.inr (Or.inr (Or.inl rfl))
  · exact h

theorem ws_gapOf {first : Bool} {t : List Char} (h : Ws t) : Ws (gapOf first t) := by
  unfold gapOf; split
  · exact h
  · exact ws_sepOf h

end NitroVerif.ValueParse
