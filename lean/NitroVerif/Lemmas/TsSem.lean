/-
The declarative reading of the TypeScript-subset semantics (`Ts/Sem.lean`): the inductive relation `Mem env v t`
("`v` is a value of the closed type `t`") with one rule per case of the executable `memG`, and the inversion
lemmas the property theorems use. `Mem` has no fuel: recursive aliases are harmless because a derivation is finite.
Part of the trusted reading of TypeScript, like `Ts/Sem.lean` itself.
-/
import NitroVerif.Ts.Sem
namespace NitroVerif.Ts

/-- types this model does not interpret: they admit exactly the atom tagged by their canonical text -/
def Ty.isOpaque (e : Env) : Ty → Bool
  | .prim s =>
    !(s == "string" || s == "number" || s == "boolean" || s == "true" || s == "false" || s == "null"
      || s == "undefined" || s == "void" || s == "unknown" || s == "any" || s == "never")
  | .strLit _ => false
  | .obj _ => false
  | .arr _ => false
  | .roArr _ => false
  | .union _ => false
  | .inter _ => false
  | .other tag path =>
    if tag == "abs" then
      match e.decls.body? path with
      | some ([], _) => false
      | _ => true
    else true
  | .app f as => (e.appHook e.decls f as).isNone
  | _ => true

def J.isStr : J → Bool
  | .str _ => true
  | _ => false
def J.isNum : J → Bool
  | .num => true
  | _ => false
def J.isBool : J → Bool
  | .bool _ => true
  | _ => false
def J.isTrue : J → Bool
  | .bool true => true
  | _ => false
def J.isFalse : J → Bool
  | .bool false => true
  | _ => false

theorem isNull_iff {v : J} : v.isNull = true ↔ v = .null := by cases v <;> simp [J.isNull]
theorem isAbsent_iff {v : J} : v.isAbsent = true ↔ v = .absent := by cases v <;> simp [J.isAbsent]
theorem isNull_eq_false {v : J} (h : v ≠ .null) : v.isNull = false := Bool.eq_false_iff.2 fun e => h (isNull_iff.1 e)
theorem isAbsent_eq_false {v : J} (h : v ≠ .absent) : v.isAbsent = false :=
  Bool.eq_false_iff.2 fun e => h (isAbsent_iff.1 e)

def primMem (p : String) (v : J) : Bool :=
  if p == "string" then v.isStr
  else if p == "number" then v.isNum
  else if p == "boolean" then v.isBool
  else if p == "true" then v.isTrue
  else if p == "false" then v.isFalse
  else if p == "null" then v.isNull
  else if p == "undefined" then v.isAbsent
  else if p == "void" then v.isAbsent
  else if p == "unknown" then true
  else if p == "any" then true
  else false

/-- `v` is a value of the closed type `t` -/
inductive Mem (e : Env) : J → Ty → Prop where
  | prim (p : String) (v : J) : primMem p v = true → Mem e v (.prim p)
  | strLit (s : String) : Mem e (.str s) (.strLit s)
  /-- exact-key reading: every declared field is (optional and absent) or a member; no undeclared key present
      (the two clauses are `RecordP (Mem e) fs kvs`: `mem_obj_iff`) -/
  | obj (kvs : List (String × J)) (fs : List Field) :
      (∀ f ∈ fs, ¬ (f.2.2.1 = true ∧ J.get kvs f.1 = .absent) → Mem e (J.get kvs f.1) f.2.2.2) →
      (∀ kv ∈ kvs, kv.2 = .absent ∨ ∃ f ∈ fs, f.1 = kv.1) →
      Mem e (.obj kvs) (.obj fs)
  | arr (xs : List J) (t : Ty) : (∀ x ∈ xs, Mem e x t) → Mem e (.arr xs) (.arr t)
  | roArr (xs : List J) (t : Ty) : (∀ x ∈ xs, Mem e x t) → Mem e (.arr xs) (.roArr t)
  | union (v : J) (ts : List Ty) (t : Ty) : t ∈ ts → Mem e v t → Mem e v (.union ts)
  /-- an intersection that denotes a record: the united record, read exactly -/
  | interObj (v : J) (ts : List Ty) (fs : List Field) (n : Nat) :
      objView e n (.inter ts) = .isObj fs → Mem e v (.obj fs) → Mem e v (.inter ts)
  | interAll (v : J) (ts : List Ty) (n : Nat) :
      objView e n (.inter ts) = .notObj → (∀ t ∈ ts, Mem e v t) → Mem e v (.inter ts)
  | alias (v : J) (path : List String) (body : Ty) :
      e.decls.body? path = some ([], body) → Mem e v body → Mem e v (.other "abs" path)
  | hook (v : J) (f : Ty) (as : List Ty) (t' : Ty) :
      e.appHook e.decls f as = some t' → Mem e v t' → Mem e v (.app f as)
  | opaqueTy (t : Ty) : t.isOpaque e = true → Mem e (.atom t.show) t

variable {e : Env}

theorem primMem_not_opaque {p : String} {v : J} (h : primMem p v = true) : (Ty.prim p).isOpaque e = false := by
  cases ho : (Ty.prim p).isOpaque e with
  | false => rfl
  | true =>
    -- `p` is none of the interpreted names, so every test of `primMem` fails
    simp only [Ty.isOpaque, Bool.not_eq_true', Bool.or_eq_false_iff, beq_eq_false_iff_ne, ne_eq] at ho
    simp only [primMem, beq_iff_eq, ho, if_false] at h
    cases h

theorem mem_opaque_iff {t : Ty} {v : J} (ho : t.isOpaque e = true) : Mem e v t ↔ v = .atom t.show := by
  constructor
  · intro h
    cases h with
    | prim p v hp => rw [primMem_not_opaque hp] at ho; cases ho
    | alias _ _ _ hb _ => simp [Ty.isOpaque, hb] at ho
    | hook _ _ _ _ hh _ => simp [Ty.isOpaque, hh] at ho
    | opaqueTy _ _ => rfl
    | _ => cases ho
  · rintro rfl; exact Mem.opaqueTy t ho

theorem mem_prim_iff {v : J} {p : String} (hp : (Ty.prim p).isOpaque e = false) :
    Mem e v (.prim p) ↔ primMem p v = true := by
  constructor
  · intro h
    cases h with
    | prim _ _ h => exact h
    | opaqueTy _ h => rw [hp] at h; cases h
  · intro h; exact .prim p v h

theorem mem_null_iff {v : J} : Mem e v (.prim "null") ↔ v = .null := (mem_prim_iff rfl).trans isNull_iff

theorem mem_undefined_iff {v : J} : Mem e v (.prim "undefined") ↔ v = .absent :=
  (mem_prim_iff rfl).trans isAbsent_iff

theorem mem_never_iff {v : J} : Mem e v (.prim "never") ↔ False := by
  rw [mem_prim_iff (by simp [Ty.isOpaque])]
  simp [primMem]

theorem mem_strLit_iff {v : J} {s : String} : Mem e v (.strLit s) ↔ v = .str s := by
  constructor
  · intro h
    cases h with
    | strLit => rfl
    | opaqueTy _ h => simp [Ty.isOpaque] at h
  · intro h; subst h; exact .strLit s

theorem mem_union_iff {v : J} {ts : List Ty} : Mem e v (.union ts) ↔ ∃ t ∈ ts, Mem e v t := by
  constructor
  · intro h
    cases h with
    | union _ _ t ht hm => exact ⟨t, ht, hm⟩
    | opaqueTy _ h => simp [Ty.isOpaque] at h
  · rintro ⟨t, ht, hm⟩; exact .union v ts t ht hm

theorem mem_arr_iff {v : J} {t : Ty} : Mem e v (.arr t) ↔ ∃ xs, v = .arr xs ∧ ∀ x ∈ xs, Mem e x t := by
  constructor
  · intro h
    cases h with
    | arr xs _ hx => exact ⟨xs, rfl, hx⟩
    | opaqueTy _ h => simp [Ty.isOpaque] at h
  · rintro ⟨xs, rfl, hx⟩; exact .arr xs t hx

theorem mem_roArr_iff {v : J} {t : Ty} : Mem e v (.roArr t) ↔ ∃ xs, v = .arr xs ∧ ∀ x ∈ xs, Mem e x t := by
  constructor
  · intro h
    cases h with
    | roArr xs _ hx => exact ⟨xs, rfl, hx⟩
    | opaqueTy _ h => simp [Ty.isOpaque] at h
  · rintro ⟨xs, rfl, hx⟩; exact .roArr xs t hx

/-- the exact-key reading of a record type, as a proposition -/
def RecordP (mem : J → Ty → Prop) (fs : List Field) (kvs : List (String × J)) : Prop :=
  (∀ f ∈ fs, ¬ (f.2.2.1 = true ∧ J.get kvs f.1 = .absent) → mem (J.get kvs f.1) f.2.2.2) ∧
  (∀ kv ∈ kvs, kv.2 = .absent ∨ ∃ f ∈ fs, f.1 = kv.1)

theorem RecordP.mono {P Q : J → Ty → Prop} (h : ∀ v t, P v t → Q v t) {fs : List Field} {kvs : List (String × J)}
    (hr : RecordP P fs kvs) : RecordP Q fs kvs :=
  ⟨fun f hf hne => h _ _ (hr.1 f hf hne), hr.2⟩

theorem memRecord_iff {mem : J → Ty → Bool} {fs : List Field} {kvs : List (String × J)} :
    memRecord mem fs kvs = true ↔ RecordP (fun v t => mem v t = true) fs kvs := by
  simp only [memRecord, RecordP, Bool.and_eq_true, List.all_eq_true, Bool.or_eq_true, List.any_eq_true, beq_iff_eq,
    isAbsent_iff]
  refine and_congr (forall_congr' fun f => forall_congr' fun _ => ?_) Iff.rfl
  by_cases hc : f.2.2.1 = true ∧ J.get kvs f.1 = .absent
  · exact ⟨fun _ hne => absurd hc hne, fun _ => Or.inl hc⟩
  · exact ⟨fun h _ => h.resolve_left hc, fun h => Or.inr (h hc)⟩

theorem mem_obj_iff {v : J} {fs : List Field} :
    Mem e v (.obj fs) ↔ ∃ kvs, v = .obj kvs ∧ RecordP (Mem e) fs kvs := by
  constructor
  · intro h
    cases h with
    | obj kvs _ h1 h2 => exact ⟨kvs, rfl, h1, h2⟩
    | opaqueTy _ h => simp [Ty.isOpaque] at h
  · rintro ⟨kvs, rfl, h1, h2⟩; exact .obj kvs fs h1 h2

theorem mem_inter_all {v : J} {ts : List Ty} (hno : ∀ n fs, objView e n (.inter ts) ≠ .isObj fs)
    (h : Mem e v (.inter ts)) : ∀ t ∈ ts, Mem e v t := by
  cases h with
  | interObj _ _ fs n ho _ => exact absurd ho (hno n fs)
  | interAll _ _ n _ hall => exact hall
  | opaqueTy _ ho => simp [Ty.isOpaque] at ho

theorem mem_alias_iff {v : J} {path : List String} {body : Ty} (hb : e.decls.body? path = some ([], body)) :
    Mem e v (.other "abs" path) ↔ Mem e v body := by
  constructor
  · intro h
    cases h with
    | alias _ _ b hb' hm => rw [hb] at hb'; cases hb'; exact hm
    | opaqueTy _ h => simp [Ty.isOpaque, hb] at h
  · intro h; exact .alias v path body hb h

theorem mem_app_iff {f : Ty} {as : List Ty} {t' : Ty} {v : J} (h : e.appHook e.decls f as = some t') :
    Mem e v (.app f as) ↔ Mem e v t' := by
  constructor
  · intro hm
    cases hm with
    | hook _ _ _ t'' hh hm' => rw [h] at hh; cases hh; exact hm'
    | opaqueTy _ ho => simp [Ty.isOpaque, h] at ho
  · intro hm; exact .hook v f as t' h hm

/-- a simple reference admits exactly its own atom: binding time has replaced every reference that resolves by an absolute
    one, so a `.ref` that is still there denotes no declaration -/
theorem mem_unresolved_ref_iff {v : J} {n : String} : Mem e v (.ref n) ↔ v = .atom n := by
  constructor
  · intro h
    cases h with
    | opaqueTy _ _ => rfl
  · intro h; subst h
    exact Mem.opaqueTy (.ref n) rfl

end NitroVerif.Ts
