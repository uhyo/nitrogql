import NitroVerif.Spec.GqlLexer
import NitroVerif.Lemmas.GqlPrintWritten
/-!
C16, character level: the lexer of `Spec/GqlLexer.lean` run on what `JustWriter` writes for a sequence of printer tokens
finds exactly the tokens the printer tokens stand for — provided every token is lexically what it claims (`dataOK`:
names are GraphQL Names, numbers GraphQL numbers; `fixedOK`: punctuators and layout) and is followed by a character
that ends it (`LexableK`).
-/
namespace NitroVerif.C16
open NitroVerif.Gql NitroVerif.GqlPrint NitroVerif.GqlTokens NitroVerif.GqlString NitroVerif.JsTemplate
open NitroVerif.GqlLexer

/-! ### scanners on a token followed by more text -/

def nameFollowOK : List Char → Bool
  | [] => true
  | c :: _ => !nameContinue c

def strFollowOK : List Char → Bool
  | [] => true
  | c :: _ => c != '"'

theorem spanName_append (s R : List Char) (hs : ∀ c ∈ s, nameContinue c = true) (hR : nameFollowOK R = true) :
    spanName (s ++ R) = (s, R) := by
  induction s with
  | nil =>
    cases R with
    | nil => rfl
    | cons c cs =>
      simp only [nameFollowOK, Bool.not_eq_true'] at hR
      simp [spanName, hR]
  | cons c cs ih =>
    have := ih (fun x hx => hs x (by simp [hx]))
    simp [spanName, hs c (by simp), this]

theorem scanNum_append (s R : List Char) : ∀ (st st' : NumSt), scanNum st s = (st', s, []) →
    (match R with | [] => True | c :: _ => numStep st' c = none) → scanNum st (s ++ R) = (st', s, R) := by
  induction s with
  | nil =>
    intro st st' h hR
    simp only [scanNum, Prod.mk.injEq, and_true] at h
    subst h
    cases R with
    | nil => rfl
    | cons c cs => simp only [List.nil_append, scanNum, hR]
  | cons c cs ih =>
    intro st st' h hR
    simp only [scanNum] at h
    cases hstep : numStep st c with
    | none => simp [hstep] at h
    | some st1 =>
      simp only [hstep, Prod.mk.injEq, List.cons.injEq, true_and] at h
      have h1 : scanNum st1 cs = (st', cs, []) := by
        rcases hsc : scanNum st1 cs with ⟨a, b, c'⟩
        rw [hsc] at h
        simp only at h
        obtain ⟨rfl, rfl, rfl⟩ := h
        rfl
      have := ih st1 st' h1 hR
      simp [scanNum, hstep, this]

/-- the text is exactly one IntValue -/
def validInt (s : List Char) : Bool :=
  (scanNum .start s).2.1 == s && (scanNum .start s).2.2.isEmpty &&
    ((scanNum .start s).1 == .zero || (scanNum .start s).1 == .int)

/-- the text is exactly one FloatValue -/
def validFloat (s : List Char) : Bool :=
  (scanNum .start s).2.1 == s && (scanNum .start s).2.2.isEmpty &&
    ((scanNum .start s).1 == .frac || (scanNum .start s).1 == .exp)

theorem numStep_stop (st : NumSt) (h : st = .zero ∨ st = .int ∨ st = .frac ∨ st = .exp) (c : Char)
    (hc : (isDigit c || c = '.' || nameStart c) = false) : numStep st c = none := by
  simp only [Bool.or_eq_false_iff, decide_eq_false_iff_not] at hc
  obtain ⟨⟨h1, h2⟩, h3⟩ := hc
  have he : ¬ (c = 'e' ∨ c = 'E') := by
    intro h'
    rcases h' with rfl | rfl <;> simp [nameStart, isLetter] at h3
  rcases h with rfl | rfl | rfl | rfl <;> simp [numStep, h1, h2, he]

theorem scanNum_valid (s R : List Char) (st' : NumSt) (hsc : scanNum .start s = (st', s, []))
    (hacc : st' = .zero ∨ st' = .int ∨ st' = .frac ∨ st' = .exp) (hR : numFollowOK R = true) :
    scanNum .start (s ++ R) = (st', s, R) := by
  apply scanNum_append s R .start st' hsc
  cases R with
  | nil => trivial
  | cons c cs =>
    simp only [numFollowOK, Bool.not_eq_true'] at hR
    exact numStep_stop st' hacc c hR

theorem scanNum_exact {s : List Char} {a b : NumSt}
    (h : ((scanNum .start s).2.1 == s && (scanNum .start s).2.2.isEmpty &&
      ((scanNum .start s).1 == a || (scanNum .start s).1 == b)) = true) :
    ∃ st, scanNum .start s = (st, s, []) ∧ (st = a ∨ st = b) := by
  simp only [Bool.and_eq_true, beq_iff_eq, Bool.or_eq_true, List.isEmpty_iff] at h
  obtain ⟨⟨h1, h2⟩, h3⟩ := h
  refine ⟨(scanNum .start s).1, ?_, h3⟩
  show ((scanNum .start s).1, (scanNum .start s).2.1, (scanNum .start s).2.2) = _
  rw [h1, h2]

theorem lexNumber_int (s R : List Char) (h : validInt s = true) (hR : numFollowOK R = true) :
    lexNumber (s ++ R) = some (.int (String.ofList s), R) := by
  obtain ⟨st, hsc, hst⟩ := scanNum_exact h
  unfold lexNumber
  rw [scanNum_valid s R st hsc (by rcases hst with rfl | rfl <;> simp) hR]
  rcases hst with rfl | rfl <;> simp [hR]

theorem lexNumber_float (s R : List Char) (h : validFloat s = true) (hR : numFollowOK R = true) :
    lexNumber (s ++ R) = some (.float (String.ofList s), R) := by
  obtain ⟨st, hsc, hst⟩ := scanNum_exact h
  unfold lexNumber
  rw [scanNum_valid s R st hsc (by rcases hst with rfl | rfl <;> simp) hR]
  rcases hst with rfl | rfl <;> simp [hR]

theorem scanNum_head (s : List Char) (st' : NumSt) (hsc : scanNum .start s = (st', s, []))
    (hacc : st' ≠ .start) : ∃ c cs, s = c :: cs ∧ (c = '-' ∨ isDigit c = true) := by
  cases s with
  | nil => simp [scanNum] at hsc; exact absurd hsc.symm hacc
  | cons c cs =>
    refine ⟨c, cs, rfl, ?_⟩
    simp only [scanNum] at hsc
    cases hstep : numStep .start c with
    | none => simp [hstep] at hsc
    | some st1 =>
      simp only [numStep] at hstep
      by_cases h1 : c = '-'
      · left; exact h1
      · right
        by_cases h2 : c = '0'
        · subst h2; decide
        · by_cases h3 : isDigit c = true
          · exact h3
          · simp [h1, h2, h3] at hstep

theorem quotedRest_of_run (lit R : List Char) : ∀ (st : St) (v : List Char), quotedRun st lit = some v →
    quotedRest st (lit ++ R) = some (v, R) := by
  induction lit with
  | nil => intro st v h; simp [quotedRun] at h
  | cons c cs ih =>
    intro st v h
    simp only [quotedRun] at h
    simp only [List.cons_append, quotedRest]
    cases hstep : step st c with
    | fail => simp [hstep] at h
    | close =>
      simp only [hstep] at h
      cases cs with
      | nil => simp at h; subst h; rfl
      | cons d ds => simp at h
    | go out st' =>
      simp only [hstep, Option.map_eq_some_iff] at h
      obtain ⟨w, hw, rfl⟩ := h
      simp [ih st' w hw]

theorem blockRaw_some_length (X : List Char) : ∀ p, blockRaw X = some p → 3 ≤ X.length := by
  fun_induction blockRaw X with
  | case1 rest => intro p _; simp only [List.length_cons]; omega
  | case2 rest ih => intro p _; simp only [List.length_cons]; omega
  | case3 c rest h1 h2 hs ih =>
    intro p h
    simp only [Option.map_eq_some_iff] at h
    obtain ⟨q, hq, _⟩ := h
    have := ih q hq
    simp; omega
  | case4 => intro p h; simp at h
  | case5 => intro p h; simp at h

theorem doubleQ_append (X R : List Char) (h : 2 ≤ X.length) : doubleQ (X ++ R) = doubleQ X := by
  match X, h with
  | a :: b :: r, _ =>
    by_cases hq : a = '"' ∧ b = '"'
    · obtain ⟨rfl, rfl⟩ := hq
      rfl
    · rw [List.cons_append, List.cons_append, doubleQ.eq_2, doubleQ.eq_2] <;>
        exact fun _ e => hq ⟨(List.cons.inj e).1, (List.cons.inj (List.cons.inj e).2).1⟩

theorem tripleQ_append (X R : List Char) (h : 3 ≤ X.length) : tripleQ (X ++ R) = tripleQ X := by
  match X, h with
  | a :: b :: c :: r, _ =>
    by_cases hq : a = '"' ∧ b = '"' ∧ c = '"'
    · obtain ⟨rfl, rfl, rfl⟩ := hq
      rfl
    · rw [List.cons_append, List.cons_append, List.cons_append, tripleQ.eq_2, tripleQ.eq_2] <;>
        exact fun _ e => hq ⟨(List.cons.inj e).1, (List.cons.inj (List.cons.inj e).2).1,
          (List.cons.inj (List.cons.inj (List.cons.inj e).2).2).1⟩

theorem blockRaw_append (X R : List Char) : ∀ (raw r : List Char), blockRaw X = some (raw, r) →
    blockRaw (X ++ R) = some (raw, r ++ R) := by
  fun_induction blockRaw X with
  | case1 rest =>
    intro raw r h
    simp only [Option.some.injEq, Prod.mk.injEq] at h
    obtain ⟨rfl, rfl⟩ := h
    simp [blockRaw]
  | case2 rest ih =>
    intro raw r h
    simp only [Option.map_eq_some_iff] at h
    obtain ⟨⟨a, b⟩, hab, he⟩ := h
    simp only [Prod.mk.injEq] at he
    obtain ⟨rfl, rfl⟩ := he
    have := ih a b hab
    simp [blockRaw, this]
  | case3 c rest h1 h2 hs ih =>
    intro raw r h
    simp only [Option.map_eq_some_iff] at h
    obtain ⟨⟨a, b⟩, hab, he⟩ := h
    simp only [Prod.mk.injEq] at he
    obtain ⟨rfl, rfl⟩ := he
    have hrec := ih a b hab
    have hlen := blockRaw_some_length rest _ hab
    rw [List.cons_append]
    by_cases hq : c = '"'
    · subst hq
      have hd : doubleQ rest = false := by
        unfold doubleQ
        split
        · rename_i r' ; exact absurd rfl (fun e => h1 r' rfl e)
        · rfl
      rw [blockRaw_quote _ (by rw [doubleQ_append _ _ (by omega)]; exact hd), hrec]
      rfl
    · by_cases hb : c = '\\'
      · subst hb
        have ht : tripleQ rest = false := by
          unfold tripleQ
          split
          · rename_i r'; exact absurd rfl (fun e => h2 r' rfl e)
          · rfl
        rw [blockRaw_backslash _ (by rw [tripleQ_append _ _ hlen]; exact ht), hrec]
        rfl
      · rw [blockRaw_plain c _ hq hb hs, hrec]
        rfl
  | case4 => intro raw r h; simp at h
  | case5 => intro raw r h; simp at h

/-- a literal that is exactly one string token is also found as the first token of a longer text, provided the text
    does not go on with another `"` (the lookahead restriction of the empty string `""`) -/
theorem lexString_of_decode (lit R : List Char) (v : List Char) (h : decodeStringLiteral lit = some v)
    (hR : strFollowOK R = true) : ∃ cs, lit = '"' :: cs ∧ lexString (cs ++ R) = some (v, R) := by
  unfold decodeStringLiteral at h
  split at h
  · rename_i rest
    refine ⟨'"' :: '"' :: rest, rfl, ?_⟩
    cases hb : blockRaw rest with
    | none => simp [hb] at h
    | some p =>
      obtain ⟨raw, r⟩ := p
      cases r with
      | cons x xs => simp [hb] at h
      | nil =>
        simp only [hb, Option.some.injEq] at h
        subst h
        have := blockRaw_append rest R raw [] hb
        simp [lexString, this]
  · rename_i rest hne
    refine ⟨rest, rfl, ?_⟩
    have hq := quotedRest_of_run rest R .normal v h
    unfold lexString
    split
    · rename_i r heq
      -- rest ++ R starts with two quotes: then rest = ["\""] and R starts with a quote, or rest starts with two quotes
      cases rest with
      | nil => simp [quotedRun] at h
      | cons a as =>
        simp only [List.cons_append, List.cons.injEq] at heq
        obtain ⟨rfl, heq⟩ := heq
        cases as with
        | nil =>
          simp only [List.nil_append] at heq
          subst heq
          simp [strFollowOK] at hR
        | cons b bs =>
          simp only [List.cons_append, List.cons.injEq] at heq
          obtain ⟨rfl, _⟩ := heq
          cases bs with
          | nil => simp [quotedRun, step] at h
          | cons d ds =>
            exfalso
            simp [quotedRun, step] at h
    · exact hq
  · simp at h

end NitroVerif.C16
