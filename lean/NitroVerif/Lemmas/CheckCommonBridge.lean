/-
`Model/CheckCommon.lean` (used by the operation checker, with variable definitions in scope) and `Model/CheckTsCommon.lean`
(used by the type-system checker, `variables = None`) both model `check_value`, `check_arguments` and `check_directives` of
`crates/checker/src/common.rs`, written in different styles: the first through `namedLeaf`/`leafCompat`/`objResult` and
seen-lists that grow at the end, the second as one flat `match` and seen-lists that grow at the front.  They are one
function: the second is the first at `vars = none`, each diagnostic keeping its position and having its kind renamed (`tsErr`).
Both are model files (each tied to the code by its own check, with its own `ErrKind`: generated from error.rs for the
first, written out for the second), so a change of common.rs is followed in both, and this file shows that they still agree.
-/
import NitroVerif.Lemmas.CheckOpValueParts
import NitroVerif.Lemmas.SchemaFacts
import NitroVerif.Model.CheckTs
namespace NitroVerif.CheckCommon
open NitroVerif.Gql

/-- the kinds `common.rs` reports, as the type-system checker's model names them -/
def tsKind : NitroVerif.ErrKind → CheckTs.ErrKind
  | .UnknownDirective => .UnknownDirective
  | .DirectiveLocationNotAllowed => .DirectiveLocationNotAllowed
  | .RepeatedDirective => .RepeatedDirective
  | .ArgumentsNotNeeded => .ArgumentsNotNeeded
  | .RequiredArgumentNotSpecified => .RequiredArgumentNotSpecified
  | .TypeMismatch => .TypeMismatch
  | .UnknownVariable => .UnknownVariable
  | .UnknownEnumMember => .UnknownEnumMember
  | .UnknownArgument => .UnknownArgument
  | .DuplicatedName => .DuplicatedName
  | _ => .TypeSystemError

/-- a diagnostic of the shared model as the type-system checker's model reports it: same position, kind renamed -/
def tsErr (d : Diag) : CheckTs.Err := (tsKind d.1, d.2)

theorem map_tsErr_unless (c : Bool) (k : NitroVerif.ErrKind) (p : Pos) :
    (if c then [] else [(k, p)] : List Diag).map tsErr = if c then [] else [(tsKind k, p)] := by
  cases c <;> rfl

theorem map_tsErr_when (c : Bool) (k : NitroVerif.ErrKind) (p : Pos) :
    (if c then [(k, p)] else [] : List Diag).map tsErr = if c then [(tsKind k, p)] else [] := by
  cases c <;> rfl

/-! ### the helpers on types and scalars exist twice -/

theorem stripNN_eq (t : GType) : CheckTs.stripNN t = stripNonNull t := by
  induction t with
  | named n p => rfl
  | list t p _ => rfl
  | nonNull t ih => simpa only [CheckTs.stripNN, stripNonNull] using ih

theorem namedPos_eq (t : GType) : CheckTs.namedPos t = (baseNamed t).2 := by
  induction t with
  | named n p => rfl
  | list t p ih => simpa only [CheckTs.namedPos, baseNamed] using ih
  | nonNull t ih => simpa only [CheckTs.namedPos, baseNamed] using ih

theorem scalarAccepts_eq (n : Name) (v : Value) : CheckTs.scalarAccepts n v = scalarAccepts n v := by
  unfold CheckTs.scalarAccepts scalarAccepts
  cases v <;> rfl

/-! ### leaves -/

/-- `namedLeaf`, with the two-step `leafCompat` + "`TypeMismatch` unless compatible" resolved per kind of type: the shape in
    which the type-system copy writes every leaf case -/
theorem namedLeaf_map (S : Schema) (v : Value) (n : Name) (np : Pos) :
    (namedLeaf S v n np).map tsErr =
      match S.typeDef? n with
      | none => [(.TypeSystemError, np)]
      | some td =>
        match td.kind with
        | .scalar => if scalarAccepts td.name v then [] else [(.TypeMismatch, v.pos)]
        | .enum => (match v with
          | .null _ => []
          | .enum m p => if td.values.all (·.name != m) then [(.UnknownEnumMember, p)] else []
          | _ => [(.TypeMismatch, v.pos)])
        | .input => (match v with | .null _ => [] | _ => [(.TypeMismatch, v.pos)])
        | _ => [(.TypeMismatch, v.pos)] := by
  unfold namedLeaf
  cases S.typeDef? n with
  | none => rfl
  | some td =>
    obtain ⟨kind, _, _, _, _, _, _, _, values, _, _⟩ := td
    simp only [leafCompat]
    cases kind
    case scalar => exact map_tsErr_unless ..
    case enum =>
      cases v
      case enum m p => simp only [if_true, List.append_nil]; exact map_tsErr_when ..
      all_goals rfl
    case input => cases v <;> rfl
    all_goals rfl

/-- a literal that is neither a variable, `null`, a list, an object nor an enum value is checked against the innermost
    named type -/
theorem leaf_bridge (S : Schema) (v : Value) (ty : GType) (hn : ∀ p, v ≠ .null p) (he : ∀ m p, v ≠ .enum m p) :
    (match S.typeDef? ty.unwrapped with
      | none => [(CheckTs.ErrKind.TypeSystemError, CheckTs.namedPos ty)]
      | some td =>
        match td.kind with
        | .scalar => if CheckTs.scalarAccepts td.name v then [] else [(CheckTs.ErrKind.TypeMismatch, v.pos)]
        | _ => [(CheckTs.ErrKind.TypeMismatch, v.pos)]) =
    (namedLeaf S v (baseNamed ty).1 (baseNamed ty).2).map tsErr := by
  rw [namedLeaf_map, CheckCommon.baseNamed_fst, namedPos_eq]
  cases S.typeDef? ty.unwrapped with
  | none => rfl
  | some td =>
    obtain ⟨kind, _, _, _, _, _, _, _, values, _, _⟩ := td
    cases kind <;> simp only [scalarAccepts_eq]
    all_goals (cases v <;> first | rfl | exact absurd rfl (hn _) | exact absurd rfl (he _ _))

/-! ### input objects -/

theorem fieldOutcome_diags (r : Option (List Diag)) (f : InputValueDef) : (fieldOutcome r f).diags = r.getD [] := by
  unfold fieldOutcome
  cases r with
  | some ds => rfl
  | none => simp only; split <;> rfl

/-- `res && !(seen_fields < value.fields.len())`: the shared model folds it from the per-field outcomes, the type-system copy
    states it over the field names -/
theorem objShapeOk_eq (S : Schema) (vars : Option (List VarDef)) (inputs : List InputValueDef)
    (fs : List (Name × Pos × Value)) :
    CheckTs.objShapeOk inputs fs =
      (let outcomes := inputs.map fun f => fieldOutcome (lookupField S vars fs f.name f.ty f.default.isSome) f
       outcomes.all (·.ok) && !((outcomes.filter (·.seen)).length < fs.length)) := by
  have hc : ∀ n : Name, (fs.map (·.1)).contains n = fs.any (·.1 == n) := fun n => by
    rw [List.contains_eq_any_beq, List.any_map]
    exact congrArg _ (funext fun x => BEq.comm)
  simp only [CheckTs.objShapeOk, CheckTs.InputValueDef.required, List.all_map, List.filter_map, List.length_map,
    Function.comp_def, CheckOp.fieldOutcome_ok, CheckOp.fieldOutcome_seen, hc]
  congr 1
  rw [List.all_eq_not_any_not]
  congr 2
  funext ef
  cases fs.any (·.1 == ef.name) <;> cases (ef.ty.isNonNull && ef.default.isNone) <;> rfl

/-! ### `check_value` -/

mutual
theorem checkValue_bridge (S : Schema) : ∀ (v : Value) (ty : GType) (ld : Bool),
    CheckTs.checkValue S v ty = (checkValue S none v ty ld).map tsErr
  | .var n p, ty, ld => by
    simp only [CheckTs.checkValue, checkValue, varCheck, varDef?, Option.getD_none, List.find?_nil]
    rfl
  | .null p, ty, ld => by
    simp only [CheckTs.checkValue, checkValue, Value.isNull, if_true, stripNN_eq]
    split
    · rfl
    · cases stripNonNull ty with
      | named n np =>
        simp only [namedLeaf_map]
        cases S.typeDef? n with
        | none => rfl
        | some td =>
          obtain ⟨kind, _, _, _, _, _, _, _, values, _, _⟩ := td
          cases kind <;> simp only [CheckOp.scalarAccepts_null, if_true] <;> rfl
      | list _ _ => rfl
      | nonNull _ => rfl
  | .list vs p, ty, ld => by
    simp only [CheckTs.checkValue, checkValue, stripNN_eq]
    cases stripNonNull ty with
    | list inner _ => exact checkValueList_bridge S vs inner
    | named n np =>
      simp only [namedLeaf_map]
      cases S.typeDef? n with
      | none => rfl
      | some td =>
        obtain ⟨kind, _, _, _, _, _, _, _, values, _, _⟩ := td
        -- a scalar looks at the constructor of the literal only
        cases kind <;> simp only [scalarAccepts_eq] <;> rfl
    | nonNull _ => rfl
  | .obj fs p, ty, ld => by
    simp only [CheckTs.checkValue, checkValue, CheckCommon.baseNamed_fst, namedPos_eq]
    cases S.typeDef? ty.unwrapped with
    | none => rfl
    | some td =>
      obtain ⟨kind, _, name, _, _, _, _, _, values, inputs, _⟩ := td
      cases kind
      case input =>
        have hb : (TypeKind.input == TypeKind.input) = true := rfl
        simp only [hb, if_true, objResult, List.map_append, List.flatMap_map, List.map_flatMap, fieldOutcome_diags,
          fun ef : InputValueDef => checkFieldFind_bridge S fs ef.name ef.ty ef.default.isSome,
          objShapeOk_eq S none inputs fs]
        congr 1
        exact (map_tsErr_unless _ .TypeMismatch p).symm
      case scalar =>
        have hb : (TypeKind.scalar == TypeKind.input) = false := rfl
        simp only [hb, Bool.false_eq_true, if_false, leafCompat, List.nil_append, scalarAccepts_eq]
        -- a scalar looks at the constructor of the literal only
        exact (map_tsErr_unless (scalarAccepts name (.obj fs p)) .TypeMismatch p).symm
      all_goals rfl
  | .enum e p, ty, ld => by
    simp only [CheckTs.checkValue, checkValue, Value.isNull, Bool.false_eq_true, if_false]
    rw [namedLeaf_map, CheckCommon.baseNamed_fst, namedPos_eq]
    cases S.typeDef? ty.unwrapped with
    | none => rfl
    | some td =>
      obtain ⟨kind, _, _, _, _, _, _, _, values, _, _⟩ := td
      cases kind <;> simp only [scalarAccepts_eq] <;> rfl
  | .int s p, ty, ld => by
    simp only [CheckTs.checkValue, checkValue, Value.isNull, Bool.false_eq_true, if_false]
    exact leaf_bridge S _ ty (fun _ => nofun) (fun _ _ => nofun)
  | .float s p, ty, ld => by
    simp only [CheckTs.checkValue, checkValue, Value.isNull, Bool.false_eq_true, if_false]
    exact leaf_bridge S _ ty (fun _ => nofun) (fun _ _ => nofun)
  | .str s p, ty, ld => by
    simp only [CheckTs.checkValue, checkValue, Value.isNull, Bool.false_eq_true, if_false]
    exact leaf_bridge S _ ty (fun _ => nofun) (fun _ _ => nofun)
  | .bool s p, ty, ld => by
    simp only [CheckTs.checkValue, checkValue, Value.isNull, Bool.false_eq_true, if_false]
    exact leaf_bridge S _ ty (fun _ => nofun) (fun _ _ => nofun)
theorem checkValueList_bridge (S : Schema) : ∀ (vs : List Value) (ty : GType),
    CheckTs.checkValueList S vs ty = (checkValueList S none vs ty).map tsErr
  | [], _ => rfl
  | v :: vs, ty => by
    simp only [CheckTs.checkValueList, checkValueList, List.map_append, checkValue_bridge S v ty false,
      checkValueList_bridge S vs ty]
theorem checkFieldFind_bridge (S : Schema) : ∀ (fs : List (Name × Pos × Value)) (n : Name) (ty : GType) (ld : Bool),
    CheckTs.checkFieldFind S fs n ty = ((lookupField S none fs n ty ld).getD []).map tsErr
  | [], _, _, _ => rfl
  | (k, _, v) :: r, n, ty, ld => by
    simp only [CheckTs.checkFieldFind, lookupField]
    rw [show (k == n) = (n == k) from BEq.comm]
    cases n == k with
    | true => exact checkValue_bridge S v ty ld
    | false => exact checkFieldFind_bridge S r n ty ld
end

/-! ### `check_arguments` -/

/-- the duplicate-name scan: both models keep a list of the names seen so far, and only membership in it matters -/
theorem dupArgs_bridge : ∀ (args : List Arg) (seen seen' : List Name), (∀ n, n ∈ seen ↔ n ∈ seen') →
    CheckTs.loopSeen (·.1) (fun dup (a : Arg) => if dup then [(CheckTs.ErrKind.DuplicatedName, a.2.1)] else []) seen args =
      (dupArgsAux seen' args).map tsErr
  | [], _, _, _ => rfl
  | a :: as, seen, seen', h => by
    have hc : seen.contains a.1 = seen'.contains a.1 := by
      rw [Bool.eq_iff_iff, List.contains_iff_mem, List.contains_iff_mem]; exact h _
    have ih := dupArgs_bridge as (if seen.contains a.1 then seen else a.1 :: seen) (seen' ++ [a.1]) (fun n => by
      split
      · rename_i hs
        have hs' : a.1 ∈ seen := List.contains_iff_mem.mp hs
        simp only [List.mem_append, List.mem_cons, List.not_mem_nil, or_false, ← h]
        exact ⟨Or.inl, fun h' => h'.elim id (fun e => e ▸ hs')⟩
      · simp only [List.mem_cons, List.mem_append, List.not_mem_nil, or_false, ← h]; exact or_comm)
    simp only [CheckTs.loopSeen, dupArgsAux, List.map_append, ih]
    rw [hc]
    exact congrArg (· ++ _) (map_tsErr_when _ .DuplicatedName a.2.1).symm

theorem required_bridge (b : Bool) (d : Option Value) (p : Pos) :
    (if (b && d.isNone) = true then [(CheckTs.ErrKind.RequiredArgumentNotSpecified, p)] else []) =
      List.map tsErr (if (!b || d.isSome) = true then (([], false) : List Diag × Bool)
        else ([(ErrKind.RequiredArgumentNotSpecified, p)], false)).1 := by
  cases b <;> cases d <;> rfl

theorem checkArguments_bridge (S : Schema) (parentPos : Pos) (args : List Arg) (defs : List InputValueDef) :
    CheckTs.checkArguments S parentPos args defs = (checkArguments S none parentPos args defs).map tsErr := by
  have hc : ∀ n : Name, (args.map (·.1)).contains n = args.any (·.1 == n) := fun n => by
    rw [List.contains_eq_any_beq, List.any_map]
    exact congrArg _ (funext fun x => BEq.comm)
  have hfind : ∀ n : Name, args.find? (fun a => n == a.1) = args.find? (·.1 == n) := fun n =>
    congrArg (fun p => args.find? p) (funext fun x => BEq.comm)
  unfold CheckTs.checkArguments checkArguments
  split
  · split <;> rfl
  · simp only [List.map_append, ← dupArgs_bridge args [] [] (fun _ => Iff.rfl), CheckOp.seen_count, List.filter_map,
      List.length_map, Function.comp_def, hc]
    congr 1
    · congr 1
      unfold argOutcomes
      rw [List.flatMap_map, List.map_flatMap]
      refine congrArg (fun f => List.flatMap f defs) (funext fun ad => ?_)
      rw [hfind]
      cases args.find? (·.1 == ad.name) with
      | none => exact required_bridge ..
      | some a => exact checkValue_bridge S a.2.2 ad.ty ad.default.isSome
    · split
      · rw [List.map_map]; rfl
      · rfl

/-! ### `check_directives` -/

theorem checkDirectivesAux_bridge (S : Schema) (loc : String) : ∀ (ds : List Directive) (seen seen' : List Name),
    (∀ n, n ∈ seen ↔ n ∈ seen') →
    CheckTs.checkDirectivesAux S loc seen ds = (checkDirectivesAux S none loc seen' ds).map tsErr
  | [], _, _, _ => rfl
  | d :: ds, seen, seen', h => by
    have hc : seen.contains d.name = seen'.contains d.name := by
      rw [Bool.eq_iff_iff, List.contains_iff_mem, List.contains_iff_mem]; exact h _
    simp only [CheckTs.checkDirectivesAux, checkDirectivesAux, CheckTs.checkDirective]
    cases hd : S.directiveDef? d.name with
    | none =>
      -- an undefined directive is not recorded as seen
      simp only [Option.isSome_none, Bool.false_and, Bool.false_eq_true, if_false, List.map_cons]
      rw [checkDirectivesAux_bridge S loc ds seen seen' h]
      rfl
    | some dd =>
      have ih := checkDirectivesAux_bridge S loc ds (if seen.contains d.name then seen else d.name :: seen)
        (if seen'.contains d.name then seen' else seen' ++ [d.name]) (fun n => by
          rw [← hc]
          split
          · exact h n
          · simp only [List.mem_cons, List.mem_append, List.not_mem_nil, or_false, ← h]; exact or_comm)
      simp only [Option.isSome_some, Bool.true_and, List.map_append, checkArguments_bridge]
      cases hs : seen.contains d.name <;> have hs' := hc ▸ hs
      · simp only [hs, hs', Bool.false_eq_true, if_false, Bool.not_false, if_true, Bool.false_and] at ih ⊢
        rw [ih, map_tsErr_when]
        rfl
      · simp only [hs, hs', if_true, Bool.not_true, Bool.false_eq_true, if_false, Bool.true_and] at ih ⊢
        rw [ih, map_tsErr_when, map_tsErr_unless]
        cases dd.repeatable <;> rfl

theorem checkDirectives_bridge (S : Schema) (loc : String) (ds : List Directive) :
    CheckTs.checkDirectives S loc ds = (checkDirectives S none ds loc).map tsErr :=
  checkDirectivesAux_bridge S loc ds [] [] fun _ => Iff.rfl

end NitroVerif.CheckCommon
