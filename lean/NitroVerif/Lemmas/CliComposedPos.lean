/-
C18 composed (helper definitions and lemmas): the positions of the nodes of a document.

`Doc.positions D` / `TsDoc.positions T` list EVERY position the shared abstract syntax carries in a document — of every
definition, name, variable, type reference, value, argument, directive, selection, field definition, … at any depth.
"The reported position is a position of a node of the AST" is then `p ∈ Doc.positions D`; to let one induction serve
every use, the lemmas are stated for an arbitrary predicate `Q` on positions that holds of all positions of the inputs
(`Q := (· ∈ positions …)` gives "positions are not invented", `Q := "file index in range"` gives the hypothesis `WF`
of `C18_located`).
-/
import NitroVerif.Gql.Schema
namespace NitroVerif.Gql

def GType.positions : GType → List Pos
  | .named _ p => [p]
  | .list t p => p :: t.positions
  | .nonNull t => t.positions

mutual
def Value.positions : Value → List Pos
  | .var _ p | .int _ p | .float _ p | .str _ p | .bool _ p | .null p | .enum _ p => [p]
  | .list vs p => p :: Value.positionsList vs
  | .obj fs p => p :: Value.positionsFields fs
def Value.positionsList : List Value → List Pos
  | [] => []
  | v :: vs => v.positions ++ Value.positionsList vs
/-- also the positions of an argument list (`Arg = Name × Pos × Value`): the name's position and the value's -/
def Value.positionsFields : List (Name × Pos × Value) → List Pos
  | [] => []
  | (_, p, v) :: r => p :: (v.positions ++ Value.positionsFields r)
end

def Directive.positions (d : Directive) : List Pos := d.namePos :: d.pos :: Value.positionsFields d.args

def dirsPositions (ds : List Directive) : List Pos := ds.flatMap Directive.positions

def optNamePos : Option (Name × Pos) → List Pos
  | some (_, p) => [p]
  | none => []

mutual
def Selection.positions : Selection → List Pos
  | .field al _ namePos args dirs (some ss) =>
    optNamePos al ++ namePos :: (Value.positionsFields args ++ dirsPositions dirs ++ Selection.positionsList ss)
  | .field al _ namePos args dirs none =>
    optNamePos al ++ namePos :: (Value.positionsFields args ++ dirsPositions dirs)
  | .spread _ namePos dirs pos => namePos :: pos :: dirsPositions dirs
  | .inline cond dirs ss pos => optNamePos cond ++ pos :: (dirsPositions dirs ++ Selection.positionsList ss)
def Selection.positionsList : List Selection → List Pos
  | [] => []
  | s :: ss => s.positions ++ Selection.positionsList ss
end

def optValuePositions : Option Value → List Pos
  | some v => v.positions
  | none => []

def VarDef.positions (v : VarDef) : List Pos :=
  v.pos :: (v.ty.positions ++ optValuePositions v.default ++ dirsPositions v.dirs)

def OperationDef.positions (o : OperationDef) : List Pos :=
  o.pos :: (optNamePos o.name ++ o.vars.flatMap VarDef.positions ++ dirsPositions o.dirs ++
    Selection.positionsList o.sel)

def FragmentDef.positions (f : FragmentDef) : List Pos :=
  f.namePos :: f.condPos :: f.pos :: (dirsPositions f.dirs ++ Selection.positionsList f.sel)

def ImportDef.positions (i : ImportDef) : List Pos := i.pos :: i.targets.flatMap optNamePos

def ExecDef.positions : ExecDef → List Pos
  | .op o => o.positions
  | .frag f => f.positions
  | .imp i => i.positions

/-- every position carried by a node of an executable document -/
def Doc.positions (D : Doc) : List Pos := D.flatMap ExecDef.positions

def InputValueDef.positions (v : InputValueDef) : List Pos :=
  v.pos :: (v.ty.positions ++ optValuePositions v.default ++ dirsPositions v.dirs)

def FieldDef.positions (f : FieldDef) : List Pos :=
  f.pos :: (f.args.flatMap InputValueDef.positions ++ f.ty.positions ++ dirsPositions f.dirs)

def EnumValueDef.positions (v : EnumValueDef) : List Pos := v.pos :: dirsPositions v.dirs

def TypeDef.positions (t : TypeDef) : List Pos :=
  t.namePos :: t.pos :: (t.implements.map (·.2) ++ dirsPositions t.dirs ++ t.fields.flatMap FieldDef.positions ++
    t.members.map (·.2) ++ t.values.flatMap EnumValueDef.positions ++ t.inputs.flatMap InputValueDef.positions)

def DirectiveDef.positions (d : DirectiveDef) : List Pos :=
  d.namePos :: d.pos :: d.args.flatMap InputValueDef.positions

def SchemaDef.positions (s : SchemaDef) : List Pos := s.pos :: (dirsPositions s.dirs ++ s.roots.map (·.2.2))

def TsItem.positions : TsItem → List Pos
  | .schemaDef s | .schemaExt s => s.positions
  | .typeDef t | .typeExt t => t.positions
  | .directiveDef d => d.positions

/-- every position carried by a node of a type-system document -/
def TsDoc.positions (T : TsDoc) : List Pos := T.flatMap TsItem.positions

theorem Value.pos_mem_positions (v : Value) : v.pos ∈ v.positions := by
  cases v <;> simp [Value.pos, Value.positions]

theorem GType.positions_ne_nil (t : GType) : t.positions ≠ [] := by
  induction t with
  | named n p => simp [GType.positions]
  | list t p _ => simp [GType.positions]
  | nonNull t ih => simpa [GType.positions] using ih

end NitroVerif.Gql
