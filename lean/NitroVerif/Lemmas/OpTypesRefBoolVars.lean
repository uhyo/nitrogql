/-
`check_skip_directive` under a branch's assignment decides the specification's `@skip`/`@include` test under every σ that
reads the assignment (`checkSkip_reads`), and succeeds when the `if` arguments are there and the variables are in the
assignment.  `get_boolean_variables` (`boolVarsGo`) succeeds on selection sets without fragment cycles and with defined
spreads (`fitsS`) and collects the variable of every `@skip`/`@include` reachable through inline fragments and spreads
(`RD`).  The no-panic argument needs of it only that it succeeds on every selection set the printer is called on:
`BVClosed`, a family of selection sets closed under the printer's recursion — here the family "expanded size within the
fuel" (`bvClosed_esz`), in Lemmas/OpTypesClosedDoc.lean the selection sets of a document.
-/
import NitroVerif.Lemmas.OpTypesRefFuel
namespace NitroVerif.OpTypes
open NitroVerif.Gql NitroVerif.Ts

/-- the value of the `if` argument under which the directive excludes its selection (`@skip`: true, `@include`: false) -/
def exclAt (d : Directive) : Option Bool :=
  if d.name == "skip" then some true else if d.name == "include" then some false else none

/-- the `if` argument under the branch's assignment: `none` where the code panics (no argument, a variable that is not
    assigned), `some none` for an argument that is neither a variable nor a Boolean literal -/
def ifValue (vars : List (Name × Bool)) (d : Directive) : Option (Option Bool) :=
  match ifArg d with
  | none => none
  | some (.var v _) => (vars.find? (·.1 == v)).map fun x => some x.2
  | some (.bool b _) => some (some b)
  | some _ => some none

theorem checkSkip_cons (vars : List (Name × Bool)) (d : Directive) (ds : List Directive) :
    checkSkip vars (d :: ds) = match exclAt d with
      | none => checkSkip vars ds
      | some p => match ifValue vars d with
        | none => .error .typeSystemError
        | some b => if b = some p then .ok true else checkSkip vars ds := by
  rw [checkSkip]
  unfold exclAt ifValue
  by_cases hs : (d.name == "skip") = true
  · simp only [hs, ↓reduceIte]
    cases ifArg d with
    | none => rfl
    | some a =>
      cases a with
      | var v p => simp only; cases vars.find? (·.1 == v) with
        | none => rfl
        | some x => obtain ⟨k, b⟩ := x; cases b <;> rfl
      | bool b p => cases b <;> rfl
      | _ => rfl
  · by_cases hi : (d.name == "include") = true
    · simp only [hs, hi, Bool.false_eq_true, ↓reduceIte]
      cases ifArg d with
      | none => rfl
      | some a =>
        cases a with
        | var v p => simp only; cases vars.find? (·.1 == v) with
          | none => rfl
          | some x => obtain ⟨k, b⟩ := x; cases b <;> rfl
        | bool b p => cases b <;> rfl
        | _ => rfl
    · simp only [hs, hi, Bool.false_eq_true, ↓reduceIte]

theorem dirIf_of_ifValue {σ : Exec.Sigma} {vars : List (Name × Bool)}
    (hσ : ∀ v k b, vars.find? (·.1 == v) = some (k, b) → σ v = b) {d : Directive} {b : Option Bool}
    (h : ifValue vars d = some b) : Exec.dirIf σ d = b := by
  unfold ifValue ifArg at h
  unfold Exec.dirIf
  cases hf : d.args.find? (·.1 == "if") with
  | none => simp [hf] at h
  | some a =>
    obtain ⟨an, ap, av⟩ := a
    simp only [hf, Option.map_some] at h
    cases av with
    | var v p =>
      cases hv : vars.find? (·.1 == v) with
      | none => simp [hv] at h
      | some x =>
        obtain ⟨k, b'⟩ := x
        simp only [hv, Option.map_some, Option.some.injEq] at h
        simp only [hσ v k b' hv, h]
    | bool bv p => simpa using h
    | _ => simpa using h

theorem checkSkip_reads {σ : Exec.Sigma} {vars : List (Name × Bool)}
    (hσ : ∀ v k b, vars.find? (·.1 == v) = some (k, b) → σ v = b) : ∀ (ds : List Directive) (b : Bool),
    checkSkip vars ds = .ok b → b = !Exec.included σ ds
  | [], b, h => by simp only [checkSkip] at h; cases h; rfl
  | d :: ds, b, h => by
    have hinc : Exec.included σ (d :: ds) = ((match exclAt d with
        | none => true | some p => Exec.dirIf σ d != some p) && Exec.included σ ds) := by
      simp only [Exec.included, List.all_cons, exclAt]
      split
      · rfl
      · split <;> rfl
    rw [checkSkip_cons] at h
    rw [hinc]
    cases he : exclAt d with
    | none => simp only [he] at h; simpa using checkSkip_reads hσ ds b h
    | some p =>
      simp only [he] at h ⊢
      cases hv : ifValue vars d with
      | none => simp [hv] at h
      | some x =>
        simp only [hv] at h
        rw [dirIf_of_ifValue hσ hv]
        by_cases hx : x = some p
        · simp only [hx, ↓reduceIte] at h ⊢; cases h; simp
        · simp only [hx, ↓reduceIte] at h ⊢
          rw [checkSkip_reads hσ ds b h]; simp [hx]

end NitroVerif.OpTypes

namespace NitroVerif.OpTypes.Ref
open NitroVerif.Gql NitroVerif.Ts NitroVerif.Exec NitroVerif.OpTypes

/-- directive lists of the selections reachable from a selection set (never entering a fragment of `V`) -/
inductive RD (F : FragMap) (V : List Name) : List Selection → List Directive → Prop where
  | here {s rest} : RD F V (s :: rest) (Selection.dirs s)
  | inline {cond ds ss p rest d} : RD F V ss d → RD F V (.inline cond ds ss p :: rest) d
  | spread {nm np ds p rest f d} : nm ∉ V → F nm = some f → RD F V f.sel d → RD F V (.spread nm np ds p :: rest) d
  | tail {s rest d} : RD F V rest d → RD F V (s :: rest) d

section
variable {F : FragMap}

theorem rd_nil {V : List Name} {d : List Directive} : ¬ RD F V [] d := by intro h; cases h

theorem rd_append {V : List Name} {a b : List Selection} {d : List Directive} :
    RD F V (a ++ b) d ↔ RD F V a d ∨ RD F V b d := by
  induction a with
  | nil => simp [rd_nil]
  | cons s a ih =>
    constructor
    · intro h
      rw [List.cons_append] at h
      cases h with
      | here => exact Or.inl .here
      | inline h1 => exact Or.inl (.inline h1)
      | spread h1 h2 h3 => exact Or.inl (.spread h1 h2 h3)
      | tail hr =>
        rcases ih.1 hr with h | h
        · exact Or.inl (.tail h)
        · exact Or.inr h
    · rintro (h | h)
      · rw [List.cons_append]
        cases h with
        | here => exact .here
        | inline h1 => exact .inline h1
        | spread h1 h2 h3 => exact .spread h1 h2 h3
        | tail hr => exact .tail (ih.2 (Or.inl hr))
      · rw [List.cons_append]; exact .tail (ih.2 (Or.inr h))

theorem rd_mono {V V' : List Name} (hV : ∀ x ∈ V, x ∈ V') {ss : List Selection} {d : List Directive}
    (h : RD F V' ss d) : RD F V ss d := by
  induction h with
  | here => exact .here
  | inline _ ih => exact .inline ih
  | spread hv hf _ ih => exact .spread (fun hm => hv (hV _ hm)) hf ih
  | tail _ ih => exact .tail ih

theorem rd_split {V V' : List Name} (nm : Name) (hV' : ∀ x, x ∈ V' ↔ x = nm ∨ x ∈ V) {ss : List Selection}
    {d : List Directive} (h : RD F V ss d) : RD F V' ss d ∨ ∃ f, F nm = some f ∧ RD F V' f.sel d := by
  induction h with
  | here => exact Or.inl .here
  | inline _ ih =>
    rcases ih with h | h
    · exact Or.inl (.inline h)
    · exact Or.inr h
  | @spread m np ds p rest f d hv hf _ ih =>
    rcases ih with h | h
    · by_cases hm : m = nm
      · subst hm; exact Or.inr ⟨f, hf, h⟩
      · exact Or.inl (.spread (by rw [hV']; simp [hm, hv]) hf h)
    · exact Or.inr h
  | tail _ ih =>
    rcases ih with h | h
    · exact Or.inl (.tail h)
    · exact Or.inr h

theorem rd_cons_iff {V : List Name} {s : Selection} {rest : List Selection} {d : List Directive} :
    RD F V (s :: rest) d ↔ RD F V [s] d ∨ RD F V rest d :=
  rd_append (a := [s])

theorem rd_single {V : List Name} {s : Selection} {d : List Directive} :
    RD F V [s] d ↔ d = Selection.dirs s ∨ match s with
      | .inline _ _ ss _ => RD F V ss d
      | .spread nm _ _ _ => nm ∉ V ∧ ∃ f, F nm = some f ∧ RD F V f.sel d
      | .field .. => False := by
  constructor
  · intro h
    cases h with
    | here => exact Or.inl rfl
    | inline h1 => exact Or.inr h1
    | spread h1 h2 h3 => exact Or.inr ⟨h1, _, h2, h3⟩
    | tail hr => exact absurd hr rd_nil
  · rintro (rfl | h)
    · exact .here
    · cases s with
      | field => exact h.elim
      | inline => exact .inline h
      | spread => obtain ⟨h1, f, h2, h3⟩ := h; exact .spread h1 h2 h3

theorem rd_enter {seen : List Name} {nm : Name} {f : FragmentDef} (hF : F nm = some f) {rest : List Selection}
    {d : List Directive} : RD F (seen ++ [nm]) (f.sel ++ rest) d ↔ RD F seen f.sel d ∨ RD F seen rest d := by
  have up : ∀ {L : List Selection}, RD F (seen ++ [nm]) L d → RD F seen L d :=
    rd_mono fun x hx => List.mem_append.2 (Or.inl hx)
  have down : ∀ {L : List Selection}, RD F seen L d → RD F (seen ++ [nm]) L d ∨ RD F (seen ++ [nm]) f.sel d := by
    intro L h
    rcases rd_split (V' := seen ++ [nm]) nm (fun x => by simp only [List.mem_append, List.mem_singleton]; exact Or.comm) h with
      h | ⟨f', hf', h⟩
    · exact Or.inl h
    · rw [hF] at hf'; cases hf'; exact Or.inr h
  rw [rd_append]
  constructor
  · exact Or.imp up up
  · rintro (h | h)
    · exact Or.inl ((down h).elim id id)
    · exact (down h).symm

theorem boolVarsGo_spec (n : Nat) : ∀ (L : List Selection) (seen acc r : List Name),
    boolVarsGo F n L seen acc = .ok r → ∀ v, v ∈ r ↔ v ∈ acc ∨ ∃ d, RD F seen L d ∧ v ∈ dirVars d := by
  induction n with
  | zero =>
    intro L seen acc r h v
    cases L with
    | nil => simp only [boolVarsGo] at h; cases h; simp [rd_nil]
    | cons _ _ => simp [boolVarsGo] at h
  | succ n ih =>
    intro L seen acc r h v
    cases L with
    | nil => simp only [boolVarsGo] at h; cases h; simp [rd_nil]
    | cons s rest =>
      -- the run continues with `L'` and `seen'`, which reach what `s :: rest` reaches besides the directives of `s`
      have step : ∀ {L' : List Selection} {seen' : List Name},
          boolVarsGo F n L' seen' (acc ++ dirVars (Selection.dirs s)) = .ok r →
          (∀ d, RD F seen (s :: rest) d ↔ d = Selection.dirs s ∨ RD F seen' L' d) →
          (v ∈ r ↔ v ∈ acc ∨ ∃ d, RD F seen (s :: rest) d ∧ v ∈ dirVars d) := by
        intro L' seen' h hiff
        rw [ih L' seen' _ r h v, List.mem_append]
        simp only [hiff, or_and_right, exists_or, exists_eq_left, or_assoc]
      simp only [boolVarsGo] at h
      cases s with
      | field => exact step h fun d => by rw [rd_cons_iff, rd_single]; simp
      | inline cond ds ss p => exact step h fun d => by rw [rd_cons_iff, rd_single, rd_append]; simp [or_assoc]
      | spread nm np ds p =>
        simp only at h
        by_cases hs : seen.contains nm = true
        · simp only [hs, ↓reduceIte] at h
          have hs' : nm ∈ seen := by simpa using hs
          exact step h fun d => by rw [rd_cons_iff, rd_single]; simp [hs']
        · have hs' : nm ∉ seen := by simpa using hs
          simp only [hs, Bool.false_eq_true, ↓reduceIte] at h
          cases hF : F nm with
          | none => simp [hF] at h
          | some f =>
            simp only [hF] at h
            exact step h fun d => by rw [rd_cons_iff, rd_single, rd_enter hF]; simp [hs', hF, or_assoc]

theorem boolVars_complete {fuel : Nat} {ss : List Selection} {vars : List Name} (h : boolVars F fuel ss = .ok vars)
    {d : List Directive} (hd : RD F [] ss d) {v : Name} (hv : v ∈ dirVars d) : v ∈ vars := by
  obtain ⟨l, hg, rfl⟩ := boolVars_inv h
  rw [List.mem_eraseDups]
  exact (boolVarsGo_spec fuel ss [] [] l hg v).2 (Or.inr ⟨d, hd, hv⟩)

/-- `fits` and every reachable spread is defined -/
def fitsS (F : FragMap) : Nat → Selection → Bool
  | 0, _ => false
  | _ + 1, .field _ _ _ _ _ none => true
  | D + 1, .field _ _ _ _ _ (some ss) => ss.all (fitsS F D)
  | D + 1, .inline _ _ ss _ => ss.all (fitsS F D)
  | D + 1, .spread nm _ _ _ =>
    match F nm with
    | some f => f.sel.all (fitsS F D)
    | none => false

theorem fitsS_succ_eq (D : Nat) (s : Selection) :
    fitsS F (D + 1) s = ((match s with | .spread nm _ _ _ => (F nm).isSome | _ => true) && (kids F s).all (fitsS F D)) := by
  cases s with
  | field _ _ _ _ _ sub => cases sub <;> rfl
  | inline => rfl
  | spread nm => simp only [fitsS, kids]; cases F nm <;> rfl

theorem fitsS_fits : ∀ (D : Nat) (s : Selection), fitsS F D s = true → fits F D s = true
  | 0, _, h => by simp [fitsS] at h
  | D + 1, s, h => by
    rw [fitsS_succ_eq, Bool.and_eq_true, List.all_eq_true] at h
    rw [fits_succ, List.all_eq_true]
    exact fun x hx => fitsS_fits D x (h.2 x hx)

theorem fitsS_succ : ∀ (D : Nat) (s : Selection), fitsS F D s = true → fitsS F (D + 1) s = true
  | 0, _, h => by simp [fitsS] at h
  | D + 1, s, h => by
    rw [fitsS_succ_eq, Bool.and_eq_true, List.all_eq_true] at h ⊢
    exact ⟨h.1, fun x hx => fitsS_succ D x (h.2 x hx)⟩

theorem fitsS_kids {D : Nat} {s : Selection} (h : fitsS F D s = true) : ∀ x ∈ kids F s, fitsS F D x = true := by
  cases D with
  | zero => simp [fitsS] at h
  | succ D =>
    rw [fitsS_succ_eq, Bool.and_eq_true, List.all_eq_true] at h
    exact fun x hx => fitsS_succ D x (h.2 x hx)

theorem fitsS_kids_lt {D : Nat} {s : Selection} (h : fitsS F D s = true) :
    ∃ D', D = D' + 1 ∧ ∀ x ∈ kids F s, fitsS F D' x = true := by
  cases D with
  | zero => simp [fitsS] at h
  | succ D =>
    rw [fitsS_succ_eq, Bool.and_eq_true, List.all_eq_true] at h
    exact ⟨D, rfl, h.2⟩

theorem fitsS_defined {D : Nat} {nm : Name} {np : Pos} {ds : List Directive} {p : Pos}
    (h : fitsS F D (.spread nm np ds p) = true) : ∃ f, F nm = some f := by
  cases D with
  | zero => simp [fitsS] at h
  | succ D => cases hF : F nm with
    | none => simp [fitsS, hF] at h
    | some f => exact ⟨f, rfl⟩

theorem boolVarsGo_ok (D : Nat) (n : Nat) : ∀ (L : List Selection) (seen acc : List Name),
    (∀ s ∈ L, fitsS F D s = true) → eszL F D L ≤ n → ∃ r, boolVarsGo F n L seen acc = .ok r := by
  induction n with
  | zero =>
    intro L seen acc _ hn
    cases L with
    | nil => exact ⟨acc, by simp [boolVarsGo]⟩
    | cons s rest => rw [eszL_cons] at hn; have := esz_pos F D s; omega
  | succ n ih =>
    intro L seen acc hfit hn
    cases L with
    | nil => exact ⟨acc, by simp [boolVarsGo]⟩
    | cons s rest =>
      rw [eszL_cons] at hn
      have hrest : ∀ s' ∈ rest, fitsS F D s' = true := fun s' hs' => hfit s' (List.mem_cons_of_mem _ hs')
      have hs := hfit s (by simp)
      have hsz := (fits_kids (fitsS_fits D s hs)).2
      have skip : ∀ seen' acc', ∃ r, boolVarsGo F n rest seen' acc' = .ok r := fun seen' acc' =>
        ih rest seen' acc' hrest (by have := esz_pos F D s; omega)
      have enter : ∀ seen' acc', ∃ r, boolVarsGo F n (kids F s ++ rest) seen' acc' = .ok r := fun seen' acc' =>
        ih _ seen' acc' (fun x hx => (List.mem_append.1 hx).elim (fitsS_kids hs x) (hrest x))
          (by rw [eszL_append]; omega)
      simp only [boolVarsGo]
      cases s with
      | field => exact skip _ _
      | inline => exact enter _ _
      | spread nm np ds p =>
        simp only
        split
        · exact skip _ _
        · cases hF : F nm with
          | none => obtain ⟨f, hf⟩ := fitsS_defined hs; rw [hF] at hf; cases hf
          | some fd => have := enter (seen ++ [nm]) (acc ++ dirVars ds); simpa only [kids, hF, Option.map_some, Option.getD_some, Selection.dirs] using this

theorem boolVars_ok {D fuel : Nat} {ss : List Selection} (hfit : ∀ s ∈ ss, fitsS F D s = true)
    (hn : eszL F D ss ≤ fuel) : ∃ vars, boolVars F fuel ss = .ok vars := by
  obtain ⟨r, hr⟩ := boolVarsGo_ok D fuel ss [] [] hfit hn
  exact ⟨r.eraseDups, by simp [boolVars, hr, Except.map]⟩

end

/-- a `@skip`/`@include` has its `if` argument, and if that is a variable it is in the assignment -/
def IfOk (vars : List (Name × Bool)) (d : Directive) : Prop :=
  (exclAt d).isSome = true → (ifValue vars d).isSome = true

theorem checkSkip_ok (vars : List (Name × Bool)) : ∀ (ds : List Directive), (∀ d ∈ ds, IfOk vars d) →
    ∃ b, checkSkip vars ds = .ok b
  | [], _ => ⟨false, rfl⟩
  | d :: ds, h => by
    obtain ⟨b', hb'⟩ := checkSkip_ok vars ds (fun d' hd' => h d' (List.mem_cons_of_mem _ hd'))
    rw [checkSkip_cons, hb']
    cases he : exclAt d with
    | none => exact ⟨b', rfl⟩
    | some p =>
      cases hv : ifValue vars d with
      | none => have := h d (by simp) (by rw [he]; rfl); rw [hv] at this; cases this
      | some x => simp only; split <;> exact ⟨_, rfl⟩

theorem ifVariable_of_ifArg {d : Directive} {v : Name} {p : Pos} (h : ifArg d = some (.var v p)) :
    ifVariable d = some v := by
  unfold ifArg at h
  unfold ifVariable
  generalize d.args = args at h ⊢
  induction args with
  | nil => simp at h
  | cons a as ih =>
    simp only [List.find?_cons] at h
    simp only [List.findSome?_cons]
    by_cases ha : (a.1 == "if") = true
    · simp only [ha, Option.map_some, Option.some.injEq] at h
      have : (a.1 != "if") = false := by simp [bne, ha]
      simp only [this, Bool.false_eq_true, ↓reduceIte, h]
    · have ha' : (a.1 == "if") = false := by simpa using ha
      simp only [ha'] at h
      have : (a.1 != "if") = true := by simp [bne, ha']
      simp only [this, ↓reduceIte]
      exact ih h

theorem ifOk_of_boolVars {F : FragMap} {fuel : Nat} {ss : List Selection} {vars : List Name}
    (hbv : boolVars F fuel ss = .ok vars) {a : List (Name × Bool)} (ha : a.map (·.1) = vars)
    {ds : List Directive} (hrd : RD F [] ss ds) (hif : ∀ d ∈ ds, (d.name == "skip" || d.name == "include") = true →
      (ifArg d).isSome = true) : ∀ d ∈ ds, IfOk a d := by
  intro d hd he
  have hsi : (d.name == "skip" || d.name == "include") = true := by
    unfold exclAt at he
    by_cases hs : (d.name == "skip") = true
    · simp [hs]
    · by_cases hi : (d.name == "include") = true
      · simp [hi]
      · simp [hs, hi] at he
  have h1 := hif d hd hsi
  unfold ifValue
  cases harg : ifArg d with
  | none => rw [harg] at h1; cases h1
  | some x =>
    cases x with
    | var v p =>
      have hv : v ∈ dirVars ds := by
        simp only [dirVars, List.mem_filterMap]
        exact ⟨d, hd, by simp only [hsi, ↓reduceIte]; exact ifVariable_of_ifArg harg⟩
      have := boolVars_complete hbv hrd hv
      rw [← ha] at this
      obtain ⟨q, hq, hqv⟩ := List.mem_map.1 this
      cases hf : a.find? (·.1 == v) with
      | none => exact absurd (by simpa using hqv) (List.find?_eq_none.1 hf q hq)
      | some _ => simp only [hf]; rfl
    | _ => rfl

end NitroVerif.OpTypes.Ref

namespace NitroVerif.OpTypes.Closed
open NitroVerif.Gql NitroVerif.OpTypes NitroVerif.OpTypes.Ref

/-- a family of selection sets on which `get_boolean_variables` succeeds with fuel `mfuel`, closed under the recursion of
    the printer -/
structure BVClosed (F : FragMap) (mfuel : Nat) (BV : List Selection → Prop) : Prop where
  ok : ∀ ss, BV ss → ∃ vars, boolVars F mfuel ss = .ok vars
  field : ∀ {ss a n p args ds ss'}, BV ss → Selection.field a n p args ds (some ss') ∈ ss → BV ss'
  inline : ∀ {ss cond ds ss' p}, BV ss → Selection.inline cond ds ss' p ∈ ss → BV ss'
  spread : ∀ {ss nm np ds p fd}, BV ss → Selection.spread nm np ds p ∈ ss → F nm = some fd → BV fd.sel

theorem bvClosed_esz (F : FragMap) (mfuel : Nat) :
    BVClosed F mfuel fun ss => ∃ D, (∀ s ∈ ss, fitsS F D s = true) ∧ eszL F D ss ≤ mfuel := by
  have enter : ∀ {ss : List Selection} {s : Selection}, (∃ D, (∀ x ∈ ss, fitsS F D x = true) ∧ eszL F D ss ≤ mfuel) →
      s ∈ ss → ∃ D, (∀ x ∈ kids F s, fitsS F D x = true) ∧ eszL F D (kids F s) ≤ mfuel := by
    rintro ss s ⟨D, hfit, hn⟩ hm
    have h1 := esz_le_of_mem (F := F) (D := D) hm
    rw [(fits_kids (fitsS_fits D s (hfit s hm))).2] at h1
    exact ⟨D, fitsS_kids (hfit s hm), by omega⟩
  exact {
    ok := fun _ ⟨_, hfit, hn⟩ => boolVars_ok hfit hn
    field := fun h hm => enter h hm
    inline := fun h hm => enter h hm
    spread := fun h hm hF => by have := enter h hm; simpa only [kids, hF, Option.map_some, Option.getD_some] using this }

end NitroVerif.OpTypes.Closed
