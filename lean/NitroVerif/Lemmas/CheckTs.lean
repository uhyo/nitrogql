/-
`check_type_system_document` (`CheckTs.checkSchema`) against `Spec/ValidTs.lean`, component by component, each as one
equivalence "reports nothing ⇔ facts" read in both directions by Props/C05 (soundness) and Props/C05Complete
(completeness): the loops with a `seen` vector (`loopSeen_nil_iff`), the items of a document (`forall_items`), a type
definition over the specification's kind-restricted component lists (`TypeQuiet`, the only place that looks at the
kind), a directive definition, `check_valid_implementation`; the two lookup views (first / last definition of a name)
agree under unique names; `is_subtype` is the specification's covariance; the resolver's duplicate-definition test.
-/
import NitroVerif.Model.CheckTs
import NitroVerif.Spec.ValidTs
import NitroVerif.Lemmas.SchemaFacts
namespace NitroVerif.CheckTs
open NitroVerif.Gql NitroVerif.ValidTs

-- beside `TypeKind` it cannot stand: the model files hold no proofs
instance : LawfulBEq TypeKind where
  eq_of_beq := by intro a b; cases a <;> cases b <;> decide
  rfl := by intro a; cases a <;> decide

theorem reserved_eq_startsWithUU (n : Name) : reserved n = startsWithUU n := rfl

theorem reserved_false_of {n : Name} (h : (!startsWithUU n) = true) : reserved n = false := by
  rw [reserved_eq_startsWithUU]; simpa using h

theorem noDup_iff_nodup (l : List Name) : noDup l = true ↔ l.Nodup := by
  induction l with
  | nil => simp [noDup]
  | cons x xs ih =>
    simp only [noDup, Bool.and_eq_true, Bool.not_eq_true', List.nodup_cons, ih]
    rw [contains_eq_false_iff]

theorem nodup_filter_map_iff_count {α : Type} (key : α → Name) (p : α → Bool) (l : List α) :
    ((l.filter p).map key).Nodup ↔ ∀ n : Name, ((l.filter fun x => key x == n).filter p).length ≤ 1 := by
  rw [List.nodup_iff_count]
  refine forall_congr' fun n => ?_
  rw [List.count_eq_countP, List.countP_map, List.countP_filter, List.countP_eq_length_filter, List.filter_filter,
    List.filter_congr fun a _ => Bool.and_comm (p a) (key a == n)]
  rfl

theorem ite_cons_eq_nil {α : Type} {b : Bool} {e : α} {l : List α} :
    (if b = true then e :: l else []) = [] ↔ b = false := by
  cases b <;> simp

theorem loopSeen_nil_iff {α β : Type} (name : α → Name) (body : Bool → α → List β)
    (hdup : ∀ x, body true x ≠ []) :
    ∀ (xs : List α) (seen : List Name), loopSeen name body seen xs = [] ↔
      (∀ x ∈ xs, body false x = []) ∧ (∀ x ∈ xs, name x ∉ seen) ∧ noDup (xs.map name) = true := by
  intro xs
  induction xs with
  | nil => intro seen; simp [loopSeen, noDup]
  | cons x rest ih =>
    intro seen
    simp only [loopSeen, List.append_eq_nil_iff]
    cases hc : seen.contains (name x) with
    | true =>
      have hx : name x ∈ seen := List.contains_iff_mem.mp hc
      simp [hdup x, hx]
    | false =>
      have hx : name x ∉ seen := contains_eq_false_iff.mp hc
      simp only [Bool.false_eq_true, if_false, ih, List.mem_cons, forall_eq_or_imp, not_or, List.map_cons, noDup,
        Bool.and_eq_true, Bool.not_eq_true', contains_eq_false_iff, List.mem_map, not_exists, not_and]
      constructor
      · rintro ⟨h0, h1, h2, h3⟩
        exact ⟨⟨h0, h1⟩, ⟨hx, fun y hy => (h2 y hy).2⟩, fun y hy e => (h2 y hy).1 e, h3⟩
      · rintro ⟨⟨h0, h1⟩, ⟨_, h2⟩, h3, h4⟩
        exact ⟨h0, h1, fun y hy => ⟨fun e => h3 y hy e, h2 y hy⟩, h4⟩

/-! ### items of the document -/

theorem mem_typeDefs {T : TsDoc} {t : TypeDef} : t ∈ ValidTs.typeDefs T ↔ TsItem.typeDef t ∈ T :=
  SchemaDecls.mem_typeDefsOf (doc := T)

theorem mem_directiveDefs {T : TsDoc} {d : DirectiveDef} :
    d ∈ ValidTs.directiveDefs T ↔ TsItem.directiveDef d ∈ T := by
  simp only [ValidTs.directiveDefs, Schema.directiveDefs, List.mem_filterMap]
  constructor
  · rintro ⟨it, hit, h⟩
    cases it <;> simp at h
    subst h; exact hit
  · intro h; exact ⟨_, h, rfl⟩

theorem mem_schemaDefs {T : TsDoc} {d : SchemaDef} :
    d ∈ ValidTs.schemaDefs T ↔ TsItem.schemaDef d ∈ T := by
  simp only [ValidTs.schemaDefs, Schema.schemaDefs, List.mem_filterMap]
  constructor
  · rintro ⟨it, hit, h⟩
    cases it <;> simp at h
    subst h; exact hit
  · intro h; exact ⟨_, h, rfl⟩

theorem forall_items {T : TsDoc} {P : TsItem → Prop} (hse : ∀ e, P (.schemaExt e)) (hte : ∀ e, P (.typeExt e)) :
    (∀ it ∈ T, P it) ↔ (∀ s ∈ ValidTs.schemaDefs T, P (.schemaDef s)) ∧ (∀ t ∈ ValidTs.typeDefs T, P (.typeDef t)) ∧
      (∀ d ∈ ValidTs.directiveDefs T, P (.directiveDef d)) := by
  refine ⟨fun h => ⟨fun s hs => h _ (mem_schemaDefs.mp hs), fun t ht => h _ (mem_typeDefs.mp ht),
    fun d hd => h _ (mem_directiveDefs.mp hd)⟩, fun ⟨h1, h2, h3⟩ it hit => ?_⟩
  cases it with
  | schemaDef s => exact h1 s (mem_schemaDefs.mpr hit)
  | typeDef t => exact h2 t (mem_typeDefs.mpr hit)
  | directiveDef d => exact h3 d (mem_directiveDefs.mpr hit)
  | schemaExt e => exact hse e
  | typeExt e => exact hte e

theorem checkSchemaItems_nil_iff {T : TsDoc} : checkSchemaItems T = [] ↔
    (∀ s ∈ ValidTs.schemaDefs T, checkSchemaDef T ⟨T⟩ s = []) ∧ (∀ t ∈ ValidTs.typeDefs T, checkTypeDef T ⟨T⟩ t = []) ∧
      (∀ d ∈ ValidTs.directiveDefs T, checkDirectiveDef T ⟨T⟩ d = []) := by
  simp only [checkSchemaItems, List.flatMap_eq_nil_iff]
  exact forall_items (fun _ => rfl) (fun _ => rfl)

theorem checkSchema_nil_item {T : TsDoc} (h : checkSchema T = []) {it : TsItem} (hit : it ∈ T) :
    checkItem T ⟨T⟩ it = [] := by
  simp only [checkSchema, checkSchemaItems, List.append_eq_nil_iff, List.flatMap_eq_nil_iff] at h
  exact h.2 it hit

theorem checkSchema_nil_typeDef {T : TsDoc} (h : checkSchema T = []) {t : TypeDef}
    (ht : t ∈ ValidTs.typeDefs T) : checkTypeDef T ⟨T⟩ t = [] :=
  checkSchema_nil_item h (mem_typeDefs.mp ht)

theorem checkSchema_nil_directiveDef {T : TsDoc} (h : checkSchema T = []) {d : DirectiveDef}
    (hd : d ∈ ValidTs.directiveDefs T) : checkDirectiveDef T ⟨T⟩ d = [] :=
  checkSchema_nil_item h (mem_directiveDefs.mp hd)

theorem checkSchema_nil_schemaDef {T : TsDoc} (h : checkSchema T = []) {d : SchemaDef}
    (hd : d ∈ ValidTs.schemaDefs T) : checkSchemaDef T ⟨T⟩ d = [] :=
  checkSchema_nil_item h (mem_schemaDefs.mp hd)

/-! ### parts of a type definition -/

/-- the kind-specific part of `checkTypeDef` -/
def kindPart (T : TsDoc) (S : Schema) (t : TypeDef) : List Err :=
  match t.kind with
  | .scalar => []
  | .object => checkFields S t.fields ++ checkObjectImplements T S t
  | .interface => checkFields S t.fields ++ checkInterfaceImplements T S t
  | .union => checkUnionMembers T t.members
  | .enum => checkEnumValues S t.values
  | .input => checkInputFields S t.inputs


theorem checkFields_nil_iff {S : Schema} {fields : List FieldDef} : checkFields S fields = [] ↔
    (∀ f ∈ fields, reserved f.name = false ∧ checkDirectives S "FIELD_DEFINITION" f.dirs = [] ∧
        checkOutputFieldType S f.ty = [] ∧ checkArgsDef S f.args = []) ∧
    noDup (fields.map (·.name)) = true := by
  unfold checkFields
  rw [loopSeen_nil_iff _ _ (by intro x; simp)]
  simp only [Bool.false_eq_true, if_false, List.nil_append, List.append_eq_nil_iff, ite_cons_eq_nil, List.not_mem_nil,
    not_false_eq_true, implies_true, true_and, and_assoc]

theorem checkArgsDef_nil_iff {S : Schema} {args : List InputValueDef} : checkArgsDef S args = [] ↔
    (∀ a ∈ args, reserved a.name = false ∧ checkInputValueType S a.ty = [] ∧
        checkDirectives S "ARGUMENT_DEFINITION" a.dirs = []) ∧
    noDup (args.map (·.name)) = true := by
  unfold checkArgsDef
  rw [loopSeen_nil_iff _ _ (by intro x; simp)]
  simp only [Bool.false_eq_true, if_false, List.append_eq_nil_iff, ite_cons_eq_nil, List.not_mem_nil,
    not_false_eq_true, implies_true, true_and, and_assoc]

theorem checkInputFields_nil_iff {S : Schema} {inputs : List InputValueDef} : checkInputFields S inputs = [] ↔
    (∀ a ∈ inputs, reserved a.name = false ∧ checkInputValueType S a.ty = [] ∧
        checkDirectives S "INPUT_FIELD_DEFINITION" a.dirs = []) ∧
    noDup (inputs.map (·.name)) = true := by
  unfold checkInputFields
  rw [loopSeen_nil_iff _ _ (by intro x; simp)]
  simp only [Bool.false_eq_true, if_false, List.nil_append, List.append_eq_nil_iff, ite_cons_eq_nil, List.not_mem_nil,
    not_false_eq_true, implies_true, true_and, and_assoc]
  -- the model checks the directives before the type
  exact and_congr_left fun _ => forall₂_congr fun a _ => and_congr_right fun _ => and_comm

theorem checkEnumValues_nil_iff {S : Schema} {values : List EnumValueDef} : checkEnumValues S values = [] ↔
    (∀ v ∈ values, reserved v.name = false ∧ checkDirectives S "ENUM_VALUE" v.dirs = []) ∧
    noDup (values.map (·.name)) = true := by
  unfold checkEnumValues
  rw [loopSeen_nil_iff _ _ (by intro x; simp)]
  simp only [Bool.false_eq_true, if_false, List.nil_append, List.append_eq_nil_iff, ite_cons_eq_nil, List.not_mem_nil,
    not_false_eq_true, implies_true, true_and]

theorem checkUnionMembers_nil_iff {T : TsDoc} {members : List (Name × Pos)} : checkUnionMembers T members = [] ↔
    (∀ m ∈ members, ∃ d, lastTypeDef? T m.1 = some d ∧ d.kind = .object) ∧
    noDup (members.map (·.1)) = true := by
  unfold checkUnionMembers
  rw [loopSeen_nil_iff _ _ (by intro x; simp)]
  simp only [Bool.false_eq_true, if_false, List.nil_append, List.not_mem_nil, not_false_eq_true, implies_true,
    true_and]
  refine and_congr_left fun _ => forall₂_congr fun m _ => ?_
  cases lastTypeDef? T m.1 with
  | none => simp
  | some d => cases hk : d.kind <;> simp [hk]

/-! ### a type definition: the kind-specific part of the model over the kind-restricted component lists of the spec -/

theorem specLocation_eq (k : TypeKind) : specLocation k = locationOfKind k := by cases k <;> rfl

/-- what a quiet `implements` entry says (both `check_object` and `check_interface`) -/
def ImplQuiet (T : TsDoc) (S : Schema) (t : TypeDef) (i : Name × Pos) : Prop :=
  (t.kind = .interface → t.name ≠ i.1) ∧
  ∃ idef, lastTypeDef? T i.1 = some idef ∧ idef.kind = .interface ∧
    checkValidImpl S t.namePos t.fields t.implements idef = []

theorem implEntry_nil_iff {T : TsDoc} {S : Schema} {t : TypeDef} (i : Name × Pos) :
    (match lastTypeDef? T i.1 with
      | none => [(ErrKind.UnknownType, i.2)]
      | some idef =>
        if idef.kind != .interface then [(ErrKind.NotInterface, i.2)]
        else checkValidImpl S t.namePos t.fields t.implements idef) = [] ↔
    ∃ idef, lastTypeDef? T i.1 = some idef ∧ idef.kind = .interface ∧
      checkValidImpl S t.namePos t.fields t.implements idef = [] := by
  cases lastTypeDef? T i.1 with
  | none => simp
  | some idef => by_cases hk : idef.kind = .interface <;> simp [hk]

/-- everything `checkTypeDef` says when it is quiet, over the specification's component lists -/
structure TypeQuiet (T : TsDoc) (S : Schema) (t : TypeDef) : Prop where
  name : reserved t.name = false
  dirs : checkDirectives S (specLocation t.kind) t.dirs = []
  fields : checkFields S (fieldsOfT t) = []
  values : checkEnumValues S (valuesOfT t) = []
  inputs : checkInputFields S (inputsOfT t) = []
  members : checkUnionMembers T (membersOfT t) = []
  impls : ∀ i ∈ implementsOfT t, ImplQuiet T S t i

theorem kindPart_nil_iff {T : TsDoc} {S : Schema} {t : TypeDef} : kindPart T S t = [] ↔
    checkFields S (fieldsOfT t) = [] ∧ checkEnumValues S (valuesOfT t) = [] ∧
    checkInputFields S (inputsOfT t) = [] ∧ checkUnionMembers T (membersOfT t) = [] ∧
    ∀ i ∈ implementsOfT t, ImplQuiet T S t i := by
  have e0 : checkFields S [] = [] := rfl
  have e1 : checkEnumValues S [] = [] := rfl
  have e2 : checkInputFields S [] = [] := rfl
  have e3 : checkUnionMembers T [] = [] := rfl
  unfold kindPart fieldsOfT valuesOfT inputsOfT membersOfT implementsOfT isObjOrIface ImplQuiet
  cases hk : t.kind
  case object =>
    simp only [checkObjectImplements, List.append_eq_nil_iff, List.flatMap_eq_nil_iff, beq_self_eq_true, Bool.true_or,
      if_true, e1, e2, e3, true_and, reduceCtorEq, beq_iff_eq, if_false, false_imp_iff]
    exact and_congr_right fun _ => forall₂_congr fun ⟨n, p⟩ _ => implEntry_nil_iff (n, p)
  case interface =>
    simp only [checkInterfaceImplements, List.append_eq_nil_iff, List.flatMap_eq_nil_iff, beq_self_eq_true,
      Bool.or_true, if_true, e1, e2, e3, true_and, forall_const, reduceCtorEq, beq_iff_eq, if_false]
    refine and_congr_right fun _ => forall₂_congr fun ⟨n, p⟩ _ => ?_
    by_cases hs : t.name = n
    · simp [hs]
    · simp only [if_false, ne_eq, hs, not_false_eq_true, true_and]
      exact implEntry_nil_iff (n, p)
  all_goals simp [e0, e1, e2, e3]

theorem checkTypeDef_nil_iff {T : TsDoc} {S : Schema} {t : TypeDef} :
    checkTypeDef T S t = [] ↔ TypeQuiet T S t := by
  have h : checkTypeDef T S t = [] ↔
      reserved t.name = false ∧ checkDirectives S (locationOfKind t.kind) t.dirs = [] ∧ kindPart T S t = [] := by
    simp only [checkTypeDef, List.append_eq_nil_iff, ite_cons_eq_nil, and_assoc]
    exact Iff.rfl
  rw [h, kindPart_nil_iff, ← specLocation_eq]
  exact ⟨fun ⟨a, b, c, d, e, f, g⟩ => ⟨a, b, c, d, e, f, g⟩, fun ⟨a, b, c, d, e, f, g⟩ => ⟨a, b, c, d, e, f, g⟩⟩

theorem typeQuiet_of_accepted {T : TsDoc} (h : checkSchema T = []) {t : TypeDef} (ht : t ∈ ValidTs.typeDefs T) :
    TypeQuiet T ⟨T⟩ t :=
  checkTypeDef_nil_iff.mp (checkSchema_nil_typeDef h ht)

theorem fieldsOfT_facts {T : TsDoc} (h : checkSchema T = []) {t : TypeDef} (ht : t ∈ ValidTs.typeDefs T) :
    (∀ f ∈ fieldsOfT t, reserved f.name = false ∧ checkDirectives ⟨T⟩ "FIELD_DEFINITION" f.dirs = [] ∧
        checkOutputFieldType ⟨T⟩ f.ty = [] ∧ checkArgsDef ⟨T⟩ f.args = []) ∧
    noDup ((fieldsOfT t).map (·.name)) = true :=
  checkFields_nil_iff.mp (typeQuiet_of_accepted h ht).fields

theorem valuesOfT_facts {T : TsDoc} (h : checkSchema T = []) {t : TypeDef} (ht : t ∈ ValidTs.typeDefs T) :
    (∀ v ∈ valuesOfT t, reserved v.name = false ∧ checkDirectives ⟨T⟩ "ENUM_VALUE" v.dirs = []) ∧
    noDup ((valuesOfT t).map (·.name)) = true :=
  checkEnumValues_nil_iff.mp (typeQuiet_of_accepted h ht).values

theorem inputsOfT_facts {T : TsDoc} (h : checkSchema T = []) {t : TypeDef} (ht : t ∈ ValidTs.typeDefs T) :
    (∀ a ∈ inputsOfT t, reserved a.name = false ∧ checkInputValueType ⟨T⟩ a.ty = [] ∧
        checkDirectives ⟨T⟩ "INPUT_FIELD_DEFINITION" a.dirs = []) ∧
    noDup ((inputsOfT t).map (·.name)) = true :=
  checkInputFields_nil_iff.mp (typeQuiet_of_accepted h ht).inputs

theorem membersOfT_facts {T : TsDoc} (h : checkSchema T = []) {t : TypeDef} (ht : t ∈ ValidTs.typeDefs T) :
    (∀ m ∈ membersOfT t, ∃ d, lastTypeDef? T m.1 = some d ∧ d.kind = .object) ∧
    noDup ((membersOfT t).map (·.1)) = true :=
  checkUnionMembers_nil_iff.mp (typeQuiet_of_accepted h ht).members

theorem implementsOfT_facts {T : TsDoc} (h : checkSchema T = []) {t : TypeDef} (ht : t ∈ ValidTs.typeDefs T) :
    ∀ i ∈ implementsOfT t, (t.kind = .interface → t.name ≠ i.1) ∧
      ∃ idef, lastTypeDef? T i.1 = some idef ∧ idef.kind = .interface ∧
        checkValidImpl ⟨T⟩ t.namePos t.fields t.implements idef = [] :=
  (typeQuiet_of_accepted h ht).impls

theorem checkDirectiveDef_nil_iff {T : TsDoc} {S : Schema} {d : DirectiveDef} : checkDirectiveDef T S d = [] ↔
    checkDirectiveRecursion T d = [] ∧ reserved d.name = false ∧ checkArgsDef S d.args = [] := by
  simp only [checkDirectiveDef, List.append_eq_nil_iff, ite_cons_eq_nil, and_assoc]

theorem directiveDef_parts {T : TsDoc} (h : checkSchema T = []) {d : DirectiveDef}
    (hd : d ∈ ValidTs.directiveDefs T) :
    checkDirectiveRecursion T d = [] ∧ reserved d.name = false ∧ checkArgsDef ⟨T⟩ d.args = [] :=
  checkDirectiveDef_nil_iff.mp (checkSchema_nil_directiveDef h hd)

/-! ### the specification's lists of argument lists and of input values -/

theorem mem_argLists {T : TsDoc} {as : List InputValueDef} : as ∈ argLists T ↔
    (∃ t ∈ ValidTs.typeDefs T, ∃ f ∈ fieldsOfT t, f.args = as) ∨ ∃ d ∈ ValidTs.directiveDefs T, d.args = as := by
  simp only [argLists, List.mem_append, List.mem_flatMap, List.mem_map]

theorem mem_inputValues {T : TsDoc} {v : InputValueDef} : v ∈ inputValues T ↔
    (∃ as ∈ argLists T, v ∈ as) ∨ ∃ t ∈ ValidTs.typeDefs T, v ∈ inputsOfT t := by
  simp only [inputValues, List.mem_append, List.mem_flatten, List.mem_flatMap]

theorem mem_inputsOfT {t : TypeDef} {f : InputValueDef} : f ∈ inputsOfT t ↔ t.kind = .input ∧ f ∈ t.inputs := by
  unfold inputsOfT
  by_cases hk : t.kind = .input <;> simp [hk]

theorem mem_fieldsOfT {t : TypeDef} {f : FieldDef} :
    f ∈ fieldsOfT t ↔ (t.kind = .object ∨ t.kind = .interface) ∧ f ∈ t.fields := by
  unfold fieldsOfT isObjOrIface
  cases hk : t.kind <;> simp

theorem mem_implementsOfT {t : TypeDef} {i : Name × Pos} :
    i ∈ implementsOfT t ↔ (t.kind = .object ∨ t.kind = .interface) ∧ i ∈ t.implements := by
  unfold implementsOfT isObjOrIface
  cases hk : t.kind <;> simp

theorem mem_membersOfT {t : TypeDef} {m : Name × Pos} : m ∈ membersOfT t ↔ t.kind = .union ∧ m ∈ t.members := by
  unfold membersOfT
  cases hk : t.kind <;> simp

theorem argLists_facts {T : TsDoc} (h : checkSchema T = []) {as : List InputValueDef}
    (ha : as ∈ argLists T) : checkArgsDef ⟨T⟩ as = [] := by
  rcases mem_argLists.mp ha with ⟨t, ht, f, hf, rfl⟩ | ⟨d, hd, rfl⟩
  · exact ((fieldsOfT_facts h ht).1 f hf).2.2.2
  · exact (directiveDef_parts h hd).2.2

/-! ### first / last definition of a name -/

theorem known_of_lastTypeDef {T : TsDoc} {n : Name} {d : TypeDef} (h : lastTypeDef? T n = some d) :
    known ⟨T⟩ n = true := by
  unfold lastTypeDef? at h
  have hm := List.mem_of_find?_eq_some h
  have hp := List.find?_some h
  simp only [known, Schema.typeDef?, List.find?_isSome]
  exact ⟨d, List.mem_reverse.mp hm, hp⟩

theorem lastTypeDef_eq_typeDef {T : TsDoc} (hu : uniqueTypeNames T = true) (n : Name) :
    lastTypeDef? T n = (Schema.mk T).typeDef? n := by
  unfold lastTypeDef? Schema.typeDef?
  exact find?_key_reverse (fun (t : TypeDef) => t.name) ((noDup_iff_nodup _).mp hu) n

/-- accepted, type names unique ⇒ a member of a union is the name of a defined object type (defined AND object; the
    specification's Boolean `unionMembersObjects` lets an undefined member pass) -/
theorem unionMember_object_of_accepted {T : TsDoc} (h : checkSchema T = []) (hu : uniqueTypeNames T = true)
    {t : TypeDef} (ht : t ∈ ValidTs.typeDefs T) {m : Name × Pos} (hm : m ∈ membersOfT t) :
    ∃ d, (Schema.mk T).typeDef? m.1 = some d ∧ d.kind = .object := by
  obtain ⟨d, hl, hk⟩ := (membersOfT_facts h ht).1 m hm
  exact ⟨d, lastTypeDef_eq_typeDef hu m.1 ▸ hl, hk⟩

theorem lastDirectiveDef_eq_directiveDef {T : TsDoc} (hu : uniqueDirectiveNames T = true) (n : Name) :
    lastDirectiveDef? T n = (Schema.mk T).directiveDef? n := by
  unfold lastDirectiveDef? Schema.directiveDef?
  exact find?_key_reverse (fun (t : DirectiveDef) => t.name) ((noDup_iff_nodup _).mp hu) n

/-! ### types of fields and input values -/

theorem outputFieldType_nil {S : Schema} {ty : GType} (h : checkOutputFieldType S ty = []) :
    ∃ k, S.kindOf? ty.unwrapped = some k ∧ Schema.isOutputKind k = true := by
  unfold checkOutputFieldType at h
  cases hk : S.kindOf? ty.unwrapped with
  | none => rw [hk] at h; simp at h
  | some k =>
    rw [hk] at h
    dsimp only at h
    refine ⟨k, rfl, ?_⟩
    cases ho : Schema.isOutputKind k with
    | true => rfl
    | false => rw [ho] at h; simp at h

theorem inputValueType_nil {S : Schema} {ty : GType} (h : checkInputValueType S ty = []) :
    ∃ k, S.kindOf? ty.unwrapped = some k ∧ Schema.isInputKind k = true := by
  unfold checkInputValueType at h
  cases hk : S.kindOf? ty.unwrapped with
  | none => rw [hk] at h; simp at h
  | some k =>
    rw [hk] at h
    dsimp only at h
    refine ⟨k, rfl, ?_⟩
    cases ho : Schema.isInputKind k with
    | true => rfl
    | false => rw [ho] at h; simp at h

theorem outputFieldType_eq_nil {S : Schema} {ty : GType} {k : TypeKind}
    (hk : S.kindOf? ty.unwrapped = some k) (ho : k ≠ .input) : checkOutputFieldType S ty = [] := by
  unfold checkOutputFieldType
  rw [hk]
  cases k <;> first | rfl | exact absurd rfl ho

theorem inputValueType_eq_nil {S : Schema} {ty : GType} {k : TypeKind}
    (hk : S.kindOf? ty.unwrapped = some k) (hi : Schema.isInputKind k = true) : checkInputValueType S ty = [] := by
  unfold checkInputValueType
  rw [hk]
  simp [hi]

theorem kindOf_of_known {S : Schema} {n : Name} (h : known S n = true) : ∃ k, S.kindOf? n = some k := by
  unfold known at h
  cases ht : S.typeDef? n with
  | none => rw [ht] at h; simp at h
  | some d => exact ⟨d.kind, Schema.kindOf_of_typeDef ht⟩

theorem known_of_kindOf {S : Schema} {n : Name} {k : TypeKind} (h : S.kindOf? n = some k) : known S n = true := by
  unfold Schema.kindOf? at h
  unfold known
  cases ht : S.typeDef? n with
  | none => rw [ht] at h; simp at h
  | some d => rfl

theorem inputValues_facts {T : TsDoc} (h : checkSchema T = []) {v : InputValueDef} (hv : v ∈ inputValues T) :
    checkInputValueType ⟨T⟩ v.ty = [] := by
  rcases mem_inputValues.mp hv with ⟨as, has, hvas⟩ | ⟨t, ht, hvt⟩
  · exact ((checkArgsDef_nil_iff.mp (argLists_facts h has)).1 v hvas).2.1
  · exact ((inputsOfT_facts h ht).1 v hvt).2.1

theorem knownTypeRefs_of_accepted {T : TsDoc} (h : checkSchema T = []) : knownTypeRefs T = true := by
  simp only [knownTypeRefs, Bool.and_eq_true, List.all_eq_true]
  refine ⟨?_, ?_⟩
  · intro t ht
    refine ⟨⟨?_, ?_⟩, ?_⟩
    · intro f hf
      obtain ⟨k, hk, _⟩ := outputFieldType_nil ((fieldsOfT_facts h ht).1 f hf).2.2.1
      exact known_of_kindOf hk
    · intro i hi
      obtain ⟨_, idef, hl, _, _⟩ := implementsOfT_facts h ht i hi
      exact known_of_lastTypeDef hl
    · intro m hm
      obtain ⟨d, hl, _⟩ := (membersOfT_facts h ht).1 m hm
      exact known_of_lastTypeDef hl
  · intro v hv
    obtain ⟨k, hk, _⟩ := inputValueType_nil (inputValues_facts h hv)
    exact known_of_kindOf hk

/-! ### `check_valid_implementation` -/

theorem same_eq_sameType : ∀ (a b : GType), a.same b = sameType a b := by
  intro a
  induction a with
  | named n p => intro b; cases b <;> simp [GType.same, sameType]
  | list t p ih | nonNull t ih => intro b; cases b <;> simp [GType.same, sameType, ih]

theorem required_eq_requiredArg (a : InputValueDef) : InputValueDef.required a = requiredArg a := rfl

theorem checkValidImpl_nil_iff {S : Schema} {namePos : Pos} {fields : List FieldDef}
    {implements : List (Name × Pos)} {iface : TypeDef} :
    checkValidImpl S namePos fields implements iface = [] ↔
    (∀ imp ∈ iface.implements, implements.any (·.1 == imp.1) = true) ∧
    (∀ impF ∈ iface.fields, ∃ f, fields.find? (·.name == impF.name) = some f ∧
      (∀ ia ∈ impF.args, ∃ fa, f.args.find? (·.name == ia.name) = some fa ∧ sameType fa.ty ia.ty = true) ∧
      (∀ fa ∈ f.args, impF.args.any (·.name == fa.name) = true ∨ requiredArg fa = false) ∧
      isSubtype S f.ty impF.ty ≠ some false) := by
  simp only [checkValidImpl, List.append_eq_nil_iff, List.map_eq_nil_iff, List.filter_eq_nil_iff,
    List.flatMap_eq_nil_iff, Bool.not_eq_true', Bool.not_eq_false]
  refine and_congr Iff.rfl (forall₂_congr fun impF _ => ?_)
  cases fields.find? (·.name == impF.name) with
  | none => simp
  | some f =>
    simp only [List.append_eq_nil_iff, List.map_eq_nil_iff, List.filter_eq_nil_iff, List.flatMap_eq_nil_iff,
      Option.some.injEq, exists_eq_left', ite_cons_eq_nil, beq_eq_false_iff_ne, ne_eq, and_assoc]
    refine and_congr (forall₂_congr fun ia _ => ?_) (and_congr (forall₂_congr fun fa _ => ?_) Iff.rfl)
    · cases f.args.find? (·.name == ia.name) with
      | none => simp
      | some fa => simp [same_eq_sameType]
    · rw [← required_eq_requiredArg]
      cases hany : impF.args.any (·.name == fa.name) with
      | true =>
        have : (impF.args.all fun x => x.name != fa.name) = false := by
          obtain ⟨x, hx, hxe⟩ := List.any_eq_true.mp hany
          exact List.all_eq_false.mpr ⟨x, hx, by simpa using hxe⟩
        simp [this]
      | false =>
        have : (impF.args.all fun x => x.name != fa.name) = true := by
          rw [List.all_eq_true]; intro x hx
          have := List.any_eq_false.mp hany x hx
          simpa using this
        simp [this]

/-! ### `is_subtype` against the spec's covariance -/

/-- "everything an object / interface type says it implements is a defined interface type" -/
def ImplementsOk (S : Schema) : Prop :=
  ∀ tn td, S.typeDef? tn = some td → (td.kind = .object ∨ td.kind = .interface) →
    ∀ i ∈ td.implements, ∃ pd, S.typeDef? i.1 = some pd ∧ pd.kind = .interface

theorem isSubtype_named {S : Schema} (hI : ImplementsOk S) (tn on : Name) (p q : Pos)
    (hk1 : known S tn = true) (hk2 : known S on = true) :
    isSubtype S (.named tn p) (.named on q) = some (isSubTypeSpec S tn on) := by
  simp only [isSubtype, isSubTypeSpec]
  cases heq : tn == on with
  | true => rfl
  | false =>
    unfold known at hk1 hk2
    cases ht : S.typeDef? tn with
    | none => rw [ht] at hk1; cases hk1
    | some td =>
      cases ho : S.typeDef? on with
      | none => rw [ho] at hk2; cases hk2
      | some od =>
        -- an implemented name that is defined is an interface
        have hiface : td.kind = .object ∨ td.kind = .interface → td.implements.any (·.1 == on) = true →
            od.kind = .interface := by
          intro hkind hany
          obtain ⟨x, hx, hxe⟩ := List.any_eq_true.mp hany
          obtain ⟨pd, hpd, hpk⟩ := hI tn td ht hkind x hx
          rw [eq_of_beq hxe, ho] at hpd
          cases hpd; exact hpk
        simp only [Bool.false_eq_true, if_false, Bool.false_or, Option.isSome_some, if_true]
        cases hkind : td.kind with
        | scalar | enum | union | input => rfl
        | interface =>
          cases hany : td.implements.any (·.1 == on) with
          | true => simp only [hiface (Or.inr hkind) hany, if_true]; rfl
          | false => simp only [Bool.and_false, Bool.false_eq_true, if_false]; rfl
        | object =>
          cases hany : td.implements.any (·.1 == on) with
          | true => simp only [hiface (Or.inl hkind) hany, if_true]; rfl
          | false =>
            simp only [Bool.and_false, Bool.false_eq_true, if_false, Bool.false_or]
            cases od.kind == TypeKind.union <;> cases (od.members.any fun x => x.1 == tn) <;> rfl

/-- the model of `is_subtype` computes the spec's IsValidImplementationFieldType whenever the two
    innermost type names are defined and `implements` lists only name interfaces -/
theorem isSubtype_spec {S : Schema} (hI : ImplementsOk S) :
    ∀ (a b : GType), known S a.unwrapped = true → known S b.unwrapped = true →
      isSubtype S a b = some (validImplFieldType S a b) := by
  intro a
  induction a with
  | named tn p =>
    intro b hk1 hk2
    cases b with
    | named on q =>
      simp only [GType.unwrapped] at hk1 hk2
      rw [isSubtype_named hI tn on p q hk1 hk2]
      simp [validImplFieldType]
    | list t q =>
      simp only [GType.unwrapped] at hk1
      unfold known at hk1
      unfold isSubtype validImplFieldType
      cases ht : S.typeDef? tn with
      | none => rw [ht] at hk1; simp at hk1
      | some td => rfl
    | nonNull t =>
      simp only [GType.unwrapped] at hk1
      unfold known at hk1
      unfold isSubtype validImplFieldType
      cases ht : S.typeDef? tn with
      | none => rw [ht] at hk1; simp at hk1
      | some td => rfl
  | list t p ih =>
    intro b hk1 hk2
    cases b with
    | named on q => simp [isSubtype, validImplFieldType]
    | list u q =>
      simp only [GType.unwrapped] at hk1 hk2
      simp only [isSubtype, validImplFieldType]
      exact ih u hk1 hk2
    | nonNull u => simp [isSubtype, validImplFieldType]
  | nonNull t ih =>
    intro b hk1 hk2
    cases b with
    | named on q =>
      simp only [GType.unwrapped] at hk1 hk2
      simp only [isSubtype, validImplFieldType]
      exact ih _ hk1 (by simpa [GType.unwrapped] using hk2)
    | list u q =>
      simp only [GType.unwrapped] at hk1 hk2
      simp only [isSubtype, validImplFieldType]
      exact ih _ hk1 (by simpa [GType.unwrapped] using hk2)
    | nonNull u =>
      simp only [GType.unwrapped] at hk1 hk2
      simp only [isSubtype, validImplFieldType]
      exact ih u hk1 hk2

/-! ### the resolver's duplicate-definition test -/

theorem dupOriginalAux_none :
    ∀ (T : TsDoc) (seen : List (Option (TypeKind × Name))), dupOriginalAux seen T = none →
      (∀ t, TsItem.typeDef t ∈ T → some (t.kind, t.name) ∉ seen) ∧
      noDupKinded ((ValidTs.typeDefs T).map fun t => (t.kind, t.name)) = true ∧
      (none ∈ seen → ValidTs.schemaDefs T = []) ∧ (ValidTs.schemaDefs T).length ≤ 1 := by
  intro T
  induction T with
  | nil => intro seen _; simp [ValidTs.typeDefs, ValidTs.schemaDefs, Schema.typeDefs, Schema.schemaDefs, noDupKinded]
  | cons x r ih =>
    intro seen h
    cases x with
    | schemaDef sd =>
      simp only [dupOriginalAux] at h
      cases hc : seen.contains none with
      | true => rw [hc] at h; simp at h
      | false =>
        rw [hc] at h
        simp only [Bool.false_eq_true, if_false] at h
        obtain ⟨h1, h2, h3, _⟩ := ih _ h
        have hn : none ∉ seen := by
          intro hin; have := List.contains_iff_mem.mpr hin; rw [hc] at this; cases this
        have hr : ValidTs.schemaDefs r = [] := h3 List.mem_cons_self
        refine ⟨?_, ?_, ?_, ?_⟩
        · intro t ht
          rcases List.mem_cons.mp ht with hx | ht
          · cases hx
          · exact fun hin => h1 t ht (List.mem_cons_of_mem _ hin)
        · exact h2
        · intro hin; exact absurd hin hn
        · simp only [ValidTs.schemaDefs, Schema.schemaDefs, List.filterMap_cons] at hr ⊢
          simp [hr]
    | typeDef t =>
      simp only [dupOriginalAux] at h
      cases hc : seen.contains (some (t.kind, t.name)) with
      | true => rw [hc] at h; simp at h
      | false =>
        rw [hc] at h
        simp only [Bool.false_eq_true, if_false] at h
        obtain ⟨h1, h2, h3, h4⟩ := ih _ h
        have hn : some (t.kind, t.name) ∉ seen := by
          intro hin; have := List.contains_iff_mem.mpr hin; rw [hc] at this; cases this
        refine ⟨?_, ?_, ?_, ?_⟩
        · intro t' ht'
          rcases List.mem_cons.mp ht' with hx | ht'
          · cases hx; exact hn
          · exact fun hin => h1 t' ht' (List.mem_cons_of_mem _ hin)
        · have hcons : ValidTs.typeDefs (TsItem.typeDef t :: r) = t :: ValidTs.typeDefs r := by
            simp [ValidTs.typeDefs, Schema.typeDefs]
          rw [hcons]
          simp only [List.map_cons, noDupKinded, Bool.and_eq_true, Bool.not_eq_true']
          refine ⟨?_, h2⟩
          cases hcc : ((ValidTs.typeDefs r).map fun t => (t.kind, t.name)).contains (t.kind, t.name) with
          | false => rfl
          | true =>
            exfalso
            obtain ⟨t', ht', heq⟩ := List.mem_map.mp (List.contains_iff_mem.mp hcc)
            have := h1 t' (mem_typeDefs.mp ht')
            rw [heq] at this
            exact this List.mem_cons_self
        · intro hin
          have := h3 (List.mem_cons_of_mem _ hin)
          exact this
        · exact h4
    | directiveDef d | schemaExt d | typeExt d =>
      simp only [dupOriginalAux] at h
      obtain ⟨h1, h2, h3, h4⟩ := ih _ h
      refine ⟨?_, ?_, ?_, ?_⟩
      · intro t ht
        rcases List.mem_cons.mp ht with hx | ht
        · cases hx
        · exact h1 t ht
      · exact h2
      · exact h3
      · exact h4

/-! ### directive applications -/

theorem dirSites_facts {T : TsDoc} (h : checkSchema T = []) :
    ∀ s ∈ dirSites T, checkDirectives ⟨T⟩ s.1 s.2 = [] := by
  intro s hs
  simp only [dirSites, List.mem_flatMap] at hs
  obtain ⟨it, hit, hs⟩ := hs
  cases it with
  | schemaDef sd =>
    simp only [List.mem_singleton] at hs
    subst hs
    exact checkSchema_nil_item h hit
  | typeDef t =>
    have ht : t ∈ ValidTs.typeDefs T := mem_typeDefs.mpr hit
    simp only [List.mem_cons, List.mem_append, List.mem_flatMap, List.mem_map] at hs
    rcases hs with ((rfl | ⟨f, hf, hs⟩) | ⟨v, hv, rfl⟩) | ⟨f, hf, rfl⟩
    · exact (typeQuiet_of_accepted h ht).dirs
    · have hff := (fieldsOfT_facts h ht).1 f hf
      rcases hs with rfl | ⟨a, ha, rfl⟩
      · exact hff.2.1
      · exact ((checkArgsDef_nil_iff.mp hff.2.2.2).1 a ha).2.2
    · exact ((valuesOfT_facts h ht).1 v hv).2
    · exact ((inputsOfT_facts h ht).1 f hf).2.2
  | directiveDef d =>
    simp only [List.mem_map] at hs
    obtain ⟨a, ha, rfl⟩ := hs
    exact ((checkArgsDef_nil_iff.mp (directiveDef_parts h (mem_directiveDefs.mpr hit)).2.2).1 a ha).2.2
  | schemaExt _ | typeExt _ => simp at hs

/-! ### the implemented interfaces of the spec against the model's loop -/

theorem implementedIfaces_facts {T : TsDoc} (hu : uniqueTypeNames T = true) (h : checkSchema T = [])
    {t : TypeDef} (ht : t ∈ ValidTs.typeDefs T) :
    ∀ idef ∈ implementedIfaces ⟨T⟩ t, isObjOrIface t = true ∧ idef ∈ ValidTs.typeDefs T ∧
      idef.kind = .interface ∧ checkValidImpl ⟨T⟩ t.namePos t.fields t.implements idef = [] := by
  intro idef hmem
  simp only [implementedIfaces, List.mem_filterMap] at hmem
  obtain ⟨i, hi, hsome⟩ := hmem
  have hobj : isObjOrIface t = true := by
    unfold implementsOfT at hi
    cases hk : isObjOrIface t with
    | true => rfl
    | false => rw [hk] at hi; simp at hi
  obtain ⟨_, idef', hl, hk', hv⟩ := implementsOfT_facts h ht i hi
  rw [lastTypeDef_eq_typeDef hu] at hl
  rw [hl] at hsome
  dsimp only at hsome
  have hkb : (idef'.kind == TypeKind.interface) = true := by simp [hk']
  simp only [hkb, if_true, Option.some.injEq] at hsome
  subst hsome
  exact ⟨hobj, Schema.typeDef?_mem hl, hk', hv⟩

theorem implementsOk_of_accepted {T : TsDoc} (hu : uniqueTypeNames T = true) (h : checkSchema T = []) :
    ImplementsOk ⟨T⟩ := by
  intro tn td htd hkind i hi
  have hmem := Schema.typeDef?_mem htd
  have hi' : i ∈ implementsOfT td := by
    unfold implementsOfT isObjOrIface
    rcases hkind with hk | hk <;> simp [hk, hi]
  obtain ⟨_, idef, hl, hk, _⟩ := implementsOfT_facts h hmem i hi'
  rw [lastTypeDef_eq_typeDef hu] at hl
  exact ⟨idef, hl, hk⟩

end NitroVerif.CheckTs
