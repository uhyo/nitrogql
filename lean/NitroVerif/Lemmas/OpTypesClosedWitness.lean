/-
C01/C02 closed forms: the witness of the end-to-end theorems.  The witness schema `W.S` (Lemmas/OpTypes.lean), the default
configuration (built-in scalar mappings), the schema declaration file THE MODEL of the schema printer emits for them
(`SchemaDecls.schemaFile` — not the hand-written `W.schemaFile`), the one-line operation file
`import type * as Schema from ""`, and a specification context whose scalar value sets are the configured texts.
-/
import NitroVerif.Lemmas.OpTypesClosedHyp
import NitroVerif.Lemmas.OpTypesRefWitness
namespace NitroVerif.OpTypes.Closed.W
open NitroVerif.Gql NitroVerif.Ts NitroVerif.DeclCfg NitroVerif.SchemaDecls NitroVerif.RefTypes NitroVerif.OpTypes

/-- the default configuration: no `scalarTypes` entry, the built-in texts parsed -/
def cfg : Cfg := { parses := builtinParses }

/-- `directive @skip(if: Boolean!) on FIELD | FRAGMENT_SPREAD | INLINE_FRAGMENT` (the operation checker needs it defined) -/
def skipDef : TsItem :=
  .directiveDef { name := "skip", args := [{ name := "if", ty := .nonNull (.named "Boolean" {}) }],
                  locations := ["FIELD", "FRAGMENT_SPREAD", "INLINE_FRAGMENT"] }

/-- the witness schema `W.S` plus the definition of `@skip` -/
def doc : TsDoc := OpTypes.W.S.items ++ [skipDef]

def S : Schema := ⟨doc⟩

theorem typeDefs_S : S.typeDefs = OpTypes.W.S.typeDefs := rfl

/-- the schema declaration file the model emits for the witness schema -/
def file : File := match schemaFile cfg doc with | .ok f => f | .error _ => []

theorem file_ok : schemaFile cfg doc = .ok file := rfl

theorem docOK : DocOK cfg doc where
  distinct := by decide +kernel
  names := by decide +kernel
  notPrelude := by decide +kernel
  fields := by decide +kernel
  inputs := by decide +kernel
  members := by decide +kernel
  bagOK := by decide +kernel
  parses := by decide +kernel

/-- value set of a scalar = what its configured `__OperationOutput` text denotes, decided with a fixed fuel -/
def scalarOf (cfg : Cfg) (doc : TsDoc) (n : Name) (v : J) : Bool :=
  match scalarType? cfg doc n with
  | some sc => memG Env.empty 4 v (cfg.parseOf (sc.getType .operationOutput))
  | none => false

def ctx : Exec.Ctx := { S := S, F := fun _ => none, scalar := scalarOf cfg doc, fuel := 16 }

theorem scalarTypes_eq : scalarTypes cfg doc =
    [("Int", .single "number"), ("String", .single "string"), ("Boolean", .single "boolean")] := by decide

theorem prim_exact {p : String} (hp : p = "number" ∨ p = "string" ∨ p = "boolean") (v : J) :
    memG Env.empty 4 v (.prim p) = true ↔ Mem Env.empty v (.prim p) := by
  rw [memG_prim hp 3]
  exact (mem_prim_iff (by rcases hp with rfl | rfl | rfl <;> rfl)).symm

theorem parse_number : cfg.parseOf ((ScalarCfg.single "number").getType .operationOutput) = .prim "number" := by
  simp [Cfg.parseOf, cfg, builtinParses, ScalarCfg.getType]
theorem parse_string : cfg.parseOf ((ScalarCfg.single "string").getType .operationOutput) = .prim "string" := by
  simp [Cfg.parseOf, cfg, builtinParses, ScalarCfg.getType]
theorem parse_boolean : cfg.parseOf ((ScalarCfg.single "boolean").getType .operationOutput) = .prim "boolean" := by
  simp [Cfg.parseOf, cfg, builtinParses, ScalarCfg.getType]

theorem scalar_prim : ∀ p ∈ scalarTypes cfg doc, ∃ q, cfg.parseOf (p.2.getType .operationOutput) = .prim q ∧
    (q = "number" ∨ q = "string" ∨ q = "boolean") := by
  rw [scalarTypes_eq]
  intro p hp
  simp only [List.mem_cons, List.not_mem_nil, or_false] at hp
  rcases hp with rfl | rfl | rfl
  · exact ⟨"number", parse_number, Or.inl rfl⟩
  · exact ⟨"string", parse_string, Or.inr (Or.inl rfl)⟩
  · exact ⟨"boolean", parse_boolean, Or.inr (Or.inr rfl)⟩

theorem cfgOk : CfgOk cfg ctx where
  scalars := by
    intro n sc v h
    have h' : scalarType? cfg doc n = some sc := h
    show scalarOf cfg doc n v = true ↔ _
    unfold scalarOf
    rw [h']
    unfold scalarType? at h'
    split at h'
    · rename_i n' s hf
      cases h'
      obtain ⟨q, hq, hqq⟩ := scalar_prim _ (List.mem_of_find?_eq_some hf)
      simp only [hq]
      exact prim_exact hqq v
    · cases h'
  plain := by
    show ∀ p ∈ scalarTypes cfg doc, _
    rw [scalarTypes_eq]
    decide +kernel
  notNull := by
    intro p hp h
    obtain ⟨q, hq, hqq⟩ := scalar_prim p hp
    rw [hq] at h
    have := (prim_exact hqq .null).2 h
    rcases hqq with rfl | rfl | rfl <;> cases this
  inhabited := inhabited_of_check (by decide +kernel)

/-! ### the witness document `{ a { x } a { y @skip(if: $v) } }` on this schema -/

theorem selA_tree : ∃ T, implTree ctx.S ctx.F 16 16 (.nonNull (.named "Query" {})) OpTypes.W.selA = .ok T := ⟨_, rfl⟩

theorem execMem_selA :
    Exec.execMem ctx (Exec.sigmaOf [("v", true)]) 3 "Query" OpTypes.W.selA (.obj [("a", OpTypes.W.respX)]) = true := by
  decide +kernel

theorem coh_selA : ∀ d, OpTypes.Ref.Coh ctx d (OpTypes.Ref.Sb1 OpTypes.W.selA) "Query" :=
  OpTypes.Ref.coh_of_cohB ctx 4 4 OpTypes.W.selA "Query" (by decide +kernel) (by decide +kernel)

/-- the operation file of the witness: `import type * as Schema from ""` -/
def main : File := OpTypes.W.opFile

theorem main_flat : main.all (fun s => !s.isNamespace) = true := by decide
theorem main_imp : starImports main = [("", "Schema")] := by decide

end NitroVerif.OpTypes.Closed.W
