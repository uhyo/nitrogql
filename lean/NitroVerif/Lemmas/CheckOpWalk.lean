import NitroVerif.Lemmas.CheckOp
/-!
The walk of `check_selection_set`, once: its diagnostics are all of "allowed" kinds (`Quiet A`) exactly when every
selection of the set and of every set nested in it, each with the type the CHECKER has in scope there (`sitesOf`), passes
its local, non-recursive test (`SiteFact`, `LocalFact`). Soundness reads `walk_iff` from left to right, completeness from
right to left; it needs nothing of the schema. The reference validator lists the same selections with the same scopes
when no type declares `__typename` (`mem_sitesOf_iff`): only the comparison with its rules needs that. Inductions over
selections are the structural one (`Selection.size.mutual_induct`).
-/
namespace NitroVerif.CheckOp
open NitroVerif.Gql NitroVerif.CheckCommon NitroVerif.Valid

/-- all diagnostics of `ds` have a kind allowed by `A` -/
def Quiet (A : ErrKind → Bool) (ds : List Diag) : Prop := ∀ d ∈ ds, A d.1 = true

theorem quiet_nil {A} : Quiet A [] := by intro d hd; cases hd
theorem quiet_append {A} {a b : List Diag} : Quiet A (a ++ b) ↔ Quiet A a ∧ Quiet A b := by
  constructor
  · intro h; exact ⟨fun d hd => h d (List.mem_append_left _ hd), fun d hd => h d (List.mem_append_right _ hd)⟩
  · rintro ⟨h1, h2⟩ d hd
    rcases List.mem_append.mp hd with hd | hd
    · exact h1 d hd
    · exact h2 d hd
theorem quiet_single {A} {k : ErrKind} {p : Pos} : Quiet A [(k, p)] ↔ A k = true := by
  constructor
  · intro h; exact h (k, p) (by simp)
  · intro h d hd; simp at hd; subst hd; exact h
theorem quiet_cons {A} {k : ErrKind} {p : Pos} {ds : List Diag} : Quiet A ((k, p) :: ds) ↔ A k = true ∧ Quiet A ds := by
  rw [show (k, p) :: ds = [(k, p)] ++ ds from rfl, quiet_append, quiet_single]

theorem quiet_flatMap {A : ErrKind → Bool} {α} {l : List α} {f : α → List Diag} :
    Quiet A (l.flatMap f) ↔ ∀ x ∈ l, Quiet A (f x) := by
  constructor
  · intro h x hx d hd
    exact h d (List.mem_flatMap.mpr ⟨x, hx, hd⟩)
  · intro h d hd
    obtain ⟨x, hx, hd⟩ := List.mem_flatMap.mp hd
    exact h x hx d hd

theorem quiet_ite_prop {A : ErrKind → Bool} {c : Prop} [Decidable c] {k : ErrKind} {p : Pos} (hk : A k = false) :
    Quiet A (if c then [] else [(k, p)]) ↔ c := by
  by_cases h : c <;> simp [h, quiet_nil, quiet_single, hk]

theorem quiet_ite_not {A : ErrKind → Bool} {c : Prop} [Decidable c] {k : ErrKind} {p : Pos} (hk : A k = false) :
    Quiet A (if c then [(k, p)] else []) ↔ ¬ c := by
  by_cases h : c <;> simp [h, quiet_nil, quiet_single, hk]

/-- no diagnostic is allowed: the walk of an operation -/
def allowNone : ErrKind → Bool := fun _ => false
/-- only `UnknownVariable` is allowed: the walks under `without_variable_checks` -/
def allowUV : ErrKind → Bool := fun k => k == ErrKind.UnknownVariable

/-- the allowed kinds are at most `UnknownVariable`: fragment definitions no operation spreads are walked under
    `without_variable_checks`, which drops exactly that kind from the result (`quiet_uv_iff`); every other kind counts
    in every walk -/
def Admissible (A : ErrKind → Bool) : Prop := ∀ k, k ≠ ErrKind.UnknownVariable → A k = false

theorem admissible_none : Admissible allowNone := fun _ _ => rfl
theorem admissible_uv : Admissible allowUV := by
  intro k hk; simp [allowUV, hk]

theorem quiet_none_iff {ds : List Diag} : Quiet allowNone ds ↔ ds = [] := by
  constructor
  · intro h
    cases ds with
    | nil => rfl
    | cons d ds => have := h d (by simp); simp [allowNone] at this
  · rintro rfl; exact quiet_nil

theorem quiet_uv_iff {ds : List Diag} : withoutVariableChecks ds = [] ↔ Quiet allowUV ds := by
  simp only [withoutVariableChecks, List.filter_eq_nil_iff, Quiet, allowUV]
  constructor
  · intro h d hd; have := h d hd; simpa using this
  · intro h d hd; have := h d hd; simpa using this

theorem directFields_some {td : TypeDef} {fields : List FieldDef} (h : directFields td = some fields) :
    (td.kind = .object ∨ td.kind = .interface) ∧ fields = td.fields ++ [typenameField] ∨
    td.kind = .union ∧ fields = [typenameField] := by
  unfold directFields at h
  cases hk : td.kind <;> simp [hk] at h <;> simp [h]

theorem isComposite_directFields {td : TypeDef} (h : isCompositeKind td.kind = true) : (directFields td).isSome = true := by
  unfold directFields
  cases hk : td.kind <;> simp [hk, isCompositeKind] at h ⊢

/-- no type declares a field named `__typename` -/
def NoReservedFields (S : Schema) : Prop := noReservedFieldsB S = true

theorem find_with_typename {fs : List FieldDef} (hres : ∀ f ∈ fs, (f.name == "__typename") = false) (fname : Name) :
    (if fname == "__typename" then some typenameMeta else fs.find? (·.name == fname)) =
      (fs ++ [typenameField]).find? (·.name == fname) := by
  rw [List.find?_append]
  by_cases hq : fname = "__typename"
  · subst hq
    have : fs.find? (·.name == "__typename") = none := by
      rw [List.find?_eq_none]; intro f hf'; simp [hres f hf']
    simp [this, typenameField, typenameMeta]
  · have h1 : (fname == "__typename") = false := beq_eq_false_iff_ne.mpr hq
    have h2 : ("__typename" == fname) = false := beq_eq_false_iff_ne.mpr (fun h => hq h.symm)
    simp [h1, typenameField, h2]

/-- the checker's field lookup (`direct_fields_of_output_type(..).find(..)`) and the reference validator's
    `fieldDef?` agree on every composite type of a schema without reserved field names -/
theorem fieldDef?_eq_find {S : Schema} (hS : NoReservedFields S) {n : Name} {root : TypeDef} {fields : List FieldDef}
    (hn : S.typeDef? n = some root) (hf : directFields root = some fields) (fname : Name) :
    fieldDef? S n fname = fields.find? (·.name == fname) := by
  have hmem := Schema.typeDef?_mem hn
  have hres : ∀ f ∈ root.fields, (f.name == "__typename") = false := by
    intro f hf'
    have := List.all_eq_true.mp (List.all_eq_true.mp hS root hmem) f hf'
    simpa using this
  unfold fieldDef?
  rw [hn]
  rcases directFields_some hf with ⟨hk, rfl⟩ | ⟨hk, rfl⟩
  · rcases hk with hk | hk <;> simp only [hk] <;> exact find_with_typename hres fname
  · simp only [hk]
    have := find_with_typename (fs := []) (by intro f hf'; cases hf') fname
    simpa using this

/-- the local test of one selection visited with `root` in scope: what `checkSelection` does before it descends -/
def SiteFact (S : Schema) (A : ErrKind → Bool) (H : SpreadHandler) (seen : List Name) (vars : Option (List VarDef))
    (root : TypeDef) (fields : List FieldDef) : Selection → Prop
  | .field _ name namePos args dirs sel =>
    ∃ fd, fields.find? (·.name == name) = some fd ∧
      Quiet A (checkDirectives S vars dirs "FIELD") ∧
      Quiet A (checkArguments S vars namePos args fd.args) ∧
      ∃ ft, S.typeDef? fd.ty.unwrapped = some ft ∧ sel.isSome = (directFields ft).isSome
  | .spread name namePos dirs pos =>
    Quiet A (checkDirectives S vars dirs "FRAGMENT_SPREAD") ∧ Quiet A (H seen vars root name namePos pos)
  | .inline cond dirs _ pos =>
    Quiet A (checkDirectives S vars dirs "INLINE_FRAGMENT") ∧
    match cond with
    | none => True
    | some (c, _) => ∃ ct, S.typeDef? c = some ct ∧ Quiet A (spreadApplicability S root ct pos).1 ∧
        (directFields ct).isSome = true

/-- a selection listed with type `t` in scope: `t` is a defined composite type and the selection passes its local test
    (a selection in an untyped scope, `none`, passes nothing: the walk never gets there) -/
def LocalFact (S : Schema) (A : ErrKind → Bool) (H : SpreadHandler) (seen : List Name) (vars : Option (List VarDef)) :
    Option Name × Selection → Prop
  | (none, _) => False
  | (some t, s) => ∃ root fields, S.typeDef? t = some root ∧ directFields root = some fields ∧
    SiteFact S A H seen vars root fields s

section
variable {S : Schema} {A : ErrKind → Bool} {H : SpreadHandler} {seen : List Name} {vars : Option (List VarDef)}
  {p : Option Name}

theorem localFact_scoped {s : Selection} (h : LocalFact S A H seen vars (p, s)) :
    ∃ t root fields, p = some t ∧ S.typeDef? t = some root ∧ directFields root = some fields ∧
      SiteFact S A H seen vars root fields s := by
  cases p with
  | none => exact h.elim
  | some t => obtain ⟨root, fields, h⟩ := h; exact ⟨t, root, fields, rfl, h⟩

theorem siteFact_directives {root : TypeDef} {fields : List FieldDef} {s : Selection}
    (h : SiteFact S A H seen vars root fields s) : Quiet A (checkDirectives S vars (selDirSite s).2 (selDirSite s).1) := by
  cases s with
  | field =>
    obtain ⟨_, _, hq, _⟩ := h
    exact hq
  | spread | inline => exact h.1

end

theorem allSels_cons (c : Ctx) (cs : List Ctx) :
    allSels (c :: cs) = c.sels.map (fun s => (c.parent, s)) ++ allSels cs := by
  simp [allSels]

theorem allSels_append (a b : List Ctx) : allSels (a ++ b) = allSels a ++ allSels b := by
  simp [allSels]

/-- a composite root makes `check_fragment_spread_core` go on to the selection set -/
theorem spreadApplicability_go {S : Schema} {root ct : TypeDef} {pos : Pos} {fields : List FieldDef}
    (hf : directFields root = some fields) : (spreadApplicability S root ct pos).2 = true := by
  unfold spreadApplicability
  rcases directFields_some hf with ⟨hk | hk, _⟩ | ⟨hk, _⟩ <;> cases hc : ct.kind <;> simp [hk] <;> split <;> rfl

theorem checkSelection_field (S : Schema) (H seen vars root fields al name namePos args dirs sel) :
  checkSelection S H seen vars root fields (.field al name namePos args dirs sel) =
    match fields.find? (·.name == name) with
    | none => [(ErrKind.FieldNotFound, namePos)]
    | some fd =>
      checkDirectives S vars dirs "FIELD" ++
      checkArguments S vars namePos args fd.args ++
      (match S.typeDef? fd.ty.unwrapped with
       | none => [(ErrKind.TypeSystemError, namePos)]
       | some ft =>
         match sel with
         | some ss =>
           (match directFields ft with
            | none => [(ErrKind.SelectionOnInvalidType, namePos)]
            | some ffields => checkSelections S H seen vars ft ffields ss)
         | none => if (directFields ft).isSome then [(ErrKind.MustSpecifySelectionSet, namePos)] else []) := by
  cases sel <;> simp only [checkSelection] <;> rfl

/-- the type in scope below the field `name`: the type of the field `direct_fields_of_output_type` finds -/
def subScope (S : Schema) (p : Option Name) (name : Name) : Option Name :=
  p.bind fun t => (S.typeDef? t).bind fun root => (directFields root).bind fun fields =>
    (fields.find? (·.name == name)).map (·.ty.unwrapped)

mutual
/-- the selections nested in one selection, with the types the checker has in scope -/
def sitesIn (S : Schema) (p : Option Name) : Selection → List (Option Name × Selection)
  | .field _ name _ _ _ (some ss) => sitesOf S (subScope S p name) ss
  | .field _ _ _ _ _ none => []
  | .spread .. => []
  | .inline (some (c, _)) _ ss _ => sitesOf S (some c) ss
  | .inline none _ ss _ => sitesOf S p ss
/-- the selections of a selection set and of every set nested in it, with the types the checker has in scope -/
def sitesOf (S : Schema) (p : Option Name) : List Selection → List (Option Name × Selection)
  | [] => []
  | s :: ss => (p, s) :: (sitesIn S p s ++ sitesOf S p ss)
end

theorem forall_sitesOf_cons {S : Schema} {p : Option Name} {s : Selection} {ss : List Selection}
    {P : Option Name × Selection → Prop} :
    (∀ ps ∈ sitesOf S p (s :: ss), P ps) ↔ (P (p, s) ∧ ∀ ps ∈ sitesIn S p s, P ps) ∧ ∀ ps ∈ sitesOf S p ss, P ps := by
  simp only [sitesOf, List.mem_cons, List.mem_append, or_imp, forall_and, forall_eq, and_assoc]

section
variable {S : Schema} {A : ErrKind → Bool} {H : SpreadHandler} {seen : List Name} {vars : Option (List VarDef)}

theorem localFact_iff {n : Name} {root : TypeDef} {fields : List FieldDef} (hn : S.typeDef? n = some root)
    (hf : directFields root = some fields) (s : Selection) :
    LocalFact S A H seen vars (some n, s) ↔ SiteFact S A H seen vars root fields s := by
  constructor
  · rintro ⟨root', fields', hn', hf', h⟩
    rw [hn] at hn'; cases hn'; rw [hf] at hf'; cases hf'
    exact h
  · exact fun h => ⟨root, fields, hn, hf, h⟩

variable (hA : Admissible A)
include hA

theorem walk_iff :
    (∀ s n root fields, S.typeDef? n = some root → directFields root = some fields →
      (Quiet A (checkSelection S H seen vars root fields s) ↔
        SiteFact S A H seen vars root fields s ∧ ∀ ps ∈ sitesIn S (some n) s, LocalFact S A H seen vars ps)) ∧
    (∀ ss n root fields, S.typeDef? n = some root → directFields root = some fields →
      (Quiet A (checkSelections S H seen vars root fields ss) ↔
        ∀ ps ∈ sitesOf S (some n) ss, LocalFact S A H seen vars ps)) := by
  have no : ∀ k p, k ≠ ErrKind.UnknownVariable → (Quiet A [(k, p)] ↔ False) := fun k p hk => by
    rw [quiet_single, hA k hk]; simp
  apply Selection.size.mutual_induct
  case case1 =>
    -- a field with a sub-selection: found, of a composite type, and the sub-selection walked under that type
    intro al name np args dirs ss ih n root fields hn hf
    simp only [checkSelection, SiteFact, sitesIn, subScope, hn, hf, Option.bind_some]
    cases hfd : fields.find? (·.name == name) with
    | none => simp [no]
    | some fd =>
      cases hft : S.typeDef? fd.ty.unwrapped with
      | none => simp [hft, quiet_append, no]
      | some ft =>
        cases hdf : directFields ft with
        | none => simp [hft, hdf, quiet_append, no]
        | some ffields => simp [hft, hdf, quiet_append, ih _ ft ffields hft hdf, and_assoc]
  case case2 =>
    intro al name np args dirs n root fields hn hf
    simp only [checkSelection, SiteFact, sitesIn, List.not_mem_nil, false_imp_iff, implies_true, and_true]
    cases hfd : fields.find? (·.name == name) with
    | none => simp [no]
    | some fd =>
      cases hft : S.typeDef? fd.ty.unwrapped with
      | none => simp [hft, quiet_append, no]
      | some ft =>
        cases hdf : directFields ft with
        | none => simp [hft, hdf, quiet_append]
        | some ffields => simp [hft, hdf, quiet_append, no]
  case case3 =>
    intro name np dirs pos n root fields hn hf
    simp [checkSelection, SiteFact, sitesIn, quiet_append]
  case case4 =>
    -- an inline fragment: the sub-selection is walked under the narrowed type (or the same one)
    intro cond dirs ss pos ih n root fields hn hf
    cases cond with
    | none => simp [checkSelection, SiteFact, sitesIn, quiet_append, ih n root fields hn hf]
    | some cc =>
      obtain ⟨c, cp⟩ := cc
      simp only [checkSelection, SiteFact, sitesIn, quiet_append]
      cases hct : S.typeDef? c with
      | none => simp [no]
      | some ct =>
        cases hdf : directFields ct with
        | none => simp [spreadApplicability_go hf, hdf, quiet_append, no]
        | some cfields => simp [spreadApplicability_go hf, hdf, quiet_append, ih c ct cfields hct hdf, and_assoc]
  case case5 =>
    intro n root fields _ _
    simp [checkSelections, sitesOf, quiet_nil]
  case case6 =>
    intro s ss ih1 ih2 n root fields hn hf
    simp only [checkSelections, quiet_append, forall_sitesOf_cons, ih1 n root fields hn hf, ih2 n root fields hn hf,
      localFact_iff hn hf]

theorem selectionSet_iff {n : Name} {root : TypeDef} {ss : List Selection} {anchor : Pos} (hn : S.typeDef? n = some root) :
    Quiet A (checkSelectionSet S H seen vars root ss anchor) ↔
      (directFields root).isSome = true ∧ ∀ ps ∈ sitesOf S (some n) ss, LocalFact S A H seen vars ps := by
  unfold checkSelectionSet
  cases hf : directFields root with
  | none => simp [quiet_single, hA _ (by decide : ErrKind.SelectionOnInvalidType ≠ ErrKind.UnknownVariable)]
  | some fields => simpa using (walk_iff hA).2 ss n root fields hn hf
end

theorem subScope_eq {S : Schema} (hS : NoReservedFields S) (p : Option Name) (name : Name) :
    subScope S p name = p.bind fun t => (fieldDef? S t name).map (·.ty.unwrapped) := by
  cases p with
  | none => rfl
  | some t =>
    simp only [subScope, Option.bind_some]
    cases hn : S.typeDef? t with
    | none => simp [fieldDef?, hn]
    | some root =>
      cases hf : directFields root with
      | none =>
        have : fieldDef? S t name = none := by
          unfold fieldDef?; rw [hn]; unfold directFields at hf
          cases hk : root.kind <;> simp [hk] at hf ⊢
        simp [this, hf]
      | some fields => simp [fieldDef?_eq_find hS hn hf, hf]

theorem mem_sitesOf_iff {S : Schema} (hS : NoReservedFields S) (x : Option Name × Selection) :
    (∀ s p, x ∈ sitesIn S p s ↔ x ∈ allSels (ctxsOfSel S p s)) ∧
    (∀ ss p, x ∈ sitesOf S p ss ↔ x ∈ allSels (⟨p, ss⟩ :: ctxsOfSels S p ss)) := by
  apply Selection.size.mutual_induct
  case case1 => intro al name np args dirs ss ih p; rw [sitesIn, ctxsOfSel, subScope_eq hS]; exact ih _
  case case2 => intro al name np args dirs p; simp [sitesIn, ctxsOfSel, allSels]
  case case3 => intro name np dirs pos p; simp [sitesIn, ctxsOfSel, allSels]
  case case4 =>
    intro cond dirs ss pos ih p
    cases cond with
    | none => rw [sitesIn, ctxsOfSel]; exact ih _
    | some cc => obtain ⟨c, cp⟩ := cc; rw [sitesIn, ctxsOfSel]; exact ih _
  case case5 => intro p; simp [sitesOf, allSels, ctxsOfSels]
  case case6 =>
    intro s ss ih1 ih2 p
    have h2 := ih2 p
    simp only [allSels_cons, allSels_append, List.map_cons, List.mem_append, List.mem_cons, ctxsOfSels] at h2 ⊢
    simp only [sitesOf, List.mem_cons, List.mem_append, ih1 p, h2]
    constructor
    · rintro (h | h | h | h)
      · exact .inl (.inl h)
      · exact .inr (.inl h)
      · exact .inl (.inr h)
      · exact .inr (.inr h)
    · rintro ((h | h) | h | h)
      · exact .inl h
      · exact .inr (.inr (.inl h))
      · exact .inr (.inl h)
      · exact .inr (.inr (.inr h))

theorem mem_sitesOf_root {S : Schema} (hS : NoReservedFields S) {t : Name} {ss : List Selection}
    {x : Option Name × Selection} : x ∈ sitesOf S (some t) ss ↔ x ∈ allSels (ctxsOfRoot S t ss) :=
  (mem_sitesOf_iff hS x).2 ss (some t)

/-- the type in scope is a defined composite type -/
def Scoped (S : Schema) (p : Option Name) : Prop :=
  ∃ t root fields, p = some t ∧ S.typeDef? t = some root ∧ directFields root = some fields

/-- a selection in a typed scope opens its sub-selection under a defined composite type -/
def Opens (S : Schema) : Option Name × Selection → Prop
  | (some t, .field _ name _ _ _ (some _)) => Scoped S (subScope S (some t) name)
  | (some _, .inline (some (c, _)) _ _ _) => Scoped S (some c)
  | _ => True

theorem scoped_of_isSome {S : Schema} {t : Name} {td : TypeDef} (ht : S.typeDef? t = some td)
    (h : (directFields td).isSome = true) : Scoped S (some t) := by
  cases hdf : directFields td with
  | none => simp [hdf] at h
  | some fields => exact ⟨t, td, fields, rfl, ht, hdf⟩

/-- below a typed scope every scope is typed, if every selection opens a typed scope -/
theorem sites_scoped (S : Schema) :
    (∀ s p, Scoped S p → Opens S (p, s) → (∀ ps ∈ sitesIn S p s, Opens S ps) → ∀ ps ∈ sitesIn S p s, Scoped S ps.1) ∧
    (∀ ss p, Scoped S p → (∀ ps ∈ sitesOf S p ss, Opens S ps) → ∀ ps ∈ sitesOf S p ss, Scoped S ps.1) := by
  apply Selection.size.mutual_induct
  case case1 =>
    intro al name np args dirs ss ih p hp ho h
    obtain ⟨t, _, _, rfl, _, _⟩ := hp
    exact ih _ ho h
  case case2 => intro al name np args dirs p _ _ _ ps hps; rw [sitesIn] at hps; cases hps
  case case3 => intro name np dirs pos p _ _ _ ps hps; rw [sitesIn] at hps; cases hps
  case case4 =>
    intro cond dirs ss pos ih p hp ho h
    cases cond with
    | none => exact ih p hp h
    | some cc =>
      obtain ⟨t, _, _, rfl, _, _⟩ := hp
      exact ih _ ho h
  case case5 => intro p _ _ ps hps; simp [sitesOf] at hps
  case case6 =>
    intro s ss ih1 ih2 p hp h
    rw [forall_sitesOf_cons] at h ⊢
    exact ⟨⟨hp, ih1 p hp h.1.1 h.1.2⟩, ih2 p hp h.2⟩

end NitroVerif.CheckOp
