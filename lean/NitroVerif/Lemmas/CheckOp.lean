import NitroVerif.Model.CheckOp
import NitroVerif.Spec.Valid
import NitroVerif.Lemmas.ListFacts
import NitroVerif.Lemmas.SchemaFacts
/-!
The document level of `check_operation_document`: the main loop `checkDefs` (distinct operation and fragment names),
`check_variables_definition`, what an accepted document says of each operation and variable definition, and membership
in the reference validator's lists of directive sites. `checkDefs_mem` and `checkOperation_nil` are read from "no
diagnostic" only; their converses need the validator's rules (`CheckOpCompleteDefs.lean`).
-/
namespace NitroVerif.CheckOp
open NitroVerif.Gql NitroVerif.CheckCommon NitroVerif.Valid

theorem ops_eq (D : Doc) : Valid.ops D = opsOf D := rfl
theorem frags_eq (D : Doc) : Valid.frags D = fragsOf D := rfl

theorem op_mem_doc {D : Doc} {o : OperationDef} (h : o ∈ opsOf D) : ExecDef.op o ∈ D := by
  simp only [opsOf, List.mem_filterMap] at h
  obtain ⟨d, hd, hdo⟩ := h
  cases d <;> simp at hdo
  subst hdo; exact hd

theorem opLocation_eq (k : OpKind) : Valid.opLocation k = CheckOp.opLocation k := by cases k <;> rfl

theorem mem_defDirSites_op {o : OperationDef} {site : String × List Directive} :
    site ∈ defDirSites (.op o) ↔
      site = (CheckOp.opLocation o.kind, o.dirs) ∨ ∃ v ∈ o.vars, site = ("VARIABLE_DEFINITION", v.dirs) := by
  simp only [defDirSites, List.mem_cons, List.mem_map, opLocation_eq, eq_comm (a := site)]

theorem mem_dirSites_iff {S : Schema} {D : Doc} {site : String × List Directive} :
    site ∈ dirSites S D ↔ (∃ o ∈ opsOf D, site ∈ defDirSites (.op o)) ∨
      (∃ f ∈ fragsOf D, site = ("FRAGMENT_DEFINITION", f.dirs)) ∨
      ∃ ps ∈ allSels (allCtxs S D), site = selDirSite ps.2 := by
  simp only [dirSites, ctxDirSites, List.mem_append, List.mem_flatMap, List.mem_map, eq_comm (a := site)]
  constructor
  · rintro (⟨d, hd, hs⟩ | h)
    · cases d with
      | op o => exact .inl ⟨o, by simp only [opsOf, List.mem_filterMap]; exact ⟨_, hd, rfl⟩, hs⟩
      | frag f =>
        refine .inr (.inl ⟨f, by simp only [fragsOf, List.mem_filterMap]; exact ⟨_, hd, rfl⟩, ?_⟩)
        simpa [defDirSites, eq_comm] using hs
      | imp i => simp [defDirSites] at hs
    · exact .inr (.inr h)
  · rintro (⟨o, ho, hs⟩ | ⟨f, hf, hs⟩ | h)
    · exact .inl ⟨.op o, op_mem_doc ho, hs⟩
    · exact .inl ⟨.frag f, mem_fragsOf.mp hf, by simp [defDirSites, hs]⟩
    · exact .inr h

theorem mem_opDirSites_iff {S : Schema} {D : Doc} {o : OperationDef} {site : String × List Directive} :
    site ∈ opDirSites S D o ↔ site ∈ defDirSites (.op o) ∨
      (∃ n ∈ Valid.reachable D o.sel, ∃ f, Valid.frag? D n = some f ∧ site = ("FRAGMENT_DEFINITION", f.dirs)) ∨
      ∃ ps ∈ allSels (opCtxs S D o), site = selDirSite ps.2 := by
  simp only [opDirSites, ctxDirSites, List.mem_append, List.mem_flatMap, List.mem_map, or_assoc, eq_comm (a := site)]
  refine or_congr_right (or_congr_left ⟨?_, ?_⟩)
  · rintro ⟨n, hn, hs⟩
    cases hf : Valid.frag? D n with
    | none => simp [hf] at hs
    | some f => exact ⟨n, hn, f, hf, by simpa [hf, defDirSites, eq_comm] using hs⟩
  · rintro ⟨n, hn, f, hf, hs⟩
    exact ⟨n, hn, by simp [hf, defDirSites, hs]⟩

theorem nodupB_iff_nodup (l : List Name) : nodupB l = true ↔ l.Nodup := by
  induction l with
  | nil => simp [nodupB]
  | cons x xs ih => simp [nodupB, ih]

theorem nodupB_cons_iff (x : Name) (xs : List Name) : nodupB (x :: xs) = true ↔ x ∉ xs ∧ nodupB xs = true := by
  simp [nodupB]

theorem nodupB_append_cons {x : Name} (a b : List Name) (h : nodupB (a ++ x :: b) = true) : x ∉ a := fun hx =>
  (List.nodup_append.mp ((nodupB_iff_nodup _).mp h)).2.2 x hx x List.mem_cons_self rfl

def opNamesOf (ds : List ExecDef) : List Name := (opsOf ds).filterMap fun o => o.name.map (·.1)
def fragNamesOf (ds : List ExecDef) : List Name := (fragsOf ds).map (·.name)

theorem opNamesOf_nil : opNamesOf [] = [] := rfl
theorem fragNamesOf_nil : fragNamesOf [] = [] := rfl

theorem opNamesOf_cons (d : ExecDef) (ds : List ExecDef) :
    opNamesOf (d :: ds) = (match d with
      | .op o => (match o.name with | some (n, _) => [n] | none => [])
      | _ => []) ++ opNamesOf ds := by
  cases d with
  | op o =>
    cases h : o.name with
    | none => simp [opNamesOf, opsOf, h]
    | some np => obtain ⟨n, p⟩ := np; simp [opNamesOf, opsOf, h]
  | frag f | imp i => simp [opNamesOf, opsOf]

theorem opNamesOf_append (a b : List ExecDef) : opNamesOf (a ++ b) = opNamesOf a ++ opNamesOf b := by
  simp [opNamesOf, opsOf, List.filterMap_append]

theorem fragNamesOf_cons (d : ExecDef) (ds : List ExecDef) :
    fragNamesOf (d :: ds) = (match d with | .frag f => [f.name] | _ => []) ++ fragNamesOf ds := by
  cases d <;> simp [fragNamesOf, fragsOf]

theorem fragNamesOf_append (a b : List ExecDef) : fragNamesOf (a ++ b) = fragNamesOf a ++ fragNamesOf b := by
  simp [fragNamesOf, fragsOf, List.filterMap_append]

theorem any_opHasName (n : Name) (ds : List ExecDef) : ds.any (opHasName n) = true ↔ n ∈ opNamesOf ds := by
  induction ds with
  | nil => simp [opNamesOf, opsOf]
  | cons d ds ih =>
    rw [opNamesOf_cons, List.any_cons, Bool.or_eq_true, ih]
    cases d with
    | op o =>
      cases h : o.name with
      | none => simp [opHasName, h]
      | some np => obtain ⟨m, p⟩ := np; simp [opHasName, h, @eq_comm _ m n]
    | frag f | imp i => simp [opHasName]

theorem any_fragHasName (n : Name) (ds : List ExecDef) : ds.any (fragHasName n) = true ↔ n ∈ fragNamesOf ds := by
  induction ds with
  | nil => simp [fragNamesOf, fragsOf]
  | cons d ds ih =>
    rw [fragNamesOf_cons, List.any_cons, Bool.or_eq_true, ih]
    cases d with
    | frag f => simp [fragHasName, @eq_comm _ f.name n]
    | op o | imp i => simp [fragHasName]

theorem checkDefs_mem {S : Schema} {D : Doc} {n : Nat} :
    ∀ (rest earlier : List ExecDef), checkDefs S D n earlier rest = [] →
      ∀ d ∈ rest, (∃ e, defHeader n e d = []) ∧ defBody S D d = [] := by
  intro rest
  induction rest with
  | nil => intro _ _ d hd; cases hd
  | cons x rest ih =>
    intro earlier h d hd
    simp only [checkDefs] at h
    obtain ⟨h1, h3⟩ := List.append_eq_nil_iff.mp h
    obtain ⟨h1, h2⟩ := List.append_eq_nil_iff.mp h1
    rcases List.mem_cons.mp hd with rfl | hd
    · exact ⟨⟨earlier, h1⟩, h2⟩
    · exact ih _ h3 d hd

/-- for any name collector `N` (operation names, fragment names) that is additive and gives each definition at most one
    name, which an empty header shows to be new -/
theorem checkDefs_names {S : Schema} {D : Doc} {n : Nat} (N : List ExecDef → List Name) (hnil : N [] = [])
    (happ : ∀ a b, N (a ++ b) = N a ++ N b)
    (hone : ∀ d, N [d] = [] ∨ ∃ m, N [d] = [m] ∧ ∀ earlier, defHeader n earlier d = [] → m ∉ N earlier) :
    ∀ (rest earlier : List ExecDef), checkDefs S D n earlier rest = [] →
      (∀ x ∈ N rest, x ∉ N earlier) ∧ nodupB (N rest) = true := by
  intro rest
  induction rest with
  | nil => intro _ _; simp [hnil, nodupB]
  | cons d rest ih =>
    intro earlier h
    simp only [checkDefs] at h
    obtain ⟨h1, h3⟩ := List.append_eq_nil_iff.mp h
    obtain ⟨h1, _⟩ := List.append_eq_nil_iff.mp h1
    obtain ⟨ihA, ihB⟩ := ih _ h3
    rw [happ] at ihA
    rw [show d :: rest = [d] ++ rest from rfl, happ]
    rcases hone d with hd | ⟨m, hd, hnew⟩
    · rw [hd]
      exact ⟨fun x hx hx' => ihA x hx (List.mem_append_left _ hx'), ihB⟩
    · rw [hd] at ihA ⊢
      have hm : m ∉ N earlier := hnew earlier h1
      have hm' : m ∉ N rest := fun hmem => ihA m hmem (List.mem_append_right _ (List.mem_singleton.mpr rfl))
      refine ⟨?_, ?_⟩
      · intro x hx hx'
        rcases List.mem_cons.mp hx with rfl | hx
        · exact hm hx'
        · exact ihA x hx (List.mem_append_left _ hx')
      · simp only [List.cons_append, List.nil_append, nodupB, Bool.and_eq_true, Bool.not_eq_true', ihB, and_true]
        simpa using hm'

theorem checkDefs_opNames {S : Schema} {D : Doc} {n : Nat} :
    ∀ (rest earlier : List ExecDef), checkDefs S D n earlier rest = [] →
      (∀ x ∈ opNamesOf rest, x ∉ opNamesOf earlier) ∧ nodupB (opNamesOf rest) = true := by
  refine checkDefs_names opNamesOf rfl opNamesOf_append fun d => ?_
  rw [opNamesOf_cons, opNamesOf_nil, List.append_nil]
  cases d with
  | frag f | imp i => exact Or.inl rfl
  | op o =>
    cases hn : o.name with
    | none => exact Or.inl (by simp only [hn])
    | some np =>
      obtain ⟨m, p⟩ := np
      simp only [hn]
      refine Or.inr ⟨m, rfl, fun earlier h1 hmem => ?_⟩
      have := (any_opHasName m earlier).mpr hmem
      simp [defHeader, hn, this] at h1

theorem checkDefs_fragNames {S : Schema} {D : Doc} {n : Nat} :
    ∀ (rest earlier : List ExecDef), checkDefs S D n earlier rest = [] →
      (∀ x ∈ fragNamesOf rest, x ∉ fragNamesOf earlier) ∧ nodupB (fragNamesOf rest) = true := by
  refine checkDefs_names fragNamesOf rfl fragNamesOf_append fun d => ?_
  rw [fragNamesOf_cons, fragNamesOf_nil, List.append_nil]
  cases d with
  | op o | imp i => exact Or.inl rfl
  | frag f =>
    refine Or.inr ⟨f.name, rfl, fun earlier h1 hmem => ?_⟩
    have := (any_fragHasName f.name earlier).mpr hmem
    simp [defHeader, this] at h1

/-- `check_variables_definition`, with its `seen_variables` accumulator -/
theorem checkVariablesAux_nil_iff {S : Schema} :
    ∀ (vs : List VarDef) (seen : List Name), checkVariablesAux S seen vs = [] ↔
      ((∀ v ∈ vs, v.name ∉ seen) ∧ nodupB (vs.map (·.name)) = true) ∧
      ∀ v ∈ vs, isInputType? S v.ty.unwrapped = some true ∧
        checkDirectives S none v.dirs "VARIABLE_DEFINITION" = [] ∧
        ∀ d, v.default = some d → checkValue S none d v.ty false = [] := by
  intro vs
  induction vs with
  | nil => intro _; simp [checkVariablesAux, nodupB]
  | cons v vs ih =>
    intro seen
    have hty : (match isInputType? S v.ty.unwrapped with
        | none => [(ErrKind.UnknownType, typePos v.ty)]
        | some true => (match v.default with | some d => checkValue S none d v.ty false | none => [])
        | some false => [(ErrKind.NoOutputType, typePos v.ty)]) = [] ↔
        isInputType? S v.ty.unwrapped = some true ∧ ∀ d, v.default = some d → checkValue S none d v.ty false = [] := by
      cases isInputType? S v.ty.unwrapped with
      | none => simp
      | some b => cases b <;> cases v.default <;> simp
    rw [checkVariablesAux, List.append_eq_nil_iff, List.append_eq_nil_iff, List.append_eq_nil_iff, ih]
    refine Iff.trans (and_congr_left' (and_congr_right' hty)) ?_
    simp only [List.forall_mem_cons, List.map_cons]
    cases hc : seen.contains v.name with
    | true => simp [List.contains_iff_mem.mp hc]
    | false =>
      have hc' : v.name ∉ seen := by simpa using hc
      have hnd : nodupB (v.name :: vs.map (·.name)) = true ↔
          (∀ w ∈ vs, w.name ≠ v.name) ∧ nodupB (vs.map (·.name)) = true := by
        simp only [nodupB, Bool.and_eq_true, Bool.not_eq_true', ← Bool.not_eq_true, List.contains_iff_mem, List.mem_map,
          not_exists, not_and]
      simp only [Bool.false_eq_true, if_false, true_and, List.mem_append, List.mem_singleton, not_or, hc',
        not_false_eq_true, hnd, forall_and]
      constructor
      · rintro ⟨⟨hd, ht⟩, ⟨⟨h1, h2⟩, h3⟩, h4⟩; exact ⟨⟨h1, h2, h3⟩, ⟨ht.1, hd, ht.2⟩, h4⟩
      · rintro ⟨⟨h1, h2, h3⟩, ⟨ht1, hd, ht2⟩, h4⟩; exact ⟨⟨hd, ht1, ht2⟩, ⟨⟨h1, h2⟩, h3⟩, h4⟩

theorem checkOperation_nil {S : Schema} {D : Doc} {o : OperationDef} (h : checkOperation S D o = []) :
    ∃ root, S.typeDef? (S.rootName o.kind) = some root ∧
      checkDirectives S (some o.vars) o.dirs (opLocation o.kind) = [] ∧
      checkVariablesAux S [] o.vars = [] ∧
      (o.kind == .subscription && hasMoreThanOneField D o.sel) = false ∧
      checkSelectionSet S (spreadHandler S D (fuelFor D)) [] (some o.vars) root o.sel o.pos = [] := by
  unfold checkOperation at h
  split at h
  · simp at h
  · split at h
    · simp at h
    · rename_i root hroot
      obtain ⟨h1, h4⟩ := List.append_eq_nil_iff.mp h
      obtain ⟨h1, h3⟩ := List.append_eq_nil_iff.mp h1
      obtain ⟨h1, h2⟩ := List.append_eq_nil_iff.mp h1
      refine ⟨root, hroot, h1, h2, ?_, h4⟩
      cases hc : (o.kind == .subscription && hasMoreThanOneField D o.sel) with
      | false => rfl
      | true => simp [hc] at h3

theorem accepted_operation {S : Schema} {D : Doc} (h : checkOp S D = []) {o : OperationDef} (ho : o ∈ opsOf D) :
    ∃ root, S.typeDef? (S.rootName o.kind) = some root ∧
      checkDirectives S (some o.vars) o.dirs (opLocation o.kind) = [] ∧
      checkVariablesAux S [] o.vars = [] ∧
      (o.kind == .subscription && hasMoreThanOneField D o.sel) = false ∧
      checkSelectionSet S (spreadHandler S D (fuelFor D)) [] (some o.vars) root o.sel o.pos = [] :=
  checkOperation_nil (by simpa [defBody] using (checkDefs_mem D [] h _ (op_mem_doc ho)).2)

theorem vars_of_accepted {S : Schema} {D : Doc} (h : checkOp S D = []) :
    ∀ o ∈ Valid.ops D, checkVariablesAux S [] o.vars = [] := fun _ ho =>
  (accepted_operation h ho).choose_spec.2.2.1

theorem accepted_var {S : Schema} {D : Doc} (h : checkOp S D = []) {o : OperationDef} (ho : o ∈ Valid.ops D)
    {v : VarDef} (hv : v ∈ o.vars) :
    isInputType? S v.ty.unwrapped = some true ∧ checkDirectives S none v.dirs "VARIABLE_DEFINITION" = [] ∧
      ∀ d, v.default = some d → checkValue S none d v.ty false = [] :=
  ((checkVariablesAux_nil_iff o.vars []).mp (vars_of_accepted h o ho)).2 v hv

/-- "not repeatable" as the reference validator reads it -/
def nonRepeatable (S : Schema) (d : Directive) : Bool :=
  match S.directiveDef? d.name with | some dd => !dd.repeatable | none => true

/-- the three directive rules on one directive list, as the reference validator states them per site -/
def dirSiteOk (S : Schema) (site : String × List Directive) : Prop :=
  (∀ d ∈ site.2, (S.directiveDef? d.name).isSome = true) ∧
  (∀ d ∈ site.2, (match S.directiveDef? d.name with | some dd => dd.locations.contains site.1 | none => true) = true) ∧
  nodupB ((site.2.filter fun d => match S.directiveDef? d.name with | some dd => !dd.repeatable | none => true).map (·.name)) = true

end NitroVerif.CheckOp
