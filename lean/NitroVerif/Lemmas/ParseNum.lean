/-
Numbers of the `Value` sub-language (helper lemmas for Props/C07 `render_parse_value`): `IntegerPart`, `IntValue`,
`FractionalPart`, `ExponentPart`, `FloatValue` of the GENERATED grammar on every text of the lexical grammar
`-?(0|[1-9][0-9]*)` / `… (.[0-9]*)? ([eE][+-]?[0-9]+)?`, the failure of `IntValue` on a float text and of `ExponentPart`
behind a number. (That the number rules fail on texts that are not numbers is `nonnum_fails`, `ParseValueAlt`.)
-/
import NitroVerif.Lemmas.ParseLex
namespace NitroVerif.ValueParse
open NitroVerif.Peg NitroVerif.Gen NitroVerif.Build NitroVerif.TypeParse

def sign (neg : Bool) : List Char := if neg then ['-'] else []

/-- `-?(0|[1-9][0-9]*)` -/
inductive IntText : List Char → Prop where
  | zero (neg : Bool) : IntText (sign neg ++ ['0'])
  | nz (neg : Bool) (d : Char) (ds : List Char) : nzdigit d → (∀ x ∈ ds, digit x) → IntText (sign neg ++ d :: ds)

/-- `[eE][+-]?[0-9]+` -/
inductive ExpText : List Char → Prop where
  | mk (e : Char) (sg : List Char) (d : Char) (ds : List Char) : (e = 'e' ∨ e = 'E') → (sg = [] ∨ sg = ['+'] ∨ sg = ['-']) →
      digit d → (∀ x ∈ ds, digit x) → ExpText (e :: (sg ++ d :: ds))

/-- the three forms of `FloatValue` -/
inductive FloatText : List Char → Prop where
  | fe (ip fd ex : List Char) : IntText ip → (∀ x ∈ fd, digit x) → ExpText ex → FloatText (ip ++ ('.' :: fd ++ ex))
  | f (ip fd : List Char) : IntText ip → (∀ x ∈ fd, digit x) → FloatText (ip ++ '.' :: fd)
  | e (ip ex : List Char) : IntText ip → ExpText ex → FloatText (ip ++ ex)

/-- what may follow a number: not a name character (so not a digit, not `e`) and not `.` -/
def NumEnd (rest : List Char) : Prop := HeadNot (fun d => nameCont d ∨ d = '.') rest

theorem digit_nameCont {d : Char} (h : digit d) : nameCont d := Or.inl (Or.inr (Or.inr h))
theorem nameStart_nameCont {d : Char} (h : nameStart d) : nameCont d := by
  rcases h with h | h
  · rcases h with h | h
    · exact Or.inl (Or.inl h)
    · exact Or.inl (Or.inr (Or.inl h))
  · exact Or.inr h
theorem nzdigit_digit {d : Char} (h : nzdigit d) : digit d := by
  unfold nzdigit at h; unfold digit
  refine ⟨?_, h.2⟩
  exact Char.le_trans (by decide : '0' ≤ '1') h.1

theorem nameStart_not_digit {d : Char} (h : nameStart d) : ¬ digit d := by
  intro hd
  unfold digit at hd
  have h9 : d.val ≤ 57 := hd.2
  rcases h with (⟨h1, _⟩ | ⟨h1, _⟩) | rfl
  · have : (97 : UInt32) ≤ d.val := h1
    exact absurd (UInt32.le_trans this h9) (by decide)
  · have : (65 : UInt32) ≤ d.val := h1
    exact absurd (UInt32.le_trans this h9) (by decide)
  · exact absurd hd.2 (by decide)

theorem numEnd_digit {rest : List Char} (h : NumEnd rest) : HeadNot digit rest :=
  headNot_mono (fun _ hd => Or.inl (digit_nameCont hd)) h

variable {la : Look} {sk : Bool} {p : Nat} {t rest : List Char}

theorem digits {ds : List Char} (hds : ∀ x ∈ ds, digit x) (hr : HeadNot digit rest) :
    Piece gList la 4 false (.star (.call R.ASCII_DIGIT)) .atomic p ds rest :=
  Piece.star (fun _ _ _ h => runsL_call (digitL_runs h)) (fun _ => first_fails (by decide) hr) hds

theorem sign_piece (neg : Bool) (hy : HeadNot (· = '-') rest) :
    Piece gList la 2 false (.opt (.str ['-'])) .atomic p (sign neg) rest := by
  cases neg
  · exact Piece.opt_none (strL_head_fails (xs := []) hy) (by decide)
  · exact Piece.opt_some (Piece.str ['-'])

theorem integerPart_body (ht : IntText t) (hr : HeadNot digit rest) : Piece gList la 9 false (.seq (.opt (.str ['-']))
    (.choice (.str ['0']) (.seq (.call R.ASCII_NONZERO_DIGIT) (.star (.call R.ASCII_DIGIT))))) .atomic p t rest := by
  cases ht with
  | zero neg =>
    exact (Piece.seq (Or.inl rfl) (sign_piece neg (headNot_cons (by decide) _)) (Piece.choice_l (Piece.str ['0']))).mono (by decide)
  | nz neg d ds hd hds =>
    have hne : ∀ x : Char, ¬ nzdigit x → x ≠ d := fun x hx h => hx (h ▸ hd)
    exact (Piece.seq (Or.inl rfl) (sign_piece neg (headNot_cons (P := (· = '-')) (hne '-' (by decide)).symm _))
      (Piece.choice_r (failsL_str (c := ⟨_, d :: (ds ++ rest)⟩) (by simp [matchStr, hne '0' (by decide)]))
        (Piece.seq (Or.inl rfl) (Piece.one (runsL_call (nzdigitL_runs hd))) (digits hds hr)) rfl (by omega))).mono (by decide)

theorem integerPart (ht : IntText t) (hr : HeadNot digit rest) : Piece gList la 12 sk (.call R.IntegerPart) .atomic p t rest :=
  (Piece.atomic look_IntegerPart (integerPart_body ht hr)).mono (by decide)

/-! ### the guard `!("." | NameStart)` -/

theorem numGuard (h : NumEnd rest) :
    Piece gList .none 10 false (.not (.choice (.str ['.']) (.call R.NameStart))) .atomic p [] rest :=
  Piece.not_ (first_fails_letter (by decide) h (headNot_mono (fun _ ha => Or.inl (nameStart_nameCont (Or.inl ha))) h))
    (Nat.le_refl _)

theorem numGuard_fails {p : Nat} {x : Char} {r : List Char} (hx : x = '.' ∨ nameStart x) :
    Fails gList 10 false (.not (.choice (.str ['.']) (.call R.NameStart))) .atomic ⟨p, x :: r⟩ := by
  by_cases hdot : x = '.'
  · subst hdot
    exact (failsL_not (la := .none) (runsL_choice_l (runsL_str (c := ⟨p, '.' :: r⟩) (r := r) (by simp [matchStr])))).mono (by omega)
  · have hs := hx.resolve_left hdot
    have hf : FailsL gList .neg 7 false (.str ['.']) .atomic ⟨p, x :: r⟩ :=
      (failsL_str (c := ⟨p, x :: r⟩) (by simp [matchStr, Ne.symm hdot])).mono (by omega)
    exact (failsL_not (la := .none) (runsL_choice_r hf (runsL_call (nameStartL_runs hs)))).mono (by omega)

theorem intValue_runs (ht : IntText t) (p : Nat) (rest : List Char) (hr : NumEnd rest) :
    RunsRule gList (t.length + 20) R.IntValue .nonAtomic ⟨p, t ++ rest⟩ ⟨p + t.length, rest⟩
      [Pair.mk R.IntValue p (p + t.length) []] :=
  (Piece.rule look_IntValue (Piece.seq_nil (Or.inl rfl) (integerPart ht (numEnd_digit hr)) (numGuard hr)) .nonAtomic).mono
    (by omega)

theorem intValue_fails_float (ht : IntText t) (p : Nat) (x : Char) (r : List Char)
    (hx : x = '.' ∨ nameStart x) : FailsRule gList (t.length + 20) R.IntValue .nonAtomic ⟨p, t ++ x :: r⟩ := by
  have hnd : HeadNot digit (x :: r) := by
    refine headNot_cons (fun hd => ?_) _
    rcases hx with rfl | hs
    · exact absurd hd.1 (by decide)
    · exact nameStart_not_digit hs hd
  exact (failsRule_atomic look_IntValue (Piece.fails_seq (Or.inl rfl) (integerPart ht hnd) (numGuard_fails hx))).mono (by omega)

theorem frac {fd : List Char} (hfd : ∀ x ∈ fd, digit x) (hr : HeadNot digit rest) :
    Piece gList la 8 sk (.call R.FractionalPart) .atomic p ('.' :: fd) rest :=
  (Piece.atomic look_FractionalPart (Piece.seq (Or.inl rfl) (Piece.str ['.']) (digits hfd hr))).mono (by decide)

theorem exponent {ex : List Char} (hex : ExpText ex) (hr : HeadNot digit rest) :
    Piece gList la 14 sk (.call R.ExponentPart) .atomic p ex rest := by
  cases hex with
  | mk e sg d ds he hsg hd hds =>
    have hm : ∀ X, matchInsens ['e'] (e :: X) = some X := fun X => by
      rcases he with rfl | rfl <;> simp [matchInsens] <;> decide
    -- optional sign: a digit is neither `+` nor `-`
    have hd0 : ¬ '+' = d ∧ ¬ '-' = d := by
      constructor <;> (rintro rfl; exact absurd hd.1 (by decide))
    have h2 : ∀ q, Piece gList la 3 false (.opt (.choice (.str ['+']) (.str ['-']))) .atomic q sg ([d] ++ ds ++ rest) := fun q => by
      rcases hsg with rfl | rfl | rfl
      · exact Piece.opt_none (failsL_choice (failsL_str (c := ⟨q, _⟩) (by simp [matchStr, hd0.1]))
          (failsL_str (c := ⟨q, _⟩) (by simp [matchStr, hd0.2]))) (by decide)
      · exact Piece.opt_some (Piece.choice_l (Piece.str ['+']))
      · exact Piece.opt_some (Piece.choice_r (failsL_str (c := ⟨q, _⟩) (by simp [matchStr])) (Piece.str ['-']) rfl (by decide))
    have h3 := Piece.plus (Piece.seq (la := la) (p := p + [e].length + sg.length) (Or.inl rfl)
      (Piece.one (runsL_call (digitL_runs (r := ds ++ rest) hd))) (digits hds hr))
    exact (Piece.atomic look_ExponentPart (Piece.seq (ta := [e]) (Or.inl rfl) (Piece.one (runsL_insens (c := ⟨p, _⟩) (hm _)))
      (Piece.seq (Or.inl rfl) (h2 _) h3))).mono (by decide)

theorem exp_fails {p : Nat} {rest : List Char} (h : NumEnd rest) : FailsRule gList 3 R.ExponentPart .atomic ⟨p, rest⟩ := by
  refine failsRule_atomic look_ExponentPart (fails_seq_first (failsL_insens (la := .none) (c := ⟨p, rest⟩) ?_))
  cases rest with
  | nil => rfl
  | cons d r =>
    have hd := h d r rfl
    have hne : ¬ asciiLower 'e' = asciiLower d := by
      intro he
      have e0 : asciiLower 'e' = 'e' := by decide
      rw [e0] at he
      unfold asciiLower at he
      split at he
      · rename_i hup
        exact hd (Or.inl (Or.inl (Or.inr (Or.inl hup))))
      · subst he
        exact hd (Or.inl (by decide))
    simp [matchInsens, hne]

theorem exp_fails_dot {p : Nat} {r : List Char} : FailsRule gList 3 R.ExponentPart .atomic ⟨p, '.' :: r⟩ :=
  failsRule_atomic look_ExponentPart (fails_seq_first (failsL_insens (la := .none) (c := ⟨p, '.' :: r⟩)
    (by simp [matchInsens]; decide)))

theorem expText_head {ex : List Char} (h : ExpText ex) : ∃ e r, ex = e :: r ∧ nameStart e := by
  cases h with
  | mk e sg d ds he _ _ _ =>
    refine ⟨e, _, rfl, ?_⟩
    rcases he with rfl | rfl <;> decide

theorem floatValue_runs (ht : FloatText t) (p : Nat) (rest : List Char) (hr : NumEnd rest) :
    RunsRule gList (t.length + 40) R.FloatValue .nonAtomic ⟨p, t ++ rest⟩ ⟨p + t.length, rest⟩
      [Pair.mk R.FloatValue p (p + t.length) []] := by
  have hrd := numEnd_digit hr
  have hdot : ∀ y : List Char, HeadNot digit ('.' :: y) := fun y => headNot_cons (fun hd => absurd hd.1 (by decide)) y
  -- an exponent starts with a letter: neither a digit nor `.`
  have hexp : ∀ {ex : List Char}, ExpText ex → HeadNot digit (ex ++ rest) ∧ HeadNot (· = '.') (ex ++ rest) := by
    intro ex hex
    obtain ⟨e, er, rfl, hes⟩ := expText_head hex
    exact ⟨headNot_cons (nameStart_not_digit hes) _, headNot_cons (by rintro rfl; exact absurd hes (by decide)) _⟩
  refine (Piece.rule look_FloatValue (K := 38) ?_ .nonAtomic).mono (by omega)
  cases ht with
  | fe ip fd ex hip hfd hex =>
    exact (Piece.choice_l (Piece.seq (Or.inl rfl) (integerPart hip (hdot _)) (Piece.seq (Or.inl rfl) (frac hfd (hexp hex).1)
      (Piece.seq_nil (Or.inl rfl) (exponent hex hrd) (numGuard hr))))).mono (by decide)
  | f ip fd hip hfd =>
    have a1 := integerPart (la := .none) (sk := false) (p := p) hip (hdot (fd ++ rest))
    have a2 := frac (la := .none) (sk := false) (p := p + ip.length) hfd hrd
    -- the first alternative fails at the exponent
    have f1 := Piece.fails_seq (Or.inl rfl) a1 (Piece.fails_seq (Or.inl rfl) a2 (failsL_seq_first
      (b := .not (.choice (.str ['.']) (.call R.NameStart))) (failsL_call (sk := false) (exp_fails hr))))
    exact (Piece.choice_r f1 (Piece.choice_l (Piece.seq (Or.inl rfl) a1 (Piece.seq_nil (Or.inl rfl) a2 (numGuard hr))))
      (by simp) (by simp only [List.length_append, List.length_cons]; omega)).mono (by decide)
  | e ip ex hip hex =>
    have a1 := integerPart (la := .none) (sk := false) (p := p) hip (hexp hex).1
    -- alternatives 1 and 2 fail at the fractional part
    have f1 := fun y => Piece.fails_seq (Or.inl rfl) a1 (failsL_seq_first (b := y) (first_fails (la := .none) (sk := false) (k := 4)
      (e := .call R.FractionalPart) (by decide) (hexp hex).2))
    exact (Piece.choice_r (f1 _) (Piece.choice_r (f1 _) (Piece.seq (Or.inl rfl) a1 (Piece.seq_nil (Or.inl rfl) (exponent hex hrd)
      (numGuard hr))) (by simp) (by simp only [List.length_append]; omega)) (by simp)
      (by simp only [List.length_append]; omega)).mono (by decide)

end NitroVerif.ValueParse
