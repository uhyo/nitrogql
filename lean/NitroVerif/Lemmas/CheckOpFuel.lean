import NitroVerif.Lemmas.CheckOpClosure
/-!
Fuel adequacy of the model's spread recursion. `spreadHandler S D fuel` (main walk) and `keysHandler D fuel` (root keys of
a subscription) recurse on a fuel and have an out-of-fuel branch that the Rust code does not have. Here the model is
stated again with the fuel `n` and the behaviour of the out-of-fuel branches (`Z`, `ZK`) as PARAMETERS (`checkOpX`);
`checkOp` is the instance `n = fuelFor D`, `Z` = "report `RecursingFragmentSpread`", `ZK` = "no keys".

Enough fuel is more fuel than there are fragment names not yet on the stack (`Search.unseen (fragNamesOf D) seen < fuel`): a
spread that recurses pushes a defined name that was not on the stack, so the count drops with the fuel, and the model's
`fuelFor D` exceeds it for every stack. No invariant on the stack is needed. At fuel 0 the measure would be negative, so
the out-of-fuel branch is never evaluated. `fine_iff` (`Lemmas/CheckOpReach.lean`) uses the same measure.
-/
namespace NitroVerif.CheckOp
open NitroVerif.Gql NitroVerif.CheckCommon NitroVerif.Valid

/-! ### the model with fuel and out-of-fuel behaviour as parameters

Suffixes: `…Z` the out-of-fuel behaviour is a parameter; `…H` the handlers are parameters; `…X` both fuels of the walk are
parameters; `…U` the rounds of `usedFragments` too. -/

/-- `spreadHandler` with an arbitrary out-of-fuel behaviour `Z` -/
def spreadHandlerZ (S : Schema) (D : Doc) (Z : SpreadHandler) : Nat → SpreadHandler
  | 0 => Z
  | fuel + 1 => fun seen vars root name namePos pos =>
    if seen.contains name then [(ErrKind.RecursingFragmentSpread, pos)]
    else match fragMap D name with
      | none => [(ErrKind.UnknownFragment, namePos)]
      | some f =>
        checkDirectives S vars f.dirs "FRAGMENT_DEFINITION" ++
        match S.typeDef? f.cond with
        | none => []
        | some ct =>
          let a := spreadApplicability S root ct pos
          a.1 ++ (if a.2 then checkSelectionSet S (spreadHandlerZ S D Z fuel) (seen ++ [name]) vars ct f.sel f.pos else [])

/-- `keysHandler` with an arbitrary out-of-fuel behaviour `ZK` -/
def keysHandlerZ (D : Doc) (ZK : KeysHandler) : Nat → KeysHandler
  | 0 => ZK
  | fuel + 1 => fun seen name =>
    if seen.contains name then []
    else match fragMap D name with
      | none => []
      | some f => rootKeys (keysHandlerZ D ZK fuel) (seen ++ [name]) f.sel

/-- the out-of-fuel branches of the model -/
def exhaustedSpread : SpreadHandler := fun _ _ _ _ _ pos => [(ErrKind.RecursingFragmentSpread, pos)]
def exhaustedKeys : KeysHandler := fun _ _ => []

theorem spreadHandler_eq_Z (S : Schema) (D : Doc) : ∀ k, spreadHandler S D k = spreadHandlerZ S D exhaustedSpread k := by
  intro k
  induction k with
  | zero => rfl
  | succ k ih =>
    funext seen vars root name namePos pos
    simp only [spreadHandler, spreadHandlerZ, ih]
    cases fragMap D name with
    | none => rfl
    | some f => cases S.typeDef? f.cond <;> rfl

theorem keysHandler_eq_Z (D : Doc) : ∀ k, keysHandler D k = keysHandlerZ D exhaustedKeys k := by
  intro k
  induction k with
  | zero => rfl
  | succ k ih =>
    funext seen name
    simp only [keysHandler, keysHandlerZ, ih]
    cases fragMap D name <;> rfl

/-- `check_operation` of the model with the two handlers as parameters -/
def checkOperationH (S : Schema) (HS : SpreadHandler) (HK : KeysHandler) (op : OperationDef) : List Diag :=
  if hasExplicitSchema S && (S.explicitRoot? op.kind).isNone then [(ErrKind.NoRootType, op.pos)]
  else match S.typeDef? (S.rootName op.kind) with
    | none => [(ErrKind.UnknownType, op.pos)]
    | some root =>
      checkDirectives S (some op.vars) op.dirs (opLocation op.kind) ++
      checkVariablesAux S [] op.vars ++
      (if op.kind == .subscription && decide ((dedupNames (rootKeys HK [] op.sel)).length > 1)
        then [(ErrKind.SubscriptionMustHaveExactlyOneRootField, op.pos)] else []) ++
      checkSelectionSet S HS [] (some op.vars) root op.sel op.pos

/-- `check_fragment_definition` of the model with the spread handler as parameter -/
def checkFragmentDefinitionH (S : Schema) (HS : SpreadHandler) (used : Bool) (f : FragmentDef) : List Diag :=
  (if used then [] else withoutVariableChecks (checkDirectives S none f.dirs "FRAGMENT_DEFINITION")) ++
  match S.typeDef? f.cond with
  | none => [(ErrKind.UnknownType, f.condPos)]
  | some t =>
    if (directFields t).isSome then
      (if used then []
       else withoutVariableChecks (checkSelectionSet S HS [f.name] none t f.sel f.pos))
    else [(ErrKind.InvalidFragmentTarget, f.condPos)]

def defBodyH (S : Schema) (D : Doc) (HS : SpreadHandler) (HK : KeysHandler) : ExecDef → List Diag
  | .op o => checkOperationH S HS HK o
  | .frag f => checkFragmentDefinitionH S HS ((usedFragments D).contains f.name) f
  | .imp _ => []

def checkDefsH (S : Schema) (D : Doc) (HS : SpreadHandler) (HK : KeysHandler) (opNum : Nat) :
    List ExecDef → List ExecDef → List Diag
  | _, [] => []
  | earlier, d :: rest =>
    defHeader opNum earlier d ++ defBodyH S D HS HK d ++ checkDefsH S D HS HK opNum (earlier ++ [d]) rest

/-- **the model with fuel `n` and out-of-fuel behaviours `Z` (main walk) and `ZK` (root keys)** -/
def checkOpX (S : Schema) (D : Doc) (n : Nat) (Z : SpreadHandler) (ZK : KeysHandler) : List Diag :=
  checkDefsH S D (spreadHandlerZ S D Z n) (keysHandlerZ D ZK n) (opsOf D).length [] D

theorem checkDefs_eq_H (S : Schema) (D : Doc) (opNum : Nat) : ∀ (rest earlier : List ExecDef),
    checkDefs S D opNum earlier rest =
      checkDefsH S D (spreadHandler S D (fuelFor D)) (keysHandler D (fuelFor D)) opNum earlier rest := by
  intro rest
  induction rest with
  | nil => intro _; rfl
  | cons d rest ih =>
    intro earlier
    simp only [checkDefs, checkDefsH, ih]
    congr 2

theorem checkOp_eq_X (S : Schema) (D : Doc) :
    checkOp S D = checkOpX S D (fuelFor D) exhaustedSpread exhaustedKeys := by
  unfold checkOp checkOpX
  rw [checkDefs_eq_H, spreadHandler_eq_Z, keysHandler_eq_Z]

/-! ### congruence: a walk only consults its handler with the walk's own stack and variables -/

theorem checkSelections_congr {S : Schema} {H H' : SpreadHandler} {seen : List Name} {vars : Option (List VarDef)}
    (hH : ∀ root name np pos, H seen vars root name np pos = H' seen vars root name np pos) :
    (∀ s root fields, checkSelection S H seen vars root fields s = checkSelection S H' seen vars root fields s) ∧
    (∀ ss root fields, checkSelections S H seen vars root fields ss = checkSelections S H' seen vars root fields ss) := by
  apply Selection.size.mutual_induct
  case case1 => intro al name np args dirs ss ih root fields; simp only [checkSelection, ih]
  case case2 => intro al name np args dirs root fields; simp only [checkSelection]
  case case3 => intro name np dirs pos root fields; simp only [checkSelection, hH]
  case case4 => intro cond dirs ss pos ih root fields; simp only [checkSelection, ih]
  case case5 => intro root fields; simp only [checkSelections]
  case case6 => intro s ss ih1 ih2 root fields; simp only [checkSelections, ih1, ih2]

theorem checkSelectionSet_congr {S : Schema} {H H' : SpreadHandler} {seen : List Name} {vars : Option (List VarDef)}
    (hH : ∀ root name np pos, H seen vars root name np pos = H' seen vars root name np pos)
    (root : TypeDef) (ss : List Selection) (anchor : Pos) :
    checkSelectionSet S H seen vars root ss anchor = checkSelectionSet S H' seen vars root ss anchor := by
  unfold checkSelectionSet
  cases directFields root with
  | none => rfl
  | some fields => exact (checkSelections_congr hH).2 ss root fields

theorem rootKeys_congr {H H' : KeysHandler} {seen : List Name} (hH : ∀ name, H seen name = H' seen name) :
    (∀ s, rootKeysSel H seen s = rootKeysSel H' seen s) ∧ (∀ ss, rootKeys H seen ss = rootKeys H' seen ss) := by
  apply Selection.size.mutual_induct
  case case1 => intro al; cases al <;> intros <;> simp only [rootKeysSel]
  case case2 => intro al; cases al <;> intros <;> simp only [rootKeysSel]
  case case3 => intro name np dirs pos; simp only [rootKeysSel, hH]
  case case4 => intro cond dirs ss pos ih; simp only [rootKeysSel, ih]
  case case5 => simp only [rootKeys]
  case case6 => intro s ss ih1 ih2; simp only [rootKeys, ih1, ih2]

theorem unseen_push {D : Doc} {seen : List Name} {name : Name} {f : FragmentDef} (hs : seen.contains name = false)
    (hm : fragMap D name = some f) : Search.unseen (fragNamesOf D) (seen ++ [name]) < Search.unseen (fragNamesOf D) seen := by
  obtain ⟨hf, hfn⟩ := fragMap_eq_some hm
  exact Search.unseen_lt (fun x hx => List.mem_append_left _ hx) (List.mem_map.mpr ⟨f, hf, hfn⟩) (by simpa using hs) (by simp)

theorem spreadHandlerZ_indep {S : Schema} {D : Doc} (Z Z' : SpreadHandler) :
    ∀ (k k' : Nat) (seen : List Name), Search.unseen (fragNamesOf D) seen < k → Search.unseen (fragNamesOf D) seen < k' →
      ∀ vars root name np pos,
        spreadHandlerZ S D Z k seen vars root name np pos = spreadHandlerZ S D Z' k' seen vars root name np pos := by
  intro k
  induction k with
  | zero => intro k' seen h1; exact absurd h1 (Nat.not_lt_zero _)
  | succ k ih =>
    intro k' seen h1 h2 vars root name np pos
    cases k' with
    | zero => exact absurd h2 (Nat.not_lt_zero _)
    | succ k' =>
      simp only [spreadHandlerZ]
      cases hc : seen.contains name with
      | true => rfl
      | false =>
        simp only [Bool.false_eq_true, if_false]
        cases hm : fragMap D name with
        | none => rfl
        | some f =>
          have hpush := unseen_push hc hm
          have hcongr : ∀ ct, checkSelectionSet S (spreadHandlerZ S D Z k) (seen ++ [name]) vars ct f.sel f.pos =
              checkSelectionSet S (spreadHandlerZ S D Z' k') (seen ++ [name]) vars ct f.sel f.pos := fun ct =>
            checkSelectionSet_congr (fun root' name' np' pos' =>
              ih k' (seen ++ [name]) (by omega) (by omega) vars root' name' np' pos') ct f.sel f.pos
          simp only [hcongr]

theorem keysHandlerZ_indep {D : Doc} (ZK ZK' : KeysHandler) :
    ∀ (k k' : Nat) (seen : List Name), Search.unseen (fragNamesOf D) seen < k → Search.unseen (fragNamesOf D) seen < k' →
      ∀ name, keysHandlerZ D ZK k seen name = keysHandlerZ D ZK' k' seen name := by
  intro k
  induction k with
  | zero => intro k' seen h1; exact absurd h1 (Nat.not_lt_zero _)
  | succ k ih =>
    intro k' seen h1 h2 name
    cases k' with
    | zero => exact absurd h2 (Nat.not_lt_zero _)
    | succ k' =>
      simp only [keysHandlerZ]
      cases hc : seen.contains name with
      | true => rfl
      | false =>
        simp only [Bool.false_eq_true, if_false]
        cases hm : fragMap D name with
        | none => rfl
        | some f =>
          simp only
          have hpush := unseen_push hc hm
          exact (rootKeys_congr fun name' => ih k' (seen ++ [name]) (by omega) (by omega) name').2 f.sel

theorem fuelFor_enough (D : Doc) (seen : List Name) {n : Nat} (hn : fuelFor D ≤ n) : Search.unseen (fragNamesOf D) seen < n := by
  have := Search.unseen_le (fragNamesOf D) seen
  have hlen : (fragNamesOf D).length = (fragsOf D).length := by simp [fragNamesOf]
  simp only [fuelFor] at hn
  omega

theorem checkDefsH_indep {S : Schema} {D : Doc} {n n' : Nat} (Z Z' : SpreadHandler) (ZK ZK' : KeysHandler)
    (hn : fuelFor D ≤ n) (hn' : fuelFor D ≤ n') (opNum : Nat) :
    ∀ (rest earlier : List ExecDef),
      checkDefsH S D (spreadHandlerZ S D Z n) (keysHandlerZ D ZK n) opNum earlier rest =
      checkDefsH S D (spreadHandlerZ S D Z' n') (keysHandlerZ D ZK' n') opNum earlier rest := by
  intro rest
  induction rest with
  | nil => intro _; rfl
  | cons d rest ih =>
    intro earlier
    simp only [checkDefsH]
    rw [ih _]
    congr 2
    cases d with
    | imp i => rfl
    | op o =>
      simp only [defBodyH, checkOperationH]
      have h1 : rootKeys (keysHandlerZ D ZK n) [] o.sel = rootKeys (keysHandlerZ D ZK' n') [] o.sel :=
        (rootKeys_congr fun name =>
          keysHandlerZ_indep ZK ZK' n n' [] (fuelFor_enough D [] hn) (fuelFor_enough D [] hn') name).2 o.sel
      have h2 : ∀ root, checkSelectionSet S (spreadHandlerZ S D Z n) [] (some o.vars) root o.sel o.pos =
          checkSelectionSet S (spreadHandlerZ S D Z' n') [] (some o.vars) root o.sel o.pos := by
        intro root
        apply checkSelectionSet_congr
        intro root' name np pos
        exact spreadHandlerZ_indep Z Z' n n' [] (fuelFor_enough D [] hn) (fuelFor_enough D [] hn') _ root' name np pos
      simp only [h1, h2]
    | frag f =>
      simp only [defBodyH, checkFragmentDefinitionH]
      have h2 : ∀ t, checkSelectionSet S (spreadHandlerZ S D Z n) [f.name] none t f.sel f.pos =
          checkSelectionSet S (spreadHandlerZ S D Z' n') [f.name] none t f.sel f.pos := by
        intro t
        apply checkSelectionSet_congr
        intro root' name np pos
        exact spreadHandlerZ_indep Z Z' n n' [f.name] (fuelFor_enough D _ hn) (fuelFor_enough D _ hn') _ root' name np pos
      simp only [h2]

theorem checkOpX_indep (S : Schema) (D : Doc) {n n' : Nat} (Z Z' : SpreadHandler) (ZK ZK' : KeysHandler)
    (hn : fuelFor D ≤ n) (hn' : fuelFor D ≤ n') : checkOpX S D n Z ZK = checkOpX S D n' Z' ZK' := by
  unfold checkOpX
  exact checkDefsH_indep Z Z' ZK ZK' hn hn' _ D []

def defBodyHU (S : Schema) (used : List Name) (HS : SpreadHandler) (HK : KeysHandler) : ExecDef → List Diag
  | .op o => checkOperationH S HS HK o
  | .frag f => checkFragmentDefinitionH S HS (used.contains f.name) f
  | .imp _ => []

def checkDefsHU (S : Schema) (used : List Name) (HS : SpreadHandler) (HK : KeysHandler) (opNum : Nat) :
    List ExecDef → List ExecDef → List Diag
  | _, [] => []
  | earlier, d :: rest =>
    defHeader opNum earlier d ++ defBodyHU S used HS HK d ++ checkDefsHU S used HS HK opNum (earlier ++ [d]) rest

/-- **the model with walk fuel `n`, closure rounds `m`, and out-of-fuel behaviours `Z`, `ZK`** -/
def checkOpXU (S : Schema) (D : Doc) (n m : Nat) (Z : SpreadHandler) (ZK : KeysHandler) : List Diag :=
  checkDefsHU S (usedIter D m (usedStart D)) (spreadHandlerZ S D Z n) (keysHandlerZ D ZK n) (opsOf D).length [] D

theorem checkDefsHU_eq (S : Schema) (D : Doc) (HS : SpreadHandler) (HK : KeysHandler) (opNum : Nat) :
    ∀ (rest earlier : List ExecDef),
      checkDefsHU S (usedFragments D) HS HK opNum earlier rest = checkDefsH S D HS HK opNum earlier rest := by
  intro rest
  induction rest with
  | nil => intro _; rfl
  | cons d rest ih =>
    intro earlier
    simp only [checkDefsHU, checkDefsH, ih]
    congr 2

theorem checkOpXU_eq_X (S : Schema) (D : Doc) {n m : Nat} (Z : SpreadHandler) (ZK : KeysHandler)
    (hm : (fragsOf D).length + 1 ≤ m) : checkOpXU S D n m Z ZK = checkOpX S D n Z ZK := by
  unfold checkOpXU checkOpX
  rw [usedFragments_fuel hm, checkDefsHU_eq]

theorem checkOpX_eq_checkOp (S : Schema) (D : Doc) {n : Nat} (Z : SpreadHandler) (ZK : KeysHandler)
    (hn : fuelFor D ≤ n) : checkOpX S D n Z ZK = checkOp S D :=
  (checkOpX_indep S D Z exhaustedSpread ZK exhaustedKeys hn (Nat.le_refl _)).trans (checkOp_eq_X S D).symm

theorem checkOpXU_eq_checkOp (S : Schema) (D : Doc) {n m : Nat} (Z : SpreadHandler) (ZK : KeysHandler)
    (hn : fuelFor D ≤ n) (hm : (fragsOf D).length + 1 ≤ m) : checkOpXU S D n m Z ZK = checkOp S D :=
  (checkOpXU_eq_X S D Z ZK hm).trans (checkOpX_eq_checkOp S D Z ZK hn)

end NitroVerif.CheckOp
