import NitroVerif.Lemmas.CheckOpCompleteWalk
/-!
From the rules of the reference validator to the local facts of the walk (C04): the rules of `SpecValid` one by one
(`Rules`), and from them (with the structure `CheckOp.SchemaFacts` of `CheckOpSites.lean`)
the quietness of `check_arguments` at every argument site, of `check_directives` at every directive site, and the
local facts `SelOK` for every selection of the document.
-/
namespace NitroVerif.CheckOp
open NitroVerif.Gql NitroVerif.CheckCommon NitroVerif.Valid

/-- the implemented rules, one field per entry of `ruleTable`, in its order -/
structure Rules (S : Schema) (D : Doc) : Prop where
  r2_1_1 : rule_5_2_1_1 S D = true
  r2_2_1 : rule_5_2_2_1 S D = true
  r2_3_1 : rule_5_2_3_1 S D = true
  r3_1 : rule_5_3_1 S D = true
  r3_3 : rule_5_3_3 S D = true
  r4_1 : rule_5_4_1 S D = true
  r4_2 : rule_5_4_2 S D = true
  r4_2_1 : rule_5_4_2_1 S D = true
  r6_1 : rule_5_6_1 S D = true
  r6_2 : rule_5_6_2 S D = true
  r6_3 : rule_5_6_3 S D = true
  r6_4 : rule_5_6_4 S D = true
  r8_1 : rule_5_8_1 S D = true
  r8_2 : rule_5_8_2 S D = true
  r8_3 : rule_5_8_3 S D = true
  r8_5 : rule_5_8_5 S D = true
  r5_1_1 : rule_5_5_1_1 S D = true
  r5_1_2 : rule_5_5_1_2 S D = true
  r5_1_3 : rule_5_5_1_3 S D = true
  r5_2_1 : rule_5_5_2_1 S D = true
  r5_2_2 : rule_5_5_2_2 S D = true
  r5_2_3 : rule_5_5_2_3 S D = true
  r7_1 : rule_5_7_1 S D = true
  r7_2 : rule_5_7_2 S D = true
  r7_3 : rule_5_7_3 S D = true

theorem rules_of_table {S : Schema} {D : Doc} (h : ∀ p ∈ ruleTable, p.2 S D = true) : Rules S D := by
  simp only [ruleTable, List.forall_mem_cons] at h
  obtain ⟨h1, h2, h3, h4, h5, h6, h7, h8, h9, h10, h11, h12, h13, h14, h15, h16, h17, h18, h19, h20, h21, h22, h23,
    h24, h25, _⟩ := h
  exact ⟨h1, h2, h3, h4, h5, h6, h7, h8, h9, h10, h11, h12, h13, h14, h15, h16, h17, h18, h19, h20, h21, h22, h23,
    h24, h25⟩

/-- the rules the completeness proof uses are all among the implemented ones -/
theorem rules_of_implemented {S : Schema} {D : Doc} (h : ∀ r ∈ ImplementedRules, Holds r S D) : Rules S D :=
  rules_of_table fun p hp => h p.1 (List.mem_map_of_mem hp) p.2 (List.mem_append_left _ hp)

theorem holds_of_specValid {S : Schema} {D : Doc} (hv : SpecValid S D) (r : String) : Holds r S D :=
  fun f hf => List.all_eq_true.mp hv (r, f) hf

theorem rules_of_valid {S : Schema} {D : Doc} (hv : SpecValid S D) : Rules S D :=
  rules_of_implemented fun r _ => holds_of_specValid hv r

theorem typedValuesOf_of_mem {sites : List ArgSite} {site : ArgSite} {tv : TypedValue} (hs : site ∈ sites)
    (h : tv ∈ typedValuesOf [site]) : tv ∈ typedValuesOf sites := by
  simp only [typedValuesOf, List.mem_flatMap] at h ⊢
  obtain ⟨s', hs', h'⟩ := h
  simp at hs'; subst hs'
  exact ⟨_, hs, h'⟩

section
variable {S : Schema} {D : Doc} (hS : SchemaValid S) (R : Rules S D)
include R

theorem typedValues_clean : ∀ tv ∈ typedValues S D, valueIssues S tv.value tv.ty = [] := by
  intro tv htv
  have h1 := List.all_eq_true.mp R.r6_1 tv htv
  have h2 := List.all_eq_true.mp R.r6_2 tv htv
  have h3 := List.all_eq_true.mp R.r6_3 tv htv
  have h4 := List.all_eq_true.mp R.r6_4 tv htv
  simp only [Bool.not_eq_true'] at h1 h2 h3 h4
  exact valueIssues_nil h1 h2 h3 h4

include hS

theorem argSite_quiet {A : ErrKind → Bool} (hA : Admissible A) {vars : Option (List VarDef)} {site : ArgSite}
    (hs : site ∈ argSites S D) (hnd : nodupB (site.args.map (·.1)) = true) (hu : UsesOK S A vars [site]) (pos : Pos) :
    Quiet A (checkArguments S vars pos site.args site.defs) := by
  have SF := schemaFacts_of_valid hS
  have hU := schemaValid_uniqueArgs hS
  refine (checkArguments_values_iff hA (inputs_ok hU SF.inputTy) (argSite_defs_nodup hU hs) (argSite_defs_typed SF hs)).mpr
    ⟨hnd, fun a ha => List.all_eq_true.mp (List.all_eq_true.mp R.r4_1 site hs) a ha, fun d hd hreq => ?_, fun tv htv => ?_⟩
  · simpa [hreq] using List.all_eq_true.mp (List.all_eq_true.mp R.r4_2_1 site hs) d hd
  · refine ⟨typedValues_clean R tv ?_, hu tv htv⟩
    simp only [typedValues, List.mem_append]
    exact Or.inl (typedValuesOf_of_mem hs htv)

theorem dirSite_ok {A : ErrKind → Bool} (hA : Admissible A) {vars : Option (List VarDef)} {site : String × List Directive}
    (hs : site ∈ dirSites S D) (hu : UsesOK S A vars (dirArgSites S [site])) : DirFacts S A vars site := by
  refine ⟨?_, List.all_eq_true.mp R.r7_3 site hs⟩
  intro d hd
  have h1 := List.all_eq_true.mp (List.all_eq_true.mp R.r7_1 site hs) d hd
  have h2 := List.all_eq_true.mp (List.all_eq_true.mp R.r7_2 site hs) d hd
  cases hdd : S.directiveDef? d.name with
  | none => simp [hdd] at h1
  | some dd =>
    simp only [hdd] at h2
    refine ⟨dd, rfl, h2, ?_⟩
    have hmem1 : (⟨d.args, dd.args⟩ : ArgSite) ∈ dirArgSites S [site] :=
      mem_dirArgSites_iff.mpr ⟨site, by simp, d, hd, dd, hdd, rfl⟩
    have hmem2 : (⟨d.args, dd.args⟩ : ArgSite) ∈ argSites S D :=
      List.mem_append_right _ (mem_dirArgSites_iff.mpr ⟨site, hs, d, hd, dd, hdd, rfl⟩)
    have hnd : nodupB (d.args.map (·.1)) = true := by
      have := R.r4_2
      unfold rule_5_4_2 at this
      refine List.all_eq_true.mp this d.args (List.mem_append_right _ ?_)
      simp only [rule_5_4_2.dirArgSitesAll, List.mem_flatMap, List.mem_map]
      exact ⟨site, hs, d, hd, rfl⟩
    exact argSite_quiet hS R hA (site := ⟨d.args, dd.args⟩) hmem2 hnd
      (usesOK_mono (fun s hs' => by simp at hs'; subst hs'; exact hmem1) hu) d.pos

theorem dirSite_quiet {A : ErrKind → Bool} (hA : Admissible A) {vars : Option (List VarDef)} {loc : String}
    {ds : List Directive} (hs : (loc, ds) ∈ dirSites S D) (hu : UsesOK S A vars (dirArgSites S [(loc, ds)])) :
    Quiet A (checkDirectives S vars ds loc) :=
  (checkDirectives_iff hA).mpr (dirSite_ok hS R hA hs hu)

omit hS in
/-- the argument names of every argument site are pairwise different (5.4.2) -/
theorem argSites_args_nodup : ∀ site ∈ argSites S D, nodupB (site.args.map (·.1)) = true := by
  intro site hs
  have h42 := R.r4_2
  unfold rule_5_4_2 at h42
  rcases List.mem_append.mp hs with hs | hs
  · obtain ⟨t, al, name, np, args, dirs, sel, fd, hps, _, rfl⟩ := mem_fieldArgSites_iff.mp hs
    refine List.all_eq_true.mp h42 args (List.mem_append_left _ ?_)
    simp only [rule_5_4_2.fieldArgSitesAll, List.mem_filterMap]
    exact ⟨_, hps, rfl⟩
  · obtain ⟨ds, hds, d, hd, dd, _, rfl⟩ := mem_dirArgSites_iff.mp hs
    refine List.all_eq_true.mp h42 d.args (List.mem_append_right _ ?_)
    simp only [rule_5_4_2.dirArgSitesAll, List.mem_flatMap, List.mem_map]
    exact ⟨ds, hds, d, hd, rfl⟩

/-- field lookup (5.3.1) and the leaf / composite rule (5.3.3) for a field selected with the type `t` in scope -/
theorem field_lookup_ok {t : Name} {al : Option (Name × Pos)} {name : Name} {namePos : Pos} {args : List Arg}
    {dirs : List Directive} {sel : Option (List Selection)}
    (hps : (some t, Selection.field al name namePos args dirs sel) ∈ allSels (allCtxs S D)) :
    ∃ fd, fieldDef? S t name = some fd ∧ ∃ ft, S.typeDef? fd.ty.unwrapped = some ft ∧
      sel.isSome = (directFields ft).isSome := by
  have SF := schemaFacts_of_valid hS
  have h31 := List.all_eq_true.mp R.r3_1 _ hps
  simp only at h31
  cases hfd : fieldDef? S t name with
  | none => simp [hfd] at h31
  | some fd =>
    refine ⟨fd, rfl, ?_⟩
    have hft : ∃ ft, S.typeDef? fd.ty.unwrapped = some ft ∧ Schema.isOutputKind ft.kind = true := by
      rcases fieldDef?_cases hfd with rfl | ⟨td, htd, hf⟩
      · obtain ⟨st, hst, hk⟩ := SF.stringDefined
        exact ⟨st, by simpa [typenameMeta, GType.unwrapped] using hst, by rw [hk]; rfl⟩
      · exact (SF.fieldTy td htd fd hf).1
    obtain ⟨ft, hft, hout⟩ := hft
    refine ⟨ft, hft, ?_⟩
    have h33 := List.all_eq_true.mp R.r3_3 _ hps
    simp only [hfd, Schema.kindOf?, hft, Option.map_some] at h33
    unfold directFields
    cases hk : ft.kind <;> simp [hk, isLeafKind, isCompositeKind, Schema.isOutputKind] at h33 hout ⊢ <;>
      simp [h33]
end

/-- the argument sites of one selection: its own argument list (a field) and those of its directives -/
def selArgSites (S : Schema) (ps : Option Name × Selection) : List ArgSite :=
  fieldArgSites S [⟨ps.1, [ps.2]⟩] ++ dirArgSites S [selDirSite ps.2]

theorem selArgSites_sub {S : Schema} {C : List Ctx} {ps : Option Name × Selection} (h : ps ∈ allSels C) :
    ∀ x ∈ selArgSites S ps, x ∈ fieldArgSites S C ++ dirArgSites S (ctxDirSites C) := by
  intro x hx
  simp only [selArgSites, List.mem_append] at hx ⊢
  rcases hx with hx | hx
  · left
    simp only [fieldArgSites, List.mem_filterMap] at hx ⊢
    obtain ⟨a, ha, hax⟩ := hx
    simp [allSels] at ha
    subst ha
    exact ⟨_, h, hax⟩
  · right
    simp only [dirArgSites, List.mem_flatMap] at hx ⊢
    obtain ⟨site, hsite, hx⟩ := hx
    simp at hsite; subst hsite
    exact ⟨_, List.mem_map.mpr ⟨ps, h, rfl⟩, hx⟩

theorem applicability_of_canApply {S : Schema} (SF : SchemaFacts S) (hNE : noEmptyUnionB S = true)
    {t c : Name} {root ct : TypeDef} (pos : Pos) (ht : S.typeDef? t = some root) (hc : S.typeDef? c = some ct)
    (hck : isCompositeKind ct.kind = true) (h : canApply S t c = true) :
    (spreadApplicability S root ct pos).1 = [] := by
  cases hrk : isCompositeKind root.kind with
  | true => exact applicability_complete SF.typeND SF.members hNE pos ht hc hrk hck h
  | false =>
    unfold spreadApplicability
    cases hk : root.kind <;> simp [hk, isCompositeKind] at hrk ⊢

section
variable {S : Schema} {D : Doc} (hS : SchemaValid S) (hNE : noEmptyUnionB S = true) (R : Rules S D)
include R

theorem doc_fragNames_nodup : nodupB (fragNamesOf D) = true := by
  simpa [rule_5_5_1_1, fragNamesOf, frags_eq] using R.r5_1_1

theorem typeCondition_ok {c : Name} (hc : c ∈ typeConditions S D) :
    ∃ ct, S.typeDef? c = some ct ∧ isCompositeKind ct.kind = true := by
  have e1 := List.all_eq_true.mp R.r5_1_2 _ hc
  have e2 := List.all_eq_true.mp R.r5_1_3 _ hc
  cases ht : S.typeDef? c with
  | none => simp [ht] at e1
  | some ct => exact ⟨ct, rfl, by simpa [Schema.kindOf?, ht] using e2⟩

include hS hNE

theorem selOK_of_valid {A : ErrKind → Bool} (hA : Admissible A) {vars : Option (List VarDef)} {ps : Option Name × Selection}
    (hps : ps ∈ allSels (allCtxs S D)) (hu : UsesOK S A vars (selArgSites S ps)) : SelOK S D A vars ps := by
  have SF := schemaFacts_of_valid hS
  have hdirsite : selDirSite ps.2 ∈ dirSites S D := by
    simp only [dirSites, List.mem_append, ctxDirSites]
    exact Or.inr (List.mem_map.mpr ⟨ps, hps, rfl⟩)
  have hudir : UsesOK S A vars (dirArgSites S [selDirSite ps.2]) :=
    usesOK_mono (fun s hs => by simp only [selArgSites, List.mem_append]; exact Or.inr hs) hu
  obtain ⟨p, s⟩ := ps
  cases p with
  | none => simp [SelOK]
  | some t =>
    cases s with
    | field al name namePos args dirs sel =>
      simp only [SelOK]
      obtain ⟨fd, hfd, hrest⟩ := field_lookup_ok hS R hps
      have hsite1 : (⟨args, fd.args⟩ : ArgSite) ∈ selArgSites S (some t, .field al name namePos args dirs sel) :=
        List.mem_append_left _ (mem_fieldArgSites_iff.mpr ⟨t, al, name, namePos, args, dirs, sel, fd, by simp [allSels], hfd, rfl⟩)
      have hsite2 : (⟨args, fd.args⟩ : ArgSite) ∈ argSites S D :=
        List.mem_append_left _ (mem_fieldArgSites_iff.mpr ⟨t, al, name, namePos, args, dirs, sel, fd, hps, hfd, rfl⟩)
      refine ⟨fd, hfd, dirSite_quiet hS R hA hdirsite hudir, ?_, hrest⟩
      intro pos
      exact argSite_quiet hS R hA (site := ⟨args, fd.args⟩) hsite2 (argSites_args_nodup R _ hsite2)
        (usesOK_mono (fun s hs' => by simp at hs'; subst hs'; exact hsite1) hu) pos
    | spread name namePos dirs pos =>
      simp only [SelOK]
      refine ⟨dirSite_quiet hS R hA hdirsite hudir, ?_⟩
      intro root f ct hroot hf hct
      have h523 := List.all_eq_true.mp R.r5_2_3 _ hps
      simp only [frag?_eq_fragMap (doc_fragNames_nodup R), hf] at h523
      have hcond : f.cond ∈ typeConditions S D := by
        simp only [typeConditions, List.mem_append, List.mem_map]
        exact Or.inl ⟨f, by rw [frags_eq]; exact (fragMap_eq_some hf).1, rfl⟩
      obtain ⟨ct', hct', hck⟩ := typeCondition_ok R hcond
      rw [hct] at hct'; cases hct'
      exact applicability_of_canApply SF hNE pos hroot hct hck h523
    | inline cond dirs ss pos =>
      simp only [SelOK]
      refine ⟨dirSite_quiet hS R hA hdirsite hudir, ?_⟩
      cases cond with
      | none => trivial
      | some cc =>
        obtain ⟨c, cp⟩ := cc
        simp only
        have hcond : c ∈ typeConditions S D := by
          simp only [typeConditions, List.mem_append, List.mem_filterMap]
          exact Or.inr ⟨_, hps, rfl⟩
        obtain ⟨ct, hct, hck⟩ := typeCondition_ok R hcond
        refine ⟨ct, hct, isComposite_directFields hck, ?_⟩
        intro root hroot
        have h523 := List.all_eq_true.mp R.r5_2_3 _ hps
        simp only at h523
        exact applicability_of_canApply SF hNE pos hroot hct hck h523
end

end NitroVerif.CheckOp
