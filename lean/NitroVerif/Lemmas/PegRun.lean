/-
Forward ("big-step") combinators for the PEG interpreter: `RunsL g la n sk e at c c' ps` says that under lookahead state
`la`, for every trace and every depth bound ≥ n, the evaluation of `e` at cursor `c` succeeds at `c'` with pairs `ps`
(`FailsL`: fails; `RunsRuleL` / `FailsRuleL`: the same for a rule call). `Runs` / `Fails` / `RunsRule` / `FailsRule` are
the case outside lookahead (`la = .none`), definitionally. Every combinator takes ONE common threshold for its premises
(use `.mono`) and adds a constant, so the resulting bound is the DEPTH of the derivation, not its size.

Which form to state a lemma in. For any grammar: `RunsL` / `FailsL` / `RunsRuleL` / `FailsRuleL` (any lookahead state) whenever
the expression can also stand under `!`, `&` — every lemma here is proved in that form; `Runs` … (the same at `.none`) where
pairs are produced, which happens outside lookahead only; the `runs_*` / `fails_*` lemmas are the L lemmas under the name a
`Runs` goal is found by (`simpa using`, a `have` without expected type), nothing more. The implicit skip: `SkipsL` for any
grammar; `SkipTo` (`ParseLex`) is `SkipsL` for the generated grammar outside lookahead in a non-atomic body with skip calls,
and the document level's `RunsK` (`ParseDocRuns`) is `Runs` followed by that `SkipTo`. A body without skip calls: `RunT` /
`Piece` (`PegPiece`). Here are `str`, `insens`, `range`, `any`, `seq`, `choice`, `star` and `plus` (without skip calls), `opt`,
`rep`, `not`, `call`; nothing for `and` (the grammar has none); `soi` / `eoi` and the loop WITH skip calls (`starRest`) are stated where they are used: `ParseDocRuns` (`runs_soi`,
`runs_eoi`, `ManyK`) and `ParseValueList` (`RunsSR`).
-/
import NitroVerif.Lemmas.PegInv
namespace NitroVerif.Peg

variable (g : G)

def RunsL (la : Look) (n : Nat) (sk : Bool) (e : Expr) (at_ : Atomicity) (c c' : Cur) (ps : List Pair) : Prop :=
  ∀ tr, ∃ tr', ∀ f, n ≤ f → eval g f sk e at_ la tr c = (tr', .ok c' ps)
def FailsL (la : Look) (n : Nat) (sk : Bool) (e : Expr) (at_ : Atomicity) (c : Cur) : Prop :=
  ∀ tr, ∃ tr', ∀ f, n ≤ f → eval g f sk e at_ la tr c = (tr', .fail)
def RunsRuleL (la : Look) (n : Nat) (r : RuleId) (at_ : Atomicity) (c c' : Cur) (ps : List Pair) : Prop :=
  ∀ tr, ∃ tr', ∀ f, n ≤ f → callRule g f r at_ la tr c = (tr', .ok c' ps)
def FailsRuleL (la : Look) (n : Nat) (r : RuleId) (at_ : Atomicity) (c : Cur) : Prop :=
  ∀ tr, ∃ tr', ∀ f, n ≤ f → callRule g f r at_ la tr c = (tr', .fail)

def Runs (n : Nat) (sk : Bool) (e : Expr) (at_ : Atomicity) (c c' : Cur) (ps : List Pair) : Prop :=
  ∀ tr, ∃ tr', ∀ f, n ≤ f → eval g f sk e at_ .none tr c = (tr', .ok c' ps)
def Fails (n : Nat) (sk : Bool) (e : Expr) (at_ : Atomicity) (c : Cur) : Prop :=
  ∀ tr, ∃ tr', ∀ f, n ≤ f → eval g f sk e at_ .none tr c = (tr', .fail)
def RunsRule (n : Nat) (r : RuleId) (at_ : Atomicity) (c c' : Cur) (ps : List Pair) : Prop :=
  ∀ tr, ∃ tr', ∀ f, n ≤ f → callRule g f r at_ .none tr c = (tr', .ok c' ps)
def FailsRule (n : Nat) (r : RuleId) (at_ : Atomicity) (c : Cur) : Prop :=
  ∀ tr, ∃ tr', ∀ f, n ≤ f → callRule g f r at_ .none tr c = (tr', .fail)
/-- the implicit skip moves from `c` to `c'` (it yields no pair) -/
def SkipsL (la : Look) (n : Nat) (sk : Bool) (at_ : Atomicity) (c c' : Cur) : Prop :=
  ∀ tr, ∃ tr', ∀ f, n ≤ f → doSkip g f sk at_ la tr c = (tr', .ok c' [])

variable {g}

/-! `Runs` … `FailsRule` are written out (their names stand in statements elsewhere); they ARE the L forms at `.none`, so every
    L lemma applies to them as it stands -/

theorem runs_iff {n sk e at_ c c' ps} : Runs g n sk e at_ c c' ps ↔ RunsL g .none n sk e at_ c c' ps := Iff.rfl
theorem fails_iff {n sk e at_ c} : Fails g n sk e at_ c ↔ FailsL g .none n sk e at_ c := Iff.rfl
theorem runsRule_iff {n r at_ c c' ps} : RunsRule g n r at_ c c' ps ↔ RunsRuleL g .none n r at_ c c' ps := Iff.rfl
theorem failsRule_iff {n r at_ c} : FailsRule g n r at_ c ↔ FailsRuleL g .none n r at_ c := Iff.rfl

/-! ### the shape all these notions share: "for every trace there is a trace such that from `n` on, …" -/

theorem after_mono {P : Tr → Tr → Nat → Prop} {n m : Nat} (h : ∀ tr, ∃ tr', ∀ f, n ≤ f → P tr tr' f) (hnm : n ≤ m) :
    ∀ tr, ∃ tr', ∀ f, m ≤ f → P tr tr' f :=
  fun tr => let ⟨tr', h'⟩ := h tr; ⟨tr', fun f hf => h' f (Nat.le_trans hnm hf)⟩

/-- one clause of the interpreter: what holds of the successor of every bound from `n` on holds from `n + 1` on -/
theorem after_succ {P : Tr → Tr → Nat → Prop} {n : Nat} (h : ∀ tr, ∃ tr', ∀ f, n ≤ f → P tr tr' (f + 1)) :
    ∀ tr, ∃ tr', ∀ f, n + 1 ≤ f → P tr tr' f := fun tr =>
  let ⟨tr', h'⟩ := h tr
  ⟨tr', fun f hf => by obtain ⟨f, rfl⟩ : ∃ f', f = f' + 1 := ⟨f - 1, by omega⟩; exact h' f (by omega)⟩

theorem RunsL.mono {la n m sk e at_ c c' ps} (h : RunsL g la n sk e at_ c c' ps) (hnm : n ≤ m) :
    RunsL g la m sk e at_ c c' ps := after_mono h hnm
theorem FailsL.mono {la n m sk e at_ c} (h : FailsL g la n sk e at_ c) (hnm : n ≤ m) : FailsL g la m sk e at_ c :=
  after_mono h hnm
theorem RunsRuleL.mono {la n m r at_ c c' ps} (h : RunsRuleL g la n r at_ c c' ps) (hnm : n ≤ m) :
    RunsRuleL g la m r at_ c c' ps := after_mono h hnm
theorem FailsRuleL.mono {la n m r at_ c} (h : FailsRuleL g la n r at_ c) (hnm : n ≤ m) : FailsRuleL g la m r at_ c :=
  after_mono h hnm
theorem SkipsL.mono {la n m sk at_ c c'} (h : SkipsL g la n sk at_ c c') (hnm : n ≤ m) : SkipsL g la m sk at_ c c' :=
  after_mono h hnm
theorem Runs.mono {n m sk e at_ c c' ps} (h : Runs g n sk e at_ c c' ps) (hnm : n ≤ m) : Runs g m sk e at_ c c' ps :=
  after_mono h hnm
theorem Fails.mono {n m sk e at_ c} (h : Fails g n sk e at_ c) (hnm : n ≤ m) : Fails g m sk e at_ c := after_mono h hnm
theorem RunsRule.mono {n m r at_ c c' ps} (h : RunsRule g n r at_ c c' ps) (hnm : n ≤ m) : RunsRule g m r at_ c c' ps :=
  after_mono h hnm
theorem FailsRule.mono {n m r at_ c} (h : FailsRule g n r at_ c) (hnm : n ≤ m) : FailsRule g m r at_ c :=
  after_mono h hnm

/-! ### the two entry points of the interpreter on a rule call that runs -/

theorem RunsRule.run {n r at_ inp off t c' ps} (h : RunsRule g n r at_ ⟨off, t⟩ c' ps) (ht : inp.drop off = t)
    {fuel : Nat} (hf : n ≤ fuel) : Peg.run g fuel r inp off at_ = some (c'.pos, ps) := by
  obtain ⟨_, h'⟩ := h {}
  simp only [Peg.run, ht, h' fuel hf]

theorem parse_of_run {fuel r inp e ps} (h : Peg.run g fuel r inp 0 .nonAtomic = some (e, ps)) :
    Peg.parse g fuel r inp = .pairs ps := by
  unfold Peg.run at h
  unfold Peg.parse runTr
  rw [List.drop_zero] at h
  generalize callRule g fuel r .nonAtomic .none {} ⟨0, inp⟩ = x at h ⊢
  obtain ⟨tr, _ | _ | _⟩ := x
  · cases h; rfl
  all_goals cases h

theorem runsL_str {la sk s at_ c r} (h : matchStr s c.rest = some r) :
    RunsL g la 1 sk (.str s) at_ c ⟨c.pos + s.length, r⟩ [] :=
  after_succ fun tr => ⟨tr, fun f _ => by simp only [eval, h]⟩

theorem failsL_str {la sk s at_ c} (h : matchStr s c.rest = none) : FailsL g la 1 sk (.str s) at_ c :=
  after_succ fun tr => ⟨tr, fun f _ => by simp only [eval, h]⟩

theorem runsL_insens {la sk s at_ c r} (h : matchInsens s c.rest = some r) :
    RunsL g la 1 sk (.insens s) at_ c ⟨c.pos + s.length, r⟩ [] :=
  after_succ fun tr => ⟨tr, fun f _ => by simp only [eval, h]⟩

theorem failsL_insens {la sk s at_ c} (h : matchInsens s c.rest = none) : FailsL g la 1 sk (.insens s) at_ c :=
  after_succ fun tr => ⟨tr, fun f _ => by simp only [eval, h]⟩

theorem runsL_range {la sk lo hi at_ c d r} (h : c.rest = d :: r) (hd : lo ≤ d ∧ d ≤ hi) :
    RunsL g la 1 sk (.range lo hi) at_ c ⟨c.pos + 1, r⟩ [] :=
  after_succ fun tr => ⟨tr, fun f _ => by simp only [eval, h, hd, and_self, if_true]⟩

theorem failsL_range {la sk lo hi at_ c} (h : ∀ d r, c.rest = d :: r → ¬ (lo ≤ d ∧ d ≤ hi)) :
    FailsL g la 1 sk (.range lo hi) at_ c :=
  after_succ fun tr => ⟨tr, fun f _ => by
    simp only [eval]
    split
    · rename_i d r hr
      rw [if_neg (h d r hr)]
    · rfl⟩

theorem runsL_any {la sk at_ c d r} (h : c.rest = d :: r) : RunsL g la 1 sk .any at_ c ⟨c.pos + 1, r⟩ [] :=
  after_succ fun tr => ⟨tr, fun f _ => by simp only [eval, h]⟩

theorem failsL_any {la sk at_ c} (h : c.rest = []) : FailsL g la 1 sk .any at_ c :=
  after_succ fun tr => ⟨tr, fun f _ => by simp only [eval, h]⟩

theorem runs_str {sk s at_ c r} (h : matchStr s c.rest = some r) : Runs g 1 sk (.str s) at_ c ⟨c.pos + s.length, r⟩ [] :=
  runsL_str h
theorem fails_str {sk s at_ c} (h : matchStr s c.rest = none) : Fails g 1 sk (.str s) at_ c := failsL_str h

theorem runsL_seq_skip {la n sk a b at_ c c1 c1' c2 p1 p3} (ha : RunsL g la n sk a at_ c c1 p1)
    (hs : SkipsL g la n sk at_ c1 c1') (hb : RunsL g la n sk b at_ c1' c2 p3) :
    RunsL g la (n + 1) sk (.seq a b) at_ c c2 (p1 ++ p3) :=
  after_succ fun tr =>
    let ⟨tr1, h1⟩ := ha tr
    let ⟨tr2, h2⟩ := hs tr1
    let ⟨tr3, h3⟩ := hb tr2
    ⟨tr3, fun f hf => by simp only [eval, h1 f hf, h2 f hf, h3 f hf, List.append_nil]⟩

theorem failsL_seq_last_skip {la n sk a b at_ c c1 c1' p1} (ha : RunsL g la n sk a at_ c c1 p1)
    (hs : SkipsL g la n sk at_ c1 c1') (hb : FailsL g la n sk b at_ c1') : FailsL g la (n + 1) sk (.seq a b) at_ c :=
  after_succ fun tr =>
    let ⟨tr1, h1⟩ := ha tr
    let ⟨tr2, h2⟩ := hs tr1
    let ⟨tr3, h3⟩ := hb tr2
    ⟨tr3, fun f hf => by simp only [eval, h1 f hf, h2 f hf, h3 f hf]⟩

theorem SkipsL.noskip {la sk at_ c} (hn : sk = false ∨ at_ ≠ .nonAtomic) : SkipsL g la 1 sk at_ c c :=
  fun tr => ⟨tr, fun _ hf => doSkip_noskip g hf hn⟩

/-- a sequence where the implicit skip does nothing; the skip needs a positive depth bound, hence `n + 2` -/
theorem runsL_seq_noskip {la n sk a b at_ c c1 c2 p1 p3} (hn : sk = false ∨ at_ ≠ .nonAtomic)
    (ha : RunsL g la n sk a at_ c c1 p1) (hb : RunsL g la n sk b at_ c1 c2 p3) :
    RunsL g la (n + 2) sk (.seq a b) at_ c c2 (p1 ++ p3) :=
  runsL_seq_skip (ha.mono (Nat.le_succ n)) ((SkipsL.noskip hn).mono (Nat.le_add_left 1 n)) (hb.mono (Nat.le_succ n))

theorem failsL_seq_first {la n sk a b at_ c} (ha : FailsL g la n sk a at_ c) : FailsL g la (n + 1) sk (.seq a b) at_ c :=
  after_succ fun tr => let ⟨tr1, h1⟩ := ha tr; ⟨tr1, fun f hf => by simp only [eval, h1 f hf]⟩

theorem failsL_seq_last_noskip {la n sk a b at_ c c1 p1} (hn : sk = false ∨ at_ ≠ .nonAtomic)
    (ha : RunsL g la n sk a at_ c c1 p1) (hb : FailsL g la n sk b at_ c1) :
    FailsL g la (n + 2) sk (.seq a b) at_ c :=
  failsL_seq_last_skip (ha.mono (Nat.le_succ n)) ((SkipsL.noskip hn).mono (Nat.le_add_left 1 n)) (hb.mono (Nat.le_succ n))

theorem runsL_choice_l {la n sk a b at_ c c' ps} (ha : RunsL g la n sk a at_ c c' ps) :
    RunsL g la (n + 1) sk (.choice a b) at_ c c' ps :=
  after_succ fun tr => let ⟨tr1, h1⟩ := ha tr; ⟨tr1, fun f hf => by simp only [eval, h1 f hf]⟩

theorem runsL_choice_r {la n sk a b at_ c c' ps} (ha : FailsL g la n sk a at_ c) (hb : RunsL g la n sk b at_ c c' ps) :
    RunsL g la (n + 1) sk (.choice a b) at_ c c' ps :=
  after_succ fun tr =>
    let ⟨tr1, h1⟩ := ha tr
    let ⟨tr2, h2⟩ := hb tr1
    ⟨tr2, fun f hf => by simp only [eval, h1 f hf, h2 f hf]⟩

theorem failsL_choice {la n sk a b at_ c} (ha : FailsL g la n sk a at_ c) (hb : FailsL g la n sk b at_ c) :
    FailsL g la (n + 1) sk (.choice a b) at_ c :=
  after_succ fun tr =>
    let ⟨tr1, h1⟩ := ha tr
    let ⟨tr2, h2⟩ := hb tr1
    ⟨tr2, fun f hf => by simp only [eval, h1 f hf, h2 f hf]⟩

theorem runsL_opt_some {la n sk a at_ c c' ps} (ha : RunsL g la n sk a at_ c c' ps) :
    RunsL g la (n + 1) sk (.opt a) at_ c c' ps :=
  after_succ fun tr => let ⟨tr1, h1⟩ := ha tr; ⟨tr1, fun f hf => by simp only [eval, h1 f hf]⟩

theorem runsL_opt_none {la n sk a at_ c} (ha : FailsL g la n sk a at_ c) : RunsL g la (n + 1) sk (.opt a) at_ c c [] :=
  after_succ fun tr => let ⟨tr1, h1⟩ := ha tr; ⟨tr1, fun f hf => by simp only [eval, h1 f hf]⟩

theorem runsL_star_nil {la n a at_ c} (ha : FailsL g la n false a at_ c) : RunsL g la (n + 1) false (.star a) at_ c c [] :=
  after_succ fun tr =>
    let ⟨tr1, h1⟩ := ha tr
    ⟨tr1, fun f hf => by simp only [eval, Bool.false_eq_true, if_false, h1 f hf]⟩

theorem runsL_star_cons {la n a at_ c c1 c' p1 p2} (ha : RunsL g la n false a at_ c c1 p1)
    (hr : RunsL g la n false (.star a) at_ c1 c' p2) : RunsL g la (n + 1) false (.star a) at_ c c' (p1 ++ p2) :=
  after_succ fun tr =>
    let ⟨tr1, h1⟩ := ha tr
    let ⟨tr2, h2⟩ := hr tr1
    ⟨tr2, fun f hf => by simp only [eval, Bool.false_eq_true, if_false, h1 f hf, h2 f hf]⟩

theorem runsL_star_run {la : Look} {e : Expr} {at_ : Atomicity} {k : Nat} {P : Char → Prop} {rest : List Char}
    (hruns : ∀ p d r, P d → RunsL g la k false e at_ ⟨p, d :: r⟩ ⟨p + 1, r⟩ [])
    (hfails : ∀ p, FailsL g la k false e at_ ⟨p, rest⟩) : ∀ (ds : List Char) (p : Nat), (∀ y ∈ ds, P y) →
      RunsL g la (ds.length + (k + 1)) false (.star e) at_ ⟨p, ds ++ rest⟩ ⟨p + ds.length, rest⟩ []
  | [], p, _ => (runsL_star_nil (hfails p)).mono (by simp)
  | d :: ds, p, hds => by
    have h1 := hruns p d (ds ++ rest) (hds d (List.mem_cons_self ..))
    have h2 := runsL_star_run hruns hfails ds (p + 1) fun y hy => hds y (List.mem_cons_of_mem _ hy)
    have := runsL_star_cons (h1.mono (by omega : k ≤ ds.length + (k + 1))) h2
    simpa [Nat.add_assoc, Nat.add_comm 1] using this

theorem runsL_plus {la n sk a at_ c c' ps} (h : RunsL g la n sk (.seq a (.star a)) at_ c c' ps) :
    RunsL g la (n + 1) sk (.plus a) at_ c c' ps :=
  after_succ fun tr => let ⟨tr1, h1⟩ := h tr; ⟨tr1, fun f hf => by simp only [eval, h1 f hf]⟩

theorem failsL_plus {la n sk a at_ c} (h : FailsL g la n sk (.seq a (.star a)) at_ c) :
    FailsL g la (n + 1) sk (.plus a) at_ c :=
  after_succ fun tr => let ⟨tr1, h1⟩ := h tr; ⟨tr1, fun f hf => by simp only [eval, h1 f hf]⟩

theorem runsL_rep {la n sk k a at_ c c' ps} (h : RunsL g la n sk (unroll k a) at_ c c' ps) :
    RunsL g la (n + 1) sk (.rep k a) at_ c c' ps :=
  after_succ fun tr => let ⟨tr1, h1⟩ := h tr; ⟨tr1, fun f hf => by simp only [eval, h1 f hf]⟩

theorem runsL_not {la n sk a at_ c} (ha : FailsL g (lookNot la) n sk a at_ c) : RunsL g la (n + 1) sk (.not a) at_ c c [] :=
  after_succ fun tr => let ⟨tr1, h1⟩ := ha tr; ⟨tr1, fun f hf => by simp only [eval, h1 f hf]⟩

theorem failsL_not {la n sk a at_ c c' ps} (ha : RunsL g (lookNot la) n sk a at_ c c' ps) :
    FailsL g la (n + 1) sk (.not a) at_ c :=
  after_succ fun tr => let ⟨tr1, h1⟩ := ha tr; ⟨tr1, fun f hf => by simp only [eval, h1 f hf]⟩

theorem runsL_call {la n sk r at_ c c' ps} (h : RunsRuleL g la n r at_ c c' ps) :
    RunsL g la (n + 1) sk (.call r) at_ c c' ps :=
  after_succ fun tr => let ⟨tr1, h1⟩ := h tr; ⟨tr1, fun f hf => by simp only [eval, h1 f hf]⟩

theorem failsL_call {la n sk r at_ c} (h : FailsRuleL g la n r at_ c) : FailsL g la (n + 1) sk (.call r) at_ c :=
  after_succ fun tr => let ⟨tr1, h1⟩ := h tr; ⟨tr1, fun f hf => by simp only [eval, h1 f hf]⟩

theorem runs_seq_nosk {n a b at_ c c1 c2 p1 p3} (ha : Runs g n false a at_ c c1 p1)
    (hb : Runs g n false b at_ c1 c2 p3) : Runs g (n + 2) false (.seq a b) at_ c c2 (p1 ++ p3) :=
  runsL_seq_noskip (Or.inl rfl) ha hb
theorem fails_seq_first {n sk a b at_ c} (ha : Fails g n sk a at_ c) : Fails g (n + 1) sk (.seq a b) at_ c :=
  failsL_seq_first ha
theorem runs_choice_l {n sk a b at_ c c' ps} (ha : Runs g n sk a at_ c c' ps) : Runs g (n + 1) sk (.choice a b) at_ c c' ps :=
  runsL_choice_l ha
theorem runs_choice_r {n sk a b at_ c c' ps} (ha : Fails g n sk a at_ c) (hb : Runs g n sk b at_ c c' ps) :
    Runs g (n + 1) sk (.choice a b) at_ c c' ps := runsL_choice_r ha hb
theorem fails_choice {n sk a b at_ c} (ha : Fails g n sk a at_ c) (hb : Fails g n sk b at_ c) :
    Fails g (n + 1) sk (.choice a b) at_ c := failsL_choice ha hb
theorem runs_star_nil {n a at_ c} (ha : Fails g n false a at_ c) : Runs g (n + 1) false (.star a) at_ c c [] :=
  runsL_star_nil ha
theorem runs_star_cons {n a at_ c c1 c' p1 p2} (ha : Runs g n false a at_ c c1 p1)
    (hr : Runs g n false (.star a) at_ c1 c' p2) : Runs g (n + 1) false (.star a) at_ c c' (p1 ++ p2) :=
  runsL_star_cons ha hr
theorem runs_call {n sk r at_ c c' ps} (h : RunsRule g n r at_ c c' ps) : Runs g (n + 1) sk (.call r) at_ c c' ps :=
  runsL_call h
theorem fails_call {n sk r at_ c} (h : FailsRule g n r at_ c) : Fails g (n + 1) sk (.call r) at_ c := failsL_call h

/-! ### the combinators with `max` of the premises' thresholds (no manual `.mono`) -/

theorem fails_choice' {n m sk a b at_ c} (ha : Fails g n sk a at_ c) (hb : Fails g m sk b at_ c) :
    Fails g (max n m + 1) sk (.choice a b) at_ c :=
  fails_choice (ha.mono (Nat.le_max_left ..)) (hb.mono (Nat.le_max_right ..))

theorem runs_choice_r' {n m sk a b at_ c c' ps} (ha : Fails g n sk a at_ c) (hb : Runs g m sk b at_ c c' ps) :
    Runs g (max n m + 1) sk (.choice a b) at_ c c' ps :=
  runs_choice_r (ha.mono (Nat.le_max_left ..)) (hb.mono (Nat.le_max_right ..))

theorem runs_seq_nosk' {n m a b at_ c c1 c2 p1 p3} (ha : Runs g n false a at_ c c1 p1)
    (hb : Runs g m false b at_ c1 c2 p3) : Runs g (max n m + 2) false (.seq a b) at_ c c2 (p1 ++ p3) :=
  runs_seq_nosk (ha.mono (Nat.le_max_left ..)) (hb.mono (Nat.le_max_right ..))

/-! a run at cursors and with pairs that are equal to those wanted, but not syntactically -/

theorem RunsRule.cast {n r at_ c c' ps d d' qs} (h : RunsRule g n r at_ c c' ps) (h1 : c = d) (h2 : c' = d')
    (h3 : ps = qs) : RunsRule g n r at_ d d' qs := h1 ▸ h2 ▸ h3 ▸ h

theorem Runs.cast {n sk e at_ c c' ps d d' qs} (h : Runs g n sk e at_ c c' ps) (h1 : c = d) (h2 : c' = d')
    (h3 : ps = qs) : Runs g n sk e at_ d d' qs := h1 ▸ h2 ▸ h3 ▸ h

/-- a rule of any kind runs where its body runs, in the configuration `bodyCfg` gives the body; `state.rule` wraps the pairs of
    the body into one pair unless the rule is silent, under lookahead, or seen as atomic -/
theorem runsRuleL_body {la n r kind body at_ c c' ps} (hl : g.look r = some (kind, body))
    (hb : RunsL g la n (bodyCfg (decide (g.ws = some r ∨ g.cm = some r)) kind at_).1 body
      (bodyCfg (decide (g.ws = some r ∨ g.cm = some r)) kind at_).2.1 c c' ps) :
    RunsRuleL g la (n + 1) r at_ c c' (if kind = .silent then ps else
      if la = .none ∧ (bodyCfg (decide (g.ws = some r ∨ g.cm = some r)) kind at_).2.2 ≠ .atomic
        then [Pair.mk r c.pos c'.pos ps] else ps) :=
  after_succ fun tr =>
    let ⟨tr1, h1⟩ := hb { tr with steps := tr.steps + 1 }
    ⟨if kind = .silent then tr1 else
        if la = .neg then track tr1 (bodyCfg (decide (g.ws = some r ∨ g.cm = some r)) kind at_).2.2 c.pos else tr1,
      fun f hf => by
        rw [callRule_succ g hl, h1 f hf]
        by_cases hk : kind = .silent
        · rw [if_pos hk, if_pos hk, if_pos hk]
        · rw [if_neg hk, if_neg hk, if_neg hk]; rfl⟩

theorem failsRuleL_body {la n r kind body at_ c} (hl : g.look r = some (kind, body))
    (hb : FailsL g la n (bodyCfg (decide (g.ws = some r ∨ g.cm = some r)) kind at_).1 body
      (bodyCfg (decide (g.ws = some r ∨ g.cm = some r)) kind at_).2.1 c) : FailsRuleL g la (n + 1) r at_ c :=
  after_succ fun tr =>
    let ⟨tr1, h1⟩ := hb { tr with steps := tr.steps + 1 }
    ⟨if kind = .silent then tr1 else
        if la ≠ .neg then track tr1 (bodyCfg (decide (g.ws = some r ∨ g.cm = some r)) kind at_).2.2 c.pos else tr1,
      fun f hf => by
        rw [callRule_succ g hl, h1 f hf]
        by_cases hk : kind = .silent
        · rw [if_pos hk, if_pos hk]
        · rw [if_neg hk, if_neg hk]; rfl⟩

theorem runsRuleL_silent {la n r body at_ c c' ps} (hl : g.look r = some (.silent, body))
    (hsp : ¬ (g.ws = some r ∨ g.cm = some r)) (hb : RunsL g la n true body at_ c c' ps) :
    RunsRuleL g la (n + 1) r at_ c c' ps := by
  simpa [bodyCfg, hsp] using runsRuleL_body (at_ := at_) hl (show RunsL g la n _ body _ c c' ps by simpa [bodyCfg, hsp] using hb)

theorem failsRuleL_silent {la n r body at_ c} (hl : g.look r = some (.silent, body))
    (hsp : ¬ (g.ws = some r ∨ g.cm = some r)) (hb : FailsL g la n true body at_ c) : FailsRuleL g la (n + 1) r at_ c :=
  failsRuleL_body hl (by simpa [bodyCfg, hsp] using hb)

/-- the special silent rules (WHITESPACE / COMMENT): body generated atomically, run under Atomic -/
theorem failsRule_special {n r body at_ c} (hl : g.look r = some (.silent, body))
    (hsp : g.ws = some r ∨ g.cm = some r) (hb : Fails g n false body .atomic c) : FailsRule g (n + 1) r at_ c :=
  failsRuleL_body hl (by simpa [bodyCfg, hsp] using fails_iff.mp hb)

theorem runsRule_special {n r body at_ c c' ps} (hl : g.look r = some (.silent, body))
    (hsp : g.ws = some r ∨ g.cm = some r) (hb : Runs g n false body .atomic c c' ps) :
    RunsRule g (n + 1) r at_ c c' ps :=
  runsRule_iff.mpr (by
    simpa [bodyCfg, hsp] using runsRuleL_body (la := .none) (at_ := at_) hl
      (show RunsL g .none n _ body _ c c' ps by simpa [bodyCfg, hsp] using runs_iff.mp hb))

theorem runsRuleL_atomic {la n r body at_ c c' ps} (hl : g.look r = some (.atomic, body))
    (hb : RunsL g la n false body .atomic c c' ps) :
    RunsRuleL g la (n + 1) r at_ c c' (if la = .none ∧ at_ ≠ .atomic then [Pair.mk r c.pos c'.pos ps] else ps) :=
  runsRuleL_body hl hb

theorem failsRuleL_atomic {la n r body at_ c} (hl : g.look r = some (.atomic, body))
    (hb : FailsL g la n false body .atomic c) : FailsRuleL g la (n + 1) r at_ c := failsRuleL_body hl hb

theorem runsRuleL_normal_at {la n r body at_ c c' ps} (hl : g.look r = some (.normal, body))
    (hsp : ¬ (g.ws = some r ∨ g.cm = some r)) (hb : RunsL g la n true body at_ c c' ps) :
    RunsRuleL g la (n + 1) r at_ c c' (if la = .none ∧ at_ ≠ .atomic then [Pair.mk r c.pos c'.pos ps] else ps) := by
  simpa [bodyCfg, hsp] using runsRuleL_body (at_ := at_) hl (show RunsL g la n _ body _ c c' ps by simpa [bodyCfg, hsp] using hb)

theorem failsRuleL_normal_at {la n r body at_ c} (hl : g.look r = some (.normal, body))
    (hsp : ¬ (g.ws = some r ∨ g.cm = some r)) (hb : FailsL g la n true body at_ c) :
    FailsRuleL g la (n + 1) r at_ c := failsRuleL_body hl (by simpa [bodyCfg, hsp] using hb)

theorem runsRuleL_normal {la n r body c c' ps} (hl : g.look r = some (.normal, body))
    (hsp : ¬ (g.ws = some r ∨ g.cm = some r)) (hb : RunsL g la n true body .nonAtomic c c' ps) :
    RunsRuleL g la (n + 1) r .nonAtomic c c' (if la = .none then [Pair.mk r c.pos c'.pos ps] else ps) := by
  simpa using runsRuleL_normal_at hl hsp hb

theorem failsRuleL_normal {la n r body c} (hl : g.look r = some (.normal, body))
    (hsp : ¬ (g.ws = some r ∨ g.cm = some r)) (hb : FailsL g la n true body .nonAtomic c) :
    FailsRuleL g la (n + 1) r .nonAtomic c := failsRuleL_normal_at hl hsp hb

theorem runsRuleL_normal_atomic {la n r body c c' ps} (hl : g.look r = some (.normal, body))
    (hsp : ¬ (g.ws = some r ∨ g.cm = some r)) (hb : RunsL g la n true body .atomic c c' ps) :
    RunsRuleL g la (n + 1) r .atomic c c' ps := by
  simpa using runsRuleL_normal_at hl hsp hb

theorem failsRuleL_normal_atomic {la n r body c} (hl : g.look r = some (.normal, body))
    (hsp : ¬ (g.ws = some r ∨ g.cm = some r)) (hb : FailsL g la n true body .atomic c) :
    FailsRuleL g la (n + 1) r .atomic c := failsRuleL_normal_at hl hsp hb

theorem failsRuleL_nonAtomicKind {la n r body at_ c} (hl : g.look r = some (.nonAtomic, body))
    (hb : FailsL g la n true body .nonAtomic c) : FailsRuleL g la (n + 1) r at_ c := failsRuleL_body hl hb

theorem runsRule_compound {n r body at_ c c' ps} (hl : g.look r = some (.compound, body))
    (hb : Runs g n false body .compound c c' ps) :
    RunsRule g (n + 1) r at_ c c' [Pair.mk r c.pos c'.pos ps] :=
  runsRule_iff.mpr (by simpa [bodyCfg] using runsRuleL_body (la := .none) (at_ := at_) hl (runs_iff.mp hb))

theorem failsRule_compound {n r body at_ c} (hl : g.look r = some (.compound, body))
    (hb : Fails g n false body .compound c) : FailsRule g (n + 1) r at_ c := failsRuleL_body hl hb

theorem runsRule_normal {n r body c c' ps} (hl : g.look r = some (.normal, body))
    (hsp : ¬ (g.ws = some r ∨ g.cm = some r)) (hb : Runs g n true body .nonAtomic c c' ps) :
    RunsRule g (n + 1) r .nonAtomic c c' [Pair.mk r c.pos c'.pos ps] :=
  runsRuleL_normal hl hsp hb
theorem failsRule_normal {n r body c} (hl : g.look r = some (.normal, body))
    (hsp : ¬ (g.ws = some r ∨ g.cm = some r)) (hb : Fails g n true body .nonAtomic c) :
    FailsRule g (n + 1) r .nonAtomic c := failsRuleL_normal hl hsp hb
theorem runsRule_atomic {n r body at_ c c' ps} (hl : g.look r = some (.atomic, body))
    (hb : Runs g n false body .atomic c c' ps) :
    RunsRule g (n + 1) r at_ c c' (if at_ ≠ .atomic then [Pair.mk r c.pos c'.pos ps] else ps) := by
  have h := runsRuleL_atomic (la := .none) (at_ := at_) hl hb
  simp only [true_and] at h
  exact h
theorem failsRule_atomic {n r body at_ c} (hl : g.look r = some (.atomic, body))
    (hb : Fails g n false body .atomic c) : FailsRule g (n + 1) r at_ c := failsRuleL_atomic hl hb
theorem runsRule_silent {n r body at_ c c' ps} (hl : g.look r = some (.silent, body))
    (hsp : ¬ (g.ws = some r ∨ g.cm = some r)) (hb : Runs g n true body at_ c c' ps) : RunsRule g (n + 1) r at_ c c' ps :=
  runsRuleL_silent hl hsp hb
theorem failsRule_silent {n r body at_ c} (hl : g.look r = some (.silent, body))
    (hsp : ¬ (g.ws = some r ∨ g.cm = some r)) (hb : Fails g n true body at_ c) : FailsRule g (n + 1) r at_ c :=
  failsRuleL_silent hl hsp hb

/-- in a non-atomic context, the implicit skip of a rule generated with skip calls runs `WHITESPACE* (COMMENT WHITESPACE*)*` -/
theorem skips_of_runs {la n w m c c'} (hw : g.ws = some w) (hm : g.cm = some m)
    (h : RunsL g la n false (.seq (.star (.call w)) (.star (.seq (.call m) (.star (.call w))))) .nonAtomic c c' []) :
    SkipsL g la (n + 1) true .nonAtomic c c' :=
  after_succ fun tr =>
    let ⟨tr1, h1⟩ := h tr
    ⟨tr1, fun f hf => by simpa [doSkip, G.skipExpr, hw, hm] using h1 f hf⟩

end NitroVerif.Peg
