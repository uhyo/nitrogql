/-
C08 (stages after parsing), part: the type-system checker.

The only recursion of `check_type_system_document` that is not structural is the breadth-first search of
`check_directive_recursion` (a `loop { … }` in the Rust code); the model `recLoop` runs it with `|T| + 2` rounds of fuel
and a SILENT out-of-fuel branch (`[]`) — and, since fix 2e4a65e, the recursion of `directives_in_type` through nested input
objects inside it (model `ditWalk`, `|T| + 1` nesting levels of fuel, silent out-of-fuel branch).  Here: `recLoopXX` = the
same loop with BOTH fuels as parameters and an ARBITRARY behaviour in each out-of-fuel branch (`Z` for the rounds, `ZT`
for the walk), and the proof that for every document, every directive definition (canonical or not, in the document or
not) and all fuels `≥ |T| + 2` / `≥ |T| + 1` neither out-of-fuel branch is ever evaluated (`checkSchemaX_eq`).  The measure
is C05's `unseen` (directive names of the document not yet in `seen`): every round that continues puts the name of a
definition held by the checker's hash map into `seen`, whether or not it reports a diagnostic (`CheckTs.unseen_drops`).
-/
import NitroVerif.Lemmas.CheckTsRec
import NitroVerif.Lemmas.CheckTsWalk
namespace NitroVerif.Stages
open NitroVerif.Gql NitroVerif.CheckTs NitroVerif.ValidTs

theorem unseen_mono {T : TsDoc} {seen seen' : List Name} (h : ∀ n ∈ seen, n ∈ seen') :
    unseen T seen' ≤ unseen T seen := by
  rw [unseen_eq, unseen_eq]
  exact Search.unseen_le_of_subset h

/-- the behaviour of `directives_in_type` where the fuel of its model runs out -/
abbrev WalkZ := TypeDef → List Name → List Directive × List Name

/-- `dirSuccessors` with `m` levels of fuel for each walk of `directives_in_type` and the behaviour `ZT` when it runs out -/
def dirSuccessorsX (T : TsDoc) (m : Nat) (ZT : WalkZ) (d : DirectiveDef) : List DirectiveDef :=
  (d.args.flatMap fun a =>
      a.dirs ++ (match lastTypeDef? T a.ty.unwrapped with
                 | none => []
                 | some t => (ditWalkX T ZT m t []).1)).filterMap fun dir => lastDirectiveDef? T dir.name

def recRoundX (T : TsDoc) (m : Nat) (ZT : WalkZ) (start : Name) :
    List Name → List DirectiveDef → List Name × List Err × List DirectiveDef
  | seen, [] => (seen, [], [])
  | seen, d :: ds =>
    if seen.contains d.name then
      let r := recRoundX T m ZT start seen ds
      (r.1, (if d.name == start then [(CheckTs.ErrKind.RecursingDirective, d.pos)] else []) ++ r.2.1, r.2.2)
    else
      let r := recRoundX T m ZT start (d.name :: seen) ds
      (r.1, r.2.1, dirSuccessorsX T m ZT d ++ r.2.2)

/-- the search with BOTH fuels explicit: `n` rounds (out-of-fuel behaviour `Z`), `m` nesting levels per walk (`ZT`) -/
def recLoopXX (T : TsDoc) (start : Name) (Z : List Name → List DirectiveDef → List Err) (m : Nat) (ZT : WalkZ) :
    Nat → List Name → List DirectiveDef → List Err
  | 0, seen, cur => Z seen cur
  | fuel + 1, seen, cur =>
    let r := recRoundX T m ZT start seen cur
    if r.2.2.isEmpty then r.2.1 else r.2.1 ++ recLoopXX T start Z m ZT fuel r.1 r.2.2

section
variable (T : TsDoc) (start : Name) (Z : List Name → List DirectiveDef → List Err) (m : Nat) (ZT : WalkZ)
  (hm : T.length + 1 ≤ m)
include hm

theorem dirSuccessorsX_eq (d : DirectiveDef) : dirSuccessorsX T m ZT d = dirSuccessors T d := by
  unfold dirSuccessorsX dirSuccessors
  congr 2
  funext a
  cases hl : lastTypeDef? T a.ty.unwrapped with
  | none => rfl
  | some t => simp only [directivesInType_fuel T ZT m hm t (tcanonical_of_lookup hl)]

theorem recRoundX_eq : ∀ (cur : List DirectiveDef) (seen : List Name),
    recRoundX T m ZT start seen cur = recRound T start seen cur
  | [], _ => rfl
  | d :: ds, seen => by
    simp only [recRoundX, recRound, recRoundX_eq ds, dirSuccessorsX_eq T m ZT hm]

theorem recLoopXX_indep (n n' : Nat) (seen : List Name) (cur : List DirectiveDef) (hcan : ∀ c ∈ cur, Canonical T c)
    (hn : unseen T seen < n) (hn' : unseen T seen < n') :
    recLoopXX T start Z m ZT n seen cur = recLoop T start n' seen cur := by
  induction n generalizing n' seen cur with
  | zero => exact absurd hn (Nat.not_lt_zero _)
  | succ n ih =>
    cases n' with
    | zero => exact absurd hn' (Nat.not_lt_zero _)
    | succ n' =>
      simp only [recLoopXX, recLoop, recRoundX_eq T start m ZT hm]
      cases hne : (recRound T start seen cur).2.2.isEmpty with
      | true => rfl
      | false =>
        have hd := unseen_drops (start := start) hcan hne
        rw [ih n' _ _ next_canonical (Nat.lt_of_lt_of_le hd (Nat.le_of_lt_succ hn))
          (Nat.lt_of_lt_of_le hd (Nat.le_of_lt_succ hn'))]

/-- the search started by `check_directive_recursion` for ANY directive definition `d` (the first round holds `d`
    itself, which need not be the definition the hash map holds for its name) -/
theorem checkDirectiveRecursion_fuel (d : DirectiveDef) (n : Nat) (hn : T.length + 2 ≤ n) :
    recLoopXX T d.name Z m ZT n [] [d] = checkDirectiveRecursion T d := by
  cases n with
  | zero => exact absurd hn (Nat.not_succ_le_zero _)
  | succ k =>
    rw [checkDirectiveRecursion, recLoopXX, recLoop, recRoundX_eq T d.name m ZT hm]
    cases hne : (recRound T d.name [] [d]).2.2.isEmpty with
    | true => rfl
    | false =>
      have hle := Nat.lt_succ_of_le (unseen_le T (recRound T d.name [] [d]).1)
      rw [recLoopXX_indep T d.name Z m ZT hm k (T.length + 1) _ _ next_canonical
        (Nat.lt_of_lt_of_le hle (Nat.le_of_succ_le_succ hn)) hle]

end

def checkDirectiveDefX (T : TsDoc) (S : Schema) (n : Nat) (Z : List Name → List DirectiveDef → List Err)
    (m : Nat) (ZT : WalkZ) (d : DirectiveDef) : List Err :=
  recLoopXX T d.name Z m ZT n [] [d] ++
  (if reserved d.name then [(CheckTs.ErrKind.UnscoUnsco, d.namePos)] else []) ++
  checkArgsDef S d.args

def checkItemX (T : TsDoc) (S : Schema) (n : Nat) (Z : List Name → List DirectiveDef → List Err)
    (m : Nat) (ZT : WalkZ) : TsItem → List Err
  | .schemaDef s => checkSchemaDef T S s
  | .typeDef t => checkTypeDef T S t
  | .directiveDef d => checkDirectiveDefX T S n Z m ZT d
  | .schemaExt _ => []
  | .typeExt _ => []

/-- `check_type_system_document` run with `n` rounds of fuel for each directive-recursion search and the behaviour `Z`
    when that fuel runs out, and `m` nesting levels of fuel for each walk of `directives_in_type` through nested input
    objects with the behaviour `ZT` when that runs out (`check_unique_names`, which comes first since fix 8cdbacf, is one
    bounded pass over the definitions with two vectors — `iter().find`, `push` — and has neither a panic site nor fuel) -/
def checkSchemaX (T : TsDoc) (n : Nat) (Z : List Name → List DirectiveDef → List Err) (m : Nat) (ZT : WalkZ) : List Err :=
  checkUniqueNames T ++ T.flatMap (checkItemX T ⟨T⟩ n Z m ZT)

theorem checkItemX_eq (T : TsDoc) (S : Schema) (n : Nat) (Z : List Name → List DirectiveDef → List Err)
    (m : Nat) (ZT : WalkZ) (hn : T.length + 2 ≤ n) (hm : T.length + 1 ≤ m) (it : TsItem) :
    checkItemX T S n Z m ZT it = checkItem T S it := by
  cases it with
  | directiveDef d =>
    simp only [checkItemX, checkItem, checkDirectiveDefX, checkDirectiveDef, checkDirectiveRecursion_fuel T Z m ZT hm d n hn]
  | _ => rfl

theorem checkSchemaX_eq (T : TsDoc) (n : Nat) (Z : List Name → List DirectiveDef → List Err) (m : Nat) (ZT : WalkZ)
    (hn : T.length + 2 ≤ n) (hm : T.length + 1 ≤ m) : checkSchemaX T n Z m ZT = checkSchema T := by
  unfold checkSchemaX checkSchema checkSchemaItems
  congr 2
  funext it
  exact checkItemX_eq T ⟨T⟩ n Z m ZT hn hm it

end NitroVerif.Stages
