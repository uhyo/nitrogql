/-
Lemmas for `C15_schema_eq`: the reader (`Model/Introspect`) inverts the renderer of the specification
(`Spec/IntrospectSpec.encode`).
-/
import NitroVerif.Model.Introspect
import NitroVerif.Spec.IntrospectSpec
import NitroVerif.Lemmas.AstSchema
namespace NitroVerif.Introspect
open NitroVerif NitroVerif.SchemaIR NitroVerif.IntrospectSpec

theorem isNamedKind_kindStr (k : IKind) : isNamedKind (kindStr k) = true := by
  cases k <;> decide

theorem isNamedKind_kindOfName (s : Schema) (n : String) : isNamedKind (kindOfName s n) = true := by
  unfold kindOfName
  split
  · exact isNamedKind_kindStr _
  · decide

theorem dec_namedRef (s : Schema) (n : String) :
    (decTypeKvs (encNamedRefKvs s n) {}).bind finishType
      = some { kind := kindOfName s n, name := some n } := by
  simp [encNamedRefKvs, decTypeKvs, putOnce, reqStr, optStr, optTypeRef, finishType]

theorem asType_namedRef (s : Schema) (n : String) :
    asType { kind := kindOfName s n, name := some n } = .ok (.named n) := by
  simp [asType, isNamedKind_kindOfName]

theorem dec_encTypeKvs (s : Schema) (t : IType) :
    ((decTypeKvs (encTypeKvs s t) {}).bind finishType).map asType = some (.ok t) := by
  induction t with
  | named n => simp [encTypeKvs, dec_namedRef, asType_namedRef]
  | list t ih | nonNull t ih =>
    have h : optTypeRef (.obj (encTypeKvs s t)) = some (some (.ok t)) := by
      simpa [optTypeRef, Option.map_map, Function.comp_def] using congrArg (Option.map some) ih
    simp [encTypeKvs, decTypeKvs, putOnce, reqStr, optStr, h, finishType, asType, isNamedKind]

theorem reqTypeRef_encType (s : Schema) (t : IType) : reqTypeRef (encType s t) = some (.ok t) := by
  simp only [encType, reqTypeRef]; exact dec_encTypeKvs s t

theorem deprecation_roundtrip (d : Option String) : deprecation (some d.isSome) d = d := by
  cases d <;> simp [deprecation]

theorem optStr_optStrJ (o : Option String) : optStr (optStrJ o) = some o := by
  cases o <;> rfl

theorem collect_ok {α : Type} (l : List α) : collect (l.map Except.ok) = .ok l := by
  induction l with
  | nil => rfl
  | cons x r ih => simp [collect, ih]

theorem decIV_encIV (s : Schema) (v : IInputValue) : decIV (encIV s v) = some (.ok v) := by
  cases v with | mk name desc ty default dep =>
  simp [encIV, decIV, decIVKvs, putOnce, reqStr, optStr_optStrJ, optBool, reqTypeRef_encType, finishIV,
    deprecation_roundtrip]

theorem ivList_enc (s : Schema) (l : List IInputValue) : ivList (l.map (encIV s)) = some (l.map Except.ok) := by
  induction l with
  | nil => simp [ivList]
  | cons x r ih => simp [ivList, decIV_encIV, ih]

theorem decField_encField (s : Schema) (f : IField) : decField (encField s f) = some (.ok f) := by
  cases f with | mk name desc ty args dep =>
  simp [encField, decField, decFieldKvs, putOnce, reqStr, optStr_optStrJ, optBool, reqTypeRef_encType, reqIVList,
    ivList_enc, finishField, collect_ok, deprecation_roundtrip]

theorem fieldList_enc (s : Schema) (l : List IField) : fieldList (l.map (encField s)) = some (l.map Except.ok) := by
  induction l with
  | nil => simp [fieldList]
  | cons x r ih => simp [fieldList, decField_encField, ih]

theorem decType_namedRef (s : Schema) (n : String) :
    decType (encNamedRef s n) = some { kind := kindOfName s n, name := some n } := by
  simp only [encNamedRef, decType]; exact dec_namedRef s n

theorem typeNameList_enc (s : Schema) (l : List String) :
    typeNameList (l.map (encNamedRef s)) = some (l.map Except.ok) := by
  induction l with
  | nil => simp [typeNameList]
  | cons x r ih => simp [typeNameList, decType_namedRef, asTypeName, asType_namedRef, IType.unwrapped, ih]

theorem decEV_encMember (m : IEnumMember) : decEV (encMember m) = some m := by
  cases m with | mk name desc dep =>
  simp [encMember, decEV, decEVKvs, putOnce, reqStr, optStr_optStrJ, optBool, finishEV, deprecation_roundtrip]

theorem decEVList_enc (l : List IEnumMember) : decEVList (l.map encMember) = some l := by
  induction l with
  | nil => simp [decEVList]
  | cons x r ih => simp [decEVList, decEV_encMember, ih]

@[simp] theorem optStr_str (x : String) : optStr (.str x) = some (some x) := rfl
@[simp] theorem optStr_null : optStr .null = some none := rfl

theorem asTypeDefinition_enc (s : Schema) (url : String → Option String) (t : ITypeDef) :
    (decType (encTypeDef s url t)).map asTypeDefinition = some (.ok (AstSchema.cleanType t)) := by
  cases t with | mk kind name desc fields interfaces possible members inputs =>
  cases kind <;>
    simp [encTypeDef, decType, decTypeKvs, putOnce, reqStr, optStr_optStrJ, optFieldList, optIVList,
      optTypeNameList, optEVList, fieldList_enc, ivList_enc, typeNameList_enc, decEVList_enc, finishType,
      asTypeDefinition, kindStr, collect_ok, AstSchema.cleanType, possibleOf]

theorem strList_enc (l : List String) : strList (l.map Json.str) = some l := by
  induction l with
  | nil => simp [strList]
  | cons x r ih => simp [strList, reqStr, ih]

theorem decDir_encDirective (s : Schema) (d : IDirectiveDef) : decDir (encDirective s d) = some d := by
  cases d with | mk name desc locations args repeatable =>
  simp [encDirective, decDir, decDirKvs, putOnce, reqStr, optStr_optStrJ, optBool, reqStrList, strList_enc, reqIVList,
    ivList_enc, finishDir, collect_ok]

theorem dirList_enc (s : Schema) (l : List IDirectiveDef) : dirList (l.map (encDirective s)) = some l := by
  induction l with
  | nil => simp [dirList]
  | cons x r ih => simp [dirList, decDir_encDirective, ih]

theorem optNameObj_encRoot (r : Option String) : optNameObj (encRoot r) = some r := by
  cases r <;> simp [encRoot, optNameObj, reqNameObj, nameObjKvs, putOnce, reqStr]

theorem typeRecList_enc (s : Schema) (url : String → Option String) (l : List ITypeDef) :
    ∃ rs, typeRecList (l.map (encTypeDef s url)) = some rs ∧
      collect (rs.map asTypeDefinition) = .ok (l.map AstSchema.cleanType) := by
  induction l with
  | nil => exact ⟨[], rfl, rfl⟩
  | cons x r ih =>
    obtain ⟨rr, hr, hc⟩ := ih
    obtain ⟨rx, hd, hx⟩ := Option.map_eq_some_iff.mp (asTypeDefinition_enc s url x)
    exact ⟨rx :: rr, by simp [typeRecList, hd, hr], by simp [collect, hx, hc]⟩

/-- what the reader keeps of a schema value rendered as an introspection result: everything, with the components
    outside a definition's kind emptied (`possibleTypes` of an interface is not read), first definition of a
    repeated name kept, root-types node at a built-in position -/
def readBack (s : Schema) : Schema :=
  { desc := s.desc, roots := s.roots, explicitRoots := false,
    types := extendTypes [] (s.types.map AstSchema.cleanType), directives := extendDirectives [] s.directives }

/-- the reader inverts the specification's renderer (for a schema with a query root) -/
theorem fromIntrospection_encode (s : Schema) (url : String → Option String) (q : String)
    (hq : s.roots.query = some q) :
    fromIntrospection (encode s url) = .ok (readBack s) := by
  unfold readBack
  obtain ⟨rs, hrs, hcol⟩ := typeRecList_enc s url s.types
  have hroots : s.roots = { query := some q, mutation := s.roots.mutation, subscription := s.roots.subscription } := by
    cases hr : s.roots with | mk a b c => simp [hr] at hq; simp [hq]
  have hqobj : reqNameObj (encRoot (some q)) = some q := by
    simp [encRoot, reqNameObj, nameObjKvs, putOnce, reqStr]
  simp only [encode, fromIntrospection, resultKvs]
  simp [decSchemaKvs, putOnce, optStr_optStrJ, hq, hqobj, optNameObj_encRoot, hrs, dirList_enc, finishSchema, hcol]
  rw [hroots]

end NitroVerif.Introspect
