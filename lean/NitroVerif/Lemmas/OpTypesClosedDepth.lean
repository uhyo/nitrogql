/-
C01/C02 closed forms, fuels: the nesting bound of a document without fragment cycles is at most its size.

`fitsS F R s` for SOME `R` (what a quiet operation check yields) implies `fitsS F (sdS s + pool …) s`: along every path
through the expanded selection, the selections are distinct selections of the document — within one definition the path
descends syntactically (`sdS`), and it never re-enters a fragment (`acyclic`), so every fragment body contributes its
height at most once (`pool`).  Hence every definition fits `docSize D`, and a validity verdict `selOkB` obtained at any
bound holds at every bound the selection fits.
-/
import NitroVerif.Lemmas.OpTypesClosedBoolVars
namespace NitroVerif.OpTypes.Closed
open NitroVerif.Gql NitroVerif.OpTypes NitroVerif.OpTypes.Ref

mutual
/-- syntactic height of a selection (a spread counts one) -/
def sdS : Selection → Nat
  | .field _ _ _ _ _ none => 1
  | .field _ _ _ _ _ (some ss) => 1 + sdL ss
  | .spread .. => 1
  | .inline _ _ ss _ => 1 + sdL ss
def sdL : List Selection → Nat
  | [] => 0
  | s :: r => max (sdS s) (sdL r)
end

theorem sdS_le_sdL {s : Selection} {L : List Selection} (h : s ∈ L) : sdS s ≤ sdL L :=
  le_of_mem_rec (fun _ _ => by simp only [sdL]; omega) h

mutual
theorem sdS_le : ∀ (s : Selection), sdS s ≤ selSize s
  | .field _ _ _ _ _ none => by simp [sdS, selSize]
  | .field _ _ _ _ _ (some ss) => by have := sdL_le ss; simp only [sdS, selSize]; omega
  | .spread .. => by simp [sdS, selSize]
  | .inline _ _ ss _ => by have := sdL_le ss; simp only [sdS, selSize]; omega
theorem sdL_le : ∀ (L : List Selection), sdL L ≤ selSizeList L
  | [] => by simp [sdL, selSizeList]
  | s :: r => by have := sdS_le s; have := sdL_le r; simp only [sdL, selSizeList]; omega
end

/-- weight of a fragment body in the pool: its height, plus one for the spread that enters it -/
def heightW (f : FragmentDef) : Nat := sdL f.sel + 1

theorem heightW_le (f : FragmentDef) : heightW f ≤ selSizeList f.sel + 1 := by
  have := sdL_le f.sel; unfold heightW; omega

theorem rch_single {F : FragMap} {s : Selection} {L : List Selection} (hs : s ∈ L) {n : Name} (h : Rch F [s] n) :
    Rch F L n :=
  rch_mono (fun x hx => by simp only [List.mem_singleton] at hx; subst hx; exact hs) h

theorem fits_explicit (D : Doc) : ∀ (R : Nat) (s : Selection) (excl : Name → Bool),
    fitsS (OpTypes.fragsOf D) R s = true → (∀ nm, excl nm = true → ¬ Rch (OpTypes.fragsOf D) [s] nm) →
    fitsS (OpTypes.fragsOf D) (sdS s + pool heightW D excl) s = true
  | 0, _, _, h, _ => by simp [fitsS] at h
  | R' + 1, s, excl, h, hav => by
    have members : ∀ (ss : List Selection), (∀ s' ∈ ss, fitsS (OpTypes.fragsOf D) R' s' = true) →
        (∀ s' ∈ ss, ∀ nm, excl nm = true → ¬ Rch (OpTypes.fragsOf D) [s'] nm) →
        ss.all (fitsS (OpTypes.fragsOf D) (sdL ss + pool heightW D excl)) = true := by
      intro ss hfit hav'
      rw [List.all_eq_true]
      intro s' hs'
      have := fits_explicit D R' s' excl (hfit s' hs') (hav' s' hs')
      exact Stages.fitsS_mono (by have := sdS_le_sdL hs'; omega) this
    cases s with
    | field a nme p args ds sub =>
      cases sub with
      | none =>
        rw [show sdS (.field a nme p args ds none) + pool heightW D excl = pool heightW D excl + 1 by
          simp only [sdS]; omega]
        simp [fitsS]
      | some ss =>
        simp only [fitsS] at h
        rw [show sdS (.field a nme p args ds (some ss)) + pool heightW D excl = (sdL ss + pool heightW D excl) + 1 by
          simp only [sdS]; omega]
        simp only [fitsS]
        exact members ss (fun s' hs' => List.all_eq_true.1 h s' hs')
          (fun s' hs' nm hx hr => hav nm hx (.field List.mem_cons_self (rch_single hs' hr)))
    | inline c ds ss p =>
      simp only [fitsS] at h
      rw [show sdS (.inline c ds ss p) + pool heightW D excl = (sdL ss + pool heightW D excl) + 1 by
        simp only [sdS]; omega]
      simp only [fitsS]
      exact members ss (fun s' hs' => List.all_eq_true.1 h s' hs')
        (fun s' hs' nm hx hr => hav nm hx (.inline List.mem_cons_self (rch_single hs' hr)))
    | spread m np ds p =>
      simp only [fitsS] at h
      cases hF : OpTypes.fragsOf D m with
      | none => simp [hF] at h
      | some f =>
        simp only [hF] at h
        obtain ⟨hfD, hfn⟩ := fragsOf_mem hF
        have hfit' : ∀ s' ∈ f.sel, fitsS (OpTypes.fragsOf D) R' s' = true := fun s' hs' => List.all_eq_true.1 h s' hs'
        have hexm : excl f.name = false := by
          cases hx : excl f.name with
          | false => rfl
          | true => rw [hfn] at hx; exact absurd (Rch.here List.mem_cons_self) (hav m hx)
        have hpool := pool_exclude (g := heightW) (excl := excl) (excl' := fun n => excl n || n == f.name) (f := f)
          hexm (fun _ => rfl) hfD
        rw [show sdS (.spread m np ds p) + pool heightW D excl = pool heightW D excl + 1 by simp only [sdS]; omega]
        simp only [fitsS, hF]
        rw [List.all_eq_true]
        intro s' hs'
        have := fits_explicit D R' s' (fun n => excl n || n == f.name) (hfit' s' hs') (by
          intro nm hx hr
          simp only [Bool.or_eq_true, beq_iff_eq] at hx
          rcases hx with hx | rfl
          · exact hav nm hx (.spread List.mem_cons_self hF (rch_single hs' hr))
          · exact acyclic (by rw [hfn]; exact hF) R' hfit' (rch_single hs' hr))
        refine Stages.fitsS_mono ?_ this
        have h1 := sdS_le_sdL hs'
        have hb : heightW f = sdL f.sel + 1 := rfl
        omega

theorem fitsDoc_docSize {D : Doc} {R : Nat} (hfit : FitsDoc D R) (hself : FragsSelf D) : FitsDoc D (docSize D) := by
  intro x hx s hs
  rw [docSize_eq]
  cases x with
  | imp i => cases hs
  | op o =>
    have h1 := fits_explicit D R s (fun _ => false) (hfit _ hx s hs) (fun _ h => by cases h)
    have h2 := pool_add_le_tot heightW_le (fun _ => false) (x := .op o) trivial hx
    have h3 : sdS s ≤ selSizeList o.sel := Nat.le_trans (sdS_le_sdL hs) (sdL_le _)
    have e : dsz (.op o) = selSizeList o.sel + 1 := rfl
    exact Stages.fitsS_mono (by omega) h1
  | frag f =>
    have h1 := fits_explicit D R s (fun m => m == f.name) (hfit _ hx s hs) (by
      intro nm hnm hr
      have : nm = f.name := by simpa using hnm
      subst this
      exact acyclic (hself f hx) R (hfit _ hx) (rch_single hs hr))
    have h2 := pool_add_le_tot heightW_le (fun m => m == f.name) (x := .frag f) (by simp) hx
    have h3 : sdS s ≤ selSizeList f.sel := Nat.le_trans (sdS_le_sdL hs) (sdL_le _)
    have e : dsz (.frag f) = selSizeList f.sel + 1 := rfl
    exact Stages.fitsS_mono (by omega) h1

theorem selOkB_down {S : Schema} {F : FragMap} : ∀ (D' Dp : Nat) (o : Name) (s : Selection),
    selOkB S F Dp o s = true → fitsS F D' s = true → selOkB S F D' o s = true
  | 0, _, _, _, _, h => by simp [fitsS] at h
  | _ + 1, 0, _, _, h, _ => by simp [selOkB] at h
  | D' + 1, Dp + 1, o, s, h, hf => by
    have hl : ∀ (o' : Name) (ss : List Selection), ss.all (selOkB S F Dp o') = true → ss.all (fitsS F D') = true →
        ss.all (selOkB S F D' o') = true := by
      intro o' ss h1 h2
      rw [List.all_eq_true] at h1 h2 ⊢
      exact fun x hx => selOkB_down D' Dp o' x (h1 x hx) (h2 x hx)
    cases s with
    | field a n p args ds sub =>
      simp only [selOkB, Bool.and_eq_true, Bool.or_eq_true] at h ⊢
      refine ⟨h.1, ?_⟩
      rcases h.2 with h2 | h2
      · exact Or.inl h2
      · right
        cases hfd : S.field? o n with
        | none => simp [hfd] at h2
        | some fd =>
          simp only [hfd] at h2 ⊢
          cases sub with
          | none => rfl
          | some ss' =>
            simp only [fitsS] at hf
            simp only [Bool.and_eq_true, List.all_eq_true] at h2 ⊢
            exact ⟨h2.1, fun o' ho' => List.all_eq_true.mp (hl o' ss' (List.all_eq_true.mpr (h2.2 o' ho')) hf)⟩
    | spread nm np ds p =>
      simp only [selOkB, Bool.and_eq_true] at h ⊢
      refine ⟨h.1, ?_⟩
      cases hF : F nm with
      | none => simp [hF] at h
      | some fd =>
        simp only [fitsS, hF] at hf
        simp only [hF, Bool.and_eq_true, Bool.or_eq_true] at h ⊢
        refine ⟨h.2.1, ?_⟩
        rcases h.2.2 with h3 | h3
        · exact Or.inl h3
        · exact Or.inr (hl o fd.sel h3 hf)
    | inline cond ds ss' p =>
      simp only [fitsS] at hf
      simp only [selOkB, Bool.and_eq_true, Bool.or_eq_true] at h ⊢
      refine ⟨h.1, ?_⟩
      rcases h.2 with h3 | h3
      · exact Or.inl h3
      · exact Or.inr (hl o ss' h3 hf)

end NitroVerif.OpTypes.Closed
