/-
`#import` statements:

  ext_ImportStatement        = { "#" ~ ext_ImportStatementContent }
  ext_ImportStatementContent = !{ ext_KEYWORD_import ~ ext_ImportTargets ~ ext_KEYWORD_from ~ StringValue }     (`ISC`)
  ext_ImportTargets          = { ext_NameOrAsterisk+ }
  ext_NameOrAsterisk         = _{ !ext_KEYWORD_from ~ Name | ext_PUNC_asterisk }

on the rendering `#` spaces `import` gap targets `from` gap "path" gap, followed by a `Tail`. The implicit skip STOPS in
front of the statement: `COMMENT` fails there because its negative lookahead `!ext_ImportStatementContent` finds the
statement — the run of `ext_ImportStatementContent` proved outside lookahead (its depth does not depend on what follows
the statement, `PartT.runs`) is transferred under the lookahead by `RunsRule.look` (Lemmas/ParseMoreLook.lean).
-/
import NitroVerif.Lemmas.ParseDocExecDef
namespace NitroVerif.DocParse
open NitroVerif.Peg NitroVerif.Gen NitroVerif.Gen.Parts NitroVerif.Build NitroVerif.TypeParse NitroVerif.StringParse
open NitroVerif.Gql NitroVerif.ValueParse NitroVerif.Spec.Lex NitroVerif.ParseText

variable {inp : List Char}

abbrev kwFrom : List Char := ['f', 'r', 'o', 'm']

theorem kwFrom_valid : validName kwFrom := ⟨by decide, fun x hx => by
  simp only [List.mem_cons, List.not_mem_nil, or_false] at hx
  rcases hx with rfl | rfl | rfl <;> decide⟩

/-- from ANY context: the kind `!{…}` ignores the caller's atomicity -/
theorem runsRule_nonAtomicKind {n r body at_ c c1 ps} (hl : gList.look r = some (.nonAtomic, body))
    (hb : Runs gList n true body .nonAtomic c c1 ps) : RunsRule gList (n + 1) r at_ c c1 [.mk r c.pos c1.pos ps] := by
  intro tr
  obtain ⟨tr1, h1⟩ := hb { tr with steps := tr.steps + 1 }
  refine ⟨tr1, fun f hf => ?_⟩
  obtain ⟨f', rfl⟩ : ∃ f', f = f' + 1 := ⟨f - 1, by omega⟩
  simp only [callRule, hl, h1 f' (by omega), ruleWrap]
  simp

theorem runsK_silent {n r body c c' ps} (hl : gList.look r = some (.silent, body)) (h1 : r ≠ R.WHITESPACE)
    (h2 : r ≠ R.COMMENT) (hb : RunsK n body c c' ps) : RunsK (n + 2) (.call r) c c' ps := by
  obtain ⟨c1, hb1, hs⟩ := hb
  exact ⟨c1, runs_call (runsRule_silent hl (notSpecial h1 h2) hb1), hs.mono (by omega)⟩

theorem fails_silent {n r body c} (hl : gList.look r = some (.silent, body)) (h1 : r ≠ R.WHITESPACE)
    (h2 : r ≠ R.COMMENT) (hb : Fails gList n true body .nonAtomic c) : Fails gList (n + 2) true (.call r) .nonAtomic c :=
  fails_call (failsRule_silent hl (notSpecial h1 h2) hb)

/-- one import target followed by its gap: a name (gap made non-empty when `s`) or `*` -/
def rTarget (τ : Trivia) : Bool → Nat → Option (Name × Pos) → List Char
  | s, p, some (n, _) => tk τ s p n.toList
  | _, p, none => tk τ false p ['*']

def wpTarget (inp : List Char) : Bool → Nat → Option (Name × Pos) → Option (Name × Pos)
  | _, p, some (n, _) => some (n, posAt inp p)
  | _, _, none => none

/-- what `build_executable_definition` maps over the children of `ext_ImportTargets` -/
def targetFn (ctx : Ctx) (t : Pair) : Option (String × Gql.Pos) := if t.rule = R.Name then some (ident ctx t) else none

def WFTarget : Option (Name × Pos) → Prop
  | some (n, _) => validName n.toList ∧ n.toList ≠ kwFrom
  | none => True

def TargetGood (inp : List Char) : Bool → Nat → Option (Name × Pos) → Pair → Prop := fun s q x pr =>
  CleanP pr ∧ targetFn (Ctx.spec inp) pr = wpTarget inp s q x

theorem hd_rTarget (τ : Trivia) (s : Bool) (p : Nat) (x : Option (Name × Pos)) (hwf : WFTarget x) :
    Hd (fun d => nameStart d ∨ d = '*') (rTarget τ s p x) := by
  cases x with
  | none => exact hd_tk (hd_cons _ (Or.inr rfl))
  | some a =>
    obtain ⟨n, np⟩ := a
    exact hd_tk ((hd_of_validName hwf.1).mono fun _ h => Or.inl h)

theorem targetT (τ : Trivia) (hτ : ∀ q, Ws (τ q)) (x : Option (Name × Pos)) (hwf : WFTarget x) {s : Bool} {p : Nat}
    (h : HasAt inp p (rTarget τ s p x)) (hn : Nxt inp (fun _ => False) s (p + (rTarget τ s p x).length)) :
    ∃ pr, RunsK (B (rTarget τ s p x).length + 40) (.call R.ext_NameOrAsterisk) (At inp p)
        (At inp (p + (rTarget τ s p x).length)) [pr] ∧ TargetGood inp s p x pr := by
  cases x with
  | some a =>
    obtain ⟨n, np⟩ := a
    obtain ⟨hv, hne⟩ := hwf
    simp only [rTarget] at h hn ⊢
    obtain ⟨gN, _, gGlue⟩ := tk_gap hτ h hn
    have rN := nameT hτ hv h hn
    have rNot := runsK_not (kw_fails_name (la := .neg) look_ext_KEYWORD_from kwFrom_valid hv hne gN gGlue)
      (tok_of_hd gN (hd_of_validName hv) (fun d => nameStart_not_trivia))
    have rA := runsK_silent look_ext_NameOrAsterisk (by decide) (by decide)
      (runsK_choice_l (b := .call R.ext_PUNC_asterisk) (runsK_seq rNot rN.toK))
    refine ⟨.mk R.Name p (p + n.toList.length) [], RunsK.cast (rA.mono (by simp only [B]; omega)) rfl rfl (by simp),
      cleanP_of (by decide) (by decide) trivial, ?_⟩
    simp [targetFn, wpTarget, Pair.rule, ident, asString_spec', Pair.start, Pair.stop, gN.slice, toPos_spec']
  | none =>
    simp only [rTarget] at h hn ⊢
    have hs : HasAt inp p ['*'] := h.left
    have hstar : HeadNot nameStart (inp.drop p) := headNot_of_hd hs (hd_cons (P := (· = '*')) _ rfl) (by rintro c rfl; decide)
    have htok : Tok (At inp p) := tok_of_hd hs (hd_cons (P := (· = '*')) _ rfl) (by rintro c rfl; decide)
    have f1 : Fails gList 40 true (.seq (.not (.call R.ext_KEYWORD_from)) (.call R.Name)) .nonAtomic (At inp p) :=
      (fails_seq_K (runsK_not (kw_fails_head (la := .neg) look_ext_KEYWORD_from
          (headNot_of_hd hs (hd_cons (P := (· = '*')) _ rfl) (by rintro c rfl; decide))) htok)
        (name_fails_at hstar)).mono (by simp)
    have ht' : Tok (At inp (p + (tk τ false p ['*']).length)) := hn.tok
    have rS := strT hτ ['*'] h ht'
    obtain ⟨e, rP⟩ := runsK_rule look_ext_PUNC_asterisk rS
    have rA := runsK_silent look_ext_NameOrAsterisk (by decide) (by decide) (runsK_choice_r f1 rP)
    refine ⟨.mk R.ext_PUNC_asterisk (At inp p).pos e [], rA.mono (by simp only [B]; omega), cleanP_of (by decide) (by decide) trivial, ?_⟩
    simp [targetFn, wpTarget, Pair.rule, R.ext_PUNC_asterisk, R.Name]

theorem target_fails_from {p : Nat} (h : HasAt inp p kwFrom) (hglue : HeadNot nameCont (inp.drop (p + kwFrom.length))) :
    Fails gList 40 true (.call R.ext_NameOrAsterisk) .nonAtomic (At inp p) := by
  obtain ⟨ps, hr⟩ := kw_runsL (la := .neg) look_ext_KEYWORD_from h hglue
  have f1 : Fails gList 20 true (.seq (.not (.call R.ext_KEYWORD_from)) (.call R.Name)) .nonAtomic (At inp p) :=
    (fails_seq_1 (fails_not hr)).mono (by omega)
  have f2 : Fails gList 20 true (.call R.ext_PUNC_asterisk) .nonAtomic (At inp p) :=
    (fails_rule look_ext_PUNC_asterisk
      (str_fails (headNot_of_hd h (hd_cons (P := (· = 'f')) _ rfl) (by rintro c rfl; decide)))).mono (by omega)
  exact (fails_silent look_ext_NameOrAsterisk (by decide) (by decide) (fails_choice_K f1 f2)).mono (by simp)

def impHead (k : Nat) : List Char := '#' :: List.replicate k ' '

/-- `#` spaces `import` gap targets `from` gap "path" gap; `sp p` = number of spaces after the `#` written at offset `p` -/
def rImp (τ : Trivia) (sp : Nat → Nat) (sep : Bool) (p : Nat) (i : ImportDef) : List Char :=
  let tH := impHead (sp p)
  let tK := tk τ true (p + tH.length) kwImport
  let tT := renderItems (rTarget τ) true true (p + tH.length + tK.length) i.targets
  let tF := tk τ false (p + tH.length + tK.length + tT.length) kwFrom
  tH ++ (tK ++ (tT ++ (tF ++ tk τ sep (p + tH.length + tK.length + tT.length + tF.length) (quoted i.path.toList))))

def wpImp (τ : Trivia) (sp : Nat → Nat) (inp : List Char) (p : Nat) (i : ImportDef) : ImportDef :=
  let tH := impHead (sp p)
  let tK := tk τ true (p + tH.length) kwImport
  { targets := mapItems (rTarget τ) true true (wpTarget inp) (p + tH.length + tK.length) i.targets,
    path := i.path, pos := posAt inp p }

def WFImp (i : ImportDef) : Prop := i.targets ≠ [] ∧ ∀ t ∈ i.targets, WFTarget t

theorem hd_rImp (τ : Trivia) (sp : Nat → Nat) (sep : Bool) (p : Nat) (i : ImportDef) : Hd (· = '#') (rImp τ sp sep p i) :=
  hd_cons _ rfl

theorem impHead_length (k : Nat) : (impHead k).length = k + 1 := by simp [impHead]

theorem hashP {p k : Nat} (h : HasAt inp p (impHead k)) (ht : Tok (At inp (p + (impHead k).length))) :
    Part inp 0 (.str ['#']) p (impHead k) [] := by
  have h' : HasAt inp p (['#'] ++ List.replicate k ' ') := h
  have hg : Gap inp (p + 1) (List.replicate k ' ') := ⟨h'.right, ws_of_run fun x hx => by
    rw [(List.mem_replicate.mp hx).2]; exact Or.inr (Or.inr (Or.inl rfl)), by
      rw [impHead_length] at ht; rwa [List.length_replicate, Nat.add_assoc, Nat.add_comm 1]⟩
  refine .tok (RunsK.cast ((strK ['#'] h'.left hg).mono ?_) rfl ?_ rfl)
  · rw [impHead_length, List.length_replicate]; simp only [B]; omega
  · rw [impHead_length, List.length_replicate]; simp only [List.length_cons, List.length_nil, Nat.add_assoc, Nat.add_comm 1]

theorem PartT.nonAtomicKind {K n r body p t c' ps} (hl : gList.look r = some (.nonAtomic, body)) (h3 : r ≠ R.EscapedUnicode4)
    (h4 : r ≠ R.EscapedUnicodeBrace) (hb : PartT inp K n body p t c' ps) :
    ∃ e, PartT inp (K + 2) n (.call r) p t c' [.mk r p e ps] := by
  obtain ⟨c1, hb1, hs⟩ := hb.runs
  exact ⟨c1.pos, ⟨c1, (runs_call (runsRule_nonAtomicKind hl hb1)).mono (by omega), hs.mono (by omega)⟩,
    cleanP_of h3 h4 hb.clean, trivial⟩

theorem buildStringValue_stringPair (s : String) (q : Nat) (rest : List Char) (h : inp.drop q = quoted s.toList ++ rest) :
    buildStringValue (Ctx.spec inp) (stringPair s.toList q) = .ok (s, posAt inp q) := by
  simp [buildStringValue, stringValueChars_stringPair (inp := inp) s.toList q rest h, bind, Except.bind, posAt]

theorem matchParts_isc {kp tp fp : Pair} (s : List Char) (q : Nat) (h1 : kp.rule = R.ext_KEYWORD_import)
    (h2 : tp.rule = R.ext_ImportTargets) (h3 : fp.rule = R.ext_KEYWORD_from) :
    matchParts P_ext_ImportStatementContent [kp, tp, fp, stringPair s q] =
      .ok [some kp, some tp, some fp, some (stringPair s q)] :=
  matchParts_slots P_ext_ImportStatementContent [some kp, some tp, some fp, some (stringPair s q)] (by decide)
    ⟨⟨_, rfl, h1⟩, ⟨_, rfl, h2⟩, ⟨_, rfl, h3⟩, ⟨_, rfl, by cases s <;> rfl⟩, trivial⟩

/-- `hq`: a `"` right behind the gap of the path would change where the string literal ends (`StrEnd`) -/
theorem impT' (τ : Trivia) (hτ : ∀ q, Ws (τ q)) (sp : Nat → Nat) (i : ImportDef) (hwf : WFImp i) {sep : Bool} {p : Nat}
    {n : Nat} {c' : Cur} (h : HasAt inp p (rImp τ sp sep p i)) (ht : Tail inp n (p + (rImp τ sp sep p i).length) c')
    (hq : HeadNot (· = '"') (inp.drop (p + (rImp τ sp sep p i).length))) :
    DefOk' inp p (rImp τ sp sep p i) n c' (.imp (wpImp τ sp inp p i)) ∧
    FailsRule gList (B (rImp τ sp sep p i).length + 60) R.COMMENT .nonAtomic (At inp p) := by
  obtain ⟨hne, htg⟩ := hwf
  obtain ⟨a, r, hi⟩ : ∃ a r, i.targets = a :: r := by
    cases hti : i.targets with
    | nil => exact absurd hti hne
    | cons a r => exact ⟨a, r, rfl⟩
  simp only [rImp, wpImp, hi] at h ht hq htg ⊢
  have g1 := h.right.left
  have g2 := h.right.right.left
  have g3 := h.right.right.right.left
  have g4 := h.right.right.right.right
  have hdK : Hd (· = 'i') (tk τ true (p + (impHead (sp p)).length) kwImport) := hd_tk (hd_cons _ rfl)
  have nF : Nxt inp (fun _ => False) false _ :=
    Nxt.of_hd g4 (P := (· = '"')) (hd_tk (hd_cons _ rfl)) (by rintro c rfl; decide)
  have hSgap := tk_gap hτ g3 nF
  obtain ⟨pss, hmany, hgood⟩ := items_many1K (rTarget τ) true true (.call R.ext_NameOrAsterisk) (fun _ _ => False) 40
    (TargetGood inp) r a _ (fun x hx s q hat hnx => targetT τ hτ x (htg x hx) hat hnx)
    (fun x hx s q => (hd_rTarget τ s q x (htg x hx)).mono (by
      rintro c (hc | rfl)
      · exact ⟨nameStart_not_trivia hc, id, fun h => by cases h⟩
      · exact ⟨by decide, id, fun h => by cases h⟩))
    g2 (Nxt.of_hd_sep g3 (hd_tk (hd_cons _ rfl)) (by rintro c rfl; decide))
    ((target_fails_from hSgap.1 hSgap.2.2).mono (by omega))
  have hclean : CleanL pss := goodItems_clean (rTarget τ) true true (TargetGood inp) (a :: r)
    (fun x _ s q pr hg => hg.1) _ pss hgood
  obtain ⟨eT, pT⟩ := PartT.rule look_ext_ImportTargets (PartT.plus hmany hclean (Nat.le_refl _))
  have pK := kwP hτ look_ext_KEYWORD_import g1 (bad := fun _ => False)
    (Nxt.of_hd_sep g2 (P := fun d => nameStart d ∨ d = '*') (by
      obtain ⟨s', tail, htl⟩ := renderItems_cons (rTarget τ) true true
        (p + (impHead (sp p)).length + (tk τ true (p + (impHead (sp p)).length) kwImport).length) a r
      exact htl ▸ (hd_rTarget τ s' _ a (htg a (List.mem_cons_self ..))).append _) (by
    rintro c (hc | rfl)
    · exact ⟨nameStart_not_trivia hc, id⟩
    · exact ⟨by decide, id⟩))
  have body := pK.seqT (pT.seqT ((kwP hτ look_ext_KEYWORD_from g3 nF).seqT
    (PartT.string hτ i.path.toList g4 ht.app.app.app.app (by
      simpa only [List.length_append, Nat.add_assoc] using hq))))
  obtain ⟨eI, pI⟩ := PartT.nonAtomicKind look_ext_ISC_full (by decide) (by decide) body
  -- `#` and the spaces; `ExecutableDefinition`: the two earlier alternatives fail on `#`
  have pH := hashP h.left (tok_of_hd g1 hdK (by rintro c rfl; decide))
  obtain ⟨eS, pS⟩ := PartT.rule (r := R.ext_ImportStatement) rfl
    (pH.seqT_pos pI (by rw [impHead_length]; omega) (by decide))
  have hnH : HeadNot (fun c => c = 'q' ∨ c = 'm' ∨ c = 's' ∨ c = '{' ∨ c = 'f') (inp.drop p) :=
    headNot_of_hd h.left (hd_cons (P := (· = '#')) _ rfl) (by rintro c rfl; decide)
  obtain ⟨e', rE⟩ := PartT.rule look_ExecutableDefinition (PartT.choice_r
    (opDef_fails (headNot_mono (fun c hc => by rcases hc with h | h | h | h <;> simp [h]) hnH))
    (PartT.choice_r (fails_rule (r := R.FragmentDefinition) rfl (fails_seq_1 (kw_fails_head (la := .none) (r := R.KEYWORD_fragment) rfl
      (headNot_mono (fun c hc => Or.inr (Or.inr (Or.inr (Or.inr hc)))) hnH)))) pS (le_B (by decide))) (le_B (by decide)))
  refine ⟨⟨_, rE.mono (by decide), rfl, rfl, fun fuel hf => ?_⟩, ?_⟩
  · have hsv := buildStringValue_stringPair i.path _ _ g4.left.drop
    have hmap := goodItems_map (rTarget τ) true true (TargetGood inp) (targetFn (Ctx.spec inp)) (wpTarget inp) (a :: r)
      (fun x _ s q pr hg => hg.2) _ pss hgood
    simp [buildExecutableDefinition, onlyChildOf, onlyChild, Pair.children, OC_ExecutableDefinition, Pair.rule,
      matchParts_isc (kp := .mk R.ext_KEYWORD_import _ _ _) (tp := .mk R.ext_ImportTargets _ _ _)
        (fp := .mk R.ext_KEYWORD_from _ _ _) i.path.toList _ rfl rfl rfl, hsv, toPos_spec', Pair.start, bind, Except.bind,
      R.OperationDefinition, R.FragmentDefinition, R.ext_ImportStatement]
    exact hmap
  · -- the skip stops in front of the statement: `COMMENT` reads `#` and the spaces, then its lookahead finds the statement
    obtain ⟨c1, hBody, _⟩ := body.runs
    rw [List.length_append]
    generalize (tk τ true (p + (impHead (sp p)).length) kwImport ++ _).length = L at hBody ⊢
    have hlH := impHead_length (sp p)
    obtain ⟨N, hN⟩ : ∃ N, N = B ((impHead (sp p)).length + L) + 20 := ⟨_, rfl⟩
    have hneg := RunsRule.look (la' := .neg) ((runsRule_nonAtomicKind (at_ := .atomic) look_ext_ISC_full hBody).mono (m := N) (by
      rw [hN]; simp only [B]; omega)) (by decide)
    have h' : HasAt inp p (['#'] ++ List.replicate (sp p) ' ') := h.left
    have h1 : Runs gList 1 false (.str ['#']) .atomic (At inp p) (At inp (p + 1)) [] := by
      have : matchStr ['#'] (At inp p).rest = some (inp.drop (p + 1)) := by
        simp only [At]; rw [h'.left.drop]; exact matchStr_self_append _ _
      exact runs_str (c := At inp p) this
    have h2 : Runs gList (sp p + 3) false (.star (.str [' '])) .atomic (At inp (p + 1))
        (At inp (p + (impHead (sp p)).length)) [] := by
      have := spaces_star (List.replicate (sp p) ' ') (p + 1) (inp.drop (p + (impHead (sp p)).length))
        (fun x hx => (List.mem_replicate.mp hx).2) (headNot_of_hd g1 hdK (by rintro c rfl; decide))
      rw [List.length_replicate] at this
      refine Runs.cast this ?_ ?_ rfl
      · have e := h'.right.drop
        rw [List.length_replicate] at e
        simp only [At]
        rw [show p + (impHead (sp p)).length = p + ['#'].length + sp p by rw [hlH]; simp only [List.length_cons, List.length_nil]; omega, ← e]
        rfl
      · simp only [At]
        rw [show p + 1 + sp p = p + (impHead (sp p)).length by omega]
    have b3 : Fails gList (N + 3) false (.seq (.not (.call R.ext_ImportStatementContent))
        (.seq (.star (.call R.CommentCharacter)) (.choice (.call R.NEWLINE) (.call R.EOI)))) .atomic
        (At inp (p + (impHead (sp p)).length)) := fails_seq_first (failsL_not (la := .none) (runsL_call hneg))
    have hspN : sp p + 3 ≤ N + 3 := by rw [hN]; simp only [B]; omega
    refine (failsRule_special look_COMMENT_full (Or.inr ws_cm.2) (failsL_seq_last_noskip (la := .none) (Or.inl rfl)
      (h1.mono (by omega : 1 ≤ N + 3 + 2)) (failsL_seq_last_noskip (la := .none) (Or.inl rfl) (h2.mono hspN) b3))).mono ?_
    rw [hN]; omega

end NitroVerif.DocParse
