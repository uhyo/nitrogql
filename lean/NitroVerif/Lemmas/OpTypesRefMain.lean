/-
C01/C02 refinement, model side, part 4: branches, branch enumeration, and the induction on the fuel that shows
`implTree … ty ss = .ok T → RelTree c T ty {ss}`.
-/
import NitroVerif.Lemmas.OpTypesRefImpl
import NitroVerif.Lemmas.OpTypesWrap
namespace NitroVerif.OpTypes.Ref
open NitroVerif.Gql NitroVerif.Ts NitroVerif.Exec NitroVerif.OpTypes

/-- the entries of one alias class as inputs of the deep merge: each is related to its own occurrence, and the occurrences
    lie in what is collected from `ss`, which is coherent -/
structure ClassInputs (c : Ctx) (o : Name) (vars : List (Name × Bool)) (ss : List Selection) (tag : Bool)
    (Lc : List Entry) : Prop where
  good : ∀ q ∈ Lc, Good c o vars ss q
  tagEq : ∀ q ∈ Lc, q.tag = tag
  rel : ∀ q ∈ Lc, RelFieldP c o (occAll q) (occKept q) tag q.field
  all : ∀ t, anyOf occAll Lc t → PU c (Sb1 ss) o allInc t
  coh : CohIn c o (anyOf occAll Lc)

theorem class_inputs {c : Ctx} {o : Name} {ss : List Selection} {vars : List (Name × Bool)} {tag : Bool}
    {Lp Lc : List Entry} (hLc : ∀ q, q ∈ Lc ↔ q ∈ Lp ∧ q.tag = tag) (hgood : ∀ p ∈ Lp, Good c o vars ss p)
    (hR : CohIn c o (PU c (Sb1 ss) o allInc)) : ClassInputs c o vars ss tag Lc := by
  have good : ∀ q ∈ Lc, Good c o vars ss q := fun q hq => hgood q ((hLc q).1 hq).1
  have htag : ∀ q ∈ Lc, q.tag = tag := fun q hq => ((hLc q).1 hq).2
  have hall : ∀ t, anyOf occAll Lc t → PU c (Sb1 ss) o allInc t := fun t ⟨q, hq, h⟩ => h ▸ pu_sb1.2 (good q hq).all
  exact ⟨good, htag, fun q hq => htag q hq ▸ (good q hq).rel, hall, hR.mono hall⟩

theorem class_rel {c : Ctx} {mt : SelTree → SelTree → Except Panic SelTree} (HM : MergeSpec c mt) {o : Name}
    {ss : List Selection} {vars : List (Name × Bool)} {tag : Bool} {Lp Lc : List Entry} {M : List SField}
    (hLc : ∀ q, q ∈ Lc ↔ q ∈ Lp ∧ q.tag = tag)
    (hgood : ∀ p ∈ Lp, Good c o vars ss p)
    (hcomp : ∀ σ, Agree σ vars → ∀ t, InFlat c.S c.F o (included σ) [] ss t → ∃ p ∈ Lp, p.occ = t ∧ p.skipped = false)
    (hM : Repr mt M (Lc.map (·.field))) (hR : CohIn c o (PU c (Sb1 ss) o allInc)) :
    ∀ σ, Agree σ vars → RelFields c o σ (Sb1 ss) tag M ∧
      ∀ t, PU c (Sb1 ss) o (included σ) t → t.aliased = tag → ∃ m ∈ M, m.name = t.key ∧ m.isEmpty = false := by
  have I := class_inputs hLc hgood hR
  obtain ⟨hrel, hcov⟩ := deepMerge_relP (tn := o) (tag := tag) (fld := Entry.field) (PA := occAll)
    (PI := occKept) HM I.rel (fun _ _ _ h => h.1)
    (fun q hq t h => by rw [(occ_of_relP (I.good q hq).rel).1, h.1]) hM I.coh
  have origin : ∀ m ∈ M, ∃ q ∈ Lc, q.occ.key = m.name := fun m hm => by
    obtain ⟨t, ⟨q, hq, rfl⟩, hk, _⟩ := relFieldP_origin (fun t ⟨q, hq, h⟩ => ⟨q, hq, h.1⟩) (hrel m hm)
    exact ⟨q, hq, hk⟩
  intro σ hag
  -- under σ, the kept occurrences of the class are those of its unskipped entries
  have kept : ∀ t, (PU c (Sb1 ss) o allInc t → t.aliased = tag) →
      (anyOf occKept Lc t ↔ PU c (Sb1 ss) o (included σ) t) := by
    intro t hta
    constructor
    · rintro ⟨q, hq, rfl, hs⟩
      exact pu_sb1.2 ((I.good q hq).kept hs σ hag)
    · intro ht
      obtain ⟨q, hq, rfl, hs⟩ := hcomp σ hag t (pu_sb1.1 ht)
      exact ⟨q, (hLc q).2 ⟨hq, by rw [(occ_of_relP (hgood q hq).rel).2]; exact hta (pu_all ht)⟩, rfl, hs⟩
  refine ⟨relFields_iff.2 fun m hm => (relField_iffP m).2 ?_, fun t ht hta => hcov t ((kept t fun _ => hta).2 ht)⟩
  obtain ⟨q, hq, hqk⟩ := origin m hm
  refine relFieldP_congr (hrel m hm) (fun t ht _ => I.all t ht) fun t hk => kept t fun hin => ?_
  -- by coherence, an occurrence under the key of `m` is in the alias group of `m`
  rw [(cohAt_full hR.key t q.occ hin (pu_sb1.2 (I.good q hq).all) (by rw [hk, hqk])).1, ← (occ_of_relP (I.good q hq).rel).2, I.tagEq q hq]

def branchOf (S : Schema) (F : Frags) (mfuel fuel : Nat) (ss : List Selection) (cnd : Cond) : Except Panic Branch := do
  let fs ← fieldsFor S F mfuel fuel cnd ss
  let un ← deepMerge mfuel ((fs.filter (!·.1)).map (·.2))
  let al ← deepMerge mfuel ((fs.filter (·.1)).map (·.2))
  .ok (Branch.mk cnd.obj.name cnd.vars un al)

def mkBranches (S : Schema) (F : Frags) (mfuel fuel : Nat) (ss : List Selection) (n : Name) :
    Except Panic (List Branch) := do
  let conds ← branchConds S F mfuel ss n
  conds.mapM (branchOf S F mfuel fuel ss)

theorem implTree_succ (S : Schema) (F : Frags) (mfuel fuel : Nat) (ty : GType) (ss : List Selection) :
    implTree S F mfuel (fuel + 1) ty ss = wrapTree (mkBranches S F mfuel fuel ss) ty := by
  rw [implTree]
  rfl

theorem branch_rel {c : Ctx} {mfuel fuel : Nat} (HF : FFStmt c mfuel fuel) {cnd : Cond} {ss : List Selection}
    {n : Name} {b : Branch} (h : branchOf c.S c.F mfuel fuel ss cnd = .ok b)
    (hcnd : c.S.typeDef? cnd.obj.name = some cnd.obj) (hkind : cnd.obj.kind = .object)
    (hposs : cnd.obj.name ∈ c.S.possibleTypes n) (hself : Agree (sigmaOf cnd.vars) cnd.vars)
    (hC : ∀ d, Coh c d (Sb1 ss) n) : RelBranch c b n (Sb1 ss) := by
  have hR := cohIn_at hC hposs
  have hsub := subCoh_of_nest hR.nest
  unfold branchOf at h
  obtain ⟨fs, hfs, h⟩ := bind_ok h
  obtain ⟨un, hun, h⟩ := bind_ok h
  obtain ⟨al, hal, h⟩ := bind_ok h
  cases h
  obtain ⟨Lp, rfl, hgood, hcomp⟩ := HF cnd ss fs hfs hcnd hsub
  have hRU := deepMerge_repr hun
  have hRA := deepMerge_repr hal
  rw [class_fields Lp (fun b => !b)] at hRU
  rw [class_fields Lp (fun b => b)] at hRA
  have HM := mergeTrees_rel c mfuel
  refine relBranch_of_classes hposs ⟨cnd.obj, hcnd, hkind⟩ hself hRU.1 hRA.1 hR fun σ hag tag => ?_
  cases tag with
  | false =>
    exact class_rel (Lc := Lp.filter fun p => !p.tag) HM (fun q => by simp [List.mem_filter]) hgood hcomp hRU hR σ hag
  | true =>
    exact class_rel (Lc := Lp.filter fun p => p.tag) HM (fun q => by simp [List.mem_filter]) hgood hcomp hRA hR σ hag

theorem find_of_nodup {l : List TypeDef} (hn : (l.map (·.name)).Nodup) (t : TypeDef) (h : t ∈ l) :
    l.find? (·.name == t.name) = some t :=
  find?_key_of_nodup (·.name) hn h

theorem parentObjects_spec {S : Schema} {n : Name} {objs : List TypeDef} (h : parentObjects S n = .ok objs) :
    S.isComposite n = true ∧
    (∀ o ∈ objs, S.typeDef? o.name = some o ∧ o.kind = .object ∧ o.name ∈ S.possibleTypes n) ∧
    (TypeNamesNodup S → ∀ nm ∈ S.possibleTypes n, ∃ o ∈ objs, o.name = nm) := by
  unfold parentObjects at h
  cases ht : S.typeDef? n with
  | none => simp [ht] at h
  | some t =>
    simp only [ht] at h
    have hname := Schema.typeDef?_name ht
    cases hk : t.kind with
    | scalar => simp [hk] at h
    | enum => simp [hk] at h
    | input => simp [hk] at h
    | object =>
      simp only [hk] at h; cases h
      refine ⟨by simp [Schema.isComposite, Schema.kindOf?, ht, hk], ?_, ?_⟩
      · intro o ho
        simp only [List.mem_singleton] at ho; subst ho
        exact ⟨by rw [hname]; exact ht, hk, by simp [Schema.possibleTypes, ht, hk]⟩
      · intro _ nm hnm
        simp only [Schema.possibleTypes, ht, hk, List.mem_singleton] at hnm
        exact ⟨t, by simp, hnm.symm⟩
    | interface =>
      simp only [hk] at h; cases h
      have hposs : S.possibleTypes n = S.objectImplementers n := by simp [Schema.possibleTypes, ht, hk]
      refine ⟨by simp [Schema.isComposite, Schema.kindOf?, ht, hk], ?_, ?_⟩
      · intro o ho
        simp only [implementers, List.mem_filterMap] at ho
        obtain ⟨nm, _, hsome⟩ := ho
        cases hd : S.typeDef? nm with
        | none => simp [hd] at hsome
        | some t' =>
          simp only [hd] at hsome
          split at hsome
          · rename_i hcond
            cases hsome
            simp only [Bool.and_eq_true] at hcond
            have hn' := Schema.typeDef?_name hd
            refine ⟨by rw [hn']; exact hd, of_decide_eq_true (typeKind_beq _ _ ▸ hcond.1), ?_⟩
            rw [hposs]
            simp only [Schema.objectImplementers, List.mem_map, List.mem_filter, Bool.and_eq_true]
            exact ⟨o, ⟨Schema.typeDef?_mem hd, hcond.1, by rw [← hname]; exact hcond.2⟩, rfl⟩
          · cases hsome
      · intro hnd nm hnm
        rw [hposs] at hnm
        simp only [Schema.objectImplementers, List.mem_map, List.mem_filter, Bool.and_eq_true] at hnm
        obtain ⟨t', ⟨ht', hk', himp⟩, rfl⟩ := hnm
        refine ⟨t', ?_, rfl⟩
        simp only [implementers, List.mem_filterMap]
        refine ⟨t'.name, Schema.mem_typeNames ht', ?_⟩
        have : S.typeDef? t'.name = some t' := find_of_nodup hnd t' ht'
        simp only [this, hk', hname]
        simp [himp]
    | union =>
      simp only [hk] at h
      have hall := mapM_all2 _ _ h
      have hposs : S.possibleTypes n = t.members.map (·.1) := by simp [Schema.possibleTypes, ht, hk]
      have hmem : ∀ (m : Name × Pos) (o : TypeDef), (match S.typeDef? m.1 with
          | some o => if (o.kind == TypeKind.object) = true then (Except.ok o : Except Panic TypeDef)
            else Except.error Panic.typeSystemError
          | none => Except.error Panic.typeSystemError) = .ok o →
          S.typeDef? m.1 = some o ∧ o.kind = .object := by
        intro m o hmo
        cases hd : S.typeDef? m.1 with
        | none => simp [hd] at hmo
        | some o' =>
          simp only [hd] at hmo
          split at hmo
          · rename_i hko; cases hmo; exact ⟨rfl, of_decide_eq_true (typeKind_beq _ _ ▸ hko)⟩
          · cases hmo
      refine ⟨by simp [Schema.isComposite, Schema.kindOf?, ht, hk], ?_, ?_⟩
      · intro o ho
        obtain ⟨m, hm, hmo⟩ := hall.right o ho
        obtain ⟨hd, hko⟩ := hmem m o hmo
        have hn' := Schema.typeDef?_name hd
        exact ⟨by rw [hn']; exact hd, hko, by rw [hposs, hn']; exact List.mem_map_of_mem hm⟩
      · intro _ nm hnm
        rw [hposs] at hnm
        obtain ⟨m, hm, rfl⟩ := List.mem_map.1 hnm
        obtain ⟨o, ho, hmo⟩ := hall.left m hm
        obtain ⟨hd, _⟩ := hmem m o hmo
        exact ⟨o, ho, Schema.typeDef?_name hd⟩

theorem nodup_eraseDups (l : List Name) : l.eraseDups.Nodup := by
  -- `eraseDups` recurses on a filtered tail: induction on a bound of the length
  have go : ∀ (n : Nat) (l : List Name), l.length ≤ n → l.eraseDups.Nodup := by
    intro n
    induction n with
    | zero => intro l h; cases l with
      | nil => simp
      | cons a l => simp at h
    | succ n ih =>
      intro l h
      cases l with
      | nil => simp
      | cons a l =>
        rw [List.eraseDups_cons, List.nodup_cons]
        refine ⟨?_, ih _ ?_⟩
        · intro hm
          rw [List.mem_eraseDups] at hm
          have := (List.mem_filter.1 hm).2
          simp at this
        · have := List.length_filter_le (fun b => !b == a) l
          simp only [List.length_cons] at h
          omega
  exact go _ l (Nat.le_refl _)

theorem consistent_of_nodup {a : List (Name × Bool)} (hn : (a.map (·.1)).Nodup) : Agree (sigmaOf a) a := by
  intro p hp
  rw [sigmaOf_eq, find?_key_of_nodup (·.1) hn hp]

theorem boolVars_nodup {F : Frags} {fuel : Nat} {ss : List Selection} {vars : List Name}
    (h : boolVars F fuel ss = .ok vars) : vars.Nodup := by
  obtain ⟨l, _, rfl⟩ := boolVars_inv h
  exact nodup_eraseDups l

theorem branchConds_mem {S : Schema} {F : Frags} {mfuel : Nat} {ss : List Selection} {n : Name} {conds : List Cond}
    (h : branchConds S F mfuel ss n = .ok conds) :
    ∃ objs vars, parentObjects S n = .ok objs ∧ boolVars F mfuel ss = .ok vars ∧
      ∀ cnd, cnd ∈ conds ↔ cnd.obj ∈ objs ∧ cnd.vars.map (·.1) = vars := by
  unfold branchConds at h
  obtain ⟨objs, hpo, h⟩ := bind_ok h
  obtain ⟨vars, hbv, h⟩ := bind_ok h
  cases h
  refine ⟨objs, vars, hpo, hbv, fun cnd => ?_⟩
  simp only [List.mem_flatMap, List.mem_map, assignments_mem]
  exact ⟨fun ⟨o, ho, a, ha, e⟩ => e ▸ ⟨ho, ha⟩, fun ⟨ho, ha⟩ => ⟨_, ho, _, ha, rfl⟩⟩

theorem branchOf_shape {S : Schema} {F : Frags} {mfuel fuel : Nat} {ss : List Selection} {cnd : Cond} {b : Branch}
    (h : branchOf S F mfuel fuel ss cnd = .ok b) : b.typeName = cnd.obj.name ∧ b.vars = cnd.vars := by
  unfold branchOf at h
  obtain ⟨_, _, h⟩ := bind_ok h
  obtain ⟨_, _, h⟩ := bind_ok h
  obtain ⟨_, _, h⟩ := bind_ok h
  cases h; exact ⟨rfl, rfl⟩

theorem mkBranches_rel {c : Ctx} {mfuel fuel : Nat} (HF : FFStmt c mfuel fuel) (hnd : TypeNamesNodup c.S)
    {ss : List Selection} {n : Name} {p : Pos} {bs : List Branch}
    (h : mkBranches c.S c.F mfuel fuel ss n = .ok bs) (hC : ∀ d, Coh c d (Sb1 ss) n) :
    RelTree c (.object bs) (.named n p) (Sb1 ss) := by
  unfold mkBranches at h
  obtain ⟨conds, hbc, h⟩ := bind_ok h
  obtain ⟨objs, vars, hpo, hbv, hmem⟩ := branchConds_mem hbc
  obtain ⟨hcomp, hobjs, hcover⟩ := parentObjects_spec hpo
  have hall := mapM_all2 _ _ h
  simp only [RelTree]
  refine ⟨hcomp, ?_, relBranches_iff.2 ?_⟩
  · intro o ho σ
    obtain ⟨obj, hobj, rfl⟩ := hcover hnd o ho
    obtain ⟨b, hb, hbo⟩ := hall.left ⟨obj, vars.map fun v => (v, σ v)⟩
      ((hmem _).2 ⟨hobj, by simp [List.map_map, Function.comp_def]⟩)
    obtain ⟨hbn, hbv'⟩ := branchOf_shape hbo
    refine ⟨b, hb, hbn, ?_⟩
    rw [hbv']
    intro q hq
    obtain ⟨v, _, rfl⟩ := List.mem_map.1 hq
    rfl
  · intro b hb
    obtain ⟨cnd, hc, hbo⟩ := hall.right b hb
    obtain ⟨hco, hcv⟩ := (hmem cnd).1 hc
    obtain ⟨h1, h2, h3⟩ := hobjs cnd.obj hco
    exact branch_rel HF hbo h1 h2 h3 (consistent_of_nodup (by rw [hcv]; exact boolVars_nodup hbv)) hC

theorem shapeTree_rel {c : Ctx} {Sb : SSet} {bs : List Branch} : ∀ ty : GType,
    (∀ p, RelTree c (.object bs) (.named ty.unwrapped p) Sb) → RelTree c (shapeTree ty bs) ty Sb
  | .named _ p, h => h p
  | .list t _, h => by simp only [shapeTree, RelTree]; exact shapeTree_rel t h
  | .nonNull t, h => by simp only [shapeTree, RelTree]; exact shapeTree_rel t h

theorem wrapTree_rel {c : Ctx} {mk : Name → Except Panic (List Branch)} {Sb : SSet} (ty : GType) (T : SelTree)
    (hmk : ∀ n p bs, mk n = .ok bs → ty.unwrapped = n → RelTree c (.object bs) (.named n p) Sb)
    (h : wrapTree mk ty = .ok T) : RelTree c T ty Sb := by
  rw [wrapTree_eq] at h
  cases hm : mk ty.unwrapped with
  | error e => rw [hm] at h; cases h
  | ok bs => rw [hm] at h; cases h; exact shapeTree_rel ty fun p => hmk _ p bs hm rfl

theorem impl_rel (c : Ctx) (mfuel : Nat) (hnd : TypeNamesNodup c.S) : ∀ (fuel : Nat),
    ImplStmt c mfuel fuel ∧ FFStmt c mfuel fuel
  | 0 => by
    constructor
    · intro ty ss T h; simp [implTree] at h
    · intro cnd ss L h; simp [fieldsFor] at h
  | fuel + 1 => by
    obtain ⟨HI, HF⟩ := impl_rel c mfuel hnd fuel
    refine ⟨?_, ffStmt_succ HI HF⟩
    intro ty ss T h hC
    rw [implTree_succ] at h
    refine wrapTree_rel ty T ?_ h
    intro n p bs hm hn
    exact mkBranches_rel HF hnd hm (by rw [← hn]; exact hC)

end NitroVerif.OpTypes.Ref
