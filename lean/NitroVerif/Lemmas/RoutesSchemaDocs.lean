/-
C15: every JSDoc comment of the schema declaration file (`SchemaDecls.allDocs`: type-level AND field-level, in text
order) on the two routes.  `type_system_to_ast` writes no directives, so the JSON route's comments are the SDL route's
with the `@deprecated` tags gone; descriptions of types, fields, input fields and of the schema definition are kept.
-/
import NitroVerif.Lemmas.RoutesSchemaMeta
import NitroVerif.Lemmas.RoutesResolvers
namespace NitroVerif.Bridge
open NitroVerif NitroVerif.Gql NitroVerif.SchemaIR NitroVerif.AstSchema NitroVerif.SchemaDecls NitroVerif.DeclCfg
open NitroVerif.IntrospectSpec NitroVerif.Routes NitroVerif.CliSchema NitroVerif.Ts

/-- the JSDoc comments of one definition WITHOUT the `@deprecated` tags -/
def plainDocs (x : Ctx) (td : TypeDef) : List String :=
  match td.kind with
  | .object =>
    if x.target.isInput then [] else
    optDoc td.desc ++ td.fields.flatMap fun f => optDoc (JsDoc.fieldDescription f.desc none)
  | .input =>
    if x.target.isOutput then [] else
    optDoc td.desc ++ td.inputs.flatMap fun f => optDoc (JsDoc.fieldDescription f.desc none)
  | .interface | .union => if x.target.isInput then [] else optDoc td.desc
  | _ => optDoc td.desc

theorem fieldDocs_twin (x y : Ctx) (ht : x.target = y.target) (td : TypeDef) :
    fieldDocs x (twin td) = plainDocs y td := by
  unfold fieldDocs plainDocs
  rw [twin_kind, twin_desc, ht]
  cases hk : td.kind <;> simp only []
  · rw [twin_fields td hk, List.flatMap_map]
    rfl
  · rw [twin_inputs td hk, List.flatMap_map]
    rfl

/-- no field / input field of the definition carries `@deprecated` -/
def noDeprecation (td : TypeDef) : Bool :=
  td.fields.all (fun f => (SchemaDecls.deprecationOf f.dirs).isNone) && td.inputs.all (fun f => (SchemaDecls.deprecationOf f.dirs).isNone)

theorem plainDocs_eq (x : Ctx) (td : TypeDef) (h : noDeprecation td = true) : plainDocs x td = fieldDocs x td := by
  simp only [noDeprecation, Bool.and_eq_true, List.all_eq_true, Option.isNone_iff_eq_none] at h
  unfold fieldDocs plainDocs
  cases td.kind <;> simp only []
  · congr 2
    exact flatMap_congr_mem fun f hf => by rw [h.1 f hf]
  · congr 2
    exact flatMap_congr_mem fun f hf => by rw [h.2 f hf]

/-! ### definitions that carry no comment -/

/-- no description on the definition, its fields and its input fields, no `@deprecated` -/
def silent (td : TypeDef) : Bool :=
  td.desc.isNone && td.fields.all (fun f => f.desc.isNone && (SchemaDecls.deprecationOf f.dirs).isNone) &&
    td.inputs.all (fun f => f.desc.isNone && (SchemaDecls.deprecationOf f.dirs).isNone)

theorem fieldDocs_silent (x : Ctx) (td : TypeDef) (h : silent td = true) : fieldDocs x td = [] := by
  simp only [silent, Bool.and_eq_true, List.all_eq_true, Option.isNone_iff_eq_none] at h
  obtain ⟨⟨hd, hf⟩, hi⟩ := h
  have h1 : td.fields.flatMap (fun f => optDoc (JsDoc.fieldDescription f.desc (SchemaDecls.deprecationOf f.dirs))) = [] :=
    List.flatMap_eq_nil_iff.mpr fun f hm => by rw [(hf f hm).1, (hf f hm).2]; rfl
  have h2 : td.inputs.flatMap (fun f => optDoc (JsDoc.fieldDescription f.desc (SchemaDecls.deprecationOf f.dirs))) = [] :=
    List.flatMap_eq_nil_iff.mpr fun f hm => by rw [(hi f hm).1, (hi f hm).2]; rfl
  unfold fieldDocs
  rw [hd, h1, h2]
  cases td.kind <;> simp [optDoc]

theorem introDefs_silent : ∀ td ∈ introDefs, silent td = true := by decide

theorem scalarDefJ_silent (n : String) : silent (scalarDefJ n) = true := rfl
theorem scalarDefS_silent (n : String) : silent (scalarDefS n) = true := rfl

theorem flatMap_silent (x : Ctx) (l : List TypeDef) (h : ∀ td ∈ l, silent td = true) : l.flatMap (fieldDocs x) = [] :=
  List.flatMap_eq_nil_iff.mpr fun td hm => fieldDocs_silent x td (h td hm)

/-! ### the comment of the metadata object -/

theorem metadataDocs_docSdl (M : TsDoc) :
    metadataDocs (docSdl M) =
      match (schemaDefs M).head? with
      | some d => d.roots.flatMap fun _ => optDoc d.desc
      | none => [] := by
  have h : metadataDocs (docSdl M) =
      match (Gql.Schema.mk (docSdl M)).schemaDefs.head? with
      | some d => d.roots.flatMap fun _ => optDoc d.desc
      | none => [] := by
    unfold metadataDocs Gql.Schema.schemaDefs
    rw [List.head?_filterMap]
    rfl
  rw [h, gql_schemaDefs_docSdl]

theorem flatMap_const_length {α β : Type} (l : List α) (c : List β) :
    (l.flatMap fun _ => c) = (List.replicate l.length c).flatten := by
  induction l with
  | nil => rfl
  | cons a r ih => simp only [List.flatMap_cons, ih, List.length_cons, List.replicate_succ, List.flatten_cons]

theorem metadataDocs_docJson (M : TsDoc) :
    metadataDocs (docJson M) = (List.replicate (jsonMetaFields (specRoots M)).length (optDoc (specDesc M))).flatten := by
  have h : metadataDocs (docJson M) = (rootEntries (jsonSide M).roots).flatMap fun _ => optDoc (jsonSide M).desc := rfl
  have hd : (jsonSide M).desc = specDesc M := by
    simp [jsonSide, addBuiltinScalars, Introspect.readBack, specSchema]
  rw [h, (jsonSide_roots M).1, hd, flatMap_const_length, ← rootEntries_fields, List.length_map]

theorem metadataDocs_routes (M : TsDoc) (hk : RootKindsDistinct M) :
    metadataDocs (docJson M) = metadataDocs (docSdl M) := by
  rw [metadataDocs_docJson, metadataDocs_docSdl]
  cases hs : schemaDefs M with
  | nil =>
    have : specDesc M = none := by simp [specDesc, hs]
    simp [this, optDoc]
  | cons d rest =>
    have hr : specRoots M = setRoots {} d.roots := by simp [specRoots, hs]
    have hdesc : specDesc M = d.desc := by simp [specDesc, hs]
    have hlen := (jsonMetaFields_setRoots d.roots (hk d (by simp [hs]))).length_eq
    rw [hr, hdesc, hlen, List.length_map]
    simp only [List.head?_cons]
    rw [flatMap_const_length]

/-! ### all comments of the file -/

/-- comments of the definitions of `M` in namespace `t`, with / without the `@deprecated` tags -/
def userDocs (c : Cfg) (M : TsDoc) (t : Target) : List String :=
  (typeDefsOf M).flatMap (fieldDocs (Ctx.new c (docSdl M) t))
def userPlainDocs (c : Cfg) (M : TsDoc) (t : Target) : List String :=
  (typeDefsOf M).flatMap (plainDocs (Ctx.new c (docSdl M) t))

theorem scalars_silent {mk : String → TypeDef} (h : ∀ n, silent (mk n) = true) (x : Ctx) (l : List String) :
    (l.map mk).flatMap (fieldDocs x) = [] :=
  flatMap_silent x _ fun td hm => by obtain ⟨n, _, rfl⟩ := List.mem_map.mp hm; exact h n

theorem allDocs_docSdl (c : Cfg) (M : TsDoc) :
    allDocs c (docSdl M) = metadataDocs (docSdl M) ++ Target.all.flatMap (userDocs c M) := by
  unfold allDocs
  refine congrArg (metadataDocs (docSdl M) ++ ·) (flatMap_congr_mem fun t _ => ?_)
  rw [typeDefsOf_docSdl_closed, List.flatMap_append, scalars_silent scalarDefS_silent, List.append_nil]
  rfl

theorem allDocs_docJson (c : Cfg) {M : TsDoc} (h : OrderOk M) :
    allDocs c (docJson M) = metadataDocs (docJson M) ++ Target.all.flatMap (userPlainDocs c M) := by
  unfold allDocs
  refine congrArg (metadataDocs (docJson M) ++ ·) (flatMap_congr_mem fun t _ => ?_)
  rw [typeDefsOf_docJson_closed h, List.flatMap_append, List.flatMap_append, List.flatMap_append,
    scalars_silent scalarDefJ_silent, scalars_silent scalarDefJ_silent, flatMap_silent _ introDefs introDefs_silent,
    List.append_nil, List.append_nil, List.append_nil, List.flatMap_map]
  exact flatMap_congr_mem fun td _ => fieldDocs_twin _ _ rfl td

theorem userPlainDocs_eq (c : Cfg) (M : TsDoc) (t : Target) (h : ∀ td ∈ typeDefsOf M, noDeprecation td = true) :
    userPlainDocs c M t = userDocs c M t :=
  flatMap_congr_mem fun td hm => plainDocs_eq _ td (h td hm)

end NitroVerif.Bridge
