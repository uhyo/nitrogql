/-
Helper lemmas about the JSDoc text model (`Model/JsDoc.lean`): where the two characters `*/` can occur.
-/
import NitroVerif.Model.JsDoc
namespace NitroVerif.JsDoc

theorem startsSlash_escape (l : List Char) : startsSlash (escapeClose l) = startsSlash l := by
  cases l with
  | nil => rfl
  | cons c rest =>
    simp only [escapeClose]
    split
    · rename_i h
      simp only [Bool.and_eq_true, beq_iff_eq] at h
      simp [startsSlash, h.1]
    · simp [startsSlash]

theorem hasClose_escape (l : List Char) : hasClose (escapeClose l) = false := by
  induction l with
  | nil => rfl
  | cons c rest ih =>
    simp only [escapeClose]
    split
    · simp [hasClose, startsSlash, ih]
    · rename_i h
      simp only [hasClose, ih, startsSlash_escape, Bool.or_false]
      simpa using h

theorem hasClose_append {a b : List Char} (ha : hasClose a = false) (hb : hasClose b = false)
    (hs : startsSlash b = false) : hasClose (a ++ b) = false := by
  induction a with
  | nil => simpa using hb
  | cons c r ih =>
    simp only [hasClose, Bool.or_eq_false_iff] at ha
    have h1 := ih ha.2
    have h2 : startsSlash (r ++ b) = startsSlash r ∨ (r = [] ∧ startsSlash (r ++ b) = false) := by
      cases r with
      | nil => right; exact ⟨rfl, by simpa using hs⟩
      | cons d r' => left; rfl
    simp only [List.cons_append, hasClose, h1, Bool.or_false]
    rcases h2 with h2 | ⟨hr, h2⟩
    · rw [h2]; exact ha.1
    · rw [h2]; simp

def piece (l : List Char) : List Char := [' ', '*', ' '] ++ l ++ ['\n']

theorem hasClose_piece {l : List Char} (h : hasClose l = false) : hasClose (piece l) = false := by
  have h1 : hasClose (l ++ ['\n']) = false := hasClose_append h (by decide) (by decide)
  have e : piece l = ' ' :: '*' :: ' ' :: (l ++ ['\n']) := by simp [piece]
  rw [e]
  simp [hasClose, startsSlash, h1]

theorem startsSlash_piece_append (l r : List Char) : startsSlash (piece l ++ r) = false := by
  simp [piece, startsSlash]

theorem hasClose_pieces (ls : List (List Char)) (tail : List Char)
    (hl : ∀ l ∈ ls, hasClose l = false) (ht : hasClose tail = false) (hs : startsSlash tail = false) :
    hasClose (ls.flatMap piece ++ tail) = false := by
  induction ls with
  | nil => simpa using ht
  | cons l r ih =>
    have hr := ih (fun x hx => hl x (List.mem_cons_of_mem _ hx))
    simp only [List.flatMap_cons, List.append_assoc]
    apply hasClose_append (hasClose_piece (hl l List.mem_cons_self)) hr
    cases r with
    | nil => simpa using hs
    | cons l' r' => simp only [List.flatMap_cons, List.append_assoc]; exact startsSlash_piece_append _ _

end NitroVerif.JsDoc
