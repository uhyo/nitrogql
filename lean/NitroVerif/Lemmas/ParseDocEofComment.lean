/-
A final comment without line terminator: `COMMENT` (`"#" … (NEWLINE | EOI)`) takes it up to the end of the input, so a gap
in front of it ends in a `Tail` that leads there (`tail_of_eofComment`).
-/
import NitroVerif.Lemmas.ParseDocTail
namespace NitroVerif.DocParse
open NitroVerif.Peg NitroVerif.Gen NitroVerif.Gen.Parts NitroVerif.Build NitroVerif.TypeParse NitroVerif.StringParse
open NitroVerif.Gql NitroVerif.ValueParse NitroVerif.Spec.Lex NitroVerif.ParseText

variable {inp : List Char}

theorem cc_star_eof (b : List Char) : ∀ (p : Nat), (∀ x ∈ b, x ≠ '\n' ∧ x ≠ '\r') →
    Runs gList (b.length + 12) false (.star (.call R.CommentCharacter)) .atomic ⟨p, b⟩ ⟨p + b.length, []⟩ [] := by
  induction b with
  | nil =>
    intro p _
    have hnl : FailsRuleL gList .neg 4 R.NEWLINE .atomic ⟨p, []⟩ := newlineL_fails (headNot_nil _)
    have g1 : Runs gList 6 true (.not (.call R.NEWLINE)) .atomic ⟨p, []⟩ ⟨p, []⟩ [] :=
      runsL_not (la := .none) (failsL_call hnl)
    have g2 : Fails gList 6 true .any .atomic ⟨p, []⟩ := (failsL_any (la := .none) (c := ⟨p, []⟩) rfl).mono (by omega)
    have hf : FailsRule gList 10 R.CommentCharacter .atomic ⟨p, []⟩ :=
      (failsRuleL_normal_atomic (la := .none) look_CommentCharacter (notSpecial (by decide) (by decide))
        (failsL_seq_last_noskip (la := .none) (Or.inr (by decide)) g1 g2)).mono (by omega)
    simpa using (runs_star_nil (fails_call hf)).mono (by omega : 12 ≤ 12)
  | cons c cs ih =>
    intro p hb
    have h1 := runs_call (sk := false) (cc_runs (p := p) (r := cs) (hb c (List.mem_cons_self ..)))
    have h2 := ih (p + 1) (fun x hx => hb x (List.mem_cons_of_mem _ hx))
    have := runs_star_cons (h1.mono (by omega : 11 ≤ cs.length + 12)) h2
    simp only [List.append_nil] at this
    refine Runs.cast (this.mono (by simp)) rfl ?_ rfl
    congr 1; simp; omega

/-- the text of a final comment after `#`: no line break in it, and visibly not an import statement -/
structure EofComment (body : List Char) : Prop where
  chars : ∀ x ∈ body, x ≠ '\n' ∧ x ≠ '\r'
  noImport : NotImportHead (body.dropWhile (· = ' '))

theorem comment_runs_eof {body : List Char} (h : EofComment body) (p : Nat) :
    RunsRule gList (body.length + 40) R.COMMENT .nonAtomic ⟨p, '#' :: body⟩ ⟨p + 1 + body.length, []⟩ [] := by
  obtain ⟨sp, hsplit, hsp, hb'⟩ := split_spaces body
  generalize hbd : body.dropWhile (· = ' ') = b' at hsplit hb'
  have hb'chars : ∀ c ∈ b', c ≠ '\n' ∧ c ≠ '\r' := fun c hc => h.chars c (by rw [hsplit]; simp [hc])
  have hlen : body.length = sp.length + b'.length := by rw [hsplit]; simp
  have h1 : Runs gList 1 false (.str ['#']) .atomic ⟨p, '#' :: (sp ++ b')⟩ ⟨p + 1, sp ++ b'⟩ [] :=
    runs_str (c := ⟨p, '#' :: (sp ++ b')⟩) (by simp [matchStr])
  have hhead : HeadNot (· = ' ') b' := by
    cases b' with
    | nil => exact headNot_nil _
    | cons c cs => exact headNot_cons (P := (· = ' ')) (hb' c cs rfl) _
  have h2 := spaces_star sp (p + 1) b' hsp hhead
  have hisc : FailsRuleL gList .neg (b'.length + 24) R.ext_ImportStatementContent .atomic ⟨p + 1 + sp.length, b' ++ []⟩ :=
    isc_fails (hbd ▸ h.noImport) hb'chars (fun d' r he => by cases he) _
  rw [List.append_nil] at hisc
  have h3 : Runs gList (b'.length + 26) false (.not (.call R.ext_ImportStatementContent)) .atomic ⟨p + 1 + sp.length, b'⟩
      ⟨p + 1 + sp.length, b'⟩ [] := runsL_not (la := .none) (failsL_call hisc)
  have h4 := cc_star_eof b' (p + 1 + sp.length) hb'chars
  have hnl : Fails gList 5 false (.call R.NEWLINE) .atomic ⟨p + 1 + sp.length + b'.length, []⟩ :=
    fails_call (newlineL_fails (la := .none) (headNot_nil _))
  have heoi : Runs gList 5 false (.call R.EOI) .atomic ⟨p + 1 + sp.length + b'.length, []⟩
      ⟨p + 1 + sp.length + b'.length, []⟩ [] := by
    have hb : RunsL gList .none 1 true .eoi .atomic ⟨p + 1 + sp.length + b'.length, []⟩ ⟨p + 1 + sp.length + b'.length, []⟩ [] :=
      runs_eoi true .atomic _ rfl
    have := runsRuleL_normal_atomic (la := .none) (rfl : gList.look R.EOI = _) (notSpecial (by decide) (by decide)) hb
    exact (runs_call this).mono (by omega)
  have h5 : Runs gList 6 false (.choice (.call R.NEWLINE) (.call R.EOI)) .atomic ⟨p + 1 + sp.length + b'.length, []⟩
      ⟨p + 1 + sp.length + b'.length, []⟩ [] := runs_choice_r hnl heoi
  have body := runs_seq_nosk' h1 (runs_seq_nosk' h2 (runs_seq_nosk' h3 (runs_seq_nosk' h4 h5)))
  have := runsRule_special (at_ := .nonAtomic) look_COMMENT_full (Or.inr ws_cm.2) body
  refine RunsRule.cast (this.mono ?_) (by rw [hsplit]) ?_ (by simp)
  · omega
  · congr 1; omega

theorem tail_of_eofComment {E : Nat} {body : List Char} (h : inp.drop E = '#' :: body) (hb : EofComment body) :
    Tail inp (body.length + 47) E (At inp (E + 1 + body.length)) := by
  have hend : inp.drop (E + 1 + body.length) = [] := by
    have : inp.drop (E + ('#' :: body).length) = [] := by rw [← List.drop_drop, h]; simp
    have e : E + 1 + body.length = E + ('#' :: body).length := by simp; omega
    rw [e]; exact this
  refine ⟨by rw [h]; exact headNot_cons (by decide) _, ?_⟩
  have h1 := runs_call (sk := false) (comment_runs_eof hb E)
  have h2 : Runs gList 12 false (.star (.call R.WHITESPACE)) .nonAtomic ⟨E + 1 + body.length, []⟩ ⟨E + 1 + body.length, []⟩ [] :=
    runs_star_nil (fails_call (ws_fails (headNot_nil _)))
  have item := runs_seq_nosk' h1 h2
  have hcm : FailsRule gList 10 R.COMMENT .nonAtomic ⟨E + 1 + body.length, []⟩ := cm_fails (headNot_nil _)
  have hnil : Runs gList 13 false cmStar .nonAtomic ⟨E + 1 + body.length, []⟩ ⟨E + 1 + body.length, []⟩ [] :=
    runs_star_nil (fails_seq_first (fails_call hcm))
  have := runs_star_cons (item.mono (by omega : _ ≤ body.length + 50)) (hnil.mono (by omega))
  simp only [List.append_nil] at this
  refine Runs.cast (this.mono (by omega)) ?_ ?_ rfl
  · simp only [At]; rw [h]
  · simp only [At]; rw [hend]

end NitroVerif.DocParse
