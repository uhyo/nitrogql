/-
The declaration table of the generated schema declaration file (`Model/SchemaDecls.lean`), placed at an arbitrary
path prefix `P` (`P = []`: the file itself; `P = ["Schema"]`: the file linked into an operation file): which
declarations, export entries and namespaces it contains, and what a lookup inside it returns.

The file is written out as one expression over the type definitions (prelude, one namespace per target with one block
of statements per definition, one representative per definition); the components of its table are then concatenations
of blocks. The table binds each (scope, name) once, so a lookup is a membership question. At the end: the entry
`get_scalar_types` makes for one definition (`scalarEntry`): the scalar table of the printer's context, entry by entry.
-/
import NitroVerif.Model.SchemaDecls
import NitroVerif.Lemmas.DeclsClosedTable
namespace NitroVerif.SchemaDecls
open NitroVerif.Gql NitroVerif.Ts NitroVerif.DeclCfg

/-- names the printer itself binds at the top level of the file, and the four namespace names -/
def preludeNames : List String := ["__nitrogql_schema", "__Beautify", "__SelectionSet"]
def targetNames : List String := Target.all.map (·.name)
def reservedNames : List String := preludeNames ++ targetNames

/-- the statements of a printed piece (none if the printer failed) -/
def okStmts : Except String (List Stmt) → List Stmt
  | .ok ss => ss
  | .error _ => []

/-- a run that succeeds returns `x` as soon as `x` is whatever it returns — for a file or document DEFINED as the result
    of its run: the run is evaluated once, for `isOk`, and never compared with a second copy of itself -/
theorem _root_.NitroVerif.eq_ok_of_isOk {ε α} {r : Except ε α} {x : α} (h : r.isOk = true) (hx : ∀ a, r = .ok a → x = a) :
    r = .ok x := by
  cases r with
  | ok a => rw [hx a rfl]
  | error e => cases h

/-- the body of the namespace of target `t`: the statements printed for each definition, in order -/
def nsBody (c : Cfg) (doc : TsDoc) (t : Target) : List Stmt :=
  (typeDefsOf doc).flatMap fun td => okStmts (printType (Ctx.new c doc t) td)

theorem namespaceBody_spec {x : Ctx} : ∀ {tds : List TypeDef} {ss : List Stmt}, namespaceBody x tds = .ok ss ↔
    (∀ td ∈ tds, ∃ s1, printType x td = .ok s1) ∧ ss = tds.flatMap fun td => okStmts (printType x td) := by
  intro tds
  induction tds with
  | nil => intro ss; simp [namespaceBody, eq_comm]
  | cons a rest ih =>
    intro ss
    rw [namespaceBody, List.forall_mem_cons, List.flatMap_cons]
    cases h1 : printType x a with
    | error e => exact ⟨nofun, fun h => nomatch h.1.1⟩
    | ok s1 =>
      cases hr : namespaceBody x rest with
      | error e => exact ⟨nofun, fun h => nomatch hr ▸ ih.2 ⟨h.1.2, rfl⟩⟩
      | ok r =>
        obtain ⟨hok, rfl⟩ := ih.1 hr
        exact ⟨fun h => by cases h; exact ⟨⟨⟨s1, rfl⟩, hok⟩, rfl⟩, fun h => by rw [h.2]; rfl⟩

theorem namespaceBody_ok {x : Ctx} {tds : List TypeDef} {ss : List Stmt} (h : namespaceBody x tds = .ok ss) :
    ∀ td ∈ tds, ∃ s1, printType x td = .ok s1 :=
  (namespaceBody_spec.1 h).1

theorem namespaces_spec {c : Cfg} {doc : TsDoc} : ∀ {ts : List Target} {ss : List Stmt},
    namespaces c doc ts = .ok ss ↔
    (∀ t ∈ ts, ∃ body, namespaceBody (Ctx.new c doc t) (typeDefsOf doc) = .ok body) ∧
      ss = ts.map fun t => .namespace true t.name (nsBody c doc t) := by
  intro ts
  induction ts with
  | nil => intro ss; simp [namespaces, eq_comm]
  | cons a rest ih =>
    intro ss
    rw [namespaces, List.forall_mem_cons, List.map_cons]
    cases hb : namespaceBody (Ctx.new c doc a) (typeDefsOf doc) with
    | error e => exact ⟨nofun, fun h => nomatch h.1.1⟩
    | ok b =>
      cases hr : namespaces c doc rest with
      | error e => exact ⟨nofun, fun h => nomatch hr ▸ ih.2 ⟨h.1.2, rfl⟩⟩
      | ok r =>
        obtain ⟨hok, rfl⟩ := ih.1 hr
        rw [nsBody, ← (namespaceBody_spec.1 hb).2]
        exact ⟨fun h => by cases h; exact ⟨⟨⟨b, rfl⟩, hok⟩, rfl⟩, fun h => by rw [h.2]⟩

theorem schemaFile_eq {c : Cfg} {doc : TsDoc} {F : File} (hF : schemaFile c doc = .ok F) :
    ∃ ns, namespaces c doc Target.all = .ok ns ∧
      F = prelude doc ++ ns ++ (typeDefsOf doc).flatMap (representative (Ctx.new c doc .operationOutput)) := by
  unfold schemaFile at hF
  split at hF
  · cases hF
  · rename_i ns hns; cases hF; exact ⟨ns, hns, rfl⟩

theorem schemaFile_iff {c : Cfg} {doc : TsDoc} {F : File} : schemaFile c doc = .ok F ↔
    (∀ t ∈ Target.all, ∀ td ∈ typeDefsOf doc, ∃ s1, printType (Ctx.new c doc t) td = .ok s1) ∧
      F = prelude doc ++ (Target.all.map fun t => Stmt.namespace true t.name (nsBody c doc t))
        ++ (typeDefsOf doc).flatMap (representative (Ctx.new c doc .operationOutput)) := by
  constructor
  · intro hF
    obtain ⟨ns, hns, rfl⟩ := schemaFile_eq hF
    obtain ⟨hb, rfl⟩ := namespaces_spec.1 hns
    exact ⟨fun t ht => let ⟨_, hb⟩ := hb t ht; namespaceBody_ok hb, rfl⟩
  · rintro ⟨hok, rfl⟩
    rw [schemaFile, namespaces_spec.2 ⟨fun t ht => ⟨_, namespaceBody_spec.2 ⟨hok t ht, rfl⟩⟩, rfl⟩]

theorem schemaFile_stmts {c : Cfg} {doc : TsDoc} {F : File} (hF : schemaFile c doc = .ok F) :
    F = prelude doc ++ (Target.all.flatMap fun t => [Stmt.namespace true t.name (nsBody c doc t)])
      ++ (typeDefsOf doc).flatMap (representative (Ctx.new c doc .operationOutput)) := by
  rw [(schemaFile_iff.1 hF).2, List.map_eq_flatMap]

theorem Target.mem_all (t : Target) : t ∈ Target.all := by cases t <;> simp [Target.all]

theorem Target.name_inj (a b : Target) (h : a.name = b.name) : a = b := by
  cases a <;> cases b <;> first | rfl | (simp [Target.name] at h)

theorem body_ok {c : Cfg} {doc : TsDoc} {F : File} (hF : schemaFile c doc = .ok F) (t : Target) (td : TypeDef)
    (hm : td ∈ typeDefsOf doc) : ∃ o, body (Ctx.new c doc t) td = .ok o := by
  obtain ⟨s1, h1⟩ := (schemaFile_iff.1 hF).1 t (Target.mem_all t) td hm
  unfold printType at h1
  split at h1
  · cases h1
  · rename_i h; exact ⟨none, h⟩
  · rename_i ty h; exact ⟨some ty, h⟩

/-- the local name of a schema type -/
abbrev lname (c : Cfg) (doc : TsDoc) (n : Name) : String := localName (bag (scalarTypes c doc)) n

theorem local_eq (c : Cfg) (doc : TsDoc) (t : Target) (n : Name) :
    (Ctx.new c doc t).local n = localName (bag (scalarTypes c doc)) n := rfl

theorem scope_ne_child (P : Scope) (n : String) : P ≠ P ++ [n] := by
  intro h
  have := congrArg List.length h
  simp at this

theorem decls_exportType (sc : Scope) (sn ln : String) (ty : Ty) :
    Stmt.declsList sc (exportType sn ln ty) = [⟨sc, ln, sn == ln, [], ty⟩] := by
  unfold exportType
  split <;> rename_i h <;> simp [Stmt.declsList, Stmt.decls, h]

theorem decls_descStmts (sc : Scope) (d : Option String) : Stmt.declsList sc (descStmts d) = [] := by
  cases d <;> rfl

theorem decls_printType (x : Ctx) (sc : Scope) (td : TypeDef) :
    Stmt.declsList sc (okStmts (printType x td)) =
      match body x td with
      | .ok (some ty) => [⟨sc, x.local td.name, td.name == x.local td.name, [], ty⟩]
      | _ => [] := by
  unfold printType
  cases hb : body x td with
  | error _ => rfl
  | ok o =>
    cases o with
    | none => rfl
    | some ty => simp only [okStmts, declsList_append, decls_descStmts, decls_exportType, List.nil_append]

theorem exports_exportType (sc : Scope) (sn ln : String) (ty : Ty) :
    Stmt.exportsList sc (exportType sn ln ty) = if sn == ln then [] else [(sc, ln, sn)] := by
  unfold exportType; split <;> simp [Stmt.exportsList, Stmt.exports]

theorem exports_descStmts (sc : Scope) (d : Option String) : Stmt.exportsList sc (descStmts d) = [] := by
  cases d <;> rfl

theorem exports_printType (x : Ctx) (sc : Scope) (td : TypeDef) :
    Stmt.exportsList sc (okStmts (printType x td)) =
      match body x td with
      | .ok (some _) => if td.name == x.local td.name then [] else [(sc, x.local td.name, td.name)]
      | _ => [] := by
  unfold printType
  cases hb : body x td with
  | error _ => rfl
  | ok o =>
    cases o with
    | none => rfl
    | some ty => simp only [okStmts, exportsList_append, exports_descStmts, exports_exportType, List.nil_append]

theorem nss_printType (x : Ctx) (sc : Scope) (td : TypeDef) : Stmt.nssList sc (okStmts (printType x td)) = [] := by
  unfold printType exportType
  split
  · rfl
  · rfl
  · cases td.desc <;> (simp only [okStmts, descStmts]; split <;> rfl)

/-- the target whose namespace the top-level representative of a definition points into -/
def repTarget (td : TypeDef) : Target := if td.kind == .input then Target.resolverInput else Target.operationOutput

theorem decls_exportRepresentative (sc : Scope) (sn ln : String) (t : Target) :
    Stmt.declsList sc (exportRepresentative sn ln t) = [⟨sc, ln, sn == ln, [], .qref [t.name, sn]⟩] := by
  unfold exportRepresentative
  split <;> rename_i h
  · rw [beq_iff_eq.1 h]; simp [Stmt.declsList, Stmt.decls]
  · simp [Stmt.declsList, Stmt.decls, h]

theorem runtimeConst_table (sc : Scope) (b ex dc : Bool) (n : String) (t : Option Ty) (i : Option JsExpr) :
    Stmt.declsList sc (if b then [.const ex dc n t i] else []) = [] ∧
      Stmt.exportsList sc (if b then [.const ex dc n t i] else []) = [] ∧
      Stmt.nssList sc (if b then [.const ex dc n t i] else []) = [] := by
  cases b <;> exact ⟨rfl, rfl, rfl⟩

theorem decls_representative (sc : Scope) (x : Ctx) (td : TypeDef) :
    Stmt.declsList sc (representative x td)
      = [⟨sc, x.local td.name, td.name == x.local td.name, [], .qref [(repTarget td).name, td.name]⟩] := by
  unfold representative
  rw [declsList_append, decls_exportRepresentative, (runtimeConst_table sc _ _ _ _ _ _).1]
  rfl

theorem exports_representative (sc : Scope) (x : Ctx) (td : TypeDef) :
    Stmt.exportsList sc (representative x td)
      = if td.name == x.local td.name then [] else [(sc, x.local td.name, td.name)] := by
  unfold representative exportRepresentative
  rw [exportsList_append, (runtimeConst_table sc _ _ _ _ _ _).2.1]
  split <;> simp [Stmt.exportsList, Stmt.exports]

theorem nss_representative (sc : Scope) (x : Ctx) (td : TypeDef) : Stmt.nssList sc (representative x td) = [] := by
  unfold representative exportRepresentative
  rw [nssList_append, (runtimeConst_table sc _ _ _ _ _ _).2.2]
  split <;> rfl

/-- the declaration of `td` in the namespace of `t` of the file placed at `P` -/
def aliasDecl (c : Cfg) (doc : TsDoc) (P : Scope) (t : Target) (td : TypeDef) (ty : Ty) : Decl :=
  ⟨P ++ [t.name], lname c doc td.name, td.name == lname c doc td.name, [], ty⟩

/-- the representative of `td` at the top of the file placed at `P` -/
def repDecl (c : Cfg) (doc : TsDoc) (P : Scope) (td : TypeDef) : Decl :=
  ⟨P, lname c doc td.name, td.name == lname c doc td.name, [], .qref [(repTarget td).name, td.name]⟩

theorem decls_prelude (P : Scope) (doc : TsDoc) :
    ∀ d ∈ Stmt.declsList P (prelude doc), d.scope = P ∧ d.name ∈ preludeNames := by
  intro d hd
  simp [prelude, Stmt.declsList, Stmt.decls] at hd
  rcases hd with rfl | rfl | rfl <;> simp [preludeNames]

section table
variable {c : Cfg} {doc : TsDoc} {F : File} (hF : schemaFile c doc = .ok F) (P : Scope)

include hF in
theorem decls_schemaFile_eq :
    Stmt.declsList P F = Stmt.declsList P (prelude doc) ++
      (Target.all.flatMap fun t => (typeDefsOf doc).flatMap fun td =>
        Stmt.declsList (P ++ [t.name]) (okStmts (printType (Ctx.new c doc t) td))) ++
      (typeDefsOf doc).flatMap fun td => Stmt.declsList P (representative (Ctx.new c doc .operationOutput) td) := by
  rw [schemaFile_stmts hF, declsList_append, declsList_append, declsList_flatMap, declsList_flatMap]
  simp only [Stmt.declsList, Stmt.decls, List.append_nil, nsBody, declsList_flatMap]

include hF in
theorem exports_schemaFile_eq :
    Stmt.exportsList P F =
      (Target.all.flatMap fun t => (typeDefsOf doc).flatMap fun td =>
        Stmt.exportsList (P ++ [t.name]) (okStmts (printType (Ctx.new c doc t) td))) ++
      (typeDefsOf doc).flatMap fun td => Stmt.exportsList P (representative (Ctx.new c doc .operationOutput) td) := by
  rw [schemaFile_stmts hF, exportsList_append, exportsList_append, exportsList_flatMap, exportsList_flatMap]
  simp only [Stmt.exportsList, Stmt.exports, List.append_nil, nsBody, exportsList_flatMap, prelude, List.nil_append]

include hF in
theorem nss_schemaFile : Stmt.nssList P F = Target.all.map fun t => P ++ [t.name] := by
  have hnil : ∀ l : List TypeDef, l.flatMap (fun _ => ([] : List Scope)) = [] :=
    fun l => List.flatMap_eq_nil_iff.2 fun _ _ => rfl
  rw [schemaFile_stmts hF, nssList_append, nssList_append, nssList_flatMap, nssList_flatMap]
  simp only [Stmt.nssList, Stmt.nss, List.append_nil, nsBody, nssList_flatMap, nss_printType, nss_representative,
    hnil, prelude, List.nil_append, List.map_eq_flatMap]

include hF in
theorem decls_schemaFile :
    ∀ d ∈ Stmt.declsList P F,
      (d.scope = P ∧ (d.name ∈ preludeNames ∨
        ∃ td ∈ typeDefsOf doc, d = repDecl c doc P td)) ∨
      (∃ t, ∃ td ∈ typeDefsOf doc, ∃ ty, body (Ctx.new c doc t) td = .ok (some ty) ∧
        d = aliasDecl c doc P t td ty) := by
  intro d hd
  rw [decls_schemaFile_eq hF] at hd
  simp only [List.mem_append, List.mem_flatMap] at hd
  rcases hd with (hd | ⟨t, _, td, htd, hd⟩) | ⟨td, htd, hd⟩
  · exact Or.inl ⟨(decls_prelude P doc d hd).1, Or.inl (decls_prelude P doc d hd).2⟩
  · rw [decls_printType] at hd
    split at hd
    · rename_i ty hb
      exact Or.inr ⟨t, td, htd, ty, hb, List.mem_singleton.1 hd⟩
    · cases hd
  · rw [decls_representative, List.mem_singleton] at hd
    exact Or.inl ⟨hd ▸ rfl, Or.inr ⟨td, htd, hd⟩⟩

include hF in
theorem alias_mem (t : Target) {td : TypeDef} {ty : Ty} (hm : td ∈ typeDefsOf doc)
    (hb : body (Ctx.new c doc t) td = .ok (some ty)) :
    aliasDecl c doc P t td ty ∈ Stmt.declsList P F := by
  rw [decls_schemaFile_eq hF]
  refine List.mem_append_left _ (List.mem_append_right _ (List.mem_flatMap.2 ⟨t, Target.mem_all t,
    List.mem_flatMap.2 ⟨td, hm, ?_⟩⟩))
  rw [decls_printType, hb]; exact List.mem_singleton.2 rfl

include hF in
theorem rep_mem {td : TypeDef} (hm : td ∈ typeDefsOf doc) :
    repDecl c doc P td ∈ Stmt.declsList P F := by
  rw [decls_schemaFile_eq hF]
  refine List.mem_append_right _ (List.mem_flatMap.2 ⟨td, hm, ?_⟩)
  rw [decls_representative]; exact List.mem_singleton.2 rfl

include hF in
theorem alias_unique (t : Target) {td : TypeDef} {ty : Ty} (hb : body (Ctx.new c doc t) td = .ok (some ty))
    (hinj : ∀ a ∈ typeDefsOf doc, lname c doc a.name = lname c doc td.name → a = td) :
    ∀ x ∈ Stmt.declsList P F, x.scope = P ++ [t.name] → x.name = lname c doc td.name →
      x = aliasDecl c doc P t td ty := by
  intro x hx hs hn
  rcases decls_schemaFile hF P x hx with ⟨hs', _⟩ | ⟨t', a, ha, ty', hb', rfl⟩
  · exact absurd (hs'.symm.trans hs) (scope_ne_child P t.name)
  · obtain rfl := Target.name_inj _ _ (List.singleton_inj.1 (List.append_cancel_left hs))
    obtain rfl := hinj a ha hn
    rw [hb] at hb'; cases hb'; rfl

include hF in
theorem rep_unique {td : TypeDef} (hpre : lname c doc td.name ∉ preludeNames)
    (hinj : ∀ a ∈ typeDefsOf doc, lname c doc a.name = lname c doc td.name → a = td) :
    ∀ x ∈ Stmt.declsList P F, x.scope = P → x.name = lname c doc td.name → x = repDecl c doc P td := by
  intro x hx hs hn
  rcases decls_schemaFile hF P x hx with ⟨_, hp | ⟨a, ha, rfl⟩⟩ | ⟨t', a, ha, ty', hb', rfl⟩
  · exact absurd (hn ▸ hp) hpre
  · obtain rfl := hinj a ha hn; rfl
  · exact absurd hs.symm (scope_ne_child P t'.name)

include hF in
theorem exports_schemaFile :
    ∀ y ∈ Stmt.exportsList P F, ∃ td ∈ typeDefsOf doc, td.name ≠ lname c doc td.name ∧
      y.2 = (lname c doc td.name, td.name) ∧
      (y.1 = P ∨ ∃ t, y.1 = P ++ [t.name] ∧ ∃ ty, body (Ctx.new c doc t) td = .ok (some ty)) := by
  intro y hy
  rw [exports_schemaFile_eq hF] at hy
  simp only [List.mem_append, List.mem_flatMap] at hy
  rcases hy with ⟨t, _, td, htd, hy⟩ | ⟨td, htd, hy⟩
  · rw [exports_printType] at hy
    split at hy
    · rename_i ty hb
      split at hy
      · cases hy
      · rename_i hne
        rw [List.mem_singleton.1 hy]
        exact ⟨td, htd, fun e => hne (beq_iff_eq.2 e), rfl, Or.inr ⟨t, rfl, ty, hb⟩⟩
    · cases hy
  · rw [exports_representative] at hy
    split at hy
    · cases hy
    · rename_i hne
      rw [List.mem_singleton.1 hy]
      exact ⟨td, htd, fun e => hne (beq_iff_eq.2 e), rfl, Or.inl rfl⟩

include hF in
theorem export_entry {td : TypeDef} (hm : td ∈ typeDefsOf doc) (hne : td.name ≠ lname c doc td.name)
    (hdist : ∀ a ∈ typeDefsOf doc, a.name = td.name → a = td) (S : Scope)
    (hS : S = P ∨ ∃ t ty, S = P ++ [t.name] ∧ body (Ctx.new c doc t) td = .ok (some ty)) :
    (S, lname c doc td.name, td.name) ∈ Stmt.exportsList P F ∧
      ∀ y ∈ Stmt.exportsList P F, y.1 = S → y.2.2 = td.name → y = (S, lname c doc td.name, td.name) := by
  constructor
  · rw [exports_schemaFile_eq hF]
    rcases hS with rfl | ⟨t, ty, rfl, hb⟩
    · refine List.mem_append_right _ (List.mem_flatMap.2 ⟨td, hm, ?_⟩)
      rw [exports_representative, local_eq, beq_eq_false_iff_ne.2 hne]; exact List.mem_singleton.2 rfl
    · refine List.mem_append_left _ (List.mem_flatMap.2 ⟨t, Target.mem_all t, List.mem_flatMap.2 ⟨td, hm, ?_⟩⟩)
      rw [exports_printType, hb, local_eq, beq_eq_false_iff_ne.2 hne]; exact List.mem_singleton.2 rfl
  · intro y hy h1 h2
    obtain ⟨a, ha, _, h3, _⟩ := exports_schemaFile hF P y hy
    obtain ⟨y1, y2, y3⟩ := y
    cases h3
    obtain rfl := hdist a ha h2
    rw [← h1]

end table

/-- the entry `get_scalar_types` makes for one definition -/
def scalarEntry (c : Cfg) (t : TypeDef) : Option (Name × ScalarCfg) :=
  if t.kind == .scalar then
    match (c.optionScalar? t.name).orElse (fun _ => directiveScalar? t) with
    | some s => some (t.name, s)
    | none => none
  else none

theorem scalarTypes_eq (c : Cfg) (doc : TsDoc) : scalarTypes c doc = (typeDefsOf doc).filterMap (scalarEntry c) := by
  unfold scalarTypes typeDefsOf
  rw [List.filterMap_filterMap]
  congr 1
  funext x
  cases x <;> rfl

theorem scalarEntry_key {c : Cfg} {t : TypeDef} {p : Name × ScalarCfg} (h : scalarEntry c t = some p) : p.1 = t.name := by
  unfold scalarEntry at h
  split at h
  · split at h
    · cases h; rfl
    · cases h
  · cases h

end NitroVerif.SchemaDecls
