import NitroVerif.Model.GqlPrint
import NitroVerif.Spec.GqlDocTokens
/-!
C16, token level: `lex` reads a printer token as lexical tokens, and every printing function has its statement
`(print… x).flatMap lex = …Toks x` against the canonical token streams of the specification (`Spec/GqlTokens.lean`,
`Spec/GqlDocTokens.lean`) — except for a union without members, for which the code writes a dangling `=` (`unionOK`).
-/
namespace NitroVerif.C16
open NitroVerif.Gql NitroVerif.GqlPrint NitroVerif.GqlTokens

/-- the lexical token a printer token stands for (layout and indentation are `Ignored`). Like `Tok.isSig`, `Tok.fixedOK`,
    `Tok.nameOK`, `followOK`, `C16.fixedOK`, `dataOK`, `lexW` and `tokGood`, it ends in a wildcard arm: a further constructor of
    `Tok` is taken for layout by each of them unless it is given an arm of its own (`gapNext` and `Fits` end in a wildcard arm
    too: theirs is the arm of the significant tokens) -/
def lex : Tok → List GqlTokens.LTok
  | .p s => [.p s]
  | .name s => [.name s]
  | .var n => [.p "$", .name n]
  | .int s => [.int s]
  | .float s => [.float s]
  | .str v => [.str v]
  | _ => []

theorem lex_sp : lex sp = [] := rfl
theorem lex_nl : lex nl = [] := rfl

mutual
theorem toks_value : (v : Value) → (printValue v).flatMap lex = valueToks v
  | .var s _ | .int s _ | .float s _ | .str s _ | .enum s _ => by simp [printValue, valueToks, lex]
  | .bool b _ => by simp [printValue, valueToks, lex]
  | .null _ => by simp [printValue, valueToks, lex]
  | .list vs _ => by
    have := toks_valueList vs true
    simp [printValue, valueToks, lex, List.flatMap_append, this]
  | .obj [] _ => by simp [printValue, valueToks, fieldToks, lex]
  | .obj [(k, _, v)] _ => by
    have := toks_value v
    simp [printValue, valueToks, fieldToks, lex, sp, List.flatMap_append, this]
  | .obj (f1 :: f2 :: fs) _ => by
    have := toks_fieldLines (f1 :: f2 :: fs)
    simp [printValue, valueToks, lex, nl, List.flatMap_append, this]
theorem toks_valueList : (vs : List Value) → (b : Bool) → (printValueList vs b).flatMap lex = valueListToks vs
  | [], _ => by simp [printValueList, valueListToks]
  | v :: vs, b => by
    have h1 := toks_value v
    have h2 := toks_valueList vs false
    cases b <;> simp [printValueList, valueListToks, lex, List.flatMap_append, h1, h2]
theorem toks_fieldLines : (fs : List (Name × Pos × Value)) → (printFieldLines fs).flatMap lex = fieldToks fs
  | [] => by simp [printFieldLines, fieldToks]
  | (k, _, v) :: r => by
    have h1 := toks_value v
    have h2 := toks_fieldLines r
    simp [printFieldLines, fieldToks, lex, sp, nl, List.flatMap_append, h1, h2]
end

theorem toks_args : (as : List Arg) → (printArgs as).flatMap lex = argsToks as
  | [] => by simp [printArgs, argsToks]
  | [(k, _, v)] => by
    simp [printArgs, argsToks, fieldToks, lex, sp, List.flatMap_append, toks_value v]
  | a1 :: a2 :: as => by
    simp [printArgs, argsToks, lex, nl, List.flatMap_append, toks_fieldLines (a1 :: a2 :: as)]

/-! ### directives, types, selections, variable definitions, operations, fragments -/

theorem toks_directive (d : Directive) : (printDirective d).flatMap lex = directiveToks d := by
  simp [printDirective, directiveToks, lex, toks_args]

theorem toks_dirs (ds : List Directive) : (printDirs ds).flatMap lex = dirsToks ds := by
  induction ds with
  | nil => simp [printDirs, dirsToks]
  | cons d ds ih => simp [printDirs, dirsToks, lex, sp, List.flatMap_append, toks_directive, ih]

theorem toks_type (t : GType) : (printType t).flatMap lex = typeToks t := by
  induction t with
  | named n p => rfl
  | list t p ih => simp [printType, typeToks, List.flatMap_append, lex, ih]
  | nonNull t ih => simp [printType, typeToks, List.flatMap_append, lex, ih]

mutual
theorem toks_selection : (s : Selection) → (printSelection s).flatMap lex = selectionToks s
  | .field al n _ as ds none => by
    rcases al with _ | ⟨a, p⟩ <;>
      simp [printSelection, selectionToks, lex, sp, List.flatMap_append, toks_args, toks_dirs]
  | .field al n _ as ds (some xs) => by
    have := toks_selLines xs
    rcases al with _ | ⟨a, p⟩ <;>
      simp [printSelection, selectionToks, lex, sp, nl, List.flatMap_append, toks_args, toks_dirs, this]
  | .spread n _ ds _ => by simp [printSelection, selectionToks, lex, sp, toks_dirs]
  | .inline c ds ss _ => by
    have := toks_selLines ss
    rcases c with _ | ⟨t, p⟩ <;>
      simp [printSelection, selectionToks, lex, sp, nl, List.flatMap_append, toks_dirs, this]
theorem toks_selLines : (ss : List Selection) → (printSelLines ss).flatMap lex = selectionsToks ss
  | [] => by simp [printSelLines, selectionsToks]
  | s :: ss => by
    have h1 := toks_selection s
    have h2 := toks_selLines ss
    simp [printSelLines, selectionsToks, lex, nl, List.flatMap_append, h1, h2]
end

theorem toks_selSet (ss : List Selection) : (printSelSet ss).flatMap lex = selectionSetToks ss := by
  simp [printSelSet, selectionSetToks, lex, nl, List.flatMap_append, toks_selLines]

theorem toks_varDef (v : VarDef) : (printVarDef v).flatMap lex = varDefToks v := by
  cases h : v.default <;>
    simp [printVarDef, varDefToks, h, lex, sp, List.flatMap_append, toks_type, toks_value, toks_dirs]

theorem toks_varDefsSep (vs : List VarDef) : ∀ b, (printVarDefsSep vs b).flatMap lex = varDefListToks vs := by
  induction vs with
  | nil => intro b; simp [printVarDefsSep, varDefListToks]
  | cons v vs ih =>
    intro b
    cases b <;> simp [printVarDefsSep, varDefListToks, lex, List.flatMap_append, toks_varDef, ih]

theorem toks_varDefs : (vs : List VarDef) → (printVarDefs vs).flatMap lex = varDefsToks vs
  | [] => by simp [printVarDefs, varDefsToks]
  | [v] => by simp [printVarDefs, varDefsToks, varDefListToks, lex, List.flatMap_append, toks_varDef]
  | v1 :: v2 :: vs => by
    simp [printVarDefs, varDefsToks, lex, nl, List.flatMap_append, toks_varDefsSep]

theorem toks_operation (o : OperationDef) : (printOperation o).flatMap lex = operationToks o := by
  rcases h : o.name with _ | ⟨n, p⟩ <;>
    simp [printOperation, operationToks, h, lex, sp, nl, List.flatMap_append, toks_varDefs, toks_dirs, toks_selSet]

theorem toks_fragment (f : FragmentDef) : (printFragment f).flatMap lex = fragmentToks f := by
  simp [printFragment, fragmentToks, lex, sp, nl, List.flatMap_append, toks_dirs, toks_selSet]

/-! ### type-system definitions -/

theorem toks_desc (d : Option String) : (printDesc d).flatMap lex = descToks d := by
  cases d <;> simp [printDesc, descToks, lex, nl]

theorem toks_dirsTight (ds : List Directive) : (printDirsTight ds).flatMap lex = dirsToks ds := by
  induction ds with
  | nil => simp [printDirsTight, dirsToks]
  | cons d ds ih => simp [printDirsTight, dirsToks, List.flatMap_append, toks_directive, ih]

theorem toks_inputValueDef (v : InputValueDef) : (printInputValueDef v).flatMap lex = inputValueDefToks v := by
  cases h : v.default <;>
    simp [printInputValueDef, inputValueDefToks, h, lex, sp, List.flatMap_append, toks_desc, toks_type, toks_value,
      toks_dirs]

theorem toks_argDefsSep (vs : List InputValueDef) :
    ∀ b, (printArgDefsSep vs b).flatMap lex = listToks inputValueDefToks vs := by
  induction vs with
  | nil => intro b; simp [printArgDefsSep, listToks]
  | cons v vs ih =>
    intro b
    cases b <;> simp [printArgDefsSep, listToks, lex, List.flatMap_append, toks_inputValueDef, ih]

theorem toks_argDefs (vs : List InputValueDef) : (printArgDefs vs).flatMap lex = argDefsToks vs := by
  cases vs with
  | nil => simp [printArgDefs, argDefsToks]
  | cons v vs => simp [printArgDefs, argDefsToks, lex, List.flatMap_append, toks_argDefsSep]

theorem toks_fieldDef (f : FieldDef) : (printFieldDef f).flatMap lex = fieldDefToks f := by
  simp [printFieldDef, fieldDefToks, lex, sp, List.flatMap_append, toks_desc, toks_argDefs, toks_type, toks_dirs]

theorem toks_enumValueDef (v : EnumValueDef) : (printEnumValueDef v).flatMap lex = enumValueDefToks v := by
  simp [printEnumValueDef, enumValueDefToks, lex, List.flatMap_append, toks_desc, toks_dirs]

theorem toks_fieldLinesTs (fs : List FieldDef) : (printFieldLinesTs fs).flatMap lex = listToks fieldDefToks fs := by
  induction fs with
  | nil => simp [printFieldLinesTs, listToks]
  | cons f fs ih => simp [printFieldLinesTs, listToks, lex, nl, List.flatMap_append, toks_fieldDef, ih]

theorem toks_enumValueLines (fs : List EnumValueDef) :
    (printEnumValueLines fs).flatMap lex = listToks enumValueDefToks fs := by
  induction fs with
  | nil => simp [printEnumValueLines, listToks]
  | cons f fs ih => simp [printEnumValueLines, listToks, lex, nl, List.flatMap_append, toks_enumValueDef, ih]

theorem toks_inputLines (fs : List InputValueDef) :
    (printInputLines fs).flatMap lex = listToks inputValueDefToks fs := by
  induction fs with
  | nil => simp [printInputLines, listToks]
  | cons f fs ih => simp [printInputLines, listToks, lex, nl, List.flatMap_append, toks_inputValueDef, ih]

theorem toks_braced {α : Type} (t : α → List LTok) (xs : List α) (body : List Tok)
    (h : body.flatMap lex = listToks t xs) : (braced body xs.isEmpty).flatMap lex = bracedToks t xs := by
  cases xs with
  | nil => simp [braced, bracedToks]
  | cons x xs => simp [braced, bracedToks, lex, sp, nl, List.flatMap_append, h]

theorem toks_sep (s : String) (l : List (Name × Pos)) :
    (l.flatMap fun x => [sp, Tok.p s, sp, Tok.name x.1]).flatMap lex = sepToks s l := by
  induction l with
  | nil => simp [sepToks]
  | cons x xs ih =>
    obtain ⟨n, p⟩ := x
    simp only [List.flatMap_cons, List.flatMap_append, ih]
    simp [sepToks, lex, sp]

theorem toks_implements (l : List (Name × Pos)) : (printImplements l).flatMap lex = implementsToks l := by
  cases l with
  | nil => simp [printImplements, implementsToks]
  | cons x xs =>
    have := toks_sep "&" (x :: xs)
    simp only [printImplements, implementsToks, List.flatMap_append, this]
    simp [lex, sp]

theorem toks_members (l : List (Name × Pos)) : (printMembers l).flatMap lex = sepToks "|" l :=
  toks_sep "|" l

theorem toks_locations (l : List Name) : (printLocations l).flatMap lex = locationsToks l := by
  induction l with
  | nil => simp [printLocations, locationsToks, sepToks]
  | cons x xs ih =>
    simp only [printLocations, locationsToks, List.flatMap_cons, List.flatMap_append, List.map_cons] at ih ⊢
    rw [ih]
    simp [sepToks, lex, sp]

theorem toks_roots (rs : List (OpKind × Name × Pos)) : (printRoots rs).flatMap lex = listToks rootToks rs := by
  induction rs with
  | nil => simp [printRoots, listToks]
  | cons r rs ih =>
    obtain ⟨k, n, p⟩ := r
    simp only [printRoots, List.flatMap_append, ih]
    simp [listToks, rootToks, lex, sp, nl]

/-- the code writes ` =` after the name and directives of EVERY union definition / extension — also when there is
    no member, where the grammar has no `=` (`union U` / `extend union U @d`) -/
def unionOK (t : TypeDef) : Bool := t.kind != .union || !t.members.isEmpty

theorem toks_typeBody (t : TypeDef) (ext : Bool) (h : unionOK t = true) :
    (printTypeBody t ext).flatMap lex = typeBodyToks t := by
  unfold printTypeBody typeBodyToks
  cases hk : t.kind
  · simp [lex, nl, List.flatMap_append, toks_dirs]
  · simp only [List.flatMap_append, toks_implements, toks_dirs, toks_braced fieldDefToks t.fields _ (toks_fieldLinesTs _)]
    simp [lex, nl]
  · simp only [List.flatMap_append, toks_implements, toks_dirs, toks_braced fieldDefToks t.fields _ (toks_fieldLinesTs _)]
    simp [lex, nl]
  · simp only [unionOK, hk] at h
    cases hm : t.members with
    | nil => rw [hm] at h; exact absurd h (by decide)
    | cons m ms =>
      simp only [List.flatMap_append, toks_dirs, toks_members]
      simp [membersToks, lex, sp, nl]
  · simp only [List.flatMap_append, toks_dirs, toks_braced enumValueDefToks t.values _ (toks_enumValueLines _)]
    simp [lex, nl]
  · simp only [List.flatMap_append, toks_dirs, toks_braced inputValueDefToks t.inputs _ (toks_inputLines _)]
    simp [lex, nl]

theorem kindKeyword_eq (k : TypeKind) : kindKeyword k = kindKw k := by cases k <;> rfl

theorem toks_typeDef (t : TypeDef) (h : unionOK t = true) : (printTypeDef t).flatMap lex = typeDefToks t := by
  simp [printTypeDef, typeDefToks, lex, sp, List.flatMap_append, toks_desc, toks_typeBody t false h, kindKeyword_eq]

theorem toks_typeExt (t : TypeDef) (h : unionOK t = true) : (printTypeExt t).flatMap lex = typeExtToks t := by
  simp [printTypeExt, typeExtToks, lex, sp, List.flatMap_append, toks_typeBody t true h, kindKeyword_eq]

theorem toks_schemaDef (s : SchemaDef) : (printSchemaDef s).flatMap lex = schemaDefToks s := by
  simp [printSchemaDef, schemaDefToks, lex, sp, nl, List.flatMap_append, toks_desc, toks_dirsTight, toks_roots]

theorem toks_schemaExt (s : SchemaDef) : (printSchemaExt s).flatMap lex = schemaExtToks s := by
  cases hr : s.roots with
  | nil => simp [printSchemaExt, schemaExtToks, bracedToks, hr, lex, sp, nl, List.flatMap_append, toks_dirsTight]
  | cons r rs =>
    have := toks_roots (r :: rs)
    simp [printSchemaExt, schemaExtToks, bracedToks, hr, lex, sp, nl, List.flatMap_append, toks_dirsTight, this]

theorem toks_directiveDef (d : DirectiveDef) : (printDirectiveDef d).flatMap lex = directiveDefToks d := by
  cases hr : d.repeatable <;>
    simp [printDirectiveDef, directiveDefToks, hr, lex, sp, nl, List.flatMap_append, toks_desc, toks_argDefs,
      toks_locations]

/-- the side condition of an item: its union (if it is one) has a member -/
def itemUnionOK : TsItem → Bool
  | .typeDef t => unionOK t
  | .typeExt t => unionOK t
  | _ => true

theorem toks_tsItem (i : TsItem) (h : itemUnionOK i = true) : (printTsItem i).flatMap lex = tsItemToks i := by
  cases i with
  | schemaDef s => exact toks_schemaDef s
  | typeDef t => exact toks_typeDef t h
  | directiveDef d => exact toks_directiveDef d
  | schemaExt s => exact toks_schemaExt s
  | typeExt t => exact toks_typeExt t h

theorem toks_tsDoc (d : TsDoc) (h : d.all itemUnionOK = true) : (printTsDoc d).flatMap lex = tsDocToks d := by
  induction d with
  | nil => simp [printTsDoc, tsDocToks, listToks]
  | cons i is ih =>
    simp only [List.all_cons, Bool.and_eq_true] at h
    simp only [printTsDoc, tsDocToks, listToks, List.flatMap_append, toks_tsItem i h.1]
    rw [ih h.2]; rfl

theorem toks_tsExtDoc (d : TsDoc) (h : d.all itemUnionOK = true) : (printTsExtDoc d).flatMap lex = tsDocToks d := by
  induction d with
  | nil => simp [printTsExtDoc, tsDocToks, listToks]
  | cons i is ih =>
    simp only [List.all_cons, Bool.and_eq_true] at h
    simp only [printTsExtDoc, tsDocToks, listToks, List.flatMap_append, toks_tsItem i h.1]
    rw [ih h.2]; simp [lex, nl, tsDocToks]

/-- an executable document without `#import` lines -/
def noImports (d : Doc) : Bool := d.all fun | .imp _ => false | _ => true

theorem noImports_of_wfDoc (d : Doc) (h : wfDoc d = true) : noImports d = true := by
  simp only [noImports, wfDoc, List.all_eq_true] at h ⊢
  intro x hx
  cases x with
  | imp i => exact absurd (h _ hx) (by simp [wfExecDef])
  | op o => rfl
  | frag f => rfl

theorem toks_doc (d : Doc) (h : noImports d = true) : (printDoc d).flatMap lex = docToks d := by
  induction d with
  | nil => simp [printDoc, docToks, listToks]
  | cons i is ih =>
    simp only [noImports, List.all_cons, Bool.and_eq_true] at h
    have hi : (printExecDef i).flatMap lex = execDefToks i := by
      cases i with
      | op o => exact toks_operation o
      | frag f => exact toks_fragment f
      | imp i => simp at h
    simp only [printDoc, docToks, listToks, List.flatMap_append, hi]
    rw [ih (by simpa [noImports] using h.2)]; rfl

end NitroVerif.C16
