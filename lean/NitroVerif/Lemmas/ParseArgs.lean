/-
`Arguments` (helper lemmas for Props/C07 `render_parse_arguments`): `"(" ~ Argument+ ~ ")"` with `Argument = Name ~ ":" ~
Value`, on the rendering of a non-empty argument list with arbitrary trivia (`Ws`) at every gap. An argument list has
the same text as the fields of an object (`fieldsBody`), with `(` `)` instead of `{` `}` and `Argument` pairs instead of
`ObjectField` pairs: it is a sequence of entries (`entryKind τ R.Argument`, `Items`) read by the loop lemmas of
`ParseValueList.lean`.
-/
import NitroVerif.Lemmas.ParseValueBuild
namespace NitroVerif.ValueParse
open NitroVerif.Peg NitroVerif.Gen NitroVerif.Gen.Parts NitroVerif.Build NitroVerif.TypeParse NitroVerif.StringParse NitroVerif.Gql

theorem look_Arguments : gList.look R.Arguments =
    some (.normal, .seq (.str ['(']) (.seq (.plus (.call R.Argument)) (.str [')']))) := rfl
theorem look_Argument : gList.look R.Argument =
    some (.normal, .seq (.call R.Name) (.seq (.str [':']) (.call R.Value))) := rfl

/-- the `Argument` pair of `k: v` whose name starts at `q0` -/
def argPair (τ : Trivia) (q0 q1 q3 : Nat) (v : Value) : Pair :=
  .mk R.Argument q0 (q3 + (renderV τ q3 v).length) [.mk R.Name q0 q1 [], valuePair τ q3 v]

/-- the `Argument` pairs of an argument list written from offset `q` -/
def argPairs (τ : Trivia) : Nat → Bool → List (Name × Pos × Value) → List Pair
  | _, _, [] => []
  | q, first, (k, _, v) :: fs =>
    argPair τ (fQ0 τ q first) (fQ1 τ q first k) (fQ3 τ q first k) v ::
      argPairs τ (fQ3 τ q first k + (renderV τ (fQ3 τ q first k) v).length) false fs

theorem argPairs_cons (τ : Trivia) (q : Nat) (first : Bool) (k : Name) (pos : Pos) (v : Value)
    (fs : List (Name × Pos × Value)) :
    argPairs τ q first ((k, pos, v) :: fs) = argPair τ (fQ0 τ q first) (fQ1 τ q first k) (fQ3 τ q first k) v ::
      argPairs τ (fQ3 τ q first k + (renderV τ (fQ3 τ q first k) v).length) false fs := rfl

/-- the text of a non-empty argument list written at offset `p` -/
def renderArgs (τ : Trivia) (p : Nat) (args : List Arg) : List Char :=
  '(' :: (fieldsBody τ (p + 1) true args ++ (τ (p + 1 + (fieldsBody τ (p + 1) true args).length) ++ [')']))

def argsPair (τ : Trivia) (p : Nat) (args : List Arg) : Pair :=
  .mk R.Arguments p (p + (renderArgs τ p args).length) (argPairs τ (p + 1) true args)

theorem arguments_runs (τ : Trivia) (hτ : ∀ q, Ws (τ q)) (args : List Arg) (hne : args ≠ []) (hok : FieldsOk τ args)
    (p : Nat) (rest : List Char) :
    RunsRule gList (B (renderArgs τ p args).length) R.Arguments .nonAtomic ⟨p, renderArgs τ p args ++ rest⟩
      ⟨p + (renderArgs τ p args).length, rest⟩ [argsPair τ p args] := by
  obtain ⟨q', hit⟩ := items_entries τ (fun _ _ => rfl) (argPairs_cons τ) args (p + 1) true
  obtain rfl := hit.end_eq
  have hokI : ∀ f ∈ args, ItemOk (entryKind τ R.Argument) (.call R.Argument) ')' f := fun f hf =>
    entryKind_ok look_Argument (notSpecial (by decide) (by decide)) τ hτ (by decide) (hok f hf).1 (hok f hf).2.1 (hok f hf).2.2
  simp only [argsPair, renderArgs]
  generalize fieldsBody τ (p + 1) true args = T0 at hit ⊢
  generalize argPairs τ (p + 1) true args = P0 at hit ⊢
  cases hit with
  | nil => exact absurd rfl hne
  | @cons _ _ x xs g t T ps _ hg ht h =>
    have hx := hokI x (List.mem_cons_self ..)
    have hc : (')' : Char) = ']' ∨ ')' = '}' ∨ ')' = ')' := Or.inr (Or.inr rfl)
    obtain ⟨c3, cE, k1, k2, k3⟩ := h.plus hτ hc
      (fun p r => (fails_call (sk := true) (entry_fails_close look_Argument (notSpecial (by decide) (by decide)) (by decide)
        (p := p) (rest := r))).mono (by decide))
      (fun y hy => hokI y (List.mem_cons_of_mem _ hy)) rest
    have hopen : ∀ y : List Char, Runs gList 1 true (.str ['(']) .nonAtomic ⟨p, '(' :: y⟩ ⟨p + 1, y⟩ [] := fun y =>
      runs_str (c := ⟨p, '(' :: y⟩) (by simp [matchStr])
    have hs0 := skip_ws g (hg ▸ ws_gapOf (hτ _)) (p + 1) (t ++ (T ++ (τ (p + 1 + (g ++ (t ++ T)).length) ++ ')' :: rest)))
      (ht ▸ hx.notTrivia _ _)
    have hrun := hx.runs (p + 1 + g.length) (T ++ (τ (p + 1 + (g ++ (t ++ T)).length) ++ ')' :: rest)) (h.valEnd hτ hc rest)
    rw [← ht] at hrun
    have hclose : ∀ k, Runs gList 1 true (.str [')']) .nonAtomic ⟨k, ')' :: rest⟩ ⟨k + 1, rest⟩ [] := fun k =>
      runs_str (c := ⟨k, ')' :: rest⟩) (by simp [matchStr])
    have := runsRule_normal look_Arguments (notSpecial (by decide) (by decide))
      (runs_seq_skip' (hopen _) hs0 (runs_seq_skip' (runs_plus_sk (runs_seq_skip' hrun k1 k2)) k3 (hclose _)))
    refine RunsRule.cast (this.mono ?_) (by simp) ?_ (by simp; omega)
    · simp only [B, List.length_cons, List.length_append, List.length_nil, ← Nat.add_max_add_right, Nat.max_le]; omega
    · congr 1; simp only [List.length_cons, List.length_append, List.length_nil]; omega

/-- the function `build_arguments` maps over the `Argument` children (value.rs) -/
def argFn (ctx : Ctx) (fuel : Nat) : Pair → M Gql.Arg := fun a => do
  let (n, v) ← get2 "Argument" (← matchParts P_Argument a.children)
  let v ← buildValue ctx fuel v
  .ok ((asString ctx n, toPos ctx n, v) : Gql.Arg)

theorem buildArguments_eq (ctx : Ctx) (fuel : Nat) (s e : Nat) (cs : List Pair)
    (hcs : allChildrenGo AC_Arguments cs = .ok ()) :
    buildArguments ctx fuel (.mk R.Arguments s e cs) = cs.mapM (argFn ctx fuel) := by
  unfold argFn
  simp [buildArguments, allChildren, Pair.children, hcs, bind, Except.bind]

theorem argFn_argPair (τ : Trivia) (inp : List Char) (fuel : Nat) (q0 q1 q3 : Nat) (v : Value) (w : Value)
    (hw : buildValue (Ctx.spec inp) fuel (valuePair τ q3 v) = .ok w) :
    argFn (Ctx.spec inp) fuel (argPair τ q0 q1 q3 v) = .ok (String.ofList (slice inp q0 q1), posAt inp q0, w) := by
  simp only [valuePair] at hw
  simp [argFn, argPair, Pair.children, matchParts, P_Argument, Pair.rule, valuePair, get2, hw,
    asString_spec', toPos_spec', Pair.start, Pair.stop, Except.map, bind, Except.bind]

theorem args_build (τ : Trivia) (inp : List Char) (fuel : Nat) (fs : List (Name × Pos × Value))
    (hfs : ∀ f ∈ fs, ValBuilds τ inp f.2.2 ∧ f.2.2.size ≤ fuel) : ∀ (q : Nat) (first : Bool) (rest : List Char),
    inp.drop q = fieldsBody τ q first fs ++ rest →
    (argPairs τ q first fs).mapM (argFn (Ctx.spec inp) fuel) = .ok (withPosFs τ inp q first fs) :=
  entries_build τ inp fuel (fun _ _ => rfl) (argPairs_cons τ) (argFn_argPair τ inp fuel) fs hfs

theorem argPairs_all (τ : Trivia) : ∀ (fs : List (Name × Pos × Value)) (q : Nat) (first : Bool),
    allChildrenGo AC_Arguments (argPairs τ q first fs) = .ok () := by
  intro fs
  induction fs with
  | nil => intro q first; rfl
  | cons f fs ihf =>
    intro q first
    obtain ⟨k, kp, v⟩ := f
    rw [argPairs_cons]
    simp only [allChildrenGo, argPair, Pair.rule, AC_Arguments, if_true]
    exact ihf _ _

theorem buildArguments_argsPair (τ : Trivia) (inp : List Char) (args : List Arg) (p : Nat) (rest : List Char) (fuel : Nat)
    (h : inp.drop p = renderArgs τ p args ++ rest) (hfuel : Value.sizeFields args ≤ fuel) :
    buildArguments (Ctx.spec inp) fuel (argsPair τ p args) = .ok (withPosFs τ inp (p + 1) true args) := by
  have hd : inp.drop (p + 1) = fieldsBody τ (p + 1) true args ++
      (τ (p + 1 + (fieldsBody τ (p + 1) true args).length) ++ [')'] ++ rest) := by
    rw [← List.drop_drop, h]; simp [renderArgs]
  have hm := args_build τ inp fuel args (fun f hf =>
    ⟨value_builds τ inp f.2.2.size f.2.2 (Nat.le_refl _), Nat.le_trans (Value.size_mem_fields hf) hfuel⟩) (p + 1) true _ hd
  simp only [argsPair]
  rw [buildArguments_eq _ _ _ _ _ (argPairs_all τ args _ _), hm]

end NitroVerif.ValueParse
