import NitroVerif.Lemmas.CheckOpVisited
import NitroVerif.Lemmas.CheckOpApply
import NitroVerif.Lemmas.CheckOpValue
/-!
What `SchemaValid` gives in the form the proofs use (the structure `CheckOp.SchemaFacts`, not the shared file of that name); the argument definitions of a site — over any
selection sets and directive sites — are those of a field or directive of the schema (`argSite_defs_cases`), hence
distinct and of input type; and, for an accepted document, every site the reference validator enumerates (`dirSites`,
`argSites`) was checked by `check_directives` / `check_arguments`, every typed value is a valid literal for its position
(`typedValues_ok`), and every variable usage in the scope of an operation is defined and allowed (`opVarUses_ok`).
-/
namespace NitroVerif.CheckOp
open NitroVerif.Gql NitroVerif.CheckCommon NitroVerif.Valid

structure SchemaFacts (S : Schema) : Prop where
  typeND : nodupB (S.typeDefs.map (·.name)) = true
  stringDefined : ∃ td, S.typeDef? "String" = some td ∧ td.kind = .scalar
  fieldTy : ∀ td ∈ S.typeDefs, ∀ f ∈ td.fields,
    (∃ ft, S.typeDef? f.ty.unwrapped = some ft ∧ Schema.isOutputKind ft.kind = true) ∧ ∀ a ∈ f.args, InputTy S a.ty
  inputTy : InputFieldsTyped S
  members : ∀ td ∈ S.typeDefs, ∀ m ∈ td.members, ∃ o, S.typeDef? m.1 = some o ∧ o.kind = .object
  dirArgs : ∀ dd ∈ S.directiveDefs, ∀ a ∈ dd.args, InputTy S a.ty
  roots : ∀ k td, S.typeDef? (S.rootName k) = some td → td.kind = .object

theorem inputTy_of_match {S : Schema} {t : GType}
    (h : (match S.kindOf? t.unwrapped with | some k => Schema.isInputKind k | none => false) = true) : InputTy S t := by
  cases hk : S.kindOf? t.unwrapped with
  | none => simp [hk] at h
  | some k => exact inputTy_iff.mpr ⟨k, hk, by simpa [hk] using h⟩

theorem kindOf_beq_some {S : Schema} {n : Name} {k : TypeKind} (h : (S.kindOf? n == some k) = true) :
    ∃ td, S.typeDef? n = some td ∧ td.kind = k := by
  unfold Schema.kindOf? at h
  cases ht : S.typeDef? n with
  | none =>
    have : (Option.map (fun x => x.kind) (none : Option TypeDef) == some k) = false := rfl
    rw [ht, this] at h; cases h
  | some td =>
    refine ⟨td, rfl, ?_⟩
    rw [ht] at h
    simp only [Option.map_some] at h
    cases hk : td.kind <;> cases k <;> first | rfl | (rw [hk] at h; exact absurd h (by decide))

theorem schemaFacts_of_valid {S : Schema} (h : SchemaValid S) : SchemaFacts S := by
  unfold SchemaValid schemaValidB at h
  simp only [Bool.and_eq_true, List.all_eq_true] at h
  obtain ⟨_, _, ⟨⟨⟨⟨hnd, _⟩, hbi⟩, htds⟩, hdirs⟩, hroots⟩ := h
  refine ⟨hnd, ?_, ?_, ?_, ?_, ?_, ?_⟩
  · exact kindOf_beq_some (hbi "String" (by simp))
  · intro td htd f hf
    have hfs := (htds td htd).1.1.1.2
    obtain ⟨⟨hout, _⟩, hargs⟩ := hfs f hf
    refine ⟨?_, fun a ha => inputTy_of_match (hargs a ha)⟩
    unfold Schema.kindOf? at hout
    cases ht : S.typeDef? f.ty.unwrapped with
    | none => simp [ht] at hout
    | some ft => exact ⟨ft, rfl, by simpa [ht] using hout⟩
  · intro td htd a ha
    exact inputTy_of_match ((htds td htd).1.1.2 a ha)
  · intro td htd m hm
    exact kindOf_beq_some ((htds td htd).1.2 m hm)
  · intro dd hdd a ha
    exact inputTy_of_match ((hdirs dd hdd).2 a ha)
  · intro k td htd
    have := hroots k (by cases k <;> simp)
    rw [htd] at this
    exact kind_beq_object this

theorem fieldDef?_cases {S : Schema} {t n : Name} {fd : FieldDef} (h : fieldDef? S t n = some fd) :
    fd = typenameMeta ∨ ∃ td ∈ S.typeDefs, fd ∈ td.fields := by
  unfold fieldDef? at h
  cases ht : S.typeDef? t with
  | none => simp [ht] at h
  | some td =>
    have hmem := Schema.typeDef?_mem ht
    simp only [ht] at h
    have key : ∀ (r : Option FieldDef), r = some fd →
        (r = some typenameMeta ∨ r = td.fields.find? (·.name == n)) → fd = typenameMeta ∨ ∃ td ∈ S.typeDefs, fd ∈ td.fields := by
      intro r hr hcase
      rcases hcase with hc | hc
      · rw [hc] at hr; cases hr; exact Or.inl rfl
      · rw [hc] at hr; exact Or.inr ⟨td, hmem, List.mem_of_find?_eq_some hr⟩
    cases hk : td.kind <;> simp only [hk] at h
    · cases h
    · split at h
      · exact key _ h (Or.inl rfl)
      · exact key _ h (Or.inr rfl)
    · split at h
      · exact key _ h (Or.inl rfl)
      · exact key _ h (Or.inr rfl)
    · split at h
      · exact key _ h (Or.inl rfl)
      · cases h
    · cases h
    · cases h

theorem mem_fieldArgSites_iff {S : Schema} {C : List Ctx} {site : ArgSite} :
    site ∈ fieldArgSites S C ↔ ∃ t al name np args dirs sel fd,
      (some t, Selection.field al name np args dirs sel) ∈ allSels C ∧ fieldDef? S t name = some fd ∧
      site = ⟨args, fd.args⟩ := by
  simp only [fieldArgSites, List.mem_filterMap]
  constructor
  · rintro ⟨⟨p, s⟩, hps, hsite⟩
    cases p with
    | none => simp at hsite
    | some t =>
      cases s with
      | spread | inline => simp at hsite
      | field al name np args dirs sel =>
        obtain ⟨fd, hfd, rfl⟩ := Option.map_eq_some_iff.mp hsite
        exact ⟨t, al, name, np, args, dirs, sel, fd, hps, hfd, rfl⟩
  · rintro ⟨t, al, name, np, args, dirs, sel, fd, hps, hfd, rfl⟩
    exact ⟨_, hps, by simp [hfd]⟩

theorem mem_dirArgSites_iff {S : Schema} {X : List (String × List Directive)} {site : ArgSite} :
    site ∈ dirArgSites S X ↔ ∃ ds ∈ X, ∃ d ∈ ds.2, ∃ dd, S.directiveDef? d.name = some dd ∧ site = ⟨d.args, dd.args⟩ := by
  simp only [dirArgSites, List.mem_flatMap, List.mem_filterMap, Option.map_eq_some_iff, eq_comm (a := site)]

/-- the definitions an argument list is paired with — over ANY selection sets and directive sites — are none
    (`__typename`), those of a field of the schema, or those of a directive of the schema -/
theorem argSite_defs_cases {S : Schema} {C : List Ctx} {X : List (String × List Directive)} {site : ArgSite}
    (hs : site ∈ fieldArgSites S C ++ dirArgSites S X) :
    site.defs = [] ∨ (∃ td ∈ S.typeDefs, ∃ fd ∈ td.fields, site.defs = fd.args) ∨ ∃ dd ∈ S.directiveDefs, site.defs = dd.args := by
  rcases List.mem_append.mp hs with hs | hs
  · obtain ⟨t, al, name, np, args, dirs, sel, fd, _, hfd, rfl⟩ := mem_fieldArgSites_iff.mp hs
    rcases fieldDef?_cases hfd with rfl | ⟨td, htd, hf⟩
    · exact Or.inl rfl
    · exact Or.inr (Or.inl ⟨td, htd, fd, hf, rfl⟩)
  · obtain ⟨ds, _, d, _, dd, hdd, rfl⟩ := mem_dirArgSites_iff.mp hs
    exact Or.inr (Or.inr ⟨dd, Schema.directiveDef?_mem hdd, rfl⟩)

theorem argSite_defs_nodup {S : Schema} (hU : uniqueArgNamesB S = true) {C : List Ctx}
    {X : List (String × List Directive)} {site : ArgSite} (hs : site ∈ fieldArgSites S C ++ dirArgSites S X) :
    nodupB (site.defs.map (·.name)) = true := by
  simp only [uniqueArgNamesB, Bool.and_eq_true, List.all_eq_true] at hU
  rcases argSite_defs_cases hs with h | ⟨td, htd, fd, hf, h⟩ | ⟨dd, hdd, h⟩ <;> rw [h]
  · rfl
  · exact (hU.1 td htd).2 fd hf
  · exact hU.2 dd hdd

theorem argSite_defs_typed {S : Schema} (SF : SchemaFacts S) {C : List Ctx}
    {X : List (String × List Directive)} {site : ArgSite} (hs : site ∈ fieldArgSites S C ++ dirArgSites S X) :
    ∀ d ∈ site.defs, InputTy S d.ty := by
  rcases argSite_defs_cases hs with h | ⟨td, htd, fd, hf, h⟩ | ⟨dd, hdd, h⟩ <;> rw [h]
  · intro d hd; cases hd
  · exact (SF.fieldTy td htd fd hf).2
  · exact SF.dirArgs dd hdd

theorem dirFacts_of_quiet {S : Schema} {A : ErrKind → Bool} (hA : Admissible A) {vars : Option (List VarDef)}
    {loc : String} {ds : List Directive} (h : Quiet A (checkDirectives S vars ds loc)) : DirFacts S A vars (loc, ds) :=
  (checkDirectives_iff hA).mp h

theorem dirSiteOk_of_checkDirectives {S : Schema} {vars : Option (List VarDef)} {loc : String} {ds : List Directive}
    (h : checkDirectives S vars ds loc = []) : dirSiteOk S (loc, ds) := by
  obtain ⟨hA, hC⟩ := dirFacts_of_quiet admissible_none (quiet_none_iff.mpr h)
  refine ⟨?_, ?_, hC⟩
  · intro d hd; obtain ⟨dd, hdd, _⟩ := hA d hd; simp [hdd]
  · intro d hd; obtain ⟨dd, hdd, hl, _⟩ := hA d hd; simpa [hdd] using hl

theorem dirSites_checked {S : Schema} {D : Doc} (hS : SchemaValid S) (h : checkOp S D = []) :
    ∀ site ∈ dirSites S D, ∃ A vars, Admissible A ∧ DirFacts S A vars site := by
  intro site hs
  rcases mem_dirSites_iff.mp hs with ⟨o, ho, hso⟩ | ⟨f, hf, rfl⟩ | ⟨ps, hps, rfl⟩
  · obtain ⟨h1, _⟩ := accepted_op h ho
    rcases mem_defDirSites_op.mp hso with rfl | ⟨v, hv, rfl⟩
    · exact ⟨allowNone, some o.vars, admissible_none, dirFacts_of_quiet admissible_none (quiet_none_iff.mpr h1)⟩
    · exact ⟨allowNone, none, admissible_none,
        dirFacts_of_quiet admissible_none (quiet_none_iff.mpr (accepted_var h ho hv).2.1)⟩
  · obtain ⟨A, vars, _, hA, _, hq, _⟩ := frag_walked h hf
    exact ⟨A, vars, hA, dirFacts_of_quiet hA hq⟩
  · obtain ⟨A, vars, _, _, _, hA, _, _, _, hl⟩ := all_visited h (schemaValid_noReserved hS) hps
    exact ⟨A, vars, hA, dirFacts_of_quiet hA (siteFact_directives hl)⟩

theorem argSites_checked {S : Schema} {D : Doc} (hS : SchemaValid S) (h : checkOp S D = []) :
    ∀ site ∈ argSites S D, ∃ A vars pos, Admissible A ∧ Quiet A (checkArguments S vars pos site.args site.defs) := by
  intro site hs
  rcases List.mem_append.mp hs with hs | hs
  · obtain ⟨t, al, name, np, args, dirs, sel, fd, hps, hfd, rfl⟩ := mem_fieldArgSites_iff.mp hs
    obtain ⟨A, vars, _, root, fields, hA, ht, hn, hf, fd', hfd', _, hq, _⟩ :=
      all_visited h (schemaValid_noReserved hS) hps
    cases ht
    rw [fieldDef?_eq_find (schemaValid_noReserved hS) hn hf, hfd'] at hfd
    cases hfd
    exact ⟨A, vars, np, hA, hq⟩
  · obtain ⟨ds, hds, d, hd, dd, hdd, rfl⟩ := mem_dirArgSites_iff.mp hs
    obtain ⟨A, vars, hA, hfacts, _⟩ := dirSites_checked hS h ds hds
    obtain ⟨dd', hdd', _, hq⟩ := hfacts d hd
    rw [hdd] at hdd'; cases hdd'
    exact ⟨A, vars, d.pos, hA, hq⟩

theorem site_values_ok {S : Schema} (hS : SchemaValid S) {A : ErrKind → Bool} (hA : Admissible A)
    {vars : Option (List VarDef)} {pos : Pos} {C : List Ctx} {X : List (String × List Directive)} {site : ArgSite}
    (hs : site ∈ fieldArgSites S C ++ dirArgSites S X) (hq : Quiet A (checkArguments S vars pos site.args site.defs)) :
    ∀ tv ∈ typedValuesOf [site], ValFact S A vars tv.value tv.ty tv.locDefault :=
  have hU := schemaValid_uniqueArgs hS
  have SF := schemaFacts_of_valid hS
  ((checkArguments_values_iff hA (inputs_ok hU SF.inputTy) (argSite_defs_nodup hU hs) (argSite_defs_typed SF hs)).mp hq).2.2.2

theorem inputTy_of_isInputType? {S : Schema} {t : GType} (h : isInputType? S t.unwrapped = some true) : InputTy S t := by
  obtain ⟨k, hk, hi⟩ := Option.map_eq_some_iff.mp h
  exact inputTy_iff.mpr ⟨k, hk, hi⟩

theorem typedValues_ok {S : Schema} {D : Doc} (hS : SchemaValid S) (h : checkOp S D = []) :
    ∀ tv ∈ typedValues S D, valueIssues S tv.value tv.ty = [] := by
  intro tv htv
  simp only [typedValues, List.mem_append] at htv
  rcases htv with htv | htv
  · obtain ⟨site, hs, htv'⟩ := typedValuesOf_mem htv
    obtain ⟨A, vars, pos, hA, hq⟩ := argSites_checked hS h site hs
    exact (site_values_ok hS hA hs hq tv htv').1
  · simp only [List.mem_flatMap, List.mem_filterMap] at htv
    obtain ⟨o, ho, v, hv, hd⟩ := htv
    cases hdv : v.default with
    | none => simp [hdv] at hd
    | some d =>
      simp only [hdv, Option.map_some, Option.some.injEq] at hd
      subst hd
      rw [ops_eq] at ho
      obtain ⟨hty, _, hdef⟩ := accepted_var h ho hv
      have := hdef d hdv
      have hin := inputTy_of_isInputType? hty
      exact ((checkValue_iff admissible_none (inputs_ok (schemaValid_uniqueArgs hS) (schemaFacts_of_valid hS).inputTy) hin).mp
        (quiet_none_iff.mpr this)).1

theorem valueRule_of_ok {S : Schema} {D : Doc} (tag : String)
    (h : ∀ tv ∈ typedValues S D, valueIssues S tv.value tv.ty = []) : valueRule tag S D = true := by
  unfold valueRule
  rw [List.all_eq_true]
  intro tv htv
  simp [h tv htv]

/-- `vars = none`: the directives of variable definitions are checked with no variable in scope -/
theorem op_argSites_checked {S : Schema} {D : Doc} (hS : SchemaValid S) (h : checkOp S D = [])
    {o : OperationDef} (ho : o ∈ opsOf D) :
    ∀ site ∈ fieldArgSites S (opCtxs S D o) ++ dirArgSites S (opDirSites S D o),
      ∃ vars pos, (vars = some o.vars ∨ vars = none) ∧
        Quiet allowNone (checkArguments S vars pos site.args site.defs) := by
  have hN := schemaValid_noReserved hS
  obtain ⟨hodirs, hovars, _, hoq⟩ := accepted_op h ho
  -- directive lists in scope
  have hdirs : ∀ ds ∈ opDirSites S D o, ∃ vars, (vars = some o.vars ∨ vars = none) ∧ DirFacts S allowNone vars ds := by
    intro ds hds
    rcases mem_opDirSites_iff.mp hds with hds | ⟨n, hn, f, hf, rfl⟩ | ⟨ps, hps, rfl⟩
    · rcases mem_defDirSites_op.mp hds with rfl | ⟨v, hv, rfl⟩
      · exact ⟨some o.vars, Or.inl rfl, dirFacts_of_quiet admissible_none (quiet_none_iff.mpr hodirs)⟩
      · exact ⟨none, Or.inr rfl,
          dirFacts_of_quiet admissible_none (quiet_none_iff.mpr (accepted_var h ho hv).2.1)⟩
    · obtain ⟨_, _, f', hm, _, _, hd, _⟩ := hoq.reach admissible_none (accepted_nodup h) ((mem_reachable_iff D _ n).mp hn)
      rw [frag?_eq_fragMap (accepted_nodup h), hm] at hf
      cases hf
      exact ⟨some o.vars, Or.inl rfl, dirFacts_of_quiet admissible_none hd⟩
    · obtain ⟨_, _, _, _, _, _, hl⟩ := op_scope_visited h hN ho hps
      exact ⟨some o.vars, Or.inl rfl, dirFacts_of_quiet admissible_none (siteFact_directives hl)⟩
  intro site hs
  rcases List.mem_append.mp hs with hs | hs
  · obtain ⟨t, al, name, np, args, dirs, sel, fd, hps, hfd, rfl⟩ := mem_fieldArgSites_iff.mp hs
    obtain ⟨_, root, fields, ht, hn, hf, fd', hfd', _, hq, _⟩ := op_scope_visited h hN ho hps
    cases ht
    rw [fieldDef?_eq_find hN hn hf, hfd'] at hfd
    cases hfd
    exact ⟨some o.vars, np, Or.inl rfl, hq⟩
  · obtain ⟨ds, hds, d, hd, dd, hdd, rfl⟩ := mem_dirArgSites_iff.mp hs
    obtain ⟨vars, hvars, hfacts, _⟩ := hdirs ds hds
    obtain ⟨dd', hdd', _, hq⟩ := hfacts d hd
    rw [hdd] at hdd'; cases hdd'
    exact ⟨vars, d.pos, hvars, hq⟩

theorem opVarUses_ok {S : Schema} {D : Doc} (hS : SchemaValid S) (h : checkOp S D = [])
    {o : OperationDef} (ho : o ∈ opsOf D) :
    ∀ u ∈ opVarUses S D o, ∃ vd, o.vars.find? (·.name == u.name) = some vd ∧ usageAllowed vd u = true := by
  intro u hu
  simp only [opVarUses, List.mem_flatMap] at hu
  obtain ⟨tv, htv, hu⟩ := hu
  obtain ⟨site, hs, htv'⟩ := typedValuesOf_mem htv
  obtain ⟨vars, pos, hvars, hq⟩ := op_argSites_checked hS h ho site hs
  obtain ⟨_, huses⟩ := site_values_ok hS admissible_none hs hq tv htv'
  obtain ⟨vd, hvd, hal⟩ := varCheck_quiet admissible_none (huses u hu) rfl
  rcases hvars with rfl | rfl
  · exact ⟨vd, hvd, hal⟩
  · simp [varDef?] at hvd

end NitroVerif.CheckOp
