/-
The notions of the walk through the builders (helper lemmas for Props/C08). Two results rest on one walk: on a tree of
which only the shapes are known (`DeepOk`) no MATCHER or DISPATCH panic is possible, what remains are the text-dependent
sites (`Safe`); on a validated parse tree nothing but the model's depth bound remains (`Quiet`, Lemmas/ParseNoPanic.lean).
Both say that every error of a computation lies in a set `S` of panics (`ErrIn S`), for pairs of a class `G` that is in the
shape of the grammar and closed under children (`Hered G`).
The walk itself: Lemmas/BuildWalkValue.lean, BuildWalkOp.lean, BuildWalkTs.lean.
-/
import NitroVerif.Lemmas.ShapeInv
import NitroVerif.Lemmas.Build
namespace NitroVerif.Shape
open NitroVerif.Peg NitroVerif.Gen NitroVerif.Gen.Parts NitroVerif.Build

/-- every error of `r` lies in `S`. The three notions in which C08 is stated are this one at two sets: `Safe` is `ErrIn TextPanic`,
    `Quiet` (Lemmas/ParseNoPanic.lean) and `NoPanic` are `ErrIn (· = .fuel)` -/
def ErrIn {α} (S : Panic → Prop) (r : M α) : Prop := ∀ e, r = .error e → S e

namespace ErrIn
variable {S : Panic → Prop}

theorem ok {α} (a : α) : ErrIn S (.ok a : M α) := fun _ h => nomatch h
theorem pure {α} (a : α) : ErrIn S (Pure.pure a : M α) := ok a
theorem err {α} {e : Panic} (h : S e) : ErrIn S (.error e : M α) := fun _ h' => by cases h'; exact h
theorem of_eq {α} {r : M α} {a : α} (h : r = .ok a) : ErrIn S r := h ▸ ok a

theorem bind {α β} {m : M α} {f : α → M β} (hm : ErrIn S m) (hf : ∀ a, m = .ok a → ErrIn S (f a)) :
    ErrIn S (m >>= f) := by
  cases hm' : m with
  | error e' =>
    intro e h
    cases h
    exact hm e' hm'
  | ok a => exact hf a hm'

theorem map {α β} {m : M α} {f : α → β} (hm : ErrIn S m) : ErrIn S (f <$> m) :=
  hm.bind fun _ _ => ok _

theorem mapM {α β} {f : α → M β} : ∀ {l : List α}, (∀ x ∈ l, ErrIn S (f x)) → ErrIn S (l.mapM f)
  | [], _ => by rw [List.mapM_nil]; exact pure _
  | x :: l, h => by
    rw [List.mapM_cons]
    exact (h x (List.mem_cons_self ..)).bind fun _ _ =>
      (mapM fun y hy => h y (List.mem_cons_of_mem _ hy)).bind fun _ _ => pure _

theorem ite {α} {c : Prop} [Decidable c] {t e : M α} (ht : c → ErrIn S t) (he : ¬ c → ErrIn S e) :
    ErrIn S (if c then t else e) := by
  by_cases h : c
  · rw [if_pos h]; exact ht h
  · rw [if_neg h]; exact he h

end ErrIn

theorem ok_bind {α β} (a : α) (f : α → M β) : ((Except.ok a : M α) >>= f) = f a := rfl

/-- panic sites that depend on the TEXT of a pair, not on the rules of its children (plus the model's depth bound) -/
def TextPanic : Panic → Prop
  | .unknownOperationType | .unknownEscape | .hexParse | .invalidCharCode | .splitAt | .emptyChar | .fuel => True
  | _ => False

/-- the computation cannot end in a matcher / dispatch panic: `ErrIn TextPanic`, written out because `C08.value_builders_no_matcher_panic`
    is stated with it. The lemmas `Safe.ok/.err/.bind/.map` are `ErrIn`'s under this name, so that dot notation resolves on a term
    whose type is `Safe m` -/
def Safe {α} (r : M α) : Prop := ∀ e, r = .error e → TextPanic e

theorem Safe.ok {α} (a : α) : Safe (.ok a : M α) := ErrIn.ok a
theorem Safe.err {α} {e : Panic} (h : TextPanic e) : Safe (.error e : M α) := ErrIn.err h
theorem Safe.bind {α β} {m : M α} {f : α → M β} (hm : Safe m) (hf : ∀ a, m = .ok a → Safe (f a)) : Safe (m >>= f) :=
  ErrIn.bind hm hf
theorem Safe.map {α β} {m : M α} {f : α → β} (hm : Safe m) : Safe (f <$> m) := ErrIn.map hm

/-- the builder returns a value, or the model's own depth bound was too small — never a Rust panic: `ErrIn (· = .fuel)` as a
    disjunction (`noPanic_iff`), the form in which `C08.buildType_no_panic` is stated -/
def NoPanic {α} (r : M α) : Prop := (∃ v, r = .ok v) ∨ r = .error .fuel

theorem Deep.sub {P : RuleId → List RuleId → Prop} {p : Pair} (h : Deep P p) : ∀ q ∈ flat p, Deep P q :=
  flat_hered (fun h hc => by cases h with | mk _ hcs => exact hcs _ hc) p h

theorem onlyAuto_ok {allowed : List RuleId} {w : List RuleId} (h : (onlyAuto allowed).ok 0 w = true) :
    ∃ x, w = [x] ∧ (allowed = [] ∨ x ∈ allowed) := by
  cases w with
  | nil => cases h
  | cons x w =>
    by_cases hcnd : allowed = [] ∨ x ∈ allowed
    · cases w with
      | nil => exact ⟨x, rfl, hcnd⟩
      | cons y w => simp [Auto.ok, Auto.run, onlyAuto, hcnd] at h
    · simp [Auto.ok, Auto.run, onlyAuto, hcnd] at h

theorem only_child_of_shape {allowed : List RuleId} {e : Re} (hacc : accepts (.onlyChild allowed) e = true)
    {cs : List Pair} (hm : Mem e (cs.map Pair.rule)) :
    ∃ c, cs = [c] ∧ (allowed = [] ∨ c.rule ∈ allowed) := by
  obtain ⟨x, hx, ha⟩ := onlyAuto_ok (acceptsA_sound _ _ e hacc _ hm)
  obtain ⟨c, rfl, rfl⟩ := List.map_eq_singleton_iff.mp hx
  exact ⟨c, rfl, ha⟩

theorem loop_run {σ} {A : Auto σ} {s : σ} {r : RuleId} (hstep : ∀ a, A.step s a = if a = r then some s else none) :
    ∀ (w : List RuleId), A.ok s w = true → ∀ x ∈ w, x = r
  | [], _, _, hx => nomatch hx
  | a :: w, h, x, hx => by
    rw [Auto.ok, Auto.run, hstep] at h
    by_cases har : a = r
    · rw [if_pos har] at h
      rcases List.mem_cons.mp hx with rfl | hx
      · exact har
      · exact loop_run hstep w h x hx
    · rw [if_neg har] at h; cases h

theorem allAuto_run (r : RuleId) : ∀ (w : List RuleId), (allAuto r).ok 0 w = true → ∀ x ∈ w, x = r :=
  loop_run fun _ => rfl

theorem headAuto_tail {h r : RuleId} : ∀ (w : List RuleId), (headAuto h r).ok 1 w = true → ∀ x ∈ w, x = r :=
  loop_run fun _ => rfl

theorem headAuto_ok {h r : RuleId} {w : List RuleId} (hw : (headAuto h r).ok 0 w = true) :
    ∃ w', w = h :: w' ∧ ∀ x ∈ w', x = r := by
  cases w with
  | nil => simp [Auto.ok, Auto.run, headAuto] at hw
  | cons a w =>
    by_cases hah : a = h
    · subst hah
      have h' : (headAuto a r).ok 1 w = true := by simpa [Auto.ok, Auto.run, headAuto] using hw
      exact ⟨w, rfl, headAuto_tail w h'⟩
    · simp [Auto.ok, Auto.run, headAuto, hah] at hw

theorem all_children_of_shape {r : RuleId} {e : Re} (hacc : accepts (.allChildren r) e = true) {cs : List Pair}
    (hm : Mem e (cs.map Pair.rule)) : ∀ c ∈ cs, c.rule = r := fun c hc =>
  allAuto_run r _ (acceptsA_sound _ _ e hacc _ hm) c.rule (List.mem_map_of_mem hc)

/-- an optional `parts!` item: nothing, or a pair with `Q` of the item's rule -/
def OptOf (Q : RuleId → Pair → Prop) (r : RuleId) (o : Option Pair) : Prop := ∀ p, o = some p → Q r p

@[elab_as_elim]
theorem OptOf.elim {Q : RuleId → Pair → Prop} {r : RuleId} {o : Option Pair} {P : Option Pair → Prop} (ho : OptOf Q r o)
    (hn : P none) (hs : ∀ q, Q r q → P (some q)) : P o := by
  cases o with
  | none => exact hn
  | some q => exact hs q (ho q rfl)

/-- what a successful `parts!` returns, by recursion on the pattern and with the statement `k` about the whole result passed
    along (so that for a given pattern it is taken apart in one step, the result appearing once, in `k`): one entry per item,
    a required one present, and `Q r q` of every returned pair `q` for an item of rule `r`. One `obtain` takes it apart: for
    each item of the `P_…` constant in order the pair (an `Option Pair` for an optional item) and then its fact (`Q r p`, resp.
    `OptOf Q r o`), and last the statement `k` about the list of all of them -/
def ResOk (Q : RuleId → Pair → Prop) : List Item → (List (Option Pair) → Prop) → Prop
  | [], k => k []
  | .req r :: is, k => ∃ p, Q r p ∧ ResOk Q is fun l => k (some p :: l)
  | .opt r :: is, k => ∃ o, OptOf Q r o ∧ ResOk Q is fun l => k (o :: l)

theorem map_ok_inv {α β} {f : α → β} {m : M α} {b : β} (h : m.map f = .ok b) : ∃ a, m = .ok a ∧ b = f a := by
  cases m with
  | error e => cases h
  | ok a => exact ⟨a, rfl, (Except.ok.inj h).symm⟩

theorem matchParts_resOk {Q : RuleId → Pair → Prop} {items : List Item} : ∀ {cs : List Pair} {l : List (Option Pair)}
    {k : List (Option Pair) → Prop}, (∀ p ∈ cs, Q p.rule p) → matchParts items cs = .ok l → k l → ResOk Q items k := by
  induction items with
  | nil => intro cs l k _ h hk; rw [matchParts] at h; cases h; exact hk
  | cons it items ih =>
    intro cs l k hQ h hk
    -- the step that consumes the first child `c` for an item of its rule
    have take : ∀ {c cs'}, cs = c :: cs' → (matchParts items cs').map (some c :: ·) = .ok l →
        ResOk Q items fun l => k (some c :: l) := by
      intro c cs' hcs h
      obtain ⟨l', hm, rfl⟩ := map_ok_inv h
      exact ih (fun p hp => hQ p (hcs ▸ List.mem_cons_of_mem _ hp)) hm hk
    -- the step that leaves an optional item empty
    have skip : (matchParts items cs).map (none :: ·) = .ok l → ResOk Q items fun l => k (none :: l) := by
      intro h
      obtain ⟨l', hm, rfl⟩ := map_ok_inv h
      exact ih hQ hm hk
    cases it with
    | req r =>
      cases cs with
      | nil => rw [matchParts] at h; cases h
      | cons c cs' =>
        rw [matchParts] at h
        by_cases hc : c.rule = r
        · rw [if_pos hc] at h
          exact ⟨c, hc ▸ hQ c (List.mem_cons_self ..), take rfl h⟩
        · rw [if_neg hc] at h; cases h
    | opt r =>
      cases cs with
      | nil =>
        rw [matchParts] at h
        exact ⟨none, fun p hp => (nomatch hp), skip h⟩
      | cons c cs' =>
        rw [matchParts] at h
        by_cases hc : c.rule = r
        · rw [if_pos hc] at h
          exact ⟨some c, fun p hp => Option.some.inj hp ▸ hc ▸ hQ c (List.mem_cons_self ..), take rfl h⟩
        · rw [if_neg hc] at h
          exact ⟨none, fun p hp => (nomatch hp), skip h⟩

theorem parts_of_shape {Q : RuleId → Pair → Prop} {items : List Item} {e : Re} (hacc : accepts (.parts items) e = true)
    {cs : List Pair} (hm : Mem e (cs.map Pair.rule)) (hQ : ∀ p ∈ cs, Q p.rule p) :
    ResOk Q items fun l => matchParts items cs = .ok l := by
  have h2 := matchParts_ok items cs items.length
  rw [acceptsA_sound _ _ e hacc _ hm] at h2
  cases hmp : matchParts items cs with
  | error e => rw [hmp] at h2; cases h2
  | ok l => exact matchParts_resOk hQ hmp rfl

/-! ### acceptance of the builders' sites

Every pattern of the GENERATED table accepts every child sequence in the shape of its subject rule: one evaluation by the
kernel over the 75 sites (`Props/C08.lean` states it as `builders_total`). A site of the builder model is accepted because
it is in the table (`InTable`, `acc_site`), which is again an evaluation — a search in the table, made where a matcher
lemma (`Hered.only`, `all`, `parts`) is applied to the constant of `Gen/Parts.lean` that the builder applies. -/

theorem builderTable_accepts : ∀ e ∈ builderTable, accepts e.pat (ruleShape gList e.subject) = true := by
  decide +kernel

deriving instance DecidableEq for Pattern

/-- the builders apply the matcher `pat` to pairs of rule `s`: the site is in the extracted table -/
def InTable (s : RuleId) (pat : Pattern) : Prop := ∃ e ∈ builderTable, e.subject = s ∧ e.pat = pat

instance (s : RuleId) (pat : Pattern) : Decidable (InTable s pat) := by unfold InTable; infer_instance

theorem acc_site {s : RuleId} {pat : Pattern} (h : InTable s pat) : accepts pat (ruleShape gList s) = true := by
  obtain ⟨e, he, rfl, rfl⟩ := h
  exact builderTable_accepts e he

theorem deep_parts {p : Pair} (hd : DeepOk gList p) :
    Mem (ruleShape gList p.rule) (p.children.map Pair.rule) ∧ ∀ c ∈ p.children, DeepOk gList c := by
  cases hd with
  | mk h1 h2 => exact ⟨h1, h2⟩

/-- the pairs in `G` are in the shape of the grammar, down the tree, and their children are in `G` again -/
structure Hered (G : Pair → Prop) : Prop where
  deep : ∀ {p}, G p → DeepOk gList p
  child : ∀ {p c}, G p → c ∈ p.children → G c

theorem hered_deepOk : Hered (DeepOk gList) := ⟨id, fun h hc => (deep_parts h).2 _ hc⟩

/-- a pair of the class `G` whose rule is `r`: what a builder for rule `r` is handed, and what the matchers hand on -/
structure In (G : Pair → Prop) (r : RuleId) (p : Pair) : Prop where
  mem : G p
  rule : p.rule = r

/-- what `only_child()` followed by a dispatch with the arms `allowed` gives on a pair `p` of `G`: its one child `c` -/
structure OnlyOf (G : Pair → Prop) (allowed : List RuleId) (site : String) (p c : Pair) : Prop where
  children : p.children = [c]
  arm : allowed = [] ∨ c.rule ∈ allowed
  mem : G c
  of : onlyChildOf allowed site p = .ok c
  plain : onlyChild p = .ok c

namespace Hered
variable {G : Pair → Prop} (hG : Hered G) {p : Pair}
include hG

theorem shape {r : RuleId} (h : In G r p) : Mem (ruleShape gList r) (p.children.map Pair.rule) :=
  h.rule ▸ (deep_parts (hG.deep h.mem)).1

theorem only {r : RuleId} (h : In G r p) (site : String) (allowed : List RuleId)
    (ht : InTable r (.onlyChild allowed) := by decide +kernel) : ∃ c, OnlyOf G allowed site p c := by
  obtain ⟨c, hc, ha⟩ := only_child_of_shape (acc_site ht) (hG.shape h)
  refine ⟨c, hc, ha, hG.child h.mem (by simp [hc]), ?_, ?_⟩
  · simp [onlyChildOf, onlyChild, hc, ha, bind, Except.bind]
  · simp [onlyChild, hc]

theorem all {q : RuleId} (h : In G q p) (r : RuleId) (ht : InTable q (.allChildren r) := by decide +kernel) :
    allChildren r p = .ok p.children ∧ ∀ c ∈ p.children, In G r c :=
  have hr := all_children_of_shape (acc_site ht) (hG.shape h)
  ⟨allChildren_ok hr, fun c hc => ⟨hG.child h.mem hc, hr c hc⟩⟩

theorem parts {r : RuleId} (h : In G r p) (items : List Item) (ht : InTable r (.parts items) := by decide +kernel) :
    ResOk (In G) items fun l => matchParts items p.children = .ok l :=
  parts_of_shape (acc_site ht) (hG.shape h) fun _ hc => ⟨hG.child h.mem hc, rfl⟩

end Hered

theorem rule_mk (r : RuleId) (s e : Nat) (cs : List Pair) : (Pair.mk r s e cs).rule = r := rfl
theorem children_mk (r : RuleId) (s e : Nat) (cs : List Pair) : (Pair.mk r s e cs).children = cs := rfl

end NitroVerif.Shape
