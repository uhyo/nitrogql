import NitroVerif.Lemmas.CheckOpCompleteSites
import NitroVerif.Lemmas.IntLit
/-!
Completeness of `check_operation` and `check_fragment_definition` (C04): assembling the walk, the directive /
argument / value lemmas, the subscription count and the variable definitions into "the body of every definition of
a spec-valid document is checked without a diagnostic" — under three decidable side conditions the specification's
rules (as transcribed in `Spec/Valid.lean`) and `SchemaValid` do not imply:
`noEmptyUnionB S` (no union type without members), `rootsDefinedB S D` (the schema has a root type for the kind of
every operation), `constVarDefsB D` (default values and directives of variable definitions contain no variables —
the grammar's `Value[Const]` / `Directives[Const]`).
-/
namespace NitroVerif.CheckOp
open NitroVerif.Gql NitroVerif.CheckCommon NitroVerif.Valid

/-- what remains of `check_variables_definition` once no duplicate-name / unknown-type / output-type diagnostic is
    pushed: the checks of each variable's directives and default value -/
def varDefRest (S : Schema) (v : VarDef) : List Diag :=
  checkDirectives S none v.dirs "VARIABLE_DEFINITION" ++
  (match v.default with | some d => checkValue S none d v.ty false | none => [])

theorem checkVariablesAux_rest {S : Schema} :
    ∀ (vs : List VarDef) (seen : List Name), (∀ x ∈ seen, x ∉ vs.map (·.name)) → nodupB (vs.map (·.name)) = true →
      (∀ v ∈ vs, isInputType? S v.ty.unwrapped = some true) →
      checkVariablesAux S seen vs = vs.flatMap (varDefRest S) := by
  intro vs
  induction vs with
  | nil => intro _ _ _ _; rfl
  | cons v vs ih =>
    intro seen hseen hnd hin
    simp only [List.map_cons] at hnd hseen
    obtain ⟨hv, hnd'⟩ := (nodupB_cons_iff _ _).mp hnd
    have hc : seen.contains v.name = false := by
      cases hc : seen.contains v.name with
      | false => rfl
      | true => exact absurd (List.mem_cons_self) (hseen v.name (by simpa using hc))
    have hrest := ih (seen ++ [v.name]) (by
        intro x hx
        rcases List.mem_append.mp hx with hx | hx
        · intro hmem; exact hseen x hx (List.mem_cons_of_mem _ hmem)
        · simp at hx; subst hx; exact hv) hnd' (fun w hw => hin w (List.mem_cons_of_mem _ hw))
    simp only [checkVariablesAux, hc, Bool.false_eq_true, if_false, hin v (by simp), List.nil_append,
      List.flatMap_cons, varDefRest, hrest, List.append_assoc]
    rfl

mutual
/-- the value contains a variable -/
def Value.hasVar : Value → Bool
  | .var .. => true
  | .list vs _ => Value.hasVarList vs
  | .obj fs _ => Value.hasVarFields fs
  | _ => false
def Value.hasVarList : List Value → Bool
  | [] => false
  | v :: vs => Value.hasVar v || Value.hasVarList vs
def Value.hasVarFields : List (Name × Pos × Value) → Bool
  | [] => false
  | (_, _, v) :: r => Value.hasVar v || Value.hasVarFields r
end

/-- the default values and the directives of variable definitions are constant (grammar: `DefaultValue : = Value[Const]`,
    `VariableDefinition : Variable : Type DefaultValue? Directives[Const]?`) -/
def constVarDefsB (D : Doc) : Bool :=
  (opsOf D).all fun o => o.vars.all fun v =>
    (match v.default with | some d => !Value.hasVar d | none => true) &&
    v.dirs.all fun d => d.args.all fun a => !Value.hasVar a.2.2

/-- the schema has a root operation type for the kind of every operation of the document (the two early exits of
    `check_operation`: `NoRootType`, `UnknownType`) -/
def rootsDefinedB (S : Schema) (D : Doc) : Bool :=
  (opsOf D).all fun o =>
    !(hasExplicitSchema S && (S.explicitRoot? o.kind).isNone) && (S.typeDef? (S.rootName o.kind)).isSome

theorem varUses_of_const (S : Schema) :
    (∀ v, Value.hasVar v = false → ∀ (t : GType) (ld : Bool), varUses S v t ld = []) ∧
    (∀ fs, Value.hasVarFields fs = false → ∀ inputs, varUsesFields S fs inputs = []) ∧
    (∀ vs, Value.hasVarList vs = false → ∀ inner, varUsesList S vs inner = []) := by
  apply Value.size.mutual_induct
  case case1 =>
    intro vs p ih hc t ld
    simp only [varUses]
    split
    · exact ih hc _
    · rfl
  case case2 =>
    intro fs p ih hc t ld
    simp only [varUses]
    split
    · split
      · exact ih hc _
      · rfl
    · rfl
  case case3 =>
    intro v hl ho hc t ld
    cases v with
    | list vs p => exact (hl vs p rfl).elim
    | obj fs p => exact (ho fs p rfl).elim
    | var n p => simp [Value.hasVar] at hc
    | null p | int s p | float s p | str s p | bool s p | enum s p => simp [varUses]
  case case4 => intro _ inner; simp [varUsesList]
  case case5 =>
    intro v vs ih1 ih2 hc inner
    simp only [Value.hasVarList, Bool.or_eq_false_iff] at hc
    simp only [varUsesList, ih1 hc.1, ih2 hc.2, List.append_nil]
  case case6 => intro _ inputs; simp [varUsesFields]
  case case7 =>
    intro k p v r ih1 ih2 hc inputs
    simp only [Value.hasVarFields, Bool.or_eq_false_iff] at hc
    simp only [varUsesFields, ih2 hc.2, List.append_nil]
    cases inputs.find? (·.name == k) with
    | none => rfl
    | some d => exact ih1 hc.1 _ _

theorem usesOK_uv (S : Schema) (sites : List ArgSite) : UsesOK S allowUV none sites :=
  fun _ _ _ _ => useQuiet_none.mpr rfl

theorem varCheck_of_allowed {vars : List VarDef} {u : VarUse} {vd : VarDef}
    (hf : vars.find? (·.name == u.name) = some vd) (h : usageAllowed vd u = true) :
    varCheck (some vars) u.name u.pos u.locTy u.locDefault = [] := by
  rw [varCheck_some (vars := some vars) hf]
  exact if_pos h

theorem allSels_mono {a b : List Ctx} (h : ∀ c ∈ a, c ∈ b) : ∀ ps ∈ allSels a, ps ∈ allSels b := by
  intro ps hps
  simp only [allSels, List.mem_flatMap] at hps ⊢
  obtain ⟨c, hc, hp⟩ := hps
  exact ⟨c, h c hc, hp⟩

theorem fieldArgSites_mono {S : Schema} {a b : List Ctx} (h : ∀ c ∈ a, c ∈ b) :
    ∀ x ∈ fieldArgSites S a, x ∈ fieldArgSites S b := by
  intro x hx
  simp only [fieldArgSites, List.mem_filterMap] at hx ⊢
  obtain ⟨ps, hps, hx⟩ := hx
  exact ⟨ps, allSels_mono h ps hps, hx⟩

theorem ctxDirSites_mono {a b : List Ctx} (h : ∀ c ∈ a, c ∈ b) : ∀ x ∈ ctxDirSites a, x ∈ ctxDirSites b := by
  intro x hx
  simp only [ctxDirSites, List.mem_map] at hx ⊢
  obtain ⟨ps, hps, hx⟩ := hx
  exact ⟨ps, allSels_mono h ps hps, hx⟩

theorem dirArgSites_mono {S : Schema} {a b : List (String × List Directive)} (h : ∀ s ∈ a, s ∈ b) :
    ∀ x ∈ dirArgSites S a, x ∈ dirArgSites S b := by
  intro x hx
  simp only [dirArgSites, List.mem_flatMap] at hx ⊢
  obtain ⟨s, hs, hx⟩ := hx
  exact ⟨s, h s hs, hx⟩

/-- the argument sites in the scope of one fragment definition -/
def fragArgSites (S : Schema) (f : FragmentDef) : List ArgSite :=
  fieldArgSites S (ctxsOfRoot S f.cond f.sel) ++
  dirArgSites S (defDirSites (.frag f) ++ ctxDirSites (ctxsOfRoot S f.cond f.sel))

theorem ctxsOfDef_sub {S : Schema} {D : Doc} {d : ExecDef} (hd : d ∈ D) : ∀ c ∈ ctxsOfDef S d, c ∈ allCtxs S D := by
  intro c hc
  simp only [allCtxs, List.mem_flatMap]
  exact ⟨d, hd, hc⟩

section
variable {S : Schema} {D : Doc} (hS : SchemaValid S) (hNE : noEmptyUnionB S = true) (R : Rules S D)
include R

include hS in
/-- a spread inside a definition of the document names a defined fragment (5.5.2.1) -/
theorem spread_defined {d : ExecDef} (hd : d ∈ D) {t : Name} {ss : List Selection}
    (hctx : ctxsOfDef S d = ctxsOfRoot S t ss) {n : Name} (hn : n ∈ spreadNames ss) :
    ∃ f, fragMap D n = some f := by
  obtain ⟨⟨p, _⟩, hmem, np, ds, ps, rfl⟩ := ((mem_spreadNames_iff S n).2 ss (some t)).mp hn
  have hmem' : (p, Selection.spread n np ds ps) ∈ allSels (allCtxs S D) := by
    apply allSels_mono (ctxsOfDef_sub hd)
    rw [hctx]
    exact (mem_sitesOf_root (schemaValid_noReserved hS)).mp hmem
  have := List.all_eq_true.mp R.r5_2_1 _ hmem'
  simp only [frag?_eq_fragMap (doc_fragNames_nodup R)] at this
  cases hm : fragMap D n with
  | none => simp [hm] at this
  | some f => exact ⟨f, rfl⟩

theorem doc_reach : DocReach D := by
  have hnd := doc_fragNames_nodup R
  refine ⟨fun ss => (reachable_facts hnd ss).1, fun ss => (reachable_facts hnd ss).2, ?_⟩
  intro n f hf hmem
  obtain ⟨hfm, hfn⟩ := fragMap_eq_some hf
  have := List.all_eq_true.mp R.r5_2_2 f (by rw [frags_eq]; exact hfm)
  rw [hfn] at this
  have hc : (Valid.reachable D f.sel).contains n = true := by simpa using hmem
  rw [hc] at this; cases this

include hS hNE

theorem fragOK_of_valid {A : ErrKind → Bool} (hA : Admissible A) {vars : Option (List VarDef)} {f : FragmentDef}
    (hf : f ∈ fragsOf D) (hu : UsesOK S A vars (fragArgSites S f)) : FragOK S D A vars f := by
  have hd := mem_fragsOf.mp hf
  refine ⟨?_, ?_, ?_⟩
  · apply dirSite_quiet hS R hA
    · exact mem_dirSites_iff.mpr (.inr (.inl ⟨f, hf, rfl⟩))
    · apply usesOK_mono _ hu
      intro s hs
      simp only [fragArgSites, List.mem_append]
      right
      exact dirArgSites_mono (fun x hx => by simp at hx; subst hx; simp [defDirSites]) s hs
  · have hcond : f.cond ∈ typeConditions S D := by
      simp only [typeConditions, List.mem_append, List.mem_map]
      exact Or.inl ⟨f, by rw [frags_eq]; exact hf, rfl⟩
    obtain ⟨ct, hct, hck⟩ := typeCondition_ok R hcond
    exact ⟨ct, hct, isComposite_directFields hck⟩
  · intro ps hps
    apply selOK_of_valid hS hNE R hA (allSels_mono (ctxsOfDef_sub hd) ps hps)
    apply usesOK_mono _ hu
    intro s hs
    have := selArgSites_sub (C := ctxsOfRoot S f.cond f.sel) hps s hs
    simp only [fragArgSites, List.mem_append] at this ⊢
    rcases this with h | h
    · exact Or.inl h
    · exact Or.inr (dirArgSites_mono (fun x hx => List.mem_append_right _ hx) s h)

omit hS hNE in
/-- every variable usage in the scope of an operation is accepted (5.8.3, 5.8.5) -/
theorem op_usesOK {o : OperationDef} (ho : o ∈ opsOf D) :
    UsesOK S allowNone (some o.vars) (fieldArgSites S (opCtxs S D o) ++ dirArgSites S (opDirSites S D o)) := by
  intro tv htv u hu
  have hmem : u ∈ opVarUses S D o := by
    simp only [opVarUses, List.mem_flatMap]
    exact ⟨tv, htv, hu⟩
  have ho' : o ∈ Valid.ops D := by rw [ops_eq]; exact ho
  have h3 := List.all_eq_true.mp (List.all_eq_true.mp R.r8_3 o ho') u hmem
  have h5 := List.all_eq_true.mp (List.all_eq_true.mp R.r8_5 o ho') u hmem
  cases hf : o.vars.find? (·.name == u.name) with
  | none =>
    exfalso
    obtain ⟨v, hv, hvn⟩ := List.any_eq_true.mp h3
    rw [List.find?_eq_none] at hf
    exact hf v hv hvn
  | some vd =>
    simp only [hf] at h5
    unfold UseQuiet
    rw [varCheck_of_allowed hf h5]
    exact quiet_nil

omit hS hNE in
theorem op_frag_usesOK {o : OperationDef} (ho : o ∈ opsOf D) {n : Name} (hn : n ∈ Valid.reachable D o.sel)
    {f : FragmentDef} (hf : fragMap D n = some f) : UsesOK S allowNone (some o.vars) (fragArgSites S f) := by
  refine usesOK_mono ?_ (op_usesOK R ho)
  have hfrag : Valid.frag? D n = some f := by rw [frag?_eq_fragMap (doc_fragNames_nodup R)]; exact hf
  have hctx : ∀ c ∈ ctxsOfRoot S f.cond f.sel, c ∈ opCtxs S D o := fun c hc => by
    simp only [opCtxs, List.mem_append, List.mem_flatMap]
    exact Or.inr ⟨n, hn, by rw [hfrag]; exact hc⟩
  intro s hs
  simp only [fragArgSites, List.mem_append] at hs ⊢
  rcases hs with hs | hs
  · exact Or.inl (fieldArgSites_mono hctx s hs)
  · refine Or.inr (dirArgSites_mono (fun x hx => ?_) s hs)
    simp only [opDirSites, List.mem_append, List.mem_flatMap]
    rcases List.mem_append.mp hx with hx | hx
    · exact Or.inl (Or.inr ⟨n, hn, by rw [hfrag]; exact hx⟩)
    · exact Or.inr (ctxDirSites_mono hctx x hx)

omit hS hNE in
theorem doc_condsDefined : CondsDefined S D := fun f hf => by
  obtain ⟨ct, hct, _⟩ := typeCondition_ok R (c := f.cond)
    (by simp only [typeConditions, List.mem_append, List.mem_map]; exact Or.inl ⟨f, by rw [frags_eq]; exact hf, rfl⟩)
  exact ⟨ct, hct⟩

/-- **The root selection set of a definition is `Fine`**: its selections satisfy `SelOK`, what it reaches is off the stack
    and has its variable usages handled; the reached fragments are then fine sets (`fragOK_of_valid`), defined (5.5.2.1)
    and acyclic (5.5.2.2) -/
theorem fine_of_valid {A : ErrKind → Bool} (hA : Admissible A) {vars : Option (List VarDef)} {d : ExecDef} (hd : d ∈ D)
    {t : Name} {ss : List Selection} (hctx : ctxsOfDef S d = ctxsOfRoot S t ss) {root : TypeDef}
    (hroot : S.typeDef? t = some root) (hcomp : (directFields root).isSome = true) {seen : List Name}
    (hseen : ∀ m ∈ Valid.reachable D ss, m ∉ seen)
    (hsels : ∀ ps ∈ allSels (ctxsOfRoot S t ss), SelOK S D A vars ps)
    (hu : ∀ m ∈ Valid.reachable D ss, ∀ f, fragMap D m = some f → UsesOK S A vars (fragArgSites S f)) :
    Fine S D A vars seen t ss := by
  have hN := schemaValid_noReserved hS
  refine Fine.of_reach (doc_fragNames_nodup R) seen t ss
    (setFine_of_selOK hN hroot hcomp (fun n hn => spread_defined hS R hd hctx hn) hsels) fun m hr => ?_
  have hm' := (mem_reachable_iff D ss m).mpr hr
  refine ⟨hseen m hm', fun f hm => ?_⟩
  obtain ⟨hfm, _⟩ := fragMap_eq_some hm
  have hfok := fragOK_of_valid hS hNE R hA hfm (hu m hm' f hm)
  obtain ⟨ct, hct, hcomp'⟩ := hfok.cond
  exact ⟨fun hc => (doc_reach R).acyclic m f hm ((mem_reachable_iff D _ m).mpr hc), hfok.dirs,
    setFine_of_selOK hN hct hcomp'
      (fun n hn => spread_defined hS R (mem_fragsOf.mp hfm) (t := f.cond) (ss := f.sel) rfl hn) hfok.sels⟩

omit hS hNE in
/-- with unique variable names (5.8.1) of input types (5.8.2), what is left of `check_variables_definition` is the
    check of each variable's directives and default value -/
theorem checkVariablesAux_eq_rest {o : OperationDef} (ho : o ∈ opsOf D) :
    checkVariablesAux S [] o.vars = o.vars.flatMap (varDefRest S) := by
  have ho' : o ∈ Valid.ops D := by rw [ops_eq]; exact ho
  apply checkVariablesAux_rest
  · intro x hx; cases hx
  · exact List.all_eq_true.mp R.r8_1 o ho'
  · intro v hvm
    have := List.all_eq_true.mp (List.all_eq_true.mp R.r8_2 o ho') v hvm
    unfold isInputType?
    cases hk : S.kindOf? v.ty.unwrapped with
    | none => simp [hk] at this
    | some k => simp [hk] at this ⊢; exact this

omit hNE in
theorem checkVariablesAux_complete {o : OperationDef} (ho : o ∈ opsOf D) (hconst : constVarDefsB D = true) :
    checkVariablesAux S [] o.vars = [] := by
  have SF := schemaFacts_of_valid hS
  have ho' : o ∈ Valid.ops D := by rw [ops_eq]; exact ho
  rw [checkVariablesAux_eq_rest R ho, List.flatMap_eq_nil_iff]
  intro v hv
  have hc := List.all_eq_true.mp (List.all_eq_true.mp hconst o ho) v hv
  simp only [Bool.and_eq_true] at hc
  obtain ⟨hcd, hcdirs⟩ := hc
  unfold varDefRest
  have h1 : checkDirectives S none v.dirs "VARIABLE_DEFINITION" = [] := by
    apply quiet_none_iff.mp
    apply dirSite_quiet hS R admissible_none
    · exact mem_dirSites_iff.mpr (.inl ⟨o, ho, mem_defDirSites_op.mpr (.inr ⟨v, hv, rfl⟩)⟩)
    · intro tv htv u hu
      exfalso
      simp only [typedValuesOf, dirArgSites, List.flatMap_cons, List.flatMap_nil, List.append_nil, List.mem_flatMap,
        List.mem_filterMap] at htv
      obtain ⟨site, ⟨d, hd, hsite⟩, a, ha, htv⟩ := htv
      cases hdd : S.directiveDef? d.name with
      | none => simp [hdd] at hsite
      | some dd =>
        simp only [hdd, Option.map_some, Option.some.injEq] at hsite
        subst hsite
        simp only at ha htv
        cases hfd : dd.args.find? (·.name == a.1) with
        | none => simp [hfd] at htv
        | some ad =>
          simp only [hfd, Option.map_some, Option.some.injEq] at htv
          subst htv
          have hcv := List.all_eq_true.mp (List.all_eq_true.mp hcdirs d hd) a ha
          simp only [Bool.not_eq_true'] at hcv
          rw [(varUses_of_const S).1 _ hcv] at hu
          cases hu
  rw [h1, List.nil_append]
  cases hdv : v.default with
  | none => rfl
  | some dv =>
    simp only
    apply quiet_none_iff.mp
    simp only [hdv, Bool.not_eq_true'] at hcd
    refine (checkValue_iff admissible_none (inputs_ok (schemaValid_uniqueArgs hS) SF.inputTy) ?_).mpr ⟨?_, ?_⟩
    · have := List.all_eq_true.mp (List.all_eq_true.mp R.r8_2 o ho') v hv
      exact inputTy_of_match this
    · apply typedValues_clean R ⟨dv, v.ty, false⟩
      simp only [typedValues, List.mem_append, List.mem_flatMap, List.mem_filterMap]
      exact Or.inr ⟨o, ho', v, hv, by simp [hdv]⟩
    · intro u hu
      rw [(varUses_of_const S).1 _ hcd] at hu
      cases hu

omit hNE in
theorem op_directives_complete {o : OperationDef} (ho : o ∈ opsOf D) :
    checkDirectives S (some o.vars) o.dirs (opLocation o.kind) = [] := by
  apply quiet_none_iff.mp
  apply dirSite_quiet hS R admissible_none
  · exact mem_dirSites_iff.mpr (.inl ⟨o, ho, mem_defDirSites_op.mpr (.inl rfl)⟩)
  · apply usesOK_mono _ (op_usesOK R ho)
    intro s hs
    refine List.mem_append_right _ (dirArgSites_mono ?_ s hs)
    intro x hx
    simp at hx; subst hx
    exact mem_opDirSites_iff.mpr (.inl (mem_defDirSites_op.mpr (.inl rfl)))

omit hS hNE in
theorem op_subscription_complete {o : OperationDef} (ho : o ∈ opsOf D) :
    (o.kind == .subscription && hasMoreThanOneField D o.sel) = false := by
  have hnd := doc_fragNames_nodup R
  have ho' : o ∈ Valid.ops D := by rw [ops_eq]; exact ho
  cases hk : (o.kind == OpKind.subscription) with
  | false => simp
  | true =>
    have h231 := List.all_eq_true.mp R.r2_3_1 o ho'
    have hne : (o.kind != OpKind.subscription) = false := by simp [bne, hk]
    simp only [hne, Bool.false_or, beq_iff_eq] at h231
    simp [hasMoreThanOneField_false hnd h231]

theorem op_walk_complete {o : OperationDef} (ho : o ∈ opsOf D) {root : TypeDef}
    (hroot : S.typeDef? (S.rootName o.kind) = some root) :
    checkSelectionSet S (spreadHandler S D (fuelFor D)) [] (some o.vars) root o.sel o.pos = [] := by
  have hcomp : (directFields root).isSome = true := by
    have := (schemaFacts_of_valid hS).roots o.kind root hroot
    unfold directFields; simp [this]
  have hsub : ∀ c ∈ ctxsOfRoot S (S.rootName o.kind) o.sel, c ∈ opCtxs S D o := fun c hc => by
    simp only [opCtxs, List.mem_append]; exact Or.inl hc
  refine quiet_none_iff.mp ((fine_iff_model admissible_none (doc_condsDefined R) hroot).mpr
    (fine_of_valid hS hNE R admissible_none (op_mem_doc ho) (t := S.rootName o.kind) rfl hroot hcomp
      (fun _ _ hc => nomatch hc) (fun ps hps => ?_) fun m hm f hf => op_frag_usesOK R ho hm hf))
  refine selOK_of_valid hS hNE R admissible_none
    (allSels_mono (ctxsOfDef_sub (d := .op o) (op_mem_doc ho)) ps (by simpa [ctxsOfDef] using hps))
    (usesOK_mono (fun s hs => ?_) (op_usesOK R ho))
  rcases List.mem_append.mp (selArgSites_sub (C := ctxsOfRoot S (S.rootName o.kind) o.sel) hps s hs) with h | h
  · exact List.mem_append_left _ (fieldArgSites_mono hsub s h)
  · refine List.mem_append_right _ (dirArgSites_mono (fun x hx => ?_) s h)
    simp only [opDirSites, List.mem_append]
    exact Or.inr (ctxDirSites_mono hsub x hx)

theorem checkOperation_complete {o : OperationDef} (ho : o ∈ opsOf D) (hroots : rootsDefinedB S D = true)
    (hconst : constVarDefsB D = true) : checkOperation S D o = [] := by
  have hr := List.all_eq_true.mp hroots o ho
  simp only [Bool.and_eq_true, Bool.not_eq_true'] at hr
  obtain ⟨hr1, hr2⟩ := hr
  unfold checkOperation
  rw [hr1]
  simp only [Bool.false_eq_true, if_false]
  cases hroot : S.typeDef? (S.rootName o.kind) with
  | none => simp [hroot] at hr2
  | some root =>
    simp only
    rw [op_directives_complete hS R ho, checkVariablesAux_complete hS R ho hconst,
      op_subscription_complete R ho, op_walk_complete hS hNE R ho hroot]
    rfl

omit hS hNE R in
theorem opCtxs_sub {o : OperationDef} (ho : o ∈ opsOf D) : ∀ c ∈ opCtxs S D o, c ∈ allCtxs S D := by
  intro c hc
  simp only [opCtxs, List.mem_append, List.mem_flatMap] at hc
  rcases hc with hc | ⟨n, _, hc⟩
  · exact ctxsOfDef_sub (d := .op o) (op_mem_doc ho) c (by simpa [ctxsOfDef] using hc)
  · cases hf : Valid.frag? D n with
    | none => simp [hf] at hc
    | some f =>
      simp only [hf] at hc
      exact ctxsOfDef_sub (d := .frag f) (mem_fragsOf.mp (frag?_mem_frags hf)) c (by simpa [ctxsOfDef] using hc)

omit hS hNE R in
theorem opDirSites_sub {o : OperationDef} (ho : o ∈ opsOf D) : ∀ x ∈ opDirSites S D o, x ∈ dirSites S D := by
  intro x hx
  rcases mem_opDirSites_iff.mp hx with hx | ⟨n, _, f, hf, rfl⟩ | ⟨ps, hps, rfl⟩
  · exact mem_dirSites_iff.mpr (.inl ⟨o, ho, hx⟩)
  · exact mem_dirSites_iff.mpr (.inr (.inl ⟨f, frag?_mem_frags hf, rfl⟩))
  · exact mem_dirSites_iff.mpr (.inr (.inr ⟨ps, allSels_mono (opCtxs_sub ho) ps hps, rfl⟩))

omit hS hNE R in
theorem opArgSites_sub {o : OperationDef} (ho : o ∈ opsOf D) :
    ∀ x ∈ fieldArgSites S (opCtxs S D o) ++ dirArgSites S (opDirSites S D o), x ∈ argSites S D := by
  intro x hx
  simp only [argSites, List.mem_append] at hx ⊢
  rcases hx with hx | hx
  · exact Or.inl (fieldArgSites_mono (opCtxs_sub ho) x hx)
  · exact Or.inr (dirArgSites_mono (opDirSites_sub ho) x hx)

theorem checkFragmentDefinition_complete {f : FragmentDef} (hf : f ∈ fragsOf D) (used : Bool) :
    checkFragmentDefinition S D used f = [] := by
  have hfok := fragOK_of_valid hS hNE R admissible_uv (vars := none) hf (usesOK_uv S _)
  obtain ⟨ct, hct, hcomp⟩ := hfok.cond
  unfold checkFragmentDefinition
  simp only [hct, hcomp, if_true]
  cases used with
  | true => simp
  | false =>
    simp only [Bool.false_eq_true, if_false]
    rw [quiet_uv_iff.mpr hfok.dirs, List.nil_append]
    refine quiet_uv_iff.mpr ((fine_iff_model admissible_uv (doc_condsDefined R) hct).mpr
      (fine_of_valid hS hNE R admissible_uv (mem_fragsOf.mp hf) (t := f.cond) rfl hct hcomp (fun m hm hc => ?_) hfok.sels
        fun _ _ _ _ => usesOK_uv S _))
    -- its own name is on the stack: the fragment does not reach itself (5.5.2.2)
    rw [List.mem_singleton] at hc
    subst hc
    exact (doc_reach R).acyclic _ f (fragMap_of_mem (doc_fragNames_nodup R) hf) hm

theorem defBody_complete (hroots : rootsDefinedB S D = true) (hconst : constVarDefsB D = true) :
    ∀ d ∈ D, defBody S D d = [] := by
  intro d hd
  cases d with
  | imp i => rfl
  | op o =>
    have ho : o ∈ opsOf D := by simp only [opsOf, List.mem_filterMap]; exact ⟨_, hd, rfl⟩
    exact checkOperation_complete hS hNE R ho hroots hconst
  | frag f =>
    have hf : f ∈ fragsOf D := by simp only [fragsOf, List.mem_filterMap]; exact ⟨_, hd, rfl⟩
    exact checkFragmentDefinition_complete hS hNE R hf _
end

theorem checkDefs_nil_of {S : Schema} {D : Doc} {n : Nat} : ∀ (rest earlier : List ExecDef),
    (∀ e d r, rest = e ++ d :: r → defHeader n (earlier ++ e) d = []) → (∀ d ∈ rest, defBody S D d = []) →
    checkDefs S D n earlier rest = [] := by
  intro rest
  induction rest with
  | nil => intro _ _ _; rfl
  | cons d rest ih =>
    intro earlier hh hb
    simp only [checkDefs]
    have h1 := hh [] d rest rfl
    simp only [List.append_nil] at h1
    rw [h1, hb d (by simp), List.nil_append, List.nil_append]
    apply ih
    · intro e d' r hr
      have := hh (d :: e) d' r (by rw [hr]; rfl)
      simpa [List.append_assoc] using this
    · exact fun d' hd' => hb d' (List.mem_cons_of_mem _ hd')

theorem checkOp_nil_of {S : Schema} {D : Doc}
    (hh : ∀ pre d post, D = pre ++ d :: post → defHeader (opsOf D).length pre d = [])
    (hb : ∀ d ∈ D, defBody S D d = []) : checkOp S D = [] := by
  unfold checkOp
  apply checkDefs_nil_of D [] _ hb
  intro e d r hD
  simpa using hh e d r hD

/-! ### from the IMPLEMENTED rules alone

The header diagnostics of the main loop from 5.2.1.1, 5.2.2.1, 5.5.1.1; the record `Rules` from "every implemented rule
holds". The four additional rules of `SpecValid` (5.2.3.1b, 5.3.2, 5.5.1.4, 5.8.4) are not needed for the checker to be
silent. -/

theorem defHeader_complete {S : Schema} {D : Doc} (h1 : rule_5_2_1_1 S D = true) (h2 : rule_5_2_2_1 S D = true)
    (h3 : rule_5_5_1_1 S D = true) :
    ∀ pre d post, D = pre ++ d :: post → defHeader (opsOf D).length pre d = [] := by
  intro pre d post hD
  have hops : nodupB (opNamesOf D) = true := by simpa [rule_5_2_1_1, opNames, opNamesOf, ops_eq] using h1
  have hfr : nodupB (fragNamesOf D) = true := by simpa [rule_5_5_1_1, fragNamesOf, frags_eq] using h3
  cases d with
  | imp i => rfl
  | frag f =>
    rw [hD, fragNamesOf_append, fragNamesOf_cons] at hfr
    have hnot := nodupB_append_cons _ _ hfr
    have : pre.any (fragHasName f.name) = false := by
      cases hc : pre.any (fragHasName f.name) with
      | false => rfl
      | true => exact absurd ((any_fragHasName _ _).mp hc) hnot
    simp [defHeader, this]
  | op o =>
    cases hn : o.name with
    | some np =>
      obtain ⟨n, p⟩ := np
      rw [hD, opNamesOf_append, opNamesOf_cons] at hops
      simp only [hn, List.cons_append, List.nil_append] at hops
      have hnot := nodupB_append_cons _ _ hops
      have : pre.any (opHasName n) = false := by
        cases hc : pre.any (opHasName n) with
        | false => rfl
        | true => exact absurd ((any_opHasName _ _).mp hc) hnot
      simp [defHeader, hn, this]
    | none =>
      have hmem : o ∈ Valid.ops D := by
        simp only [Valid.ops, List.mem_filterMap]
        exact ⟨.op o, by rw [hD]; simp, rfl⟩
      have hany : (Valid.ops D).any (·.name.isNone) = true :=
        List.any_eq_true.mpr ⟨o, hmem, by simp [hn]⟩
      have hlen : (opsOf D).length = 1 := by
        unfold rule_5_2_2_1 at h2
        rw [hany] at h2
        simpa [ops_eq] using h2
      simp [defHeader, hn, hlen]

theorem checkOp_nil_of_implemented {S : Schema} {D : Doc} (hS : SchemaValid S)
    (h : ∀ r ∈ ImplementedRules, Holds r S D)
    (hNE : noEmptyUnionB S = true) (hroots : rootsDefinedB S D = true) (hconst : constVarDefsB D = true) :
    checkOp S D = [] :=
  have R := rules_of_implemented h
  checkOp_nil_of (defHeader_complete R.r2_1_1 R.r2_2_1 R.r5_1_1) (defBody_complete hS hNE R hroots hconst)

/-! ### integer literals

An integer literal whose text denotes a 32-bit value has no 5.6.1 issue at an `Int` position, and every integer literal
has none at a `Float` or `ID` position: the `Int` arm of `is_value_compatible_type_def` is not stricter than the
specification. -/

theorem builtin_scalar_defined {S : Schema} (h : SchemaValid S) {n : Name}
    (hn : n ∈ ["Int", "Float", "String", "Boolean", "ID"]) : ∃ td, S.typeDef? n = some td ∧ td.kind = .scalar := by
  unfold SchemaValid schemaValidB at h
  simp only [Bool.and_eq_true, List.all_eq_true] at h
  obtain ⟨_, _, ⟨⟨⟨⟨_, _⟩, hbi⟩, _⟩, _⟩, _⟩ := h
  exact kindOf_beq_some (hbi n hn)

theorem int_valueIssues_nil {S : Schema} (hS : SchemaValid S) (s : String) (p : Pos) (t : GType)
    (h : (t.unwrapped = "Int" ∧ SpecInt.intTextInRange s = true) ∨ t.unwrapped = "Float" ∨ t.unwrapped = "ID") :
    valueIssues S (.int s p) t = [] := by
  simp only [valueIssues]
  have hc : leafCoercible S (.int s p) t.unwrapped = true := by
    unfold leafCoercible
    rcases h with ⟨hn, hr⟩ | hn | hn
    · obtain ⟨td, ht, hk⟩ := builtin_scalar_defined hS (n := "Int") (by simp)
      rw [hn, ht]; simp [hk, hr]
    · obtain ⟨td, ht, hk⟩ := builtin_scalar_defined hS (n := "Float") (by simp)
      rw [hn, ht]; simp [hk]
    · obtain ⟨td, ht, hk⟩ := builtin_scalar_defined hS (n := "ID") (by simp)
      rw [hn, ht]; simp [hk]
  simp [hc]

end NitroVerif.CheckOp
