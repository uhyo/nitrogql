/-
C01/C02 refinement, specification side, part 3: the fuel of the executable CollectFields suffices.

`fits F D s`  — the selection `s`, with fragment spreads expanded, nests at most `D` deep (so: no fragment cycle is
                reachable from it);  `esz F D s` — its size with spreads expanded (stable in `D` once `fits`).
`kids F s`    — what is entered from `s` (sub-selection, inline body, fragment body): `fits` and `esz` step through it.
`FuelOk c D ss` — every selection of `ss` fits `D` and the expanded size of `ss` is at most `c.fuel`.  Then CollectFields
succeeds for every object type and every assignment, and every merged sub-selection it returns is `FuelOk` again.
-/
import NitroVerif.Lemmas.OpTypesRefSpec
namespace NitroVerif.OpTypes.Ref
open NitroVerif.Gql NitroVerif.Ts NitroVerif.Exec

abbrev FragMap := Name → Option FragmentDef

def fits (F : FragMap) : Nat → Selection → Bool
  | 0, _ => false
  | _ + 1, .field _ _ _ _ _ none => true
  | D + 1, .field _ _ _ _ _ (some ss) => ss.all (fits F D)
  | D + 1, .inline _ _ ss _ => ss.all (fits F D)
  | D + 1, .spread nm _ _ _ =>
    match F nm with
    | some f => f.sel.all (fits F D)
    | none => true

def esz (F : FragMap) : Nat → Selection → Nat
  | 0, _ => 1
  | _ + 1, .field _ _ _ _ _ none => 1
  | D + 1, .field _ _ _ _ _ (some ss) => 1 + (ss.map (esz F D)).sum
  | D + 1, .inline _ _ ss _ => 1 + (ss.map (esz F D)).sum
  | D + 1, .spread nm _ _ _ =>
    match F nm with
    | some f => 1 + (f.sel.map (esz F D)).sum
    | none => 1

def eszL (F : FragMap) (D : Nat) (ss : List Selection) : Nat := (ss.map (esz F D)).sum

theorem eszL_append (F : FragMap) (D : Nat) (a b : List Selection) : eszL F D (a ++ b) = eszL F D a + eszL F D b := by
  simp [eszL]

theorem eszL_cons (F : FragMap) (D : Nat) (s : Selection) (b : List Selection) :
    eszL F D (s :: b) = esz F D s + eszL F D b := by
  simp [eszL]

theorem esz_le_of_mem {F : FragMap} {D : Nat} {s : Selection} {ss : List Selection} (h : s ∈ ss) :
    esz F D s ≤ eszL F D ss :=
  le_of_mem_rec (g := eszL F D) (fun _ _ => by rw [eszL_cons]; omega) h

/-- the selections entered from `s` when fragments are expanded: the sub-selection of a field, the body of an inline
    fragment, the body of the fragment a spread names (nothing if it is not defined) -/
def kids (F : FragMap) : Selection → List Selection
  | .field _ _ _ _ _ sub => sub.getD []
  | .inline _ _ ss _ => ss
  | .spread nm _ _ _ => ((F nm).map (·.sel)).getD []

theorem fits_succ (F : FragMap) (D : Nat) (s : Selection) : fits F (D + 1) s = (kids F s).all (fits F D) := by
  cases s with
  | field _ _ _ _ _ sub => cases sub <;> rfl
  | inline => rfl
  | spread nm => simp only [fits, kids]; cases F nm <;> rfl

theorem esz_succ (F : FragMap) (D : Nat) (s : Selection) : esz F (D + 1) s = 1 + eszL F D (kids F s) := by
  cases s with
  | field _ _ _ _ _ sub => cases sub <;> rfl
  | inline => rfl
  | spread nm => simp only [esz, kids]; cases F nm <;> rfl

theorem esz_pos (F : FragMap) : ∀ (D : Nat) (s : Selection), 1 ≤ esz F D s
  | 0, _ => Nat.le_refl _
  | D + 1, s => by rw [esz_succ]; omega

theorem fits_esz_succ (F : FragMap) : ∀ (D : Nat) (s : Selection), fits F D s = true →
    fits F (D + 1) s = true ∧ esz F (D + 1) s = esz F D s
  | 0, _, h => by simp [fits] at h
  | D + 1, s, h => by
    rw [fits_succ, List.all_eq_true] at h
    rw [fits_succ, esz_succ, esz_succ, List.all_eq_true]
    refine ⟨fun x hx => (fits_esz_succ F D x (h x hx)).1, ?_⟩
    suffices hl : ∀ ss : List Selection, (∀ x ∈ ss, fits F D x = true) → eszL F (D + 1) ss = eszL F D ss by rw [hl _ h]
    intro ss
    induction ss with
    | nil => intro _; rfl
    | cons x xs ih =>
      intro hs
      rw [eszL_cons, eszL_cons, (fits_esz_succ F D x (hs x (by simp))).2, ih fun y hy => hs y (List.mem_cons_of_mem _ hy)]

theorem fitsAll_succ (F : FragMap) (D : Nat) (ss : List Selection) (h : ∀ s ∈ ss, fits F D s = true) :
    (∀ s ∈ ss, fits F (D + 1) s = true) ∧ eszL F (D + 1) ss = eszL F D ss := by
  induction ss with
  | nil => simp [eszL]
  | cons x xs ih =>
    obtain ⟨h1, h2⟩ := fits_esz_succ F D x (h x (by simp))
    obtain ⟨h3, h4⟩ := ih (fun s hs => h s (List.mem_cons_of_mem _ hs))
    refine ⟨fun s hs => ?_, ?_⟩
    · rcases List.mem_cons.1 hs with rfl | hs
      · exact h1
      · exact h3 s hs
    · rw [eszL_cons, eszL_cons, h2, h4]

theorem fits_kids {F : FragMap} {D : Nat} {s : Selection} (h : fits F D s = true) :
    (∀ x ∈ kids F s, fits F D x = true) ∧ esz F D s = 1 + eszL F D (kids F s) := by
  cases D with
  | zero => simp [fits] at h
  | succ D =>
    rw [fits_succ, List.all_eq_true] at h
    obtain ⟨h1, h2⟩ := fitsAll_succ F D _ h
    exact ⟨h1, by rw [esz_succ, h2]⟩

/-- weight of the collected groups: one per field plus the expanded size of its sub-selection -/
def gW (F : FragMap) (D : Nat) (g : Groups) : Nat :=
  (g.map fun e => (e.2.map fun f => 1 + eszL F D (f.sub.getD [])).sum).sum

def GFits (F : FragMap) (D : Nat) (g : Groups) : Prop :=
  ∀ e ∈ g, ∀ f ∈ e.2, ∀ s ∈ f.sub.getD [], fits F D s = true

theorem gW_addField (F : FragMap) (D : Nat) (key : Name) (f : CField) (g : Groups) :
    gW F D (addField key f g) = gW F D g + (1 + eszL F D (f.sub.getD [])) := by
  rcases addField_cases key f g with ⟨pre, fs, post, rfl, _, h⟩ | ⟨_, h⟩ <;> rw [h] <;>
    simp only [gW, List.map_append, List.map_cons, List.map_nil, List.sum_append, List.sum_cons, List.sum_nil] <;> omega

theorem gFits_addField {F : FragMap} {D : Nat} {key : Name} {f : CField} {g : Groups} (hg : GFits F D g)
    (hf : ∀ s ∈ f.sub.getD [], fits F D s = true) : GFits F D (addField key f g) := by
  intro e he f' hf' s hs
  obtain ⟨k, fs⟩ := e
  have : InG (addField key f g) k f' := ⟨fs, he, hf'⟩
  rcases (inG_addField key f g k f').1 this with ⟨fs', h1, h2⟩ | ⟨_, rfl⟩
  · exact hg _ h1 _ h2 s hs
  · exact hf s hs

theorem gW_mem {F : FragMap} {D : Nat} : ∀ {g : Groups} {e : Name × List CField}, e ∈ g →
    eszL F D (mergedSub e.2) ≤ gW F D g
  | e0 :: g, e, h => by
    have hle : ∀ fs : List CField, eszL F D (mergedSub fs) ≤ (fs.map fun f => 1 + eszL F D (f.sub.getD [])).sum := by
      intro fs
      induction fs with
      | nil => simp [mergedSub, eszL]
      | cons f fs ih =>
        simp only [mergedSub, List.flatMap_cons, List.map_cons, List.sum_cons] at ih ⊢
        rw [eszL_append]; omega
    simp only [gW, List.map_cons, List.sum_cons]
    rcases List.mem_cons.1 h with rfl | h
    · have := hle e.2; omega
    · have := gW_mem (F := F) (D := D) h
      simp only [gW] at this; omega

section
variable (c : Ctx) (σ : Sigma) (o : Name)

theorem collectGo_fuel (D : Nat) (n : Nat) : ∀ (L : List Selection) (V : List Name) (g0 : Groups),
    (∀ s ∈ L, fits c.F D s = true) → eszL c.F D L ≤ n → GFits c.F D g0 →
    ∃ g, collectGo c σ o n L V g0 = some g ∧ GFits c.F D g ∧ gW c.F D g ≤ gW c.F D g0 + eszL c.F D L := by
  induction n with
  | zero =>
    intro L V g0 _ hn hg
    cases L with
    | nil => exact ⟨g0, by simp [collectGo], hg, by simp [eszL]⟩
    | cons s rest => rw [eszL_cons] at hn; have := esz_pos c.F D s; omega
  | succ n ih =>
    intro L V g0 hfit hn hg
    cases L with
    | nil => exact ⟨g0, by simp [collectGo], hg, by simp [eszL]⟩
    | cons s rest =>
      rw [eszL_cons] at hn ⊢
      have hrest : ∀ s' ∈ rest, fits c.F D s' = true := fun s' hs' => hfit s' (List.mem_cons_of_mem _ hs')
      obtain ⟨hk, hsz⟩ := fits_kids (hfit s (by simp))
      -- the two ways the work list continues: without `s`, or with what is entered from `s` in front
      have skip : ∀ V', ∃ g, collectGo c σ o n rest V' g0 = some g ∧ GFits c.F D g ∧
          gW c.F D g ≤ gW c.F D g0 + (esz c.F D s + eszL c.F D rest) := fun V' => by
        obtain ⟨g, h1, h2, h3⟩ := ih rest V' g0 hrest (by omega) hg
        exact ⟨g, h1, h2, by omega⟩
      have enter : ∀ V', ∃ g, collectGo c σ o n (kids c.F s ++ rest) V' g0 = some g ∧ GFits c.F D g ∧
          gW c.F D g ≤ gW c.F D g0 + (esz c.F D s + eszL c.F D rest) := fun V' => by
        obtain ⟨g, h1, h2, h3⟩ := ih (kids c.F s ++ rest) V' g0
          (fun x hx => (List.mem_append.1 hx).elim (hk x) (hrest x)) (by rw [eszL_append]; omega) hg
        exact ⟨g, h1, h2, by rw [eszL_append] at h3; omega⟩
      simp only [collectGo]
      by_cases hinc : included σ (selDirs s) = true
      · simp only [hinc, Bool.not_true, Bool.false_eq_true, ↓reduceIte]
        cases s with
        | field alias name p args ds sub =>
          obtain ⟨g, h1, h2, h3⟩ := ih rest V (addField (keyOf alias name) ⟨name, sub⟩ g0) hrest (by omega)
            (gFits_addField hg hk)
          refine ⟨g, ?_, h2, ?_⟩
          · cases alias <;> exact h1
          · rw [gW_addField] at h3
            have : eszL c.F D ((CField.mk name sub).sub.getD []) = eszL c.F D (kids c.F (.field alias name p args ds sub)) := rfl
            omega
        | spread nm np ds p =>
          simp only
          split
          · exact skip V
          · cases hF : c.F nm with
            | none => exact skip (nm :: V)
            | some fd =>
              simp only
              split
              · have := enter (nm :: V); simpa only [kids, hF, Option.map_some, Option.getD_some] using this
              · exact skip (nm :: V)
        | inline cond ds ss p =>
          cases cond with
          | none => exact enter V
          | some tc =>
            simp only
            split
            · exact enter V
            · exact skip V
      · have hinc' : included σ (selDirs s) = false := by simpa using hinc
        simp only [hinc', Bool.not_false, ↓reduceIte]
        exact skip V

end

/-- the fuel of the specification suffices for `ss` and everything nested in it -/
def FuelOk (c : Ctx) (D : Nat) (ss : List Selection) : Prop :=
  (∀ s ∈ ss, fits c.F D s = true) ∧ eszL c.F D ss ≤ c.fuel

theorem collectFields_fuel {c : Ctx} {D : Nat} {ss : List Selection} (h : FuelOk c D ss) (σ : Sigma) (o : Name) :
    ∃ g, collectFields c σ o ss = some g ∧ ∀ e ∈ g, FuelOk c D (mergedSub e.2) := by
  obtain ⟨g, h1, h2, h3⟩ := collectGo_fuel c σ o D c.fuel ss [] [] h.1 h.2 (by intro e he; cases he)
  refine ⟨g, h1, fun e he => ⟨?_, ?_⟩⟩
  · intro s hs
    simp only [mergedSub, List.mem_flatMap] at hs
    obtain ⟨f, hf, hs⟩ := hs
    exact h2 e he f hf s hs
  · have := gW_mem (F := c.F) (D := D) he
    have h0 : gW c.F D [] = 0 := by simp [gW]
    have := h.2
    omega

end NitroVerif.OpTypes.Ref
