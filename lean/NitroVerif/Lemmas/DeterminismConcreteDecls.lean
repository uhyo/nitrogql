/-
The schema declaration file model `SchemaDecls.schemaFile c doc` under a permutation of the definitions of `doc`. The
printer's context reads the document through the entries of `get_scalar_types` by name and the bag of identifiers as a
set: only the TYPE definitions matter, and only up to their order. The file is prelude ++ one namespace per target ++
representatives, each over per-definition blocks (`schemaFile_iff_blocks`), so a permutation of the definitions
permutes blocks (`DeclFileEquiv`). `TyEquiv` is the shallow relation (outermost union / object only: all the schema
file needs, and what the harness compares per alias); the deep one for operation types is `TyRel`
(`DeterminismConcreteTyRel.lean`).
-/
import NitroVerif.Lemmas.DeterminismConcreteOp
import NitroVerif.Model.SchemaDecls
import NitroVerif.Lemmas.DeclsClosedSchema
import NitroVerif.Lemmas.DeterminismConcreteRel
namespace NitroVerif.DeterminismDecls
open NitroVerif.Gql NitroVerif.Ts NitroVerif.DeclCfg NitroVerif.SchemaDecls
open NitroVerif.Determinism (NoDupTypeNames NoDupDirectiveNames
  typeDefs_perm objectImplementers_of_perm)

/-- two TypeScript types that differ at most in the order of the members of the (outermost) union, or in the order
    of the fields of the (outermost) object type -/
inductive TyEquiv : Ty → Ty → Prop
  | refl (t : Ty) : TyEquiv t t
  | union {ts ts' : List Ty} : ts.Perm ts' → TyEquiv (.union ts) (.union ts')
  | obj {fs fs' : List Field} : fs.Perm fs' → TyEquiv (.obj fs) (.obj fs')

/-- two statements that are equal, or `type` aliases of the same name/export/parameters with equivalent bodies -/
inductive StmtEquiv : Stmt → Stmt → Prop
  | refl (s : Stmt) : StmtEquiv s s
  | type (e : Bool) (n : String) (ps : List (String × Option Ty)) {t t' : Ty} :
      TyEquiv t t' → StmtEquiv (.type e n ps t) (.type e n ps t')

/-- a block = the statements emitted for ONE type definition (doc comment, alias, `export type { … }`) -/
abbrev Block := List Stmt

def BlockEquiv (b b' : Block) : Prop := RelList StmtEquiv b b'

/-- the same blocks up to their order and up to `BlockEquiv`: `PermRel BlockEquiv` written out (`blocksEquiv_iff`) -/
def BlocksEquiv (bs bs' : List Block) : Prop := ∃ g, bs.Perm g ∧ RelList BlockEquiv g bs'

theorem blocksEquiv_iff {bs bs' : List Block} : BlocksEquiv bs bs' ↔ DeterminismRel.PermRel BlockEquiv bs bs' := Iff.rfl

/-- the three statements of `print_prelude`, given the `__nitrogql_schema` metadata type -/
def preludeWith (m : Ty) : List Stmt :=
  [.type true "__nitrogql_schema" [] m,
   .rawType false "__Beautify" beautifyText,
   .rawType true "__SelectionSet" selectionSetText]

def nsStmt (p : String × List Block) : Stmt := .namespace true p.1 p.2.flatten

/-- **The equivalence on emitted schema declaration files.** Both files consist of the prelude (metadata type up to
    field order), the same namespaces in the same order — the body of each being the same per-definition blocks up
    to their order and the order of union members — and the same representative blocks up to their order. -/
def DeclFileEquiv (f f' : File) : Prop :=
  ∃ (m m' : Ty) (nss nss' : List (String × List Block)) (reps reps' : List Block),
    f = preludeWith m ++ nss.map nsStmt ++ reps.flatten ∧
    f' = preludeWith m' ++ nss'.map nsStmt ++ reps'.flatten ∧
    TyEquiv m m' ∧
    RelList (fun a b => a.1 = b.1 ∧ BlocksEquiv a.2 b.2) nss nss' ∧
    reps.Perm reps'

theorem blockEquiv_refl (b : Block) : BlockEquiv b b := relList_refl StmtEquiv.refl b

theorem tsUnion_perm {l l' : List Ty} (h : l.Perm l') : TyEquiv (tsUnion l) (tsUnion l') := by
  match l, l', h with
  | [], [], _ => exact .refl _
  | [], _ :: _, h => exact absurd h.symm.eq_nil (by simp)
  | _ :: _, [], h => exact absurd h.eq_nil (by simp)
  | [a], [b], h =>
    have : a = b := by simpa using h
    subst this
    exact .refl _
  | [a], _ :: _ :: _, h => exact absurd h.length_eq (by simp)
  | _ :: _ :: _, [b], h => exact absurd h.length_eq (by simp)
  | a :: a' :: as, b :: b' :: bs, h => exact .union h

theorem typeDefsOf_eq (doc : TsDoc) : typeDefsOf doc = (Schema.mk doc).typeDefs := rfl

open NitroVerif.SchemaDecls (scalarEntry scalarTypes_eq scalarEntry_key) in
theorem scalarTypes_keys_sublist (c : Cfg) (doc : TsDoc) :
    ((scalarTypes c doc).map (·.1)).Sublist ((typeDefsOf doc).map (·.name)) := by
  rw [scalarTypes_eq]
  generalize typeDefsOf doc = l
  induction l with
  | nil => exact .slnil
  | cons x r ih =>
    rw [List.filterMap_cons]
    cases hx : scalarEntry c x with
    | none => exact ih.cons _
    | some p => rw [List.map_cons, List.map_cons, scalarEntry_key hx]; exact ih.cons_cons _

theorem scalarTypes_perm {T T' : TsDoc} (c : Cfg) (h : (typeDefsOf T).Perm (typeDefsOf T')) :
    (scalarTypes c T).Perm (scalarTypes c T') := by
  rw [SchemaDecls.scalarTypes_eq, SchemaDecls.scalarTypes_eq]
  exact h.filterMap _

theorem scalarTypes_find_perm {T T' : TsDoc} (c : Cfg) (h : (typeDefsOf T).Perm (typeDefsOf T'))
    (nd : ((typeDefsOf T).map (·.name)).Nodup) (n : Name) :
    (scalarTypes c T).find? (·.1 == n) = (scalarTypes c T').find? (·.1 == n) :=
  find?_key_perm Prod.fst (scalarTypes_perm c h) ((scalarTypes_keys_sublist c T).nodup nd) n

theorem bag_mem_perm {T T' : TsDoc} (c : Cfg) (h : (typeDefsOf T).Perm (typeDefsOf T')) (s : String) :
    s ∈ DeclCfg.bag (scalarTypes c T) ↔ s ∈ DeclCfg.bag (scalarTypes c T') :=
  ((scalarTypes_perm c h).flatMap_right _).mem_iff

theorem local_of_scalarTypes_perm {c : Cfg} {T T' : TsDoc} (h : (scalarTypes c T).Perm (scalarTypes c T'))
    (t t' : Target) : (Ctx.new c T t).local = (Ctx.new c T' t').local := by
  funext n
  have : (DeclCfg.bag (scalarTypes c T)).contains n = (DeclCfg.bag (scalarTypes c T')).contains n := by
    rw [Bool.eq_iff_iff, List.contains_iff_mem, List.contains_iff_mem]
    exact (h.flatMap_right _).mem_iff
  show DeclCfg.localName (DeclCfg.bag (scalarTypes c T)) n = DeclCfg.localName (DeclCfg.bag (scalarTypes c T')) n
  unfold DeclCfg.localName
  rw [this]

theorem leaf_of_scalarTypes_perm {c : Cfg} {T T' : TsDoc} (h : (scalarTypes c T).Perm (scalarTypes c T'))
    (t t' : Target) : (Ctx.new c T t).leaf = (Ctx.new c T' t').leaf :=
  funext fun n => congrArg Ty.ref (congrFun (local_of_scalarTypes_perm h t t') n)

theorem local_perm {T T' : TsDoc} (c : Cfg) (h : T.Perm T') (t t' : Target) :
    (Ctx.new c T t).local = (Ctx.new c T' t').local :=
  local_of_scalarTypes_perm (scalarTypes_perm c (typeDefs_perm h)) t t'

theorem leaf_perm {T T' : TsDoc} (c : Cfg) (h : T.Perm T') (t t' : Target) :
    (Ctx.new c T t).leaf = (Ctx.new c T' t').leaf :=
  leaf_of_scalarTypes_perm (scalarTypes_perm c (typeDefs_perm h)) t t'

/-- relation of two results of `print_type` for the same definition -/
def PrintRel : Except String Block → Except String Block → Prop
  | .ok b, .ok b' => BlockEquiv b b'
  | .error e, .error e' => e = e'
  | _, _ => False

/-- relation of two alias bodies for the same definition -/
def BodyRel : Except String (Option Ty) → Except String (Option Ty) → Prop
  | .ok (some t), .ok (some t') => TyEquiv t t'
  | .ok none, .ok none => True
  | .error e, .error e' => e = e'
  | _, _ => False

theorem bodyRel_refl : ∀ r, BodyRel r r
  | .ok (some t) => TyEquiv.refl t
  | .ok none => trivial
  | .error _ => rfl

theorem BodyRel.cases {r r' : Except String (Option Ty)} (h : BodyRel r r') :
    (∃ t t', r = .ok (some t) ∧ r' = .ok (some t') ∧ TyEquiv t t') ∨ (r = .ok none ∧ r' = .ok none) ∨
      ∃ e, r = .error e ∧ r' = .error e := by
  rcases r with e | _ | t <;> rcases r' with e' | _ | t' <;> try exact h.elim
  · exact .inr (.inr ⟨e, rfl, congrArg _ h.symm⟩)
  · exact .inr (.inl ⟨rfl, rfl⟩)
  · exact .inl ⟨t, t', rfl, rfl, h⟩

theorem body_perm {T T' : TsDoc} (c : Cfg) (h : T.Perm T') (nd : NoDupTypeNames T) (t : Target) (td : TypeDef) :
    BodyRel (body (Ctx.new c T t) td) (body (Ctx.new c T' t) td) := by
  unfold body
  cases hk : td.kind with
  | scalar =>
    simp only
    have : (Ctx.new c T t).scalarTypes.find? (·.1 == td.name) = (Ctx.new c T' t).scalarTypes.find? (·.1 == td.name) :=
      scalarTypes_find_perm c (typeDefs_perm h) nd td.name
    rw [this]
    exact bodyRel_refl _
  | object =>
    simp only [objectBody, leaf_perm c h t t]
    exact bodyRel_refl _
  | interface =>
    simp only [interfaceBody, leaf_perm c h t t]
    show BodyRel (.ok (if t.isInput then none else _)) (.ok (if t.isInput then none else _))
    cases t.isInput
    · exact tsUnion_perm ((objectImplementers_of_perm (typeDefs_perm h) td.name).map _)
    · trivial
  | union =>
    simp only [unionBody, leaf_perm c h t t]
    exact bodyRel_refl _
  | enum => exact bodyRel_refl _
  | input =>
    simp only [inputBody, leaf_perm c h t t]
    exact bodyRel_refl _

theorem exportType_equiv (a b : String) {ty ty' : Ty} (h : TyEquiv ty ty') :
    BlockEquiv (exportType a b ty) (exportType a b ty') := by
  unfold exportType
  split
  · exact ⟨.type _ _ _ h, trivial⟩
  · exact ⟨.type _ _ _ h, .refl _, trivial⟩

theorem printType_perm {T T' : TsDoc} (c : Cfg) (h : T.Perm T') (nd : NoDupTypeNames T) (t : Target) (td : TypeDef) :
    PrintRel (printType (Ctx.new c T t) td) (printType (Ctx.new c T' t) td) := by
  unfold printType
  rw [local_perm c h t t]
  rcases (body_perm c h nd t td).cases with ⟨ty, ty', h1, h2, hty⟩ | ⟨h1, h2⟩ | ⟨e, h1, h2⟩ <;> rw [h1, h2]
  · exact relList_append (blockEquiv_refl _) (exportType_equiv _ _ hty)
  · exact blockEquiv_refl []
  · exact rfl

theorem PrintRel.cases {r r' : Except String Block} (h : PrintRel r r') :
    (∃ b b', r = .ok b ∧ r' = .ok b' ∧ BlockEquiv b b') ∨ ∃ e, r = .error e ∧ r' = .error e := by
  rcases r with e | b <;> rcases r' with e' | b' <;> try exact h.elim
  · exact .inr ⟨e, rfl, congrArg _ h.symm⟩
  · exact .inl ⟨b, b', rfl, rfl, h⟩

/-- the block `print_type` emits for one definition (empty when it fails) -/
def blockOf (x : Ctx) (td : TypeDef) : Block :=
  match printType x td with
  | .ok b => b
  | .error _ => []

/-- `print_type` succeeds for every definition of the list -/
def OkAt (x : Ctx) (tds : List TypeDef) : Prop := ∀ td ∈ tds, ∃ b, printType x td = .ok b

/-- `print_type` succeeds for every definition in every namespace -/
def AllOk (c : Cfg) (doc : TsDoc) (ts : List Target) : Prop := ∀ t ∈ ts, OkAt (Ctx.new c doc t) (typeDefsOf doc)

def nsBlocks (c : Cfg) (doc : TsDoc) (t : Target) : String × List Block :=
  (t.name, (typeDefsOf doc).map (blockOf (Ctx.new c doc t)))

def repBlocks (c : Cfg) (doc : TsDoc) : List Block :=
  (typeDefsOf doc).map (representative (Ctx.new c doc .operationOutput))

/-- `SchemaDecls.schemaFile_iff` with the file written over the per-definition blocks -/
theorem schemaFile_iff_blocks {c : Cfg} {doc : TsDoc} {F : File} : schemaFile c doc = .ok F ↔
    AllOk c doc Target.all ∧
      F = preludeWith (schemaMetadata doc) ++ (Target.all.map (nsBlocks c doc)).map nsStmt ++ (repBlocks c doc).flatten := by
  have hns : ∀ t, nsStmt (nsBlocks c doc t) = .namespace true t.name (nsBody c doc t) := fun t => by
    simp only [nsStmt, nsBlocks, nsBody, List.flatMap_def]; rfl
  have hF : prelude doc ++ (Target.all.map fun t => Stmt.namespace true t.name (nsBody c doc t)) ++
      (typeDefsOf doc).flatMap (representative (Ctx.new c doc .operationOutput)) =
      preludeWith (schemaMetadata doc) ++ (Target.all.map (nsBlocks c doc)).map nsStmt ++ (repBlocks c doc).flatten := by
    simp only [List.map_map, Function.comp_def, hns, repBlocks, List.flatMap_def]; rfl
  rw [SchemaDecls.schemaFile_iff, hF]; rfl

theorem schemaFile_ok (c : Cfg) (doc : TsDoc) (h : AllOk c doc Target.all) :
    schemaFile c doc = .ok (preludeWith (schemaMetadata doc) ++ (Target.all.map (nsBlocks c doc)).map nsStmt ++
      (repBlocks c doc).flatten) :=
  schemaFile_iff_blocks.2 ⟨h, rfl⟩

theorem schemaFile_err (c : Cfg) (doc : TsDoc) (h : ¬ AllOk c doc Target.all) : ∃ e, schemaFile c doc = .error e := by
  cases hf : schemaFile c doc with
  | error e => exact ⟨e, rfl⟩
  | ok F => exact absurd (schemaFile_iff.1 hf).1 h

theorem okAt_perm {T T' : TsDoc} (c : Cfg) (h : T.Perm T') (nd : NoDupTypeNames T) (t : Target)
    (hok : OkAt (Ctx.new c T t) (typeDefsOf T)) : OkAt (Ctx.new c T' t) (typeDefsOf T') := by
  intro td htd
  obtain ⟨b, hb⟩ := hok td ((typeDefs_perm h).mem_iff.mpr htd)
  rcases (printType_perm c h nd t td).cases with ⟨_, b', _, h2, _⟩ | ⟨e, h1, _⟩
  · exact ⟨b', h2⟩
  · rw [hb] at h1; cases h1

theorem blockOf_equiv {T T' : TsDoc} (c : Cfg) (h : T.Perm T') (nd : NoDupTypeNames T) (t : Target) (td : TypeDef) :
    BlockEquiv (blockOf (Ctx.new c T t) td) (blockOf (Ctx.new c T' t) td) := by
  unfold blockOf
  rcases (printType_perm c h nd t td).cases with ⟨b, b', h1, h2, hb⟩ | ⟨e, h1, h2⟩ <;> rw [h1, h2]
  · exact hb
  · exact blockEquiv_refl []

theorem representative_perm {T T' : TsDoc} (c : Cfg) (h : T.Perm T') (td : TypeDef) :
    representative (Ctx.new c T .operationOutput) td = representative (Ctx.new c T' .operationOutput) td := by
  unfold representative
  rw [local_perm c h .operationOutput .operationOutput]
  rfl

/-- `get_schema_metadata_type` as a function of the first schema definition and the type definitions -/
def metaOf (sd? : Option SchemaDef) (tds : List TypeDef) : Ty :=
  match sd? with
  | some sd => .obj (sd.roots.map fun (k, n, _) => (k.asStr, false, false, .ref n))
  | none =>
    .obj (tds.filterMap fun td =>
      if td.kind == .object then
        if td.name == "Query" then some ("query", false, false, .ref td.name)
        else if td.name == "Mutation" then some ("mutation", false, false, .ref td.name)
        else if td.name == "Subscription" then some ("subscription", false, false, .ref td.name)
        else none
      else none)

theorem schemaMetadata_eq (doc : TsDoc) :
    schemaMetadata doc = metaOf (Schema.mk doc).schemaDefs.head? (typeDefsOf doc) := by
  unfold schemaMetadata metaOf Schema.schemaDefs
  rw [List.head?_filterMap]
  rfl

theorem schemaMetadata_perm {T T' : TsDoc} (h : T.Perm T') (one : (Schema.mk T).schemaDefs.length ≤ 1) :
    TyEquiv (schemaMetadata T) (schemaMetadata T') := by
  have he : (Schema.mk T).schemaDefs = (Schema.mk T').schemaDefs := eq_of_perm_of_length_le_one (h.filterMap _) one
  rw [schemaMetadata_eq, schemaMetadata_eq, he]
  unfold metaOf
  cases (Schema.mk T').schemaDefs.head? with
  | some sd => exact .refl _
  | none => exact .obj ((typeDefs_perm h).filterMap _)

theorem schemaFile_perm_ok {T T' : TsDoc} (c : Cfg) (h : T.Perm T') (nd : NoDupTypeNames T)
    (one : (Schema.mk T).schemaDefs.length ≤ 1) (hok : AllOk c T Target.all) :
    ∃ f f', schemaFile c T = .ok f ∧ schemaFile c T' = .ok f' ∧ DeclFileEquiv f f' := by
  have hok' : AllOk c T' Target.all := fun t ht => okAt_perm c h nd t (hok t ht)
  refine ⟨_, _, schemaFile_ok c T hok, schemaFile_ok c T' hok', ?_⟩
  refine ⟨_, _, _, _, _, _, rfl, rfl, schemaMetadata_perm h one, ?_, ?_⟩
  · apply relList_map
    intro t _
    exact ⟨rfl, blocksEquiv_iff.mpr ⟨_, (typeDefs_perm h).map _, relList_map _ _ _ fun td _ => blockOf_equiv c h nd t td⟩⟩
  · unfold repBlocks
    rw [show representative (Ctx.new c T .operationOutput) = representative (Ctx.new c T' .operationOutput) from
      funext fun td => representative_perm c h td]
    exact (typeDefs_perm h).map _

end NitroVerif.DeterminismDecls
