/-
C18 composed (helper lemmas): every position `check_operation_document` reports is a position of a node of the document
it was given or of the schema it was given (`checkOp_Q`, in CliComposedPosDefs).  Here: arguments, directives, fragment applicability and the selection-set walk
(`checkSelectionSet_Q`).
-/
import NitroVerif.Lemmas.CliComposedPosOp
import NitroVerif.Lemmas.CheckOpWalk
namespace NitroVerif.CliComposed
open NitroVerif NitroVerif.Gql NitroVerif.CheckCommon NitroVerif.CheckOp

section args
variable {S : Schema} {Q : Pos → Prop} (hS : SchemaQ S Q) (vars : Option (List VarDef))

theorem arg_mem_PQ {args : List Arg} (h : PQ Q (Value.positionsFields args)) :
    ∀ a ∈ args, Q a.2.1 ∧ PQ Q a.2.2.positions := by
  induction args with
  | nil => intro a ha; cases ha
  | cons b args ih =>
    obtain ⟨n, p, v⟩ := b
    simp only [Value.positionsFields] at h
    have h' := pq_append.mp (pq_cons.mp h).2
    intro a ha
    rcases List.mem_cons.mp ha with rfl | ha
    · exact ⟨(pq_cons.mp h).1, h'.1⟩
    · exact ih h'.2 a ha

theorem dupArgsAux_Q (seen : List Name) (args : List Arg) (h : PQ Q (Value.positionsFields args)) :
    AllQ Q (dupArgsAux seen args) := by
  induction args generalizing seen with
  | nil => exact allQ_nil
  | cons a args ih =>
    have ha := arg_mem_PQ h a (by simp)
    obtain ⟨n, p, v⟩ := a
    simp only [Value.positionsFields] at h
    simp only [dupArgsAux]
    rw [allQ_append]
    refine ⟨?_, ih _ (pq_append.mp (pq_cons.mp h).2).2⟩
    exact allQ_ite_single ha.1

include hS in
theorem checkArguments_Q (parentPos : Pos) (args : List Arg) (defs : List InputValueDef) (hp : Q parentPos)
    (ha : PQ Q (Value.positionsFields args)) (hd : ∀ d ∈ defs, TOk S Q d.ty) :
    AllQ Q (checkArguments S vars parentPos args defs) := by
  unfold checkArguments
  apply allQ_ite
  · intro _
    exact allQ_ite_single' hp
  · intro _
    simp only
    rw [allQ_append, allQ_append]
    refine ⟨⟨dupArgsAux_Q [] args ha, ?_⟩, ?_⟩
    · apply allQ_flatMap
      intro o ho
      unfold argOutcomes at ho
      obtain ⟨d, hdm, rfl⟩ := List.mem_map.mp ho
      cases hf : args.find? (fun a => d.name == a.1) with
      | none =>
        simp only
        split
        · exact allQ_nil
        · exact allQ_single.mpr hp
      | some a =>
        simp only
        have ham : a ∈ args := List.mem_of_find?_eq_some hf
        exact checkValue_Q hS vars _ _ _ (arg_mem_PQ ha a ham).2 (hd d hdm)
    · apply allQ_ite
      · intro _
        intro x hx
        obtain ⟨a, ham, rfl⟩ := List.mem_map.mp hx
        exact (arg_mem_PQ ha a (List.mem_filter.mp ham).1).1
      · intro _; exact allQ_nil

include hS in
theorem checkDirectivesAux_Q (loc : String) (seen : List Name) (dirs : List Directive) (h : PQ Q (dirsPositions dirs)) :
    AllQ Q (checkDirectivesAux S vars loc seen dirs) := by
  induction dirs generalizing seen with
  | nil => exact allQ_nil
  | cons d ds ih =>
    unfold dirsPositions at h
    rw [List.flatMap_cons] at h
    have hd := (pq_append.mp h).1
    have hds : PQ Q (dirsPositions ds) := (pq_append.mp h).2
    unfold Directive.positions at hd
    have hnp := (pq_cons.mp hd).1
    have hpos := (pq_cons.mp (pq_cons.mp hd).2).1
    have hargs := (pq_cons.mp (pq_cons.mp hd).2).2
    simp only [checkDirectivesAux]
    cases hdd : S.directiveDef? d.name with
    | none => exact List.forall_mem_cons.mpr ⟨hnp, ih _ hds⟩
    | some dd =>
      simp only
      rw [allQ_append, allQ_append, allQ_append]
      refine ⟨⟨⟨?_, ?_⟩, ?_⟩, ih _ hds⟩
      · exact allQ_ite_single hpos
      · apply allQ_ite
        · intro _
          exact allQ_ite_single' hpos
        · intro _; exact allQ_nil
      · exact checkArguments_Q hS vars d.pos d.args dd.args hpos hargs (hS.dirArgs hdd)

include hS in
theorem checkDirectives_Q (dirs : List Directive) (loc : String) (h : PQ Q (dirsPositions dirs)) :
    AllQ Q (checkDirectives S vars dirs loc) :=
  checkDirectivesAux_Q hS vars loc [] dirs h

end args

/-- the argument types of the fields are harmless for `Q` -/
def FieldsQ (S : Schema) (Q : Pos → Prop) (fields : List FieldDef) : Prop :=
  ∀ fd ∈ fields, ∀ a ∈ fd.args, TOk S Q a.ty

/-- called at positions satisfying `Q` with a definition of the schema, the spread handler reports only such -/
def HQ (S : Schema) (Q : Pos → Prop) (H : SpreadHandler) : Prop :=
  ∀ seen vars root name namePos pos, FromS S root → Q namePos → Q pos →
    AllQ Q (H seen vars root name namePos pos)

section walk
variable {S : Schema} {Q : Pos → Prop} (hS : SchemaQ S Q)

include hS in
theorem directFields_FieldsQ {td : TypeDef} {fields : List FieldDef} (htd : FromS S td)
    (h : directFields td = some fields) : FieldsQ S Q fields := by
  obtain ⟨n0, hn0⟩ := htd
  have key : (td.kind = .object ∨ td.kind = .interface) → FieldsQ S Q (td.fields ++ [typenameField]) := by
    intro hk fd hfd a ha
    rcases List.mem_append.mp hfd with hfd | hfd
    · exact hS.fieldArgs hn0 hk fd hfd a ha
    · simp at hfd; subst hfd; simp [typenameField] at ha
  unfold directFields at h
  cases hk : td.kind <;> simp [hk] at h <;> subst h
  · exact key (Or.inl hk)
  · exact key (Or.inr hk)
  · intro fd hfd a ha; simp at hfd; subst hfd; simp [typenameField] at ha

theorem unionMemberImplements_Q (iface : Name) (ms : List (Name × Pos))
    (h : ∀ m ∈ ms, (∃ o, S.typeDef? m.1 = some o ∧ o.kind = .object) ∨ Q m.2) :
    AllQ Q (unionMemberImplements S iface ms).1 := by
  induction ms with
  | nil => exact allQ_nil
  | cons m ms ih =>
    obtain ⟨n, p⟩ := m
    have hp := h (n, p) (by simp)
    have ih' := ih (fun m hm => h m (List.mem_cons_of_mem _ hm))
    simp only [unionMemberImplements]
    cases hq : S.typeDef? n with
    | none =>
      rcases hp with ⟨o, ho, _⟩ | hp
      · simp only at ho; rw [hq] at ho; cases ho
      · exact allQ_single.mpr hp
    | some o =>
      simp only
      split
      · split
        · exact allQ_nil
        · exact ih'
      · rename_i hk
        rcases hp with ⟨o', ho', hk'⟩ | hp
        · simp only at ho'; rw [hq] at ho'; cases ho'
          rw [hk'] at hk; exact absurd rfl hk
        · exact allQ_single.mpr hp

include hS in
theorem spreadApplicability_Q (root cond : TypeDef) (pos : Pos) (hr : FromS S root) (hc : FromS S cond)
    (hp : Q pos) : AllQ Q (spreadApplicability S root cond pos).1 := by
  obtain ⟨nr, hr⟩ := hr
  obtain ⟨nc, hc⟩ := hc
  have hnever : AllQ Q [(ErrKind.FragmentConditionNeverMatches, pos)] := allQ_single.mpr hp
  have hite : ∀ (c : Bool), AllQ Q (if c then [] else [(ErrKind.FragmentConditionNeverMatches, pos)]) := by
    intro c; cases c
    · exact hnever
    · exact allQ_nil
  have hite' : ∀ (c : Bool), AllQ Q (if c then [(ErrKind.FragmentConditionNeverMatches, pos)] else []) := by
    intro c; cases c
    · exact allQ_nil
    · exact hnever
  unfold spreadApplicability
  dsimp only
  -- one goal per alternative of the `match`; only interface × union, union × interface and interface × interface
  -- report more than "never matches" at the spread
  split
  case h_10 hrk hck => exact allQ_append.mpr ⟨unionMemberImplements_Q _ _ (hS.members hc hck), hite _⟩
  case h_11 hrk hck => exact allQ_append.mpr ⟨unionMemberImplements_Q _ _ (hS.members hr hrk), hite _⟩
  case h_9 =>
    split
    · exact allQ_nil
    · exact hite _
  all_goals first | exact allQ_nil | exact hite _ | exact hite' _

theorem fieldSel_parts {al : Option (Name × Pos)} {name : Name} {namePos : Pos} {args : List Arg}
    {dirs : List Directive} {sel : Option (List Selection)}
    (hp : PQ Q (Selection.field al name namePos args dirs sel).positions) :
    Q namePos ∧ PQ Q (Value.positionsFields args) ∧ PQ Q (dirsPositions dirs) ∧
      ∀ ss, sel = some ss → PQ Q (Selection.positionsList ss) := by
  cases sel with
  | none =>
    simp only [Selection.positions] at hp
    have h1 := pq_cons.mp (pq_append.mp hp).2
    exact ⟨h1.1, (pq_append.mp h1.2).1, (pq_append.mp h1.2).2, fun ss h => nomatch h⟩
  | some ss =>
    simp only [Selection.positions] at hp
    have h1 := pq_cons.mp (pq_append.mp hp).2
    have h2 := pq_append.mp h1.2
    exact ⟨h1.1, (pq_append.mp h2.1).1, (pq_append.mp h2.1).2, fun ss' h => by cases h; exact h2.2⟩

mutual
theorem checkSelections_Q (hS : SchemaQ S Q) (H : SpreadHandler) (hH : HQ S Q H) (seen : List Name)
    (vars : Option (List VarDef)) : ∀ (ss : List Selection) (root : TypeDef) (fields : List FieldDef),
      FromS S root → FieldsQ S Q fields → PQ Q (Selection.positionsList ss) →
      AllQ Q (checkSelections S H seen vars root fields ss)
  | [] => fun _ _ _ _ _ => allQ_nil
  | s :: ss => fun root fields hr hf hp => by
    simp only [Selection.positionsList] at hp
    simp only [checkSelections]
    exact allQ_append.mpr ⟨checkSelection_Q hS H hH seen vars s root fields hr hf (pq_append.mp hp).1,
      checkSelections_Q hS H hH seen vars ss root fields hr hf (pq_append.mp hp).2⟩
theorem checkSelection_Q (hS : SchemaQ S Q) (H : SpreadHandler) (hH : HQ S Q H) (seen : List Name)
    (vars : Option (List VarDef)) : ∀ (s : Selection) (root : TypeDef) (fields : List FieldDef),
      FromS S root → FieldsQ S Q fields → PQ Q s.positions → AllQ Q (checkSelection S H seen vars root fields s)
  | .field al name namePos args dirs none => fun root fields hr hf hp => by
    obtain ⟨hnp, hargs, hdirs, _⟩ := fieldSel_parts hp
    rw [checkSelection_field]
    cases hfd : fields.find? (·.name == name) with
    | none => exact allQ_single.mpr hnp
    | some fd =>
      simp only
      rw [allQ_append, allQ_append]
      refine ⟨⟨checkDirectives_Q hS vars dirs _ hdirs,
        checkArguments_Q hS vars namePos args fd.args hnp hargs (hf fd (List.mem_of_find?_eq_some hfd))⟩, ?_⟩
      cases S.typeDef? fd.ty.unwrapped with
      | none => exact allQ_single.mpr hnp
      | some ft => exact allQ_ite_single hnp
  | .field al name namePos args dirs (some ss) => fun root fields hr hf hp => by
    obtain ⟨hnp, hargs, hdirs, hss⟩ := fieldSel_parts hp
    rw [checkSelection_field]
    cases hfd : fields.find? (·.name == name) with
    | none => exact allQ_single.mpr hnp
    | some fd =>
      simp only
      rw [allQ_append, allQ_append]
      refine ⟨⟨checkDirectives_Q hS vars dirs _ hdirs,
        checkArguments_Q hS vars namePos args fd.args hnp hargs (hf fd (List.mem_of_find?_eq_some hfd))⟩, ?_⟩
      cases hft : S.typeDef? fd.ty.unwrapped with
      | none => exact allQ_single.mpr hnp
      | some ft =>
        simp only
        cases hdf : directFields ft with
        | none => exact allQ_single.mpr hnp
        | some ffields =>
          exact checkSelections_Q hS H hH seen vars ss ft ffields ⟨_, hft⟩
            (directFields_FieldsQ hS ⟨_, hft⟩ hdf) (hss ss rfl)
  | .spread name namePos dirs pos => fun root fields hr hf hp => by
    simp only [Selection.positions] at hp
    simp only [checkSelection]
    exact allQ_append.mpr ⟨checkDirectives_Q hS vars dirs _ (pq_cons.mp (pq_cons.mp hp).2).2,
      hH seen vars root name namePos pos hr (pq_cons.mp hp).1 (pq_cons.mp (pq_cons.mp hp).2).1⟩
  | .inline cond dirs ss pos => fun root fields hr hf hp => by
    simp only [Selection.positions] at hp
    have h1 := pq_cons.mp (pq_append.mp hp).2
    have hpos := h1.1
    have hss := (pq_append.mp h1.2).2
    simp only [checkSelection]
    rw [allQ_append]
    refine ⟨checkDirectives_Q hS vars dirs _ (pq_append.mp h1.2).1, ?_⟩
    cases cond with
    | none => exact checkSelections_Q hS H hH seen vars ss root fields hr hf hss
    | some c =>
      obtain ⟨c, cp⟩ := c
      have hcp : Q cp := (pq_append.mp hp).1 cp (by simp [optNamePos])
      simp only
      cases hct : S.typeDef? c with
      | none => exact allQ_single.mpr hcp
      | some ct =>
        simp only
        rw [allQ_append]
        refine ⟨spreadApplicability_Q hS root ct pos hr ⟨_, hct⟩ hpos, ?_⟩
        apply allQ_ite
        · intro _
          cases hdf : directFields ct with
          | none => exact allQ_single.mpr hpos
          | some cfields =>
            exact checkSelections_Q hS H hH seen vars ss ct cfields ⟨_, hct⟩ (directFields_FieldsQ hS ⟨_, hct⟩ hdf) hss
        · intro _; exact allQ_nil
end

include hS

theorem checkSelectionSet_Q (H : SpreadHandler) (hH : HQ S Q H) (seen : List Name) (vars : Option (List VarDef))
    (root : TypeDef) (sels : List Selection) (anchor : Pos) (hr : FromS S root) (ha : Q anchor)
    (hp : PQ Q (Selection.positionsList sels)) : AllQ Q (checkSelectionSet S H seen vars root sels anchor) := by
  unfold checkSelectionSet
  cases hdf : directFields root with
  | none => exact allQ_single.mpr ha
  | some fields =>
    exact checkSelections_Q hS H hH seen vars sels root fields hr (directFields_FieldsQ hS hr hdf) hp

end walk

end NitroVerif.CliComposed
