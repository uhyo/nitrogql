/-
Object and interface type extensions:
`ObjectTypeExtension = { KEYWORD_extend ~ KEYWORD_type ~ Name ~ ImplementsInterfaces? ~ Directives? ~ FieldsDefinition |
  KEYWORD_extend ~ KEYWORD_type ~ Name ~ ImplementsInterfaces? ~ Directives ~ !("{") |
  KEYWORD_extend ~ KEYWORD_type ~ Name ~ ImplementsInterfaces ~ !("{") }`; `InterfaceTypeExtension` likewise, with
`KEYWORD_interface` and with `Directives?` in the second alternative. What follows the head is treated as for the
definitions (`objMidG`, `kindBodyK`); by the third alternative an extension may consist of interfaces only.
-/
import NitroVerif.Lemmas.ParseDocTsDefObject
import NitroVerif.Lemmas.ParseDocTsExtItem
namespace NitroVerif.DocParse
open NitroVerif.Peg NitroVerif.Gen NitroVerif.Gen.Parts NitroVerif.Build NitroVerif.TypeParse NitroVerif.StringParse
open NitroVerif.Gql NitroVerif.ValueParse NitroVerif.Spec.Lex NitroVerif.ParseText

variable {inp : List Char}

/-- an object (`kw = type`) or interface type extension -/
def rObjExt (τ : Trivia) (kw : List Char) (sep : Bool) (p : Nat) (t : TypeDef) : List Char :=
  let tH := rExtHead τ (!t.implements.isEmpty || (sep && t.fields.isEmpty && t.dirs.isEmpty)) p kw t.name
  let tI := rOptImpl τ (sep && t.fields.isEmpty && t.dirs.isEmpty) (p + tH.length) t.implements
  let tD := rDirs τ (sep && t.fields.isEmpty) (p + tH.length + tI.length) t.dirs
  tH ++ (tI ++ (tD ++ rOptFields τ sep (p + tH.length + tI.length + tD.length) t.fields))

def wpObjExt (τ : Trivia) (inp : List Char) (k : TypeKind) (kw : List Char) (sep : Bool) (p : Nat) (t : TypeDef) : TypeDef :=
  let tH := rExtHead τ (!t.implements.isEmpty || (sep && t.fields.isEmpty && t.dirs.isEmpty)) p kw t.name
  let tI := rOptImpl τ (sep && t.fields.isEmpty && t.dirs.isEmpty) (p + tH.length) t.implements
  let tD := rDirs τ (sep && t.fields.isEmpty) (p + tH.length + tI.length) t.dirs
  { kind := k, name := t.name, namePos := posAt inp (ehOffN τ p kw),
    implements := wpNames τ inp '&' (sep && t.fields.isEmpty && t.dirs.isEmpty)
      (p + tH.length + (tk τ true (p + tH.length) kwImplements).length) t.implements,
    dirs := wpDirs τ inp (sep && t.fields.isEmpty) (p + tH.length + tI.length) t.dirs,
    fields := wpFieldDefs τ inp (p + tH.length + tI.length + tD.length +
      (tk τ false (p + tH.length + tI.length + tD.length) ['{']).length) t.fields,
    pos := posAt inp p }

theorem buildTypeExtension_objKind {ctx : Ctx} {fuel : Nat} {k : TypeKind} (hk : k = .object ∨ k = .interface)
    (p e p' e' : Nat) {cs : List Pair} {impl dirs fields : Option Pair} {kw kk name : Pair} {is : List (Name × Pos)}
    {ds : List Directive} {fs : List FieldDef}
    (hm : matchParts [.req R.KEYWORD_extend, .req (kindKwRule k), .req R.Name, .opt R.ImplementsInterfaces,
      .opt R.Directives, .opt R.FieldsDefinition] cs = .ok [some kw, some kk, some name, impl, dirs, fields])
    (h2 : optImplements ctx impl = .ok is) (h3 : optDirs ctx fuel dirs = .ok ds)
    (h4 : optFields ctx fuel fields = .ok fs) :
    buildTypeExtension ctx fuel (.mk R.TypeExtension p e [.mk (kindExtRule k) p' e' cs]) =
      .ok { kind := k, name := asString ctx name, namePos := toPos ctx name, implements := is, dirs := ds, fields := fs,
            pos := toPos ctx kw } := by
  rcases hk with rfl | rfl <;> simp only [kindKwRule] at hm <;>
    simp [buildTypeExtension, onlyChildOf, onlyChild, Pair.children, OC_TypeExtension, Pair.rule, kindExtRule,
      P_ObjectTypeExtension, P_InterfaceTypeExtension, hm, h2, h3, h4, bind, Except.bind, R.ScalarTypeExtension,
      R.ObjectTypeExtension, R.InterfaceTypeExtension]

/-- object and interface type extensions whose `implements` part is any `ImplText`. An object type extension without
    fields needs a directive: its second alternative reads `Directives` itself. Where nothing at all follows the name,
    the word `implements` must not follow the extension. -/
theorem objKindExtG (τ : Trivia) (hτ : ∀ q, Ws (τ q)) {k : TypeKind} (hk : k = .object ∨ k = .interface) (t : TypeDef)
    (hname : validName t.name.toList) (hdirs : WFDirs t.dirs) (hfields : ∀ f ∈ t.fields, WFFieldDef f) {sep : Bool}
    {p : Nat} (tI : List Char) (wI : List (Name × Pos)) :
    let sI := sep && t.fields.isEmpty && t.dirs.isEmpty
    let tH := rExtHead τ (!t.implements.isEmpty || sI) p (kindKw k) t.name
    let tD := rDirs τ (sep && t.fields.isEmpty) (p + tH.length + tI.length) t.dirs
    let tF := rOptFields τ sep (p + tH.length + tI.length + tD.length) t.fields
    ImplText inp t.implements sI (p + tH.length) tI wI →
    HasAt inp p (tH ++ (tI ++ (tD ++ tF))) → Nxt inp tdBad sep (p + (tH ++ (tI ++ (tD ++ tF))).length) →
    (k = .object → t.dirs ≠ [] ∨ t.fields ≠ []) →
    (t.implements = [] → t.dirs = [] → t.fields = [] →
      matchStr kwImplements (inp.drop (p + (tH ++ (tI ++ (tD ++ tF))).length)) = none) →
    KindExtOk inp (kindExtRule k) p (tH ++ (tI ++ (tD ++ tF)))
      { kind := k, name := t.name, namePos := posAt inp (ehOffN τ p (kindKw k)), implements := wI,
        dirs := wpDirs τ inp (sep && t.fields.isEmpty) (p + tH.length + tI.length) t.dirs,
        fields := wpFieldDefs τ inp (p + tH.length + tI.length + tD.length +
          (tk τ false (p + tH.length + tI.length + tD.length) ['{']).length) t.fields,
        pos := posAt inp p } := by
  intro sI tH tD tF hT h hn hne hni
  have n3 := hn.app.app.app
  obtain ⟨n1, oI, oD, M⟩ := objMidG τ hτ t hdirs tI wI hT h.right n3
    (fun a b c => by rw [← drop_app, ← drop_app, ← drop_app]; exact hni a b c)
  obtain ⟨prE, prK, prN, H⟩ := extHeadF hτ (look_kindKw k) (kindKw_valid k) t.name hname h.left n1
  obtain ⟨oF, Fd, _⟩ := optFieldsT τ hτ t.fields hfields (by decide) h.right.right.right n3
  -- the rule, as for the definitions; the second alternative is the first of two
  have F := H.front.seq M.impl.part
  obtain ⟨e, rR⟩ : ∃ e, Part inp 61 (.call (kindExtRule k)) p ((tH ++ tI) ++ (tD ++ tF)) [.mk (kindExtRule k) p e
      (slotPairs [some prE, some prK, some prN, oI, oD, oF])] := by
    rcases hk with rfl | rfl
    · exact kindBodyK F look_ObjectTypeExtension (·.choice_l) M.dirs (fun h0 => by
        obtain ⟨prD, rfl, rP⟩ := M.dirs.some_of_ne fun e =>
          (hne rfl).elim (absurd (rDirs_eq_nil e)) (absurd (rOptFields_eq_nil (Fd.absent h0).1))
        exact rP.mono (by decide)) (Fd.mono (by decide)) (bad := tdBad) (by decide) n3
    · exact kindBodyK F (rule := R.InterfaceTypeExtension) rfl (·.choice_l) M.dirs (fun _ => M.dirs.part)
        (Fd.mono (by decide)) (bad := tdBad) (by decide) n3
  rw [List.append_assoc] at rR
  refine ⟨_, fun e' => ⟨rR.mono (by decide), rfl, rfl, fun fuel hf => ?_⟩⟩
  refine (buildTypeExtension_objKind hk _ _ _ _ (matchParts_slots _ _ (by rcases hk with rfl | rfl <;> decide)
    ⟨⟨_, rfl, H.extRule⟩, ⟨_, rfl, H.kwRule⟩, ⟨_, rfl, H.nameRule⟩, M.impl.rule, M.dirs.rule, Fd.rule, trivial⟩)
    (M.impl.build _ (Nat.le_refl _)) (M.dirs.build fuel (fuel_left (fuel_right (fuel_right hf))))
    (Fd.build fuel (fuel_right (fuel_right (fuel_right hf))))).trans ?_
  rw [H.name, H.namePos, H.extPos]

theorem objExtT (τ : Trivia) (hτ : ∀ q, Ws (τ q)) (t : TypeDef) (hname : validName t.name.toList)
    (himpl : ∀ x ∈ t.implements, validName x.1.toList) (hdirs : WFDirs t.dirs) (hfields : ∀ f ∈ t.fields, WFFieldDef f)
    (hne : t.dirs ≠ [] ∨ t.fields ≠ []) {sep : Bool} {p : Nat} (h : HasAt inp p (rObjExt τ (kindKw .object) sep p t))
    (hn : Nxt inp tdBad sep (p + (rObjExt τ (kindKw .object) sep p t).length)) :
    KindExtOk inp R.ObjectTypeExtension p (rObjExt τ (kindKw .object) sep p t)
      (wpObjExt τ inp .object (kindKw .object) sep p t) :=
  objKindExtG τ hτ (Or.inl rfl) t hname hdirs hfields _ _ (implText_rOptImpl τ hτ _ himpl _ _) h hn (fun _ => hne)
    (fun _ b c => hne.elim (absurd b) (absurd c))

/-- not the bare `extend interface I`: that is `tsItemTF` (Lemmas/ParseDocTsBareIface.lean) -/
theorem ifaceExtT (τ : Trivia) (hτ : ∀ q, Ws (τ q)) (t : TypeDef) (hname : validName t.name.toList)
    (himpl : ∀ x ∈ t.implements, validName x.1.toList) (hdirs : WFDirs t.dirs) (hfields : ∀ f ∈ t.fields, WFFieldDef f)
    (hne : t.implements ≠ [] ∨ t.dirs ≠ [] ∨ t.fields ≠ []) {sep : Bool} {p : Nat} (h : HasAt inp p (rObjExt τ (kindKw .interface) sep p t))
    (hn : Nxt inp tdBad sep (p + (rObjExt τ (kindKw .interface) sep p t).length)) :
    KindExtOk inp R.InterfaceTypeExtension p (rObjExt τ (kindKw .interface) sep p t)
      (wpObjExt τ inp .interface (kindKw .interface) sep p t) :=
  objKindExtG τ hτ (Or.inr rfl) t hname hdirs hfields _ _ (implText_rOptImpl τ hτ _ himpl _ _) h hn (fun h => by cases h)
    (fun a b c => (hne.elim (absurd a) fun h => h.elim (absurd b) (absurd c)))

/-- an object type extension with interfaces only, the `implements` part being any text `tI` that
    `ImplementsInterfaces?` reads as the non-empty `wI` -/
theorem objExtImplG (τ : Trivia) (hτ : ∀ q, Ws (τ q)) (t : TypeDef) (hname : validName t.name.toList)
    (hi : t.implements ≠ []) (hd : t.dirs = []) (hf : t.fields = []) {sep : Bool} {p : Nat} (tI : List Char)
    (wI : List (Name × Pos)) :
    let sI := sep && t.fields.isEmpty && t.dirs.isEmpty
    let tH := rExtHead τ (!t.implements.isEmpty || sI) p (kindKw .object) t.name
    let tD := rDirs τ (sep && t.fields.isEmpty) (p + tH.length + tI.length) t.dirs
    let tF := rOptFields τ sep (p + tH.length + tI.length + tD.length) t.fields
    ImplText inp t.implements sI (p + tH.length) tI wI →
    HasAt inp p (tH ++ (tI ++ (tD ++ tF))) → Nxt inp tdBad sep (p + (tH ++ (tI ++ (tD ++ tF))).length) →
    KindExtOk inp R.ObjectTypeExtension p (tH ++ (tI ++ (tD ++ tF)))
      { kind := .object, name := t.name, namePos := posAt inp (ehOffN τ p (kindKw .object)), implements := wI,
        dirs := wpDirs τ inp (sep && t.fields.isEmpty) (p + tH.length + tI.length) t.dirs,
        fields := wpFieldDefs τ inp (p + tH.length + tI.length + tD.length +
          (tk τ false (p + tH.length + tI.length + tD.length) ['{']).length) t.fields,
        pos := posAt inp p } := by
  intro sI tH tD tF hT h hn
  obtain ⟨n1, oI, oD, M⟩ := objMidG τ hτ t (by rw [hd]; trivial) tI wI hT h.right hn.app.app.app
    (fun a _ _ => absurd a hi)
  obtain ⟨prE, prK, prN, H⟩ := extHeadF hτ (look_kindKw .object) (kindKw_valid .object) t.name hname h.left n1
  obtain ⟨prI, rfl, rI⟩ := M.impl.some_of_ne (hT.head hi).ne_nil
  -- directives and fields are empty texts: what follows the definition follows the interfaces
  have eD : tD = [] := congrArg (rDirs τ _ _) hd
  have eF : tF = [] := congrArg (rOptFields τ sep _) hf
  have hn3 := hn.app.app.app
  rw [eF, eD] at hn3
  have hbr : HeadNot (· = '{') (inp.drop (p + tH.length + tI.length)) := hn3.ne (by decide)
  have hat : HeadNot (· = '@') (inp.drop (p + tH.length + tI.length)) := hn3.ne (by decide)
  have rN : Part inp 0 (.not (.str ['{'])) (p + tH.length + tI.length) (tD ++ tF) [] := by
    rw [eD, eF]; exact .not (strL_head_fails (la := .neg) hbr) hn3.tok (by decide)
  -- the alternatives with fields and with directives fail, the one with `ImplementsInterfaces` as a required item runs
  have hbr' : HeadNot (· = '{') (inp.drop (p + tH.length + tI.length + tD.length)) := by rw [eD]; exact hbr
  have f1 := ((H.front.seq M.impl.part).seq M.dirs.part).fails (K := 0) (fieldsDef_fails hbr') (by decide) tF
  have f2 := (H.front.seq M.impl.part).fails (T := .seq (.call R.Directives) (.not (.str ['{']))) (K := 0)
    (fails_seq_1 (directives_fails hat)) (by decide) (tD ++ tF)
  have r3 := H.front.part ((rI.mono (by decide : 49 ≤ 50)).seq rN)
  obtain ⟨e, rR⟩ := PartT.rule look_ObjectTypeExtension ((r3.choice_r_le f2
    (Nat.le_of_eq (congrArg List.length (List.append_assoc ..))) (by decide)).choice_r_le f1
    (by simp only [List.append_assoc]; exact Nat.le_refl _) (by decide))
  refine ⟨_, fun e' => ⟨rR.mono (by decide), rfl, rfl, fun fuel _ => ?_⟩⟩
  refine (buildTypeExtension_objKind (Or.inl rfl) _ _ _ _ (matchParts_slots P_ObjectTypeExtension
    [some prE, some prK, some prN, some prI, none, none] (by decide) ⟨⟨_, rfl, H.extRule⟩, ⟨_, rfl, H.kwRule⟩,
      ⟨_, rfl, H.nameRule⟩, M.impl.rule, (fun x hx => by cases hx), (fun x hx => by cases hx), trivial⟩)
    (M.impl.build _ (Nat.le_refl _)) rfl rfl).trans ?_
  rw [H.name, H.namePos, H.extPos, hd, hf]
  rfl

theorem objExtImplT (τ : Trivia) (hτ : ∀ q, Ws (τ q)) (t : TypeDef) (hname : validName t.name.toList)
    (himpl : ∀ x ∈ t.implements, validName x.1.toList) (hi : t.implements ≠ []) (hd : t.dirs = []) (hf : t.fields = [])
    {sep : Bool} {p : Nat} (h : HasAt inp p (rObjExt τ (kindKw .object) sep p t))
    (hn : Nxt inp tdBad sep (p + (rObjExt τ (kindKw .object) sep p t).length)) :
    KindExtOk inp R.ObjectTypeExtension p (rObjExt τ (kindKw .object) sep p t)
      (wpObjExt τ inp .object (kindKw .object) sep p t) := by
  exact objExtImplG τ hτ t hname hi hd hf _ _ (implText_rOptImpl τ hτ _ himpl _ _) h hn

theorem objExtAllT (τ : Trivia) (hτ : ∀ q, Ws (τ q)) (t : TypeDef) (hname : validName t.name.toList)
    (himpl : ∀ x ∈ t.implements, validName x.1.toList) (hdirs : WFDirs t.dirs) (hfields : ∀ f ∈ t.fields, WFFieldDef f)
    (hne : t.implements ≠ [] ∨ t.dirs ≠ [] ∨ t.fields ≠ []) {sep : Bool} {p : Nat}
    (h : HasAt inp p (rObjExt τ (kindKw .object) sep p t))
    (hn : Nxt inp tdBad sep (p + (rObjExt τ (kindKw .object) sep p t).length)) :
    KindExtOk inp R.ObjectTypeExtension p (rObjExt τ (kindKw .object) sep p t)
      (wpObjExt τ inp .object (kindKw .object) sep p t) := by
  by_cases hd : t.dirs = []
  · by_cases hf : t.fields = []
    · have hi : t.implements ≠ [] := by
        rcases hne with h | h | h
        · exact h
        · exact absurd hd h
        · exact absurd hf h
      exact objExtImplT τ hτ t hname himpl hi hd hf h hn
    · exact objExtT τ hτ t hname himpl hdirs hfields (Or.inr hf) h hn
  · exact objExtT τ hτ t hname himpl hdirs hfields (Or.inl hd) h hn

end NitroVerif.DocParse
