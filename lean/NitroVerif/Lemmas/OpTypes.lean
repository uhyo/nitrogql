/-
Helper lemmas and the witness for C01 / C02 (never the property statements): generic facts about lists, `Except` and
`Mem`, the wrapper translation of leaf types (`WrapConf`), and the witness `W` — the schema `Query { a: A, name: String! }`,
`A { x: Int, y: String }`, its schema declaration file (written as `SchemaTypePrinter` prints it) and the witness
documents.  The prelude's `__SelectionSet` is looked up ONCE (`findSelSet`, `isSelSet`); every reading of an application
goes through `hook_app` / `mem_selSet`.
-/
import NitroVerif.Model.OpTypes
import NitroVerif.Spec.Exec
import NitroVerif.Ts.SelSem
import NitroVerif.Lemmas.TsSem
import NitroVerif.Lemmas.TsSemSound
import NitroVerif.Lemmas.SchemaFacts
import NitroVerif.Lemmas.ListFacts
namespace NitroVerif.OpTypes
open NitroVerif.Gql NitroVerif.Ts

theorem forall_mem_of_rec {α : Type} {P : List α → Prop} {Q : α → Prop} (hnil : P [])
    (hcons : ∀ a l, P (a :: l) ↔ Q a ∧ P l) : ∀ {l : List α}, P l ↔ ∀ a ∈ l, Q a
  | [] => by simp [hnil]
  | a :: l => by rw [hcons, forall_mem_of_rec hnil hcons, List.forall_mem_cons]

theorem le_of_mem_rec {α : Type} {f : α → Nat} {g : List α → Nat}
    (h : ∀ a l, f a ≤ g (a :: l) ∧ g l ≤ g (a :: l)) :
    ∀ {l : List α} {a : α}, a ∈ l → f a ≤ g l
  | b :: l, a, hm => by
    rcases List.mem_cons.1 hm with rfl | hm
    · exact (h a l).1
    · exact Nat.le_trans (le_of_mem_rec h hm) (h b l).2

theorem bind_ok {ε α β : Type} {x : Except ε α} {f : α → Except ε β} {b : β} (h : (x >>= f) = .ok b) :
    ∃ a, x = .ok a ∧ f a = .ok b := by
  cases x with
  | error e => cases h
  | ok a => exact ⟨a, rfl, h⟩

theorem mem_obj_single {e : Env} {k : String} {v : J} {ro opt : Bool} {t : Ty} (h : Mem e v t) :
    Mem e (.obj [(k, v)]) (.obj [(k, ro, opt, t)]) := by
  have hget : J.get [(k, v)] k = v := by simp [J.get]
  refine .obj _ _ (fun f hf _ => ?_) (fun kv hkv => Or.inr ⟨_, List.mem_singleton_self _, ?_⟩)
  · rw [List.mem_singleton.1 hf, hget]; exact h
  · rw [List.mem_singleton.1 hkv]

theorem memG_prim {e : Env} {p : String} (hp : p = "number" ∨ p = "string" ∨ p = "boolean") (n : Nat) (v : J) :
    memG e (n + 1) v (.prim p) = primMem p v := by
  rcases hp with rfl | rfl | rfl <;> rfl

theorem boolVars_inv {F : Frags} {fuel : Nat} {ss : List Selection} {vars : List Name}
    (h : boolVars F fuel ss = .ok vars) : ∃ l, boolVarsGo F fuel ss [] [] = .ok l ∧ vars = l.eraseDups := by
  unfold boolVars at h
  cases hg : boolVarsGo F fuel ss [] [] with
  | error e => simp [hg, Except.map] at h
  | ok l => simp only [hg, Except.map] at h; cases h; exact ⟨l, rfl, rfl⟩

theorem assignments_mem (vs : List Name) (a : List (Name × Bool)) :
    a ∈ assignments vs ↔ a.map Prod.fst = vs := by
  induction vs generalizing a with
  | nil => cases a <;> simp [assignments]
  | cons v vs ih =>
    simp only [assignments, List.mem_append, List.mem_map]
    constructor
    · rintro (⟨b, hb, rfl⟩ | ⟨b, hb, rfl⟩) <;> simp [(ih b).1 hb]
    · intro h
      cases a with
      | nil => simp at h
      | cons p rest =>
        obtain ⟨w, b⟩ := p
        simp only [List.map_cons, List.cons.injEq] at h
        obtain ⟨rfl, hr⟩ := h
        cases b
        · exact Or.inl ⟨rest, (ih rest).2 hr, rfl⟩
        · exact Or.inr ⟨rest, (ih rest).2 hr, rfl⟩

mutual
/-- CompleteValue for a leaf position, wrapper structure only: `null` exactly at nullable positions, lists
    element-wise, the named type's values given by `leaf` -/
def WrapConf (leaf : Name → J → Prop) : GType → J → Prop
  | .named n _, v => v = .null ∨ leaf n v
  | .list t _, v => v = .null ∨ ∃ xs, v = .arr xs ∧ ∀ x ∈ xs, WrapConf leaf t x
  | .nonNull t, v => WrapConfNN leaf t v
def WrapConfNN (leaf : Name → J → Prop) : GType → J → Prop
  | .named n _, v => leaf n v
  | .list t _, v => ∃ xs, v = .arr xs ∧ ∀ x ∈ xs, WrapConf leaf t x
  | .nonNull t, v => WrapConfNN leaf t v
end

theorem orNull_eq {t : Ty} (ht : ∀ ts, t ≠ .union ts) : orNull t = .union [t, .prim "null"] := by
  cases t <;> first | rfl | exact absurd rfl (ht _)

/-- `T | null`, also when `T` is itself a union (the members are then spliced) -/
theorem mem_orNull_iff {e : Env} {v : J} (t : Ty) : Mem e v (orNull t) ↔ v = .null ∨ Mem e v t := by
  by_cases h : ∃ ts, t = .union ts
  · obtain ⟨ts, rfl⟩ := h
    simp only [orNull, mem_union_iff, List.mem_append, List.mem_singleton]
    constructor
    · rintro ⟨t', (ht' | rfl), hm⟩
      · exact Or.inr ⟨t', ht', hm⟩
      · exact Or.inl (mem_null_iff.1 hm)
    · rintro (rfl | ⟨t', ht', hm⟩)
      · exact ⟨.prim "null", Or.inr rfl, mem_null_iff.2 rfl⟩
      · exact ⟨t', Or.inl ht', hm⟩
  · rw [orNull_eq (fun ts hts => h ⟨ts, hts⟩), mem_union_iff]
    constructor
    · rintro ⟨t', ht', hm⟩
      simp only [List.mem_cons, List.mem_nil_iff, or_false] at ht'
      rcases ht' with rfl | rfl
      · exact Or.inr hm
      · exact Or.inl (mem_null_iff.1 hm)
    · rintro (rfl | hm)
      · exact ⟨.prim "null", by simp, mem_null_iff.2 rfl⟩
      · exact ⟨t, by simp, hm⟩

/-- PRE-REPAIR `field_to_type` (before 72cec20): the literal was chosen by RESPONSE KEY -/
def fieldTsByKey (ns : String) (parent : Name) : SField → Ts.Field
  | .leaf n ty _ => (n, false, false, if n == "__typename" then .strLit parent else leafTs (Refs.ofNs ns).out ty)
  | f => fieldTs (Refs.ofNs ns) parent f

theorem declares_iff {S : Schema} {tn : Name} {td : TypeDef} (htd : S.typeDef? tn = some td) {ofs : List Field}
    (h : ofs.map (·.1) = "__typename" :: td.fields.map (·.name)) (k : String) :
    ofs.any (·.1 == k) = true ↔ (k = "__typename" ∨ (S.field? tn k).isSome = true) := by
  have hany : ofs.any (·.1 == k) = true ↔ k ∈ ofs.map (·.1) := by
    simp only [List.any_eq_true, beq_iff_eq, List.mem_map]
  have hf : (S.field? tn k).isSome = true ↔ k ∈ td.fields.map (·.name) := by
    simp only [Schema.field?, Schema.fieldsOf, htd, List.find?_isSome, beq_iff_eq, List.mem_map]
  rw [hany, h, hf, List.mem_cons]

theorem inhabited_of_check {S : Schema}
    (h : S.typeDefs.all (fun t => !S.isComposite t.name || !(S.possibleTypes t.name).isEmpty) = true) (n : Name)
    (hc : S.isComposite n = true) : S.possibleTypes n ≠ [] := by
  cases ht : S.typeDef? n with
  | none => simp [Schema.isComposite, Schema.kindOf?, ht] at hc
  | some t =>
    have := List.all_eq_true.1 h t (List.mem_of_find?_eq_some ht)
    rw [Schema.typeDef?_name ht, hc] at this
    simpa using this

def memberObj (S : Schema) (m : Name × Pos) : Except Panic TypeDef :=
  match S.typeDef? m.1 with
  | some o => if o.kind == .object then .ok o else .error .typeSystemError
  | none => .error .typeSystemError

theorem mapM_member_names (S : Schema) : ∀ (ms : List (Name × Pos)) (objs : List TypeDef),
    ms.mapM (memberObj S) = .ok objs → objs.map (·.name) = ms.map (·.1) := by
  intro ms
  induction ms with
  | nil => intro objs h; simp [pure, Except.pure] at h; subst h; rfl
  | cons m ms ih =>
    intro objs h
    simp only [List.mapM_cons, bind, Except.bind] at h
    obtain ⟨o, hm, h⟩ := bind_ok h
    obtain ⟨os, hr, h⟩ := bind_ok h
    cases h
    simp only [List.map_cons, ih os hr]
    congr 1
    unfold memberObj at hm
    split at hm
    · rename_i o' ho'
      split at hm
      · cases hm; exact Schema.typeDef?_name ho'
      · cases hm
    · cases hm

theorem leafTs_den {e : Env} (q : Name → Ty) (hq : ∀ n ts, q n ≠ .union ts) (ty : GType) :
    (∀ v, Mem e v (leafTs q ty) ↔ WrapConf (fun n v => Mem e v (q n)) ty v) ∧
    (∀ v, Mem e v (leafCore q ty) ↔ WrapConfNN (fun n v => Mem e v (q n)) ty v) := by
  induction ty with
  | named n p =>
    constructor
    · intro v; simp only [leafTs, WrapConf]; exact mem_orNull_iff _
    · intro v; simp only [leafCore, WrapConfNN]
  | list t p ih =>
    have harr : ∀ v, Mem e v (.arr (leafTs q t)) ↔
        ∃ xs, v = .arr xs ∧ ∀ x ∈ xs, WrapConf (fun n v => Mem e v (q n)) t x := by
      intro v
      rw [mem_arr_iff]
      constructor
      · rintro ⟨xs, rfl, hx⟩; exact ⟨xs, rfl, fun x hxm => (ih.1 x).1 (hx x hxm)⟩
      · rintro ⟨xs, rfl, hx⟩; exact ⟨xs, rfl, fun x hxm => (ih.1 x).2 (hx x hxm)⟩
    constructor
    · intro v
      simp only [leafTs, WrapConf]
      rw [mem_orNull_iff, harr v]
    · intro v
      simp only [leafCore, WrapConfNN]
      exact harr v
  | nonNull t ih =>
    constructor
    · intro v; simp only [leafTs, WrapConf]; exact ih.2 v
    · intro v; simp only [leafCore, WrapConfNN]; exact ih.2 v

namespace W
open NitroVerif.Ts.SelSem

def S : Schema := ⟨[
  .typeDef { kind := .scalar, name := "Int" },
  .typeDef { kind := .scalar, name := "String" },
  .typeDef { kind := .scalar, name := "Boolean" },
  .typeDef { kind := .object, name := "Query", fields := [{ name := "a", ty := .named "A" {} }, { name := "name", ty := .nonNull (.named "String" {}) }] },
  .typeDef { kind := .object, name := "A", fields := [{ name := "x", ty := .named "Int" {} }, { name := "y", ty := .named "String" {} }] }]⟩

/-- the schema declaration file of `S` as `SchemaTypePrinter::print_document` prints it (operation-output part) -/
def schemaFile : Ts.File := [
  .rawType false "__Beautify" beautifyText,
  .rawType true "__SelectionSet" preludeText,
  .namespace true "__OperationOutput" [
    .type true "Int" [] (.prim "number"),
    .type true "String" [] (.prim "string"),
    .type true "Boolean" [] (.prim "boolean"),
    .type true "Query" [] (.obj [("__typename", false, false, .strLit "Query"),
      ("a", false, false, .union [.ref "A", .prim "null"]), ("name", false, false, .ref "String")]),
    .type true "A" [] (.obj [("__typename", false, false, .strLit "A"),
      ("x", false, false, .union [.ref "Int", .prim "null"]), ("y", false, false, .union [.ref "String", .prim "null"])])]]

def opFile : Ts.File := [.import "" true (.star "Schema")]

def env : Env := envOf opFile "" schemaFile

/-- a type of the operation file, closed -/
def close (t : Ty) : Ty := globalise env.decls [] [] t

def ctx : Exec.Ctx :=
  { S := S, F := fun _ => none,
    scalar := fun n v => memG env 16 v (close (.qref ["Schema", "__OperationOutput", n])), fuel := 16 }

def skipV : Directive := { name := "skip", args := [("if", {}, .var "v" {})] }

def selX : List Selection := [.field none "x" {} [] [] none]
def selYskip : List Selection := [.field none "y" {} [] [skipV] none]

/-- `{ a { x } a { y @skip(if: $v) } }` -/
def selA : List Selection := [.field none "a" {} [] [] (some selX), .field none "a" {} [] [] (some selYskip)]

/-- `{ t: __typename }` -/
def selT : List Selection := [.field (some ("t", {})) "__typename" {} [] [] none]

/-- `{ __typename: name }` -/
def selN : List Selection := [.field (some ("__typename", {})) "name" {} [] [] none]

def noFrags : Frags := fun _ => none

/-! ### the §9-a witness: `a { x } a { y @skip(if: $v) }` at `a` -/

/-- the tree of `a`'s merged sub-selection as the PRE-REPAIR `merge_selection_trees` built it -/
def oldTree : Except Panic SelTree := do
  let l ← implTree S noFrags 16 16 (.named "A" {}) selX
  let r ← implTree S noFrags 16 16 (.named "A" {}) selYskip
  mergeTreesOld 8 l r

/-- … and as the repaired one builds it -/
def newTree : Except Panic SelTree := do
  let l ← implTree S noFrags 16 16 (.named "A" {}) selX
  let r ← implTree S noFrags 16 16 (.named "A" {}) selYskip
  mergeTrees 8 l r

def tInt : Ty := .union [.other "abs" ["Schema", "__OperationOutput", "Int"], .prim "null"]
def tStr : Ty := .union [.other "abs" ["Schema", "__OperationOutput", "String"], .prim "null"]
def objXY : List Field := [("x", false, false, tInt), ("y", false, false, tStr)]
def objXnoY : List Field := [("x", false, false, tInt), ("y", false, true, .prim "never")]
def selSet (o : List Field) : Ty :=
  .app (.other "abs" ["Schema", "__SelectionSet"]) [.other "abs" ["Schema", "__OperationOutput", "A"], .obj o, .obj []]
/-- `Schema.__SelectionSet<A, {x, y}, {}> | null` -/
def oldTy : Ty := .union [selSet objXY, .prim "null"]
/-- `Schema.__SelectionSet<A, {x, y}, {}> | Schema.__SelectionSet<A, {x, y?: never}, {}> | null` -/
def newTy : Ty := .union [selSet objXY, selSet objXnoY, .prim "null"]

theorem oldTree_ty : (oldTree.toOption.map fun t => close (toTs "Schema" t)) = some oldTy := by rfl
/-- the tree of `{ x  y @skip(if:$v) }` on `A`: two branches -/
def witnessTree : SelTree :=
  .object [
    .mk "A" [("v", false)] [.leaf "x" (.named "Int" {}) false, .leaf "y" (.named "String" {}) false] [],
    .mk "A" [("v", true)] [.leaf "x" (.named "Int" {}) false, .empty "y"] []]

theorem newTree_eq : newTree = .ok witnessTree := by rfl
theorem newTree_ty : (newTree.toOption.map fun t => close (toTs "Schema" t)) = some newTy := by rw [newTree_eq]; rfl

theorem findSelSet : env.decls.findLocal ["Schema"] "__SelectionSet"
    = some ⟨["Schema"], "__SelectionSet", true, [], .other "raw" [SelSem.preludeText]⟩ := by rfl

/-- the stored text IS `preludeText`, so the comparison of the two long strings is never run -/
theorem isSelSet : SelSem.isSelectionSet env.decls ["Schema", "__SelectionSet"] = true := by
  have e1 : ["Schema", "__SelectionSet"].dropLast = ["Schema"] := rfl
  have e2 : ["Schema", "__SelectionSet"].getLast? = some "__SelectionSet" := rfl
  simp only [SelSem.isSelectionSet, e1, e2, findSelSet, beq_self_eq_true, Bool.true_and]

theorem hook_eq (t : Ty) (o oth : List Field) :
    env.appHook env.decls (.other "abs" ["Schema", "__SelectionSet"]) [t, .obj o, .obj oth]
      = (SelSem.origFields env.decls 8 t).map fun ofs => .obj (SelSem.selectionSet ofs o oth) := by
  have e : env.appHook = SelSem.hook := rfl
  rw [e]
  simp only [SelSem.hook, isSelSet, if_true]

theorem hook_app {t : Ty} {o oth ofs : List Field} (h : SelSem.origFields env.decls 8 t = some ofs) :
    env.appHook env.decls (.other "abs" ["Schema", "__SelectionSet"]) [t, .obj o, .obj oth]
      = some (.obj (SelSem.selectionSet ofs o oth)) := by
  rw [hook_eq, h]; rfl

theorem mem_selSet {v : J} {t : Ty} {o oth ofs : List Field} (h : SelSem.origFields env.decls 8 t = some ofs) :
    Mem env v (.app (.other "abs" ["Schema", "__SelectionSet"]) [t, .obj o, .obj oth])
      ↔ Mem env v (.obj (SelSem.selectionSet ofs o oth)) :=
  mem_app_iff (hook_app h)

theorem origA : SelSem.origFields env.decls 8 (.other "abs" ["Schema", "__OperationOutput", "A"])
    = some [("__typename", false, false, .strLit "A"), ("x", false, false, tInt), ("y", false, false, tStr)] := by rfl

theorem origQuery : SelSem.origFields env.decls 8 (.other "abs" ["Schema", "__OperationOutput", "Query"])
    = some [("__typename", false, false, .strLit "Query"),
        ("a", false, false, .union [.other "abs" ["Schema", "__OperationOutput", "A"], .prim "null"]),
        ("name", false, false, .other "abs" ["Schema", "__OperationOutput", "String"])] := by rfl

theorem hookXY : env.appHook env.decls (.other "abs" ["Schema", "__SelectionSet"])
    [.other "abs" ["Schema", "__OperationOutput", "A"], .obj objXY, .obj []] = some (.obj objXY) :=
  hook_app origA

theorem hookXnoY : env.appHook env.decls (.other "abs" ["Schema", "__SelectionSet"])
    [.other "abs" ["Schema", "__OperationOutput", "A"], .obj objXnoY, .obj []] = some (.obj objXnoY) :=
  hook_app origA

theorem mem_newTy {v : J} (h : Mem env v (.obj objXnoY)) : Mem env v newTy :=
  mem_union_iff.2 ⟨_, List.mem_cons_of_mem _ List.mem_cons_self, (mem_app_iff hookXnoY).2 h⟩

theorem bodyString : env.decls.body? ["Schema", "__OperationOutput", "String"] = some ([], .prim "string") := by rfl
theorem bodyInt : env.decls.body? ["Schema", "__OperationOutput", "Int"] = some ([], .prim "number") := by rfl

/-- the response of `a { x } a { y @skip(if: $v) }` at `a` for v = true -/
def respX : J := .obj [("x", .num)]

theorem respX_mem : Mem env respX newTy := mem_newTy (memG_sound 8 _ _ (by decide +kernel))

theorem execMem_selA : Exec.execMem ctx (Exec.sigmaOf [("v", true)]) 3 "Query" selA (.obj [("a", respX)]) = true := by
  decide +kernel

end W

end NitroVerif.OpTypes
