/-
C18 composed (helper lemmas): `resolve_schema_extensions` invents no position — every position of the resolved document
is a position of the document it was given, and so are the positions of its error (`resolve_PQ`, `resolve_err_PQ`).
-/
import NitroVerif.Lemmas.CliComposedPosTs
import NitroVerif.Lemmas.ExtResolve
namespace NitroVerif.CliComposed.Ext
open NitroVerif NitroVerif.Gql NitroVerif.ExtResolve NitroVerif.ExtMerge NitroVerif.CliComposed

variable {Q : Pos → Prop}

theorem dirsPositions_append (a b : List Directive) : dirsPositions (a ++ b) = dirsPositions a ++ dirsPositions b := by
  simp [dirsPositions]

theorem pq_dirs_flatMap {α : Type} (es : List α) (f : α → List Directive) (h : ∀ e ∈ es, PQ Q (dirsPositions (f e))) :
    PQ Q (dirsPositions (es.flatMap f)) := by
  unfold dirsPositions
  rw [List.flatMap_assoc]
  exact pq_flatMap.mpr h

theorem typeDef_PQ_of_parts {t : TypeDef} (h1 : Q t.namePos) (h2 : Q t.pos) (h3 : ∀ i ∈ t.implements, Q i.2)
    (h4 : PQ Q (dirsPositions t.dirs)) (h5 : ∀ f ∈ t.fields, PQ Q f.positions) (h6 : ∀ m ∈ t.members, Q m.2)
    (h7 : ∀ v ∈ t.values, PQ Q v.positions) (h8 : ∀ v ∈ t.inputs, PQ Q v.positions) : PQ Q t.positions := by
  unfold TypeDef.positions
  refine pq_cons.mpr ⟨h1, pq_cons.mpr ⟨h2, ?_⟩⟩
  refine pq_append.mpr ⟨pq_append.mpr ⟨pq_append.mpr ⟨pq_append.mpr ⟨pq_append.mpr ⟨?_, h4⟩, ?_⟩, ?_⟩, ?_⟩, ?_⟩
  · exact pq_map.mpr h3
  · exact pq_flatMap.mpr h5
  · exact pq_map.mpr h6
  · exact pq_flatMap.mpr h7
  · exact pq_flatMap.mpr h8

/-- a component list of a merged definition: the original's, followed (when the kind has the component) by those of
    the extensions -/
theorem forall_mem_append_ite_flatMap {α β : Type} {P : β → Prop} {a : List β} {c : Bool} {es : List α}
    {f : α → List β} (ha : ∀ x ∈ a, P x) (hf : ∀ e ∈ es, ∀ x ∈ f e, P x) :
    ∀ x ∈ a ++ (if c then es.flatMap f else []), P x := by
  refine List.forall_mem_append.mpr ⟨ha, ?_⟩
  cases c
  · exact fun _ h => nomatch h
  · exact List.forall_mem_flatMap.mpr hf

theorem refTypeWith_PQ (t : TypeDef) (es : List TypeDef) (ht : PQ Q t.positions) (hes : ∀ e ∈ es, PQ Q e.positions) :
    PQ Q (refTypeWith t es).positions := by
  obtain ⟨h1, h2, h3, h4, h5, h6, h7, h8⟩ := Ts.typeDef_parts ht
  have he := fun e he => Ts.typeDef_parts (hes e he)
  apply typeDef_PQ_of_parts
  · exact h1
  · exact h2
  · exact forall_mem_append_ite_flatMap h3 fun e h => (he e h).2.2.1
  · simp only [refTypeWith]
    rw [dirsPositions_append]
    exact pq_append.mpr ⟨h4, pq_dirs_flatMap es _ fun e h => (he e h).2.2.2.1⟩
  · exact forall_mem_append_ite_flatMap h5 fun e h => (he e h).2.2.2.2.1
  · exact forall_mem_append_ite_flatMap h6 fun e h => (he e h).2.2.2.2.2.1
  · exact forall_mem_append_ite_flatMap h7 fun e h => (he e h).2.2.2.2.2.2.1
  · exact forall_mem_append_ite_flatMap h8 fun e h => (he e h).2.2.2.2.2.2.2

theorem schemaDef_parts {s : SchemaDef} (h : PQ Q s.positions) :
    Q s.pos ∧ PQ Q (dirsPositions s.dirs) ∧ ∀ r ∈ s.roots, Q r.2.2 := by
  unfold SchemaDef.positions at h
  have h1 := pq_cons.mp h
  exact ⟨h1.1, (pq_append.mp h1.2).1, pq_map.mp (pq_append.mp h1.2).2⟩

theorem refSchemaWith_PQ (s : SchemaDef) (es : List SchemaDef) (hs : PQ Q s.positions)
    (hes : ∀ e ∈ es, PQ Q e.positions) : PQ Q (refSchemaWith s es).positions := by
  obtain ⟨h1, h2, h3⟩ := schemaDef_parts hs
  unfold SchemaDef.positions
  refine pq_cons.mpr ⟨h1, pq_append.mpr ⟨?_, pq_map.mpr ?_⟩⟩
  · simp only [refSchemaWith]
    rw [dirsPositions_append]
    exact pq_append.mpr ⟨h2, pq_dirs_flatMap es _ fun e he => (schemaDef_parts (hes e he)).2.1⟩
  · intro r hr
    simp only [refSchemaWith] at hr
    rcases List.mem_append.mp hr with hr | hr
    · exact h3 r hr
    · obtain ⟨e, he, hr⟩ := List.mem_flatMap.mp hr
      exact (schemaDef_parts (hes e he)).2.2 r hr

section doc
variable {doc : TsDoc} (hD : PQ Q (TsDoc.positions doc))
include hD

theorem item_PQ {it : TsItem} (h : it ∈ doc) : PQ Q it.positions := (pq_flatMap.mp hD) it h

theorem typeExts_PQ (k : TypeKind) (n : Name) : ∀ e ∈ typeExts k n doc, PQ Q e.positions := by
  intro e he
  unfold typeExts at he
  obtain ⟨it, hit, h⟩ := List.mem_filterMap.mp he
  cases it with
  | typeExt t =>
    simp only at h
    split at h
    · cases h; exact item_PQ hD hit
    · cases h
  | _ => simp at h

theorem typeExtsOfKind_PQ (k : TypeKind) : ∀ e ∈ typeExtsOfKind k doc, PQ Q e.positions := by
  intro e he
  exact item_PQ hD ((mem_typeExtsOfKind.mp he).1)

theorem typeDefs_PQ (k : TypeKind) : ∀ t ∈ ExtMerge.typeDefs k doc, PQ Q t.positions := by
  intro t ht
  exact item_PQ hD ((mem_typeDefs.mp ht).1)

theorem schemaExts_PQ : ∀ e ∈ schemaExts doc, PQ Q e.positions := by
  intro e he
  unfold schemaExts at he
  obtain ⟨it, hit, h⟩ := List.mem_filterMap.mp he
  cases it <;> simp at h
  subst h
  exact item_PQ hD hit

theorem schemaDefs_PQ : ∀ s ∈ ExtMerge.schemaDefs doc, PQ Q s.positions := by
  intro s hs
  unfold ExtMerge.schemaDefs at hs
  obtain ⟨it, hit, h⟩ := List.mem_filterMap.mp hs
  cases it <;> simp at h
  subst h
  exact item_PQ hD hit

theorem resolve_PQ {out : TsDoc} (h : resolve doc = .ok out) : PQ Q (TsDoc.positions out) := by
  obtain ⟨_, _, ss, ts, rfl, hss, hts⟩ := resolve_ok doc out h
  unfold TsDoc.positions
  rw [pq_flatMap]
  intro it hit
  rcases List.mem_append.mp hit with hit | hit
  · rcases List.mem_append.mp hit with hit | hit
    · obtain ⟨d, hd, rfl⟩ := List.mem_map.mp hit
      unfold dirsOf at hd
      obtain ⟨it', hit', h'⟩ := List.mem_filterMap.mp hd
      cases it' <;> simp at h'
      subst h'
      exact item_PQ hD hit'
    · have := hss.mem_iff.mp hit
      unfold schemaRef at this
      obtain ⟨s, hs, rfl⟩ := List.mem_map.mp this
      exact refSchemaWith_PQ s _ (schemaDefs_PQ hD s hs) (schemaExts_PQ hD)
  · have := hts.mem_iff.mp hit
    obtain ⟨k, _, hk⟩ := List.mem_flatMap.mp this
    unfold kindRef at hk
    obtain ⟨t, ht, rfl⟩ := List.mem_map.mp hk
    exact refTypeWith_PQ t _ (typeDefs_PQ hD k t ht) (typeExts_PQ hD _ _)

theorem resolve_err_PQ {e : ExtError} (h : resolve doc = .error e) : Q e.position ∧ ∀ p ∈ e.additional, Q p := by
  have hpos : ∀ {t : TypeDef}, PQ Q t.positions → Q t.pos := fun ht => (Ts.typeDef_parts ht).2.1
  have hc := resolve_case doc
  rw [h] at hc
  cases hc with
  | @dup _ pre post it hdoc _ hcase =>
    have hpre : PQ Q (TsDoc.positions pre) := by
      rw [hdoc] at hD
      unfold TsDoc.positions at hD ⊢
      rw [List.flatMap_append] at hD
      exact (pq_append.mp hD).1
    have hit : PQ Q it.positions := item_PQ hD (by rw [hdoc]; simp)
    rcases hcase with ⟨s, f, rfl, hf, rfl⟩ | ⟨t, f, rfl, hf, rfl⟩
    · have hfm : f ∈ ExtMerge.schemaDefs pre := by rw [hf]; simp
      have hfq := (schemaDef_parts (schemaDefs_PQ hpre f hfm)).1
      have hsq := (schemaDef_parts hit).1
      exact ⟨hfq, by intro p hp; simp [ExtError.additional] at hp; subst hp; exact hsq⟩
    · have hfm : f ∈ ExtMerge.typeDefs t.kind pre := List.mem_of_find?_eq_some hf
      have hfq := hpos (typeDefs_PQ hpre _ f hfm)
      have htq := hpos hit
      exact ⟨hfq, by intro p hp; simp [ExtError.additional] at hp; subst hp; exact htq⟩
  | orphan _ hcase =>
    rcases hcase with ⟨x, _, hx, rfl⟩ | ⟨_, a, k, b, x, _, _, hx, rfl⟩
    · have hxm : x ∈ schemaExts doc := List.mem_of_mem_head? hx
      exact ⟨(schemaDef_parts (schemaExts_PQ hD x hxm)).1, by intro p hp; simp [ExtError.additional] at hp⟩
    · have hxm : x ∈ typeExtsOfKind k doc := List.mem_of_find?_eq_some hx
      exact ⟨hpos (typeExtsOfKind_PQ hD k x hxm), by intro p hp; simp [ExtError.additional] at hp⟩

end doc

end NitroVerif.CliComposed.Ext
