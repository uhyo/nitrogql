/-
`OpTypes.implTree` under a permutation of the schema's definitions: the resulting trees are `TreeRel`-related (same
tree up to the order of the branches of every object node).
(The walk under `SameImpl` — same order, equal trees — is in `DeterminismConcreteOpTypes.lean`.)
-/
import NitroVerif.Lemmas.DeterminismConcreteTreeRel
import NitroVerif.Lemmas.OpTypesWrap
namespace NitroVerif.DeterminismOpTypes
open NitroVerif.Gql NitroVerif.OpTypes NitroVerif.DeterminismRel
open NitroVerif.DeterminismDecls (RelList relList_refl relList_map relList_append)
open NitroVerif.Determinism (SameView NoDupTypeNames NoDupDirectiveNames sameView_of_perm)

/-- the two schemas answer every by-name lookup the same way and have the same SET of implementers per interface -/
structure SchemaRel (S S' : Schema) : Prop extends SameView S S' where
  impl : ∀ n, (implementers S n).Perm (implementers S' n)

theorem schemaRel_of_perm {T T' : TsDoc} (h : T.Perm T') (ndt : NoDupTypeNames T) (ndd : NoDupDirectiveNames T) :
    SchemaRel ⟨T⟩ ⟨T'⟩ :=
  { toSameView := sameView_of_perm h ndt ndd, impl := fun n => implementers_perm h ndt n }

section
variable {S S' : Schema}

theorem parentObjects_rel (h : SchemaRel S S') (n : Name) :
    ExRel List.Perm (parentObjects S n) (parentObjects S' n) := by
  unfold parentObjects
  simp only [h.ty]
  cases S'.typeDef? n with
  | none => trivial
  | some t =>
    cases hk : t.kind with
    | object => simp only [hk]; exact List.Perm.refl _
    | interface => simp only [hk]; exact h.impl _
    | union => simp only [hk]; exact exRel_refl List.Perm.refl _
    | scalar => simp only [hk]; trivial
    | enum => simp only [hk]; trivial
    | input => simp only [hk]; trivial

theorem branchConds_rel (h : SchemaRel S S') (F : Frags) (fuel : Nat) (ss : List Selection) (n : Name) :
    ExRel List.Perm (branchConds S F fuel ss n) (branchConds S' F fuel ss n) := by
  unfold branchConds
  apply exRel_bind (parentObjects_rel h n)
  intro objs objs' hobjs
  apply exRel_bind (exRel_refl (R := (· = ·)) (fun _ => rfl) _)
  intro vars vars' hv
  subst hv
  exact exRel_ok (hobjs.flatMap_right _)

def TaggedRel (a b : Tagged) : Prop := a.1 = b.1 ∧ FieldRel a.2 b.2

theorem toEmpty_rel {fs fs' : List Tagged} (h : RelList TaggedRel fs fs') :
    RelList TaggedRel (toEmpty fs) (toEmpty fs') := by
  unfold toEmpty
  apply relList_map_rel _ h
  intro a b hab
  obtain ⟨a1, a2⟩ := a
  obtain ⟨b1, b2⟩ := b
  exact ⟨hab.1, by show FieldRel (.empty a2.name) (.empty b2.name); rw [hab.2.name]; exact fieldRel_refl _⟩

theorem fieldTree_rel (obj : TypeDef) (key name : Name) (skipped : Bool) (sub : Option (List Selection))
    {rec rec' : GType → List Selection → Except Panic SelTree}
    (hrec : ∀ ty sub, ExRel TreeRel (rec ty sub) (rec' ty sub)) :
    ExRel FieldRel (fieldTree obj key name skipped sub rec) (fieldTree obj key name skipped sub rec') := by
  unfold fieldTree
  split
  · exact fieldRel_refl _
  · split
    · exact fieldRel_refl _
    · cases directField? obj name with
      | none => trivial
      | some ty =>
        cases sub with
        | none => exact fieldRel_refl _
        | some sub =>
          apply exRel_bind (hrec ty sub)
          intro a b hab
          exact exRel_ok (fieldRel_object.mpr ⟨b, rfl, hab⟩)

theorem shapeTree_rel {a b : List Branch} (h : PermRel BranchRel a b) : ∀ ty, TreeRel (shapeTree ty a) (shapeTree ty b)
  | .named _ _ => treeRel_object.mpr h
  | .list t _ => treeRel_list.mpr (shapeTree_rel h t)
  | .nonNull t => treeRel_nonNull.mpr (shapeTree_rel h t)

theorem wrapTree_rel {mk mk' : Name → Except Panic (List Branch)}
    (hmk : ∀ n, ExRel (PermRel BranchRel) (mk n) (mk' n)) (ty : GType) :
    ExRel TreeRel (wrapTree mk ty) (wrapTree mk' ty) := by
  rw [wrapTree_eq, wrapTree_eq]
  exact exRel_map (hmk _) fun _ _ hab => shapeTree_rel hab ty

theorem untag_rel {fs fs' : List Tagged} (h : RelList TaggedRel fs fs') (p : Bool → Bool) :
    RelList FieldRel ((fs.filter fun x => p x.1).map (·.2)) ((fs'.filter fun x => p x.1).map (·.2)) :=
  relList_map_rel (fun _ _ hab => hab.2) (relList_filter (fun a b hab => by rw [hab.1]) h)

theorem skipGuard_rel {x y : Except Panic (List Tagged)} (hxy : ExRel (RelList TaggedRel) x y)
    (vars : List (Name × Bool)) (dirs : List Directive) :
    ExRel (RelList TaggedRel)
      (do let fs ← x; if ← checkSkip vars dirs then Except.ok (toEmpty fs) else Except.ok fs)
      (do let fs ← y; if ← checkSkip vars dirs then Except.ok (toEmpty fs) else Except.ok fs) := by
  apply exRel_bind hxy
  intro fs fs' hfs
  apply exRel_bind (exRel_refl (R := (· = ·)) (fun _ => rfl) _)
  intro b b' hb
  subst hb
  cases b
  · exact exRel_ok hfs
  · exact exRel_ok (toEmpty_rel hfs)

theorem implTree_fieldsFor_rel (h : SchemaRel S S') (F : Frags) (mfuel : Nat) : ∀ fuel,
    (∀ parent ss, ExRel TreeRel (implTree S F mfuel fuel parent ss) (implTree S' F mfuel fuel parent ss)) ∧
    (∀ c ss, ExRel (RelList TaggedRel) (fieldsFor S F mfuel fuel c ss) (fieldsFor S' F mfuel fuel c ss)) := by
  intro fuel
  induction fuel with
  | zero => exact ⟨fun _ _ => exRel_error _ _, fun _ _ => exRel_error _ _⟩
  | succ n ih =>
    obtain ⟨ih1, ih2⟩ := ih
    refine ⟨fun parent ss => ?_, fun c ss => ?_⟩
    · simp only [implTree]
      apply wrapTree_rel
      intro m
      apply exRel_bind (branchConds_rel h F mfuel ss m)
      intro conds conds' hconds
      apply exRel_mapM_permRel _ (PermRel.of_perm hconds)
      intro c c' hc
      subst hc
      apply exRel_bind (ih2 c ss)
      intro fs fs' hfs
      apply exRel_bind (deepMerge_rel mfuel (untag_rel hfs (!·)))
      intro un un' hun
      apply exRel_bind (deepMerge_rel mfuel (untag_rel hfs id))
      intro al al' hal
      exact exRel_ok (branchRel_iff.mpr ⟨rfl, rfl, hun, hal⟩)
    · simp only [fieldsFor, h.ty, fragmentApplies_congr h.toSameView]
      cases S'.typeDef? c.obj.name with
      | none => exact exRel_error _ _
      | some obj =>
        apply exRel_bind (exRel_refl (R := (· = ·)) (fun _ => rfl) _)
        intro obj1 obj2 ho
        subst ho
        apply exRel_bind (R := RelList TaggedRel)
        · apply exRel_filterMapM_rel (R := (· = ·)) _ (relList_refl (fun _ => rfl) ss)
          intro s s' hs
          subst hs
          cases s with
          | field alias name namePos args dirs sub =>
            apply exRel_bind (exRel_refl (R := (· = ·)) (fun _ => rfl) _)
            intro sk sk' hsk
            subst hsk
            apply exRel_bind (fieldTree_rel _ _ _ _ _ ih1)
            intro f f' hf
            exact exRel_ok (show OptRel TaggedRel (some _) (some _) from ⟨rfl, hf⟩)
          | spread nm namePos dirs pos => exact exRel_ok (show OptRel TaggedRel none none from trivial)
          | inline cond dirs sub pos => exact exRel_ok (show OptRel TaggedRel none none from trivial)
        · intro simple simple' hsimple
          apply exRel_bind (R := RelList (RelList TaggedRel))
          · apply exRel_mapM_rel (R := (· = ·)) _ (relList_refl (fun _ => rfl) ss)
            intro s s' hs
            subst hs
            cases s with
            | field alias name namePos args dirs sub => exact exRel_ok (show RelList TaggedRel [] [] from trivial)
            | spread nm namePos dirs pos =>
              dsimp only
              cases F nm with
              | none => exact exRel_error _ _
              | some fd =>
                apply exRel_bind (exRel_refl (R := (· = ·)) (fun _ => rfl) _)
                intro b b' hb
                subst hb
                cases b with
                | false => exact exRel_ok (show RelList TaggedRel [] [] from trivial)
                | true => exact skipGuard_rel (ih2 c fd.sel) c.vars dirs
            | inline cond dirs sub pos =>
              cases cond with
              | none => exact skipGuard_rel (ih2 c sub) c.vars dirs
              | some cp =>
                obtain ⟨cond, cp⟩ := cp
                apply exRel_bind (exRel_refl (R := (· = ·)) (fun _ => rfl) _)
                intro b b' hb
                subst hb
                cases b with
                | false => exact exRel_ok (show RelList TaggedRel [] [] from trivial)
                | true => exact skipGuard_rel (ih2 c sub) c.vars dirs
          · intro frags frags' hfr
            exact exRel_ok (relList_append hsimple (relList_flatten hfr))

end
end NitroVerif.DeterminismOpTypes
