/-
C08 (stages after parsing), the operation type printer: the two fuels of the model only ever turn "out of fuel" into a
result — they never change a result and never turn one panic into another.

`Ref r r'` ("`r'` refines `r`"): `r` is the out-of-fuel value, or `r = r'`.  Every function of `Model/OpTypes.lean` that
takes a fuel is monotone in it in this sense (`boolVarsGo`, `mergeTrees`, `implTree` / `fieldsFor`, in both fuels at
once): `ref_implTree`.  Consequence (`implTree_ok_or_outOfFuel`): if SOME pair of larger fuels yields a tree, then at the
given fuels the result is a tree or out-of-fuel — never one of the three panics of the Rust code.
-/
import NitroVerif.Lemmas.OpTypesRefMain
import NitroVerif.Lemmas.OpTypesWrap
namespace NitroVerif.Stages
open NitroVerif.Gql NitroVerif.OpTypes NitroVerif.OpTypes.Ref

def Ref {α : Type} (r r' : Except Panic α) : Prop := r = .error .outOfFuel ∨ r = r'

section
variable {α β : Type}

theorem ref_refl (r : Except Panic α) : Ref r r := Or.inr rfl

theorem ref_oof (r' : Except Panic α) : Ref (.error .outOfFuel) r' := Or.inl rfl

theorem ref_bind {a a' : Except Panic α} {g g' : α → Except Panic β} (ha : Ref a a')
    (hg : ∀ x, Ref (g x) (g' x)) : Ref (a >>= g) (a' >>= g') := by
  rcases ha with ha | ha
  · left; rw [ha]; rfl
  · subst ha
    cases a with
    | error e => right; rfl
    | ok x => exact hg x

theorem ref_bind_same {a a' : Except Panic α} (ha : Ref a a') (g : α → Except Panic β) :
    Ref (a >>= g) (a' >>= g) :=
  ref_bind ha fun _ => ref_refl _

theorem ref_ite (c : Prop) [Decidable c] {a a' b b' : Except Panic α} (ha : Ref a a') (hb : Ref b b') :
    Ref (if c then a else b) (if c then a' else b') := by
  split
  · exact ha
  · exact hb

theorem ref_map {a a' : Except Panic α} (h : α → β) (ha : Ref a a') : Ref (a.map h) (a'.map h) := by
  rcases ha with ha | ha
  · left; rw [ha]; rfl
  · right; rw [ha]

theorem ref_mapM {f f' : α → Except Panic β} : ∀ (l : List α), (∀ x ∈ l, Ref (f x) (f' x)) →
    Ref (l.mapM f) (l.mapM f')
  | [], _ => by rw [List.mapM_nil, List.mapM_nil]; exact ref_refl _
  | a :: l, h => by
    rw [List.mapM_cons, List.mapM_cons]
    exact ref_bind (h a List.mem_cons_self) fun b =>
      ref_bind_same (ref_mapM l fun x hx => h x (List.mem_cons_of_mem _ hx)) _

theorem ref_filterMapM {f f' : α → Except Panic (Option β)} : ∀ (l : List α),
    (∀ x ∈ l, Ref (f x) (f' x)) → Ref (l.filterMapM f) (l.filterMapM f')
  | [], _ => by rw [List.filterMapM_nil, List.filterMapM_nil]; exact ref_refl _
  | a :: l, h => by
    rw [List.filterMapM_cons, List.filterMapM_cons]
    have ih := ref_filterMapM l fun x hx => h x (List.mem_cons_of_mem _ hx)
    refine ref_bind (h a List.mem_cons_self) fun b => ?_
    cases b with
    | none => exact ih
    | some b => exact ref_bind_same ih _

end

variable {S : Schema} {F : Frags}

theorem ref_boolVarsGo : ∀ (n n' : Nat), n ≤ n' → ∀ (L : List Selection) (seen acc : List Name),
    Ref (boolVarsGo F n L seen acc) (boolVarsGo F n' L seen acc) := by
  intro n
  induction n with
  | zero =>
    intro n' _ L seen acc
    cases L with
    | nil => cases n' <;> exact ref_refl _
    | cons s rest => exact ref_oof _
  | succ n ih =>
    intro n' hn L seen acc
    cases n' with
    | zero => exact absurd hn (Nat.not_succ_le_zero _)
    | succ m =>
      have ih := ih m (Nat.le_of_succ_le_succ hn)
      cases L with
      | nil => exact ref_refl _
      | cons s rest =>
        cases s with
        | field a nm p args ds sub => exact ih _ _ _
        | inline cond ds ss p => exact ih _ _ _
        | spread nm np ds p =>
          refine ref_ite _ (ih _ _ _) ?_
          cases F nm with
          | none => exact ref_refl _
          | some f => exact ih _ _ _

theorem ref_boolVars {n n' : Nat} (h : n ≤ n') (ss : List Selection) :
    Ref (boolVars F n ss) (boolVars F n' ss) :=
  ref_map _ (ref_boolVarsGo n n' h ss [] [])

theorem ref_branchConds {n n' : Nat} (h : n ≤ n') (ss : List Selection) (p : Name) :
    Ref (branchConds S F n ss p) (branchConds S F n' ss p) :=
  ref_bind (ref_refl _) fun _ => ref_bind_same (ref_boolVars h ss) _

section
variable {mt mt' : SelTree → SelTree → Except Panic SelTree} (hmt : ∀ a b, Ref (mt a b) (mt' a b))
include hmt

theorem ref_mergeFieldsWith (f g : SField) : Ref (mergeFieldsWith mt f g) (mergeFieldsWith mt' f g) := by
  cases f with
  | object n l =>
    cases g with
    | object _ r => exact ref_bind_same (hmt l r) _
    | _ => exact ref_refl _
  | _ => cases g <;> exact ref_refl _

theorem ref_mergeInto (f : SField) : ∀ (acc : List SField), Ref (mergeInto mt f acc) (mergeInto mt' f acc)
  | [] => ref_refl _
  | g :: gs => ref_ite _ (ref_bind_same (ref_mergeFieldsWith hmt g f) _) (ref_bind_same (ref_mergeInto f gs) _)

theorem ref_deepMergeGo : ∀ (fs acc : List SField), Ref (deepMergeGo mt fs acc) (deepMergeGo mt' fs acc)
  | [], _ => ref_refl _
  | f :: fs, acc => ref_ite _ (ref_bind (ref_mergeInto hmt f acc) fun x => ref_deepMergeGo fs x) (ref_deepMergeGo fs _)

theorem ref_deepMergeWith (fs : List SField) : Ref (deepMergeWith mt fs) (deepMergeWith mt' fs) :=
  ref_deepMergeGo hmt fs []

theorem ref_mergeBranchesWith (l r : List Branch) : Ref (mergeBranchesWith mt l r) (mergeBranchesWith mt' l r) := by
  refine ref_bind_same (ref_mapM l fun lb _ => ref_ite _ (ref_refl _) (ref_filterMapM _ fun rb _ => ?_)) _
  cases unifyVars lb.vars rb.vars with
  | none => exact ref_refl _
  | some vars => exact ref_bind (ref_deepMergeWith hmt _) fun _ => ref_bind_same (ref_deepMergeWith hmt _) _

end

theorem ref_mergeTrees : ∀ (n n' : Nat), n ≤ n' → ∀ (l r : SelTree), Ref (mergeTrees n l r) (mergeTrees n' l r) := by
  intro n
  induction n with
  | zero => intro n' _ l r; cases l <;> cases r <;> exact ref_oof _
  | succ n ih =>
    intro n' hn l r
    cases n' with
    | zero => exact absurd hn (Nat.not_succ_le_zero _)
    | succ m =>
      have ih := ih m (Nat.le_of_succ_le_succ hn)
      cases l with
      | nonNull l =>
        cases r with
        | nonNull r => exact ref_bind_same (ih l r) _
        | _ => exact ref_refl _
      | list l =>
        cases r with
        | list r => exact ref_bind_same (ih l r) _
        | _ => exact ref_refl _
      | object l =>
        cases r with
        | object r => exact ref_bind_same (ref_mergeBranchesWith ih l r) _
        | _ => exact ref_refl _

theorem ref_deepMerge {n n' : Nat} (h : n ≤ n') (fs : List SField) : Ref (deepMerge n fs) (deepMerge n' fs) :=
  ref_deepMergeWith (ref_mergeTrees n n' h) fs

theorem ref_wrapTree {mk mk' : Name → Except Panic (List Branch)} (h : ∀ n, Ref (mk n) (mk' n)) (ty : GType) :
    Ref (wrapTree mk ty) (wrapTree mk' ty) := by
  rw [wrapTree_eq, wrapTree_eq]
  exact ref_map _ (h _)

theorem ref_fieldTree {obj : TypeDef} {key name : Name} {skipped : Bool} {sub : Option (List Selection)}
    {rec rec' : GType → List Selection → Except Panic SelTree} (h : ∀ ty ss, Ref (rec ty ss) (rec' ty ss)) :
    Ref (fieldTree obj key name skipped sub rec) (fieldTree obj key name skipped sub rec') := by
  refine ref_ite _ (ref_refl _) (ref_ite _ (ref_refl _) ?_)
  cases directField? obj name with
  | none => exact ref_refl _
  | some ty =>
    cases sub with
    | none => exact ref_refl _
    | some sub => exact ref_bind_same (h ty sub) _

theorem ref_simpleOf {obj : TypeDef} {vars : List (Name × Bool)}
    {rec rec' : GType → List Selection → Except Panic SelTree} (h : ∀ ty ss, Ref (rec ty ss) (rec' ty ss))
    (s : Selection) : Ref (simpleOf obj vars rec s) (simpleOf obj vars rec' s) := by
  cases s with
  | field alias name p args dirs sub =>
    exact ref_bind (ref_refl _) fun skipped => ref_bind_same (ref_fieldTree h) _
  | spread => exact ref_refl _
  | inline => exact ref_refl _

theorem ref_fragTail (vars : List (Name × Bool)) (dirs : List Directive)
    {a a' : Except Panic (List Tagged)} (h : Ref a a') :
    Ref (a >>= fun fs => checkSkip vars dirs >>= fun b => if b then .ok (toEmpty fs) else .ok fs)
      (a' >>= fun fs => checkSkip vars dirs >>= fun b => if b then .ok (toEmpty fs) else .ok fs) :=
  ref_bind_same h _

theorem ref_fragOf {cnd : Cond}
    {recF recF' : List Selection → Except Panic (List Tagged)} (h : ∀ ss, Ref (recF ss) (recF' ss)) (s : Selection) :
    Ref (fragOf S F cnd recF s) (fragOf S F cnd recF' s) := by
  cases s with
  | field => exact ref_refl _
  | spread n np dirs p =>
    simp only [fragOf]
    cases F n with
    | none => exact ref_refl _
    | some fd => exact ref_bind (ref_refl _) fun b => ref_ite _ (ref_fragTail cnd.vars dirs (h _)) (ref_refl _)
  | inline cond dirs sub p =>
    cases cond with
    | none => exact ref_fragTail cnd.vars dirs (h _)
    | some cc => exact ref_bind (ref_refl _) fun b => ref_ite _ (ref_fragTail cnd.vars dirs (h _)) (ref_refl _)

theorem implTree_zero (mf : Nat) (ty : GType) (ss : List Selection) :
    implTree S F mf 0 ty ss = .error .outOfFuel := by rw [implTree]

theorem fieldsFor_zero (mf : Nat) (c : Cond) (ss : List Selection) :
    fieldsFor S F mf 0 c ss = .error .outOfFuel := by rw [fieldsFor]

section
variable {mf mf' : Nat} (hmf : mf ≤ mf') {f f' : Nat}
  (ihF : ∀ c ss, Ref (fieldsFor S F mf f c ss) (fieldsFor S F mf' f' c ss))
include hmf ihF

theorem ref_branchOf (ss : List Selection) (cnd : Cond) :
    Ref (branchOf S F mf f ss cnd) (branchOf S F mf' f' ss cnd) :=
  ref_bind (ihF cnd ss) fun _ => ref_bind (ref_deepMerge hmf _) fun _ => ref_bind_same (ref_deepMerge hmf _) _

theorem ref_mkBranches (ss : List Selection) (n : Name) :
    Ref (mkBranches S F mf f ss n) (mkBranches S F mf' f' ss n) :=
  ref_bind (ref_branchConds hmf ss n) fun conds => ref_mapM conds fun cnd _ => ref_branchOf hmf ihF ss cnd

theorem ref_implTree_step (ty : GType) (ss : List Selection) :
    Ref (implTree S F mf (f + 1) ty ss) (implTree S F mf' (f' + 1) ty ss) := by
  rw [implTree_succ, implTree_succ]
  exact ref_wrapTree (ref_mkBranches hmf ihF ss) ty

omit hmf in
theorem ref_fieldsFor_step (ihI : ∀ ty ss, Ref (implTree S F mf f ty ss) (implTree S F mf' f' ty ss)) (c : Cond)
    (ss : List Selection) : Ref (fieldsFor S F mf (f + 1) c ss) (fieldsFor S F mf' (f' + 1) c ss) := by
  rw [fieldsFor_succ, fieldsFor_succ]
  -- in both cases the object is bound first (`.ok t` or the panic), then the two closures run
  cases S.typeDef? c.obj.name <;> exact ref_bind (ref_refl _) fun obj =>
    ref_bind (ref_filterMapM ss fun s _ => ref_simpleOf ihI s) fun _ =>
      ref_bind_same (ref_mapM ss fun s _ => ref_fragOf (ihF c) s) _

end

theorem ref_impl {mf mf' : Nat} (hmf : mf ≤ mf') : ∀ (f f' : Nat), f ≤ f' →
    (∀ ty ss, Ref (implTree S F mf f ty ss) (implTree S F mf' f' ty ss)) ∧
    (∀ c ss, Ref (fieldsFor S F mf f c ss) (fieldsFor S F mf' f' c ss))
  | 0, _, _ => ⟨fun ty ss => implTree_zero mf ty ss ▸ ref_oof _, fun c ss => fieldsFor_zero mf c ss ▸ ref_oof _⟩
  | _ + 1, 0, h => absurd h (Nat.not_succ_le_zero _)
  | f + 1, m + 1, h =>
    have ⟨ihI, ihF⟩ := ref_impl hmf f m (Nat.le_of_succ_le_succ h)
    ⟨ref_implTree_step hmf ihF, ref_fieldsFor_step ihF ihI⟩

theorem ref_implTree {mf mf' f f' : Nat} (hmf : mf ≤ mf') (hf : f ≤ f') (ty : GType)
    (ss : List Selection) : Ref (implTree S F mf f ty ss) (implTree S F mf' f' ty ss) :=
  (ref_impl hmf f f' hf).1 ty ss

theorem implTree_ok_or_outOfFuel {mf mf' f f' : Nat} (hmf : mf ≤ mf') (hf : f ≤ f')
    (ty : GType) (ss : List Selection) (h : ∃ T, implTree S F mf' f' ty ss = .ok T) :
    (∃ T, implTree S F mf f ty ss = .ok T) ∨ implTree S F mf f ty ss = .error .outOfFuel := by
  rcases ref_implTree hmf hf ty ss with h1 | h1
  · exact Or.inr h1
  · exact Or.inl (h1 ▸ h)

end NitroVerif.Stages
