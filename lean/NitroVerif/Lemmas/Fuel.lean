/-!
Two facts about a property `P n` of a fuel (a depth, a number of rounds) that survives one more unit: it survives any
number more, and finitely many such properties hold at one common fuel.
-/
namespace NitroVerif

theorem fuel_mono_le {P : Nat → Prop} (mono : ∀ n, P n → P (n + 1)) {n m : Nat} (h : P n) (hle : n ≤ m) : P m := by
  induction hle with
  | refl => exact h
  | step _ ih => exact mono _ ih

theorem exists_common_fuel {α : Type} (l : List α) (P : α → Nat → Prop) (mono : ∀ a n, P a n → P a (n + 1))
    (h : ∀ a ∈ l, ∃ n, P a n) : ∃ n, ∀ a ∈ l, P a n := by
  induction l with
  | nil => exact ⟨0, fun _ h => by cases h⟩
  | cons a r ih =>
    obtain ⟨n1, h1⟩ := h a List.mem_cons_self
    obtain ⟨n2, h2⟩ := ih (fun b hb => h b (List.mem_cons_of_mem _ hb))
    refine ⟨max n1 n2, ?_⟩
    intro b hb
    rcases List.mem_cons.1 hb with rfl | hb
    · exact fuel_mono_le (mono b) h1 (Nat.le_max_left _ _)
    · exact fuel_mono_le (mono b) (h2 b hb) (Nat.le_max_right _ _)

/-- the guard need not be decidable -/
theorem exists_common_fuel_guard {α : Type} (l : List α) (G : α → Prop) (P : α → Nat → Prop)
    (mono : ∀ a n, P a n → P a (n + 1)) (h : ∀ a ∈ l, G a → ∃ n, P a n) : ∃ n, ∀ a ∈ l, G a → P a n := by
  classical
  have := exists_common_fuel l (fun a n => G a → P a n) (fun a n hp hg => mono a n (hp hg))
    (fun a ha => by
      by_cases hg : G a
      · obtain ⟨n, hn⟩ := h a ha hg; exact ⟨n, fun _ => hn⟩
      · exact ⟨0, fun hg' => absurd hg' hg⟩)
  exact this

end NitroVerif
