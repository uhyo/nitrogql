/-
Input object and union type definitions:
`InputObjectTypeDefinition = { Description? ~ KEYWORD_input ~ Name ~ Directives? ~ InputFieldsDefinition |
  Description? ~ KEYWORD_input ~ Name ~ Directives? ~ !"{" }`,
`UnionTypeDefinition = { Description? ~ KEYWORD_union ~ Name ~ Directives? ~ "=" ~ UnionMemberTypes? }`.
-/
import NitroVerif.Lemmas.ParseDocTsDefScalarEnum
import NitroVerif.Lemmas.ParseDocTsNames
namespace NitroVerif.DocParse
open NitroVerif.Peg NitroVerif.Gen NitroVerif.Gen.Parts NitroVerif.Build NitroVerif.TypeParse NitroVerif.StringParse
open NitroVerif.Gql NitroVerif.ValueParse NitroVerif.Spec.Lex NitroVerif.ParseText

variable {inp : List Char}

def rInputDef (τ : Trivia) (sep : Bool) (p : Nat) (t : TypeDef) : List Char :=
  let tH := rDefHead τ (sep && t.inputs.isEmpty && t.dirs.isEmpty) p t.desc (kindKw .input) t.name
  let tD := rDirs τ (sep && t.inputs.isEmpty) (p + tH.length) t.dirs
  tH ++ (tD ++ rOptInputs τ sep (p + tH.length + tD.length) t.inputs)

def wpInputDef (τ : Trivia) (inp : List Char) (sep : Bool) (p : Nat) (t : TypeDef) : TypeDef :=
  let tH := rDefHead τ (sep && t.inputs.isEmpty && t.dirs.isEmpty) p t.desc (kindKw .input) t.name
  let tD := rDirs τ (sep && t.inputs.isEmpty) (p + tH.length) t.dirs
  { kind := .input, desc := t.desc, name := t.name, namePos := posAt inp (dhOffN τ p t.desc (kindKw .input)),
    dirs := wpDirs τ inp (sep && t.inputs.isEmpty) (p + tH.length) t.dirs,
    inputs := wpIVDs τ inp (p + tH.length + tD.length + (tk τ false (p + tH.length + tD.length) ['{']).length) t.inputs,
    pos := posAt inp (dhOffK τ p t.desc) }

theorem buildTypeDefinition_input {ctx : Ctx} {fuel : Nat} (p e p' e' : Nat) {cs : List Pair}
    {desc dirs fields : Option Pair} {kw name : Pair} {d : Option String} {ds : List Directive} {vs : List InputValueDef}
    (hm : matchParts P_InputObjectTypeDefinition cs = .ok [desc, some kw, some name, dirs, fields])
    (h1 : optDesc ctx desc = .ok d) (h2 : optDirs ctx fuel dirs = .ok ds) (h3 : optInputFields ctx fuel fields = .ok vs) :
    buildTypeDefinition ctx fuel (.mk R.TypeDefinition p e [.mk R.InputObjectTypeDefinition p' e' cs]) =
      .ok { kind := .input, desc := d, name := asString ctx name, namePos := toPos ctx name, dirs := ds, inputs := vs,
            pos := toPos ctx kw } := by
  simp [buildTypeDefinition, onlyChildOf, onlyChild, Pair.children, OC_TypeDefinition, Pair.rule, hm, h1, h2, h3, bind,
    Except.bind, R.ScalarTypeDefinition, R.ObjectTypeDefinition, R.InterfaceTypeDefinition, R.UnionTypeDefinition,
    R.EnumTypeDefinition, R.InputObjectTypeDefinition]

theorem inputDefT (τ : Trivia) (hτ : ∀ q, Ws (τ q)) (t : TypeDef) (hname : validName t.name.toList)
    (hdirs : WFDirs t.dirs) (hvals : ∀ v ∈ t.inputs, WFIVD v) {sep : Bool} {p : Nat}
    (h : HasAt inp p (rInputDef τ sep p t)) (hn : Nxt inp tdBad sep (p + (rInputDef τ sep p t).length)) :
    KindDefOk inp R.InputObjectTypeDefinition p (rInputDef τ sep p t) (wpInputDef τ inp sep p t) := by
  simp only [rInputDef, wpInputDef] at h hn ⊢
  have n2 := hn.app.app
  obtain ⟨oV, V, n1⟩ := optInputFieldsT τ hτ t.inputs hvals (by decide) h.right.right n2
  obtain ⟨oD, D, n0⟩ := optDirsT τ hτ t.dirs hdirs (by decide) (by decide) h.right.left n1
  obtain ⟨oS, prK, prN, H⟩ := defHeadF hτ (look_kindKw .input) (kindKw_valid .input) t.desc t.name hname h.left n0
  obtain ⟨e, rR⟩ := kindBodyK H.front (rule := R.InputObjectTypeDefinition) rfl (·.mono (Nat.le_succ _)) D (fun _ => D.part)
    (V.mono (by decide)) (by decide) n2
  refine ⟨_, fun e' => ⟨rR.mono (by decide), rfl, rfl, fun fuel hf => ?_⟩⟩
  refine (buildTypeDefinition_input _ _ _ _ (matchParts_slots P_InputObjectTypeDefinition [oS, some prK, some prN, oD, oV]
    (by decide) ⟨H.descRule, ⟨_, rfl, H.kwRule⟩, ⟨_, rfl, H.nameRule⟩, D.rule, V.rule, trivial⟩) H.descB
    (D.build fuel (fuel_left (fuel_right hf))) (V.build fuel (fuel_right (fuel_right hf)))).trans ?_
  rw [H.name, H.namePos, H.kwPos]

def rUnionDef (τ : Trivia) (sep : Bool) (p : Nat) (t : TypeDef) : List Char :=
  let tH := rDefHead τ false p t.desc (kindKw .union) t.name
  let tD := rDirs τ false (p + tH.length) t.dirs
  let tE := tk τ false (p + tH.length + tD.length) ['=']
  tH ++ (tD ++ (tE ++ rNames τ '|' sep (p + tH.length + tD.length + tE.length) t.members))

def wpUnionDef (τ : Trivia) (inp : List Char) (sep : Bool) (p : Nat) (t : TypeDef) : TypeDef :=
  let tH := rDefHead τ false p t.desc (kindKw .union) t.name
  let tD := rDirs τ false (p + tH.length) t.dirs
  let tE := tk τ false (p + tH.length + tD.length) ['=']
  { kind := .union, desc := t.desc, name := t.name, namePos := posAt inp (dhOffN τ p t.desc (kindKw .union)),
    dirs := wpDirs τ inp false (p + tH.length) t.dirs,
    members := wpNames τ inp '|' sep (p + tH.length + tD.length + tE.length) t.members,
    pos := posAt inp (dhOffK τ p t.desc) }

theorem drop_app {p : Nat} {a b : List Char} : inp.drop (p + (a ++ b).length) = inp.drop (p + a.length + b.length) := by
  rw [List.length_append, Nat.add_assoc]

/-- a word that does not stand behind an optional piece `R` beginning with another character does not stand at `R` -/
theorem matchStr_none_before {x y : Char} {xs R : List Char} {q : Nat} (hat : HasAt inp q R)
    (hR : R = [] ∨ Hd (· = y) R) (hxy : y ≠ x) (h : R = [] → matchStr (x :: xs) (inp.drop (q + R.length)) = none) :
    matchStr (x :: xs) (inp.drop q) = none := by
  rcases hR with rfl | hR
  · exact h rfl
  · exact matchStr_none_of_head (headNot_of_hd hat hR (by rintro c rfl; exact hxy))

theorem buildTypeDefinition_union {ctx : Ctx} {fuel : Nat} (p e p' e' : Nat) {cs : List Pair}
    {desc dirs members : Option Pair} {kw name : Pair} {d : Option String} {ds : List Directive} {ms : List (Name × Pos)}
    (hm : matchParts P_UnionTypeDefinition cs = .ok [desc, some kw, some name, dirs, members])
    (h1 : optDesc ctx desc = .ok d) (h2 : optDirs ctx fuel dirs = .ok ds)
    (h3 : namedTypeIdents ctx AC_UnionMemberTypes members = .ok ms) :
    buildTypeDefinition ctx fuel (.mk R.TypeDefinition p e [.mk R.UnionTypeDefinition p' e' cs]) =
      .ok { kind := .union, desc := d, name := asString ctx name, namePos := toPos ctx name, dirs := ds, members := ms,
            pos := toPos ctx kw } := by
  simp [buildTypeDefinition, onlyChildOf, onlyChild, Pair.children, OC_TypeDefinition, Pair.rule, hm, h1, h2, h3, bind,
    Except.bind, R.ScalarTypeDefinition, R.ObjectTypeDefinition, R.InterfaceTypeDefinition, R.UnionTypeDefinition]

/-- a union type definition whose member list is any text `tM` that the `UnionMemberTypes` rule reads as `wM` -/
theorem unionDefG (τ : Trivia) (hτ : ∀ q, Ws (τ q)) (t : TypeDef) (hname : validName t.name.toList)
    (hdirs : WFDirs t.dirs) {sep : Bool} {p : Nat} (tM : List Char) (wM : List (Name × Pos)) :
    let tH := rDefHead τ false p t.desc (kindKw .union) t.name
    let tD := rDirs τ false (p + tH.length) t.dirs
    let tE := tk τ false (p + tH.length + tD.length) ['=']
    Hd (fun d => ¬ trivia d) tM →
    (HasAt inp (p + tH.length + tD.length + tE.length) tM →
      Nxt inp tdBad sep (p + tH.length + tD.length + tE.length + tM.length) →
      ∃ pr, Reads inp 50 R.UnionMemberTypes (p + tH.length + tD.length + tE.length) tM
        (fun _ pr => namedTypeIdents (Ctx.spec inp) AC_UnionMemberTypes (some pr)) wM pr) →
    HasAt inp p (tH ++ (tD ++ (tE ++ tM))) → Nxt inp tdBad sep (p + (tH ++ (tD ++ (tE ++ tM))).length) →
    KindDefOk inp R.UnionTypeDefinition p (tH ++ (tD ++ (tE ++ tM)))
      { kind := .union, desc := t.desc, name := t.name, namePos := posAt inp (dhOffN τ p t.desc (kindKw .union)),
        dirs := wpDirs τ inp false (p + tH.length) t.dirs, members := wM, pos := posAt inp (dhOffK τ p t.desc) } := by
  intro tH tD tE hdM hM h hn
  have g1 := h.right.left
  have g2 := h.right.right.left
  have g3 := h.right.right.right
  have n2 : Nxt inp (fun c => c = '@' ∨ c = '(') false (p + tH.length + tD.length) :=
    Nxt.of_hd g2 (hd_tk (hd_cons (P := (· = '=')) _ rfl)) (by rintro c rfl; decide)
  obtain ⟨oD, D, n1⟩ := optDirsT τ hτ t.dirs hdirs (Or.inr rfl) (Or.inl rfl) g1 n2
  obtain ⟨oS, prK, prN, H⟩ := defHeadF hτ (look_kindKw .union) (kindKw_valid .union) t.desc t.name hname h.left n1
  have rE := strP hτ ['='] g2 (tok_of_hd g3 hdM (fun _ h => h))
  obtain ⟨prM, M⟩ := hM g3 hn.app.app.app
  obtain ⟨e, rR⟩ := PartT.rule (r := R.UnionTypeDefinition) rfl (H.front.part (D.part.seq (rE.seq M.part.opt_some)))
  refine ⟨_, fun e' => ⟨rR.mono (by decide), rfl, rfl, fun fuel hf => ?_⟩⟩
  refine (buildTypeDefinition_union _ _ _ _ (matchParts_slots P_UnionTypeDefinition
    [oS, some prK, some prN, oD, some prM] (by decide)
    ⟨H.descRule, ⟨_, rfl, H.kwRule⟩, ⟨_, rfl, H.nameRule⟩, D.rule, fun x hx => by cases hx; exact M.rule, trivial⟩)
    H.descB (D.build fuel (fuel_left (fuel_right hf))) (M.build _ (Nat.le_refl _))).trans ?_
  rw [H.name, H.namePos, H.kwPos]

theorem unionDefT (τ : Trivia) (hτ : ∀ q, Ws (τ q)) (t : TypeDef) (hname : validName t.name.toList)
    (hdirs : WFDirs t.dirs) (hmem : t.members ≠ []) (hmv : ∀ x ∈ t.members, validName x.1.toList) {sep : Bool} {p : Nat}
    (h : HasAt inp p (rUnionDef τ sep p t)) (hn : Nxt inp tdBad sep (p + (rUnionDef τ sep p t).length)) :
    KindDefOk inp R.UnionTypeDefinition p (rUnionDef τ sep p t) (wpUnionDef τ inp sep p t) := by
  obtain ⟨m, ms, hms⟩ := List.exists_cons_of_ne_nil hmem
  rw [hms] at hmv
  refine unionDefG τ hτ t hname hdirs _ _ ?_ ?_ h hn
  · rw [hms]
    exact (Hd.append (hd_tk (hd_of_validName (hmv m (List.mem_cons_self ..)))) _).mono fun _ => nameStart_not_trivia
  · rw [hms]
    exact membersT τ hτ m ms hmv (Or.inr (Or.inr (Or.inr (Or.inr (Or.inl rfl)))))

end NitroVerif.DocParse
