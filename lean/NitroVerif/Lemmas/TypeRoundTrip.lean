/-
render ∘ parse for the `Type` sub-language (helper lemmas for Props/C07): for every well-formed `GType`, running the
GENERATED grammar's `Type` rule on its canonical rendering yields exactly the expected pair tree, for every depth
bound above a bound that is linear in the length of the text.
-/
import NitroVerif.Lemmas.ParseLex
import NitroVerif.Gql.Ast
namespace NitroVerif.TypeParse
open NitroVerif.Peg NitroVerif.Gen NitroVerif.Build NitroVerif.Gql NitroVerif.ValueParse

/-- canonical rendering (no trivia) -/
def renderT : GType → List Char
  | .named n _ => n.toList
  | .list t _ => '[' :: (renderT t ++ [']'])
  | .nonNull t => renderT t ++ ['!']

/-- types the grammar can express: valid names, no `!!` -/
def WF : GType → Prop
  | .named n _ => validName n.toList
  | .list t _ => WF t
  | .nonNull t => WF t ∧ t.isNonNull = false

def innerRule : GType → RuleId
  | .named _ _ => R.NamedType
  | .list _ _ => R.ListType
  | .nonNull _ => R.NonNullType

/-- the pair tree of the NamedType / ListType / NonNullType node of `t` rendered at offset `p` -/
def innerPair : GType → Nat → Pair
  | .named n _, p => .mk R.NamedType p (p + n.toList.length) [.mk R.Name p (p + n.toList.length) []]
  | .list t _, p => .mk R.ListType p (p + ((renderT t).length + 2))
      [.mk R.«Type» (p + 1) (p + 1 + (renderT t).length) [innerPair t (p + 1)]]
  | .nonNull t, p => .mk R.NonNullType p (p + ((renderT t).length + 1)) [innerPair t p]

def typePair (t : GType) (p : Nat) : Pair := .mk R.«Type» p (p + (renderT t).length) [innerPair t p]

/-- depth bounds: linear in the nesting depth plus the length of the name -/
def Kin : GType → Nat
  | .named n _ => n.toList.length + 14
  | .list t _ => Kin t + 60
  | .nonNull t => Kin t + 30
def Kty (t : GType) : Nat := Kin t + 30

/-- what may follow a type: the end of the input or `]` -/
def TypeEnd (rest : List Char) : Prop := rest = [] ∨ ∃ r, rest = ']' :: r

def InnerEnd : GType → List Char → Prop
  | .named _ _, rest => HeadNot nameCont rest
  | _, _ => True

theorem headNot_of_typeEnd {P : Char → Prop} (hP : ¬ P ']') {rest : List Char} (h : TypeEnd rest) : HeadNot P rest := by
  intro d r he hd
  rcases h with rfl | ⟨r', rfl⟩
  · cases he
  · cases he; exact hP hd

theorem head_of_render {t : GType} (h : WF t) :
    ∃ d r, renderT t = d :: r ∧ (nameStart d ∨ d = '[') := by
  induction t with
  | named n pos =>
    simp only [renderT]
    cases hn : n.toList with
    | nil => simp [WF, hn, validName] at h
    | cons d ds => simp only [WF, hn, validName] at h; exact ⟨d, ds, rfl, Or.inl h.1⟩
  | list t pos _ => exact ⟨'[', _, rfl, Or.inr rfl⟩
  | nonNull t ih =>
    obtain ⟨d, r, hr, hd⟩ := ih h.1
    exact ⟨d, r ++ ['!'], by simp [renderT, hr], hd⟩

theorem render_headNot_trivia {t : GType} (h : WF t) (x : List Char) : HeadNot trivia (renderT t ++ x) := by
  obtain ⟨d, r, hr, hd⟩ := head_of_render h
  rw [hr]
  refine headNot_cons ?_ _
  rcases hd with hd | rfl
  · exact nameStart_not_trivia hd
  · decide

theorem namedType_fails {p rest} (h : HeadNot nameStart rest) : FailsRule gList 11 R.NamedType .nonAtomic ⟨p, rest⟩ :=
  failsRuleL_of_call (sk := true) (first_fails_letter (by decide) h (headNot_mono (fun _ => Or.inl) h))

theorem listType_fails {p rest} (h : HeadNot (· = '[') rest) : FailsRule gList 3 R.ListType .nonAtomic ⟨p, rest⟩ :=
  failsRuleL_of_call (sk := true) (first_fails (by decide) h)

theorem bang_fails {p rest} (h : HeadNot (· = '!') rest) (sk : Bool) :
    Fails gList 1 sk (.str ['!']) .nonAtomic ⟨p, rest⟩ := fails_str (c := ⟨p, rest⟩) (matchStr_none_of_head h)

theorem namedType_runs {n : List Char} (hn : validName n) (p : Nat) (rest : List Char) (hr : HeadNot nameCont rest) :
    RunsRule gList (n.length + 14) R.NamedType .nonAtomic ⟨p, n ++ rest⟩ ⟨p + n.length, rest⟩
      [.mk R.NamedType p (p + n.length) [.mk R.Name p (p + n.length) []]] :=
  runsRule_normal look_NamedType (notSpecial (by decide) (by decide)) (runs_call (name_runs hn p rest hr))

abbrev TypeRunsAt (t : GType) : Prop := ∀ p rest, TypeEnd rest →
  RunsRule gList (Kty t) R.«Type» .nonAtomic ⟨p, renderT t ++ rest⟩ ⟨p + (renderT t).length, rest⟩ [typePair t p]
abbrev InnerRunsAt (t : GType) : Prop := ∀ p rest, InnerEnd t rest →
  RunsRule gList (Kin t) (innerRule t) .nonAtomic ⟨p, renderT t ++ rest⟩ ⟨p + (renderT t).length, rest⟩ [innerPair t p]

theorem kin_ge (t : GType) : 14 ≤ Kin t := by
  induction t with
  | named n pos => simp [Kin]
  | list t pos ih => simp only [Kin]; omega
  | nonNull t ih => simp only [Kin]; omega

theorem listType_runs (t : GType) (pos : Pos) (hwf : WF t) (ihT : TypeRunsAt t) : InnerRunsAt (.list t pos) := by
  intro p rest _
  have e : renderT (.list t pos) ++ rest = '[' :: (renderT t ++ ']' :: rest) := by simp [renderT]
  rw [e]
  have h1 : Runs gList 1 true (.str ['[']) .nonAtomic ⟨p, '[' :: (renderT t ++ ']' :: rest)⟩
      ⟨p + 1, renderT t ++ ']' :: rest⟩ [] := runs_str (c := ⟨p, '[' :: (renderT t ++ ']' :: rest)⟩) (by simp [matchStr])
  have s1 := skipTo_noop (p := p + 1) (render_headNot_trivia hwf (']' :: rest))
  have hT := runs_call (sk := true) (ihT (p + 1) (']' :: rest) (Or.inr ⟨rest, rfl⟩))
  have s2 := skipTo_noop (p := p + 1 + (renderT t).length) (rest := ']' :: rest) (headNot_cons (by decide) _)
  have h3 : Runs gList 1 true (.str [']']) .nonAtomic ⟨p + 1 + (renderT t).length, ']' :: rest⟩
      ⟨p + 1 + (renderT t).length + 1, rest⟩ [] :=
    runs_str (c := ⟨p + 1 + (renderT t).length, ']' :: rest⟩) (by simp [matchStr])
  have hK : Kty t = Kin t + 30 := rfl
  have rule := (runsRule_normal look_ListType (notSpecial (by decide) (by decide))
    (runs_seq_skip' h1 s1 (runs_seq_skip' hT s2 h3))).mono (m := Kin t + 60) (by omega)
  refine RunsRule.cast rule rfl ?_ ?_
  · simp [renderT]; omega
  · simp [innerPair, typePair]; omega

theorem typeRule_of_inner_nonNull (t : GType) (hin : InnerRunsAt (.nonNull t)) : TypeRunsAt (.nonNull t) := by
  intro p rest _
  have rule := (runsRule_normal look_Type (notSpecial (by decide) (by decide))
    (runs_choice_l (runs_call (sk := true) (hin p rest trivial)))).mono (m := Kin (.nonNull t) + 30) (by omega)
  exact RunsRule.cast rule rfl rfl (by simp [typePair])

theorem bang_seq_fails {n : Nat} {r : RuleId} {c : Cur} {p : Nat} {rest : List Char} {ps : List Pair}
    (h : RunsRule gList n r .nonAtomic c ⟨p, rest⟩ ps) (hr : TypeEnd rest) :
    Fails gList (max (n + 1) (max 20 1) + 1) true (.seq (.call r) (.str ['!'])) .nonAtomic c :=
  fails_seq_skip_last' (runs_call h) (skipTo_noop (headNot_of_typeEnd (by decide) hr))
    (bang_fails (headNot_of_typeEnd (by decide) hr) true)

theorem nonNull_fails_named {n : List Char} (hn : validName n) (p : Nat) (rest : List Char) (hr : TypeEnd rest) :
    FailsRule gList (n.length + 23) R.NonNullType .nonAtomic ⟨p, n ++ rest⟩ := by
  have hhead : HeadNot (· = '[') (n ++ rest) := by
    cases n with
    | nil => exact absurd hn id
    | cons d ds => exact headNot_cons (by rintro rfl; exact absurd hn.1 (by decide)) _
  exact (failsRule_normal look_NonNullType (notSpecial (by decide) (by decide))
    (fails_choice' (bang_seq_fails (namedType_runs hn p rest (headNot_of_typeEnd (by decide) hr)) hr)
      (fails_seq_first (fails_call (listType_fails hhead))))).mono (by omega)

theorem typeRule_named (n : Name) (pos : Pos) (hwf : WF (.named n pos)) : TypeRunsAt (.named n pos) := by
  intro p rest hr
  have hn : validName n.toList := hwf
  have rule := (runsRule_normal look_Type (notSpecial (by decide) (by decide))
    (runs_choice_r' (fails_call (nonNull_fails_named hn p rest hr)) (runs_choice_l (b := .call R.ListType)
      (runs_call (sk := true) (namedType_runs hn p rest (headNot_of_typeEnd (by decide) hr)))))).mono
        (m := n.toList.length + 14 + 30) (by omega)
  exact RunsRule.cast rule rfl rfl (by simp [typePair, innerPair, renderT])

theorem typeRule_list (t : GType) (pos : Pos) (hin : InnerRunsAt (.list t pos)) : TypeRunsAt (.list t pos) := by
  intro p rest hr
  have hL := hin p rest trivial
  have hk := kin_ge (.list t pos)
  have hhead : HeadNot nameStart (renderT (.list t pos) ++ rest) := headNot_cons (by decide) _
  -- NonNullType fails: `NamedType "!"` fails at `[`, `ListType "!"` fails at the end (no `!`)
  have hNN := fails_call (sk := true) (failsRule_normal look_NonNullType (notSpecial (by decide) (by decide))
    (fails_choice' (fails_seq_first (fails_call (namedType_fails (p := p) hhead))) (bang_seq_fails hL hr)))
  have rule := (runsRule_normal look_Type (notSpecial (by decide) (by decide)) (runs_choice_r' hNN
    (runs_choice_r' (fails_call (namedType_fails (p := p) hhead)) (runs_call (sk := true) hL)))).mono
      (m := Kin (.list t pos) + 30) (by omega)
  exact RunsRule.cast rule rfl rfl (by simp [typePair])

theorem nonNull_runs (t : GType) (hwf : WF (.nonNull t)) (ihI : InnerRunsAt t) : InnerRunsAt (.nonNull t) := by
  intro p rest _
  have e : renderT (.nonNull t) ++ rest = renderT t ++ '!' :: rest := by simp [renderT]
  rw [e]
  have hk := kin_ge t
  have s := skipTo_noop (p := p + (renderT t).length) (rest := '!' :: rest) (headNot_cons (by decide) _)
  have hb : Runs gList 1 true (.str ['!']) .nonAtomic ⟨p + (renderT t).length, '!' :: rest⟩
      ⟨p + (renderT t).length + 1, rest⟩ [] :=
    runs_str (c := ⟨p + (renderT t).length, '!' :: rest⟩) (by simp [matchStr])
  cases t with
  | named n pos =>
    have hI := runs_call (sk := true) (ihI p ('!' :: rest) (headNot_cons (by decide) _))
    have rule := (runsRule_normal look_NonNullType (notSpecial (by decide) (by decide))
      (runs_choice_l (b := .seq (.call R.ListType) (.str ['!'])) (runs_seq_skip' hI s hb))).mono
        (m := Kin (.named n pos) + 30) (by omega)
    refine RunsRule.cast rule rfl ?_ ?_
    · simp [renderT]; omega
    · simp [innerPair, renderT]; omega
  | list t' pos =>
    have hI := runs_call (sk := true) (ihI p ('!' :: rest) trivial)
    have hhead : HeadNot nameStart (renderT (.list t' pos) ++ '!' :: rest) := headNot_cons (by decide) _
    have rule := (runsRule_normal look_NonNullType (notSpecial (by decide) (by decide))
      (runs_choice_r' (fails_seq_first (fails_call (namedType_fails (p := p) hhead))) (runs_seq_skip' hI s hb))).mono
        (m := Kin (.list t' pos) + 30) (by omega)
    refine RunsRule.cast rule rfl ?_ ?_
    · simp [renderT]; omega
    · simp [innerPair, renderT]; omega
  | nonNull t' => simp [WF, GType.isNonNull] at hwf

theorem type_runs : ∀ (t : GType), WF t → InnerRunsAt t ∧ TypeRunsAt t := by
  intro t
  induction t with
  | named n pos =>
    intro hwf
    refine ⟨?_, typeRule_named n pos hwf⟩
    intro p rest hr
    exact (namedType_runs (show validName n.toList from hwf) p rest hr)
  | list t pos ih =>
    intro hwf
    have hin := listType_runs t pos hwf (ih hwf).2
    exact ⟨hin, typeRule_list t pos hin⟩
  | nonNull t ih =>
    intro hwf
    have hin := nonNull_runs t hwf (ih hwf.1).1
    exact ⟨hin, typeRule_of_inner_nonNull t hin⟩

end NitroVerif.TypeParse
