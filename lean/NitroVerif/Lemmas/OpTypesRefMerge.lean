/-
C01/C02 refinement, model side, part 2: THE MERGE LEMMA.  `merge_selection_trees` (the repaired one: branches paired by
type name AND compatible assignments) maps trees related to the sets of selection sets `A` and `B` to a tree related to
`A ∪ B` — i.e. it denotes the merged selection set.
-/
import NitroVerif.Lemmas.OpTypesRefRel
namespace NitroVerif.OpTypes.Ref
open NitroVerif.Gql NitroVerif.Ts NitroVerif.Exec NitroVerif.OpTypes

theorem sigmaOf_eq (a : List (Name × Bool)) (x : Name) :
    sigmaOf a x = match a.find? (·.1 == x) with | some (_, b) => b | none => false := rfl

theorem find_key_mem {a : List (Name × Bool)} {x k : Name} {b : Bool} (h : a.find? (·.1 == x) = some (k, b)) :
    (k, b) ∈ a ∧ k = x := by
  refine ⟨List.mem_of_find?_eq_some h, ?_⟩
  have := List.find?_some h
  simpa using this

theorem find_none_iff {a : List (Name × Bool)} {x : Name} : a.find? (·.1 == x) = none ↔ a.any (·.1 == x) = false := by
  rw [List.find?_eq_none]
  constructor
  · intro h
    cases hany : a.any (·.1 == x) with
    | false => rfl
    | true =>
      obtain ⟨p, hp, hpx⟩ := List.any_eq_true.1 hany
      exact absurd hpx (h p hp)
  · intro h p hp hpx
    have : a.any (·.1 == x) = true := List.any_eq_true.2 ⟨p, hp, hpx⟩
    rw [h] at this; cases this

theorem sigmaOf_append_left {l r : List (Name × Bool)} {x : Name} (h : l.any (·.1 == x) = true) :
    sigmaOf (l ++ r) x = sigmaOf l x := by
  simp only [sigmaOf_eq, List.find?_append]
  cases hf : l.find? (·.1 == x) with
  | none => rw [find_none_iff.1 hf] at h; cases h
  | some p => simp

theorem sigmaOf_append_right {l r : List (Name × Bool)} {x : Name} (h : l.any (·.1 == x) = false) :
    sigmaOf (l ++ r) x = sigmaOf r x := by
  simp only [sigmaOf_eq, List.find?_append, find_none_iff.2 h, Option.none_or]

theorem find_congr {α : Type} {f g : α → Bool} : ∀ {l : List α}, (∀ p ∈ l, f p = g p) → l.find? f = l.find? g
  | [], _ => rfl
  | a :: l, h => by
    simp only [List.find?_cons, h a (by simp)]
    rw [find_congr (fun p hp => h p (List.mem_cons_of_mem _ hp))]

theorem sigmaOf_filter_key (q : Name → Bool) {r : List (Name × Bool)} {x : Name} (hq : q x = true) :
    sigmaOf (r.filter fun p => q p.1) x = sigmaOf r x := by
  simp only [sigmaOf_eq, List.find?_filter]
  rw [find_congr (g := fun p => p.1 == x)]
  intro p _
  by_cases hp : (p.1 == x) = true
  · have : p.1 = x := by simpa using hp
    simp [this, hq]
  · simp [hp]

/-- the assignments are compatible: no variable of `r` has another value in `l` -/
def Compat (l r : List (Name × Bool)) : Prop :=
  ∀ x ∈ r, ∀ k b, l.find? (·.1 == x.1) = some (k, b) → b = x.2

theorem unify_iff {l r v : List (Name × Bool)} :
    unifyVars l r = some v ↔ Compat l r ∧ v = l ++ r.filter fun x => !l.any (·.1 == x.1) := by
  unfold unifyVars
  constructor
  · intro h
    split at h
    · cases h
    · rename_i hc
      cases h
      refine ⟨?_, rfl⟩
      intro x hx k b hf
      have := fun hne => hc (List.any_eq_true.2 ⟨x, hx, hne⟩)
      simp only [hf] at this
      simpa using this
  · rintro ⟨hc, rfl⟩
    rw [if_neg]
    intro hany
    obtain ⟨x, hx, hFx⟩ := List.any_eq_true.1 hany
    cases hf : l.find? (·.1 == x.1) with
    | none => simp [hf] at hFx
    | some p =>
      obtain ⟨k, b⟩ := p
      simp only [hf] at hFx
      have := hc x hx k b hf
      simp [this] at hFx

theorem agree_unify {σ : Sigma} {l r v : List (Name × Bool)} (h : unifyVars l r = some v) :
    Agree σ v ↔ Agree σ l ∧ Agree σ r := by
  obtain ⟨hc, rfl⟩ := unify_iff.1 h
  constructor
  · intro hv
    refine ⟨fun p hp => hv p (List.mem_append.2 (Or.inl hp)), fun p hp => ?_⟩
    cases hf : l.find? (·.1 == p.1) with
    | none =>
      refine hv p (List.mem_append.2 (Or.inr (List.mem_filter.2 ⟨hp, ?_⟩)))
      simp [find_none_iff.1 hf]
    | some q =>
      obtain ⟨k, b⟩ := q
      obtain ⟨hm, hk⟩ := find_key_mem hf
      have := hv (k, b) (List.mem_append.2 (Or.inl hm))
      simp only at this
      rw [← hk, this, hc p hp k b hf]
  · rintro ⟨hl, hr⟩ p hp
    rcases List.mem_append.1 hp with hp | hp
    · exact hl p hp
    · exact hr p (List.mem_filter.1 hp).1

theorem unify_of_agree {σ : Sigma} {l r : List (Name × Bool)} (hl : Agree σ l) (hr : Agree σ r) :
    ∃ v, unifyVars l r = some v := by
  refine ⟨_, unify_iff.2 ⟨?_, rfl⟩⟩
  intro x hx k b hf
  obtain ⟨hm, hk⟩ := find_key_mem hf
  have h1 := hl (k, b) hm
  have h2 := hr x hx
  simp only at h1
  rw [← h1, hk, h2]

theorem consistent_unify {l r v : List (Name × Bool)} (hl : Agree (sigmaOf l) l) (hr : Agree (sigmaOf r) r)
    (h : unifyVars l r = some v) : Agree (sigmaOf v) v := by
  rw [agree_unify h]
  obtain ⟨hc, rfl⟩ := unify_iff.1 h
  constructor
  · intro p hp
    rw [sigmaOf_append_left (List.any_eq_true.2 ⟨p, hp, by simp⟩)]
    exact hl p hp
  · intro p hp
    cases hany : l.any (·.1 == p.1) with
    | true =>
      rw [sigmaOf_append_left hany]
      cases hf : l.find? (·.1 == p.1) with
      | none => rw [find_none_iff.1 hf] at hany; cases hany
      | some q =>
        obtain ⟨k, b⟩ := q
        rw [sigmaOf_eq, hf]
        exact hc p hp k b hf
    | false =>
      rw [sigmaOf_append_right hany, sigmaOf_filter_key (fun k => !l.any (·.1 == k)) (by simp [hany])]
      exact hr p hp

def SUnion (A B : SSet) : SSet := fun s => A s ∨ B s

theorem pu_union {c : Ctx} {A B : SSet} {o : Name} {inc : Inc} {t : FT} :
    PU c (SUnion A B) o inc t ↔ PU c A o inc t ∨ PU c B o inc t := by
  simp only [PU, SUnion]
  constructor
  · rintro ⟨s, (h | h), hin⟩
    · exact Or.inl ⟨s, h, hin⟩
    · exact Or.inr ⟨s, h, hin⟩
  · rintro (⟨s, h, hin⟩ | ⟨s, h, hin⟩)
    · exact ⟨s, Or.inl h, hin⟩
    · exact ⟨s, Or.inr h, hin⟩

theorem pu_left {c : Ctx} {A B : SSet} {o : Name} {inc : Inc} {t : FT} (h : PU c A o inc t) :
    PU c (SUnion A B) o inc t := pu_union.2 (Or.inl h)

theorem pu_right {c : Ctx} {A B : SSet} {o : Name} {inc : Inc} {t : FT} (h : PU c B o inc t) :
    PU c (SUnion A B) o inc t := pu_union.2 (Or.inr h)

theorem pEquiv_of_iff {c : Ctx} {Sb Sb' : SSet} (h : ∀ s, Sb s ↔ Sb' s) : PEquiv c Sb Sb' := by
  intro o inc t
  simp only [PU]
  constructor
  · rintro ⟨s, hs, hin⟩; exact ⟨s, (h s).1 hs, hin⟩
  · rintro ⟨s, hs, hin⟩; exact ⟨s, (h s).2 hs, hin⟩

variable {mt : SelTree → SelTree → Except Panic SelTree}

/-- one merged branch -/
def MergedOf (mt : SelTree → SelTree → Except Panic SelTree) (lb rb b : Branch) : Prop :=
  ∃ v U A, unifyVars lb.vars rb.vars = some v ∧ deepMergeWith mt (lb.unaliased ++ rb.unaliased) = .ok U ∧
    deepMergeWith mt (lb.aliased ++ rb.aliased) = .ok A ∧ b = .mk lb.typeName v U A

theorem mergeBranches_char {l r bs : List Branch}
    (h : mergeBranchesWith mt l r = .ok bs) :
    (∀ b ∈ bs, (∃ lb ∈ l, ∃ rb ∈ r, rb.typeName = lb.typeName ∧ MergedOf mt lb rb b) ∨
      (b ∈ l ∧ ∀ rb ∈ r, rb.typeName ≠ b.typeName) ∨ (b ∈ r ∧ ∀ lb ∈ l, lb.typeName ≠ b.typeName)) ∧
    (∀ lb ∈ l, ∀ rb ∈ r, rb.typeName = lb.typeName → ∀ v, unifyVars lb.vars rb.vars = some v →
      ∃ b ∈ bs, MergedOf mt lb rb b) := by
  simp only [mergeBranchesWith, bind, Except.bind] at h
  split at h
  · cases h
  · rename_i merged hm
    cases h
    have hall := mapM_all2 _ _ hm
    constructor
    · intro b hb
      rcases List.mem_append.1 hb with hb | hb
      · obtain ⟨bl, hbl, hbb⟩ := List.mem_flatten.1 hb
        obtain ⟨lb, hlb, hg⟩ := hall.right bl hbl
        split at hg
        · rename_i hempty
          cases hg
          simp only [List.mem_singleton] at hbb; subst hbb
          refine Or.inr (Or.inl ⟨hlb, fun rb hrb heq => ?_⟩)
          have : rb ∈ r.filter (·.typeName == b.typeName) := List.mem_filter.2 ⟨hrb, by simpa using heq⟩
          rw [List.isEmpty_iff.1 hempty] at this; cases this
        · obtain ⟨rs, hrs, rfl⟩ := filterMapM_all2 _ _ hg
          obtain ⟨ob, hob, hbo⟩ := List.mem_filterMap.1 hbb
          simp only [id] at hbo; subst hbo
          obtain ⟨rb, hrb, hh⟩ := hrs.right _ hob
          obtain ⟨hrbr, hty⟩ := List.mem_filter.1 hrb
          refine Or.inl ⟨lb, hlb, rb, hrbr, by simpa using hty, ?_⟩
          split at hh
          · cases hh
          · rename_i v hv
            cases hU : deepMergeWith mt (lb.unaliased ++ rb.unaliased) with
            | error e => simp [hU] at hh
            | ok U =>
              cases hA : deepMergeWith mt (lb.aliased ++ rb.aliased) with
              | error e => simp [hU, hA] at hh
              | ok A =>
                simp only [hU, hA] at hh
                cases hh
                exact ⟨v, U, A, hv, hU, hA, rfl⟩
      · obtain ⟨hbr, hnl⟩ := List.mem_filter.1 hb
        refine Or.inr (Or.inr ⟨hbr, fun lb hlb heq => ?_⟩)
        have : l.any (·.typeName == b.typeName) = true := List.any_eq_true.2 ⟨lb, hlb, by simpa using heq⟩
        simp [this] at hnl
    · intro lb hlb rb hrb hty v hv
      obtain ⟨bl, hbl, hg⟩ := hall.left lb hlb
      have hmem : rb ∈ r.filter (·.typeName == lb.typeName) := List.mem_filter.2 ⟨hrb, by simpa using hty⟩
      split at hg
      · rename_i hempty
        rw [List.isEmpty_iff.1 hempty] at hmem; cases hmem
      · obtain ⟨rs, hrs, rfl⟩ := filterMapM_all2 _ _ hg
        obtain ⟨ob, hob, hh⟩ := hrs.left rb hmem
        simp only [hv] at hh
        cases hU : deepMergeWith mt (lb.unaliased ++ rb.unaliased) with
        | error e => simp [hU] at hh
        | ok U =>
          cases hA : deepMergeWith mt (lb.aliased ++ rb.aliased) with
          | error e => simp [hU, hA] at hh
          | ok A =>
            simp only [hU, hA] at hh
            cases hh
            refine ⟨.mk lb.typeName v U A, ?_, v, U, A, hv, hU, hA, rfl⟩
            exact List.mem_append.2 (Or.inl (List.mem_flatten.2 ⟨_, hbl, List.mem_filterMap.2 ⟨_, hob, rfl⟩⟩))

/-! `RelField c tn σ Sb tag f` reads the set `Sb` only through two collections of occurrences: everything collected from it
(`PU c Sb tn allInc`) and what σ keeps (`PU c Sb tn (included σ)`).  With the two collections as parameters (`RelFieldP`)
the merge of the fields of one response key is ONE statement (`deepMerge_relP`), for the fields of two branches and for
the entries `get_fields_for_selection_set` lists alike. -/

theorem mergeAll_isEmpty : ∀ (rest : List SField) (g m : SField),
    mergeAll mt g rest = .ok m → m.isEmpty = (g.isEmpty && rest.all (·.isEmpty))
  | [], g, m, h => by simp only [mergeAll] at h; cases h; simp
  | f :: rest, g, m, h => by
    simp only [mergeAll] at h
    obtain ⟨y, hx, h⟩ := bind_ok h
    rw [mergeAll_isEmpty rest y m h, mergeFields_isEmpty hx]
    simp [Bool.and_assoc]

/-- what the merge of two trees has to satisfy -/
def MergeSpec (c : Ctx) (mt : SelTree → SelTree → Except Panic SelTree) : Prop :=
  ∀ T1 T2 T ty A B, mt T1 T2 = .ok T → RelTree c T1 ty A → RelTree c T2 ty B →
    (∀ d, Coh c d (SUnion A B) ty.unwrapped) → RelTree c T ty (SUnion A B)

/-- `RelField` over two collections of occurrences: `Pall` = every occurrence, `Pinc` = those kept under the assignment at
    hand -/
def RelFieldP (c : Ctx) (tn : Name) (Pall Pinc : FT → Prop) (tag : Bool) : SField → Prop
  | .empty k => (∃ t, Pall t ∧ t.key = k ∧ t.aliased = tag) ∧ ∀ t, Pinc t → t.key ≠ k
  | .leaf k ty isTn => ∃ t, Pinc t ∧ t.key = k ∧ t.aliased = tag ∧
      if (t.name == "__typename") = true then isTn = true
      else isTn = false ∧ t.sub = none ∧ ∃ fd, c.S.field? tn t.name = some fd ∧ fd.ty = ty
  | .object k T => ∃ t fd, Pinc t ∧ t.key = k ∧ t.aliased = tag ∧ t.sub.isSome = true ∧
      (t.name == "__typename") = false ∧ c.S.field? tn t.name = some fd ∧ RelTree c T fd.ty (subOf Pinc k)

theorem relField_iffP {c : Ctx} {tn : Name} {σ : Sigma} {Sb : SSet} {tag : Bool} (f : SField) :
    RelField c tn σ Sb tag f ↔ RelFieldP c tn (PU c Sb tn allInc) (PU c Sb tn (included σ)) tag f := by
  cases f <;> simp only [RelField, RelFieldP] <;> exact Iff.rfl

/-- the union of the collections `P x` of the inputs `xs` -/
def anyOf {ι : Type} (P : ι → FT → Prop) (xs : List ι) : FT → Prop := fun t => ∃ x ∈ xs, P x t

theorem anyOf_snoc {ι : Type} {P : ι → FT → Prop} {xs : List ι} {x : ι} {t : FT} :
    anyOf P (xs ++ [x]) t ↔ anyOf P xs t ∨ P x t := by
  simp only [anyOf, List.mem_append, List.mem_singleton, or_and_right, exists_or, exists_eq_left]

section
variable {c : Ctx} {tn : Name} {tag : Bool}

theorem relFieldP_congr {A I A' I' : FT → Prop} {f : SField} (h : RelFieldP c tn A I tag f)
    (hA : ∀ t, A t → t.key = f.name → A' t) (hI : ∀ t, t.key = f.name → (I t ↔ I' t)) :
    RelFieldP c tn A' I' tag f := by
  have hsub : ∀ s, subOf I f.name s ↔ subOf I' f.name s := fun s =>
    ⟨fun ⟨t, ht, hk, hs⟩ => ⟨t, (hI t hk).1 ht, hk, hs⟩, fun ⟨t, ht, hk, hs⟩ => ⟨t, (hI t hk).2 ht, hk, hs⟩⟩
  cases f with
  | empty k =>
    obtain ⟨⟨t0, h0, hk0, ha0⟩, h2⟩ := h
    exact ⟨⟨t0, hA t0 h0 hk0, hk0, ha0⟩, fun t ht hk => h2 t ((hI t hk).2 ht) hk⟩
  | leaf k ty b =>
    obtain ⟨t, ht, hk, hr⟩ := h
    exact ⟨t, (hI t hk).1 ht, hk, hr⟩
  | object k T =>
    obtain ⟨t, fd, ht, hk, h2, h3, h4, h5, h6⟩ := h
    exact ⟨t, fd, (hI t hk).1 ht, hk, h2, h3, h4, h5, relTree_congr T fd.ty _ _ (pEquiv_of_iff hsub) h6⟩

theorem relFieldP_origin {A I : FT → Prop} {f : SField} (hIA : ∀ t, I t → A t) (h : RelFieldP c tn A I tag f) :
    ∃ t, A t ∧ t.key = f.name ∧ t.aliased = tag := by
  cases f with
  | empty k => exact h.1
  | leaf k ty b => obtain ⟨t, ht, hk, ha, _⟩ := h; exact ⟨t, hIA t ht, hk, ha⟩
  | object k T => obtain ⟨t, fd, ht, hk, ha, _⟩ := h; exact ⟨t, hIA t ht, hk, ha⟩

theorem relField_origin {σ : Sigma} {Sb : SSet} {f : SField} (h : RelField c tn σ Sb tag f) :
    ∃ t, PU c Sb tn allInc t ∧ t.key = f.name ∧ t.aliased = tag :=
  relFieldP_origin (fun _ => pu_all) ((relField_iffP f).1 h)

theorem relFieldP_nonempty {A I : FT → Prop} {f : SField} (h : RelFieldP c tn A I tag f) {t : FT} (ht : I t)
    (hk : t.key = f.name) : f.isEmpty = false := by
  cases f with
  | empty k => exact absurd hk (h.2 t ht)
  | _ => rfl

theorem CohIn.union {R I1 I2 : FT → Prop} (hR : CohIn c tn R) (hR1 : ∀ t, I1 t → R t) (hR2 : ∀ t, I2 t → R t)
    {t1 : FT} {fd : FieldDef} (ht1 : I1 t1) (hfd : c.S.field? tn t1.name = some fd) (k2 : Name) (hk : t1.key = k2) :
    ∀ d, Coh c d (SUnion (subOf I1 t1.key) (subOf I2 k2)) fd.ty.unwrapped := by
  intro d
  refine coh_subset d _ _ _ ?_ (hR.nest t1 fd (hR1 _ ht1) hfd d)
  rintro s (⟨t', ht', hk', hs'⟩ | ⟨t', ht', hk', hs'⟩)
  · exact ⟨t', hR1 _ ht', hk', hs'⟩
  · exact ⟨t', hR2 _ ht', by rw [hk', hk], hs'⟩

variable {mt : SelTree → SelTree → Except Panic SelTree}

theorem relFieldP_merge (HM : MergeSpec c mt) {A1 I1 A2 I2 R : FT → Prop} {f1 f2 m : SField}
    (h1 : RelFieldP c tn A1 I1 tag f1) (h2 : RelFieldP c tn A2 I2 tag f2) (hname : f1.name = f2.name)
    (hm : mergeFieldsWith mt f1 f2 = .ok m) (hR1 : ∀ t, I1 t → R t) (hR2 : ∀ t, I2 t → R t) (hR : CohIn c tn R) :
    RelFieldP c tn (fun t => A1 t ∨ A2 t) (fun t => I1 t ∨ I2 t) tag m := by
  rcases mergeFields_cases hm with ⟨rfl, he⟩ | ⟨rfl, he⟩ | ⟨n, t, b, n', t', b', rfl, rfl, rfl⟩ |
    ⟨n, l, n', r', T, rfl, rfl, hmt, rfl⟩
  · -- the second field is `empty`: nothing kept under the key on its side
    refine relFieldP_congr h1 (fun t ht _ => Or.inl ht) fun t hk => ⟨Or.inl, fun h => h.elim id fun h => ?_⟩
    cases f2 with
    | empty k2 => exact absurd (by rw [hk, hname]; rfl) (h2.2 t h)
    | _ => simp [SField.isEmpty] at he
  · refine relFieldP_congr h2 (fun t ht _ => Or.inr ht) fun t hk => ⟨Or.inr, fun h => h.elim (fun h => ?_) id⟩
    cases f1 with
    | empty k1 => exact absurd (by rw [hk, ← hname]; rfl) (h1.2 t h)
    | _ => simp [SField.isEmpty] at he
  · obtain ⟨t0, ht0, hr⟩ := h1
    exact ⟨t0, Or.inl ht0, hr⟩
  · -- two object fields: the same field definition by coherence, the trees are merged
    simp only [SField.name] at hname
    obtain ⟨t1, fd1, ht1, hk1, ha1, hs1, hn1, hf1, hr1⟩ := h1
    obtain ⟨t2, fd2, ht2, hk2, ha2, hs2, hn2, hf2, hr2⟩ := h2
    have hsame := (hR.key t1 t2 (hR1 _ ht1) (hR2 _ ht2) (by rw [hk1, hk2, hname])).1
    rw [← hsame, hf1] at hf2; cases hf2
    refine ⟨t1, fd1, Or.inl ht1, hk1, ha1, hs1, hn1, hf1, ?_⟩
    subst hk1
    have hT := HM l r' T fd1.ty _ _ hmt hr1 hr2 (hR.union hR1 hR2 ht1 hf1 n' hname)
    refine relTree_congr T fd1.ty _ _ (pEquiv_of_iff fun s => ?_) hT
    simp only [SUnion, subOf]
    constructor
    · rintro (⟨t', ht', hk', hs'⟩ | ⟨t', ht', hk', hs'⟩)
      · exact ⟨t', Or.inl ht', hk', hs'⟩
      · exact ⟨t', Or.inr ht', by rw [hk', hname], hs'⟩
    · rintro ⟨t', ht' | ht', hk', hs'⟩
      · exact Or.inl ⟨t', ht', hk', hs'⟩
      · exact Or.inr ⟨t', ht', by rw [hk', hname], hs'⟩

/-! the deep merge of any number of related fields: input `x` has the field `fld x` and the collections `PA x`, `PI x` -/

variable {ι : Type} {fld : ι → SField} {PA PI : ι → FT → Prop}

theorem relFieldP_snoc {ps : List ι} {p : ι} {m : SField}
    (hr : RelFieldP c tn (fun t => anyOf PA ps t ∨ PA p t) (fun t => anyOf PI ps t ∨ PI p t) tag m) :
    RelFieldP c tn (anyOf PA (ps ++ [p])) (anyOf PI (ps ++ [p])) tag m :=
  relFieldP_congr hr (fun _ ht _ => anyOf_snoc.2 ht) fun _ _ => anyOf_snoc.symm

theorem mergeAll_relP (HM : MergeSpec c mt) {R : FT → Prop} (hR : CohIn c tn R) {k : Name} :
    ∀ (rest ps : List ι) (g m : SField), RelFieldP c tn (anyOf PA ps) (anyOf PI ps) tag g → g.name = k →
    (∀ x ∈ ps ++ rest, RelFieldP c tn (PA x) (PI x) tag (fld x) ∧ (fld x).name = k ∧ ∀ t, PI x t → R t) →
    mergeAll mt g (rest.map fld) = .ok m → RelFieldP c tn (anyOf PA (ps ++ rest)) (anyOf PI (ps ++ rest)) tag m
  | [], ps, g, m, hg, _, _, hm => by
    simp only [List.map_nil, mergeAll] at hm; cases hm
    rwa [List.append_nil]
  | p :: rest, ps, g, m, hg, hgk, hall, hm => by
    simp only [List.map_cons, mergeAll] at hm
    obtain ⟨y, hy, hm⟩ := bind_ok hm
    rw [List.append_cons] at hall ⊢
    obtain ⟨hp, hpk, hpR⟩ := hall p (by simp)
    have hstep := relFieldP_merge HM hg hp (hgk.trans hpk.symm) hy
      (fun t ⟨x, hx, ht⟩ => (hall x (List.mem_append_left _ (List.mem_append_left _ hx))).2.2 t ht) hpR hR
    exact mergeAll_relP HM hR rest (ps ++ [p]) y m (relFieldP_snoc hstep)
      ((mergeFields_name hy (hgk.trans hpk.symm)).trans hgk) hall hm

theorem inputs_of_key {xs : List ι} {k : Name} {x0 : ι} {xrest : List ι}
    (hxs : xs.filter ((fun f => f.name == k) ∘ fld) = x0 :: xrest)
    (hrel : ∀ x ∈ xs, RelFieldP c tn (PA x) (PI x) tag (fld x)) (hIA : ∀ x ∈ xs, ∀ t, PI x t → PA x t) :
    RelFieldP c tn (anyOf PA [x0]) (anyOf PI [x0]) tag (fld x0) ∧ (fld x0).name = k ∧
    ∀ x ∈ [x0] ++ xrest, x ∈ xs ∧
      (RelFieldP c tn (PA x) (PI x) tag (fld x) ∧ (fld x).name = k ∧ ∀ t, PI x t → anyOf PA xs t) := by
  have hin : ∀ x ∈ x0 :: xrest, x ∈ xs ∧ (fld x).name = k := fun x hx => by
    rw [← hxs] at hx; exact ⟨(List.mem_filter.1 hx).1, by simpa using (List.mem_filter.1 hx).2⟩
  refine ⟨relFieldP_snoc (ps := []) (relFieldP_congr (hrel x0 (hin x0 (by simp)).1) (fun _ ht _ => Or.inr ht)
    fun _ _ => ⟨Or.inr, fun h => h.elim (fun ⟨_, hx, _⟩ => nomatch hx) id⟩), (hin x0 (by simp)).2, fun x hx => ?_⟩
  obtain ⟨hx1, hx2⟩ := hin x hx
  exact ⟨hx1, hrel x hx1, hx2, fun t ht => ⟨x, hx1, hIA x hx1 t ht⟩⟩

theorem deepMerge_relP (HM : MergeSpec c mt) {xs : List ι} {M : List SField}
    (hrel : ∀ x ∈ xs, RelFieldP c tn (PA x) (PI x) tag (fld x))
    (hIA : ∀ x ∈ xs, ∀ t, PI x t → PA x t) (hkey : ∀ x ∈ xs, ∀ t, PI x t → t.key = (fld x).name)
    (hM : Repr mt M (xs.map fld)) (hR : CohIn c tn (anyOf PA xs)) :
    (∀ m ∈ M, RelFieldP c tn (anyOf PA xs) (anyOf PI xs) tag m) ∧
    ∀ t, anyOf PI xs t → ∃ m ∈ M, m.name = t.key ∧ m.isEmpty = false := by
  obtain ⟨_, hrep, hcov⟩ := hM
  constructor
  · intro m hm
    obtain ⟨f0, rest, hfil, hma⟩ := hrep m hm
    rw [List.filter_map] at hfil
    obtain ⟨x0, xrest, hxs, rfl, rfl⟩ := List.map_eq_cons_iff.1 hfil
    obtain ⟨h0, hk0, hin⟩ := inputs_of_key hxs hrel hIA
    have hmr := mergeAll_relP (fld := fld) HM hR xrest [x0] (fld x0) m h0 hk0 (fun x hx => (hin x hx).2) hma
    refine relFieldP_congr hmr (fun t ⟨x, hx, ht⟩ _ => ⟨x, (hin x hx).1, ht⟩) fun t hk =>
      ⟨fun ⟨x, hx, ht⟩ => ⟨x, (hin x hx).1, ht⟩, fun ⟨x, hx, ht⟩ => ⟨x, ?_, ht⟩⟩
    -- an input that keeps an occurrence of the key of `m` has a field of that name
    have : x ∈ xs.filter ((fun f => f.name == m.name) ∘ fld) :=
      List.mem_filter.2 ⟨hx, by simp [← hkey x hx t ht, hk]⟩
    rwa [hxs] at this
  · rintro t ⟨x, hx, ht⟩
    have hfn := hkey x hx t ht
    have hfe := relFieldP_nonempty (hrel x hx) ht hfn
    obtain ⟨m, hm, hmn⟩ := hcov (fld x) (List.mem_map_of_mem hx)
    refine ⟨m, hm, by rw [hmn, hfn], ?_⟩
    obtain ⟨f0, rest, hfil, hma⟩ := hrep m hm
    rw [mergeAll_isEmpty rest f0 m hma]
    have hmem : fld x ∈ f0 :: rest := by
      rw [← hfil]; exact List.mem_filter.2 ⟨List.mem_map_of_mem hx, by simp [hmn]⟩
    rcases List.mem_cons.1 hmem with h | hmem
    · rw [← h]; simp [hfe]
    · have : rest.all (·.isEmpty) = false := by
        rw [List.all_eq_false]; exact ⟨fld x, hmem, by simp [hfe]⟩
      simp [this]

end

theorem CohIn.mono {c : Ctx} {tn : Name} {R R' : FT → Prop} (h : CohIn c tn R) (hsub : ∀ t, R' t → R t) : CohIn c tn R' :=
  ⟨fun t t' ht ht' => h.key t t' (hsub t ht) (hsub t' ht'),
   fun t fd ht hfd d => coh_subset d _ _ _ (fun _ ⟨t', ht', hk', hs'⟩ => ⟨t', hsub t' ht', hk', hs'⟩) (h.nest t fd (hsub t ht) hfd d)⟩

/-- an input of the deep merge is a field with its side, reading that side's collections at the field's own key -/
theorem mergedFields_rel {c : Ctx} {tn : Name} {σ : Sigma} {tag : Bool} {mt : SelTree → SelTree → Except Panic SelTree}
    (HM : MergeSpec c mt) {A B : SSet}
    {lf rf M : List SField} (hl : RelFields c tn σ A tag lf) (hr : RelFields c tn σ B tag rf)
    (hM : Repr mt M (lf ++ rf))
    (covA : ∀ t, PU c A tn (included σ) t → t.aliased = tag → ∃ f ∈ lf, f.name = t.key ∧ f.isEmpty = false)
    (covB : ∀ t, PU c B tn (included σ) t → t.aliased = tag → ∃ f ∈ rf, f.name = t.key ∧ f.isEmpty = false)
    (hR : CohIn c tn (PU c (SUnion A B) tn allInc)) :
    RelFields c tn σ (SUnion A B) tag M ∧
    ∀ t, PU c (SUnion A B) tn (included σ) t → t.aliased = tag → ∃ m ∈ M, m.name = t.key ∧ m.isEmpty = false := by
  let side : Bool × SField → SSet := fun x => if x.1 then B else A
  let PA : Bool × SField → FT → Prop := fun x t => PU c (side x) tn allInc t ∧ t.key = x.2.name
  let PI : Bool × SField → FT → Prop := fun x t => PU c (side x) tn (included σ) t ∧ t.key = x.2.name
  let xs : List (Bool × SField) := lf.map (false, ·) ++ rf.map (true, ·)
  have hxs : xs.map (·.2) = lf ++ rf := by simp [xs, Function.comp_def]
  have hside : ∀ x ∈ xs, ∀ inc t, PU c (side x) tn inc t → PU c (SUnion A B) tn inc t := by
    intro x hx inc t ht
    rcases List.mem_append.1 hx with h | h <;> obtain ⟨f, _, rfl⟩ := List.mem_map.1 h
    · exact pu_left ht
    · exact pu_right ht
  have hall : ∀ t, anyOf PA xs t → PU c (SUnion A B) tn allInc t := fun t ⟨x, hx, ht, _⟩ => hside x hx _ t ht
  obtain ⟨hrel, hcov⟩ := deepMerge_relP (tn := tn) (tag := tag) (fld := fun x : Bool × SField => x.2) (PA := PA) (PI := PI) HM
    (by
      intro x hx
      have : RelField c tn σ (side x) tag x.2 := by
        rcases List.mem_append.1 hx with h | h <;> obtain ⟨f, hf, rfl⟩ := List.mem_map.1 h
        · exact relFields_iff.1 hl f hf
        · exact relFields_iff.1 hr f hf
      exact relFieldP_congr ((relField_iffP _).1 this) (fun t ht hk => ⟨ht, hk⟩) fun t hk => (and_iff_left hk).symm)
    (fun _ _ t h => ⟨pu_all h.1, h.2⟩) (fun _ _ t h => h.2) (hxs ▸ hM) (hR.mono hall)
  -- a kept occurrence of the class has its input
  have kept : ∀ t, PU c (SUnion A B) tn (included σ) t → t.aliased = tag → anyOf PI xs t := by
    intro t ht hta
    rcases pu_union.1 ht with h | h
    · obtain ⟨f, hf, hfn, _⟩ := covA t h hta
      exact ⟨(false, f), List.mem_append.2 (Or.inl (List.mem_map_of_mem hf)), h, hfn.symm⟩
    · obtain ⟨f, hf, hfn, _⟩ := covB t h hta
      exact ⟨(true, f), List.mem_append.2 (Or.inr (List.mem_map_of_mem hf)), h, hfn.symm⟩
  refine ⟨relFields_iff.2 fun m hm => (relField_iffP m).2 ?_, fun t ht hta => hcov t (kept t ht hta)⟩
  obtain ⟨t0, h0, hk0, ha0⟩ := relFieldP_origin (fun t ⟨x, hx, h⟩ => ⟨x, hx, pu_all h.1, h.2⟩) (hrel m hm)
  refine relFieldP_congr (hrel m hm) (fun t ht _ => hall t ht) fun t hk =>
    ⟨fun ⟨x, hx, ht, _⟩ => hside x hx _ t ht, fun ht => kept t ht ?_⟩
  -- by coherence, an occurrence under the key of `m` is in the alias group of `m`
  rw [(cohAt_full hR.key t t0 (pu_all ht) (hall t0 h0) (by rw [hk, hk0])).1, ha0]

/-- the two classes share no name since, by coherence, the alias group is determined by the response key -/
theorem relBranch_of_classes {c : Ctx} {tn n : Name} {v : List (Name × Bool)} {U Aa : List SField} {Sb : SSet}
    (hposs : tn ∈ c.S.possibleTypes n) (hobj : ∃ td, c.S.typeDef? tn = some td ∧ td.kind = .object)
    (hself : Agree (sigmaOf v) v) (hU : (U.map SField.name).Nodup) (hA : (Aa.map SField.name).Nodup)
    (hR : CohIn c tn (PU c Sb tn allInc))
    (classes : ∀ σ, Agree σ v → ∀ tag, RelFields c tn σ Sb tag (if tag = true then Aa else U) ∧
      ∀ t, PU c Sb tn (included σ) t → t.aliased = tag →
        ∃ m ∈ (if tag = true then Aa else U), m.name = t.key ∧ m.isEmpty = false) :
    RelBranch c (.mk tn v U Aa) n Sb := by
  refine relBranch_iff.2 ⟨hposs, hobj, hself, hU, hA, ?_, fun σ hag => ?_⟩
  · intro f hf g hg hname
    obtain ⟨ta, hta, hka, haa⟩ := relField_origin (relFields_iff.1 (classes _ hself true).1 f hf)
    obtain ⟨tu, htu, hku, hau⟩ := relField_origin (relFields_iff.1 (classes _ hself false).1 g hg)
    have := (cohAt_full hR.key ta tu hta htu (by rw [hka, hku, hname])).1
    rw [haa, hau] at this; cases this
  · exact ⟨(classes σ hag false).1, (classes σ hag true).1, fun t ht => (classes σ hag t.aliased).2 t ht rfl⟩

theorem mergedBranch_rel {c : Ctx} (HM : MergeSpec c mt)
    {lb rb b : Branch} {n : Name} {A B : SSet} (hl : RelBranch c lb n A) (hr : RelBranch c rb n B)
    (hty : rb.typeName = lb.typeName) (hb : MergedOf mt lb rb b) (hC : ∀ d, Coh c d (SUnion A B) n) :
    RelBranch c b n (SUnion A B) := by
  obtain ⟨tn0, lv, lu, la⟩ := lb
  obtain ⟨tn, rv, ru, ra⟩ := rb
  simp only [Branch.typeName] at hty; subst hty
  obtain ⟨v, U, Aa, hv, hU, hA, rfl⟩ := hb
  simp only [Branch.vars, Branch.unaliased, Branch.aliased, Branch.typeName] at hv hU hA ⊢
  have L := relBranch_iff.1 hl
  have R := relBranch_iff.1 hr
  have hR := cohIn_at hC L.poss
  have hRU := deepMerge_repr hU
  have hRA := deepMerge_repr hA
  refine relBranch_of_classes L.poss L.obj (consistent_unify L.self R.self hv) hRU.1 hRA.1 hR fun σ hag tag => ?_
  obtain ⟨hagl, hagr⟩ := (agree_unify hv).1 hag
  obtain ⟨hul, hal, covl⟩ := L.fields σ hagl
  obtain ⟨hur, har, covr⟩ := R.fields σ hagr
  have covl' : ∀ t, PU c A tn (included σ) t → t.aliased = tag → ∃ f ∈ (if tag = true then la else lu), _ :=
    fun t ht hta => hta ▸ covl t ht
  have covr' : ∀ t, PU c B tn (included σ) t → t.aliased = tag → ∃ f ∈ (if tag = true then ra else ru), _ :=
    fun t ht hta => hta ▸ covr t ht
  cases tag with
  | false => exact mergedFields_rel HM hul hur hRU covl' covr' hR
  | true => exact mergedFields_rel HM hal har hRA covl' covr' hR

theorem mergeBranches_rel {c : Ctx} (HM : MergeSpec c mt)
    {l r bs : List Branch} {n : Name} {p : Pos} {A B : SSet} (h : mergeBranchesWith mt l r = .ok bs)
    (hl : RelTree c (.object l) (.named n p) A) (hr : RelTree c (.object r) (.named n p) B)
    (hC : ∀ d, Coh c d (SUnion A B) n) : RelTree c (.object bs) (.named n p) (SUnion A B) := by
  simp only [RelTree] at hl hr ⊢
  obtain ⟨hcomp, covl, hbl⟩ := hl
  obtain ⟨_, covr, hbr⟩ := hr
  obtain ⟨hch1, hch2⟩ := mergeBranches_char h
  refine ⟨hcomp, ?_, relBranches_iff.2 ?_⟩
  · intro o ho σ
    obtain ⟨lb, hlb, hlo, hagl⟩ := covl o ho σ
    obtain ⟨rb, hrb, hro, hagr⟩ := covr o ho σ
    obtain ⟨v, hv⟩ := unify_of_agree hagl hagr
    obtain ⟨b, hb, v', U, Aa, hv', _, _, rfl⟩ := hch2 lb hlb rb hrb (by rw [hro, hlo]) v hv
    rw [hv] at hv'; cases hv'
    exact ⟨_, hb, hlo, (agree_unify hv).2 ⟨hagl, hagr⟩⟩
  · intro b hb
    rcases hch1 b hb with ⟨lb, hlb, rb, hrb, hty, hm⟩ | ⟨hbl', hno⟩ | ⟨hbr', hno⟩
    · exact mergedBranch_rel HM (relBranches_iff.1 hbl lb hlb) (relBranches_iff.1 hbr rb hrb) hty hm hC
    · have hp := relBranch_poss (relBranches_iff.1 hbl b hbl')
      obtain ⟨rb, hrb, hro, _⟩ := covr _ hp (fun _ => false)
      exact absurd hro (hno rb hrb)
    · have hp := relBranch_poss (relBranches_iff.1 hbr b hbr')
      obtain ⟨lb, hlb, hlo, _⟩ := covl _ hp (fun _ => false)
      exact absurd hlo (hno lb hlb)

theorem mergeTrees_rel (c : Ctx) : ∀ (mf : Nat), MergeSpec c (mergeTrees mf)
  | 0 => by
    intro T1 T2 T ty A B h; simp [mergeTrees] at h
  | mf + 1 => by
    intro T1 T2 T ty A B h h1 h2 hC
    -- `T1` related at `ty` fixes the shape of `ty`, and that the shape of `T2`
    cases T1 with
    | nonNull l | list l =>
      cases ty <;> simp only [RelTree] at h1
      cases T2 <;> simp only [RelTree] at h2
      obtain ⟨T', hm, h⟩ := bind_ok (by simpa only [mergeTrees] using h)
      cases h
      exact mergeTrees_rel c mf l _ T' _ A B hm h1 h2 (by simpa [GType.unwrapped] using hC)
    | object l =>
      cases ty <;> simp only [RelTree] at h1
      cases T2 <;> simp only [RelTree] at h2
      obtain ⟨bs, hm, h⟩ := bind_ok (by simpa only [mergeTrees] using h)
      cases h
      exact mergeBranches_rel (mergeTrees_rel c mf) hm (by simpa only [RelTree] using h1) (by simpa only [RelTree] using h2)
        (by simpa [GType.unwrapped] using hC)

end NitroVerif.OpTypes.Ref
