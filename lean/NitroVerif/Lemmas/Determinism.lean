/-
The two write disciplines of a map (`getLast`: `insert`, `getFirst`: `or_insert`) are lookups by key over the reversed
/ the plain write sequence, so among distinct keys they agree and do not depend on the order of the writes
(`find?_key_perm`, `find?_key_reverse` of `Lemmas/ListFacts.lean`); the loader's `get_required_files` as a collecting
fold; what a schema answers when its definitions are permuted, and `SameView`, the relation "the two schemas answer
every lookup by name alike" under which the checkers and printers are walked.
-/
import NitroVerif.Model.Determinism
import NitroVerif.Lemmas.Collects
import NitroVerif.Lemmas.ListFacts
namespace NitroVerif.Determinism

variable {K V : Type}

theorem getLast_eq_find? [BEq K] (l : List (K × V)) (k : K) :
    getLast l k = (l.reverse.find? (·.1 == k)).map (·.2) := by
  induction l with
  | nil => rfl
  | cons a rest ih =>
    rw [getLast, ih, List.reverse_cons, List.find?_append]
    cases rest.reverse.find? (·.1 == k) with
    | some w => rfl
    | none => simp only [Option.map_none, Option.none_or, List.find?_singleton]; cases a.1 == k <;> rfl

theorem getFirst_eq_find? [BEq K] [LawfulBEq K] (l : List (K × V)) (k : K) :
    getFirst l k = (l.find? (·.1 == k)).map (·.2) := by
  induction l with
  | nil => rfl
  | cons a rest ih =>
    obtain ⟨k', v⟩ := a
    rw [getFirst, List.lookup_cons, List.find?_cons, BEq.comm (a := k)]
    cases k' == k
    · exact ih
    · rfl

theorem NoDupKeys.perm {l₁ l₂ : List (K × V)} (h : l₁.Perm l₂) (nd : NoDupKeys l₁) : NoDupKeys l₂ :=
  (h.map Prod.fst).nodup_iff.mp nd

theorem getLast_eq_getFirst [BEq K] [LawfulBEq K] (l : List (K × V)) (nd : NoDupKeys l) (k : K) :
    getLast l k = getFirst l k := by
  rw [getLast_eq_find?, getFirst_eq_find?, find?_key_reverse Prod.fst nd]

theorem getFirst_perm [BEq K] [LawfulBEq K] {l₁ l₂ : List (K × V)} (h : l₁.Perm l₂) (nd : NoDupKeys l₁) (k : K) :
    getFirst l₁ k = getFirst l₂ k := by
  rw [getFirst_eq_find?, getFirst_eq_find?, find?_key_perm Prod.fst h nd]

theorem getLast_perm [BEq K] [LawfulBEq K] {l₁ l₂ : List (K × V)} (h : l₁.Perm l₂) (nd : NoDupKeys l₁) (k : K) :
    getLast l₁ k = getLast l₂ k := by
  rw [getLast_eq_getFirst l₁ nd, getLast_eq_getFirst l₂ (nd.perm h), getFirst_perm h nd]

theorem getLast_append [BEq K] (b l : List (K × V)) (k : K) :
    getLast (b ++ l) k = (getLast l k).or (getLast b k) := by
  simp only [getLast_eq_find?, List.reverse_append, List.find?_append, Option.map_or]

theorem getLast_append_perm [BEq K] [LawfulBEq K] (b : List (K × V)) {l₁ l₂ : List (K × V)} (h : l₁.Perm l₂)
    (nd : NoDupKeys l₁) (k : K) : getLast (b ++ l₁) k = getLast (b ++ l₂) k := by
  rw [getLast_append, getLast_append, getLast_perm h nd k]

theorem getLast_map_fn [BEq K] [LawfulBEq K] (g : K → V) (ks : List K) (k : K) :
    getLast (ks.map fun n => (n, g n)) k = if ks.contains k then some (g k) else none := by
  rw [getLast_eq_find?, ← List.map_reverse, List.find?_map, Option.map_map]
  cases h : ks.reverse.find? ((·.1 == k) ∘ fun n => (n, g n)) with
  | none =>
    have : ks.contains k = false := by
      rw [← Bool.not_eq_true, List.contains_iff_mem]
      exact fun hm => by simpa using List.find?_eq_none.mp h k (List.mem_reverse.mpr hm)
    rw [this]; rfl
  | some a =>
    have := List.find?_some h
    have hm := List.mem_reverse.mp (List.mem_of_find?_eq_some h)
    simp only [Function.comp, beq_iff_eq] at this
    subst this
    rw [if_pos (List.contains_iff_mem.mpr hm)]; rfl

theorem noDupKeys_filterMap {E : Type} (parse : E → Option V) (it : List (K × E)) (nd : NoDupKeys it) :
    NoDupKeys (it.filterMap fun ke => (parse ke.2).map fun v => (ke.1, v)) := by
  refine List.Sublist.nodup ?_ nd
  induction it with
  | nil => exact .slnil
  | cons a rest ih =>
    rw [List.filterMap_cons]
    cases parse a.2 with
    | none => exact (ih nd.of_cons).cons _
    | some v => exact (ih nd.of_cons).cons_cons _

section required
variable {P : Type} [BEq P] [LawfulBEq P]

theorem collects_required (keys : List P) : Collects (fun p : P => p) (· ∈ keys)
    (fun acc p => if keys.contains p || acc.contains p then acc else acc ++ [p]) := fun acc p => by
  by_cases hq : (keys.contains p || acc.contains p) = true
  · exact .inl ⟨if_pos hq, by simpa using hq⟩
  · have := hq
    simp only [Bool.or_eq_true, List.contains_iff_mem, not_or] at this
    exact .inr ⟨if_neg hq, this.1, this.2⟩

theorem mem_requiredStep (keys acc imps : List P) (p : P) :
    p ∈ requiredStep keys acc imps ↔ p ∈ acc ∨ (p ∈ imps ∧ p ∉ keys) := by
  rw [requiredStep, (collects_required keys).mem]
  simp

omit [LawfulBEq P] in
theorem requiredFiles_eq (it : List (P × List P)) :
    requiredFiles it = (it.flatMap (·.2)).foldl
      (fun acc p => if (it.map Prod.fst).contains p || acc.contains p then acc else acc ++ [p]) [] := by
  rw [requiredFiles, List.foldl_flatMap]
  rfl

theorem mem_requiredFiles (it : List (P × List P)) (p : P) :
    p ∈ requiredFiles it ↔ p ∉ it.map Prod.fst ∧ ∃ fi ∈ it, p ∈ fi.2 := by
  rw [requiredFiles_eq, (collects_required _).mem]
  simp only [List.not_mem_nil, false_or, List.mem_flatMap]
  exact ⟨fun ⟨a, hfi, hk, e⟩ => e ▸ ⟨hk, hfi⟩, fun ⟨hk, hfi⟩ => ⟨p, hfi, hk, rfl⟩⟩

end required

theorem eq_nil_of_perm {α : Type} {l l' : List α} (h : l.Perm l') (e : l = []) : l' = [] := by
  subst e
  exact h.symm.eq_nil

section docs
open NitroVerif.Gql

theorem defMapTypes_keys (items : TsDoc) :
    (defMapTypes items).map Prod.fst = (Schema.mk items).typeDefs.map (·.name) := by
  unfold defMapTypes Schema.typeDefs
  rw [List.map_filterMap, List.map_filterMap]
  congr 1
  funext it
  cases it <;> rfl

theorem typeDefs_perm {items₁ items₂ : TsDoc} (h : items₁.Perm items₂) :
    (Schema.mk items₁).typeDefs.Perm (Schema.mk items₂).typeDefs := h.filterMap _

theorem directiveDefs_perm {items₁ items₂ : TsDoc} (h : items₁.Perm items₂) :
    (Schema.mk items₁).directiveDefs.Perm (Schema.mk items₂).directiveDefs := h.filterMap _

theorem typeDef?_of_perm {S S' : Schema} (h : S.typeDefs.Perm S'.typeDefs) (nd : (S.typeDefs.map (·.name)).Nodup)
    (n : Name) : S.typeDef? n = S'.typeDef? n :=
  find?_key_perm TypeDef.name h nd n

theorem objectImplementers_of_perm {S S' : Schema} (h : S.typeDefs.Perm S'.typeDefs) (n : Name) :
    (S.objectImplementers n).Perm (S'.objectImplementers n) :=
  (h.filter _).map _

/-- only `Perm`: for an interface the list follows definition order -/
theorem possibleTypes_of_perm {S S' : Schema} (h : S.typeDefs.Perm S'.typeDefs) (nd : (S.typeDefs.map (·.name)).Nodup)
    (n : Name) : (S.possibleTypes n).Perm (S'.possibleTypes n) := by
  unfold Schema.possibleTypes
  rw [typeDef?_of_perm h nd n]
  cases S'.typeDef? n with
  | none => exact List.Perm.refl _
  | some t =>
    cases hk : t.kind <;> simp only [hk] <;> first | exact List.Perm.refl _ | exact objectImplementers_of_perm h n

theorem declNamed_decls (items : TsDoc) (a : Name) :
    declNamed (decls items) a = ((Schema.mk items).typeDef? a).map (declOf (Schema.mk items)) := by
  unfold declNamed decls Schema.typeDef?
  rw [List.find?_map]
  rfl

/-- two schemas answer every lookup by name the same way -/
structure SameView (S S' : Schema) : Prop where
  ty : ∀ n, S.typeDef? n = S'.typeDef? n
  dir : ∀ n, S.directiveDef? n = S'.directiveDef? n

theorem SameView.kind {S S' : Schema} (h : SameView S S') (n : Name) : S.kindOf? n = S'.kindOf? n := by
  unfold Schema.kindOf?
  rw [h.ty]

theorem NoDupTypeNames.perm {T T' : TsDoc} (h : T.Perm T') (nd : NoDupTypeNames T) : NoDupTypeNames T' :=
  ((typeDefs_perm h).map _).nodup_iff.mp nd

theorem NoDupDirectiveNames.perm {T T' : TsDoc} (h : T.Perm T') (nd : NoDupDirectiveNames T) :
    NoDupDirectiveNames T' :=
  ((directiveDefs_perm h).map _).nodup_iff.mp nd

theorem sameView_of_perm {T T' : TsDoc} (h : T.Perm T') (ndt : NoDupTypeNames T) (ndd : NoDupDirectiveNames T) :
    SameView ⟨T⟩ ⟨T'⟩ :=
  ⟨find?_key_perm TypeDef.name (typeDefs_perm h) ndt, find?_key_perm DirectiveDef.name (directiveDefs_perm h) ndd⟩

end docs

end NitroVerif.Determinism
