import NitroVerif.Lemmas.FragClosure
/-!
# The runtime document of a definition, described once

`print_operation_runtime` / `print_fragment_runtime` (`FragClosure.runtimeDefs`) collect the names spread from the definition's
selection set, leave a fragment's own name out (`tailNames`), and look every remaining name up. `runtimeDefs_cases` says what comes
out, for an operation and a fragment alike; the theorems about runtime documents (`Props/C12.lean`, `Props/C12Composed.lean`) are
instances.

`SpreadsDefined R` — every spread WRITTEN in the document names a fragment the document defines (checker rule 5.5.2.1, the loader's
`find_undefined_fragment_spread`) — is the condition under which the second case does not occur for any definition of `R`.
That a document the checker model accepts satisfies it, and has pairwise distinct fragment names, is
`Composed.spreadsDefined_of_checked` / `Composed.nodup_of_checked`, stated where the checker's lemmas are (`Lemmas/StagesJs.lean`).
-/
namespace NitroVerif.Composed
open NitroVerif NitroVerif.Gql NitroVerif.FragClosure NitroVerif.C12

theorem fragNamesOf_fragDefs (l : List ExecDef) (ns : List Name) (h : ∀ n ∈ ns, (getFrag l n).isSome = true) :
    fragNamesOf (fragDefs l ns) = ns := by
  induction ns with
  | nil => rfl
  | cons n r ih =>
    have hn := h n (by simp)
    have ih := ih (fun m hm => h m (by simp [hm]))
    cases hg : getFrag l n with
    | none => rw [hg] at hn; cases hn
    | some f =>
      have hname := (getFrag_some l n f hg).1
      simp only [fragDefs] at ih
      simp [fragDefs, hg, fragNamesOf, ih, hname]

def selOf : ExecDef → List Selection
  | .op o => o.sel
  | .frag f => f.sel
  | .imp _ => []

def allSpreads (R : List ExecDef) : List Name := R.flatMap fun d => ReadDoc.spreads (selOf d)

/-- `find_undefined_fragment_spread` (graphql-loader/src/loader.rs, fix 08fd7e5): the first spread, in document order,
    whose name no fragment definition of the import-resolved document carries -/
def findUndefined (R : List ExecDef) : Option Name :=
  (allSpreads R).find? fun n => decide (n ∉ fragNamesOf R)

/-- every spread written in the document names a fragment the document defines -/
def SpreadsDefined (R : List ExecDef) : Prop :=
  ∀ d ∈ R, ∀ n ∈ ReadDoc.spreads (selOf d), (getFrag R n).isSome = true

instance (R : List ExecDef) : Decidable (SpreadsDefined R) := by unfold SpreadsDefined; infer_instance

theorem findUndefined_none_iff (R : List ExecDef) : findUndefined R = none ↔ SpreadsDefined R := by
  simp only [findUndefined, List.find?_eq_none, allSpreads, List.mem_flatMap, decide_eq_true_eq,
    Classical.not_not, forall_exists_index, and_imp, SpreadsDefined, getFrag_isSome_iff]
  exact ⟨fun h d hd n hn => h n d hd hn, fun h n d hd hn => h d hd n hn⟩

theorem findUndefined_some {R : List ExecDef} {n : Name} (h : findUndefined R = some n) :
    (∃ d ∈ R, n ∈ ReadDoc.spreads (selOf d)) ∧ getFrag R n = none := by
  have h1 := List.find?_some h
  have h2 := List.mem_of_find?_eq_some h
  simp only [decide_eq_true_eq] at h1
  simp only [allSpreads, List.mem_flatMap] at h2
  exact ⟨h2, getFrag_none R n h1⟩

theorem reach_defined {R : List ExecDef} (hs : SpreadsDefined R) {ss : List Selection} {n : Name}
    (hr : ReadDoc.Reach (envOf R) ss n) : (∃ d ∈ R, selOf d = ss) → (getFrag R n).isSome = true := by
  induction hr with
  | direct hn =>
    rintro ⟨d, hd, rfl⟩
    exact hs d hd _ hn
  | step _ he _ _ ih2 =>
    intro _
    apply ih2
    simp only [envOf, envOfGet, Option.map_eq_some_iff] at he
    obtain ⟨g, hg, rfl⟩ := he
    exact ⟨.frag g, (getFrag_some R _ g hg).2.2, rfl⟩

end NitroVerif.Composed

namespace NitroVerif.C12
open NitroVerif NitroVerif.Gql NitroVerif.FragClosure NitroVerif.ReadDoc NitroVerif.Composed

/-- the names whose definitions follow `x` in its runtime document, `names` being those collected from its selection set:
    a fragment's own name is left out -/
def tailNames : ExecDef → List Name → List Name
  | .frag f, names => names.filter fun n => n != f.name
  | _, names => names

theorem mem_tailNames {x : ExecDef} {names : List Name} {n : Name} :
    n ∈ tailNames x names ↔ n ∈ names ∧ ∀ f, x = .frag f → n ≠ f.name := by
  cases x <;> simp [tailNames]

theorem runtimeDefs_cases (D : List ExecDef) (x : ExecDef) (hx : ∀ i, x ≠ .imp i) :
    ∃ names, closure (envOf D) D.length (selOf x) = some names ∧ names.Nodup ∧
      (∀ n, n ∈ names ↔ Reach (envOf D) (selOf x) n) ∧
      (((∀ n ∈ tailNames x names, (getFrag D n).isSome) ∧ runtimeDefs D x = .ok (x :: fragDefs D (tailNames x names))) ∨
        ∃ n ∈ tailNames x names, getFrag D n = none ∧ runtimeDefs D x = .error (.fragmentNotFound n)) := by
  obtain ⟨names, hn, hc, hnd, hreach⟩ := fragmentNames_spec D (selOf x)
  refine ⟨names, hc, hnd, hreach, ?_⟩
  have e : runtimeDefs D x = withNames D x (some (tailNames x names)) := by
    cases x with
    | op o => simp only [runtimeDefs, opNames, show fragmentNames D o.sel = _ from hn, tailNames]
    | frag f => simp only [runtimeDefs, fragNames, show fragmentNames D f.sel = _ from hn, Option.map_some, tailNames]
    | imp i => exact absurd rfl (hx i)
  rw [e, withNames]
  rcases lookupAll_cases D (tailNames x names) with ⟨h1, h2⟩ | ⟨n, hn, h1, h2⟩
  · exact .inl ⟨h1, by rw [h2]⟩
  · exact .inr ⟨n, hn, h1, by rw [h2]⟩

theorem fragDefs_length (defs : List ExecDef) (names : List Name) (h : ∀ n ∈ names, (getFrag defs n).isSome) :
    (fragDefs defs names).length = names.length := by
  refine Nat.le_antisymm (List.length_filterMap_le _ _) ?_
  have := fragNamesOf_length (fragDefs defs names)
  rwa [fragNamesOf_fragDefs defs names h] at this

end NitroVerif.C12

namespace NitroVerif.Composed
open NitroVerif NitroVerif.Gql NitroVerif.FragClosure NitroVerif.C12

theorem runtimeDefs_ok_of_spreads {R : List ExecDef} (hs : SpreadsDefined R) {x : ExecDef} (hx : x ∈ R) :
    ∃ ds, runtimeDefs R x = .ok ds := by
  by_cases hi : ∀ i, x ≠ .imp i
  · obtain ⟨names, _, _, hreach, ⟨_, hrun⟩ | ⟨n, hn, hg, _⟩⟩ := runtimeDefs_cases R x hi
    · exact ⟨_, hrun⟩
    · have := reach_defined hs ((hreach n).mp (mem_tailNames.mp hn).1) ⟨x, hx, rfl⟩
      rw [hg] at this; cases this
  · cases x with
    | imp i => exact ⟨[], rfl⟩
    | op _ | frag _ => simp at hi

/-- a reachable undefined name comes with a WRITTEN spread of an undefined name (so the checker's rule 5.5.2.1 /
    the loader's check fires) -/
theorem not_spreadsDefined_of_reach {R : List ExecDef} {x : ExecDef} (hx : x ∈ R) {n : Name}
    (hr : ReadDoc.Reach (envOf R) (selOf x) n) (hn : getFrag R n = none) : ¬ SpreadsDefined R := by
  intro hs
  have := reach_defined hs hr ⟨x, hx, rfl⟩
  rw [hn] at this; cases this

end NitroVerif.Composed
