/-
C08 (stages after parsing), part: the loader ABI.  Exactly when a call of the loader's exported functions traps.

Rests on `callQuiet` (`Lemmas/Loader.lean`): a call on a live instance whose tasks hold their root documents, with an
emitter that does not trap, keeps the instance alive, does not answer a trap, and either answers `taskId`, `loaded` or
`freed` and leaves RESULT alone, or leaves a value in RESULT.

`step_trap_iff`— on such an instance the ONLY trapping operation is `get_result_*` while RESULT is still empty.
`run_trap_iff` — along any history from the initial instance: some response is a trap iff the history contains a
                 `get_result_*` at a moment when every earlier response was `taskId` / `loaded` / `freed`.
-/
import NitroVerif.Lemmas.Loader
namespace NitroVerif.Loader
variable {P S J : Type} [DecidableEq P]

theorem step_trap_iff (env : Env P S J) (he : EmitTotal env) (σ : St P S J) (hd : σ.dead = false) (hr : RootOk σ)
    (op : Op P S) :
    ((step env σ op).2 = .trap ↔ (op = .getResult ∧ σ.result = none)) ∧
    ((step env σ op).1.dead = true ↔ (op = .getResult ∧ σ.result = none)) := by
  cases op with
  | call c =>
    obtain ⟨h1, h2, _⟩ := callQuiet env he σ hd hr c
    constructor
    · exact ⟨fun h => absurd h h2, fun h => by cases h.1⟩
    · constructor
      · intro h; rw [h1] at h; cases h
      · intro h; cases h.1
  | getResult =>
    rw [step_getResult env σ hd]
    cases hres : σ.result with
    | none => simp
    | some r => simp [hd]

theorem step_ok (env : Env P S J) (he : EmitTotal env) (σ : St P S J) (hd : σ.dead = false) (hr : RootOk σ)
    (op : Op P S) (hm : ¬(op = .getResult ∧ σ.result = none)) :
    (step env σ op).1.dead = false ∧ (step env σ op).2 ≠ .trap :=
  have ⟨t1, t2⟩ := step_trap_iff env he σ hd hr op
  ⟨Bool.eq_false_iff.mpr fun hx => hm (t2.1 hx), fun hx => hm (t1.1 hx)⟩

theorem runSt_dead (env : Env P S J) (h : List (Op P S)) (τ : St P S J) (ht : τ.dead = true) : (runSt env τ h).dead = true :=
  runSt_induct env (I := fun τ => τ.dead = true) (fun τ op ht => by rw [step_dead env τ op ht]; exact ht) h τ ht

theorem run_result_some (env : Env P S J) (he : EmitTotal env) : ∀ (h : List (Op P S)) (σ : St P S J),
    σ.dead = false → RootOk σ → σ.result ≠ none → (runSt env σ h).result ≠ none
  | [], _, _, _, hres => hres
  | .getResult :: h, σ, hd, hr, hres => by
    simp only [runSt]
    rw [step_getResult env σ hd]
    cases hx : σ.result with
    | none => exact absurd hx hres
    | some r => exact run_result_some env he h σ hd hr hres
  | .call c :: h, σ, hd, hr, hres => by
    obtain ⟨h1, _, h3⟩ := callQuiet env he σ hd hr c
    refine run_result_some env he h _ h1 (step_rootOk env σ (.call c) hr) ?_
    rcases h3 with ⟨_, hsame⟩ | ⟨_, hne⟩
    · rw [hsame]; exact hres
    · exact hne

theorem run_result_none (env : Env P S J) (he : EmitTotal env) : ∀ (h : List (Op P S)) (σ : St P S J),
    σ.dead = false → RootOk σ → σ.result = none → (runSt env σ h).dead = false →
    ((runSt env σ h).result = none ↔ ∀ r ∈ runResps env σ h, Resp.silent r = true) := by
  intro h
  induction h with
  | nil => intro σ _ _ hres _; simp [runSt, runResps, hres]
  | cons op h ih =>
    intro σ hd hr hres halive
    simp only [runSt, runResps, List.mem_cons, forall_eq_or_imp] at halive ⊢
    cases op with
    | getResult =>
      -- reading the empty cell kills the instance: contradiction with `halive`
      exfalso
      have : (step env σ .getResult).1.dead = true := ((step_trap_iff env he σ hd hr .getResult).2).2 ⟨rfl, hres⟩
      rw [runSt_dead env h _ this] at halive; cases halive
    | call c =>
      obtain ⟨h1, _, h3⟩ := callQuiet env he σ hd hr c
      have hr' := step_rootOk env σ (.call c) hr
      rcases h3 with ⟨hs, hsame⟩ | ⟨hs, hne⟩
      · rw [ih _ h1 hr' (by rw [hsame]; exact hres) halive]
        simp [hs]
      · constructor
        · exact fun hnone => absurd hnone (run_result_some env he h _ h1 hr' hne)
        · intro hall
          rw [hall.1] at hs; cases hs

theorem runResps_append (env : Env P S J) : ∀ (h1 h2 : List (Op P S)) (σ : St P S J),
    runResps env σ (h1 ++ h2) = runResps env σ h1 ++ runResps env (runSt env σ h1) h2 := by
  intro h1
  induction h1 with
  | nil => intro h2 σ; rfl
  | cons o h1 ih => intro h2 σ; simp only [List.cons_append, runResps, runSt, ih]

theorem run_alive_iff (env : Env P S J) (he : EmitTotal env) : ∀ (h : List (Op P S)) (σ : St P S J),
    σ.dead = false → RootOk σ → ((∀ r ∈ runResps env σ h, r ≠ .trap) ↔ (runSt env σ h).dead = false) := by
  intro h
  induction h with
  | nil => intro σ hd _; simp [runResps, runSt, hd]
  | cons op h ih =>
    intro σ hd hr
    simp only [runResps, runSt, List.mem_cons, forall_eq_or_imp]
    obtain ⟨t1, t2⟩ := step_trap_iff env he σ hd hr op
    by_cases hm : op = .getResult ∧ σ.result = none
    · have hdead := t2.2 hm
      constructor
      · intro h'; exact absurd (t1.2 hm) h'.1
      · intro h'; rw [runSt_dead env h _ hdead] at h'; cases h'
    · obtain ⟨halive, hnt⟩ := step_ok env he σ hd hr op hm
      rw [ih _ halive (step_rootOk env σ op hr)]
      exact ⟨fun h' => h'.2, fun h' => ⟨hnt, h'⟩⟩

theorem run_trap_iff (env : Env P S J) (he : EmitTotal env) (h : List (Op P S)) :
    (∃ r ∈ runResps env init h, r = .trap) ↔
      ∃ h1 h2, h = h1 ++ .getResult :: h2 ∧ ∀ r ∈ runResps env init h1, Resp.silent r = true := by
  constructor
  · rintro ⟨r, hr, rfl⟩
    have key : ∀ (h : List (Op P S)) (σ : St P S J), σ.dead = false → RootOk σ → Resp.trap ∈ runResps env σ h →
        ∃ h1 h2, h = h1 ++ .getResult :: h2 ∧ (runSt env σ h1).dead = false ∧ (runSt env σ h1).result = none := by
      intro h
      induction h with
      | nil => intro σ _ _ hm; cases hm
      | cons op h ih =>
        intro σ hd hro hm
        by_cases hmis : op = .getResult ∧ σ.result = none
        · exact ⟨[], h, by rw [hmis.1]; rfl, hd, hmis.2⟩
        · obtain ⟨halive, hnt⟩ := step_ok env he σ hd hro op hmis
          simp only [runResps, List.mem_cons] at hm
          rcases hm with hm | hm
          · exact absurd hm.symm hnt
          · obtain ⟨h1, h2, e, a, b⟩ := ih _ halive (step_rootOk env σ op hro) hm
            exact ⟨op :: h1, h2, by rw [e]; rfl, a, b⟩
    obtain ⟨h1, h2, e, a, b⟩ := key h init rfl rootOk_init hr
    exact ⟨h1, h2, e, (run_result_none env he h1 init rfl rootOk_init rfl a).1 b⟩
  · rintro ⟨h1, h2, rfl, hs⟩
    rw [runResps_append]
    by_cases halive : (runSt env init h1).dead = false
    · have hnone := (run_result_none env he h1 init rfl rootOk_init rfl halive).2 hs
      refine ⟨.trap, List.mem_append_right _ ?_, rfl⟩
      simp only [runResps]
      have hro := (run_inv env h1 init keysLt_init rootOk_init (parsedOk_init env)).2.1
      rw [((step_trap_iff env he _ halive hro .getResult).1).2 ⟨rfl, hnone⟩]
      exact List.mem_cons_self
    · have hdead := (Bool.not_eq_false _).mp halive
      refine ⟨.trap, List.mem_append_right _ ?_, rfl⟩
      simp only [runResps]
      rw [step_dead env _ _ hdead]
      exact List.mem_cons_self

end NitroVerif.Loader
