/-
The lexical base of the GENERATED grammar under the generic interpreter, shared by the type, value and document levels:
the rule bodies of the `Type` sub-language, of trivia and of names as `rfl`-checked equalities with `Gen.grammar` (if
grammar.pest changes one of these rules, this file no longer compiles); the character classes and `HeadNot`; `first_fails`,
`first_fails_letter`, `first_fails_opt` (failure decided by the first character, for this grammar); the letter and name rules
and `validName`; `NEWLINE`; the implicit skip does nothing in front of a character that is not trivia.
-/
import NitroVerif.Lemmas.PegFirst
import NitroVerif.Lemmas.PegPiece
import NitroVerif.Model.Build
namespace NitroVerif.TypeParse
open NitroVerif.Peg NitroVerif.Gen NitroVerif.Build

theorem look_Type : gList.look R.«Type» =
    some (.normal, .choice (.call R.NonNullType) (.choice (.call R.NamedType) (.call R.ListType))) := rfl
theorem look_NamedType : gList.look R.NamedType = some (.normal, .call R.Name) := rfl
theorem look_ListType : gList.look R.ListType =
    some (.normal, .seq (.str ['[']) (.seq (.call R.«Type») (.str [']']))) := rfl
theorem look_NonNullType : gList.look R.NonNullType =
    some (.normal, .choice (.seq (.call R.NamedType) (.str ['!'])) (.seq (.call R.ListType) (.str ['!']))) := rfl
theorem look_Name : gList.look R.Name = some (.atomic, .seq (.call R.NameStart) (.star (.call R.NameContinue))) := rfl
theorem look_NameStart : gList.look R.NameStart = some (.atomic, .choice (.call R.ASCII_ALPHA) (.str ['_'])) := rfl
theorem look_NameContinue : gList.look R.NameContinue =
    some (.atomic, .choice (.call R.ASCII_ALPHANUMERIC) (.str ['_'])) := rfl
theorem look_ALPHA : gList.look R.ASCII_ALPHA = some (.silent, .choice (.range 'a' 'z') (.range 'A' 'Z')) := rfl
theorem look_ALNUM : gList.look R.ASCII_ALPHANUMERIC =
    some (.silent, .choice (.range 'a' 'z') (.choice (.range 'A' 'Z') (.range '0' '9'))) := rfl
theorem look_NEWLINE : gList.look R.NEWLINE =
    some (.silent, .choice (.str ['\n']) (.choice (.str ['\r', '\n']) (.str ['\r']))) := rfl
theorem look_WHITESPACE : gList.look R.WHITESPACE =
    some (.silent, .choice (.str [Char.ofNat 65279]) (.choice (.str ['\t']) (.choice (.str [' '])
      (.choice (.call R.NEWLINE) (.str [',']))))) := rfl
theorem look_COMMENT_full : gList.look R.COMMENT = some (.silent, .seq (.str ['#']) (.seq (.star (.str [' ']))
    (.seq (.not (.call R.ext_ImportStatementContent)) (.seq (.star (.call R.CommentCharacter))
      (.choice (.call R.NEWLINE) (.call R.EOI)))))) := rfl
theorem ws_cm : gList.ws = some R.WHITESPACE ∧ gList.cm = some R.COMMENT := ⟨rfl, rfl⟩

theorem notSpecial {r : RuleId} (h1 : r ≠ R.WHITESPACE) (h2 : r ≠ R.COMMENT) :
    ¬ (gList.ws = some r ∨ gList.cm = some r) := by
  rw [ws_cm.1, ws_cm.2]
  rintro (h | h)
  · exact h1 (Option.some.inj h).symm
  · exact h2 (Option.some.inj h).symm

def alpha (d : Char) : Prop := ('a' ≤ d ∧ d ≤ 'z') ∨ ('A' ≤ d ∧ d ≤ 'Z')
def alnum (d : Char) : Prop := ('a' ≤ d ∧ d ≤ 'z') ∨ (('A' ≤ d ∧ d ≤ 'Z') ∨ ('0' ≤ d ∧ d ≤ '9'))
def nameStart (d : Char) : Prop := alpha d ∨ d = '_'
def nameCont (d : Char) : Prop := alnum d ∨ d = '_'

instance (d : Char) : Decidable (alpha d) := by unfold alpha; infer_instance
instance (d : Char) : Decidable (alnum d) := by unfold alnum; infer_instance
instance (d : Char) : Decidable (nameStart d) := by unfold nameStart; infer_instance
instance (d : Char) : Decidable (nameCont d) := by unfold nameCont; infer_instance

/-- the head of the remaining input does not satisfy `P` (or the input is at its end) -/
def HeadNot (P : Char → Prop) (rest : List Char) : Prop := ∀ d r, rest = d :: r → ¬ P d

theorem headNot_cons {P : Char → Prop} {d : Char} (hP : ¬ P d) (r : List Char) : HeadNot P (d :: r) := by
  intro d' r' he hd; cases he; exact hP hd

theorem headNot_nil (P : Char → Prop) : HeadNot P [] := fun _ _ he => by cases he
theorem headNot_mono {P Q : Char → Prop} (h : ∀ d, P d → Q d) {rest : List Char} (hq : HeadNot Q rest) : HeadNot P rest :=
  fun d r he hp => hq d r he (h d hp)

theorem matchStr_none_of_head {x : Char} {xs rest : List Char} (h : HeadNot (· = x) rest) :
    matchStr (x :: xs) rest = none := by
  cases rest with
  | nil => rfl
  | cons d r =>
    have : ¬ x = d := fun e => h d r rfl e.symm
    simp [matchStr, this]

def trivia (d : Char) : Prop :=
  d = Char.ofNat 65279 ∨ d = '\t' ∨ d = ' ' ∨ d = '\n' ∨ d = '\r' ∨ d = ',' ∨ d = '#'

instance (d : Char) : Decidable (trivia d) := by unfold trivia; infer_instance

theorem nameStart_not_trivia {d : Char} (h : nameStart d) : ¬ trivia d := by
  rintro (rfl | rfl | rfl | rfl | rfl | rfl | rfl) <;> exact absurd h (by decide)

/-- `firstIn_fails` for the generated grammar and a class given as a decidable predicate (no rule taken as failing, no
    optional or lookahead head outside atomic rules) -/
theorem first_fails {P : Char → Prop} [DecidablePred P] {k : Nat} {e : Expr} {p : Nat} {rest : List Char} {la : Look}
    {sk : Bool} {at_ : Atomicity} (hc : firstIn gList (fun d => decide (P d)) (fun _ => none) none k false e = true)
    (h : HeadNot P rest) : FailsL gList la k sk e at_ ⟨p, rest⟩ :=
  firstIn_fails (F := fun _ => none) (S := none) (fun d r he => decide_eq_false (h d r he)) (fun _ _ hr => nomatch hr)
    (fun _ hs => nomatch hs) k false e hc la sk at_ (fun hn => nomatch hn)

/-! ### character classes under any lookahead state (they are called both directly and inside `!(…)`) -/

theorem rangeL_fails {la : Look} {sk : Bool} {lo hi : Char} {at_ : Atomicity} {p : Nat} {rest : List Char}
    (h : HeadNot (fun d => lo ≤ d ∧ d ≤ hi) rest) : FailsL gList la 1 sk (.range lo hi) at_ ⟨p, rest⟩ :=
  failsL_range (c := ⟨p, rest⟩) h

theorem alphaL_runs {la at_ p d r} (h : alpha d) : RunsRuleL gList la 3 R.ASCII_ALPHA at_ ⟨p, d :: r⟩ ⟨p + 1, r⟩ [] := by
  refine runsRuleL_silent look_ALPHA (notSpecial (by decide) (by decide)) ?_
  by_cases h1 : 'a' ≤ d ∧ d ≤ 'z'
  · exact (runsL_choice_l (runsL_range (c := ⟨p, d :: r⟩) rfl h1)).mono (by omega)
  · have h2 : 'A' ≤ d ∧ d ≤ 'Z' := h.resolve_left h1
    exact runsL_choice_r (rangeL_fails (headNot_cons h1 r)) (runsL_range (c := ⟨p, d :: r⟩) rfl h2)

theorem alphaL_fails {la at_ p rest} (h : HeadNot alpha rest) : FailsRuleL gList la 3 R.ASCII_ALPHA at_ ⟨p, rest⟩ := by
  refine failsRuleL_silent look_ALPHA (notSpecial (by decide) (by decide)) ?_
  exact failsL_choice (rangeL_fails fun d r he hd => h d r he (Or.inl hd))
    (rangeL_fails fun d r he hd => h d r he (Or.inr hd))

theorem alnumL_runs {la at_ p d r} (h : alnum d) :
    RunsRuleL gList la 4 R.ASCII_ALPHANUMERIC at_ ⟨p, d :: r⟩ ⟨p + 1, r⟩ [] := by
  refine runsRuleL_silent look_ALNUM (notSpecial (by decide) (by decide)) ?_
  by_cases h1 : 'a' ≤ d ∧ d ≤ 'z'
  · exact (runsL_choice_l (runsL_range (c := ⟨p, d :: r⟩) rfl h1)).mono (by omega)
  · have h' := h.resolve_left h1
    refine runsL_choice_r ((rangeL_fails (headNot_cons h1 r)).mono (by omega : 1 ≤ 2)) ?_
    by_cases h2 : 'A' ≤ d ∧ d ≤ 'Z'
    · exact runsL_choice_l (runsL_range (c := ⟨p, d :: r⟩) rfl h2)
    · exact runsL_choice_r (rangeL_fails (headNot_cons h2 r)) (runsL_range (c := ⟨p, d :: r⟩) rfl (h'.resolve_left h2))

theorem alnumL_fails {la at_ p rest} (h : HeadNot alnum rest) :
    FailsRuleL gList la 4 R.ASCII_ALPHANUMERIC at_ ⟨p, rest⟩ := by
  refine failsRuleL_silent look_ALNUM (notSpecial (by decide) (by decide)) ?_
  exact failsL_choice ((rangeL_fails fun d r he hd => h d r he (Or.inl hd)).mono (by omega : 1 ≤ 2))
    (failsL_choice (rangeL_fails fun d r he hd => h d r he (Or.inr (Or.inl hd)))
      (rangeL_fails fun d r he hd => h d r he (Or.inr (Or.inr hd))))

theorem classOrUnderscore_runs {la : Look} {x : RuleId} {P : Char → Prop} {k : Nat} {p : Nat} {d : Char} {r : List Char}
    (hruns : P d → RunsRuleL gList la k x .atomic ⟨p, d :: r⟩ ⟨p + 1, r⟩ [])
    (hfails : ¬ P d → FailsRuleL gList la k x .atomic ⟨p, d :: r⟩) (h : P d ∨ d = '_') :
    RunsL gList la (k + 2) false (.choice (.call x) (.str ['_'])) .atomic ⟨p, d :: r⟩ ⟨p + 1, r⟩ [] := by
  by_cases ha : P d
  · exact runsL_choice_l (runsL_call (hruns ha))
  · obtain rfl : d = '_' := h.resolve_left ha
    exact runsL_choice_r (failsL_call (hfails ha)) ((runsL_str (c := ⟨p, '_' :: r⟩) (by simp [matchStr])).mono (by omega))

theorem nameStartL_runs {la p d r} (h : nameStart d) :
    RunsRuleL gList la 6 R.NameStart .atomic ⟨p, d :: r⟩ ⟨p + 1, r⟩ [] := by
  have key := classOrUnderscore_runs (la := la) (p := p) (r := r) alphaL_runs
    (fun ha => alphaL_fails fun d' r' he => by cases he; exact ha) h
  simpa using runsRuleL_atomic (at_ := .atomic) look_NameStart key

/-! the failures of `NameStart`, `NameContinue`, `Name` are derived from those of the two letter rules directly and not by the
    first-character check: it would go through the ranges of letters and digits under `ASCII_ALPHANUMERIC` -/

theorem nameStartL_fails {la p rest} (h : HeadNot nameStart rest) : FailsRuleL gList la 6 R.NameStart .atomic ⟨p, rest⟩ := by
  refine failsRuleL_atomic look_NameStart ?_
  refine failsL_choice (failsL_call (alphaL_fails fun d r he ha => h d r he (Or.inl ha))) ?_
  exact (failsL_str (c := ⟨p, rest⟩) (matchStr_none_of_head fun d r he hd => h d r he (Or.inr hd))).mono (by omega)

theorem nameContL_runs {la p d r} (h : nameCont d) :
    RunsRuleL gList la 7 R.NameContinue .atomic ⟨p, d :: r⟩ ⟨p + 1, r⟩ [] := by
  have key := classOrUnderscore_runs (la := la) (p := p) (r := r) alnumL_runs
    (fun ha => alnumL_fails fun d' r' he => by cases he; exact ha) h
  simpa using runsRuleL_atomic (at_ := .atomic) look_NameContinue key

theorem nameContL_fails {la p rest} (h : HeadNot nameCont rest) :
    FailsRuleL gList la 7 R.NameContinue .atomic ⟨p, rest⟩ := by
  refine failsRuleL_atomic look_NameContinue ?_
  refine failsL_choice (failsL_call (alnumL_fails fun d r he ha => h d r he (Or.inl ha))) ?_
  exact (failsL_str (c := ⟨p, rest⟩) (matchStr_none_of_head fun d r he hd => h d r he (Or.inr hd))).mono (by omega)

/-- a valid name: a name-start character followed by name characters -/
def validName : List Char → Prop
  | [] => False
  | d :: ds => nameStart d ∧ ∀ x ∈ ds, nameCont x

theorem name_runs {n : List Char} (hn : validName n) (p : Nat) (rest : List Char) (hr : HeadNot nameCont rest) :
    RunsRule gList (n.length + 12) R.Name .nonAtomic ⟨p, n ++ rest⟩ ⟨p + n.length, rest⟩ [Pair.mk R.Name p (p + n.length) []] := by
  match n, hn with
  | d :: ds, ⟨hd, hds⟩ =>
    have hb : Piece gList .none 11 false (.seq (.call R.NameStart) (.star (.call R.NameContinue))) .atomic p (d :: ds) rest :=
      (Piece.seq (ta := [d]) (Or.inl rfl) (Piece.one (runsL_call (nameStartL_runs hd)))
        (Piece.star (fun _ _ _ h => runsL_call (nameContL_runs h)) (fun _ => failsL_call (nameContL_fails hr)) hds)).mono
        (by decide)
    exact Piece.rule look_Name hb .nonAtomic

theorem name_fails {p rest} (h : HeadNot nameStart rest) : FailsRule gList 9 R.Name .nonAtomic ⟨p, rest⟩ :=
  failsRule_atomic look_Name (fails_seq_first (failsL_call (nameStartL_fails h)))

theorem newlineL_fails {la : Look} {at_ : Atomicity} {p : Nat} {rest : List Char}
    (h : HeadNot (fun d => d = '\n' ∨ d = '\r') rest) : FailsRuleL gList la 4 R.NEWLINE at_ ⟨p, rest⟩ :=
  failsRuleL_of_call (sk := false) (first_fails (by decide) h)

/-- NEWLINE consumes exactly the line terminator `nl` (a lone CR must not be followed by LF) -/
theorem newlineL_runs {la : Look} {at_ : Atomicity} {p : Nat} {nl x : List Char}
    (hnl : nl = ['\n'] ∨ nl = ['\r', '\n'] ∨ nl = ['\r']) (hx : nl = ['\r'] → HeadNot (· = '\n') x) :
    RunsRuleL gList la 4 R.NEWLINE at_ ⟨p, nl ++ x⟩ ⟨p + nl.length, x⟩ [] := by
  refine runsRuleL_silent look_NEWLINE (notSpecial (by decide) (by decide)) ?_
  rcases hnl with rfl | rfl | rfl
  · exact (runsL_choice_l (runsL_str (c := ⟨p, ['\n'] ++ x⟩) (by simp [matchStr]))).mono (by omega)
  · refine runsL_choice_r ((failsL_str (c := ⟨p, ['\r', '\n'] ++ x⟩) (by simp [matchStr])).mono (by omega : 1 ≤ 2)) ?_
    exact runsL_choice_l (runsL_str (c := ⟨p, ['\r', '\n'] ++ x⟩) (by simp [matchStr]))
  · have hn := hx rfl
    refine runsL_choice_r ((failsL_str (c := ⟨p, ['\r'] ++ x⟩) (by simp [matchStr])).mono (by omega : 1 ≤ 2)) ?_
    refine runsL_choice_r (failsL_str (c := ⟨p, ['\r'] ++ x⟩) ?_) (runsL_str (c := ⟨p, ['\r'] ++ x⟩) (by simp [matchStr]))
    cases x with
    | nil => simp [matchStr]
    | cons y ys =>
      have : ¬ '\n' = y := fun e => hn y ys rfl e.symm
      simp [matchStr, this]

/-! ### the implicit skip does nothing in front of a non-trivia character -/

theorem skip_nothing {p : Nat} {rest : List Char} (h : HeadNot trivia rest) (la : Look) (sk : Bool) (at_ : Atomicity) :
    SkipsL gList la 16 sk at_ ⟨p, rest⟩ ⟨p, rest⟩ := by
  by_cases hn : sk = false ∨ at_ ≠ .nonAtomic
  · exact (SkipsL.noskip hn).mono (by decide)
  · obtain ⟨rfl, rfl⟩ : sk = true ∧ at_ = .nonAtomic := by
      cases sk <;> cases at_ <;> simp_all
    have hW : RunsL gList la 13 false (.star (.call R.WHITESPACE)) .nonAtomic ⟨p, rest⟩ ⟨p, rest⟩ [] :=
      runsL_star_nil (first_fails (by decide) h)
    have hC : RunsL gList la 13 false (.star (.seq (.call R.COMMENT) (.star (.call R.WHITESPACE)))) .nonAtomic ⟨p, rest⟩
        ⟨p, rest⟩ [] := runsL_star_nil (first_fails (by decide) h)
    exact skips_of_runs ws_cm.1 ws_cm.2 (runsL_seq_noskip (Or.inl rfl) hW hC)

/-- the letter rule taken as failing (so that the ranges of letters are not gone through at every rule above it) -/
def alphaF (r : RuleId) : Option Nat := if r = R.ASCII_ALPHA then some 3 else none

theorem alphaF_fails {p : Nat} {rest : List Char} (ha : HeadNot alpha rest) (r : RuleId) (m : Nat) (hr : alphaF r = some m)
    (la : Look) (at_ : Atomicity) : FailsRuleL gList la m r at_ ⟨p, rest⟩ := by
  unfold alphaF at hr
  split at hr
  · cases hr; subst r; exact alphaL_fails ha
  · cases hr

variable {P : Char → Prop} [DecidablePred P] {k : Nat} {e : Expr} {p : Nat} {rest : List Char} {la : Look} {sk : Bool}
  {at_ : Atomicity}

/-- `firstIn_fails` for the generated grammar where the head passes the letter rule: then no letter follows either -/
theorem first_fails_letter (hc : firstIn gList (fun d => decide (P d)) alphaF none k false e = true) (h : HeadNot P rest)
    (ha : HeadNot alpha rest) : FailsL gList la k sk e at_ ⟨p, rest⟩ :=
  firstIn_fails (fun d r he => decide_eq_false (h d r he)) (alphaF_fails ha) (fun _ hm => by cases hm) k false e hc la sk at_
    (fun hn => nomatch hn)

/-- … and where it begins with an optional item or a lookahead outside an atomic rule: then the first character is not
    trivia, so that the skip after that item does nothing -/
theorem first_fails_opt (hc : firstIn gList (fun d => decide (P d)) alphaF (some 16) k false e = true) (h : HeadNot P rest)
    (ha : HeadNot alpha rest) (ht : HeadNot trivia rest) : FailsL gList la k sk e at_ ⟨p, rest⟩ :=
  firstIn_fails (fun d r he => decide_eq_false (h d r he)) (alphaF_fails ha)
    (fun m hm la sk at_ => by cases hm; exact skip_nothing ht la sk at_) k false e hc la sk at_ (fun hn => nomatch hn)

end NitroVerif.TypeParse
