/-
The reference reader `ReadDoc.readDoc` inverts the JSON model `DocJson.toJson`, node kind by node kind.
-/
import NitroVerif.Model.DocJson
import NitroVerif.Spec.ReadDoc
namespace NitroVerif.C12
open NitroVerif NitroVerif.Gql NitroVerif.DocJson NitroVerif.ReadDoc

-- the reader's member lookups and node tests unfold in every proof of this file
attribute [local simp] kind rd rdFields assemble req opt optList reqList fld asStr asName asValue asType asBool asArg
  asObjField asDir asSel asSelSet asVarDef asDef asNamedType asVariable withNone

theorem rd_nameJ (n : Name) : rd (nameJ n) = .node (.name n) := by
  simp [nameJ]

theorem rd_varJ (n : Name) : rd (varJ n) = .node (.value (.var n Pos.none)) := by
  simp [varJ, rd_nameJ]

theorem rd_typeJ (t : GType) : rd (typeJ t) = .node (.type t.erasePos) := by
  induction t with
  | named n p => simp [typeJ, rd_nameJ, GType.erasePos]
  | list t p ih => simp [typeJ, ih, GType.erasePos]
  | nonNull t ih => simp [typeJ, ih, GType.erasePos]

theorem collect_map {α : Type} (p : R → Option α) (g : α → R) (h : ∀ x, p (g x) = some x) (l : List α) :
    collect p (l.map g) = some l := by
  induction l with
  | nil => rfl
  | cons a l ih => simp [collect, h, ih]

theorem collect_map2 {α β : Type} (p : R → Option α) (g : β → R) (e : β → α) (h : ∀ x, p (g x) = some (e x))
    (l : List β) : collect p (l.map g) = some (l.map e) := by
  induction l with
  | nil => rfl
  | cons a l ih => simp [collect, h, ih]

theorem rdList_map {α : Type} (f : α → Json) (g : α → R) (l : List α) (h : ∀ x ∈ l, rd (f x) = g x) :
    rdList (l.map f) = l.map g := by
  induction l with
  | nil => rfl
  | cons a l ih =>
    simp only [List.map_cons, rdList]
    rw [h a (by simp), ih (fun x hx => h x (by simp [hx]))]

mutual
theorem rd_valueJ : (v : Value) → rd (valueJ v) = .node (.value v.erasePos)
  | .var n p => by simp [valueJ, rd_varJ, Value.erasePos]
  | .bool b p => by simp [valueJ, Value.erasePos]
  | .int _ _ | .float _ _ | .str _ _ | .enum _ _ | .null _ => by
    simp [valueJ, Value.erasePos]
  | .list vs p => by
    have h := rd_valuesJ vs
    simp [valueJ, h, Value.erasePos, collect_map asValue (fun v => R.node (.value v)) (fun _ => rfl)]
  | .obj fs p => by
    have h := rd_fieldsJ fs
    simp [valueJ, h, Value.erasePos, collect_map asObjField (fun a => R.node (.objField a)) (fun _ => rfl)]
theorem rd_valuesJ : (vs : List Value) →
    rdList (valuesJ vs) = (Value.erasePosList vs).map (fun v => R.node (.value v))
  | [] => by simp [valuesJ, rdList, Value.erasePosList]
  | v :: vs => by simp [valuesJ, rdList, Value.erasePosList, rd_valueJ v, rd_valuesJ vs]
theorem rd_fieldsJ : (fs : List (Name × Pos × Value)) →
    rdList (fieldsJ fs) = (Value.erasePosFields fs).map (fun a => R.node (.objField a))
  | [] => by simp [fieldsJ, rdList, Value.erasePosFields]
  | (k, p, v) :: fs => by
    simp [fieldsJ, rdList, Value.erasePosFields, rd_valueJ v, rd_fieldsJ fs, rd_nameJ]
end

theorem rd_argJ (a : Arg) : rd (argJ a) = .node (.arg (a.1, Pos.none, a.2.2.erasePos)) := by
  obtain ⟨n, p, v⟩ := a
  simp [argJ, rd_nameJ, rd_valueJ]

theorem eraseArgs_eq (as : List Arg) : eraseArgs as = as.map fun a => (a.1, Pos.none, a.2.2.erasePos) := by
  induction as with
  | nil => simp [eraseArgs, Value.erasePosFields]
  | cons a as ih =>
    obtain ⟨n, p, v⟩ := a
    simp only [eraseArgs] at ih
    simp [eraseArgs, Value.erasePosFields, ih]

theorem rd_argsJ (as : List Arg) : rdList (as.map argJ) = (eraseArgs as).map (fun a => R.node (.arg a)) := by
  rw [eraseArgs_eq, List.map_map]
  exact rdList_map _ _ _ (fun a _ => rd_argJ a)

theorem rd_dirJ (d : Directive) : rd (dirJ d) = .node (.dir (eraseDir d)) := by
  simp [dirJ, rd_nameJ, rd_argsJ, eraseDir, collect_map asArg (fun a => R.node (.arg a)) (fun _ => rfl)]

theorem rd_dirsJ (ds : List Directive) : rdList (ds.map dirJ) = (ds.map eraseDir).map (fun d => R.node (.dir d)) := by
  rw [List.map_map]
  exact rdList_map _ _ _ (fun d _ => rd_dirJ d)

theorem collect_rd_args (as : List Arg) : collect asArg (rdList (as.map argJ)) = some (eraseArgs as) := by
  rw [rd_argsJ]; exact collect_map asArg (fun a => R.node (.arg a)) (fun _ => rfl) _

theorem collect_rd_dirs (ds : List Directive) : collect asDir (rdList (ds.map dirJ)) = some (ds.map eraseDir) := by
  rw [rd_dirsJ]; exact collect_map asDir (fun d => R.node (.dir d)) (fun _ => rfl) _

theorem selSetKV_ne (js : List Json) (h : js ≠ []) : selSetKV js = [("selectionSet", selSetJ js)] := by
  cases js with
  | nil => exact absurd rfl h
  | cons a l => rfl

theorem selsJ_ne (ss : List Selection) (h : ss.isEmpty = false) : selsJ ss ≠ [] := by
  cases ss with
  | nil => simp at h
  | cons a l => simp [selsJ]

theorem rd_selSetJ (ss : List Selection) (es : List Selection)
    (h : rdList (selsJ ss) = es.map (fun s => R.node (.sel s))) :
    rd (selSetJ (selsJ ss)) = .node (.selSet es) := by
  simp [selSetJ, h, collect_map asSel (fun s => R.node (.sel s)) (fun _ => rfl)]

mutual
theorem rd_selJ : (s : Selection) → selOk s = true → rd (selJ s) = .node (.sel (eraseSel s))
  | .field al n p args dirs (some ss), h => by
    simp only [selOk, Bool.and_eq_true, Bool.not_eq_true'] at h
    have h1 := rd_selSetJ ss _ (rd_selsJ ss h.2)
    have h2 := selSetKV_ne _ (selsJ_ne ss h.1)
    cases al with
    | none =>
      simp [selJ, h1, h2, optNameKV, eraseSel, eraseOptName, rd_nameJ, collect_rd_args, collect_rd_dirs]
    | some a =>
      obtain ⟨a, q⟩ := a
      simp [selJ, h1, h2, optNameKV, eraseSel, eraseOptName, rd_nameJ, collect_rd_args, collect_rd_dirs]
  | .field al n p args dirs none, _ => by
    cases al with
    | none =>
      simp [selJ, optNameKV, eraseSel, eraseOptName, rd_nameJ, collect_rd_args, collect_rd_dirs]
    | some a =>
      obtain ⟨a, q⟩ := a
      simp [selJ, optNameKV, eraseSel, eraseOptName, rd_nameJ, collect_rd_args, collect_rd_dirs]
  | .spread n p dirs q, _ => by
    simp [selJ, eraseSel, rd_nameJ, collect_rd_dirs]
  | .inline c dirs ss q, h => by
    simp only [selOk, Bool.and_eq_true, Bool.not_eq_true'] at h
    have h1 := rd_selSetJ ss _ (rd_selsJ ss h.2)
    have h2 := selSetKV_ne _ (selsJ_ne ss h.1)
    cases c with
    | none =>
      simp [selJ, h1, h2, optCondKV, eraseSel, eraseOptName, collect_rd_dirs]
    | some a =>
      obtain ⟨a, q⟩ := a
      simp [selJ, h1, h2, optCondKV, condJ, eraseSel, eraseOptName, rd_nameJ, collect_rd_dirs]
theorem rd_selsJ : (ss : List Selection) → selsOk ss = true →
    rdList (selsJ ss) = (eraseSels ss).map (fun s => R.node (.sel s))
  | [], _ => by simp [selsJ, rdList, eraseSels]
  | s :: r, h => by
    simp only [selsOk, Bool.and_eq_true] at h
    simp [selsJ, rdList, eraseSels, rd_selJ s h.1, rd_selsJ r h.2]
end

theorem rd_selSet_of_ok (ss : List Selection) (h : selsOk ss = true) :
    rd (selSetJ (selsJ ss)) = .node (.selSet (eraseSels ss)) :=
  rd_selSetJ ss _ (rd_selsJ ss h)

theorem rd_varDefJ (v : VarDef) : rd (varDefJ v) = .node (.varDef (eraseVarDef v)) := by
  obtain ⟨n, p, t, d, ds⟩ := v
  cases d with
  | none =>
    simp [varDefJ, optDefaultKV, eraseVarDef, rd_varJ, rd_typeJ, collect_rd_dirs]
  | some dv =>
    simp [varDefJ, optDefaultKV, eraseVarDef, rd_varJ, rd_typeJ, rd_valueJ, collect_rd_dirs]

theorem collect_rd_varDefs (vs : List VarDef) :
    collect asVarDef (rdList (vs.map varDefJ)) = some (vs.map eraseVarDef) := by
  rw [rdList_map varDefJ (fun v => R.node (.varDef (eraseVarDef v))) vs (fun v _ => rd_varDefJ v)]
  exact collect_map2 asVarDef _ eraseVarDef (fun _ => rfl) _

theorem opKindOf_asStr (k : OpKind) : opKindOf k.asStr = some k := by
  cases k <;> simp [opKindOf, OpKind.asStr]

theorem rd_opJ (o : OperationDef) (h : defOk (.op o) = true) : rd (opJ o) = .node (.defn (.op (eraseOp o))) := by
  obtain ⟨k, nm, vs, ds, ss, p⟩ := o
  simp only [defOk, Bool.and_eq_true, Bool.not_eq_true'] at h
  have h1 := rd_selSet_of_ok ss h.2
  have h2 := selSetKV_ne _ (selsJ_ne ss h.1)
  cases nm with
  | none =>
    simp [opJ, h1, h2, optNameKV, eraseOp, eraseOptName, collect_rd_dirs, collect_rd_varDefs, opKindOf_asStr]
  | some a =>
    obtain ⟨a, q⟩ := a
    simp [opJ, h1, h2, optNameKV, eraseOp, eraseOptName, rd_nameJ, collect_rd_dirs, collect_rd_varDefs, opKindOf_asStr]

theorem rd_fragJ (f : FragmentDef) (h : defOk (.frag f) = true) : rd (fragJ f) = .node (.defn (.frag (eraseFrag f))) := by
  obtain ⟨n, np, c, cp, ds, ss, p⟩ := f
  simp only [defOk, Bool.and_eq_true, Bool.not_eq_true'] at h
  have h1 := rd_selSet_of_ok ss h.2
  have h2 := selSetKV_ne _ (selsJ_ne ss h.1)
  simp [fragJ, h1, h2, condJ, eraseFrag, rd_nameJ, collect_rd_dirs]

theorem rd_defsJ (defs : List ExecDef) (h : Resolved defs) :
    rdList (defsJ defs) = (erasePos defs).map (fun d => R.node (.defn d)) := by
  induction defs with
  | nil => simp [defsJ, rdList, erasePos]
  | cons d r ih =>
    have hd : defOk d = true := h d (by simp)
    have hr : Resolved r := fun x hx => h x (by simp [hx])
    have ih := ih hr
    simp only [defsJ, erasePos] at ih ⊢
    cases d with
    | op o => simp [defJ, rdList, rd_opJ o hd, ih, eraseDef]
    | frag f => simp [defJ, rdList, rd_fragJ f hd, ih, eraseDef]
    | imp i => simp [defOk] at hd

theorem readDoc_toJson (defs : List ExecDef) (h : Resolved defs) : readDoc (toJson defs) = some (erasePos defs) := by
  simp [readDoc, toJson, rd_defsJ defs h, collect_map asDef (fun d => R.node (.defn d)) (fun _ => rfl)]

end NitroVerif.C12
