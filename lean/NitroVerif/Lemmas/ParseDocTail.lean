/-
Where the implicit skip ends, generalised. The construct lemmas say "a token follows" as `Tok c`. Two more things can
follow a gap at the top level of an executable document: an `#import` statement — it begins with `#`, but `COMMENT` fails
there (its negative lookahead succeeds), so the skip stops in front of it — and a final comment that is not terminated by
a line break, which `COMMENT` takes up to the end of the input. `Tail inp n E c'` captures all three: at offset `E` there
is no whitespace character and the comment loop of the skip `(COMMENT WHITESPACE*)*`, started there, ends at `c'`. What is
proved of the LAST token of a construct is stated once, for a `Tail` (`PartT`, Lemmas/ParseDocPart.lean).
-/
import NitroVerif.Lemmas.ParseDocLeaf
namespace NitroVerif.DocParse
open NitroVerif.Peg NitroVerif.Gen NitroVerif.Gen.Parts NitroVerif.Build NitroVerif.TypeParse NitroVerif.StringParse
open NitroVerif.Gql NitroVerif.ValueParse NitroVerif.Spec.Lex

variable {inp : List Char}

/-- what lies at offset `E` lets a skip that arrives there end at `c'`: no whitespace character at `E`, and the comment loop
    of the skip started at `E` ends at `c'`. The depth `n` is counted from 13, what the loop needs to see that a token
    follows: then `n = 0`, and the bounds of the lemmas about a `Tail` are those of the lemmas about a token. -/
structure Tail (inp : List Char) (n : Nat) (E : Nat) (c' : Cur) : Prop where
  ws : HeadNot wsChar (inp.drop E)
  run : Runs gList (n + 13) false cmStar .nonAtomic (At inp E) c' []

theorem Tail.mono {n m E : Nat} {c' : Cur} (h : Tail inp n E c') (hnm : n ≤ m) : Tail inp m E c' :=
  ⟨h.ws, h.run.mono (by omega)⟩

theorem Tail.skip {n E : Nat} {c' : Cur} (hT : Tail inp n E c') {q : Nat} {g : List Char} (hg : HasAt inp q g) (hw : Ws g)
    (he : q + g.length = E) : SkipTo (g.length + 73 + n) (At inp q) c' := by
  subst he
  have := skip_ws_then g hw q (inp.drop (q + g.length)) (n + 13) c' hT.ws hT.run
  simp only [At]
  rw [hg.drop]
  exact this.mono (by omega)

theorem tail_of_stop {n E : Nat} (hws : HeadNot wsChar (inp.drop E))
    (hcm : FailsRule gList (n + 10) R.COMMENT .nonAtomic (At inp E)) : Tail inp n E (At inp E) :=
  ⟨hws, runs_star_nil (fails_seq_first (fails_call hcm))⟩

theorem tail_of_tok {E : Nat} (h : Tok (At inp E)) : Tail inp 0 E (At inp E) :=
  tail_of_stop (headNot_mono (fun _ h => wsChar_trivia h) h) (cm_fails h)

theorem Tail.app {n p : Nat} {c' : Cur} {a b : List Char} (h : Tail inp n (p + (a ++ b).length) c') :
    Tail inp n (p + a.length + b.length) c' := by
  rwa [List.length_append, ← Nat.add_assoc] at h

theorem PartT.str {τ : Trivia} (hτ : ∀ q, Ws (τ q)) (s : List Char) {sep : Bool} {p n : Nat} {c' : Cur}
    (h : HasAt inp p (tk τ sep p s)) (hT : Tail inp n (p + (tk τ sep p s).length) c') :
    PartT inp 0 n (.str s) p (tk τ sep p s) c' [] := by
  refine ⟨⟨At inp (p + s.length), ?_, ?_⟩, trivial⟩
  · have : matchStr s (At inp p).rest = some (inp.drop (p + s.length)) := by
      simp only [At]; rw [h.left.drop]; exact matchStr_self_append _ _
    exact (runs_str (c := At inp p) this).mono (by simp only [B]; omega)
  · refine (hT.skip h.right (ws_gapS (hτ _)) (by rw [tk_length]; omega)).mono ?_
    rw [tk_length]; simp only [B]; omega

theorem PartT.string {τ : Trivia} (hτ : ∀ q, Ws (τ q)) (s : List Char) {sep : Bool} {p n : Nat} {c' : Cur}
    (h : HasAt inp p (tk τ sep p (quoted s))) (hT : Tail inp n (p + (tk τ sep p (quoted s)).length) c')
    (hq : HeadNot (· = '"') (inp.drop (p + (tk τ sep p (quoted s)).length))) :
    PartT inp 0 n (.call R.StringValue) p (tk τ sep p (quoted s)) c' [stringPair s p] := by
  have hend : StrEnd s (inp.drop (p + (quoted s).length)) := by
    intro _
    cases hgl : gapS sep (τ (p + (quoted s).length)) with
    | nil =>
      have e : p + (quoted s).length = p + (tk τ sep p (quoted s)).length := by rw [tk_length, hgl]; rfl
      rw [e]; exact hq
    | cons d rr =>
      rw [h.right.drop, hgl]
      refine headNot_cons ?_ _
      rintro rfl
      exact absurd (ws_head_trivia (ws_gapS (hτ _)) _ rr hgl) (by decide)
  have hl := specEscape_length_ge s
  refine ⟨⟨At inp (p + (quoted s).length), ?_, ?_⟩, clean_stringPair _ _, trivial⟩
  · have := stringValue_runs s p _ hend (at_ := .nonAtomic)
    simp only [At]
    rw [h.left.drop]
    refine (runs_call this).mono ?_
    rw [tk_length]; simp only [quoted, List.length_cons, List.length_append, List.length_nil, B]; omega
  · refine (hT.skip h.right (ws_gapS (hτ _)) (by rw [tk_length]; omega)).mono ?_
    rw [tk_length]; simp only [B]; omega

theorem stringP {τ : Trivia} (hτ : ∀ q, Ws (τ q)) (s : List Char) {sep : Bool} {p : Nat}
    (h : HasAt inp p (tk τ sep p (quoted s))) (ht : Tok (At inp (p + (tk τ sep p (quoted s)).length)))
    (hq : HeadNot (· = '"') (inp.drop (p + (tk τ sep p (quoted s)).length))) :
    Part inp 0 (.call R.StringValue) p (tk τ sep p (quoted s)) [stringPair s p] :=
  PartT.string hτ s h (tail_of_tok ht) hq

end NitroVerif.DocParse
