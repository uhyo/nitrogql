import NitroVerif.Model.GqlPrint
/-!
A walk over every printing function of `Model/GqlPrint.lean` that a type-system document reaches, showing that the
indentation operations it emits are BALANCED: whatever the indentation level is before a definition is printed, it is
the same after it (`net k (printX x) = k` for every `k`). The statements quantify over `k` because `.ded` is truncated
subtraction: a token list that dedents first and indents afterwards is balanced from 2 but not from 0. The lemmas are
simp lemmas of this file only.
-/
namespace NitroVerif.DeterminismServer
open NitroVerif.Gql NitroVerif.GqlPrint NitroVerif.JsTemplate

/-- the effect of one printer token on the indentation level of the `SourceMapWriter` -/
def shift : Tok → Nat → Nat
  | .ind, k => k + 2
  | .ded, k => k - 2
  | _, k => k

/-- the indentation level after the tokens `ts`, starting from level `k` -/
def net (k : Nat) (ts : List Tok) : Nat := ts.foldl (fun k t => shift t k) k

@[local simp] theorem net_nil (k : Nat) : net k [] = k := rfl
@[local simp] theorem net_cons (k : Nat) (t : Tok) (ts : List Tok) : net k (t :: ts) = net (shift t k) ts := rfl
@[local simp] theorem net_append (k : Nat) (a b : List Tok) : net k (a ++ b) = net (net k a) b := by
  simp [net, List.foldl_append]

@[local simp] theorem shift_p (s : String) (k : Nat) : shift (.p s) k = k := rfl
@[local simp] theorem shift_name (s : String) (k : Nat) : shift (.name s) k = k := rfl
@[local simp] theorem shift_var (s : String) (k : Nat) : shift (.var s) k = k := rfl
@[local simp] theorem shift_int (s : String) (k : Nat) : shift (.int s) k = k := rfl
@[local simp] theorem shift_float (s : String) (k : Nat) : shift (.float s) k = k := rfl
@[local simp] theorem shift_str (s : String) (k : Nat) : shift (.str s) k = k := rfl
@[local simp] theorem shift_lay (s : String) (k : Nat) : shift (.lay s) k = k := rfl
@[local simp] theorem shift_ind (k : Nat) : shift .ind k = k + 2 := rfl
@[local simp] theorem shift_ded (k : Nat) : shift .ded k = k - 2 := rfl
@[local simp] theorem shift_sp (k : Nat) : shift sp k = k := rfl
@[local simp] theorem shift_nl (k : Nat) : shift nl k = k := rfl

@[local simp] theorem bal_type (t : GType) : ∀ k, net k (printType t) = k := by
  induction t with
  | named n p => intro k; simp [printType]
  | list t p ih => intro k; simp [printType, ih]
  | nonNull t ih => intro k; simp [printType, ih]

mutual
theorem bal_value : (v : Value) → ∀ k, net k (printValue v) = k
  | .var _ _ | .int _ _ | .float _ _ | .str _ _ | .bool _ _ | .null _ | .enum _ _ => by intro k; simp [printValue]
  | .list vs _ => by
    intro k
    have := bal_valueList vs true
    simp [printValue, this]
  | .obj [] _ => by intro k; simp [printValue]
  | .obj [(k', _, v)] _ => by
    intro k
    have := bal_value v
    simp [printValue, this]
  | .obj (f1 :: f2 :: fs) _ => by
    intro k
    have := bal_fieldLines (f1 :: f2 :: fs)
    simp [printValue, this]
theorem bal_valueList : (vs : List Value) → (b : Bool) → ∀ k, net k (printValueList vs b) = k
  | [], _ => by intro k; simp [printValueList]
  | v :: vs, b => by
    intro k
    have h1 := bal_value v
    have h2 := bal_valueList vs false
    cases b <;> simp [printValueList, h1, h2]
theorem bal_fieldLines : (fs : List (Name × Pos × Value)) → ∀ k, net k (printFieldLines fs) = k
  | [] => by intro k; simp [printFieldLines]
  | (k', _, v) :: r => by
    intro k
    have h1 := bal_value v
    have h2 := bal_fieldLines r
    simp [printFieldLines, h1, h2]
end

attribute [local simp] bal_value bal_valueList bal_fieldLines

@[local simp] theorem bal_args : (as : List Arg) → ∀ k, net k (printArgs as) = k
  | [] => by intro k; simp [printArgs]
  | [(k', _, v)] => by intro k; simp [printArgs]
  | a1 :: a2 :: as => by intro k; simp [printArgs]

@[local simp] theorem bal_directive (d : Directive) : ∀ k, net k (printDirective d) = k := by
  intro k; simp [printDirective]

@[local simp] theorem bal_dirs (ds : List Directive) : ∀ k, net k (printDirs ds) = k := by
  induction ds with
  | nil => intro k; simp [printDirs]
  | cons d ds ih => intro k; simp [printDirs, ih]

@[local simp] theorem bal_dirsTight (ds : List Directive) : ∀ k, net k (printDirsTight ds) = k := by
  induction ds with
  | nil => intro k; simp [printDirsTight]
  | cons d ds ih => intro k; simp [printDirsTight, ih]

@[local simp] theorem bal_desc (d : Option String) : ∀ k, net k (printDesc d) = k := by
  intro k; cases d <;> simp [printDesc]

@[local simp] theorem bal_inputValueDef (v : InputValueDef) : ∀ k, net k (printInputValueDef v) = k := by
  intro k; cases h : v.default <;> simp [printInputValueDef, h]

@[local simp] theorem bal_argDefsSep (vs : List InputValueDef) : ∀ b k, net k (printArgDefsSep vs b) = k := by
  induction vs with
  | nil => intro b k; simp [printArgDefsSep]
  | cons v vs ih => intro b k; cases b <;> simp [printArgDefsSep, ih]

@[local simp] theorem bal_argDefs : (vs : List InputValueDef) → ∀ k, net k (printArgDefs vs) = k
  | [] => by intro k; simp [printArgDefs]
  | v :: vs => by intro k; simp [printArgDefs]

@[local simp] theorem bal_fieldDef (f : FieldDef) : ∀ k, net k (printFieldDef f) = k := by
  intro k; simp [printFieldDef]

@[local simp] theorem bal_enumValueDef (v : EnumValueDef) : ∀ k, net k (printEnumValueDef v) = k := by
  intro k; simp [printEnumValueDef]

@[local simp] theorem bal_fieldLinesTs (fs : List FieldDef) : ∀ k, net k (printFieldLinesTs fs) = k := by
  induction fs with
  | nil => intro k; simp [printFieldLinesTs]
  | cons f fs ih => intro k; simp [printFieldLinesTs, ih]

@[local simp] theorem bal_enumValueLines (fs : List EnumValueDef) : ∀ k, net k (printEnumValueLines fs) = k := by
  induction fs with
  | nil => intro k; simp [printEnumValueLines]
  | cons f fs ih => intro k; simp [printEnumValueLines, ih]

@[local simp] theorem bal_inputLines (fs : List InputValueDef) : ∀ k, net k (printInputLines fs) = k := by
  induction fs with
  | nil => intro k; simp [printInputLines]
  | cons f fs ih => intro k; simp [printInputLines, ih]

theorem bal_braced (body : List Tok) (e : Bool) (h : ∀ k, net k body = k) : ∀ k, net k (braced body e) = k := by
  intro k; cases e <;> simp [braced, h]

theorem bal_flatMap {α} (f : α → List Tok) (l : List α) (h : ∀ x k, net k (f x) = k) :
    ∀ k, net k (l.flatMap f) = k := by
  induction l with
  | nil => intro k; simp
  | cons a as ih => intro k; simp [List.flatMap_cons, h a, ih]

@[local simp] theorem bal_implements (is : List (Name × Pos)) : ∀ k, net k (printImplements is) = k := by
  intro k
  cases is with
  | nil => simp [printImplements]
  | cons i is =>
    show net k ([sp, Tok.name "implements"] ++ (i :: is).flatMap _) = k
    rw [net_append, bal_flatMap _ _ (by intro x k; simp)]
    simp

@[local simp] theorem bal_members (ms : List (Name × Pos)) : ∀ k, net k (printMembers ms) = k := by
  unfold printMembers
  exact bal_flatMap _ _ (by intro x k; simp)

@[local simp] theorem bal_locations (ls : List Name) : ∀ k, net k (printLocations ls) = k := by
  unfold printLocations
  exact bal_flatMap _ _ (by intro x k; simp)

@[local simp] theorem bal_typeBody (t : TypeDef) (ext : Bool) : ∀ k, net k (printTypeBody t ext) = k := by
  intro k
  unfold printTypeBody
  cases t.kind <;> simp [bal_braced]

@[local simp] theorem bal_typeDef (t : TypeDef) : ∀ k, net k (printTypeDef t) = k := by
  intro k; simp [printTypeDef]

@[local simp] theorem bal_typeExt (t : TypeDef) : ∀ k, net k (printTypeExt t) = k := by
  intro k; simp [printTypeExt]

@[local simp] theorem bal_roots (rs : List (OpKind × Name × Pos)) : ∀ k, net k (printRoots rs) = k := by
  induction rs with
  | nil => intro k; simp [printRoots]
  | cons r rs ih =>
    obtain ⟨k', n, p⟩ := r
    intro k; simp [printRoots, ih]

@[local simp] theorem bal_schemaDef (s : SchemaDef) : ∀ k, net k (printSchemaDef s) = k := by
  intro k; simp [printSchemaDef]

@[local simp] theorem bal_schemaExt (s : SchemaDef) : ∀ k, net k (printSchemaExt s) = k := by
  intro k
  unfold printSchemaExt
  cases s.roots.isEmpty <;> simp

@[local simp] theorem bal_directiveDef (d : DirectiveDef) : ∀ k, net k (printDirectiveDef d) = k := by
  intro k
  unfold printDirectiveDef
  cases d.repeatable <;> simp

theorem bal_tsItem (i : TsItem) : ∀ k, net k (printTsItem i) = k := by
  intro k; cases i <;> simp [printTsItem]

end NitroVerif.DeterminismServer
