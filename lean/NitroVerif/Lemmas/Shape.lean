/-
Soundness of the abstract interpretation `Shape.post` (helper lemmas for Props/C08):
if `post A e S = some T` then from every state of `S` every word of `L(e)` runs through the automaton without a
missing transition and ends in a state of `T`. And the automata are the matchers of `Model/Build.lean`: `parts!` as modelled
there (`matchParts`) succeeds exactly when the `parts` automaton accepts the rules of the children (`matchParts_ok`).
-/
import NitroVerif.Model.Shape
import NitroVerif.Model.Build
import NitroVerif.Lemmas.Collects
namespace NitroVerif.Shape
open NitroVerif.Peg NitroVerif.Gen.Parts

/-- the language of a `Re` -/
inductive Mem : Re → List RuleId → Prop where
  | eps : Mem .eps []
  | sym (a : RuleId) : Mem (.sym a) [a]
  | seq {a b : Re} {u v : List RuleId} : Mem a u → Mem b v → Mem (.seq a b) (u ++ v)
  | altL {a b : Re} {u : List RuleId} : Mem a u → Mem (.alt a b) u
  | altR {a b : Re} {u : List RuleId} : Mem b u → Mem (.alt a b) u
  | starNil {a : Re} : Mem (.star a) []
  | starCons {a : Re} {u v : List RuleId} : Mem a u → Mem (.star a) v → Mem (.star a) (u ++ v)
  | top (w : List RuleId) : Mem .top w

variable {σ : Type} [DecidableEq σ]

theorem mem_insert {s t : σ} {S : List σ} : t ∈ insert s S ↔ t = s ∨ t ∈ S := by
  unfold insert
  split
  · rename_i h
    exact ⟨.inr, fun h' => h'.elim (fun e => e ▸ List.contains_iff_mem.mp h) id⟩
  · rw [List.mem_append, List.mem_singleton, or_comm]

theorem mem_union {t : σ} {S T : List σ} : t ∈ union S T ↔ t ∈ S ∨ t ∈ T :=
  (foldl_dedup_mem (fun x : σ => x) T S t).trans (by rw [List.map_id'])

theorem subset_iff {S T : List σ} : subset S T = true ↔ ∀ s ∈ S, s ∈ T := by
  simp [subset]

omit [DecidableEq σ] in
theorem Auto.ok_cons (A : Auto σ) (s : σ) (a : RuleId) (w : List RuleId) :
    A.ok s (a :: w) = (A.step s a).elim false (A.ok · w) := by
  unfold Auto.ok
  rw [Auto.run]
  cases A.step s a <;> rfl

omit [DecidableEq σ] in
theorem run_append (A : Auto σ) (s : σ) (u v : List RuleId) :
    A.run s (u ++ v) = (A.run s u).bind fun t => A.run t v := by
  induction u generalizing s with
  | nil => rfl
  | cons a u ih =>
    rw [List.cons_append, Auto.run, Auto.run]
    cases A.step s a with
    | none => rfl
    | some t => exact ih t

omit [DecidableEq σ] in
theorem run_append_some {A : Auto σ} {s t t' : σ} {u v : List RuleId} (h1 : A.run s u = some t)
    (h2 : A.run t v = some t') : A.run s (u ++ v) = some t' := by
  rw [run_append, h1]
  exact h2

theorem stepAll_sound (A : Auto σ) (a : RuleId) :
    ∀ (S T : List σ), stepAll A a S = some T → ∀ s ∈ S, ∃ t ∈ T, A.step s a = some t := by
  intro S
  induction S with
  | nil => intro T _ s hs; cases hs
  | cons x S ih =>
    intro T h s hs
    simp only [stepAll] at h
    cases hx : A.step x a with
    | none => simp [hx] at h
    | some t =>
      cases hS : stepAll A a S with
      | none => simp [hx, hS] at h
      | some T' =>
        simp only [hx, hS, Option.some.injEq] at h
        subst h
        rcases List.mem_cons.mp hs with rfl | hs
        · exact ⟨t, mem_insert.mpr (Or.inl rfl), hx⟩
        · obtain ⟨t', ht', e⟩ := ih T' hS s hs
          exact ⟨t', mem_insert.mpr (Or.inr ht'), e⟩

theorem iter_closed (f : List σ → Option (List σ)) :
    ∀ (n : Nat) (S T : List σ), iter f n S = some T →
      (∀ s ∈ S, s ∈ T) ∧ ∃ U, f T = some U ∧ ∀ u ∈ U, u ∈ T := by
  intro n
  induction n with
  | zero =>
    intro S T h
    simp only [iter] at h
    cases hf : f S with
    | none => simp [hf] at h
    | some U =>
      simp only [hf] at h
      split at h
      · rename_i hsub
        simp only [Option.some.injEq] at h
        subst h
        exact ⟨fun s hs => hs, U, hf, subset_iff.mp hsub⟩
      · cases h
  | succ n ih =>
    intro S T h
    simp only [iter] at h
    cases hf : f S with
    | none => simp [hf] at h
    | some U =>
      simp only [hf] at h
      split at h
      · rename_i hsub
        simp only [Option.some.injEq] at h
        subst h
        exact ⟨fun s hs => hs, U, hf, subset_iff.mp hsub⟩
      · obtain ⟨h1, h2⟩ := ih _ T h
        exact ⟨fun s hs => h1 s (mem_union.mpr (Or.inl hs)), h2⟩

theorem iter_of_closed (f : List σ → Option (List σ)) {T U : List σ} (hf : f T = some U) (h : ∀ u ∈ U, u ∈ T) :
    ∀ n, iter f n T = some T := by
  intro n
  cases n <;> simp only [iter, hf, subset_iff.mpr h, if_true]

theorem post_alt {A : Auto σ} {a b : Re} {S T : List σ} (h : post A (.alt a b) S = some T) :
    ∃ Ta Tb, post A a S = some Ta ∧ post A b S = some Tb ∧ T = union Ta Tb := by
  simp only [post] at h
  cases ha : post A a S with
  | none => simp [ha] at h
  | some Ta =>
    cases hb : post A b S with
    | none => simp [ha, hb] at h
    | some Tb =>
      simp only [ha, hb, Option.some.injEq] at h
      exact ⟨Ta, Tb, rfl, rfl, h.symm⟩

theorem post_sound (A : Auto σ) {e : Re} {w : List RuleId} (hw : Mem e w) :
    ∀ (S T : List σ), post A e S = some T → ∀ s ∈ S, ∃ t ∈ T, A.run s w = some t := by
  induction hw with
  | eps =>
    intro S T h s hs
    cases h
    exact ⟨s, hs, rfl⟩
  | sym a =>
    intro S T h s hs
    obtain ⟨t, ht, e⟩ := stepAll_sound A a S T h s hs
    exact ⟨t, ht, by simp [Auto.run, e]⟩
  | @seq a b _ _ _ _ ih1 ih2 =>
    intro S T h s hs
    simp only [post] at h
    cases ha : post A a S with
    | none => simp [ha] at h
    | some T1 =>
      simp only [ha] at h
      obtain ⟨t1, ht1, e1⟩ := ih1 S T1 ha s hs
      obtain ⟨t2, ht2, e2⟩ := ih2 T1 T h t1 ht1
      exact ⟨t2, ht2, run_append_some e1 e2⟩
  | altL _ ih =>
    intro S T h s hs
    obtain ⟨Ta, Tb, ha, _, rfl⟩ := post_alt h
    obtain ⟨t, ht, e⟩ := ih S Ta ha s hs
    exact ⟨t, mem_union.mpr (.inl ht), e⟩
  | altR _ ih =>
    intro S T h s hs
    obtain ⟨Ta, Tb, _, hb, rfl⟩ := post_alt h
    obtain ⟨t, ht, e⟩ := ih S Tb hb s hs
    exact ⟨t, mem_union.mpr (.inr ht), e⟩
  | starNil =>
    intro S T h s hs
    exact ⟨s, (iter_closed _ _ S T h).1 s hs, rfl⟩
  | starCons _ _ ih1 ih2 =>
    -- `T` is closed under one more round, so the rest of the word starts and ends in `T`
    intro S T h s hs
    obtain ⟨hST, U, hU, hUT⟩ := iter_closed _ _ S T h
    obtain ⟨t, htU, e1⟩ := ih1 T U hU s (hST s hs)
    obtain ⟨t', ht', e2⟩ := ih2 T T (iter_of_closed _ hU hUT _) t (hUT t htU)
    exact ⟨t', ht', run_append_some e1 e2⟩
  | top w => intro S T h; cases h

theorem acceptsA_sound (A : Auto σ) (s0 : σ) (e : Re) (h : acceptsA A s0 e = true) :
    ∀ w, Mem e w → A.ok s0 w = true := by
  intro w hw
  unfold acceptsA at h
  cases hp : post A e [s0] with
  | none => simp [hp] at h
  | some T =>
    simp only [hp, List.all_eq_true] at h
    obtain ⟨t, ht, e1⟩ := post_sound A hw [s0] T hp s0 (List.mem_singleton.mpr rfl)
    simp [Auto.ok, e1, h t ht]

/-! ### the automata are the matchers of `Model/Build.lean` -/

theorem isOk_map {ε α β} (f : α → β) (x : Except ε α) : (x.map f).isOk = x.isOk := by
  cases x <;> rfl

open NitroVerif.Build in
theorem matchParts_ok (items : List Item) (cs : List Pair) (n : Nat) :
    (matchParts items cs).isOk = (partsAuto n).ok items (cs.map Pair.rule) := by
  induction items generalizing cs with
  | nil =>
    induction cs with
    | nil => rfl
    | cons c cs ih => exact ih
  | cons it items ih =>
    cases cs with
    | nil =>
      cases it with
      | req r => rfl
      | opt r =>
        rw [matchParts, isOk_map]
        exact ih []
    | cons c cs =>
      rw [List.map_cons, Auto.ok_cons]
      show _ = (partsStep (it :: items) c.rule).elim false _
      cases it with
      | req r =>
        rw [matchParts, partsStep]
        by_cases hc : c.rule = r
        · rw [if_pos hc, if_pos hc, isOk_map]
          exact ih cs
        · rw [if_neg hc, if_neg hc]
          rfl
      | opt r =>
        rw [matchParts, partsStep]
        by_cases hc : c.rule = r
        · rw [if_pos hc, if_pos hc, isOk_map]
          exact ih cs
        · rw [if_neg hc, if_neg hc, isOk_map, ih (c :: cs), List.map_cons, Auto.ok_cons]
          rfl

end NitroVerif.Shape
