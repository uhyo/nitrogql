import NitroVerif.Lemmas.Paths
/-! Text-level lemmas for C20: `componentsL (renderL l) = l` on every list the components view can show (`components_render`),
    and the components of a text have legal segments (`componentsL_good`). -/
namespace NitroVerif.Paths

def NoSlash (s : List Char) : Prop := '/' ∉ s

theorem splitSlashGo_cons_ne (c : Char) (r cur : List Char) (hc : c ≠ '/') :
    splitSlashGo (c :: r) cur = splitSlashGo r (c :: cur) := by
  rw [splitSlashGo]
  · intro h; exact hc h

theorem splitSlashGo_cons_slash (r cur : List Char) :
    splitSlashGo ('/' :: r) cur = cur.reverse :: splitSlashGo r [] := by
  rw [splitSlashGo]

theorem splitSlashGo_noSlash (a cur : List Char) (h : NoSlash a) :
    splitSlashGo a cur = [cur.reverse ++ a] := by
  induction a generalizing cur with
  | nil => simp [splitSlashGo]
  | cons c r ih =>
    have hc : c ≠ '/' := by intro e; apply h; simp [e]
    have hr : NoSlash r := by intro m; apply h; simp [m]
    rw [splitSlashGo_cons_ne c r cur hc, ih _ hr]; simp

theorem splitSlashGo_seg (a r cur : List Char) (h : NoSlash a) :
    splitSlashGo (a ++ '/' :: r) cur = (cur.reverse ++ a) :: splitSlashGo r [] := by
  induction a generalizing cur with
  | nil => simp [splitSlashGo_cons_slash]
  | cons c t ih =>
    have hc : c ≠ '/' := by intro e; apply h; simp [e]
    have ht : NoSlash t := by intro m; apply h; simp [m]
    show splitSlashGo (c :: (t ++ '/' :: r)) cur = _
    rw [splitSlashGo_cons_ne c _ cur hc, ih _ ht]; simp

theorem splitSlash_joinSlash (ss : List (List Char)) (hne : ss ≠ []) (h : ∀ s ∈ ss, NoSlash s) :
    splitSlash (joinSlash ss) = ss := by
  induction ss with
  | nil => exact absurd rfl hne
  | cons a rest ih =>
    cases rest with
    | nil => simp [joinSlash, splitSlash, splitSlashGo_noSlash a [] (h a (by simp))]
    | cons b rest' =>
      have ha := h a (by simp)
      have hrest : ∀ s ∈ b :: rest', NoSlash s := fun s hs => h s (by simp [hs])
      have := ih (by simp) hrest
      unfold splitSlash at *
      simp only [joinSlash]
      rw [splitSlashGo_seg a _ [] ha, this]
      simp

/-- a legal path segment: non-empty, no '/', not "." and not ".." -/
def GoodSeg (s : List Char) : Prop := s ≠ [] ∧ NoSlash s ∧ s ≠ ['.'] ∧ s ≠ ['.', '.']

/-- all components are normal with legal segment text -/
def GoodNormals (l : P) : Prop := ∀ c ∈ l, ∃ s : String, c = .normal s ∧ GoodSeg s.toList


theorem splitSlashGo_noSlash_mem (cs cur : List Char) (hcur : NoSlash cur) :
    ∀ seg ∈ splitSlashGo cs cur, NoSlash seg := by
  induction cs generalizing cur with
  | nil => intro seg h; simp [splitSlashGo] at h; subst h; intro m; exact hcur (by simpa using m)
  | cons c r ih =>
    by_cases hc : c = '/'
    · subst hc
      rw [splitSlashGo_cons_slash]
      intro seg h
      simp only [List.mem_cons] at h
      rcases h with rfl | h
      · intro m; exact hcur (by simpa using m)
      · exact ih [] (by simp [NoSlash]) seg h
    · rw [splitSlashGo_cons_ne c r cur hc]
      exact ih (c :: cur) (by intro m; simp at m; rcases m with m | m; exact hc m.symm; exact hcur m)

/-- every normal component has legal segment text -/
def CompsGood (l : P) : Prop := ∀ c ∈ l, ∀ s : String, c = .normal s → GoodSeg s.toList

theorem segsToComps_good (keep : Bool) (segs : List (List Char)) (h : ∀ s ∈ segs, NoSlash s) :
    CompsGood (segsToComps keep segs) := by
  induction segs generalizing keep with
  | nil => intro c hc; simp [segsToComps] at hc
  | cons seg rest ih =>
    have hrest : ∀ s ∈ rest, NoSlash s := fun s hs => h s (by simp [hs])
    unfold segsToComps
    split
    · exact ih _ hrest
    · split
      · split
        · intro c hc s hs; simp only [List.mem_cons] at hc
          rcases hc with rfl | hc
          · cases hs
          · exact ih _ hrest c hc s hs
        · exact ih _ hrest
      · split
        · intro c hc s hs; simp only [List.mem_cons] at hc
          rcases hc with rfl | hc
          · cases hs
          · exact ih _ hrest c hc s hs
        · next h1 h2 h3 =>
          intro c hc s hs; simp only [List.mem_cons] at hc
          rcases hc with rfl | hc
          · injection hs with hs; subst hs
            simp only [String.toList_ofList]
            exact ⟨h1, h seg (by simp), h2, h3⟩
          · exact ih _ hrest c hc s hs

theorem componentsL_good (cs : List Char) : CompsGood (componentsL cs) := by
  have hs : ∀ s ∈ splitSlash cs, NoSlash s := splitSlashGo_noSlash_mem cs [] (by simp [NoSlash])
  unfold componentsL
  split
  · intro c hc s hcs; simp only [List.mem_cons] at hc
    rcases hc with rfl | hc
    · cases hcs
    · exact segsToComps_good _ _ hs c hc s hcs
  · exact segsToComps_good _ _ hs

/-- what may follow the first component in the components view of a text: `..` and legal segments -/
def Tail (l : P) : Prop := ∀ c ∈ l, c = .parent ∨ ∃ s : String, c = .normal s ∧ GoodSeg s.toList

theorem tail_cons {c : Comp} {l : P} : Tail (c :: l) ↔ Tail [c] ∧ Tail l := by simp [Tail]

theorem GoodNormals.tail {l : P} (h : GoodNormals l) : Tail l := fun c hc => Or.inr (h c hc)

theorem tail_of_normals {l : P} (hn : Normals l) (hg : CompsGood l) : Tail l := fun c hc => by
  have := hn c hc
  cases c with
  | normal s => exact Or.inr ⟨s, rfl, hg _ hc s rfl⟩
  | _ => exact absurd this (by simp [IsNormal])

theorem tail_append_parents (k : Nat) {l : P} (h : Tail l) : Tail (List.replicate k Comp.parent ++ l) := fun c hc =>
  (List.mem_append.mp hc).elim (fun hc => Or.inl (List.eq_of_mem_replicate hc)) (h c)

theorem segsToComps_tail (l : P) (h : Tail l) : segsToComps false (l.map compTextL) = l := by
  induction l with
  | nil => rfl
  | cons c r ih =>
    obtain ⟨hc, hr⟩ := tail_cons.mp h
    rcases hc c List.mem_cons_self with rfl | ⟨s, rfl, hne, _, hd, hdd⟩
    · simp [compTextL, segsToComps, ih hr]
    · simp only [List.map_cons, compTextL, segsToComps, hne, hd, hdd, if_false, ih hr, String.ofList_toList]

theorem noSlash_tail (l : P) (h : Tail l) : ∀ s ∈ l.map compTextL, NoSlash s := by
  intro s hs
  obtain ⟨c, hc, rfl⟩ := List.mem_map.mp hs
  rcases h c hc with rfl | ⟨t, rfl, _, hns, _⟩
  · simp [compTextL, NoSlash]
  · exact hns

/-- `Path::components` is a left inverse of rendering on every path the components view can show: any first component,
    then `..` and legal segments only -/
theorem components_render (c : Comp) (l : P) (hc : c = .root ∨ c = .cur ∨ Tail [c]) (h : Tail l) :
    componentsL (renderL (c :: l)) = c :: l := by
  rcases hc with rfl | hc
  · cases l with
    | nil => simp [renderL, componentsL, splitSlash, splitSlashGo_cons_slash, splitSlashGo, segsToComps]
    | cons d r =>
      have hs := splitSlash_joinSlash ((d :: r).map compTextL) (by simp) (noSlash_tail _ h)
      have : renderL (.root :: d :: r) = '/' :: joinSlash ((d :: r).map compTextL) := by simp [renderL]
      rw [this]
      unfold componentsL
      simp only [List.head?_cons, if_true]
      unfold splitSlash at *
      rw [splitSlashGo_cons_slash, hs]
      simp only [List.reverse_nil, segsToComps, if_true]
      rw [segsToComps_tail _ h]
  · -- the first segment is not empty and has no '/', so the text does not start with one
    have hseg : compTextL c ≠ [] ∧ NoSlash (compTextL c) ∧
        segsToComps true (compTextL c :: l.map compTextL) = c :: segsToComps false (l.map compTextL) := by
      rcases hc with rfl | hc
      · simp [compTextL, NoSlash, segsToComps]
      · rcases hc c List.mem_cons_self with rfl | ⟨s, rfl, hne, hns, hd, hdd⟩
        · simp [compTextL, NoSlash, segsToComps]
        · simp [compTextL, segsToComps, hne, hns, hd, hdd]
    have hr : renderL (c :: l) = joinSlash ((c :: l).map compTextL) := by
      rcases hc with rfl | hc
      · cases l <;> simp [renderL]
      · rcases hc c List.mem_cons_self with rfl | ⟨s, rfl, _⟩ <;> cases l <;> simp [renderL]
    have hhead : (joinSlash ((c :: l).map compTextL)).head? ≠ some '/' := by
      intro hh
      apply hseg.2.1
      cases hct : compTextL c with
      | nil => exact absurd hct hseg.1
      | cons x xs => cases l <;> simp_all [joinSlash]
    have hs := splitSlash_joinSlash ((c :: l).map compTextL) (by simp)
      (by intro s hs; rcases List.mem_cons.mp hs with rfl | hs; exact hseg.2.1; exact noSlash_tail _ h s hs)
    rw [hr]; unfold componentsL; rw [if_neg hhead, hs, List.map_cons, hseg.2.2, segsToComps_tail _ h]

end NitroVerif.Paths
