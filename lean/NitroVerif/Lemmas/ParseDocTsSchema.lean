/-
Schema definitions as items of a type-system document:
`SchemaDefinition = { Description? ~ KEYWORD_schema ~ Directives? ~ RootOperationTypeDefinitions }`.
-/
import NitroVerif.Lemmas.ParseDocTsItem
namespace NitroVerif.DocParse
open NitroVerif.Peg NitroVerif.Gen NitroVerif.Gen.Parts NitroVerif.Build NitroVerif.TypeParse NitroVerif.StringParse
open NitroVerif.Gql NitroVerif.ValueParse NitroVerif.Spec.Lex NitroVerif.ParseText

variable {inp : List Char}

/-- the round-trip statement for one item -/
def TsItemOk (inp : List Char) (p : Nat) (t : List Char) (it : TsItem) : Prop :=
  ∃ pr, Reads inp 130 R.TypeSystemDefinitionOrExtension p t (buildTypeSystemDefinitionOrExtension (Ctx.spec inp)) it pr

theorem buildItem_schemaDef (ctx : Ctx) (fuel : Nat) (p e e2 e3 : Nat) (cs : List Pair) (sd : SchemaDef)
    (h : buildSchemaDefinition ctx fuel (.mk R.SchemaDefinition p e cs) = .ok sd) :
    buildTypeSystemDefinitionOrExtension ctx fuel (.mk R.TypeSystemDefinitionOrExtension p e3
      [.mk R.TypeSystemDefinition p e2 [.mk R.SchemaDefinition p e cs]]) = .ok (.schemaDef sd) := by
  simp [buildTypeSystemDefinitionOrExtension, onlyChildOf, onlyChild, Pair.children, Pair.rule,
    OC_TypeSystemDefinitionOrExtension, OC_TypeSystemDefinition, h, bind, Except.bind, pure, Except.pure,
    R.TypeSystemDefinition, R.SchemaDefinition]

def rSchemaDef (τ : Trivia) (sep : Bool) (p : Nat) (s : SchemaDef) : List Char :=
  let tS := rOptDesc τ p s.desc
  let tK := tk τ false (p + tS.length) kwSchema
  let tD := rDirs τ false (p + tS.length + tK.length) s.dirs
  tS ++ (tK ++ (tD ++ rRoots τ sep (p + tS.length + tK.length + tD.length) s.roots))

def wpSchemaDef (τ : Trivia) (inp : List Char) (_sep : Bool) (p : Nat) (s : SchemaDef) : SchemaDef :=
  let tS := rOptDesc τ p s.desc
  let tK := tk τ false (p + tS.length) kwSchema
  let tD := rDirs τ false (p + tS.length + tK.length) s.dirs
  { desc := s.desc, dirs := wpDirs τ inp false (p + tS.length + tK.length) s.dirs,
    roots := wpRoots τ inp (p + tS.length + tK.length + tD.length +
      (tk τ false (p + tS.length + tK.length + tD.length) ['{']).length) s.roots,
    pos := posAt inp p }

def WFSchemaDef (s : SchemaDef) : Prop := WFDirs s.dirs ∧ s.roots ≠ [] ∧ ∀ x ∈ s.roots, validName x.2.1.toList

theorem hd_rSchemaDef (τ : Trivia) (sep : Bool) (p : Nat) (s : SchemaDef) :
    Hd (fun d => nameStart d ∨ d = '"') (rSchemaDef τ sep p s) := by
  simp only [rSchemaDef]
  cases s.desc with
  | none =>
    simp only [rOptDesc, List.nil_append, List.length_nil, Nat.add_zero]
    exact Hd.append (hd_tk (P := fun d => nameStart d ∨ d = '"')
      ((hd_of_validName kw_words_valid.2.1).mono (fun _ h => Or.inl h))) _
  | some s =>
    simp only [rOptDesc]
    exact Hd.append (hd_tk (P := fun d => nameStart d ∨ d = '"') ⟨'"', _, rfl, Or.inr rfl⟩) _

theorem schemaDefT (τ : Trivia) (hτ : ∀ q, Ws (τ q)) (s : SchemaDef) (hwf : WFSchemaDef s) {sep : Bool} {p : Nat}
    (h : HasAt inp p (rSchemaDef τ sep p s)) (hn : Nxt inp tdBad sep (p + (rSchemaDef τ sep p s).length)) :
    TsItemOk inp p (rSchemaDef τ sep p s) (.schemaDef (wpSchemaDef τ inp sep p s)) := by
  obtain ⟨hdirs, hrne, hrv⟩ := hwf
  obtain ⟨a, r, hrs⟩ := List.exists_cons_of_ne_nil hrne
  simp only [rSchemaDef, wpSchemaDef] at h hn ⊢
  rw [hrs] at h hn hrv ⊢
  have g1 := h.right.left
  have g2 := h.right.right.left
  have g3 := h.right.right.right
  have hdK : Hd nameStart (tk τ false (p + (rOptDesc τ p s.desc).length) kwSchema) :=
    hd_tk (hd_of_validName kw_words_valid.2.1)
  -- what follows the directives (`{`) and the keyword
  have n2 : Nxt inp (fun c => c = '@' ∨ c = '(') false _ :=
    Nxt.of_hd g3 (hd_rBraced _ _ τ '{' '}' sep _ _) (by rintro c rfl; decide)
  obtain ⟨oD, D, n1⟩ := optDirsT τ hτ s.dirs hdirs (by decide) (by decide) g2 n2
  obtain ⟨oS, S⟩ := optDescT hτ s.desc h.left g1 hdK
  have rK := kwP hτ look_KEYWORD_schema g1 n1
  obtain ⟨prR, Rt⟩ := rootsT τ hτ a r hrv g3 hn.app.app.app.tok
  obtain ⟨e, rSD⟩ := PartT.rule (r := R.SchemaDefinition) rfl (S.part.seq (rK.seq (D.part.seq Rt.part)))
  obtain ⟨e2, rTSD⟩ := PartT.rule look_TypeSystemDefinition rSD.choice_l
  obtain ⟨e3, rI⟩ := PartT.rule look_TSDOE rTSD.choice_l
  refine ⟨_, rI.mono (by decide), rfl, rfl, fun fuel hf => buildItem_schemaDef _ _ _ _ _ _ _ _ ?_⟩
  have hm := matchParts_slots P_SchemaDefinition [oS, some _, oD, some prR] (by decide)
    ⟨S.rule, ⟨_, rfl, rK.pairRule⟩, D.rule, ⟨_, rfl, Rt.rule⟩, trivial⟩
  simp only [slotPairs, Option.toList_some, List.cons_append, List.nil_append,
    show kwSchema.length = 6 from rfl] at hm
  simp [buildSchemaDefinition, Pair.children, hm, S.build _ (Nat.le_refl _),
    D.build fuel (fuel_left (fuel_right (fuel_right hf))), Rt.build _ (Nat.le_refl _), toPos_spec', Pair.start, bind,
    Except.bind]

end NitroVerif.DocParse
