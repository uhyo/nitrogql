import NitroVerif.Lemmas.GqlPrintLexText
import NitroVerif.Lemmas.GqlPrintAttr
/-!
C16, character level: a walk over every printing function of `Model/GqlPrint.lean` showing that its token sequence is
`LexableK`: every punctuator / layout token is lexically what it claims, and every name, number and string token is
followed by a character that ends it (a blank, a line feed, a comma or a punctuator) — whatever the document is.

The walk is done on a sufficient condition `okK s ts` that knows of the context only whether it begins with a separator
(`s`), so that its rules are equations without side conditions; `lexableK_of_okK` carries the result over to `LexableK`.
-/
namespace NitroVerif.C16
open NitroVerif.Gql NitroVerif.GqlPrint NitroVerif.GqlTokens NitroVerif.GqlLexer

/-- a character that ends every kind of token -/
def sepChar (c : Char) : Bool := !nameContinue c && c != '.' && c != '"'

def sepOpt (oc : Option Char) : Bool := ocAll sepChar oc

theorem followOK_of_sep (t : Tok) (oc : Option Char) (h : sepOpt oc = true) : followOK t oc = true := by
  cases oc with
  | none => cases t <;> rfl
  | some c =>
    simp only [sepOpt, ocAll, sepChar, Bool.and_eq_true, Bool.not_eq_true', bne_iff_ne, ne_eq] at h
    obtain ⟨⟨h1, h2⟩, h3⟩ := h
    have hns : nameStart c = false := by
      cases hn : nameStart c with
      | false => rfl
      | true => simp [nameContinue, hn] at h1
    have hd : isDigit c = false := by
      cases hn : isDigit c with
      | false => rfl
      | true => simp [nameContinue, hn] at h1
    cases t <;> simp [followOK, ocAll, h1, h2, h3, hns, hd]

/-! ### the sufficient condition -/

/-- the first thing the tokens write is a separator (`s`: so is what follows them) -/
def headSep (s : Bool) : List Tok → Bool
  | [] => s
  | t :: ts =>
    match chunkHead t with
    | some c => sepChar c
    | none => headSep s ts

/-- a token whose text comes from the document -/
def isData : Tok → Bool
  | .name _ | .var _ | .int _ | .float _ | .str _ => true
  | .p _ | .lay _ | .ind | .ded => false

/-- fixed tokens are lexically valid (`C16.fixedOK`: a punctuator is a punctuator, layout is `Ignored`) and safe chunks for
    the template writer (`GqlPrint.Tok.fixedOK`: no CR, no `$` at the end — another condition under the same name), and a
    separator follows every token whose text comes from the document -/
def okK (s : Bool) : List Tok → Bool
  | [] => true
  | t :: ts => C16.fixedOK t && Tok.fixedOK t && (!isData t || headSep s ts) && okK s ts

theorem sepOpt_firstCharK (n : Option Char) : ∀ ts, sepOpt (firstCharK n ts) = headSep (sepOpt n) ts
  | [] => rfl
  | t :: ts => by
    simp only [firstCharK, headSep]
    cases chunkHead t with
    | some c => rfl
    | none => exact sepOpt_firstCharK n ts

theorem lexableK_of_okK (n : Option Char) : ∀ ts, okK (sepOpt n) ts = true → LexableK n ts = true
  | [], _ => rfl
  | t :: ts, h => by
    simp only [okK, Bool.and_eq_true, Bool.or_eq_true, Bool.not_eq_true'] at h
    obtain ⟨⟨⟨hf, _⟩, hd⟩, hr⟩ := h
    simp only [LexableK, Bool.and_eq_true]
    refine ⟨⟨hf, ?_⟩, lexableK_of_okK n ts hr⟩
    rcases hd with hd | hd
    · cases t <;> first | rfl | cases hd
    · exact followOK_of_sep t _ (by rw [sepOpt_firstCharK]; exact hd)

theorem lexableK_of_okK_true {ts : List Tok} (h : okK true ts = true) (n : Option Char) (hn : sepOpt n = true) :
    LexableK n ts = true := lexableK_of_okK n ts (by rw [hn]; exact h)

/-! The set `lxw` has three layers: the equations of `okK` / `headSep` on the single tokens; on `++` (`okK_append`,
`headSep_append`; every rule is stated for right-nested lists, `List.append_assoc` brings a goal into that form); and one
`ok_…` (with `hs_…`: the piece begins with a separator) per printing function, in the order of `Model/GqlPrint.lean`. These
have no hypotheses; those of the pieces that many later functions use (values, directives, selections, the parts of type-system
definitions) are in the set themselves, so that a later function rests on them without naming them; results of recursive
functions, and the rules of whole definitions and documents (`ok_operation`, `ok_typeDef`, `ok_tsItem`, …), are named at the
call. `lx_X x k` is then `LexableK k (printX x)`: the suffix `K` of `LexableK`, `firstCharK`, `okK` is for the parameter that
stands for what follows the sequence (`nxt : Option Char`, here `s`: it begins with a separator). -/

attribute [lxw] List.cons_append List.nil_append List.append_assoc Bool.and_self Bool.and_true Bool.true_and

@[lxw] theorem okK_nil (s : Bool) : okK s [] = true := rfl
@[lxw] theorem headSep_nil (s : Bool) : headSep s [] = s := rfl

@[lxw] theorem headSep_append (s : Bool) (A B : List Tok) : headSep s (A ++ B) = headSep (headSep s B) A := by
  induction A with
  | nil => rfl
  | cons t ts ih => simp only [List.cons_append, headSep, ih]

@[lxw] theorem okK_append (s : Bool) (A B : List Tok) : okK s (A ++ B) = (okK (headSep s B) A && okK s B) := by
  induction A with
  | nil => simp [okK]
  | cons t ts ih => simp only [List.cons_append, okK, ih, headSep_append, Bool.and_assoc]

@[lxw] theorem okK_ind (s : Bool) (B : List Tok) : okK s (Tok.ind :: B) = okK s B := by simp [okK, fixedOK, Tok.fixedOK, isData]
@[lxw] theorem okK_ded (s : Bool) (B : List Tok) : okK s (Tok.ded :: B) = okK s B := by simp [okK, fixedOK, Tok.fixedOK, isData]
@[lxw] theorem headSep_ind (s : Bool) (B : List Tok) : headSep s (Tok.ind :: B) = headSep s B := rfl
@[lxw] theorem headSep_ded (s : Bool) (B : List Tok) : headSep s (Tok.ded :: B) = headSep s B := rfl

@[lxw] theorem okK_name (x : String) (s : Bool) (B : List Tok) : okK s (Tok.name x :: B) = (headSep s B && okK s B) := by
  simp [okK, fixedOK, Tok.fixedOK, isData]
@[lxw] theorem okK_var (x : String) (s : Bool) (B : List Tok) : okK s (Tok.var x :: B) = (headSep s B && okK s B) := by
  simp [okK, fixedOK, Tok.fixedOK, isData]
@[lxw] theorem okK_int (x : String) (s : Bool) (B : List Tok) : okK s (Tok.int x :: B) = (headSep s B && okK s B) := by
  simp [okK, fixedOK, Tok.fixedOK, isData]
@[lxw] theorem okK_float (x : String) (s : Bool) (B : List Tok) : okK s (Tok.float x :: B) = (headSep s B && okK s B) := by
  simp [okK, fixedOK, Tok.fixedOK, isData]
@[lxw] theorem okK_str (x : String) (s : Bool) (B : List Tok) : okK s (Tok.str x :: B) = (headSep s B && okK s B) := by
  simp [okK, fixedOK, Tok.fixedOK, isData]

/-! ### the printer's fixed tokens

A fixed token is given by a string literal; stated for `String.ofList` of its characters the lemmas below read the
characters off the literal without decoding the string. -/

theorem okK_p1 (c : Char) (h : punct1 c = true) (h' : GqlPrint.goodText [c] = true) (s : Bool) (B : List Tok) :
    okK s (Tok.p (String.ofList [c]) :: B) = okK s B := by
  simp [okK, fixedOK, Tok.fixedOK, punctOK, isData, h, h']

theorem okK_lay (cs : List Char) (h : cs.all isIgnored = true) (h' : GqlPrint.goodText cs = true) (s : Bool) (B : List Tok) :
    okK s (Tok.lay (String.ofList cs) :: B) = okK s B := by
  simp only [okK, fixedOK, Tok.fixedOK, isData, String.toList_ofList, h, h', Bool.not_false, Bool.true_or, Bool.and_true, Bool.true_and]

theorem headSep_p1 (c : Char) (cs : List Char) (h : sepChar c = true) (s : Bool) (B : List Tok) :
    headSep s (Tok.p (String.ofList (c :: cs)) :: B) = true := by
  simp only [headSep, chunkHead, String.toList_ofList, List.head?_cons, h]

theorem headSep_lay (c : Char) (cs : List Char) (h : sepChar c = true) (s : Bool) (B : List Tok) :
    headSep s (Tok.lay (String.ofList (c :: cs)) :: B) = true := by
  simp only [headSep, chunkHead, String.toList_ofList, List.head?_cons, h]

@[lxw] theorem okK_lb : ∀ s B, okK s (Tok.p "[" :: B) = okK s B := okK_p1 '[' (by decide) (by decide)
@[lxw] theorem okK_rb : ∀ s B, okK s (Tok.p "]" :: B) = okK s B := okK_p1 ']' (by decide) (by decide)
@[lxw] theorem okK_bang : ∀ s B, okK s (Tok.p "!" :: B) = okK s B := okK_p1 '!' (by decide) (by decide)
@[lxw] theorem okK_lc : ∀ s B, okK s (Tok.p "{" :: B) = okK s B := okK_p1 '{' (by decide) (by decide)
@[lxw] theorem okK_rc : ∀ s B, okK s (Tok.p "}" :: B) = okK s B := okK_p1 '}' (by decide) (by decide)
@[lxw] theorem okK_colon : ∀ s B, okK s (Tok.p ":" :: B) = okK s B := okK_p1 ':' (by decide) (by decide)
@[lxw] theorem okK_lp : ∀ s B, okK s (Tok.p "(" :: B) = okK s B := okK_p1 '(' (by decide) (by decide)
@[lxw] theorem okK_rp : ∀ s B, okK s (Tok.p ")" :: B) = okK s B := okK_p1 ')' (by decide) (by decide)
@[lxw] theorem okK_at : ∀ s B, okK s (Tok.p "@" :: B) = okK s B := okK_p1 '@' (by decide) (by decide)
@[lxw] theorem okK_eq : ∀ s B, okK s (Tok.p "=" :: B) = okK s B := okK_p1 '=' (by decide) (by decide)
@[lxw] theorem okK_amp : ∀ s B, okK s (Tok.p "&" :: B) = okK s B := okK_p1 '&' (by decide) (by decide)
@[lxw] theorem okK_bar : ∀ s B, okK s (Tok.p "|" :: B) = okK s B := okK_p1 '|' (by decide) (by decide)
@[lxw] theorem okK_dots : ∀ s B, okK s (Tok.p "..." :: B) = okK s B := by
  intro s B
  have e : punctOK "..." = true := by unfold punctOK; rw [String.toList_ofList]; rfl
  have e' : GqlPrint.goodText ['.', '.', '.'] = true := by decide
  simp [okK, fixedOK, Tok.fixedOK, isData, e, e']
@[lxw] theorem okK_sp : ∀ s B, okK s (sp :: B) = okK s B := okK_lay [' '] (by decide) (by decide)
@[lxw] theorem okK_nl : ∀ s B, okK s (nl :: B) = okK s B := okK_lay ['\n'] (by decide) (by decide)
@[lxw] theorem okK_comma : ∀ s B, okK s (Tok.lay "," :: B) = okK s B := okK_lay [','] (by decide) (by decide)
@[lxw] theorem okK_commanl : ∀ s B, okK s (Tok.lay ",\n" :: B) = okK s B := okK_lay [',', '\n'] (by decide) (by decide)
@[lxw] theorem okK_commasp : ∀ s B, okK s (Tok.lay ", " :: B) = okK s B := okK_lay [',', ' '] (by decide) (by decide)

@[lxw] theorem headSep_lb : ∀ s B, headSep s (Tok.p "[" :: B) = true := headSep_p1 '[' [] (by decide)
@[lxw] theorem headSep_rb : ∀ s B, headSep s (Tok.p "]" :: B) = true := headSep_p1 ']' [] (by decide)
@[lxw] theorem headSep_bang : ∀ s B, headSep s (Tok.p "!" :: B) = true := headSep_p1 '!' [] (by decide)
@[lxw] theorem headSep_lc : ∀ s B, headSep s (Tok.p "{" :: B) = true := headSep_p1 '{' [] (by decide)
@[lxw] theorem headSep_rc : ∀ s B, headSep s (Tok.p "}" :: B) = true := headSep_p1 '}' [] (by decide)
@[lxw] theorem headSep_colon : ∀ s B, headSep s (Tok.p ":" :: B) = true := headSep_p1 ':' [] (by decide)
@[lxw] theorem headSep_lp : ∀ s B, headSep s (Tok.p "(" :: B) = true := headSep_p1 '(' [] (by decide)
@[lxw] theorem headSep_rp : ∀ s B, headSep s (Tok.p ")" :: B) = true := headSep_p1 ')' [] (by decide)
@[lxw] theorem headSep_at : ∀ s B, headSep s (Tok.p "@" :: B) = true := headSep_p1 '@' [] (by decide)
@[lxw] theorem headSep_eq : ∀ s B, headSep s (Tok.p "=" :: B) = true := headSep_p1 '=' [] (by decide)
@[lxw] theorem headSep_amp : ∀ s B, headSep s (Tok.p "&" :: B) = true := headSep_p1 '&' [] (by decide)
@[lxw] theorem headSep_bar : ∀ s B, headSep s (Tok.p "|" :: B) = true := headSep_p1 '|' [] (by decide)
@[lxw] theorem headSep_sp : ∀ s B, headSep s (sp :: B) = true := headSep_lay ' ' [] (by decide)
@[lxw] theorem headSep_nl : ∀ s B, headSep s (nl :: B) = true := headSep_lay '\n' [] (by decide)
@[lxw] theorem headSep_comma : ∀ s B, headSep s (Tok.lay "," :: B) = true := headSep_lay ',' [] (by decide)
@[lxw] theorem headSep_commanl : ∀ s B, headSep s (Tok.lay ",\n" :: B) = true := headSep_lay ',' ['\n'] (by decide)
@[lxw] theorem headSep_commasp : ∀ s B, headSep s (Tok.lay ", " :: B) = true := headSep_lay ',' [' '] (by decide)

/-! ### values, arguments, directives -/

@[lxw] theorem ok_type (t : GType) : okK true (printType t) = true := by
  induction t with
  | named nm p => simp only [lxw, printType]
  | list t p ih => simp only [lxw, printType, ih]
  | nonNull t ih => simp only [lxw, printType, ih]

mutual
theorem ok_value : (v : Value) → okK true (printValue v) = true
  | .var x _ => by simp only [lxw, printValue]
  | .int x _ => by simp only [lxw, printValue]
  | .float x _ => by simp only [lxw, printValue]
  | .str x _ => by simp only [lxw, printValue]
  | .bool b _ => by simp only [lxw, printValue]
  | .null _ => by simp only [lxw, printValue]
  | .enum x _ => by simp only [lxw, printValue]
  | .list vs _ => by simp only [lxw, printValue, ok_valueList vs true]
  | .obj [] _ => by simp only [lxw, printValue]
  | .obj [(k, _, v)] _ => by simp only [lxw, printValue, ok_value v]
  | .obj (f1 :: f2 :: fs) _ => by simp only [lxw, printValue, ok_fieldLines (f1 :: f2 :: fs)]
theorem ok_valueList : (vs : List Value) → (b : Bool) → okK true (printValueList vs b) = true
  | [], _ => by simp only [lxw, printValueList]
  | v :: vs, b => by
    have hs : headSep true (printValueList vs false) = true := by
      cases vs <;> simp only [lxw, printValueList, Bool.false_eq_true, if_false]
    cases b <;> simp only [lxw, printValueList, Bool.false_eq_true, if_false, if_true, ok_value v, ok_valueList vs false, hs]
theorem ok_fieldLines : (fs : List (Name × Pos × Value)) → okK true (printFieldLines fs) = true
  | [] => by simp only [lxw, printFieldLines]
  | (k, _, v) :: r => by simp only [lxw, printFieldLines, ok_value v, ok_fieldLines r]
end

attribute [lxw] ok_value ok_fieldLines

@[lxw] theorem ok_args : (as : List Arg) → okK true (printArgs as) = true
  | [] => by simp only [lxw, printArgs]
  | [(k, _, v)] => by simp only [lxw, printArgs]
  | a1 :: a2 :: as => by simp only [lxw, printArgs]

@[lxw] theorem hs_args : (as : List Arg) → headSep true (printArgs as) = true
  | [] => by simp only [lxw, printArgs]
  | [(k, _, v)] => by simp only [lxw, printArgs]
  | a1 :: a2 :: as => by simp only [lxw, printArgs]

@[lxw] theorem ok_directive (d : Directive) : okK true (printDirective d) = true := by
  simp only [lxw, printDirective]

@[lxw] theorem hs_dirs (ds : List Directive) : headSep true (printDirs ds) = true := by
  cases ds <;> simp only [lxw, printDirs]

@[lxw] theorem ok_dirs (ds : List Directive) : okK true (printDirs ds) = true := by
  induction ds with
  | nil => simp only [lxw, printDirs]
  | cons d ds ih => simp only [lxw, printDirs, ih]

@[lxw] theorem hs_dirsTight (ds : List Directive) : headSep true (printDirsTight ds) = true := by
  cases ds <;> simp only [lxw, printDirsTight, printDirective]

@[lxw] theorem ok_dirsTight (ds : List Directive) : okK true (printDirsTight ds) = true := by
  induction ds with
  | nil => simp only [lxw, printDirsTight]
  | cons d ds ih => simp only [lxw, printDirsTight, ih]

/-! ### executable documents -/

mutual
theorem ok_selection : (s : Selection) → okK true (printSelection s) = true
  | .field al nm _ as ds none => by
    rcases al with _ | ⟨a, p⟩ <;> simp only [lxw, printSelection]
  | .field al nm _ as ds (some xs) => by
    rcases al with _ | ⟨a, p⟩ <;> simp only [lxw, printSelection, ok_selLines xs]
  | .spread nm _ ds _ => by simp only [lxw, printSelection]
  | .inline c ds ss _ => by
    rcases c with _ | ⟨t, p⟩ <;> simp only [lxw, printSelection, ok_selLines ss]
theorem ok_selLines : (ss : List Selection) → okK true (printSelLines ss) = true
  | [] => by simp only [lxw, printSelLines]
  | s :: ss => by simp only [lxw, printSelLines, ok_selection s, ok_selLines ss]
end

@[lxw] theorem ok_selSet (ss : List Selection) (s : Bool) : okK s (printSelSet ss) = true := by
  simp only [lxw, printSelSet, ok_selLines ss]

@[lxw] theorem ok_varDef (v : VarDef) : okK true (printVarDef v) = true := by
  cases hd : v.default <;> simp only [lxw, printVarDef, hd]

theorem ok_varDefsSep (vs : List VarDef) : ∀ b, okK true (printVarDefsSep vs b) = true := by
  induction vs with
  | nil => intro b; simp only [lxw, printVarDefsSep]
  | cons v vs ih =>
    intro b
    have hs : headSep true (printVarDefsSep vs false) = true := by
      cases vs <;> simp only [lxw, printVarDefsSep, Bool.false_eq_true, if_false]
    cases b <;> simp only [lxw, printVarDefsSep, Bool.false_eq_true, if_false, if_true, ih, hs]

@[lxw] theorem ok_varDefs : (vs : List VarDef) → ∀ s, okK s (printVarDefs vs) = true
  | [], s => by simp only [lxw, printVarDefs]
  | [v], s => by simp only [lxw, printVarDefs]
  | v1 :: v2 :: vs, s => by simp only [lxw, printVarDefs, ok_varDefsSep (v1 :: v2 :: vs)]

@[lxw] theorem hs_varDefs : (vs : List VarDef) → headSep true (printVarDefs vs) = true
  | [] => by simp only [lxw, printVarDefs]
  | [v] => by simp only [lxw, printVarDefs]
  | v1 :: v2 :: vs => by simp only [lxw, printVarDefs]

theorem ok_operation (o : OperationDef) (s : Bool) : okK s (printOperation o) = true := by
  rcases hn : o.name with _ | ⟨nm, p⟩ <;> simp only [lxw, printOperation, hn]

theorem ok_fragment (f : FragmentDef) (s : Bool) : okK s (printFragment f) = true := by
  simp only [lxw, printFragment]

theorem ok_doc (d : Doc) (h : noImports d = true) (s : Bool) : okK s (printDoc d) = true := by
  induction d with
  | nil => simp only [lxw, printDoc]
  | cons i is ih =>
    simp only [noImports, List.all_cons, Bool.and_eq_true] at h
    have hi : ∀ s', okK s' (printExecDef i) = true := by
      cases i with
      | op o => exact ok_operation o
      | frag f => exact ok_fragment f
      | imp i => simp at h
    simp only [lxw, printDoc, hi, ih (by simpa [noImports] using h.2)]

theorem lx_doc (d : Doc) (h : noImports d = true) (n : Option Char) : LexableK n (printDoc d) = true :=
  lexableK_of_okK n _ (ok_doc d h _)

/-! ### type-system definitions -/

@[lxw] theorem ok_desc (d : Option String) (s : Bool) : okK s (printDesc d) = true := by
  cases d <;> simp only [lxw, printDesc]

@[lxw] theorem ok_inputValueDef (v : InputValueDef) : okK true (printInputValueDef v) = true := by
  cases hd : v.default <;> simp only [lxw, printInputValueDef, hd]

theorem ok_argDefsSep (vs : List InputValueDef) : ∀ b, okK true (printArgDefsSep vs b) = true := by
  induction vs with
  | nil => intro b; simp only [lxw, printArgDefsSep]
  | cons v vs ih =>
    intro b
    have hs : headSep true (printArgDefsSep vs false) = true := by
      cases vs <;> simp only [lxw, printArgDefsSep, Bool.false_eq_true, if_false]
    cases b <;> simp only [lxw, printArgDefsSep, Bool.false_eq_true, if_false, if_true, ih, hs]

@[lxw] theorem ok_argDefs : (vs : List InputValueDef) → ∀ s, okK s (printArgDefs vs) = true
  | [], s => by simp only [lxw, printArgDefs]
  | v :: vs, s => by simp only [lxw, printArgDefs, ok_argDefsSep (v :: vs)]

@[lxw] theorem hs_argDefs : (vs : List InputValueDef) → headSep true (printArgDefs vs) = true
  | [] => by simp only [lxw, printArgDefs]
  | v :: vs => by simp only [lxw, printArgDefs]

@[lxw] theorem ok_fieldDef (f : FieldDef) : okK true (printFieldDef f) = true := by
  simp only [lxw, printFieldDef]

@[lxw] theorem ok_enumValueDef (v : EnumValueDef) : okK true (printEnumValueDef v) = true := by
  simp only [lxw, printEnumValueDef]

@[lxw] theorem ok_fieldLinesTs (fs : List FieldDef) (s : Bool) : okK s (printFieldLinesTs fs) = true := by
  induction fs with
  | nil => simp only [lxw, printFieldLinesTs]
  | cons f fs ih => simp only [lxw, printFieldLinesTs, ih]

@[lxw] theorem ok_enumValueLines (fs : List EnumValueDef) (s : Bool) : okK s (printEnumValueLines fs) = true := by
  induction fs with
  | nil => simp only [lxw, printEnumValueLines]
  | cons f fs ih => simp only [lxw, printEnumValueLines, ih]

@[lxw] theorem ok_inputLines (fs : List InputValueDef) (s : Bool) : okK s (printInputLines fs) = true := by
  induction fs with
  | nil => simp only [lxw, printInputLines]
  | cons f fs ih => simp only [lxw, printInputLines, ih]

theorem ok_braced (body : List Tok) (e : Bool) (hb : ∀ s, okK s body = true) (s : Bool) : okK s (braced body e) = true := by
  cases e <;> simp only [lxw, braced, Bool.false_eq_true, if_false, if_true, hb]

@[lxw] theorem hs_braced (body : List Tok) (e : Bool) : headSep true (braced body e) = true := by
  cases e <;> simp only [lxw, braced, Bool.false_eq_true, if_false, if_true]

theorem hs_sepList (c : String) (l : List (Name × Pos)) :
    headSep true (l.flatMap fun x => [sp, Tok.p c, sp, Tok.name x.1]) = true := by
  cases l <;> simp only [lxw, List.flatMap_cons, List.flatMap_nil]

theorem ok_sepList (c : String) (hc : ∀ s B, okK s (Tok.p c :: B) = okK s B) (l : List (Name × Pos)) :
    okK true (l.flatMap fun x => [sp, Tok.p c, sp, Tok.name x.1]) = true := by
  induction l with
  | nil => rfl
  | cons x xs ih => simp only [lxw, List.flatMap_cons, hc, ih, hs_sepList c xs]

@[lxw] theorem ok_implements (l : List (Name × Pos)) : okK true (printImplements l) = true := by
  cases l with
  | nil => simp only [lxw, printImplements]
  | cons x xs => simp only [lxw, printImplements, ok_sepList "&" okK_amp (x :: xs), hs_sepList "&" (x :: xs)]

@[lxw] theorem hs_implements (l : List (Name × Pos)) : headSep true (printImplements l) = true := by
  cases l <;> simp only [lxw, printImplements]

@[lxw] theorem ok_members (l : List (Name × Pos)) : okK true (printMembers l) = true := ok_sepList "|" okK_bar l

@[lxw] theorem hs_members (l : List (Name × Pos)) : headSep true (printMembers l) = true := hs_sepList "|" l

@[lxw] theorem hs_locations (l : List Name) : headSep true (printLocations l) = true := by
  cases l <;> simp only [lxw, printLocations, List.flatMap_cons, List.flatMap_nil]

@[lxw] theorem ok_locations (l : List Name) : okK true (printLocations l) = true := by
  induction l with
  | nil => rfl
  | cons x xs ih =>
    have hs := hs_locations xs
    simp only [printLocations, List.flatMap_cons] at ih hs ⊢
    simp only [lxw, ih, hs]

theorem ok_typeBody (t : TypeDef) (ext : Bool) (s : Bool) : okK s (printTypeBody t ext) = true := by
  unfold printTypeBody
  cases t.kind <;> simp only [lxw, ok_braced _ _ (ok_fieldLinesTs t.fields), ok_braced _ _ (ok_enumValueLines t.values),
    ok_braced _ _ (ok_inputLines t.inputs)]

theorem hs_typeBody (t : TypeDef) (ext : Bool) (s : Bool) : headSep s (printTypeBody t ext) = true := by
  unfold printTypeBody
  cases t.kind <;> simp only [lxw]

theorem ok_typeDef (t : TypeDef) (s : Bool) : okK s (printTypeDef t) = true := by
  simp only [lxw, printTypeDef, ok_typeBody, hs_typeBody]

theorem ok_typeExt (t : TypeDef) (s : Bool) : okK s (printTypeExt t) = true := by
  simp only [lxw, printTypeExt, ok_typeBody, hs_typeBody]

@[lxw] theorem ok_roots (rs : List (OpKind × Name × Pos)) (s : Bool) : okK s (printRoots rs) = true := by
  induction rs with
  | nil => simp only [lxw, printRoots]
  | cons r rs ih =>
    obtain ⟨k, nm, p⟩ := r
    simp only [lxw, printRoots, ih]

theorem ok_schemaDef (sd : SchemaDef) (s : Bool) : okK s (printSchemaDef sd) = true := by
  simp only [lxw, printSchemaDef]

theorem ok_schemaExt (sd : SchemaDef) (s : Bool) : okK s (printSchemaExt sd) = true := by
  cases hr : sd.roots.isEmpty <;> simp only [lxw, printSchemaExt, hr, Bool.false_eq_true, if_false, if_true]

theorem ok_directiveDef (d : DirectiveDef) (s : Bool) : okK s (printDirectiveDef d) = true := by
  cases hr : d.repeatable <;> simp only [lxw, printDirectiveDef, hr, Bool.false_eq_true, if_false, if_true]

theorem ok_tsItem (i : TsItem) : ∀ s, okK s (printTsItem i) = true := by
  cases i with
  | schemaDef s => exact ok_schemaDef s
  | typeDef t => exact ok_typeDef t
  | directiveDef d => exact ok_directiveDef d
  | schemaExt s => exact ok_schemaExt s
  | typeExt t => exact ok_typeExt t

theorem ok_tsDoc (d : TsDoc) (s : Bool) : okK s (printTsDoc d) = true := by
  induction d with
  | nil => rfl
  | cons i is ih => simp only [lxw, printTsDoc, ok_tsItem i, ih]

theorem ok_tsExtDoc (d : TsDoc) (s : Bool) : okK s (printTsExtDoc d) = true := by
  induction d with
  | nil => rfl
  | cons i is ih => simp only [lxw, printTsExtDoc, ok_tsItem i, ih]

theorem lx_tsDoc (d : TsDoc) (n : Option Char) : LexableK n (printTsDoc d) = true :=
  lexableK_of_okK n _ (ok_tsDoc d _)

theorem lx_tsExtDoc (d : TsDoc) (n : Option Char) : LexableK n (printTsExtDoc d) = true :=
  lexableK_of_okK n _ (ok_tsExtDoc d _)

/-! ### `LexableK` and `firstCharK` on the printer's tokens, directly (without the sufficient condition)

The walk above does not use them. -/

theorem LexableK_append (nxt : Option Char) (A B : List Tok) :
    LexableK nxt (A ++ B) = (LexableK (firstCharK nxt B) A && LexableK nxt B) := by
  induction A with
  | nil => simp [LexableK]
  | cons t ts ih =>
    have hfc : ∀ (X : List Tok), firstCharK nxt (X ++ B) = firstCharK (firstCharK nxt B) X := by
      intro X
      induction X with
      | nil => rfl
      | cons x xs ihx => simp only [List.cons_append, firstCharK, ihx]
    simp only [List.cons_append, LexableK, ih, hfc, Bool.and_assoc]

theorem fc_ind (B : List Tok) (nxt : Option Char) : firstCharK nxt (Tok.ind :: B) = firstCharK nxt B := rfl
theorem fc_ded (B : List Tok) (nxt : Option Char) : firstCharK nxt (Tok.ded :: B) = firstCharK nxt B := rfl
theorem LexableK_nil (nxt : Option Char) : LexableK nxt [] = true := rfl
theorem firstCharK_nil (nxt : Option Char) : firstCharK nxt [] = nxt := rfl

theorem lx_app (A B : List Tok) (nxt : Option Char) (hA : ∀ n, sepOpt n = true → LexableK n A = true)
    (h : sepOpt (firstCharK nxt B) = true) : LexableK nxt (A ++ B) = LexableK nxt B := by
  rw [LexableK_append, hA _ h]; simp

theorem lx_app_closed (A B : List Tok) (nxt : Option Char) (hA : ∀ n, LexableK n A = true) :
    LexableK nxt (A ++ B) = LexableK nxt B := by
  rw [LexableK_append, hA _]; simp

theorem fcs_lb (nxt : Option Char) (B : List Tok) : sepOpt (firstCharK nxt (Tok.p "[" :: B)) = true := by
  rw [sepOpt_firstCharK, headSep_lb]
theorem fcs_eq (nxt : Option Char) (B : List Tok) : sepOpt (firstCharK nxt (Tok.p "=" :: B)) = true := by
  rw [sepOpt_firstCharK, headSep_eq]
theorem fcs_amp (nxt : Option Char) (B : List Tok) : sepOpt (firstCharK nxt (Tok.p "&" :: B)) = true := by
  rw [sepOpt_firstCharK, headSep_amp]
theorem fcs_bar (nxt : Option Char) (B : List Tok) : sepOpt (firstCharK nxt (Tok.p "|" :: B)) = true := by
  rw [sepOpt_firstCharK, headSep_bar]

theorem lx_valueList : (vs : List Value) → (b : Bool) → ∀ n, sepOpt n = true → LexableK n (printValueList vs b) = true :=
  fun vs b => lexableK_of_okK_true (ok_valueList vs b)

theorem lx_selection : (s : Selection) → ∀ n, sepOpt n = true → LexableK n (printSelection s) = true :=
  fun s => lexableK_of_okK_true (ok_selection s)

theorem fc_members (l : List (Name × Pos)) : ∀ n, sepOpt n = true → sepOpt (firstCharK n (printMembers l)) = true := by
  intro n h; rw [sepOpt_firstCharK, h, hs_members]

end NitroVerif.C16

/-! ### the printer's fixed tokens are safe chunks for the template writer

`okK` asks `Tok.fixedOK` of every token, so the walk above has shown it of every printing function. -/

namespace NitroVerif.GqlPrint
open NitroVerif.Gql NitroVerif.C16

theorem allFixed_of_okK (s : Bool) : ∀ ts, okK s ts = true → allFixed ts = true
  | [], _ => rfl
  | t :: ts, h => by
    simp only [okK, Bool.and_eq_true] at h
    rw [allFixed_cons, h.1.1.2, allFixed_of_okK s ts h.2]; rfl

theorem fixed_selection : (s : Selection) → allFixed (printSelection s) = true :=
  fun s => allFixed_of_okK _ _ (ok_selection s)

theorem fixed_valueList : (vs : List Value) → (b : Bool) → allFixed (printValueList vs b) = true :=
  fun vs b => allFixed_of_okK _ _ (ok_valueList vs b)

theorem fixed_tsDoc (d : TsDoc) : allFixed (printTsDoc d) = true :=
  allFixed_of_okK true _ (ok_tsDoc d true)

theorem fixed_tsExtDoc (d : TsDoc) : allFixed (printTsExtDoc d) = true :=
  allFixed_of_okK true _ (ok_tsExtDoc d true)

/-- executable documents; an `#import` line is not GraphQL (no `okK`), its fixed tokens are looked at directly -/
theorem fixed_doc (d : Doc) : allFixed (printDoc d) = true := by
  induction d with
  | nil => rfl
  | cons i is ih =>
    rw [printDoc, allFixed_append, ih, Bool.and_true]
    cases i with
    | op o => exact allFixed_of_okK true _ (ok_operation o true)
    | frag f => exact allFixed_of_okK true _ (ok_fragment f true)
    | imp i => exact fixed_import i

end NitroVerif.GqlPrint
