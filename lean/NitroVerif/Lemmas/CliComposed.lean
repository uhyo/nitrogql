/-
C18: the CLI-driver model (`Model/Cli.lean`) composed with the models of the stages it drives.

`Model/Cli.lean` takes the *stage results* of a run as its input (`Run`).  Here the stage results are COMPUTED from the
input texts of a project by the stage models, composed the way `run_cli_impl` (crates/cli/src/main.rs) and `check_impl`
/ `resolve_schema` / `resolve_operations` (crates/cli/src/check.rs) compose the real stages:

  schema files      → parser (file index set before each parse) → `TypeSystemOrExtensionDocument::merge` (concatenation)
                    → `generate_builtins()` ++ `nitrogql_builtins()` appended (`CliSchema.builtins`)
                    → `resolve_schema_extensions` (`ExtResolve.resolve`) → `check_type_system_document`
                      (`CheckTs.checkSchema`) → `ast_to_type_system` (`Gql.Schema` view of the resolved document)
  operation files   → parser → `resolve_operation_extensions` of ALL files (`Imports.resolveExt` on the import lines;
                      the definitions pass through) → `Operations::new` (a `HashMap` by path: the LAST file of a path
                      wins) → `resolve_operation_imports` of ALL files (`Imports.resolve`; the selected definitions of
                      the imported files are appended) → `check_operation_document` (`CheckOp.checkOp`) of ALL files.

What stays abstract (fields of `Env`):
* the two parsers, as functions `file index → text → document | (line, column, message)` — their own correctness is
  C07 / C08 (`Model/Peg.lean`, `Model/Build.lean`); the file index is an argument because the real parser stamps every
  position with the index set by `set_current_file_of_pos`;
* `resolve_relative_path` (`res`; C20), the `Nat` coding of fragment names that `Model/Imports.lean` works with
  (`code`), the position of the path literal of an `#import` line (`pathPos`: the shared vocabulary `Gql.ImportDef`
  has no slot for it) and the message-tag tables (`Tags`: `Cli.Diag.tag` is an opaque number).
The answers of the world that are not computed by a stage model stay inputs of the project: the command list, the
generate options, `ScalarTypeNotProvided` of the schema printer and the file-system results of the writes.

The stage models report `(kind, main position)`; the notes (`additional_info`) of checker diagnostics are not modelled
there, so the composed diagnostics of the two checkers carry no notes (the extension resolver's second position and
the built-in hint of `FileNotFound` are carried).
-/
import NitroVerif.Lemmas.Cli
import NitroVerif.Lemmas.Imports
import NitroVerif.Model.ExtResolve
import NitroVerif.Model.CheckOp
import NitroVerif.Model.CheckTs
import NitroVerif.Model.CliSchema
namespace NitroVerif.CliComposed
open NitroVerif NitroVerif.Gql NitroVerif.Cli

/-- result of a parser: the document, or (0-based line, 0-based column, message tag) -/
abbrev PRes (α : Type) := Except (Nat × Nat × Nat) α

/-- message-tag tables (`Cli.Diag.tag` identifies the message text; any tables) -/
structure Tags (κ : Type) where
  schemaExt : ExtResolve.ExtError → Nat
  schemaCheck : CheckTs.ErrKind → Nat
  opExt : Imports.ExtErr → Nat
  opImport : Imports.ImpErr κ String → Nat
  opCheck : ErrKind → Nat

/-- what the composition does not compute (see the header) -/
structure Env (Text κ : Type) where
  /-- `set_current_file_of_pos(i); parse_type_system_document(text)` -/
  parseTs : Nat → Text → PRes TsDoc
  /-- `set_current_file_of_pos(i); parse_operation_document(text)` -/
  parseOp : Nat → Text → PRes Doc
  /-- `resolve_relative_path(document_path, literal)` -/
  res : κ → String → κ
  /-- coding of fragment names for `Model/Imports.lean` -/
  code : Name → Nat
  /-- `import.path.position` -/
  pathPos : ImportDef → Gql.Pos
  tags : Tags κ

/-- one operation file of the project -/
structure OpInput (Text κ : Type) where
  /-- the path under which `Operations::new` registers the file (normalised: globmatch returns absolute paths
      below the normalised root) -/
  path : κ
  text : Text
  /-- what the file system answers when the declaration file of this operation file is written -/
  io : IoRes

/-- a project as the CLI sees it: the inputs, the request, and the answers of the world no stage model computes -/
structure Project (Text κ : Type) where
  cmds : List Cmd
  /-- the schema files in the order globmatch returns them -/
  schemaTexts : List Text
  ops : List (OpInput Text κ)
  gen : GenOpts
  schemaPrinterFails : Bool
  ioSchema : IoRes
  ioServer : IoRes
  ioResolvers : IoRes

/-- `Gql.Pos` and `Cli.Pos` are the same record -/
def toCli (p : Gql.Pos) : Cli.Pos := ⟨p.line, p.col, p.file, p.builtin⟩

/-- `xs.enumerate().map(f)` with the first index `i` -/
def mapFrom {α β : Type} (f : Nat → α → β) : Nat → List α → List β
  | _, [] => []
  | i, x :: xs => f i x :: mapFrom f (i + 1) xs

def toParseRes {α : Type} : PRes α → ParseRes
  | .ok _ => .ok
  | .error (l, c, t) => .err l c t

/-- the document of a successful parse (`[]` otherwise: the run ends before anything looks at it) -/
def docOf {α : Type} : PRes (List α) → List α
  | .ok d => d
  | .error _ => []

/-- the `#import` lines of a parsed document, in order -/
def importsOf (D : Doc) : List ImportDef := D.filterMap fun | .imp i => some i | _ => none

/-- `OperationDocument.definitions` after `resolve_operation_extensions`: everything but the import lines -/
def defsOf (D : Doc) : Doc := D.filter fun | .imp _ => false | _ => true

def rawTarget (code : Name → Nat) : Option (Name × Gql.Pos) → Imports.RawTarget
  | none => .wildcard
  | some (n, _) => .name (code n)

def rawImport (code : Name → Nat) (i : ImportDef) : Imports.RawImport String :=
  ⟨i.path, i.targets.map (rawTarget code)⟩

def rawLines (code : Name → Nat) (D : Doc) : List (Imports.RawImport String) := (importsOf D).map (rawImport code)

def toDef (code : Name → Nat) : ExecDef → Imports.Def
  | .frag f => .frag (code f.name)
  | _ => .other

/-- `resolve_operation_extensions(doc)` (the import part) -/
def extOf (code : Name → Nat) (D : Doc) : Except Imports.ExtErr (List (Imports.Import String)) :=
  Imports.resolveExt (rawLines code D)

/-- the (document, extension) pair the resolver map holds for a file -/
def fileOf (code : Name → Nat) (D : Doc) : Imports.File String :=
  ⟨match extOf code D with | .ok imps => imps | .error _ => [], (defsOf D).map (toDef code)⟩

/-- position of an extension-resolution error: `import.position` of the offending line -/
def extErrPos (D : Doc) (e : Imports.ExtErr) : Gql.Pos :=
  match e with
  | .wildcardOnlyOnce l | .wildcardCombined l => match (importsOf D)[l]? with | some i => i.pos | none => {}

section
variable {Text κ : Type} [DecidableEq κ]

def schemaParses (E : Env Text κ) (P : Project Text κ) : List (PRes TsDoc) := mapFrom E.parseTs 0 P.schemaTexts

/-- `TypeSystemOrExtensionDocument::merge(documents)`, then `doc.extend(generate_builtins());
    doc.extend(nitrogql_builtins())` -/
def mergedSchema (E : Env Text κ) (P : Project Text κ) : TsDoc :=
  (schemaParses E P).flatMap docOf ++ CliSchema.builtins

/-- the resolved document (`[]` when resolution fails: nothing looks at it then) -/
def resolvedSchema (E : Env Text κ) (P : Project Text κ) : TsDoc :=
  match ExtResolve.resolve (mergedSchema E P) with
  | .ok T => T
  | .error _ => []

def schemaExtDiag (E : Env Text κ) (e : ExtResolve.ExtError) : Diag :=
  ⟨toCli e.position, e.additional.map toCli, E.tags.schemaExt e⟩

def schemaCheckDiag (E : Env Text κ) (d : CheckTs.Err) : Diag := ⟨toCli d.2, [], E.tags.schemaCheck d.1⟩

/-- an operation file with its global file index and its parse result -/
structure OpView (Text κ : Type) where
  idx : Nat
  input : OpInput Text κ
  parse : PRes Doc

def OpView.doc (v : OpView Text κ) : Doc := docOf v.parse

def views (E : Env Text κ) (P : Project Text κ) : List (OpView Text κ) :=
  mapFrom (fun i f => ⟨i, f, E.parseOp i f.text⟩) P.schemaTexts.length P.ops

/-- `Operations::new(&operations)`: `collect()` into a `HashMap` keeps the LAST entry of a path -/
def opDocs (E : Env Text κ) (P : Project Text κ) : List (κ × Doc) :=
  ((views E P).map fun v => (v.input.path, v.doc)).reverse

def opFs (E : Env Text κ) (P : Project Text κ) : Imports.FS κ String :=
  (opDocs E P).map fun pd => (pd.1, fileOf E.code pd.2)

/-- `resolve_operation_imports((path, doc, ext), &operation_resolver)` -/
def impOf (E : Env Text κ) (P : Project Text κ) (v : OpView Text κ) : Imports.Res κ String (List (Imports.DefId κ)) :=
  Imports.resolve E.res (opFs E P) v.input.path (fileOf E.code v.doc)

/-- the definition an id denotes: `imported_document.definitions[index]` -/
def fetch (docs : List (κ × Doc)) (x : Imports.DefId κ) : Option ExecDef :=
  match docs.lookup x.1 with
  | some D => (defsOf D)[x.2]?
  | none => none

/-- the document `check_operation_document` is given: the file's own definitions followed by the imported ones -/
def resolvedDoc (E : Env Text κ) (P : Project Text κ) (v : OpView Text κ) : Doc :=
  match impOf E P v with
  | .ok out => defsOf v.doc ++ out.filterMap (fetch (opDocs E P))
  | _ => defsOf v.doc

/-- the document an import error speaks about: the root document itself (the resolver never looks its own path up:
    `expanded` is seeded with it), or what the resolver map holds -/
def docAt (docs : List (κ × Doc)) (root : κ) (rootDoc : Doc) (q : κ) : Option Doc :=
  if q = root then some rootDoc else docs.lookup q

/-- main position of an import error: the path literal of the line (`FileNotFound`), the target identifier
    (`FragmentNotFound`) — of the file in which the chain broke -/
def impErrPos (E : Env Text κ) (docs : List (κ × Doc)) (root : κ) (rootDoc : Doc) : Imports.ImpErr κ String → Gql.Pos
  | .fileNotFound doc _ line =>
    match docAt docs root rootDoc doc with
    | some D => (match (importsOf D)[line]? with | some i => E.pathPos i | none => {})
    | none => {}
  | .fragmentNotFound doc _ id =>
    match docAt docs root rootDoc doc with
    | some D =>
      (match (importsOf D)[id.line]? with
       | some i => (match i.targets[id.col]? with | some (some (_, p)) => p | _ => {})
       | none => {})
    | none => {}

/-- notes of an import error: `FileNotFound` carries a hint at a built-in position -/
def impErrExtra : Imports.ImpErr κ String → List Cli.Pos
  | .fileNotFound .. => [⟨0, 0, 0, true⟩]
  | .fragmentNotFound .. => []

def opExtDiag (E : Env Text κ) (D : Doc) (e : Imports.ExtErr) : Diag := ⟨toCli (extErrPos D e), [], E.tags.opExt e⟩

def opImportDiag (E : Env Text κ) (P : Project Text κ) (v : OpView Text κ) (e : Imports.ImpErr κ String) : Diag :=
  ⟨toCli (impErrPos E (opDocs E P) v.input.path v.doc e), impErrExtra e, E.tags.opImport e⟩

def opCheckDiag (E : Env Text κ) (d : CheckCommon.Diag) : Diag := ⟨toCli d.2, [], E.tags.opCheck d.1⟩

/-- the stage results of one operation file -/
def opFileOf (E : Env Text κ) (P : Project Text κ) (v : OpView Text κ) : OpFile :=
  { parse := toParseRes v.parse
    ext := match extOf E.code v.doc with | .error e => some (opExtDiag E v.doc e) | .ok _ => none
    imp := match impOf E P v with | .err e => some (opImportDiag E P v e) | _ => none
    check := (CheckOp.checkOp ⟨resolvedSchema E P⟩ (resolvedDoc E P v)).map (opCheckDiag E)
    io := v.input.io }

/-- **the stage results of a project**, computed by the stage models -/
def stagesOf (E : Env Text κ) (P : Project Text κ) : Run :=
  { cmds := P.cmds
    schemaFiles := (schemaParses E P).map toParseRes
    schemaExt := match ExtResolve.resolve (mergedSchema E P) with | .error e => some (schemaExtDiag E e) | .ok _ => none
    schemaCheck := (CheckTs.checkSchema (resolvedSchema E P)).map (schemaCheckDiag E)
    opFiles := (views E P).map (opFileOf E P)
    gen := P.gen
    schemaPrinterFails := P.schemaPrinterFails
    ioSchema := P.ioSchema
    ioServer := P.ioServer
    ioResolvers := P.ioResolvers }

theorem mem_mapFrom {α β : Type} (f : Nat → α → β) (b : Nat) (l : List α) (y : β) :
    y ∈ mapFrom f b l ↔ ∃ j x, l[j]? = some x ∧ y = f (b + j) x := by
  induction l generalizing b with
  | nil => simp [mapFrom]
  | cons a l ih =>
    simp only [mapFrom, List.mem_cons, ih]
    constructor
    · rintro (rfl | ⟨j, x, hj, rfl⟩)
      · exact ⟨0, a, by simp, by simp⟩
      · exact ⟨j + 1, x, by simpa using hj, by rw [show b + (j + 1) = b + 1 + j by omega]⟩
    · rintro ⟨j, x, hj, rfl⟩
      cases j with
      | zero => left; simp at hj; subst hj; simp
      | succ j => right; exact ⟨j, x, by simpa using hj, by rw [show b + (j + 1) = b + 1 + j by omega]⟩

theorem length_mapFrom {α β : Type} (f : Nat → α → β) (b : Nat) (l : List α) : (mapFrom f b l).length = l.length := by
  induction l generalizing b with
  | nil => rfl
  | cons a l ih => simp [mapFrom, ih]

theorem toParseRes_ok {α : Type} (r : PRes α) : toParseRes r = .ok ↔ ∃ d, r = .ok d := by
  cases r with
  | ok d => simp [toParseRes]
  | error e => obtain ⟨l, c, t⟩ := e; simp [toParseRes]

theorem mem_views (E : Env Text κ) (P : Project Text κ) (v : OpView Text κ) :
    v ∈ views E P ↔ ∃ j f, P.ops[j]? = some f ∧
      v = ⟨P.schemaTexts.length + j, f, E.parseOp (P.schemaTexts.length + j) f.text⟩ :=
  mem_mapFrom _ _ _ _

theorem mem_schemaParses (E : Env Text κ) (P : Project Text κ) (r : PRes TsDoc) :
    r ∈ schemaParses E P ↔ ∃ i t, P.schemaTexts[i]? = some t ∧ r = E.parseTs i t := by
  unfold schemaParses
  rw [mem_mapFrom]
  simp

theorem map_mapFrom_const {α β γ : Type} (f : Nat → α → β) (g : β → γ) (g' : α → γ)
    (h : ∀ i x, g (f i x) = g' x) (b : Nat) (l : List α) : (mapFrom f b l).map g = l.map g' := by
  induction l generalizing b with
  | nil => rfl
  | cons a l ih => simp [mapFrom, h, ih]

/-- the generate options are usable, the schema printer does not fail and every write succeeds — on the project's
    own fields (= `Cli.genOk` of the stage results, `genOk_stagesOf`) -/
def projGenOk (P : Project Text κ) : Bool :=
  (P.gen.schemaOutput || P.gen.moduleSpecifier) && !P.gen.runtimeToDts &&
  ((!P.gen.schemaOutput || (!P.schemaPrinterFails && decide (P.ioSchema = .ok))) &&
   (!P.gen.serverOutput || !decide (P.ioServer = .mainFails)) &&
   (!P.gen.resolversOutput || decide (P.ioResolvers = .ok)) &&
   P.ops.all fun f => decide (f.io = .ok))

theorem opSteps_all (j : Nat) (fs : List OpFile) :
    (opSteps j fs).all stepOk = fs.all fun f => decide (f.io = .ok) := by
  induction fs generalizing j with
  | nil => rfl
  | cons f fs ih => simp only [opSteps, List.all_cons, ih, stepOk_withMap, Bool.not_false, Bool.true_and]

theorem all_ite_singleton {α : Type} (b : Bool) (s : α) (p : α → Bool) :
    (if b then [s] else []).all p = (!b || p s) := by
  cases b <;> simp

theorem genOk_eq (r : Run) : genOk r =
    ((r.gen.schemaOutput || r.gen.moduleSpecifier) && !r.gen.runtimeToDts &&
     ((!r.gen.schemaOutput || (!r.schemaPrinterFails && decide (r.ioSchema = .ok))) &&
      (!r.gen.serverOutput || !decide (r.ioServer = .mainFails)) &&
      (!r.gen.resolversOutput || decide (r.ioResolvers = .ok)) &&
      r.opFiles.all fun f => decide (f.io = .ok))) := by
  unfold genOk genSteps
  simp only [List.all_append, all_ite_singleton, stepOk_withMap, stepOk_noMap, opSteps_all, Bool.not_false,
    Bool.true_and]

theorem genOk_stagesOf (E : Env Text κ) (P : Project Text κ) : genOk (stagesOf E P) = projGenOk P := by
  have hops : ((views E P).map (opFileOf E P)).all (fun f => decide (f.io = .ok)) =
      P.ops.all fun f => decide (f.io = .ok) := by
    rw [List.all_map]
    unfold views
    have := map_mapFrom_const (fun i (f : OpInput Text κ) => (⟨i, f, E.parseOp i f.text⟩ : OpView Text κ))
      (fun v => decide ((opFileOf E P v).io = .ok)) (fun f => decide (f.io = .ok)) (fun _ _ => rfl)
      P.schemaTexts.length P.ops
    have h2 := congrArg (fun l => l.all id) this
    simpa [List.all_map, Function.comp_def] using h2
  rw [genOk_eq]
  unfold projGenOk
  simp only [stagesOf, hops]
  rfl

/-- The `check` part of "no fault", stated about the stage MODELS applied to the project's input texts: every schema
    file parses, every operation file parses, `resolve_schema_extensions` succeeds on the merged document (with
    built-ins), `check_type_system_document` reports nothing on the resolved document,
    `resolve_operation_extensions` and `resolve_operation_imports` succeed for every operation file and
    `check_operation_document` reports nothing for every operation file. -/
structure CheckClean (E : Env Text κ) (P : Project Text κ) : Prop where
  schemaParse : ∀ r ∈ schemaParses E P, ∃ T, r = .ok T
  opParse : ∀ v ∈ views E P, ∃ D, v.parse = .ok D
  schemaResolves : ∃ T, ExtResolve.resolve (mergedSchema E P) = .ok T
  schemaCheck : CheckTs.checkSchema (resolvedSchema E P) = []
  opExt : ∀ v ∈ views E P, ∃ imps, extOf E.code v.doc = .ok imps
  opImport : ∀ v ∈ views E P, ∃ out, impOf E P v = .ok out
  opCheck : ∀ v ∈ views E P, CheckOp.checkOp ⟨resolvedSchema E P⟩ (resolvedDoc E P v) = []

/-- no fault anywhere: a usable command list, `CheckClean`, and — if `generate` is requested — usable options and no
    printer / file-system failure -/
structure StagesClean (E : Env Text κ) (P : Project Text κ) : Prop where
  cmds : cmdsOk P.cmds = true
  check : CheckClean E P
  gen : Cmd.generate ∈ P.cmds → projGenOk P = true

theorem opFileOf_ext_none (E : Env Text κ) (P : Project Text κ) (v : OpView Text κ) :
    (opFileOf E P v).ext = none ↔ ∃ imps, extOf E.code v.doc = .ok imps := by
  unfold opFileOf
  cases extOf E.code v.doc <;> simp

theorem opFileOf_imp_none (E : Env Text κ) (P : Project Text κ) (v : OpView Text κ) :
    (opFileOf E P v).imp = none ↔ ∃ out, impOf E P v = .ok out := by
  have hf : impOf E P v ≠ .outOfFuel := Imports.resolve_fuel _ _ _ _
  unfold opFileOf
  cases h : impOf E P v with
  | ok out => simp
  | err e => simp
  | outOfFuel => exact absurd h hf

theorem opFileOf_ext_eq_some {E : Env Text κ} {P : Project Text κ} {v : OpView Text κ} {d : Diag} :
    (opFileOf E P v).ext = some d ↔ ∃ x, extOf E.code v.doc = .error x ∧ d = opExtDiag E v.doc x := by
  unfold opFileOf
  cases extOf E.code v.doc with
  | ok _ => exact ⟨nofun, fun ⟨_, h, _⟩ => nomatch h⟩
  | error x => exact ⟨fun h => ⟨x, rfl, (Option.some.inj h).symm⟩, fun ⟨_, h, hd⟩ => by cases h; rw [hd]⟩

theorem opFileOf_imp_eq_some {E : Env Text κ} {P : Project Text κ} {v : OpView Text κ} {d : Diag} :
    (opFileOf E P v).imp = some d ↔ ∃ x, impOf E P v = .err x ∧ d = opImportDiag E P v x := by
  unfold opFileOf
  cases impOf E P v with
  | ok _ => exact ⟨nofun, fun ⟨_, h, _⟩ => nomatch h⟩
  | outOfFuel => exact ⟨nofun, fun ⟨_, h, _⟩ => nomatch h⟩
  | err x => exact ⟨fun h => ⟨x, rfl, (Option.some.inj h).symm⟩, fun ⟨_, h, hd⟩ => by cases h; rw [hd]⟩

theorem opFileOf_check_nil (E : Env Text κ) (P : Project Text κ) (v : OpView Text κ) :
    (opFileOf E P v).check = [] ↔ CheckOp.checkOp ⟨resolvedSchema E P⟩ (resolvedDoc E P v) = [] := by
  simp [opFileOf]

theorem mem_opFiles {E : Env Text κ} {P : Project Text κ} {g : OpFile} :
    g ∈ (stagesOf E P).opFiles ↔ ∃ v ∈ views E P, opFileOf E P v = g :=
  List.mem_map

theorem schemaExt_none_iff (E : Env Text κ) (P : Project Text κ) :
    (stagesOf E P).schemaExt = none ↔ ∃ T, ExtResolve.resolve (mergedSchema E P) = .ok T := by
  simp only [stagesOf]
  cases ExtResolve.resolve (mergedSchema E P) <;> simp

theorem schemaCheck_nil_iff (E : Env Text κ) (P : Project Text κ) :
    (stagesOf E P).schemaCheck = [] ↔ CheckTs.checkSchema (resolvedSchema E P) = [] :=
  List.map_eq_nil_iff

theorem checkImpl_stagesOf_nil (E : Env Text κ) (P : Project Text κ) :
    checkImpl (stagesOf E P) = [] ↔
      (∃ T, ExtResolve.resolve (mergedSchema E P) = .ok T) ∧ CheckTs.checkSchema (resolvedSchema E P) = [] ∧
      ∀ v ∈ views E P, (∃ imps, extOf E.code v.doc = .ok imps) ∧ (∃ out, impOf E P v = .ok out) ∧
        CheckOp.checkOp ⟨resolvedSchema E P⟩ (resolvedDoc E P v) = [] := by
  rw [checkImpl_nil_iff, schemaExt_none_iff, schemaCheck_nil_iff]
  refine and_congr Iff.rfl (and_congr Iff.rfl ?_)
  simp only [stagesOf, List.mem_map]
  constructor
  · intro h v hv
    have := h _ ⟨v, hv, rfl⟩
    exact ⟨(opFileOf_ext_none E P v).mp this.1, (opFileOf_imp_none E P v).mp this.2.1,
      (opFileOf_check_nil E P v).mp this.2.2⟩
  · rintro h f ⟨v, hv, rfl⟩
    have := h v hv
    exact ⟨(opFileOf_ext_none E P v).mpr this.1, (opFileOf_imp_none E P v).mpr this.2.1,
      (opFileOf_check_nil E P v).mpr this.2.2⟩

theorem schemaFiles_ok_iff (E : Env Text κ) (P : Project Text κ) :
    (∀ f ∈ (stagesOf E P).schemaFiles, f = .ok) ↔ ∀ r ∈ schemaParses E P, ∃ T, r = .ok T := by
  simp only [stagesOf, List.mem_map]
  constructor
  · intro h r hr; exact (toParseRes_ok r).mp (h _ ⟨r, hr, rfl⟩)
  · rintro h f ⟨r, hr, rfl⟩; exact (toParseRes_ok r).mpr (h r hr)

theorem opFiles_ok_iff (E : Env Text κ) (P : Project Text κ) :
    (∀ f ∈ (stagesOf E P).opFiles, f.parse = .ok) ↔ ∀ v ∈ views E P, ∃ D, v.parse = .ok D := by
  simp only [stagesOf, List.mem_map]
  constructor
  · intro h v hv; exact (toParseRes_ok v.parse).mp (h _ ⟨v, hv, rfl⟩)
  · rintro h f ⟨v, hv, rfl⟩; exact (toParseRes_ok v.parse).mpr (h v hv)

theorem checkClean_iff (E : Env Text κ) (P : Project Text κ) :
    CheckClean E P ↔ (∀ f ∈ (stagesOf E P).schemaFiles, f = .ok) ∧ (∀ f ∈ (stagesOf E P).opFiles, f.parse = .ok) ∧
      checkImpl (stagesOf E P) = [] := by
  rw [checkImpl_stagesOf_nil, schemaFiles_ok_iff, opFiles_ok_iff]
  constructor
  · intro c
    exact ⟨c.schemaParse, c.opParse, c.schemaResolves, c.schemaCheck,
      fun v hv => ⟨c.opExt v hv, c.opImport v hv, c.opCheck v hv⟩⟩
  · rintro ⟨b, c, d, e, f⟩
    exact ⟨b, c, d, e, fun v hv => (f v hv).1, fun v hv => (f v hv).2.1, fun v hv => (f v hv).2.2⟩

theorem clean_stagesOf_iff (E : Env Text κ) (P : Project Text κ) : Clean (stagesOf E P) ↔ StagesClean E P := by
  unfold Clean
  rw [genOk_stagesOf]
  constructor
  · rintro ⟨a, b, c, d, g⟩
    exact ⟨a, (checkClean_iff E P).mpr ⟨b, c, d⟩, g⟩
  · intro c
    obtain ⟨b, c', d⟩ := (checkClean_iff E P).mp c.check
    exact ⟨c.cmds, b, c', d, c.gen⟩

end
end NitroVerif.CliComposed
