/-
The walk through the builders (helper lemmas for Props/C08), part 3: type-system definitions and extensions and
`build_type_system_or_extension_document` (builder/type_system/*.rs, builder.rs), for any `Walk`
(Lemmas/BuildWalkValue.lean).
-/
import NitroVerif.Lemmas.BuildWalkOp
namespace NitroVerif.Shape
open NitroVerif.Peg NitroVerif.Gen NitroVerif.Gen.Parts NitroVerif.Build

section
variable {ctx : Ctx} {S : Panic → Prop} {G : Pair → Prop} (W : Walk ctx S G)
include W

theorem errIn_optDesc {o : Option Pair} (ho : OptOf (In G) R.Description o) : ErrIn S (optDesc ctx o) :=
  ho.elim (ErrIn.ok _) fun d hd => by
    obtain ⟨c, oc⟩ := W.only hd "Description" OC_Description
    have hcr : c.rule = R.StringValue := by simpa [OC_Description] using oc.arm
    rw [optDesc, buildDescription, oc.of, ok_bind]
    exact ((errIn_buildStringValue W ⟨oc.mem, hcr⟩).bind fun ⟨s, _⟩ _ => ErrIn.ok s).bind fun _ _ => ErrIn.ok _

theorem errIn_buildInputValueDefinition (fuel : Nat) {p : Pair} (h : In G R.InputValueDefinition p) :
    ErrIn S (buildInputValueDefinition ctx fuel p) := by
  obtain ⟨desc, hdesc, name, -, ty, htr, dv, hdv, dirs, hdirs, hl⟩ := W.parts h P_InputValueDefinition
  rw [buildInputValueDefinition, hl, ok_bind]
  exact (errIn_optDesc W hdesc).bind fun _ _ => (errIn_buildType W fuel htr).bind fun _ _ =>
    (errIn_optDefault W fuel hdv).bind fun _ _ => (errIn_optDirs W fuel hdirs).bind fun _ _ => ErrIn.ok _

theorem errIn_buildArgumentsDefinition (fuel : Nat) {p : Pair} (h : In G R.ArgumentsDefinition p) :
    ErrIn S (buildArgumentsDefinition ctx fuel p) := by
  obtain ⟨hall, hcs⟩ := W.all h AC_ArgumentsDefinition
  rw [buildArgumentsDefinition, hall, ok_bind]
  exact ErrIn.mapM fun v hv => errIn_buildInputValueDefinition W fuel (hcs v hv)

theorem errIn_buildInputFieldsDefinition (fuel : Nat) {p : Pair} (h : In G R.InputFieldsDefinition p) :
    ErrIn S (buildInputFieldsDefinition ctx fuel p) := by
  obtain ⟨hall, hcs⟩ := W.all h AC_InputFieldsDefinition
  rw [buildInputFieldsDefinition, hall, ok_bind]
  exact ErrIn.mapM fun v hv => errIn_buildInputValueDefinition W fuel (hcs v hv)

theorem errIn_buildFieldsDefinition (fuel : Nat) {p : Pair} (h : In G R.FieldsDefinition p) :
    ErrIn S (buildFieldsDefinition ctx fuel p) := by
  obtain ⟨hall, hcs⟩ := W.all h AC_FieldsDefinition
  rw [buildFieldsDefinition, hall, ok_bind]
  refine ErrIn.mapM fun f hf => ?_
  obtain ⟨desc, hdesc, name, -, args, hargs, ty, htr, dirs, hdirs, hl⟩ := W.parts (hcs f hf) P_FieldDefinition
  rw [hl, ok_bind]
  refine (errIn_optDesc W hdesc).bind fun _ _ => ?_
  extract_lets jp
  have hjp : ∀ as, ErrIn S (jp as) := fun _ =>
    (errIn_buildType W fuel htr).bind fun _ _ => (errIn_optDirs W fuel hdirs).bind fun _ _ => ErrIn.ok _
  exact hargs.elim ((ErrIn.pure _).bind fun _ _ => hjp _) fun a ha =>
    (errIn_buildArgumentsDefinition W fuel ha).bind fun _ _ => hjp _

theorem errIn_buildEnumValueDefinition (fuel : Nat) {p : Pair} (h : In G R.EnumValueDefinition p) :
    ErrIn S (buildEnumValueDefinition ctx fuel p) := by
  obtain ⟨desc, hdesc, v, -, dirs, hdirs, hl⟩ := W.parts h P_EnumValueDefinition
  rw [buildEnumValueDefinition, hl, ok_bind]
  exact (errIn_optDesc W hdesc).bind fun _ _ => (errIn_optDirs W fuel hdirs).bind fun _ _ => ErrIn.ok _

/-! ### `build_implements_interfaces` (hand-written loop) -/

theorem errIn_buildImplementsInterfaces {p : Pair} (h : In G R.ImplementsInterfaces p) :
    ErrIn S (buildImplementsInterfaces ctx p) := by
  have hacc : acceptsA (headAuto R.KEYWORD_implements R.NamedType) 0 (ruleShape gList R.ImplementsInterfaces) = true :=
    acc_site (s := R.ImplementsInterfaces) (pat := .headThenAll R.KEYWORD_implements R.NamedType) (by decide +kernel)
  obtain ⟨w', hw, hall⟩ := headAuto_ok (acceptsA_sound _ _ _ hacc _ (W.shape h))
  rw [buildImplementsInterfaces]
  cases hcs : p.children with
  | nil => rw [hcs] at hw; cases hw
  | cons hd rest =>
    rw [hcs] at hw
    obtain ⟨hhd, hrest⟩ := List.cons.inj hw
    refine ErrIn.ite (fun h => absurd hhd h) fun _ => ErrIn.mapM fun n hn => ?_
    exact ErrIn.ite (fun h => absurd (hall n.rule (hrest ▸ List.mem_map_of_mem hn)) h) fun _ => ErrIn.ok _

theorem errIn_optImplements {o : Option Pair} (ho : OptOf (In G) R.ImplementsInterfaces o) :
    ErrIn S (optImplements ctx o) :=
  ho.elim (ErrIn.ok _) fun _ hi => errIn_buildImplementsInterfaces W hi

theorem errIn_unionMembers {o : Option Pair} (ho : OptOf (In G) R.UnionMemberTypes o) :
    ErrIn S (namedTypeIdents ctx AC_UnionMemberTypes o) :=
  ho.elim (ErrIn.ok _) fun m hm => by
    rw [namedTypeIdents, (W.all hm AC_UnionMemberTypes).1]
    exact ErrIn.ok _

theorem errIn_optFields (fuel : Nat) {o : Option Pair} (ho : OptOf (In G) R.FieldsDefinition o) :
    ErrIn S (optFields ctx fuel o) :=
  ho.elim (ErrIn.ok _) fun _ hf => errIn_buildFieldsDefinition W fuel hf

theorem errIn_optEnumValues (fuel : Nat) {o : Option Pair} (ho : OptOf (In G) R.EnumValuesDefinition o) :
    ErrIn S (optEnumValues ctx fuel o) :=
  ho.elim (ErrIn.ok _) fun v hv => by
    obtain ⟨hall, hcs⟩ := W.all hv AC_EnumValuesDefinition
    rw [optEnumValues, hall, ok_bind]
    exact ErrIn.mapM fun x hx => errIn_buildEnumValueDefinition W fuel (hcs x hx)

theorem errIn_optInputFields (fuel : Nat) {o : Option Pair} (ho : OptOf (In G) R.InputFieldsDefinition o) :
    ErrIn S (optInputFields ctx fuel o) :=
  ho.elim (ErrIn.ok _) fun _ hf => errIn_buildInputFieldsDefinition W fuel hf

theorem errIn_buildTypeDefinition (fuel : Nat) {p : Pair} (h : In G R.TypeDefinition p) :
    ErrIn S (buildTypeDefinition ctx fuel p) := by
  obtain ⟨c, oc⟩ := W.only h "TypeDefinition" OC_TypeDefinition
  rw [buildTypeDefinition, oc.of, ok_bind]
  refine ErrIn.ite (fun h1 => ?_) fun h1 => ErrIn.ite (fun h2 => ?_) fun h2 => ErrIn.ite (fun h3 => ?_) fun h3 =>
    ErrIn.ite (fun h4 => ?_) fun h4 => ErrIn.ite (fun h5 => ?_) fun h5 => ErrIn.ite (fun h6 => ?_) fun h6 => ?_
  · obtain ⟨desc, hdesc, kw, -, name, -, dirs, hdirs, hl⟩ := W.parts ⟨oc.mem, h1⟩ P_ScalarTypeDefinition
    rw [hl, ok_bind]
    exact (errIn_optDesc W hdesc).bind fun _ _ => (errIn_optDirs W fuel hdirs).bind fun _ _ => ErrIn.ok _
  · obtain ⟨desc, hdesc, kw, -, name, -, impl, himpl, dirs, hdirs, fields, hfields,
        hl⟩ := W.parts ⟨oc.mem, h2⟩ P_ObjectTypeDefinition
    rw [hl, ok_bind]
    exact (errIn_optDesc W hdesc).bind fun _ _ => (errIn_optImplements W himpl).bind fun _ _ =>
      (errIn_optDirs W fuel hdirs).bind fun _ _ => (errIn_optFields W fuel hfields).bind fun _ _ => ErrIn.ok _
  · obtain ⟨desc, hdesc, kw, -, name, -, impl, himpl, dirs, hdirs, fields, hfields,
        hl⟩ := W.parts ⟨oc.mem, h3⟩ P_InterfaceTypeDefinition
    rw [hl, ok_bind]
    exact (errIn_optDesc W hdesc).bind fun _ _ => (errIn_optImplements W himpl).bind fun _ _ =>
      (errIn_optDirs W fuel hdirs).bind fun _ _ => (errIn_optFields W fuel hfields).bind fun _ _ => ErrIn.ok _
  · obtain ⟨desc, hdesc, kw, -, name, -, dirs, hdirs, members, hmembers, hl⟩ := W.parts ⟨oc.mem, h4⟩ P_UnionTypeDefinition
    rw [hl, ok_bind]
    exact (errIn_optDesc W hdesc).bind fun _ _ => (errIn_optDirs W fuel hdirs).bind fun _ _ =>
      (errIn_unionMembers W hmembers).bind fun _ _ => ErrIn.ok _
  · obtain ⟨desc, hdesc, kw, -, name, -, dirs, hdirs, values, hvalues, hl⟩ := W.parts ⟨oc.mem, h5⟩ P_EnumTypeDefinition
    rw [hl, ok_bind]
    exact (errIn_optDesc W hdesc).bind fun _ _ => (errIn_optDirs W fuel hdirs).bind fun _ _ =>
      (errIn_optEnumValues W fuel hvalues).bind fun _ _ => ErrIn.ok _
  · obtain ⟨desc, hdesc, kw, -, name, -, dirs, hdirs, fields, hfields,
        hl⟩ := W.parts ⟨oc.mem, h6⟩ P_InputObjectTypeDefinition
    rw [hl, ok_bind]
    exact (errIn_optDesc W hdesc).bind fun _ _ => (errIn_optDirs W fuel hdirs).bind fun _ _ =>
      (errIn_optInputFields W fuel hfields).bind fun _ _ => ErrIn.ok _
  · exact absurd oc.arm (by simp [OC_TypeDefinition, h1, h2, h3, h4, h5, h6])

theorem errIn_buildTypeExtension (fuel : Nat) {p : Pair} (h : In G R.TypeExtension p) :
    ErrIn S (buildTypeExtension ctx fuel p) := by
  obtain ⟨c, oc⟩ := W.only h "TypeExtension" OC_TypeExtension
  rw [buildTypeExtension, oc.of, ok_bind]
  refine ErrIn.ite (fun h1 => ?_) fun h1 => ErrIn.ite (fun h2 => ?_) fun h2 => ErrIn.ite (fun h3 => ?_) fun h3 =>
    ErrIn.ite (fun h4 => ?_) fun h4 => ErrIn.ite (fun h5 => ?_) fun h5 => ErrIn.ite (fun h6 => ?_) fun h6 => ?_
  · obtain ⟨kw, -, kw2, -, name, -, dirs, hdirs, hl⟩ := W.parts ⟨oc.mem, h1⟩ P_ScalarTypeExtension
    rw [hl, ok_bind]
    exact (errIn_optDirs W fuel hdirs).bind fun _ _ => ErrIn.ok _
  · obtain ⟨kw, -, kw2, -, name, -, impl, himpl, dirs, hdirs, fields, hfields,
        hl⟩ := W.parts ⟨oc.mem, h2⟩ P_ObjectTypeExtension
    rw [hl, ok_bind]
    exact (errIn_optImplements W himpl).bind fun _ _ => (errIn_optDirs W fuel hdirs).bind fun _ _ =>
      (errIn_optFields W fuel hfields).bind fun _ _ => ErrIn.ok _
  · obtain ⟨kw, -, kw2, -, name, -, impl, himpl, dirs, hdirs, fields, hfields,
        hl⟩ := W.parts ⟨oc.mem, h3⟩ P_InterfaceTypeExtension
    rw [hl, ok_bind]
    exact (errIn_optImplements W himpl).bind fun _ _ => (errIn_optDirs W fuel hdirs).bind fun _ _ =>
      (errIn_optFields W fuel hfields).bind fun _ _ => ErrIn.ok _
  · obtain ⟨kw, -, kw2, -, name, -, dirs, hdirs, members, hmembers, hl⟩ := W.parts ⟨oc.mem, h4⟩ P_UnionTypeExtension
    rw [hl, ok_bind]
    exact (errIn_optDirs W fuel hdirs).bind fun _ _ => (errIn_unionMembers W hmembers).bind fun _ _ => ErrIn.ok _
  · obtain ⟨kw, -, kw2, -, name, -, dirs, hdirs, values, hvalues, hl⟩ := W.parts ⟨oc.mem, h5⟩ P_EnumTypeExtension
    rw [hl, ok_bind]
    exact (errIn_optDirs W fuel hdirs).bind fun _ _ => (errIn_optEnumValues W fuel hvalues).bind fun _ _ => ErrIn.ok _
  · obtain ⟨kw, -, kw2, -, name, -, dirs, hdirs, fields, hfields,
        hl⟩ := W.parts ⟨oc.mem, h6⟩ P_InputObjectTypeExtension
    rw [hl, ok_bind]
    exact (errIn_optDirs W fuel hdirs).bind fun _ _ => (errIn_optInputFields W fuel hfields).bind fun _ _ => ErrIn.ok _
  · exact absurd oc.arm (by simp [OC_TypeExtension, h1, h2, h3, h4, h5, h6])

theorem errIn_buildRootOperationTypeDefinitions {p : Pair} (h : In G R.RootOperationTypeDefinitions p) :
    ErrIn S (buildRootOperationTypeDefinitions ctx p) := by
  obtain ⟨hall, hcs⟩ := W.all h AC_RootOperationTypeDefinitions
  rw [buildRootOperationTypeDefinitions, hall, ok_bind]
  refine ErrIn.mapM fun d hd => ?_
  obtain ⟨ot, hotr, nt, -, hl⟩ := W.parts (hcs d hd) P_RootOperationTypeDefinition
  rw [hl, ok_bind, get2, ok_bind]
  exact (W.opType hotr).bind fun _ _ => ErrIn.ok _

theorem errIn_buildSchemaDefinition (fuel : Nat) {p : Pair} (h : In G R.SchemaDefinition p) :
    ErrIn S (buildSchemaDefinition ctx fuel p) := by
  obtain ⟨desc, hdesc, kw, -, dirs, hdirs, roots, hrr, hl⟩ := W.parts h P_SchemaDefinition
  rw [buildSchemaDefinition, hl, ok_bind]
  exact (errIn_buildRootOperationTypeDefinitions W hrr).bind fun _ _ => (errIn_optDesc W hdesc).bind
    fun _ _ => (errIn_optDirs W fuel hdirs).bind fun _ _ => ErrIn.ok _

theorem errIn_buildSchemaExtension (fuel : Nat) {p : Pair} (h : In G R.SchemaExtension p) :
    ErrIn S (buildSchemaExtension ctx fuel p) := by
  obtain ⟨kw, -, kw2, -, dirs, hdirs, roots, hroots, hl⟩ := W.parts h P_SchemaExtension
  rw [buildSchemaExtension, hl, ok_bind]
  refine (errIn_optDirs W fuel hdirs).bind fun _ _ => ?_
  exact hroots.elim ((ErrIn.pure _).bind fun _ _ => ErrIn.ok _) fun r hr =>
    (errIn_buildRootOperationTypeDefinitions W hr).bind fun _ _ => ErrIn.ok _

theorem errIn_buildDirectiveDefinition (fuel : Nat) {p : Pair} (h : In G R.DirectiveDefinition p) :
    ErrIn S (buildDirectiveDefinition ctx fuel p) := by
  obtain ⟨desc, hdesc, kw, -, name, -, args, hargs, rep, -, on, -, locs, hlr,
      hl⟩ := W.parts h P_DirectiveDefinition
  obtain ⟨hall, _⟩ := W.all hlr AC_DirectiveLocations
  rw [buildDirectiveDefinition, hl, ok_bind]
  refine (errIn_optDesc W hdesc).bind fun _ _ => ?_
  extract_lets jp
  have hjp : ∀ as, ErrIn S (jp as) := fun _ => (ErrIn.of_eq hall).bind fun _ _ => ErrIn.ok _
  exact hargs.elim ((ErrIn.pure _).bind fun _ _ => hjp _) fun a ha =>
    (errIn_buildArgumentsDefinition W fuel ha).bind fun _ _ => hjp _

theorem errIn_buildTypeSystemDefinitionOrExtension (fuel : Nat) {p : Pair} (h : In G R.TypeSystemDefinitionOrExtension p) :
    ErrIn S (buildTypeSystemDefinitionOrExtension ctx fuel p) := by
  obtain ⟨c, oc⟩ := W.only h "TypeSystemDefinitionOrExtension" OC_TypeSystemDefinitionOrExtension
  rw [buildTypeSystemDefinitionOrExtension, oc.of, ok_bind]
  refine ErrIn.ite (fun h1 => ?_) fun h1 => ErrIn.ite (fun h2 => ?_) fun h2 => ?_
  · obtain ⟨d, od⟩ := W.only ⟨oc.mem, h1⟩ "TypeSystemDefinition" OC_TypeSystemDefinition
    rw [od.of, ok_bind]
    refine ErrIn.ite (fun k1 => ?_) fun k1 => ErrIn.ite (fun k2 => ?_) fun k2 => ErrIn.ite (fun k3 => ?_) fun k3 => ?_
    · exact (errIn_buildSchemaDefinition W fuel ⟨od.mem, k1⟩).bind fun _ _ => ErrIn.pure _
    · exact (errIn_buildTypeDefinition W fuel ⟨od.mem, k2⟩).bind fun _ _ => ErrIn.pure _
    · exact (errIn_buildDirectiveDefinition W fuel ⟨od.mem, k3⟩).bind fun _ _ => ErrIn.pure _
    · exact absurd od.arm (by simp [OC_TypeSystemDefinition, k1, k2, k3])
  · obtain ⟨e, oe⟩ := W.only ⟨oc.mem, h2⟩ "TypeSystemExtension" OC_TypeSystemExtension
    rw [oe.of, ok_bind]
    refine ErrIn.ite (fun k1 => ?_) fun k1 => ErrIn.ite (fun k2 => ?_) fun k2 => ?_
    · exact (errIn_buildSchemaExtension W fuel ⟨oe.mem, k1⟩).bind fun _ _ => ErrIn.pure _
    · exact (errIn_buildTypeExtension W fuel ⟨oe.mem, k2⟩).bind fun _ _ => ErrIn.pure _
    · exact absurd oe.arm (by simp [OC_TypeSystemExtension, k1, k2])
  · exact absurd oc.arm (by simp [OC_TypeSystemDefinitionOrExtension, h1, h2])

theorem errIn_buildTypeSystemDocument (fuel : Nat) {p : Pair} (h : In G R.TypeSystemExtensionDocument p) :
    ErrIn S (buildTypeSystemDocument ctx fuel [p]) := by
  rw [buildTypeSystemDocument, if_pos h.rule]
  refine ErrIn.mapM fun d hd => ?_
  obtain ⟨hdm, hdr⟩ := List.mem_filter.mp hd
  exact errIn_buildTypeSystemDefinitionOrExtension W fuel ⟨W.child h.mem hdm, of_decide_eq_true hdr⟩

end

end NitroVerif.Shape
