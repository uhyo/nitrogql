import NitroVerif.Lemmas.CheckOpWalk
import NitroVerif.Lemmas.CheckOpFuel
/-!
The walk of `check_selection_set` with the real spread handler (`check_fragment_spread`), once, and with neither fuel nor
handler in the answer: it is quiet exactly when the selection set is `Fine` — it passes its local tests at every site
(`SetFine`; the handler is replaced by the part of it that looks at the spread alone, `spreadLocal`), its spreads are
off the stack, and each spread fragment has quiet directives and is `Fine` with its name pushed (`fine_iff`). `Fine` is
inductive: it is the finite tree the walk traverses, so it cannot follow a cycle, and whoever needs a measure along a
quiet walk (root keys, nesting bounds) does an `induction` on it. Against the validator's reachability `SpecReach`:
every fragment a fine set reaches is fine with a longer stack (`Fine.reach`: soundness, no fragment reaches itself), and
a set whose reach is fine, off the stack and acyclic is `Fine` (`Fine.of_reach`: completeness). Last, `usedFragments` of
the model contains only fragments some operation reaches.

The local tests: `SiteFact` (CheckOpWalk) is the test of one selection under a given type, for any handler; `LocalFact` adds
that the scope is a defined composite type; `Local` is `LocalFact` with the handler's local part `spreadLocal`; `SelOK`
(CheckOpCompleteWalk) is the same in the validator's terms (`fieldDef?`).
-/
namespace NitroVerif.CheckOp
open NitroVerif.Gql NitroVerif.CheckCommon NitroVerif.Valid

/-- what `check_fragment_spread` reports about the spread itself: the part of the handler that is neither the stack
    test, nor the fragment definition's directives, nor the walk of its selection set -/
def spreadLocal (S : Schema) (D : Doc) : SpreadHandler := fun _ _ root name np pos =>
  match fragMap D name with
  | none => [(ErrKind.UnknownFragment, np)]
  | some f =>
    match S.typeDef? f.cond with
    | none => []
    | some ct => (spreadApplicability S root ct pos).1

section
variable {S : Schema} {D : Doc} {A : ErrKind → Bool} {vars : Option (List VarDef)}

theorem spreadLocal_defined (hA : Admissible A) {seen : List Name} {root : TypeDef} {name : Name} {np pos : Pos}
    (h : Quiet A (spreadLocal S D seen vars root name np pos)) : ∃ f, fragMap D name = some f := by
  cases hm : fragMap D name with
  | none =>
    simp only [spreadLocal, hm, quiet_single, hA _ (by decide : ErrKind.UnknownFragment ≠ ErrKind.UnknownVariable)] at h
    cases h
  | some f => exact ⟨f, rfl⟩

theorem spreadLocal_applies {seen : List Name} {root : TypeDef} {name : Name} {np pos : Pos}
    (h : Quiet A (spreadLocal S D seen vars root name np pos)) {f : FragmentDef} (hm : fragMap D name = some f)
    {ct : TypeDef} (hct : S.typeDef? f.cond = some ct) : Quiet A (spreadApplicability S root ct pos).1 := by
  simpa only [spreadLocal, hm, hct] using h

/-- **Handler lemma**: one step of `check_fragment_spread` under a composite root with fuel left — the stack test, the
    local part, and the fragment: its directives and, when its type condition is defined, the walk of its selection set
    with the name pushed -/
theorem handler_succ_iff (hA : Admissible A) {k : Nat} {seen : List Name} {root : TypeDef} {fields : List FieldDef}
    {name : Name} {np pos : Pos} (hf : directFields root = some fields) :
    Quiet A (spreadHandler S D (k + 1) seen vars root name np pos) ↔
      name ∉ seen ∧ Quiet A (spreadLocal S D [] vars root name np pos) ∧
      ∀ f, fragMap D name = some f → Quiet A (checkDirectives S vars f.dirs "FRAGMENT_DEFINITION") ∧
        ∀ ct, S.typeDef? f.cond = some ct →
          Quiet A (checkSelectionSet S (spreadHandler S D k) (seen ++ [name]) vars ct f.sel f.pos) := by
  have no : ∀ k p, k ≠ ErrKind.UnknownVariable → (Quiet A [(k, p)] ↔ False) := fun k p hk => by
    rw [quiet_single, hA k hk]; simp
  simp only [spreadHandler, spreadLocal]
  cases hs : seen.contains name with
  | true => simp [no, List.contains_iff_mem.mp hs]
  | false =>
    have hs' : name ∉ seen := by simpa using hs
    cases hm : fragMap D name with
    | none => simp [no]
    | some f =>
      cases hct : S.typeDef? f.cond with
      | none => simp [hs', hct, quiet_nil]
      | some ct => simp [hs', hct, quiet_append, spreadApplicability_go hf, and_left_comm]

end

theorem mem_spreadNames_iff (S : Schema) (n : Name) :
    (∀ s p, n ∈ spreadNamesSel s ↔
      (∃ np dirs pos, s = .spread n np dirs pos) ∨ ∃ ps ∈ sitesIn S p s, ∃ np dirs pos, ps.2 = .spread n np dirs pos) ∧
    (∀ ss p, n ∈ spreadNames ss ↔ ∃ ps ∈ sitesOf S p ss, ∃ np dirs pos, ps.2 = .spread n np dirs pos) := by
  apply Selection.size.mutual_induct
  case case1 => intro al name np args dirs ss ih p; simp only [spreadNamesSel, sitesIn, reduceCtorEq, exists_false, false_or]; exact ih _
  case case2 => intro al name np args dirs p; simp [spreadNamesSel, sitesIn]
  case case3 => intro name np dirs pos p; simp [spreadNamesSel, sitesIn, eq_comm]
  case case4 =>
    intro cond dirs ss pos ih p
    cases cond with
    | none => simp only [spreadNamesSel, sitesIn, reduceCtorEq, exists_false, false_or]; exact ih _
    | some cc => simp only [spreadNamesSel, sitesIn, reduceCtorEq, exists_false, false_or]; exact ih _
  case case5 => intro p; simp [spreadNames, sitesOf]
  case case6 =>
    intro s ss ih1 ih2 p
    rw [spreadNames_cons, List.mem_append, ih1 p, ih2 p]
    simp only [sitesOf, List.mem_cons, List.mem_append, or_and_right, exists_or, exists_eq_left, or_assoc]

/-- the local test of a site with the local part of the handler: no stack, no fuel -/
abbrev Local (S : Schema) (D : Doc) (A : ErrKind → Bool) (vars : Option (List VarDef)) :
    Option Name × Selection → Prop := LocalFact S A (spreadLocal S D) [] vars

/-- a selection set is fine with the type `t` in scope: `t` is composite and every site passes its local test -/
def SetFine (S : Schema) (D : Doc) (A : ErrKind → Bool) (vars : Option (List VarDef)) (t : Name) (ss : List Selection) : Prop :=
  (∃ root, S.typeDef? t = some root ∧ (directFields root).isSome = true) ∧ ∀ ps ∈ sitesOf S (some t) ss, Local S D A vars ps

/-- every fragment definition has an existing type condition (true of accepted documents). `fine_iff` needs it: the
    handler is silent on a fragment whose condition is undefined, but such a fragment is not `Fine` (no scope). -/
def CondsDefined (S : Schema) (D : Doc) : Prop := ∀ f ∈ fragsOf D, ∃ ct, S.typeDef? f.cond = some ct

/-- the selection set `ss`, walked with the type `t` in scope and the stack `seen`, is fine, and so is everything the walk
    goes through from it: the tree of the walk -/
inductive Fine (S : Schema) (D : Doc) (A : ErrKind → Bool) (vars : Option (List VarDef)) :
    List Name → Name → List Selection → Prop
  | mk {seen : List Name} {t : Name} {ss : List Selection}
      (set : SetFine S D A vars t ss)
      (fresh : ∀ n ∈ spreadNames ss, n ∉ seen)
      (dirs : ∀ n ∈ spreadNames ss, ∀ f, fragMap D n = some f →
        Quiet A (checkDirectives S vars f.dirs "FRAGMENT_DEFINITION"))
      (sub : ∀ n ∈ spreadNames ss, ∀ f, fragMap D n = some f → Fine S D A vars (seen ++ [n]) f.cond f.sel) :
      Fine S D A vars seen t ss

section
variable {S : Schema} {D : Doc} {A : ErrKind → Bool} {vars : Option (List VarDef)}

theorem localFact_succ_iff (hA : Admissible A) {k : Nat} {seen : List Name} (ps : Option Name × Selection) :
    LocalFact S A (spreadHandler S D (k + 1)) seen vars ps ↔ Local S D A vars ps ∧
      ∀ name np dirs pos, ps.2 = .spread name np dirs pos → name ∉ seen ∧
        ∀ f, fragMap D name = some f → Quiet A (checkDirectives S vars f.dirs "FRAGMENT_DEFINITION") ∧
          ∀ ct, S.typeDef? f.cond = some ct →
            Quiet A (checkSelectionSet S (spreadHandler S D k) (seen ++ [name]) vars ct f.sel f.pos) := by
  obtain ⟨p, s⟩ := ps
  cases p with
  | none => simp [LocalFact]
  | some t =>
    cases s with
    | field | inline =>
      -- the test of a field or an inline fragment does not mention the handler
      exact ⟨fun h => ⟨h, fun _ _ _ _ e => Selection.noConfusion e⟩, fun h => h.1⟩
    | spread name np dirs pos =>
      simp only [LocalFact, SiteFact, Selection.spread.injEq]
      constructor
      · rintro ⟨root, fields, hn, hf, hd, hq⟩
        obtain ⟨h1, h2, h3⟩ := (handler_succ_iff hA hf).mp hq
        exact ⟨⟨root, fields, hn, hf, hd, h2⟩, by rintro _ _ _ _ ⟨rfl, _, _, _⟩; exact ⟨h1, h3⟩⟩
      · rintro ⟨⟨root, fields, hn, hf, hd, h2⟩, h⟩
        obtain ⟨h1, h3⟩ := h name np dirs pos ⟨rfl, rfl, rfl, rfl⟩
        exact ⟨root, fields, hn, hf, hd, (handler_succ_iff hA hf).mpr ⟨h1, h2, h3⟩⟩

theorem Fine.set {seen : List Name} {t : Name} {ss : List Selection} (h : Fine S D A vars seen t ss) :
    SetFine S D A vars t ss := by cases h; assumption

theorem SetFine.defined (hA : Admissible A) {t : Name} {ss : List Selection} (h : SetFine S D A vars t ss) {n : Name}
    (hn : n ∈ spreadNames ss) : ∃ f, fragMap D n = some f := by
  obtain ⟨⟨p, s⟩, hps, np, dirs, pos, hsp⟩ := ((mem_spreadNames_iff S n).2 ss (some t)).mp hn
  simp only at hsp
  subst hsp
  obtain ⟨_, _, _, _, _, _, _, hq⟩ := localFact_scoped (h.2 _ hps)
  exact spreadLocal_defined hA hq

/-- **The walk with the real handler**: with more fuel than fragment names off the stack, quiet exactly when the set is
    `Fine`. The structural part is `selectionSet_iff` in both directions; the induction is on the fuel. -/
theorem fine_iff (hA : Admissible A) (hC : CondsDefined S D) :
    ∀ (fuel : Nat) (seen : List Name) (t : Name) (root : TypeDef) (ss : List Selection) (anchor : Pos),
      S.typeDef? t = some root → Search.unseen (fragNamesOf D) seen < fuel →
      (Quiet A (checkSelectionSet S (spreadHandler S D fuel) seen vars root ss anchor) ↔ Fine S D A vars seen t ss) := by
  intro fuel
  induction fuel with
  | zero => intro seen t root ss anchor _ h; exact absurd h (Nat.not_lt_zero _)
  | succ k ih =>
    intro seen t root ss anchor hn hfuel
    rw [selectionSet_iff hA hn]
    constructor
    · rintro ⟨hsome, h⟩
      have h' := fun ps hps => (localFact_succ_iff hA ps).mp (h ps hps)
      have site : ∀ n ∈ spreadNames ss, n ∉ seen ∧ ∀ f, fragMap D n = some f →
          Quiet A (checkDirectives S vars f.dirs "FRAGMENT_DEFINITION") ∧ ∀ ct, S.typeDef? f.cond = some ct →
            Quiet A (checkSelectionSet S (spreadHandler S D k) (seen ++ [n]) vars ct f.sel f.pos) := fun n hn' => by
        obtain ⟨ps, hps, np, dirs, pos, hsp⟩ := ((mem_spreadNames_iff S n).2 ss (some t)).mp hn'
        exact (h' ps hps).2 n np dirs pos hsp
      refine .mk ⟨⟨root, hn, hsome⟩, fun ps hps => (h' ps hps).1⟩ (fun n hn' => (site n hn').1)
        (fun n hn' f hm => ((site n hn').2 f hm).1) fun n hn' f hm => ?_
      obtain ⟨ct, hct⟩ := hC f (fragMap_eq_some hm).1
      have := unseen_push (by simpa using (site n hn').1) hm
      exact (ih (seen ++ [n]) f.cond ct f.sel f.pos hct (by omega)).mp (((site n hn').2 f hm).2 ct hct)
    · rintro ⟨⟨⟨root', hn'', hsome⟩, hloc⟩, hfresh, hdirs, hsub⟩
      rw [hn] at hn''
      cases hn''
      refine ⟨hsome, fun ps hps => (localFact_succ_iff hA ps).mpr ⟨hloc ps hps, fun name np dirs pos hsp => ?_⟩⟩
      have hn' : name ∈ spreadNames ss := ((mem_spreadNames_iff S name).2 ss (some t)).mpr ⟨ps, hps, np, dirs, pos, hsp⟩
      refine ⟨hfresh name hn', fun f hm => ⟨hdirs name hn' f hm, fun ct hct => ?_⟩⟩
      have := unseen_push (by simpa using hfresh name hn') hm
      exact (ih (seen ++ [name]) f.cond ct f.sel f.pos hct (by omega)).mpr (hsub name hn' f hm)

theorem fine_iff_model (hA : Admissible A) (hC : CondsDefined S D) {seen : List Name} {t : Name} {root : TypeDef}
    {ss : List Selection} {anchor : Pos} (hn : S.typeDef? t = some root) :
    Quiet A (checkSelectionSet S (spreadHandler S D (fuelFor D)) seen vars root ss anchor) ↔ Fine S D A vars seen t ss :=
  fine_iff hA hC _ seen t root ss anchor hn (fuelFor_enough D seen (Nat.le_refl _))

theorem specReach_through {ss : List Selection} {n m : Name} {f : FragmentDef} (hn : n ∈ Valid.spreadsDeep ss)
    (hf : Valid.frag? D n = some f) (h : SpecReach D f.sel m) : SpecReach D ss m := by
  induction h with
  | base h => exact .step (.base hn) hf h
  | step _ hg h ih => exact .step ih hg h

/-- **Reach lemma**: every fragment a fine set reaches is defined, off the stack, and fine with a longer stack that holds
    its own name — so no fragment reaches itself -/
theorem Fine.reach (hA : Admissible A) (hnd : nodupB (fragNamesOf D) = true) {seen0 : List Name} {t0 : Name}
    {ss0 : List Selection} (h0 : Fine S D A vars seen0 t0 ss0) {n : Name} (hr : SpecReach D ss0 n) :
    n ∉ seen0 ∧ ∃ seen f, fragMap D n = some f ∧ (∀ x ∈ seen0, x ∈ seen) ∧ n ∈ seen ∧
      Quiet A (checkDirectives S vars f.dirs "FRAGMENT_DEFINITION") ∧ Fine S D A vars seen f.cond f.sel := by
  have step : ∀ {seen t ss}, Fine S D A vars seen t ss → ∀ {n}, n ∈ Valid.spreadsDeep ss → n ∉ seen ∧
      ∃ f, fragMap D n = some f ∧ Quiet A (checkDirectives S vars f.dirs "FRAGMENT_DEFINITION") ∧
        Fine S D A vars (seen ++ [n]) f.cond f.sel := by
    rintro seen t ss ⟨hfine, hfresh, hdirs, hsub⟩ n hn
    rw [spreadsDeep_eq'] at hn
    obtain ⟨f, hm⟩ := hfine.defined hA hn
    exact ⟨hfresh n hn, f, hm, hdirs n hn f hm, hsub n hn f hm⟩
  induction hr with
  | base hn =>
    obtain ⟨h1, f, hm, hd, hf⟩ := step h0 hn
    exact ⟨h1, _, f, hm, fun x hx => List.mem_append_left _ hx, by simp, hd, hf⟩
  | @step m n' g _ hg hn ih =>
    obtain ⟨_, seen, g', hg', hsub, _, _, hq⟩ := ih
    rw [frag?_eq_fragMap hnd, hg'] at hg
    cases hg
    obtain ⟨h1, f, hm, hd, hf⟩ := step hq hn
    exact ⟨fun hc => h1 (hsub _ hc), _, f, hm, fun x hx => List.mem_append_left _ (hsub x hx), by simp, hd, hf⟩

/-- **Completeness of the reach**: a set is `Fine` when it and every fragment it reaches are fine sets, nothing it
    reaches is on the stack, and no fragment it reaches reaches itself. By the count of fragment names off the stack. -/
theorem Fine.of_reach (hnd : nodupB (fragNamesOf D) = true) :
    ∀ (seen : List Name) (t : Name) (ss : List Selection), SetFine S D A vars t ss →
      (∀ m, SpecReach D ss m → m ∉ seen ∧ ∀ f, fragMap D m = some f → ¬ SpecReach D f.sel m ∧
        Quiet A (checkDirectives S vars f.dirs "FRAGMENT_DEFINITION") ∧ SetFine S D A vars f.cond f.sel) →
      Fine S D A vars seen t ss := by
  suffices ∀ N seen, Search.unseen (fragNamesOf D) seen < N → ∀ t ss, SetFine S D A vars t ss →
      (∀ m, SpecReach D ss m → m ∉ seen ∧ ∀ f, fragMap D m = some f → ¬ SpecReach D f.sel m ∧
        Quiet A (checkDirectives S vars f.dirs "FRAGMENT_DEFINITION") ∧ SetFine S D A vars f.cond f.sel) →
      Fine S D A vars seen t ss from fun seen => this _ seen (Nat.lt_succ_self _)
  intro N
  induction N with
  | zero => intro seen h; exact absurd h (Nat.not_lt_zero _)
  | succ N ih =>
    intro seen hN t ss hfine h
    have base : ∀ n ∈ spreadNames ss, SpecReach D ss n := fun n hn => .base (by rw [spreadsDeep_eq']; exact hn)
    refine .mk hfine (fun n hn => (h n (base n hn)).1) (fun n hn f hm => ((h n (base n hn)).2 f hm).2.1) fun n hn f hm => ?_
    obtain ⟨h1, hrest⟩ := h n (base n hn)
    obtain ⟨hcyc, _, hf⟩ := hrest f hm
    have := unseen_push (by simpa using h1) hm
    refine ih (seen ++ [n]) (by omega) f.cond f.sel hf fun m hr => ?_
    have hrm := specReach_through (spreadsDeep_eq' ss ▸ hn) (by rw [frag?_eq_fragMap hnd]; exact hm) hr
    refine ⟨?_, (h m hrm).2⟩
    simp only [List.mem_append, List.mem_singleton, not_or]
    exact ⟨(h m hrm).1, fun e => hcyc (e ▸ hr)⟩

end

theorem usedFragments_sound {D : Doc} (hnd : nodupB (fragNamesOf D) = true) {n : Name} (h : n ∈ usedFragments D) :
    ∃ o ∈ opsOf D, SpecReach D o.sel n := by
  unfold usedFragments at h
  rw [usedIter_eq_closure] at h
  refine closure_sound_generic (usedNext_dom D) (fragNamesOf_length D) (P := fun x => ∃ o ∈ opsOf D, SpecReach D o.sel x)
    ?_ ?_ (by omega) n h
  · rintro m ⟨o, ho, hr⟩ x hx
    simp only [usedNext] at hx
    cases hg : fragMap D m with
    | none => simp [hg] at hx
    | some g =>
      simp only [hg] at hx
      exact ⟨o, ho, .step hr (by rw [frag?_eq_fragMap hnd]; exact hg) (by rw [spreadsDeep_eq']; exact hx)⟩
  · intro x hx
    obtain ⟨o, ho, hxo⟩ := List.mem_flatMap.mp (mem_dedupNames hx)
    exact ⟨o, ho, .base (by rw [spreadsDeep_eq']; exact hxo)⟩

end NitroVerif.CheckOp
