/-
Inversion lemmas for the PEG interpreter (`Model/Peg.lean`): what a successful (`Out.ok`) result of each clause of
`eval` / `doSkip` / `starRest` / `callRule` / `ruleWrap` was computed from. Every invariant of the interpreter
(shapes of child sequences — Props/C08; spans of pairs — Props/C07) is an induction on the depth bound that uses
only these lemmas; `okInv` is that induction, done once, for relations between start cursor, end cursor and pairs.
-/
import NitroVerif.Model.Peg
namespace NitroVerif.Peg

variable (g : G)

theorem eval_zero (sk e at_ la tr c) : eval g 0 sk e at_ la tr c = (tr, .oof) := by simp [eval]
theorem doSkip_zero (sk at_ la tr c) : doSkip g 0 sk at_ la tr c = (tr, .oof) := by simp [doSkip]
theorem starRest_zero (a at_ la tr c) : starRest g 0 a at_ la tr c = (tr, .oof) := by simp [starRest]
theorem callRule_zero (r at_ la tr c) : callRule g 0 r at_ la tr c = (tr, .oof) := by simp [callRule]

theorem matchStr_eq {s rest r : List Char} (h : matchStr s rest = some r) : rest = s ++ r := by
  induction s generalizing rest with
  | nil => simp [matchStr] at h; simp [h]
  | cons c s ih =>
    cases rest with
    | nil => simp [matchStr] at h
    | cons d rest =>
      simp only [matchStr] at h
      split at h
      · rename_i hcd; subst hcd; simp [ih h]
      · cases h

theorem matchStr_self_append (w x : List Char) : matchStr w (w ++ x) = some x := by
  induction w with
  | nil => simp [matchStr]
  | cons c cs ih => simp [matchStr, ih]

theorem drop_after {inp : List Char} {a : Nat} {x y : List Char} (h : inp.drop a = x ++ y) :
    inp.drop (a + x.length) = y := by
  rw [← List.drop_drop, h]; simp

theorem slice_of_drop {inp : List Char} {a : Nat} {t r : List Char} (h : inp.drop a = t ++ r) :
    slice inp a (a + t.length) = t := by
  unfold slice
  rw [h, show a + t.length - a = t.length by omega]
  simp

/-- terminals: a successful terminal returns no pairs and a cursor described by `TermStep` -/
inductive TermStep : Expr → Cur → Cur → Prop where
  | str {s c r} : matchStr s c.rest = some r → TermStep (.str s) c ⟨c.pos + s.length, r⟩
  | insens {s c r} : matchInsens s c.rest = some r → TermStep (.insens s) c ⟨c.pos + s.length, r⟩
  | range {lo hi c d r} : c.rest = d :: r → TermStep (.range lo hi) c ⟨c.pos + 1, r⟩
  | any {c d r} : c.rest = d :: r → TermStep .any c ⟨c.pos + 1, r⟩
  | soi {c} : TermStep .soi c c
  | eoi {c} : TermStep .eoi c c

theorem eval_str_ok {fuel sk s at_ la tr c tr' c' ps}
    (h : eval g (fuel + 1) sk (.str s) at_ la tr c = (tr', .ok c' ps)) : TermStep (.str s) c c' ∧ ps = [] := by
  simp only [eval] at h
  split at h
  · cases h; exact ⟨.str ‹_›, rfl⟩
  · cases h

theorem eval_insens_ok {fuel sk s at_ la tr c tr' c' ps}
    (h : eval g (fuel + 1) sk (.insens s) at_ la tr c = (tr', .ok c' ps)) : TermStep (.insens s) c c' ∧ ps = [] := by
  simp only [eval] at h
  split at h
  · cases h; exact ⟨.insens ‹_›, rfl⟩
  · cases h

theorem eval_range_ok {fuel sk lo hi at_ la tr c tr' c' ps}
    (h : eval g (fuel + 1) sk (.range lo hi) at_ la tr c = (tr', .ok c' ps)) :
    TermStep (.range lo hi) c c' ∧ ps = [] := by
  simp only [eval] at h
  split at h
  · split at h
    · cases h; exact ⟨.range ‹_›, rfl⟩
    · cases h
  · cases h

theorem eval_any_ok {fuel sk at_ la tr c tr' c' ps}
    (h : eval g (fuel + 1) sk .any at_ la tr c = (tr', .ok c' ps)) : TermStep .any c c' ∧ ps = [] := by
  simp only [eval] at h
  split at h
  · cases h; exact ⟨.any ‹_›, rfl⟩
  · cases h

theorem eval_soi_ok {fuel sk at_ la tr c tr' c' ps}
    (h : eval g (fuel + 1) sk .soi at_ la tr c = (tr', .ok c' ps)) : TermStep .soi c c' ∧ ps = [] := by
  simp only [eval] at h
  split at h
  · cases h; exact ⟨.soi, rfl⟩
  · cases h

theorem eval_eoi_ok {fuel sk at_ la tr c tr' c' ps}
    (h : eval g (fuel + 1) sk .eoi at_ la tr c = (tr', .ok c' ps)) : TermStep .eoi c c' ∧ ps = [] := by
  simp only [eval] at h
  split at h
  · cases h; exact ⟨.eoi, rfl⟩
  · cases h

theorem eval_seq_ok {fuel sk a b at_ la tr c tr' c' ps}
    (h : eval g (fuel + 1) sk (.seq a b) at_ la tr c = (tr', .ok c' ps)) :
    ∃ tr1 c1 p1 tr2 c2 p2 p3,
      eval g fuel sk a at_ la tr c = (tr1, .ok c1 p1) ∧
      doSkip g fuel sk at_ la tr1 c1 = (tr2, .ok c2 p2) ∧
      eval g fuel sk b at_ la tr2 c2 = (tr', .ok c' p3) ∧ ps = p1 ++ p2 ++ p3 := by
  simp only [eval] at h
  -- each of the three steps succeeded: any other result is passed on as it is, and `h` says the result is a success
  split at h
  · rename_i tr1 c1 p1 h1
    split at h
    · rename_i tr2 c2 p2 h2
      split at h
      · rename_i tr3 c3 p3 h3
        cases h
        exact ⟨_, _, _, _, _, _, _, h1, h2, h3, rfl⟩
      · rename_i hne; exact (hne _ _ _ h).elim
    · rename_i hne; exact (hne _ _ _ h).elim
  · rename_i hne; exact (hne _ _ _ h).elim

theorem eval_choice_ok {fuel sk a b at_ la tr c tr' c' ps}
    (h : eval g (fuel + 1) sk (.choice a b) at_ la tr c = (tr', .ok c' ps)) :
    eval g fuel sk a at_ la tr c = (tr', .ok c' ps) ∨
    ∃ tr1, eval g fuel sk a at_ la tr c = (tr1, .fail) ∧ eval g fuel sk b at_ la tr1 c = (tr', .ok c' ps) := by
  simp only [eval] at h
  split at h
  · rename_i tr1 h1; exact Or.inr ⟨tr1, h1, h⟩
  · exact Or.inl h

theorem eval_opt_ok {fuel sk a at_ la tr c tr' c' ps}
    (h : eval g (fuel + 1) sk (.opt a) at_ la tr c = (tr', .ok c' ps)) :
    eval g fuel sk a at_ la tr c = (tr', .ok c' ps) ∨ (c' = c ∧ ps = []) := by
  simp only [eval] at h
  split at h
  · cases h; exact Or.inr ⟨rfl, rfl⟩
  · exact Or.inl h

theorem eval_star_sk_ok {fuel a at_ la tr c tr' c' ps}
    (h : eval g (fuel + 1) true (.star a) at_ la tr c = (tr', .ok c' ps)) :
    (∃ tr1 c1 p1 p2, eval g fuel true a at_ la tr c = (tr1, .ok c1 p1) ∧
        starRest g fuel a at_ la tr1 c1 = (tr', .ok c' p2) ∧ ps = p1 ++ p2) ∨ (c' = c ∧ ps = []) := by
  simp only [eval, if_true] at h
  split at h
  · rename_i tr1 c1 p1 h1
    split at h
    · rename_i tr2 c2 p2 h2
      cases h
      exact Or.inl ⟨_, _, _, _, h1, h2, rfl⟩
    · rename_i hne; exact (hne _ _ _ h).elim
  · cases h; exact Or.inr ⟨rfl, rfl⟩
  · rename_i hne _; exact (hne _ _ _ h).elim

/-- refined inversion of `e*` (no skip calls): when the loop stops, the body FAILED there -/
theorem eval_star_nosk_ok' {fuel a at_ la tr c tr' c' ps}
    (h : eval g (fuel + 1) false (.star a) at_ la tr c = (tr', .ok c' ps)) :
    (∃ tr1 c1 p1 p2, eval g fuel false a at_ la tr c = (tr1, .ok c1 p1) ∧
        eval g fuel false (.star a) at_ la tr1 c1 = (tr', .ok c' p2) ∧ ps = p1 ++ p2) ∨
    (eval g fuel false a at_ la tr c = (tr', .fail) ∧ c' = c ∧ ps = []) := by
  simp only [eval, Bool.false_eq_true, if_false] at h
  split at h
  · rename_i tr1 c1 p1 h1
    split at h
    · rename_i tr2 c2 p2 h2
      cases h
      exact Or.inl ⟨_, _, _, _, h1, h2, rfl⟩
    · rename_i hne; exact (hne _ _ _ h).elim
  · rename_i tr1 h1
    cases h
    exact Or.inr ⟨h1, rfl, rfl⟩
  · rename_i hne _; exact (hne _ _ _ h).elim

theorem eval_star_nosk_ok {fuel a at_ la tr c tr' c' ps}
    (h : eval g (fuel + 1) false (.star a) at_ la tr c = (tr', .ok c' ps)) :
    (∃ tr1 c1 p1 p2, eval g fuel false a at_ la tr c = (tr1, .ok c1 p1) ∧
        eval g fuel false (.star a) at_ la tr1 c1 = (tr', .ok c' p2) ∧ ps = p1 ++ p2) ∨ (c' = c ∧ ps = []) :=
  (eval_star_nosk_ok' g h).imp id And.right

theorem eval_plus (fuel sk a at_ la tr c) :
    eval g (fuel + 1) sk (.plus a) at_ la tr c = eval g fuel sk (.seq a (.star a)) at_ la tr c := by
  simp only [eval]

theorem eval_rep (fuel sk n a at_ la tr c) :
    eval g (fuel + 1) sk (.rep n a) at_ la tr c = eval g fuel sk (unroll n a) at_ la tr c := by
  simp only [eval]

theorem eval_call (fuel sk r at_ la tr c) :
    eval g (fuel + 1) sk (.call r) at_ la tr c = callRule g fuel r at_ la tr c := by
  simp only [eval]

theorem eval_not_ok {fuel sk a at_ la tr c tr' c' ps}
    (h : eval g (fuel + 1) sk (.not a) at_ la tr c = (tr', .ok c' ps)) : c' = c ∧ ps = [] := by
  simp only [eval] at h
  split at h
  · cases h
  · cases h; exact ⟨rfl, rfl⟩
  · rename_i hne _; exact (hne _ _ _ h).elim

theorem eval_and_ok {fuel sk a at_ la tr c tr' c' ps}
    (h : eval g (fuel + 1) sk (.and a) at_ la tr c = (tr', .ok c' ps)) : c' = c ∧ ps = [] := by
  simp only [eval] at h
  split at h
  · cases h; exact ⟨rfl, rfl⟩
  · rename_i hne; exact (hne _ _ _ h).elim

theorem doSkip_ok {fuel sk at_ la tr c tr' c' ps}
    (h : doSkip g (fuel + 1) sk at_ la tr c = (tr', .ok c' ps)) :
    (sk = true ∧ at_ = .nonAtomic ∧ ∃ e, g.skipExpr = some e ∧ eval g fuel false e at_ la tr c = (tr', .ok c' ps)) ∨
    (c' = c ∧ ps = []) := by
  simp only [doSkip] at h
  split at h
  · rename_i hc
    split at h
    · rename_i e he
      exact Or.inl ⟨hc.1, hc.2, e, he, h⟩
    · simp only [Prod.mk.injEq, Out.ok.injEq] at h
      exact Or.inr ⟨h.2.1.symm, h.2.2.symm⟩
  · simp only [Prod.mk.injEq, Out.ok.injEq] at h
    exact Or.inr ⟨h.2.1.symm, h.2.2.symm⟩

theorem doSkip_noskip {fuel sk at_ la tr c} (hf : 1 ≤ fuel) (hn : sk = false ∨ at_ ≠ .nonAtomic) :
    doSkip g fuel sk at_ la tr c = (tr, .ok c []) := by
  obtain ⟨fuel, rfl⟩ : ∃ f, fuel = f + 1 := ⟨fuel - 1, by omega⟩
  rcases hn with hn | hn <;> simp [doSkip, hn]

theorem starRest_ok {fuel a at_ la tr c tr' c' ps}
    (h : starRest g (fuel + 1) a at_ la tr c = (tr', .ok c' ps)) :
    (∃ tr1 c1 p1 tr2 c2 p2 p3,
        doSkip g fuel true at_ la tr c = (tr1, .ok c1 p1) ∧
        eval g fuel true a at_ la tr1 c1 = (tr2, .ok c2 p2) ∧
        starRest g fuel a at_ la tr2 c2 = (tr', .ok c' p3) ∧ ps = p1 ++ p2 ++ p3) ∨ (c' = c ∧ ps = []) := by
  simp only [starRest] at h
  split at h
  · rename_i tr1 c1 p1 h1
    split at h
    · rename_i tr2 c2 p2 h2
      split at h
      · rename_i tr3 c3 p3 h3
        cases h
        exact Or.inl ⟨_, _, _, _, _, _, _, h1, h2, h3, rfl⟩
      · rename_i hne; exact (hne _ _ _ h).elim
    · cases h; exact Or.inr ⟨rfl, rfl⟩
    · rename_i hne _; exact (hne _ _ _ h).elim
  · cases h; exact Or.inr ⟨rfl, rfl⟩
  · rename_i hne _; exact (hne _ _ _ h).elim

theorem ruleWrap_ok {r seen la c res tr' c' ps} (h : ruleWrap r seen la c res = (tr', .ok c' ps)) :
    ∃ tr1 ps0, res = (tr1, .ok c' ps0) ∧
      ps = if la = .none ∧ seen ≠ .atomic then [Pair.mk r c.pos c'.pos ps0] else ps0 := by
  rcases res with ⟨tr1, o⟩
  cases o with
  | ok c1 p1 =>
    simp only [ruleWrap, Prod.mk.injEq, Out.ok.injEq] at h
    obtain ⟨_, rfl, rfl⟩ := h
    exact ⟨tr1, p1, rfl, rfl⟩
  | fail => simp [ruleWrap] at h
  | oof => simp [ruleWrap] at h

/-- how the body of rule `r` of kind `kind` is run when called under atomicity `at_`:
    (generated with skip calls?, atomicity of the body, atomicity seen by `state.rule`) -/
def bodyCfg (special : Bool) (kind : RuleKind) (at_ : Atomicity) : Bool × Atomicity × Atomicity :=
  match kind with
  | .silent => if special then (false, .atomic, at_) else (true, at_, at_)
  | .normal => if special then (false, .atomic, at_) else (true, at_, at_)
  | .atomic => (false, .atomic, at_)
  | .compound => (false, .compound, .compound)
  | .nonAtomic => (true, .nonAtomic, .nonAtomic)

theorem callRule_succ {fuel r at_ la tr c kind body} (hl : g.look r = some (kind, body)) :
    callRule g (fuel + 1) r at_ la tr c =
      if kind = .silent then
        eval g fuel (bodyCfg (decide (g.ws = some r ∨ g.cm = some r)) kind at_).1 body
          (bodyCfg (decide (g.ws = some r ∨ g.cm = some r)) kind at_).2.1 la { tr with steps := tr.steps + 1 } c
      else ruleWrap r (bodyCfg (decide (g.ws = some r ∨ g.cm = some r)) kind at_).2.2 la c
        (eval g fuel (bodyCfg (decide (g.ws = some r ∨ g.cm = some r)) kind at_).1 body
          (bodyCfg (decide (g.ws = some r ∨ g.cm = some r)) kind at_).2.1 la { tr with steps := tr.steps + 1 } c) := by
  simp only [callRule, hl]
  cases kind <;> by_cases hs : g.ws = some r ∨ g.cm = some r <;> simp [bodyCfg, hs]

theorem callRule_ok {fuel r at_ la tr c tr' c' ps}
    (h : callRule g (fuel + 1) r at_ la tr c = (tr', .ok c' ps)) :
    ∃ kind body tr0 tr1 ps0,
      g.look r = some (kind, body) ∧
      eval g fuel (bodyCfg (decide (g.ws = some r ∨ g.cm = some r)) kind at_).1 body
        (bodyCfg (decide (g.ws = some r ∨ g.cm = some r)) kind at_).2.1 la tr0 c = (tr1, .ok c' ps0) ∧
      ps = if kind = .silent then ps0
           else if la = .none ∧ (bodyCfg (decide (g.ws = some r ∨ g.cm = some r)) kind at_).2.2 ≠ .atomic
             then [Pair.mk r c.pos c'.pos ps0] else ps0 := by
  cases hl : g.look r with
  | none => simp [callRule, hl] at h
  | some kb =>
    obtain ⟨kind, body⟩ := kb
    rw [callRule_succ g hl] at h
    refine ⟨kind, body, { tr with steps := tr.steps + 1 }, ?_⟩
    by_cases hk : kind = .silent
    · rw [if_pos hk] at h
      exact ⟨tr', ps, rfl, h, (if_pos hk).symm⟩
    · rw [if_neg hk] at h
      obtain ⟨tr1, ps0, h1, h2⟩ := ruleWrap_ok h
      exact ⟨tr1, ps0, rfl, h1, by rw [if_neg hk]; exact h2⟩

theorem parse_pairs {fuel r input ps} (h : parse g fuel r input = .pairs ps) :
    ∃ tr c', callRule g fuel r .nonAtomic .none {} ⟨0, input⟩ = (tr, .ok c' ps) := by
  unfold parse runTr at h
  split at h
  · cases h; exact ⟨_, _, ‹_›⟩
  · cases h
  · cases h

/-! ### the inversion lemmas for a depth bound that is not written as a successor -/

theorem eval_pos {fuel sk e at_ la tr c tr' c' ps} (h : eval g fuel sk e at_ la tr c = (tr', .ok c' ps)) :
    ∃ f, fuel = f + 1 := by
  cases fuel with
  | zero => simp [eval_zero] at h
  | succ f => exact ⟨f, rfl⟩

theorem callRule_pos {fuel r at_ la tr c tr' c' ps} (h : callRule g fuel r at_ la tr c = (tr', .ok c' ps)) :
    ∃ f, fuel = f + 1 := by
  cases fuel with
  | zero => simp [callRule_zero] at h
  | succ f => exact ⟨f, rfl⟩

theorem doSkip_pos {fuel sk at_ la tr c tr' c' ps} (h : doSkip g fuel sk at_ la tr c = (tr', .ok c' ps)) :
    ∃ f, fuel = f + 1 := by
  cases fuel with
  | zero => simp [doSkip_zero] at h
  | succ f => exact ⟨f, rfl⟩

theorem doSkip_noop_ok {fuel sk at_ la tr c tr' c' ps} (hn : sk = false ∨ at_ ≠ .nonAtomic)
    (h : doSkip g fuel sk at_ la tr c = (tr', .ok c' ps)) : c' = c ∧ ps = [] := by
  obtain ⟨f, rfl⟩ := doSkip_pos g h
  rw [doSkip_noskip g (Nat.le_add_left 1 f) hn] at h
  cases h
  exact ⟨rfl, rfl⟩

theorem str_inv {fuel sk s at_ la tr c tr' c' ps}
    (h : eval g fuel sk (.str s) at_ la tr c = (tr', .ok c' ps)) : TermStep (.str s) c c' ∧ ps = [] := by
  obtain ⟨f, rfl⟩ := eval_pos g h
  exact eval_str_ok g h

theorem any_inv {fuel sk at_ la tr c tr' c' ps}
    (h : eval g fuel sk .any at_ la tr c = (tr', .ok c' ps)) : TermStep .any c c' ∧ ps = [] := by
  obtain ⟨f, rfl⟩ := eval_pos g h
  exact eval_any_ok g h

theorem not_inv {fuel sk a at_ la tr c tr' c' ps}
    (h : eval g fuel sk (.not a) at_ la tr c = (tr', .ok c' ps)) : c' = c ∧ ps = [] := by
  obtain ⟨f, rfl⟩ := eval_pos g h
  exact eval_not_ok g h

theorem choice_inv {fuel sk a b at_ la tr c tr' c' ps}
    (h : eval g fuel sk (.choice a b) at_ la tr c = (tr', .ok c' ps)) :
    ∃ f tr1, eval g f sk a at_ la tr c = (tr', .ok c' ps) ∨ eval g f sk b at_ la tr1 c = (tr', .ok c' ps) := by
  obtain ⟨f, rfl⟩ := eval_pos g h
  rcases eval_choice_ok g h with h1 | ⟨tr1, _, h2⟩
  · exact ⟨f, tr, Or.inl h1⟩
  · exact ⟨f, tr1, Or.inr h2⟩

theorem seq_inv {fuel sk a b at_ la tr c tr' c' ps} (hn : sk = false ∨ at_ ≠ .nonAtomic)
    (h : eval g fuel sk (.seq a b) at_ la tr c = (tr', .ok c' ps)) :
    ∃ f tr1 c1 p1 tr2 p3, eval g f sk a at_ la tr c = (tr1, .ok c1 p1) ∧
      eval g f sk b at_ la tr2 c1 = (tr', .ok c' p3) ∧ ps = p1 ++ p3 := by
  obtain ⟨f, rfl⟩ := eval_pos g h
  obtain ⟨tr1, c1, p1, tr2, c2, p2, p3, h1, h2, h3, rfl⟩ := eval_seq_ok g h
  obtain ⟨rfl, rfl⟩ := doSkip_noop_ok g hn h2
  exact ⟨f, tr1, c2, p1, tr2, p3, h1, h3, by simp⟩

theorem call_inv {fuel sk r at_ la tr c tr' c' ps}
    (h : eval g fuel sk (.call r) at_ la tr c = (tr', .ok c' ps)) :
    ∃ f, callRule g f r at_ la tr c = (tr', .ok c' ps) := by
  obtain ⟨f, rfl⟩ := eval_pos g h
  rw [eval_call] at h
  exact ⟨f, h⟩

theorem rule_inv {fuel r at_ la tr c tr' c' ps kind body} (hl : g.look r = some (kind, body))
    (h : callRule g fuel r at_ la tr c = (tr', .ok c' ps)) :
    ∃ f tr0 tr1 ps0,
      eval g f (bodyCfg (decide (g.ws = some r ∨ g.cm = some r)) kind at_).1 body
        (bodyCfg (decide (g.ws = some r ∨ g.cm = some r)) kind at_).2.1 la tr0 c = (tr1, .ok c' ps0) ∧
      ps = if kind = .silent then ps0
           else if la = .none ∧ (bodyCfg (decide (g.ws = some r ∨ g.cm = some r)) kind at_).2.2 ≠ .atomic
             then [Pair.mk r c.pos c'.pos ps0] else ps0 := by
  obtain ⟨f, rfl⟩ := callRule_pos g h
  obtain ⟨kind', body', tr0, tr1, ps0, hl', hb, hps⟩ := callRule_ok g h
  rw [hl] at hl'
  cases hl'
  exact ⟨f, tr0, tr1, ps0, hb, hps⟩

/-- what an induction over the successful runs of the interpreter proves, for a relation `P c c' ps` between the start
    cursor, the end cursor and the returned pairs -/
structure OkInv (la : Look) (P : Cur → Cur → List Pair → Prop) (fuel : Nat) : Prop where
  ev : ∀ sk e at_ tr c tr' c' ps, eval g fuel sk e at_ la tr c = (tr', .ok c' ps) → P c c' ps
  sk : ∀ sk at_ tr c tr' c' ps, doSkip g fuel sk at_ la tr c = (tr', .ok c' ps) → P c c' ps
  sr : ∀ a at_ tr c tr' c' ps, starRest g fuel a at_ la tr c = (tr', .ok c' ps) → P c c' ps
  cr : ∀ r at_ tr c tr' c' ps, callRule g fuel r at_ la tr c = (tr', .ok c' ps) → P c c' ps

/-- `P` holds of every successful result of the four mutually recursive functions if it is closed under the four ways
    they make a result: nothing consumed, one terminal, concatenation, and the pair that `state.rule` wraps around
    the result of a rule body (only outside lookahead, for a non-silent rule not seen as atomic). Induction on the
    depth bound, using only the inversion lemmas above. -/
theorem okInv (la : Look) (P : Cur → Cur → List Pair → Prop) (here : ∀ c, P c c [])
    (term : ∀ {e c c'}, TermStep e c c' → P c c' [])
    (app : ∀ {c c1 c2 p1 p2}, P c c1 p1 → P c1 c2 p2 → P c c2 (p1 ++ p2))
    (wrap : ∀ {fuel r kind body at_ tr0 tr1 c c' ps0}, g.look r = some (kind, body) → kind ≠ .silent →
      (bodyCfg (decide (g.ws = some r ∨ g.cm = some r)) kind at_).2.2 ≠ .atomic → la = .none →
      eval g fuel (bodyCfg (decide (g.ws = some r ∨ g.cm = some r)) kind at_).1 body
        (bodyCfg (decide (g.ws = some r ∨ g.cm = some r)) kind at_).2.1 la tr0 c = (tr1, .ok c' ps0) →
      P c c' ps0 → P c c' [Pair.mk r c.pos c'.pos ps0]) :
    ∀ fuel, OkInv g la P fuel := by
  intro fuel
  induction fuel with
  | zero =>
    exact ⟨fun _ _ _ _ _ _ _ _ h => by simp [eval_zero] at h, fun _ _ _ _ _ _ _ h => by simp [doSkip_zero] at h,
      fun _ _ _ _ _ _ _ h => by simp [starRest_zero] at h, fun _ _ _ _ _ _ _ h => by simp [callRule_zero] at h⟩
  | succ fuel ih =>
    refine ⟨?_, ?_, ?_, ?_⟩
    · intro sk e at_ tr c tr' c' ps h
      cases e with
      | str s => obtain ⟨ht, rfl⟩ := eval_str_ok g h; exact term ht
      | insens s => obtain ⟨ht, rfl⟩ := eval_insens_ok g h; exact term ht
      | range lo hi => obtain ⟨ht, rfl⟩ := eval_range_ok g h; exact term ht
      | any => obtain ⟨ht, rfl⟩ := eval_any_ok g h; exact term ht
      | soi => obtain ⟨ht, rfl⟩ := eval_soi_ok g h; exact term ht
      | eoi => obtain ⟨ht, rfl⟩ := eval_eoi_ok g h; exact term ht
      | seq a b =>
        obtain ⟨tr1, c1, p1, tr2, c2, p2, p3, h1, h2, h3, rfl⟩ := eval_seq_ok g h
        exact app (app (ih.ev _ _ _ _ _ _ _ _ h1) (ih.sk _ _ _ _ _ _ _ h2)) (ih.ev _ _ _ _ _ _ _ _ h3)
      | choice a b =>
        rcases eval_choice_ok g h with h1 | ⟨tr1, _, h2⟩
        · exact ih.ev _ _ _ _ _ _ _ _ h1
        · exact ih.ev _ _ _ _ _ _ _ _ h2
      | opt a =>
        rcases eval_opt_ok g h with h1 | ⟨rfl, rfl⟩
        · exact ih.ev _ _ _ _ _ _ _ _ h1
        · exact here _
      | star a =>
        cases sk with
        | true =>
          rcases eval_star_sk_ok g h with ⟨tr1, c1, p1, p2, h1, h2, rfl⟩ | ⟨rfl, rfl⟩
          · exact app (ih.ev _ _ _ _ _ _ _ _ h1) (ih.sr _ _ _ _ _ _ _ h2)
          · exact here _
        | false =>
          rcases eval_star_nosk_ok g h with ⟨tr1, c1, p1, p2, h1, h2, rfl⟩ | ⟨rfl, rfl⟩
          · exact app (ih.ev _ _ _ _ _ _ _ _ h1) (ih.ev _ _ _ _ _ _ _ _ h2)
          · exact here _
      | plus a => rw [eval_plus] at h; exact ih.ev _ _ _ _ _ _ _ _ h
      | rep n a => rw [eval_rep] at h; exact ih.ev _ _ _ _ _ _ _ _ h
      | not a => obtain ⟨rfl, rfl⟩ := eval_not_ok g h; exact here _
      | and a => obtain ⟨rfl, rfl⟩ := eval_and_ok g h; exact here _
      | call r => rw [eval_call] at h; exact ih.cr _ _ _ _ _ _ _ h
    · intro sk at_ tr c tr' c' ps h
      rcases doSkip_ok g h with ⟨_, _, e, _, h1⟩ | ⟨rfl, rfl⟩
      · exact ih.ev _ _ _ _ _ _ _ _ h1
      · exact here _
    · intro a at_ tr c tr' c' ps h
      rcases starRest_ok g h with ⟨tr1, c1, p1, tr2, c2, p2, p3, h1, h2, h3, rfl⟩ | ⟨rfl, rfl⟩
      · exact app (app (ih.sk _ _ _ _ _ _ _ h1) (ih.ev _ _ _ _ _ _ _ _ h2)) (ih.sr _ _ _ _ _ _ _ h3)
      · exact here _
    · intro r at_ tr c tr' c' ps h
      obtain ⟨kind, body, tr0, tr1, ps0, hl, hb, rfl⟩ := callRule_ok g h
      have hbody := ih.ev _ _ _ _ _ _ _ _ hb
      by_cases hk : kind = .silent
      · rw [if_pos hk]; exact hbody
      · rw [if_neg hk]
        by_cases hw : la = .none ∧ (bodyCfg (decide (g.ws = some r ∨ g.cm = some r)) kind at_).2.2 ≠ .atomic
        · rw [if_pos hw]; exact wrap hl hk hw.2 hw.1 hb hbody
        · rw [if_neg hw]; exact hbody

end NitroVerif.Peg
