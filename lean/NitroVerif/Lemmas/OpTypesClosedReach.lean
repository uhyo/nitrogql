/-
C01/C02 closed forms, fuels: reachability through a document without fragment cycles, and the counting device.

  `Rch F L n`        the spread `...n` is reachable from the selection list `L` (through sub-selections, inline fragments
                     and the bodies of spread fragments)
  `acyclic`          a fragment whose body fits some nesting bound (`fitsS`) does not reach itself
  `Sub ss0 ss`       `ss` is `ss0` or a selection set nested in it (through fields and inline fragments, not spreads)
  `pool g D excl`    the total weight `g` of the fragment definitions of `D` whose name is not excluded; entering a
                     fragment (excluding its name) frees its weight, and the weights of everything fit into `docSize`
                     (both are sums over the definitions: `sum_add_le`)
-/
import NitroVerif.Lemmas.StagesGenA
namespace NitroVerif.OpTypes.Closed
open NitroVerif.Gql NitroVerif.OpTypes NitroVerif.OpTypes.Ref

inductive Rch (F : FragMap) : List Selection → Name → Prop where
  | here {L nm np ds p} : Selection.spread nm np ds p ∈ L → Rch F L nm
  | spread {L nm np ds p f n} : Selection.spread nm np ds p ∈ L → F nm = some f → Rch F f.sel n → Rch F L n
  | field {L a nme p args ds ss n} : Selection.field a nme p args ds (some ss) ∈ L → Rch F ss n → Rch F L n
  | inline {L c ds ss p n} : Selection.inline c ds ss p ∈ L → Rch F ss n → Rch F L n

theorem rch_mono {F : FragMap} {L L' : List Selection} {n : Name} (hsub : ∀ s ∈ L, s ∈ L') (h : Rch F L n) :
    Rch F L' n := by
  cases h with
  | here hm => exact .here (hsub _ hm)
  | spread hm hf hr => exact .spread (hsub _ hm) hf hr
  | field hm hr => exact .field (hsub _ hm) hr
  | inline hm hr => exact .inline (hsub _ hm) hr

theorem rch_append {F : FragMap} {a b : List Selection} {n : Name} (h : Rch F (a ++ b) n) : Rch F a n ∨ Rch F b n := by
  cases h with
  | here hm =>
    rcases List.mem_append.1 hm with h | h
    · exact Or.inl (.here h)
    · exact Or.inr (.here h)
  | spread hm hf hr =>
    rcases List.mem_append.1 hm with h | h
    · exact Or.inl (.spread h hf hr)
    · exact Or.inr (.spread h hf hr)
  | field hm hr =>
    rcases List.mem_append.1 hm with h | h
    · exact Or.inl (.field h hr)
    · exact Or.inr (.field h hr)
  | inline hm hr =>
    rcases List.mem_append.1 hm with h | h
    · exact Or.inl (.inline h hr)
    · exact Or.inr (.inline h hr)

theorem fits_rch {F : FragMap} {L : List Selection} {n : Name} (h : Rch F L n) :
    ∀ {R : Nat}, (∀ s ∈ L, fitsS F R s = true) →
      ∃ f R', F n = some f ∧ R' < R ∧ ∀ s ∈ f.sel, fitsS F R' s = true := by
  -- one level down: from a member `s` of a fitting list into what is entered from it
  have down : ∀ {L : List Selection} {s : Selection} {body : List Selection} {R : Nat}, s ∈ L → kids F s = body →
      (∀ x ∈ L, fitsS F R x = true) → ∃ R', R = R' + 1 ∧ ∀ x ∈ body, fitsS F R' x = true :=
    fun hm hk hfit => hk ▸ fitsS_kids_lt (hfit _ hm)
  induction h with
  | @here L nm np ds p hm =>
    intro R hfit
    obtain ⟨f, hF⟩ := fitsS_defined (hfit _ hm)
    obtain ⟨R', rfl, hk⟩ := down (body := f.sel) hm (by simp only [kids, hF, Option.map_some, Option.getD_some]) hfit
    exact ⟨f, R', hF, Nat.lt_succ_self _, hk⟩
  | @spread L nm np ds p f n hm hf _ ih =>
    intro R hfit
    obtain ⟨R', rfl, hk⟩ := down (body := f.sel) hm (by simp only [kids, hf, Option.map_some, Option.getD_some]) hfit
    obtain ⟨g, R'', h1, h2, h3⟩ := ih hk
    exact ⟨g, R'', h1, by omega, h3⟩
  | @field L a nme p args ds ss n hm _ ih =>
    intro R hfit
    obtain ⟨R', rfl, hk⟩ := down hm rfl hfit
    obtain ⟨g, R'', h1, h2, h3⟩ := ih hk
    exact ⟨g, R'', h1, by omega, h3⟩
  | @inline L c ds ss p n hm _ ih =>
    intro R hfit
    obtain ⟨R', rfl, hk⟩ := down hm rfl hfit
    obtain ⟨g, R'', h1, h2, h3⟩ := ih hk
    exact ⟨g, R'', h1, by omega, h3⟩

theorem acyclic {F : FragMap} {n : Name} {f : FragmentDef} (hF : F n = some f) :
    ∀ (R : Nat), (∀ s ∈ f.sel, fitsS F R s = true) → ¬ Rch F f.sel n := by
  intro R
  induction R using Nat.strongRecOn with
  | _ R ih =>
    intro hfit hr
    obtain ⟨g, R', h1, h2, h3⟩ := fits_rch hr hfit
    rw [hF] at h1; cases h1
    exact ih R' h2 h3 hr

inductive Sub : List Selection → List Selection → Prop where
  | refl {ss} : Sub ss ss
  | field {ss0 ss a nme p args ds ss'} : Sub ss0 ss → Selection.field a nme p args ds (some ss') ∈ ss → Sub ss0 ss'
  | inline {ss0 ss c ds ss' p} : Sub ss0 ss → Selection.inline c ds ss' p ∈ ss → Sub ss0 ss'

theorem sub_rch {F : FragMap} {ss0 ss : List Selection} (h : Sub ss0 ss) {n : Name} (hr : Rch F ss n) : Rch F ss0 n := by
  induction h with
  | refl => exact hr
  | field _ hm ih => exact ih (.field hm hr)
  | inline _ hm ih => exact ih (.inline hm hr)

theorem sub_fits {F : FragMap} {R : Nat} {ss0 ss : List Selection} (h : Sub ss0 ss)
    (hfit : ∀ s ∈ ss0, fitsS F R s = true) : ∀ s ∈ ss, fitsS F R s = true := by
  induction h with
  | refl => exact hfit
  | field _ hm ih => exact fitsS_kids (ih _ hm)
  | inline _ hm ih => exact fitsS_kids (ih _ hm)

theorem selSize_mem_le {s : Selection} {L : List Selection} (h : s ∈ L) : selSize s ≤ selSizeList L :=
  le_of_mem_rec (fun _ _ => by simp only [selSizeList]; omega) h

theorem sub_size {ss0 ss : List Selection} (h : Sub ss0 ss) : selSizeList ss ≤ selSizeList ss0 := by
  induction h with
  | refl => exact Nat.le_refl _
  | field _ hm ih => have := selSize_mem_le hm; simp only [selSize] at this; omega
  | inline _ hm ih => have := selSize_mem_le hm; simp only [selSize] at this; omega

/-- contribution of one definition to `docSize` -/
def dsz : ExecDef → Nat
  | .op o => selSizeList o.sel + 1
  | .frag f => selSizeList f.sel + 1
  | .imp _ => 0

def tot (D : Doc) : Nat := (D.map dsz).sum

theorem docSize_eq (D : Doc) : docSize D = tot D := by
  have key : ∀ (D : Doc) (n : Nat), D.foldl (fun n x => match x with
      | .op o => n + selSizeList o.sel + 1
      | .frag f => n + selSizeList f.sel + 1
      | .imp _ => n) n = n + tot D := by
    intro D
    induction D with
    | nil => intro n; rfl
    | cons x D ih =>
      intro n
      rw [List.foldl_cons, ih]
      cases x <;> simp only [tot, List.map_cons, List.sum_cons, dsz] <;> omega
  exact (key D 0).trans (by omega)

theorem sum_le {α : Type} {a b : α → Nat} (hab : ∀ y, a y ≤ b y) : ∀ (l : List α), (l.map a).sum ≤ (l.map b).sum
  | [] => Nat.le_refl _
  | y :: l => by simp only [List.map_cons, List.sum_cons]; have := hab y; have := sum_le hab l; omega

theorem sum_add_le {α : Type} {a b : α → Nat} (hab : ∀ y, a y ≤ b y) {x : α} (hx : a x = 0) :
    ∀ {l : List α}, x ∈ l → (l.map a).sum + b x ≤ (l.map b).sum
  | y :: l, h => by
    simp only [List.map_cons, List.sum_cons]
    rcases List.mem_cons.1 h with rfl | h
    · have := sum_le hab l; omega
    · have := sum_add_le hab hx h; have := hab y; omega

/-- weight of a definition in the pool: `g` of a fragment whose name is not excluded -/
def poolW (g : FragmentDef → Nat) (excl : Name → Bool) : ExecDef → Nat
  | .frag f => if excl f.name then 0 else g f
  | _ => 0

/-- total weight `g` of the fragment definitions whose name is not excluded -/
def pool (g : FragmentDef → Nat) (D : Doc) (excl : Name → Bool) : Nat := (D.map (poolW g excl)).sum

theorem pool_add_le_tot {g : FragmentDef → Nat} (hg : ∀ f, g f ≤ selSizeList f.sel + 1) (excl : Name → Bool)
    {x : ExecDef} (hx : match x with | .frag f => excl f.name = true | .op _ => True | .imp _ => False)
    {D : Doc} (h : x ∈ D) : pool g D excl + dsz x ≤ tot D := by
  refine sum_add_le (a := poolW g excl) (b := dsz) (fun y => ?_) ?_ h
  · cases y with
    | frag f => have := hg f; simp only [poolW, dsz]; split <;> omega
    | op o => exact Nat.zero_le _
    | imp i => exact Nat.zero_le _
  · cases x with
    | frag f => simp only [poolW, show excl f.name = true from hx, if_true]
    | op o => rfl
    | imp i => cases hx

theorem pool_exclude {g : FragmentDef → Nat} {excl excl' : Name → Bool} {f : FragmentDef}
    (hne : excl f.name = false) (he : ∀ m, excl' m = (excl m || m == f.name))
    {D : Doc} (h : ExecDef.frag f ∈ D) : pool g D excl' + g f ≤ pool g D excl := by
  have := sum_add_le (a := poolW g excl') (b := poolW g excl) (x := .frag f) (fun y => ?_) ?_ h
  · simpa only [pool, poolW, hne, Bool.false_eq_true, if_false] using this
  · cases y with
    | frag f' => simp only [poolW, he]; cases excl f'.name <;> cases (f'.name == f.name) <;> simp
    | op o => exact Nat.le_refl _
    | imp i => exact Nat.le_refl _
  · simp only [poolW, he, beq_self_eq_true, Bool.or_true, if_true]

end NitroVerif.OpTypes.Closed
