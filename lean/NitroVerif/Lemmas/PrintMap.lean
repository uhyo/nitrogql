import NitroVerif.Model.PrintMap
import NitroVerif.Lemmas.SchemaFacts
/-!
# C06 — printer call sites: the projection of `TSType::print_type` onto the mapped calls

`mappedOps` (the calls `SourceWriter` maps) is a filter, hence a homomorphism of call sequences that forgets `write`, `indent`
and `dedent`. `tySites t` lists, in print order, the `write_for` calls of `print_type t` whose node has a non-builtin position:
one per `TypeVariable` and one per object key that is printed as a raw identifier. `mapped_printTy` shows that this
is exactly the projection of the modelled operation sequence (`mappedOps (printTy t) = tySites t`).
-/
namespace NitroVerif.PrintMap
open NitroVerif.Gql NitroVerif.DeclCfg

/-- the mapped call for a node with text `t`, position `p`, name `n`: nothing when the position is built in -/
def node (t : String) (p : Pos) (n : String) : List POp :=
  if p.builtin then [] else [.writeFor t p (some n)]

mutual
/-- the mapped calls of `print_type`, in order -/
def tySites : TSTy → List POp
  | .var n p => node n p n
  | .func f args => tySites f ++ tySitesList args
  | .strLit _ => []
  | .ns2 _ _ => []
  | .ns3 _ _ _ => []
  | .obj fs => fieldSites fs
  | .arr t => tySites t
  | .roArr t => tySites t
  | .union ts => tySitesList ts
  | .inter ts => tySitesList ts
  | .undefined => []
  | .null => []
  | .never => []
  | .unknown => []
  | .raw _ => []
def tySitesList : List TSTy → List POp
  | [] => []
  | t :: ts => tySites t ++ tySitesList ts
def fieldSites : List TSField → List POp
  | [] => []
  | .mk k kp ty _ _ _ :: r =>
    (if SchemaDecls.isRawIdent k then node k kp k else []) ++ tySites ty ++ fieldSites r
end

@[simp] theorem mappedOps_nil : mappedOps [] = [] := rfl

@[simp] theorem mappedOps_append (a b : List POp) : mappedOps (a ++ b) = mappedOps a ++ mappedOps b := by
  simp [mappedOps]

@[simp] theorem mappedOps_write (t : String) (r : List POp) : mappedOps (.write t :: r) = mappedOps r := by
  simp [mappedOps, POp.mapped]

@[simp] theorem mappedOps_indent (r : List POp) : mappedOps (.indent :: r) = mappedOps r := by
  simp [mappedOps, POp.mapped]

@[simp] theorem mappedOps_dedent (r : List POp) : mappedOps (.dedent :: r) = mappedOps r := by
  simp [mappedOps, POp.mapped]

@[simp] theorem mappedOps_writeFor (t : String) (p : Pos) (n : String) (r : List POp) :
    mappedOps (.writeFor t p (some n) :: r) = node t p n ++ mappedOps r := by
  unfold node mappedOps
  cases h : p.builtin <;> simp [POp.mapped, h]

theorem mappedOps_writeFor_none (t : String) (p : Pos) (r : List POp) :
    mappedOps (.writeFor t p none :: r) = (if p.builtin then [] else [.writeFor t p none]) ++ mappedOps r := by
  unfold mappedOps
  cases h : p.builtin <;> simp [POp.mapped, h]

theorem mem_mappedOps {op : POp} {ops : List POp} : op ∈ mappedOps ops ↔ op ∈ ops ∧ op.mapped = true := by
  simp [mappedOps]

theorem mem_of_mem_sites {ops sites : List POp} (h : mappedOps ops = sites) {x : POp} (hx : x ∈ sites) : x ∈ ops :=
  (mem_mappedOps.mp (h ▸ hx)).1

theorem mem_of_mapped_site {ops sites : List POp} (h : mappedOps ops = mappedOps sites) {x : POp} (hx : x ∈ sites)
    (hm : x.mapped = true) : x ∈ ops :=
  mem_of_mem_sites h (mem_mappedOps.mpr ⟨hx, hm⟩)

theorem mappedOps_flatMap {α} (l : List α) (f : α → List POp) :
    mappedOps (l.flatMap f) = l.flatMap (fun a => mappedOps (f a)) := by
  induction l with
  | nil => rfl
  | cons a l ih => simp [List.flatMap_cons, ih]

@[simp] theorem node_builtin (t n : String) : node t bi n = [] := rfl

theorem mem_node {op : POp} {t n : String} {p : Pos} :
    op ∈ node t p n ↔ (p.builtin = false ∧ op = .writeFor t p (some n)) := by
  unfold node
  cases h : p.builtin <;> simp

@[simp] theorem mappedOps_descOps (d : String) : mappedOps (descOps d) = [] := by
  unfold descOps
  simp only [mappedOps_append, mappedOps_write, mappedOps_nil, List.append_nil, List.nil_append]
  rw [mappedOps_flatMap]
  simp

@[simp] theorem mappedOps_optDescOps (d : Option String) : mappedOps (optDescOps d) = [] := by
  cases d <;> simp [optDescOps]

mutual
theorem mapped_printTy : ∀ t : TSTy, mappedOps (printTy t) = tySites t
  | .var n p => by simp [printTy, tySites]
  | .func f args => by
    simp [printTy, tySites, mapped_printTy f, mapped_printSep ", " args true]
  | .strLit _ => by simp [printTy, tySites]
  | .ns2 _ _ => by simp [printTy, tySites]
  | .ns3 _ _ _ => by simp [printTy, tySites]
  | .obj [] => by simp [printTy, tySites, fieldSites]
  | .obj (f :: fs) => by simp [printTy, tySites, mapped_printFields (f :: fs)]
  | .arr t => by simp [printTy, tySites, mapped_printTy t]
  | .roArr t => by simp [printTy, tySites, mapped_printTy t]
  | .union [] => by simp [printTy, tySites, tySitesList]
  | .union (t :: ts) => by simpa [printTy, tySites] using mapped_printSep " | " (t :: ts) true
  | .inter [] => by simp [printTy, tySites, tySitesList]
  | .inter (t :: ts) => by simpa [printTy, tySites] using mapped_printSep " & " (t :: ts) true
  | .undefined => by simp [printTy, tySites]
  | .null => by simp [printTy, tySites]
  | .never => by simp [printTy, tySites]
  | .unknown => by simp [printTy, tySites]
  | .raw _ => by simp [printTy, tySites]
theorem mapped_printSep : ∀ (sep : String) (ts : List TSTy) (first : Bool),
    mappedOps (printSep sep ts first) = tySitesList ts
  | _, [], _ => by simp [printSep, tySitesList]
  | sep, t :: ts, first => by
    simp only [printSep, tySitesList, mappedOps_append, mapped_printTy t, mapped_printSep sep ts false]
    cases first <;> simp
theorem mapped_printFields : ∀ fs : List TSField, mappedOps (printFields fs) = fieldSites fs
  | [] => by simp [printFields, fieldSites]
  | .mk k kp ty ro opt d :: r => by
    simp only [printFields, fieldSites, mappedOps_append, mappedOps_optDescOps, mapped_printTy ty,
      mapped_printFields r, List.nil_append]
    cases ro <;> cases opt <;> cases hk : SchemaDecls.isRawIdent k <;> simp
end

end NitroVerif.PrintMap
