/-
The part of `common.rs` that the type-system checker shares with the operation checker (`check_value`,
`check_arguments`, `check_directives`) against the specification: each is quiet exactly when the rule of
`Spec/ValidTs.lean` holds.  The two models of `common.rs` agree (`Lemmas/CheckCommonBridge.lean`) and so do the two
reference rules for values (`Lemmas/CheckTsSpecBridge.lean`), so the statements here are the operation checker's
equivalences (`CheckOpValue`, `CheckOpArgs`) read with no variable in scope and no tolerated kind
of diagnostic.
-/
import NitroVerif.Lemmas.CheckTs
import NitroVerif.Lemmas.CheckTsSpecBridge
import NitroVerif.Lemmas.CheckCommonBridge
import NitroVerif.Lemmas.CheckOpValue
namespace NitroVerif.CheckTs
open NitroVerif.Gql NitroVerif.ValidTs

/-! ### what is used of the schema -/

def InputsNodup (S : Schema) : Prop :=
  ∀ n td, S.typeDef? n = some td → td.kind = .input → (td.inputs.map (·.name)).Nodup

/-- the type of an input position: defined and of an input kind, also for every field of every input object -/
def InputTypesOk (S : Schema) : Prop :=
  ∀ n td, S.typeDef? n = some td → td.kind = .input →
    ∀ ef ∈ td.inputs, ∃ k, S.kindOf? ef.ty.unwrapped = some k ∧ Schema.isInputKind k = true

/-- the schema hypothesis of `CheckOp.checkValue_iff` as the schema checker has it (`CheckOp.inputs_ok` derives the same
    from the operation checker's hypotheses) -/
theorem inputs_ok {S : Schema} (hI : InputsNodup S) (hT : InputTypesOk S) :
    ∀ n td, S.typeDef? n = some td → td.kind = .input →
      Valid.nodupB (td.inputs.map (·.name)) = true ∧ ∀ a ∈ td.inputs, CheckOp.InputTy S a.ty :=
  fun n td h hk => ⟨by rw [← noDup_eq_nodupB]; exact (noDup_iff_nodup _).mpr (hI n td h hk),
    fun a ha => CheckOp.inputTy_iff.mpr (hT n td h hk a ha)⟩

/-- with no variable definition in scope no variable usage passes -/
theorem valFact_none {S : Schema} {v : Value} {ty : GType} {ld : Bool} :
    CheckOp.ValFact S CheckOp.allowNone none v ty ld ↔ valueOk S v ty = true := by
  rw [valueOk_iff S v ty ld]
  refine and_congr_right fun _ => ⟨fun h => List.eq_nil_iff_forall_not_mem.mpr fun u hu => ?_, fun h => by rw [h]; nofun⟩
  have := CheckOp.quiet_none_iff.mp (h u hu)
  simp [CheckCommon.varCheck, CheckCommon.varDef?] at this

theorem quiet_map_tsErr {ds : List CheckCommon.Diag} : ds.map CheckCommon.tsErr = [] ↔ CheckOp.Quiet CheckOp.allowNone ds := by
  rw [List.map_eq_nil_iff, CheckOp.quiet_none_iff]

/-! ### `check_value` -/

theorem checkValue_nil_iff {S : Schema} (hI : InputsNodup S) (hT : InputTypesOk S) {v : Value} {ty : GType}
    (hty : ∃ k, S.kindOf? ty.unwrapped = some k ∧ Schema.isInputKind k = true) :
    checkValue S v ty = [] ↔ valueOk S v ty = true := by
  rw [CheckCommon.checkValue_bridge S v ty false, quiet_map_tsErr,
    CheckOp.checkValue_iff CheckOp.admissible_none (inputs_ok hI hT) (CheckOp.inputTy_iff.mpr hty), valFact_none]

/-! ### `check_arguments` -/

/-- rules 5.4.1 (argument names), 5.4.2 (uniqueness), 5.4.2.1 (required arguments) and 5.6.1 (values) for one
    application of a directive whose definition has distinct argument names of input types -/
theorem checkArguments_nil_iff {S : Schema} (hI : InputsNodup S) (hT : InputTypesOk S) {df : DirectiveDef} {d : Directive}
    (hnd : (df.args.map (·.name)).Nodup)
    (hty : ∀ ad ∈ df.args, ∃ k, S.kindOf? ad.ty.unwrapped = some k ∧ Schema.isInputKind k = true) :
    checkArguments S d.pos d.args df.args = [] ↔
      noDup (d.args.map (·.1)) = true ∧ directiveArgsOk S df d = true := by
  rw [CheckCommon.checkArguments_bridge, quiet_map_tsErr,
    CheckOp.checkArguments_values_iff CheckOp.admissible_none (inputs_ok hI hT)
      (by rw [← noDup_eq_nodupB]; exact (noDup_iff_nodup _).mpr hnd) (fun ad h => CheckOp.inputTy_iff.mpr (hty ad h)),
    noDup_eq_nodupB]
  refine and_congr_right fun _ => ?_
  simp only [directiveArgsOk, Bool.and_eq_true, List.all_eq_true, Valid.typedValuesOf, List.flatMap_cons,
    List.flatMap_nil, List.append_nil, List.mem_filterMap, Option.map_eq_some_iff, valFact_none]
  constructor
  · rintro ⟨hknown, hreq, hval⟩
    refine ⟨fun a ha => ?_, fun ad had => ?_⟩
    · cases hf : df.args.find? (·.name == a.1) with
      | none =>
        obtain ⟨x, hx, hxa⟩ := List.any_eq_true.mp (hknown a ha)
        exact absurd hxa (List.find?_eq_none.mp hf x hx)
      | some ad => exact hval _ ⟨a, ha, ad, hf, rfl⟩
    · cases hr : requiredArg ad with
      | false => simp
      | true => rw [hreq ad had (by simpa [requiredArg] using hr)]; rfl
  · rintro ⟨hargs, hreq⟩
    refine ⟨fun a ha => ?_, fun ad had hr => ?_, ?_⟩
    · have := hargs a ha
      cases hf : df.args.find? (·.name == a.1) with
      | none => rw [hf] at this; cases this
      | some ad => exact List.any_eq_true.mpr ⟨ad, List.mem_of_find?_eq_some hf, by simpa using List.find?_some hf⟩
    · have := hreq ad had
      rw [show requiredArg ad = true by simp [requiredArg, hr.1, hr.2]] at this
      simpa using this
    · rintro tv ⟨a, ha, ad, hf, rfl⟩
      have := hargs a ha
      rw [hf] at this
      exact this

/-! ### `check_directives` -/

theorem nodup_filter_map_iff {α : Type} (key : α → Name) (p : α → Bool) (hp : ∀ a b, key a = key b → p a = p b)
    (l : List α) :
    ((l.filter p).map key).Nodup ↔ ∀ a ∈ l, p a = true → (l.filter fun x => key x == key a).length ≤ 1 := by
  rw [nodup_filter_map_iff_count]
  constructor
  · intro h a ha hpa
    have e : (l.filter fun x => key x == key a).filter p = l.filter fun x => key x == key a :=
      List.filter_eq_self.mpr fun x hx => by rw [hp x a (by simpa using (List.mem_filter.mp hx).2), hpa]
    rw [← e]
    exact h (key a)
  · intro h n
    cases hF : (l.filter fun x => key x == n).filter p with
    | nil => exact Nat.zero_le _
    | cons a r =>
      have ha : a ∈ (l.filter fun x => key x == n).filter p := by rw [hF]; exact List.mem_cons_self
      obtain ⟨ha1, hpa⟩ := List.mem_filter.mp ha
      obtain ⟨hal, hk⟩ := List.mem_filter.mp ha1
      rw [← hF, ← eq_of_beq hk]
      exact Nat.le_trans (List.length_filter_le _ _) (h a hal hpa)

/-- rules 5.7.1 – 5.7.3 and a quiet argument check for every directive applied at a location -/
theorem checkDirectives_nil_iff {S : Schema} {loc : String} {ds : List Directive} :
    checkDirectives S loc ds = [] ↔
      ∀ d ∈ ds, ∃ df, S.directiveDef? d.name = some df ∧ df.locations.contains loc = true ∧
        checkArguments S d.pos d.args df.args = [] ∧
        (df.repeatable = true ∨ (ds.filter (·.name == d.name)).length ≤ 1) := by
  rw [CheckCommon.checkDirectives_bridge, quiet_map_tsErr, CheckCommon.checkDirectives,
    CheckOp.checkDirectivesAux_iff CheckOp.admissible_none]
  simp only [CheckOp.DirFacts, List.not_mem_nil, not_false_eq_true, implies_true, and_true, ← quiet_map_tsErr,
    ← CheckCommon.checkArguments_bridge, ← noDup_eq_nodupB, noDup_iff_nodup]
  rw [nodup_filter_map_iff (fun d : Directive => d.name) (CheckOp.nonRepeatable S)
    (fun a b h => by simp only [CheckOp.nonRepeatable, h])]
  constructor
  · rintro ⟨h1, h2⟩ d hd
    obtain ⟨df, hdf, hloc, hargs⟩ := h1 d hd
    refine ⟨df, hdf, hloc, hargs, ?_⟩
    cases hr : df.repeatable with
    | true => exact Or.inl rfl
    | false => exact Or.inr (h2 d hd (by simp [CheckOp.nonRepeatable, hdf, hr]))
  · intro h
    refine ⟨fun d hd => ?_, fun d hd hnr => ?_⟩
    · obtain ⟨df, hdf, hloc, hargs, _⟩ := h d hd
      exact ⟨df, hdf, hloc, hargs⟩
    · obtain ⟨df, hdf, _, _, hor⟩ := h d hd
      rcases hor with hr | hc
      · simp [CheckOp.nonRepeatable, hdf, hr] at hnr
      · exact hc

end NitroVerif.CheckTs
