import NitroVerif.Spec.JsonText
/-!
# C12, text level — one step of the readers, case by case

`value`, `elements` and `members` recurse on the fuel; what one unit of fuel does is a fixed case distinction on the text.
`value_succ_iff`, `elements_succ_iff`, `members_succ_iff` say, once, in which ways an answer `some _` at fuel `f + 1` comes
about from answers at fuel `f`. The inductions over the fuel (`Lemmas/JsonTextFuel.lean`, `Lemmas/JsonTextSubset.lean`) take an
answer apart with the `mp` direction and put one together with the constructors; the round trip (`Lemmas/JsonTextRound.lean`)
only puts together.
-/
namespace NitroVerif.JsonText
open NitroVerif

/-- `true` / `false` / `null` / a number at `c :: r`: the part of `value` that depends neither on the lexical layer nor on
    the fuel -/
def leaf (c : Char) (r : List Char) : Option (Json × List Char) :=
  if c = 't' then (keyword ['r', 'u', 'e'] r).map fun r' => (.bool true, r')
  else if c = 'f' then (keyword ['a', 'l', 's', 'e'] r).map fun r' => (.bool false, r')
  else if c = 'n' then (keyword ['u', 'l', 'l'] r).map fun r' => (.null, r')
  else
    match number (c :: r) with
    | some (raw, r') => some (.num (String.ofList raw), r')
    | none => none

theorem leaf_some {c : Char} {r0 : List Char} {t : Json} {r : List Char} (h : leaf c r0 = some (t, r)) :
    ((c = 't' ∨ c = 'f' ∨ c = 'n') ∧ ∃ kw, keyword kw r0 = some r) ∨ ∃ raw, number (c :: r0) = some (raw, r) := by
  unfold leaf at h
  by_cases h3 : c = 't'
  · rw [if_pos h3, Option.map_eq_some_iff] at h
    obtain ⟨r', hk, he⟩ := h
    cases he; exact .inl ⟨.inl h3, _, hk⟩
  rw [if_neg h3] at h
  by_cases h4 : c = 'f'
  · rw [if_pos h4, Option.map_eq_some_iff] at h
    obtain ⟨r', hk, he⟩ := h
    cases he; exact .inl ⟨.inr (.inl h4), _, hk⟩
  rw [if_neg h4] at h
  by_cases h5 : c = 'n'
  · rw [if_pos h5, Option.map_eq_some_iff] at h
    obtain ⟨r', hk, he⟩ := h
    cases he; exact .inl ⟨.inr (.inr h5), _, hk⟩
  rw [if_neg h5] at h
  cases hn : number (c :: r0) with
  | none => simp [hn] at h
  | some p =>
    simp only [hn, Option.some.injEq, Prod.mk.injEq] at h
    exact .inr ⟨p.1, by rw [← h.2]⟩

/-- the ways in which `value L (f + 1) s` answers `some (t, r)` -/
inductive ValueCase (L : Lex) (f : Nat) (s : List Char) (t : Json) (r : List Char) : Prop
  | str (c : Char) (r0 cs : List Char) : skipWs L.ws s = c :: r0 → L.quote c = true → L.str c r0 = some (cs, r) →
      t = .str (String.ofList cs) → ValueCase L f s t r
  | arrNil (r0 : List Char) : skipWs L.ws s = '[' :: r0 → L.quote '[' = false → skipWs L.ws r0 = ']' :: r →
      t = .arr [] → ValueCase L f s t r
  | arr (r0 : List Char) (c1 : Char) (r1 : List Char) (xs : List Json) : skipWs L.ws s = '[' :: r0 → L.quote '[' = false →
      skipWs L.ws r0 = c1 :: r1 → c1 ≠ ']' → elements L f (c1 :: r1) = some (xs, r) → t = .arr xs → ValueCase L f s t r
  | objNil (r0 : List Char) : skipWs L.ws s = '{' :: r0 → L.quote '{' = false → skipWs L.ws r0 = '}' :: r →
      t = .obj [] → ValueCase L f s t r
  | obj (r0 : List Char) (c1 : Char) (r1 : List Char) (kvs : List (String × Json)) : skipWs L.ws s = '{' :: r0 →
      L.quote '{' = false → skipWs L.ws r0 = c1 :: r1 → c1 ≠ '}' → members L f (c1 :: r1) = some (kvs, r) → t = .obj kvs →
      ValueCase L f s t r
  | leaf (c : Char) (r0 : List Char) : skipWs L.ws s = c :: r0 → L.quote c = false → c ≠ '[' → c ≠ '{' →
      leaf c r0 = some (t, r) → ValueCase L f s t r

theorem value_succ_iff {L : Lex} {f : Nat} {s : List Char} {t : Json} {r : List Char} :
    value L (f + 1) s = some (t, r) ↔ ValueCase L f s t r := by
  constructor
  · intro h
    simp only [value] at h
    cases hsk : skipWs L.ws s with
    | nil => simp [hsk] at h
    | cons c r0 =>
      simp only [hsk] at h
      by_cases hq : L.quote c = true
      · simp only [hq, if_true] at h
        cases hstr : L.str c r0 with
        | none => simp [hstr] at h
        | some p =>
          simp only [hstr, Option.some.injEq, Prod.mk.injEq] at h
          exact .str c r0 p.1 hsk hq (by rw [hstr, ← h.2]) h.1.symm
      · have hq' : L.quote c = false := by simpa using hq
        simp only [hq', Bool.false_eq_true, if_false] at h
        by_cases h1 : c = '['
        · subst h1
          simp only [if_true] at h
          cases hsk1 : skipWs L.ws r0 with
          | nil => simp [hsk1] at h
          | cons c1 r1 =>
            simp only [hsk1] at h
            by_cases hc1 : c1 = ']'
            · subst hc1
              simp only [if_true, Option.some.injEq, Prod.mk.injEq] at h
              exact .arrNil r0 hsk hq' (by rw [hsk1, h.2]) h.1.symm
            · simp only [hc1, if_false] at h
              cases he : elements L f (c1 :: r1) with
              | none => simp [he] at h
              | some p =>
                simp only [he, Option.some.injEq, Prod.mk.injEq] at h
                exact .arr r0 c1 r1 p.1 hsk hq' hsk1 hc1 (by rw [he, ← h.2]) h.1.symm
        · simp only [h1, if_false] at h
          by_cases h2 : c = '{'
          · subst h2
            simp only [if_true] at h
            cases hsk1 : skipWs L.ws r0 with
            | nil => simp [hsk1] at h
            | cons c1 r1 =>
              simp only [hsk1] at h
              by_cases hc1 : c1 = '}'
              · subst hc1
                simp only [if_true, Option.some.injEq, Prod.mk.injEq] at h
                exact .objNil r0 hsk hq' (by rw [hsk1, h.2]) h.1.symm
              · simp only [hc1, if_false] at h
                cases hm : members L f (c1 :: r1) with
                | none => simp [hm] at h
                | some p =>
                  simp only [hm, Option.some.injEq, Prod.mk.injEq] at h
                  exact .obj r0 c1 r1 p.1 hsk hq' hsk1 hc1 (by rw [hm, ← h.2]) h.1.symm
          · simp only [h2, if_false] at h
            exact .leaf c r0 hsk hq' h1 h2 h
  · intro h
    cases h with
    | str c r0 cs hsk hq hstr ht => simp [value, hsk, hq, hstr, ht]
    | arrNil r0 hsk hq hsk1 ht => simp [value, hsk, hq, hsk1, ht]
    | arr r0 c1 r1 xs hsk hq hsk1 hc1 he ht => simp [value, hsk, hq, hsk1, hc1, he, ht]
    | objNil r0 hsk hq hsk1 ht => simp [value, hsk, hq, hsk1, ht]
    | obj r0 c1 r1 kvs hsk hq hsk1 hc1 hm ht => simp [value, hsk, hq, hsk1, hc1, hm, ht]
    | leaf c r0 hsk hq h1 h2 hl =>
      simp only [value, hsk, hq, Bool.false_eq_true, if_false, h1, h2]
      exact hl

/-- the ways in which `elements L (f + 1) s` answers `some (xs, r)` -/
inductive ElementsCase (L : Lex) (f : Nat) (s : List Char) (xs : List Json) (r : List Char) : Prop
  | last (x : Json) (r1 : List Char) : value L f s = some (x, r1) → skipWs L.ws r1 = ']' :: r → xs = [x] →
      ElementsCase L f s xs r
  | more (x : Json) (r1 r2 : List Char) (ys : List Json) : value L f s = some (x, r1) → skipWs L.ws r1 = ',' :: r2 →
      elements L f r2 = some (ys, r) → xs = x :: ys → ElementsCase L f s xs r

theorem elements_succ_iff {L : Lex} {f : Nat} {s : List Char} {xs : List Json} {r : List Char} :
    elements L (f + 1) s = some (xs, r) ↔ ElementsCase L f s xs r := by
  constructor
  · intro h
    simp only [elements] at h
    cases hv : value L f s with
    | none => simp [hv] at h
    | some p =>
      simp only [hv] at h
      cases hsk : skipWs L.ws p.2 with
      | nil => simp [hsk] at h
      | cons c r2 =>
        simp only [hsk] at h
        by_cases hc : c = ','
        · subst hc
          simp only [if_true] at h
          cases he : elements L f r2 with
          | none => simp [he] at h
          | some q =>
            simp only [he, Option.some.injEq, Prod.mk.injEq] at h
            exact .more p.1 p.2 r2 q.1 hv hsk (by rw [he, ← h.2]) h.1.symm
        · simp only [hc, if_false] at h
          by_cases hc' : c = ']'
          · subst hc'
            simp only [if_true, Option.some.injEq, Prod.mk.injEq] at h
            exact .last p.1 p.2 hv (by rw [hsk, h.2]) h.1.symm
          · simp [hc'] at h
  · intro h
    cases h with
    | last x r1 hv hsk hxs => simp [elements, hv, hsk, hxs]
    | more x r1 r2 ys hv hsk he hxs => simp [elements, hv, hsk, he, hxs]

/-- the ways in which `members L (f + 1) s` answers `some (kvs, r)`: `"k" : v` and then `}` or `,` and more members. One
    constructor, because the steps up to the delimiter `d` are the same for both endings and are argued about before the split -/
inductive MembersCase (L : Lex) (f : Nat) (s : List Char) (kvs : List (String × Json)) (r : List Char) : Prop
  | mk (q : Char) (r0 k r1 r2 : List Char) (v : Json) (r3 : List Char) (d : Char) (r4 : List Char)
      (first : skipWs L.ws s = q :: r0) (quote : L.quote q = true) (str : L.str q r0 = some (k, r1)) (key : L.key k = true)
      (colon : skipWs L.ws r1 = ':' :: r2) (val : value L f r2 = some (v, r3)) (delim : skipWs L.ws r3 = d :: r4)
      (ending : d = '}' ∧ kvs = [(String.ofList k, v)] ∧ r = r4 ∨
        d = ',' ∧ ∃ rest, members L f r4 = some (rest, r) ∧ kvs = (String.ofList k, v) :: rest) :
      MembersCase L f s kvs r

theorem members_succ_iff {L : Lex} {f : Nat} {s : List Char} {kvs : List (String × Json)} {r : List Char} :
    members L (f + 1) s = some (kvs, r) ↔ MembersCase L f s kvs r := by
  constructor
  · intro h
    simp only [members] at h
    cases hsk : skipWs L.ws s with
    | nil => simp [hsk] at h
    | cons q r0 =>
      simp only [hsk] at h
      by_cases hq : L.quote q = true
      · simp only [hq, if_true] at h
        cases hstr : L.str q r0 with
        | none => simp [hstr] at h
        | some p =>
          simp only [hstr] at h
          by_cases hk : L.key p.1 = true
          · simp only [hk, if_true] at h
            cases hsk1 : skipWs L.ws p.2 with
            | nil => simp [hsk1] at h
            | cons c r2 =>
              simp only [hsk1] at h
              by_cases hc : c = ':'
              · subst hc
                simp only [if_true] at h
                cases hv : value L f r2 with
                | none => simp [hv] at h
                | some pv =>
                  simp only [hv] at h
                  cases hsk3 : skipWs L.ws pv.2 with
                  | nil => simp [hsk3] at h
                  | cons d r4 =>
                    simp only [hsk3] at h
                    refine .mk q r0 p.1 p.2 r2 pv.1 pv.2 d r4 hsk hq hstr hk hsk1 hv hsk3 ?_
                    by_cases hd : d = ','
                    · subst hd
                      simp only [if_true] at h
                      cases hm : members L f r4 with
                      | none => simp [hm] at h
                      | some pm =>
                        simp only [hm, Option.some.injEq, Prod.mk.injEq] at h
                        exact .inr ⟨rfl, pm.1, by rw [← h.2], h.1.symm⟩
                    · simp only [hd, if_false] at h
                      by_cases hd' : d = '}'
                      · subst hd'
                        simp only [if_true, Option.some.injEq, Prod.mk.injEq] at h
                        exact .inl ⟨rfl, h.1.symm, h.2.symm⟩
                      · simp [hd'] at h
              · simp [hc] at h
          · simp [hk] at h
      · simp [hq] at h
  · rintro ⟨q, r0, k, r1, r2, v, r3, d, r4, hsk, hq, hstr, hk, hsk1, hv, hsk3, ⟨rfl, rfl, rfl⟩ | ⟨rfl, rest, hm, rfl⟩⟩
    · simp [members, hsk, hq, hstr, hk, hsk1, hv, hsk3]
    · simp [members, hsk, hq, hstr, hk, hsk1, hv, hsk3, hm]

end NitroVerif.JsonText
