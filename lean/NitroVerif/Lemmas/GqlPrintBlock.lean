import NitroVerif.Lemmas.BlockString
import NitroVerif.Model.JsTemplate
/-!
C16: `print_string` under the writer's indentation. The `SourceMapWriter` the GraphQL printer writes into indents every
non-empty line — also the continuation lines of a block string, and the closing `"""` when the string ends with a line feed.
Part A: what the writer makes of the block form still lexes as ONE block-string token; its raw value is the string with those
indentations added (`indentRaw`). Part B: `BlockStringValue` of that raw value is `BlockStringValue` of the string itself,
unconditionally: the common indentation grows by exactly the writer's indentation, lines the writer leaves empty stay empty, and
when every continuation line is blank they are all removed as trailing blank lines anyway.
-/
namespace NitroVerif.GqlPrint
open NitroVerif.GqlString NitroVerif.JsTemplate

def spaces (k : Nat) : List Char := List.replicate k ' '

/-- the indentation the writer flushes before a non-newline character -/
def pre (k : Nat) (fl : Bool) : List Char := if fl then spaces k else []

/-- what `JustWriter` (indentation `k`, `has_indent_flag = fl`) writes for the text `s` -/
def written (k : Nat) (fl : Bool) (s : List Char) : List Char := (writeChars false ⟨k, fl⟩ false s).1

/-- the raw content of the block string as it stands in the output: every non-empty continuation line is indented,
    and so is the closing delimiter when the string ends with a line feed -/
def indentRaw (k : Nat) : Bool → List Char → List Char
  | fl, [] => pre k fl
  | fl, c :: cs => if c = '\n' then '\n' :: indentRaw k true cs else pre k fl ++ c :: indentRaw k false cs

/-! ### the writer, character by character -/

theorem writeChars_dollar (st : WSt) (s : List Char) : ∀ d d', writeChars false st d s = writeChars false st d' s := by
  induction s generalizing st with
  | nil => intro d d'; rfl
  | cons c cs ih =>
    intro d d'
    simp only [writeChars, Bool.false_eq_true, if_false]

theorem pre_all (P : Char → Prop) (hsp : P ' ') (k : Nat) (fl : Bool) : ∀ x ∈ pre k fl, P x := by
  intro x hx
  unfold pre spaces at hx
  split at hx
  · rw [(List.mem_replicate.mp hx).2]; exact hsp
  · cases hx

theorem writeChars_all (P : Char → Prop) (hsp : P ' ') (s : List Char) (hs : ∀ c ∈ s, P c) : ∀ (st : WSt) (d : Bool),
    ∀ x ∈ (writeChars false st d s).1, P x := by
  induction s with
  | nil => intro st d x hx; cases hx
  | cons c cs ih =>
    intro st d x hx
    have hcs : ∀ y ∈ cs, P y := fun y hy => hs y (List.mem_cons_of_mem _ hy)
    simp only [writeChars] at hx
    split at hx
    · rename_i hc
      rcases List.mem_cons.mp hx with rfl | hx
      · exact hc ▸ hs c (List.mem_cons_self ..)
      · exact ih hcs _ _ x hx
    · simp only [Bool.false_eq_true, if_false, List.mem_append, List.mem_cons, List.mem_nil_iff, or_false] at hx
      rcases hx with (hx | rfl) | hx
      · exact pre_all P hsp st.indent st.flag x hx
      · exact hs x (List.mem_cons_self ..)
      · exact ih hcs _ _ x hx

theorem written_nil (k : Nat) (fl : Bool) : written k fl [] = [] := rfl

theorem written_nl (k : Nat) (fl : Bool) (T : List Char) : written k fl ('\n' :: T) = '\n' :: written k true T := by
  simp [written, writeChars]

theorem written_cons (k : Nat) (fl : Bool) (c : Char) (T : List Char) (hc : c ≠ '\n') :
    written k fl (c :: T) = pre k fl ++ c :: written k false T := by
  simp only [written, writeChars, hc, if_false, Bool.false_eq_true, pre, spaces]
  rw [writeChars_dollar _ T (c == '$') false]
  cases fl <;> simp

theorem written_quotes (k : Nat) (n : Nat) (T : List Char) :
    written k false (List.replicate n '"' ++ T) = List.replicate n '"' ++ written k false T := by
  induction n with
  | zero => simp
  | succ n ih =>
    simp only [List.replicate_succ, List.cons_append]
    rw [written_cons k false '"' _ (by decide), ih]
    simp [pre]

theorem written_quotes_flag (k : Nat) (fl : Bool) (n : Nat) (hn : 1 ≤ n) (T : List Char) :
    written k fl (List.replicate n '"' ++ T) = pre k fl ++ (List.replicate n '"' ++ written k false T) := by
  obtain ⟨m, rfl⟩ : ∃ m, n = m + 1 := ⟨n - 1, by omega⟩
  rw [List.replicate_succ, List.cons_append, written_cons k fl '"' _ (by decide), written_quotes]
  rfl

theorem written_no_nl (k : Nat) (T : List Char) (h : ∀ c ∈ T, c ≠ '\n') : written k false T = T := by
  induction T with
  | nil => rfl
  | cons c cs ih =>
    rw [written_cons k false c cs (h c (by simp)), ih (fun x hx => h x (by simp [hx]))]
    simp [pre]

theorem written_flag (k : Nat) (c : Char) (T : List Char) (hc : c ≠ '\n') :
    written k true (c :: T) = spaces k ++ written k false (c :: T) := by
  rw [written_cons k true c T hc, written_cons k false c T hc]
  simp [pre]

/-! ### `escTriple` against prefixes -/

theorem escTriple_cons_ne (n : Nat) (c : Char) (cs : List Char) (hc : c ≠ '"') :
    escTriple n (c :: cs) = List.replicate n '"' ++ c :: escTriple 0 cs := by
  simp [escTriple, hc]

theorem escTriple_spaces (k : Nat) (T : List Char) : escTriple 0 (spaces k ++ T) = spaces k ++ escTriple 0 T := by
  induction k with
  | zero => simp [spaces]
  | succ k ih =>
    simp only [spaces, List.replicate_succ, List.cons_append] at ih ⊢
    rw [escTriple_cons_ne 0 ' ' _ (by decide), ih]
    simp

theorem escTriple_pre (k : Nat) (fl : Bool) (T : List Char) : escTriple 0 (pre k fl ++ T) = pre k fl ++ escTriple 0 T := by
  cases fl
  · simp [pre]
  · simpa [pre] using escTriple_spaces k T

theorem escTriple_quotes (n : Nat) (hn : n ≤ 2) (T : List Char) :
    escTriple 0 (List.replicate n '"' ++ T) = escTriple n T := by
  match n, hn with
  | 0, _ => simp
  | 1, _ => simp [escTriple, List.replicate]
  | 2, _ => simp [escTriple, List.replicate]

theorem indentRaw_quotes_false (k : Nat) (n : Nat) (T : List Char) :
    indentRaw k false (List.replicate n '"' ++ T) = List.replicate n '"' ++ indentRaw k false T := by
  induction n with
  | zero => simp
  | succ n ih =>
    simp only [List.replicate_succ, List.cons_append, indentRaw, show ('"' = '\n') = False by decide, if_false, ih]
    simp [pre]

theorem indentRaw_quotes (k : Nat) (fl : Bool) (n : Nat) (hn : 1 ≤ n) (T : List Char) :
    indentRaw k fl (List.replicate n '"' ++ T) = pre k fl ++ (List.replicate n '"' ++ indentRaw k false T) := by
  obtain ⟨m, rfl⟩ : ∃ m, n = m + 1 := ⟨n - 1, by omega⟩
  simp only [List.replicate_succ, List.cons_append, indentRaw, show ('"' = '\n') = False by decide, if_false,
    indentRaw_quotes_false]

/-! ### Part A: the writer commutes with the escaping of `"""` -/

theorem written_escTriple (k : Nat) (s : List Char) : ∀ (n : Nat) (fl : Bool), n ≤ 2 →
    written k fl (escTriple n s ++ close3) = escTriple 0 (indentRaw k fl (List.replicate n '"' ++ s)) ++ close3 := by
  induction s with
  | nil =>
    -- both sides are the indentation followed by `n + 3` double quotes
    intro n fl hn
    have hR : indentRaw k fl (List.replicate n '"' ++ []) = pre k fl ++ (List.replicate n '"' ++ []) := by
      cases n with
      | zero => simp [indentRaw]
      | succ m => simpa [indentRaw, pre] using indentRaw_quotes k fl (m + 1) (by omega) []
    have hq : escTriple n [] ++ close3 = List.replicate (n + 3) '"' ++ [] := by
      rw [List.append_nil, ← List.replicate_append_replicate]
      rfl
    rw [hR, escTriple_pre, escTriple_quotes n hn, List.append_assoc, hq,
      written_quotes_flag k fl (n + 3) (by omega), written_nil]
  | cons c cs ih =>
    intro n fl hn
    by_cases hc : c = '"'
    · subst hc
      by_cases h3 : n + 1 = 3
      · have hn2 : n = 2 := by omega
        subst hn2
        have hrec := ih 0 false (by omega)
        simp only [List.replicate, List.nil_append] at hrec
        have hq := indentRaw_quotes k fl 3 (by omega) cs
        simp only [List.replicate, List.cons_append, List.nil_append] at hq ⊢
        rw [hq, escTriple_pre]
        simp only [escTriple, ne_eq, not_true_eq_false, if_false, if_true, List.cons_append, List.nil_append,
          List.append_assoc]
        rw [written_cons k fl '\\' _ (by decide), written_cons k false '"' _ (by decide),
          written_cons k false '"' _ (by decide), written_cons k false '"' _ (by decide), hrec]
        simp [pre]
      · have hrec := ih (n + 1) fl (by omega)
        simp only [escTriple, ne_eq, not_true_eq_false, if_false, h3]
        rw [hrec]
        congr 3
        rw [List.replicate_succ', List.append_assoc]; rfl
    · rw [escTriple_cons_ne n c cs hc]
      by_cases hnl : c = '\n'
      · subst hnl
        have hrec := ih 0 true (by omega)
        simp only [List.replicate, List.nil_append] at hrec
        match n, hn with
        | 0, _ =>
          simp only [List.replicate, List.nil_append, List.cons_append, indentRaw, if_true]
          rw [written_nl, hrec, escTriple_cons_ne 0 '\n' _ (by decide)]
          simp
        | n + 1, _ =>
          have hq := indentRaw_quotes k fl (n + 1) (by omega) ('\n' :: cs)
          rw [hq, escTriple_pre, escTriple_quotes (n + 1) (by omega)]
          simp only [indentRaw, if_true]
          rw [escTriple_cons_ne (n + 1) '\n' _ (by decide)]
          simp only [List.replicate_succ, List.cons_append, List.append_assoc]
          rw [written_cons k fl '"' _ (by decide), written_quotes, written_nl, hrec]
      · have hrec := ih 0 false (by omega)
        simp only [List.replicate, List.nil_append] at hrec
        match n, hn with
        | 0, _ =>
          simp only [List.replicate, List.nil_append, List.cons_append, indentRaw, hnl, if_false]
          rw [written_cons k fl c _ hnl, hrec, escTriple_pre, escTriple_cons_ne 0 c _ hc]
          simp
        | n + 1, _ =>
          have hq := indentRaw_quotes k fl (n + 1) (by omega) (c :: cs)
          rw [hq, escTriple_pre, escTriple_quotes (n + 1) (by omega)]
          simp only [indentRaw, hnl, if_false, pre, Bool.false_eq_true, List.nil_append]
          rw [escTriple_cons_ne (n + 1) c _ hc]
          simp only [List.replicate_succ, List.cons_append, List.append_assoc]
          rw [written_cons k fl '"' _ (by decide), written_quotes, written_cons k false c _ hnl, hrec]
          simp [pre]

/-! ### the indented raw value keeps the conditions under which the block form lexes back -/

theorem mem_indentRaw (k : Nat) (s : List Char) : ∀ fl, ∀ c ∈ indentRaw k fl s, c ∈ s ∨ c = ' ' := by
  induction s with
  | nil =>
    intro fl c hc
    cases fl
    · simp [indentRaw, pre] at hc
    · right; simp only [indentRaw, pre, spaces, if_true] at hc; exact (List.mem_replicate.mp hc).2
  | cons a as ih =>
    intro fl c hc
    simp only [indentRaw] at hc
    by_cases ha : a = '\n'
    · simp only [ha, if_true, List.mem_cons] at hc
      rcases hc with rfl | hc
      · left; simp [ha]
      · rcases ih true c hc with h | h
        · left; simp [h]
        · right; exact h
    · simp only [ha, if_false, List.mem_append, List.mem_cons] at hc
      rcases hc with hc | rfl | hc
      · right
        cases fl
        · simp [pre] at hc
        · simp only [pre, spaces, if_true] at hc; exact (List.mem_replicate.mp hc).2
      · left; simp
      · rcases ih false c hc with h | h
        · left; simp [h]
        · right; exact h

theorem lastOf_append_cons (d : Option Char) (A : List Char) (c : Char) (X : List Char) :
    lastOf d (A ++ c :: X) = lastOf (some c) X := by
  induction A generalizing d with
  | nil => rfl
  | cons a as ih => simp [lastOf, ih]

theorem lastOf_spaces (d : Option Char) (k : Nat) : lastOf d (spaces k) = d ∨ lastOf d (spaces k) = some ' ' := by
  cases k with
  | zero => left; rfl
  | succ k =>
    right
    have : spaces (k + 1) = spaces k ++ ' ' :: [] := by simp [spaces, List.replicate_succ']
    rw [this, lastOf_append_cons]
    rfl

theorem lastOf_indentRaw (k : Nat) (s : List Char) : ∀ (d : Option Char) (fl : Bool),
    lastOf d (indentRaw k fl s) = lastOf d s ∨ lastOf d (indentRaw k fl s) = some ' ' := by
  induction s with
  | nil =>
    intro d fl
    cases fl
    · left; rfl
    · simpa [indentRaw, pre, lastOf] using lastOf_spaces d k
  | cons a as ih =>
    intro d fl
    simp only [indentRaw]
    by_cases ha : a = '\n'
    · simp only [ha, if_true, lastOf]
      exact ih (some '\n') true
    · simp only [ha, if_false, lastOf_append_cons, lastOf]
      exact ih (some a) false

theorem endOK_indentRaw (k : Nat) (s : List Char) (h : endOK 0 s) : endOK 0 (indentRaw k false s) := by
  unfold endOK at h ⊢
  rcases lastOf_indentRaw k s (pending 0) false with e | e
  · rw [e]; exact h
  · rw [e]; exact ⟨by decide, by decide⟩

/-! ### Part B: `BlockStringValue` removes the writer's indentation -/

def firstL : List Char → List Char
  | [] => []
  | c :: cs => if c = '\n' then [] else c :: firstL cs

def restL : List Char → List (List Char)
  | [] => []
  | c :: cs => if c = '\n' then firstL cs :: restL cs else restL cs

theorem splitLinesAux_lines (s : List Char) (h : ∀ c ∈ s, c ≠ '\r') : ∀ cur,
    splitLinesAux false s cur = (cur.reverse ++ firstL s) :: restL s := by
  induction s with
  | nil => intro cur; simp [splitLinesAux, firstL, restL]
  | cons c cs ih =>
    intro cur
    have hc : c ≠ '\r' := h c (by simp)
    have hcs : ∀ x ∈ cs, x ≠ '\r' := fun x hx => h x (by simp [hx])
    unfold splitLinesAux
    by_cases h1 : c = '\n'
    · subst h1
      simp only [if_true, Bool.false_eq_true, if_false, firstL, restL, List.append_nil]
      rw [ih hcs []]
      simp
    · simp only [h1, hc, if_false, firstL, restL]
      rw [ih hcs (c :: cur)]
      simp

theorem splitLines_lines (s : List Char) (h : ∀ c ∈ s, c ≠ '\r') : splitLines s = firstL s :: restL s := by
  have := splitLinesAux_lines s h []
  simpa [splitLines] using this

theorem firstL_pre (k : Nat) (fl : Bool) (T : List Char) : firstL (pre k fl ++ T) = pre k fl ++ firstL T := by
  cases fl
  · simp [pre]
  · simp only [pre, if_true, spaces]
    induction k with
    | zero => simp
    | succ k ih => simp [List.replicate_succ, firstL, ih]

theorem restL_pre (k : Nat) (fl : Bool) (T : List Char) : restL (pre k fl ++ T) = restL T := by
  cases fl
  · simp [pre]
  · simp only [pre, if_true, spaces]
    induction k with
    | zero => simp
    | succ k ih => simp [List.replicate_succ, restL, ih]

theorem firstL_indentRaw_false (k : Nat) (s : List Char) : firstL (indentRaw k false s) = firstL s := by
  induction s with
  | nil => simp [indentRaw, pre, firstL]
  | cons c cs ih =>
    by_cases hc : c = '\n'
    · simp [indentRaw, hc, firstL]
    · simp [indentRaw, hc, firstL, pre, ih]

/-- a continuation line as the writer leaves it: indented, or — if the writer wrote nothing on it — still empty -/
def IndLine (k : Nat) (l l' : List Char) : Prop := l' = spaces k ++ l ∨ (l = [] ∧ l' = [])

theorem firstL_indentRaw_true (k : Nat) (s : List Char) : IndLine k (firstL s) (firstL (indentRaw k true s)) := by
  cases s with
  | nil => left; simp [indentRaw, pre, firstL, spaces]; induction k <;> simp_all [List.replicate_succ, firstL]
  | cons c cs =>
    by_cases hc : c = '\n'
    · right; simp [indentRaw, hc, firstL]
    · left
      simp only [indentRaw, hc, if_false, firstL]
      rw [firstL_pre]
      simp [firstL, hc, firstL_indentRaw_false, pre]

inductive IndLines (k : Nat) : List (List Char) → List (List Char) → Prop where
  | nil : IndLines k [] []
  | cons {l l' : List Char} {ls ls' : List (List Char)} : IndLine k l l' → IndLines k ls ls' →
      IndLines k (l :: ls) (l' :: ls')

theorem restL_indentRaw (k : Nat) (s : List Char) : ∀ fl, IndLines k (restL s) (restL (indentRaw k fl s)) := by
  induction s with
  | nil =>
    intro fl
    have : restL (indentRaw k fl []) = [] := by
      have := restL_pre k fl []
      simpa [indentRaw, restL] using this
    rw [this]; exact IndLines.nil
  | cons c cs ih =>
    intro fl
    by_cases hc : c = '\n'
    · simp only [indentRaw, hc, if_true, restL]
      exact IndLines.cons (firstL_indentRaw_true k cs) (ih true)
    · simp only [indentRaw, hc, if_false, restL]
      rw [restL_pre]
      simp only [restL, hc, if_false]
      exact ih false

theorem leadingWs_spaces (k : Nat) (l : List Char) : leadingWs (spaces k ++ l) = k + leadingWs l := by
  induction k with
  | zero => simp [spaces]
  | succ k ih =>
    simp only [spaces, List.replicate_succ, List.cons_append] at ih ⊢
    simp only [leadingWs, show isWs ' ' = true by decide, if_true, ih]
    omega

theorem drop_spaces (k n : Nat) (l : List Char) : (spaces k ++ l).drop (n + k) = l.drop n := by
  induction k with
  | zero => simp [spaces]
  | succ k ih =>
    simp only [spaces, List.replicate_succ, List.cons_append] at ih ⊢
    rw [show n + (k + 1) = (n + k) + 1 by omega, List.drop_succ_cons]
    exact ih

theorem commonIndent_ind (k : Nat) (L L' : List (List Char)) (h : IndLines k L L') :
    commonIndent L' = (commonIndent L).map (· + k) := by
  induction h with
  | nil => rfl
  | @cons l l' ls ls' hl _ ih =>
    rcases hl with rfl | ⟨rfl, rfl⟩
    · have e1 : leadingWs (spaces k ++ l) = k + leadingWs l := leadingWs_spaces k l
      have e2 : (spaces k ++ l).length = k + l.length := by simp [spaces]
      simp only [commonIndent, e1, e2, ih]
      by_cases hlt : leadingWs l < l.length
      · have : k + leadingWs l < k + l.length := by omega
        simp only [hlt, this, if_true]
        cases commonIndent ls with
        | none => simp; omega
        | some r => simp; omega
      · have : ¬ (k + leadingWs l < k + l.length) := by omega
        simp [hlt, this]
    · simp [commonIndent, leadingWs, ih]

theorem strip_ind (k n : Nat) (L L' : List (List Char)) (h : IndLines k L L') :
    L'.map (·.drop (n + k)) = L.map (·.drop n) := by
  induction h with
  | nil => rfl
  | cons hl _ ih =>
    rcases hl with rfl | ⟨rfl, rfl⟩
    · simp only [List.map_cons, drop_spaces, ih]
    · simp only [List.map_cons, List.drop_nil, ih]

theorem leadingWs_le (l : List Char) : leadingWs l ≤ l.length := by
  induction l with
  | nil => simp [leadingWs]
  | cons c cs ih => simp only [leadingWs]; split <;> simp <;> omega

theorem isBlank_of_leadingWs (l : List Char) (h : ¬ leadingWs l < l.length) : isBlank l = true := by
  induction l with
  | nil => rfl
  | cons c cs ih =>
    simp only [leadingWs] at h
    by_cases hw : isWs c = true
    · simp only [hw, if_true, List.length_cons] at h
      simp only [isBlank, List.all_cons, hw, Bool.true_and]
      exact ih (by omega)
    · simp [hw] at h

theorem allBlank_of_commonIndent_none (L : List (List Char)) (h : commonIndent L = none) :
    ∀ l ∈ L, isBlank l = true := by
  induction L with
  | nil => intro l hl; simp at hl
  | cons a as ih =>
    intro l hl
    simp only [commonIndent] at h
    by_cases hlt : leadingWs a < a.length
    · simp only [hlt, if_true] at h
      cases hc : commonIndent as <;> simp [hc] at h
    · simp only [hlt, if_false] at h
      rcases List.mem_cons.mp hl with rfl | hl
      · exact isBlank_of_leadingWs _ hlt
      · exact ih h l hl

theorem isBlank_spaces (k : Nat) (l : List Char) (h : isBlank l = true) : isBlank (spaces k ++ l) = true := by
  simp only [isBlank, List.all_append, Bool.and_eq_true] at h ⊢
  refine ⟨?_, h⟩
  simp [spaces, List.all_replicate]
  right; decide

theorem allBlank_ind (k : Nat) (L L' : List (List Char)) (h : IndLines k L L') (hb : ∀ l ∈ L, isBlank l = true) :
    ∀ l ∈ L', isBlank l = true := by
  induction h with
  | nil => intro l hl; simp at hl
  | @cons a a' as as' hl _ ih =>
    intro l hm
    rcases List.mem_cons.mp hm with rfl | hm
    · rcases hl with rfl | ⟨_, rfl⟩
      · exact isBlank_spaces k a (hb a (by simp))
      · rfl
    · exact ih (fun x hx => hb x (by simp [hx])) l hm

theorem dropLeadingBlank_allBlank (B Y : List (List Char)) (h : ∀ l ∈ B, isBlank l = true) :
    dropLeadingBlank (B ++ Y) = dropLeadingBlank Y := by
  induction B with
  | nil => rfl
  | cons b bs ih =>
    simp only [List.cons_append, dropLeadingBlank, h b (by simp), if_true]
    exact ih (fun x hx => h x (by simp [hx]))

theorem trim_allBlank (first : List Char) (X : List (List Char)) (h : ∀ l ∈ X, isBlank l = true) :
    dropTrailingBlank (dropLeadingBlank (first :: X)) = dropTrailingBlank (dropLeadingBlank [first]) := by
  by_cases hf : isBlank first = true
  · have := dropLeadingBlank_allBlank X [] h
    simp only [List.append_nil] at this
    simp [dropLeadingBlank, hf, this]
  · simp only [dropLeadingBlank, hf, Bool.false_eq_true, if_false]
    unfold dropTrailingBlank
    rw [List.reverse_cons, dropLeadingBlank_allBlank X.reverse [first] (fun l hl => h l (List.mem_reverse.mp hl))]
    simp

theorem blockValue_ind (k : Nat) (first : List Char) (L L' : List (List Char)) (h : IndLines k L L') :
    joinLines (dropTrailingBlank (dropLeadingBlank (first :: stripIndent (commonIndent L') L'))) =
      joinLines (dropTrailingBlank (dropLeadingBlank (first :: stripIndent (commonIndent L) L))) := by
  rw [commonIndent_ind k L L' h]
  cases hci : commonIndent L with
  | none =>
    simp only [Option.map_none, stripIndent]
    have hb := allBlank_of_commonIndent_none L hci
    rw [trim_allBlank first L hb, trim_allBlank first L' (allBlank_ind k L L' h hb)]
  | some n =>
    simp only [Option.map_some, stripIndent]
    rw [strip_ind k n L L' h]

theorem blockStringValue_indentRaw (k : Nat) (s : List Char) (hcr : ∀ c ∈ s, c ≠ '\r') :
    blockStringValue (indentRaw k false s) = blockStringValue s := by
  have hcr' : ∀ c ∈ indentRaw k false s, c ≠ '\r' := by
    intro c hc
    rcases mem_indentRaw k s false c hc with h | h
    · exact hcr c h
    · rw [h]; decide
  unfold blockStringValue
  rw [splitLines_lines _ hcr', splitLines_lines _ hcr, firstL_indentRaw_false]
  exact blockValue_ind k (firstL s) (restL s) _ (restL_indentRaw k s false)

end NitroVerif.GqlPrint
