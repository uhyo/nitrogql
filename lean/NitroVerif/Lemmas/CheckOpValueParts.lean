import NitroVerif.Lemmas.CheckOpArgs
import NitroVerif.Lemmas.IntLit
import NitroVerif.Lemmas.CheckOpIteChain
/-!
The parts of `check_value`: the validator's and the model's type helpers agree, the variable case against
`IsVariableUsageAllowed` (`varCheck_some`), the counting test of an object literal (`objResult_quiet`, with `full_count`),
and leaf literals against a named type as one equivalence (`scalar_table`, `namedLeaf_quiet_iff`).
-/
namespace NitroVerif.CheckOp
open NitroVerif.Gql NitroVerif.CheckCommon NitroVerif.Valid

theorem stripNonNull_eq (t : GType) : Valid.stripNonNull t = CheckCommon.stripNonNull t := by
  induction t with
  | named n p | list t p _ => rfl
  | nonNull t ih => simp only [Valid.stripNonNull, CheckCommon.stripNonNull, ih]

theorem stripNonNull_unwrapped (t : GType) : (CheckCommon.stripNonNull t).unwrapped = t.unwrapped := by
  induction t with
  | named n p | list t p _ => rfl
  | nonNull t ih => simpa [CheckCommon.stripNonNull, GType.unwrapped] using ih

theorem stripNonNull_not_nonNull (t : GType) : ∀ x, CheckCommon.stripNonNull t ≠ .nonNull x := by
  induction t with
  | named n p | list t p _ => intro x h; cases h
  | nonNull t ih => intro x; simpa [CheckCommon.stripNonNull] using ih x

theorem typeCompat_eq : ∀ (v e : GType), typeCompat v e = areTypesCompatible v e := by
  intro v
  induction v with
  | named n p =>
    intro e
    cases e with
    | named m q =>
      simp only [typeCompat, areTypesCompatible]
      rw [Bool.eq_iff_iff]; simp only [beq_iff_eq]; exact eq_comm
    | list e q | nonNull e => rfl
  | list v p ih =>
    intro e
    cases e with
    | named m q => rfl
    | list e q => simp only [typeCompat, areTypesCompatible]; exact ih e
    | nonNull e => rfl
  | nonNull v ih =>
    intro e
    cases e with
    | named m q | list e q | nonNull e => simp only [typeCompat, areTypesCompatible]; exact ih _

theorem hasNonNullDefault_eq (d : VarDef) : hasNonNullDefault d = hasNonNullVariableDefault d := by
  unfold hasNonNullDefault hasNonNullVariableDefault
  cases d.default with
  | none => rfl
  | some dv => cases dv <;> rfl

/-- the variable case of `check_value_at` on a defined variable is the specification's `IsVariableUsageAllowed` -/
theorem varCheck_some {vars : Option (List VarDef)} {n : Name} {d : VarDef} (hv : varDef? (vars.getD []) n = some d)
    (p : Pos) (t : GType) (ld : Bool) :
    varCheck vars n p t ld = if usageAllowed d ⟨n, p, t, ld⟩ then [] else [(ErrKind.TypeMismatch, p)] := by
  unfold varCheck usageAllowed
  simp only [hv, typeCompat_eq, hasNonNullDefault_eq]
  cases t with
  | named m q | list e q => cases d.ty <;> rfl
  | nonNull inner =>
    cases hty : d.ty with
    | nonNull x => simp [GType.isNonNull]
    | named m q | list e q =>
      simp only [GType.isNonNull, Bool.not_false, if_true]
      cases hasNonNullVariableDefault d <;> cases ld <;> simp

theorem varCheck_quiet {A : ErrKind → Bool} (hA : Admissible A) {vars : Option (List VarDef)} {n : Name} {p : Pos}
    {t : GType} {ld : Bool} (h : Quiet A (varCheck vars n p t ld)) (hUV : A ErrKind.UnknownVariable = false) :
    ∃ vd, varDef? (vars.getD []) n = some vd ∧ usageAllowed vd ⟨n, p, t, ld⟩ = true := by
  cases hv : varDef? (vars.getD []) n with
  | none =>
    unfold varCheck at h
    simp only [hv] at h
    rw [quiet_single, hUV] at h; cases h
  | some d =>
    rw [varCheck_some hv] at h
    exact ⟨d, rfl, (quiet_ite_prop (hA _ (by decide : ErrKind.TypeMismatch ≠ ErrKind.UnknownVariable))).mp h⟩

theorem exists_dup {N : List Name} (h : nodupB N = false) : ∃ a y b, N = a ++ y :: b ∧ y ∈ b := by
  induction N with
  | nil => simp [nodupB] at h
  | cons y N' ih =>
    simp only [nodupB, Bool.and_eq_false_iff, Bool.not_eq_false'] at h
    rcases h with h | h
    · exact ⟨[], y, N', rfl, by simpa using h⟩
    · obtain ⟨a, z, b, hN, hz⟩ := ih h
      exact ⟨y :: a, z, b, by simp [hN], hz⟩

/-- if as many names of the duplicate-free `L` occur in `N` as `N` is long, then `N` is duplicate-free and
    contained in `L` (the `seen_fields < value.fields.len()` test of the input-object case) -/
theorem full_count {L N : List Name} (hL : nodupB L = true)
    (h : ¬ (L.filter (fun x => N.contains x)).length < N.length) :
    nodupB N = true ∧ ∀ y ∈ N, L.contains y = true := by
  have h1 := matched_le hL N
  have hsub : ∀ y ∈ N, L.contains y = true := by
    intro y hy
    cases hc : L.contains y with
    | true => rfl
    | false =>
      exfalso
      have h2 : (N.filter fun y => L.contains y).length < N.length :=
        List.length_filter_lt_length_iff_exists.mpr ⟨y, hy, by rw [hc]; decide⟩
      omega
  refine ⟨?_, hsub⟩
  cases hnd : nodupB N with
  | true => rfl
  | false =>
    exfalso
    obtain ⟨a, y, b, hN, hy⟩ := exists_dup hnd
    have hsame : L.filter (fun x => N.contains x) = L.filter (fun x => (a ++ b).contains x) := by
      apply List.filter_congr
      intro x _
      rw [hN, Bool.eq_iff_iff]
      simp only [List.contains_iff_mem, List.mem_append, List.mem_cons]
      constructor
      · rintro (h | rfl | h)
        · exact Or.inl h
        · exact Or.inr hy
        · exact Or.inr h
      · rintro (h | h)
        · exact Or.inl h
        · exact Or.inr (Or.inr h)
    have h4 := matched_le hL (a ++ b)
    have h5 : ((a ++ b).filter (fun y => L.contains y)).length ≤ (a ++ b).length := List.length_filter_le _ _
    rw [hsame] at h
    have : N.length = (a ++ b).length + 1 := by rw [hN]; simp; omega
    omega

theorem lookupField_eq_find (S : Schema) (vars : Option (List VarDef)) (n : Name) (t : GType) (ld : Bool) :
    ∀ (fs : List (Name × Pos × Value)),
      lookupField S vars fs n t ld = (fs.find? (·.1 == n)).map fun f => checkValue S vars f.2.2 t ld := by
  intro fs
  induction fs with
  | nil => rfl
  | cons f fs ih =>
    obtain ⟨k, p, v⟩ := f
    simp only [lookupField, List.find?_cons]
    rw [show ((k, p, v).1 == n) = (n == k) from BEq.comm]
    cases n == k with
    | true => rfl
    | false => exact ih

theorem lookupField_isSome (S : Schema) (vars : Option (List VarDef)) (n : Name) (t : GType) (ld : Bool)
    (fs : List (Name × Pos × Value)) : (lookupField S vars fs n t ld).isSome = (fs.map (·.1)).contains n := by
  rw [lookupField_eq_find, Option.isSome_map, Bool.eq_iff_iff]
  simp

theorem lookupField_of_mem (S : Schema) (vars : Option (List VarDef)) (t : GType) (ld : Bool)
    (fs : List (Name × Pos × Value)) (hnd : nodupB (fs.map (·.1)) = true) (k : Name) (p : Pos) (v : Value)
    (hm : (k, p, v) ∈ fs) : lookupField S vars fs k t ld = some (checkValue S vars v t ld) := by
  rw [lookupField_eq_find, find?_key_of_nodup (·.1) ((nodupB_iff_nodup _).mp hnd) hm]
  rfl

theorem fieldOutcome_seen (S : Schema) (vars : Option (List VarDef)) (fs : List (Name × Pos × Value)) (d : InputValueDef) :
    (fieldOutcome (lookupField S vars fs d.name d.ty d.default.isSome) d).seen = (fs.map (·.1)).contains d.name := by
  rw [← lookupField_isSome S vars d.name d.ty d.default.isSome fs]
  unfold fieldOutcome
  cases lookupField S vars fs d.name d.ty d.default.isSome with
  | none => simp only [Option.isSome_none]; split <;> rfl
  | some ds => rfl

theorem fieldOutcome_ok (S : Schema) (vars : Option (List VarDef)) (fs : List (Name × Pos × Value)) (d : InputValueDef) :
    (fieldOutcome (lookupField S vars fs d.name d.ty d.default.isSome) d).ok =
      (!(d.ty.isNonNull && d.default.isNone) || (fs.map (·.1)).contains d.name) := by
  rw [← lookupField_isSome S vars d.name d.ty d.default.isSome fs]
  unfold fieldOutcome
  cases lookupField S vars fs d.name d.ty d.default.isSome with
  | none => cases (d.ty.isNonNull && d.default.isNone) <;> rfl
  | some ds => simp

/-- `seen_fields`: the expected fields whose name is a key of the literal -/
theorem seenOutcomes_length (S : Schema) (vars : Option (List VarDef)) (fs : List (Name × Pos × Value))
    (inputs : List InputValueDef) :
    ((inputs.map fun f => fieldOutcome (lookupField S vars fs f.name f.ty f.default.isSome) f).filter (·.seen)).length
      = ((inputs.map (·.name)).filter (fun x => (fs.map (·.1)).contains x)).length := by
  rw [List.filter_map, List.length_map, List.filter_map, List.length_map]
  congr 1
  exact List.filter_congr fun d _ => fieldOutcome_seen S vars fs d

theorem objResult_quiet {A : ErrKind → Bool} (hA : Admissible A) {S : Schema} {vars : Option (List VarDef)}
    {fs : List (Name × Pos × Value)} {inputs : List InputValueDef} {p : Pos}
    (hU : nodupB (inputs.map (·.name)) = true)
    (h : Quiet A (objResult (inputs.map fun f => fieldOutcome (lookupField S vars fs f.name f.ty f.default.isSome) f) fs.length p)) :
    nodupB (fs.map (·.1)) = true ∧
    (∀ f ∈ fs, inputs.any (·.name == f.1) = true) ∧
    (∀ d ∈ inputs, (d.ty.isNonNull && d.default.isNone) = true → fs.any (·.1 == d.name) = true) ∧
    (∀ k p' v, (k, p', v) ∈ fs → ∀ d ∈ inputs, d.name = k → Quiet A (checkValue S vars v d.ty d.default.isSome)) := by
  unfold objResult at h
  rw [quiet_append] at h
  obtain ⟨hds, hres⟩ := h
  have hk := hA _ (by decide : ErrKind.TypeMismatch ≠ ErrKind.UnknownVariable)
  have hres := (quiet_ite_prop hk).mp hres
  rw [Bool.and_eq_true] at hres
  obtain ⟨hok, hseen⟩ := hres
  have hseen' : ¬ ((inputs.map (·.name)).filter (fun x => (fs.map (·.1)).contains x)).length < (fs.map (·.1)).length := by
    rw [seenOutcomes_length] at hseen
    simpa using hseen
  obtain ⟨hnd, hsub⟩ := full_count hU hseen'
  refine ⟨hnd, ?_, ?_, ?_⟩
  · intro f hf
    have := hsub f.1 (List.mem_map.mpr ⟨f, hf, rfl⟩)
    have : f.1 ∈ inputs.map (·.name) := by simpa using this
    obtain ⟨d, hd, hdn⟩ := List.mem_map.mp this
    exact List.any_eq_true.mpr ⟨d, hd, by simp [hdn]⟩
  · intro d hd hreq
    have := List.all_eq_true.mp hok _ (List.mem_map.mpr ⟨d, hd, rfl⟩)
    rw [fieldOutcome_ok, hreq] at this
    obtain ⟨f, hf, hfn⟩ := List.mem_map.mp (by simpa using this : d.name ∈ fs.map (·.1))
    exact List.any_eq_true.mpr ⟨f, hf, by simp [hfn]⟩
  · intro k p' v hmem d hd hdk
    have := quiet_flatMap.mp hds _ (List.mem_map.mpr ⟨d, hd, rfl⟩)
    rw [hdk, lookupField_of_mem S vars d.ty d.default.isSome fs hnd k p' v hmem] at this
    simpa [fieldOutcome] using this

theorem scalarAccepts_null (n : Name) (p : Pos) : scalarAccepts n (.null p) = true :=
  ite_chain_true ..

theorem scalarAccepts_list (n : Name) (vs : List Value) (p : Pos) :
    scalarAccepts n (.list vs p) = !isBuiltinScalar n :=
  ite_chain_false ..

theorem scalarAccepts_obj (n : Name) (fs : List (Name × Pos × Value)) (p : Pos) :
    scalarAccepts n (.obj fs p) = !isBuiltinScalar n :=
  ite_chain_false ..

theorem leafCompat_nonleaf {td : TypeDef} {v : Value}
    (hv : (∃ vs p, v = .list vs p) ∨ (∃ fs p, v = .obj fs p ∧ (td.kind == TypeKind.input) = false)) :
    leafCompat v td = ([], td.kind == .scalar && !isBuiltinScalar td.name) := by
  unfold leafCompat
  rcases hv with ⟨vs, p, rfl⟩ | ⟨fs, p, rfl, hni⟩
  · cases td.kind <;> simp +decide [scalarAccepts_list]
  · cases hk : td.kind <;> simp +decide [hk, scalarAccepts_obj] at hni ⊢

def Value.isLeafLit : Value → Bool
  | .int .. | .float .. | .str .. | .bool .. | .enum .. => true
  | _ => false

theorem scalar_table : ∀ (n : Name) (v : Value), Value.isLeafLit v = true →
    scalarAccepts n v =
      (if n == "Int" then (match v with | .int s _ => SpecInt.intTextInRange s | _ => false)
       else if n == "Float" then (match v with | .int .. => true | .float .. => true | _ => false)
       else if n == "String" then (match v with | .str .. => true | _ => false)
       else if n == "Boolean" then (match v with | .bool .. => true | _ => false)
       else if n == "ID" then (match v with | .str .. => true | .int .. => true | _ => false)
       else true) := by
  intro n v hv
  -- the model tests `Boolean` first, the specification's table fourth
  unfold scalarAccepts
  cases v with
  | int s p => simp only [IntLit.intLiteralFitsI32_eq]; exact ite_chain_move _ _ _ _ _ _ _ _ _ boolean_excludes
  | float s p | str s p | bool b p | enum m p => exact ite_chain_move _ _ _ _ _ _ _ _ _ boolean_excludes
  | null p | var n p | list vs p | obj fs p => cases hv

/-- on a leaf literal `namedLeaf` is the specification's input coercion to the named type -/
theorem namedLeaf_quiet_iff {A : ErrKind → Bool} (hA : Admissible A) {S : Schema} {v : Value} {n : Name} {np : Pos}
    (hv : Value.isLeafLit v = true) : Quiet A (namedLeaf S v n np) ↔ leafCoercible S v n = true := by
  have hTM := hA _ (by decide : ErrKind.TypeMismatch ≠ ErrKind.UnknownVariable)
  unfold namedLeaf leafCoercible
  cases ht : S.typeDef? n with
  | none => simp [quiet_single, hA _ (by decide : ErrKind.TypeSystemError ≠ ErrKind.UnknownVariable)]
  | some td =>
    simp only [quiet_append, quiet_ite_prop hTM]
    unfold leafCompat
    cases hk : td.kind with
    | scalar => simp only [Schema.typeDef?_name ht, scalar_table n v hv, quiet_nil, true_and]; exact Iff.rfl
    | object | interface | union => simp
    | input => cases v <;> simp [Value.isLeafLit] at hv <;> simp
    | enum =>
      cases v <;> simp [Value.isLeafLit] at hv <;> try (simp; done)
      rename_i m p
      -- the model reports a member that all values differ from, the specification asks for one that matches
      have hEM := hA _ (by decide : ErrKind.UnknownEnumMember ≠ ErrKind.UnknownVariable)
      have hall : td.values.all (·.name != m) = !td.values.any (·.name == m) := by
        rw [List.not_any_eq_all_not]; rfl
      simp only [hall, and_true]
      cases td.values.any (·.name == m) <;> simp [quiet_single, hEM, quiet_nil]

end NitroVerif.CheckOp
