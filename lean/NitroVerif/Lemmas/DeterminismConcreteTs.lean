/-
The type-system checker model `CheckTs.checkSchema` consults the document only through the lookups `typeDef?` /
`directiveDef?` (first definition wins), `lastTypeDef?` / `lastDirectiveDef?` (last definition wins) and the number of
definitions (fuel of the directive-recursion search). Congruence of every function of `Model/CheckTsCommon.lean` +
`Model/CheckTs.lean` under "the lookups agree" (`SameView`, in `Lemmas/Determinism.lean`; `SameDefMap`, here); the
checks of values, arguments and directives are the operation checker's (`Lemmas/CheckCommonBridge.lean`) and take
their congruences from `DeterminismConcreteOp.lean`.
-/
import NitroVerif.Lemmas.DeterminismConcreteOp
import NitroVerif.Lemmas.CheckCommonBridge
namespace NitroVerif.Determinism
open NitroVerif.Gql NitroVerif.CheckTs

section ts
variable {S S' : Schema}

theorem isSubtype_congr (h : SameView S S') (a b : GType) : isSubtype S a b = isSubtype S' a b := by
  induction a generalizing b with
  | named tn p => cases b <;> simp only [isSubtype, h.ty]
  | list t p ih => cases b <;> simp only [isSubtype, ih]
  | nonNull t ih => cases b <;> simp only [isSubtype, ih]

theorem checkValue_congr (h : SameView S S') (v : Value) (ty : GType) : checkValue S v ty = checkValue S' v ty := by
  rw [CheckCommon.checkValue_bridge S v ty false, CheckCommon.checkValue_bridge S' v ty false, common_checkValue_congr h]

theorem checkArguments_congr (h : SameView S S') (p : Pos) (args : List Arg) (defs : List InputValueDef) :
    checkArguments S p args defs = checkArguments S' p args defs := by
  rw [CheckCommon.checkArguments_bridge, CheckCommon.checkArguments_bridge, common_checkArguments_congr h]

theorem checkDirectives_congr (h : SameView S S') (loc : String) (ds : List Directive) :
    checkDirectives S loc ds = checkDirectives S' loc ds := by
  rw [CheckCommon.checkDirectives_bridge, CheckCommon.checkDirectives_bridge, common_checkDirectives_congr h]

theorem checkValidImpl_congr (h : SameView S S') (np : Pos) (fields : List FieldDef) (impl : List (Name × Pos))
    (iface : TypeDef) : checkValidImpl S np fields impl iface = checkValidImpl S' np fields impl iface := by
  unfold checkValidImpl
  simp only [isSubtype_congr h]

theorem checkInputValueType_congr (h : SameView S S') (ty : GType) :
    checkInputValueType S ty = checkInputValueType S' ty := by
  unfold checkInputValueType
  rw [h.kind]

theorem checkArgsDef_congr (h : SameView S S') (args : List InputValueDef) :
    checkArgsDef S args = checkArgsDef S' args := by
  unfold checkArgsDef
  simp only [checkInputValueType_congr h, checkDirectives_congr h]

end ts

/-- what the checker reads of the raw document `T` besides the schema view: the last-wins lookups of the
    `DefinitionMap` and the number of definitions (fuel bound of the directive-recursion search) -/
structure SameDefMap (T T' : TsDoc) : Prop where
  ty : ∀ n, lastTypeDef? T n = lastTypeDef? T' n
  dir : ∀ n, lastDirectiveDef? T n = lastDirectiveDef? T' n
  len : T.length = T'.length

section doc
variable {T T' : TsDoc} {S S' : Schema}

theorem ditFields_congr (hT : SameDefMap T T') {go go' : TypeDef → List Name → List Directive × List Name}
    (h : ∀ t seen, go t seen = go' t seen) : ∀ (fs : List InputValueDef) (seen : List Name),
    ditFields T go fs seen = ditFields T' go' fs seen
  | [], _ => rfl
  | f :: fs, seen => by
    simp only [ditFields, ← hT.ty]
    cases lastTypeDef? T f.ty.unwrapped with
    | none => exact ditFields_congr hT h fs seen
    | some ft => simp only [h, ditFields_congr hT h fs]

theorem ditWalk_congr (hT : SameDefMap T T') : ∀ (fuel : Nat) (t : TypeDef) (seen : List Name),
    ditWalk T fuel t seen = ditWalk T' fuel t seen
  | 0, _, _ => rfl
  | fuel + 1, t, seen => by
    simp only [ditWalk]
    rw [ditFields_congr hT (ditWalk_congr hT fuel)]

theorem directivesInType_congr (hT : SameDefMap T T') (t : TypeDef) : directivesInType T t = directivesInType T' t := by
  unfold directivesInType
  rw [hT.len, ditWalk_congr hT]

theorem dirSuccessors_congr (hT : SameDefMap T T') (d : DirectiveDef) : dirSuccessors T d = dirSuccessors T' d := by
  unfold dirSuccessors
  simp only [hT.ty, hT.dir, directivesInType_congr hT]

theorem recRound_congr (hT : SameDefMap T T') (start : Name) (seen : List Name) (ds : List DirectiveDef) :
    recRound T start seen ds = recRound T' start seen ds := by
  induction ds generalizing seen with
  | nil => rfl
  | cons d ds ih => simp only [recRound, ih, dirSuccessors_congr hT]

theorem recLoop_congr (hT : SameDefMap T T') (start : Name) (fuel : Nat) (seen : List Name) (cur : List DirectiveDef) :
    recLoop T start fuel seen cur = recLoop T' start fuel seen cur := by
  induction fuel generalizing seen cur with
  | zero => rfl
  | succ n ih => simp only [recLoop, recRound_congr hT, ih]

theorem checkDirectiveRecursion_congr (hT : SameDefMap T T') (d : DirectiveDef) :
    checkDirectiveRecursion T d = checkDirectiveRecursion T' d := by
  unfold checkDirectiveRecursion
  rw [hT.len, recLoop_congr hT]

theorem checkTypeDef_congr (hT : SameDefMap T T') (h : SameView S S') (t : TypeDef) :
    checkTypeDef T S t = checkTypeDef T' S' t := by
  unfold checkTypeDef checkFields checkOutputFieldType checkEnumValues checkInputFields checkObjectImplements
    checkInterfaceImplements checkUnionMembers
  simp only [h.kind, hT.ty, checkDirectives_congr h, checkArgsDef_congr h, checkInputValueType_congr h,
    checkValidImpl_congr h]

theorem checkDirectiveDef_congr (hT : SameDefMap T T') (h : SameView S S') (d : DirectiveDef) :
    checkDirectiveDef T S d = checkDirectiveDef T' S' d := by
  unfold checkDirectiveDef
  rw [checkDirectiveRecursion_congr hT, checkArgsDef_congr h]

theorem checkItem_congr (hT : SameDefMap T T') (h : SameView S S') (x : TsItem) :
    checkItem T S x = checkItem T' S' x := by
  cases x with
  | schemaDef s => simp only [checkItem, checkSchemaDef, checkDirectives_congr h]
  | typeDef t => simp only [checkItem, checkTypeDef_congr hT h]
  | directiveDef d => simp only [checkItem, checkDirectiveDef_congr hT h]
  | schemaExt _ => rfl
  | typeExt _ => rfl

end doc

theorem lastTypeDef?_eq_typeDef? {T : TsDoc} (nd : NoDupTypeNames T) (n : Name) :
    lastTypeDef? T n = (Schema.mk T).typeDef? n :=
  find?_key_reverse (fun t : TypeDef => t.name) nd n

/-- the relative order of the definitions of every directive name is the same in both documents (what reordering
    SOURCE text can do to a re-declared built-in directive: the user's definition stays before the built-in one) -/
def KeepsDirectiveOrder (T T' : TsDoc) : Prop :=
  ∀ n : Name, (Schema.mk T).directiveDefs.filter (·.name == n) = (Schema.mk T').directiveDefs.filter (·.name == n)

theorem KeepsDirectiveOrder.symm {T T' : TsDoc} (h : KeepsDirectiveOrder T T') : KeepsDirectiveOrder T' T :=
  fun n => (h n).symm

theorem keepsDirectiveOrder_of_noDup {T T' : TsDoc} (h : T.Perm T') (ndd : NoDupDirectiveNames T) :
    KeepsDirectiveOrder T T' := fun n =>
  eq_of_perm_of_length_le_one ((directiveDefs_perm h).filter _)
    (filter_length_le_one_of_nodup (fun d : DirectiveDef => d.name) ndd n)

theorem sameView_of_keeps {T T' : TsDoc} (h : T.Perm T') (ndt : NoDupTypeNames T) (hk : KeepsDirectiveOrder T T') :
    SameView ⟨T⟩ ⟨T'⟩ :=
  ⟨find?_key_perm TypeDef.name (typeDefs_perm h) ndt,
   fun n => by
     unfold Schema.directiveDef?
     rw [← List.head?_filter, ← List.head?_filter, hk n]⟩

theorem sameDefMap_of_keeps {T T' : TsDoc} (h : T.Perm T') (ndt : NoDupTypeNames T) (hk : KeepsDirectiveOrder T T') :
    SameDefMap T T' := by
  have hv := sameView_of_keeps h ndt hk
  refine ⟨fun n => ?_, fun n => ?_, h.length_eq⟩
  · rw [lastTypeDef?_eq_typeDef? ndt, lastTypeDef?_eq_typeDef? (ndt.perm h), hv.ty]
  · unfold lastDirectiveDef?
    rw [← List.head?_filter, ← List.head?_filter, List.filter_reverse, List.filter_reverse, hk n]

theorem checkItem_keeps {T T' : TsDoc} (h : T.Perm T') (ndt : NoDupTypeNames T) (hk : KeepsDirectiveOrder T T') :
    checkItem T ⟨T⟩ = checkItem T' ⟨T'⟩ :=
  funext fun x => checkItem_congr (sameDefMap_of_keeps h ndt hk) (sameView_of_keeps h ndt hk) x

theorem checkItem_perm {T T' : TsDoc} (h : T.Perm T') (ndt : NoDupTypeNames T) (ndd : NoDupDirectiveNames T) :
    checkItem T ⟨T⟩ = checkItem T' ⟨T'⟩ :=
  checkItem_keeps h ndt (keepsDirectiveOrder_of_noDup h ndd)

end NitroVerif.Determinism
