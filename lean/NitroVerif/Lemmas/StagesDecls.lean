/-
C08 (stages after parsing), part: the schema / resolver declaration printers
(`schema_type_printer/{type_printer,context}.rs`, `resolver_type_printer/printer.rs`).

`Model/SchemaDecls.lean` (C09/C10) does NOT represent the panic sites of these printers (its header: "where the Rust
code would panic the model uses `localName` of the name; a checked schema has no such reference").  The sites are:

  S1  `context.local_type_names.get(n).expect("Local type name not generated")` — `local_type_names` has exactly the names
      of the document's type definitions (`make_local_type_names`).  `n` is (a) the printed definition's own name, (b) the
      name of an implementing object type found by `interface_implementers` — both are names of definitions by
      construction —, (c) the innermost named type of an object field or input-object field, (d) a union member.
  S2  `schema.get_type(self.name).and_then(as_input_object).and_then(fields.find(field.name)).expect("Type system error")`
      (input objects): the FIRST definition named like the printed input object must be an input object with that field.
  S3  `ts_types.get(def.name()).unwrap()` in resolver_type_printer: `ts_types` is built from the same definitions.
  S4  the two slices `&value[start_index..index]` of `get_bag_of_identifiers`: both indices come from `char_indices`.

This file TRANSCRIBES S1(c,d) and S2 as predicates on the resolved document (`declLookups`, `inputSelfLookupOk`) — a hand
transcription, not tied to the code by a K stream — and proves: where every type referred to is defined (`knownTypeRefs`,
which the schema checker establishes) every looked-up name is defined; with unique type names S2 succeeds.  Unique type
names across kinds are what `check_unique_names` (fix 8cdbacf) makes the schema checker establish:
`C08.uniqueTypeNames_of_checked`, Props/C08Stages.lean, where `type A … input A …` is the witness of the panic without it.
-/
import NitroVerif.Lemmas.CheckTs
import NitroVerif.Lemmas.ListFacts
namespace NitroVerif.Stages
open NitroVerif.Gql NitroVerif.CheckTs NitroVerif.ValidTs

/-- S1(c,d): the names handed to `local_type_names.get` that are not names of definitions by construction -/
def declLookups (T : TsDoc) : List Name :=
  (typeDefs T).flatMap fun td =>
    match td.kind with
    | .object => td.fields.map (·.ty.unwrapped)
    | .input => td.inputs.map (·.ty.unwrapped)
    | .union => td.members.map (·.1)
    | _ => []

/-- the keys of `local_type_names` -/
def declKeys (T : TsDoc) : List Name := (typeDefs T).map (·.name)

/-- S2 for one input-object definition `td`: `schema.get_type(td.name)` (first definition of the name) is an input object
    that has every field of `td` -/
def inputSelfLookupOk (T : TsDoc) (td : TypeDef) : Bool :=
  td.kind != .input || td.inputs.all fun f =>
    match Schema.typeDef? ⟨T⟩ td.name with
    | some sd => sd.kind == .input && (sd.inputs.find? (·.name == f.name)).isSome
    | none => false

theorem known_mem_keys {T : TsDoc} {n : Name} (h : known ⟨T⟩ n = true) : n ∈ declKeys T := by
  unfold known at h
  cases ht : Schema.typeDef? ⟨T⟩ n with
  | none => rw [ht] at h; cases h
  | some d =>
    have hm := List.mem_of_find?_eq_some ht
    have hn : d.name = n := by simpa using List.find?_some ht
    exact List.mem_map.mpr ⟨d, hm, hn⟩

theorem declLookups_known {T : TsDoc} (h : knownTypeRefs T = true) : ∀ n ∈ declLookups T, n ∈ declKeys T := by
  simp only [knownTypeRefs, Bool.and_eq_true, List.all_eq_true] at h
  intro n hn
  simp only [declLookups, List.mem_flatMap] at hn
  obtain ⟨td, htd, hn⟩ := hn
  apply known_mem_keys
  cases hk : td.kind with
  | object =>
    simp only [hk, List.mem_map] at hn
    obtain ⟨f, hf, rfl⟩ := hn
    exact (h.1 td htd).1.1 f (mem_fieldsOfT.mpr ⟨Or.inl hk, hf⟩)
  | input =>
    simp only [hk, List.mem_map] at hn
    obtain ⟨f, hf, rfl⟩ := hn
    exact h.2 f (mem_inputValues.mpr (Or.inr ⟨td, htd, mem_inputsOfT.mpr ⟨hk, hf⟩⟩))
  | union =>
    simp only [hk, List.mem_map] at hn
    obtain ⟨m, hm, rfl⟩ := hn
    exact (h.1 td htd).2 m (mem_membersOfT.mpr ⟨hk, hm⟩)
  | _ => simp [hk] at hn

theorem find_of_noDup {l : List TypeDef} (hn : noDup (l.map (·.name)) = true) (t : TypeDef) (h : t ∈ l) :
    l.find? (·.name == t.name) = some t :=
  find?_key_of_nodup (·.name) ((noDup_iff_nodup _).mp hn) h

theorem inputSelfLookup_ok {T : TsDoc} (hu : uniqueTypeNames T = true) :
    ∀ td ∈ typeDefs T, inputSelfLookupOk T td = true := by
  intro td htd
  unfold inputSelfLookupOk
  cases hk : td.kind with
  | input =>
    simp only [bne_self_eq_false, Bool.false_or, List.all_eq_true]
    intro f hfm
    have hfind : Schema.typeDef? ⟨T⟩ td.name = some td := find_of_noDup hu td htd
    rw [hfind]
    simp only [hk, beq_self_eq_true, Bool.true_and]
    rw [List.find?_isSome]
    exact ⟨f, hfm, by simp⟩
  | _ => rfl

end NitroVerif.Stages
