/-
C15: the `__nitrogql_schema` metadata object of the schema declaration file on the two routes.  The JSON route always
writes its keys in the order query, mutation, subscription (`type_system_to_ast` emits a schema definition from the three
`Option`s of the schema value); the SDL route writes them in the order of the `schema { … }` definition, or — without one —
in the order in which the object types `Query` / `Mutation` / `Subscription` are defined.  Same keys, same types.
-/
import NitroVerif.Lemmas.RoutesSchemaDecls
namespace NitroVerif.Bridge
open NitroVerif NitroVerif.Gql NitroVerif.SchemaIR NitroVerif.AstSchema NitroVerif.SchemaDecls NitroVerif.DeclCfg
open NitroVerif.IntrospectSpec NitroVerif.Routes NitroVerif.CliSchema NitroVerif.Ts

/-! ### a list with distinct keys, enumerated through a list of all keys -/

theorem filterMap_find_perm {α κ : Type} [DecidableEq κ] (key : α → κ) : ∀ (l : List α) (K : List κ),
    (l.map key).Nodup → K.Nodup → (∀ a ∈ l, key a ∈ K) →
    (K.filterMap fun k => l.find? fun a => decide (key a = k)).Perm l
  | [], K, _, _, _ => by simp
  | x :: r, K, hl, hK, hsub => by
    have hx : key x ∈ K := hsub x (by simp)
    simp only [List.map_cons, List.nodup_cons] at hl
    have hp := (List.perm_cons_erase hx).filterMap fun k => (x :: r).find? fun a => decide (key a = k)
    refine hp.trans ?_
    simp only [List.filterMap_cons, List.find?_cons, decide_true]
    refine List.Perm.cons x ?_
    have hcongr : ((K.erase (key x)).filterMap fun k => (x :: r).find? fun a => decide (key a = k))
        = (K.erase (key x)).filterMap fun k => r.find? fun a => decide (key a = k) := by
      apply filterMap_congr_mem
      intro k hk
      have hne : key x ≠ k := fun e => ((hK.mem_erase_iff).mp hk).1 e.symm
      simp [hne]
    simp only [List.find?_cons] at hcongr
    rw [hcongr]
    refine filterMap_find_perm key r (K.erase (key x)) hl.2 (hK.erase _) ?_
    intro a ha
    refine (hK.mem_erase_iff).mpr ⟨?_, hsub a (by simp [ha])⟩
    intro e
    exact hl.1 (e ▸ List.mem_map.mpr ⟨a, ha, rfl⟩)

/-! ### the JSON route -/

def metaField (k : OpKind) (n : Name) : Ts.Field := (k.asStr, false, false, .ref n)

def allKinds : List OpKind := [.query, .mutation, .subscription]

/-- the fields the JSON route writes: query, mutation, subscription — those that are set -/
def jsonMetaFields (r : Roots) : List Ts.Field :=
  allKinds.filterMap fun k => (r.get (convOpKind k)).map (metaField k)

theorem rootEntries_fields (r : Roots) :
    (rootEntries r).map (fun (x : OpKind × Name × Pos) => (x.1.asStr, false, false, Ty.ref x.2.1)) = jsonMetaFields r := by
  cases r with | mk q m s =>
  cases q <;> cases m <;> cases s <;> rfl

theorem schemaMetadata_docJson (M : TsDoc) : schemaMetadata (docJson M) = .obj (jsonMetaFields (specRoots M)) := by
  have h : schemaMetadata (docJson M) =
      .obj ((rootEntries (jsonSide M).roots).map fun (x : OpKind × Name × Pos) => (x.1.asStr, false, false, Ty.ref x.2.1)) := rfl
  rw [h, (jsonSide_roots M).1, rootEntries_fields]

/-! ### the SDL route -/

/-- the key a default root type name stands for -/
def rootKey? (n : Name) : Option String :=
  if n == "Query" then some "query" else if n == "Mutation" then some "mutation"
  else if n == "Subscription" then some "subscription" else none

/-- the metadata field of an object type with a default root name -/
def defaultField (td : TypeDef) : Option Ts.Field :=
  if td.kind == .object then (rootKey? td.name).map fun k => (k, false, false, .ref td.name) else none

theorem metaOf_none (tds : List TypeDef) : DeterminismDecls.metaOf none tds = .obj (tds.filterMap defaultField) := by
  unfold DeterminismDecls.metaOf
  simp only
  congr 1
  apply filterMap_congr_mem
  intro td _
  simp only [defaultField, rootKey?, apply_ite (Option.map _), Option.map_some, Option.map_none]

theorem schemaMetadata_docSdl (M : TsDoc) :
    schemaMetadata (docSdl M) =
      match (schemaDefs M).head? with
      | some d => .obj (d.roots.map fun (x : OpKind × Name × Pos) => metaField x.1 x.2.1)
      | none => .obj ((typeDefsOf M).filterMap defaultField) := by
  rw [DeterminismDecls.schemaMetadata_eq, gql_schemaDefs_docSdl]
  cases (schemaDefs M).head? with
  | some d => rfl
  | none =>
    rw [metaOf_none, typeDefsOf_docSdl_closed, List.filterMap_append]
    have : (builtinScalarNames.map scalarDefS).filterMap defaultField = [] := rfl
    rw [this, List.append_nil]

/-! ### with a schema definition -/

theorem foldl_find (k : OpKind) (l : List (OpKind × Name × Pos)) (h : (l.map (·.1)).Nodup) :
    l.foldl (fun acc (x : OpKind × Name × Pos) => if x.1 == k then some x.2.1 else acc) none
      = (l.find? fun x => decide (x.1 = k)).map (·.2.1) := by
  rw [foldl_last_eq (fun x : OpKind × Name × Pos => x.1) (fun x => x.2.1) k, Option.or_none,
    show (fun x : OpKind × Name × Pos => x.1 == k) = fun x => decide (x.1 = k) from funext fun x => opKind_beq x.1 k]
  exact congrArg _ (@find?_key_reverse _ OpKind instBEqOfDecidableEq inferInstance (·.1) l h k)

/-- a schema definition lists each operation kind at most once -/
def RootKindsDistinct (M : TsDoc) : Prop := ∀ d ∈ schemaDefs M, (d.roots.map (·.1)).Nodup

instance (M : TsDoc) : Decidable (RootKindsDistinct M) := by unfold RootKindsDistinct; infer_instance

theorem mem_allKinds (k : OpKind) : k ∈ allKinds := by cases k <;> simp [allKinds]

theorem jsonMetaFields_setRoots (l : List (OpKind × Name × Pos)) (h : (l.map (·.1)).Nodup) :
    (jsonMetaFields (setRoots {} l)).Perm (l.map fun x => metaField x.1 x.2.1) := by
  have h1 : jsonMetaFields (setRoots {} l)
      = (allKinds.filterMap fun k => l.find? fun x => decide (x.1 = k)).map fun x => metaField x.1 x.2.1 := by
    unfold jsonMetaFields
    rw [List.map_filterMap]
    apply filterMap_congr_mem
    intro k _
    rw [setRoots_get k l {}]
    have h0 : ({} : Roots).get (convOpKind k) = none := by cases k <;> rfl
    rw [h0, foldl_find k l h]
    cases hf : l.find? (fun x => decide (x.1 = k)) with
    | none => rfl
    | some x =>
      have : x.1 = k := by simpa using List.find?_some hf
      simp [this]
  rw [h1]
  exact (filterMap_find_perm (fun x : OpKind × Name × Pos => x.1) l allKinds h (by decide)
    (fun a _ => mem_allKinds a.1)).map _

/-! ### without a schema definition -/

def defaultNames : List Name := ["Query", "Mutation", "Subscription"]

theorem rootKey?_isSome (n : Name) : (rootKey? n).isSome = true ↔ n ∈ defaultNames := by
  unfold rootKey? defaultNames
  by_cases h1 : n = "Query"
  · simp [h1]
  · by_cases h2 : n = "Mutation"
    · simp [h2]
    · by_cases h3 : n = "Subscription"
      · simp [h3]
      · simp [h1, h2, h3]

/-- the JSON route's fields when `M` has no schema definition, over the type definitions of `M` -/
def defaultJsonField (U : List TypeDef) (n : Name) : Option Ts.Field :=
  if U.any (fun t => t.name == n && t.kind == .object) then (rootKey? n).map fun k => (k, false, false, .ref n) else none

theorem defaultRoot_eq (M : TsDoc) (n : Name) :
    defaultRoot (userTypes M) n = if (typeDefsOf M).any (fun t => t.name == n && t.kind == .object) then some n else none := by
  unfold defaultRoot
  rw [userTypes_eq_map, List.any_map]
  have : ((fun t : ITypeDef => t.name == n && t.kind == IKind.object) ∘ convTypeDef)
      = fun t : TypeDef => t.name == n && t.kind == TypeKind.object := by
    funext t
    simp only [Function.comp_def, convTypeDef_name, convTypeDef_kind]
    cases t.kind <;> rfl
  rw [this]

theorem defaultRoot_field (M : TsDoc) (k : OpKind) (n : Name) (hk : rootKey? n = some k.asStr) :
    (defaultRoot (userTypes M) n).map (metaField k) = defaultJsonField (typeDefsOf M) n := by
  rw [defaultRoot_eq]
  unfold defaultJsonField
  rw [hk]
  split <;> rfl

theorem jsonMetaFields_default (M : TsDoc) (h : schemaDefs M = []) :
    jsonMetaFields (specRoots M) = defaultNames.filterMap (defaultJsonField (typeDefsOf M)) := by
  have hr : specRoots M = Roots.mk (defaultRoot (userTypes M) "Query") (defaultRoot (userTypes M) "Mutation")
      (defaultRoot (userTypes M) "Subscription") := by
    simp [specRoots, h]
  rw [hr]
  have e1 := defaultRoot_field M .query "Query" (by decide)
  have e2 := defaultRoot_field M .mutation "Mutation" (by decide)
  have e3 := defaultRoot_field M .subscription "Subscription" (by decide)
  simp only [jsonMetaFields, allKinds, defaultNames, List.filterMap_cons, List.filterMap_nil, Roots.get, convOpKind,
    e1, e2, e3]

theorem defaultField_isSome (td : TypeDef) :
    (defaultField td).isSome = true ↔ td.kind = .object ∧ td.name ∈ defaultNames := by
  unfold defaultField
  by_cases hk : td.kind = .object
  · simp [hk, typeKind_beq, rootKey?_isSome]
  · have : (td.kind == TypeKind.object) = false := by rw [typeKind_beq]; simpa using hk
    simp [this, hk]

theorem defaultField_eq (td : TypeDef) (hk : td.kind = .object) :
    defaultField td = (rootKey? td.name).map fun k => (k, false, false, .ref td.name) := by
  unfold defaultField
  simp [hk, typeKind_beq]

theorem default_fields_perm (U : List TypeDef) (hn : (U.map (·.name)).Nodup) :
    (defaultNames.filterMap (defaultJsonField U)).Perm (U.filterMap defaultField) := by
  let l := U.filter fun td => (defaultField td).isSome
  have hl : (l.map (·.name)).Nodup := hn.sublist (List.filter_sublist.map _)
  have hsub : ∀ a ∈ l, a.name ∈ defaultNames := fun a ha =>
    ((defaultField_isSome a).mp (List.mem_filter.mp ha).2).2
  have hp := (filterMap_find_perm (fun td : TypeDef => td.name) l defaultNames hl (by decide) hsub).filterMap defaultField
  have h2 : l.filterMap defaultField = U.filterMap defaultField := by
    show (U.filter _).filterMap defaultField = _
    rw [List.filterMap_filter]
    apply filterMap_congr_mem
    intro td _
    cases defaultField td <;> simp
  rw [h2, List.filterMap_filterMap] at hp
  refine (List.Perm.of_eq ?_).trans hp
  apply filterMap_congr_mem
  intro n hnm
  unfold defaultJsonField
  cases hf : l.find? (fun a => decide (a.name = n)) with
  | some td =>
    have hname : td.name = n := by simpa using List.find?_some hf
    have hmem := List.mem_of_find?_eq_some hf
    have hU : td ∈ U := (List.mem_filter.mp hmem).1
    have hobj := ((defaultField_isSome td).mp (List.mem_filter.mp hmem).2).1
    have hany : U.any (fun t => t.name == n && t.kind == .object) = true :=
      List.any_eq_true.mpr ⟨td, hU, by simp [hname, hobj, typeKind_beq]⟩
    simp only [hany, if_true, Option.bind_some, defaultField_eq td hobj, hname]
  | none =>
    have hany : U.any (fun t => t.name == n && t.kind == .object) = false := by
      rw [Bool.eq_false_iff]
      intro ht
      obtain ⟨td, hU, hp⟩ := List.any_eq_true.mp ht
      simp only [Bool.and_eq_true, beq_iff_eq, typeKind_beq, decide_eq_true_eq] at hp
      have hm : td ∈ l := List.mem_filter.mpr ⟨hU, (defaultField_isSome td).mpr ⟨hp.2, hp.1 ▸ hnm⟩⟩
      have := List.find?_eq_none.mp hf td hm
      simp [hp.1] at this
    simp [hany]

end NitroVerif.Bridge
