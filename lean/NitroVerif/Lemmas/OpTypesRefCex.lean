/-
The defect the refinement proof found (repaired in /repo dda35cd): the witness document

    query($v: Boolean!) { a: a @skip(if: $v) { x }   a { y } }

is spec-valid (both fields are `a` with the same arguments), but the PRE-REPAIR printer (`implTreeOld`) put every aliased
field — also `a: a` — into `Others` and the unaliased `a` into `Obj` of ONE `__SelectionSet`, so the two sub-selections were
never merged: for v = false the key `a` got the intersection of `{x} | null` and `{y} | null`, for v = true the intersection
with `a?: never`.  Helper lemmas for the kernel-checked counterexample in Props/C01.lean, the repaired model's type, and the
value with a repeated record key.
-/
import NitroVerif.Lemmas.OpTypesRefWitness
namespace NitroVerif.OpTypes.Ref.Cex
open NitroVerif.Gql NitroVerif.Ts NitroVerif.Exec NitroVerif.OpTypes NitroVerif.OpTypes.W

def selY : List Selection := [.field none "y" {} [] [] none]

/-- `{ a: a @skip(if: $v) { x }  a { y } }` -/
def selAA : List Selection :=
  [.field (some ("a", {})) "a" {} [] [skipV] (some selX), .field none "a" {} [] [] (some selY)]

/-- the response for v = true: `{ a: { y: "s" } }` -/
def respY : J := .obj [("y", .str "s")]
def resp : J := .obj [("a", respY)]

def oQuery : Ty := .other "abs" ["Schema", "__OperationOutput", "Query"]
def oA : Ty := .other "abs" ["Schema", "__OperationOutput", "A"]
def sset : Ty := .other "abs" ["Schema", "__SelectionSet"]
def objX : List Field := [("x", false, false, tInt)]
def objY : List Field := [("y", false, false, tStr)]
def tyX : Ty := .union [.app sset [oA, .obj objX, .obj []], .prim "null"]
def tyY : Ty := .union [.app sset [oA, .obj objY, .obj []], .prim "null"]
def br1 : Ty := .app sset [oQuery, .obj [("a", false, false, tyY)], .obj [("a", false, false, tyX)]]
def br2 : Ty := .app sset [oQuery, .obj [("a", false, false, tyY)], .obj [("a", false, true, .prim "never")]]
/-- the (closed) result type the PRE-REPAIR printer emitted -/
def ty : Ty := .union [br1, br2]

theorem tree_ty : ((implTreeOld W.S W.noFrags 16 16 (.nonNull (.named "Query" {})) selAA).toOption.map
    fun t => W.close (toTs "Schema" t)) = some ty := by rfl

def objXY' : List Field := [("x", false, false, tInt), ("y", false, false, tStr)]
def tyXY : Ty := .union [.app sset [oA, .obj objXY', .obj []], .prim "null"]
/-- the (closed) result type the REPAIRED printer emits: `a: a {x}` and `a {y}` are merged -/
def tyNew : Ty :=
  .union [.app sset [oQuery, .obj [("a", false, false, tyXY)], .obj []],
          .app sset [oQuery, .obj [("a", false, false, tyY)], .obj []]]

theorem tree_tyNew : ((implTree W.S W.noFrags 16 16 (.nonNull (.named "Query" {})) selAA).toOption.map
    fun t => W.close (toTs "Schema" t)) = some tyNew := by rfl

theorem resp_mem_new : Mem W.env resp tyNew := by
  have hY : Mem W.env respY tyY :=
    mem_union_iff.2 ⟨_, List.mem_cons_self, (W.mem_selSet W.origA).2 (memG_sound 8 _ _ (by decide +kernel))⟩
  exact mem_union_iff.2 ⟨_, List.mem_cons_of_mem _ List.mem_cons_self, (W.mem_selSet W.origQuery).2 (mem_obj_single hY)⟩

theorem hook1 : W.env.appHook W.env.decls sset [oQuery, .obj [("a", false, false, tyY)], .obj [("a", false, false, tyX)]]
    = some (.obj [("a", false, false, .inter [tyY, tyX])]) :=
  W.hook_app W.origQuery

theorem hook2 : W.env.appHook W.env.decls sset
    [oQuery, .obj [("a", false, false, tyY)], .obj [("a", false, true, .prim "never")]]
    = some (.obj [("a", false, false, .inter [tyY, .prim "never"])]) :=
  W.hook_app W.origQuery

theorem hookX : W.env.appHook W.env.decls sset [oA, .obj objX, .obj []] = some (.obj objX) := W.hook_app W.origA

theorem objView_inter_union (e : Env) (us : List Ty) (t2 : Ty) : ∀ n fs, objView e n (.inter [.union us, t2]) ≠ .isObj fs
  | 0, fs => by simp [objView]
  | n + 1, fs => by
    have h1 : objView e n (.union us) = .notObj ∨ objView e n (.union us) = .outOfFuel := by
      cases n <;> simp [objView]
    simp only [objView, List.foldl_cons, List.foldl_nil]
    rcases h1 with h1 | h1 <;> rw [h1] <;> cases objView e n t2 <;> simp [ObjView.merge]

theorem respY_not_tyX : ¬ Mem W.env respY tyX := by
  intro h
  simp only [tyX, mem_union_iff] at h
  obtain ⟨t, ht, hm⟩ := h
  simp only [List.mem_cons, List.mem_nil_iff, or_false] at ht
  rcases ht with rfl | rfl
  · rw [mem_app_iff hookX, mem_obj_iff] at hm
    obtain ⟨kvs, hk, _, h2⟩ := hm
    simp only [respY, J.obj.injEq] at hk; subst hk
    rcases h2 ("y", .str "s") (by simp) with h | ⟨f, hf, hfk⟩
    · cases h
    · simp only [objX, List.mem_singleton] at hf; subst hf
      exact absurd hfk (by decide)
  · rw [mem_null_iff] at hm; cases hm

theorem resp_not_mem : ¬ Mem W.env resp ty := by
  intro h
  simp only [ty, mem_union_iff] at h
  obtain ⟨t, ht, hm⟩ := h
  simp only [List.mem_cons, List.mem_nil_iff, or_false] at ht
  have hget : J.get [("a", respY)] "a" = respY := by rfl
  rcases ht with rfl | rfl
  · rw [br1, mem_app_iff hook1, mem_obj_iff] at hm
    obtain ⟨kvs, hk, h1, _⟩ := hm
    simp only [resp, J.obj.injEq] at hk; subst hk
    have ha := h1 ("a", false, false, .inter [tyY, tyX]) (by simp) (by simp)
    simp only [hget] at ha
    exact respY_not_tyX (mem_inter_all (objView_inter_union _ _ _) ha tyX (by simp))
  · rw [br2, mem_app_iff hook2, mem_obj_iff] at hm
    obtain ⟨kvs, hk, h1, _⟩ := hm
    simp only [resp, J.obj.injEq] at hk; subst hk
    have ha := h1 ("a", false, false, .inter [tyY, .prim "never"]) (by simp) (by simp)
    simp only [hget] at ha
    exact mem_never_iff.1 (mem_inter_all (objView_inter_union _ _ _) ha (.prim "never") (by simp))

/-! ### a value with a repeated record key (why ⊇ needs `JWf`) -/

/-- `{ x: 1, y: <absent>, y: "s" }` — not a JSON value a parser produces -/
def dup : J := .obj [("x", .num), ("y", .absent), ("y", .str "s")]

theorem cf (σ : Sigma) : collectFields W.ctx σ "A" (W.selX ++ W.selYskip) =
    some (if σ "v" = true then [("x", [⟨"x", none⟩])] else [("x", [⟨"x", none⟩]), ("y", [⟨"y", none⟩])]) := by
  cases h : σ "v" <;>
    simp [collectFields, collectGo, W.ctx, W.selX, W.selYskip, W.skipV, included, selDirs, dirIf, addField, h]

theorem dup_mem : Mem W.env dup W.newTy := W.mem_newTy (memG_sound 8 _ _ (by decide +kernel))

theorem dup_not_refLocal : ¬ RefLocal W.ctx "A" (W.selX ++ W.selYskip) dup := by
  rintro ⟨n, hn⟩
  cases n with
  | zero => exact hn
  | succ n =>
    obtain ⟨σ, g, hg, Rb, _, hs⟩ := hn
    rw [cf σ] at hg
    cases hσ : σ "v" with
    | true =>
      simp only [hσ, if_true] at hg; cases hg
      simp [setOkB, dup, J.isAbsent] at hs
    | false =>
      simp only [hσ, Bool.false_eq_true, if_false] at hg; cases hg
      have hf : fieldOk W.ctx Rb "A" [⟨"y", none⟩]
          (J.get [("x", J.num), ("y", J.absent), ("y", J.str "s")] "y") = false := by rfl
      simp [setOkB, dup, hf] at hs

theorem dup_not_wf : ¬ JWf dup := by
  simp [JWf, dup]

end NitroVerif.OpTypes.Ref.Cex
