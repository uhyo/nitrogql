/-
Collecting keys in order of first occurrence: a left fold whose step appends the key of an item unless the item is
blocked or its key is already there. The extension registries (`firstKeys`), `Schema.typeNames` and the loader's
`get_required_files` are such folds; membership, absence of repeats and the closed form on input without repeats
are proved here for all of them.
-/
namespace NitroVerif

/-- the step `s` appends the key `f a` of an item that is not blocked (`b a`) and whose key is new, and otherwise
    leaves the list as it is -/
def Collects {α β : Type} (f : α → β) (b : α → Prop) (s : List β → α → List β) : Prop :=
  ∀ acc a, (s acc a = acc ∧ (b a ∨ f a ∈ acc)) ∨ (s acc a = acc ++ [f a] ∧ ¬ b a ∧ f a ∉ acc)

namespace Collects
variable {α β : Type} {f : α → β} {b : α → Prop} {s : List β → α → List β}

theorem mem_step (h : Collects f b s) (acc : List β) (a : α) (n : β) :
    n ∈ s acc a ↔ n ∈ acc ∨ (¬ b a ∧ f a = n) := by
  rcases h acc a with ⟨e, hb⟩ | ⟨e, hnb, _⟩ <;> rw [e]
  · exact ⟨Or.inl, fun h => h.elim id fun ⟨hnb, e⟩ => e ▸ hb.resolve_left hnb⟩
  · rw [List.mem_append, List.mem_singleton]
    exact or_congr_right ⟨fun e => ⟨hnb, e.symm⟩, fun h => h.2.symm⟩

theorem mem (h : Collects f b s) {n : β} : ∀ (l : List α) (acc : List β),
    n ∈ l.foldl s acc ↔ n ∈ acc ∨ ∃ a ∈ l, ¬ b a ∧ f a = n
  | [], acc => by simp
  | a :: l, acc => by
    rw [List.foldl_cons, h.mem l, h.mem_step, or_assoc]
    simp only [List.mem_cons, or_and_right, exists_or, exists_eq_left]

theorem nodup (h : Collects f b s) : ∀ (l : List α) (acc : List β), acc.Nodup → (l.foldl s acc).Nodup
  | [], _, nd => nd
  | a :: l, acc, nd => by
    refine h.nodup l _ ?_
    rcases h acc a with ⟨e, _⟩ | ⟨e, _, hm⟩ <;> rw [e]
    · exact nd
    · exact List.nodup_append.mpr ⟨nd, by simp, fun x hx y hy e => hm (List.mem_singleton.mp hy ▸ e ▸ hx)⟩

theorem eq_append (h : Collects f b s) : ∀ (l : List α) (acc : List β), (∀ a ∈ l, ¬ b a) → (acc ++ l.map f).Nodup →
    l.foldl s acc = acc ++ l.map f
  | [], acc, _, _ => (List.append_nil _).symm
  | a :: l, acc, hb, nd => by
    rcases h acc a with ⟨_, hc⟩ | ⟨e, _, _⟩
    · exact absurd rfl ((List.nodup_append.mp nd).2.2 _ (hc.resolve_left (hb a List.mem_cons_self)) _ List.mem_cons_self)
    · rw [List.foldl_cons, e, h.eq_append l _ (fun x hx => hb x (List.mem_cons_of_mem _ hx)) (by simpa using nd)]
      simp

end Collects

theorem collects_dedup {α β : Type} [BEq β] [LawfulBEq β] (f : α → β) :
    Collects f (fun _ => False) (fun acc a => if acc.contains (f a) then acc else acc ++ [f a]) := fun acc a => by
  by_cases hc : acc.contains (f a) = true
  · exact .inl ⟨if_pos hc, .inr (List.contains_iff_mem.mp hc)⟩
  · exact .inr ⟨if_neg hc, not_false, fun hm => hc (List.contains_iff_mem.mpr hm)⟩

theorem foldl_dedup_mem {α β : Type} [BEq β] [LawfulBEq β] (f : α → β) (l : List α) (acc : List β) (n : β) :
    n ∈ l.foldl (fun acc a => if acc.contains (f a) then acc else acc ++ [f a]) acc ↔ n ∈ acc ∨ n ∈ l.map f := by
  rw [(collects_dedup f).mem, List.mem_map]
  simp

end NitroVerif
