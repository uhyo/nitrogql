/-
Reordering the definitions INSIDE an executable document. The operation checker model reads the document — apart from
visiting each definition once — only through the fragment map (by name, last wins), the number of fragments and of
operations, the SET of fragments reachable from operations, and (duplicate-name rule) the names of the definitions
before the current one (scan lemmas: `Lemmas/CheckOp.lean`). The operation type printer reads it through the same
fragment table (`OpTypes.fragsOf_eq_fragMap`) and a sum over the definitions (its fuel).
-/
import NitroVerif.Lemmas.DeterminismConcreteOp
import NitroVerif.Lemmas.CheckOpClosure
import NitroVerif.Lemmas.SchemaFacts
namespace NitroVerif.Determinism
open NitroVerif.Gql NitroVerif.CheckCommon NitroVerif.CheckOp

/-- everything `defBody S D` reads of the document `D` -/
structure SameDoc (D D' : Doc) : Prop where
  frag : ∀ n, fragMap D n = fragMap D' n
  nfrags : (fragsOf D).length = (fragsOf D').length
  nops : (opsOf D).length = (opsOf D').length
  used : ∀ n, n ∈ usedFragments D ↔ n ∈ usedFragments D'

section doc
variable {S : Schema} {D D' : Doc}

theorem spreadHandler_doc_congr (h : ∀ n, fragMap D n = fragMap D' n) (fuel : Nat) :
    spreadHandler S D fuel = spreadHandler S D' fuel := by
  induction fuel with
  | zero => rfl
  | succ n ih => simp only [spreadHandler, ih, h]

theorem keysHandler_doc_congr (h : ∀ n, fragMap D n = fragMap D' n) (fuel : Nat) :
    keysHandler D fuel = keysHandler D' fuel := by
  induction fuel with
  | zero => rfl
  | succ n ih => simp only [keysHandler, ih, h]

theorem fuelFor_doc_congr (h : SameDoc D D') : fuelFor D = fuelFor D' := by
  unfold fuelFor
  rw [h.nfrags]

theorem hasMoreThanOneField_doc_congr (h : SameDoc D D') (ss : List Selection) :
    hasMoreThanOneField D ss = hasMoreThanOneField D' ss := by
  unfold hasMoreThanOneField
  rw [fuelFor_doc_congr h, keysHandler_doc_congr h.frag]

theorem checkOperation_doc_congr (h : SameDoc D D') (op : OperationDef) :
    checkOperation S D op = checkOperation S D' op := by
  unfold checkOperation
  simp only [hasMoreThanOneField_doc_congr h, fuelFor_doc_congr h, spreadHandler_doc_congr h.frag]

theorem checkFragmentDefinition_doc_congr (h : SameDoc D D') (used : Bool) (f : FragmentDef) :
    checkFragmentDefinition S D used f = checkFragmentDefinition S D' used f := by
  unfold checkFragmentDefinition
  simp only [fuelFor_doc_congr h, spreadHandler_doc_congr h.frag]

theorem defBody_doc_congr (h : SameDoc D D') (d : ExecDef) : defBody S D d = defBody S D' d := by
  cases d with
  | op o => simp only [defBody, checkOperation_doc_congr h]
  | frag f => simp only [defBody, checkFragmentDefinition_doc_congr h, List.contains_eq_any_beq, any_eq_of_mem_iff h.used]
  | imp _ => rfl

end doc

theorem usedStep_set_congr {D D' : Doc} (h : ∀ n, fragMap D n = fragMap D' n) {a a' : List Name}
    (ha : ∀ x, x ∈ a ↔ x ∈ a') (x : Name) : x ∈ usedStep D a ↔ x ∈ usedStep D' a' := by
  rw [mem_usedStep, mem_usedStep, List.mem_flatMap, List.mem_flatMap]
  simp only [usedNext, h, ha]

theorem usedIter_set_congr {D D' : Doc} (h : ∀ n, fragMap D n = fragMap D' n) (fuel : Nat) {a a' : List Name}
    (ha : ∀ x, x ∈ a ↔ x ∈ a') (x : Name) : x ∈ usedIter D fuel a ↔ x ∈ usedIter D' fuel a' := by
  induction fuel generalizing a a' with
  | zero => exact ha x
  | succ n ih => exact ih (usedStep_set_congr h ha)

theorem fragsOf_perm {D D' : Doc} (h : D.Perm D') : (fragsOf D).Perm (fragsOf D') := h.filterMap _
theorem opsOf_perm {D D' : Doc} (h : D.Perm D') : (opsOf D).Perm (opsOf D') := h.filterMap _

/-- the fragment definitions of the document have pairwise distinct names -/
def NoDupFragNames (D : Doc) : Prop := ((fragsOf D).map (·.name)).Nodup

def opName? (o : OperationDef) : Option Name := o.name.map (·.1)

/-- the NAMED operations of the document have pairwise distinct names (any number of anonymous ones) -/
def NoDupOpNames (D : Doc) : Prop := ((opsOf D).filterMap opName?).Nodup

theorem fragMap_perm {D D' : Doc} (h : D.Perm D') (nd : NoDupFragNames D) (n : Name) : fragMap D n = fragMap D' n := by
  exact find?_key_perm FragmentDef.name ((List.reverse_perm _).trans ((fragsOf_perm h).trans (List.reverse_perm _).symm))
    (((List.reverse_perm _).map _).nodup_iff.mpr nd) n

theorem usedFragments_perm {D D' : Doc} (h : D.Perm D') (nd : NoDupFragNames D) (x : Name) :
    x ∈ usedFragments D ↔ x ∈ usedFragments D' := by
  unfold usedFragments
  rw [(fragsOf_perm h).length_eq]
  apply usedIter_set_congr (fragMap_perm h nd)
  intro y
  rw [mem_dedupNames_iff, mem_dedupNames_iff]
  exact ((opsOf_perm h).flatMap_right _).mem_iff

theorem sameDoc_of_perm {D D' : Doc} (h : D.Perm D') (nd : NoDupFragNames D) : SameDoc D D' :=
  ⟨fragMap_perm h nd, (fragsOf_perm h).length_eq, (opsOf_perm h).length_eq, usedFragments_perm h nd⟩

theorem defHeader_fresh (opNum : Nat) (earlier : List ExecDef) (d : ExecDef)
    (ho : ∀ n ∈ opNamesOf [d], n ∉ opNamesOf earlier) (hf : ∀ n ∈ fragNamesOf [d], n ∉ fragNamesOf earlier) :
    defHeader opNum earlier d = defHeader opNum [] d := by
  cases d with
  | op o =>
    cases hname : o.name with
    | none => simp only [defHeader, hname]
    | some m =>
      have : earlier.any (opHasName m.1) = false := by
        rw [← Bool.not_eq_true, any_opHasName]
        exact ho m.1 (by simp [opNamesOf_cons, opNamesOf_nil, hname])
      simp only [defHeader, hname, this, List.any_nil]
      rfl
  | frag f =>
    have : earlier.any (fragHasName f.name) = false := by
      rw [← Bool.not_eq_true, any_fragHasName]
      exact hf f.name (by simp [fragNamesOf_cons, fragNamesOf_nil])
    simp only [defHeader, this, List.any_nil]
    rfl
  | imp _ => rfl

theorem nodup_mid {α : Type} {a m b : List α} (nd : (a ++ m ++ b).Nodup) : ∀ n ∈ m, n ∉ a :=
  fun n hn ha => (List.nodup_append.mp (List.nodup_append.mp nd).1).2.2 n ha n hn rfl

theorem checkDefs_eq_flatMap (S : Schema) (D : Doc) (opNum : Nat) (earlier rest : List ExecDef)
    (ndo : NoDupOpNames (earlier ++ rest)) (ndf : NoDupFragNames (earlier ++ rest)) :
    checkDefs S D opNum earlier rest = rest.flatMap fun d => defHeader opNum [] d ++ defBody S D d := by
  induction rest generalizing earlier with
  | nil => rfl
  | cons d rest ih =>
    have e : earlier ++ d :: rest = earlier ++ [d] ++ rest := by simp
    have ndo' : (opNamesOf earlier ++ opNamesOf [d] ++ opNamesOf rest).Nodup := by
      rw [← opNamesOf_append, ← opNamesOf_append, ← e]; exact ndo
    have ndf' : (fragNamesOf earlier ++ fragNamesOf [d] ++ fragNamesOf rest).Nodup := by
      rw [← fragNamesOf_append, ← fragNamesOf_append, ← e]; exact ndf
    simp only [checkDefs, List.flatMap_cons]
    rw [defHeader_fresh opNum earlier d (nodup_mid ndo') (nodup_mid ndf'),
      ih (earlier ++ [d]) (e ▸ ndo) (e ▸ ndf), List.append_assoc]

theorem checkOp_ne_nil_of_dup (S : Schema) (D : Doc) (hd : ¬ (NoDupOpNames D ∧ NoDupFragNames D)) :
    checkOp S D ≠ [] := fun e =>
  hd ⟨(nodupB_iff_nodup _).mp (checkDefs_opNames D [] e).2, (nodupB_iff_nodup _).mp (checkDefs_fragNames D [] e).2⟩

theorem NoDupFragNames.perm {D D' : Doc} (h : D.Perm D') (nd : NoDupFragNames D) : NoDupFragNames D' :=
  ((fragsOf_perm h).map _).nodup_iff.mp nd

theorem NoDupOpNames.perm {D D' : Doc} (h : D.Perm D') (nd : NoDupOpNames D) : NoDupOpNames D' :=
  ((opsOf_perm h).filterMap _).nodup_iff.mp nd

theorem docSize_perm {D D' : Doc} (h : D.Perm D') : OpTypes.docSize D = OpTypes.docSize D' := by
  unfold OpTypes.docSize
  apply h.foldl_eq'
  intro x _ y _ z
  cases x <;> cases y <;> simp only <;> omega

theorem opTypes_fragsOf_perm {D D' : Doc} (h : D.Perm D') (nd : NoDupFragNames D) :
    OpTypes.fragsOf D = OpTypes.fragsOf D' := by
  funext n
  rw [OpTypes.fragsOf_eq_fragMap, OpTypes.fragsOf_eq_fragMap, fragMap_perm h nd]

theorem resultTree_doc_perm (S : Schema) {D D' : Doc} (h : D.Perm D') (nd : NoDupFragNames D) (x : ExecDef) :
    OpTypes.resultTree S D x = OpTypes.resultTree S D' x := by
  unfold OpTypes.resultTree OpTypes.fuelFor OpTypes.mfuelFor
  rw [opTypes_fragsOf_perm h nd, docSize_perm h]

theorem opDecls_doc_perm (S : Schema) (o : OpTypes.Opts) {D D' : Doc} (h : D.Perm D') (nd : NoDupFragNames D) :
    (OpTypes.opDecls S o D).Perm (OpTypes.opDecls S o D') := by
  unfold OpTypes.opDecls
  simp only [resultTree_doc_perm S h nd]
  exact h.filterMap _

end NitroVerif.Determinism
