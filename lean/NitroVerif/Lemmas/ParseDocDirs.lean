/-
`Directive` and `Directives` in the token-plus-gap form. The text of a directive is the one of `ParseDirectives.lean`
(`renderDir`: `@ gap name (gap (args))?`) followed by its trailing gap; a directive list is `renderItems` of those. The
list rendered in `ParseDirectives.lean` is this one with free gaps (`dirsFrom_eq`, `withPosDs_eq`).
-/
import NitroVerif.Lemmas.ParseDocLeaf
namespace NitroVerif.DocParse
open NitroVerif.Peg NitroVerif.Gen NitroVerif.Gen.Parts NitroVerif.Build NitroVerif.TypeParse NitroVerif.StringParse
open NitroVerif.Gql NitroVerif.ValueParse NitroVerif.Spec.Lex

variable {inp : List Char}

def rDir (τ : Trivia) (sep : Bool) (p : Nat) (d : Directive) : List Char := tk τ sep p (renderDir τ p d)

theorem rDir_eq (τ : Trivia) (sep : Bool) (p : Nat) (d : Directive) : rDir τ sep p d = tk τ false p ['@'] ++
    (match d.args with
     | [] => tk τ sep (p + 1 + (τ (p + 1)).length) d.name.toList
     | a :: as => tk τ false (p + 1 + (τ (p + 1)).length) d.name.toList ++
        tk τ sep (dQ τ p d + (τ (dQ τ p d)).length) (renderArgs τ (dQ τ p d + (τ (dQ τ p d)).length) (a :: as))) := by
  cases hd : d.args with
  | nil =>
    simp only [rDir, tk, renderDir, hd, dirArgsText, gapS_false, List.append_nil, List.cons_append, List.nil_append,
      List.append_assoc]
    refine congrArg (fun n => '@' :: (τ (p + 1) ++ (d.name.toList ++ gapS sep (τ n)))) ?_
    simp only [List.length_cons, List.length_append]; omega
  | cons a as =>
    simp only [rDir, tk, renderDir, hd, dirArgsText, gapS_false, List.cons_append, List.nil_append, List.append_assoc]
    refine congrArg (fun n => '@' :: (τ (p + 1) ++ (d.name.toList ++ (τ (dQ τ p d) ++
      (renderArgs τ (dQ τ p d + (τ (dQ τ p d)).length) (a :: as) ++ gapS sep (τ n)))))) ?_
    simp only [List.length_cons, List.length_append, dQ]; omega

theorem hd_rDir (τ : Trivia) (sep : Bool) (p : Nat) (d : Directive) : Hd (· = '@') (rDir τ sep p d) :=
  ⟨'@', _, rfl, rfl⟩

theorem hd_renderArgs (τ : Trivia) (p : Nat) (args : List Arg) : Hd (· = '(') (renderArgs τ p args) :=
  ⟨'(', _, rfl, rfl⟩

theorem hd_paren : ∀ d, d = '(' → ¬ trivia d ∧ ¬ (fun c : Char => c = '(') '@' ∧ ¬ nameCont d := by
  rintro d rfl; decide

theorem rDir_offN (τ : Trivia) (p : Nat) : p + 1 + (τ (p + 1)).length = p + (tk τ false p ['@']).length := by
  rw [tk_length, gapS_false]; exact Nat.add_assoc ..

theorem rDir_offG (τ : Trivia) (p : Nat) (d : Directive) : dQ τ p d + (τ (dQ τ p d)).length =
    p + (tk τ false p ['@']).length + (tk τ false (p + (tk τ false p ['@']).length) d.name.toList).length := by
  rw [dQ, rDir_offN, tk_length τ false (p + (tk τ false p ['@']).length), gapS_false, Nat.add_assoc _ d.name.toList.length]

theorem dirT (τ : Trivia) (hτ : ∀ q, Ws (τ q)) (d : Directive) (hwf : WFDir d) {sep : Bool} {p : Nat} {bad : Char → Prop}
    (hbad : bad '(') (h : HasAt inp p (rDir τ sep p d)) (hn : Nxt inp bad sep (p + (rDir τ sep p d).length)) :
    ∃ e, RunsK (B (rDir τ sep p d).length + 10) (.call R.Directive) (At inp p) (At inp (p + (rDir τ sep p d).length))
      [.mk R.Directive p e (dirChildren τ p d)] := by
  obtain ⟨hname, hargs⟩ := hwf
  rw [rDir_eq] at h hn ⊢
  have hN : Hd nameStart d.name.toList := hd_of_validName hname
  cases hda : d.args with
  | nil =>
    simp only [hda, rDir_offN] at h hn ⊢
    have n1 := hn.app
    have r0 := strP hτ ['@'] h.left (tok_of_hd h.right (hd_tk hN) (fun d => nameStart_not_trivia))
    have r1 := nameP hτ hname h.right n1
    have r2 : Part inp 0 (.opt (.call R.Arguments)) _ [] [] :=
      .opt_none (args_fails (headNot_mono (fun d hd => hd ▸ hbad) n1.ok)) n1.tok (by decide)
    obtain ⟨e, hr⟩ := PartT.rule look_Directive (r0.seq (r1.seq_nil r2))
    refine ⟨e, RunsK.cast (hr.mono (by decide)).run rfl rfl ?_⟩
    simp only [dirChildren, hda, rDir_offN, List.nil_append, List.append_nil]
    rw [dQ, rDir_offN]
  | cons a as =>
    simp only [hda, rDir_offN, rDir_offG] at h hn ⊢
    have n2 := hn.app.app
    have r0 := strP hτ ['@'] h.left (tok_of_hd h.right.left (hd_tk hN) (fun d => nameStart_not_trivia))
    have r1 := nameP hτ hname h.right.left (bad := fun _ => False)
      (Nxt.of_hd h.right.right (hd_tk (hd_renderArgs τ _ (a :: as))) (by rintro d rfl; decide))
    have r2 := argsP τ hτ (a :: as) (by simp) (hda ▸ hargs) h.right.right n2.tok
    obtain ⟨e, hr⟩ := PartT.rule look_Directive
      (r0.seq (r1.seq r2.opt_some))
    refine ⟨e, RunsK.cast (hr.mono (by decide)).run rfl rfl ?_⟩
    simp only [dirChildren, hda, rDir_offG, rDir_offN, List.nil_append, List.cons_append]
    rw [dQ, rDir_offN]

def rDirs (τ : Trivia) (sep : Bool) (p : Nat) (ds : List Directive) : List Char := renderItems (rDir τ) false sep p ds

def wpDirs (τ : Trivia) (inp : List Char) (sep : Bool) (p : Nat) (ds : List Directive) : List Directive :=
  mapItems (rDir τ) false sep (fun _ q d => withPosD τ inp q d) p ds

def DirGood (τ : Trivia) (inp : List Char) : Bool → Nat → Directive → Pair → Prop := fun _ q d pr =>
  HasAt inp q (renderDir τ q d) ∧ ∃ e, pr = .mk R.Directive q e (dirChildren τ q d)

theorem wfDirs_mem {d : Directive} : ∀ {ds : List Directive}, WFDirs ds → d ∈ ds → WFDir d := by
  intro ds
  induction ds with
  | nil => intro _ h; cases h
  | cons x xs ih =>
    intro hwf h
    rcases List.mem_cons.mp h with rfl | h
    · exact hwf.1
    · exact ih hwf.2 h

theorem sizeFields_le_renderDir (τ : Trivia) (p : Nat) (d : Directive) (hwf : WFDir d) :
    Value.sizeFields d.args ≤ (renderDir τ p d).length := by
  cases hda : d.args with
  | nil => simp [Value.sizeFields]
  | cons a as =>
    have := sizeFields_le_args τ (a :: as) (hda ▸ hwf.2) (dQ τ p d + (τ (dQ τ p d)).length)
    simp only [renderDir, hda, dirArgsText, List.length_cons, List.length_append]
    omega

theorem clean_dirChildren (τ : Trivia) (p : Nat) (d : Directive) : CleanL (dirChildren τ p d) := by
  unfold dirChildren
  refine ⟨cleanP_of (by decide) (by decide) trivial, ?_⟩
  cases d.args with
  | nil => trivial
  | cons a as => exact ⟨clean_argsPair τ _ _, trivial⟩

theorem directives_fails {p : Nat} (h : HeadNot (· = '@') (inp.drop p)) :
    Fails gList 8 true (.call R.Directives) .nonAtomic (At inp p) :=
  first_fails (by decide) h

theorem rDir_length_ge (τ : Trivia) (s : Bool) (q : Nat) (d : Directive) :
    (renderDir τ q d).length ≤ (rDir τ s q d).length := by simp [rDir, tk]

theorem hd_rDirs (τ : Trivia) (sep : Bool) (p : Nat) (ds : List Directive) :
    rDirs τ sep p ds = [] ∨ Hd (· = '@') (rDirs τ sep p ds) :=
  hd_renderItems (rDir τ) false sep (fun x _ s q => hd_rDir τ s q x) p

theorem rDirs_eq_nil {τ : Trivia} {sep : Bool} {p : Nat} {ds : List Directive} (h : rDirs τ sep p ds = []) : ds = [] :=
  renderItems_eq_nil (rDir τ) false sep (fun x _ s q => hd_rDir τ s q x) h

theorem dirsG (τ : Trivia) (hτ : ∀ q, Ws (τ q)) (ds : List Directive) (hne : ds ≠ []) (hwf : WFDirs ds) {sep : Bool}
    {p : Nat} {bad : Char → Prop} (hb1 : bad '(') (hb2 : bad '@') (h : HasAt inp p (rDirs τ sep p ds))
    (hn : Nxt inp bad sep (p + (rDirs τ sep p ds).length)) :
    ∃ e pss, Part inp 20 (.call R.Directives) p (rDirs τ sep p ds) [.mk R.Directives p e pss] ∧
      GoodItems (rDir τ) false sep (DirGood τ inp) p ds pss := by
  cases ds with
  | nil => exact absurd rfl hne
  | cons d r =>
    have hfail : Fails gList (10 + 100) true (.call R.Directive) .nonAtomic
        (At inp (p + (renderItems (rDir τ) false sep p (d :: r)).length)) :=
      first_fails (by decide) (hn.ne hb2)
    obtain ⟨pss, hmany, hgood⟩ := items_many1K (rDir τ) false sep (.call R.Directive) (fun _ => (· = '(')) 10 (DirGood τ inp) r d p
      (fun x hx s q hat hnx => by
        obtain ⟨e, hr⟩ := dirT τ hτ x (wfDirs_mem hwf hx) (bad := (· = '(')) rfl hat hnx
        exact ⟨_, hr, hat.left, e, rfl⟩)
      (fun x _ s q => (hd_rDir τ s q x).mono (by rintro c rfl; decide))
      h (hn.mono (by rintro c rfl; exact hb1)) hfail
    have hclean : CleanL pss := goodItems_clean (rDir τ) false sep (DirGood τ inp) (d :: r)
      (fun a _ s q pr hg => by
        obtain ⟨_, e, rfl⟩ := hg
        exact cleanP_of (by decide) (by decide) (clean_dirChildren τ q a)) p pss hgood
    obtain ⟨e, rR⟩ := PartT.rule look_Directives (PartT.plus (K := 10) hmany hclean (Nat.le_refl _))
    exact ⟨e, pss, rR.mono (by decide), hgood⟩

/-- `L`: a bound on the text, for a caller that knows the depth only through the length of the text -/
theorem buildDirectives_good (τ : Trivia) (inp : List Char) {sep : Bool} {p e : Nat} {ds : List Directive}
    {pss : List Pair} (hgood : GoodItems (rDir τ) false sep (DirGood τ inp) p ds pss) {fuel L : Nat}
    (hb : ∀ d ∈ ds, ∀ s q, (rDir τ s q d).length ≤ L → Value.sizeFields d.args ≤ fuel)
    (hL : (rDirs τ sep p ds).length ≤ L) :
    buildDirectives (Ctx.spec inp) fuel (.mk R.Directives p e pss) = .ok (wpDirs τ inp sep p ds) := by
  rw [buildDirectives_eq _ _ _ _ _ (goodItems_all (rDir τ) false sep (DirGood τ inp) R.Directive ds
    (fun a _ s q pr hg => by obtain ⟨_, e, rfl⟩ := hg; rfl) p pss hgood)]
  exact goodItems_mapM (rDir τ) false sep (DirGood τ inp) (dirFn (Ctx.spec inp) fuel) (fun _ q d => withPosD τ inp q d)
    L ds (fun a ha s q pr hg hlen => by
      obtain ⟨hat, e, rfl⟩ := hg
      exact dirFn_pair τ inp fuel q e a _ hat.drop (hb a ha s q hlen)) p pss hL hgood

theorem dirsT (τ : Trivia) (hτ : ∀ q, Ws (τ q)) (ds : List Directive) (hne : ds ≠ []) (hwf : WFDirs ds) {sep : Bool}
    {p : Nat} {bad : Char → Prop} (hb1 : bad '(') (hb2 : bad '@') (h : HasAt inp p (rDirs τ sep p ds))
    (hn : Nxt inp bad sep (p + (rDirs τ sep p ds).length)) :
    ∃ pr, Reads inp 20 R.Directives p (rDirs τ sep p ds) (buildDirectives (Ctx.spec inp)) (wpDirs τ inp sep p ds) pr := by
  obtain ⟨e, pss, hP, hgood⟩ := dirsG τ hτ ds hne hwf hb1 hb2 h hn
  exact ⟨_, hP, rfl, rfl, fun fuel hf => buildDirectives_good τ inp hgood (fun d hd s q hl =>
    Nat.le_trans (sizeFields_le_renderDir τ q d (wfDirs_mem hwf hd)) (Nat.le_trans (rDir_length_ge τ s q d) hl)) hf⟩

theorem optDirsT (τ : Trivia) (hτ : ∀ q, Ws (τ q)) (ds : List Directive) (hwf : WFDirs ds) {sep : Bool}
    {p : Nat} {bad : Char → Prop} (hb1 : bad '(') (hb2 : bad '@') (h : HasAt inp p (rDirs τ sep p ds))
    (hn : Nxt inp bad sep (p + (rDirs τ sep p ds).length)) :
    ∃ o, ReadsOpt inp 20 R.Directives p (rDirs τ sep p ds) (optDirs (Ctx.spec inp)) (wpDirs τ inp sep p ds) o ∧
      Nxt inp (fun c => bad c ∧ c ≠ '@') (sep && ds.isEmpty) p := by
  have n0 := hn.before h (s := sep && ds.isEmpty) (hd_rDirs τ sep p ds) punct_at fun ht => sep_of_isEmpty (rDirs_eq_nil ht)
  cases ds with
  | nil => exact ⟨_, .none (directives_fails ((hn : Nxt inp bad sep p).ne hb2)) hn.tok (by decide) fun _ => rfl, n0⟩
  | cons d r =>
    obtain ⟨pr, hr⟩ := dirsT τ hτ (d :: r) (by simp) hwf hb1 hb2 h hn
    exact ⟨_, hr.opt fun _ => rfl, n0⟩

theorem rDir_false_length (τ : Trivia) (q : Nat) (d : Directive) :
    q + (rDir τ false q d).length = q + (renderDir τ q d).length + (τ (q + (renderDir τ q d).length)).length := by
  simp [rDir, tk, gapS, Nat.add_assoc]

theorem dirsFrom_eq (τ : Trivia) : ∀ (ds : List Directive) (q : Nat), dirsFrom τ q ds = rDirs τ false q ds
  | [], _ => rfl
  | [d], q => by simp [dirsFrom, rDirs, renderItems, rDir, tk, gapS]
  | d :: d' :: ds, q => by
    have ih := dirsFrom_eq τ (d' :: ds) (q + (rDir τ false q d).length)
    simp only [rDirs] at ih ⊢
    rw [renderItems_cons2, ← ih, rDir_false_length, dirsFrom]
    simp [rDir, tk, gapS]

theorem withPosDs_eq (τ : Trivia) (inp : List Char) : ∀ (ds : List Directive) (q : Nat),
    withPosDs τ inp q ds = wpDirs τ inp false q ds
  | [], _ => rfl
  | [d], q => rfl
  | d :: d' :: ds, q => by
    have ih := withPosDs_eq τ inp (d' :: ds) (q + (rDir τ false q d).length)
    simp only [wpDirs] at ih ⊢
    rw [mapItems, ← ih, rDir_false_length, withPosDs]

end NitroVerif.DocParse
