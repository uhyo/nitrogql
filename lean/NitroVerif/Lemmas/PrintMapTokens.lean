import NitroVerif.Lemmas.PrintMapResolver
import NitroVerif.Lemmas.SchemaFacts
/-!
# C06 — printer call sites: every mapped call points at a name-carrying token of the document

`TsToken doc p s`: the type-system document `doc` has, at position `p`, a token with text `s` that the AST records with
its position — a definition keyword, a definition name, a field / argument / input field / enum value name, a union
member, a root type of a schema definition, the named type at the bottom of a field's type.
Every call of the two closed forms is a `write_for` for such a token, with the token text as node name (and, for the
resolver printer, which never renames, as text). The converse (the definition names, fields, input fields and enum
values are among the calls) is `schema_type_name_site` … in `Props/C06Sites.lean`, from the membership lemmas here.
-/
namespace NitroVerif.PrintMap
open NitroVerif.Gql NitroVerif.DeclCfg NitroVerif.SchemaDecls

inductive TsToken (doc : TsDoc) : Pos → String → Prop
  | keyword {td : TypeDef} : .typeDef td ∈ doc → TsToken doc td.pos (keywordOf td.kind)
  | typeName {td : TypeDef} : .typeDef td ∈ doc → TsToken doc td.namePos td.name
  | field {td : TypeDef} {f : FieldDef} : .typeDef td ∈ doc → f ∈ td.fields → TsToken doc f.pos f.name
  | argument {td : TypeDef} {f : FieldDef} {a : InputValueDef} :
      .typeDef td ∈ doc → f ∈ td.fields → a ∈ f.args → TsToken doc a.pos a.name
  | fieldType {td : TypeDef} {f : FieldDef} :
      .typeDef td ∈ doc → f ∈ td.fields → TsToken doc (leafPos f.ty) f.ty.unwrapped
  | inputField {td : TypeDef} {f : InputValueDef} : .typeDef td ∈ doc → f ∈ td.inputs → TsToken doc f.pos f.name
  | enumValue {td : TypeDef} {v : EnumValueDef} : .typeDef td ∈ doc → v ∈ td.values → TsToken doc v.pos v.name
  | member {td : TypeDef} {m : Name × Pos} : .typeDef td ∈ doc → m ∈ td.members → TsToken doc m.2 m.1
  | root {sd : SchemaDef} {r : OpKind × Name × Pos} : .schemaDef sd ∈ doc → r ∈ sd.roots → TsToken doc r.2.2 r.2.1

/-- the text written for a node named `s`: the name itself, its `__tmp_` local name, or — for a definition keyword —
    the TypeScript declaration keywords -/
def SiteText (t s : String) : Prop :=
  t = s ∨ t = "__tmp_" ++ s ∨ t = "export type " ∨ t = "type " ∨ t = "export const "

/-- a mapped call for a token of the document -/
def IsSite (doc : TsDoc) (op : POp) : Prop :=
  ∃ t p s, op = .writeFor t p (some s) ∧ p.builtin = false ∧ TsToken doc p s ∧ SiteText t s

theorem isSite_of_node {doc : TsDoc} {op : POp} {t s : String} {p : Pos} (h : op ∈ node t p s)
    (htok : TsToken doc p s) (htext : SiteText t s) : IsSite doc op := by
  obtain ⟨hb, rfl⟩ := mem_node.mp h
  exact ⟨t, p, s, rfl, hb, htok, htext⟩

/-- a mapped call for a token of the document whose text is the token itself -/
def IsNameSite (doc : TsDoc) (op : POp) : Prop :=
  ∃ p s, op = .writeFor s p (some s) ∧ p.builtin = false ∧ TsToken doc p s

theorem IsNameSite.isSite {doc : TsDoc} {op : POp} : IsNameSite doc op → IsSite doc op :=
  fun ⟨p, s, e, hb, htok⟩ => ⟨s, p, s, e, hb, htok, .inl rfl⟩

theorem nameSite_of_node {doc : TsDoc} {op : POp} {s : String} {p : Pos} (h : op ∈ node s p s)
    (htok : TsToken doc p s) : IsNameSite doc op := by
  obtain ⟨hb, rfl⟩ := mem_node.mp h
  exact ⟨p, s, rfl, hb, htok⟩

theorem nameSite_of_keySites {doc : TsDoc} {op : POp} {k : String} {p : Pos} (h : op ∈ keySites k p)
    (htok : TsToken doc p k) : IsNameSite doc op := by
  unfold keySites at h
  split at h
  · exact nameSite_of_node h htok
  · cases h

theorem firstSchemaDef_mem {doc : TsDoc} {sd : SchemaDef} (h : firstSchemaDef doc = some sd) : .schemaDef sd ∈ doc := by
  unfold firstSchemaDef at h
  obtain ⟨it, hit, h⟩ := List.exists_of_findSome?_eq_some h
  cases it <;> simp at h
  subst h; exact hit

theorem headerText_ok (td : TypeDef) (l : String) : SiteText (headerText td l) (keywordOf td.kind) := by
  unfold headerText
  split
  · exact .inr (.inr (.inl rfl))
  · exact .inr (.inr (.inr (.inl rfl)))

theorem local_ok (x : Ctx) (n : Name) : SiteText (x.local n) n := by
  unfold Ctx.local localName
  split
  · exact .inr (.inl rfl)
  · exact .inl rfl

theorem headerSites_tokens {doc : TsDoc} {td : TypeDef} (htd : .typeDef td ∈ doc) (x : Ctx) :
    ∀ op ∈ headerSites td (x.local td.name), IsSite doc op := by
  intro op hop
  unfold headerSites at hop
  rcases List.mem_append.mp hop with h | h
  · exact isSite_of_node h (.keyword htd) (headerText_ok _ _)
  · exact isSite_of_node h (.typeName htd) (local_ok _ _)

theorem typeSites_tokens {doc : TsDoc} {td : TypeDef} (htd : .typeDef td ∈ doc) (x : Ctx) :
    ∀ op ∈ typeSites x td, IsSite doc op := by
  intro op hop
  unfold typeSites at hop
  split at hop
  · rcases List.mem_append.mp hop with h | h
    · exact headerSites_tokens htd x op h
    · unfold bodySites at h
      split at h
      · obtain ⟨f, hf, h⟩ := List.mem_flatMap.mp h
        exact (nameSite_of_keySites h (.field htd hf)).isSite
      · obtain ⟨m, hm, h⟩ := List.mem_flatMap.mp h
        split at h
        · exact isSite_of_node h (.member htd hm) (.inl rfl)
        · cases h
      · obtain ⟨f, hf, h⟩ := List.mem_flatMap.mp h
        exact (nameSite_of_keySites h (.inputField htd hf)).isSite
      · cases h
  · cases hop

theorem reprSites_tokens {doc : TsDoc} {td : TypeDef} (htd : .typeDef td ∈ doc) (x : Ctx) :
    ∀ op ∈ reprSites x td, IsSite doc op := by
  intro op hop
  unfold reprSites at hop
  rcases List.mem_append.mp hop with h | h
  · exact headerSites_tokens htd x op h
  · split at h
    · rcases List.mem_append.mp h with h | h
      · rcases List.mem_append.mp h with h | h
        · exact isSite_of_node h (.keyword htd) (.inr (.inr (.inr (.inr rfl))))
        · exact isSite_of_node h (.typeName htd) (.inl rfl)
      · obtain ⟨v, hv, h⟩ := List.mem_flatMap.mp h
        rcases List.mem_append.mp h with h | h <;> exact isSite_of_node h (.enumValue htd hv) (.inl rfl)
    · cases h

theorem metadataSites_tokens (doc : TsDoc) : ∀ op ∈ metadataSites doc, IsSite doc op := by
  intro op hop
  unfold metadataSites at hop
  cases hsd : firstSchemaDef doc with
  | some sd =>
    simp only [hsd] at hop
    obtain ⟨r, hr, h⟩ := List.mem_flatMap.mp hop
    exact isSite_of_node h (.root (firstSchemaDef_mem hsd) hr) (.inl rfl)
  | none =>
    simp only [hsd] at hop
    obtain ⟨td, htd, h⟩ := List.mem_flatMap.mp hop
    split at h
    · exact isSite_of_node h (.typeName (mem_typeDefsOf.mp htd)) (.inl rfl)
    · cases h

theorem schemaSites_tokens (c : Cfg) (doc : TsDoc) : ∀ op ∈ schemaSites c doc, IsSite doc op := by
  intro op hop
  unfold schemaSites at hop
  rcases List.mem_append.mp hop with h | h
  · rcases List.mem_append.mp h with h | h
    · exact metadataSites_tokens doc op h
    · obtain ⟨t, _, h⟩ := List.mem_flatMap.mp h
      obtain ⟨it, hit, h⟩ := List.mem_flatMap.mp h
      cases it with
      | typeDef td => exact typeSites_tokens hit _ op h
      | schemaDef _ => cases h
      | directiveDef _ => cases h
      | schemaExt _ => cases h
      | typeExt _ => cases h
  · obtain ⟨it, hit, h⟩ := List.mem_flatMap.mp h
    cases it with
    | typeDef td => exact reprSites_tokens hit _ op h
    | schemaDef _ => cases h
    | directiveDef _ => cases h
    | schemaExt _ => cases h
    | typeExt _ => cases h

theorem node_mem {t s : String} {p : Pos} (hb : p.builtin = false) : POp.writeFor t p (some s) ∈ node t p s :=
  mem_node.mpr ⟨hb, rfl⟩

theorem repr_mem_schemaSites (c : Cfg) (doc : TsDoc) {td : TypeDef} (htd : .typeDef td ∈ doc) {op : POp}
    (h : op ∈ reprSites (Ctx.new c doc .operationOutput) td) : op ∈ schemaSites c doc := by
  unfold schemaSites
  exact List.mem_append_right _ (List.mem_flatMap.mpr ⟨_, htd, h⟩)

theorem type_mem_schemaSites (c : Cfg) (doc : TsDoc) (t : Target) (ht : t ∈ Target.all) {td : TypeDef}
    (htd : .typeDef td ∈ doc) {op : POp} (h : op ∈ typeSites (Ctx.new c doc t) td) : op ∈ schemaSites c doc := by
  unfold schemaSites
  exact List.mem_append_left _ (List.mem_append_right _
    (List.mem_flatMap.mpr ⟨t, ht, List.mem_flatMap.mpr ⟨_, htd, h⟩⟩))

theorem keySites_mem {k : String} {p : Pos} (hr : isRawIdent k = true) (hb : p.builtin = false) :
    POp.writeFor k p (some k) ∈ keySites k p := by
  simp [keySites, hr, node_mem hb]

theorem localName_noNl (b : List String) (n : Name) (h : '\n' ∉ n.toList) : '\n' ∉ (localName b n).toList := by
  unfold localName
  split
  · rw [String.toList_append]
    intro hm
    rcases List.mem_append.mp hm with hm | hm
    · revert hm; decide
    · exact h hm
  · exact h

theorem nameNodeOf_token {doc : TsDoc} {n : Name} (hb : (nameNodeOf ⟨doc⟩ n).builtin = false) :
    TsToken doc (nameNodeOf ⟨doc⟩ n) n := by
  unfold nameNodeOf at hb ⊢
  cases h : Schema.typeDef? ⟨doc⟩ n with
  | none => simp [h, bi] at hb
  | some td =>
    show TsToken doc td.namePos n
    rw [← Schema.typeDef?_name h]
    exact .typeName (mem_typeDefsOf.mp (Schema.typeDef?_mem h))

theorem refSites_members_tokens {doc : TsDoc} {td : TypeDef} (htd : .typeDef td ∈ doc) :
    ∀ op ∈ refSites td.members, IsNameSite doc op := by
  intro op hop
  obtain ⟨m, hm, h⟩ := List.mem_flatMap.mp hop
  exact nameSite_of_node h (.member htd hm)

theorem refSites_implementers_tokens (doc : TsDoc) (n : Name) :
    ∀ op ∈ refSites (implementerNodes ⟨doc⟩ n), IsNameSite doc op := by
  intro op hop
  obtain ⟨m, hm, h⟩ := List.mem_flatMap.mp hop
  unfold implementerNodes at hm
  obtain ⟨k, _, rfl⟩ := List.mem_map.mp hm
  obtain ⟨hb, rfl⟩ := mem_node.mp h
  exact ⟨_, _, rfl, hb, nameNodeOf_token hb⟩

theorem resolverSites_tokens (doc : TsDoc) : ∀ op ∈ resolverSites doc, IsNameSite doc op := by
  intro op hop
  unfold resolverSites at hop
  simp only at hop
  rcases List.mem_append.mp hop with h | h
  · rcases List.mem_append.mp h with h | h
    · obtain ⟨td, htd, h⟩ := List.mem_flatMap.mp h
      have htd' := mem_typeDefsOf.mp (List.mem_filter.mp htd).1
      unfold outputAliasSites at h
      rcases List.mem_append.mp h with h | h
      · exact nameSite_of_node h (.typeName htd')
      · split at h
        · exact refSites_implementers_tokens doc _ op h
        · exact refSites_members_tokens htd' op h
        · cases h
    · obtain ⟨td, htd, h⟩ := List.mem_flatMap.mp h
      have htd' := mem_typeDefsOf.mp htd
      unfold rootEntrySites at h
      split at h
      · rcases List.mem_append.mp h with h | h
        · exact nameSite_of_keySites h (.typeName htd')
        · obtain ⟨f, hf, h⟩ := List.mem_flatMap.mp h
          unfold fieldResolverSites at h
          rcases List.mem_append.mp h with h | h
          · rcases List.mem_append.mp h with h | h
            · rcases List.mem_append.mp h with h | h
              · exact nameSite_of_keySites h (.field htd' hf)
              · exact nameSite_of_node h (.typeName htd')
            · obtain ⟨a, ha, h⟩ := List.mem_flatMap.mp h
              exact nameSite_of_keySites h (.argument htd' hf ha)
          · exact nameSite_of_node h (.fieldType htd' hf)
      · rcases List.mem_append.mp h with h | h
        · exact nameSite_of_keySites h (.typeName htd')
        · exact refSites_implementers_tokens doc _ op h
      · rcases List.mem_append.mp h with h | h
        · exact nameSite_of_keySites h (.typeName htd')
        · exact refSites_members_tokens htd' op h
      · cases h
  · obtain ⟨td, htd, h⟩ := List.mem_flatMap.mp h
    have htd' := mem_typeDefsOf.mp (List.mem_filter.mp htd).1
    rcases List.mem_append.mp h with h | h
    · exact nameSite_of_keySites h (.typeName htd')
    · exact nameSite_of_node h (.typeName htd')

end NitroVerif.PrintMap
