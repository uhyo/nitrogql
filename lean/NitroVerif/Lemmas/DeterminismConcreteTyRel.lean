/-
The relation "same TypeScript type up to the order of the members of every union" (`TyRel`), and `OpTypes.toTs` maps
`TreeRel`-related trees to `TyRel`-related types.
-/
import NitroVerif.Lemmas.DeterminismConcreteImplTree
namespace NitroVerif.DeterminismOpTypes
open NitroVerif.Gql NitroVerif.OpTypes NitroVerif.DeterminismRel NitroVerif.Ts
open NitroVerif.DeterminismDecls (RelList relList_refl relList_map relList_append)

mutual
/-- the same TypeScript type up to the order of the members of every union, at every depth reachable through
    unions, arrays, type applications and object types (the constructors `toTs` produces) -/
def TyRel : Ty → Ty → Prop
  | .union ts, t => ∃ ts', t = .union ts' ∧ TysPermRel ts ts'
  | .arr a, t => ∃ b, t = .arr b ∧ TyRel a b
  | .app f as, t => ∃ bs, t = .app f bs ∧ TysRel as bs
  | .obj fs, t => ∃ fs', t = .obj fs' ∧ TyFieldsRel fs fs'
  | .prim s, t => t = .prim s
  | .ref n, t => t = .ref n
  | .qref p, t => t = .qref p
  | .strLit s, t => t = .strLit s
  | .numLit s, t => t = .numLit s
  | .roArr a, t => t = .roArr a
  | .inter ts, t => t = .inter ts
  | .fn ps r, t => t = .fn ps r
  | .index a k, t => t = .index a k
  | .tuple ts, t => t = .tuple ts
  | .other tag ps, t => t = .other tag ps
/-- the second list is a permutation of the first up to `TyRel` -/
def TysPermRel : List Ty → List Ty → Prop
  | [], l => l = []
  | a :: rest, l => ∃ b l1 l2, l = l1 ++ b :: l2 ∧ TyRel a b ∧ TysPermRel rest (l1 ++ l2)
def TysRel : List Ty → List Ty → Prop
  | [], l => l = []
  | a :: rest, l => ∃ b r, l = b :: r ∧ TyRel a b ∧ TysRel rest r
/-- same keys and flags in the same order, related types -/
def TyFieldsRel : List Ts.Field → List Ts.Field → Prop
  | [], l => l = []
  | (k, ro, o, t) :: rest, l => ∃ t' r, l = (k, ro, o, t') :: r ∧ TyRel t t' ∧ TyFieldsRel rest r
end

theorem tysPermRel_iff {l l' : List Ty} : TysPermRel l l' ↔ PermRel TyRel l l' :=
  permRel_of_pick (fun l => by rw [TysPermRel]) (fun a r l => by rw [TysPermRel]) l l'

theorem tysRel_iff {l l' : List Ty} : TysRel l l' ↔ RelList TyRel l l' :=
  relList_of_head (fun l => by rw [TysRel]) (fun a r l => by rw [TysRel]) l l'

def TyFieldRel (f f' : Ts.Field) : Prop := f.1 = f'.1 ∧ f.2.1 = f'.2.1 ∧ f.2.2.1 = f'.2.2.1 ∧ TyRel f.2.2.2 f'.2.2.2

theorem tyFieldsRel_iff : ∀ {l l' : List Ts.Field}, TyFieldsRel l l' ↔ RelList TyFieldRel l l'
  | [], l' => by rw [TyFieldsRel, relList_nil_left]
  | (k, ro, o, t) :: l, l' => by
    rw [TyFieldsRel, relList_cons_left]
    constructor
    · rintro ⟨t', r, he, h1, h2⟩; exact ⟨_, r, he, ⟨rfl, rfl, rfl, h1⟩, tyFieldsRel_iff.mp h2⟩
    · rintro ⟨⟨k', ro', o', t'⟩, r, he, ⟨h1, h2, h3, h4⟩, h5⟩
      simp only at h1 h2 h3 h4
      subst h1; subst h2; subst h3
      exact ⟨t', r, he, h4, tyFieldsRel_iff.mpr h5⟩

theorem tyRel_union {ts ts' : List Ty} : TyRel (.union ts) (.union ts') ↔ PermRel TyRel ts ts' := by
  rw [TyRel, ← tysPermRel_iff]
  simp only [Ty.union.injEq, exists_eq_left']

theorem tyRel_arr {a b : Ty} : TyRel (.arr a) (.arr b) ↔ TyRel a b := by
  rw [TyRel]
  simp only [Ty.arr.injEq, exists_eq_left']

theorem tyRel_app {f : Ty} {as bs : List Ty} : TyRel (.app f as) (.app f bs) ↔ RelList TyRel as bs := by
  rw [TyRel, ← tysRel_iff]
  simp only [Ty.app.injEq, true_and, exists_eq_left']

theorem tyRel_obj {fs fs' : List Ts.Field} : TyRel (.obj fs) (.obj fs') ↔ RelList TyFieldRel fs fs' := by
  rw [TyRel, ← tyFieldsRel_iff]
  simp only [Ty.obj.injEq, exists_eq_left']

mutual
theorem tyRel_refl : ∀ t : Ty, TyRel t t
  | .union ts => tyRel_union.mpr (.of_rel (tysRefl ts))
  | .arr a => tyRel_arr.mpr (tyRel_refl a)
  | .app f as => tyRel_app.mpr (tysRefl as)
  | .obj fs => tyRel_obj.mpr (tyFieldsRefl fs)
  | .prim _ | .ref _ | .qref _ | .strLit _ | .numLit _ | .roArr _ | .inter _ | .fn _ _ | .index _ _ | .tuple _
  | .other _ _ => by rw [TyRel]
theorem tysRefl : ∀ l : List Ty, RelList TyRel l l
  | [] => trivial
  | a :: l => ⟨tyRel_refl a, tysRefl l⟩
theorem tyFieldsRefl : ∀ l : List Ts.Field, RelList TyFieldRel l l
  | [] => trivial
  | (_, _, _, t) :: l => ⟨⟨rfl, rfl, rfl, tyRel_refl t⟩, tyFieldsRefl l⟩
end

theorem tsUnion_rel {l l' : List Ty} (h : PermRel TyRel l l') : TyRel (OpTypes.tsUnion l) (OpTypes.tsUnion l') := by
  have hlen := h.length
  match l, l', h, hlen with
  | [], [], _, _ => exact tyRel_refl _
  | [a], [b], h, _ =>
    obtain ⟨g, hg, hr⟩ := h
    have : g = [a] := List.perm_singleton.mp hg.symm
    subst this
    exact hr.1
  | a :: a' :: as, b :: b' :: bs, h, _ => exact tyRel_union.mpr h
  | [], _ :: _, _, hl => simp at hl
  | _ :: _, [], _, hl => simp at hl
  | [_], _ :: _ :: _, _, hl => simp at hl
  | _ :: _ :: _, [_], _, hl => simp at hl

theorem orNull_rel {t t' : Ty} (h : TyRel t t') : TyRel (orNull t) (orNull t') := by
  have pair : ∀ {a b : Ty}, TyRel a b → TyRel (.union [a, .prim "null"]) (.union [b, .prim "null"]) :=
    fun hab => tyRel_union.mpr (.of_rel ⟨hab, tyRel_refl _, trivial⟩)
  cases t with
  | union ts =>
    rw [TyRel] at h
    obtain ⟨ts', rfl, hts⟩ := h
    simp only [orNull]
    exact tyRel_union.mpr ((tysPermRel_iff.mp hts).append (.of_rel ⟨tyRel_refl _, trivial⟩))
  | arr _ | app _ _ | obj _ =>
    have h' := h
    rw [TyRel] at h'
    obtain ⟨_, rfl, _⟩ := h'
    exact pair h
  | prim _ | ref _ | qref _ | strLit _ | numLit _ | roArr _ | inter _ | fn _ _ | index _ _ | tuple _ | other _ _ =>
    have h' := h
    rw [TyRel] at h'
    subst h'
    exact pair h

theorem branchesTs_eq_map (r : Refs) : ∀ bs : List Branch, branchesTs r bs = bs.map (branchTs r)
  | [] => by simp only [branchesTs, List.map_nil]
  | b :: bs => by simp only [branchesTs, List.map_cons, branchesTs_eq_map r bs]

mutual
theorem treeTs_rel (r : Refs) : ∀ (t t' : SelTree) (nn : Bool), TreeRel t t' → TyRel (treeTs r t nn) (treeTs r t' nn)
  | .nonNull a, t', nn, h => by
    rw [TreeRel] at h
    obtain ⟨b, rfl, hab⟩ := h
    simp only [treeTs]
    exact treeTs_rel r a b true hab
  | .list a, t', nn, h => by
    rw [TreeRel] at h
    obtain ⟨b, rfl, hab⟩ := h
    simp only [treeTs]
    have := tyRel_arr.mpr (treeTs_rel r a b false hab)
    cases nn
    · exact orNull_rel this
    · exact this
  | .object bs, t', nn, h => by
    rw [TreeRel] at h
    obtain ⟨bs', rfl, hb⟩ := h
    simp only [treeTs]
    have := tsUnion_rel (branchesTs_rel r bs bs' hb)
    cases nn
    · exact orNull_rel this
    · exact this
termination_by structural t => t
theorem branchesTs_rel (r : Refs) : ∀ (bs bs' : List Branch), BranchesRel bs bs' →
    PermRel TyRel (branchesTs r bs) (branchesTs r bs')
  | [], bs', h => by
    rw [BranchesRel] at h
    subst h
    exact .nil
  | b :: rest, bs', h => by
    rw [BranchesRel] at h
    obtain ⟨b', l1, l2, rfl, hb, hr⟩ := h
    have ih := branchesTs_rel r rest (l1 ++ l2) hr
    have hb' := branchTs_rel r b b' hb
    rw [branchesTs_eq_map r (l1 ++ l2)] at ih
    rw [branchesTs_eq_map r (l1 ++ b' :: l2)]
    simp only [branchesTs, List.map_append, List.map_cons] at ih ⊢
    exact (PermRel.cons hb' ih).perm_right List.perm_middle.symm
termination_by structural bs => bs
theorem branchTs_rel (r : Refs) : ∀ (b b' : Branch), BranchRel b b' → TyRel (branchTs r b) (branchTs r b')
  | .mk n v un al, b', h => by
    rw [BranchRel] at h
    obtain ⟨un', al', rfl, hun, hal⟩ := h
    simp only [branchTs]
    exact tyRel_app.mpr ⟨tyRel_refl _, tyRel_obj.mpr (fieldsTs_rel r n un un' hun),
      tyRel_obj.mpr (fieldsTs_rel r n al al' hal), trivial⟩
termination_by structural b => b
theorem fieldsTs_rel (r : Refs) (p : Name) : ∀ (fs fs' : List SField), FieldsRel fs fs' →
    RelList TyFieldRel (fieldsTs r p fs) (fieldsTs r p fs')
  | [], fs', h => by
    rw [FieldsRel] at h
    subst h
    trivial
  | f :: fs, fs', h => by
    rw [FieldsRel] at h
    obtain ⟨f', rest, rfl, hf, hr⟩ := h
    simp only [fieldsTs]
    exact ⟨fieldTs_rel r p f f' hf, fieldsTs_rel r p fs rest hr⟩
termination_by structural fs => fs
theorem fieldTs_rel (r : Refs) (p : Name) : ∀ (f f' : SField), FieldRel f f' → TyFieldRel (fieldTs r p f) (fieldTs r p f')
  | .empty n, f', h => by
    rw [FieldRel] at h
    subst h
    exact ⟨rfl, rfl, rfl, tyRel_refl _⟩
  | .leaf n t b, f', h => by
    rw [FieldRel] at h
    subst h
    exact ⟨rfl, rfl, rfl, tyRel_refl _⟩
  | .object n sel, f', h => by
    rw [FieldRel] at h
    obtain ⟨sel', rfl, hs⟩ := h
    simp only [fieldTs]
    exact ⟨rfl, rfl, rfl, treeTs_rel r sel sel' false hs⟩
termination_by structural f => f
end

theorem toTs_rel (ns : String) {t t' : SelTree} (h : TreeRel t t') : TyRel (toTs ns t) (toTs ns t') :=
  treeTs_rel _ t t' false h

/-- two `type X = …;` statements of the operation declaration file: same name, same export flag, and the types are
    both panics or `TyRel`-related -/
def OpDeclRel (d d' : OpTypes.Decl) : Prop :=
  d.name = d'.name ∧ d.exported = d'.exported ∧ ExRel TyRel d.ty d'.ty

theorem exRel_exceptMap {α β γ δ ε : Type} {R : α → β → Prop} {Q : γ → δ → Prop} {x : Except ε α} {y : Except ε β}
    {f : α → γ} {g : β → δ} (hxy : ExRel R x y) (hfg : ∀ a b, R a b → Q (f a) (g b)) :
    ExRel Q (x.map f) (y.map g) := by
  cases x <;> cases y
  · trivial
  · exact hxy.elim
  · exact hxy.elim
  · exact hfg _ _ hxy

theorem relList_filterMap_same {α γ δ : Type} {Q : γ → δ → Prop} {f : α → Option γ} {g : α → Option δ}
    (hfg : ∀ a, OptRel Q (f a) (g a)) : ∀ l : List α, RelList Q (l.filterMap f) (l.filterMap g)
  | [] => trivial
  | a :: l => by
    have := hfg a
    simp only [List.filterMap_cons]
    cases hf : f a <;> cases hg : g a <;> rw [hf, hg] at this
    · exact relList_filterMap_same hfg l
    · exact this.elim
    · exact this.elim
    · exact ⟨this, relList_filterMap_same hfg l⟩

theorem opDecls_rel {S S' : Schema} (h : SchemaRel S S') (hroot : ∀ k, S.rootName k = S'.rootName k)
    (o : Opts) (d : Doc) : RelList OpDeclRel (opDecls S o d) (opDecls S' o d) := by
  unfold opDecls
  apply relList_filterMap_same
  intro x
  cases x with
  | op op =>
    simp only [resultTree, hroot]
    exact ⟨rfl, rfl, exRel_exceptMap ((implTree_fieldsFor_rel h _ _ _).1 _ _) fun _ _ hab => toTs_rel _ hab⟩
  | frag f =>
    simp only [resultTree]
    exact ⟨rfl, rfl, exRel_exceptMap ((implTree_fieldsFor_rel h _ _ _).1 _ _) fun _ _ hab => toTs_rel _ hab⟩
  | imp i => trivial

end NitroVerif.DeterminismOpTypes
