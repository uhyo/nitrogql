/-
C15, the SDL half against the specification: the schema the SDL route builds from `M` (+ built-ins) is `≃` the type
system the specification assigns to `M` (`specSchema M`, + the built-in scalars the CLI always adds).
-/
import NitroVerif.Lemmas.Routes
namespace NitroVerif.Routes
open NitroVerif NitroVerif.Gql NitroVerif.SchemaIR NitroVerif.AstSchema NitroVerif.IntrospectSpec NitroVerif.CliSchema

theorem introspectionTypes_clean : introspectionTypes.map cleanType = introspectionTypes := rfl

theorem referencedBuiltins_clean (ts : List ITypeDef) (ds : List IDirectiveDef) :
    (referencedBuiltins ts ds).map cleanType = referencedBuiltins ts ds := by
  simp only [referencedBuiltins, List.map_map]
  apply List.map_congr_left
  intro b _
  rfl

theorem specExtra_eq (M : TsDoc) :
    specExtra M = referencedBuiltins (userTypes M ++ introspectionTypes) (builtinDirectives ++ userDirectives M)
      ++ introspectionTypes := by
  simp only [specExtra, introspectionTypes_clean, referencedBuiltins_clean]

theorem specSchema_types (M : TsDoc) : (specSchema M).types = userTypes M ++ specExtra M := by
  simp only [specSchema, specExtra_eq, List.append_assoc]

/-- the schema the specification assigns to `M`, with the five built-in scalars -/
def specSide (M : TsDoc) : Schema := addBuiltinScalars (specSchema M)

theorem specSide_types (M : TsDoc) : (specSide M).types = extendTypes (userTypes M ++ specExtra M) builtinScalarDefs := by
  simp only [specSide, addBuiltinScalars, specSchema_types]

theorem jsonSide_equiv_specSide (M : TsDoc) (hn : ((userTypes M).map (·.name)).Nodup) : jsonSide M ≃ specSide M := by
  have htypes : ∀ n, (jsonSide M).typeDef? n = (specSide M).typeDef? n := by
    intro n
    simp only [Schema.typeDef?, jsonSide_types, specSide_types, find?_extendTypes]
    rw [List.find?_append, find?_extendTypes, List.nil_append, ← List.find?_append]
  have hv : viewType (jsonSide M) = viewType (specSide M) := by
    funext n; simp only [viewType, htypes]
  refine ⟨fun n => congrFun hv n, fun n => ?_, fun k => ?_, fun i o => ?_⟩
  · simp only [viewDirective, Schema.directiveDef?, jsonSide_directives, find?_extendDirectives, List.nil_append]
    rfl
  · have hr : (jsonSide M).rootName k = (specSide M).rootName k := by
      simp [Schema.rootName, Schema.rootsDeclared, (jsonSide_roots M).1, (jsonSide_roots M).2, specSide,
        addBuiltinScalars, specSchema]
    simp only [viewRoot, hv, hr]
  · have hS : (specSide M).types.filter (isImplementerI i) = (userTypes M).filter (isImplementerI i) := by
      rw [specSide_types, filter_extendTypes _ _ _ (isImplementerI_builtinScalarDefs i), List.filter_append,
        filter_eq_nil_of_false (isImplementerI_specExtra M i), List.append_nil]
    rw [implementsB, implementsB, objectImplementers_eq, objectImplementers_eq, jsonSide_filter_isImplementerI M hn, hS]

theorem routeSdl_equiv_specSide (M : TsDoc) (h : ValidResolved M) : routeSdl M ≃ specSide M :=
  (routes_equiv M h).symm.trans (jsonSide_equiv_specSide M h.typeNames)

end NitroVerif.Routes
