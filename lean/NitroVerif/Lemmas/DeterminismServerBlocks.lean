import NitroVerif.Lemmas.DeterminismServerBalance
import NitroVerif.Lemmas.TokChunks
/-!
The text either `SourceMapWriter` (`JustWriter`, `JsStringWriter`) holds after a type-system document was printed into
it is the concatenation of the texts of the document's definitions, each printed on its own into a fresh writer
(`runOps_tsDoc`). Reasons: the indentation operations of a definition are balanced
(`Lemmas/DeterminismServerBalance.lean`), the writer's dollar flag is per `write` call, and the only other state — the
"indent before the next character" flag — is irrelevant at indentation 0 for a definition, because every definition
starts by writing a non-empty chunk (a keyword, or the opening quote of its description).
-/
namespace NitroVerif.DeterminismServer
open NitroVerif.Gql NitroVerif.GqlPrint NitroVerif.JsTemplate

/-- the writer state after a sequence of operations -/
def endSt (js : Bool) : WSt → List WOp → WSt
  | st, [] => st
  | st, .write s :: ops => endSt js (writeChars js st false s).2 ops
  | st, .indent :: ops => endSt js { st with indent := st.indent + 2 } ops
  | st, .dedent :: ops => endSt js { st with indent := st.indent - 2 } ops

theorem runOps_append (js : Bool) (a b : List WOp) : ∀ st,
    runOps js st (a ++ b) = runOps js st a ++ runOps js (endSt js st a) b := by
  induction a with
  | nil => intro st; rfl
  | cons o a ih =>
    intro st
    cases o with
    | write s => simp only [List.cons_append, runOps, endSt, ih, List.append_assoc]
    | indent => simp only [List.cons_append, runOps, endSt, ih]
    | dedent => simp only [List.cons_append, runOps, endSt, ih]

theorem endSt_append (js : Bool) (a b : List WOp) : ∀ st, endSt js st (a ++ b) = endSt js (endSt js st a) b := by
  induction a with
  | nil => intro st; rfl
  | cons o a ih => intro st; cases o <;> simp only [List.cons_append, endSt, ih]

theorem ops_append (a b : List Tok) : ops (a ++ b) = ops a ++ ops b := by simp [ops]

theorem endSt_indent (js : Bool) (ts : List Tok) : ∀ st, (endSt js st (ops ts)).indent = net st.indent ts := by
  induction ts with
  | nil => intro st; rfl
  | cons t ts ih =>
    intro st
    rw [ops_cons, endSt_append, ih, net_cons]
    congr 1
    cases t <;> simp [Tok.ops, endSt, writeChars_indent, shift]

/-- the operation list starts with a `write` of a non-empty chunk -/
def startsOK : List WOp → Bool
  | .write (_ :: _) :: _ => true
  | _ => false

theorem runOps_flag0 (js : Bool) (os : List WOp) (h : startsOK os = true) (f : Bool) :
    runOps js ⟨0, f⟩ os = runOps js ⟨0, false⟩ os := by
  match os, h with
  | .write (c :: cs) :: rest, _ =>
    have : writeChars js ⟨0, f⟩ false (c :: cs) = writeChars js ⟨0, false⟩ false (c :: cs) := by
      simp only [writeChars]
      split <;> simp
    simp only [runOps, this]

theorem printString_head (s : List Char) : ∃ r, printString s = '"' :: r := by
  unfold printString printBlock printQuoted
  split
  · exact ⟨_, rfl⟩
  · exact ⟨_, rfl⟩

theorem startsOK_write (s : List Char) (rest : List WOp) (h : s.isEmpty = false) :
    startsOK (.write s :: rest) = true := by
  cases s with
  | nil => simp at h
  | cons c cs => rfl

theorem startsOK_desc (s : String) (a : List Tok) : startsOK (ops (printDesc (some s) ++ a)) = true := by
  obtain ⟨r, hr⟩ := printString_head s.toList
  simp [printDesc, ops, Tok.ops, hr, startsOK]

theorem startsOK_name (s : String) (ts : List Tok) (h : s.toList.isEmpty = false) :
    startsOK (ops (.name s :: ts)) = true := by
  rw [ops_cons]
  exact startsOK_write _ _ h

theorem kindKeyword_nonempty (k : TypeKind) : (kindKeyword k).toList.isEmpty = false := by
  cases k <;> (unfold kindKeyword; rw [String.toList_ofList]; rfl)

theorem startsOK_tsItem (i : TsItem) : startsOK (ops (printTsItem i)) = true := by
  have extend : ("extend" : String).toList.isEmpty = false := by rw [String.toList_ofList]; rfl
  cases i with
  | schemaDef s =>
    rw [printTsItem, printSchemaDef]
    cases s.desc with
    | some x => simp only [List.append_assoc]; exact startsOK_desc _ _
    | none => exact startsOK_name "schema" _ (by rw [String.toList_ofList]; rfl)
  | typeDef t =>
    rw [printTsItem, printTypeDef]
    cases t.desc with
    | some x => simp only [List.append_assoc]; exact startsOK_desc _ _
    | none => exact startsOK_name _ _ (kindKeyword_nonempty t.kind)
  | directiveDef d =>
    rw [printTsItem, printDirectiveDef]
    cases d.desc with
    | some x => simp only [List.append_assoc]; exact startsOK_desc _ _
    | none => exact startsOK_name "directive" _ (by rw [String.toList_ofList]; rfl)
  | schemaExt s => exact startsOK_name "extend" _ extend
  | typeExt t => exact startsOK_name "extend" _ extend

/-- the text a definition contributes when it is printed on its own into a fresh writer
    (`js = true`: `JsStringWriter`, the characters between the back-ticks; `js = false`: `JustWriter`, the SDL text) -/
def itemBlock (js : Bool) (i : TsItem) : List Char := runOps js {} (ops (printTsItem i))

theorem runOps_tsDoc (js : Bool) (d : TsDoc) : ∀ f : Bool,
    runOps js ⟨0, f⟩ (ops (printTsDoc d)) = (d.map (itemBlock js)).flatten := by
  induction d with
  | nil => intro f; rfl
  | cons i is ih =>
    intro f
    simp only [printTsDoc, ops_append, runOps_append, List.map_cons, List.flatten_cons]
    have hend : endSt js ⟨0, f⟩ (ops (printTsItem i)) = ⟨0, (endSt js ⟨0, f⟩ (ops (printTsItem i))).flag⟩ := by
      have h := endSt_indent js (printTsItem i) ⟨0, f⟩
      rw [bal_tsItem] at h
      generalize endSt js ⟨0, f⟩ (ops (printTsItem i)) = st at h ⊢
      cases st
      simp_all
    rw [hend, ih, runOps_flag0 js _ (startsOK_tsItem i) f]
    rfl

end NitroVerif.DeterminismServer
