/-
About `SchemaIR`: the lookup interface, `≃` as equality of lookup interfaces; `extendBy`
(`SchemaBuilder::extend` over any kind of named definition; `extendTypes` and `extendDirectives` are its instances); lookup by
name among distinct names; the executable check `equivB` decides `≃`.
-/
import NitroVerif.Model.SchemaIR
import NitroVerif.Lemmas.ListFacts
namespace NitroVerif.SchemaIR

/-- everything a consumer may ask a schema: the four lookups, after erasure -/
structure Lookup where
  typeDef? : String → Option ITypeDef
  directiveDef? : String → Option IDirectiveDef
  rootDef? : OpK → Option ITypeDef
  implements : String → String → Bool

def lookupOf (s : Schema) : Lookup :=
  { typeDef? := viewType s, directiveDef? := viewDirective s, rootDef? := viewRoot s, implements := implementsB s }

theorem equiv_iff_lookup (a b : Schema) : a ≃ b ↔ lookupOf a = lookupOf b := by
  constructor
  · intro h
    simp only [lookupOf, Lookup.mk.injEq]
    exact ⟨funext h.types, funext h.directives, funext h.roots, funext fun i => funext (h.implementers i)⟩
  · intro h
    simp only [lookupOf, Lookup.mk.injEq] at h
    exact ⟨fun n => congrFun h.1 n, fun n => congrFun h.2.1 n, fun k => congrFun h.2.2.1 k,
      fun i o => congrFun (congrFun h.2.2.2 i) o⟩

theorem Equiv.refl (a : Schema) : a ≃ a := (equiv_iff_lookup a a).2 rfl
theorem Equiv.symm {a b : Schema} (h : a ≃ b) : b ≃ a :=
  (equiv_iff_lookup b a).2 ((equiv_iff_lookup a b).1 h).symm
theorem Equiv.trans {a b c : Schema} (h₁ : a ≃ b) (h₂ : b ≃ c) : a ≃ c :=
  (equiv_iff_lookup a c).2 (((equiv_iff_lookup a b).1 h₁).trans ((equiv_iff_lookup b c).1 h₂))

/-! ### `extendTypes`, `extendDirectives`

Both are `SchemaBuilder::extend` over a list of named definitions; what is proved about it is proved once, for any
`name : α → String`. -/

/-- `extend` over any kind of named definition: a name already present keeps its first definition -/
def extendBy {α : Type} (name : α → String) (acc : List α) : List α → List α
  | [] => acc
  | t :: rest => extendBy name (if acc.any (name · == name t) then acc else acc ++ [t]) rest

theorem extendTypes_eq (acc l : List ITypeDef) : extendTypes acc l = extendBy (·.name) acc l := by
  induction l generalizing acc with
  | nil => rfl
  | cons t r ih => exact ih _

theorem extendDirectives_eq (acc l : List IDirectiveDef) : extendDirectives acc l = extendBy (·.name) acc l := by
  induction l generalizing acc with
  | nil => rfl
  | cons t r ih => exact ih _

section extendBy
variable {α : Type} (name : α → String)

theorem extendBy_append (acc a b : List α) : extendBy name acc (a ++ b) = extendBy name (extendBy name acc a) b := by
  induction a generalizing acc with
  | nil => rfl
  | cons x r ih => exact ih _

theorem extendBy_sublist (acc l : List α) : ∃ l', l'.Sublist l ∧ extendBy name acc l = acc ++ l' := by
  induction l generalizing acc with
  | nil => exact ⟨[], .slnil, (List.append_nil acc).symm⟩
  | cons t r ih =>
    obtain ⟨l', hs, he⟩ := ih (if acc.any (name · == name t) then acc else acc ++ [t])
    rw [extendBy, he]
    split
    · exact ⟨l', hs.cons t, rfl⟩
    · exact ⟨t :: l', hs.cons_cons t, List.append_assoc acc [t] l'⟩

/-- first-definition-wins: lookup by name does not see whether a later definition of the name was dropped -/
theorem find?_extendBy (acc l : List α) (n : String) :
    (extendBy name acc l).find? (name · == n) = (acc ++ l).find? (name · == n) := by
  induction l generalizing acc with
  | nil => rw [extendBy, List.append_nil]
  | cons t r ih =>
    rw [extendBy, ih]
    split
    · rename_i hany
      -- `t` is shadowed by the element of `acc` that carries its name
      obtain ⟨u, hu, hun⟩ := List.any_eq_true.mp hany
      rw [List.find?_append, List.find?_append, List.find?_cons]
      cases ht : name t == n with
      | false => rfl
      | true =>
        have hn : (name u == n) = true := by rw [← beq_iff_eq.mp ht]; exact hun
        obtain ⟨x, hx⟩ := Option.isSome_iff_exists.mp (List.find?_isSome (p := (name · == n)) |>.mpr ⟨u, hu, hn⟩)
        rw [hx]; rfl
    · rw [List.append_assoc, List.singleton_append]

theorem extendBy_eq_filter (l : List α) (hl : (l.map name).Nodup) (acc : List α) :
    extendBy name acc l = acc ++ l.filter (fun t => !acc.any (name · == name t)) := by
  induction l generalizing acc with
  | nil => exact (List.append_nil acc).symm
  | cons t r ih =>
    rw [List.map_cons, List.nodup_cons] at hl
    rw [extendBy, ih hl.2, List.filter_cons]
    cases ha : acc.any (name · == name t) with
    | true => rfl
    | false =>
      -- the names of `r` differ from that of `t`, so `t` in the accumulator filters nothing out
      have : r.filter (fun u => !(acc ++ [t]).any (name · == name u)) = r.filter (fun u => !acc.any (name · == name u)) :=
        List.filter_congr fun u hu => by
          have hne : (name t == name u) = false :=
            beq_eq_false_iff_ne.mpr fun e => hl.1 (e ▸ List.mem_map_of_mem hu)
          rw [List.any_append, List.any_cons, hne, List.any_nil, Bool.or_false, Bool.or_false]
      simp only [Bool.false_eq_true, if_false, Bool.not_false, if_true, this, List.append_assoc, List.singleton_append]

theorem extendBy_nil_nodup (l : List α) (hl : (l.map name).Nodup) : extendBy name [] l = l := by
  rw [extendBy_eq_filter name l hl, List.nil_append]
  exact List.filter_eq_self.mpr fun _ _ => rfl

theorem extendBy_nodup (acc l : List α) (h : (acc.map name).Nodup) : ((extendBy name acc l).map name).Nodup := by
  induction l generalizing acc with
  | nil => exact h
  | cons x r ih =>
    refine ih _ ?_
    split
    · exact h
    · rename_i hany
      rw [List.map_append, List.nodup_append]
      refine ⟨h, List.pairwise_singleton _ _, fun a ha b hb e => hany ?_⟩
      obtain ⟨u, hu, rfl⟩ := List.mem_map.mp ha
      rw [List.map_singleton, List.mem_singleton] at hb
      exact List.any_eq_true.mpr ⟨u, hu, beq_iff_eq.mpr (e.trans hb)⟩

end extendBy

theorem filter_eq_nil_of_false {α : Type} {p : α → Bool} {l : List α} (h : ∀ t ∈ l, p t = false) : l.filter p = [] :=
  List.filter_eq_nil_iff.mpr fun t ht => by rw [h t ht]; exact Bool.false_ne_true

theorem extendTypes_append (acc a b : List ITypeDef) :
    extendTypes acc (a ++ b) = extendTypes (extendTypes acc a) b := by
  simp only [extendTypes_eq, extendBy_append]

theorem mem_extendTypes (acc l : List ITypeDef) (t : ITypeDef) (h : t ∈ extendTypes acc l) : t ∈ acc ∨ t ∈ l := by
  obtain ⟨l', hs, he⟩ := extendBy_sublist (·.name) acc l
  rw [extendTypes_eq, he] at h
  exact (List.mem_append.mp h).imp_right fun h' => hs.subset h'

theorem filter_extendTypes (p : ITypeDef → Bool) (acc l : List ITypeDef) (h : ∀ t ∈ l, p t = false) :
    (extendTypes acc l).filter p = acc.filter p := by
  obtain ⟨l', hs, he⟩ := extendBy_sublist (·.name) acc l
  rw [extendTypes_eq, he, List.filter_append, filter_eq_nil_of_false fun t ht => h t (hs.subset ht), List.append_nil]

theorem find?_extendTypes (acc l : List ITypeDef) (n : String) :
    (extendTypes acc l).find? (·.name == n) = (acc ++ l).find? (·.name == n) :=
  extendTypes_eq acc l ▸ find?_extendBy (·.name) acc l n

theorem find?_extendDirectives (acc l : List IDirectiveDef) (n : String) :
    (extendDirectives acc l).find? (·.name == n) = (acc ++ l).find? (·.name == n) :=
  extendDirectives_eq acc l ▸ find?_extendBy (·.name) acc l n

theorem extendTypes_filter (l : List ITypeDef) (hl : (l.map (·.name)).Nodup) (acc : List ITypeDef) :
    extendTypes acc l = acc ++ l.filter (fun t => !acc.any (·.name == t.name)) :=
  extendTypes_eq acc l ▸ extendBy_eq_filter (·.name) l hl acc

theorem extendTypes_nil_nodup (l : List ITypeDef) (hl : (l.map (·.name)).Nodup) : extendTypes [] l = l :=
  extendTypes_eq [] l ▸ extendBy_nil_nodup (·.name) l hl

theorem extendDirectives_nil_nodup (l : List IDirectiveDef) (hl : (l.map (·.name)).Nodup) :
    extendDirectives [] l = l :=
  extendDirectives_eq [] l ▸ extendBy_nil_nodup (·.name) l hl

theorem extendTypes_nodup (acc l : List ITypeDef) (h : (acc.map (·.name)).Nodup) :
    ((extendTypes acc l).map (·.name)).Nodup :=
  extendTypes_eq acc l ▸ extendBy_nodup (·.name) acc l h

/-! ### lookup by name; the executable check `equivB` decides `≃` -/

theorem find?_name_none {α : Type} {name : α → String} {l : List α} {n : String} (h : n ∉ l.map name) :
    l.find? (name · == n) = none :=
  List.find?_eq_none.mpr fun t ht hn => h (List.mem_map.mpr ⟨t, ht, beq_iff_eq.mp hn⟩)

theorem viewType_eq_none_of_not_mem (s : Schema) (n : String) (h : n ∉ typeNames s) : viewType s n = none := by
  rw [viewType, Schema.typeDef?, find?_name_none h]
  split <;> rfl

theorem viewDirective_eq_none_of_not_mem (s : Schema) (n : String) (h : n ∉ directiveNames s) :
    viewDirective s n = none := by
  rw [viewDirective, Schema.directiveDef?, find?_name_none h]
  split <;> rfl

theorem implementsB_true (s : Schema) (i o : String) (h : implementsB s i o = true) :
    i ∈ ifaceNames s ∧ o ∈ typeNames s := by
  simp only [implementsB, Schema.objectImplementers, List.contains_iff_mem, List.mem_map, List.mem_filter] at h
  obtain ⟨t, ⟨ht, hp⟩, rfl⟩ := h
  simp only [Bool.and_eq_true, List.contains_iff_mem] at hp
  exact ⟨List.mem_flatMap.mpr ⟨t, ht, hp.2⟩, List.mem_map.mpr ⟨t, ht, rfl⟩⟩

theorem implementsB_false_of_not_mem (s : Schema) (i o : String) (h : i ∉ ifaceNames s ∨ o ∉ typeNames s) :
    implementsB s i o = false := by
  cases hb : implementsB s i o with
  | false => rfl
  | true =>
    have := implementsB_true s i o hb
    rcases h with h | h
    · exact absurd this.1 h
    · exact absurd this.2 h

theorem equivB_iff (a b : Schema) : equivB a b = true ↔ a ≃ b := by
  constructor
  · intro h
    simp only [equivB, Bool.and_eq_true, List.all_eq_true, beq_iff_eq] at h
    obtain ⟨⟨⟨ht, hd⟩, hr⟩, hi⟩ := h
    refine ⟨fun n => ?_, fun n => ?_, fun k => ?_, fun i o => ?_⟩
    · by_cases hn : n ∈ typeNames a ++ typeNames b
      · exact ht n hn
      · rw [viewType_eq_none_of_not_mem a n (fun h => hn (List.mem_append_left _ h)),
          viewType_eq_none_of_not_mem b n (fun h => hn (List.mem_append_right _ h))]
    · by_cases hn : n ∈ directiveNames a ++ directiveNames b
      · exact hd n hn
      · rw [viewDirective_eq_none_of_not_mem a n (fun h => hn (List.mem_append_left _ h)),
          viewDirective_eq_none_of_not_mem b n (fun h => hn (List.mem_append_right _ h))]
    · exact hr k (by cases k <;> simp [allOpK])
    · by_cases hii : i ∈ ifaceNames a ++ ifaceNames b
      · by_cases ho : o ∈ typeNames a ++ typeNames b
        · exact hi i hii o ho
        · rw [implementsB_false_of_not_mem a i o (Or.inr fun h => ho (List.mem_append_left _ h)),
            implementsB_false_of_not_mem b i o (Or.inr fun h => ho (List.mem_append_right _ h))]
      · rw [implementsB_false_of_not_mem a i o (Or.inl fun h => hii (List.mem_append_left _ h)),
          implementsB_false_of_not_mem b i o (Or.inl fun h => hii (List.mem_append_right _ h))]
  · intro h
    simp only [equivB, Bool.and_eq_true, List.all_eq_true, beq_iff_eq]
    exact ⟨⟨⟨fun n _ => h.types n, fun n _ => h.directives n⟩, fun k _ => h.roots k⟩,
      fun i _ o _ => h.implementers i o⟩

end NitroVerif.SchemaIR
