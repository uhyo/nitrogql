/-
Merging does not panic: `merge_fields` of two related fields of one key, hence the deep merge of any number of related
fields, succeeds when the collections lie in a coherent one (`CohIn`) and the accumulated fields are within the depth the
fuel allows; the depth of a tree related to selection sets nesting at most `k` deep is bounded by the wrapper depth of its
type and `k · (G + 1)` (`wd_le`; `G` = wrapper depth of the schema's field types); so `merge_selection_trees` succeeds
with fuel at least the depth of the left tree (no "different types" panic, no out-of-fuel).
-/
import NitroVerif.Lemmas.OpTypesRefMerge
import NitroVerif.Lemmas.OpTypesRefFuel
import NitroVerif.Lemmas.Fuel
namespace NitroVerif.OpTypes.Ref
open NitroVerif.Gql NitroVerif.Ts NitroVerif.Exec NitroVerif.OpTypes

variable {mt : SelTree → SelTree → Except Panic SelTree}

theorem deepMergeGo_ok (mt : SelTree → SelTree → Except Panic SelTree) : ∀ (fs acc xs : List SField),
    Repr mt acc xs →
    (∀ k f0 rest, (xs ++ fs).filter (·.name == k) = f0 :: rest → ∃ m, mergeAll mt f0 rest = .ok m) →
    ∃ M, deepMergeGo mt fs acc = .ok M
  | [], acc, _, _, _ => ⟨acc, rfl⟩
  | f :: fs, acc, xs, hrep, hall => by
    simp only [deepMergeGo]
    by_cases hany : acc.any (·.name == f.name) = true
    · simp only [hany, ↓reduceIte, bind, Except.bind]
      obtain ⟨pre, g, post, rfl, _, hgn, heq⟩ := mergeInto_eq mt f acc hany
      -- the accumulated field of the name is the fold so far, and the fold over all fields of the name succeeds
      obtain ⟨f0, rest, hfil, hma⟩ := hrep.2.1 g (by simp)
      have hfil' : (xs ++ f :: fs).filter (·.name == f.name) = f0 :: (rest ++ f :: fs.filter (·.name == f.name)) := by
        rw [hgn] at hfil
        simp [List.filter_append, hfil]
      obtain ⟨m, hm⟩ := hall f.name f0 _ hfil'
      rw [mergeAll_append, hma] at hm
      change mergeFieldsWith mt g f >>= _ = _ at hm
      obtain ⟨r, hr, _⟩ := bind_ok hm
      simp only [heq, hr, Except.map]
      exact deepMergeGo_ok mt fs _ (xs ++ [f]) (repr_merge hrep hgn hr) (List.append_cons xs f fs ▸ hall)
    · have hany' : acc.any (·.name == f.name) = false := by simpa using hany
      simp only [hany', Bool.false_eq_true, ↓reduceIte]
      exact deepMergeGo_ok mt fs _ (xs ++ [f]) (repr_new hrep hany') (List.append_cons xs f fs ▸ hall)

theorem deepMerge_ok {fs : List SField}
    (hall : ∀ k f0 rest, fs.filter (·.name == k) = f0 :: rest → ∃ m, mergeAll mt f0 rest = .ok m) :
    ∃ M, deepMergeWith mt fs = .ok M :=
  deepMergeGo_ok mt fs [] [] ⟨by simp, by simp, by simp⟩ (by simpa using hall)

def gdepth : GType → Nat
  | .named _ _ => 0
  | .list t _ => gdepth t + 1
  | .nonNull t => gdepth t + 1

/- depth of a tree counting object levels AND list / non-null wrappers — what `merge_selection_trees` recurses through;
    `wbs`, `wb`, `wfs`, `wf` (w for "with wrappers"): the same for a branch list, a branch, a field list, a field -/
mutual
def wd : SelTree → Nat
  | .nonNull t => wd t + 1
  | .list t => wd t + 1
  | .object bs => wbs bs + 1
def wbs : List Branch → Nat
  | [] => 0
  | b :: bs => max (wb b) (wbs bs)
def wb : Branch → Nat
  | .mk _ _ un al => max (wfs un) (wfs al)
def wfs : List SField → Nat
  | [] => 0
  | f :: fs => max (wf f) (wfs fs)
def wf : SField → Nat
  | .object _ t => wd t
  | _ => 0
end

theorem wbs_mem {bs : List Branch} {b : Branch} (h : b ∈ bs) : wb b ≤ wbs bs :=
  le_of_mem_rec (fun _ _ => by simp only [wbs]; omega) h

theorem wfs_mem {fs : List SField} {f : SField} (h : f ∈ fs) : wf f ≤ wfs fs :=
  le_of_mem_rec (fun _ _ => by simp only [wfs]; omega) h

theorem wbs_le {bs : List Branch} {N : Nat} (h : ∀ b ∈ bs, wb b ≤ N) : wbs bs ≤ N := by
  induction bs with
  | nil => simp [wbs]
  | cons b bs ih =>
    simp only [wbs]
    have := h b (by simp)
    have := ih (fun b' hb' => h b' (List.mem_cons_of_mem _ hb'))
    omega

theorem wfs_le {fs : List SField} {N : Nat} (h : ∀ f ∈ fs, wf f ≤ N) : wfs fs ≤ N := by
  induction fs with
  | nil => simp [wfs]
  | cons f fs ih =>
    simp only [wfs]
    have := h f (by simp)
    have := ih (fun f' hf' => h f' (List.mem_cons_of_mem _ hf'))
    omega

/-- selection sets of `Sb` nest at most `k` field levels deep -/
def NestLe (c : Ctx) : Nat → SSet → Prop
  | 0, Sb => ∀ o t, PU c Sb o allInc t → t.sub = none
  | k + 1, Sb => ∀ o t, PU c Sb o allInc t → NestLe c k (SubSet c Sb o allInc t.key)

theorem nestLe_subset {c : Ctx} : ∀ (k : Nat) (Sb Sb' : SSet), (∀ s, Sb' s → Sb s) → NestLe c k Sb → NestLe c k Sb'
  | 0, Sb, Sb', hs, h => by
    intro o t ⟨s, h1, h2⟩; exact h o t ⟨s, hs s h1, h2⟩
  | k + 1, Sb, Sb', hs, h => by
    intro o t ⟨s, h1, h2⟩
    refine nestLe_subset k _ _ ?_ (h o t ⟨s, hs s h1, h2⟩)
    rintro s' ⟨t', ⟨s2, h3, h4⟩, hk, hsub⟩
    exact ⟨t', ⟨s2, hs s2 h3, h4⟩, hk, hsub⟩

/-- the field types of the schema have wrapper depth at most `G` -/
def FieldDepthLe (c : Ctx) (G : Nat) : Prop := ∀ o f fd, c.S.field? o f = some fd → gdepth fd.ty ≤ G

mutual
theorem wd_le {c : Ctx} {G : Nat} (hG : FieldDepthLe c G) : ∀ (T : SelTree) (ty : GType) (Sb : SSet) (k : Nat),
    RelTree c T ty Sb → NestLe c k Sb → wd T ≤ gdepth ty + 1 + k * (G + 1)
  | .nonNull T, ty, Sb, k, h, hn | .list T, ty, Sb, k, h, hn => by
    cases ty <;> simp only [RelTree] at h
    have := wd_le hG T _ Sb k h hn
    simp only [wd, gdepth]; omega
  | .object bs, ty, Sb, k, h, hn => by
    cases ty <;> simp only [RelTree] at h
    rename_i n p
    have := wbs_le' hG bs n Sb k h.2.2 hn
    simp only [wd, gdepth]; omega
theorem wbs_le' {c : Ctx} {G : Nat} (hG : FieldDepthLe c G) : ∀ (bs : List Branch) (n : Name) (Sb : SSet) (k : Nat),
    RelBranches c bs n Sb → NestLe c k Sb → wbs bs ≤ k * (G + 1)
  | [], _, _, _, _, _ => by simp [wbs]
  | b :: bs, n, Sb, k, h, hn => by
    simp only [RelBranches] at h
    have h1 := wb_le hG b n Sb k h.1 hn
    have h2 := wbs_le' hG bs n Sb k h.2 hn
    simp only [wbs]; omega
theorem wb_le {c : Ctx} {G : Nat} (hG : FieldDepthLe c G) : ∀ (b : Branch) (n : Name) (Sb : SSet) (k : Nat),
    RelBranch c b n Sb → NestLe c k Sb → wb b ≤ k * (G + 1)
  | .mk tn vars un al, n, Sb, k, h, hn => by
    have h := relBranch_iff.1 h
    obtain ⟨hu, ha, _⟩ := h.fields _ h.self
    have h1 := wfs_le' hG tn _ false un Sb k hu hn
    have h2 := wfs_le' hG tn _ true al Sb k ha hn
    simp only [wb]; omega
theorem wfs_le' {c : Ctx} {G : Nat} (hG : FieldDepthLe c G) (tn : Name) (σ : Sigma) (tag : Bool) :
    ∀ (fs : List SField) (Sb : SSet) (k : Nat), RelFields c tn σ Sb tag fs → NestLe c k Sb → wfs fs ≤ k * (G + 1)
  | [], _, _, _, _ => by simp [wfs]
  | f :: fs, Sb, k, h, hn => by
    simp only [RelFields] at h
    have h1 := wf_le hG tn σ tag f Sb k h.1 hn
    have h2 := wfs_le' hG tn σ tag fs Sb k h.2 hn
    simp only [wfs]; omega
theorem wf_le {c : Ctx} {G : Nat} (hG : FieldDepthLe c G) (tn : Name) (σ : Sigma) (tag : Bool) :
    ∀ (f : SField) (Sb : SSet) (k : Nat), RelField c tn σ Sb tag f → NestLe c k Sb → wf f ≤ k * (G + 1)
  | .empty _, _, _, _, _ => by simp [wf]
  | .leaf _ _ _, _, _, _, _ => by simp [wf]
  | .object key T, Sb, k, h, hn => by
    simp only [RelField] at h
    obtain ⟨t, fd, ht, hk, _, hsome, _, hfd, hrel⟩ := h
    cases k with
    | zero =>
      have := hn tn t (pu_all ht)
      rw [this] at hsome; cases hsome
    | succ k =>
      have hn' : NestLe c k (SubSet c Sb tn (included σ) key) := by
        refine nestLe_subset k _ _ ?_ (hk ▸ hn tn t (pu_all ht))
        rintro s ⟨t', ht', hk', hs'⟩
        exact ⟨t', pu_all ht', hk', hs'⟩
      have h1 := wd_le hG T fd.ty _ k hrel hn'
      have h2 := hG tn t.name fd hfd
      simp only [wf]
      have : (k + 1) * (G + 1) = k * (G + 1) + (G + 1) := by rw [Nat.add_mul]; simp
      omega
end

theorem mapM_ok {α β ε : Type} {f : α → Except ε β} : ∀ (l : List α), (∀ a ∈ l, ∃ b, f a = .ok b) →
    ∃ r, l.mapM f = .ok r
  | [], _ => ⟨[], by simp [pure, Except.pure]⟩
  | a :: l, h => by
    obtain ⟨b, hb⟩ := h a (by simp)
    obtain ⟨r, hr⟩ := mapM_ok l (fun a' ha' => h a' (List.mem_cons_of_mem _ ha'))
    exact ⟨b :: r, by simp [List.mapM_cons, hb, hr, bind, Except.bind, pure, Except.pure]⟩

theorem filterMapM_ok {α β ε : Type} {f : α → Except ε (Option β)} : ∀ (l : List α), (∀ a ∈ l, ∃ b, f a = .ok b) →
    ∃ r, l.filterMapM f = .ok r
  | [], _ => ⟨[], by simp [pure, Except.pure]⟩
  | a :: l, h => by
    obtain ⟨b, hb⟩ := h a (by simp)
    obtain ⟨r, hr⟩ := filterMapM_ok l (fun a' ha' => h a' (List.mem_cons_of_mem _ ha'))
    cases b with
    | none => exact ⟨r, by simp [List.filterMapM_cons, hb, hr, bind, Except.bind]⟩
    | some b => exact ⟨b :: r, by simp [List.filterMapM_cons, hb, hr, bind, Except.bind, pure, Except.pure]⟩

/-- the merge of two trees succeeds whenever the left tree is at most `N` deep -/
def MergeProg (c : Ctx) (mt : SelTree → SelTree → Except Panic SelTree) (N : Nat) : Prop :=
  ∀ T1 T2 ty A B, RelTree c T1 ty A → RelTree c T2 ty B → (∀ d, Coh c d (SUnion A B) ty.unwrapped) → wd T1 ≤ N →
    ∃ T, mt T1 T2 = .ok T

section
variable {c : Ctx} {tn : Name} {tag : Bool}

/-- a leaf and an object field under one key contradict coherence; two object fields have the same field definition, so
    their trees can be merged -/
theorem mergeFieldsP_ok {N : Nat} (MP : MergeProg c mt N) {A1 I1 A2 I2 R : FT → Prop} {f1 f2 : SField}
    (h1 : RelFieldP c tn A1 I1 tag f1) (h2 : RelFieldP c tn A2 I2 tag f2) (hname : f1.name = f2.name)
    (hw : wf f1 ≤ N) (hR1 : ∀ t, I1 t → R t) (hR2 : ∀ t, I2 t → R t) (hR : CohIn c tn R) :
    ∃ m, mergeFieldsWith mt f1 f2 = .ok m := by
  have mixed : ∀ {A I A' I' : FT → Prop} {k ty b k' T}, (∀ t, I t → R t) → (∀ t, I' t → R t) →
      RelFieldP c tn A I tag (.leaf k ty b) → RelFieldP c tn A' I' tag (.object k' T) → k = k' → False := by
    rintro A I A' I' k ty b k' T m1 m2 ⟨t1, ht1, hk1, _, hc1⟩ ⟨t2, fd2, ht2, hk2, _, hs2, hn2, _, _⟩ hk
    obtain ⟨hnm, hsm⟩ := hR.key t1 t2 (m1 _ ht1) (m2 _ ht2) (by rw [hk1, hk2, hk])
    split at hc1
    · rename_i htn; rw [hnm, hn2] at htn; cases htn
    · rw [hc1.2.1, hs2] at hsm; cases hsm
  cases f1 with
  | empty k => cases f2 <;> exact ⟨_, rfl⟩
  | leaf k ty b =>
    cases f2 with
    | object k' T' => exact (mixed hR1 hR2 h1 h2 hname).elim
    | _ => exact ⟨_, rfl⟩
  | object k T =>
    cases f2 with
    | empty k' => exact ⟨_, rfl⟩
    | leaf k' ty' b' => exact (mixed hR2 hR1 h2 h1 hname.symm).elim
    | object k' T' =>
      simp only [SField.name] at hname
      obtain ⟨t1, fd1, ht1, hk1, _, _, _, hf1, hr1⟩ := h1
      obtain ⟨t2, fd2, ht2, hk2, _, _, _, hf2, hr2⟩ := h2
      have hsame := (hR.key t1 t2 (hR1 _ ht1) (hR2 _ ht2) (by rw [hk1, hk2, hname])).1
      rw [← hsame, hf1] at hf2; cases hf2
      subst hk1
      obtain ⟨Tm, hTm⟩ := MP T T' fd1.ty _ _ hr1 hr2 (hR.union hR1 hR2 ht1 hf1 k' hname) (by simpa [wf] using hw)
      exact ⟨.object t1.key Tm, by simp [mergeFieldsWith, hTm, bind, Except.bind]⟩

theorem filter_name_nodup : ∀ {l : List SField}, (l.map SField.name).Nodup → ∀ k,
    (l.filter (·.name == k) = [] ∧ ∀ f ∈ l, f.name ≠ k) ∨ ∃ f, l.filter (·.name == k) = [f] ∧ f ∈ l ∧ f.name = k
  | [], _, k => Or.inl ⟨rfl, fun _ h => by cases h⟩
  | a :: l, hn, k => by
    simp only [List.map_cons, List.nodup_cons] at hn
    by_cases ha : (a.name == k) = true
    · have hak : a.name = k := by simpa using ha
      refine Or.inr ⟨a, ?_, by simp, hak⟩
      rcases filter_name_nodup hn.2 k with ⟨h1, _⟩ | ⟨f, _, hf, hfk⟩
      · simp [ha, h1]
      · exact absurd (by rw [hak, ← hfk]; exact List.mem_map_of_mem hf) hn.1
    · have ha' : (a.name == k) = false := by simpa using ha
      rcases filter_name_nodup hn.2 k with ⟨h1, h2⟩ | ⟨f, h1, hf, hfk⟩
      · refine Or.inl ⟨by simp [ha', h1], fun f hf => ?_⟩
        rcases List.mem_cons.1 hf with rfl | hf
        · simpa using ha
        · exact h2 f hf
      · exact Or.inr ⟨f, by simp [ha', h1], List.mem_cons_of_mem _ hf, hfk⟩

theorem mergedFields_ok {N : Nat} (MP : MergeProg c mt N) {σ : Sigma} {A B : SSet}
    {lf rf : List SField} (hl : RelFields c tn σ A tag lf) (hr : RelFields c tn σ B tag rf)
    (hnl : (lf.map SField.name).Nodup) (hnr : (rf.map SField.name).Nodup) (hw : wfs lf ≤ N)
    (hR : CohIn c tn (PU c (SUnion A B) tn allInc)) :
    ∃ M, deepMergeWith mt (lf ++ rf) = .ok M := by
  apply deepMerge_ok
  intro k f0 rest hfil
  rw [List.filter_append] at hfil
  -- names are distinct on each side: at most one merge per name
  rcases filter_name_nodup hnl k with ⟨hl0, _⟩ | ⟨f1, hl1, hf1, hf1n⟩ <;>
    rcases filter_name_nodup hnr k with ⟨hr0, _⟩ | ⟨f2, hr1, hf2, hf2n⟩
  · rw [hl0, hr0] at hfil; cases hfil
  · rw [hl0, hr1] at hfil
    simp only [List.nil_append, List.cons.injEq] at hfil
    obtain ⟨rfl, rfl⟩ := hfil
    exact ⟨_, rfl⟩
  · rw [hl1, hr0] at hfil
    simp only [List.append_nil, List.cons.injEq] at hfil
    obtain ⟨rfl, rfl⟩ := hfil
    exact ⟨_, rfl⟩
  · rw [hl1, hr1] at hfil
    simp only [List.cons_append, List.nil_append, List.cons.injEq] at hfil
    obtain ⟨rfl, rfl⟩ := hfil
    obtain ⟨m, hm⟩ := mergeFieldsP_ok MP ((relField_iffP _).1 (relFields_iff.1 hl _ hf1))
      ((relField_iffP _).1 (relFields_iff.1 hr _ hf2)) (by rw [hf1n, hf2n]) (by have := wfs_mem hf1; omega)
      (fun _ h => pu_left (pu_all h)) (fun _ h => pu_right (pu_all h)) hR
    exact ⟨m, by show mergeFieldsWith mt f1 f2 >>= _ = _; rw [hm]; rfl⟩

/-! the entries of one response key: any number of inputs, every accumulated field within the depth bound -/

variable {ι : Type} {fld : ι → SField} {PA PI : ι → FT → Prop}

theorem mergeAll_okP {N : Nat} (HM : MergeSpec c mt) (MP : MergeProg c mt N) {R : FT → Prop} (hR : CohIn c tn R)
    (hwd : ∀ (A I : FT → Prop) g, (∀ t, I t → R t) → RelFieldP c tn A I tag g → wf g ≤ N) {k : Name} :
    ∀ (rest ps : List ι) (g : SField), RelFieldP c tn (anyOf PA ps) (anyOf PI ps) tag g → g.name = k →
    (∀ x ∈ ps ++ rest, RelFieldP c tn (PA x) (PI x) tag (fld x) ∧ (fld x).name = k ∧ ∀ t, PI x t → R t) →
    ∃ m, mergeAll mt g (rest.map fld) = .ok m
  | [], _, g, _, _, _ => ⟨g, rfl⟩
  | p :: rest, ps, g, hg, hgk, hall => by
    rw [List.append_cons] at hall
    obtain ⟨hp, hpk, hpR⟩ := hall p (by simp)
    have hgR : ∀ t, anyOf PI ps t → R t :=
      fun t ⟨x, hx, ht⟩ => (hall x (List.mem_append_left _ (List.mem_append_left _ hx))).2.2 t ht
    obtain ⟨y, hy⟩ := mergeFieldsP_ok MP hg hp (hgk.trans hpk.symm) (hwd _ _ g hgR hg) hgR hpR hR
    have hstep := relFieldP_merge HM hg hp (hgk.trans hpk.symm) hy hgR hpR hR
    simp only [List.map_cons, mergeAll, hy]
    exact mergeAll_okP HM MP hR hwd rest (ps ++ [p]) y (relFieldP_snoc hstep)
      ((mergeFields_name hy (hgk.trans hpk.symm)).trans hgk) hall

theorem deepMerge_okP {N : Nat} (HM : MergeSpec c mt) (MP : MergeProg c mt N) {xs : List ι}
    (hrel : ∀ x ∈ xs, RelFieldP c tn (PA x) (PI x) tag (fld x)) (hIA : ∀ x ∈ xs, ∀ t, PI x t → PA x t)
    (hR : CohIn c tn (anyOf PA xs))
    (hwd : ∀ (A I : FT → Prop) g, (∀ t, I t → anyOf PA xs t) → RelFieldP c tn A I tag g → wf g ≤ N) :
    ∃ M, deepMergeWith mt (xs.map fld) = .ok M := by
  apply deepMerge_ok
  intro k f0 rest hfil
  rw [List.filter_map] at hfil
  obtain ⟨x0, xrest, hxs, rfl, rfl⟩ := List.map_eq_cons_iff.1 hfil
  obtain ⟨h0, hk0, hin⟩ := inputs_of_key hxs hrel hIA
  exact mergeAll_okP (fld := fld) HM MP hR hwd xrest [x0] (fld x0) h0 hk0 fun x hx => (hin x hx).2

end

theorem mapM_ne_error {α β ε : Type} {f : α → Except ε β} (l : List α) (h : ∀ a ∈ l, ∃ b, f a = .ok b) (e : ε) :
    l.mapM f ≠ .error e := by
  obtain ⟨r, hr⟩ := mapM_ok l h
  rw [hr]; intro h'; cases h'

theorem mergeBranches_ok {c : Ctx} {N : Nat} (MP : MergeProg c mt N)
    {l r : List Branch} {n : Name} {A B : SSet} (hbl : RelBranches c l n A) (hbr : RelBranches c r n B)
    (hw : wbs l ≤ N) (hC : ∀ d, Coh c d (SUnion A B) n) : ∃ bs, mergeBranchesWith mt l r = .ok bs := by
  simp only [mergeBranchesWith, bind, Except.bind]
  split
  · rename_i e heq
    refine (mapM_ne_error l ?_ e heq).elim
    intro lb hlb
    split
    · exact ⟨_, rfl⟩
    · apply filterMapM_ok
      intro rb hrb
      obtain ⟨hrbr, hty⟩ := List.mem_filter.1 hrb
      have hty : rb.typeName = lb.typeName := by simpa using hty
      cases hv : unifyVars lb.vars rb.vars with
      | none => exact ⟨_, rfl⟩
      | some v =>
        simp only
        have hRl := relBranches_iff.1 hbl lb hlb
        have hRr := relBranches_iff.1 hbr rb hrbr
        have hwl : wb lb ≤ N := by have := wbs_mem hlb; omega
        obtain ⟨tn0, lv, lu, la⟩ := lb
        obtain ⟨tn, rv, ru, ra⟩ := rb
        simp only [Branch.typeName] at hty; subst hty
        simp only [Branch.vars] at hv
        have L := relBranch_iff.1 hRl
        have R := relBranch_iff.1 hRr
        have hR := cohIn_at hC L.poss
        have hself := consistent_unify L.self R.self hv
        obtain ⟨hagl, hagr⟩ := (agree_unify hv).1 hself
        obtain ⟨hul, hal, _⟩ := L.fields _ hagl
        obtain ⟨hur, har, _⟩ := R.fields _ hagr
        simp only [wb] at hwl
        obtain ⟨U, hU⟩ := mergedFields_ok MP hul hur L.unNodup R.unNodup (by omega) hR
        obtain ⟨Aa, hA⟩ := mergedFields_ok MP hal har L.alNodup R.alNodup (by omega) hR
        simp only [Branch.unaliased, Branch.aliased, hU, hA]
        exact ⟨_, rfl⟩
  · exact ⟨_, rfl⟩

theorem mergeTrees_ok (c : Ctx) : ∀ (mf : Nat), MergeProg c (mergeTrees mf) mf
  | 0 => by
    intro T1 T2 ty A B _ _ _ hw
    cases T1 <;> simp [wd] at hw
  | mf + 1 => by
    intro T1 T2 ty A B h1 h2 hC hw
    cases T1 with
    | nonNull l | list l =>
      cases ty <;> simp only [RelTree] at h1
      cases T2 <;> simp only [RelTree] at h2
      simp only [wd] at hw
      obtain ⟨T, hT⟩ := mergeTrees_ok c mf l _ _ A B h1 h2 (by simpa [GType.unwrapped] using hC) (by omega)
      exact ⟨_, by rw [mergeTrees, hT]; rfl⟩
    | object l =>
      cases ty <;> simp only [RelTree] at h1
      cases T2 <;> simp only [RelTree] at h2
      rename_i n p r
      simp only [wd] at hw
      obtain ⟨bs, hbs⟩ := mergeBranches_ok (mergeTrees_ok c mf) h1.2.2 h2.2.2 (by omega)
        (by simpa [GType.unwrapped] using hC)
      exact ⟨.object bs, by simp [mergeTrees, hbs, bind, Except.bind]⟩

theorem fits_all_zero {F : FragMap} {ss : List Selection} (h : ∀ x ∈ ss, fits F 0 x = true) : ss = [] := by
  cases ss with
  | nil => rfl
  | cons x xs => have := h x (by simp); simp [fits] at this

theorem inFlat_sub_fits {S : Schema} {F : FragMap} {o : Name} {inc : Inc} {V : List Name} {ss : List Selection} {t : FT}
    (h : InFlat S F o inc V ss t) : ∀ D, (∀ x ∈ ss, fits F (D + 1) x = true) → ∀ s', t.sub = some s' →
      ∀ x ∈ s', fits F D x = true := by
  induction h with
  | @field alias name p args ds sub rest _ =>
    intro D hf s' hs' x hx
    have := hf _ (List.mem_cons_self)
    simp only at hs'; subst hs'
    simp only [fits] at this
    exact List.all_eq_true.1 this x hx
  | @inline cond ds cs p rest t _ _ hin ih =>
    intro D hf s' hs' x hx
    have := hf _ (List.mem_cons_self)
    simp only [fits] at this
    have hcs : ∀ y ∈ cs, fits F D y = true := fun y hy => List.all_eq_true.1 this y hy
    cases D with
    | zero => rw [fits_all_zero hcs] at hin; exact absurd hin inFlat_nil
    | succ D' => exact (fits_esz_succ F D' x (ih D' hcs s' hs' x hx)).1
  | @spread nm np ds p rest f t _ _ hF _ hin ih =>
    intro D hf s' hs' x hx
    have := hf _ (List.mem_cons_self)
    simp only [fits, hF] at this
    have hcs : ∀ y ∈ f.sel, fits F D y = true := fun y hy => List.all_eq_true.1 this y hy
    cases D with
    | zero => rw [fits_all_zero hcs] at hin; exact absurd hin inFlat_nil
    | succ D' => exact (fits_esz_succ F D' x (ih D' hcs s' hs' x hx)).1
  | tail _ ih =>
    intro D hf
    exact ih D (fun x hx => hf x (List.mem_cons_of_mem _ hx))

theorem nestLe_of_fits (c : Ctx) : ∀ (D : Nat) (Sb : SSet), (∀ s, Sb s → ∀ x ∈ s, fits c.F D x = true) → NestLe c D Sb
  | 0, Sb, h => by
    intro o t ⟨s, hs, hin⟩
    rw [fits_all_zero (h s hs)] at hin; exact absurd hin inFlat_nil
  | D + 1, Sb, h => by
    intro o t _
    refine nestLe_of_fits c D _ ?_
    rintro s' ⟨t', ⟨s2, hs2, hin⟩, _, hsub⟩ x hx
    exact inFlat_sub_fits hin D (h s2 hs2) s' hsub x hx

theorem nestLe_succ (c : Ctx) : ∀ (k : Nat) (Sb : SSet), NestLe c k Sb → NestLe c (k + 1) Sb
  | 0, Sb, h => by
    intro o t ht o' t' ⟨s', ⟨t2, ht2, _, hsub⟩, _⟩
    rw [h o t2 ht2] at hsub; cases hsub
  | k + 1, Sb, h => by
    intro o t ht
    exact nestLe_succ c k _ (h o t ht)

theorem nestLe_mono (c : Ctx) {k k' : Nat} (hk : k ≤ k') {Sb : SSet} (h : NestLe c k Sb) : NestLe c k' Sb :=
  fuel_mono_le (P := fun j => NestLe c j Sb) (fun _ hj => nestLe_succ c _ _ hj) h hk

end NitroVerif.OpTypes.Ref
