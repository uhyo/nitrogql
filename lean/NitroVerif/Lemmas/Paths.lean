import NitroVerif.Model.Paths
/-!
The component-list level of C20 (`Paths.P` is `List Comp`): on a stack of normal components `normalize_path`'s loop
appends (`foldl_normStep_normals`), `m` parent components drop `m` entries (`foldl_normStep_parents`), and a path that
never pops at the root (`noClimbAux`) normalises to root followed by normal components (`foldl_normStep_noClimb`,
`CleanAbs`); `commonPrefix`, `ups` and `push` on such lists; `normalize_path` invents no component (`mem_normalize`)
and is idempotent on every list (`normalize_normalize`), so `resolve_relative_path` does not see whether its base was
normalised (`resolve_normalize_base`).  No property statements here.
-/
namespace NitroVerif.Paths

def IsNormal : Comp → Prop
  | .normal _ => True
  | _ => False

def Normals (l : P) : Prop := ∀ c ∈ l, IsNormal c

theorem normals_nil : Normals [] := by intro c h; cases h

theorem normals_cons {c : Comp} {l : P} : Normals (c :: l) ↔ IsNormal c ∧ Normals l := by
  simp [Normals]

theorem normals_append {a b : P} : Normals (a ++ b) ↔ Normals a ∧ Normals b := by
  simp [Normals, or_imp, forall_and]

theorem normals_take {l : P} (n : Nat) (h : Normals l) : Normals (l.take n) :=
  fun c hc => h c (List.mem_of_mem_take hc)

theorem normals_drop {l : P} (n : Nat) (h : Normals l) : Normals (l.drop n) :=
  fun c hc => h c (List.mem_of_mem_drop hc)

theorem normals_dropLast {l : P} (h : Normals l) : Normals l.dropLast :=
  fun c hc => h c ((List.dropLast_sublist l).subset hc)

theorem foldl_normStep_normals (s l : P) (h : Normals l) : l.foldl normStep s = s ++ l := by
  induction l generalizing s with
  | nil => simp
  | cons c l ih =>
    have ⟨hc, hl⟩ := normals_cons.mp h
    cases c <;> simp [IsNormal] at hc
    simp [List.foldl_cons, normStep, ih _ hl]

theorem foldl_normStep_parents (s : P) (m : Nat) :
    (List.replicate m Comp.parent).foldl normStep s = s.take (s.length - m) := by
  induction m generalizing s with
  | zero => simp
  | succ m ih =>
    simp only [List.replicate_succ, List.foldl_cons, normStep]
    rw [ih, List.dropLast_eq_take, List.take_take]
    congr 1
    simp only [List.length_take]
    omega

/-- a clean absolute path: root followed by normal components -/
def CleanAbs (p : P) : Prop := ∃ ns, Normals ns ∧ p = .root :: ns

theorem normalize_cleanAbs {ns : P} (h : Normals ns) : normalize (.root :: ns) = .root :: ns := by
  simp [normalize, List.foldl_cons, normStep, foldl_normStep_normals _ _ h]

/-- executable "never pops at the root" check on the part after the root -/
def noClimbAux : Nat → P → Bool
  | _, [] => true
  | d, .cur :: r => noClimbAux d r
  | d, .normal _ :: r => noClimbAux (d + 1) r
  | 0, .parent :: _ => false
  | d + 1, .parent :: r => noClimbAux d r
  | _, .root :: _ => false

theorem foldl_normStep_noClimb (ns r : P) (hns : Normals ns) (h : noClimbAux ns.length r = true) :
    ∃ ns', Normals ns' ∧ r.foldl normStep (.root :: ns) = .root :: ns' := by
  induction r generalizing ns with
  | nil => exact ⟨ns, hns, rfl⟩
  | cons c r ih =>
    cases c with
    | root => simp [noClimbAux] at h
    | cur => simpa [noClimbAux, normStep] using ih ns hns (by simpa [noClimbAux] using h)
    | normal s =>
      have hn : Normals (ns ++ [Comp.normal s]) :=
        normals_append.mpr ⟨hns, by intro c hc; simp at hc; subst hc; trivial⟩
      have := ih (ns ++ [Comp.normal s]) hn (by simpa [noClimbAux] using h)
      simpa [normStep] using this
    | parent =>
      cases hlen : ns.length with
      | zero => simp [hlen, noClimbAux] at h
      | succ d =>
        rw [hlen] at h
        have hne : ns ≠ [] := by intro e; simp [e] at hlen
        have hd : ns.dropLast.length = d := by simp [hlen]
        have := ih ns.dropLast (normals_dropLast hns) (by rw [hd]; simpa [noClimbAux] using h)
        simp only [List.foldl_cons, normStep]
        rw [List.dropLast_cons_of_ne_nil hne]
        exact this

theorem commonPrefix_take : ∀ (a b : P), a.take (commonPrefix a b) = b.take (commonPrefix a b)
  | [], _ => by simp [commonPrefix]
  | _ :: _, [] => by simp [commonPrefix]
  | x :: as, y :: bs => by
    unfold commonPrefix
    split
    · next h => subst h; simp [commonPrefix_take as bs]
    · simp

theorem commonPrefix_le_left : ∀ (a b : P), commonPrefix a b ≤ a.length
  | [], _ => by simp [commonPrefix]
  | _ :: _, [] => by simp [commonPrefix]
  | x :: as, y :: bs => by
    unfold commonPrefix
    split
    · have := commonPrefix_le_left as bs; simp; omega
    · simp

theorem commonPrefix_le_right : ∀ (a b : P), commonPrefix a b ≤ b.length
  | [], _ => by simp [commonPrefix]
  | _ :: _, [] => by simp [commonPrefix]
  | x :: as, y :: bs => by
    unfold commonPrefix
    split
    · have := commonPrefix_le_right as bs; simp; omega
    · simp

theorem ups_normals (l : P) (h : Normals l) : ups l = some (List.replicate l.length .parent) := by
  induction l with
  | nil => simp [ups]
  | cons c l ih =>
    have ⟨hc, hl⟩ := normals_cons.mp h
    cases c <;> simp [IsNormal] at hc
    simp [ups, upOf, ih hl, List.replicate_succ]

theorem foldl_push_noRootCur (s l : P) (h : ∀ c ∈ l, c ≠ .root ∧ c ≠ .cur) : l.foldl push s = s ++ l := by
  induction l generalizing s with
  | nil => simp
  | cons c l ih =>
    have hc := h c (by simp)
    have hl : ∀ c ∈ l, c ≠ .root ∧ c ≠ .cur := fun c hc => h c (by simp [hc])
    cases c <;> simp at hc <;> simp [List.foldl_cons, push, ih _ hl]

theorem pop_cleanAbs {ns : P} (h : Normals ns) : pop (.root :: ns) = .root :: ns.dropLast := by
  unfold pop
  cases hns : ns with
  | nil => simp
  | cons c r =>
    have hne : (c :: r) ≠ [] := by simp
    have hl : (Comp.root :: c :: r).getLast? = some ((c :: r).getLast hne) := by
      simp [List.getLast?_eq_some_getLast, List.getLast_cons]
    rw [hl]
    have hin : IsNormal ((c :: r).getLast hne) := by
      apply h; rw [hns]; exact List.getLast_mem hne
    rw [List.dropLast_cons_of_ne_nil hne]
    cases hx : (c :: r).getLast hne <;> simp [hx, IsNormal] at hin ⊢

theorem mem_foldl_normStep (p s : P) : ∀ c ∈ p.foldl normStep s, c ∈ s ∨ c ∈ p := by
  induction p generalizing s with
  | nil => intro c h; exact Or.inl h
  | cons x r ih =>
    intro c h
    rcases ih (normStep s x) c h with h | h
    · cases x with
      | cur => exact Or.inl h
      | root => simp [normStep] at h; subst h; exact Or.inr (by simp)
      | parent => exact Or.inl ((List.dropLast_sublist s).subset h)
      | normal n =>
        simp only [normStep, List.mem_append, List.mem_singleton] at h
        rcases h with h | h
        · exact Or.inl h
        · exact Or.inr (by simp [h])
    · exact Or.inr (by simp [h])

theorem mem_normalize (p : P) : ∀ c ∈ normalize p, c ∈ p := by
  intro c h
  rcases mem_foldl_normStep p [] c h with h | h
  · cases h
  · exact h

/-- `normalize_path` is idempotent on every component list: its stack is, at every step, normal components with or
    without a root in front, and on such a list the loop appends -/
theorem normalize_normalize (p : P) : normalize (normalize p) = normalize p := by
  -- invariant: the stack is (optionally root) followed by normals
  have key : ∀ (r s : P), (∃ ns, Normals ns ∧ (s = ns ∨ s = .root :: ns)) →
      ∃ ns, Normals ns ∧ (r.foldl normStep s = ns ∨ r.foldl normStep s = .root :: ns) := by
    intro r
    induction r with
    | nil => intro s h; simpa using h
    | cons c r ih =>
      intro s ⟨ns, hns, hs⟩
      apply ih
      cases c with
      | root => exact ⟨[], normals_nil, Or.inr (by simp [normStep])⟩
      | cur => exact ⟨ns, hns, by simpa [normStep] using hs⟩
      | normal x =>
        refine ⟨ns ++ [.normal x], normals_append.mpr ⟨hns, by intro c hc; simp at hc; subst hc; trivial⟩, ?_⟩
        rcases hs with rfl | rfl <;> simp [normStep]
      | parent =>
        rcases hs with rfl | rfl
        · exact ⟨_, normals_dropLast hns, Or.inl (by simp [normStep])⟩
        · by_cases hne : ns = []
          · subst hne; exact ⟨[], normals_nil, Or.inl (by simp [normStep])⟩
          · exact ⟨List.dropLast ns, normals_dropLast hns, Or.inr (by simp [normStep, List.dropLast_cons_of_ne_nil hne])⟩
  obtain ⟨ns, hns, h⟩ := key p [] ⟨[], normals_nil, Or.inl rfl⟩
  unfold normalize at *
  rcases h with h | h
  · rw [h]; simpa using foldl_normStep_normals [] ns hns
  · rw [h]; exact normalize_cleanAbs hns

/-- `resolve_relative_path` normalises its base: resolving against `normalize_path(doc)` or against `doc` is the same -/
theorem resolve_normalize_base (doc rel : P) : resolve (normalize doc) rel = resolve doc rel := by
  unfold resolve
  rw [normalize_normalize]

end NitroVerif.Paths
