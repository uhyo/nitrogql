import NitroVerif.Lemmas.CheckOpApply
/-!
Completeness of the applicability analysis of `check_fragment_spread_core` (C04): when the possible types of the
type in scope and of the type condition overlap (spec 5.5.2.3, `canApply`), the analysis reports nothing — given
that type names are unique, union members are object types, and no union is empty.
-/
namespace NitroVerif.CheckOp
open NitroVerif.Gql NitroVerif.CheckCommon NitroVerif.Valid

/-- no union type of the schema is empty (spec §3.8: "a Union type must include one or more unique member types") -/
def noEmptyUnionB (S : Schema) : Bool :=
  S.typeDefs.all fun t => t.kind != .union || !t.members.isEmpty

theorem applicability_complete {S : Schema} (hND : nodupB (S.typeDefs.map (·.name)) = true)
    (hMem : ∀ td ∈ S.typeDefs, ∀ m ∈ td.members, ∃ o, S.typeDef? m.1 = some o ∧ o.kind = .object)
    (hNE : noEmptyUnionB S = true)
    {t c : Name} {root ct : TypeDef} (pos : Pos) (ht : S.typeDef? t = some root) (hc : S.typeDef? c = some ct)
    (hrk : isCompositeKind root.kind = true) (hck : isCompositeKind ct.kind = true)
    (h : canApply S t c = true) : (spreadApplicability S root ct pos).1 = [] := by
  refine quiet_none_iff.mp ((applicability_iff admissible_none hND hMem ht hc).mpr ⟨h, fun ⟨hu, _, hms⟩ => ?_⟩)
  have := List.all_eq_true.mp hNE root (Schema.typeDef?_mem ht)
  simp only [hu, hms, List.isEmpty_nil, Bool.not_true, Bool.or_false] at this
  exact absurd this (by decide)

end NitroVerif.CheckOp
