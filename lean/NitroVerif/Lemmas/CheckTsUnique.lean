/-
`check_unique_names` (fix 8cdbacf, `CheckTs.checkUniqueNames`).  The single pass with two `seen` vectors reports nothing
iff the loop over the type identifiers and the loop over the directive identifiers do (`uniqLoop`).  A loop compares an
identifier with the FIRST earlier identifier of its name, so whether it reports is decided name by name
(`uniqLoop_nil_iff_groups`), whatever the report table is; the type loop (`IdentsOk`), the directive loop and the
statements about distinct names are readings of that through how many identifiers of the user and at built-in positions
a name has (`usersOf`, `builtinsOf`).
-/
import NitroVerif.Lemmas.CheckTs
namespace NitroVerif.CheckTs
open NitroVerif.Gql NitroVerif.ValidTs

/-- the loop of `check_unique_names` restricted to one of its two `seen` vectors -/
def uniqLoop (isType : Bool) : List (Name × Pos) → List (Name × Pos) → List Err
  | _, [] => []
  | seen, x :: xs => uniqueStep isType seen x.1 x.2 ++ uniqLoop isType (seen ++ [x]) xs

theorem checkUniqueNamesAux_nil_iff (T : TsDoc) : ∀ st sd, checkUniqueNamesAux st sd T = [] ↔
    uniqLoop true st (typeIdents T) = [] ∧ uniqLoop false sd (directiveIdents T) = [] := by
  induction T with
  | nil => intro st sd; simp [checkUniqueNamesAux, typeIdents, directiveIdents, uniqLoop, ValidTs.typeDefs,
      ValidTs.directiveDefs, Schema.typeDefs, Schema.directiveDefs]
  | cons it r ih =>
    intro st sd
    cases it with
    | typeDef t =>
      have e1 : typeIdents (.typeDef t :: r) = (t.name, t.namePos) :: typeIdents r := rfl
      have e2 : directiveIdents (.typeDef t :: r) = directiveIdents r := rfl
      rw [e1, e2]
      simp only [checkUniqueNamesAux, uniqLoop, List.append_eq_nil_iff, ih, and_assoc]
    | directiveDef d =>
      have e1 : typeIdents (.directiveDef d :: r) = typeIdents r := rfl
      have e2 : directiveIdents (.directiveDef d :: r) = (d.name, d.namePos) :: directiveIdents r := rfl
      rw [e1, e2]
      simp only [checkUniqueNamesAux, uniqLoop, List.append_eq_nil_iff, ih]
      constructor
      · rintro ⟨a, b, c⟩; exact ⟨b, a, c⟩
      · rintro ⟨b, a, c⟩; exact ⟨a, b, c⟩
    | schemaDef s =>
      have e1 : typeIdents (.schemaDef s :: r) = typeIdents r := rfl
      have e2 : directiveIdents (.schemaDef s :: r) = directiveIdents r := rfl
      rw [e1, e2]; simp only [checkUniqueNamesAux, ih]
    | schemaExt s =>
      have e1 : typeIdents (.schemaExt s :: r) = typeIdents r := rfl
      have e2 : directiveIdents (.schemaExt s :: r) = directiveIdents r := rfl
      rw [e1, e2]; simp only [checkUniqueNamesAux, ih]
    | typeExt s =>
      have e1 : typeIdents (.typeExt s :: r) = typeIdents r := rfl
      have e2 : directiveIdents (.typeExt s :: r) = directiveIdents r := rfl
      rw [e1, e2]; simp only [checkUniqueNamesAux, ih]

theorem checkUniqueNames_nil_iff (T : TsDoc) : checkUniqueNames T = [] ↔
    uniqLoop true [] (typeIdents T) = [] ∧ uniqLoop false [] (directiveIdents T) = [] :=
  checkUniqueNamesAux_nil_iff T [] []

theorem checkSchema_nil_iff (T : TsDoc) : checkSchema T = [] ↔ checkUniqueNames T = [] ∧ checkSchemaItems T = [] := by
  simp only [checkSchema, List.append_eq_nil_iff]

theorem checkSchema_nil_unique {T : TsDoc} (h : checkSchema T = []) : checkUniqueNames T = [] :=
  ((checkSchema_nil_iff T).mp h).1

theorem mem_userNames {l : List (Name × Pos)} {n : Name} :
    n ∈ userNames l ↔ ∃ x ∈ l, x.2.builtin = false ∧ x.1 = n := by
  simp only [userNames, List.mem_map, List.mem_filter, Bool.not_eq_true']
  constructor
  · rintro ⟨x, ⟨hx, hb⟩, rfl⟩; exact ⟨x, hx, hb, rfl⟩
  · rintro ⟨x, hx, hb, rfl⟩; exact ⟨x, ⟨hx, hb⟩, rfl⟩

theorem mem_builtinNames {l : List (Name × Pos)} {n : Name} :
    n ∈ builtinNames l ↔ ∃ x ∈ l, x.2.builtin = true ∧ x.1 = n := by
  simp only [builtinNames, List.mem_map, List.mem_filter]
  constructor
  · rintro ⟨x, ⟨hx, hb⟩, rfl⟩; exact ⟨x, hx, hb, rfl⟩
  · rintro ⟨x, hx, hb, rfl⟩; exact ⟨x, ⟨hx, hb⟩, rfl⟩

/-! ### the identifiers of one name -/

theorem uniqLoop_snoc (b : Bool) : ∀ (l seen : List (Name × Pos)) (x : Name × Pos),
    uniqLoop b seen (l ++ [x]) = uniqLoop b seen l ++ uniqueStep b (seen ++ l) x.1 x.2 := by
  intro l
  induction l with
  | nil => intro seen x; simp [uniqLoop]
  | cons y l ih =>
    intro seen x
    simp only [List.cons_append, uniqLoop, ih, List.append_assoc, List.nil_append]

/-- what a loop demands of the identifiers of ONE name, in document order: each later one passes against the first -/
def GroupOk (b : Bool) : List (Name × Pos) → Prop
  | [] => True
  | o :: r => ∀ x ∈ r, uniqueReport b o.2 x.2 = []

theorem groupOk_snoc (b : Bool) (g : List (Name × Pos)) (x : Name × Pos) :
    GroupOk b (g ++ [x]) ↔
      GroupOk b g ∧ (match g with | [] => True | o :: _ => uniqueReport b o.2 x.2 = []) := by
  cases g with
  | nil => simp [GroupOk]
  | cons o r =>
    simp only [List.cons_append, GroupOk, List.mem_append, List.mem_singleton, or_imp, forall_and, forall_eq]

theorem uniqueStep_nil_iff (b : Bool) (l : List (Name × Pos)) (x : Name × Pos) :
    uniqueStep b l x.1 x.2 = [] ↔
      (match l.filter (·.1 == x.1) with | [] => True | o :: _ => uniqueReport b o.2 x.2 = []) := by
  unfold uniqueStep
  rw [← List.head?_filter]
  cases l.filter (·.1 == x.1) <;> simp

theorem uniqLoop_nil_iff_groups (b : Bool) : ∀ l : List (Name × Pos),
    uniqLoop b [] l = [] ↔ ∀ n : Name, GroupOk b (l.filter (·.1 == n)) := by
  apply list_reverse_induction
  · simp [uniqLoop, GroupOk]
  · intro l x ih
    rw [uniqLoop_snoc, List.nil_append, List.append_eq_nil_iff, ih, uniqueStep_nil_iff]
    have hf : ∀ n : Name, (l ++ [x]).filter (·.1 == n) =
        l.filter (·.1 == n) ++ (if x.1 == n then [x] else []) := by
      intro n
      rw [List.filter_append]
      cases h : x.1 == n <;> simp [h]
    constructor
    · rintro ⟨h1, h2⟩ n
      rw [hf]
      cases h : x.1 == n with
      | false => simpa using h1 n
      | true =>
        have hn : x.1 = n := by simpa using h
        subst hn
        simp only [if_true]
        exact (groupOk_snoc b _ _).mpr ⟨h1 x.1, h2⟩
    · intro H
      have hx := H x.1
      rw [hf] at hx
      simp only [beq_self_eq_true, if_true] at hx
      obtain ⟨hx1, hx2⟩ := (groupOk_snoc b _ _).mp hx
      refine ⟨fun n => ?_, hx2⟩
      cases h : x.1 == n with
      | false =>
        have := H n
        rw [hf, h] at this
        simpa using this
      | true =>
        have hn : x.1 = n := by simpa using h
        subst hn
        exact hx1

theorem report_type_nil_iff (o x : Pos) : uniqueReport true o x = [] ↔ o.builtin = true ∧ x.builtin = true := by
  unfold uniqueReport
  cases o.builtin <;> cases x.builtin <;> simp

theorem report_dir_nil_iff (o x : Pos) : uniqueReport false o x = [] ↔ o.builtin = true ∨ x.builtin = true := by
  unfold uniqueReport
  cases o.builtin <;> cases x.builtin <;> simp

/-- the user's identifiers of the name `n`, in document order -/
def usersOf (l : List (Name × Pos)) (n : Name) : List (Name × Pos) :=
  (l.filter (·.1 == n)).filter fun x => !x.2.builtin

/-- the identifiers of the name `n` at built-in positions -/
def builtinsOf (l : List (Name × Pos)) (n : Name) : List (Name × Pos) :=
  (l.filter (·.1 == n)).filter (·.2.builtin)

theorem group_length (l : List (Name × Pos)) (n : Name) :
    (l.filter (·.1 == n)).length = (usersOf l n).length + (builtinsOf l n).length := by
  rw [List.length_eq_countP_add_countP (fun x : Name × Pos => !x.2.builtin), List.countP_eq_length_filter,
    List.countP_eq_length_filter]
  unfold usersOf builtinsOf
  congr 2
  exact List.filter_congr fun x _ => by cases x.2.builtin <;> rfl

theorem userNames_nodup_iff (l : List (Name × Pos)) : (userNames l).Nodup ↔ ∀ n, (usersOf l n).length ≤ 1 :=
  nodup_filter_map_iff_count (fun x : Name × Pos => x.1) (fun x => !x.2.builtin) l

theorem builtinNames_nodup_iff (l : List (Name × Pos)) : (builtinNames l).Nodup ↔ ∀ n, (builtinsOf l n).length ≤ 1 :=
  nodup_filter_map_iff_count (fun x : Name × Pos => x.1) (fun x => x.2.builtin) l

theorem names_nodup_iff (l : List (Name × Pos)) :
    (l.map (·.1)).Nodup ↔ ∀ n : Name, (l.filter (·.1 == n)).length ≤ 1 := by
  have h := nodup_filter_map_iff_count (fun x : Name × Pos => x.1) (fun _ => true) l
  simp only [show ∀ g : List (Name × Pos), g.filter (fun _ => true) = g from
    fun g => List.filter_eq_self.mpr fun _ _ => rfl] at h
  exact h

theorem mem_userNames_iff {l : List (Name × Pos)} {n : Name} : n ∈ userNames l ↔ usersOf l n ≠ [] := by
  constructor
  · intro h
    obtain ⟨x, hx, hb, hn⟩ := mem_userNames.mp h
    exact List.ne_nil_of_mem (List.mem_filter.mpr ⟨List.mem_filter.mpr ⟨hx, by simp [hn]⟩, by simp [hb]⟩)
  · intro h
    obtain ⟨x, hx⟩ := List.exists_mem_of_ne_nil _ h
    obtain ⟨hx1, hb⟩ := List.mem_filter.mp hx
    obtain ⟨hxl, hn⟩ := List.mem_filter.mp hx1
    exact mem_userNames.mpr ⟨x, hxl, by simpa using hb, by simpa using hn⟩

theorem mem_builtinNames_iff {l : List (Name × Pos)} {n : Name} : n ∈ builtinNames l ↔ builtinsOf l n ≠ [] := by
  constructor
  · intro h
    obtain ⟨x, hx, hb, hn⟩ := mem_builtinNames.mp h
    exact List.ne_nil_of_mem (List.mem_filter.mpr ⟨List.mem_filter.mpr ⟨hx, by simp [hn]⟩, hb⟩)
  · intro h
    obtain ⟨x, hx⟩ := List.exists_mem_of_ne_nil _ h
    obtain ⟨hx1, hb⟩ := List.mem_filter.mp hx
    obtain ⟨hxl, hn⟩ := List.mem_filter.mp hx1
    exact mem_builtinNames.mpr ⟨x, hxl, hb, by simpa using hn⟩

/-! ### the type loop: user names distinct, and none of them is the name of a built-in-position definition -/

def IdentsOk (l : List (Name × Pos)) : Prop :=
  (userNames l).Nodup ∧ ∀ n ∈ userNames l, n ∉ builtinNames l

theorem identsOk_iff (l : List (Name × Pos)) :
    IdentsOk l ↔ ∀ n, (usersOf l n).length ≤ 1 ∧ (usersOf l n = [] ∨ builtinsOf l n = []) := by
  unfold IdentsOk
  rw [userNames_nodup_iff]
  simp only [mem_userNames_iff, mem_builtinNames_iff]
  constructor
  · rintro ⟨h1, h2⟩ n
    refine ⟨h1 n, ?_⟩
    by_cases hu : usersOf l n = []
    · exact Or.inl hu
    · exact Or.inr (Classical.not_not.mp (h2 n hu))
  · intro h
    exact ⟨fun n => (h n).1, fun n hu hb => (h n).2.elim hu hb⟩

theorem groupOk_type_iff (g : List (Name × Pos)) :
    GroupOk true g ↔ g.length ≤ 1 ∨ g.filter (fun x => !x.2.builtin) = [] := by
  cases g with
  | nil => simp [GroupOk]
  | cons o r =>
    simp only [GroupOk, report_type_nil_iff, List.filter_eq_nil_iff, List.mem_cons, forall_eq_or_imp, Bool.not_eq_true',
      Bool.not_eq_false, List.length_cons]
    constructor
    · intro h
      cases r with
      | nil => exact Or.inl (Nat.le_refl _)
      | cons y r' => exact Or.inr ⟨(h y List.mem_cons_self).1, fun x hx => (h x hx).2⟩
    · rintro (hlen | ⟨ho, hr⟩)
      · have : r = [] := List.length_eq_zero_iff.mp (by omega)
        subst this
        nofun
      · exact fun x hx => ⟨ho, hr x hx⟩

theorem uniqLoop_type_nil_iff (xs : List (Name × Pos)) : uniqLoop true [] xs = [] ↔ IdentsOk xs := by
  rw [uniqLoop_nil_iff_groups, identsOk_iff]
  refine forall_congr' fun n => ?_
  rw [groupOk_type_iff, group_length, ← List.length_eq_zero_iff (l := builtinsOf xs n)]
  show _ ∨ usersOf xs n = [] ↔ _
  rw [← List.length_eq_zero_iff (l := usersOf xs n)]
  omega

/-! ### the directive loop -/

theorem builtinsLast_filter (p : Name × Pos → Bool) : ∀ l : List (Name × Pos), builtinsLast l = true →
    builtinsLast (l.filter p) = true
  | [], _ => rfl
  | x :: xs, h => by
    simp only [builtinsLast, Bool.and_eq_true, Bool.or_eq_true, Bool.not_eq_true', List.all_eq_true] at h
    have ih := builtinsLast_filter p xs h.2
    rw [List.filter_cons]
    split
    · simp only [builtinsLast, Bool.and_eq_true, Bool.or_eq_true, Bool.not_eq_true', List.all_eq_true]
      exact ⟨h.1.imp id fun hall y hy => hall y (List.mem_filter.mp hy).1, ih⟩
    · exact ih

theorem uniqLoop_dir_nil_of_nodup (l : List (Name × Pos)) (h : (userNames l).Nodup) : uniqLoop false [] l = [] := by
  refine (uniqLoop_nil_iff_groups false l).mpr fun n => ?_
  have hn := (userNames_nodup_iff l).mp h n
  unfold usersOf at hn
  cases hF : l.filter (·.1 == n) with
  | nil => trivial
  | cons o r =>
    rw [hF] at hn
    intro x hx
    rw [report_dir_nil_iff]
    -- were the first identifier of the name and a later one both the user's, the name had two
    cases hb : o.2.builtin with
    | true => exact Or.inl rfl
    | false =>
      cases hx' : x.2.builtin with
      | true => exact Or.inr rfl
      | false =>
        have : x ∈ r.filter fun x => !x.2.builtin := List.mem_filter.mpr ⟨hx, by simp [hx']⟩
        simp only [List.filter_cons, hb, Bool.not_false, if_true, List.length_cons] at hn
        have := List.length_pos_of_mem this
        omega

theorem uniqLoop_dir_nodup_of_nil (l : List (Name × Pos)) (h : uniqLoop false [] l = [])
    (hbl : builtinsLast l = true) : (userNames l).Nodup := by
  refine (userNames_nodup_iff l).mpr fun n => ?_
  have hg := (uniqLoop_nil_iff_groups false l).mp h n
  have hb := builtinsLast_filter (·.1 == n) l hbl
  have hname : ∀ y ∈ l.filter (·.1 == n), y.1 = n := fun y hy => by simpa using (List.mem_filter.mp hy).2
  unfold usersOf
  cases hF : l.filter (·.1 == n) with
  | nil => simp
  | cons o r =>
    rw [hF] at hg hb hname
    -- in both cases every identifier after the first is at a built-in position
    have hr : r.filter (fun x => !x.2.builtin) = [] := by
      rw [List.filter_eq_nil_iff]
      intro y hy hyu
      simp only [builtinsLast, Bool.and_eq_true, Bool.or_eq_true, Bool.not_eq_true', List.all_eq_true] at hb
      have hyn : y.1 = o.1 := by rw [hname y (List.mem_cons_of_mem _ hy), hname o List.mem_cons_self]
      rcases (report_dir_nil_iff _ _).mp (hg y hy) with ho | hyb
      · rcases hb.1 with ho' | hall'
        · rw [ho] at ho'; cases ho'
        · have := hall' y hy
          simp [hyn] at this
          rw [this] at hyu; cases hyu
      · rw [hyb] at hyu; cases hyu
    rw [List.filter_cons, hr]
    split <;> simp

/-! ### all names distinct ⇒ nothing is reported (either loop) -/

theorem uniqLoop_nil_of_names_nodup (isType : Bool) (l : List (Name × Pos)) (h : (l.map (·.1)).Nodup) :
    uniqLoop isType [] l = [] := by
  refine (uniqLoop_nil_iff_groups isType l).mpr fun n => ?_
  have hn := (names_nodup_iff l).mp h n
  cases hF : l.filter (·.1 == n) with
  | nil => trivial
  | cons o r =>
    rw [hF] at hn
    have : r = [] := List.length_eq_zero_iff.mp (by simpa using hn)
    subst this
    nofun

theorem names_nodup_of_parts (l : List (Name × Pos)) (hu : (userNames l).Nodup) (hb : (builtinNames l).Nodup)
    (hd : ∀ n ∈ userNames l, n ∉ builtinNames l) : (l.map (·.1)).Nodup := by
  rw [names_nodup_iff]
  intro n
  rw [group_length]
  have h1 := (userNames_nodup_iff l).mp hu n
  have h2 := (builtinNames_nodup_iff l).mp hb n
  by_cases hun : usersOf l n = []
  · rw [hun, List.length_nil, Nat.zero_add]; exact h2
  · have : builtinsOf l n = [] :=
      Classical.not_not.mp fun hbn => hd n (mem_userNames_iff.mpr hun) (mem_builtinNames_iff.mpr hbn)
    rw [this, List.length_nil, Nat.add_zero]; exact h1

theorem typeIdents_names (T : TsDoc) : (typeIdents T).map (·.1) = (ValidTs.typeDefs T).map (·.name) := by
  simp [typeIdents, List.map_map, Function.comp_def]

theorem directiveIdents_names (T : TsDoc) : (directiveIdents T).map (·.1) = (ValidTs.directiveDefs T).map (·.name) := by
  simp [directiveIdents, List.map_map, Function.comp_def]

theorem typeIdentsOk_of_unique {T : TsDoc} (h : checkUniqueNames T = []) : IdentsOk (typeIdents T) :=
  (uniqLoop_type_nil_iff _).mp ((checkUniqueNames_nil_iff T).mp h).1

theorem uniqueTypeNames_of_unique {T : TsDoc} (h : checkUniqueNames T = []) (hb : builtinTypeNamesDistinct T = true) :
    uniqueTypeNames T = true := by
  obtain ⟨h1, h2⟩ := typeIdentsOk_of_unique h
  unfold uniqueTypeNames
  rw [noDup_iff_nodup, ← typeIdents_names]
  exact names_nodup_of_parts _ h1 ((noDup_iff_nodup _).mp hb) h2

theorem uniqueTypeNames_of_accepted {T : TsDoc} (h : checkSchema T = []) (hb : builtinTypeNamesDistinct T = true) :
    uniqueTypeNames T = true :=
  uniqueTypeNames_of_unique (checkSchema_nil_unique h) hb

theorem unionMembersObjects_of_accepted {T : TsDoc} (h : checkSchema T = []) (hb : builtinTypeNamesDistinct T = true) :
    unionMembersObjects T = true := by
  have hu := uniqueTypeNames_of_accepted h hb
  simp only [unionMembersObjects, List.all_eq_true]
  intro t ht m hm
  obtain ⟨d, hd, hk⟩ := unionMember_object_of_accepted h hu ht hm
  rw [Schema.kindOf_of_typeDef hd, hk]
  rfl

theorem checkUniqueNames_nil_of_spec {T : TsDoc} (ht : uniqueTypeNames T = true) (hd : uniqueDirectiveNames T = true) :
    checkUniqueNames T = [] := by
  rw [checkUniqueNames_nil_iff]
  refine ⟨uniqLoop_nil_of_names_nodup true _ ?_, uniqLoop_nil_of_names_nodup false _ ?_⟩
  · rw [typeIdents_names]; exact (noDup_iff_nodup _).mp ht
  · rw [directiveIdents_names]; exact (noDup_iff_nodup _).mp hd

theorem builtinsLast_of_disjoint : ∀ (l : List (Name × Pos)), (∀ n ∈ userNames l, n ∉ builtinNames l) →
    builtinsLast l = true := by
  intro l
  induction l with
  | nil => intro _; rfl
  | cons x xs ih =>
    intro hd
    simp only [builtinsLast, Bool.and_eq_true, Bool.or_eq_true, Bool.not_eq_true', List.all_eq_true]
    refine ⟨?_, ih fun n hn hm => ?_⟩
    · cases hb : x.2.builtin with
      | false => exact Or.inl rfl
      | true =>
        refine Or.inr fun y hy => ?_
        cases hyb : y.2.builtin with
        | true => simp
        | false =>
          cases hyn : y.1 == x.1 with
          | false => simp
          | true =>
            exfalso
            have hyn' : y.1 = x.1 := by simpa using hyn
            exact hd x.1 (mem_userNames.mpr ⟨y, List.mem_cons_of_mem _ hy, hyb, hyn'⟩)
              (mem_builtinNames.mpr ⟨x, List.mem_cons_self, hb, rfl⟩)
    · obtain ⟨y, hy, hyb, hyn⟩ := mem_userNames.mp hn
      obtain ⟨z, hz, hzb, hzn⟩ := mem_builtinNames.mp hm
      exact hd n (mem_userNames.mpr ⟨y, List.mem_cons_of_mem _ hy, hyb, hyn⟩)
        (mem_builtinNames.mpr ⟨z, List.mem_cons_of_mem _ hz, hzb, hzn⟩)

theorem disjoint_of_all {l : List (Name × Pos)}
    (h : ((userNames l).all fun n => !(builtinNames l).contains n) = true) : ∀ n ∈ userNames l, n ∉ builtinNames l := by
  intro n hn hm
  have := List.all_eq_true.mp h n hn
  simp [hm] at this

theorem all_of_disjoint {l : List (Name × Pos)} (h : ∀ n ∈ userNames l, n ∉ builtinNames l) :
    ((userNames l).all fun n => !(builtinNames l).contains n) = true := by
  rw [List.all_eq_true]
  intro n hn
  simpa using h n hn

theorem userDirectiveNamesUnique_of_unique {T : TsDoc} (h : checkUniqueNames T = [])
    (hl : builtinDirectivesLast T = true) : userDirectiveNamesUnique T = true := by
  have h2 := ((checkUniqueNames_nil_iff T).mp h).2
  have := uniqLoop_dir_nodup_of_nil (directiveIdents T) h2 (by simpa [builtinDirectivesLast] using hl)
  exact (noDup_iff_nodup _).mpr (by simpa using this)

theorem uniqueDirectiveNames_of_unique {T : TsDoc} (h : checkUniqueNames T = [])
    (hb : builtinDirectiveNamesDistinct T = true) (hr : builtinDirectivesNotRedeclared T = true) :
    uniqueDirectiveNames T = true := by
  have hdis := disjoint_of_all hr
  have hu := userDirectiveNamesUnique_of_unique h (builtinsLast_of_disjoint _ hdis)
  unfold uniqueDirectiveNames
  rw [noDup_iff_nodup, ← directiveIdents_names]
  exact names_nodup_of_parts _ ((noDup_iff_nodup _).mp hu) ((noDup_iff_nodup _).mp hb) hdis

theorem uniqueDirectiveNames_of_accepted {T : TsDoc} (h : checkSchema T = [])
    (hb : builtinDirectiveNamesDistinct T = true) (hr : builtinDirectivesNotRedeclared T = true) :
    uniqueDirectiveNames T = true :=
  uniqueDirectiveNames_of_unique (checkSchema_nil_unique h) hb hr

theorem checkUniqueNames_nil_of_user {T : TsDoc} (h1 : userTypeNamesUnique T = true)
    (h2 : builtinTypeNamesNotTaken T = true) (h3 : userDirectiveNamesUnique T = true) : checkUniqueNames T = [] := by
  rw [checkUniqueNames_nil_iff]
  refine ⟨(uniqLoop_type_nil_iff _).mpr ⟨(noDup_iff_nodup _).mp h1, disjoint_of_all h2⟩,
    uniqLoop_dir_nil_of_nodup _ ((noDup_iff_nodup _).mp h3)⟩

theorem sublist_nodup_names {l : List (Name × Pos)} (h : (l.map (·.1)).Nodup) (p : Name × Pos → Bool) :
    ((l.filter p).map (·.1)).Nodup :=
  (List.Sublist.map _ List.filter_sublist).nodup h

theorem builtinTypeNamesDistinct_of_unique {T : TsDoc} (h : uniqueTypeNames T = true) :
    builtinTypeNamesDistinct T = true := by
  unfold builtinTypeNamesDistinct builtinNames
  rw [noDup_iff_nodup]
  apply sublist_nodup_names
  rw [typeIdents_names]
  exact (noDup_iff_nodup _).mp h

end NitroVerif.CheckTs
