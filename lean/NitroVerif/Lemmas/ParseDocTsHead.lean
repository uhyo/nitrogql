/-
Type definitions, the common head: `Description? keyword Name` and `extend keyword Name` as fronts of the rule bodies
they begin, and the failure of such a body on a text whose keyword is another word.
-/
import NitroVerif.Lemmas.ParseDocTsBase
namespace NitroVerif.DocParse
open NitroVerif.Peg NitroVerif.Gen NitroVerif.Gen.Parts NitroVerif.Build NitroVerif.TypeParse NitroVerif.StringParse
open NitroVerif.Gql NitroVerif.ValueParse NitroVerif.Spec.Lex NitroVerif.ParseText

variable {inp : List Char}

def kindKw : TypeKind → List Char
  | .scalar => ['s', 'c', 'a', 'l', 'a', 'r']
  | .object => ['t', 'y', 'p', 'e']
  | .interface => ['i', 'n', 't', 'e', 'r', 'f', 'a', 'c', 'e']
  | .union => ['u', 'n', 'i', 'o', 'n']
  | .enum => ['e', 'n', 'u', 'm']
  | .input => ['i', 'n', 'p', 'u', 't']

def kindKwRule : TypeKind → RuleId
  | .scalar => R.KEYWORD_scalar
  | .object => R.KEYWORD_type
  | .interface => R.KEYWORD_interface
  | .union => R.KEYWORD_union
  | .enum => R.KEYWORD_enum
  | .input => R.KEYWORD_input

def kindDefRule : TypeKind → RuleId
  | .scalar => R.ScalarTypeDefinition
  | .object => R.ObjectTypeDefinition
  | .interface => R.InterfaceTypeDefinition
  | .union => R.UnionTypeDefinition
  | .enum => R.EnumTypeDefinition
  | .input => R.InputObjectTypeDefinition

theorem look_kindKw (k : TypeKind) : gList.look (kindKwRule k) =
    some (.atomic, .seq (.str (kindKw k)) (.not (.call R.NameContinue))) := by cases k <;> rfl

theorem validName_of_lower : ∀ (w : List Char), w ≠ [] → (∀ x ∈ w, 'a' ≤ x ∧ x ≤ 'z') → validName w := by
  intro w hne h
  cases w with
  | nil => exact absurd rfl hne
  | cons d ds =>
    exact ⟨Or.inl (Or.inl (h d (List.mem_cons_self ..))),
      fun x hx => Or.inl (Or.inl (h x (List.mem_cons_of_mem _ hx)))⟩

theorem kindKw_valid (k : TypeKind) : validName (kindKw k) := by
  refine validName_of_lower _ (by cases k <;> simp [kindKw]) ?_
  cases k <;> decide

/-- an inverse of `kindKw`, read off the length and the first letter -/
def kwKind (w : List Char) : TypeKind :=
  match w.length, w.head? with
  | 6, _ => .scalar
  | 9, _ => .interface
  | 4, some 't' => .object
  | 4, _ => .enum
  | 5, some 'u' => .union
  | _, _ => .input

theorem kwKind_kindKw (k : TypeKind) : kwKind (kindKw k) = k := by cases k <;> rfl

theorem kindKw_ne {k k' : TypeKind} (h : k ≠ k') : kindKw k' ≠ kindKw k :=
  fun e => h (by rw [← kwKind_kindKw k, ← e, kwKind_kindKw])

abbrev kwExtend : List Char := ['e', 'x', 't', 'e', 'n', 'd']
abbrev kwSchema : List Char := ['s', 'c', 'h', 'e', 'm', 'a']
abbrev kwDirective : List Char := ['d', 'i', 'r', 'e', 'c', 't', 'i', 'v', 'e']

theorem look_KEYWORD_extend : gList.look R.KEYWORD_extend =
    some (.atomic, .seq (.str kwExtend) (.not (.call R.NameContinue))) := rfl
theorem look_KEYWORD_schema : gList.look R.KEYWORD_schema =
    some (.atomic, .seq (.str kwSchema) (.not (.call R.NameContinue))) := rfl

theorem kw_words_valid : validName kwExtend ∧ validName kwSchema ∧ validName kwDirective := by
  refine ⟨validName_of_lower _ (by simp) ?_, validName_of_lower _ (by simp) ?_, validName_of_lower _ (by simp) ?_⟩ <;>
    decide

theorem nxt_sep {q : Nat} (ht : Tok (At inp q)) : Nxt inp (fun _ => False) true q :=
  ⟨ht, fun _ _ _ h => h, fun h => by cases h⟩

/-- `A ~ KEYWORD_x ~ T` fails where, after the text of `A`, another word `w'` stands -/
theorem kwAfter_fails {τ : Trivia} (hτ : ∀ q, Ws (τ q)) {r : RuleId} {w : List Char}
    (hl : gList.look r = some (.atomic, .seq (.str w) (.not (.call R.NameContinue)))) (hw : validName w)
    (w' : List Char) (hw' : validName w') (hne : w' ≠ w) {A : Expr} {K p : Nat} {tA : List Char} {pA : List Pair} (T : Expr)
    {sK : Bool} {bad : Char → Prop} (rA : Part inp K A p tA pA) (hK : K ≤ 29)
    (h : HasAt inp (p + tA.length) (tk τ sK (p + tA.length) w'))
    (hn : Nxt inp bad sK (p + tA.length + (tk τ sK (p + tA.length) w').length)) :
    Fails gList (B tA.length + 30) true (.seq A (.seq (.call r) T)) .nonAtomic (At inp p) := by
  obtain ⟨gW, _, gGlue⟩ := tk_gap hτ h hn
  exact (rA.fails_seq (fails_seq_1 (kw_fails_name (la := .none) hl hw hw' hne gW gGlue))).mono
    (Nat.add_le_add_right (Nat.max_le.mpr ⟨Nat.add_le_add_left hK _, le_B (by decide)⟩) 1)

theorem descKw_fails {τ : Trivia} (hτ : ∀ q, Ws (τ q)) {r : RuleId} {w : List Char}
    (hl : gList.look r = some (.atomic, .seq (.str w) (.not (.call R.NameContinue)))) (hw : validName w)
    (desc : Option String) (w' : List Char) (hw' : validName w') (hne : w' ≠ w) {p : Nat} (T : Expr) {sK : Bool}
    {bad : Char → Prop} (h : HasAt inp p (rOptDesc τ p desc ++ tk τ sK (p + (rOptDesc τ p desc).length) w'))
    (hn : Nxt inp bad sK (p + (rOptDesc τ p desc).length + (tk τ sK (p + (rOptDesc τ p desc).length) w').length)) :
    Fails gList (B (rOptDesc τ p desc).length + 30) true (.seq (.opt (.call R.Description)) (.seq (.call r) T))
      .nonAtomic (At inp p) := by
  obtain ⟨oS, S⟩ := optDescT hτ desc h.left h.right (hd_tk (hd_of_validName hw'))
  exact kwAfter_fails hτ hl hw w' hw' hne T S.part (by decide) h.right hn

theorem extKw_fails {τ : Trivia} (hτ : ∀ q, Ws (τ q)) {r : RuleId} {w : List Char}
    (hl : gList.look r = some (.atomic, .seq (.str w) (.not (.call R.NameContinue)))) (hw : validName w)
    (w' : List Char) (hw' : validName w') (hne : w' ≠ w) {p : Nat} (T : Expr)
    (h : HasAt inp p (tk τ true p kwExtend ++ tk τ true (p + (tk τ true p kwExtend).length) w'))
    (ht : Tok (At inp (p + (tk τ true p kwExtend).length + (tk τ true (p + (tk τ true p kwExtend).length) w').length))) :
    Fails gList (B (tk τ true p kwExtend).length + 30) true (.seq (.call R.KEYWORD_extend) (.seq (.call r) T))
      .nonAtomic (At inp p) :=
  kwAfter_fails hτ hl hw w' hw' hne T (kwP hτ look_KEYWORD_extend h.left (bad := fun _ => False)
    (Nxt.of_name h.right (hd_tk (hd_of_validName hw')))) (by decide)
    h.right (nxt_sep ht)

/-- `A ~ KEYWORD_x ~ Name` as the front of a rule body; `A` is the optional description of a definition or the keyword
    `extend` of an extension -/
theorem kwNameF {τ : Trivia} (hτ : ∀ q, Ws (τ q)) {r : RuleId} {kw : List Char}
    (hl : gList.look r = some (.atomic, .seq (.str kw) (.not (.call R.NameContinue)))) (name : Name)
    (hname : validName name.toList) {A : Expr} {K p : Nat} {tA : List Char} {pA : List Pair} {sN : Bool}
    {bad : Char → Prop} (rA : Part inp K A p tA pA) (hK : K ≤ 10) :
    let tK := tk τ true (p + tA.length) kw
    let tN := tk τ sN (p + tA.length + tK.length) name.toList
    HasAt inp (p + tA.length) (tK ++ tN) → Nxt inp bad sN (p + tA.length + tK.length + tN.length) →
    Front inp 10 5 (fun T => .seq A (.seq (.call r) (.seq (.call R.Name) T)))
      (fun ps => pA ++ ([.mk r (p + tA.length) (p + tA.length + kw.length) []] ++
        ([.mk R.Name (p + tA.length + tK.length) (p + tA.length + tK.length + name.toList.length) []] ++ ps)))
      p (tA ++ (tK ++ tN)) (p + tA.length + tK.length + tN.length) ∧
    HasAt inp (p + tA.length + tK.length) name.toList := by
  intro tK tN h hn
  have rK := kwP hτ hl h.left (bad := fun _ => False)
    (Nxt.of_name h.right (hd_tk (hd_of_validName hname)))
  have F := (((Front.nil inp p).seq rA).seq rK).seq (nameP hτ hname h.right hn)
  rw [List.nil_append, List.append_assoc] at F
  exact ⟨F.mono (by simpa using hK) (by decide), h.right.left⟩

/-- `Description? gap keyword gap name gap` (`sN`: the last gap is made non-empty) -/
def rDefHead (τ : Trivia) (sN : Bool) (p : Nat) (desc : Option String) (kw : List Char) (name : Name) : List Char :=
  let tS := rOptDesc τ p desc
  let tK := tk τ true (p + tS.length) kw
  tS ++ (tK ++ tk τ sN (p + tS.length + tK.length) name.toList)

/-- offsets of the keyword and of the name -/
def dhOffK (τ : Trivia) (p : Nat) (desc : Option String) : Nat := p + (rOptDesc τ p desc).length
def dhOffN (τ : Trivia) (p : Nat) (desc : Option String) (kw : List Char) : Nat :=
  dhOffK τ p desc + (tk τ true (dhOffK τ p desc) kw).length

theorem hd_rDefHead (τ : Trivia) (sN : Bool) (p : Nat) (desc : Option String) (kw : List Char) (name : Name)
    (hkw : validName kw) : Hd (fun d => nameStart d ∨ d = '"') (rDefHead τ sN p desc kw name) := by
  simp only [rDefHead]
  exact hd_desc_name τ p desc (Hd.append (hd_tk (hd_of_validName hkw)) _)

/-- the head of a definition: the front of its rule body, with what the builder reads off its pairs -/
structure DefHead (τ : Trivia) (inp : List Char) (r : RuleId) (kw : List Char) (sN : Bool) (p : Nat)
    (desc : Option String) (name : Name) (oS : Option Pair) (prK prN : Pair) : Prop where
  front : Front inp 10 5 (fun T => .seq (.opt (.call R.Description)) (.seq (.call r) (.seq (.call R.Name) T)))
    (fun ps => oS.toList ++ ([prK] ++ ([prN] ++ ps))) p (rDefHead τ sN p desc kw name)
    (p + (rDefHead τ sN p desc kw name).length)
  descRule : ∀ x ∈ oS, x.rule = R.Description
  kwRule : prK.rule = r
  nameRule : prN.rule = R.Name
  descB : optDesc (Ctx.spec inp) oS = .ok desc
  kwPos : toPos (Ctx.spec inp) prK = posAt inp (dhOffK τ p desc)
  name : asString (Ctx.spec inp) prN = name
  namePos : toPos (Ctx.spec inp) prN = posAt inp (dhOffN τ p desc kw)

theorem defHeadF {τ : Trivia} (hτ : ∀ q, Ws (τ q)) {r : RuleId} {kw : List Char}
    (hl : gList.look r = some (.atomic, .seq (.str kw) (.not (.call R.NameContinue)))) (hkw : validName kw)
    (desc : Option String) (name : Name) (hname : validName name.toList) {sN : Bool} {p : Nat} {bad : Char → Prop}
    (h : HasAt inp p (rDefHead τ sN p desc kw name)) (hn : Nxt inp bad sN (p + (rDefHead τ sN p desc kw name).length)) :
    ∃ oS prK prN, DefHead τ inp r kw sN p desc name oS prK prN := by
  simp only [rDefHead] at h hn
  rw [length_app₃] at hn
  obtain ⟨oS, S⟩ := optDescT hτ desc h.left h.right.left (hd_tk (hd_of_validName hkw))
  obtain ⟨F, hnm⟩ := kwNameF hτ hl name hname S.part (by decide) h.right hn
  refine ⟨oS, .mk r _ ?_ [], .mk R.Name _ ?_ [], ?_, S.rule, rfl, rfl, S.build _ (Nat.le_refl _), rfl, ?_, rfl⟩
  rotate_left 2
  · simp only [rDefHead, length_app₃]; exact F
  · simp [asString_spec', Pair.start, Pair.stop, dhOffK, hnm.slice]

def rExtHead (τ : Trivia) (sN : Bool) (p : Nat) (kw : List Char) (name : Name) : List Char :=
  let tS := tk τ true p kwExtend
  let tK := tk τ true (p + tS.length) kw
  tS ++ (tK ++ tk τ sN (p + tS.length + tK.length) name.toList)

def ehOffK (τ : Trivia) (p : Nat) : Nat := p + (tk τ true p kwExtend).length
def ehOffN (τ : Trivia) (p : Nat) (kw : List Char) : Nat := ehOffK τ p + (tk τ true (ehOffK τ p) kw).length

/-- the head of an extension: the front of its rule body, with what the builder reads off its pairs -/
structure ExtHead (τ : Trivia) (inp : List Char) (r : RuleId) (kw : List Char) (sN : Bool) (p : Nat) (name : Name)
    (prE prK prN : Pair) : Prop where
  front : Front inp 10 5 (fun T => .seq (.call R.KEYWORD_extend) (.seq (.call r) (.seq (.call R.Name) T)))
    (fun ps => [prE] ++ ([prK] ++ ([prN] ++ ps))) p (rExtHead τ sN p kw name) (p + (rExtHead τ sN p kw name).length)
  extRule : prE.rule = R.KEYWORD_extend
  kwRule : prK.rule = r
  nameRule : prN.rule = R.Name
  extPos : toPos (Ctx.spec inp) prE = posAt inp p
  name : asString (Ctx.spec inp) prN = name
  namePos : toPos (Ctx.spec inp) prN = posAt inp (ehOffN τ p kw)

theorem extHeadF {τ : Trivia} (hτ : ∀ q, Ws (τ q)) {r : RuleId} {kw : List Char}
    (hl : gList.look r = some (.atomic, .seq (.str kw) (.not (.call R.NameContinue)))) (hkw : validName kw)
    (name : Name) (hname : validName name.toList) {sN : Bool} {p : Nat} {bad : Char → Prop}
    (h : HasAt inp p (rExtHead τ sN p kw name)) (hn : Nxt inp bad sN (p + (rExtHead τ sN p kw name).length)) :
    ∃ prE prK prN, ExtHead τ inp r kw sN p name prE prK prN := by
  simp only [rExtHead] at h hn
  rw [length_app₃] at hn
  obtain ⟨F, hnm⟩ := kwNameF hτ hl name hname (kwP hτ look_KEYWORD_extend h.left (bad := fun _ => False)
    (Nxt.of_name h.right.left (hd_tk (hd_of_validName hkw)))) (by decide)
    h.right hn
  refine ⟨.mk R.KEYWORD_extend p ?_ [], .mk r (ehOffK τ p) ?_ [], .mk R.Name _ ?_ [], ?_, rfl, rfl, rfl, rfl, ?_, rfl⟩
  rotate_left 3
  · simp only [rExtHead, length_app₃]; exact F
  · simp [asString_spec', Pair.start, Pair.stop, ehOffK, hnm.slice]

end NitroVerif.DocParse
