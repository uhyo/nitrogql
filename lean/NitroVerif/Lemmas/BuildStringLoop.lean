/-
The loop of `build_string_value` over the characters of a normal string (fix fff8e9c: a surrogate pair `\uHHHH\uLLLL` is one
supplementary character), unfolded clause by clause (helper lemmas for Props/C07 `string_decode_general` and Props/C08
`parse_no_panic`). `Build.decodeChars ctx skip l`: `skip = true` — the head of `l` is the trailing surrogate that
`characters.next()` already consumed. Plus the arithmetic of a pair: its code is always a scalar value.
-/
import NitroVerif.Model.Build
namespace NitroVerif.Build
open NitroVerif.Peg NitroVerif.Gen NitroVerif.Gen.Parts NitroVerif

/-- what the loop does after a `\uXXXX` escape with code `code`, given what it peeked -/
def u4Arm (ctx : Ctx) (code : Nat) (rest : List Pair) : Option Nat → M (List Char)
  | some t =>
    if isLeadSurrogate code then do
      let c ← charFromU32 (surrogatePairCode code t)
      (c :: ·) <$> decodeChars ctx true rest
    else do
      let c ← charFromU32 code
      (c :: ·) <$> decodeChars ctx false rest
  | none => do
    let c ← charFromU32 code
    (c :: ·) <$> decodeChars ctx false rest

theorem decodeChars_nil (ctx : Ctx) (skip : Bool) : decodeChars ctx skip [] = .ok [] := by
  cases skip <;> rw [decodeChars]

theorem decodeChars_skip (ctx : Ctx) (sc : Pair) (rest : List Pair) :
    decodeChars ctx true (sc :: rest) = decodeChars ctx false rest := by rw [decodeChars]

theorem decodeChars_err_child (ctx : Ctx) {sc : Pair} (rest : List Pair) {e : Panic}
    (hoc : onlyChildOf OC_StringCharacter "StringCharacter" sc = .error e) :
    decodeChars ctx false (sc :: rest) = .error e := by
  rw [decodeChars, hoc]; rfl

theorem decodeChars_other (ctx : Ctx) {sc : Pair} (rest : List Pair) {ch : Pair}
    (hoc : onlyChildOf OC_StringCharacter "StringCharacter" sc = .ok ch) (hne : ch.rule ≠ R.EscapedUnicode4) :
    decodeChars ctx false (sc :: rest) = (do let c ← decodeChar ctx sc; (c :: ·) <$> decodeChars ctx false rest) := by
  rw [decodeChars, hoc]
  show (if ch.rule = R.EscapedUnicode4 then _ else _) = _
  rw [if_neg hne]

theorem decodeChars_u4 (ctx : Ctx) {sc : Pair} (rest : List Pair) {ch : Pair} {code : Nat} {tr : Option Nat}
    (hoc : onlyChildOf OC_StringCharacter "StringCharacter" sc = .ok ch) (hr : ch.rule = R.EscapedUnicode4)
    (hcode : unicode4Code ctx ch = .ok code) (hpk : peekTrailing ctx rest = .ok tr) :
    decodeChars ctx false (sc :: rest) = u4Arm ctx code rest tr := by
  rw [decodeChars, hoc]
  show (if ch.rule = R.EscapedUnicode4 then _ else _) = _
  rw [if_pos hr, hcode]
  show (peekTrailing ctx rest >>= _) = _
  rw [hpk]
  cases tr <;> rfl

theorem decodeChars_err_code (ctx : Ctx) {sc : Pair} (rest : List Pair) {ch : Pair} {e : Panic}
    (hoc : onlyChildOf OC_StringCharacter "StringCharacter" sc = .ok ch) (hr : ch.rule = R.EscapedUnicode4)
    (hcode : unicode4Code ctx ch = .error e) : decodeChars ctx false (sc :: rest) = .error e := by
  rw [decodeChars, hoc]
  show (if ch.rule = R.EscapedUnicode4 then _ else _) = _
  rw [if_pos hr, hcode]
  rfl

theorem decodeChars_err_peek (ctx : Ctx) {sc : Pair} (rest : List Pair) {ch : Pair} {code : Nat} {e : Panic}
    (hoc : onlyChildOf OC_StringCharacter "StringCharacter" sc = .ok ch) (hr : ch.rule = R.EscapedUnicode4)
    (hcode : unicode4Code ctx ch = .ok code) (hpk : peekTrailing ctx rest = .error e) :
    decodeChars ctx false (sc :: rest) = .error e := by
  rw [decodeChars, hoc]
  show (if ch.rule = R.EscapedUnicode4 then _ else _) = _
  rw [if_pos hr, hcode]
  show (peekTrailing ctx rest >>= _) = _
  rw [hpk]
  rfl

theorem peekTrailing_nil (ctx : Ctx) : peekTrailing ctx [] = .ok none := rfl

theorem peekTrailing_cons (ctx : Ctx) {sc : Pair} (rest : List Pair) {ch : Pair} (h : onlyChild sc = .ok ch) :
    peekTrailing ctx (sc :: rest) = trailingSurrogate ctx ch := by
  rw [peekTrailing, h]; rfl

theorem peekTrailing_err (ctx : Ctx) {sc : Pair} (rest : List Pair) {e : Panic} (h : onlyChild sc = .error e) :
    peekTrailing ctx (sc :: rest) = .error e := by
  rw [peekTrailing, h]; rfl

theorem trailingSurrogate_other (ctx : Ctx) {ch : Pair} (h : ch.rule ≠ R.EscapedUnicode4) :
    trailingSurrogate ctx ch = .ok none := by
  rw [trailingSurrogate, if_pos h]

theorem trailingSurrogate_u4 (ctx : Ctx) {ch : Pair} {c : Nat} (h : ch.rule = R.EscapedUnicode4)
    (hc : unicode4Code ctx ch = .ok c) :
    trailingSurrogate ctx ch = .ok (if isTrailSurrogate c then some c else none) := by
  rw [trailingSurrogate, if_neg (by simpa using h), hc]; rfl

/-! ### the arithmetic of a surrogate pair -/

theorem isLead_iff {n : Nat} : isLeadSurrogate n = true ↔ 0xD800 ≤ n ∧ n ≤ 0xDBFF := by
  simp [isLeadSurrogate]
theorem isTrail_iff {n : Nat} : isTrailSurrogate n = true ↔ 0xDC00 ≤ n ∧ n ≤ 0xDFFF := by
  simp [isTrailSurrogate]

theorem surrogatePairCode_eq (a b : Nat) : surrogatePairCode a b = 0x10000 + (a - 0xD800) * 0x400 + (b - 0xDC00) := by
  unfold surrogatePairCode
  rw [Nat.shiftLeft_eq]

/-- the code of a leading and a trailing surrogate is a supplementary scalar value: `char::from_u32(..).expect(..)` in the
    pair arm of `build_string_value` cannot fail -/
theorem surrogatePair_valid {a b : Nat} (ha : isLeadSurrogate a = true) (hb : isTrailSurrogate b = true) :
    validScalar (surrogatePairCode a b) = true ∧ 0x10000 ≤ surrogatePairCode a b ∧ surrogatePairCode a b ≤ 0x10FFFF := by
  rw [isLead_iff] at ha
  rw [isTrail_iff] at hb
  rw [surrogatePairCode_eq]
  refine ⟨?_, by omega, by omega⟩
  simp only [validScalar, Bool.or_eq_true, decide_eq_true_eq, Bool.and_eq_true]
  omega

theorem lead_not_valid {n : Nat} (h : isLeadSurrogate n = true) : validScalar n = false := by
  rw [isLead_iff] at h
  simp only [validScalar, Bool.or_eq_false_iff, decide_eq_false_iff_not, Bool.and_eq_false_imp, decide_eq_true_eq]
  omega

theorem trail_not_valid {n : Nat} (h : isTrailSurrogate n = true) : validScalar n = false := by
  rw [isTrail_iff] at h
  simp only [validScalar, Bool.or_eq_false_iff, decide_eq_false_iff_not, Bool.and_eq_false_imp, decide_eq_true_eq]
  omega

theorem valid_or_surrogate {n : Nat} (h1 : isLeadSurrogate n = false) (h2 : isTrailSurrogate n = false)
    (h3 : n ≤ 0x10FFFF) : validScalar n = true := by
  simp only [isLeadSurrogate, isTrailSurrogate, Bool.and_eq_false_imp, decide_eq_true_eq, decide_eq_false_iff_not] at h1 h2
  simp only [validScalar, Bool.or_eq_true, decide_eq_true_eq, Bool.and_eq_true]
  omega

end NitroVerif.Build
