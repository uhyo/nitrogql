import NitroVerif.Model.GqlPrint
import NitroVerif.Spec.GqlString
/-!
C16: the single-line (quoted) form of `print_string` against the GraphQL `StringValue` semantics.
-/
namespace NitroVerif.GqlPrint
open NitroVerif.GqlString

/-- the double quote character (named so that property files need not spell the literal) -/
abbrev dquote : Char := Char.ofNat 34

theorem hexVal_hexDigit : ∀ k : Fin 16, hexVal (hexDigit k.val) = some k.val := by decide

theorem hexVal_hexDigit' (k : Nat) (h : k < 16) : hexVal (hexDigit k) = some k :=
  hexVal_hexDigit ⟨k, h⟩

theorem hexDigit_ne_of_hexVal {k : Nat} (h : k < 16) {x : Char} (hx : hexVal x = none) : hexDigit k ≠ x := by
  intro e
  have := hexVal_hexDigit' k h
  rw [e, hx] at this
  cases this

theorem hexLower_small (n : Nat) (h : n < 16) : hexLower n = [hexDigit n] := by
  simp [hexLower, hexLowerAux, h]

theorem hexLower_two (n : Nat) (h1 : 16 ≤ n) (h2 : n < 256) : hexLower n = [hexDigit (n / 16), hexDigit (n % 16)] := by
  have h4 : n / 16 < 16 := Nat.div_lt_of_lt_mul h2
  simp [hexLower, hexLowerAux, Nat.not_lt.mpr h1, h4]

theorem hexLowerAux_all (P : Char → Prop) (hP : ∀ k, k < 16 → P (hexDigit k)) :
    ∀ (f n : Nat) (acc : List Char), (∀ x ∈ acc, P x) → ∀ x ∈ hexLowerAux f n acc, P x := by
  intro f
  induction f with
  | zero => intro n acc h; exact h
  | succ f ih =>
    intro n acc h
    rw [hexLowerAux]
    split
    · rename_i h16
      exact List.forall_mem_cons.mpr ⟨hP n h16, h⟩
    · exact ih _ _ (List.forall_mem_cons.mpr ⟨hP _ (Nat.mod_lt n (by decide)), h⟩)

theorem isControl_lt (c : Char) (h : isControl c = true) : c.toNat < 160 := by
  simp [isControl] at h; omega

theorem codePoint_toNat (c : Char) (h : c.toNat < 160) : codePoint c.toNat = some c := by
  have h1 : c.toNat ≤ 0x10FFFF := by omega
  have h2 : isSurrogate c.toNat = false := by simp [isSurrogate]; omega
  simp [codePoint, h1, h2, Char.ofNat_toNat]

/-! ### reading what the printer writes -/

theorem quotedRun_escape (x c : Char) (hx : x ≠ 'u') (he : escaped x = some c) (rest : List Char) :
    quotedRun .normal ('\\' :: x :: rest) = (quotedRun .normal rest).map (c :: ·) := by
  simp only [quotedRun, step, Char.reduceEq, ↓reduceIte, hx, he, Option.map_map]
  rfl

theorem step_hexDigit (acc : Nat) (any : Bool) {k m : Nat} (hk : k < 16) (hm : acc * 16 + k = m) (hle : m ≤ 0x10FFFF) :
    step (.ubrace acc any) (hexDigit k) = .go [] (.ubrace m true) := by
  subst hm
  simp only [step, hexDigit_ne_of_hexVal hk (x := '}') rfl, hexVal_hexDigit' k hk, hle, if_false, if_true]

theorem quotedRun_hexLower (n : Nat) (h : n < 256) (tl : List Char) :
    quotedRun (.ubrace 0 false) (hexLower n ++ tl) = quotedRun (.ubrace n true) tl := by
  have hle : n ≤ 0x10FFFF := by omega
  by_cases h16 : n < 16
  · simp only [hexLower_small n h16, List.cons_append, List.nil_append, quotedRun,
      step_hexDigit 0 false h16 (Nat.zero_add n) hle, Option.map_id']
  · simp only [hexLower_two n (Nat.le_of_not_lt h16) h, List.cons_append, List.nil_append, quotedRun,
      step_hexDigit 0 false (Nat.div_lt_of_lt_mul (k := 16) h) (Nat.zero_add (n / 16))
        (Nat.le_trans (Nat.div_le_self n 16) hle),
      step_hexDigit (n / 16) true (Nat.mod_lt n (by decide)) (Nat.div_add_mod' n 16) hle, Option.map_id']

theorem quotedRun_control (c : Char) (h : isControl c = true) (rest : List Char) :
    quotedRun .normal (['\\', 'u', '{'] ++ hexLower c.toNat ++ ['}'] ++ rest) = (quotedRun .normal rest).map (c :: ·) := by
  have hlt := isControl_lt c h
  simp only [List.cons_append, List.nil_append, List.append_assoc, quotedRun, step, Char.reduceEq, ↓reduceIte,
    Option.isSome_none, Bool.false_eq_true, quotedRun_hexLower c.toNat (by omega), codePoint_toNat c hlt, Option.map_map]
  rfl

theorem quotedChar_cases (c : Char) :
    c = '\\' ∨ c = '\r' ∨ c = '\n' ∨
    (isControl c = true ∧ quotedChar c = ['\\', 'u', '{'] ++ hexLower c.toNat ++ ['}']) ∨
    (c ≠ '\\' ∧ c ≠ '\r' ∧ c ≠ '\n' ∧ ¬ isControl c = true ∧ quotedChar c = [c]) := by
  by_cases h1 : c = '\\'
  · exact .inl h1
  by_cases h2 : c = '\r'
  · exact .inr (.inl h2)
  by_cases h3 : c = '\n'
  · exact .inr (.inr (.inl h3))
  refine .inr (.inr (.inr ?_))
  rw [quotedChar, if_neg h1, if_neg h2, if_neg h3]
  by_cases h4 : isControl c = true
  · exact .inl ⟨h4, if_pos h4⟩
  · exact .inr ⟨h1, h2, h3, h4, if_neg h4⟩

theorem quotedRun_quotedChar (c : Char) (hq : c ≠ '"') (rest : List Char) :
    quotedRun .normal (quotedChar c ++ rest) = (quotedRun .normal rest).map (c :: ·) := by
  rcases quotedChar_cases c with rfl | rfl | rfl | ⟨h, e⟩ | ⟨h1, h2, h3, h4, e⟩
  · exact quotedRun_escape '\\' '\\' (by decide) rfl rest
  · exact quotedRun_escape 'r' '\r' (by decide) rfl rest
  · exact quotedRun_escape 'n' '\n' (by decide) rfl rest
  · rw [e]; exact quotedRun_control c h rest
  · have hs : sourceChar c = true := by
      simp only [isControl, decide_eq_true_eq] at h4
      simp only [sourceChar, decide_eq_true_eq]
      omega
    have e1 : step .normal c = .go [c] .normal := by simp [step, hq, h1, h2, h3, hs]
    simp only [e, List.singleton_append, quotedRun, e1]

theorem quotedRun_quotedBody (s : List Char) (hq : ∀ c ∈ s, c ≠ '"') :
    quotedRun .normal (quotedBody s ++ ['"']) = some s := by
  induction s with
  | nil => rfl
  | cons c cs ih =>
    rw [quotedBody, List.append_assoc, quotedRun_quotedChar c (hq c (List.mem_cons_self ..)),
      ih fun x hx => hq x (List.mem_cons_of_mem _ hx)]
    rfl

theorem decodeStringLiteral_of_quotedRun {r v : List Char} (h : quotedRun .normal r = some v) :
    decodeStringLiteral ('"' :: r) = some v := by
  unfold decodeStringLiteral
  split
  · -- `r` starts with `""`: the run closes at the first quote with text left over, so `h` is `none = some v`
    rename_i heq
    rw [(List.cons.inj heq).2] at h
    cases h
  · rename_i heq
    rw [← (List.cons.inj heq).2]
    exact h
  · rename_i h2
    exact absurd rfl (h2 _)

theorem decode_printQuoted (s : List Char) (hq : ∀ c ∈ s, c ≠ '"') :
    decodeStringLiteral (printQuoted s) = some s :=
  decodeStringLiteral_of_quotedRun (quotedRun_quotedBody s hq)

theorem quotedChar_all (P : Char → Prop) (hfix : ∀ x ∈ ['"', '\\', 'r', 'n', 'u', '{', '}'], P x)
    (hhex : ∀ k, k < 16 → P (hexDigit k)) (c : Char)
    (hc : c ≠ '\\' → c ≠ '\r' → c ≠ '\n' → ¬ isControl c = true → P c) : ∀ x ∈ quotedChar c, P x := by
  simp only [List.forall_mem_cons] at hfix
  obtain ⟨_, eb, er, en, eu, eo, ec, _⟩ := hfix
  rcases quotedChar_cases c with rfl | rfl | rfl | ⟨_, e⟩ | ⟨h1, h2, h3, h4, e⟩
  · exact List.forall_mem_cons.mpr ⟨eb, List.forall_mem_cons.mpr ⟨eb, List.forall_mem_nil _⟩⟩
  · exact List.forall_mem_cons.mpr ⟨eb, List.forall_mem_cons.mpr ⟨er, List.forall_mem_nil _⟩⟩
  · exact List.forall_mem_cons.mpr ⟨eb, List.forall_mem_cons.mpr ⟨en, List.forall_mem_nil _⟩⟩
  · rw [e, List.forall_mem_append, List.forall_mem_append]
    exact ⟨⟨by simp [eb, eu, eo], hexLowerAux_all P hhex 8 _ [] (List.forall_mem_nil _)⟩, by simp [ec]⟩
  · rw [e]
    exact List.forall_mem_cons.mpr ⟨hc h1 h2 h3 h4, List.forall_mem_nil _⟩

theorem printQuoted_all (P : Char → Prop) (hfix : ∀ x ∈ ['"', '\\', 'r', 'n', 'u', '{', '}'], P x)
    (hhex : ∀ k, k < 16 → P (hexDigit k)) (s : List Char)
    (hs : ∀ c ∈ s, c ≠ '\\' → c ≠ '\r' → c ≠ '\n' → ¬ isControl c = true → P c) : ∀ x ∈ printQuoted s, P x := by
  have body : ∀ s : List Char, (∀ c ∈ s, c ≠ '\\' → c ≠ '\r' → c ≠ '\n' → ¬ isControl c = true → P c) →
      ∀ x ∈ quotedBody s, P x := by
    intro s
    induction s with
    | nil => intro _; exact List.forall_mem_nil _
    | cons c cs ih =>
      intro h
      exact List.forall_mem_append.mpr
        ⟨quotedChar_all P hfix hhex c (h c (List.mem_cons_self ..)), ih fun x hx => h x (List.mem_cons_of_mem _ hx)⟩
  have hq : P '"' := hfix _ (List.mem_cons_self ..)
  exact List.forall_mem_cons.mpr ⟨hq, List.forall_mem_append.mpr
    ⟨body s hs, List.forall_mem_cons.mpr ⟨hq, List.forall_mem_nil _⟩⟩⟩

theorem printQuoted_ne_cr (s : List Char) : ∀ x ∈ printQuoted s, x ≠ '\r' :=
  printQuoted_all _ (by decide) (fun _ hk => hexDigit_ne_of_hexVal hk rfl) s fun _ _ _ h _ _ => h

theorem printQuoted_ne_nl (s : List Char) : ∀ x ∈ printQuoted s, x ≠ '\n' :=
  printQuoted_all _ (by decide) (fun _ hk => hexDigit_ne_of_hexVal hk rfl) s fun _ _ _ _ h _ => h

end NitroVerif.GqlPrint
