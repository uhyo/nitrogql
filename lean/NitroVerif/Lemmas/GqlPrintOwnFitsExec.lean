import NitroVerif.Lemmas.GqlPrintOwnFits
import NitroVerif.Lemmas.GqlPrintOwnFlatExec
/-!
C16 over nitrogql's own parser: the printer's token lists of executable documents fit the flat forms of C07's renderings
(variable definitions, selections, operations, fragments, documents).
-/
namespace NitroVerif.C16Own
open NitroVerif.Gql NitroVerif.GqlPrint NitroVerif.ValueParse NitroVerif.DocParse NitroVerif.TypeParse NitroVerif.StringParse

variable {B : List Tok} {b d : Bool} {cs : List (List Char × Bool)}

/-! ### the optional parts of the printing functions, as functions (a `match` inside a definition cannot be addressed
by a lemma that has its own `match`) -/

def pDefault : Option Value → List Tok
  | some dv => [sp, .p "=", sp] ++ printValue dv
  | none => []
def pAlias : Option (Name × Pos) → List Tok
  | some (a, _) => [.name a, .p ":", sp]
  | none => []
def pTypeCond : Option (Name × Pos) → List Tok
  | some (t, _) => [.name "on", sp, .name t, sp]
  | none => []
def pOpName : Option (Name × Pos) → List Tok
  | some (n, _) => [sp, .name n]
  | none => []

theorem printVarDef_eq (v : VarDef) :
    printVarDef v = [.var v.name, .p ":", sp] ++ printType v.ty ++ pDefault v.default ++ printDirs v.dirs := by
  unfold printVarDef; cases v.default <;> rfl
theorem printSelection_field_none (al : Option (Name × Pos)) (n : Name) (np : Pos) (as : List Arg) (ds : List Directive) :
    printSelection (.field al n np as ds none) = pAlias al ++ [.name n] ++ printArgs as ++ printDirs ds := by
  cases al <;> simp [printSelection, pAlias]
theorem printSelection_field_some (al : Option (Name × Pos)) (n : Name) (np : Pos) (as : List Arg) (ds : List Directive)
    (xs : List Selection) :
    printSelection (.field al n np as ds (some xs)) = pAlias al ++ [.name n] ++ printArgs as ++ printDirs ds ++
      (sp :: ([.p "{", nl, .ind] ++ printSelLines xs ++ [.ded, .p "}"])) := by
  cases al <;> simp [printSelection, pAlias]
theorem printSelection_inline (c : Option (Name × Pos)) (ds : List Directive) (ss : List Selection) (p : Pos) :
    printSelection (.inline c ds ss p) = [.p "...", sp] ++ pTypeCond c ++ printDirs ds ++
      ([.p "{", nl, .ind] ++ printSelLines ss ++ [.ded, .p "}"]) := by
  cases c <;> simp [printSelection, pTypeCond]
theorem printOperation_eq (o : OperationDef) :
    printOperation o = [.name o.kind.asStr] ++ pOpName o.name ++ printVarDefs o.vars ++ printDirs o.dirs ++ [sp] ++
      printSelSet o.sel ++ [nl] := by
  unfold printOperation; cases o.name <;> rfl

/-! ### variable definitions -/

theorem fitsD_optDefault (dv : Option Value) (hwf : ∀ v ∈ dv, WFV v) (sep : Bool) :
    FitsD d (cOptDefault sep dv ++ cs) (pDefault dv ++ B) ↔ FitsD (if dv.isNone then d else sep) cs B := by
  cases dv with
  | none => simp only [fitw, pDefault, cOptDefault, Option.isNone_none]
  | some v => simp only [fitw, pDefault, cOptDefault, Option.isNone_some, fitsD_value v (hwf v rfl)]

theorem fitsD_varDef (v : VarDef) (hwf : WFVarDef v) (sep : Bool) :
    FitsD d (cVarDef sep v ++ cs) (printVarDef v ++ B) ↔ (d = false ∧ FitsD sep cs B) := by
  obtain ⟨hn, ht, hd, hdirs⟩ := hwf
  simp only [fitw, printVarDef_eq, cVarDef, good_of_validName hn, fitsD_type _ ht, fitsD_optDefault _ hd,
    fitsD_dirs _ hdirs]

/-- the definitions after the first, each behind `,` line feed (which meets any demand) -/
theorem fitsD_varDefsTail : ∀ (vs : List VarDef), (∀ v ∈ vs, WFVarDef v) → ∀ (d : Bool) (B : List Tok)
    (cs : List (List Char × Bool)),
    (FitsD d (cList cVarDef false false vs ++ cs) (printVarDefsSep vs false ++ B) ↔ FitsD (vs.isEmpty && d) cs B)
  | [], _ => fun d B cs => by simp only [fitw, printVarDefsSep, cList]
  | v :: vs, hwf => fun d B cs => by
    simp only [fitw, printVarDefsSep, cList, ite_self, fitsD_varDef v (hwf v (List.mem_cons_self ..)),
      fitsD_varDefsTail vs (fun x hx => hwf x (List.mem_cons_of_mem _ hx))]

theorem fitsD_optVars : (vs : List VarDef) → (∀ v ∈ vs, WFVarDef v) → ∀ (d sep : Bool) (B : List Tok)
    (cs : List (List Char × Bool)),
    (FitsD d (cOptVars sep vs ++ cs) (printVarDefs vs ++ B) ↔
      ((vs.isEmpty || !d) = true ∧ FitsD (if vs.isEmpty then d else sep) cs B))
  | [], _ => fun d sep B cs => by simp only [fitw, printVarDefs, cOptVars]
  | [v], hw => fun d sep B cs => by
    simp only [fitw, printVarDefs, cOptVars, cList, fitsD_varDef v (hw v (List.mem_cons_self ..))]
  | v1 :: v2 :: vs, hw => fun d sep B cs => by
    -- the first definition, then the others as a tail: the printing function is unfolded one step only
    have e : printVarDefsSep (v1 :: v2 :: vs) true = printVarDef v1 ++ printVarDefsSep (v2 :: vs) false := rfl
    have c : cList cVarDef false false (v1 :: v2 :: vs) = cVarDef false v1 ++ cList cVarDef false false (v2 :: vs) := rfl
    simp only [fitw, printVarDefs, e, c, cOptVars, fitsD_varDef v1 (hw v1 (List.mem_cons_self ..)),
      fitsD_varDefsTail (v2 :: vs) (fun x hx => hw x (List.mem_cons_of_mem _ hx))]

/-! ### selections -/

@[fitw] theorem fitsD_dots : FitsD d ((dots, b) :: cs) (.p "..." :: B) ↔ (d = false ∧ FitsD b cs B) := fitsD_p dots (by decide)
@[fitw] theorem fitsD_on : FitsD d ((kwOn, b) :: cs) (.name "on" :: B) ↔ (d = false ∧ FitsD b cs B) := fitsD_kw kwOn (by decide)
@[fitw] theorem fitsD_fragment : FitsD d ((kwFragment, b) :: cs) (.name "fragment" :: B) ↔ (d = false ∧ FitsD b cs B) :=
  fitsD_kw kwFragment (by decide)

theorem fitsD_optArgs (as : List Arg) (hwf : WFFs as) (sep : Bool) :
    FitsD d (cOptArgs sep as ++ cs) (printArgs as ++ B) ↔
      ((as.isEmpty || !d) = true ∧ FitsD (if as.isEmpty then d else sep) cs B) := by
  cases as with
  | nil => simp only [fitw, printArgs, cOptArgs]
  | cons a as => simp only [fitw, cOptArgs, fitsD_args (a :: as) (List.cons_ne_nil _ _) hwf]

theorem fitsD_head (sD : Bool) (al : Option (Name × Pos)) (n : Name) (args : List Arg) (dirs : List Directive)
    (hal : ∀ a ∈ al, validName a.1.toList) (hn : validName n.toList) (hargs : WFFs args) (hdirs : WFDirs dirs) :
    FitsD d (cHead sD al n args dirs ++ cs) (pAlias al ++ (.name n :: (printArgs args ++ (printDirs dirs ++ B)))) ↔
      (d = false ∧ FitsD sD cs B) := by
  rcases al with _ | ⟨a, ap⟩
  · simp only [fitw, pAlias, cHead, cAlias, good_of_validName hn, fitsD_optArgs _ hargs, fitsD_dirs _ hdirs]
  · simp only [fitw, pAlias, cHead, cAlias, good_of_validName hn, good_of_validName (hal (a, ap) rfl),
      fitsD_optArgs _ hargs, fitsD_dirs _ hdirs]

mutual
theorem fitsD_sel : (s : Selection) → WFSel s → ∀ (d sep : Bool) (B : List Tok) (cs : List (List Char × Bool)),
    (FitsD d (cSel sep s ++ cs) (printSelection s ++ B) ↔ (d = false ∧ FitsD sep cs B))
  | .field al n _ args dirs none => fun hwf d sep B cs => by
    simp only [fitw, cSel, printSelection_field_none, fitsD_head sep al n args dirs hwf.1 hwf.2.1 hwf.2.2.1 hwf.2.2.2]
  | .field al n _ args dirs (some ss) => fun hwf d sep B cs => by
    simp only [fitw, cSel, printSelection_field_some,
      fitsD_head false al n args dirs hwf.1 hwf.2.1 hwf.2.2.1 hwf.2.2.2.1, fitsD_selLines ss hwf.2.2.2.2.2]
  | .spread n _ dirs _ => fun hwf d sep B cs => by
    simp only [fitw, printSelection, cSel, good_of_validName hwf.1, fitsD_dirs _ hwf.2.2]
  | .inline cond dirs ss _ => fun hwf d sep B cs => by
    rcases cond with _ | ⟨t, tp⟩
    · simp only [fitw, printSelection_inline, pTypeCond, cSel, cCond, fitsD_dirs _ hwf.2.1, fitsD_selLines ss hwf.2.2.2]
    · simp only [fitw, printSelection_inline, pTypeCond, cSel, cCond, good_of_validName (hwf.1 (t, tp) rfl),
        fitsD_dirs _ hwf.2.1, fitsD_selLines ss hwf.2.2.2]
theorem fitsD_selLines : (ss : List Selection) → WFSels ss → ∀ (B : List Tok) (cs : List (List Char × Bool)),
    (FitsD false (cSels ss ++ cs) (printSelLines ss ++ B) ↔ FitsD false cs B)
  | [], _ => fun B cs => by simp only [fitw, printSelLines, cSels]
  | s :: ss, hwf => fun B cs => by
    simp only [fitw, printSelLines, cSels, fitsD_sel s hwf.1, fitsD_selLines ss hwf.2]
end

theorem fitsD_selSet (ss : List Selection) (hwf : WFSels ss) (sep : Bool) :
    FitsD d (cSelSet sep ss ++ cs) (printSelSet ss ++ B) ↔ (d = false ∧ FitsD sep cs B) := by
  simp only [fitw, printSelSet, cSelSet, fitsD_selLines ss hwf]

/-! ### operations, fragments, documents -/

theorem opKw_eq (k : OpKind) : k.asStr.toList = opKw k := by cases k <;> exact String.toList_ofList

/-- a definition begins where nothing is demanded, and the line feed the printer writes after it meets every `sep` -/
theorem fitsD_op (o : OperationDef) (hwf : WFOp o) (sep : Bool) :
    FitsD false (cOp sep o ++ cs) (printOperation o ++ B) ↔ FitsD false cs B := by
  obtain ⟨hn, hv, hd, _, hs⟩ := hwf
  have hk : goodNm o.kind.asStr.toList = true := by rw [opKw_eq]; cases o.kind <;> decide
  rw [cOp, ← opKw_eq]
  rcases hname : o.name with _ | ⟨n, np⟩
  · simp only [fitw, printOperation_eq, hname, pOpName, cOptName, Option.isSome_none, hk, fitsD_optVars _ hv,
      fitsD_dirs _ hd, fitsD_selSet _ hs]
  · simp only [fitw, printOperation_eq, hname, pOpName, cOptName, Option.isSome_some, hk,
      good_of_validName (hn (n, np) (by rw [hname]; rfl)), fitsD_optVars _ hv, fitsD_dirs _ hd, fitsD_selSet _ hs]

theorem fitsD_frag (f : FragmentDef) (hwf : WFFrag f) (sep : Bool) :
    FitsD false (cFrag sep f ++ cs) (printFragment f ++ B) ↔ FitsD false cs B := by
  obtain ⟨hn, _, hc, hd, _, hs⟩ := hwf
  simp only [fitw, printFragment, cFrag, cCond, good_of_validName hn, good_of_validName hc, fitsD_dirs _ hd,
    fitsD_selSet _ hs]

theorem fitsD_def (x : ExecDef) (hwf : WFDef x) (sep : Bool) :
    FitsD false (cDef sep x ++ cs) (printExecDef x ++ B) ↔ FitsD false cs B := by
  cases x with
  | op o => exact fitsD_op o hwf sep
  | frag f => exact fitsD_frag f hwf sep
  | imp i => exact absurd hwf id

theorem fits_doc (doc : List ExecDef) (hwf : ∀ x ∈ doc, WFDef x) : Fits (cDoc doc) (printDoc doc) := by
  rw [fits_iff_fitsD]
  induction doc with
  | nil => simp only [fitw, cDoc, cList, printDoc]
  | cons x xs ih =>
    have ih := ih fun y hy => hwf y (List.mem_cons_of_mem _ hy)
    simp only [cDoc] at ih
    simp only [cDoc, cList, printDoc, ite_self, fitsD_def x (hwf x (List.mem_cons_self ..)), ih]

/-! ### the implication forms of some of the rules (the walk does not use them) -/

theorem gapNext_optDefault (d : Option Value) (ts : List Tok) (h : d.isNone = false) :
    gapNext (pDefault d ++ ts) = true := by
  cases d with
  | none => cases h
  | some v => exact gapNext_lay ' ' []

theorem fits_sel : (s : Selection) → WFSel s → ∀ (sep : Bool) (cs : List (List Char × Bool)) (ts : List Tok),
    (sep = true → gapNext ts = true) → Fits cs ts → Fits (cSel sep s ++ cs) (printSelection s ++ ts) :=
  fun s hwf sep cs ts hs h => (fits_iff_fitsD.trans (fitsD_sel s hwf false sep ts cs)).mpr ⟨rfl, .of_fits hs h⟩

end NitroVerif.C16Own
