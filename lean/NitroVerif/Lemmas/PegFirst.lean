/-
The FIRST set of an expression. `firstIn g P … k e` is a syntactic test that `e` can only begin with a character of the
class `P`; `firstIn_fails`: such an expression FAILS, in every lookahead state and every context, on an input whose first
character is outside `P` and on the empty input, and the depth `k` of the test is the depth bound of the failure. For a fixed
grammar the test is a finite table fact and is evaluated; the lemmas "this rule fails in front of a character it cannot start
with" are instances.
-/
import NitroVerif.Lemmas.PegRun
namespace NitroVerif.Peg

def rangeIn (P : Char → Bool) (lo hi : Char) : Bool :=
  (List.range (hi.toNat + 1 - lo.toNat)).all fun i => P (Char.ofNat (lo.toNat + i))

/-- A string terminal begins with its first character, a range lies inside `P`, a sequence begins as its first item does (or,
    where that item is optional or a lookahead that cannot start here either, as the second — after the implicit skip), a
    choice as either alternative, a rule call as the rule's body.
    `F r = some m`: the rule `r` is taken as failing at the cursor in question within depth `m` (for a rule whose first set is
    costly to go through — a range of letters — and has a lemma of its own); `S = some m`: the implicit skip does nothing
    there within depth `m`; the Boolean argument: the expression stands in a body generated without skip calls.
    The depth `k` is that of `eval`, level by level: a string, a range, `seq`, `choice` cost one, `plus`, a rule call and a
    first item that is optional or a lookahead cost two. With too small a `k` the test is `false`, with a larger one it
    stays `true`; where the goal does not fix `k` the caller gives it. -/
def firstIn (g : G) (P : Char → Bool) (F : RuleId → Option Nat) (S : Option Nat) : Nat → Bool → Expr → Bool
  | _ + 1, _, .str (x :: _) => P x
  | _ + 1, _, .range lo hi => rangeIn P lo hi
  | k + 2, ns, .seq (.opt a) b => (ns || S.any (· ≤ k + 1)) && firstIn g P F S k ns a && firstIn g P F S k ns b
  | k + 2, ns, .seq (.not a) b => (ns || S.any (· ≤ k + 1)) && firstIn g P F S k ns a && firstIn g P F S k ns b
  | k + 1, ns, .seq a _ => firstIn g P F S k ns a
  | k + 1, ns, .choice a b => firstIn g P F S k ns a && firstIn g P F S k ns b
  | k + 2, ns, .plus a => firstIn g P F S k ns a
  | k + 2, _, .call r => (F r).any (· ≤ k + 1) || match g.look r with
    | some (kind, body) => firstIn g P F S k (!(bodyCfg (decide (g.ws = some r ∨ g.cm = some r)) kind .nonAtomic).1) body
    | none => true
  | _, _, _ => false

variable {g : G}

theorem rangeIn_mem {P : Char → Bool} {lo hi d : Char} (h : rangeIn P lo hi = true) (hd : lo ≤ d ∧ d ≤ hi) : P d = true := by
  have h1 : lo.toNat ≤ d.toNat := hd.1
  have h2 : d.toNat ≤ hi.toNat := hd.2
  have := List.all_eq_true.mp h (d.toNat - lo.toNat) (List.mem_range.mpr (by omega))
  rwa [show lo.toNat + (d.toNat - lo.toNat) = d.toNat by omega, Char.ofNat_toNat] at this

theorem failsRuleL_unknown {la r at_ c} (hl : g.look r = none) : FailsRuleL g la 1 r at_ c :=
  after_succ fun tr => ⟨tr, fun f _ => by simp only [callRule, hl]⟩

theorem failsRuleL_of_call {la n sk r at_ c} (h : FailsL g la (n + 1) sk (.call r) at_ c) : FailsRuleL g la n r at_ c :=
  fun tr => let ⟨tr', h'⟩ := h tr; ⟨tr', fun f hf => by rw [← eval_call g f sk]; exact h' (f + 1) (Nat.succ_le_succ hf)⟩

theorem bodyCfg_sk (sp : Bool) (kind : RuleKind) (at_ at' : Atomicity) : (bodyCfg sp kind at_).1 = (bodyCfg sp kind at').1 := by
  cases kind <;> cases sp <;> rfl

theorem firstIn_fails {P : Char → Bool} {F : RuleId → Option Nat} {S : Option Nat} {p : Nat} {rest : List Char}
    (hP : ∀ d r, rest = d :: r → P d = false)
    (hF : ∀ r m, F r = some m → ∀ la at_, FailsRuleL g la m r at_ ⟨p, rest⟩)
    (hS : ∀ m, S = some m → ∀ la sk at_, SkipsL g la m sk at_ ⟨p, rest⟩ ⟨p, rest⟩) :
    ∀ (k : Nat) (ns : Bool) (e : Expr), firstIn g P F S k ns e = true → ∀ (la : Look) (sk : Bool) (at_ : Atomicity),
      (ns = true → sk = false) → FailsL g la k sk e at_ ⟨p, rest⟩ := by
  -- in both cases of a first item that consumes nothing the skip after it does nothing
  have skip : ∀ {k ns} {la : Look} {sk : Bool} {at_ : Atomicity}, (ns || S.any (· ≤ k + 1)) = true → (ns = true → sk = false) →
      SkipsL g la (k + 1) sk at_ ⟨p, rest⟩ ⟨p, rest⟩ := by
    intro k ns la sk at_ h hns
    rcases (Bool.or_eq_true ..).mp h with h | h
    · exact (SkipsL.noskip (Or.inl (hns h))).mono (Nat.le_add_left ..)
    · cases hm : S with
      | none => rw [hm] at h; cases h
      | some m =>
        rw [hm] at h
        exact (hS m hm la sk at_).mono (of_decide_eq_true h)
  intro k ns e
  fun_induction firstIn g P F S k ns e with
  | case1 k ns x xs =>
    intro h la sk at_ _
    refine (failsL_str (c := ⟨p, rest⟩) ?_).mono (Nat.le_add_left ..)
    cases hr : rest with
    | nil => rfl
    | cons d r =>
      have : ¬ x = d := fun e => by have := hP d r hr; rw [← e, h] at this; cases this
      simp [matchStr, this]
  | case2 k ns lo hi =>
    intro h la sk at_ _
    refine (failsL_range (c := ⟨p, rest⟩) fun d r hr hd => ?_).mono (Nat.le_add_left ..)
    have := rangeIn_mem h hd
    rw [hP d r hr] at this; cases this
  | case3 k ns a b iha ihb =>
    -- the optional item is absent, the skip does nothing, the second item cannot start here
    intro h la sk at_ hns
    simp only [Bool.and_eq_true] at h
    exact failsL_seq_last_skip (runsL_opt_none (iha h.1.2 la sk at_ hns)) (skip h.1.1 hns)
      ((ihb h.2 la sk at_ hns).mono (Nat.le_succ k))
  | case4 k ns a b iha ihb =>
    -- the body of the lookahead cannot start here, so the lookahead succeeds
    intro h la sk at_ hns
    simp only [Bool.and_eq_true] at h
    exact failsL_seq_last_skip (runsL_not (iha h.1.2 (lookNot la) sk at_ hns)) (skip h.1.1 hns)
      ((ihb h.2 la sk at_ hns).mono (Nat.le_succ k))
  | case5 k ns a b _ _ ih =>
    intro h la sk at_ hns
    exact failsL_seq_first (ih h la sk at_ hns)
  | case6 k ns a b iha ihb =>
    intro h la sk at_ hns
    rw [Bool.and_eq_true] at h
    exact failsL_choice (iha h.1 la sk at_ hns) (ihb h.2 la sk at_ hns)
  | case7 k ns a ih =>
    intro h la sk at_ hns
    exact failsL_plus (failsL_seq_first (ih h la sk at_ hns))
  | case8 k ns r ih =>
    intro h la sk at_ _
    rcases (Bool.or_eq_true ..).mp h with hf | hb
    · cases hm : F r with
      | none => rw [hm] at hf; cases hf
      | some m =>
        rw [hm] at hf
        exact failsL_call ((hF r m hm la at_).mono (of_decide_eq_true hf))
    · cases hl : g.look r with
      | none => exact (failsL_call (failsRuleL_unknown hl)).mono (Nat.le_add_left ..)
      | some kb =>
        rw [hl] at hb
        refine failsL_call (failsRuleL_body (kind := kb.1) (body := kb.2) hl (ih _ _ hb la _ _ fun hn => ?_))
        rw [bodyCfg_sk _ _ at_ .nonAtomic]
        simpa using hn
  | case9 => intro h; cases h

end NitroVerif.Peg
