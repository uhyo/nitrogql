/-
The operation type model `OpTypes.implTree` reads the schema through by-name lookups and through `implementers`
(object types implementing an interface, in `type_names` order). Here: implementers in the SAME order (`SameImpl`) ⇒
literally equal trees. Implementers up to order (`SchemaRel`) ⇒ trees equal up to the order of branches is the second
walk, in `DeterminismConcreteImplTree.lean`; neither follows from the other (the second forgets which panic is hit
first).
-/
import NitroVerif.Lemmas.DeterminismConcreteOp
import NitroVerif.Model.OpTypes
namespace NitroVerif.DeterminismOpTypes
open NitroVerif.Gql NitroVerif.OpTypes
open NitroVerif.Determinism (SameView SameSchema NoDupTypeNames NoDupDirectiveNames sameView_of_perm typeDefs_perm)

/-- the two schemas answer every by-name lookup the same way AND list the implementers of every interface in the
    same order -/
structure SameImpl (S S' : Schema) : Prop extends SameView S S' where
  impl : ∀ n, implementers S n = implementers S' n

section congr
variable {S S' : Schema}

theorem parentObjects_congr (h : SameImpl S S') (n : Name) : parentObjects S n = parentObjects S' n := by
  unfold parentObjects
  simp only [h.ty, h.impl]

theorem branchConds_congr (h : SameImpl S S') (F : Frags) (fuel : Nat) (ss : List Selection) (n : Name) :
    branchConds S F fuel ss n = branchConds S' F fuel ss n := by
  unfold branchConds
  rw [parentObjects_congr h]

theorem fragmentApplies_congr (h : SameView S S') (obj : TypeDef) (cond : Name) :
    fragmentApplies S obj cond = fragmentApplies S' obj cond := by
  unfold fragmentApplies
  rw [h.ty]

theorem implTree_fieldsFor_congr (h : SameImpl S S') (F : Frags) (mfuel : Nat) : ∀ fuel,
    (∀ parent ss, implTree S F mfuel fuel parent ss = implTree S' F mfuel fuel parent ss) ∧
    (∀ c ss, fieldsFor S F mfuel fuel c ss = fieldsFor S' F mfuel fuel c ss) := by
  intro fuel
  induction fuel with
  | zero => exact ⟨fun _ _ => rfl, fun _ _ => rfl⟩
  | succ n ih =>
    obtain ⟨ih1, ih2⟩ := ih
    refine ⟨fun parent ss => ?_, fun c ss => ?_⟩
    · simp only [implTree, branchConds_congr h, ih2]
    · simp only [fieldsFor, h.ty, ih1, ih2, fragmentApplies_congr h.toSameView]

theorem implTree_congr (h : SameImpl S S') (F : Frags) (mfuel fuel : Nat) (parent : GType) (ss : List Selection) :
    implTree S F mfuel fuel parent ss = implTree S' F mfuel fuel parent ss :=
  (implTree_fieldsFor_congr h F mfuel fuel).1 parent ss

end congr
theorem typeNames_eq_of_nodup {T : TsDoc} (nd : NoDupTypeNames T) :
    (Schema.mk T).typeNames = (Schema.mk T).typeDefs.map (·.name) :=
  (collects_dedup fun t : TypeDef => t.name).eq_append _ [] (fun _ _ => not_false) nd

theorem implementers_eq_filter {T : TsDoc} (nd : NoDupTypeNames T) (iface : Name) :
    implementers ⟨T⟩ iface = (Schema.mk T).typeDefs.filter (isImplementer iface) := by
  unfold implementers
  rw [typeNames_eq_of_nodup nd, List.filterMap_map]
  refine (filterMap_eq_filter_map (isImplementer iface) id _ _ ?_).trans (List.map_id _)
  intro t ht
  simp only [Function.comp, Schema.typeDef?_of_mem nd ht, isImplementer]
  rfl

theorem implementers_perm {T T' : TsDoc} (h : T.Perm T') (nd : NoDupTypeNames T) (iface : Name) :
    (implementers ⟨T⟩ iface).Perm (implementers ⟨T'⟩ iface) := by
  rw [implementers_eq_filter nd, implementers_eq_filter (nd.perm h)]
  exact (typeDefs_perm h).filter _

theorem objectImplementers_eq_map (S : Schema) (iface : Name) :
    S.objectImplementers iface = (S.typeDefs.filter (isImplementer iface)).map (·.name) := rfl

theorem implementers_eq_lookup {T : TsDoc} (nd : NoDupTypeNames T) (iface : Name) :
    implementers ⟨T⟩ iface = ((Schema.mk T).objectImplementers iface).filterMap (Schema.mk T).typeDef? := by
  rw [implementers_eq_filter nd, objectImplementers_eq_map, List.filterMap_map,
    filterMap_eq_filter_map (fun _ => true) id _ _ (fun t ht => by
      simp only [Function.comp, Schema.typeDef?_of_mem nd (List.mem_filter.mp ht).1, if_true, id]), List.map_id]
  exact (List.filter_eq_self.mpr fun _ _ => rfl).symm

/-- a permutation that keeps, for every interface, the relative order of its implementing object types -/
def KeepsImplOrder (T T' : TsDoc) : Prop :=
  ∀ iface, (Schema.mk T).objectImplementers iface = (Schema.mk T').objectImplementers iface

theorem sameImpl_of_perm {T T' : TsDoc} (h : T.Perm T') (ndt : NoDupTypeNames T) (ndd : NoDupDirectiveNames T)
    (hk : KeepsImplOrder T T') : SameImpl ⟨T⟩ ⟨T'⟩ := by
  have hv := sameView_of_perm h ndt ndd
  refine { toSameView := hv, impl := fun n => ?_ }
  rw [implementers_eq_lookup ndt, implementers_eq_lookup (ndt.perm h), hk n]
  congr 1
  funext m
  exact hv.ty m

end NitroVerif.DeterminismOpTypes
