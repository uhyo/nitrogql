/-
C01/C02 closed forms: the fuel of the executable specification is an artefact — more of it never removes a response.
`collectGo` returns the same groups with more fuel; hence `RefLocal` with fuel `f` is contained in `RefLocal`
with any fuel `f' ≥ f`.  (`withFuel c f` = the specification context `c` run with fuel `f`.)
-/
import NitroVerif.Lemmas.OpTypesRefThm
import NitroVerif.Lemmas.Fuel
namespace NitroVerif.OpTypes.Closed
open NitroVerif.Gql NitroVerif.Ts NitroVerif.Exec

/-- the specification context with another fuel -/
def withFuel (c : Ctx) (f : Nat) : Ctx := { c with fuel := f }

theorem collectGo_withFuel (c : Ctx) (f : Nat) (σ : Sigma) (o : Name) :
    ∀ (n : Nat) (L : List Selection) (V : List Name) (g : Groups),
      collectGo (withFuel c f) σ o n L V g = collectGo c σ o n L V g := by
  intro n
  induction n with
  | zero => intro L V g; cases L <;> rfl
  | succ n ih =>
    intro L V g
    cases L with
    | nil => rfl
    | cons s rest =>
      simp only [collectGo, ih]
      rfl

theorem collectGo_succ (c : Ctx) (σ : Sigma) (o : Name) :
    ∀ (n : Nat) (L : List Selection) (V : List Name) (g r : Groups),
      collectGo c σ o n L V g = some r → collectGo c σ o (n + 1) L V g = some r := by
  intro n
  induction n with
  | zero =>
    intro L V g r h
    cases L with
    | nil => simpa [collectGo] using h
    | cons s rest => simp [collectGo] at h
  | succ n ih =>
    intro L V g r h
    cases L with
    | nil => simpa [collectGo] using h
    | cons s rest =>
      simp only [collectGo] at h ⊢
      by_cases hinc : (!included σ (selDirs s)) = true
      · simp only [hinc, ↓reduceIte] at h ⊢
        exact ih _ _ _ _ h
      · simp only [hinc, ↓reduceIte] at h ⊢
        cases s with
        | field alias name p args ds sub => exact ih _ _ _ _ h
        | spread nm np ds p =>
          simp only at h ⊢
          by_cases hv : V.contains nm = true
          · simp only [hv, ↓reduceIte] at h ⊢; exact ih _ _ _ _ h
          · simp only [hv, ↓reduceIte] at h ⊢
            cases hF : c.F nm with
            | none => simp only [hF] at h ⊢; exact ih _ _ _ _ h
            | some fd =>
              simp only [hF] at h ⊢
              by_cases ha : fragmentTypeApplies c.S o fd.cond = true
              · simp only [ha, ↓reduceIte] at h ⊢; exact ih _ _ _ _ h
              · simp only [ha, ↓reduceIte] at h ⊢; exact ih _ _ _ _ h
        | inline cond ds ss p =>
          cases cond with
          | none => exact ih _ _ _ _ h
          | some tc =>
            simp only at h ⊢
            by_cases ha : fragmentTypeApplies c.S o tc.1 = true
            · simp only [ha, ↓reduceIte] at h ⊢; exact ih _ _ _ _ h
            · simp only [ha, ↓reduceIte] at h ⊢; exact ih _ _ _ _ h

theorem collectGo_le (c : Ctx) (σ : Sigma) (o : Name) {n m : Nat} (hle : n ≤ m) {L : List Selection} {V : List Name}
    {g r : Groups} (h : collectGo c σ o n L V g = some r) : collectGo c σ o m L V g = some r :=
  fuel_mono_le (P := fun k => collectGo c σ o k L V g = some r) (fun _ hk => collectGo_succ c σ o _ _ _ _ _ hk) h hle

theorem collectFields_withFuel {c : Ctx} {f : Nat} (hle : c.fuel ≤ f) {σ : Sigma} {o : Name} {ss : List Selection}
    {g : Groups} (h : collectFields c σ o ss = some g) : collectFields (withFuel c f) σ o ss = some g := by
  unfold collectFields at h ⊢
  rw [collectGo_withFuel]
  exact collectGo_le c σ o hle h

theorem namedOk_withFuel (c : Ctx) (f : Nat) (R : Name → List Selection → J → Bool) (sub : List Selection) (n : Name)
    (v : J) : namedOk (withFuel c f) R sub n v = namedOk c R sub n v := rfl

mutual
theorem completeB_withFuel (c : Ctx) (f : Nat) (R : Name → List Selection → J → Bool) (sub : List Selection) :
    ∀ (ty : GType) (v : J), completeB (withFuel c f) R sub ty v = completeB c R sub ty v
  | .nonNull t, v => by simp only [completeB, completeNN_withFuel c f R sub t v]
  | .named n _, v => by simp only [completeB, namedOk_withFuel]
  | .list t _, v => by
    simp only [completeB]
    have : completeB (withFuel c f) R sub t = completeB c R sub t := funext (completeB_withFuel c f R sub t)
    rw [this]
theorem completeNN_withFuel (c : Ctx) (f : Nat) (R : Name → List Selection → J → Bool) (sub : List Selection) :
    ∀ (ty : GType) (v : J), completeNN (withFuel c f) R sub ty v = completeNN c R sub ty v
  | .nonNull t, v => by simp only [completeNN, completeNN_withFuel c f R sub t v]
  | .named n _, v => by simp only [completeNN, namedOk_withFuel]
  | .list t _, v => by
    simp only [completeNN]
    have : completeB (withFuel c f) R sub t = completeB c R sub t := funext (completeB_withFuel c f R sub t)
    rw [this]
end

theorem fieldOk_withFuel (c : Ctx) (f : Nat) (R : Name → List Selection → J → Bool) (o : Name) (fs : List CField) (v : J) :
    fieldOk (withFuel c f) R o fs v = fieldOk c R o fs v := by
  unfold fieldOk
  cases fs with
  | nil => rfl
  | cons x xs =>
    simp only
    have : (withFuel c f).S = c.S := rfl
    rw [this]
    split
    · rfl
    · split
      · exact completeB_withFuel c f R _ _ _
      · rfl

theorem setOkB_withFuel (c : Ctx) (f : Nat) (R : Name → List Selection → J → Bool) (o : Name) (g : Groups) (v : J) :
    setOkB (withFuel c f) R o g v = setOkB c R o g v := by
  unfold setOkB
  cases v with
  | obj kvs =>
    simp only
    have : (fun (x : Name × List CField) => fieldOk (withFuel c f) R o x.2 (J.get kvs x.1)) =
        fun x => fieldOk c R o x.2 (J.get kvs x.1) := funext fun x => fieldOk_withFuel c f R o _ _
    rw [this]
  | _ => rfl

theorem refLocalN_withFuel {c : Ctx} {f : Nat} (hle : c.fuel ≤ f) :
    ∀ (n : Nat) (o : Name) (ss : List Selection) (v : J), RefLocalN c n o ss v → RefLocalN (withFuel c f) n o ss v := by
  intro n
  induction n with
  | zero => intro _ _ _ h; exact h
  | succ n ih =>
    intro o ss v h
    obtain ⟨σ, g, hg, Rb, hR, hs⟩ := h
    exact ⟨σ, g, collectFields_withFuel hle hg, Rb, fun o' s x hx => ih o' s x (hR o' s x hx),
      by rw [setOkB_withFuel]; exact hs⟩

theorem refLocal_withFuel {c : Ctx} {f : Nat} (hle : c.fuel ≤ f) {o : Name} {ss : List Selection} {v : J}
    (h : RefLocal c o ss v) : RefLocal (withFuel c f) o ss v := by
  obtain ⟨n, hn⟩ := h
  exact ⟨n, refLocalN_withFuel hle n o ss v hn⟩

end NitroVerif.OpTypes.Closed
