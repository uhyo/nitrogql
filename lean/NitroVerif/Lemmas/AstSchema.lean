/-
Lemmas for `C15_ast_roundtrip`: what `ast_to_type_system ∘ type_system_to_ast` keeps of a schema.
-/
import NitroVerif.Model.AstSchema
import NitroVerif.Lemmas.SchemaIR
namespace NitroVerif.AstSchema
open NitroVerif.Gql NitroVerif.SchemaIR

/-- a type definition whose components outside its kind are emptied (`TypeDefinition` is an enum in the code: the
    components of the other kinds do not exist) -/
def cleanType (t : ITypeDef) : ITypeDef :=
  match t.kind with
  | .scalar => { kind := .scalar, name := t.name, desc := t.desc }
  | .object => { kind := .object, name := t.name, desc := t.desc, fields := t.fields, interfaces := t.interfaces }
  | .interface => { kind := .interface, name := t.name, desc := t.desc, fields := t.fields, interfaces := t.interfaces }
  | .union => { kind := .union, name := t.name, desc := t.desc, possible := t.possible }
  | .enum => { kind := .enum, name := t.name, desc := t.desc, members := t.members }
  | .input => { kind := .input, name := t.name, desc := t.desc, inputs := t.inputs }

/-- well-formedness of a schema value: distinct type names (what `SchemaBuilder::extend` guarantees) and no
    components outside a definition's kind (what the `TypeDefinition` enum guarantees) -/
structure WellFormed (s : Schema) : Prop where
  nodup : (s.types.map (·.name)).Nodup
  clean : ∀ t ∈ s.types, cleanType t = t

theorem convType_unconvType (t : IType) : convType (unconvType t) = t := by
  induction t with
  | named n => rfl
  | list t ih => simp [unconvType, convType, ih]
  | nonNull t ih => simp [unconvType, convType, ih]

theorem eraseIV_roundtrip (v : IInputValue) : eraseIV (convIV (unconvIV v)) = eraseIV v := by
  cases v with | mk name desc ty default deprecation =>
  cases default <;> simp [eraseIV, convIV, unconvIV, convType_unconvType, deprecationOf]

theorem eraseField_roundtrip (f : IField) : eraseField (convField (unconvField f)) = eraseField f := by
  cases f with | mk name desc ty args deprecation =>
  simp [eraseField, convField, unconvField, convType_unconvType, deprecationOf, List.map_map, Function.comp_def,
    eraseIV_roundtrip]

theorem eraseMember_roundtrip (m : IEnumMember) : eraseMember (convMember (unconvMember m)) = eraseMember m := by
  cases m; simp [eraseMember, convMember, unconvMember, deprecationOf]

theorem eraseType_roundtrip (t : ITypeDef) :
    eraseType (convTypeDef (unconvTypeDef t)) = eraseType (cleanType t) := by
  cases t with | mk kind name desc fields interfaces possible members inputs =>
  cases kind <;>
    simp [eraseType, convTypeDef, unconvTypeDef, cleanType, unconvKind, List.map_map, Function.comp_def,
      eraseField_roundtrip, eraseMember_roundtrip, eraseIV_roundtrip]

/-! ### name, kind and directives of a converted definition -/

theorem convTypeDef_name (t : TypeDef) : (convTypeDef t).name = t.name := by
  cases h : t.kind <;> simp only [convTypeDef, h]

theorem convTypeDef_kind (t : TypeDef) : (convTypeDef t).kind = convKind t.kind := by
  cases h : t.kind <;> simp only [convTypeDef, h, convKind]

theorem unconvTypeDef_name (t : ITypeDef) : (unconvTypeDef t).name = t.name := by
  cases t with | mk kind name desc fields interfaces possible members inputs =>
  cases kind <;> rfl

theorem unconvTypeDef_kind (t : ITypeDef) : (unconvTypeDef t).kind = unconvKind t.kind := by
  cases t with | mk kind name desc fields interfaces possible members inputs =>
  cases kind <;> rfl

theorem unconvTypeDef_dirs (t : ITypeDef) : (unconvTypeDef t).dirs = [] := by
  cases t with | mk kind name desc fields interfaces possible members inputs =>
  cases kind <;> rfl

theorem name_roundtrip (t : ITypeDef) : (convTypeDef (unconvTypeDef t)).name = t.name := by
  rw [convTypeDef_name, unconvTypeDef_name]

theorem kind_roundtrip (t : ITypeDef) : (convTypeDef (unconvTypeDef t)).kind = t.kind := by
  rw [convTypeDef_kind, unconvTypeDef_kind]
  cases t.kind <;> rfl

theorem interfaces_roundtrip (t : ITypeDef) (h : t.kind = .object) :
    (convTypeDef (unconvTypeDef t)).interfaces = t.interfaces := by
  cases t with | mk kind name desc fields interfaces possible members inputs =>
  simp at h; subst h
  simp [convTypeDef, unconvTypeDef, unconvKind, List.map_map, Function.comp_def]

theorem setRoots_rootEntries (r : Roots) : setRoots {} (rootEntries r) = r := by
  cases r with | mk q m s =>
  cases q <;> cases m <;> cases s <;> simp [rootEntries, setRoots, Roots.set, convOpKind]

theorem extendTypes_singleton (acc : List ITypeDef) (t : ITypeDef) :
    extendTypes acc [t] = if acc.any (·.name == t.name) then acc else acc ++ [t] := by
  simp [extendTypes]

theorem foldl_step_typeDefs (l : List TypeDef) (b : B) :
    (l.map TsItem.typeDef).foldl step b
      = { b with s := { b.s with types := extendTypes b.s.types (l.map convTypeDef) } } := by
  induction l generalizing b with
  | nil => simp [extendTypes]
  | cons t r ih =>
    simp only [List.map_cons, List.foldl_cons, step, ih, extendTypes_singleton]
    simp [extendTypes]

theorem astToSchema_schemaToAst (s : Schema) :
    astToSchema (schemaToAst s)
      = { desc := s.desc, roots := s.roots, explicitRoots := false, directives := [],
          types := extendTypes [] (s.types.map fun t => convTypeDef (unconvTypeDef t)) } := by
  have hmap : (s.types.map fun t => TsItem.typeDef (unconvTypeDef t))
      = (s.types.map unconvTypeDef).map TsItem.typeDef := by simp [List.map_map, Function.comp_def]
  simp only [astToSchema, schemaToAst, List.foldl_cons, hmap, foldl_step_typeDefs]
  cases hd : s.desc <;> simp [step, bpos, setRoots_rootEntries, List.map_map, Function.comp_def]

/-- `ast_to_type_system ∘ type_system_to_ast` keeps the lookups of a well-formed schema value, except that the directive
    definitions are gone and the root-types node is no longer at a parsed position -/
theorem astToSchema_schemaToAst_equiv (s : Schema) (h : WellFormed s) :
    astToSchema (schemaToAst s) ≃ { s with directives := [], explicitRoots := false } := by
  rw [astToSchema_schemaToAst]
  have hn : (s.types.map fun t => convTypeDef (unconvTypeDef t)).map (·.name) = s.types.map (·.name) := by
    simp [List.map_map, Function.comp_def, name_roundtrip]
  rw [extendTypes_nil_nodup _ (by rw [hn]; exact h.nodup)]
  have htypes : ∀ n, viewType
      { desc := s.desc, roots := s.roots, explicitRoots := false, directives := [],
        types := s.types.map fun t => convTypeDef (unconvTypeDef t) } n
      = viewType { s with directives := [], explicitRoots := false } n := by
    intro n
    simp only [viewType, Schema.typeDef?]
    split
    · rfl
    · rw [List.find?_map]
      simp only [Function.comp_def, name_roundtrip, Option.map_map]
      cases hf : s.types.find? (fun t => t.name == n) with
      | none => rfl
      | some t =>
        have ht : t ∈ s.types := List.mem_of_find?_eq_some hf
        simp [eraseType_roundtrip, h.clean t ht]
  refine ⟨htypes, fun n => ?_, fun k => ?_, fun i o => ?_⟩
  · simp [viewDirective, Schema.directiveDef?]
  · have hv := funext htypes
    simp only [viewRoot, Schema.rootName, Schema.rootsDeclared, hv]
    rfl
  · simp only [implementsB, Schema.objectImplementers]
    congr 1
    rw [List.filter_map, List.map_map]
    simp only [Function.comp_def, name_roundtrip, kind_roundtrip]
    congr 1
    apply List.filter_congr
    intro t _
    by_cases hk : t.kind = .object
    · simp [hk, interfaces_roundtrip t hk]
    · have hb : (t.kind == IKind.object) = false := by simpa using hk
      simp [hb]

end NitroVerif.AstSchema
