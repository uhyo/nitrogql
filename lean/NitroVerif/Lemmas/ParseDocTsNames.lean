/-
Type-system definitions, lists of named types separated by `&` / `|`:
`ImplementsInterfaces = { KEYWORD_implements ~ "&"? ~ NamedType ~ ("&" ~ NamedType)* }`,
`UnionMemberTypes = { "|"? ~ NamedType ~ ("|" ~ NamedType)* }`; and
`RootOperationTypeDefinitions = { "{" ~ RootOperationTypeDefinition+ ~ "}" }` with
`RootOperationTypeDefinition = { OperationType ~ ":" ~ NamedType }`.
-/
import NitroVerif.Lemmas.ParseDocTsParts
import NitroVerif.Lemmas.ParseDocOp
namespace NitroVerif.DocParse
open NitroVerif.Peg NitroVerif.Gen NitroVerif.Gen.Parts NitroVerif.Build NitroVerif.TypeParse NitroVerif.StringParse
open NitroVerif.Gql NitroVerif.ValueParse NitroVerif.Spec.Lex NitroVerif.ParseText

theorem look_ImplementsInterfaces : gList.look R.ImplementsInterfaces = some (.normal, .seq (.call R.KEYWORD_implements)
    (.seq (.opt (.str ['&'])) (.seq (.call R.NamedType) (.star (.seq (.str ['&']) (.call R.NamedType)))))) := rfl
theorem look_KEYWORD_implements : gList.look R.KEYWORD_implements = some (.atomic,
    .seq (.str ['i', 'm', 'p', 'l', 'e', 'm', 'e', 'n', 't', 's']) (.not (.call R.NameContinue))) := rfl

variable {inp : List Char}

/-- `c gap name gap` -/
def riSepName (τ : Trivia) (c : Char) : Bool → Nat → (Name × Pos) → List Char := fun s q n =>
  tk τ false q [c] ++ tk τ s (q + (tk τ false q [c]).length) n.1.toList

/-- names separated by `c` (no leading separator) -/
def rNames (τ : Trivia) (c : Char) (sep : Bool) (p : Nat) : List (Name × Pos) → List Char
  | [] => []
  | n :: rest =>
    tk τ (sep && rest.isEmpty) p n.1.toList ++
      renderItems (riSepName τ c) false sep (p + (tk τ (sep && rest.isEmpty) p n.1.toList).length) rest

def wpNames (τ : Trivia) (inp : List Char) (c : Char) (sep : Bool) (p : Nat) : List (Name × Pos) → List (Name × Pos)
  | [] => []
  | n :: rest => (n.1, posAt inp p) ::
      mapItems (riSepName τ c) false sep (fun _ q m => (m.1, posAt inp (q + (tk τ false q [c]).length)))
        (p + (tk τ (sep && rest.isEmpty) p n.1.toList).length) rest

theorem ident_namedType (inp : List Char) (q : Nat) (n : Name) (h : HasAt inp q n.toList) :
    ident (Ctx.spec inp) (.mk R.NamedType q (q + n.toList.length) [.mk R.Name q (q + n.toList.length) []]) =
      (n, posAt inp q) := by
  have hs := h.slice
  simp [ident, asString_spec', toPos_spec', Pair.start, Pair.stop, hs]

theorem hd_rNames (τ : Trivia) (c : Char) (sep : Bool) (p : Nat) (ns : List (Name × Pos))
    (hv : ∀ n ∈ ns, validName n.1.toList) : rNames τ c sep p ns = [] ∨ Hd nameStart (rNames τ c sep p ns) := by
  cases ns with
  | nil => exact Or.inl rfl
  | cons n rest => exact Or.inr (Hd.append (hd_tk (hd_of_validName (hv n (List.mem_cons_self ..)))) _)

theorem namedTypeP {τ : Trivia} (hτ : ∀ q, Ws (τ q)) {n : List Char} (hv : validName n) {sep : Bool} {p : Nat}
    {bad : Char → Prop} (h : HasAt inp p (tk τ sep p n)) (hn : Nxt inp bad sep (p + (tk τ sep p n).length)) :
    Part inp 2 (.call R.NamedType) p (tk τ sep p n) [.mk R.NamedType p (p + n.length) [.mk R.Name p (p + n.length) []]] :=
  ⟨(runsKE_rule look_NamedType (nameT hτ hv h hn)).toK,
    cleanP_of (by decide) (by decide) ⟨cleanP_of (by decide) (by decide) trivial, trivial⟩, trivial⟩

/-- `e (c e)*` on a non-empty list of names each of which `e` reads into one pair -/
theorem sepListP {τ : Trivia} (hτ : ∀ q, Ws (τ q)) (c : Char) (hc : ¬ trivia c ∧ ¬ nameCont c) (e : Expr) (K : Nat)
    (Good : Nat → Name × Pos → Pair → Prop) (n : Name × Pos) (rest : List (Name × Pos))
    (hleaf : ∀ x ∈ n :: rest, ∀ s q, HasAt inp q (tk τ s q x.1.toList) →
      Nxt inp (fun _ => False) s (q + (tk τ s q x.1.toList).length) →
      ∃ pr, Part inp K e q (tk τ s q x.1.toList) [pr] ∧ Good q x pr)
    (hhd : ∀ x ∈ n :: rest, Hd (fun d => ¬ trivia d) x.1.toList) {sep : Bool} {p : Nat} {bad : Char → Prop}
    (hb : bad c) (h : HasAt inp p (rNames τ c sep p (n :: rest)))
    (hn : Nxt inp bad sep (p + (rNames τ c sep p (n :: rest)).length)) :
    ∃ pr pss, Part inp (K + 7) (.seq e (.star (.seq (.str [c]) e))) p (rNames τ c sep p (n :: rest)) (pr :: pss) ∧
      Good p n pr ∧
      GoodItems (riSepName τ c) false sep (fun _ q x pr => CleanP pr ∧ Good (q + (tk τ false q [c]).length) x pr)
        (p + (tk τ (sep && rest.isEmpty) p n.1.toList).length) rest pss := by
  simp only [rNames] at h hn ⊢
  have n1 := hn.app
  have hhdI : ∀ x ∈ rest, ∀ s q, Hd (· = c) (riSepName τ c s q x) := fun x _ s q =>
    Hd.append (hd_tk (P := (· = c)) (hd_cons [] rfl)) _
  -- after the first name: `c`, or what follows the list
  have n0 := (n1.before h.right (s := sep && rest.isEmpty) (hd_renderItems _ _ _ hhdI _) hc
    (fun ht => sep_of_isEmpty (renderItems_eq_nil _ _ _ hhdI ht))).mono (bad' := fun _ => False) (fun _ hf => hf.elim)
  obtain ⟨pr0, r0, hg0⟩ := hleaf n (List.mem_cons_self ..) _ p h.left n0
  obtain ⟨pss, rS, hgood⟩ := items_star (riSepName τ c) false sep (.seq (.str [c]) e) (fun _ _ => False) (K + 1)
    (fun _ q x pr => CleanP pr ∧ Good (q + (tk τ false q [c]).length) x pr) rest _
    (fun x hx s q hat hnx => by
      have hx' := List.mem_cons_of_mem n hx
      simp only [riSepName] at hat hnx ⊢
      obtain ⟨pr, r1, hg⟩ := hleaf x hx' s _ hat.right hnx.app
      have rc := strP hτ [c] hat.left (tok_of_hd hat.right (hd_tk (hhd x hx')) (fun _ hd => hd))
      exact ⟨pr, ((rc.seq r1).mono (by omega)).run, r1.clean.1, hg⟩)
    (fun x hx s q => (hhdI x hx s q).mono (by rintro d rfl; exact ⟨hc.1, id, fun _ => hc.2⟩))
    (fun x _ s q pr hg => hg.1) h.right (n1.mono fun _ hf => hf.elim)
    ((fails_seq_1 (str_fails (headNot_mono (fun d (hd : d = c) => hd ▸ hb) n1.ok))).mono (by omega))
  exact ⟨pr0, pss, (r0.seq rS).mono (by omega), hg0, hgood⟩

theorem namesP (τ : Trivia) (hτ : ∀ q, Ws (τ q)) (c : Char) (hc : ¬ trivia c ∧ ¬ nameCont c) (n : Name × Pos)
    (rest : List (Name × Pos)) (hv : ∀ x ∈ n :: rest, validName x.1.toList) {sep : Bool} {p : Nat} {bad : Char → Prop}
    (hb : bad c) (h : HasAt inp p (rNames τ c sep p (n :: rest)))
    (hn : Nxt inp bad sep (p + (rNames τ c sep p (n :: rest)).length)) :
    ∃ pss, Part inp 9 (.seq (.call R.NamedType) (.star (.seq (.str [c]) (.call R.NamedType)))) p
        (rNames τ c sep p (n :: rest)) pss ∧
      (∀ x ∈ pss, x.rule = R.NamedType) ∧ pss.map (ident (Ctx.spec inp)) = wpNames τ inp c sep p (n :: rest) := by
  obtain ⟨pr, pss, rP, hg0, hgood⟩ := sepListP hτ c hc (.call R.NamedType) 2
    (fun q x pr => pr.rule = R.NamedType ∧ ident (Ctx.spec inp) pr = (x.1, posAt inp q)) n rest
    (fun x hx s q hat hnx => ⟨_, namedTypeP hτ (hv x hx) hat hnx, rfl, ident_namedType inp q x.1 hat.left⟩)
    (fun x hx => (hd_of_validName (hv x hx)).mono fun _ => nameStart_not_trivia) hb h hn
  have hrules := goodItems_forall (riSepName τ c) false sep _ (fun x => x.rule = R.NamedType) rest
    (fun x _ s q pr hg => hg.2.1) _ pss hgood
  have hmap := goodItems_map (riSepName τ c) false sep _ (ident (Ctx.spec inp))
    (fun _ q x => (x.1, posAt inp (q + (tk τ false q [c]).length))) rest (fun x _ s q pr hg => hg.2.2) _ pss hgood
  refine ⟨pr :: pss, rP, ?_, ?_⟩
  · intro x hx
    rcases List.mem_cons.mp hx with rfl | hx
    · exact hg0.1
    · exact hrules x hx
  · rw [List.map_cons, hg0.2, hmap]; rfl

abbrev kwImplements : List Char := ['i', 'm', 'p', 'l', 'e', 'm', 'e', 'n', 't', 's']

def rOptImpl (τ : Trivia) (sep : Bool) (p : Nat) : List (Name × Pos) → List Char
  | [] => []
  | n :: rest => tk τ true p kwImplements ++ rNames τ '&' sep (p + (tk τ true p kwImplements).length) (n :: rest)

theorem hd_rOptImpl (τ : Trivia) (sep : Bool) (p : Nat) (ns : List (Name × Pos)) :
    rOptImpl τ sep p ns = [] ∨ Hd (· = 'i') (rOptImpl τ sep p ns) := by
  cases ns with
  | nil => exact Or.inl rfl
  | cons n rest => exact Or.inr (Hd.append (hd_tk (P := (· = 'i')) (hd_cons _ rfl)) _)

theorem rOptImpl_eq_nil {τ : Trivia} {sep : Bool} {p : Nat} {ns : List (Name × Pos)} (h : rOptImpl τ sep p ns = []) :
    ns = [] := by
  cases ns with
  | nil => rfl
  | cons n rest => exact absurd h (Hd.append (hd_tk (P := (· = 'i')) (hd_cons _ rfl)) _).ne_nil

theorem mapM_ident (ctx : Ctx) : ∀ (pss : List Pair), (∀ x ∈ pss, x.rule = R.NamedType) →
    pss.mapM (fun n => if n.rule ≠ R.NamedType then (Except.error Panic.implementsItem : M (String × Pos))
      else .ok (ident ctx n)) = .ok (pss.map (ident ctx)) := by
  intro pss
  induction pss with
  | nil => intro _; rfl
  | cons x xs ih =>
    intro h
    have hx := h x (List.mem_cons_self ..)
    simp only [List.mapM_cons, hx, ne_eq, not_true_eq_false, if_false, ih (fun y hy => h y (List.mem_cons_of_mem _ hy)),
      List.map_cons, bind, Except.bind, pure, Except.pure]

/-- `ImplementsInterfaces?` on a non-empty list (the empty one: `optImplP`, Lemmas/ParseDocTsDefObject.lean) -/
theorem optImplT (τ : Trivia) (hτ : ∀ q, Ws (τ q)) (ns : List (Name × Pos)) (hv : ∀ x ∈ ns, validName x.1.toList)
    (hne : ns ≠ []) {sep : Bool} {p : Nat} {bad : Char → Prop} (hb : bad '&') (h : HasAt inp p (rOptImpl τ sep p ns))
    (hn : Nxt inp bad sep (p + (rOptImpl τ sep p ns).length)) :
    ∃ o, ReadsOpt inp 49 R.ImplementsInterfaces p (rOptImpl τ sep p ns) (fun _ => optImplements (Ctx.spec inp))
      (wpNames τ inp '&' sep (p + (tk τ true p kwImplements).length) ns) o := by
  obtain ⟨n, rest, rfl⟩ := List.exists_cons_of_ne_nil hne
  simp only [rOptImpl] at h hn ⊢
  have g1 := h.right
  have hdN : Hd nameStart (rNames τ '&' sep (p + (tk τ true p kwImplements).length) (n :: rest)) :=
    Hd.append (hd_tk (hd_of_validName (hv n (List.mem_cons_self ..)))) _
  have r0 := kwP hτ look_KEYWORD_implements h.left (bad := fun _ => False)
    (Nxt.of_name g1 hdN)
  have rAmp : Part inp 0 (.opt (.str ['&'])) _ [] [] := .opt_none
    (str_fails (headNot_of_hd g1 hdN (fun d hd => nameStart_ne hd (by decide))))
    (tok_of_hd g1 hdN (fun d => nameStart_not_trivia)) (by decide)
  obtain ⟨pss, rN, hrules, hmap⟩ := namesP τ hτ '&' (by decide) n rest hv hb g1 hn.app
  obtain ⟨e, rI⟩ := PartT.rule look_ImplementsInterfaces (r0.seq (rAmp.nil_seq rN))
  refine ⟨_, Reads.opt (bld := fun _ pr => optImplements (Ctx.spec inp) (some pr))
    ⟨rI.mono (by decide), rfl, rfl, fun _ _ => ?_⟩ fun _ => rfl⟩
  simp only [optImplements, buildImplementsInterfaces, Pair.children, List.nil_append, List.cons_append]
  rw [if_neg (by simp [Pair.rule]), mapM_ident _ pss hrules, hmap]

theorem unionMembers_fails {p : Nat} (h : HeadNot (fun d => nameStart d ∨ d = '|') (inp.drop p)) (ht : Tok (At inp p)) :
    Fails gList 40 true (.call R.UnionMemberTypes) .nonAtomic (At inp p) :=
  first_fails_opt (by decide) h (headNot_mono (fun _ ha => Or.inl (Or.inl ha)) h) ht

theorem membersT (τ : Trivia) (hτ : ∀ q, Ws (τ q)) (n : Name × Pos) (rest : List (Name × Pos))
    (hv : ∀ x ∈ n :: rest, validName x.1.toList) {sep : Bool} {p : Nat} {bad : Char → Prop} (hb : bad '|')
    (h : HasAt inp p (rNames τ '|' sep p (n :: rest))) (hn : Nxt inp bad sep (p + (rNames τ '|' sep p (n :: rest)).length)) :
    ∃ pr, Reads inp 50 R.UnionMemberTypes p (rNames τ '|' sep p (n :: rest))
      (fun _ pr => namedTypeIdents (Ctx.spec inp) AC_UnionMemberTypes (some pr)) (wpNames τ inp '|' sep p (n :: rest)) pr := by
  have hdN : Hd nameStart (rNames τ '|' sep p (n :: rest)) :=
    Hd.append (hd_tk (hd_of_validName (hv n (List.mem_cons_self ..)))) _
  have rBar : Part inp 0 (.opt (.str ['|'])) _ [] [] := .opt_none
    (str_fails (headNot_of_hd h hdN (fun d hd => nameStart_ne hd (by decide))))
    (tok_of_hd h hdN (fun d => nameStart_not_trivia)) (by decide)
  obtain ⟨pss, rN, hrules, hmap⟩ := namesP τ hτ '|' (by decide) n rest hv hb h hn
  obtain ⟨e, rU⟩ := PartT.rule (r := R.UnionMemberTypes) rfl (rBar.nil_seq rN)
  have hall : allChildrenGo AC_UnionMemberTypes pss = .ok () := allChildrenGo_ok hrules
  refine ⟨_, rU.mono (by decide), rfl, rfl, fun _ _ => ?_⟩
  simp [namedTypeIdents, allChildren, Pair.children, hall, hmap, bind, Except.bind]

def rRoot (τ : Trivia) (sep : Bool) (p : Nat) (r : OpKind × Name × Pos) : List Char :=
  let tK := tk τ false p (opKw r.1)
  let tC := tk τ false (p + tK.length) [':']
  tK ++ (tC ++ tk τ sep (p + tK.length + tC.length) r.2.1.toList)

def wpRoot (τ : Trivia) (inp : List Char) (_sep : Bool) (p : Nat) (r : OpKind × Name × Pos) : OpKind × Name × Pos :=
  let tK := tk τ false p (opKw r.1)
  let tC := tk τ false (p + tK.length) [':']
  (r.1, r.2.1, posAt inp (p + tK.length + tC.length))

/-- the function `build_root_operation_type_definitions` maps over its children (`buildRoots_eq`) -/
def rootFn (ctx : Ctx) : Pair → M (OpKind × String × Pos) := fun d => do
  let (ot, nt) ← get2 "RootOperationTypeDefinition" (← matchParts P_RootOperationTypeDefinition d.children)
  let k ← strToOperationType (asStr ctx ot)
  .ok (k, asString ctx nt, toPos ctx nt)

theorem buildRoots_eq (ctx : Ctx) (s e : Nat) (cs : List Pair)
    (hcs : allChildrenGo AC_RootOperationTypeDefinitions cs = .ok ()) :
    buildRootOperationTypeDefinitions ctx (.mk R.RootOperationTypeDefinitions s e cs) = cs.mapM (rootFn ctx) := by
  unfold rootFn
  simp [buildRootOperationTypeDefinitions, allChildren, Pair.children, hcs, bind, Except.bind]

theorem hd_rRoot (τ : Trivia) (sep : Bool) (p : Nat) (r : OpKind × Name × Pos) :
    Hd (fun c => c = 'q' ∨ c = 'm' ∨ c = 's') (rRoot τ sep p r) := by
  simp only [rRoot]
  exact Hd.append (hd_tk (hd_opKw r.1)) _

theorem rootT (τ : Trivia) (hτ : ∀ q, Ws (τ q)) (r : OpKind × Name × Pos) (hv : validName r.2.1.toList) {sep : Bool}
    {p : Nat} (h : HasAt inp p (rRoot τ sep p r)) (hn : Nxt inp (fun _ => False) sep (p + (rRoot τ sep p r).length)) :
    ∃ pr, Reads inp 30 R.RootOperationTypeDefinition p (rRoot τ sep p r) (fun _ => rootFn (Ctx.spec inp))
      (wpRoot τ inp sep p r) pr := by
  simp only [rRoot, wpRoot] at h hn ⊢
  have g1 := h.right.left
  have g2 := h.right.right
  obtain ⟨prK, K⟩ := opTypeT hτ r.1 h.left (bad := fun _ => False)
    (Nxt.of_hd g1 (hd_tk (hd_cons (P := (· = ':')) _ rfl)) (by rintro c rfl; decide))
  have r1 := strP hτ [':'] g1 (tok_of_hd g2 (hd_tk (hd_of_validName hv)) (fun d => nameStart_not_trivia))
  obtain ⟨e, rR⟩ := PartT.rule (r := R.RootOperationTypeDefinition) rfl (K.part.seq (r1.seq (namedTypeP hτ hv g2 hn.app.app)))
  refine ⟨_, rR.mono (by decide), rfl, rfl, fun _ _ => ?_⟩
  have hm := matchParts_slots P_RootOperationTypeDefinition [some prK, some _] (by decide)
    ⟨⟨_, rfl, K.rule⟩, ⟨_, rfl, (namedTypeP hτ hv g2 hn.app.app).pairRule⟩, trivial⟩
  simp only [slotPairs, Option.toList_some, List.cons_append, List.nil_append] at hm
  simp [rootFn, Pair.children, hm, get2, K.build _ (Nat.le_refl _), asString_spec', toPos_spec', Pair.start, Pair.stop,
    g2.left.slice, bind, Except.bind]

theorem root_fails {q : Nat} (h : HeadNot (fun c => c = 'q' ∨ c = 'm' ∨ c = 's') (inp.drop q)) :
    Fails gList 30 true (.call R.RootOperationTypeDefinition) .nonAtomic (At inp q) :=
  first_fails (by decide) h

/-- `{ roots } gap` -/
def rRoots (τ : Trivia) (sep : Bool) (p : Nat) (rs : List (OpKind × Name × Pos)) : List Char :=
  rBraced (rRoot τ) true τ '{' '}' sep p rs

def wpRoots (τ : Trivia) (inp : List Char) (p : Nat) (rs : List (OpKind × Name × Pos)) : List (OpKind × Name × Pos) :=
  mapItems (rRoot τ) true false (wpRoot τ inp) p rs

theorem rootsDef_fails {p : Nat} (h : HeadNot (· = '{') (inp.drop p)) :
    Fails gList 4 true (.call R.RootOperationTypeDefinitions) .nonAtomic (At inp p) :=
  first_fails (by decide) h

theorem rootsT (τ : Trivia) (hτ : ∀ q, Ws (τ q)) (a : OpKind × Name × Pos) (r : List (OpKind × Name × Pos))
    (hv : ∀ x ∈ a :: r, validName x.2.1.toList) {sep : Bool} {p : Nat} (h : HasAt inp p (rRoots τ sep p (a :: r)))
    (ht : Tok (At inp (p + (rRoots τ sep p (a :: r)).length))) :
    ∃ pr, Reads inp 4 R.RootOperationTypeDefinitions p (rRoots τ sep p (a :: r))
      (fun _ => buildRootOperationTypeDefinitions (Ctx.spec inp))
      (wpRoots τ inp (p + (tk τ false p ['{']).length) (a :: r)) pr :=
  bracedT (rRoot τ) true τ hτ R.RootOperationTypeDefinitions R.RootOperationTypeDefinition '{' '}'
    rfl (fun _ _ => False) 30 (by decide) (fun _ => rootFn (Ctx.spec inp)) (wpRoot τ inp)
    ⟨by decide, id, by decide⟩ (fun q hq => (root_fails (headNot_of_head_eq hq (by decide))).mono (by decide))
    r a sep p _ (fun _ e pss hall => buildRoots_eq _ _ _ _ hall)
    (fun x hx s q hat hnx => rootT τ hτ x (hv x hx) hat hnx)
    (fun x hx s q => (hd_rRoot τ s q x).mono (by
      rintro c (rfl | rfl | rfl) <;> exact ⟨by decide, id, fun h => by cases h⟩)) h ht

end NitroVerif.DocParse
