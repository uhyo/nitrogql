/-
Schema extensions as items of a type-system document:
`SchemaExtension = { (KEYWORD_extend ~ KEYWORD_schema ~ Directives? ~ RootOperationTypeDefinitions) |
  (KEYWORD_extend ~ KEYWORD_schema ~ Directives ~ !"{") }`.
-/
import NitroVerif.Lemmas.ParseDocTsExtItem
namespace NitroVerif.DocParse
open NitroVerif.Peg NitroVerif.Gen NitroVerif.Gen.Parts NitroVerif.Build NitroVerif.TypeParse NitroVerif.StringParse
open NitroVerif.Gql NitroVerif.ValueParse NitroVerif.Spec.Lex NitroVerif.ParseText

variable {inp : List Char}

def rOptRoots (τ : Trivia) (sep : Bool) (p : Nat) : List (OpKind × Name × Pos) → List Char
  | [] => []
  | a :: r => rRoots τ sep p (a :: r)

theorem rOptRoots_eq_nil {τ : Trivia} {sep : Bool} {p : Nat} {rs : List (OpKind × Name × Pos)}
    (h : rOptRoots τ sep p rs = []) : rs = [] := by
  cases rs with
  | nil => rfl
  | cons a r => exact absurd h (hd_rBraced _ _ τ '{' '}' sep p _).ne_nil

def rSchemaExt (τ : Trivia) (sep : Bool) (p : Nat) (s : SchemaDef) : List Char :=
  let tE := tk τ true p kwExtend
  let tK := tk τ false (p + tE.length) kwSchema
  let tD := rDirs τ (sep && s.roots.isEmpty) (p + tE.length + tK.length) s.dirs
  tE ++ (tK ++ (tD ++ rOptRoots τ sep (p + tE.length + tK.length + tD.length) s.roots))

def wpSchemaExt (τ : Trivia) (inp : List Char) (sep : Bool) (p : Nat) (s : SchemaDef) : SchemaDef :=
  let tE := tk τ true p kwExtend
  let tK := tk τ false (p + tE.length) kwSchema
  let tD := rDirs τ (sep && s.roots.isEmpty) (p + tE.length + tK.length) s.dirs
  { dirs := wpDirs τ inp (sep && s.roots.isEmpty) (p + tE.length + tK.length) s.dirs,
    roots := wpRoots τ inp (p + tE.length + tK.length + tD.length +
      (tk τ false (p + tE.length + tK.length + tD.length) ['{']).length) s.roots,
    pos := posAt inp p }

def WFSchemaExt (s : SchemaDef) : Prop :=
  WFDirs s.dirs ∧ (s.dirs ≠ [] ∨ s.roots ≠ []) ∧ ∀ x ∈ s.roots, validName x.2.1.toList

theorem hd_rSchemaExt (τ : Trivia) (sep : Bool) (p : Nat) (s : SchemaDef) :
    Hd (fun d => nameStart d ∨ d = '"') (rSchemaExt τ sep p s) := by
  simp only [rSchemaExt]
  exact Hd.append (hd_tk (P := fun d => nameStart d ∨ d = '"')
    ((hd_of_validName kw_words_valid.1).mono (fun _ h => Or.inl h))) _

theorem buildItem_schemaExt (ctx : Ctx) (fuel : Nat) (p e e2 e3 : Nat) (cs : List Pair) (sd : SchemaDef)
    (h : buildSchemaExtension ctx fuel (.mk R.SchemaExtension p e cs) = .ok sd) :
    buildTypeSystemDefinitionOrExtension ctx fuel (.mk R.TypeSystemDefinitionOrExtension p e3
      [.mk R.TypeSystemExtension p e2 [.mk R.SchemaExtension p e cs]]) = .ok (.schemaExt sd) := by
  simp [buildTypeSystemDefinitionOrExtension, onlyChildOf, onlyChild, Pair.children, Pair.rule,
    OC_TypeSystemDefinitionOrExtension, OC_TypeSystemExtension, h, bind, Except.bind, pure, Except.pure,
    R.TypeSystemDefinition, R.TypeSystemExtension, R.SchemaExtension]

/-- the root operation types as `build_schema_extension` treats them -/
def optRootsB (ctx : Ctx) : Option Pair → M (List (OpKind × String × Pos))
  | some r => buildRootOperationTypeDefinitions ctx r
  | none => pure []

theorem optRootsT (τ : Trivia) (hτ : ∀ q, Ws (τ q)) (rs : List (OpKind × Name × Pos))
    (hv : ∀ x ∈ rs, validName x.2.1.toList) {sep : Bool} {p : Nat} {bad : Char → Prop} (hb : bad '{')
    (h : HasAt inp p (rOptRoots τ sep p rs)) (hn : Nxt inp bad sep (p + (rOptRoots τ sep p rs).length)) :
    ∃ o, ReadsOpt inp 4 R.RootOperationTypeDefinitions p (rOptRoots τ sep p rs) (fun _ => optRootsB (Ctx.spec inp))
        (wpRoots τ inp (p + (tk τ false p ['{']).length) rs) o ∧
      Nxt inp (fun c => bad c ∧ c ≠ '{') (sep && rs.isEmpty) p := by
  cases rs with
  | nil => exact ⟨_, .none (rootsDef_fails ((hn : Nxt inp bad sep p).ne hb)) hn.tok (by decide) fun _ => rfl, hn.beforeNil⟩
  | cons a r =>
    obtain ⟨pr, Rt⟩ := rootsT τ hτ a r hv h hn.tok
    exact ⟨_, Rt.opt fun _ => rfl, .beforeHd h (hd_rBraced _ _ τ '{' '}' sep p _) punct_brace⟩

/-- a schema extension as an item: `TypeSystemDefinition` fails on the word `extend` -/
theorem tsItem_of_schemaExt {τ : Trivia} (hτ : ∀ q, Ws (τ q)) {p e : Nat} {t : List Char} {cs : List Pair}
    {sd : SchemaDef} (hP : Part inp 80 (.call R.SchemaExtension) p t [.mk R.SchemaExtension p e cs])
    (h : HasAt inp p (tk τ true p kwExtend)) (ht : Tok (At inp (p + (tk τ true p kwExtend).length)))
    (hb : ∀ fuel, t.length ≤ fuel →
      buildSchemaExtension (Ctx.spec inp) fuel (.mk R.SchemaExtension p e cs) = .ok sd) :
    TsItemOk inp p t (.schemaExt sd) := by
  obtain ⟨e2, rT⟩ := PartT.rule (r := R.TypeSystemExtension) rfl hP.choice_l
  obtain ⟨e3, rI⟩ := PartT.rule look_TSDOE (rT.choice_r (tsd_fails_extend hτ h ht) (le_B (by decide)))
  exact ⟨_, rI.mono (by decide), rfl, rfl, fun fuel hf => buildItem_schemaExt _ _ _ _ _ _ _ _ (hb fuel hf)⟩

theorem schemaExtT (τ : Trivia) (hτ : ∀ q, Ws (τ q)) (s : SchemaDef) (hwf : WFSchemaExt s) {sep : Bool} {p : Nat}
    (h : HasAt inp p (rSchemaExt τ sep p s)) (hn : Nxt inp tdBad sep (p + (rSchemaExt τ sep p s).length)) :
    TsItemOk inp p (rSchemaExt τ sep p s) (.schemaExt (wpSchemaExt τ inp sep p s)) := by
  obtain ⟨hdirs, hne, hrv⟩ := hwf
  simp only [rSchemaExt, wpSchemaExt] at h hn ⊢
  have g1 := h.right.left
  have g2 := h.right.right.left
  have g3 := h.right.right.right
  have hdK : Hd nameStart (tk τ false (p + (tk τ true p kwExtend).length) kwSchema) :=
    hd_tk (hd_of_validName kw_words_valid.2.1)
  have n3 := hn.app.app.app
  obtain ⟨oR, Rt, n2⟩ := optRootsT τ hτ s.roots hrv (by decide) g3 n3
  -- the gap after `schema` may be empty: without directives there are root operation types, which begin with `{`
  have n1 := n2.before g2 (s := false) (hd_rDirs τ _ _ s.dirs) punct_at (fun ht _ => by
    rw [List.isEmpty_eq_false_iff.mpr (hne.resolve_left (· (rDirs_eq_nil ht))), Bool.and_false])
  obtain ⟨prE, rE, hrE⟩ : ∃ pr, Part inp 0 (.call R.KEYWORD_extend) p _ [pr] ∧ pr.rule = R.KEYWORD_extend :=
    ⟨_, kwP hτ look_KEYWORD_extend h.left (bad := fun _ => False)
      (Nxt.of_name g1 hdK), rfl⟩
  obtain ⟨prK, rK, hrK⟩ : ∃ pr, Part inp 0 (.call R.KEYWORD_schema) _ _ [pr] ∧ pr.rule = R.KEYWORD_schema :=
    ⟨_, kwP hτ look_KEYWORD_schema g1 n1, rfl⟩
  obtain ⟨oD, D, _⟩ := optDirsT τ hτ s.dirs hdirs (by decide) (by decide) g2 n2
  -- without root operation types there are directives, and `Directives` itself reads them
  obtain ⟨e, rSE⟩ := kindBodyK ((Front.ofPart rE).seq rK) (rule := R.SchemaExtension) rfl (·.mono (Nat.le_succ _)) D (fun ho => by
      obtain ⟨pr, rfl, rP⟩ := D.some_of_ne fun e =>
        hne.elim (absurd (rDirs_eq_nil e)) (absurd (rOptRoots_eq_nil (Rt.absent ho).1))
      exact rP.mono (by decide)) (Rt.mono (by decide)) (bad := tdBad) (by decide) n3
  rw [← List.append_assoc]
  refine tsItem_of_schemaExt hτ (rSE.mono (by decide)) h.left (tok_of_hd g1 hdK (fun d => nameStart_not_trivia)) fun fuel hf => ?_
  have hm := matchParts_slots P_SchemaExtension [some prE, some prK, oD, oR] (by decide)
    ⟨⟨_, rfl, hrE⟩, ⟨_, rfl, hrK⟩, D.rule, Rt.rule, trivial⟩
  simp only [slotPairs, Option.toList_some, List.cons_append, List.nil_append] at hm
  have hbR := Rt.build _ (Nat.le_refl _)
  simp [buildSchemaExtension, Pair.children, hm, D.build fuel (fuel_left (fuel_right hf)), toPos_spec', Pair.start, bind,
    Except.bind]
  cases oR <;> (dsimp only [optRootsB] at hbR ⊢; rw [hbR])

end NitroVerif.DocParse
