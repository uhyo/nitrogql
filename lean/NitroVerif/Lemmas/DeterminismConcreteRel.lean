/-
Generic machinery for C17: lists related pointwise (`RelList`) and "up to a permutation and pointwise" (`PermRel`), results
of `Except` computations related "both fail, or both succeed with related values" (`ExRel`), and how `mapM`,
`filterMapM`, `filter`, `flatten`, `++` transport these relations.
-/
/- `RelList` is in the namespace `DeterminismDecls`: the relation on emitted declaration files (`DeclFileEquiv`) is stated
   with it there. -/
namespace NitroVerif.DeterminismDecls

/-- pointwise relation of two lists of the same length -/
def RelList {α β : Type} (R : α → β → Prop) : List α → List β → Prop
  | [], [] => True
  | a :: as, b :: bs => R a b ∧ RelList R as bs
  | _, _ => False

theorem relList_refl {α : Type} {R : α → α → Prop} (hr : ∀ a, R a a) : ∀ l, RelList R l l
  | [] => trivial
  | a :: l => ⟨hr a, relList_refl hr l⟩

theorem relList_map {α β γ : Type} {R : β → γ → Prop} (f : α → β) (g : α → γ) :
    ∀ l : List α, (∀ a ∈ l, R (f a) (g a)) → RelList R (l.map f) (l.map g)
  | [], _ => trivial
  | a :: l, h => ⟨h a List.mem_cons_self, relList_map f g l fun x hx => h x (List.mem_cons_of_mem _ hx)⟩

theorem relList_append {α β : Type} {R : α → β → Prop} : ∀ {a a' : List α} {b b' : List β},
    RelList R a b → RelList R a' b' → RelList R (a ++ a') (b ++ b')
  | [], _, [], _, _, h => h
  | _ :: _, _, _ :: _, _, ⟨h1, h2⟩, h => ⟨h1, relList_append h2 h⟩
  | [], _, _ :: _, _, h, _ => h.elim
  | _ :: _, _, [], _, h, _ => h.elim

end NitroVerif.DeterminismDecls

namespace NitroVerif.DeterminismRel
open NitroVerif.DeterminismDecls (RelList relList_refl relList_map relList_append)

variable {α β γ δ ε : Type}

theorem relList_nil_left {R : α → β → Prop} {l : List β} : RelList R [] l ↔ l = [] := by
  cases l <;> simp [RelList]

theorem relList_nil_right {R : α → β → Prop} {l : List α} : RelList R l [] ↔ l = [] := by
  cases l <;> simp [RelList]

theorem relList_cons {R : α → β → Prop} {a : α} {b : β} {l : List α} {l' : List β} :
    RelList R (a :: l) (b :: l') ↔ R a b ∧ RelList R l l' := Iff.rfl

theorem relList_cons_left {R : α → β → Prop} {a : α} {l : List α} {l' : List β} :
    RelList R (a :: l) l' ↔ ∃ b r, l' = b :: r ∧ R a b ∧ RelList R l r := by
  cases l' with
  | nil => simp [RelList]
  | cons b r =>
    constructor
    · intro h; exact ⟨b, r, rfl, h.1, h.2⟩
    · rintro ⟨b', r', he, h1, h2⟩
      cases he
      exact ⟨h1, h2⟩

theorem relList_induction {R : α → β → Prop} {motive : List α → List β → Prop} (nil : motive [] [])
    (cons : ∀ {a b l l'}, R a b → RelList R l l' → motive l l' → motive (a :: l) (b :: l')) :
    ∀ {l : List α} {l' : List β}, RelList R l l' → motive l l'
  | [], [], _ => nil
  | _ :: _, _ :: _, h => cons h.1 h.2 (relList_induction nil cons h.2)
  | [], _ :: _, h => h.elim
  | _ :: _, [], h => h.elim

theorem relList_length {R : α → β → Prop} {l : List α} {l' : List β} (h : RelList R l l') : l.length = l'.length :=
  relList_induction (motive := fun (l : List α) (l' : List β) => l.length = l'.length) rfl (fun _ _ ih => congrArg (· + 1) ih) h

theorem relList_mono {R R' : α → β → Prop} (hm : ∀ a b, R a b → R' a b) {l : List α} {l' : List β}
    (h : RelList R l l') : RelList R' l l' :=
  relList_induction (motive := RelList R') trivial (fun h _ ih => ⟨hm _ _ h, ih⟩) h

theorem relList_eq {l l' : List α} : RelList (· = ·) l l' ↔ l = l' := by
  induction l generalizing l' with
  | nil => rw [relList_nil_left]; exact eq_comm
  | cons a l ih =>
    cases l' with
    | nil => simp [RelList]
    | cons b l' => simp [RelList, ih]

theorem relList_filter {R : α → β → Prop} {p : α → Bool} {q : β → Bool} (hpq : ∀ a b, R a b → p a = q b)
    {l : List α} {l' : List β} (h : RelList R l l') : RelList R (l.filter p) (l'.filter q) :=
  relList_induction (motive := fun l l' => RelList R (l.filter p) (l'.filter q)) trivial
    (fun {a b _ _} h _ ih => by
      simp only [List.filter_cons, hpq a b h]
      cases q b
      · exact ih
      · exact ⟨h, ih⟩) h

theorem relList_any {R : α → β → Prop} {p : α → Bool} {q : β → Bool} (hpq : ∀ a b, R a b → p a = q b)
    {l : List α} {l' : List β} (h : RelList R l l') : l.any p = l'.any q :=
  relList_induction (motive := fun (l : List α) (l' : List β) => l.any p = l'.any q) rfl
    (fun h _ ih => by simp only [List.any_cons, hpq _ _ h, ih]) h

theorem relList_map_rel {R : α → β → Prop} {Q : γ → δ → Prop} {f : α → γ} {g : β → δ}
    (hfg : ∀ a b, R a b → Q (f a) (g b)) {l : List α} {l' : List β} (h : RelList R l l') :
    RelList Q (l.map f) (l'.map g) :=
  relList_induction (motive := fun l l' => RelList Q (l.map f) (l'.map g)) trivial (fun h _ ih => ⟨hfg _ _ h, ih⟩) h

theorem relList_flatten {R : α → β → Prop} {l : List (List α)} {l' : List (List β)}
    (h : RelList (RelList R) l l') : RelList R l.flatten l'.flatten :=
  relList_induction (motive := fun l l' => RelList R l.flatten l'.flatten) trivial
    (fun h _ ih => by simp only [List.flatten_cons]; exact relList_append h ih) h

/-- a relation defined by "the heads are related and so are the tails" is `RelList` -/
theorem relList_of_head {R : α → β → Prop} {P : List α → List β → Prop} (hnil : ∀ l, P [] l ↔ l = [])
    (hcons : ∀ a r l, P (a :: r) l ↔ ∃ b r', l = b :: r' ∧ R a b ∧ P r r') : ∀ l l', P l l' ↔ RelList R l l'
  | [], l' => by rw [hnil, relList_nil_left]
  | a :: l, l' => by
    rw [hcons, relList_cons_left]
    simp only [relList_of_head hnil hcons l]

theorem relList_perm_right {R : α → β → Prop} {l' l'' : List β} (hp : l'.Perm l'') :
    ∀ {l : List α}, RelList R l l' → ∃ g, l.Perm g ∧ RelList R g l'' := by
  induction hp with
  | nil => intro l h; exact ⟨l, List.Perm.refl _, h⟩
  | cons x _ ih =>
    intro l h
    obtain ⟨a, r, rfl, ha, hr⟩ : ∃ a r, l = a :: r ∧ R a x ∧ RelList R r _ := by
      cases l with
      | nil => exact h.elim
      | cons a r => exact ⟨a, r, rfl, h.1, h.2⟩
    obtain ⟨g, hg, hgr⟩ := ih hr
    exact ⟨a :: g, hg.cons a, ha, hgr⟩
  | swap x y t =>
    intro l h
    match l, h with
    | a :: b :: r, ⟨ha, hb, hr⟩ => exact ⟨b :: a :: r, List.Perm.swap _ _ _, hb, ha, hr⟩
  | trans _ _ ih1 ih2 =>
    intro l h
    obtain ⟨g, hg, hgr⟩ := ih1 h
    obtain ⟨g', hg', hgr'⟩ := ih2 hgr
    exact ⟨g', hg.trans hg', hgr'⟩

/-- `l` can be permuted into a list pointwise `R`-related to `l'` -/
def PermRel (R : α → β → Prop) (l : List α) (l' : List β) : Prop := ∃ g, l.Perm g ∧ RelList R g l'

theorem PermRel.of_rel {R : α → β → Prop} {l : List α} {l' : List β} (h : RelList R l l') : PermRel R l l' :=
  ⟨l, List.Perm.refl _, h⟩

theorem PermRel.nil {R : α → β → Prop} : PermRel R ([] : List α) ([] : List β) := .of_rel trivial

theorem PermRel.perm_left {R : α → β → Prop} {l₁ l₂ : List α} {l' : List β} (hp : l₁.Perm l₂)
    (h : PermRel R l₂ l') : PermRel R l₁ l' := by
  obtain ⟨g, hg, hr⟩ := h
  exact ⟨g, hp.trans hg, hr⟩

theorem PermRel.perm_right {R : α → β → Prop} {l : List α} {l₁' l₂' : List β} (h : PermRel R l l₁')
    (hp : l₁'.Perm l₂') : PermRel R l l₂' := by
  obtain ⟨g, hg, hr⟩ := h
  obtain ⟨g', hg', hr'⟩ := relList_perm_right hp hr
  exact ⟨g', hg.trans hg', hr'⟩

theorem PermRel.of_perm {l l' : List α} (h : l.Perm l') : PermRel (· = ·) l l' :=
  ⟨l', h, relList_eq.mpr rfl⟩

theorem PermRel.length {R : α → β → Prop} {l : List α} {l' : List β} (h : PermRel R l l') : l.length = l'.length := by
  obtain ⟨g, hg, hr⟩ := h
  rw [hg.length_eq, relList_length hr]

theorem PermRel.isEmpty {R : α → β → Prop} {l : List α} {l' : List β} (h : PermRel R l l') :
    l.isEmpty = l'.isEmpty := by
  have := h.length
  cases l <;> cases l' <;> simp_all

theorem PermRel.nil_left {R : α → β → Prop} {l' : List β} (h : PermRel R ([] : List α) l') : l' = [] := by
  have := h.length
  cases l' with
  | nil => rfl
  | cons _ _ => simp at this

theorem PermRel.mono {R R' : α → β → Prop} (hm : ∀ a b, R a b → R' a b) {l : List α} {l' : List β}
    (h : PermRel R l l') : PermRel R' l l' := by
  obtain ⟨g, hg, hr⟩ := h
  exact ⟨g, hg, relList_mono hm hr⟩

theorem PermRel.append {R : α → β → Prop} {a a' : List α} {b b' : List β} (h : PermRel R a b) (h' : PermRel R a' b') :
    PermRel R (a ++ a') (b ++ b') := by
  obtain ⟨g, hg, hr⟩ := h
  obtain ⟨g', hg', hr'⟩ := h'
  exact ⟨g ++ g', hg.append hg', relList_append hr hr'⟩

theorem PermRel.cons {R : α → β → Prop} {a : α} {b : β} {l : List α} {l' : List β} (hab : R a b)
    (h : PermRel R l l') : PermRel R (a :: l) (b :: l') := by
  obtain ⟨g, hg, hr⟩ := h
  exact ⟨a :: g, hg.cons a, hab, hr⟩

theorem PermRel.filter {R : α → β → Prop} {p : α → Bool} {q : β → Bool} (hpq : ∀ a b, R a b → p a = q b)
    {l : List α} {l' : List β} (h : PermRel R l l') : PermRel R (l.filter p) (l'.filter q) := by
  obtain ⟨g, hg, hr⟩ := h
  exact ⟨g.filter p, hg.filter p, relList_filter hpq hr⟩

theorem PermRel.any {R : α → β → Prop} {p : α → Bool} {q : β → Bool} (hpq : ∀ a b, R a b → p a = q b)
    {l : List α} {l' : List β} (h : PermRel R l l') : l.any p = l'.any q := by
  obtain ⟨g, hg, hr⟩ := h
  rw [← relList_any hpq hr]
  rw [Bool.eq_iff_iff, List.any_eq_true, List.any_eq_true]
  exact ⟨fun ⟨x, hx, hp⟩ => ⟨x, hg.mem_iff.mp hx, hp⟩, fun ⟨x, hx, hp⟩ => ⟨x, hg.mem_iff.mpr hx, hp⟩⟩

theorem PermRel.map {R : α → β → Prop} {Q : γ → δ → Prop} {f : α → γ} {g : β → δ}
    (hfg : ∀ a b, R a b → Q (f a) (g b)) {l : List α} {l' : List β} (h : PermRel R l l') :
    PermRel Q (l.map f) (l'.map g) := by
  obtain ⟨k, hk, hr⟩ := h
  exact ⟨k.map f, hk.map f, relList_map_rel hfg hr⟩

theorem permRel_flatten_of_rel {R : α → β → Prop} {l : List (List α)} {l' : List (List β)}
    (h : RelList (PermRel R) l l') : PermRel R l.flatten l'.flatten :=
  relList_induction (motive := fun l l' => PermRel R l.flatten l'.flatten) .nil
    (fun h _ ih => by simp only [List.flatten_cons]; exact h.append ih) h

theorem PermRel.flatten {R : α → β → Prop} {l : List (List α)} {l' : List (List β)}
    (h : PermRel (PermRel R) l l') : PermRel R l.flatten l'.flatten := by
  obtain ⟨g, hg, hr⟩ := h
  exact (permRel_flatten_of_rel hr).perm_left hg.flatten

theorem PermRel.flatMap {R : α → β → Prop} {Q : γ → δ → Prop} {f : α → List γ} {g : β → List δ}
    (hfg : ∀ a b, R a b → PermRel Q (f a) (g b)) {l : List α} {l' : List β} (h : PermRel R l l') :
    PermRel Q (l.flatMap f) (l'.flatMap g) := by
  rw [List.flatMap_def, List.flatMap_def]
  exact (h.map hfg).flatten

/-- a relation defined by "pick the partner of the head anywhere in the other list" is `PermRel` -/
theorem permRel_of_pick {α : Type} {R : α → α → Prop} {P : List α → List α → Prop}
    (hnil : ∀ l, P [] l ↔ l = [])
    (hcons : ∀ a r l, P (a :: r) l ↔ ∃ b l1 l2, l = l1 ++ b :: l2 ∧ R a b ∧ P r (l1 ++ l2)) :
    ∀ l l', P l l' ↔ PermRel R l l' := by
  intro l
  induction l with
  | nil =>
    intro l'
    rw [hnil]
    exact ⟨fun h => by subst h; exact .nil, fun h => h.nil_left⟩
  | cons a rest ih =>
    intro l'
    rw [hcons]
    constructor
    · rintro ⟨b, l1, l2, rfl, hb, hr⟩
      exact (PermRel.cons hb ((ih _).mp hr)).perm_right List.perm_middle.symm
    · rintro ⟨g, hg, hr⟩
      have hag : a ∈ g := hg.mem_iff.mp List.mem_cons_self
      obtain ⟨g1, g2, rfl⟩ := List.append_of_mem hag
      have hrest : rest.Perm (g1 ++ g2) := (List.perm_cons a).mp (hg.trans List.perm_middle)
      have hsplit : ∀ (g1 : List α) (l' : List α), RelList R (g1 ++ a :: g2) l' →
          ∃ l1 b l2, l' = l1 ++ b :: l2 ∧ R a b ∧ RelList R (g1 ++ g2) (l1 ++ l2) := by
        intro g1
        induction g1 with
        | nil =>
          intro l' h
          obtain ⟨b, r, rfl, h1, h2⟩ := relList_cons_left.mp h
          exact ⟨[], b, r, rfl, h1, h2⟩
        | cons x g1 ih' =>
          intro l' h
          obtain ⟨x', r, rfl, h1, h2⟩ := relList_cons_left.mp h
          obtain ⟨l1, b, l2, rfl, hb, hr⟩ := ih' r h2
          exact ⟨x' :: l1, b, l2, rfl, hb, h1, hr⟩
      obtain ⟨l1, b, l2, rfl, hb, hr'⟩ := hsplit g1 l' hr
      exact ⟨b, l1, l2, rfl, hb, (ih _).mpr ⟨g1 ++ g2, hrest, hr'⟩⟩

/-- both computations fail (with any panic), or both succeed with `R`-related values -/
def ExRel (R : α → β → Prop) : Except ε α → Except ε β → Prop
  | .ok a, .ok b => R a b
  | .error _, .error _ => True
  | _, _ => False

theorem exRel_ok {R : α → β → Prop} {a : α} {b : β} (h : R a b) : ExRel (ε := ε) R (.ok a) (.ok b) := h

theorem exRel_error {R : α → β → Prop} (e e' : ε) : ExRel R (.error e : Except ε α) (.error e' : Except ε β) :=
  trivial

theorem exRel_bind {R : α → β → Prop} {Q : γ → δ → Prop} {x : Except ε α} {y : Except ε β}
    {f : α → Except ε γ} {g : β → Except ε δ} (hxy : ExRel R x y)
    (hfg : ∀ a b, R a b → ExRel Q (f a) (g b)) : ExRel Q (x >>= f) (y >>= g) := by
  cases x <;> cases y
  · trivial
  · exact hxy.elim
  · exact hxy.elim
  · exact hfg _ _ hxy

theorem exRel_mono {R R' : α → β → Prop} (hm : ∀ a b, R a b → R' a b) {x : Except ε α} {y : Except ε β}
    (h : ExRel R x y) : ExRel R' x y := by
  cases x <;> cases y
  · trivial
  · exact h.elim
  · exact h.elim
  · exact hm _ _ h

theorem exRel_refl {R : α → α → Prop} (hr : ∀ a, R a a) (x : Except ε α) : ExRel R x x := by
  cases x
  · trivial
  · exact hr _

theorem exRel_of_eq {R : α → α → Prop} (hr : ∀ a, R a a) {x y : Except ε α} (h : x = y) : ExRel R x y :=
  h ▸ exRel_refl hr x

theorem exRel_trans {R : α → β → Prop} {Q : β → γ → Prop} {P : α → γ → Prop}
    (hc : ∀ a b c, R a b → Q b c → P a c) {x : Except ε α} {y : Except ε β} {z : Except ε γ}
    (h1 : ExRel R x y) (h2 : ExRel Q y z) : ExRel P x z := by
  cases x <;> cases y <;> cases z <;> first | trivial | exact h1.elim | exact h2.elim | exact hc _ _ _ h1 h2

theorem exRel_map {R : α → β → Prop} {Q : γ → δ → Prop} {x : Except ε α} {y : Except ε β} {f : α → γ} {g : β → δ}
    (hxy : ExRel R x y) (hfg : ∀ a b, R a b → Q (f a) (g b)) : ExRel Q (f <$> x) (g <$> y) := by
  cases x <;> cases y
  · trivial
  · exact hxy.elim
  · exact hxy.elim
  · exact hfg _ _ hxy

theorem exRel_mapM_rel {R : α → β → Prop} {Q : γ → δ → Prop} {f : α → Except ε γ} {f' : β → Except ε δ}
    (hf : ∀ a b, R a b → ExRel Q (f a) (f' b)) :
    ∀ {l : List α} {l' : List β}, RelList R l l' → ExRel (RelList Q) (l.mapM f) (l'.mapM f')
  | [], [], _ => by simp only [List.mapM_nil]; exact exRel_ok trivial
  | a :: l, b :: l', h => by
    simp only [List.mapM_cons]
    apply exRel_bind (hf a b h.1)
    intro c d hcd
    apply exRel_bind (exRel_mapM_rel hf h.2)
    intro cs ds hcs
    exact exRel_ok ⟨hcd, hcs⟩
  | [], _ :: _, h => h.elim
  | _ :: _, [], h => h.elim

theorem exRel_mapM_perm {f : α → Except ε γ} {l l' : List α} (hp : l.Perm l') :
    ExRel List.Perm (l.mapM f) (l'.mapM f) := by
  induction hp with
  | nil => simp only [List.mapM_nil]; exact exRel_ok (List.Perm.refl _)
  | cons x _ ih =>
    simp only [List.mapM_cons]
    apply exRel_bind (exRel_refl (fun _ => rfl) (f x))
    intro c d hcd
    subst hcd
    apply exRel_bind ih
    intro cs ds hcs
    exact exRel_ok (hcs.cons c)
  | swap x y t =>
    simp only [List.mapM_cons]
    cases f x <;> cases f y <;> cases t.mapM f <;> first | trivial | exact List.Perm.swap _ _ _
  | trans _ _ ih1 ih2 => exact exRel_trans (fun _ _ _ h1 h2 => h1.trans h2) ih1 ih2

theorem exRel_mapM_permRel {R : α → β → Prop} {Q : γ → δ → Prop} {f : α → Except ε γ} {f' : β → Except ε δ}
    (hf : ∀ a b, R a b → ExRel Q (f a) (f' b)) {l : List α} {l' : List β} (h : PermRel R l l') :
    ExRel (PermRel Q) (l.mapM f) (l'.mapM f') := by
  obtain ⟨g, hg, hr⟩ := h
  exact exRel_trans (fun a b c h1 h2 => ⟨b, h1, h2⟩) (exRel_mapM_perm hg) (exRel_mapM_rel hf hr)

def OptRel (Q : γ → δ → Prop) : Option γ → Option δ → Prop
  | some c, some d => Q c d
  | none, none => True
  | _, _ => False

theorem exRel_filterMapM_rel {R : α → β → Prop} {Q : γ → δ → Prop} {f : α → Except ε (Option γ)}
    {f' : β → Except ε (Option δ)} (hf : ∀ a b, R a b → ExRel (OptRel Q) (f a) (f' b)) :
    ∀ {l : List α} {l' : List β}, RelList R l l' → ExRel (RelList Q) (l.filterMapM f) (l'.filterMapM f')
  | [], [], _ => by simp only [List.filterMapM_nil]; exact exRel_ok trivial
  | a :: l, b :: l', h => by
    simp only [List.filterMapM_cons]
    apply exRel_bind (hf a b h.1)
    intro c d hcd
    cases c <;> cases d
    · exact exRel_filterMapM_rel hf h.2
    · exact hcd.elim
    · exact hcd.elim
    · apply exRel_bind (exRel_filterMapM_rel hf h.2)
      intro cs ds hcs
      exact exRel_ok ⟨hcd, hcs⟩
  | [], _ :: _, h => h.elim
  | _ :: _, [], h => h.elim

theorem filterMapM_eq_mapM (f : α → Except ε (Option γ)) (l : List α) :
    l.filterMapM f = (fun os => os.filterMap id) <$> l.mapM f := by
  induction l with
  | nil => rfl
  | cons a l ih =>
    simp only [List.filterMapM_cons, List.mapM_cons, ih]
    cases f a with
    | error e => rfl
    | ok o => cases o <;> cases l.mapM f <;> rfl

theorem exRel_filterMapM_perm {f : α → Except ε (Option γ)} {l l' : List α} (hp : l.Perm l') :
    ExRel List.Perm (l.filterMapM f) (l'.filterMapM f) := by
  rw [filterMapM_eq_mapM, filterMapM_eq_mapM]
  exact exRel_map (exRel_mapM_perm hp) fun _ _ h => h.filterMap id

theorem exRel_filterMapM_permRel {R : α → β → Prop} {Q : γ → δ → Prop} {f : α → Except ε (Option γ)}
    {f' : β → Except ε (Option δ)} (hf : ∀ a b, R a b → ExRel (OptRel Q) (f a) (f' b)) {l : List α} {l' : List β}
    (h : PermRel R l l') : ExRel (PermRel Q) (l.filterMapM f) (l'.filterMapM f') := by
  obtain ⟨g, hg, hr⟩ := h
  exact exRel_trans (fun a b c h1 h2 => ⟨b, h1, h2⟩) (exRel_filterMapM_perm hg) (exRel_filterMapM_rel hf hr)

end NitroVerif.DeterminismRel
