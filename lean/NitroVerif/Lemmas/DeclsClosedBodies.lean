/-
Exactness of the alias BODIES of the schema declaration printer, for EVERY interpretation of the references to other
schema types: if the reference to each named type `n` denotes the set `R n` (hypothesis `hL`), the body of an enum /
object / input object / interface / union alias denotes the clause of the property statement with `R` at the leaves.
`Props/C10.lean` states these as `ts_conf` / `C10_alias_exact_*`. Record types are compared with record specifications
field by field (`FieldAgrees`). Also: `localName` avoids the bag of scalar-text identifiers and is injective.
-/
import NitroVerif.Model.SchemaDecls
import NitroVerif.Spec.RefTypes
import NitroVerif.Lemmas.TsSem
namespace NitroVerif.SchemaDecls
open NitroVerif.Gql NitroVerif.Ts NitroVerif.DeclCfg NitroVerif.RefTypes

variable {e : Env}

theorem mem_tsCore_iff (leaf : Name → Ty) (ro : Bool) (ty : GType) :
    ∀ v, Mem e v (tsCore leaf ro ty) ↔ ConfCore (fun n x => Mem e x (leaf n)) ty v := by
  induction ty with
  | named n p => intro v; simp [tsCore, ConfCore]
  | nonNull t ih => intro v; simpa [tsCore, ConfCore] using ih v
  | list t p ih =>
    intro v
    have hel : ∀ x, Mem e x (if t.isNonNull then tsCore leaf ro t else .union [tsCore leaf ro t, .prim "null"])
        ↔ ((t.isNonNull = false ∧ x = .null) ∨ ConfCore (fun n x => Mem e x (leaf n)) t x) := by
      intro x
      cases hnn : t.isNonNull with
      | true => simp [ih x]
      | false =>
        simp only [Bool.false_eq_true, if_false, mem_union_iff, List.mem_cons, List.mem_nil_iff, or_false]
        constructor
        · rintro ⟨t', ht', hm⟩
          rcases ht' with rfl | rfl
          · exact Or.inr ((ih x).1 hm)
          · exact Or.inl ⟨trivial, mem_null_iff.1 hm⟩
        · rintro (⟨_, hx⟩ | hc)
          · exact ⟨_, Or.inr rfl, mem_null_iff.2 hx⟩
          · exact ⟨_, Or.inl rfl, (ih x).2 hc⟩
    have harr : ∀ el : Ty, Mem e v (if ro then .roArr el else .arr el) ↔ ∃ xs, v = .arr xs ∧ ∀ x ∈ xs, Mem e x el := by
      intro el; cases ro
      · exact mem_arr_iff
      · exact mem_roArr_iff
    rw [tsCore, harr]
    exact exists_congr fun xs => and_congr_right fun _ => forall_congr' fun x => imp_congr_right fun _ => hel x

theorem mem_tsOf_iff (leaf : Name → Ty) (ro : Bool) (ty : GType) (v : J) :
    Mem e v (tsOf leaf ro ty) ↔ Conf (fun n x => Mem e x (leaf n)) ty v := by
  unfold tsOf Conf
  cases hnn : ty.isNonNull with
  | true => simp [mem_tsCore_iff]
  | false =>
    simp only [Bool.false_eq_true, if_false, mem_union_iff, List.mem_cons, List.mem_nil_iff, or_false, true_and]
    constructor
    · rintro ⟨t', ht', hm⟩
      rcases ht' with rfl | rfl
      · exact Or.inr ((mem_tsCore_iff leaf ro ty v).1 hm)
      · exact Or.inl (mem_null_iff.1 hm)
    · rintro (hx | hc)
      · exact ⟨_, Or.inr rfl, mem_null_iff.2 hx⟩
      · exact ⟨_, Or.inl rfl, (mem_tsCore_iff leaf ro ty v).2 hc⟩


theorem mem_tsUnion_iff (ts : List Ty) (v : J) : Mem e v (tsUnion ts) ↔ ∃ t ∈ ts, Mem e v t := by
  match ts with
  | [] => simp [tsUnion, mem_never_iff]
  | [t] => simp [tsUnion]
  | a :: b :: r => simp only [tsUnion, mem_union_iff]

theorem mem_enumBody_iff (td : TypeDef) (v : J) :
    Mem e v (enumBody td) ↔ ∃ x ∈ td.values, v = .str x.name := by
  simp only [enumBody, mem_tsUnion_iff]
  constructor
  · rintro ⟨t, ht, hm⟩
    obtain ⟨x, hx, rfl⟩ := List.mem_map.1 ht
    exact ⟨x, hx, mem_strLit_iff.1 hm⟩
  · rintro ⟨x, hx, rfl⟩
    exact ⟨_, List.mem_map.2 ⟨x, hx, rfl⟩, mem_strLit_iff.2 rfl⟩

theorem mem_membersBodyL_iff (L : Name → Ty) (R : Name → J → Prop) (names : List Name) (v : J)
    (hL : ∀ n ∈ names, (Mem e v (L n) ↔ R n v)) :
    Mem e v (membersBodyL L names) ↔ ∃ n ∈ names, R n v := by
  simp only [membersBodyL, mem_tsUnion_iff]
  constructor
  · rintro ⟨t, ht, hm⟩
    obtain ⟨n, hn, rfl⟩ := List.mem_map.1 ht
    exact ⟨n, hn, (hL n hn).1 hm⟩
  · rintro ⟨n, hn, hr⟩
    exact ⟨_, List.mem_map.2 ⟨n, hn, rfl⟩, (hL n hn).2 hr⟩

theorem leaf_ext_iff (L : Name → Ty) (R : Name → J → Prop) (hL : ∀ n v, Mem e v (L n) ↔ R n v) :
    (fun n x => Mem e x (L n)) = R := by
  funext n x; exact propext (hL n x)

/-- the declared field `f` and the clause `s` of a record specification have the same key and say the same of every
    value found at that key -/
def FieldAgrees (e : Env) (f : Field) (s : String × Bool × (J → Prop)) : Prop :=
  f.1 = s.1 ∧ ∀ x, (¬ (f.2.2.1 = true ∧ x = .absent) → Mem e x f.2.2.2) ↔ ((s.2.1 = true ∧ x = .absent) ∨ s.2.2 x)

theorem mem_obj_iff_recordSpec {fs : List Field} {specs : List (String × Bool × (J → Prop))}
    (h1 : ∀ f ∈ fs, ∃ s ∈ specs, FieldAgrees e f s) (h2 : ∀ s ∈ specs, ∃ f ∈ fs, FieldAgrees e f s) (v : J) :
    Mem e v (.obj fs) ↔ ∃ kvs, v = .obj kvs ∧ RecordSpec specs kvs := by
  rw [mem_obj_iff]
  refine exists_congr fun kvs => and_congr_right fun _ => and_congr ⟨fun h s hs => ?_, fun h f hf => ?_⟩
    ⟨fun h kv hkv => ?_, fun h kv hkv => ?_⟩
  · obtain ⟨f, hf, hk, hx⟩ := h2 s hs
    rw [← hk]; exact (hx _).1 (h f hf)
  · obtain ⟨s, hs, hk, hx⟩ := h1 f hf
    rw [hk]; exact (hx _).2 (h s hs)
  · refine (h kv hkv).imp_right fun ⟨f, hf, hk⟩ => ?_
    obtain ⟨s, hs, hk', _⟩ := h1 f hf
    exact ⟨s, hs, hk' ▸ hk⟩
  · refine (h kv hkv).imp_right fun ⟨s, hs, hk⟩ => ?_
    obtain ⟨f, hf, hk', _⟩ := h2 s hs
    exact ⟨f, hf, hk'.trans hk⟩

theorem mem_obj_map_iff {α : Type} (pre : List (Field × (String × Bool × (J → Prop)))) (l : List α)
    (fld : α → Field) (spec : α → String × Bool × (J → Prop)) (hpre : ∀ p ∈ pre, FieldAgrees e p.1 p.2)
    (h : ∀ a ∈ l, FieldAgrees e (fld a) (spec a)) (v : J) :
    Mem e v (.obj (pre.map (·.1) ++ l.map fld)) ↔ ∃ kvs, v = .obj kvs ∧ RecordSpec (pre.map (·.2) ++ l.map spec) kvs := by
  apply mem_obj_iff_recordSpec
  · intro f hf
    rcases List.mem_append.1 hf with hf | hf
    · obtain ⟨p, hp, rfl⟩ := List.mem_map.1 hf
      exact ⟨p.2, List.mem_append_left _ (List.mem_map_of_mem hp), hpre p hp⟩
    · obtain ⟨a, ha, rfl⟩ := List.mem_map.1 hf
      exact ⟨spec a, List.mem_append_right _ (List.mem_map_of_mem ha), h a ha⟩
  · intro s hs
    rcases List.mem_append.1 hs with hs | hs
    · obtain ⟨p, hp, rfl⟩ := List.mem_map.1 hs
      exact ⟨p.1, List.mem_append_left _ (List.mem_map_of_mem hp), hpre p hp⟩
    · obtain ⟨a, ha, rfl⟩ := List.mem_map.1 hs
      exact ⟨fld a, List.mem_append_right _ (List.mem_map_of_mem ha), h a ha⟩

theorem fieldAgrees_required {k : String} {ro : Bool} {t : Ty} {Q : J → Prop} (h : ∀ x, Mem e x t ↔ Q x) :
    FieldAgrees e (k, ro, false, t) (k, false, Q) :=
  ⟨rfl, fun x => by simp [h x]⟩

theorem mem_recordBody_iff {α : Type} (l : List α) (key : α → String) (ro : α → Bool) (ty : α → GType)
    (L : Name → Ty) (R : Name → J → Prop) (hL : ∀ n v, Mem e v (L n) ↔ R n v) (v : J) :
    Mem e v (.obj (l.map fun a => (key a, ro a, false, tsOf L false (ty a)))) ↔
      ∃ kvs, v = .obj kvs ∧ RecordSpec (l.map fun a => (key a, false, Conf R (ty a))) kvs :=
  mem_obj_map_iff [] l _ _ (fun _ h => nomatch h)
    (fun a _ => fieldAgrees_required fun x => by rw [← leaf_ext_iff L R hL]; exact mem_tsOf_iff L false (ty a) x) v

theorem mem_objectBodyL_iff (L : Name → Ty) (R : Name → J → Prop) (hL : ∀ n v, Mem e v (L n) ↔ R n v)
    (td : TypeDef) (v : J) :
    Mem e v (objectBodyL L td) ↔
      ∃ kvs, v = .obj kvs ∧
        RecordSpec (("__typename", false, fun x => x = .str td.name)
          :: td.fields.map fun f => (f.name, false, Conf R f.ty)) kvs :=
  mem_obj_map_iff [(("__typename", false, false, .strLit td.name), ("__typename", false, fun x => x = .str td.name))]
    td.fields _ _ (fun _ h => by rw [List.mem_singleton.1 h]; exact fieldAgrees_required fun _ => mem_strLit_iff)
    (fun f _ => fieldAgrees_required fun x => by rw [← leaf_ext_iff L R hL]; exact mem_tsOf_iff L false f.ty x) v

theorem mem_optField_iff (L : Name → Ty) (R : Name → J → Prop) (hL : ∀ n v, Mem e v (L n) ↔ R n v)
    (ro o : Bool) (ty : GType) (ho : o = true → ty.isNonNull = false) (x : J) :
    (¬ (o = true ∧ x = .absent) → Mem e x (optFieldTy L ro o ty)) ↔ ((o = true ∧ x = .absent) ∨ Conf R ty x) := by
  have hR := leaf_ext_iff L R hL
  simp only [optFieldTy]
  cases o with
  | false =>
    simp only [Bool.false_eq_true, false_and, not_false_eq_true, forall_const, if_false, false_or]
    rw [← hR]; exact mem_tsOf_iff L ro ty x
  | true =>
    have hnn : ty.isNonNull = false := ho rfl
    simp only [true_and, if_true]
    rw [← hR]
    constructor
    · intro h
      by_cases hx : x = .absent
      · exact Or.inl hx
      · right
        obtain ⟨t, ht, hm⟩ := mem_union_iff.1 (h hx)
        simp only [List.mem_cons, List.mem_nil_iff, or_false] at ht
        rcases ht with rfl | rfl | rfl
        · exact Or.inr ((mem_tsCore_iff L ro ty x).1 hm)
        · exact Or.inl ⟨hnn, mem_null_iff.1 hm⟩
        · exact absurd (mem_undefined_iff.1 hm) hx
    · rintro (hx | hc) hne
      · exact absurd hx hne
      · rcases hc with ⟨_, hx⟩ | hc
        · exact mem_union_iff.2 ⟨_, by simp, mem_null_iff.2 hx⟩
        · exact mem_union_iff.2 ⟨_, List.mem_cons_self, (mem_tsCore_iff L ro ty x).2 hc⟩

theorem mem_inputField_iff (L : Name → Ty) (R : Name → J → Prop) (hL : ∀ n v, Mem e v (L n) ↔ R n v)
    (opt : Bool) (f : InputValueDef) (x : J) :
    (¬ ((inputFieldL L opt f).2.2.1 = true ∧ x = .absent) → Mem e x (inputFieldL L opt f).2.2.2) ↔
      (((opt && !f.ty.isNonNull) = true ∧ x = .absent) ∨ Conf R f.ty x) :=
  mem_optField_iff L R hL true (opt && !f.ty.isNonNull) f.ty (fun h => by simp only [Bool.and_eq_true, Bool.not_eq_true'] at h; exact h.2) x

theorem mem_inputBodyL_iff (L : Name → Ty) (R : Name → J → Prop) (hL : ∀ n v, Mem e v (L n) ↔ R n v)
    (opt : Bool) (td : TypeDef) (v : J) :
    Mem e v (inputBodyL L opt td) ↔
      ∃ kvs, v = .obj kvs ∧
        RecordSpec (td.inputs.map fun f => (f.name, opt && !f.ty.isNonNull, Conf R f.ty)) kvs :=
  mem_obj_map_iff [] td.inputs (inputFieldL L opt) _ (fun _ h => nomatch h)
    (fun f _ => ⟨rfl, mem_inputField_iff L R hL opt f⟩) v

theorem localName_not_mem_bag (bagIds : List String) (hbag : ∀ id ∈ bagIds, hasTmpPrefix id = false)
    (n : Name) : ¬ (localName bagIds n ∈ bagIds) := by
  unfold localName
  by_cases h : bagIds.contains n = true
  · simp only [h, if_true]
    intro hm
    have := hbag _ hm
    simp [hasTmpPrefix, String.toList_append] at this
  · simp only [h]
    intro hm
    exact h (List.contains_iff_mem.2 hm) |>.elim

theorem localName_inj (bagIds : List String) (a b : Name)
    (ha : hasTmpPrefix a = false) (hb : hasTmpPrefix b = false)
    (h : localName bagIds a = localName bagIds b) : a = b := by
  unfold localName at h
  split at h <;> split at h
  · have := congrArg String.toList h
    simp only [String.toList_append, List.append_cancel_left_eq] at this
    exact String.toList_inj.1 this
  · exfalso; rw [← h] at hb; simp [hasTmpPrefix, String.toList_append] at hb
  · exfalso; rw [h] at ha; simp [hasTmpPrefix, String.toList_append] at ha
  · exact h

end NitroVerif.SchemaDecls
