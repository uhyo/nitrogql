import NitroVerif.Spec.JsonText
/-!
# C12, text level — number tokens are read back whatever follows them (if it cannot continue a number)

`number_append`: if `number s = some (raw, r)` and `rest` does not begin with a character that could continue a number (a digit,
`.`, `e`, `E`), then `number (s ++ rest) = some (raw, r ++ rest)`. With `number r = some (r, [])` (the text `r` is ONE number
token, RFC 8259 §6) that is `number (r ++ rest) = some (r, rest)`.
-/
namespace NitroVerif.JsonText
open NitroVerif

/-- the characters that can continue a number token -/
def numCont (c : Char) : Bool := isDigit c || c = '.' || c = 'e' || c = 'E'

/-- the text behind a value does not continue a number token -/
def Delim (rest : List Char) : Prop := ∀ c r, rest = c :: r → numCont c = false

theorem delim_nil : Delim [] := by intro c r h; cases h

theorem delim_cons {c : Char} {r : List Char} (h : numCont c = false) : Delim (c :: r) := by
  intro c' r' e; cases e; exact h

theorem digits_append (s rest : List Char) (hd : Delim rest) :
    digits (s ++ rest) = ((digits s).1, (digits s).2 ++ rest) := by
  induction s with
  | nil =>
    cases rest with
    | nil => simp [digits]
    | cons c r =>
      have := hd c r rfl
      simp [numCont] at this
      simp [digits, this.1.1.1]
  | cons c s ih =>
    by_cases h : isDigit c = true
    · simp [digits, h, ih]
    · simp [digits, h]

theorem intPart_append {s i r : List Char} (rest : List Char) (hd : Delim rest) (h : intPart s = some (i, r)) :
    intPart (s ++ rest) = some (i, r ++ rest) := by
  cases s with
  | nil => simp [intPart] at h
  | cons c cs =>
    simp only [intPart] at h
    simp only [List.cons_append, intPart]
    split at h
    · rename_i h0; simp only [Option.some.injEq, Prod.mk.injEq] at h; simp [h0, ← h.1, ← h.2]
    · rename_i h0
      split at h
      · rename_i h1
        simp only [Option.some.injEq, Prod.mk.injEq] at h
        simp [h0, h1, digits_append cs rest hd, ← h.1, ← h.2]
      · cases h

theorem fracPart_append {s x r : List Char} (rest : List Char) (hd : Delim rest) (h : fracPart s = some (x, r)) :
    fracPart (s ++ rest) = some (x, r ++ rest) := by
  cases s with
  | nil =>
    simp only [fracPart, Option.some.injEq, Prod.mk.injEq] at h
    rw [← h.1, ← h.2]
    cases rest with
    | nil => simp [fracPart]
    | cons c r' =>
      have := hd c r' rfl
      simp [numCont] at this
      simp [fracPart, this.1.1.2]
  | cons c cs =>
    simp only [fracPart] at h
    simp only [List.cons_append, fracPart]
    split at h
    · rename_i h0
      split at h
      · cases h
      · rename_i h1
        simp only [Option.some.injEq, Prod.mk.injEq] at h
        simp [h0, digits_append cs rest hd, h1, ← h.1, ← h.2]
    · rename_i h0
      simp only [Option.some.injEq, Prod.mk.injEq] at h
      simp [h0, ← h.1, ← h.2]

theorem expDigits_append {pre s x r : List Char} (rest : List Char) (hd : Delim rest)
    (h : expDigits pre s = some (x, r)) : expDigits pre (s ++ rest) = some (x, r ++ rest) := by
  unfold expDigits at h ⊢
  split at h
  · cases h
  · rename_i h1
    simp only [Option.some.injEq, Prod.mk.injEq] at h
    simp [digits_append s rest hd, h1, ← h.1, ← h.2]

theorem expPart_append {s x r : List Char} (rest : List Char) (hd : Delim rest) (h : expPart s = some (x, r)) :
    expPart (s ++ rest) = some (x, r ++ rest) := by
  cases s with
  | nil =>
    simp only [expPart, Option.some.injEq, Prod.mk.injEq] at h
    rw [← h.1, ← h.2]
    cases rest with
    | nil => simp [expPart]
    | cons c r' =>
      have := hd c r' rfl
      simp [numCont] at this
      simp [expPart, this.1.2, this.2]
  | cons c cs =>
    simp only [expPart] at h
    simp only [List.cons_append, expPart]
    split at h
    · rename_i h0
      cases cs with
      | nil => simp at h
      | cons d ds =>
        simp only at h
        simp only [List.cons_append, h0, if_true]
        split at h
        · rename_i h1
          simp only [h1, if_true]
          exact expDigits_append rest hd h
        · rename_i h1
          simp only [h1, if_false]
          exact expDigits_append (s := d :: ds) rest hd h
    · rename_i h0
      simp only [Option.some.injEq, Prod.mk.injEq] at h
      simp [h0, ← h.1, ← h.2]

/-- `int [frac] [exp]` behind the optional sign `sg`: the part of `number` that does not look at the sign -/
def numberFrom (sg s : List Char) : Option (List Char × List Char) :=
  match intPart s with
  | none => none
  | some (i, r1) =>
    match fracPart r1 with
    | none => none
    | some (f, r2) =>
      match expPart r2 with
      | none => none
      | some (e, r3) => some (sg ++ i ++ f ++ e, r3)

theorem number_cons (c : Char) (cs : List Char) :
    number (c :: cs) = if c = '-' then numberFrom ['-'] cs else numberFrom [] (c :: cs) := by
  by_cases hc : c = '-'
  · subst hc; rfl
  · rw [if_neg hc]; simp only [number, numberFrom, hc, if_false]; rfl

theorem numberFrom_append {sg s raw r : List Char} (rest : List Char) (hd : Delim rest)
    (h : numberFrom sg s = some (raw, r)) : numberFrom sg (s ++ rest) = some (raw, r ++ rest) := by
  unfold numberFrom at h ⊢
  cases hi : intPart s with
  | none => simp [hi] at h
  | some p1 =>
    simp only [hi] at h
    rw [intPart_append rest hd hi]
    cases hf : fracPart p1.2 with
    | none => simp [hf] at h
    | some p2 =>
      simp only [hf] at h
      simp only [fracPart_append rest hd hf]
      cases he : expPart p2.2 with
      | none => simp [he] at h
      | some p3 =>
        simp only [he, Option.some.injEq, Prod.mk.injEq] at h
        simp only [expPart_append rest hd he]
        simp [← h.1, ← h.2]

theorem number_append {s raw r : List Char} (rest : List Char) (hd : Delim rest) (h : number s = some (raw, r)) :
    number (s ++ rest) = some (raw, r ++ rest) := by
  cases s with
  | nil => simp [number, intPart] at h
  | cons c cs =>
    rw [number_cons] at h
    rw [List.cons_append, number_cons]
    by_cases hc : c = '-'
    · rw [if_pos hc] at h ⊢; exact numberFrom_append rest hd h
    · rw [if_neg hc] at h ⊢; exact numberFrom_append rest hd h

theorem number_head {s raw r : List Char} (h : number s = some (raw, r)) :
    ∃ c cs, s = c :: cs ∧ (c = '-' ∨ isDigit c = true) := by
  cases s with
  | nil => simp [number, intPart] at h
  | cons c cs =>
    refine ⟨c, cs, rfl, ?_⟩
    by_cases hc : c = '-'
    · exact Or.inl hc
    · right
      rw [number_cons, if_neg hc, numberFrom] at h
      cases hi : intPart (c :: cs) with
      | none => simp [hi] at h
      | some p =>
        simp only [intPart] at hi
        split at hi
        · rename_i h0; subst h0; rfl
        · split at hi
          · assumption
          · cases hi

end NitroVerif.JsonText
