/-
C01/C02 refinement, specification side, part 1: an order-free description of CollectFields.

`InFlat S F o inc V ss t` — "the field occurrence `t` (response key, aliased?, field name, sub-selection) is collected
from the selection set `ss` for an object of type `o`" when a selection is kept iff `inc dirs`, entering inline fragments
and fragment spreads whose type condition applies, and never entering a fragment of `V`.  It is an inductive predicate,
so it has no fuel, no order and no visited set; `collectGo_spec` shows that the groups CollectFields (Spec/Exec.lean,
work list + visitedFragments) returns contain exactly these occurrences (with `V = []`: visiting a fragment once
loses nothing).
-/
import NitroVerif.Lemmas.OpTypes
namespace NitroVerif.OpTypes.Ref
open NitroVerif.Gql NitroVerif.Ts NitroVerif.Exec

/-- a collected field occurrence -/
structure FT where
  key : Name
  aliased : Bool
  name : Name
  sub : Option (List Selection)

abbrev Inc := List Directive → Bool

def keyOf (alias : Option (Name × Pos)) (name : Name) : Name :=
  match alias with
  | some (a, _) => a
  | none => name

/-- the type condition of an inline fragment applies (no condition: always) -/
def condApplies (S : Schema) (o : Name) : Option (Name × Pos) → Bool
  | some (t, _) => fragmentTypeApplies S o t
  | none => true

inductive InFlat (S : Schema) (F : Name → Option FragmentDef) (o : Name) (inc : Inc) (V : List Name) :
    List Selection → FT → Prop where
  | field {alias name p args ds sub rest} : inc ds = true →
      InFlat S F o inc V (.field alias name p args ds sub :: rest) ⟨keyOf alias name, isAliased alias name, name, sub⟩
  | inline {cond ds ss p rest t} : inc ds = true → condApplies S o cond = true → InFlat S F o inc V ss t →
      InFlat S F o inc V (.inline cond ds ss p :: rest) t
  | spread {nm np ds p rest f t} : inc ds = true → nm ∉ V → F nm = some f → fragmentTypeApplies S o f.cond = true →
      InFlat S F o inc V f.sel t → InFlat S F o inc V (.spread nm np ds p :: rest) t
  | tail {s rest t} : InFlat S F o inc V rest t → InFlat S F o inc V (s :: rest) t

section
variable {S : Schema} {F : Name → Option FragmentDef} {o : Name} {inc : Inc}

theorem inFlat_nil {V : List Name} {t : FT} : ¬ InFlat S F o inc V [] t := by
  intro h; cases h

theorem inFlat_append {V : List Name} {a b : List Selection} {t : FT} :
    InFlat S F o inc V (a ++ b) t ↔ InFlat S F o inc V a t ∨ InFlat S F o inc V b t := by
  induction a with
  | nil => simp [inFlat_nil]
  | cons s a ih =>
    constructor
    · intro h
      rw [List.cons_append] at h
      cases h with
      | field hi => exact Or.inl (.field hi)
      | inline hi hc hs => exact Or.inl (.inline hi hc hs)
      | spread hi hv hf ha hs => exact Or.inl (.spread hi hv hf ha hs)
      | tail hr =>
        rcases ih.1 hr with h | h
        · exact Or.inl (.tail h)
        · exact Or.inr h
    · rintro (h | h)
      · rw [List.cons_append]
        cases h with
        | field hi => exact .field hi
        | inline hi hc hs => exact .inline hi hc hs
        | spread hi hv hf ha hs => exact .spread hi hv hf ha hs
        | tail hr => exact .tail (ih.2 (Or.inl hr))
      · rw [List.cons_append]; exact .tail (ih.2 (Or.inr h))

theorem inFlat_mono {V V' : List Name} (hV : ∀ x ∈ V, x ∈ V') {ss : List Selection} {t : FT}
    (h : InFlat S F o inc V' ss t) : InFlat S F o inc V ss t := by
  induction h with
  | field hi => exact .field hi
  | inline hi hc _ ih => exact .inline hi hc ih
  | spread hi hv hf ha _ ih => exact .spread hi (fun hm => hv (hV _ hm)) hf ha ih
  | tail _ ih => exact .tail ih

theorem inFlat_split {V : List Name} (nm : Name) {ss : List Selection} {t : FT}
    (h : InFlat S F o inc V ss t) :
    InFlat S F o inc (nm :: V) ss t ∨
      ∃ f, F nm = some f ∧ fragmentTypeApplies S o f.cond = true ∧ InFlat S F o inc (nm :: V) f.sel t := by
  induction h with
  | field hi => exact Or.inl (.field hi)
  | inline hi hc _ ih =>
    rcases ih with h | h
    · exact Or.inl (.inline hi hc h)
    · exact Or.inr h
  | @spread m np ds p rest f t hi hv hf ha _ ih =>
    rcases ih with h | h
    · by_cases hm : m = nm
      · subst hm; exact Or.inr ⟨f, hf, ha, h⟩
      · exact Or.inl (.spread hi (by simp [hm, hv]) hf ha h)
    · exact Or.inr h
  | tail _ ih =>
    rcases ih with h | h
    · exact Or.inl (.tail h)
    · exact Or.inr h

theorem inFlat_cons_iff {V : List Name} {s : Selection} {rest : List Selection} {t : FT} :
    InFlat S F o inc V (s :: rest) t ↔ InFlat S F o inc V [s] t ∨ InFlat S F o inc V rest t :=
  inFlat_append (a := [s])

theorem inFlat_field_iff {V : List Name} {alias : Option (Name × Pos)} {name : Name} {p : Pos} {args : List Arg}
    {ds : List Directive} {sub : Option (List Selection)} {t : FT} :
    InFlat S F o inc V [.field alias name p args ds sub] t ↔
      inc ds = true ∧ t = ⟨keyOf alias name, isAliased alias name, name, sub⟩ := by
  constructor
  · intro h
    cases h with
    | field hi => exact ⟨hi, rfl⟩
    | tail hr => exact absurd hr inFlat_nil
  · rintro ⟨hi, rfl⟩; exact .field hi

theorem inFlat_inline_iff {V : List Name} {cond : Option (Name × Pos)} {ds : List Directive} {ss : List Selection}
    {p : Pos} {t : FT} :
    InFlat S F o inc V [.inline cond ds ss p] t ↔
      inc ds = true ∧ condApplies S o cond = true ∧ InFlat S F o inc V ss t := by
  constructor
  · intro h
    cases h with
    | inline hi hc hs => exact ⟨hi, hc, hs⟩
    | tail hr => exact absurd hr inFlat_nil
  · rintro ⟨hi, hc, hs⟩; exact .inline hi hc hs

theorem inFlat_spread_iff {V : List Name} {nm : Name} {np : Pos} {ds : List Directive} {p : Pos} {t : FT} :
    InFlat S F o inc V [.spread nm np ds p] t ↔
      inc ds = true ∧ nm ∉ V ∧
        ∃ f, F nm = some f ∧ fragmentTypeApplies S o f.cond = true ∧ InFlat S F o inc V f.sel t := by
  constructor
  · intro h
    cases h with
    | spread hi hv hf ha hs => exact ⟨hi, hv, _, hf, ha, hs⟩
    | tail hr => exact absurd hr inFlat_nil
  · rintro ⟨hi, hv, f, hf, ha, hs⟩; exact .spread hi hv hf ha hs

theorem inFlat_excluded {V : List Name} {s : Selection} {t : FT} (hi : inc (selDirs s) = false) :
    ¬ InFlat S F o inc V [s] t := by
  intro h
  cases s with
  | field => exact absurd ((inFlat_field_iff.1 h).1.symm.trans hi) (by decide)
  | inline => exact absurd ((inFlat_inline_iff.1 h).1.symm.trans hi) (by decide)
  | spread => exact absurd ((inFlat_spread_iff.1 h).1.symm.trans hi) (by decide)

theorem inFlat_pass {V : List Name} {nm : Name} (hna : ∀ f, F nm = some f → fragmentTypeApplies S o f.cond = false)
    {ss : List Selection} {t : FT} : InFlat S F o inc (nm :: V) ss t ↔ InFlat S F o inc V ss t := by
  refine ⟨inFlat_mono fun x hx => List.mem_cons_of_mem _ hx, fun h => ?_⟩
  rcases inFlat_split nm h with h | ⟨f, hf, ha, _⟩
  · exact h
  · rw [hna f hf] at ha; cases ha

theorem inFlat_enter {V : List Name} {nm : Name} {fd : FragmentDef} (hF : F nm = some fd) {rest : List Selection}
    {t : FT} : InFlat S F o inc (nm :: V) (fd.sel ++ rest) t ↔ InFlat S F o inc V fd.sel t ∨ InFlat S F o inc V rest t := by
  have up : ∀ {L : List Selection}, InFlat S F o inc (nm :: V) L t → InFlat S F o inc V L t :=
    inFlat_mono fun x hx => List.mem_cons_of_mem _ hx
  have down : ∀ {L : List Selection}, InFlat S F o inc V L t →
      InFlat S F o inc (nm :: V) L t ∨ InFlat S F o inc (nm :: V) fd.sel t := by
    intro L h
    rcases inFlat_split nm h with h | ⟨f, hf, _, h⟩
    · exact Or.inl h
    · rw [hF] at hf; cases hf; exact Or.inr h
  rw [inFlat_append]
  constructor
  · exact Or.imp up up
  · rintro (h | h)
    · exact Or.inl ((down h).elim id id)
    · exact (down h).symm

end

/-- the field `f` is in the group of response key `k` -/
def InG (g : Groups) (k : Name) (f : CField) : Prop := ∃ fs, (k, fs) ∈ g ∧ f ∈ fs

theorem inG_nil {k : Name} {f : CField} : ¬ InG [] k f := by
  rintro ⟨fs, h, _⟩; cases h

theorem addField_cases (key : Name) (f : CField) : ∀ (g : Groups),
    (∃ pre fs post, g = pre ++ (key, fs) :: post ∧ (∀ e ∈ pre, e.1 ≠ key) ∧
      addField key f g = pre ++ (key, fs ++ [f]) :: post) ∨
    ((∀ e ∈ g, e.1 ≠ key) ∧ addField key f g = g ++ [(key, [f])])
  | [] => Or.inr ⟨by simp, rfl⟩
  | (k0, fs0) :: r => by
    by_cases hk : k0 = key
    · subst hk
      exact Or.inl ⟨[], fs0, r, rfl, by simp, by simp [addField]⟩
    · have hk' : (k0 == key) = false := by simpa using hk
      rcases addField_cases key f r with ⟨pre, fs, post, rfl, hpre, h⟩ | ⟨hno, h⟩
      · exact Or.inl ⟨(k0, fs0) :: pre, fs, post, rfl, List.forall_mem_cons.2 ⟨hk, hpre⟩, by simp [addField, hk', h]⟩
      · exact Or.inr ⟨List.forall_mem_cons.2 ⟨hk, hno⟩, by simp [addField, hk', h]⟩

theorem inG_addField (key : Name) (f : CField) (g : Groups) (k : Name) (f' : CField) :
    InG (addField key f g) k f' ↔ InG g k f' ∨ (k = key ∧ f' = f) := by
  rcases addField_cases key f g with ⟨pre, fs, post, rfl, _, h⟩ | ⟨_, h⟩ <;> rw [h]
  · simp only [InG, List.mem_append, List.mem_cons, Prod.mk.injEq]
    constructor
    · rintro ⟨fs', (h1 | ⟨rfl, rfl⟩ | h1), hf⟩
      · exact Or.inl ⟨fs', Or.inl h1, hf⟩
      · rcases List.mem_append.1 hf with hf | hf
        · exact Or.inl ⟨fs, Or.inr (Or.inl ⟨rfl, rfl⟩), hf⟩
        · exact Or.inr ⟨rfl, by simpa using hf⟩
      · exact Or.inl ⟨fs', Or.inr (Or.inr h1), hf⟩
    · rintro (⟨fs', (h1 | ⟨rfl, rfl⟩ | h1), hf⟩ | ⟨rfl, rfl⟩)
      · exact ⟨fs', Or.inl h1, hf⟩
      · exact ⟨fs' ++ [f], Or.inr (Or.inl ⟨rfl, rfl⟩), List.mem_append.2 (Or.inl hf)⟩
      · exact ⟨fs', Or.inr (Or.inr h1), hf⟩
      · exact ⟨fs ++ [f'], Or.inr (Or.inl ⟨rfl, rfl⟩), by simp⟩
  · simp only [InG, List.mem_append, List.mem_singleton, Prod.mk.injEq]
    constructor
    · rintro ⟨fs', (h1 | ⟨rfl, rfl⟩), hf⟩
      · exact Or.inl ⟨fs', h1, hf⟩
      · exact Or.inr ⟨rfl, by simpa using hf⟩
    · rintro (⟨fs', h1, hf⟩ | ⟨rfl, rfl⟩)
      · exact ⟨fs', Or.inl h1, hf⟩
      · exact ⟨[f'], Or.inr ⟨rfl, rfl⟩, by simp⟩

/-- group lists are well formed: distinct keys, no empty group -/
def GroupsWF (g : Groups) : Prop := (g.map (·.1)).Nodup ∧ ∀ e ∈ g, e.2 ≠ []

theorem addField_wf (key : Name) (f : CField) (g : Groups) (hw : GroupsWF g) : GroupsWF (addField key f g) := by
  obtain ⟨hn, hne⟩ := hw
  rcases addField_cases key f g with ⟨pre, fs, post, rfl, _, h⟩ | ⟨hno, h⟩ <;> rw [h]
  · refine ⟨by simpa using hn, fun e he => ?_⟩
    rcases List.mem_append.1 he with he | he
    · exact hne e (List.mem_append.2 (Or.inl he))
    · rcases List.mem_cons.1 he with rfl | he
      · simp
      · exact hne e (List.mem_append.2 (Or.inr (List.mem_cons_of_mem _ he)))
  · refine ⟨?_, fun e he => ?_⟩
    · rw [List.map_append, List.nodup_append]
      refine ⟨hn, by simp, fun a ha b hb => ?_⟩
      obtain ⟨e, he, rfl⟩ := List.mem_map.1 ha
      simp only [List.map_cons, List.map_nil, List.mem_singleton] at hb
      exact hb ▸ hno e he
    · rcases List.mem_append.1 he with he | he
      · exact hne e he
      · simp only [List.mem_singleton] at he; subst he; simp

section
variable (c : Ctx) (σ : Sigma) (o : Name)

theorem collectGo_spec (n : Nat) : ∀ (L : List Selection) (V : List Name) (g0 g : Groups),
    collectGo c σ o n L V g0 = some g →
    (GroupsWF g0 → GroupsWF g) ∧
    ∀ k f, InG g k f ↔ InG g0 k f ∨ ∃ al, InFlat c.S c.F o (included σ) V L ⟨k, al, f.name, f.sub⟩ := by
  induction n with
  | zero =>
    intro L V g0 g h
    cases L with
    | nil =>
      simp only [collectGo] at h; cases h
      exact ⟨id, fun k f => by simp [inFlat_nil]⟩
    | cons _ _ => simp [collectGo] at h
  | succ n ih =>
    intro L V g0 g h
    cases L with
    | nil =>
      simp only [collectGo] at h; cases h
      exact ⟨id, fun k f => by simp [inFlat_nil]⟩
    | cons s rest =>
      -- the call continues with work list `L'` and visited set `V'` (same groups), which collect what `s :: rest` does
      have same : ∀ {L' : List Selection} {V' : List Name}, collectGo c σ o n L' V' g0 = some g →
          (∀ t, InFlat c.S c.F o (included σ) V' L' t ↔ InFlat c.S c.F o (included σ) V (s :: rest) t) →
          (GroupsWF g0 → GroupsWF g) ∧
          ∀ k f, InG g k f ↔
            InG g0 k f ∨ ∃ al, InFlat c.S c.F o (included σ) V (s :: rest) ⟨k, al, f.name, f.sub⟩ := by
        intro L' V' h hiff
        obtain ⟨hw, hg⟩ := ih L' V' g0 g h
        exact ⟨hw, fun k f => by rw [hg k f]; simp only [hiff]⟩
      simp only [collectGo] at h
      by_cases hinc : included σ (selDirs s) = true
      · simp only [hinc, Bool.not_true, Bool.false_eq_true, ↓reduceIte] at h
        cases s with
        | field alias name p args ds sub =>
          obtain ⟨hw, hg⟩ := ih rest V _ g h
          refine ⟨fun h0 => hw (addField_wf _ _ _ h0), fun k f => ?_⟩
          have hcons : ∀ t, InFlat c.S c.F o (included σ) V (.field alias name p args ds sub :: rest) t ↔
              t = ⟨keyOf alias name, isAliased alias name, name, sub⟩ ∨ InFlat c.S c.F o (included σ) V rest t := fun t => by
            rw [inFlat_cons_iff, inFlat_field_iff]; simp only [show included σ ds = true from hinc, true_and]
          simp only [hg k f, inG_addField, hcons, FT.mk.injEq]
          constructor
          · rintro ((h1 | ⟨rfl, rfl⟩) | ⟨al, h2⟩)
            · exact Or.inl h1
            · exact Or.inr ⟨_, Or.inl ⟨rfl, rfl, rfl, rfl⟩⟩
            · exact Or.inr ⟨al, Or.inr h2⟩
          · rintro (h1 | ⟨al, ⟨rfl, _, h3, h4⟩ | h2⟩)
            · exact Or.inl (Or.inl h1)
            · cases f; cases h3; cases h4; exact Or.inl (Or.inr ⟨rfl, rfl⟩)
            · exact Or.inr ⟨al, h2⟩
        | spread nm np ds p =>
          have hinc' : included σ ds = true := hinc
          by_cases hv : V.contains nm = true
          · simp only [hv, ↓reduceIte] at h
            have hv' : nm ∈ V := by simpa using hv
            exact same h fun t => by rw [inFlat_cons_iff]; simp [inFlat_spread_iff, hv']
          · have hv' : nm ∉ V := by simpa using hv
            simp only [hv, Bool.false_eq_true, ↓reduceIte] at h
            have pass : collectGo c σ o n rest (nm :: V) g0 = some g →
                (∀ f, c.F nm = some f → fragmentTypeApplies c.S o f.cond = false) → _ := fun h hna =>
              same h fun t => by
                rw [inFlat_pass hna, inFlat_cons_iff, inFlat_spread_iff]
                exact ⟨Or.inr, fun h' => h'.elim (fun ⟨_, _, f, hf, ha, _⟩ => by rw [hna f hf] at ha; cases ha) id⟩
            cases hF : c.F nm with
            | none =>
              simp only [hF] at h
              exact pass h fun f hf => by rw [hF] at hf; cases hf
            | some fd =>
              simp only [hF] at h
              by_cases ha : fragmentTypeApplies c.S o fd.cond = true
              · simp only [ha, ↓reduceIte] at h
                exact same h fun t => by
                  rw [inFlat_cons_iff]; simp [inFlat_enter hF, inFlat_spread_iff, hinc', hv', hF, ha]
              · have ha' : fragmentTypeApplies c.S o fd.cond = false := by simpa using ha
                simp only [ha', Bool.false_eq_true, ↓reduceIte] at h
                exact pass h fun f hf => by rw [hF] at hf; cases hf; exact ha'
        | inline cond ds ss p =>
          have hinc' : included σ ds = true := hinc
          by_cases hc : condApplies c.S o cond = true
          · have h' : collectGo c σ o n (ss ++ rest) V g0 = some g := by
              cases cond with
              | none => exact h
              | some tc => simpa only [show fragmentTypeApplies c.S o tc.1 = true from hc, ↓reduceIte] using h
            exact same h' fun t => by rw [inFlat_cons_iff]; simp [inFlat_append, inFlat_inline_iff, hinc', hc]
          · have hc' : condApplies c.S o cond = false := by simpa using hc
            cases cond with
            | none => cases hc'
            | some tc =>
              simp only [show fragmentTypeApplies c.S o tc.1 = false from hc', Bool.false_eq_true, ↓reduceIte] at h
              exact same h fun t => by rw [inFlat_cons_iff]; simp [inFlat_inline_iff, hc']
      · have hinc' : included σ (selDirs s) = false := by simpa using hinc
        simp only [hinc', Bool.not_false, ↓reduceIte] at h
        exact same h fun t => by rw [inFlat_cons_iff]; simp [inFlat_excluded hinc']

theorem collectFields_spec {ss : List Selection} {g : Groups} (h : collectFields c σ o ss = some g) :
    GroupsWF g ∧ ∀ k f, InG g k f ↔ ∃ al, InFlat c.S c.F o (included σ) [] ss ⟨k, al, f.name, f.sub⟩ := by
  obtain ⟨hw, hg⟩ := collectGo_spec c σ o c.fuel ss [] [] g h
  refine ⟨hw ⟨by simp, by simp⟩, fun k f => ?_⟩
  rw [hg k f]; simp [inG_nil]

end
end NitroVerif.OpTypes.Ref
