/-
The `Field` rule up to its selection set — optional alias, name, optional arguments, optional directives in front of any
continuation (`headK`) — and the function the builder maps over the children of a selection set (`selFn`).
-/
import NitroVerif.Lemmas.ParseDocSelText
import NitroVerif.Lemmas.ParseDocBraced
namespace NitroVerif.DocParse
open NitroVerif.Peg NitroVerif.Gen NitroVerif.Gen.Parts NitroVerif.Build NitroVerif.TypeParse NitroVerif.StringParse
open NitroVerif.Gql NitroVerif.ValueParse NitroVerif.Spec.Lex

theorem look_Selection : gList.look R.Selection =
    some (.normal, .choice (.call R.Field) (.choice (.call R.FragmentSpread) (.call R.InlineFragment))) := rfl
theorem look_FragmentName : gList.look R.FragmentName =
    some (.normal, .seq (.not (.call R.KEYWORD_on)) (.call R.Name)) := rfl
theorem look_KEYWORD_on : gList.look R.KEYWORD_on =
    some (.atomic, .seq (.str ['o', 'n']) (.not (.call R.NameContinue))) := rfl

variable {inp : List Char}

theorem optArgsT (τ : Trivia) (hτ : ∀ q, Ws (τ q)) (args : List Arg) (hwf : WFFs args) {sep : Bool} {p : Nat}
    {bad : Char → Prop} (hb : bad '(') (h : HasAt inp p (rOptArgs τ sep p args))
    (hn : Nxt inp bad sep (p + (rOptArgs τ sep p args).length)) :
    ∃ o, ReadsOpt inp 1 R.Arguments p (rOptArgs τ sep p args) (optArgs (Ctx.spec inp))
        (withPosFs τ inp (p + 1) true args) o ∧
      Nxt inp (fun c => bad c ∧ c ≠ '(') (sep && args.isEmpty) p := by
  cases args with
  | nil => exact ⟨_, .none (args_fails ((hn : Nxt inp bad sep p).ne hb)) hn.tok (by decide) fun _ => rfl, hn.beforeNil⟩
  | cons a as =>
    exact ⟨_, Reads.opt (bld := buildArguments (Ctx.spec inp))
      ⟨argsP τ hτ (a :: as) (List.cons_ne_nil _ _) hwf h hn.tok, rfl, rfl, fun fuel hf =>
        buildArguments_argsPair τ inp (a :: as) p _ fuel h.left.drop
          (Nat.le_trans (sizeFields_le_args τ (a :: as) hwf p) (fuel_left hf))⟩ fun _ => rfl,
      .beforeHd h (hd_tk (hd_renderArgs τ p _)) (by decide)⟩

abbrev headBad : Char → Prop := fun c => c = '(' ∨ c = '@' ∨ c = ':'

/-- what the builder needs to know of the pairs of a field head -/
structure HeadB (τ : Trivia) (inp : List Char) (sD : Bool) (p : Nat) (al : Option (Name × Pos)) (n : Name)
    (args : List Arg) (dirs : List Directive) (oA oG oD : Option Pair) : Prop where
  alias : (al = none ∧ oA = none) ∨ ∃ a ap e, al = some (a, ap) ∧
    oA = some (.mk R.Alias p e [.mk R.Name p (p + a.toList.length) []]) ∧ HasAt inp p a.toList
  name : HasAt inp (hOffN τ p al) n.toList
  argsRule : ∀ x ∈ oG, x.rule = R.Arguments
  argsB : ∀ fuel, (rHead τ sD p al n args dirs).length ≤ fuel →
    optArgs (Ctx.spec inp) fuel oG = .ok (withPosFs τ inp (hOffG τ sD p al n args dirs + 1) true args)
  dirsRule : ∀ x ∈ oD, x.rule = R.Directives
  dirsB : ∀ fuel, (rHead τ sD p al n args dirs).length ≤ fuel →
    optDirs (Ctx.spec inp) fuel oD = .ok (wpDirs τ inp sD (hOffD τ sD p al n args dirs) dirs)

/-- Not a `Front`: without an alias the `Alias` rule reads the name before it fails at the missing `:`, and that depth is
    paid for by the text of what follows (`PartT.opt_none_seq`). -/
theorem headK (τ : Trivia) (hτ : ∀ q, Ws (τ q)) (al : Option (Name × Pos)) (n : Name) (args : List Arg)
    (dirs : List Directive) (hal : ∀ a ∈ al, validName a.1.toList) (hnm : validName n.toList) (hargs : WFFs args)
    (hdirs : WFDirs dirs) {sD : Bool} {p : Nat} (h : HasAt inp p (rHead τ sD p al n args dirs))
    (hnx : Nxt inp headBad sD (p + (rHead τ sD p al n args dirs).length)) :
    ∃ oA oG oD : Option Pair,
      (∀ {K : Nat} {T : Expr} {tT : List Char} {psT : List Pair}, K ≤ 21 →
        Part inp K T (p + (rHead τ sD p al n args dirs).length) tT psT →
        Part inp 26 (.seq (.opt (.call R.Alias)) (.seq (.call R.Name) (.seq (.opt (.call R.Arguments))
            (.seq (.opt (.call R.Directives)) T)))) p (rHead τ sD p al n args dirs ++ tT)
          (oA.toList ++ ([.mk R.Name (hOffN τ p al) (hOffN τ p al + n.toList.length) []] ++
            (oG.toList ++ (oD.toList ++ psT))))) ∧
      (∀ x ∈ oA, x.rule = R.Alias) ∧ HeadB τ inp sD p al n args dirs oA oG oD := by
  simp only [rHead] at h hnx
  have g2 := h.right.left
  have g3 := h.right.right.left
  have g4 := h.right.right.right
  -- what follows the directives, the arguments, the name
  obtain ⟨oD, D, n3⟩ := optDirsT τ hτ dirs hdirs (by decide) (by decide) g4 hnx.app.app.app
  obtain ⟨oG, G, n2⟩ := optArgsT τ hτ args hargs (by decide) g3 n3
  have hdN := hd_tk (τ := τ) (sep := sD && dirs.isEmpty && args.isEmpty) (p := p + (rAlias τ p al).length)
    (hd_of_validName hnm)
  have rN := nameP hτ hnm g2 n2
  -- everything but the alias
  have rest : ∀ {K : Nat} {T : Expr} {tT : List Char} {psT : List Pair}, K ≤ 21 →
      Part inp K T (p + (rHead τ sD p al n args dirs).length) tT psT → Part inp 24 _ _ _ _ := fun hK hT =>
    rN.seq ((G.part.mono (by decide : 1 + 1 ≤ 5)).seq (D.part.seq ((PartT.app (PartT.app (PartT.app hT))).mono hK)))
  have hB : ∀ oA, ((al = none ∧ oA = none) ∨ ∃ a ap e, al = some (a, ap) ∧
      oA = some (.mk R.Alias p e [.mk R.Name p (p + a.toList.length) []]) ∧ HasAt inp p a.toList) →
      HeadB τ inp sD p al n args dirs oA oG oD := fun oA hA =>
    ⟨hA, g2.left, G.rule, fun fuel hf => G.build fuel (fuel_left (fuel_right (fuel_right hf))), D.rule,
      fun fuel hf => D.build fuel (fuel_right (fuel_right (fuel_right hf)))⟩
  cases al with
  | none =>
    -- `Alias` reads the name and fails at the missing `:`
    have hf := fails_rule (r := R.Alias) rfl (rN.fails_seq_le (str_fails (x := ':') (xs := [])
      (headNot_mono (fun c (hc : c = ':') => ⟨⟨hc ▸ by decide, hc ▸ by decide⟩, hc ▸ by decide⟩) n2.ok)) (by decide))
    refine ⟨none, oG, oD, fun hK hT => ?_, (fun x hx => by cases hx), hB _ (Or.inl ⟨rfl, rfl⟩)⟩
    simp only [rHead, List.append_assoc]
    exact (PartT.opt_none_seq hf (tok_of_hd g2 hdN fun d => nameStart_not_trivia) (rest hK hT)
      (le_B_append (Nat.add_le_add_left (by decide : 3 ≤ 24) _))).mono (by decide)
  | some ap =>
    obtain ⟨a, apos⟩ := ap
    have r1 := nameP hτ (hal (a, apos) rfl) h.left.left (bad := fun _ => False)
      (Nxt.of_hd h.left.right (hd_tk (hd_cons (P := (· = ':')) _ rfl)) (by rintro c rfl; decide))
    have r2 := strP hτ [':'] h.left.right
      (Nxt.of_name g2 hdN).app.tok
    obtain ⟨e, rA⟩ := PartT.rule (r := R.Alias) rfl (r1.seq r2)
    refine ⟨some (.mk R.Alias p e [.mk R.Name p (p + a.toList.length) []]), oG, oD, fun hK hT => ?_,
      (fun x hx => by cases hx; rfl), hB _ (Or.inr ⟨a, apos, e, rfl, rfl, h.left.left.left⟩)⟩
    simp only [rHead, List.append_assoc]
    exact (rA.opt_some.seq (rest hK hT)).mono (by decide)

/-- the function `build_selection_set` maps over the `Selection` children (selection_set.rs); it occurs in the statement
    of `render_parse_selection`, and `buildSelectionSet_eq` is its justification -/
def selFn (ctx : Ctx) (fuel : Nat) : Pair → M Gql.Selection := fun s => do
  let c ← onlyChildOf OC_Selection "Selection" s
  if c.rule = R.Field then
    match ← matchParts P_Field c.children with
    | [alias, some name, args, dirs, sel] =>
      let alias ← match alias with
        | some a => do
          let n ← onlyChildOf OC_Alias "Alias" a
          pure (some (ident ctx n))
        | none => pure none
      let args ← optArgs ctx fuel args
      let dirs ← optDirs ctx fuel dirs
      let sel ← match sel with
        | some ss => do
          let r ← buildSelectionSet ctx fuel ss
          pure (some r)
        | none => pure none
      .ok (.field alias (asString ctx name) (toPos ctx name) args dirs sel)
    | _ => .error (.modelBug "Field")
  else if c.rule = R.FragmentSpread then
    let pos := toPos ctx c
    match ← matchParts P_FragmentSpread c.children with
    | [some name, dirs] =>
      let dirs ← optDirs ctx fuel dirs
      .ok (.spread (asString ctx name) (toPos ctx name) dirs pos)
    | _ => .error (.modelBug "FragmentSpread")
  else if c.rule = R.InlineFragment then
    let pos := toPos ctx c
    match ← matchParts P_InlineFragment c.children with
    | [tc, dirs, some ss] =>
      let cond ← match tc with
        | some t => do
          let i ← typeConditionIdent ctx t
          pure (some i)
        | none => pure none
      let dirs ← optDirs ctx fuel dirs
      let sel ← buildSelectionSet ctx fuel ss
      .ok (.inline cond dirs sel pos)
    | _ => .error (.modelBug "InlineFragment")
  else .error (.modelBug "Selection")

theorem buildSelectionSet_eq (ctx : Ctx) (fuel : Nat) (s e : Nat) (cs : List Pair)
    (hcs : allChildrenGo AC_SelectionSet cs = .ok ()) :
    buildSelectionSet ctx (fuel + 1) (.mk R.SelectionSet s e cs) = cs.mapM (selFn ctx fuel) := by
  have h : allChildren AC_SelectionSet (.mk R.SelectionSet s e cs) = .ok cs := by
    simp only [allChildren, Pair.children, hcs, bind, Except.bind]
  rw [buildSelectionSet, h]
  rfl

/-- the optional selection set of a field, as `build_field` treats it -/
def optSelB (ctx : Ctx) (fuel : Nat) : Option Pair → M (Option (List Selection))
  | some ss => match buildSelectionSet ctx fuel ss with
    | .ok r => .ok (some r)
    | .error e => .error e
  | none => .ok none

theorem selFn_field_slots (ctx : Ctx) (fuel p e e' : Nat) (cs : List Pair) (oA oG oD oS : Option Pair) (nm : Pair)
    (al : Option (Name × Pos)) (args : List Arg) (dirs : List Directive) (sel : Option (List Selection))
    (hm : matchParts P_Field cs = .ok [oA, some nm, oG, oD, oS])
    (hA : (oA = none ∧ al = none) ∨ ∃ a s t, oA = some (.mk R.Alias s t [a]) ∧ al = some (ident ctx a))
    (hG : optArgs ctx fuel oG = .ok args) (hD : optDirs ctx fuel oD = .ok dirs) (hS : optSelB ctx fuel oS = .ok sel) :
    selFn ctx fuel (.mk R.Selection p e' [.mk R.Field p e cs]) =
      .ok (.field al (asString ctx nm) (toPos ctx nm) args dirs sel) := by
  unfold selFn
  cases oS with
  | none =>
    cases hS
    rcases hA with ⟨rfl, rfl⟩ | ⟨a, s, t, rfl, rfl⟩ <;>
      simp [onlyChildOf, onlyChild, Pair.children, OC_Selection, OC_Alias, Pair.rule, bind, Except.bind, hm, hG, hD,
        pure, Except.pure]
  | some ss =>
    simp only [optSelB] at hS
    cases hb : buildSelectionSet ctx fuel ss with
    | error err => rw [hb] at hS; cases hS
    | ok r =>
      rw [hb] at hS
      cases hS
      rcases hA with ⟨rfl, rfl⟩ | ⟨a, s, t, rfl, rfl⟩ <;>
        simp [onlyChildOf, onlyChild, Pair.children, OC_Selection, OC_Alias, Pair.rule, bind, Except.bind, hm, hG, hD,
          hb, pure, Except.pure]

theorem selFn_spread_slots (ctx : Ctx) (fuel p e e' : Nat) (cs : List Pair) (nm : Pair) (oD : Option Pair)
    (dirs : List Directive) (hm : matchParts P_FragmentSpread cs = .ok [some nm, oD])
    (hD : optDirs ctx fuel oD = .ok dirs) :
    selFn ctx fuel (.mk R.Selection p e' [.mk R.FragmentSpread p e cs]) =
      .ok (.spread (asString ctx nm) (toPos ctx nm) dirs (toPos ctx (.mk R.FragmentSpread p e cs))) := by
  unfold selFn
  simp [onlyChildOf, onlyChild, Pair.children, OC_Selection, Pair.rule, bind, Except.bind, hm, hD, R.Field,
    R.FragmentSpread]

/-- the type condition as `build_inline_fragment` treats the optional pair -/
def optCondB (ctx : Ctx) : Option Pair → M (Option (Name × Pos))
  | some t => do
    let i ← typeConditionIdent ctx t
    pure (some i)
  | none => pure none

theorem selFn_inline_slots (ctx : Ctx) (fuel p e e' : Nat) (cs : List Pair) (oC oD : Option Pair) (prS : Pair)
    (cond : Option (Name × Pos)) (dirs : List Directive) (sel : List Selection)
    (hm : matchParts P_InlineFragment cs = .ok [oC, oD, some prS])
    (hC : optCondB ctx oC = .ok cond)
    (hD : optDirs ctx fuel oD = .ok dirs) (hS : buildSelectionSet ctx fuel prS = .ok sel) :
    selFn ctx fuel (.mk R.Selection p e' [.mk R.InlineFragment p e cs]) =
      .ok (.inline cond dirs sel (toPos ctx (.mk R.InlineFragment p e cs))) := by
  unfold selFn
  cases oC with
  | none =>
    cases hC
    simp [onlyChildOf, onlyChild, Pair.children, OC_Selection, Pair.rule, bind, Except.bind, hm, hD, hS, pure,
      Except.pure, R.Field, R.FragmentSpread, R.InlineFragment]
  | some t =>
    cases hi : typeConditionIdent ctx t with
    | error err => simp [optCondB, hi, bind, Except.bind] at hC
    | ok i =>
      simp only [optCondB, hi, bind, Except.bind, pure, Except.pure, Except.ok.injEq] at hC
      subst hC
      simp [onlyChildOf, onlyChild, Pair.children, OC_Selection, Pair.rule, bind, Except.bind, hm, hD, hS, hi, pure,
        Except.pure, R.Field, R.FragmentSpread, R.InlineFragment]

theorem selFn_field (τ : Trivia) (inp : List Char) (fuel : Nat) (sD : Bool) (p : Nat) (al : Option (Name × Pos)) (n : Name)
    (args : List Arg) (dirs : List Directive) (oA oG oD oS : Option Pair) (e e' : Nat) (selW : Option (List Selection))
    (hB : HeadB τ inp sD p al n args dirs oA oG oD) (hA : ∀ x ∈ oA, x.rule = R.Alias)
    (hS : ∀ x ∈ oS, x.rule = R.SelectionSet) (hfuel : (rHead τ sD p al n args dirs).length ≤ fuel)
    (hsel : optSelB (Ctx.spec inp) fuel oS = .ok selW) :
    selFn (Ctx.spec inp) fuel (.mk R.Selection p e' [.mk R.Field p e
      (oA.toList ++ ([.mk R.Name (hOffN τ p al) (hOffN τ p al + n.toList.length) []] ++
        (oG.toList ++ (oD.toList ++ oS.toList))))]) =
      .ok (wpField τ inp sD p al n args dirs selW) := by
  have hm := matchParts_slots P_Field
    [oA, some (.mk R.Name (hOffN τ p al) (hOffN τ p al + n.toList.length) []), oG, oD, oS] (by decide)
    ⟨hA, ⟨_, rfl, rfl⟩, hB.argsRule, hB.dirsRule, hS, trivial⟩
  simp only [slotPairs, Option.toList_some] at hm
  have hal : (oA = none ∧ wpAlias inp p al = none) ∨
      ∃ a s t, oA = some (.mk R.Alias s t [a]) ∧ wpAlias inp p al = some (ident (Ctx.spec inp) a) := by
    rcases hB.alias with ⟨rfl, rfl⟩ | ⟨a, ap, ea, rfl, rfl, ha⟩
    · exact Or.inl ⟨rfl, rfl⟩
    · exact Or.inr ⟨_, _, _, rfl, by simp [wpAlias, ident, asString_spec', toPos_spec', Pair.start, Pair.stop, ha.slice]⟩
  rw [selFn_field_slots _ fuel p e e' _ oA oG oD oS _ _ _ _ selW hm hal (hB.argsB fuel hfuel) (hB.dirsB fuel hfuel) hsel]
  simp [wpField, asString_spec', toPos_spec', Pair.start, Pair.stop, hB.name.slice]

end NitroVerif.DocParse
