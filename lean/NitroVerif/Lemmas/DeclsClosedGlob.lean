/-
Binding time (`globalise`) and the body constructions of the declaration printers:
* `globalise` commutes with `tsOf` / `objectBodyL` / `inputBodyL` / `membersBodyL` / `optFieldTy` (the stored body of
  an alias is the body over the globalised leaves);
* `globalise` leaves a type unchanged when none of its free names is bound (configured scalar texts);
* membership in a type without absolute references does not depend on the declaration table.
-/
import NitroVerif.Model.SchemaDecls
import NitroVerif.Model.VarTypes
import NitroVerif.Lemmas.TsSemSound
namespace NitroVerif.Ts

mutual
/-- the names a type mentions as references (`X`) or as heads of qualified references (`X.y.z`) -/
def Ty.freeNames : Ty → List String
  | .ref n => [n]
  | .qref p => match p with | n :: _ => [n] | [] => []
  | .app f as => f.freeNames ++ Ty.freeNamesList as
  | .obj fs => Ty.freeNamesFields fs
  | .arr t => t.freeNames
  | .roArr t => t.freeNames
  | .union ts => Ty.freeNamesList ts
  | .inter ts => Ty.freeNamesList ts
  | .fn ps r => Ty.freeNamesParams ps ++ r.freeNames
  | .index t k => t.freeNames ++ k.freeNames
  | .tuple ts => Ty.freeNamesList ts
  | _ => []
def Ty.freeNamesList : List Ty → List String
  | [] => []
  | t :: ts => t.freeNames ++ Ty.freeNamesList ts
def Ty.freeNamesFields : List (String × Bool × Bool × Ty) → List String
  | [] => []
  | (_, _, _, t) :: fs => t.freeNames ++ Ty.freeNamesFields fs
def Ty.freeNamesParams : List (String × Ty) → List String
  | [] => []
  | (_, t) :: ps => t.freeNames ++ Ty.freeNamesParams ps
end

/-- from `sc`, the name `n` denotes nothing: neither as a type nor as the head of a qualified reference -/
def Unbound (D : Decls) (sc : Scope) (n : String) : Prop :=
  D.resolveRef sc n = none ∧ ∀ r rest, D.resolveQ sc (n :: r :: rest) = none

mutual
theorem globalise_id (D : Decls) (sc : Scope) : ∀ (t : Ty), (∀ n ∈ t.freeNames, Unbound D sc n) →
    globalise D sc [] t = t
  | .ref n, h => by
    have := (h n List.mem_cons_self).1
    simp [globalise, this]
  | .qref p, h => by
    cases p with
    | nil => simp [globalise]
    | cons n rest =>
      have hn := h n List.mem_cons_self
      cases rest with
      | nil => simp [globalise, Decls.resolveQ, hn.1]
      | cons r rest => simp [globalise, hn.2 r rest]
  | .app f as, h => by
    rw [globalise, globalise_id D sc f (fun n hn => h n (List.mem_append_left _ hn)),
      globaliseList_id D sc as (fun n hn => h n (List.mem_append_right _ hn))]
  | .obj fs, h => by rw [globalise, globaliseFields_id D sc fs h]
  | .arr t, h => by rw [globalise, globalise_id D sc t h]
  | .roArr t, h => by rw [globalise, globalise_id D sc t h]
  | .union ts, h => by rw [globalise, globaliseList_id D sc ts h]
  | .inter ts, h => by rw [globalise, globaliseList_id D sc ts h]
  | .fn ps r, h => by
    rw [globalise, globaliseParams_id D sc ps (fun n hn => h n (List.mem_append_left _ hn)),
      globalise_id D sc r (fun n hn => h n (List.mem_append_right _ hn))]
  | .index t k, h => by
    rw [globalise, globalise_id D sc t (fun n hn => h n (List.mem_append_left _ hn)),
      globalise_id D sc k (fun n hn => h n (List.mem_append_right _ hn))]
  | .tuple ts, h => by rw [globalise, globaliseList_id D sc ts h]
  | .prim _, _ => rfl
  | .strLit _, _ => rfl
  | .numLit _, _ => rfl
  | .other _ _, _ => rfl
theorem globaliseList_id (D : Decls) (sc : Scope) : ∀ (ts : List Ty), (∀ n ∈ Ty.freeNamesList ts, Unbound D sc n) →
    globaliseList D sc [] ts = ts
  | [], _ => rfl
  | t :: ts, h => by
    rw [globaliseList, globalise_id D sc t (fun n hn => h n (List.mem_append_left _ hn)),
      globaliseList_id D sc ts (fun n hn => h n (List.mem_append_right _ hn))]
theorem globaliseFields_id (D : Decls) (sc : Scope) : ∀ (fs : List (String × Bool × Bool × Ty)),
    (∀ n ∈ Ty.freeNamesFields fs, Unbound D sc n) → globaliseFields D sc [] fs = fs
  | [], _ => rfl
  | (k, r, o, t) :: fs, h => by
    rw [globaliseFields, globalise_id D sc t (fun n hn => h n (List.mem_append_left _ hn)),
      globaliseFields_id D sc fs (fun n hn => h n (List.mem_append_right _ hn))]
theorem globaliseParams_id (D : Decls) (sc : Scope) : ∀ (ps : List (String × Ty)),
    (∀ n ∈ Ty.freeNamesParams ps, Unbound D sc n) → globaliseParams D sc [] ps = ps
  | [], _ => rfl
  | (k, t) :: ps, h => by
    rw [globaliseParams, globalise_id D sc t (fun n hn => h n (List.mem_append_left _ hn)),
      globaliseParams_id D sc ps (fun n hn => h n (List.mem_append_right _ hn))]
end

mutual
/-- no absolute reference on the interpreted spine of the type (what a parser of TypeScript text produces), and every
    application on the spine has a head satisfying `p` (= a head no helper-type hook interprets) -/
def Ty.spine (p : Ty → Bool) : Ty → Bool
  | .other tag _ => tag != "abs"
  | .app f _ => p f
  | .obj fs => Ty.spineFields p fs
  | .arr t => t.spine p
  | .roArr t => t.spine p
  | .union ts => Ty.spineList p ts
  | .inter ts => Ty.spineList p ts
  | _ => true
def Ty.spineList (p : Ty → Bool) : List Ty → Bool
  | [] => true
  | t :: ts => t.spine p && Ty.spineList p ts
def Ty.spineFields (p : Ty → Bool) : List (String × Bool × Bool × Ty) → Bool
  | [] => true
  | (_, _, _, t) :: fs => t.spine p && Ty.spineFields p fs
end

def Ty.noAbs (t : Ty) : Bool := t.spine (fun _ => true)

/-- the head of an application is not the helper `Omit` (the only head `Ts.stdHook` interprets) -/
def notOmitHead : Ty → Bool
  | .ref n => n != "Omit"
  | _ => true

def Ty.noOmit (t : Ty) : Bool := t.spine notOmitHead

section spine
variable {p : Ty → Bool}

theorem spineList_mem : ∀ {ts : List Ty}, Ty.spineList p ts = true → ∀ t ∈ ts, t.spine p = true := by
  intro ts
  induction ts with
  | nil => intro _ t h; cases h
  | cons a r ih =>
    intro h t ht
    simp only [Ty.spineList, Bool.and_eq_true] at h
    rcases List.mem_cons.1 ht with rfl | ht
    · exact h.1
    · exact ih h.2 t ht

theorem spineFields_mem : ∀ {fs : List Field}, Ty.spineFields p fs = true → ∀ f ∈ fs, f.2.2.2.spine p = true := by
  intro fs
  induction fs with
  | nil => intro _ f h; cases h
  | cons a r ih =>
    intro h f hf
    obtain ⟨k, ro, o, t⟩ := a
    simp only [Ty.spineFields, Bool.and_eq_true] at h
    rcases List.mem_cons.1 hf with rfl | hf
    · exact h.1
    · exact ih h.2 f hf

theorem mergeField_spine (f : Field) (hf : f.2.2.2.spine p = true) : ∀ (gs : List Field),
    Ty.spineFields p gs = true → Ty.spineFields p (mergeField f gs) = true := by
  intro gs
  induction gs with
  | nil =>
    intro _
    obtain ⟨k, ro, o, t⟩ := f
    simp only [mergeField, Ty.spineFields, Bool.and_eq_true]; exact ⟨hf, trivial⟩
  | cons g r ih =>
    intro h
    obtain ⟨k', ro', o', t'⟩ := g
    simp only [Ty.spineFields, Bool.and_eq_true] at h
    simp only [mergeField]
    split
    · simp only [Ty.spineFields, Ty.spine, Ty.spineList, Bool.and_eq_true]
      exact ⟨⟨h.1, hf, trivial⟩, h.2⟩
    · simp only [Ty.spineFields, Bool.and_eq_true]
      exact ⟨h.1, ih h.2⟩

theorem mergeFields_spine : ∀ (b a : List Field), Ty.spineFields p a = true → Ty.spineFields p b = true →
    Ty.spineFields p (mergeFields a b) = true := by
  intro b
  induction b with
  | nil => intro a ha _; exact ha
  | cons f r ih =>
    intro a ha hb
    obtain ⟨k, ro, o, t⟩ := f
    simp only [Ty.spineFields, Bool.and_eq_true] at hb
    simp only [mergeFields, List.foldl_cons]
    exact ih _ (mergeField_spine _ hb.1 a ha) hb.2

/-- invariant of an object view: if it is a record, its field types satisfy the spine condition -/
def ObjView.spine (p : Ty → Bool) : ObjView → Prop
  | .isObj fs => Ty.spineFields p fs = true
  | _ => True

theorem ObjView.merge_spine {a b : ObjView} (ha : a.spine p) (hb : b.spine p) : (a.merge b).spine p := by
  cases a <;> cases b <;> simp_all [ObjView.merge, ObjView.spine]
  exact mergeFields_spine _ _ ha hb

theorem foldl_merge_spine {α : Type} (f : α → ObjView) : ∀ (l : List α) (a : ObjView), a.spine p →
    (∀ t ∈ l, (f t).spine p) → (l.foldl (fun acc t => acc.merge (f t)) a).spine p := by
  intro l
  induction l with
  | nil => intro a ha _; exact ha
  | cons x r ih =>
    intro a ha h
    simp only [List.foldl_cons]
    exact ih _ (ObjView.merge_spine ha (h x List.mem_cons_self)) (fun t ht => h t (List.mem_cons_of_mem _ ht))

variable {e1 e2 : Env} (h1 : ∀ d f as, p f = true → e1.appHook d f as = none)
  (h2 : ∀ d f as, p f = true → e2.appHook d f as = none)
include h1 h2

theorem objView_indep : ∀ (n : Nat) (t : Ty), t.spine p = true →
    objView e1 n t = objView e2 n t ∧ (objView e1 n t).spine p := by
  intro n
  induction n with
  | zero => intro t _; simp [objView, ObjView.spine]
  | succ n ih =>
    intro t ht
    cases t with
    | obj fs => simp only [objView, ObjView.spine, true_and]; simpa [Ty.spine] using ht
    | other tag path =>
      have : tag ≠ "abs" := by simpa [Ty.spine] using ht
      simp [objView, this, ObjView.spine]
    | app f as =>
      have hp : p f = true := by simpa [Ty.spine] using ht
      simp [objView, h1 _ f as hp, h2 _ f as hp, ObjView.spine]
    | inter ts =>
      cases ts with
      | nil => simp [objView, ObjView.spine]
      | cons t0 rest =>
        have hts : Ty.spineList p (t0 :: rest) = true := by simpa [Ty.spine] using ht
        have h0 := ih t0 (spineList_mem hts t0 List.mem_cons_self)
        have hr : ∀ t ∈ rest, objView e1 n t = objView e2 n t ∧ (objView e1 n t).spine p :=
          fun t htm => ih t (spineList_mem hts t (List.mem_cons_of_mem _ htm))
        rw [objView_inter_cons, objView_inter_cons, ← h0.1]
        exact ⟨foldl_merge_congr _ _ _ _ (fun t htm => (hr t htm).1),
          foldl_merge_spine _ _ _ h0.2 (fun t htm => (hr t htm).2)⟩
    | _ => exact ⟨rfl, trivial⟩

theorem isOpaque_indep (t : Ty) (ht : t.spine p = true) : t.isOpaque e1 = t.isOpaque e2 := by
  cases t with
  | other tag path =>
    have : tag ≠ "abs" := by simpa [Ty.spine] using ht
    simp [Ty.isOpaque, this]
  | app f as =>
    have hp : p f = true := by simpa [Ty.spine] using ht
    simp [Ty.isOpaque, h1 _ f as hp, h2 _ f as hp]
  | _ => simp [Ty.isOpaque]

theorem mem_indep_aux {v : J} {t : Ty} (hm : Mem e1 v t) : t.spine p = true → Mem e2 v t := by
  induction hm with
  | prim q v hp => intro _; exact .prim q v hp
  | strLit s => intro _; exact .strLit s
  | obj kvs fs _ hk ih =>
    intro ht
    have hfs : Ty.spineFields p fs = true := by simpa [Ty.spine] using ht
    exact .obj kvs fs (fun f hf hne => ih f hf hne (spineFields_mem hfs f hf)) hk
  | arr xs t _ ih => intro ht; exact .arr xs t (fun x hx => ih x hx (by simpa [Ty.spine] using ht))
  | roArr xs t _ ih => intro ht; exact .roArr xs t (fun x hx => ih x hx (by simpa [Ty.spine] using ht))
  | union v ts t htm _ ih =>
    intro ht
    exact .union v ts t htm (ih (spineList_mem (by simpa [Ty.spine] using ht) t htm))
  | interObj v ts fs n hv _ ih =>
    intro ht
    obtain ⟨he, hna⟩ := objView_indep h1 h2 n (.inter ts) ht
    rw [hv] at he hna
    exact .interObj v ts fs n he.symm (ih (by simpa [Ty.spine, ObjView.spine] using hna))
  | interAll v ts n hv _ ih =>
    intro ht
    obtain ⟨he, _⟩ := objView_indep h1 h2 n (.inter ts) ht
    rw [hv] at he
    exact .interAll v ts n he.symm (fun t htm => ih t htm (spineList_mem (by simpa [Ty.spine] using ht) t htm))
  | alias v path body _ _ _ => intro ht; simp [Ty.spine] at ht
  | hook v f as t' hh _ _ =>
    intro ht
    have hp : p f = true := by simpa [Ty.spine] using ht
    rw [h1 _ f as hp] at hh; cases hh
  | opaqueTy t ho =>
    intro ht
    exact .opaqueTy t (by rw [← isOpaque_indep h1 h2 t ht]; exact ho)

end spine

theorem mem_indep_spine {p : Ty → Bool} {e1 e2 : Env} (h1 : ∀ d f as, p f = true → e1.appHook d f as = none)
    (h2 : ∀ d f as, p f = true → e2.appHook d f as = none) {v : J} {t : Ty} (ht : t.spine p = true) :
    Mem e1 v t ↔ Mem e2 v t :=
  ⟨fun h => mem_indep_aux h1 h2 h ht, fun h => mem_indep_aux h2 h1 h ht⟩

theorem mem_indep {e1 e2 : Env} (h1 : ∀ d f as, e1.appHook d f as = none) (h2 : ∀ d f as, e2.appHook d f as = none)
    {v : J} {t : Ty} (ht : t.noAbs = true) : Mem e1 v t ↔ Mem e2 v t :=
  mem_indep_spine (p := fun _ => true) (fun d f as _ => h1 d f as) (fun d f as _ => h2 d f as) ht

theorem stdHook_none {d : Decls} {f : Ty} {as : List Ty} (hf : notOmitHead f = true) : stdHook d f as = none := by
  unfold stdHook
  split
  · simp [notOmitHead] at hf
  · rfl

theorem mem_indep_std {e1 e2 : Env} (h2 : ∀ d f as, e2.appHook d f as = none)
    {v : J} {t : Ty} (ht : t.noOmit = true) : Mem e1.withStd v t ↔ Mem e2 v t :=
  mem_indep_spine (p := notOmitHead) (fun _ _ _ hf => stdHook_none hf) (fun d f as _ => h2 d f as) ht

end NitroVerif.Ts

namespace NitroVerif.SchemaDecls
open NitroVerif.Gql NitroVerif.Ts NitroVerif.DeclCfg

variable (D : Decls) (sc : Scope)

theorem globalise_tsCore (L : Name → Ty) (ro : Bool) (ty : GType) :
    globalise D sc [] (tsCore L ro ty) = tsCore (fun n => globalise D sc [] (L n)) ro ty := by
  induction ty with
  | named n p => simp [tsCore]
  | nonNull t ih => simpa [tsCore] using ih
  | list t p ih =>
    cases ro <;> cases hnn : t.isNonNull <;> simp [tsCore, hnn, globalise, globaliseList, ih]

theorem globalise_tsOf (L : Name → Ty) (ro : Bool) (ty : GType) :
    globalise D sc [] (tsOf L ro ty) = tsOf (fun n => globalise D sc [] (L n)) ro ty := by
  unfold tsOf
  cases ty.isNonNull <;> simp [globalise, globaliseList, globalise_tsCore]

theorem globalise_optFieldTy (L : Name → Ty) (ro o : Bool) (ty : GType) :
    globalise D sc [] (optFieldTy L ro o ty) = optFieldTy (fun n => globalise D sc [] (L n)) ro o ty := by
  unfold optFieldTy
  cases o <;> simp [globalise, globaliseList, globalise_tsCore, globalise_tsOf]

theorem globaliseList_map {α : Type} (l : List α) (f : α → Ty) :
    globaliseList D sc [] (l.map f) = l.map fun a => globalise D sc [] (f a) := by
  induction l with
  | nil => simp [globaliseList]
  | cons a r ih => simp [globaliseList, ih]

theorem globaliseFields_map {α : Type} (l : List α) (k : α → String) (r o : α → Bool) (f : α → Ty) :
    globaliseFields D sc [] (l.map fun a => (k a, r a, o a, f a))
      = l.map fun a => (k a, r a, o a, globalise D sc [] (f a)) := by
  induction l with
  | nil => simp [globaliseFields]
  | cons a rest ih => simp [globaliseFields, ih]

theorem globalise_tsUnion (ts : List Ty) :
    globalise D sc [] (tsUnion ts) = tsUnion (globaliseList D sc [] ts) := by
  match ts with
  | [] => simp [tsUnion, globalise, globaliseList]
  | [a] => simp [tsUnion, globaliseList]
  | a :: b :: r => simp [tsUnion, globalise, globaliseList]

theorem globalise_objectBodyL (L : Name → Ty) (td : TypeDef) :
    globalise D sc [] (objectBodyL L td) = objectBodyL (fun n => globalise D sc [] (L n)) td := by
  simp only [objectBodyL, globalise, globaliseFields]
  rw [globaliseFields_map D sc td.fields (fun f => f.name) (fun _ => false) (fun _ => false)]
  simp [globalise_tsOf]

theorem globalise_optFields {α : Type} (L : Name → Ty) (l : List α) (key : α → String) (ro o : α → Bool)
    (ty : α → GType) :
    globalise D sc [] (.obj (l.map fun a => (key a, true, o a, optFieldTy L (ro a) (o a) (ty a))))
      = .obj (l.map fun a => (key a, true, o a, optFieldTy (fun n => globalise D sc [] (L n)) (ro a) (o a) (ty a))) := by
  rw [globalise, globaliseFields_map D sc l key (fun _ => true) o]
  simp only [globalise_optFieldTy]

theorem globalise_inputBodyL (L : Name → Ty) (opt : Bool) (td : TypeDef) :
    globalise D sc [] (inputBodyL L opt td) = inputBodyL (fun n => globalise D sc [] (L n)) opt td :=
  globalise_optFields D sc L td.inputs (fun f => f.name) (fun _ => true) (fun f => opt && !f.ty.isNonNull) (fun f => f.ty)

theorem globalise_membersBodyL (L : Name → Ty) (names : List Name) :
    globalise D sc [] (membersBodyL L names) = membersBodyL (fun n => globalise D sc [] (L n)) names := by
  simp only [membersBodyL, globalise_tsUnion, globaliseList_map]

theorem globalise_enumBody (td : TypeDef) : globalise D sc [] (enumBody td) = enumBody td := by
  simp only [enumBody, globalise_tsUnion, globaliseList_map, globalise]

open NitroVerif.VarTypes in
theorem globalise_varsTsL (L : Name → Ty) (opt : Bool) (vars : List VarDef) :
    globalise D sc [] (varsTsL L opt vars) = varsTsL (fun n => globalise D sc [] (L n)) opt vars :=
  globalise_optFields D sc L vars (fun d => d.name) (fun _ => false) (fun d => !d.ty.isNonNull && opt) (fun d => d.ty)

end NitroVerif.SchemaDecls
