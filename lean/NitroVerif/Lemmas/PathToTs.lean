import NitroVerif.Model.PathToTs
/-! `path_to_ts` (C20): stripping a suffix undoes appending it, and the table walk `pathToTsWith` answers with an
    entry whose suffix the name has (`pathToTsWith_spec`). -/
namespace NitroVerif.PathToTs

theorem stripSuffix_append (stem suf : List Char) : stripSuffix (stem ++ suf) suf = some stem := by
  unfold stripSuffix
  have h : suf.isSuffixOf (stem ++ suf) = true := by
    rw [List.isSuffixOf_iff_suffix]; exact List.suffix_append stem suf
  simp [h]

theorem stripSuffix_some {s suf stem : List Char} (h : stripSuffix s suf = some stem) : s = stem ++ suf := by
  unfold stripSuffix at h
  split at h
  · next hs =>
    injection h with h; subst h
    rw [List.isSuffixOf_iff_suffix] at hs
    obtain ⟨t, rfl⟩ := hs
    simp
  · cases h


theorem pathToTsWith_spec (tbl : List (List Char × List Char)) (name : List Char)
    (h : ∃ p ∈ tbl, ∃ stem, name = stem ++ p.1) :
    ∃ p ∈ tbl, ∃ stem, name = stem ++ p.1 ∧ pathToTsWith tbl name = stem ++ p.2 := by
  induction tbl with
  | nil => obtain ⟨p, hp, _⟩ := h; cases hp
  | cons q rest ih =>
    obtain ⟨ts, js⟩ := q
    unfold pathToTsWith
    cases hs : stripSuffix name ts with
    | some stem =>
      exact ⟨(ts, js), by simp, stem, stripSuffix_some hs, rfl⟩
    | none =>
      have hrest : ∃ p ∈ rest, ∃ stem, name = stem ++ p.1 := by
        obtain ⟨p, hp, stem, hn⟩ := h
        simp only [List.mem_cons] at hp
        rcases hp with rfl | hp
        · rw [hn, stripSuffix_append] at hs; cases hs
        · exact ⟨p, hp, stem, hn⟩
      obtain ⟨p, hp, stem, hn, hr⟩ := ih hrest
      exact ⟨p, by simp [hp], stem, hn, hr⟩

end NitroVerif.PathToTs
