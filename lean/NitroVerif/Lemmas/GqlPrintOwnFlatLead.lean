import NitroVerif.Lemmas.GqlPrintOwnFlatTs
import NitroVerif.Lemmas.GqlPrintOwnLeadDoc
/-!
C16 over nitrogql's own parser: flat forms of the type-system items and documents, for the renderings WITH leading
separators (`NitroVerif.DocParseL`) — the flat lists the printer's tokens fit (`Lemmas/GqlPrintOwnFitsTs.lean`). They stand
apart from `GqlPrintOwnFlatTs`, which the `Fits` walk imports, because those renderings are defined together with their parse
chain, which the walk does not need. On items without such a list they are C07's renderings (`rTsItem_noLead`).
-/
namespace NitroVerif.C16Own
open NitroVerif.Gql NitroVerif.ValueParse NitroVerif.DocParse NitroVerif.TypeParse NitroVerif.StringParse

theorem flatL_names (τ : Trivia) (c : Char) (sep : Bool) (p : Nat) (ns : List (Name × Pos)) :
    DocParseL.rNamesL τ c sep p ns = rToks τ p (cNamesLd true c sep ns) := by
  cases ns with
  | nil => rfl
  | cons n rest =>
    simp only [DocParseL.rNamesL, cNamesLd, if_true, flat_names, List.cons_append, List.nil_append, rToks_cons]

theorem flatL_optImpl (τ : Trivia) (sep : Bool) (p : Nat) (ns : List (Name × Pos)) :
    DocParseL.rOptImpl τ sep p ns = rToks τ p (cOptImpl sep ns) := by
  cases ns with
  | nil => rfl
  | cons n rest => simp only [DocParseL.rOptImpl, cOptImpl, flatL_names, rToks_cons]

theorem flatL_typeDefAny (τ : Trivia) (sep : Bool) (p : Nat) (t : TypeDef) :
    DocParseL.rTypeDefAny τ sep p t = rToks τ p (cTypeDefAny sep t) := by
  unfold DocParseL.rTypeDefAny cTypeDefAny headGap cTypeBody
  cases t.kind <;>
    simp only [rScalarDef, DocParseL.rObjDef, DocParseL.rUnionDef, rEnumDef, rInputDef, flat_defHead, flatL_optImpl, flat_dirs,
      flat_optFields, flatL_names, flat_optEnumVals, flat_optInputs, rToks_append, rToks_cons]

theorem flatL_typeExtAny (τ : Trivia) (sep : Bool) (p : Nat) (t : TypeDef) :
    DocParseL.rTypeExtAny τ sep p t = rToks τ p (cTypeExtAny sep t) := by
  unfold DocParseL.rTypeExtAny cTypeExtAny headGap cTypeBody
  cases t.kind <;>
    simp only [rScalarExt, DocParseL.rObjExt, DocParseL.rUnionExt, DocParseL.rUnionExtD, DocParseL.rUnionExtM, rEnumExt, rInputExt,
      flat_extHead, flatL_optImpl, flat_dirs, flat_optFields, flatL_names, flat_optEnumVals, flat_optInputs, rToks_append,
      rToks_cons, reduceCtorEq, false_and, true_and, if_false]
  split <;> simp only [rToks_append, rToks_cons]

theorem flatL_directiveDef (τ : Trivia) (sep : Bool) (p : Nat) (d : DirectiveDef) :
    DocParseL.rDirectiveDef τ sep p d = rToks τ p (cDirectiveDef sep d) := by
  simp only [DocParseL.rDirectiveDef, cDirectiveDef, flat_optDesc, flat_optArgsDef, flat_optRep, flatL_names, rToks_append,
    rToks_cons]

theorem flatL_tsItem (τ : Trivia) (sep : Bool) (p : Nat) (it : TsItem) :
    DocParseL.rTsItem τ sep p it = rToks τ p (cTsItem sep it) := by
  cases it <;> simp only [DocParseL.rTsItem, cTsItem, flatL_typeDefAny, flat_schemaDef, flatL_directiveDef, flat_schemaExt,
    flatL_typeExtAny]

theorem flatL_tsDoc (τ : Trivia) (doc : List TsItem) :
    DocParseL.rTsDoc τ doc = τ 0 ++ rToks τ (τ 0).length (cTsDoc doc) := by
  simp only [DocParseL.rTsDoc, cTsDoc,
    flat_list cTsItem true false τ (DocParseL.rTsItem τ) (fun s q a => flatL_tsItem τ s q a)]

end NitroVerif.C16Own
