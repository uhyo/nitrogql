import NitroVerif.Lemmas.PrintMapBodyFile
/-!
# C06 — the statements of the printed operation modules are C14's module

`exportsFile docFile D` is the document as C14's model reads it (kind and name of each operation, name of each fragment and
whether its file differs from the document's); `baseOptions` / `typeOptions` are the printer options as C14's records.
Forgetting the contents, the statements of `Lemmas/PrintMapBodyFile.lean` are exactly `Exports.printDocument` with the type
visitor / the JavaScript visitor, for all option values; with the options computed from a configuration
(`FullOpts.ofConfig`) they are `Exports.dts` / `Exports.js`.
-/
namespace NitroVerif.PrintMap
open NitroVerif.Gql NitroVerif.DeclCfg

def exportsKind : OpKind → Exports.Kind
  | .query => .query
  | .mutation => .mutation
  | .subscription => .subscription

/-- the (import-resolved) document as C14's model reads it; `docFile` = `document.position.file` -/
def exportsFile (docFile : Nat) : Doc → Exports.File
  | [] => []
  | .op op :: r => .op (exportsKind op.kind) (op.name.map (·.1.toList)) :: exportsFile docFile r
  | .frag f :: r => .frag f.name.toList (docFile != f.pos.file) :: exportsFile docFile r
  | .imp _ :: r => exportsFile docFile r

/-- `OperationBasePrinterOptions` as C14's record -/
def baseOptions (fo : FullOpts) : Exports.BaseOptions where
  defaultExportForOperation := fo.defaultExport
  namedExportForOperation := fo.namedExport
  exportInputType := fo.exportInput
  exportResultType := fo.exportResult
  capitalizeOperationNames := fo.names.capitalize
  queryVariableSuffix := fo.names.querySuffix.toList
  mutationVariableSuffix := fo.names.mutationSuffix.toList
  subscriptionVariableSuffix := fo.names.subscriptionSuffix.toList
  fragmentVariableSuffix := fo.names.fragmentVariableSuffix.toList

/-- `OperationTypePrinterOptions` as C14's record -/
def typeOptions (fo : FullOpts) : Exports.TypeOptions where
  base := baseOptions fo
  printValues := fo.names.printValues
  variablesTypeSuffix := fo.names.variablesSuffix.toList
  operationResultTypeSuffix := fo.names.resultSuffix.toList
  fragmentTypeSuffix := fo.names.fragmentTypeSuffix.toList

theorem capitalize_toList (s : String) : (capitalize s).toList = Exports.capitalize s.toList := by
  unfold capitalize
  cases h : s.toList with
  | nil => rfl
  | cons c cs => simp [Exports.capitalize]

theorem operationName_toList (fo : FullOpts) (op : OperationDef) :
    (operationName fo.names op).toList
      = (Exports.operationVariableName (baseOptions fo) (exportsKind op.kind) (op.name.map (·.1.toList))).operationName := by
  unfold operationName Exports.operationVariableName
  cases hn : op.name with
  | none => cases hc : fo.names.capitalize <;> simp [baseOptions, hc]
  | some np =>
    obtain ⟨n, p⟩ := np
    cases hc : fo.names.capitalize <;> simp [baseOptions, hc, capitalize_toList]

theorem operationVariableName_toList (fo : FullOpts) (op : OperationDef) :
    (operationVariableName fo.names op).toList
      = (Exports.operationVariableName (baseOptions fo) (exportsKind op.kind) (op.name.map (·.1.toList))).operationVariableName := by
  have h := operationName_toList fo op
  unfold operationVariableName
  rw [String.toList_append, h]
  unfold Exports.operationVariableName
  cases op.kind <;> simp [kindSuffix, Exports.suffixOf, baseOptions, exportsKind]

theorem exports_operationCount (docFile : Nat) : ∀ D : Doc, Exports.operationCount (exportsFile docFile D) = operationCount D
  | [] => rfl
  | .op _ :: r => by
    have ih := exports_operationCount docFile r
    simp only [Exports.operationCount] at ih ⊢
    simp [exportsFile, List.filter_cons, Exports.isOp, operationCount, ih]
  | .frag _ :: r => by
    have ih := exports_operationCount docFile r
    simp only [Exports.operationCount] at ih ⊢
    simp [exportsFile, Exports.isOp, operationCount, ih]
  | .imp _ :: r => by simpa [exportsFile, operationCount] using exports_operationCount docFile r

theorem typeStmts_skel_go (fo : FullOpts) (S : Schema) (D : Doc) (docFile count : Nat) : ∀ (L : Doc) (i : Nat),
    (typeStmts fo S D docFile count i L).map RStmt.skel
      = Exports.printDefs (baseOptions fo) (Exports.typeVisitor (typeOptions fo)) count i (exportsFile docFile L)
  | [], _ => rfl
  | .op op :: rest, i => by
    have ih := typeStmts_skel_go fo S D docFile count rest (i + 1)
    have h1 := operationName_toList fo op
    have h2 := operationVariableName_toList fo op
    simp only [baseOptions] at h1 h2
    simp only [typeStmts, exportsFile, Exports.printDefs, List.map_append, ih, opStmts]
    congr 1
    cases hd : (fo.defaultExport && count == 1) <;>
      simp [RStmt.skel, Exports.typeVisitor, typeOptions, baseOptions, String.toList_append, optValue, hd, ← h1, ← h2]
      <;> cases fo.names.printValues <;> simp
  | .frag f :: rest, i => by
    have ih := typeStmts_skel_go fo S D docFile count rest (i + 1)
    simp only [typeStmts, exportsFile, Exports.printDefs, List.map_append, ih, fragStmts]
    congr 1
    cases hv : fo.names.printValues <;> cases he : (docFile == f.pos.file) <;>
      simp [RStmt.skel, Exports.typeVisitor, typeOptions, baseOptions, String.toList_append, optValue, hv, bne, he]
  | .imp _ :: rest, i => by simpa [typeStmts, exportsFile] using typeStmts_skel_go fo S D docFile count rest i

theorem typeStmts_skel (fo : FullOpts) (S : Schema) (D : Doc) (docFile : Nat) :
    (typeStmts fo S D docFile (operationCount D) 0 D).map RStmt.skel
      = Exports.printDocument (baseOptions fo) (Exports.typeVisitor (typeOptions fo)) (exportsFile docFile D) := by
  rw [typeStmts_skel_go, Exports.printDocument, exports_operationCount]

theorem jsStmts_skel_go (fo : FullOpts) (D : Doc) (docFile count : Nat) : ∀ (L : Doc) (i : Nat),
    (jsStmts fo D docFile count i L).map RStmt.skel
      = Exports.printDefs (baseOptions fo) Exports.jsVisitor count i (exportsFile docFile L)
  | [], _ => rfl
  | .op op :: rest, i => by
    have ih := jsStmts_skel_go fo D docFile count rest (i + 1)
    have h2 := operationVariableName_toList fo op
    simp only [baseOptions] at h2
    simp only [jsStmts, exportsFile, Exports.printDefs, List.map_append, ih]
    congr 1
    cases hd : (fo.defaultExport && count == 1) <;>
      simp [RStmt.skel, Exports.jsVisitor, baseOptions, hd, ← h2]
  | .frag f :: rest, i => by
    have ih := jsStmts_skel_go fo D docFile count rest (i + 1)
    simp only [jsStmts, exportsFile, Exports.printDefs, List.map_cons, ih]
    cases he : (docFile == f.pos.file) <;>
      simp [RStmt.skel, Exports.jsVisitor, baseOptions, String.toList_append, bne, he]
  | .imp _ :: rest, i => by simpa [jsStmts, exportsFile] using jsStmts_skel_go fo D docFile count rest i

theorem jsStmts_skel (fo : FullOpts) (D : Doc) (docFile : Nat) :
    (jsStmts fo D docFile (operationCount D) 0 D).map RStmt.skel
      = Exports.printDocument (baseOptions fo) Exports.jsVisitor (exportsFile docFile D) := by
  rw [jsStmts_skel_go, Exports.printDocument, exports_operationCount]

/-- the printer options `from_config` computes (C14's `TypeOptions.fromConfig`), as the options of the call-sequence model;
    `schemaSource` is filled in by the CLI, `optionalInput` = `generate.type.allowUndefinedAsOptionalInput` -/
def FullOpts.ofConfig (c : Exports.Config) (schemaSource : String) (optionalInput : Bool) : FullOpts :=
  let t := Exports.TypeOptions.fromConfig c
  { names := { capitalize := t.base.capitalizeOperationNames
               querySuffix := String.ofList t.base.queryVariableSuffix
               mutationSuffix := String.ofList t.base.mutationVariableSuffix
               subscriptionSuffix := String.ofList t.base.subscriptionVariableSuffix
               fragmentVariableSuffix := String.ofList t.base.fragmentVariableSuffix
               resultSuffix := String.ofList t.operationResultTypeSuffix
               variablesSuffix := String.ofList t.variablesTypeSuffix
               fragmentTypeSuffix := String.ofList t.fragmentTypeSuffix
               printValues := t.printValues }
    defaultExport := t.base.defaultExportForOperation
    namedExport := t.base.namedExportForOperation
    exportInput := t.base.exportInputType
    exportResult := t.base.exportResultType
    schemaSource := schemaSource
    optionalInput := optionalInput }

theorem typeOptions_ofConfig (c : Exports.Config) (ss : String) (oi : Bool) :
    typeOptions (FullOpts.ofConfig c ss oi) = Exports.TypeOptions.fromConfig c := by
  simp [typeOptions, baseOptions, FullOpts.ofConfig, Exports.TypeOptions.fromConfig, Exports.BaseOptions.fromConfig]

theorem baseOptions_ofConfig (c : Exports.Config) (ss : String) (oi : Bool) :
    baseOptions (FullOpts.ofConfig c ss oi) = Exports.BaseOptions.fromConfig c := by
  simp [baseOptions, FullOpts.ofConfig, Exports.TypeOptions.fromConfig, Exports.BaseOptions.fromConfig]

theorem typeStmts_skel_dts (c : Exports.Config) (ss : String) (oi : Bool) (S : Schema) (D : Doc) (docFile : Nat) :
    (typeStmts (FullOpts.ofConfig c ss oi) S D docFile (operationCount D) 0 D).map RStmt.skel
      = Exports.dts c (exportsFile docFile D) := by
  rw [typeStmts_skel, typeOptions_ofConfig, baseOptions_ofConfig]
  rfl

theorem jsStmts_skel_js (c : Exports.Config) (ss : String) (oi : Bool) (D : Doc) (docFile : Nat) :
    (jsStmts (FullOpts.ofConfig c ss oi) D docFile (operationCount D) 0 D).map RStmt.skel
      = Exports.js c (exportsFile docFile D) := by
  rw [jsStmts_skel, baseOptions_ofConfig]
  rfl

end NitroVerif.PrintMap
