/-
The relation "same selection tree up to the order of the branches of every object node" (`TreeRel`), and the merge
functions of `deep_merge.rs` respect it.
-/
import NitroVerif.Lemmas.DeterminismConcreteRel
import NitroVerif.Lemmas.DeterminismConcreteOpTypes
namespace NitroVerif.DeterminismOpTypes
open NitroVerif.Gql NitroVerif.OpTypes NitroVerif.DeterminismRel
open NitroVerif.DeterminismDecls (RelList relList_refl relList_map relList_append)

mutual
/-- the same selection tree up to the order of the branches of every object node (at every depth) -/
def TreeRel : SelTree → SelTree → Prop
  | .nonNull a, t => ∃ b, t = .nonNull b ∧ TreeRel a b
  | .list a, t => ∃ b, t = .list b ∧ TreeRel a b
  | .object bs, t => ∃ bs', t = .object bs' ∧ BranchesRel bs bs'
/-- the second list is a permutation of the first up to `BranchRel` -/
def BranchesRel : List Branch → List Branch → Prop
  | [], bs' => bs' = []
  | b :: rest, bs' => ∃ b' l1 l2, bs' = l1 ++ b' :: l2 ∧ BranchRel b b' ∧ BranchesRel rest (l1 ++ l2)
/-- same type name, same variable assignment, fields pairwise related IN THE SAME ORDER -/
def BranchRel : Branch → Branch → Prop
  | .mk n v un al, b' => ∃ un' al', b' = .mk n v un' al' ∧ FieldsRel un un' ∧ FieldsRel al al'
def FieldsRel : List SField → List SField → Prop
  | [], fs' => fs' = []
  | f :: fs, fs' => ∃ f' r, fs' = f' :: r ∧ FieldRel f f' ∧ FieldsRel fs r
def FieldRel : SField → SField → Prop
  | .empty n, f' => f' = .empty n
  | .leaf n t b, f' => f' = .leaf n t b
  | .object n sel, f' => ∃ sel', f' = .object n sel' ∧ TreeRel sel sel'
end

theorem fieldsRel_iff {fs fs' : List SField} : FieldsRel fs fs' ↔ RelList FieldRel fs fs' :=
  relList_of_head (fun l => by rw [FieldsRel]) (fun a r l => by rw [FieldsRel]) fs fs'

theorem branchesRel_iff {bs bs' : List Branch} : BranchesRel bs bs' ↔ PermRel BranchRel bs bs' :=
  permRel_of_pick (fun l => by rw [BranchesRel]) (fun a r l => by rw [BranchesRel]) bs bs'

theorem branchRel_iff {n n' : Name} {v v' : List (Name × Bool)} {un al un' al' : List SField} :
    BranchRel (.mk n v un al) (.mk n' v' un' al') ↔
      n = n' ∧ v = v' ∧ RelList FieldRel un un' ∧ RelList FieldRel al al' := by
  rw [BranchRel]
  constructor
  · rintro ⟨un'', al'', he, h1, h2⟩
    cases he
    exact ⟨rfl, rfl, fieldsRel_iff.mp h1, fieldsRel_iff.mp h2⟩
  · rintro ⟨rfl, rfl, h1, h2⟩
    exact ⟨un', al', rfl, fieldsRel_iff.mpr h1, fieldsRel_iff.mpr h2⟩

theorem BranchRel.typeName {b b' : Branch} (h : BranchRel b b') : b.typeName = b'.typeName := by
  cases b; cases b'
  exact (branchRel_iff.mp h).1

theorem BranchRel.vars {b b' : Branch} (h : BranchRel b b') : b.vars = b'.vars := by
  cases b; cases b'
  exact (branchRel_iff.mp h).2.1

theorem BranchRel.unaliased {b b' : Branch} (h : BranchRel b b') : RelList FieldRel b.unaliased b'.unaliased := by
  cases b; cases b'
  exact (branchRel_iff.mp h).2.2.1

theorem BranchRel.aliased {b b' : Branch} (h : BranchRel b b') : RelList FieldRel b.aliased b'.aliased := by
  cases b; cases b'
  exact (branchRel_iff.mp h).2.2.2

theorem treeRel_object {bs bs' : List Branch} : TreeRel (.object bs) (.object bs') ↔ PermRel BranchRel bs bs' := by
  rw [TreeRel, ← branchesRel_iff]
  simp only [SelTree.object.injEq, exists_eq_left']

theorem treeRel_nonNull {a b : SelTree} : TreeRel (.nonNull a) (.nonNull b) ↔ TreeRel a b := by
  rw [TreeRel]
  simp only [SelTree.nonNull.injEq, exists_eq_left']

theorem treeRel_list {a b : SelTree} : TreeRel (.list a) (.list b) ↔ TreeRel a b := by
  rw [TreeRel]
  simp only [SelTree.list.injEq, exists_eq_left']

theorem FieldRel.name {f f' : SField} (h : FieldRel f f') : f.name = f'.name := by
  cases f with
  | empty n => rw [FieldRel] at h; rw [h]
  | leaf n t b => rw [FieldRel] at h; rw [h]
  | object n sel => rw [FieldRel] at h; obtain ⟨sel', rfl, _⟩ := h; rfl

mutual
theorem treeRel_refl : ∀ t : SelTree, TreeRel t t
  | .nonNull a => treeRel_nonNull.mpr (treeRel_refl a)
  | .list a => treeRel_list.mpr (treeRel_refl a)
  | .object bs => treeRel_object.mpr (.of_rel (branchesRefl bs))
theorem branchesRefl : ∀ bs : List Branch, RelList BranchRel bs bs
  | [] => trivial
  | b :: bs => ⟨branchRel_refl b, branchesRefl bs⟩
theorem branchRel_refl : ∀ b : Branch, BranchRel b b
  | .mk _ _ un al => branchRel_iff.mpr ⟨rfl, rfl, fieldsRefl un, fieldsRefl al⟩
theorem fieldsRefl : ∀ fs : List SField, RelList FieldRel fs fs
  | [] => trivial
  | f :: fs => ⟨fieldRel_refl f, fieldsRefl fs⟩
theorem fieldRel_refl : ∀ f : SField, FieldRel f f
  | .empty _ => by rw [FieldRel]
  | .leaf _ _ _ => by rw [FieldRel]
  | .object n sel => by rw [FieldRel]; exact ⟨sel, rfl, treeRel_refl sel⟩
end

theorem fieldRel_empty {n : Name} {f' : SField} : FieldRel (.empty n) f' ↔ f' = .empty n := by rw [FieldRel]
theorem fieldRel_leaf {n : Name} {t : GType} {b : Bool} {f' : SField} :
    FieldRel (.leaf n t b) f' ↔ f' = .leaf n t b := by rw [FieldRel]
theorem fieldRel_object {n : Name} {s : SelTree} {f' : SField} :
    FieldRel (.object n s) f' ↔ ∃ s', f' = .object n s' ∧ TreeRel s s' := by rw [FieldRel]

/-- a pair of tree-merging functions that map related inputs to related results -/
def MtRel (mt mt' : SelTree → SelTree → Except Panic SelTree) : Prop :=
  ∀ a a' b b', TreeRel a a' → TreeRel b b' → ExRel TreeRel (mt a b) (mt' a' b')

theorem mergeFieldsWith_rel {mt mt'} (hmt : MtRel mt mt') {f f' g g' : SField} (hf : FieldRel f f')
    (hg : FieldRel g g') : ExRel FieldRel (mergeFieldsWith mt f g) (mergeFieldsWith mt' f' g') := by
  cases f with
  | empty n =>
    rw [fieldRel_empty.mp hf]
    cases g with
    | empty m => rw [fieldRel_empty.mp hg]; exact fieldRel_refl _
    | leaf m t b => rw [fieldRel_leaf.mp hg]; exact fieldRel_refl _
    | object m s =>
      obtain ⟨s', rfl, hs⟩ := fieldRel_object.mp hg
      exact fieldRel_object.mpr ⟨s', rfl, hs⟩
  | leaf n t b =>
    rw [fieldRel_leaf.mp hf]
    cases g with
    | empty m => rw [fieldRel_empty.mp hg]; exact fieldRel_refl _
    | leaf m t b => rw [fieldRel_leaf.mp hg]; exact fieldRel_refl _
    | object m s =>
      obtain ⟨s', rfl, hs⟩ := fieldRel_object.mp hg
      trivial
  | object n l =>
    obtain ⟨l', rfl, hl⟩ := fieldRel_object.mp hf
    cases g with
    | empty m => rw [fieldRel_empty.mp hg]; exact fieldRel_object.mpr ⟨l', rfl, hl⟩
    | leaf m t b => rw [fieldRel_leaf.mp hg]; trivial
    | object m r =>
      obtain ⟨r', rfl, hr⟩ := fieldRel_object.mp hg
      simp only [mergeFieldsWith]
      apply exRel_bind (hmt _ _ _ _ hl hr)
      intro a b hab
      exact fieldRel_object.mpr ⟨b, rfl, hab⟩

theorem mergeInto_rel {mt mt'} (hmt : MtRel mt mt') {f f' : SField} (hf : FieldRel f f') :
    ∀ {gs gs' : List SField}, RelList FieldRel gs gs' →
      ExRel (RelList FieldRel) (mergeInto mt f gs) (mergeInto mt' f' gs')
  | [], [], _ => by simp only [mergeInto]; exact exRel_ok ⟨hf, trivial⟩
  | g :: gs, g' :: gs', h => by
    simp only [mergeInto, ← h.1.name, ← hf.name]
    split
    · apply exRel_bind (mergeFieldsWith_rel hmt h.1 hf)
      intro a b hab
      exact exRel_ok ⟨hab, h.2⟩
    · apply exRel_bind (mergeInto_rel hmt hf h.2)
      intro a b hab
      exact exRel_ok ⟨h.1, hab⟩
  | [], _ :: _, h => h.elim
  | _ :: _, [], h => h.elim

theorem deepMergeGo_rel {mt mt'} (hmt : MtRel mt mt') :
    ∀ {fs fs' : List SField}, RelList FieldRel fs fs' → ∀ {acc acc' : List SField}, RelList FieldRel acc acc' →
      ExRel (RelList FieldRel) (deepMergeGo mt fs acc) (deepMergeGo mt' fs' acc')
  | [], [], _, _, _, hacc => by simp only [deepMergeGo]; exact exRel_ok hacc
  | f :: fs, f' :: fs', h, acc, acc', hacc => by
    have hany : acc.any (·.name == f.name) = acc'.any (·.name == f'.name) :=
      relList_any (fun a b hab => by rw [hab.name, h.1.name]) hacc
    simp only [deepMergeGo, hany]
    split
    · apply exRel_bind (mergeInto_rel hmt h.1 hacc)
      intro a b hab
      exact deepMergeGo_rel hmt h.2 hab
    · exact deepMergeGo_rel hmt h.2 (relList_append hacc ⟨h.1, trivial⟩)
  | [], _ :: _, h, _, _, _ => h.elim
  | _ :: _, [], h, _, _, _ => h.elim

theorem deepMergeWith_rel {mt mt'} (hmt : MtRel mt mt') {fs fs' : List SField} (h : RelList FieldRel fs fs') :
    ExRel (RelList FieldRel) (deepMergeWith mt fs) (deepMergeWith mt' fs') :=
  deepMergeGo_rel hmt h (acc := []) (acc' := []) trivial

theorem mergeBranchesWith_rel {mt mt'} (hmt : MtRel mt mt') {left left' right right' : List Branch}
    (hl : PermRel BranchRel left left') (hr : PermRel BranchRel right right') :
    ExRel (PermRel BranchRel) (mergeBranchesWith mt left right) (mergeBranchesWith mt' left' right') := by
  unfold mergeBranchesWith
  apply exRel_bind (R := PermRel (PermRel BranchRel))
  · apply exRel_mapM_permRel _ hl
    intro lb lb' hlb
    have hsame : PermRel BranchRel (right.filter (·.typeName == lb.typeName))
        (right'.filter (·.typeName == lb'.typeName)) :=
      hr.filter fun a b hab => by rw [hab.typeName, hlb.typeName]
    have hemp := hsame.isEmpty
    dsimp only
    simp only [hemp]
    split
    · exact exRel_ok (.of_rel ⟨hlb, trivial⟩)
    · apply exRel_filterMapM_permRel _ hsame
      intro rb rb' hrb
      rw [hlb.vars, hrb.vars, hlb.typeName]
      cases unifyVars lb'.vars rb'.vars with
      | none => exact exRel_ok (by trivial : OptRel BranchRel none none)
      | some vars =>
        apply exRel_bind (deepMergeWith_rel hmt (relList_append hlb.unaliased hrb.unaliased))
        intro un un' hun
        apply exRel_bind (deepMergeWith_rel hmt (relList_append hlb.aliased hrb.aliased))
        intro al al' hal
        exact exRel_ok (show OptRel BranchRel (some _) (some _) from branchRel_iff.mpr ⟨rfl, rfl, hun, hal⟩)
  · intro merged merged' hm
    apply exRel_ok
    apply hm.flatten.append
    apply hr.filter
    intro rb rb' hrb
    rw [hl.any (q := fun b => b.typeName == rb'.typeName) fun a b hab => by rw [hab.typeName, hrb.typeName]]

theorem TreeRel.shape {a a' : SelTree} (h : TreeRel a a') :
    (∃ x x', a = .nonNull x ∧ a' = .nonNull x' ∧ TreeRel x x') ∨ (∃ x x', a = .list x ∧ a' = .list x' ∧ TreeRel x x') ∨
    (∃ bs bs', a = .object bs ∧ a' = .object bs' ∧ PermRel BranchRel bs bs') := by
  cases a with
  | nonNull x => rw [TreeRel] at h; obtain ⟨x', rfl, hx⟩ := h; exact Or.inl ⟨x, x', rfl, rfl, hx⟩
  | list x => rw [TreeRel] at h; obtain ⟨x', rfl, hx⟩ := h; exact Or.inr (Or.inl ⟨x, x', rfl, rfl, hx⟩)
  | object bs =>
    rw [TreeRel] at h; obtain ⟨bs', rfl, hb⟩ := h
    exact Or.inr (Or.inr ⟨bs, bs', rfl, rfl, branchesRel_iff.mp hb⟩)

theorem mergeTrees_rel : ∀ fuel, MtRel (mergeTrees fuel) (mergeTrees fuel)
  | 0 => fun _ _ _ _ _ _ => exRel_error _ _
  | fuel + 1 => by
    intro a a' b b' ha hb
    -- only trees with the same outermost constructor merge; every other pair fails on both sides
    rcases ha.shape with ⟨l, l', rfl, rfl, hl⟩ | ⟨l, l', rfl, rfl, hl⟩ | ⟨l, l', rfl, rfl, hl⟩ <;>
      rcases hb.shape with ⟨r, r', rfl, rfl, hr⟩ | ⟨r, r', rfl, rfl, hr⟩ | ⟨r, r', rfl, rfl, hr⟩ <;>
      try exact exRel_error _ _
    · simp only [mergeTrees]
      exact exRel_bind (mergeTrees_rel fuel _ _ _ _ hl hr) fun x y hxy => exRel_ok (treeRel_nonNull.mpr hxy)
    · simp only [mergeTrees]
      exact exRel_bind (mergeTrees_rel fuel _ _ _ _ hl hr) fun x y hxy => exRel_ok (treeRel_list.mpr hxy)
    · simp only [mergeTrees]
      exact exRel_bind (mergeBranchesWith_rel (mergeTrees_rel fuel) hl hr) fun x y hxy =>
        exRel_ok (treeRel_object.mpr hxy)

theorem deepMerge_rel (mfuel : Nat) {fs fs' : List SField} (h : RelList FieldRel fs fs') :
    ExRel (RelList FieldRel) (deepMerge mfuel fs) (deepMerge mfuel fs') :=
  deepMergeWith_rel (mergeTrees_rel mfuel) h

end NitroVerif.DeterminismOpTypes
