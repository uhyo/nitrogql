/-
C01/C02 refinement: assembly.  `implTree … = .ok T` ⇒ `RelTree` (Lemmas/OpTypesRefMain.lean) ⇒ the tree is well formed and
`DenTree T` is CompleteValue with nested objects in `RefLocal` (Lemmas/OpTypesRefAdeq.lean) ⇒ with `den_tree`
(Lemmas/OpTypesDen.lean; Props/C01.lean states it as `toTs_denotation`) the printed type admits exactly those values.
-/
import NitroVerif.Lemmas.OpTypesRefMain
import NitroVerif.Lemmas.OpTypesRefAdeq
namespace NitroVerif.OpTypes.Ref
open NitroVerif.Gql NitroVerif.Ts NitroVerif.Exec NitroVerif.OpTypes

theorem pEq_sb1 (c : Ctx) (ss : List Selection) : PEq c (Sb1 ss) ss := fun _ _ _ => pu_sb1

theorem impl_denotes {c : Ctx} {e : Env} {r : Refs} {orig : Name → Option (List Field)} (H : Hyp c e r orig)
    (hnd : TypeNamesNodup c.S) {mfuel fuel : Nat} {ty : GType} {ss : List Selection} {T : SelTree}
    (h : implTree c.S c.F mfuel fuel ty ss = .ok T) (hC : ∀ d, Coh c d (Sb1 ss) ty.unwrapped) :
    (∀ v, CompP c (RefLocal c) ss ty false v → Mem e v (treeTs r T false)) ∧
    (∀ D, FuelOk c D ss → ∀ v, JWf v → Mem e v (treeTs r T false) → CompP c (RefLocal c) ss ty false v) := by
  have hrel := (impl_rel c mfuel hnd fuel).1 ty ss T h hC
  have hwf := rel_wfTree H T ty _ hrel
  have hden := fun v => den_tree H.envOk T false v hwf
  obtain ⟨h1, h2⟩ := adeq_tree H T ty (Sb1 ss) ss false hrel (pEq_sb1 c ss) (hC _)
  refine ⟨fun v hv => (hden v).2 (h1 v hv), fun D hf v hw hm => ?_⟩
  exact compP_mono (fun o s x hx => ⟨_, hx⟩) _ _ _ (h2 D hf v hw ((hden v).1 hm))

theorem compP_root {c : Ctx} {R : Name → List Selection → J → Prop} {ss : List Selection} {root : Name} {p : Pos}
    {v : J} (hcomp : c.S.isComposite root = true) (hobj : ∀ o s x, R o s x → x ≠ .null) :
    CompP c R ss (.nonNull (.named root p)) false v ↔ ∃ o ∈ c.S.possibleTypes root, R o ss v := by
  simp only [CompP, ↓reduceIte, NamedP, hcomp]
  constructor
  · exact fun h => h.2
  · rintro ⟨o, ho, hr⟩; exact ⟨hobj _ _ _ hr, o, ho, hr⟩

theorem refLocal_not_null {c : Ctx} {o : Name} {s : List Selection} {x : J} (h : RefLocal c o s x) : x ≠ .null := by
  obtain ⟨_, _, _, kvs, rfl, _⟩ := refLocal_unfold h
  intro h; cases h

theorem implTree_root_composite {S : Schema} {F : Frags} {mfuel fuel : Nat} {root : Name} {p : Pos}
    {ss : List Selection} {T : SelTree} (h : implTree S F mfuel fuel (.nonNull (.named root p)) ss = .ok T) :
    S.isComposite root = true := by
  cases fuel with
  | zero => simp [implTree] at h
  | succ fuel =>
    rw [implTree_succ] at h
    simp only [wrapTree, bind, Except.bind] at h
    cases hm : mkBranches S F mfuel fuel ss root with
    | error e => simp [hm] at h
    | ok bs =>
      simp only [mkBranches, branchConds, bind, Except.bind] at hm
      cases hpo : parentObjects S root with
      | error e => simp [hpo] at hm
      | ok objs => exact (parentObjects_spec hpo).1

end NitroVerif.OpTypes.Ref
