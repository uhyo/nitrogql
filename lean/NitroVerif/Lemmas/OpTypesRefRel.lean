/-
C01/C02 refinement: the invariant `RelTree` that ties a selection tree to a SET of selection sets (the sub-selections that
were merged into it), and the hypotheses of the refinement theorem.

  `PU c Sb o inc t`      the occurrence `t` is collected (for an object of type `o`, keeping a selection iff `inc dirs`)
                         from one of the selection sets of `Sb`
  `RelTree c T ty Sb`    `T` has the wrappers of `ty`; at the object position: for every possible object type and every
                         assignment σ there is a branch of that type whose recorded assignment agrees with σ, and every
                         branch whose assignment agrees with σ lists, per response key, what `PU c Sb o (included σ)`
                         collects: `empty` iff nothing, the typename leaf / the leaf of the declared type / an object field
                         whose tree is related to the set of the sub-selections collected under that key.
  `RelField c tn σ Sb tag f`  `tag` says which of the branch's two field lists `f` is in (`true`: the aliased one); the
                         occurrences `f` lists have `t.aliased = tag`.
The relation is order-free and closed under the merge of trees (Lemmas/OpTypesRefMerge.lean).

Coherence — what the printer needs of FieldsInSetCanMerge and Leaf Field Selections — under its names:
  `CohAt c Sb o`    the Prop at ONE object type `o`, one level: occurrences under one response key agree, fields without
                    sub-selection have leaf types;
  `Coh c d Sb n`    `CohAt` at every possible object type of `n`, down to nesting depth `d`; the refinement theorem
                    assumes `∀ d, Coh c d {ss} n`;
  `CohIn c tn R`    the agreement clause of `CohAt` over an ARBITRARY collection `R` of occurrences, with `∀ d, Coh` for what
                    lies under each key (`subOf R k`, which is `SubSet c Sb o inc k` at `R = PU c Sb o inc`): the form the
                    merge lemmas take (`cohIn_at`: from `∀ d, Coh`);
  `cohB`            (Lemmas/OpTypesRefCheck.lean) the Bool check, `coh_of_cohB : cohB … = true → ∀ d, Coh …`;
  `Stages.cohDefB`, `Stages.noKeyClashB`  (Lemmas/StagesGenC.lean) `cohB` for one definition / for every definition of a
                    document; `Closed.coh_of_cohDefB` (Lemmas/OpTypesClosedDoc.lean) gives `∀ d, Coh` from it.
-/
import NitroVerif.Lemmas.OpTypesRefSpec
import NitroVerif.Lemmas.OpTypesRefDeep
import NitroVerif.Lemmas.OpTypesDen
namespace NitroVerif.OpTypes.Ref
open NitroVerif.Gql NitroVerif.Ts NitroVerif.Exec

/-- a set of selection sets -/
abbrev SSet := List Selection → Prop

def allInc : Inc := fun _ => true

/-- collected from one of the selection sets of `Sb` -/
def PU (c : Ctx) (Sb : SSet) (o : Name) (inc : Inc) (t : FT) : Prop :=
  ∃ s, Sb s ∧ InFlat c.S c.F o inc [] s t

/-- the sub-selections of the occurrences collected under response key `k` -/
def SubSet (c : Ctx) (Sb : SSet) (o : Name) (inc : Inc) (k : Name) : SSet :=
  fun s => ∃ t, PU c Sb o inc t ∧ t.key = k ∧ t.sub = some s

/-- σ agrees with every entry of the recorded assignment -/
def Agree (σ : Sigma) (vars : List (Name × Bool)) : Prop :=
  ∀ p ∈ vars, σ p.1 = p.2

mutual
def RelTree (c : Ctx) : SelTree → GType → SSet → Prop
  | .nonNull T, ty, Sb => match ty with
    | .nonNull ty' => RelTree c T ty' Sb
    | _ => False
  | .list T, ty, Sb => match ty with
    | .list ty' _ => RelTree c T ty' Sb
    | _ => False
  | .object bs, ty, Sb => match ty with
    | .named n _ =>
      c.S.isComposite n = true ∧
      (∀ o ∈ c.S.possibleTypes n, ∀ σ : Sigma, ∃ b ∈ bs, b.typeName = o ∧ Agree σ b.vars) ∧
      RelBranches c bs n Sb
    | _ => False
def RelBranches (c : Ctx) : List Branch → Name → SSet → Prop
  | [], _, _ => True
  | b :: bs, n, Sb => RelBranch c b n Sb ∧ RelBranches c bs n Sb
def RelBranch (c : Ctx) : Branch → Name → SSet → Prop
  | .mk tn vars un al, n, Sb =>
    tn ∈ c.S.possibleTypes n ∧ (∃ td, c.S.typeDef? tn = some td ∧ td.kind = .object) ∧
    Agree (sigmaOf vars) vars ∧ (un.map SField.name).Nodup ∧ (al.map SField.name).Nodup ∧ (∀ f ∈ al, ∀ g ∈ un, g.name ≠ f.name) ∧
    ∀ σ : Sigma, Agree σ vars →
      RelFields c tn σ Sb false un ∧ RelFields c tn σ Sb true al ∧
      ∀ t, PU c Sb tn (included σ) t → ∃ f ∈ (if t.aliased = true then al else un), f.name = t.key ∧ f.isEmpty = false
def RelFields (c : Ctx) (tn : Name) (σ : Sigma) (Sb : SSet) (tag : Bool) : List SField → Prop
  | [] => True
  | f :: fs => RelField c tn σ Sb tag f ∧ RelFields c tn σ Sb tag fs
def RelField (c : Ctx) (tn : Name) (σ : Sigma) (Sb : SSet) (tag : Bool) : SField → Prop
  | .empty k => (∃ t, PU c Sb tn allInc t ∧ t.key = k ∧ t.aliased = tag) ∧ ∀ t, PU c Sb tn (included σ) t → t.key ≠ k
  | .leaf k ty isTn => ∃ t, PU c Sb tn (included σ) t ∧ t.key = k ∧ t.aliased = tag ∧
      if (t.name == "__typename") = true then isTn = true
      else isTn = false ∧ t.sub = none ∧ ∃ fd, c.S.field? tn t.name = some fd ∧ fd.ty = ty
  | .object k T => ∃ t fd, PU c Sb tn (included σ) t ∧ t.key = k ∧ t.aliased = tag ∧ t.sub.isSome = true ∧
      (t.name == "__typename") = false ∧ c.S.field? tn t.name = some fd ∧
      RelTree c T fd.ty (SubSet c Sb tn (included σ) k)
end

theorem relBranches_iff {c : Ctx} {n : Name} {Sb : SSet} {bs : List Branch} :
    RelBranches c bs n Sb ↔ ∀ b ∈ bs, RelBranch c b n Sb :=
  forall_mem_of_rec (P := fun bs => RelBranches c bs n Sb) trivial fun _ _ => Iff.rfl

theorem relFields_iff {c : Ctx} {tn : Name} {σ : Sigma} {Sb : SSet} {tag : Bool} {fs : List SField} :
    RelFields c tn σ Sb tag fs ↔ ∀ f ∈ fs, RelField c tn σ Sb tag f :=
  forall_mem_of_rec (P := RelFields c tn σ Sb tag) trivial fun _ _ => Iff.rfl

/-- `RelBranch` by name: the branch is for a possible object type, its recorded assignment is consistent, its two field
    lists have distinct names and share none, and under every agreeing assignment they list what is collected -/
structure BranchFacts (c : Ctx) (tn : Name) (vars : List (Name × Bool)) (un al : List SField) (n : Name) (Sb : SSet) :
    Prop where
  poss : tn ∈ c.S.possibleTypes n
  obj : ∃ td, c.S.typeDef? tn = some td ∧ td.kind = .object
  self : Agree (sigmaOf vars) vars
  unNodup : (un.map SField.name).Nodup
  alNodup : (al.map SField.name).Nodup
  disjoint : ∀ f ∈ al, ∀ g ∈ un, g.name ≠ f.name
  fields : ∀ σ : Sigma, Agree σ vars →
    RelFields c tn σ Sb false un ∧ RelFields c tn σ Sb true al ∧
    ∀ t, PU c Sb tn (included σ) t → ∃ f ∈ (if t.aliased = true then al else un), f.name = t.key ∧ f.isEmpty = false

theorem relBranch_iff {c : Ctx} {tn : Name} {vars : List (Name × Bool)} {un al : List SField} {n : Name} {Sb : SSet} :
    RelBranch c (.mk tn vars un al) n Sb ↔ BranchFacts c tn vars un al n Sb := by
  simp only [RelBranch]
  exact ⟨fun ⟨h1, h2, h3, h4, h5, h6, h7⟩ => ⟨h1, h2, h3, h4, h5, h6, h7⟩,
    fun h => ⟨h.poss, h.obj, h.self, h.unNodup, h.alNodup, h.disjoint, h.fields⟩⟩

theorem relBranch_poss {c : Ctx} {b : Branch} {n : Name} {Sb : SSet} (h : RelBranch c b n Sb) :
    b.typeName ∈ c.S.possibleTypes n := by
  cases b; exact (relBranch_iff.1 h).poss

/-! ### `RelTree` depends on the set of selection sets only through what is collected from it -/

def PEquiv (c : Ctx) (Sb Sb' : SSet) : Prop := ∀ o inc t, PU c Sb o inc t ↔ PU c Sb' o inc t

theorem subSet_equiv {c : Ctx} {Sb Sb' : SSet} (h : PEquiv c Sb Sb') (o : Name) (inc : Inc) (k : Name) :
    PEquiv c (SubSet c Sb o inc k) (SubSet c Sb' o inc k) := by
  intro o' inc' t'
  simp only [PU, SubSet]
  constructor
  · rintro ⟨s, ⟨t, ht, hk, hs⟩, hin⟩; exact ⟨s, ⟨t, (h o inc t).1 ht, hk, hs⟩, hin⟩
  · rintro ⟨s, ⟨t, ht, hk, hs⟩, hin⟩; exact ⟨s, ⟨t, (h o inc t).2 ht, hk, hs⟩, hin⟩

mutual
theorem relTree_congr {c : Ctx} : ∀ (T : SelTree) (ty : GType) (Sb Sb' : SSet), PEquiv c Sb Sb' →
    RelTree c T ty Sb → RelTree c T ty Sb'
  | .nonNull T, ty, Sb, Sb', he, h | .list T, ty, Sb, Sb', he, h => by
    cases ty <;> simp only [RelTree] at h ⊢
    exact relTree_congr T _ Sb Sb' he h
  | .object bs, ty, Sb, Sb', he, h => by
    cases ty <;> simp only [RelTree] at h ⊢
    exact ⟨h.1, h.2.1, relBranches_congr bs _ Sb Sb' he h.2.2⟩
theorem relBranches_congr {c : Ctx} : ∀ (bs : List Branch) (n : Name) (Sb Sb' : SSet), PEquiv c Sb Sb' →
    RelBranches c bs n Sb → RelBranches c bs n Sb'
  | [], _, _, _, _, _ => by simp [RelBranches]
  | b :: bs, n, Sb, Sb', he, h => by
    simp only [RelBranches] at h ⊢
    exact ⟨relBranch_congr b n Sb Sb' he h.1, relBranches_congr bs n Sb Sb' he h.2⟩
theorem relBranch_congr {c : Ctx} : ∀ (b : Branch) (n : Name) (Sb Sb' : SSet), PEquiv c Sb Sb' →
    RelBranch c b n Sb → RelBranch c b n Sb'
  | .mk tn vars un al, n, Sb, Sb', he, h => by
    have h := relBranch_iff.1 h
    refine relBranch_iff.2 ⟨h.poss, h.obj, h.self, h.unNodup, h.alNodup, h.disjoint, fun σ hσ => ?_⟩
    obtain ⟨hu, ha, hc⟩ := h.fields σ hσ
    exact ⟨relFields_congr tn σ false un Sb Sb' he hu, relFields_congr tn σ true al Sb Sb' he ha,
      fun t ht => hc t ((he _ _ _).2 ht)⟩
theorem relFields_congr {c : Ctx} (tn : Name) (σ : Sigma) (tag : Bool) : ∀ (fs : List SField) (Sb Sb' : SSet),
    PEquiv c Sb Sb' → RelFields c tn σ Sb tag fs → RelFields c tn σ Sb' tag fs
  | [], _, _, _, _ => by simp [RelFields]
  | f :: fs, Sb, Sb', he, h => by
    simp only [RelFields] at h ⊢
    exact ⟨relField_congr tn σ tag f Sb Sb' he h.1, relFields_congr tn σ tag fs Sb Sb' he h.2⟩
theorem relField_congr {c : Ctx} (tn : Name) (σ : Sigma) (tag : Bool) : ∀ (f : SField) (Sb Sb' : SSet),
    PEquiv c Sb Sb' → RelField c tn σ Sb tag f → RelField c tn σ Sb' tag f
  | .empty k, Sb, Sb', he, h => by
    simp only [RelField] at h ⊢
    obtain ⟨⟨t0, h0, h1⟩, h⟩ := h
    exact ⟨⟨t0, (he _ _ _).1 h0, h1⟩, fun t ht => h t ((he _ _ _).2 ht)⟩
  | .leaf k ty b, Sb, Sb', he, h => by
    simp only [RelField] at h ⊢
    obtain ⟨t, ht, hr⟩ := h
    exact ⟨t, (he _ _ _).1 ht, hr⟩
  | .object k T, Sb, Sb', he, h => by
    simp only [RelField] at h ⊢
    obtain ⟨t, fd, ht, h1, h2, h3, h4, h5, h6⟩ := h
    exact ⟨t, fd, (he _ _ _).1 ht, h1, h2, h3, h4, h5,
      relTree_congr T fd.ty _ _ (subSet_equiv he tn _ k) h6⟩
end

/- object levels of a tree (wrappers do not count); `bsdepth`, `bdepth`, `fsdepth`, `fdepth`: the same for a branch list, a
    branch, a field list, a field -/
mutual
def tdepth : SelTree → Nat
  | .nonNull t => tdepth t
  | .list t => tdepth t
  | .object bs => bsdepth bs + 1
def bsdepth : List Branch → Nat
  | [] => 0
  | b :: bs => max (bdepth b) (bsdepth bs)
def bdepth : Branch → Nat
  | .mk _ _ un al => max (fsdepth un) (fsdepth al)
def fsdepth : List SField → Nat
  | [] => 0
  | f :: fs => max (fdepth f) (fsdepth fs)
def fdepth : SField → Nat
  | .object _ t => tdepth t
  | _ => 0
end

theorem bsdepth_mem {bs : List Branch} {b : Branch} (h : b ∈ bs) : bdepth b ≤ bsdepth bs :=
  le_of_mem_rec (fun _ _ => by simp only [bsdepth]; omega) h

theorem fsdepth_mem {fs : List SField} {f : SField} (h : f ∈ fs) : fdepth f ≤ fsdepth fs :=
  le_of_mem_rec (fun _ _ => by simp only [fsdepth]; omega) h

mutual
/-- hereditary absence of repeated keys in records (a JSON value that came out of a parser) -/
def JWf : J → Prop
  | .arr xs => JWfList xs
  | .obj kvs => (kvs.map (·.1)).Nodup ∧ JWfFields kvs
  | _ => True
def JWfList : List J → Prop
  | [] => True
  | x :: xs => JWf x ∧ JWfList xs
def JWfFields : List (String × J) → Prop
  | [] => True
  | (_, x) :: r => JWf x ∧ JWfFields r
end

theorem jWfList_iff {xs : List J} : JWfList xs ↔ ∀ x ∈ xs, JWf x :=
  forall_mem_of_rec (P := JWfList) trivial fun _ _ => Iff.rfl

theorem jWfFields_iff {kvs : List (String × J)} : JWfFields kvs ↔ ∀ kv ∈ kvs, JWf kv.2 :=
  forall_mem_of_rec (P := JWfFields) trivial fun _ _ => Iff.rfl

theorem jget_mem {kvs : List (String × J)} {k : String} (h : J.get kvs k ≠ .absent) : (k, J.get kvs k) ∈ kvs := by
  unfold J.get at h ⊢
  cases hf : kvs.find? (·.1 == k) with
  | none => simp [hf] at h
  | some kv =>
    obtain ⟨k', x⟩ := kv
    have hm := List.mem_of_find?_eq_some hf
    have hk := List.find?_some hf
    simp only [beq_iff_eq] at hk
    subst hk
    exact hm

theorem jget_wf {kvs : List (String × J)} (hw : JWf (.obj kvs)) (k : String) : JWf (J.get kvs k) := by
  by_cases h : J.get kvs k = .absent
  · rw [h]; simp [JWf]
  · simp only [JWf] at hw
    exact jWfFields_iff.1 hw.2 _ (jget_mem h)

theorem jget_of_mem {kvs : List (String × J)} (hn : (kvs.map (·.1)).Nodup) (kv : String × J) (h : kv ∈ kvs) :
    J.get kvs kv.1 = kv.2 := by
  unfold J.get
  rw [find?_key_of_nodup (·.1) hn h]

theorem inFlat_inc_mono {S : Schema} {F : Name → Option FragmentDef} {o : Name} {inc inc' : Inc}
    (hi : ∀ ds, inc ds = true → inc' ds = true) {V : List Name} {ss : List Selection} {t : FT}
    (h : InFlat S F o inc V ss t) : InFlat S F o inc' V ss t := by
  induction h with
  | field h1 => exact .field (hi _ h1)
  | inline h1 hc _ ih => exact .inline (hi _ h1) hc ih
  | spread h1 hv hf ha _ ih => exact .spread (hi _ h1) hv hf ha ih
  | tail _ ih => exact .tail ih

theorem pu_all {c : Ctx} {Sb : SSet} {o : Name} {inc : Inc} {t : FT} (h : PU c Sb o inc t) : PU c Sb o allInc t := by
  obtain ⟨s, hs, hin⟩ := h
  exact ⟨s, hs, inFlat_inc_mono (fun _ _ => rfl) hin⟩

theorem inFlat_aliased {S : Schema} {F : Name → Option FragmentDef} {o : Name} {inc : Inc} {V : List Name}
    {ss : List Selection} {t : FT} (h : InFlat S F o inc V ss t) : t.aliased = (t.key != t.name) := by
  induction h with
  | @field alias name p args ds sub rest h1 =>
    cases alias with
    | none => simp [isAliased, keyOf]
    | some a => obtain ⟨a1, a2⟩ := a; simp [isAliased, keyOf]
  | inline _ _ _ ih => exact ih
  | spread _ _ _ _ _ ih => exact ih
  | tail _ ih => exact ih

theorem inFlat_key {S : Schema} {F : Name → Option FragmentDef} {o : Name} {inc : Inc} {V : List Name}
    {ss : List Selection} {t : FT} (h : InFlat S F o inc V ss t) : t.aliased = false → t.key = t.name := by
  intro ha
  rw [inFlat_aliased h] at ha
  simpa using ha

/-- a declared leaf type (scalar or enum) -/
def isLeafType (S : Schema) (n : Name) : Bool :=
  match S.kindOf? n with
  | some .scalar | some .enum => true
  | _ => false

theorem isLeaf_not_composite {S : Schema} {n : Name} (h : isLeafType S n = true) : S.isComposite n = false := by
  unfold isLeafType at h
  unfold Schema.isComposite
  cases hk : S.kindOf? n with
  | none => rfl
  | some k => cases k <;> simp_all

/-- local coherence of what is collected for an object of type `o` (when nothing is skipped): occurrences with the same
    response key agree on field name / having a sub-selection (consequence of FieldsInSetCanMerge), and a field without
    sub-selection has a leaf type (Leaf Field Selections) -/
def CohAt (c : Ctx) (Sb : SSet) (o : Name) : Prop :=
  (∀ t t', PU c Sb o allInc t → PU c Sb o allInc t' → t.key = t'.key →
    t.name = t'.name ∧ t.sub.isSome = t'.sub.isSome) ∧
  (∀ t fd, PU c Sb o allInc t → (t.name == "__typename") = false → c.S.field? o t.name = some fd → t.sub = none →
    isLeafType c.S fd.ty.unwrapped = true)

/-- coherence down to nesting depth `d` below the named type `n` -/
def Coh (c : Ctx) : Nat → SSet → Name → Prop
  | 0, _, _ => True
  | d + 1, Sb, n => ∀ o ∈ c.S.possibleTypes n, CohAt c Sb o ∧
      ∀ t fd, PU c Sb o allInc t → c.S.field? o t.name = some fd →
        Coh c d (SubSet c Sb o allInc t.key) fd.ty.unwrapped

theorem coh_at {c : Ctx} {Sb : SSet} {n o : Name} (hC : ∀ d, Coh c d Sb n) (ho : o ∈ c.S.possibleTypes n) :
    CohAt c Sb o ∧ ∀ t fd, PU c Sb o allInc t → c.S.field? o t.name = some fd →
      ∀ d, Coh c d (SubSet c Sb o allInc t.key) fd.ty.unwrapped :=
  ⟨by have := hC 1; simp only [Coh] at this; exact (this o ho).1,
   fun t fd ht hfd d => by have := hC (d + 1); simp only [Coh] at this; exact (this o ho).2 t fd ht hfd⟩

/-- occurrences with the same response key are in the same alias group (since dda35cd the group is determined by
    response key and field name) -/
theorem cohAt_full {c : Ctx} {Sb : SSet} {o : Name}
    (h : ∀ t t', PU c Sb o allInc t → PU c Sb o allInc t' → t.key = t'.key →
      t.name = t'.name ∧ t.sub.isSome = t'.sub.isSome) (t t' : FT) (ht : PU c Sb o allInc t)
    (ht' : PU c Sb o allInc t') (hk : t.key = t'.key) :
    t.aliased = t'.aliased ∧ t.name = t'.name ∧ t.sub.isSome = t'.sub.isSome := by
  obtain ⟨hn, hs⟩ := h t t' ht ht' hk
  obtain ⟨_, _, h1⟩ := ht
  obtain ⟨_, _, h2⟩ := ht'
  exact ⟨by rw [inFlat_aliased h1, inFlat_aliased h2, hk, hn], hn, hs⟩

/-- the sub-selections of the occurrences of `P` under response key `k` -/
def subOf (P : FT → Prop) (k : Name) : SSet := fun s => ∃ t, P t ∧ t.key = k ∧ t.sub = some s

/-- the collection `R` of occurrences (for an object of type `tn`) is coherent: occurrences of one response key agree on
    field name and on having a sub-selection, and what is collected under each key is coherent at every depth -/
structure CohIn (c : Ctx) (tn : Name) (R : FT → Prop) : Prop where
  key : ∀ t t', R t → R t' → t.key = t'.key → t.name = t'.name ∧ t.sub.isSome = t'.sub.isSome
  nest : ∀ t fd, R t → c.S.field? tn t.name = some fd → ∀ d, Coh c d (subOf R t.key) fd.ty.unwrapped

theorem cohIn_at {c : Ctx} {Sb : SSet} {n o : Name} (hC : ∀ d, Coh c d Sb n) (ho : o ∈ c.S.possibleTypes n) :
    CohIn c o (PU c Sb o allInc) :=
  ⟨(coh_at hC ho).1.1, (coh_at hC ho).2⟩

theorem cohAt_congr {c : Ctx} {Sb Sb' : SSet} (he : PEquiv c Sb Sb') {o : Name} (h : CohAt c Sb o) : CohAt c Sb' o :=
  ⟨fun t t' ht ht' => h.1 t t' ((he _ _ _).2 ht) ((he _ _ _).2 ht'),
   fun t fd ht => h.2 t fd ((he _ _ _).2 ht)⟩

theorem coh_congr {c : Ctx} : ∀ (d : Nat) (Sb Sb' : SSet) (n : Name), PEquiv c Sb Sb' → Coh c d Sb n → Coh c d Sb' n
  | 0, _, _, _, _, _ => by simp [Coh]
  | d + 1, Sb, Sb', n, he, h => by
    simp only [Coh] at h ⊢
    intro o ho
    obtain ⟨h1, h2⟩ := h o ho
    refine ⟨cohAt_congr he h1, fun t fd ht hfd => ?_⟩
    exact coh_congr d _ _ _ (subSet_equiv he o allInc t.key) (h2 t fd ((he _ _ _).2 ht) hfd)

theorem coh_mono {c : Ctx} : ∀ (d d' : Nat), d' ≤ d → ∀ (Sb : SSet) (n : Name), Coh c d Sb n → Coh c d' Sb n
  | _, 0, _, _, _, _ => by simp [Coh]
  | 0, d' + 1, h, _, _, _ => by omega
  | d + 1, d' + 1, hd, Sb, n, h => by
    simp only [Coh] at h ⊢
    intro o ho
    obtain ⟨h1, h2⟩ := h o ho
    exact ⟨h1, fun t fd ht hfd => coh_mono d d' (by omega) _ _ (h2 t fd ht hfd)⟩

theorem coh_subset {c : Ctx} : ∀ (d : Nat) (Sb Sb' : SSet) (n : Name), (∀ s, Sb' s → Sb s) → Coh c d Sb n → Coh c d Sb' n
  | 0, _, _, _, _, _ => by simp [Coh]
  | d + 1, Sb, Sb', n, hs, h => by
    simp only [Coh] at h ⊢
    have hp : ∀ o inc t, PU c Sb' o inc t → PU c Sb o inc t := by
      rintro o inc t ⟨s, h1, h2⟩; exact ⟨s, hs s h1, h2⟩
    intro o ho
    obtain ⟨h1, h2⟩ := h o ho
    refine ⟨⟨fun t t' ht ht' => h1.1 t t' (hp _ _ _ ht) (hp _ _ _ ht'), fun t fd ht => h1.2 t fd (hp _ _ _ ht)⟩,
      fun t fd ht hfd => ?_⟩
    refine coh_subset d _ _ _ ?_ (h2 t fd (hp _ _ _ ht) hfd)
    rintro s ⟨t', ht', hk, hsub⟩
    exact ⟨t', hp _ _ _ ht', hk, hsub⟩

/-- type names are unique (a valid schema) -/
def TypeNamesNodup (S : Schema) : Prop := (S.typeDefs.map (·.name)).Nodup

/-- what the theorem assumes about the schema, the schema declaration file and the scalar values -/
structure Hyp (c : Ctx) (e : Env) (r : Refs) (orig : Name → Option (List Field)) : Prop where
  envOk : EnvOk e r orig
  /-- the declaration of every object type declares `__typename` and exactly the fields of the type -/
  origObj : ∀ tn td, c.S.typeDef? tn = some td → td.kind = .object →
    ∃ ofs, orig tn = some ofs ∧ ∀ k, ofs.any (·.1 == k) = true ↔ (k = "__typename" ∨ (c.S.field? tn k).isSome = true)
  /-- the declaration of a leaf type admits exactly the leaf's values (C09/C10's subject) -/
  leaf : ∀ n v, isLeafType c.S n = true → (Mem e v (r.out n) ↔ leafOk c n v = true)
  /-- `null` is not a value of a leaf type (no scalar is mapped to `unknown`/`any`/`null`) -/
  leafNotNull : ∀ n, leafOk c n .null = false
  /-- every composite type has a possible runtime object type -/
  inhabited : ∀ n, c.S.isComposite n = true → c.S.possibleTypes n ≠ []

end NitroVerif.OpTypes.Ref
