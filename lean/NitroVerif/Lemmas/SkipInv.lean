/-
`skip_exact` (helper lemmas for Props/C07): the implicit skip `WHITESPACE* (COMMENT WHITESPACE*)*` consumes a run
of trivia matches and stops only where neither WHITESPACE nor COMMENT matches any more.
-/
import NitroVerif.Lemmas.PegInv
namespace NitroVerif.Peg

variable (g : G)

theorem eval_star_nosk_ne_fail (a : Expr) (at_ : Atomicity) (la : Look) :
    ∀ fuel tr c tr', eval g fuel false (.star a) at_ la tr c ≠ (tr', .fail) := by
  intro fuel
  induction fuel with
  | zero => intro tr c tr' h; simp [eval_zero] at h
  | succ fuel ih =>
    intro tr c tr' h
    simp only [eval, Bool.false_eq_true, if_false] at h
    -- a failure can only be passed on from the rest of the loop
    split at h
    · split at h
      · cases h
      · exact ih _ _ _ h
    · cases h
    · rename_i _ hne; exact (hne _ h).elim

theorem eval_seq_nosk_fail {fuel a b at_ la tr c tr'}
    (h : eval g (fuel + 1) false (.seq a b) at_ la tr c = (tr', .fail)) :
    eval g fuel false a at_ la tr c = (tr', .fail) ∨
    ∃ tr1 c1 p1, eval g fuel false a at_ la tr c = (tr1, .ok c1 p1) ∧
      (fuel = 0 ∨ eval g fuel false b at_ la tr1 c1 = (tr', .fail)) := by
  simp only [eval] at h
  split at h
  · rename_i tr1 c1 p1 h1
    refine Or.inr ⟨_, _, _, h1, ?_⟩
    cases fuel with
    | zero => exact Or.inl rfl
    | succ fuel =>
      rw [doSkip_noskip g (Nat.le_add_left 1 _) (Or.inl rfl)] at h
      dsimp only at h
      split at h
      · cases h
      · exact Or.inr h
  · exact Or.inl h

/-- some run of expression `e` (generated without skip calls) fails at cursor `c` -/
def FailsAt (e : Expr) (at_ : Atomicity) (la : Look) (c : Cur) : Prop :=
  ∃ fuel tr tr', eval g fuel false e at_ la tr c = (tr', .fail)

inductive Reach (e : Expr) (at_ : Atomicity) (la : Look) : Cur → Cur → Prop where
  | refl (c : Cur) : Reach e at_ la c c
  | step {c d c' : Cur} {fuel : Nat} {tr tr' : Tr} {ps : List Pair} :
      eval g fuel false e at_ la tr c = (tr', .ok d ps) → Reach e at_ la d c' → Reach e at_ la c c'

theorem star_nosk_end (a : Expr) (at_ : Atomicity) (la : Look) :
    ∀ fuel tr c tr' c' ps, eval g fuel false (.star a) at_ la tr c = (tr', .ok c' ps) →
      FailsAt g a at_ la c' ∧ Reach g a at_ la c c' := by
  intro fuel
  induction fuel with
  | zero => intro tr c tr' c' ps h; simp [eval_zero] at h
  | succ fuel ih =>
    intro tr c tr' c' ps h
    rcases eval_star_nosk_ok' g h with ⟨tr1, c1, p1, p2, h1, h2, _⟩ | ⟨h1, rfl, _⟩
    · obtain ⟨hf, hr⟩ := ih _ _ _ _ _ h2
      exact ⟨hf, .step h1 hr⟩
    · exact ⟨⟨fuel, tr, tr', h1⟩, .refl _⟩

/-- the cursor moved from `c` to `c'` by matches of the two trivia rules only -/
inductive TriviaRun (w m : RuleId) (at_ : Atomicity) (la : Look) : Cur → Cur → Prop where
  | refl (c : Cur) : TriviaRun w m at_ la c c
  | ws {c d c' : Cur} {fuel : Nat} {tr tr' : Tr} {ps : List Pair} :
      eval g fuel false (.call w) at_ la tr c = (tr', .ok d ps) → TriviaRun w m at_ la d c' → TriviaRun w m at_ la c c'
  | cm {c d c' : Cur} {fuel : Nat} {tr tr' : Tr} {ps : List Pair} :
      eval g fuel false (.call m) at_ la tr c = (tr', .ok d ps) → TriviaRun w m at_ la d c' → TriviaRun w m at_ la c c'

theorem TriviaRun.trans {w m at_ la} {c d e : Cur} (h1 : TriviaRun g w m at_ la c d) (h2 : TriviaRun g w m at_ la d e) :
    TriviaRun g w m at_ la c e := by
  induction h1 with
  | refl => exact h2
  | ws h _ ih => exact .ws h (ih h2)
  | cm h _ ih => exact .cm h (ih h2)

theorem reach_ws_trivia {w m at_ la} {c c' : Cur} (h : Reach g (.call w) at_ la c c') : TriviaRun g w m at_ la c c' := by
  induction h with
  | refl => exact .refl _
  | step h _ ih => exact .ws h ih

theorem comment_iter {w m at_ la fuel tr c tr' d ps}
    (h : eval g fuel false (.seq (.call m) (.star (.call w))) at_ la tr c = (tr', .ok d ps)) :
    FailsAt g (.call w) at_ la d ∧ TriviaRun g w m at_ la c d := by
  obtain ⟨f, tr1, c1, p1, tr2, p3, h1, h3, _⟩ := seq_inv g (Or.inl rfl) h
  obtain ⟨hf, hr⟩ := star_nosk_end g _ _ _ _ _ _ _ _ _ h3
  exact ⟨hf, .cm h1 (reach_ws_trivia g hr)⟩

theorem comment_loop {w m at_ la} {c c' : Cur}
    (hr : Reach g (.seq (.call m) (.star (.call w))) at_ la c c') (hw : FailsAt g (.call w) at_ la c) :
    FailsAt g (.call w) at_ la c' ∧ TriviaRun g w m at_ la c c' := by
  induction hr with
  | refl => exact ⟨hw, .refl _⟩
  | step h _ ih =>
    obtain ⟨hf, ht⟩ := comment_iter g h
    obtain ⟨hf', ht'⟩ := ih hf
    exact ⟨hf', ht.trans g ht'⟩

theorem comment_iter_fail {w m at_ la c}
    (h : FailsAt g (.seq (.call m) (.star (.call w))) at_ la c) : FailsAt g (.call m) at_ la c := by
  obtain ⟨fuel, tr, tr', h⟩ := h
  cases fuel with
  | zero => simp [eval_zero] at h
  | succ fuel =>
    rcases eval_seq_nosk_fail g h with h1 | ⟨tr1, c1, p1, h1, h0 | h2⟩
    · exact ⟨fuel, tr, tr', h1⟩
    · subst h0; simp [eval_zero] at h1
    · exact absurd h2 (eval_star_nosk_ne_fail g _ _ _ _ _ _ _)

theorem skipExpr_exact {w m at_ la fuel tr c tr' c' ps}
    (h : eval g fuel false (.seq (.star (.call w)) (.star (.seq (.call m) (.star (.call w))))) at_ la tr c
      = (tr', .ok c' ps)) :
    TriviaRun g w m at_ la c c' ∧ FailsAt g (.call w) at_ la c' ∧ FailsAt g (.call m) at_ la c' := by
  obtain ⟨f, tr1, c1, p1, tr2, p3, h1, h3, _⟩ := seq_inv g (Or.inl rfl) h
  obtain ⟨hw1, hr1⟩ := star_nosk_end g _ _ _ _ _ _ _ _ _ h1
  obtain ⟨hx, hr2⟩ := star_nosk_end g _ _ _ _ _ _ _ _ _ h3
  obtain ⟨hw2, ht2⟩ := comment_loop g hr2 hw1
  exact ⟨(reach_ws_trivia g hr1).trans g ht2, hw2, comment_iter_fail g hx⟩

end NitroVerif.Peg
