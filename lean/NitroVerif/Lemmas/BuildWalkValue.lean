/-
The walk through the builders (helper lemmas for Props/C08), part 1: strings, variables, values, arguments, directives,
types and default values (builder/value.rs, builder/directives.rs, builder/base.rs, builder/type.rs), for any class `G` of
pairs and set `S` of panics that make a `Walk`: `G` hereditary (Lemmas/BuildWalk.lean), `S` with the model's depth bound, and
the three places where a builder reads the TEXT of a pair failing only inside `S`. Between `Safe` and `Quiet` the builders
differ only there, so both are instances: `walk_safe` here (no knowledge of the text: the `safe_*` theorems), `walk_quiet` in
Lemmas/ParseNoPanic.lean. Lemmas/BuildWalkOp.lean, BuildWalkTs.lean continue the walk.
-/
import NitroVerif.Lemmas.BuildStringLoop
import NitroVerif.Lemmas.BuildWalk
namespace NitroVerif.Shape
open NitroVerif.Peg NitroVerif.Gen NitroVerif.Gen.Parts NitroVerif.Build

theorem hexDigits_cases (digits : List Char) :
    (∃ n, hexDigitsU32 digits = .ok n) ∨ hexDigitsU32 digits = .error .hexParse := by
  unfold hexDigitsU32
  by_cases h : digits.isEmpty = true
  · simp [h]
  · simp only [h]
    cases hexFold digits 0 with
    | none => simp
    | some n => by_cases hn : n < 4294967296 <;> simp [hn]

theorem parseHex_cases (s : List Char) : (∃ n, parseHexU32 s = .ok n) ∨ parseHexU32 s = .error .hexParse :=
  hexDigits_cases _

theorem safe_parseHex (s : List Char) : Safe (parseHexU32 s) := by
  rcases parseHex_cases s with ⟨n, hn⟩ | hn
  · exact ErrIn.of_eq hn
  · exact hn ▸ Safe.err trivial

theorem safe_charFromU32 (n : Nat) : Safe (charFromU32 n) :=
  ErrIn.ite (fun _ => Safe.ok _) fun _ => Safe.err trivial

theorem safe_hexChar (s : List Char) : Safe (parseHexU32 s >>= charFromU32) :=
  (safe_parseHex s).bind fun n _ => safe_charFromU32 n

theorem safe_escapedChar (s : List Char) : Safe (escapedChar s) := by
  intro e h
  unfold escapedChar at h
  repeat' split at h
  all_goals first
    | (cases h; trivial)
    | cases h

theorem safe_decodeChar (ctx : Ctx) (sc : Pair) (h : In (DeepOk gList) R.StringCharacter sc) :
    Safe (decodeChar ctx sc) := by
  obtain ⟨ch, och⟩ := hered_deepOk.only h "StringCharacter" OC_StringCharacter
  rw [decodeChar, och.of, ok_bind]
  refine ErrIn.ite (fun h1 => ?_) fun h1 => ErrIn.ite (fun _ => ?_) fun h2 => ErrIn.ite (fun _ => safe_escapedChar _)
    fun h3 => ErrIn.ite (fun _ => ?_) fun h4 => ?_
  · obtain ⟨d, od⟩ := hered_deepOk.only ⟨och.mem, h1⟩ "EscapedUnicodeBrace" OC_EscapedUnicodeBrace
    rw [od.of, ok_bind]
    exact safe_hexChar _
  · exact ErrIn.ite (fun _ => Safe.err trivial) fun _ => safe_hexChar _
  · cases asStr ctx ch with
    | nil => exact Safe.err trivial
    | cons c _ => exact Safe.ok c
  · exact absurd och.arm (by simp [OC_StringCharacter, h1, h2, h3, h4])

theorem safe_unicode4Code (ctx : Ctx) (ch : Pair) : Safe (unicode4Code ctx ch) :=
  ErrIn.ite (fun _ => Safe.err trivial) fun _ => safe_parseHex _

theorem safe_trailingSurrogate (ctx : Ctx) (ch : Pair) : Safe (trailingSurrogate ctx ch) :=
  ErrIn.ite (fun _ => Safe.ok _) fun _ => (safe_unicode4Code ctx ch).bind fun _ _ => Safe.ok _

theorem safe_decodeChars (ctx : Ctx) : ∀ (l : List Pair), (∀ sc ∈ l, In (DeepOk gList) R.StringCharacter sc) →
    ∀ skip, Safe (decodeChars ctx skip l) := by
  intro l
  induction l with
  | nil => intro _ skip; rw [decodeChars_nil]; exact Safe.ok _
  | cons sc rest ih =>
    intro h skip
    have ih' := ih fun x hx => h x (List.mem_cons_of_mem _ hx)
    cases skip with
    | true => rw [decodeChars_skip]; exact ih' false
    | false =>
      have hsc := h sc (List.mem_cons_self ..)
      obtain ⟨ch, och⟩ := hered_deepOk.only hsc "StringCharacter" OC_StringCharacter
      by_cases hu : ch.rule = R.EscapedUnicode4
      · cases hcode : unicode4Code ctx ch with
        | error e => rw [decodeChars_err_code ctx rest och.of hu hcode]; exact Safe.err (safe_unicode4Code ctx ch e hcode)
        | ok code =>
          have hpeek : Safe (peekTrailing ctx rest) := by
            cases rest with
            | nil => exact Safe.ok _
            | cons sc2 r2 =>
              obtain ⟨ch2, och2⟩ := hered_deepOk.only (h sc2 (List.mem_cons_of_mem _ (List.mem_cons_self ..)))
                "StringCharacter" OC_StringCharacter
              rw [peekTrailing_cons ctx r2 och2.plain]
              exact safe_trailingSurrogate ctx ch2
          cases hpk : peekTrailing ctx rest with
          | error e => rw [decodeChars_err_peek ctx rest och.of hu hcode hpk]; exact Safe.err (hpeek e hpk)
          | ok tr =>
            rw [decodeChars_u4 ctx rest och.of hu hcode hpk]
            -- whichever arm `u4Arm` takes: one `char::from_u32`, then the rest of the loop
            have arm : ∀ n skip, Safe (charFromU32 n >>= fun c => (c :: ·) <$> decodeChars ctx skip rest) :=
              fun n skip => (safe_charFromU32 n).bind fun _ _ => (ih' skip).map
            cases tr with
            | none => exact arm _ _
            | some t => exact ErrIn.ite (fun _ => arm _ _) fun _ => arm _ _
      · rw [decodeChars_other ctx rest och.of hu]
        exact (safe_decodeChar ctx sc hsc).bind fun c _ => (ih' false).map

/-! ### types: no text is read, so a hereditary class and the depth bound suffice -/

/-- `build_type` / `build_type_of` (builder/type.rs: four `only_child` sites, two dispatches) -/
theorem errIn_buildType_buildTypeOf {ctx : Ctx} {S : Panic → Prop} {G : Pair → Prop} (hG : Hered G) (hf : S .fuel) : ∀ fuel,
    (∀ {p}, In G R.«Type» p → ErrIn S (buildType ctx fuel p)) ∧
    (∀ {p}, G p → p.rule ∈ OC_Type → ErrIn S (buildTypeOf ctx fuel p)) := by
  intro fuel
  induction fuel with
  | zero => exact ⟨fun _ => by rw [buildType]; exact ErrIn.err hf, fun _ _ => by rw [buildTypeOf]; exact ErrIn.err hf⟩
  | succ fuel ih =>
    refine ⟨fun h => ?_, fun {p} hg hr => ?_⟩
    · obtain ⟨c, oc⟩ := hG.only h "Type" OC_Type
      rw [buildType, oc.plain, ok_bind]
      exact ih.2 oc.mem (oc.arm.resolve_left (by decide))
    · rw [buildTypeOf]
      refine ErrIn.ite (fun h1 => ?_) fun h1 => ErrIn.ite (fun h2 => ?_) fun h2 => ErrIn.ite (fun h3 => ?_) fun h3 => ?_
      · obtain ⟨c, oc⟩ := hG.only ⟨hg, h1⟩ "NonNullType" OC_NonNullType
        -- the dispatch of `NonNullType` has arms for `NamedType` and `ListType` only, both arms of `build_type_of`
        have hc' : c.rule ∈ OC_Type := by
          have := oc.arm.resolve_left (by decide)
          simp only [OC_NonNullType, OC_Type, List.mem_cons, List.not_mem_nil, or_false] at this ⊢
          exact this.elim (Or.inr ∘ Or.inr) (Or.inr ∘ Or.inl)
        rw [oc.of, ok_bind]
        exact (ih.2 oc.mem hc').bind fun _ _ => ErrIn.ok _
      · obtain ⟨c, oc⟩ := hG.only ⟨hg, h2⟩ "ListType" OC_ListType
        rw [oc.plain, ok_bind]
        exact (ih.1 ⟨oc.mem, by simpa [OC_ListType] using oc.arm⟩).bind fun _ _ => ErrIn.ok _
      · obtain ⟨c, oc⟩ := hG.only ⟨hg, h3⟩ "NamedType" OC_NamedType
        rw [oc.of, ok_bind]
        exact ErrIn.ok _
      · exact absurd hr (by simp [OC_Type, h1, h2, h3])

theorem noPanic_iff {α} {r : M α} : NoPanic r ↔ ErrIn (· = Panic.fuel) r := by
  cases r with
  | ok v => exact ⟨fun _ => ErrIn.ok v, fun _ => .inl ⟨v, rfl⟩⟩
  | error e => exact ⟨fun h => by rcases h with ⟨v, h⟩ | h <;> cases h; exact ErrIn.err rfl,
      fun h => .inr (congrArg _ (h e rfl))⟩

theorem buildType_noPanic (ctx : Ctx) (fuel : Nat) {p : Pair} (hd : DeepOk gList p) (hr : p.rule = R.«Type») :
    NoPanic (buildType ctx fuel p) :=
  noPanic_iff.mpr ((errIn_buildType_buildTypeOf (S := (· = Panic.fuel)) hered_deepOk rfl fuel).1 ⟨hd, hr⟩)

theorem safe_strToOperationType (s : List Char) : Safe (strToOperationType s) :=
  ErrIn.ite (fun _ => Safe.ok _) fun _ => ErrIn.ite (fun _ => Safe.ok _) fun _ => ErrIn.ite (fun _ => Safe.ok _) fun _ =>
    Safe.err trivial

/-- what the walk through the builders uses of a class `G` of pairs and a set `S` of panics: `S` has the model's depth bound,
    `G` is hereditary, and the three places where a builder reads the TEXT of a pair fail only inside `S` on pairs in `G`:
    the `split_at` of a block string, the loop of `build_string_value` over the characters of a string, and
    `str_to_operation_type` on an `OperationType` pair -/
structure Walk (ctx : Ctx) (S : Panic → Prop) (G : Pair → Prop) : Prop extends Hered G where
  fuel : S .fuel
  block : ∀ {c}, In G R.BlockStringValue c → (asStr ctx c).length < 6 → S .splitAt
  chars : ∀ {c}, In G R.NormalStringValue c → ErrIn S (decodeChars ctx false c.children)
  opType : ∀ {p}, In G R.OperationType p → ErrIn S (strToOperationType (asStr ctx p))

theorem walk_safe (ctx : Ctx) : Walk ctx TextPanic (DeepOk gList) :=
  { hered_deepOk with
    fuel := trivial, block := fun _ _ => trivial, opType := fun _ => safe_strToOperationType _,
    chars := fun h => safe_decodeChars ctx _ (hered_deepOk.all h AC_NormalStringValue).2 false }

section
variable {ctx : Ctx} {S : Panic → Prop} {G : Pair → Prop} (W : Walk ctx S G)
include W

theorem errIn_stringValueChars {p : Pair} (h : In G R.StringValue p) : ErrIn S (stringValueChars ctx p) := by
  obtain ⟨c, oc⟩ := W.only h "StringValue" OC_StringValue
  rw [stringValueChars, oc.of, ok_bind]
  refine ErrIn.ite (fun _ => ErrIn.ok _) fun h1 => ErrIn.ite (fun h2 => ?_) fun h2 => ErrIn.ite (fun h3 => ?_) fun h3 => ?_
  · exact ErrIn.ite (fun h => ErrIn.err (W.block ⟨oc.mem, h2⟩ h)) fun _ => ErrIn.ok _
  · exact (W.chars ⟨oc.mem, h3⟩).bind fun _ _ => ErrIn.ok _
  · exact absurd oc.arm (by simp [OC_StringValue, h1, h2, h3])

theorem errIn_buildStringValue {p : Pair} (h : In G R.StringValue p) : ErrIn S (buildStringValue ctx p) :=
  (errIn_stringValueChars W h).bind fun ⟨_, _⟩ _ => ErrIn.ok _

theorem errIn_buildVariable {p : Pair} (h : In G R.Variable p) : ErrIn S (buildVariable ctx p) := by
  obtain ⟨c, oc⟩ := W.only h "Variable" OC_Variable
  rw [buildVariable, oc.of]
  exact ErrIn.ok _

theorem errIn_buildValue : ∀ fuel {p : Pair}, In G R.Value p → ErrIn S (buildValue ctx fuel p) := by
  intro fuel
  induction fuel with
  | zero => intro p _; rw [buildValue]; exact ErrIn.err W.fuel
  | succ fuel ih =>
    intro p h
    obtain ⟨c, oc⟩ := W.only h "Value" OC_Value
    rw [buildValue, oc.of, ok_bind]
    refine ErrIn.ite (fun h => ?_) fun h1 => ErrIn.ite (fun _ => ErrIn.ok _) fun h2 => ErrIn.ite (fun _ => ErrIn.ok _)
      fun h3 => ErrIn.ite (fun h => ?_) fun h4 => ErrIn.ite (fun h => ?_) fun h5 => ErrIn.ite (fun _ => ErrIn.ok _)
      fun h6 => ErrIn.ite (fun _ => ErrIn.ok _) fun h7 => ErrIn.ite (fun h => ?_) fun h8 => ErrIn.ite (fun h => ?_)
      fun h9 => ?_
    · exact (errIn_buildVariable W ⟨oc.mem, h⟩).bind fun ⟨_, _⟩ _ => ErrIn.ok _
    · exact (errIn_buildStringValue W ⟨oc.mem, h⟩).bind fun ⟨_, _⟩ _ => ErrIn.ok _
    · obtain ⟨kw, okw⟩ := W.only ⟨oc.mem, h⟩ "BooleanValue" OC_BooleanValue
      rw [okw.of, ok_bind]
      refine ErrIn.ite (fun _ => ErrIn.ok _) fun k1 => ErrIn.ite (fun _ => ErrIn.ok _) fun k2 => ?_
      exact absurd okw.arm (by simp [OC_BooleanValue, k1, k2])
    · obtain ⟨hall, hcs⟩ := W.all ⟨oc.mem, h⟩ AC_ListValue
      rw [hall, ok_bind]
      exact (ErrIn.mapM fun v hv => ih (hcs v hv)).bind fun _ _ => ErrIn.ok _
    · obtain ⟨hall, hcs⟩ := W.all ⟨oc.mem, h⟩ AC_ObjectValue
      rw [hall, ok_bind]
      refine (ErrIn.mapM fun f hf => ?_).bind fun _ _ => ErrIn.ok _
      obtain ⟨n, -, v, hv, hl⟩ := W.parts (hcs f hf) P_ObjectField
      rw [hl, ok_bind, get2, ok_bind]
      exact (ih hv).bind fun _ _ => ErrIn.ok _
    · exact absurd oc.arm (by simp [OC_Value, h1, h2, h3, h4, h5, h6, h7, h8, h9])

theorem errIn_buildArguments (fuel : Nat) {p : Pair} (h : In G R.Arguments p) : ErrIn S (buildArguments ctx fuel p) := by
  obtain ⟨hall, hcs⟩ := W.all h AC_Arguments
  rw [buildArguments, hall, ok_bind]
  refine ErrIn.mapM fun a ha => ?_
  obtain ⟨n, -, v, hv, hl⟩ := W.parts (hcs a ha) P_Argument
  rw [hl, ok_bind, get2, ok_bind]
  exact (errIn_buildValue W fuel hv).bind fun _ _ => ErrIn.ok _

theorem errIn_optArgs (fuel : Nat) {o : Option Pair} (ho : OptOf (In G) R.Arguments o) : ErrIn S (optArgs ctx fuel o) :=
  ho.elim (ErrIn.ok _) fun _ ha => errIn_buildArguments W fuel ha

theorem errIn_buildDirectives (fuel : Nat) {p : Pair} (h : In G R.Directives p) : ErrIn S (buildDirectives ctx fuel p) := by
  obtain ⟨hall, hcs⟩ := W.all h AC_Directives
  rw [buildDirectives, hall, ok_bind]
  refine ErrIn.mapM fun d hdm => ?_
  obtain ⟨n, -, o, ho, hl⟩ := W.parts (hcs d hdm) P_Directive
  rw [hl, ok_bind]
  exact (errIn_optArgs W fuel ho).bind fun _ _ => ErrIn.ok _

theorem errIn_optDirs (fuel : Nat) {o : Option Pair} (ho : OptOf (In G) R.Directives o) : ErrIn S (optDirs ctx fuel o) :=
  ho.elim (ErrIn.ok _) fun _ hd => errIn_buildDirectives W fuel hd

theorem errIn_buildType (fuel : Nat) {p : Pair} (h : In G R.«Type» p) : ErrIn S (buildType ctx fuel p) :=
  (errIn_buildType_buildTypeOf W.toHered W.fuel fuel).1 h

theorem errIn_optDefault (fuel : Nat) {o : Option Pair} (ho : OptOf (In G) R.DefaultValue o) : ErrIn S (optDefault ctx fuel o) :=
  ho.elim (ErrIn.ok _) fun dv hdv => by
    obtain ⟨c, oc⟩ := W.only hdv "DefaultValue" OC_DefaultValue
    have hcr : c.rule = R.Value := by simpa [OC_DefaultValue] using oc.arm
    rw [optDefault, oc.plain, ok_bind]
    exact (errIn_buildValue W fuel ⟨oc.mem, hcr⟩).bind fun _ _ => ErrIn.ok _

end

theorem safe_buildValue (ctx : Ctx) (fuel : Nat) (p : Pair) (hd : DeepOk gList p) (hr : p.rule = R.Value) :
    Safe (buildValue ctx fuel p) := errIn_buildValue (walk_safe ctx) fuel ⟨hd, hr⟩

theorem safe_buildStringValue (ctx : Ctx) (p : Pair) (hd : DeepOk gList p) (hr : p.rule = R.StringValue) :
    Safe (buildStringValue ctx p) := errIn_buildStringValue (walk_safe ctx) ⟨hd, hr⟩

theorem safe_buildArguments (ctx : Ctx) (fuel : Nat) (p : Pair) (hd : DeepOk gList p) (hr : p.rule = R.Arguments) :
    Safe (buildArguments ctx fuel p) := errIn_buildArguments (walk_safe ctx) fuel ⟨hd, hr⟩

theorem safe_buildDirectives (ctx : Ctx) (fuel : Nat) (p : Pair) (hd : DeepOk gList p) (hr : p.rule = R.Directives) :
    Safe (buildDirectives ctx fuel p) := errIn_buildDirectives (walk_safe ctx) fuel ⟨hd, hr⟩

end NitroVerif.Shape
