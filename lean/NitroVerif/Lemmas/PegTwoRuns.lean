/-
Two runs of the PEG interpreter on the same expression from the same cursor, the second with at least the depth bound of
the first, possibly in another lookahead state and with another trace.  As long as the first has depth left the two
branch alike: same outcome, same end cursor, and traces and pairs related by what the two runs were allowed to differ
in.  `twoRuns` is that induction, done once; "more depth changes nothing" and "the lookahead state and the trace do not
decide success" are its instances with equality resp. no condition on lookahead state, trace and pairs.
-/
import NitroVerif.Lemmas.PegInv
namespace NitroVerif.Peg

/-- what the second run may differ in: how its lookahead state, its trace and its pairs relate to those of the first -/
structure TwoRuns where
  L : Look → Look → Prop
  T : Tr → Tr → Prop
  P : List Pair → List Pair → Prop

namespace TwoRuns
variable (R : TwoRuns)

/-- the second result answers like the first wherever the first had depth left -/
def Rel : Tr × Out → Tr × Out → Prop
  | (t, .ok c p), r' => ∃ t' p', r' = (t', .ok c p') ∧ R.T t t' ∧ R.P p p'
  | (t, .fail), r' => ∃ t', r' = (t', .fail) ∧ R.T t t'
  | (_, .oof), _ => True

/-- the ways the interpreter builds a context or a result out of others keep the two runs related -/
structure Closed : Prop where
  not : ∀ {la la'}, R.L la la' → R.L (lookNot la) (lookNot la')
  and : ∀ {la la'}, R.L la la' → R.L (lookAnd la) (lookAnd la')
  step : ∀ {t t' : Tr}, R.T t t' → R.T { t with steps := t.steps + 1 } { t' with steps := t'.steps + 1 }
  nil : R.P [] []
  app : ∀ {p p' q q'}, R.P p p' → R.P q q' → R.P (p ++ q) (p' ++ q')
  wrap : ∀ {r seen la la' c x x'}, R.L la la' → R.Rel x x' → R.Rel (ruleWrap r seen la c x) (ruleWrap r seen la' c x')

variable (g : G)

structure Holds (f f' : Nat) : Prop where
  ev : ∀ sk e at_ la la' tr tr' c, R.L la la' → R.T tr tr' →
    R.Rel (eval g f sk e at_ la tr c) (eval g f' sk e at_ la' tr' c)
  sk : ∀ sk at_ la la' tr tr' c, R.L la la' → R.T tr tr' →
    R.Rel (doSkip g f sk at_ la tr c) (doSkip g f' sk at_ la' tr' c)
  sr : ∀ a at_ la la' tr tr' c, R.L la la' → R.T tr tr' →
    R.Rel (starRest g f a at_ la tr c) (starRest g f' a at_ la' tr' c)
  cr : ∀ r at_ la la' tr tr' c, R.L la la' → R.T tr tr' →
    R.Rel (callRule g f r at_ la tr c) (callRule g f' r at_ la' tr' c)

variable {R}

theorem twoRuns (hR : R.Closed) : ∀ f f', f ≤ f' → R.Holds g f f' := by
  intro f
  induction f with
  | zero =>
    intro f' _
    exact ⟨fun _ _ _ _ _ _ _ _ _ _ => by rw [eval_zero]; trivial, fun _ _ _ _ _ _ _ _ _ => by rw [doSkip_zero]; trivial,
      fun _ _ _ _ _ _ _ _ _ => by rw [starRest_zero]; trivial, fun _ _ _ _ _ _ _ _ _ => by rw [callRule_zero]; trivial⟩
  | succ f ih =>
    intro f' hf
    obtain ⟨f', rfl⟩ : ∃ k, f' = k + 1 := ⟨f' - 1, by omega⟩
    have ih := ih f' (by omega)
    -- a terminal answers the same whatever the lookahead state and the trace
    have term : ∀ {tr tr' : Tr} (o : Out), R.T tr tr' → (∀ c p, o = .ok c p → p = []) → R.Rel (tr, o) (tr', o) := by
      intro tr tr' o hT hp
      cases o with
      | ok c p => obtain rfl := hp c p rfl; exact ⟨tr', [], rfl, hT, hR.nil⟩
      | fail => exact ⟨tr', rfl, hT⟩
      | oof => trivial
    refine ⟨?_, ?_, ?_, ?_⟩
    · intro sk e at_ la la' tr tr' c hL hT
      cases e with
      | str s => simp only [eval]; split <;> exact term _ hT (by simp)
      | insens s => simp only [eval]; split <;> exact term _ hT (by simp)
      | range lo hi => simp only [eval]; split <;> (try split) <;> exact term _ hT (by simp)
      | any => simp only [eval]; split <;> exact term _ hT (by simp)
      | soi => simp only [eval]; split <;> exact term _ hT (by simp)
      | eoi => simp only [eval]; split <;> exact term _ hT (by simp)
      | seq a b =>
        rw [eval, eval]
        have h1 := ih.ev sk a at_ la la' tr tr' c hL hT
        rcases e1 : eval g f sk a at_ la tr c with ⟨t1, o1⟩
        rw [e1] at h1
        cases o1 with
        | oof => trivial
        | fail => obtain ⟨t1', e1', hT1⟩ := h1; rw [e1']; exact ⟨t1', rfl, hT1⟩
        | ok c1 p1 =>
          obtain ⟨t1', p1', e1', hT1, hP1⟩ := h1
          rw [e1']
          dsimp only
          have h2 := ih.sk sk at_ la la' t1 t1' c1 hL hT1
          rcases e2 : doSkip g f sk at_ la t1 c1 with ⟨t2, o2⟩
          rw [e2] at h2
          cases o2 with
          | oof => trivial
          | fail => obtain ⟨t2', e2', hT2⟩ := h2; rw [e2']; exact ⟨t2', rfl, hT2⟩
          | ok c2 p2 =>
            obtain ⟨t2', p2', e2', hT2, hP2⟩ := h2
            rw [e2']
            dsimp only
            have h3 := ih.ev sk b at_ la la' t2 t2' c2 hL hT2
            rcases e3 : eval g f sk b at_ la t2 c2 with ⟨t3, o3⟩
            rw [e3] at h3
            cases o3 with
            | oof => trivial
            | fail => obtain ⟨t3', e3', hT3⟩ := h3; rw [e3']; exact ⟨t3', rfl, hT3⟩
            | ok c3 p3 =>
              obtain ⟨t3', p3', e3', hT3, hP3⟩ := h3
              rw [e3']
              exact ⟨t3', _, rfl, hT3, hR.app (hR.app hP1 hP2) hP3⟩
      | choice a b =>
        rw [eval, eval]
        have h1 := ih.ev sk a at_ la la' tr tr' c hL hT
        rcases e1 : eval g f sk a at_ la tr c with ⟨t1, o1⟩
        rw [e1] at h1
        cases o1 with
        | oof => trivial
        | ok c1 p1 => obtain ⟨t1', p1', e1', hT1, hP1⟩ := h1; rw [e1']; exact ⟨t1', p1', rfl, hT1, hP1⟩
        | fail => obtain ⟨t1', e1', hT1⟩ := h1; rw [e1']; exact ih.ev sk b at_ la la' t1 t1' c hL hT1
      | opt a =>
        rw [eval, eval]
        have h1 := ih.ev sk a at_ la la' tr tr' c hL hT
        rcases e1 : eval g f sk a at_ la tr c with ⟨t1, o1⟩
        rw [e1] at h1
        cases o1 with
        | oof => trivial
        | ok c1 p1 => obtain ⟨t1', p1', e1', hT1, hP1⟩ := h1; rw [e1']; exact ⟨t1', p1', rfl, hT1, hP1⟩
        | fail => obtain ⟨t1', e1', hT1⟩ := h1; rw [e1']; exact ⟨t1', [], rfl, hT1, hR.nil⟩
      | star a =>
        -- both forms of `a*`: the body, then the rest of the loop (`rest` is `starRest` resp. `a*` itself)
        have loop : ∀ (rest : Nat → Look → Tr → Cur → Tr × Out),
            (∀ t t' c1, R.T t t' → R.Rel (rest f la t c1) (rest f' la' t' c1)) →
            R.Rel
              (match eval g f sk a at_ la tr c with
                | (tr1, .ok c1 p1) =>
                  match rest f la tr1 c1 with
                  | (tr2, .ok c2 p2) => (tr2, .ok c2 (p1 ++ p2))
                  | r => r
                | (tr1, .fail) => (tr1, .ok c [])
                | r => r)
              (match eval g f' sk a at_ la' tr' c with
                | (tr1, .ok c1 p1) =>
                  match rest f' la' tr1 c1 with
                  | (tr2, .ok c2 p2) => (tr2, .ok c2 (p1 ++ p2))
                  | r => r
                | (tr1, .fail) => (tr1, .ok c [])
                | r => r) := by
          intro rest hrest
          have h1 := ih.ev sk a at_ la la' tr tr' c hL hT
          rcases e1 : eval g f sk a at_ la tr c with ⟨t1, o1⟩
          rw [e1] at h1
          cases o1 with
          | oof => trivial
          | fail => obtain ⟨t1', e1', hT1⟩ := h1; rw [e1']; exact ⟨t1', [], rfl, hT1, hR.nil⟩
          | ok c1 p1 =>
            obtain ⟨t1', p1', e1', hT1, hP1⟩ := h1
            rw [e1']
            dsimp only
            have h2 := hrest t1 t1' c1 hT1
            rcases e2 : rest f la t1 c1 with ⟨t2, o2⟩
            rw [e2] at h2
            cases o2 with
            | oof => trivial
            | fail => obtain ⟨t2', e2', hT2⟩ := h2; rw [e2']; exact ⟨t2', rfl, hT2⟩
            | ok c2 p2 =>
              obtain ⟨t2', p2', e2', hT2, hP2⟩ := h2
              rw [e2']
              exact ⟨t2', _, rfl, hT2, hR.app hP1 hP2⟩
        cases sk with
        | true =>
          rw [eval, eval]
          simp only [if_true]
          exact loop (fun k l t c1 => starRest g k a at_ l t c1) fun t t' c1 hT1 => ih.sr a at_ la la' t t' c1 hL hT1
        | false =>
          rw [eval, eval]
          simp only [Bool.false_eq_true, if_false]
          exact loop (fun k l t c1 => eval g k false (.star a) at_ l t c1) fun t t' c1 hT1 =>
            ih.ev false (.star a) at_ la la' t t' c1 hL hT1
      | plus a => rw [eval_plus, eval_plus]; exact ih.ev _ _ _ _ _ _ _ _ hL hT
      | rep n a => rw [eval_rep, eval_rep]; exact ih.ev _ _ _ _ _ _ _ _ hL hT
      | not a =>
        rw [eval, eval]
        have h1 := ih.ev sk a at_ _ _ tr tr' c (hR.not hL) hT
        rcases e1 : eval g f sk a at_ (lookNot la) tr c with ⟨t1, o1⟩
        rw [e1] at h1
        cases o1 with
        | oof => trivial
        | ok c1 p1 => obtain ⟨t1', p1', e1', hT1, _⟩ := h1; rw [e1']; exact ⟨t1', rfl, hT1⟩
        | fail => obtain ⟨t1', e1', hT1⟩ := h1; rw [e1']; exact ⟨t1', [], rfl, hT1, hR.nil⟩
      | and a =>
        rw [eval, eval]
        have h1 := ih.ev sk a at_ _ _ tr tr' c (hR.and hL) hT
        rcases e1 : eval g f sk a at_ (lookAnd la) tr c with ⟨t1, o1⟩
        rw [e1] at h1
        cases o1 with
        | oof => trivial
        | ok c1 p1 => obtain ⟨t1', p1', e1', hT1, _⟩ := h1; rw [e1']; exact ⟨t1', [], rfl, hT1, hR.nil⟩
        | fail => obtain ⟨t1', e1', hT1⟩ := h1; rw [e1']; exact ⟨t1', rfl, hT1⟩
      | call r => rw [eval_call, eval_call]; exact ih.cr _ _ _ _ _ _ _ hL hT
    · intro sk at_ la la' tr tr' c hL hT
      rw [doSkip, doSkip]
      split
      · split
        · exact ih.ev _ _ _ _ _ _ _ _ hL hT
        · exact ⟨tr', [], rfl, hT, hR.nil⟩
      · exact ⟨tr', [], rfl, hT, hR.nil⟩
    · intro a at_ la la' tr tr' c hL hT
      rw [starRest, starRest]
      have h1 := ih.sk true at_ la la' tr tr' c hL hT
      rcases e1 : doSkip g f true at_ la tr c with ⟨t1, o1⟩
      rw [e1] at h1
      cases o1 with
      | oof => trivial
      | fail => obtain ⟨t1', e1', hT1⟩ := h1; rw [e1']; exact ⟨t1', [], rfl, hT1, hR.nil⟩
      | ok c1 p1 =>
        obtain ⟨t1', p1', e1', hT1, hP1⟩ := h1
        rw [e1']
        dsimp only
        have h2 := ih.ev true a at_ la la' t1 t1' c1 hL hT1
        rcases e2 : eval g f true a at_ la t1 c1 with ⟨t2, o2⟩
        rw [e2] at h2
        cases o2 with
        | oof => trivial
        | fail => obtain ⟨t2', e2', hT2⟩ := h2; rw [e2']; exact ⟨t2', [], rfl, hT2, hR.nil⟩
        | ok c2 p2 =>
          obtain ⟨t2', p2', e2', hT2, hP2⟩ := h2
          rw [e2']
          dsimp only
          have h3 := ih.sr a at_ la la' t2 t2' c2 hL hT2
          rcases e3 : starRest g f a at_ la t2 c2 with ⟨t3, o3⟩
          rw [e3] at h3
          cases o3 with
          | oof => trivial
          | fail => obtain ⟨t3', e3', hT3⟩ := h3; rw [e3']; exact ⟨t3', rfl, hT3⟩
          | ok c3 p3 =>
            obtain ⟨t3', p3', e3', hT3, hP3⟩ := h3
            rw [e3']
            exact ⟨t3', _, rfl, hT3, hR.app (hR.app hP1 hP2) hP3⟩
    · intro r at_ la la' tr tr' c hL hT
      cases hl : g.look r with
      | none => simp only [callRule, hl]; exact ⟨tr', rfl, hT⟩
      | some kb =>
        obtain ⟨kind, body⟩ := kb
        rw [callRule_succ g hl, callRule_succ g hl]
        split
        · exact ih.ev _ _ _ _ _ _ _ _ hL (hR.step hT)
        · exact hR.wrap hL (ih.ev _ _ _ _ _ _ _ _ hL (hR.step hT))

end TwoRuns
end NitroVerif.Peg
