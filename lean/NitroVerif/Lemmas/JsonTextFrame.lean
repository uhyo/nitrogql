import NitroVerif.Lemmas.JsonTextDoc
import NitroVerif.Lemmas.PrintMapBodyFile
import NitroVerif.Lemmas.DocJson
/-!
# C12, text level — from the text of a runtime document to the definitions a consumer reads, and the frame around the literal

`readText` / `readJsExpr`: what a consumer of the emitted TEXT sees — the reference JSON reader (resp. the reference ECMAScript
literal reader at the head of a text) followed by the reference `DocumentNode` reader. Both read the text of any
`DocJson.toJson defs` back as that tree, so a tree-level statement about a runtime document lifts to the text the printer writes
(`text_lift`). The frame: the statements `[export ]const N = <literal>;` (JavaScript module, loader) and
`[export ]const N: T = <literal> as unknown as T;` (`.graphql.ts`) as prefix ++ literal ++ rest, with `rest` unable to continue a
number; every such constant of the two modules carries the text of the runtime document of a definition of the document.
-/
namespace NitroVerif.JsonText
open NitroVerif NitroVerif.Gql NitroVerif.DocJson NitroVerif.ReadDoc NitroVerif.FragClosure NitroVerif.PrintMap

/-- the definitions a consumer of a JSON text reads: RFC 8259 reading, then the graphql-js `DocumentNode` reading -/
def readText (s : List Char) : Option (List ExecDef) := (parse s).bind readDoc

/-- the definitions a consumer of a JavaScript module reads from the expression at the head of `s` (the text behind
    `const N = `), and the text behind that expression -/
def readJsExpr (s : List Char) : Option (List ExecDef × List Char) :=
  match JsLit.expr s with
  | some (t, r) => (readDoc t).map fun ds => (ds, r)
  | none => none

theorem parse_jsonText (t : Json) (h : good rfc8259.key t = true) : parse (jsonText t).toList = some t := by
  rw [jsonText_toList]; exact parseWith_chars rfc8259_ok t h

theorem expr_jsonText (t : Json) (h : good JsLit.lex.key t = true) (rest : List Char) (hd : Delim rest) :
    JsLit.expr ((jsonText t).toList ++ rest) = some (t, rest) := by
  rw [jsonText_toList]; exact value_chars_fuelFor jsLit_ok t h rest hd

theorem good_doc_rfc (defs : List ExecDef) : good rfc8259.key (toJson defs) = true :=
  good_of_shape _ rfc_key_vocab _ (shape_toJson defs)

theorem good_doc_js (defs : List ExecDef) : good JsLit.lex.key (toJson defs) = true :=
  good_of_shape _ js_key_vocab _ (shape_toJson defs)

theorem parse_doc (defs : List ExecDef) : parse (jsonText (toJson defs)).toList = some (toJson defs) :=
  parse_jsonText _ (good_doc_rfc defs)

theorem expr_doc (defs : List ExecDef) (rest : List Char) (hd : Delim rest) :
    JsLit.expr ((jsonText (toJson defs)).toList ++ rest) = some (toJson defs, rest) :=
  expr_jsonText _ (good_doc_js defs) rest hd

theorem text_lift {D : Doc} {x : ExecDef} {ds r : List ExecDef} (hrun : runtimeDefs D x = .ok ds)
    (hread : readDoc (toJson ds) = some r) :
    runtimeText D x = .ok (jsonText (toJson ds)) ∧
    readText (jsonText (toJson ds)).toList = some r ∧
    ∀ rest, Delim rest → readJsExpr ((jsonText (toJson ds)).toList ++ rest) = some (r, rest) := by
  refine ⟨runtimeText_ok_iff.mpr ⟨ds, hrun, rfl⟩, ?_, ?_⟩
  · simp [readText, parse_doc, hread]
  · intro rest hd
    simp [readJsExpr, expr_doc ds rest hd, hread]

theorem readText_chars {ds : List ExecDef} (h : Resolved ds) : readText (chars (toJson ds)) = some (erasePos ds) := by
  rw [← jsonText_toList, readText, parse_doc, Option.bind_some, C12.readDoc_toJson ds h]

theorem readJsExpr_doc {ds : List ExecDef} (h : Resolved ds) {rest : List Char} (hd : Delim rest) :
    readJsExpr ((jsonText (toJson ds)).toList ++ rest) = some (erasePos ds, rest) := by
  simp only [readJsExpr, expr_doc ds rest hd, C12.readDoc_toJson ds h, Option.map]

theorem readJsExpr_chars {ds : List ExecDef} (h : Resolved ds) {rest : List Char} (hd : Delim rest) :
    readJsExpr (chars (toJson ds) ++ rest) = some (erasePos ds, rest) := by
  rw [← jsonText_toList]; exact readJsExpr_doc h hd

theorem delim_semicolon (after : List Char) : Delim (';' :: '\n' :: '\n' :: after) := delim_cons (by decide)

theorem delim_space (after : List Char) : Delim (' ' :: after) := delim_cons (by decide)

/-- `[export ]const N = ` -/
def jsConstPrefix (n : String) (e : Bool) : String := (if e then "export " else "") ++ "const " ++ n ++ " = "

theorem jsConst_toList (n : String) (i : Nat) (e : Bool) (j : String) (after : List Char) :
    (RStmt.text (.jsConst n i e j)).toList ++ after =
      (jsConstPrefix n e).toList ++ (j.toList ++ ';' :: '\n' :: '\n' :: after) := by
  simp [RStmt.text, jsConstPrefix, String.toList_append]

/-- `[export |declare ]const N: T = ` -/
def tsConstPrefix (n : String) (e a : Bool) (ty : NitroVerif.Ts.Ty) : String :=
  (if e then "export " else if a then "declare " else "") ++ "const " ++ n ++ ": " ++ layoutTy ty ++ " = "

/-- `as unknown as T;\n\n` (behind the space that follows the literal) -/
def tsConstSuffix (ty : NitroVerif.Ts.Ty) : String := "as unknown as " ++ layoutTy ty ++ ";\n\n"

theorem tsConst_toList (n : String) (i : Nat) (e a : Bool) (ty : NitroVerif.Ts.Ty) (j : String) (after : List Char) :
    (RStmt.text (.const n i e a ty (some j))).toList ++ after =
      (tsConstPrefix n e a ty).toList ++ (j.toList ++ ' ' :: ((tsConstSuffix ty).toList ++ after)) := by
  have h1 : (" = " : String).toList = [' ', '=', ' '] := String.toList_ofList
  have h2 : (" as unknown as " : String).toList = ' ' :: ("as unknown as " : String).toList := by
    rw [String.toList_ofList, String.toList_ofList]
  simp only [RStmt.text, tsConstPrefix, tsConstSuffix, String.toList_append, h1, h2, List.append_assoc, List.cons_append,
    List.nil_append]

/-- a statement of the JavaScript module is `export { … as default }` or a constant whose value is the text of the runtime
    document of a definition of `L` -/
def JsStmtOk (D : Doc) (L : Doc) (s : RStmt) : Prop :=
  (∃ l, s = .exportDefault l) ∨
  ∃ n i e x ds, s = .jsConst n i e (jsonText (toJson ds)) ∧ x ∈ L ∧ runtimeDefs D x = .ok ds

theorem JsStmtOk.mono {D L L' : Doc} {s : RStmt} (h : JsStmtOk D L s) (hl : ∀ x, x ∈ L → x ∈ L') : JsStmtOk D L' s := by
  rcases h with h | ⟨n, i, e, x, ds, h1, h2, h3⟩
  · exact Or.inl h
  · exact Or.inr ⟨n, i, e, x, ds, h1, hl x h2, h3⟩

theorem jsStmts_values (fo : FullOpts) (D : Doc) (docFile count : Nat) :
    ∀ (L : Doc) (r : List POp) (i : Nat), opJsDefsOps fo D docFile count L = .ok r →
      ∀ s ∈ jsStmts fo D docFile count i L, JsStmtOk D L s
  | [], _, _, _, s, hs => by simp [jsStmts] at hs
  | .op op :: rest, r, i, h, s, hs => by
    simp only [opJsDefsOps] at h
    split at h
    · cases h
    · rename_i js hjs
      split at h
      · cases h
      · rename_i r' hr'
        obtain ⟨ds, hrd, _⟩ := runtimeText_ok_iff.mp hjs
        simp only [jsStmts, List.mem_append, List.mem_cons, List.not_mem_nil, or_false] at hs
        rcases hs with (hs | hs) | hs
        · subst hs
          exact Or.inr ⟨_, _, _, .op op, ds, by rw [runtimeModelText_ok hrd], by simp, hrd⟩
        · split at hs
          · simp only [List.mem_cons, List.not_mem_nil, or_false] at hs; exact Or.inl ⟨_, hs⟩
          · cases hs
        · exact (jsStmts_values fo D docFile count rest r' (i + 1) hr' s hs).mono (fun x hx => by simp [hx])
  | .frag f :: rest, r, i, h, s, hs => by
    simp only [opJsDefsOps] at h
    split at h
    · cases h
    · rename_i js hjs
      split at h
      · cases h
      · rename_i r' hr'
        obtain ⟨ds, hrd, _⟩ := runtimeText_ok_iff.mp hjs
        simp only [jsStmts, List.mem_cons] at hs
        rcases hs with hs | hs
        · subst hs
          exact Or.inr ⟨_, _, _, .frag f, ds, by rw [runtimeModelText_ok hrd], by simp, hrd⟩
        · exact (jsStmts_values fo D docFile count rest r' (i + 1) hr' s hs).mono (fun x hx => by simp [hx])
  | .imp _ :: rest, r, i, h, s, hs => by
    simp only [opJsDefsOps] at h
    simp only [jsStmts] at hs
    exact (jsStmts_values fo D docFile count rest r i h s hs).mono (fun x hx => by simp [hx])

/-- a statement of the declaration file is a type alias, the default export, a constant without a value, or a constant
    whose value is the text of the runtime document of a definition of `L` -/
def TsStmtOk (D : Doc) (L : Doc) (s : RStmt) : Prop :=
  (∃ n e ty, s = .typeAlias n e ty) ∨ (∃ l, s = .exportDefault l) ∨ (∃ n i e a ty, s = .const n i e a ty none) ∨
  ∃ n i e a ty x ds, s = .const n i e a ty (some (jsonText (toJson ds))) ∧ x ∈ L ∧ runtimeDefs D x = .ok ds

theorem TsStmtOk.mono {D L L' : Doc} {s : RStmt} (h : TsStmtOk D L s) (hl : ∀ x, x ∈ L → x ∈ L') : TsStmtOk D L' s := by
  rcases h with h | h | h | ⟨n, i, e, a, ty, x, ds, h1, h2, h3⟩
  · exact Or.inl h
  · exact Or.inr (Or.inl h)
  · exact Or.inr (Or.inr (Or.inl h))
  · exact Or.inr (Or.inr (Or.inr ⟨n, i, e, a, ty, x, ds, h1, hl x h2, h3⟩))

theorem optValue_cases {pv : Bool} {D : Doc} {x : ExecDef} {js : Option String} (h : optRuntime pv D x = .ok js) :
    optValue pv D x = none ∨ ∃ ds, runtimeDefs D x = .ok ds ∧ optValue pv D x = some (jsonText (toJson ds)) := by
  obtain ⟨rfl, h2⟩ := optRuntime_ok h
  cases pv
  · exact .inl rfl
  · exact .inr (h2 rfl)

theorem typeStmts_values (fo : FullOpts) (S : Schema) (D : Doc) (docFile count : Nat) :
    ∀ (L : Doc) (sps : List Pos) (r : List POp) (i : Nat), opTypeDefsOps fo S D docFile count L sps = .ok r →
      ∀ s ∈ typeStmts fo S D docFile count i L, TsStmtOk D L s
  | [], _, _, _, _, s, hs => by simp [typeStmts] at hs
  | .op op :: rest, sps, r, i, h, s, hs => by
    simp only [opTypeDefsOps] at h
    split at h
    · cases h
    · rename_i a ha
      split at h
      · cases h
      · rename_i r' hr'
        simp only [typeStmts, List.mem_append] at hs
        rcases hs with hs | hs
        · simp only [opStmts, List.mem_append, List.mem_cons, List.not_mem_nil, or_false] at hs
          rcases hs with (hs | hs | hs) | hs
          · exact Or.inl ⟨_, _, _, hs⟩
          · exact Or.inl ⟨_, _, _, hs⟩
          · unfold opTypeOperationOps at ha
            split at ha
            · cases ha
            · split at ha
              · cases ha
              · rename_i js hjs
                rcases optValue_cases hjs with hv | ⟨ds, hrd, hv⟩
                · rw [hv] at hs; exact Or.inr (Or.inr (Or.inl ⟨_, _, _, _, _, hs⟩))
                · rw [hv] at hs
                  exact Or.inr (Or.inr (Or.inr ⟨_, _, _, _, _, .op op, ds, hs, by simp, hrd⟩))
          · split at hs
            · simp only [List.mem_cons, List.not_mem_nil, or_false] at hs; exact Or.inr (Or.inl ⟨_, hs⟩)
            · cases hs
        · exact (typeStmts_values fo S D docFile count rest sps.tail r' (i + 1) hr' s hs).mono
            (fun x hx => by simp [hx])
  | .frag f :: rest, sps, r, i, h, s, hs => by
    simp only [opTypeDefsOps] at h
    split at h
    · cases h
    · rename_i a ha
      split at h
      · cases h
      · rename_i r' hr'
        simp only [typeStmts, List.mem_append] at hs
        rcases hs with hs | hs
        · simp only [fragStmts, List.mem_cons, List.not_mem_nil, or_false] at hs
          rcases hs with hs | hs
          · exact Or.inl ⟨_, _, _, hs⟩
          · unfold opTypeFragmentOps at ha
            split at ha
            · cases ha
            · split at ha
              · cases ha
              · rename_i js hjs
                rcases optValue_cases hjs with hv | ⟨ds, hrd, hv⟩
                · rw [hv] at hs; exact Or.inr (Or.inr (Or.inl ⟨_, _, _, _, _, hs⟩))
                · rw [hv] at hs
                  exact Or.inr (Or.inr (Or.inr ⟨_, _, _, _, _, .frag f, ds, hs, by simp, hrd⟩))
        · exact (typeStmts_values fo S D docFile count rest sps r' (i + 1) hr' s hs).mono (fun x hx => by simp [hx])
  | .imp _ :: rest, sps, r, i, h, s, hs => by
    simp only [opTypeDefsOps] at h
    simp only [typeStmts] at hs
    exact (typeStmts_values fo S D docFile count rest sps r i h s hs).mono (fun x hx => by simp [hx])

/-- the LAST value stored under `k` (what `JSON.parse` and an object literal keep when a name is repeated) -/
def lookupLast (k : String) : List (String × Json) → Option Json
  | [] => none
  | (k', v) :: r =>
    match lookupLast k r with
    | some x => some x
    | none => if k' = k then some v else none

theorem lookupLast_none_of_not_mem (k : String) (kvs : List (String × Json)) (h : k ∉ kvs.map (·.1)) :
    lookupLast k kvs = none := by
  induction kvs with
  | nil => rfl
  | cons kv r ih =>
    obtain ⟨k', v⟩ := kv
    simp only [List.map_cons, List.mem_cons, not_or] at h
    simp [lookupLast, ih h.2, Ne.symm h.1]

theorem lookup_eq_lookupLast (k : String) (kvs : List (String × Json)) (h : (kvs.map (·.1)).Nodup) :
    Json.lookup k kvs = lookupLast k kvs := by
  induction kvs with
  | nil => rfl
  | cons kv r ih =>
    obtain ⟨k', v⟩ := kv
    simp only [List.map_cons, List.nodup_cons] at h
    by_cases hk : k' = k
    · subst hk
      simp [Json.lookup, lookupLast, lookupLast_none_of_not_mem _ _ h.1]
    · simp only [Json.lookup, hk, if_false, lookupLast, ih h.2]
      cases lookupLast k r <;> rfl

/-- `query Q { ...F }  fragment F on T { c(s: "<every escape class>") }` -/
def testF : FragmentDef := { name := "F", cond := "T", sel := [.field none "c" {} [("s", {}, .str "\"\\/\u0008\u000c\n\r\t\u0001é\u2028😀" {})] [] none] }
def testQ : OperationDef := { kind := .query, name := some ("Q", {}), sel := [.spread "F" {} [] {}] }

/-- what the examples of `Props/C12Text.lean` quote about the test document, evaluated; everything else they state follows from
    `readText_chars` / `readJsExpr_chars` -/
theorem testDoc_run : Resolved [.op testQ, .frag testF] ∧
    runtimeDefs [.op testQ, .frag testF] (.op testQ) = .ok [.op testQ, .frag testF] ∧
    (opJsOps {} [.op testQ, .frag testF] 0).toOption.isSome = true :=
  ⟨by decide +kernel, rfl, by decide +kernel⟩

end NitroVerif.JsonText
