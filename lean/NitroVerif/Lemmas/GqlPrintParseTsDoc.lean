import NitroVerif.Lemmas.GqlPrintParseTs
/-!
C16, token level: parse-back of type definitions / extensions, schema definitions / extensions, directive definitions
and whole type-system documents.
-/
namespace NitroVerif.C16
open NitroVerif.Gql NitroVerif.GqlTokens

theorem startsN_dirs (n : String) (ds : List Directive) (rest : List LTok) (h : startsN n rest = false) :
    startsN n (dirsToks ds ++ rest) = false := by
  cases ds with
  | nil => simpa [dirsToks] using h
  | cons d ds => simp [dirsToks, directiveToks, startsN]

theorem startsN_bracket {α : Type} (n open_ close : String) (t : α → List LTok) (xs : List α) (rest : List LTok)
    (h : startsN n rest = false) : startsN n (bracketToks open_ close t xs ++ rest) = false := by
  cases xs with
  | nil => simpa [bracketToks] using h
  | cons x xs => simp [bracketToks, startsN]

theorem startsP_members (s : String) (hs : s ≠ "=") (l : List (Name × Pos)) (rest : List LTok)
    (h : startsP s rest = false) : startsP s (membersToks l ++ rest) = false := by
  cases l with
  | nil => simpa [membersToks] using h
  | cons x xs => simp [membersToks, startsP]; exact fun e => hs e.symm

/-! ### the part of a type definition after its name -/

theorem parse_dirs_braced {α : Type} (ds : List Directive) (hwf : wfDirs ds = true) (t : α → List LTok) (xs : List α)
    (rest : List LTok) (f : Nat) (hf : 2 * (dirsToks ds).length + 1 ≤ f) (hs : Stops rest) :
    parseDirs f (dirsToks ds ++ (bracedToks t xs ++ rest)) = some (eraseDirs ds, bracedToks t xs ++ rest) := by
  rw [bracedToks_eq]
  exact parse_dirs ds hwf _ f hf (startsP_bracket "(" "{" "}" (by decide) t xs rest hs.paren)
    (startsP_bracket "@" "{" "}" (by decide) t xs rest hs.at_)

theorem parse_typeBody (t : TypeDef) (hwf : wfTypeDef t = true) (rest : List LTok) (f : Nat) (hr : ItemFollow rest)
    (hf : 2 * (typeBodyToks t).length + 4 ≤ f) :
    parseTypeBody f t.kind t.desc t.name (typeBodyToks t ++ rest) = some (eraseTypeDef t, rest) := by
  unfold wfTypeDef at hwf
  unfold typeBodyToks at hf ⊢
  have hs := hr.stops
  -- the components the kind does not have are `[]`, in `t` as in what the parser builds
  cases hk : t.kind with
  | scalar =>
    simp only [hk, Bool.and_eq_true, List.isEmpty_iff] at hwf hf
    obtain ⟨hd, ⟨⟨⟨⟨e1, e2⟩, e3⟩, e4⟩, e5⟩⟩ := hwf
    have hdirs := parse_dirs t.dirs hd rest f (by omega) hs.paren hs.at_
    simp [parseTypeBody, hdirs, eraseTypeDef, hk, e1, e2, e3, e4, e5, eraseNames]
  | object | interface =>
    simp only [hk, Bool.and_eq_true, List.isEmpty_iff, List.length_append] at hwf hf
    obtain ⟨hd, ⟨⟨⟨h1, e2⟩, e3⟩, e4⟩⟩ := hwf
    have hl := implementsToks_length t.implements
    have himpl := parse_implements t.implements (dirsToks t.dirs ++ (bracedToks fieldDefToks t.fields ++ rest)) f
      (by omega)
      (startsP_dirs "&" (by decide) _ _ (by rw [bracedToks_eq]; exact startsP_bracket "&" "{" "}" (by decide) _ _ _ hs.amp))
      (startsN_dirs _ _ _ (by rw [bracedToks_eq]; exact startsN_bracket _ _ _ _ _ _ hr.impl))
    have hdirs := parse_dirs_braced t.dirs hd fieldDefToks t.fields rest f (by omega) hs
    have hfields := parse_fieldList t.fields h1 rest f hs.brace (by omega)
    simp only [List.append_assoc]
    simp [parseTypeBody, himpl, hdirs, hfields, eraseTypeDef, hk, e2, e3, e4, eraseNames]
  | union =>
    simp only [hk, Bool.and_eq_true, List.isEmpty_iff, List.length_append] at hwf hf
    obtain ⟨hd, ⟨⟨⟨e1, e2⟩, e3⟩, e4⟩⟩ := hwf
    have hl := membersToks_length t.members
    have hdirs := parse_dirs t.dirs hd (membersToks t.members ++ rest) f (by omega)
      (startsP_members "(" (by decide) _ _ hs.paren) (startsP_members "@" (by decide) _ _ hs.at_)
    have hmem := parse_members t.members rest f (by omega) hs.bar hs.eq
    simp only [List.append_assoc]
    simp [parseTypeBody, hdirs, hmem, eraseTypeDef, hk, e1, e2, e3, e4, eraseNames]
  | «enum» =>
    simp only [hk, Bool.and_eq_true, List.isEmpty_iff, List.length_append] at hwf hf
    obtain ⟨hd, ⟨⟨⟨⟨h0, e1⟩, e2⟩, e3⟩, e4⟩⟩ := hwf
    have hdirs := parse_dirs_braced t.dirs hd enumValueDefToks t.values rest f (by omega) hs
    have hvals := parse_enumValueList t.values h0 rest f hs.brace (by omega)
    simp only [List.append_assoc]
    simp [parseTypeBody, hdirs, hvals, eraseTypeDef, hk, e1, e2, e3, e4, eraseNames]
  | input =>
    simp only [hk, Bool.and_eq_true, List.isEmpty_iff, List.length_append] at hwf hf
    obtain ⟨hd, ⟨⟨⟨⟨h0, e1⟩, e2⟩, e3⟩, e4⟩⟩ := hwf
    have hdirs := parse_dirs_braced t.dirs hd inputValueDefToks t.inputs rest f (by omega) hs
    have hvals := parse_inputList t.inputs h0 rest f hs.brace (by omega)
    simp only [List.append_assoc]
    simp [parseTypeBody, hdirs, hvals, eraseTypeDef, hk, e1, e2, e3, e4, eraseNames]

/-! ### items -/

theorem kindOfKw_kindKw (k : TypeKind) : kindOfKw (kindKw k) = some k := by cases k <;> rfl
theorem kindKw_ne_schema (k : TypeKind) : kindKw k ≠ "schema" := by cases k <;> decide
theorem kindKw_ne_directive (k : TypeKind) : kindKw k ≠ "directive" := by cases k <;> decide
theorem kindKw_ne_extend (k : TypeKind) : kindKw k ≠ "extend" := by cases k <;> decide
theorem kindKw_ne_implements (k : TypeKind) : kindKw k ≠ "implements" := by cases k <;> decide

theorem parse_typeDef (t : TypeDef) (hwf : wfTypeDef t = true) (rest : List LTok) (f : Nat) (hr : ItemFollow rest)
    (hf : 2 * (typeDefToks t).length + 4 ≤ f) :
    parseTsItem f (typeDefToks t ++ rest) = some (.typeDef (eraseTypeDef t), rest) := by
  simp only [typeDefToks, List.length_append, List.length_cons] at hf
  have hbody := parse_typeBody t hwf rest f hr (by omega)
  simp only [typeDefToks, List.cons_append, List.append_assoc]
  simp [parseTsItem, parseDesc_desc, kindKw_ne_schema, kindKw_ne_directive, kindKw_ne_extend, kindOfKw_kindKw, hbody]

theorem nonTrivial_erase (t : TypeDef) : nonTrivial (eraseTypeDef t) = nonTrivial t := by
  simp [nonTrivial, eraseTypeDef, eraseNames, eraseDirs]

theorem parse_typeExt (t : TypeDef) (hwf : wfTypeExt t = true) (rest : List LTok) (f : Nat) (hr : ItemFollow rest)
    (hf : 2 * (typeExtToks t).length + 4 ≤ f) :
    parseTsItem f (typeExtToks t ++ rest) = some (.typeExt (eraseTypeDef t), rest) := by
  simp only [wfTypeExt, Bool.and_eq_true, Option.isNone_iff_eq_none] at hwf
  obtain ⟨⟨hw, hd⟩, hnt⟩ := hwf
  simp only [typeExtToks, List.length_cons] at hf
  have hbody := parse_typeBody t hw rest f hr (by omega)
  rw [hd] at hbody
  simp only [typeExtToks, List.cons_append]
  simp [parseTsItem, parseDesc, kindKw_ne_schema, kindOfKw_kindKw, hbody, nonTrivial_erase, hnt]

theorem parse_root (r : OpKind × Name × Pos) (X : List LTok) : parseRoot (rootToks r ++ X) = some (eraseRoot r, X) := by
  obtain ⟨k, n, p⟩ := r
  simp [rootToks, parseRoot, opKindOf_asStr, eraseRoot]

theorem rootToks_head (r : OpKind × Name × Pos) (X : List LTok) :
    Stops (rootToks r ++ X) ∧ ∃ tok r', rootToks r ++ X = tok :: r' ∧ tok ≠ .p "}" := by
  simp only [rootToks, List.cons_append, List.nil_append]
  exact ⟨Stops.name _ _, _, _, rfl, by simp⟩

theorem rootsToks_length (rs : List (OpKind × Name × Pos)) : (listToks rootToks rs).length = 3 * rs.length := by
  induction rs with
  | nil => rfl
  | cons r rs ih => simp [listToks, rootToks, ih]; omega

theorem parse_schemaDef (s : SchemaDef) (hwf : wfSchemaDef s = true) (rest : List LTok) (f : Nat)
    (hf : 2 * (schemaDefToks s).length + 4 ≤ f) :
    parseTsItem f (schemaDefToks s ++ rest) = some (.schemaDef (eraseSchemaDef s), rest) := by
  simp only [wfSchemaDef, Bool.and_eq_true, Bool.not_eq_true'] at hwf
  obtain ⟨hd, hne⟩ := hwf
  simp only [schemaDefToks, List.length_append, List.length_cons, List.length_nil, rootsToks_length] at hf
  have hdirs := parse_dirs s.dirs hd (LTok.p "{" :: (listToks rootToks s.roots ++ LTok.p "}" :: rest)) f (by omega)
    (by simp [startsP]) (by simp [startsP])
  cases hroots : s.roots with
  | nil => simp [hroots] at hne
  | cons r rs =>
    rw [hroots] at hf hdirs
    have hr := many1Until_toks "}" parseRoot rootToks eraseRoot rest (Stops.close_brace rest) r rs f
      (by simp at hf; omega) (fun y _ X _ => parse_root y X) (fun y _ X => rootToks_head y X)
    simp only [schemaDefToks, hroots, List.cons_append, List.append_assoc, List.nil_append]
    simp [parseTsItem, parseDesc_desc, parseSchemaDefRest, hdirs, hr, eraseSchemaDef, hroots]

theorem parse_schemaExt (s : SchemaDef) (hwf : wfSchemaExt s = true) (rest : List LTok) (f : Nat)
    (hr : ItemFollow rest) (hf : 2 * (schemaExtToks s).length + 4 ≤ f) :
    parseTsItem f (schemaExtToks s ++ rest) = some (.schemaExt (eraseSchemaDef s), rest) := by
  simp only [wfSchemaExt, Bool.and_eq_true, Option.isNone_iff_eq_none] at hwf
  obtain ⟨⟨hd, hdesc⟩, hnt⟩ := hwf
  have hs := hr.stops
  simp only [schemaExtToks, List.length_append, List.length_cons] at hf
  have hbl := bracketToks_length "{" "}" rootToks s.roots
  rw [← bracedToks_eq, rootsToks_length] at hbl
  have hdirs := parse_dirs_braced s.dirs hd rootToks s.roots rest f (by omega) hs
  have hroots : optBracketed "{" "}" parseRoot f (bracedToks rootToks s.roots ++ rest) =
      some (s.roots.map eraseRoot, rest) := by
    rw [bracedToks_eq]
    exact optBracketed_bracket "{" "}" parseRoot rootToks eraseRoot s.roots rest f hs.brace (Stops.close_brace rest)
      (by omega) (fun y _ X _ => parse_root y X) (fun y _ X => rootToks_head y X)
  have hnt' : ((eraseDirs s.dirs).isEmpty && (s.roots.map eraseRoot).isEmpty) = false := by
    simp only [eraseDirs, List.isEmpty_map]
    cases h1 : s.dirs.isEmpty <;> cases h2 : s.roots.isEmpty <;> simp [h1, h2] at hnt ⊢
  simp only [schemaExtToks, List.cons_append, List.append_assoc]
  simp only [parseTsItem, parseDesc, parseSchemaExtRest, hdirs, hroots, hnt']
  simp [eraseSchemaDef, hdesc]

theorem locations_roundtrip (ls : List Name) :
    (eraseNames (ls.map fun n => (n, Pos.none))).map (·.1) = ls := by
  induction ls with
  | nil => rfl
  | cons l ls ih => simp only [eraseNames, List.map_cons, List.map_map] at ih ⊢; simp [ih]

theorem locations_all (ls : List Name) (h : ls.all isLocation = true) :
    (eraseNames (ls.map fun n => (n, Pos.none))).all (fun x => isLocation x.1) = true := by
  simp only [eraseNames, List.map_map, List.all_map]
  simpa [Function.comp_def] using h

theorem parseRepeatable_on (b : Bool) (X : List LTok) :
    parseRepeatable ((if b then [.name "repeatable"] else []) ++ .name "on" :: X) = (b, .name "on" :: X) := by
  cases b <;> simp [parseRepeatable]

theorem parse_directiveDef (d : DirectiveDef) (hwf : wfDirectiveDef d = true) (rest : List LTok) (f : Nat)
    (hr : ItemFollow rest) (hf : 2 * (directiveDefToks d).length + 4 ≤ f) :
    parseTsItem f (directiveDefToks d ++ rest) = some (.directiveDef (eraseDirectiveDef d), rest) := by
  simp only [wfDirectiveDef, Bool.and_eq_true, Bool.not_eq_true'] at hwf
  obtain ⟨⟨hargs, hne⟩, hloc⟩ := hwf
  simp only [directiveDefToks, locationsToks, argDefsToks_eq, List.length_append, List.length_cons, sepToks_length,
    List.length_map] at hf
  cases hls : d.locations with
  | nil => simp [hls] at hne
  | cons l ls =>
    have hsep := sepNames1_toks "|" rest hr.stops.bar (l, Pos.none) (ls.map fun n => (n, Pos.none)) f
      (by rw [hls] at hf; simp at hf ⊢; omega)
    have hall := locations_all d.locations hloc
    have hrt := locations_roundtrip d.locations
    rw [hls] at hall hrt
    simp only [List.map_cons] at hall hrt
    have hA := parse_ivList "(" ")" d.args hargs
      ((if d.repeatable then [LTok.name "repeatable"] else []) ++
        LTok.name "on" :: (sepToks "|" ((l, Pos.none) :: ls.map fun n => (n, Pos.none)) ++ rest)) f
      (by cases d.repeatable <;> simp [startsP]) (Stops.close_paren _) (by omega)
    simp only [directiveDefToks, locationsToks, argDefsToks_eq, hls, List.map_cons, List.cons_append, List.append_assoc]
    simp only [parseTsItem, parseDesc_desc]
    simp [parseDirectiveDefRest, hA, parseRepeatable_on, hsep, hall, hrt, eraseDirectiveDef, hls]

theorem parse_tsItem (i : TsItem) (hwf : wfTsItem i = true) (rest : List LTok) (f : Nat) (hr : ItemFollow rest)
    (hf : 2 * (tsItemToks i).length + 4 ≤ f) :
    parseTsItem f (tsItemToks i ++ rest) = some (eraseTsItem i, rest) := by
  cases i with
  | schemaDef s => exact parse_schemaDef s hwf rest f hf
  | typeDef t => exact parse_typeDef t hwf rest f hr hf
  | directiveDef d => exact parse_directiveDef d hwf rest f hr hf
  | schemaExt s => exact parse_schemaExt s hwf rest f hr hf
  | typeExt t => exact parse_typeExt t hwf rest f hr hf

/-! ### documents -/

theorem ItemFollow.nil : ItemFollow [] := ⟨Stops.nil, rfl⟩

theorem itemFollow_desc (d : Option String) (n : String) (hn : n ≠ "implements") (X : List LTok) :
    ItemFollow (descToks d ++ .name n :: X) := by
  cases d with
  | none => exact ⟨Stops.name _ _, by simp [descToks, startsN, hn]⟩
  | some s => exact ⟨Stops.str _ _, by simp [descToks, startsN]⟩

theorem tsItemToks_follow (i : TsItem) (r : List LTok) : ItemFollow (tsItemToks i ++ r) := by
  cases i with
  | schemaDef s =>
    simp only [tsItemToks, schemaDefToks, List.cons_append, List.append_assoc]
    exact itemFollow_desc _ _ (by decide) _
  | typeDef t =>
    simp only [tsItemToks, typeDefToks, List.cons_append, List.append_assoc]
    exact itemFollow_desc _ _ (kindKw_ne_implements _) _
  | directiveDef d =>
    simp only [tsItemToks, directiveDefToks, List.cons_append, List.append_assoc]
    exact itemFollow_desc _ _ (by decide) _
  | schemaExt s =>
    simp only [tsItemToks, schemaExtToks, List.cons_append]
    exact ⟨Stops.name _ _, by simp [startsN]⟩
  | typeExt t =>
    simp only [tsItemToks, typeExtToks, List.cons_append]
    exact ⟨Stops.name _ _, by simp [startsN]⟩

theorem tsItemToks_pos (i : TsItem) : 1 ≤ (tsItemToks i).length := by
  cases i with
  | schemaDef s => simp [tsItemToks, schemaDefToks]; omega
  | typeDef t => simp [tsItemToks, typeDefToks]; omega
  | directiveDef d => simp [tsItemToks, directiveDefToks]; omega
  | schemaExt s => simp [tsItemToks, schemaExtToks]
  | typeExt t => simp [tsItemToks, typeExtToks]

theorem parse_tsDoc (d : TsDoc) (hwf : wfTsDoc d = true) (f : Nat) (hf : 2 * (tsDocToks d).length + 4 ≤ f) :
    parseTsDoc f (tsDocToks d) = some (eraseTsDoc d) := by
  unfold parseTsDoc tsDocToks eraseTsDoc
  unfold tsDocToks at hf
  have hall := List.all_eq_true.mp hwf
  have hc := listToks_length_count tsItemToks d (fun x _ => tsItemToks_pos x)
  refine manyEnd_toks (parseTsItem f) tsItemToks eraseTsItem d f (by omega) ?_ ?_
  · intro x hx r hr
    have := listToks_length_mem tsItemToks d x hx
    have hfol : ItemFollow r := by
      rcases hr with rfl | ⟨y, r', rfl, _⟩
      · exact ItemFollow.nil
      · exact tsItemToks_follow y r'
    exact parse_tsItem x (hall x hx) r f hfol (by omega)
  · intro x _ e
    have := tsItemToks_pos x
    rw [e] at this
    simp at this

theorem parse_tsDocument (d : TsDoc) (hwf : wfTsDoc d = true) : parseTsDocument (tsDocToks d) = some (eraseTsDoc d) :=
  parse_tsDoc d hwf _ (by omega)

end NitroVerif.C16
