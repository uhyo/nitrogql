import NitroVerif.Lemmas.Loader
/-! Heap-safety invariant of the loader model and its preservation by every call (helper lemmas for C19). -/
namespace NitroVerif.Loader
variable {P S J : Type} [DecidableEq P]


theorem unborrow_map_id (ids : List Nat) (h : List Buf) : (unborrow ids h).map (·.id) = h.map (·.id) := by
  simp only [unborrow, List.map_map]; congr 1; funext b; simp only [Function.comp]; split <;> rfl

theorem freeBufs_map_id (who : Option Nat) (ids : List Nat) (h : List Buf) : (freeBufs who ids h).map (·.id) = h.map (·.id) := by
  simp only [freeBufs, List.map_map]; congr 1; funext b; simp only [Function.comp]; split <;> rfl

@[simp] theorem unborrow_length (ids : List Nat) (h : List Buf) : (unborrow ids h).length = h.length := by simp [unborrow]
@[simp] theorem freeBufs_length (who : Option Nat) (ids : List Nat) (h : List Buf) : (freeBufs who ids h).length = h.length := by
  simp [freeBufs]

theorem mem_unborrow {ids : List Nat} {h : List Buf} {b' : Buf} :
    b' ∈ unborrow ids h ↔ ∃ b ∈ h, b' = if b.id ∈ ids then { b with borrowed := false } else b := by
  simp only [unborrow, List.mem_map]; constructor <;> (rintro ⟨b, hb, e⟩; exact ⟨b, hb, e.symm⟩)

theorem mem_freeBufs {who : Option Nat} {ids : List Nat} {h : List Buf} {b' : Buf} :
    b' ∈ freeBufs who ids h ↔ ∃ b ∈ h, b' = if b.id ∈ ids then
      { b with freed := b.freed + ids.count b.id, bad := b.bad || b.borrowed || decide (b.owner ≠ who) } else b := by
  simp only [freeBufs, List.mem_map]; constructor <;> (rintro ⟨b, hb, e⟩; exact ⟨b, hb, e.symm⟩)

theorem id_lt_of_ids {h : List Buf} (hids : h.map (·.id) = List.range h.length) {b : Buf} (hb : b ∈ h) : b.id < h.length := by
  have : b.id ∈ h.map (·.id) := List.mem_map_of_mem hb
  rw [hids] at this; simpa using this

theorem eq_of_id_eq {h : List Buf} (hids : h.map (·.id) = List.range h.length) {b b2 : Buf} (hb : b ∈ h) (hb2 : b2 ∈ h)
    (e : b.id = b2.id) : b = b2 := by
  have hn : (h.map (·.id)).Nodup := by rw [hids]; exact List.nodup_range
  clear hids
  induction h with
  | nil => simp at hb
  | cons x r ih =>
    simp only [List.map_cons, List.nodup_cons, List.mem_map, not_exists, not_and] at hn
    rcases List.mem_cons.mp hb with rfl | hb' <;> rcases List.mem_cons.mp hb2 with rfl | hb2'
    · rfl
    · exact absurd e.symm (hn.1 b2 hb2')
    · exact absurd e (hn.1 b hb')
    · exact ih hb' hb2' hn.2

structure HeapInv (σ : St P S J) : Prop where
  /-- a buffer's id is its position on the heap -/
  ids : σ.heap.map (·.id) = List.range σ.heap.length
  keys : KeysLt σ
  /-- no double free, no free of a borrowed or foreign buffer so far -/
  clean : ∀ b ∈ σ.heap, b.bad = false ∧ b.freed ≤ 1
  /-- a buffer without owner (leaked by a failed `initiate_task`) is gone -/
  anon : ∀ b ∈ σ.heap, b.owner = none → b.freed = 1 ∧ b.borrowed = false
  ownerLt : ∀ b ∈ σ.heap, ∀ t, b.owner = some t → t < σ.next
  dropped : ∀ b ∈ σ.heap, ∀ t, b.owner = some t → lookup σ.tasks t = none → b.freed = 1 ∧ b.borrowed = false
  /-- a live task's buffer is allocated, on the task's drop list, and borrowed only by a document of that task -/
  live : ∀ b ∈ σ.heap, ∀ t T, b.owner = some t → lookup σ.tasks t = some T →
    b.freed = 0 ∧ b.id ∈ T.drops ∧ (b.borrowed = true → ∃ e ∈ T.borrows, e.2 = b.id)
  /-- a live task drops each buffer once, only buffers of its own, and all it borrows -/
  task : ∀ t T, lookup σ.tasks t = some T →
    T.drops.Nodup ∧ (∀ id ∈ T.drops, ∃ b ∈ σ.heap, b.id = id ∧ b.owner = some t) ∧ (∀ e ∈ T.borrows, e.2 ∈ T.drops)

omit [DecidableEq P] in
theorem heapInv_init : HeapInv (init : St P S J) := by
  refine ⟨rfl, keysLt_init, ?_, ?_, ?_, ?_, ?_, ?_⟩ <;> simp [init]

omit [DecidableEq P] in
/-- the invariant reads the task table only through `lookup` -/
theorem heapInv_congr {σ σ' : St P S J} (h : HeapInv σ) (e1 : σ'.heap = σ.heap)
    (e2 : ∀ t, lookup σ'.tasks t = lookup σ.tasks t) (e3 : σ'.next = σ.next) : HeapInv σ' := by
  refine ⟨by rw [e1]; exact h.ids, ?_, by rw [e1]; exact h.clean, by rw [e1]; exact h.anon,
    by rw [e1, e3]; exact h.ownerLt, ?_, ?_, ?_⟩
  · intro t ht; rw [e2]; rw [e3] at ht; exact h.keys t ht
  · intro x hx t; rw [e2]; rw [e1] at hx; exact h.dropped x hx t
  · intro x hx t T; rw [e2]; rw [e1] at hx; exact h.live x hx t T
  · intro t T; rw [e2, e1]; exact h.task t T

theorem unborrow_nil (h : List Buf) : unborrow [] h = h := by
  simp [unborrow]

theorem freeBufs_of_not_mem (who : Option Nat) (ids : List Nat) (h : List Buf) (hn : ∀ b ∈ h, b.id ∉ ids) :
    freeBufs who ids h = h := by
  unfold freeBufs
  exact (List.map_congr_left fun b hb => by simp [hn b hb]).trans (List.map_id h)

theorem unborrow_of_not_mem (ids : List Nat) (h : List Buf) (hn : ∀ b ∈ h, b.id ∉ ids) :
    unborrow ids h = h := by
  unfold unborrow
  exact (List.map_congr_left fun b hb => by simp [hn b hb]).trans (List.map_id h)

theorem freeBufs_append (who : Option Nat) (ids : List Nat) (h1 h2 : List Buf) :
    freeBufs who ids (h1 ++ h2) = freeBufs who ids h1 ++ freeBufs who ids h2 := by simp [freeBufs]

omit [DecidableEq P] in
theorem live_lt {σ : St P S J} (hk : KeysLt σ) {t : Nat} {T : Task P S} (hl : lookup σ.tasks t = some T) : t < σ.next := by
  by_cases h : σ.next ≤ t
  · rw [hk t h] at hl; simp at hl
  · omega


omit [DecidableEq P] in
/-- the buffer of a failed `initiate_task`: leaked by a task that is dropped within the call -/
theorem heapInv_anon {σ σ' : St P S J} (hi : HeapInv σ) (hn : σ'.next = σ.next) (ht : σ'.tasks = σ.tasks)
    (hh : σ'.heap = σ.heap ++ [{ id := σ.heap.length, owner := none, freed := 1, borrowed := false, bad := false }]) :
    HeapInv σ' := by
  obtain ⟨n', ts', r', h', d'⟩ := σ'
  dsimp only at hn ht hh
  subst hn ht hh
  refine ⟨by simp [List.range_succ, hi.ids], hi.keys, ?_, ?_, ?_, ?_, ?_, ?_⟩ <;>
    simp only [List.forall_mem_append, List.forall_mem_singleton]
  · exact ⟨hi.clean, by simp⟩
  · exact ⟨hi.anon, by simp⟩
  · exact ⟨hi.ownerLt, nofun⟩
  · exact ⟨hi.dropped, nofun⟩
  · exact ⟨hi.live, nofun⟩
  · intro t T hT
    obtain ⟨nodup, owned, borrowsDropped⟩ := hi.task t T hT
    exact ⟨nodup, fun id hid => (owned id hid).imp fun x hx => ⟨List.mem_append_left _ hx.1, hx.2⟩, borrowsDropped⟩

omit [DecidableEq P] in
/-- a task that holds nothing yet, under the next id -/
theorem heapInv_newTask {σ : St P S J} (hi : HeapInv σ) (f : P) :
    HeapInv { σ with next := σ.next + 1,
                     tasks := (σ.next, newTask f) :: σ.tasks } := by
  refine ⟨hi.ids, ?_, hi.clean, hi.anon, fun x hx t ht => Nat.lt_succ_of_lt (hi.ownerLt x hx t ht), ?_, ?_, ?_⟩
  · intro t ht
    have : ¬ σ.next = t := by simp only at ht; omega
    simp only [lookup_cons, this, if_false]
    exact hi.keys t (by simp only at ht; omega)
  · intro x hx t ho
    have : ¬ σ.next = t := Nat.ne_of_gt (hi.ownerLt x hx t ho)
    simp only [lookup_cons, this, if_false]
    exact hi.dropped x hx t ho
  · intro x hx t T ho
    have : ¬ σ.next = t := Nat.ne_of_gt (hi.ownerLt x hx t ho)
    simp only [lookup_cons, this, if_false]
    exact hi.live x hx t T ho
  · intro t T
    simp only [lookup_cons]
    split
    · intro hT; cases hT; exact ⟨List.nodup_nil, nofun, nofun⟩
    · exact hi.task t T

omit [DecidableEq P] in
/-- `register_file` on a live task, whether or not the source parses: a fresh buffer owned by the task goes on the heap
    and on the drop list; the documents `olds` are dropped; the task's borrows `bs'` are old ones that were not dropped,
    or the new buffer, which is borrowed (`br`) only if it is among them. -/
theorem heapInv_push {σ σ' : St P S J} (hi : HeapInv σ) (hk : KeysLt σ') {t : Nat} {T : Task P S}
    (hl : lookup σ.tasks t = some T) (olds : List Nat) (fs' : List (P × Doc P S)) (bs' : List (P × Nat)) (br : Bool)
    (hn : σ'.next = σ.next)
    (ht : ∀ t', lookup σ'.tasks t' =
      if t = t' then some { T with drops := T.drops ++ [σ.heap.length], files := fs', borrows := bs' }
      else lookup σ.tasks t')
    (hh : σ'.heap = unborrow olds σ.heap ++
      [{ id := σ.heap.length, owner := some t, freed := 0, borrowed := br, bad := false }])
    (hb1 : ∀ e ∈ bs', e ∈ T.borrows ∨ e.2 = σ.heap.length)
    (hb2 : ∀ e ∈ T.borrows, e.2 ∈ olds ∨ e ∈ bs')
    (hbr : br = true → ∃ e ∈ bs', e.2 = σ.heap.length) : HeapInv σ' := by
  have hlt := live_lt hi.keys hl
  obtain ⟨nodupT, ownedT, borrowsDroppedT⟩ := hi.task t T hl
  obtain ⟨n', ts', r', h', d'⟩ := σ'
  dsimp only at hn ht hh
  subst hn hh
  have hold : ∀ x ∈ σ.heap, ∃ x' ∈ unborrow olds σ.heap ++
      [{ id := σ.heap.length, owner := some t, freed := 0, borrowed := br, bad := false }],
      x'.id = x.id ∧ x'.owner = x.owner := by
    intro x hx
    refine ⟨if x.id ∈ olds then { x with borrowed := false } else x, ?_, ?_, ?_⟩
    · exact List.mem_append_left _ (mem_unborrow.mpr ⟨x, hx, rfl⟩)
    · split <;> rfl
    · split <;> rfl
  refine ⟨by simp [List.range_succ, hi.ids, unborrow_map_id], hk, ?_, ?_, ?_, ?_, ?_, ?_⟩ <;>
    simp only [List.forall_mem_append, List.forall_mem_singleton, mem_unborrow, ht]
  · refine ⟨?_, by simp⟩
    rintro x ⟨y, hy, rfl⟩; split <;> exact hi.clean y hy
  · refine ⟨?_, nofun⟩
    rintro x ⟨y, hy, rfl⟩ ho
    have ho' : y.owner = none := by split at ho <;> exact ho
    split
    · exact ⟨(hi.anon y hy ho').1, rfl⟩
    · exact hi.anon y hy ho'
  · refine ⟨?_, fun t' ho => Option.some.inj ho ▸ hlt⟩
    rintro x ⟨y, hy, rfl⟩ t' ho
    exact hi.ownerLt y hy t' (by split at ho <;> exact ho)
  · refine ⟨?_, fun t' ho => by cases ho; simp⟩
    rintro x ⟨y, hy, rfl⟩ t' ho
    have ho' : y.owner = some t' := by split at ho <;> exact ho
    split
    · nofun
    · intro hnl
      have := hi.dropped y hy t' ho' hnl
      split <;> simp [this]
  · refine ⟨?_, ?_⟩
    · rintro x ⟨y, hy, rfl⟩ t' T' ho
      have ho' : y.owner = some t' := by split at ho <;> exact ho
      split
      · next e1 =>
        subst e1
        intro hT; cases hT
        obtain ⟨notFreed, onDrops, borrower⟩ := hi.live y hy t T ho' hl
        split
        · exact ⟨notFreed, by simp [onDrops], nofun⟩
        · next hmem =>
          refine ⟨notFreed, by simp [onDrops], fun hb => ?_⟩
          obtain ⟨e1, he1, he2⟩ := borrower hb
          rcases hb2 e1 he1 with h | h
          · exact absurd (he2 ▸ h) hmem
          · exact ⟨e1, h, he2⟩
      · intro hT
        obtain ⟨notFreed, onDrops, borrower⟩ := hi.live y hy t' T' ho' hT
        split
        · exact ⟨notFreed, onDrops, nofun⟩
        · exact ⟨notFreed, onDrops, borrower⟩
    · intro t' T' ho; cases ho
      simp only [if_true]
      intro hT; cases hT
      exact ⟨trivial, by simp, hbr⟩
  · intro t' T'
    split
    · next e1 =>
      subst e1
      intro hT; cases hT
      refine ⟨?_, ?_, ?_⟩
      · rw [List.nodup_append]
        refine ⟨nodupT, by simp, ?_⟩
        intro x hx y hy
        rw [List.mem_singleton.mp hy]
        obtain ⟨z, hz, e1, _⟩ := ownedT x hx
        have := id_lt_of_ids hi.ids hz
        omega
      · intro id hid
        rcases List.mem_append.mp hid with hid | hid
        · obtain ⟨x, hx, e1, e2⟩ := ownedT id hid
          obtain ⟨x', hx', i1, i2⟩ := hold x hx
          exact ⟨x', hx', i1.trans e1, i2.trans e2⟩
        · rw [List.mem_singleton.mp hid]
          exact ⟨_, List.mem_append_right _ (List.mem_singleton_self _), rfl, rfl⟩
      · intro e1 he1
        rcases hb1 e1 he1 with h | h
        · exact List.mem_append_left _ (borrowsDroppedT e1 h)
        · simp [h]
    · intro hT
      obtain ⟨nodup, owned, borrowsDropped⟩ := hi.task t' T' hT
      refine ⟨nodup, fun id hid => ?_, borrowsDropped⟩
      obtain ⟨x, hx, e1, e2⟩ := owned id hid
      obtain ⟨x', hx', i1, i2⟩ := hold x hx
      exact ⟨x', hx', i1.trans e1, i2.trans e2⟩

theorem heapInv_register {env : Env P S J} {σ σ' : St P S J} (hi : HeapInv σ) (hk : KeysLt σ') {t : Nat} {T : Task P S}
    (hl : lookup σ.tasks t = some T) (f : P) (s : S) (hn : σ'.next = σ.next)
    (ht : ∀ t', lookup σ'.tasks t' =
      if t = t' then some (register env (some t) σ.heap T f s).task else lookup σ.tasks t')
    (hh : σ'.heap = (register env (some t) σ.heap T f s).heap) : HeapInv σ' := by
  cases hp : env.parse s with
  | error c =>
    rw [register_err env _ _ _ _ hp] at ht hh
    exact heapInv_push hi hk hl [] _ _ false hn ht (by rw [hh, unborrow_nil]) (fun _ h => Or.inl h)
      (fun _ h => Or.inr h) nofun
  | ok imps =>
    rw [register_ok env _ _ _ _ hp] at ht hh
    refine heapInv_push hi hk hl _ _ _ true hn ht hh (fun e he => ?_) (fun e he => ?_)
      fun _ => ⟨(f, _), by simp [mem_insert], rfl⟩
    · rcases mem_insert.mp he with rfl | ⟨he, _⟩
      · exact Or.inr rfl
      · exact Or.inl he
    · by_cases hf : e.1 = f
      · exact Or.inl (List.mem_map.mpr ⟨e, List.mem_filter.mpr ⟨he, by simp [hf]⟩, rfl⟩)
      · exact Or.inr (mem_insert.mpr (Or.inr ⟨he, hf⟩))


omit [DecidableEq P] in
theorem free_pointwise {σ : St P S J} (hi : HeapInv σ) {t : Nat} {T : Task P S} (hl : lookup σ.tasks t = some T) :
    (∀ b' ∈ dropTask (some t) σ.heap T, ∃ y ∈ σ.heap, b'.id = y.id ∧ b'.owner = y.owner ∧
      ((y.owner = some t ∧ b'.freed = 1 ∧ b'.borrowed = false ∧ b'.bad = false) ∨ (y.owner ≠ some t ∧ b' = y))) ∧
    (∀ y ∈ σ.heap, y.owner ≠ some t → y ∈ dropTask (some t) σ.heap T) := by
  obtain ⟨nodupT, ownedT, borrowsDroppedT⟩ := hi.task t T hl
  have key : ∀ y ∈ σ.heap, y.owner ≠ some t → y.id ∉ T.drops ∧ y.id ∉ T.borrows.map (·.2) := by
    intro y hy ho
    have h1 : y.id ∉ T.drops := by
      intro hmem
      obtain ⟨z, hz, e1, e2⟩ := ownedT y.id hmem
      have := eq_of_id_eq hi.ids hz hy e1
      subst this; exact ho e2
    refine ⟨h1, ?_⟩
    intro hmem
    simp only [List.mem_map] at hmem
    obtain ⟨e1, he1, he2⟩ := hmem
    exact h1 (he2 ▸ borrowsDroppedT e1 he1)
  constructor
  · intro b' hb'
    simp only [dropTask, mem_freeBufs] at hb'
    obtain ⟨u, hu, rfl⟩ := hb'
    obtain ⟨y, hy, rfl⟩ := mem_unborrow.mp hu
    refine ⟨y, hy, ?_⟩
    by_cases ho : y.owner = some t
    · obtain ⟨notFreed, onDrops, borrower⟩ := hi.live y hy t T ho hl
      have hc := (hi.clean y hy).1
      have hcount : List.count y.id T.drops = 1 := by rw [nodupT.count, if_pos onDrops]
      by_cases hb : y.id ∈ T.borrows.map (·.2)
      · simp [hb, onDrops, ho, notFreed, hcount, hc]
      · have hnb : y.borrowed = false := by
          cases hyb : y.borrowed with
          | false => rfl
          | true =>
            obtain ⟨e1, he1, he2⟩ := borrower hyb
            exact absurd (List.mem_map.mpr ⟨e1, he1, he2⟩) hb
        simp [hb, onDrops, ho, notFreed, hcount, hc, hnb]
    · obtain ⟨h1, h2⟩ := key y hy ho
      simp [h1, h2, ho]
  · intro y hy ho
    obtain ⟨h1, h2⟩ := key y hy ho
    simp only [dropTask, mem_freeBufs]
    refine ⟨y, mem_unborrow.mpr ⟨y, hy, by simp [h2]⟩, by simp [h1]⟩

omit [DecidableEq P] in
theorem heapInv_free {σ σ' : St P S J} (hi : HeapInv σ) (hk : KeysLt σ') {t : Nat} {T : Task P S}
    (hl : lookup σ.tasks t = some T) (hn : σ'.next = σ.next) (ht : σ'.tasks = erase σ.tasks t)
    (hh : σ'.heap = dropTask (some t) σ.heap T) : HeapInv σ' := by
  obtain ⟨pw, pw2⟩ := free_pointwise hi hl
  obtain ⟨n', ts', r', h', d'⟩ := σ'
  dsimp only at hn ht hh
  subst hn ht hh
  refine ⟨?_, hk, ?_, ?_, ?_, ?_, ?_, ?_⟩ <;> simp only [lookup_erase]
  · simp only [dropTask, freeBufs_map_id, unborrow_map_id, freeBufs_length, unborrow_length]; exact hi.ids
  · intro x hx
    obtain ⟨y, hy, _, _, h | h⟩ := pw x hx
    · simp [h.2.1, h.2.2.2]
    · rw [h.2]; exact hi.clean y hy
  · intro x hx ho
    obtain ⟨y, hy, _, e2, h | h⟩ := pw x hx
    · exact ⟨h.2.1, h.2.2.1⟩
    · rw [h.2] at ho ⊢; exact hi.anon y hy ho
  · intro x hx t' ho
    obtain ⟨y, hy, _, e2, _⟩ := pw x hx
    exact hi.ownerLt y hy t' (e2 ▸ ho)
  · intro x hx t' ho
    obtain ⟨y, hy, _, e2, h | h⟩ := pw x hx
    · intro _; exact ⟨h.2.1, h.2.2.1⟩
    · split
      · next e1 => subst e1; rw [h.2] at ho; exact absurd ho h.1
      · rw [h.2] at ho ⊢; exact hi.dropped y hy t' ho
  · intro x hx t' T' ho
    split
    · nofun
    · next hne =>
      obtain ⟨y, hy, _, e2, h | h⟩ := pw x hx
      · rw [e2, h.1] at ho; exact absurd (Option.some.inj ho).symm hne
      · rw [h.2] at ho ⊢; exact hi.live y hy t' T' ho
  · intro t' T'
    split
    · nofun
    · next hne =>
      intro hT
      obtain ⟨nodup, owned, borrowsDropped⟩ := hi.task t' T' hT
      refine ⟨nodup, fun id hid => ?_, borrowsDropped⟩
      obtain ⟨x, hx, e1, e2⟩ := owned id hid
      exact ⟨x, pw2 x hx (by rw [e2]; exact fun h => hne (Option.some.inj h)), e1, e2⟩

theorem step_heapInv (env : Env P S J) (σ : St P S J) (op : Op P S) (hi : HeapInv σ) : HeapInv (step env σ op).1 := by
  have hk := step_keysLt env σ op hi.keys
  cases step_effect env σ op with
  | quiet hn ht hh => exact heapInv_congr hi hh (fun t => by rw [ht]) hn
  | initErr f s c _ hp hn ht hh =>
    refine heapInv_anon hi hn ht ?_
    -- the leaked buffer is the only entry of the dropped task's drop list
    rw [hh, register_err env _ _ _ _ hp]
    simp only [dropTask, List.map_nil, unborrow_nil, List.nil_append, freeBufs_append]
    rw [freeBufs_of_not_mem _ _ _ fun b hb => by have := id_lt_of_ids hi.ids hb; simp; omega]
    simp [freeBufs]
  | initOk f s imps _ hp hn ht hh =>
    exact heapInv_register (heapInv_newTask hi f) hk (by rw [lookup_cons, if_pos rfl]) f s hn
      (fun t' => by rw [ht, lookup_cons, lookup_cons]; split <;> rfl) hh
  | load t T f s _ hl hn ht hh => exact heapInv_register hi hk hl f s hn (fun t' => by rw [ht, lookup_insert]) hh
  | free t T _ hl hn ht hh => exact heapInv_free hi hk hl hn ht hh

theorem run_heapInv (env : Env P S J) (h : List (Op P S)) : ∀ σ : St P S J, HeapInv σ → HeapInv (runSt env σ h) :=
  runSt_induct env (step_heapInv env) h

end NitroVerif.Loader
