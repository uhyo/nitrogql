/-
A rule `"o" ~ Item+ ~ "c"` on a non-empty list of items between two brackets. The depth bound grows by sixty per
character, so a piece next to a bracket may use the bracket's share: this is what lets the recursive constructs (list
types, selection sets) keep one bound at every nesting level.
-/
import NitroVerif.Lemmas.ParseDocTail
namespace NitroVerif.DocParse
open NitroVerif.Peg NitroVerif.Gen NitroVerif.Gen.Parts NitroVerif.Build NitroVerif.TypeParse NitroVerif.StringParse
open NitroVerif.Gql NitroVerif.ValueParse NitroVerif.Spec.Lex

namespace PartT
variable {inp : List Char} {K K' : Nat} {a b : Expr} {p : Nat} {t ta tb : List Char} {ps pa pb : List Pair}

theorem seq_deep_l (ha : Part inp K a p ta pa) (hb : Part inp K' b (p + ta.length) tb pb) (hl : 1 ≤ tb.length)
    (hK : K ≤ K' + 60) : Part inp (K' + 1) (.seq a b) p (ta ++ tb) (pa ++ pb) := by
  have e : p + (ta ++ tb).length = p + ta.length + tb.length := by rw [List.length_append, Nat.add_assoc]
  refine ⟨?_, cleanL_append.mpr ⟨ha.clean, hb.clean⟩⟩
  rw [e]
  refine (runsK_seq ha.run hb.run).mono ?_
  simp only [B, List.length_append]; omega

theorem app {e : Expr} (h : Part inp K e (p + (ta ++ tb).length) t ps) : Part inp K e (p + ta.length + tb.length) t ps := by
  rwa [List.length_append, ← Nat.add_assoc] at h

/-- the depth at which the absent item fails may depend on the text of `b` (an alias fails only after the name has been read) -/
theorem opt_none_seq {n : Nat} (hf : Fails gList n true a .nonAtomic (At inp p)) (ht : Tok (At inp p))
    (hb : Part inp K b p t ps) (hn : n ≤ B t.length + K) : Part inp (K + 2) (.seq (.opt a) b) p t ps := by
  refine ⟨(runsK_seq (runsK_opt_none hf ht) hb.run).mono ?_, hb.clean⟩
  simp only [B] at hn ⊢; omega

theorem fails_seq_le {m : Nat} (ha : Part inp K a p t ps) (hb : Fails gList m true b .nonAtomic (At inp (p + t.length)))
    (hm : m ≤ K + 100) : Fails gList (B t.length + K + 1) true (.seq a b) .nonAtomic (At inp p) :=
  (ha.fails_seq hb).mono (by simp only [B]; omega)

end PartT

theorem fails_rule_str {inp : List Char} {r : RuleId} {x : Char} {xs : List Char} {tl : Expr}
    (hl : gList.look r = some (.normal, .seq (.str (x :: xs)) tl)) {p : Nat} (h : HeadNot (· = x) (inp.drop p)) :
    Fails gList 4 true (.call r) .nonAtomic (At inp p) := fails_rule hl (fails_seq_1 (str_fails h))

theorem fails_choice_le {n m N : Nat} {a b : Expr} {c : Cur} (ha : Fails gList n true a .nonAtomic c)
    (hb : Fails gList m true b .nonAtomic c) (hn : n ≤ N) (hm : m ≤ N) : Fails gList (N + 1) true (.choice a b) .nonAtomic c :=
  (fails_choice_K ha hb).mono (Nat.succ_le_succ (Nat.max_le.mpr ⟨hn, hm⟩))

theorem le_B_append {n K : Nat} {a b : List Char} (h : n ≤ B a.length + K) : n ≤ B (a ++ b).length + K :=
  Nat.le_trans h (by simp only [B, List.length_append]; omega)

theorem fuel_between {α : Type} {a b c : List α} {n : Nat} (h : (a ++ (b ++ c)).length ≤ n) (ha : 1 ≤ a.length)
    (hc : 1 ≤ c.length) : b.length + 2 ≤ n := by
  simp only [List.length_append] at h; omega

theorem fuel_init {α : Type} {a c : List α} {n : Nat} (h : (a ++ c).length ≤ n) (hc : 1 ≤ c.length) : a.length + 1 ≤ n := by
  simp only [List.length_append] at h; omega

section Braced
variable {inp : List Char} {α : Type} (ri : Bool → Nat → α → List Char) (sepMid : Bool)

/-- `o gap items c gap` -/
def rBraced (τ : Trivia) (o c : Char) (sep : Bool) (p : Nat) (items : List α) : List Char :=
  let tO := tk τ false p [o]
  let tI := renderItems ri sepMid false (p + tO.length) items
  tO ++ (tI ++ tk τ sep (p + tO.length + tI.length) [c])

theorem hd_rBraced (τ : Trivia) (o c : Char) (sep : Bool) (p : Nat) (items : List α) :
    Hd (· = o) (rBraced ri sepMid τ o c sep p items) := by
  simp only [rBraced]
  exact Hd.append (hd_tk (P := (· = o)) (hd_cons [] rfl)) _

/-- `K` is the bound of an item, `K'` the one of the whole, which may be smaller by the opening bracket's share -/
theorem bracedPT (τ : Trivia) (hτ : ∀ q, Ws (τ q)) {rule item : RuleId} {o c : Char}
    (hl : gList.look rule = some (.normal, .seq (.str [o]) (.seq (.plus (.call item)) (.str [c]))))
    (bad : Bool → Char → Prop) {K K' : Nat} (hK : K + 6 ≤ K' + 60) (Good : Bool → Nat → α → Pair → Prop)
    (hc : ¬ trivia c ∧ ¬ bad false c ∧ ¬ nameCont c)
    (hfail : ∀ q, HeadNot (· ≠ c) (inp.drop q) → inp.drop q ≠ [] →
      Fails gList (K + 100) true (.call item) .nonAtomic (At inp q))
    (r : List α) (a : α) {sep : Bool} {p n : Nat} {c' : Cur}
    (hitem : ∀ x ∈ a :: r, ∀ s q, HasAt inp q (ri s q x) → Nxt inp (bad s) s (q + (ri s q x).length) →
      ∃ pr, RunsK (B (ri s q x).length + K) (.call item) (At inp q) (At inp (q + (ri s q x).length)) [pr] ∧ Good s q x pr)
    (hhead : ∀ x ∈ a :: r, ∀ s q, Hd (fun d => ¬ trivia d ∧ ¬ bad sepMid d ∧ (sepMid = false → ¬ nameCont d)) (ri s q x))
    (hclean : ∀ x ∈ a :: r, ∀ s q pr, Good s q x pr → CleanP pr)
    (h : HasAt inp p (rBraced ri sepMid τ o c sep p (a :: r)))
    (ht : Tail inp n (p + (rBraced ri sepMid τ o c sep p (a :: r)).length) c') :
    ∃ e pss, PartT inp (K' + 4) n (.call rule) p (rBraced ri sepMid τ o c sep p (a :: r)) c' [.mk rule p e pss] ∧
      GoodItems ri sepMid false Good (p + (tk τ false p [o]).length) (a :: r) pss := by
  simp only [rBraced] at h ht ⊢
  have g1 := h.right.left
  have g2 := h.right.right
  have hdC : Hd (· = c) (tk τ sep (p + (tk τ false p [o]).length +
      (renderItems ri sepMid false (p + (tk τ false p [o]).length) (a :: r)).length) [c]) := hd_tk (hd_cons _ rfl)
  have hne : inp.drop (p + (tk τ false p [o]).length +
      (renderItems ri sepMid false (p + (tk τ false p [o]).length) (a :: r)).length) ≠ [] := by
    rw [g2.drop]; exact List.cons_ne_nil _ _
  obtain ⟨pss, hmany, hgood⟩ := items_many1K ri sepMid false (.call item) bad K Good r a _ hitem hhead g1
    (Nxt.of_hd g2 hdC (by rintro d rfl; exact hc)) (hfail _ (headNot_of_hd g2 hdC (fun d hd hn => hn hd)) hne)
  obtain ⟨s', tail, htl⟩ := renderItems_cons ri sepMid false (p + (tk τ false p [o]).length) a r
  have r0 := strP hτ [o] h.left
    (tok_of_hd g1 (htl ▸ (hhead a (List.mem_cons_self ..) s' _).append _) (fun d h => h.1))
  have r1 := PartT.plus (K := K) hmany (goodItems_clean ri sepMid false Good (a :: r) hclean _ pss hgood) (Nat.le_refl _)
  -- the opening bracket's sixty cover the items and the closing bracket, whose gap ends at the `Tail`
  obtain ⟨e, rR⟩ := PartT.rule hl ((r0.mono (Nat.zero_le K')).seqT_pos
    (r1.seqT (PartT.str hτ [c] g2 ht.app.app)) (hd_tk (hd_cons (P := (· = o)) [] rfl)).length_pos (by omega))
  rw [List.nil_append, List.append_nil] at rR
  exact ⟨e, pss, rR.mono (by omega), hgood⟩

end Braced

section BracedText
variable {inp : List Char}
variable {α : Type} (ri : Bool → Nat → α → List Char) (sepMid : Bool)

/-- the depth of the items is paid for by the characters of the brackets (`K ≤ 54`) -/
theorem bracedT {β : Type} (τ : Trivia) (hτ : ∀ q, Ws (τ q)) (rule item : RuleId) (o c : Char)
    (hl : gList.look rule = some (.normal, .seq (.str [o]) (.seq (.plus (.call item)) (.str [c]))))
    (bad : Bool → Char → Prop) (K : Nat) (hK : K ≤ 54) (build : Nat → Pair → M β) (wp : Bool → Nat → α → β)
    (hc : ¬ trivia c ∧ ¬ bad false c ∧ ¬ nameCont c)
    (hfail : ∀ q, HeadNot (· ≠ c) (inp.drop q) → Fails gList (K + 100) true (.call item) .nonAtomic (At inp q))
    (r : List α) (a : α) (sep : Bool) (p : Nat) (bld : Nat → Pair → M (List β))
    (hbld : ∀ fuel e pss, allChildrenGo item pss = .ok () → bld fuel (.mk rule p e pss) = pss.mapM (build fuel))
    (hitem : ∀ x ∈ a :: r, ∀ s q, HasAt inp q (ri s q x) → Nxt inp (bad s) s (q + (ri s q x).length) →
      ∃ pr, Reads inp K item q (ri s q x) build (wp s q x) pr)
    (hhead : ∀ x ∈ a :: r, ∀ s q, Hd (fun d => ¬ trivia d ∧ ¬ bad sepMid d ∧ (sepMid = false → ¬ nameCont d)) (ri s q x))
    (h : HasAt inp p (rBraced ri sepMid τ o c sep p (a :: r)))
    (ht : Tok (At inp (p + (rBraced ri sepMid τ o c sep p (a :: r)).length))) :
    ∃ pr, Reads inp 4 rule p (rBraced ri sepMid τ o c sep p (a :: r)) bld
      (mapItems ri sepMid false wp (p + (tk τ false p [o]).length) (a :: r)) pr := by
  obtain ⟨e, pss, rS, hgood⟩ := bracedPT ri sepMid τ hτ hl bad (K' := 0) (by omega)
    (fun s q x pr => Reads inp K item q (ri s q x) build (wp s q x) pr) hc
    (fun q hq _ => hfail q hq) r a (fun x hx s q hat hnx => (hitem x hx s q hat hnx).imp fun _ R => ⟨R.part.run, R⟩) hhead
    (fun x _ s q pr hg => hg.clean) h (tail_of_tok ht)
  refine ⟨_, rS, rfl, rfl, fun fuel hf => ?_⟩
  rw [hbld fuel e pss (goodItems_all ri sepMid false _ item (a :: r) (fun x _ s q pr hg => hg.rule) _ pss hgood)]
  exact goodItems_mapM ri sepMid false _ (build fuel) wp fuel (a :: r) (fun x _ s q pr hg hl => hg.build fuel hl)
    _ pss (fuel_left (fuel_right hf)) hgood

/-- … written as nothing if the list is empty. `sepN`: the flag with which what follows is known — the `sep` of the text,
    unless a name may follow the closing bracket directly -/
theorem optBracedT {β : Type} (τ : Trivia) (hτ : ∀ q, Ws (τ q)) (rule item : RuleId) (o c : Char)
    (hl : gList.look rule = some (.normal, .seq (.str [o]) (.seq (.plus (.call item)) (.str [c]))))
    (bad : Bool → Char → Prop) (K : Nat) (hK : K ≤ 54) (build : Nat → Pair → M β) (wp : Bool → Nat → α → β)
    (hc : ¬ trivia c ∧ ¬ bad false c ∧ ¬ nameCont c) (ho : ¬ trivia o ∧ ¬ nameCont o)
    (hfail : ∀ q, HeadNot (· ≠ c) (inp.drop q) → Fails gList (K + 100) true (.call item) .nonAtomic (At inp q))
    (xs : List α) (sep : Bool) (p : Nat) (bldO : Nat → Option Pair → M (List β)) (hb0 : ∀ fuel, bldO fuel none = .ok [])
    (hbld : ∀ fuel e pss, allChildrenGo item pss = .ok () → bldO fuel (some (.mk rule p e pss)) = pss.mapM (build fuel))
    (hitem : ∀ x ∈ xs, ∀ s q, HasAt inp q (ri s q x) → Nxt inp (bad s) s (q + (ri s q x).length) →
      ∃ pr, Reads inp K item q (ri s q x) build (wp s q x) pr)
    (hhead : ∀ x ∈ xs, ∀ s q, Hd (fun d => ¬ trivia d ∧ ¬ bad sepMid d ∧ (sepMid = false → ¬ nameCont d)) (ri s q x))
    {t : List Char} (ht : t = match xs with | [] => [] | _ :: _ => rBraced ri sepMid τ o c sep p xs)
    {badN : Char → Prop} {sepN : Bool} (hb : badN o) (h : HasAt inp p t) (hn : Nxt inp badN sepN (p + t.length)) :
    ∃ o', ReadsOpt inp 4 rule p t bldO (mapItems ri sepMid false wp (p + (tk τ false p [o]).length) xs) o' ∧
      Nxt inp (fun d => badN d ∧ d ≠ o) (sepN && xs.isEmpty) p := by
  subst ht
  cases xs with
  | nil => exact ⟨_, .none (fails_rule_str hl ((hn : Nxt inp badN sepN p).ne hb)) hn.tok (by decide) hb0, hn.beforeNil⟩
  | cons a r =>
    obtain ⟨pr, R⟩ := bracedT ri sepMid τ hτ rule item o c hl bad K hK build wp hc hfail r a sep p
      (fun fuel pr => bldO fuel (some pr)) hbld hitem hhead h hn.tok
    exact ⟨_, R.opt fun _ => rfl, .beforeHd h (hd_rBraced ri sepMid τ o c sep p _) ho⟩

end BracedText

end NitroVerif.DocParse
