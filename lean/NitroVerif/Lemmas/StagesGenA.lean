/-
C08 (stages after parsing), the operation type printer, part A: the schema-side conditions and small facts.

The printer (`get_type_for_selection_set`) types a selection set once per POSSIBLE OBJECT TYPE of the parent, whereas the
checker walks it once, with the static parent type in scope.  To carry the checker's verdict over, the schema has to
satisfy what "IsValidImplementation" of the specification gives (`ifaceOkB`: an object type has every field of the
interfaces it declares, at a type whose possible object types are among those of the interface field's type), and the
directives `@skip` / `@include` the printer interprets have to be the built-in ones as far as their `if` argument goes
(`skipIncludeB`; a schema may shadow them — see `Props/C08Stages.lean` for the witness).
-/
import NitroVerif.Lemmas.CheckOpCompleteSites
import NitroVerif.Lemmas.OpTypesRefNoPanic
import NitroVerif.Lemmas.CheckOpVisited
import NitroVerif.Lemmas.SchemaFacts
import NitroVerif.Lemmas.Fuel
namespace NitroVerif.Stages
open NitroVerif.Gql NitroVerif.CheckOp NitroVerif.CheckCommon NitroVerif.Valid NitroVerif.OpTypes NitroVerif.OpTypes.Ref
  NitroVerif.Exec

/-- the possible object types of `a` are among those of `b` (and `a` has parent objects), unless `b` is a leaf type -/
def subOkB (S : Schema) (a b : Name) : Bool :=
  a == b || !S.isComposite b || (parentsOkB S a && (S.possibleTypes a).all fun o' => (S.possibleTypes b).contains o')

/-- every object type has every field of each interface it declares, at a type that is covariant in the sense of
    `subOkB` (spec 3.6 `IsValidImplementation`, the part the printer relies on) -/
def ifaceOkB (S : Schema) : Bool :=
  S.typeDefs.all fun od => od.kind != .object || od.implements.all fun i =>
    match S.typeDef? i.1 with
    | none => false
    | some idef => idef.fields.all fun f =>
      match od.fields.find? (·.name == f.name) with
      | none => false
      | some g => subOkB S g.ty.unwrapped f.ty.unwrapped

/-- the definitions of `@skip` and `@include` the schema holds (if any) require an `if` argument -/
def skipIncludeB (S : Schema) : Bool :=
  ["skip", "include"].all fun n => match S.directiveDef? n with
    | none => true
    | some dd => dd.args.any fun a => a.name == "if" && a.ty.isNonNull && a.default.isNone

def IsObj (S : Schema) (o : Name) : Prop := ∃ od, S.typeDef? o = some od ∧ od.kind = .object

/-- type names are unique, no type declares a field named `__typename`, and the members of every union are defined
    object types.  Implied by `SchemaValid` (`schemaOk_of_valid`) and established by the schema checker for documents
    with unique type names and no field named `__typename` (`schemaOk_of_accepted`, Lemmas/StagesIface.lean). -/
def schemaOkB (S : Schema) : Bool :=
  nodupB (S.typeDefs.map (·.name)) && noReservedFieldsB S &&
  S.typeDefs.all fun t => t.kind != .union || t.members.all fun m => S.kindOf? m.1 == some .object

theorem bne_union_or_iff {k : TypeKind} {b : Bool} : (k != .union || b) = true ↔ (k = .union → b = true) := by
  cases k
  case union => exact ⟨fun h _ => h, fun h => h rfl⟩
  all_goals exact ⟨fun _ h => (nomatch h), fun _ => rfl⟩

theorem schemaOkB_iff {S : Schema} : schemaOkB S = true ↔
    (nodupB (S.typeDefs.map (·.name)) = true ∧ NoReservedFields S) ∧
      ∀ t ∈ S.typeDefs, t.kind = .union → ∀ m ∈ t.members, (S.kindOf? m.1 == some .object) = true := by
  simp only [schemaOkB, NoReservedFields, Bool.and_eq_true, List.all_eq_true, bne_union_or_iff]

theorem typeNamesNodup_of_schemaOk {S : Schema} (h : schemaOkB S = true) : TypeNamesNodup S :=
  (nodupB_iff_nodup _).mp (schemaOkB_iff.mp h).1.1

theorem schemaOk_members {S : Schema} (h : schemaOkB S = true) {ct : TypeDef} (hm : ct ∈ S.typeDefs)
    (hk : ct.kind = .union) : ∀ m ∈ ct.members, ∃ o, S.typeDef? m.1 = some o ∧ o.kind = .object :=
  fun m hmm => kindOf_beq_some ((schemaOkB_iff.mp h).2 ct hm hk m hmm)

theorem schemaOk_of_valid {S : Schema} (h : SchemaValid S) : schemaOkB S = true := by
  have SF := schemaFacts_of_valid h
  refine schemaOkB_iff.mpr ⟨⟨SF.typeND, schemaValid_noReserved h⟩, fun t ht _ m hm => ?_⟩
  obtain ⟨o, ho, hok⟩ := SF.members t ht m hm
  rw [Schema.kindOf?, ho, Option.map_some, hok]
  rfl

section
variable {S : Schema} {n : Name} {t : TypeDef} (h : S.typeDef? n = some t)
include h

theorem parentsOk_of_kind (hk : t.kind = .object ∨ t.kind = .interface) : parentsOkB S n = true := by
  unfold parentsOkB parentObjects
  rw [h]
  rcases hk with hk | hk <;> simp only [hk]

end

theorem parentsOk_of_composite {S : Schema} (hS : schemaOkB S = true) {n : Name} {ct : TypeDef}
    (hn : S.typeDef? n = some ct) (hc : (CheckOp.directFields ct).isSome = true) : parentsOkB S n = true := by
  obtain ⟨fs, hfs⟩ := Option.isSome_iff_exists.mp hc
  rcases directFields_some hfs with ⟨hk, _⟩ | ⟨hk, _⟩
  · exact parentsOk_of_kind hn hk
  · unfold parentsOkB parentObjects
    simp only [hn, hk]
    split
    · rfl
    · next e heq =>
      refine (mapM_ne_error ct.members (fun m hm => ?_) e heq).elim
      obtain ⟨o, ho, hok⟩ := schemaOk_members hS (Schema.typeDef?_mem hn) hk m hm
      exact ⟨o, by simp only [ho, hok]; rfl⟩

theorem isObj_of_possible {S : Schema} (hnd : TypeNamesNodup S) {n o : Name} (hp : parentsOkB S n = true)
    (ho : o ∈ S.possibleTypes n) : IsObj S o := by
  unfold parentsOkB at hp
  cases hpo : parentObjects S n with
  | error e => rw [hpo] at hp; cases hp
  | ok objs =>
    obtain ⟨_, h2, h3⟩ := parentObjects_spec hpo
    obtain ⟨od, hod, rfl⟩ := h3 hnd o ho
    exact ⟨od, (h2 od hod).1, (h2 od hod).2.1⟩

theorem possible_of_applies {S : Schema} {o cond : Name} (ho : IsObj S o)
    (h : fragmentTypeApplies S o cond = true) : o ∈ S.possibleTypes cond := by
  obtain ⟨od, hod, hobj⟩ := ho
  unfold fragmentTypeApplies at h
  cases hc : S.typeDef? cond with
  | none => rw [hc] at h; cases h
  | some t =>
    simp only [hc] at h
    cases hk : t.kind with
    | object =>
      simp only [hk, beq_iff_eq] at h
      rw [possibleTypes_object hc hk, h]
      exact List.mem_singleton_self _
    | union =>
      simp only [hk, List.any_eq_true, beq_iff_eq] at h
      rw [possibleTypes_union hc hk]
      exact List.mem_map.mpr h
    | interface =>
      simp only [hk, hod] at h
      rw [possibleTypes_interface hc hk, ← Schema.typeDef?_name hod]
      exact mem_objectImplementers (Schema.typeDef?_mem hod) hobj h
    | _ => simp only [hk] at h; cases h

theorem possible_cases {S : Schema} (hnd : TypeNamesNodup S) {t : Name} {ct : TypeDef} (hct : S.typeDef? t = some ct)
    {o : Name} (ho : o ∈ S.possibleTypes t) {od : TypeDef} (hod : S.typeDef? o = some od) :
    (ct.kind = .object ∧ od = ct) ∨ (ct.kind = .interface ∧ od.implements.any (·.1 == t) = true) ∨
    ct.kind = .union := by
  cases hk : ct.kind with
  | union => exact Or.inr (Or.inr rfl)
  | object =>
    rw [possibleTypes_object hct hk, List.mem_singleton, Schema.typeDef?_name hct] at ho
    rw [ho, hct] at hod
    exact Or.inl ⟨rfl, (Option.some.inj hod).symm⟩
  | interface =>
    rw [possibleTypes_interface hct hk] at ho
    obtain ⟨x, hx, _, hi, rfl⟩ := of_mem_objectImplementers ho
    cases (find_of_nodup hnd x hx).symm.trans hod
    exact Or.inr (Or.inl ⟨rfl, hi⟩)
  | _ => simp [Schema.possibleTypes, hct, hk] at ho

theorem find_directFields {ct : TypeDef} {cfields : List FieldDef} (hf : CheckOp.directFields ct = some cfields)
    {name : Name} {fd : FieldDef} (hfd : cfields.find? (·.name == name) = some fd) (hnt : name ≠ "__typename") :
    ct.kind ≠ .union ∧ ct.fields.find? (·.name == name) = some fd := by
  have hty : [typenameField].find? (·.name == name) = none := by
    simp only [List.find?_cons, List.find?_nil, typenameField, beq_eq_false_iff_ne.mpr hnt.symm]
  rcases directFields_some hf with ⟨hk, rfl⟩ | ⟨_, rfl⟩
  · rw [List.find?_append, hty, Option.or_none] at hfd
    refine ⟨fun hu => ?_, hfd⟩
    rw [hu] at hk
    rcases hk with hk | hk <;> cases hk
  · rw [hty] at hfd; cases hfd

theorem isObj_of_walked {S : Schema} (hS : schemaOkB S = true) {t : Name} {ct : TypeDef} {cfields : List FieldDef}
    (hct : S.typeDef? t = some ct) (hf : CheckOp.directFields ct = some cfields) {o : Name}
    (ho : o ∈ S.possibleTypes t) : IsObj S o :=
  isObj_of_possible (typeNamesNodup_of_schemaOk hS) (parentsOk_of_composite hS hct (by rw [hf]; rfl)) ho

theorem field_on_possible {S : Schema} (hS : schemaOkB S = true) (hI : ifaceOkB S = true) {t : Name} {ct : TypeDef}
    (hct : S.typeDef? t = some ct) {cfields : List FieldDef} (hf : CheckOp.directFields ct = some cfields)
    {name : Name} {fd : FieldDef} (hfd : cfields.find? (·.name == name) = some fd) (hnt : name ≠ "__typename")
    {o : Name} (ho : o ∈ S.possibleTypes t) :
    ∃ g, S.field? o name = some g ∧ subOkB S g.ty.unwrapped fd.ty.unwrapped = true := by
  obtain ⟨od, hod, hok⟩ := isObj_of_walked hS hct hf ho
  obtain ⟨hnu, hfind⟩ := find_directFields hf hfd hnt
  have hfield : ∀ g, od.fields.find? (·.name == name) = some g → S.field? o name = some g := fun g hg => by
    rw [Schema.field?, Schema.fieldsOf, hod]; exact hg
  rcases possible_cases (typeNamesNodup_of_schemaOk hS) hct ho hod with ⟨_, rfl⟩ | ⟨_, himp⟩ | hu
  · exact ⟨fd, hfield fd hfind, by rw [subOkB, beq_iff_eq.mpr rfl, Bool.true_or, Bool.true_or]⟩
  · -- `od` declares the interface `ct`: `ifaceOkB` has the field of `ct` on `od`
    obtain ⟨i, hi, hin⟩ := List.any_eq_true.mp himp
    have h1 := List.all_eq_true.mp hI od (Schema.typeDef?_mem hod)
    simp only [hok] at h1
    have h2 := List.all_eq_true.mp h1 i hi
    rw [beq_iff_eq.mp hin, hct] at h2
    have h3 := List.all_eq_true.mp h2 fd (List.mem_of_find?_eq_some hfind)
    have hname : fd.name = name := by simpa using List.find?_some hfind
    rw [hname] at h3
    cases hg : od.fields.find? (·.name == name) with
    | none => simp [hg] at h3
    | some g => exact ⟨g, hfield g hg, by simpa only [hg] using h3⟩
  · exact absurd hu hnu

theorem selOkB_succ {S : Schema} {F : FragMap} : ∀ (D : Nat) (o : Name) (s : Selection),
    selOkB S F D o s = true → selOkB S F (D + 1) o s = true
  | 0, _, _, h => nomatch h
  | D + 1, o, s, h => by
    have hl : ∀ (o' : Name) (ss : List Selection), ss.all (selOkB S F D o') = true →
        ss.all (selOkB S F (D + 1) o') = true :=
      fun o' ss hs => List.all_eq_true.mpr fun x hx => selOkB_succ D o' x (List.all_eq_true.mp hs x hx)
    cases s with
    | field a n p args ds sub =>
      simp only [selOkB, Bool.and_eq_true, Bool.or_eq_true] at h ⊢
      refine h.imp_right (Or.imp_right fun h2 => ?_)
      cases hfd : S.field? o n with
      | none => rw [hfd] at h2; cases h2
      | some fd =>
        cases sub with
        | none => rfl
        | some ss' =>
          simp only [hfd, Bool.and_eq_true, List.all_eq_true] at h2 ⊢
          exact h2.imp_right fun h3 o' ho' => List.all_eq_true.mp (hl o' ss' (List.all_eq_true.mpr (h3 o' ho')))
    | spread nm np ds p =>
      simp only [selOkB, Bool.and_eq_true] at h ⊢
      refine h.imp_right fun h2 => ?_
      cases hF : F nm with
      | none => rw [hF] at h2; cases h2
      | some fd =>
        simp only [hF, Bool.and_eq_true, Bool.or_eq_true] at h2 ⊢
        exact h2.imp_right (Or.imp_right (hl o fd.sel))
    | inline cond ds ss' p =>
      simp only [selOkB, Bool.and_eq_true, Bool.or_eq_true] at h ⊢
      exact h.imp_right (Or.imp_right (hl o ss'))

theorem selOkB_mono {S : Schema} {F : FragMap} {D D' : Nat} (h : D ≤ D') {o : Name} {s : Selection}
    (hs : selOkB S F D o s = true) : selOkB S F D' o s = true :=
  fuel_mono_le (P := fun d => selOkB S F d o s = true) (fun _ hd => selOkB_succ _ o s hd) hs h

theorem fitsS_mono {F : FragMap} {D D' : Nat} (h : D ≤ D') {s : Selection} (hs : fitsS F D s = true) :
    fitsS F D' s = true :=
  fuel_mono_le (P := fun d => fitsS F d s = true) (fun _ hd => fitsS_succ _ s hd) hs h

theorem depth_for_list {P : Nat → Selection → Prop} (hmono : ∀ D D' s, D ≤ D' → P D s → P D' s) :
    ∀ (ss : List Selection), (∀ s ∈ ss, ∃ D, P D s) → ∃ D, ∀ s ∈ ss, P D s :=
  fun ss => exists_common_fuel ss (fun s D => P D s) fun s D => hmono D (D + 1) s (Nat.le_succ D)

theorem not_quiet_single {A : ErrKind → Bool} (hA : Admissible A) {k : ErrKind} {p : Pos}
    (hk : k ≠ .UnknownVariable) : ¬ Quiet A [(k, p)] := fun h => by
  have := quiet_single.mp h
  rw [hA k hk] at this; cases this

theorem arg_of_quiet {S : Schema} {A : ErrKind → Bool} (hA : Admissible A) {vars : Option (List VarDef)} {p : Pos}
    {args : List Arg} {defs : List InputValueDef} (h : Quiet A (checkArguments S vars p args defs))
    {a : InputValueDef} (ha : a ∈ defs) (hreq : (!a.ty.isNonNull || a.default.isSome) = false) :
    ∃ x, args.find? (fun x : Arg => a.name == x.1) = some x := by
  unfold checkArguments at h
  rw [if_neg (by rw [List.isEmpty_iff]; exact List.ne_nil_of_mem ha), quiet_append, quiet_append] at h
  cases hfind : args.find? (fun x : Arg => a.name == x.1) with
  | some x => exact ⟨x, rfl⟩
  | none =>
    -- the outcome for `a` is the diagnostic `RequiredArgumentNotSpecified`
    refine absurd (fun e he => h.1.2 e (List.mem_flatMap.mpr ⟨_, List.mem_map.mpr ⟨a, ha, rfl⟩, ?_⟩))
      (not_quiet_single hA (k := .RequiredArgumentNotSpecified) (p := p) (by decide))
    simp only [hfind, hreq]
    exact he

theorem dirsOk_of_quiet {S : Schema} (hSI : skipIncludeB S = true) {A : ErrKind → Bool} (hA : Admissible A)
    {vars : Option (List VarDef)} {loc : String} {dirs : List Directive}
    (h : Quiet A (checkDirectives S vars dirs loc)) : dirsOkB dirs = true := by
  refine List.all_eq_true.mpr fun d hd => ?_
  obtain ⟨dd, hdd, _, hargs⟩ := (dirFacts_of_quiet hA h).1 d hd
  by_cases hsi : d.name ∈ ["skip", "include"]
  · -- the definition requires `if`, so the application has an argument of that name
    have hdef := List.all_eq_true.mp hSI d.name hsi
    simp only [hdd, List.any_eq_true, Bool.and_eq_true, beq_iff_eq] at hdef
    obtain ⟨a, ha, ⟨han, hnn⟩, hdflt⟩ := hdef
    obtain ⟨x, hx⟩ := arg_of_quiet hA hargs ha (by rw [hnn, Option.isSome_eq_false_iff.mpr hdflt]; rfl)
    have hx1 : (x.1 == "if") = true := by
      have := List.find?_some hx
      rw [han] at this
      exact beq_iff_eq.mpr (beq_iff_eq.mp this).symm
    rw [Bool.or_eq_true]; right
    unfold ifArg
    cases hf : d.args.find? (·.1 == "if") with
    | some y => rfl
    | none => exact absurd hx1 (List.find?_eq_none.mp hf x (List.mem_of_find?_eq_some hx))
  · simp only [List.mem_cons, List.not_mem_nil, or_false, not_or, ← beq_eq_false_iff_ne] at hsi
    rw [hsi.1, hsi.2]; rfl

end NitroVerif.Stages
