/-
C01/C02 closed forms: the schema-side hypotheses from C03's `SchemaValid`.

`Valid.SchemaValid S` (Spec/Valid.lean: the decidable "the schema passed `check`" of C03/C04 — unique type names, field /
argument / input-field / member types defined and of a usable kind, root types objects, …) gives `schemaOkB S`
(Lemmas/StagesGenA.lean) and the schema part of C10's `DocOK`; what `DocOK` adds is that no type name starts with `__`
(the schema checker reports those; here the decidable `noDunderTypeNamesB`) and the two conditions on the configured
scalar texts (`bagOK`, `parses`).
-/
import NitroVerif.Lemmas.OpTypesClosedHyp
import NitroVerif.Lemmas.StagesGenA
namespace NitroVerif.OpTypes.Closed
open NitroVerif.Gql NitroVerif.Ts NitroVerif.DeclCfg NitroVerif.SchemaDecls NitroVerif.Valid NitroVerif.CheckOp

/-- the name starts with two underscores (reserved by the specification) -/
def dunder (s : String) : Bool := ['_', '_'].isPrefixOf s.toList

def noDunderTypeNamesB (S : Schema) : Bool := S.typeDefs.all fun t => !dunder t.name

theorem dunder_eq (s : String) : dunder s = ValidTs.startsWithUU s := by
  unfold dunder ValidTs.startsWithUU
  rcases s.toList with _ | ⟨a, _ | ⟨b, r⟩⟩
  · rfl
  · by_cases ha : a = '_' <;> simp [List.isPrefixOf, ha]
  · by_cases ha : a = '_' <;> by_cases hb : b = '_' <;> simp [List.isPrefixOf, ha, hb, @eq_comm _ '_']

/-- the conditions on the configured scalar texts (C10): identifiers of the texts avoid the printer's own names, the
    supplied parses mention only identifiers of their texts and no absolute reference.  Field for field
    `DeclsComposed.CfgOK` (Lemmas/DeclsComposedValid.lean, not imported here); not to be confused with `CfgOk`
    (Lemmas/OpTypesClosedHyp.lean: scalar value sets, `null`, possible object types) -/
structure CfgTextsOk (cfg : Cfg) (doc : TsDoc) : Prop where
  bagOK : ∀ i ∈ bag (scalarTypes cfg doc), hasTmpPrefix i = false ∧ i ∉ reservedNames
  parses : ∀ p ∈ scalarTypes cfg doc, ∀ t ∈ Target.all,
    (cfg.parseOf (p.2.getType t)).noAbs = true ∧
      ∀ i ∈ (cfg.parseOf (p.2.getType t)).freeNames, i ∈ bag (scalarTypes cfg doc)

theorem docOK_of_valid {cfg : Cfg} {S : Schema} (hv : SchemaValid S) (hd : noDunderTypeNamesB S = true)
    (hc : CfgTextsOk cfg S.items) : DocOK cfg S.items := by
  have SF := schemaFacts_of_valid hv
  have hnd : ∀ a ∈ typeDefsOf S.items, ValidTs.startsWithUU a.name = false := by
    intro a ha
    rw [← typeDefs_eq] at ha
    have := List.all_eq_true.1 hd a ha
    simpa [dunder_eq] using this
  have kind_ne : ∀ {td : TypeDef}, Schema.isOutputKind td.kind = true → td.kind ≠ .input := by
    intro td h hk; rw [hk] at h; cases h
  refine ⟨?_, (names_of_noUU hnd).1, (names_of_noUU hnd).2, ?_, ?_, ?_, hc.bagOK, hc.parses⟩
  · rw [← typeDefs_eq]; exact (nodupB_iff_nodup _).mp SF.typeND
  · intro td htd _ f hf
    rw [← typeDefs_eq] at htd
    obtain ⟨⟨ft, hft, hk⟩, _⟩ := SF.fieldTy td htd f hf
    have hm := Schema.typeDef?_mem hft
    have hn := Schema.typeDef?_name hft
    exact ⟨ft, hm, hn, kind_ne hk⟩
  · intro td htd _ f hf
    rw [← typeDefs_eq] at htd
    obtain ⟨ft, hft, hk⟩ := SF.inputTy td htd f hf
    have hm := Schema.typeDef?_mem hft
    have hn := Schema.typeDef?_name hft
    refine ⟨ft, hm, hn, ?_⟩
    cases hkk : ft.kind <;> simp [hkk, Schema.isInputKind] at hk ⊢
  · intro td htd _ m hm
    rw [← typeDefs_eq] at htd
    obtain ⟨o, ho, hk⟩ := SF.members td htd m hm
    have hmo := Schema.typeDef?_mem ho
    have hn := Schema.typeDef?_name ho
    exact ⟨o, hmo, hn, hk⟩

end NitroVerif.OpTypes.Closed
