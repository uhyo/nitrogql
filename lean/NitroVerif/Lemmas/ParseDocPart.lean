/-
A rule body piece by piece, on top of `RunsK`: `PartT` / `Part` (a sub-expression against the piece of text it consumes),
`Front` (the first expressions of a body in front of any continuation), `ReadsT` / `Reads` / `ReadsOpt` (what a construct
theorem concludes). Bounds, offsets and cleanliness of a whole rule follow from those of its pieces.

Depth. Every statement bounds the depth of the interpreter by `B t.length + K`, `B L = 60·L + 100`
(Lemmas/ParseValueDefs.lean): the text `t` of a piece pays for the depth its expression needs. `K` is a constant of the
rule, independent of the text; its value means nothing beyond making the `mono`s go through (any larger number is as
good): the pieces' constants plus the nodes above them (`PartT.seq`: `max K K' + 1`, `PartT.rule`: `K + 2`). The 100 is
room for a leaf and for an alternative that fails in front of a piece (`opt_none`, `not`, `star_nil`, `ReadsOpt.absent`,
`Front.fails`, `le_B` ask for `n ≤ K + 98 … 100`); the 60 per character let a non-empty neighbour absorb a constant up to
60 (`seq_pos`; `bracedT`'s `K ≤ 54`: the brackets pay for the items), so one bound survives the recursion through nested
lists.

Names. `rX` — the text of `X` with a gap after every token; `wpX` — `X` with the positions its tokens have in the
input; `WFX` — the side conditions on `X`; `xBad` — the characters that must not follow `x`. A theorem about the
construct `x` on its text is `xT`: it concludes `Reads` / `ReadsOpt` (the type definitions and extensions `KindDefOk` /
`KindExtOk`: `Reads` for every end of the enclosing pair; the leaves `strT`, `nameT`, `kwT`, `dirT`, `enumValueT`, `wordT`,
`locT`, `targetT` conclude `RunsK(E)`); `xP` concludes a `Part` (`typedP`: with the builder facts of its pieces), `xF` a
`Front`; `xK` is a parser half alone (no builder); `xB` a builder of an optional pair; `xG` leaves one piece general —
any text its rule reads (`unionDefG`, `objKindDefG`), or hands out the item pairs (`dirsG`). A prime on a construct
theorem or statement marks the form in front of a `Tail` (`selSetT'`, `opT'`, `impT'`, `DefOk'`); a final `F` on a
definition (`rDefF`, `WFTsItemF`) the forms of the `_full` theorems (with import statements, with the bare interface).

Writing a construct theorem. The pieces are taken from the RIGHT: what must follow a piece is known only from the piece
behind it, and every theorem for an optional piece (`optDirsT`, `optBracedT`, …) hands back the `Nxt` for the piece in
front of it (`n2`, `n1`, `n0` in `enumDefT`, Lemmas/ParseDocTsDefScalarEnum.lean). Then the parts are put together from the
left (`PartT.seq`, `Front.part`, `PartT.rule`), `matchParts_slots` sorts the children into the slots of the builder's
`parts!` pattern, and the builder facts of the pieces are handed the depth of their own text (`fuel_left`/`fuel_right`,
Lemmas/ParseDocText.lean). A construct also has to be entered in: `Model/Build.lean` (its builder) and `Gen/Parts.lean`
(regenerated); `errIn_buildX` in Lemmas/BuildWalkOp.lean / BuildWalkTs.lean (C08); `erase_wpX` in ParseDocErase.lean /
ParseDocTsErase.lean; `flat_X` in GqlPrintOwnFlatExec.lean / …FlatTs.lean and `fitsD_X` in GqlPrintOwnFitsExec.lean /
…FitsTs.lean (C16 over the own parser). An item of a type-system document besides: `rTsItem`/`wpTsItem`/`WFTsItem`/`tsItemT`
and `tdStart_ok` (ParseDocTsDoc.lean), `itemWords`/`itemStart_rTsItem` (ParseDocTsBareIface.lean), `NormalItem`/
`tsErase_wpTsItem` (ParseDocTsErase.lean), the `_fails_kw` lemmas of the earlier alternatives (ParseDocTsItem.lean,
ParseDocTsExtItem.lean), and the second dispatch in `DocParseL` (GqlPrintOwnLeadDoc.lean).
-/
import NitroVerif.Lemmas.ParseDocRuns
import NitroVerif.Lemmas.Build
namespace NitroVerif.DocParse
open NitroVerif.Peg NitroVerif.Gen NitroVerif.Gen.Parts NitroVerif.Build NitroVerif.TypeParse NitroVerif.StringParse
open NitroVerif.Gql NitroVerif.ValueParse

mutual
/-- no pair of the tree is a `\u` escape, so that `validate_unicode_escapes` finds nothing (`firstBadEscape_clean`) -/
def CleanP : Pair → Prop
  | .mk r _ _ cs => r ≠ R.EscapedUnicode4 ∧ r ≠ R.EscapedUnicodeBrace ∧ CleanL cs
def CleanL : List Pair → Prop
  | [] => True
  | p :: ps => CleanP p ∧ CleanL ps
end

theorem cleanL_append : ∀ {a b : List Pair}, CleanL (a ++ b) ↔ CleanL a ∧ CleanL b := by
  intro a
  induction a with
  | nil => intro b; simp [CleanL]
  | cons x xs ih => intro b; simp [CleanL, ih, and_assoc]

theorem cleanP_mk {r s e : Nat} {cs : List Pair} :
    CleanP (.mk r s e cs) ↔ r ≠ R.EscapedUnicode4 ∧ r ≠ R.EscapedUnicodeBrace ∧ CleanL cs := by simp [CleanP]

theorem scanEscapes_noEscapes (ctx : Ctx) : ∀ (l : List Pair),
    (∀ ch ∈ l, ch.rule ≠ R.EscapedUnicode4 ∧ ch.rule ≠ R.EscapedUnicodeBrace) → scanEscapes ctx none l = none := by
  intro l
  induction l with
  | nil => intro _; rfl
  | cons ch rest ih =>
    intro h
    obtain ⟨h1, h2⟩ := h ch (List.mem_cons_self ..)
    simp only [scanEscapes, h1, h2, if_false]
    exact ih fun x hx => h x (List.mem_cons_of_mem _ hx)

theorem cleanL_mem : ∀ {ps : List Pair}, CleanL ps → ∀ p ∈ ps, CleanP p := by
  intro ps
  induction ps with
  | nil => intro _ p hp; cases hp
  | cons x xs ih =>
    intro h p hp
    simp only [CleanL] at h
    rcases List.mem_cons.mp hp with rfl | hp
    · exact h.1
    · exact ih h.2 p hp

theorem cleanP_child {p c : Pair} (h : CleanP p) (hc : c ∈ p.children) : CleanP c := by
  cases p with
  | mk r s e cs => exact cleanL_mem h.2.2 c hc

theorem cleanP_sub : (p : Pair) → CleanP p → ∀ q ∈ flat p, CleanP q := flat_hered cleanP_child

theorem cleanL_sub (ps : List Pair) (h : CleanL ps) : ∀ q ∈ flatList ps, CleanP q :=
  flatList_hered cleanP_child ps (cleanL_mem h)

theorem cleanL_of_mem : ∀ {ps : List Pair}, (∀ p ∈ ps, CleanP p) → CleanL ps
  | [], _ => trivial
  | _ :: _, h => ⟨h _ (List.mem_cons_self ..), cleanL_of_mem fun p hp => h p (List.mem_cons_of_mem _ hp)⟩

theorem clean_stringCharacters {q : Pair} (h : CleanP q) :
    ∀ ch ∈ stringCharacters q, ch.rule ≠ R.EscapedUnicode4 ∧ ch.rule ≠ R.EscapedUnicodeBrace := by
  cases q with
  | mk r s e cs =>
    intro ch hch
    simp only [stringCharacters, Pair.children, List.mem_flatMap] at hch
    obtain ⟨sc, hsc, hch⟩ := hch
    simp only [CleanP] at h
    have hsc' := cleanL_mem h.2.2 sc hsc
    cases sc with
    | mk r' s' e' cs' =>
      simp only [CleanP] at hsc'
      have := cleanL_mem hsc'.2.2 ch hch
      cases ch with
      | mk r'' s'' e'' cs'' =>
        simp only [CleanP] at this
        exact ⟨this.1, this.2.1⟩

theorem firstBadEscape_clean (ctx : Ctx) (ps : List Pair) (h : CleanL ps) : firstBadEscape ctx ps = none := by
  simp only [firstBadEscape, List.findSome?_eq_none_iff]
  intro q hq
  split
  · rw [scanEscapes_noEscapes ctx _ (clean_stringCharacters (cleanL_sub ps h q hq))]; rfl
  · rfl

theorem cleanP_of {r s e : Nat} {cs : List Pair} (h1 : r ≠ R.EscapedUnicode4) (h2 : r ≠ R.EscapedUnicodeBrace)
    (h3 : CleanL cs) : CleanP (.mk r s e cs) := cleanP_mk.mpr ⟨h1, h2, h3⟩

section ItemsBuild
variable {α β : Type} (ri : Bool → Nat → α → List Char) (sepMid sepLast : Bool)

theorem goodItems_mapM (Good : Bool → Nat → α → Pair → Prop) (f : Pair → M β) (wp : Bool → Nat → α → β) (L : Nat) :
    ∀ (as : List α), (∀ a ∈ as, ∀ s p pr, Good s p a pr → (ri s p a).length ≤ L → f pr = .ok (wp s p a)) →
    ∀ (p : Nat) (pss : List Pair), (renderItems ri sepMid sepLast p as).length ≤ L →
    GoodItems ri sepMid sepLast Good p as pss → pss.mapM f = .ok (mapItems ri sepMid sepLast wp p as) := by
  intro as
  induction as with
  | nil => intro _ p pss _ hg; simp only [GoodItems] at hg; subst hg; rfl
  | cons a r ih =>
    intro h p pss hL hg
    cases r with
    | nil =>
      obtain ⟨pr, rfl, hgood⟩ := hg
      simp only [renderItems] at hL
      simp [List.mapM_cons, h a (List.mem_cons_self ..) _ p pr hgood hL, mapItems, bind, Except.bind, pure, Except.pure]
    | cons b r =>
      obtain ⟨pr, pss', rfl, hgood, hrest⟩ := hg
      rw [renderItems_cons2] at hL
      simp only [List.length_append] at hL
      have := ih (fun x hx => h x (List.mem_cons_of_mem _ hx)) _ _ (by omega) hrest
      simp [List.mapM_cons, h a (List.mem_cons_self ..) _ p pr hgood (by omega), this, mapItems, bind, Except.bind, pure,
        Except.pure]

theorem goodItems_forall (Good : Bool → Nat → α → Pair → Prop) (P : Pair → Prop) :
    ∀ (as : List α), (∀ a ∈ as, ∀ s p pr, Good s p a pr → P pr) → ∀ (p : Nat) (pss : List Pair),
    GoodItems ri sepMid sepLast Good p as pss → ∀ pr ∈ pss, P pr := by
  intro as
  induction as with
  | nil => intro _ p pss hg; simp only [GoodItems] at hg; subst hg; intro pr h; cases h
  | cons a r ih =>
    intro h p pss hg
    cases r with
    | nil =>
      obtain ⟨pr, rfl, hgood⟩ := hg
      intro x hx
      simp only [List.mem_singleton] at hx
      subst hx
      exact h a (List.mem_cons_self ..) _ p _ hgood
    | cons b r =>
      obtain ⟨pr, pss', rfl, hgood, hrest⟩ := hg
      intro x hx
      rcases List.mem_cons.mp hx with rfl | hx
      · exact h a (List.mem_cons_self ..) _ p _ hgood
      · exact ih (fun y hy => h y (List.mem_cons_of_mem _ hy)) _ _ hrest x hx

theorem goodItems_all (Good : Bool → Nat → α → Pair → Prop) (rule : RuleId) (as : List α)
    (h : ∀ a ∈ as, ∀ s p pr, Good s p a pr → pr.rule = rule) (p : Nat) (pss : List Pair)
    (hg : GoodItems ri sepMid sepLast Good p as pss) : allChildrenGo rule pss = .ok () :=
  allChildrenGo_ok (goodItems_forall ri sepMid sepLast Good (·.rule = rule) as h p pss hg)

theorem goodItems_clean (Good : Bool → Nat → α → Pair → Prop) (as : List α)
    (h : ∀ a ∈ as, ∀ s p pr, Good s p a pr → CleanP pr) (p : Nat) (pss : List Pair)
    (hg : GoodItems ri sepMid sepLast Good p as pss) : CleanL pss :=
  cleanL_of_mem (goodItems_forall ri sepMid sepLast Good CleanP as h p pss hg)

theorem goodItems_map {γ : Type} (Good : Bool → Nat → α → Pair → Prop) (f : Pair → γ) (wp : Bool → Nat → α → γ)
    (as : List α) (h : ∀ a ∈ as, ∀ s p pr, Good s p a pr → f pr = wp s p a) (p : Nat) (pss : List Pair)
    (hg : GoodItems ri sepMid sepLast Good p as pss) : pss.map f = mapItems ri sepMid sepLast wp p as := by
  have := goodItems_mapM ri sepMid sepLast Good (fun pr => (pure (f pr) : M γ)) wp _ as
    (fun a ha s p pr hg _ => congrArg pure (h a ha s p pr hg)) p pss (Nat.le_refl _) hg
  rw [List.mapM_pure] at this
  exact Except.ok.inj this

end ItemsBuild

/-- `e` consumes exactly the text `t` written at `p` (the trailing gap of its last token included) within the depth
    `B t.length + K`, whatever follows, and the pairs it produces contain no `\u` escape; the implicit skip after it ends at
    `c'` and takes `n` more. In front of a token (`Part`) `c'` is the end of `t` and `n = 0`; the general form is for the last
    piece of an executable definition (a `Tail` follows, Lemmas/ParseDocTail.lean). What does not depend on where the skip
    ends is stated once, for `PartT`. -/
structure PartT (inp : List Char) (K n : Nat) (e : Expr) (p : Nat) (t : List Char) (c' : Cur) (ps : List Pair) : Prop where
  runs : ∃ c1, Runs gList (B t.length + K) true e .nonAtomic (At inp p) c1 ps ∧ SkipTo (B t.length + K + n) c1 c'
  clean : CleanL ps

/-- the part in front of a token -/
abbrev Part (inp : List Char) (K : Nat) (e : Expr) (p : Nat) (t : List Char) (ps : List Pair) : Prop :=
  PartT inp K 0 e p t (At inp (p + t.length)) ps

namespace PartT
variable {inp : List Char} {K K' n : Nat} {a b e : Expr} {p : Nat} {t : List Char} {c' : Cur} {ps : List Pair}

theorem runsK (h : PartT inp K n e p t c' ps) : RunsK (B t.length + K + n) e (At inp p) c' ps :=
  let ⟨c1, h1, h2⟩ := h.runs
  ⟨c1, h1.mono (Nat.le_add_right ..), h2⟩

theorem run (h : PartT inp K 0 e p t c' ps) : RunsK (B t.length + K) e (At inp p) c' ps := h.runs

theorem mono (h : PartT inp K n e p t c' ps) (hk : K ≤ K') : PartT inp K' n e p t c' ps :=
  let ⟨c1, h1, h2⟩ := h.runs
  ⟨⟨c1, h1.mono (by omega), h2.mono (by omega)⟩, h.clean⟩

theorem rule {r : RuleId} {body : Expr} (hl : gList.look r = some (.normal, body)) (hb : PartT inp K n body p t c' ps) :
    ∃ e, PartT inp (K + 2) n (.call r) p t c' [.mk r p e ps] := by
  obtain ⟨h1, h2, h3, h4⟩ := normal_ne hl
  obtain ⟨c1, hb1, hs⟩ := hb.runs
  exact ⟨c1.pos, ⟨c1, (runs_call (runsRule_normal hl (notSpecial h1 h2) hb1)).mono (by omega), hs.mono (by omega)⟩,
    cleanP_of h3 h4 hb.clean, trivial⟩

theorem choice_l (h : PartT inp K n a p t c' ps) : PartT inp (K + 1) n (.choice a b) p t c' ps :=
  let ⟨c1, h1, h2⟩ := h.runs
  ⟨⟨c1, runs_choice_l h1, h2.mono (by omega)⟩, h.clean⟩

theorem choice_r {m : Nat} (ha : Fails gList m true a .nonAtomic (At inp p)) (hb : PartT inp K n b p t c' ps)
    (hm : m ≤ B t.length + K) : PartT inp (K + 1) n (.choice a b) p t c' ps :=
  let ⟨c1, h1, h2⟩ := hb.runs
  ⟨⟨c1, (runs_choice_r' ha h1).mono (by omega), h2.mono (by omega)⟩, hb.clean⟩

variable {ta tb : List Char} {pa pb : List Pair}

theorem tok (h : RunsK (B t.length) e (At inp p) (At inp (p + t.length)) []) : Part inp 0 e p t [] := ⟨h, trivial⟩

theorem seqT {n : Nat} {c' : Cur} (ha : Part inp K a p ta pa) (hb : PartT inp K' n b (p + ta.length) tb c' pb) :
    PartT inp (max K K' + 1) n (.seq a b) p (ta ++ tb) c' (pa ++ pb) := by
  obtain ⟨c0, ha1, hs1⟩ := ha.run
  obtain ⟨c1, hb1, hs2⟩ := hb.runs
  refine ⟨⟨c1, (runs_seq_skip' ha1 hs1 hb1).mono ?_, hs2.mono ?_⟩, cleanL_append.mpr ⟨ha.clean, hb.clean⟩⟩ <;>
    (simp only [B, List.length_append]; omega)

/-- the 60 of a first piece that is not empty cover the constant of what follows -/
theorem seqT_pos {n : Nat} {c' : Cur} (ha : Part inp K a p ta pa) (hb : PartT inp K' n b (p + ta.length) tb c' pb)
    (h1 : 1 ≤ ta.length) (hk : K' ≤ K + 60) : PartT inp (K + 1) n (.seq a b) p (ta ++ tb) c' (pa ++ pb) := by
  obtain ⟨c0, ha1, hs1⟩ := ha.run
  obtain ⟨c1, hb1, hs2⟩ := hb.runs
  refine ⟨⟨c1, (runs_seq_skip' ha1 hs1 hb1).mono ?_, hs2.mono ?_⟩, cleanL_append.mpr ⟨ha.clean, hb.clean⟩⟩ <;>
    (simp only [B, List.length_append]; omega)

theorem seq (ha : Part inp K a p ta pa) (hb : Part inp K' b (p + ta.length) tb pb) :
    Part inp (max K K' + 1) (.seq a b) p (ta ++ tb) (pa ++ pb) := by
  have := ha.seqT hb
  rwa [Nat.add_assoc, ← List.length_append] at this

theorem seq₂ {t1 t2 : List Char} (ha : Part inp K a p (t1 ++ t2) pa) (hb : Part inp K' b (p + t1.length + t2.length) tb pb) :
    Part inp (max K K' + 1) (.seq a b) p (t1 ++ (t2 ++ tb)) (pa ++ pb) := by
  rw [← List.append_assoc]
  refine ha.seq ?_
  rwa [List.length_append, ← Nat.add_assoc]

theorem seq_nil (ha : Part inp K a p t pa) (hb : Part inp K' b (p + t.length) [] pb) :
    Part inp (max K K' + 1) (.seq a b) p t (pa ++ pb) := by
  simpa using ha.seq hb

/-- the rule of the pair of a rule call (`rfl`; the hypothesis lets the pair be found where it is written `_`) -/
theorem pairRule {r e' : Nat} {cs : List Pair} (_ : Part inp K e p t [.mk r p e' cs]) : (Pair.mk r p e' cs).rule = r := rfl

theorem opt_some (h : Part inp K a p t ps) : Part inp (K + 1) (.opt a) p t ps := ⟨runsK_opt_some h.run, h.clean⟩

theorem opt_none {n : Nat} (h : Fails gList n true a .nonAtomic (At inp p)) (ht : Tok (At inp p)) (hn : n ≤ K + 99) :
    Part inp K (.opt a) p [] [] :=
  ⟨(runsK_opt_none h ht).mono (by simp only [B, List.length_nil]; omega), trivial⟩

theorem plus {n : Nat} (h : Many1K a n (At inp p) (At inp (p + t.length)) ps) (hc : CleanL ps)
    (hn : n ≤ B t.length + K + 1) : Part inp (K + 5) (.plus a) p t ps :=
  ⟨(runsK_plus1 h).mono (by simp only [B] at hn ⊢; omega), hc⟩

theorem not {n : Nat} (h : FailsL gList .neg n true a .nonAtomic (At inp p)) (ht : Tok (At inp p)) (hn : n ≤ K + 99) :
    Part inp K (.not a) p [] [] :=
  ⟨(runsK_not h ht).mono (by simp only [B, List.length_nil]; omega), trivial⟩

theorem ofRun {n : Nat} (h : RunsK n e (At inp p) (At inp (p + t.length)) ps) (hn : n ≤ B t.length + K) (hc : CleanL ps) :
    Part inp K e p t ps := ⟨h.mono hn, hc⟩

theorem fails_seq {m : Nat} (ha : Part inp K a p t ps) (hb : Fails gList m true b .nonAtomic (At inp (p + t.length))) :
    Fails gList (max (B t.length + K) m + 1) true (.seq a b) .nonAtomic (At inp p) := fails_seq_K ha.run hb

theorem seq_pos {K K' : Nat} {a b : Expr} {p : Nat} {ta tb : List Char} {pa pb : List Pair} (ha : Part inp K a p ta pa)
    (hb : Part inp (K' + 60) b (p + ta.length) tb pb) (h1 : 1 ≤ ta.length) :
    Part inp (max K K' + 1) (.seq a b) p (ta ++ tb) (pa ++ pb) := by
  have := (ha.mono (Nat.le_max_left K K')).seqT_pos hb h1 (Nat.add_le_add_right (Nat.le_max_right K K') 60)
  rwa [Nat.add_assoc, ← List.length_append] at this

theorem nil_seq {K K' : Nat} {a b : Expr} {p : Nat} {t : List Char} {pa pb : List Pair} (ha : Part inp K a p [] pa)
    (hb : Part inp K' b p t pb) : Part inp (max K K' + 1) (.seq a b) p t (pa ++ pb) :=
  ha.seq (ta := []) hb

theorem star {K n : Nat} {a : Expr} {p : Nat} {t : List Char} {ps : List Pair}
    (h : Many1K a n (At inp p) (At inp (p + t.length)) ps) (hc : CleanL ps) (hn : n ≤ B t.length + K + 1) :
    Part inp (K + 4) (.star a) p t ps := by
  obtain ⟨k, hk, hm⟩ := h.many
  exact ⟨(runsK_star hm).mono (by simp only [B] at hn ⊢; omega), hc⟩

theorem star_nil {K n : Nat} {a : Expr} {p : Nat} (h : Fails gList n true a .nonAtomic (At inp p)) (ht : Tok (At inp p))
    (hn : n ≤ K + 98) : Part inp K (.star a) p [] [] :=
  ⟨(runsK_star (.nil h ht)).mono (by simp only [B, List.length_nil]; omega), trivial⟩

end PartT

/-! ### the front of a rule body

The head of a definition (`Description? keyword Name`, Lemmas/ParseDocTsHead.lean) is not a sub-expression of the rule
bodies it begins: it is described by what it does in front of ANY continuation `T`. `Front` names that form: `E` is a
rule body with a hole, its expressions consume the text `t` from `p` to `q`, and
`E T` runs (fails) from `p` if `T` runs (fails) from `q`. A front is extended by the part that follows it (`seq`) and
closed by the part of the last expression (`part`), or by an expression that fails (`fails`). `c` is the largest
constant of the pieces so far, `d` the number of sequence nodes above the hole: `E T` needs the depth
`max nT (B t.length + c) + d` if `T` needs `nT`. -/

structure Front (inp : List Char) (c d : Nat) (E : Expr → Expr) (f : List Pair → List Pair) (p : Nat) (t : List Char)
    (q : Nat) : Prop where
  off : q = p + t.length
  run : ∀ (T : Expr) (nT : Nat) (cE : Cur) (psT : List Pair), RunsK nT T (At inp q) cE psT →
    RunsK (max nT (B t.length + c) + d) (E T) (At inp p) cE (f psT)
  fail : ∀ (T : Expr) (nT : Nat), Fails gList nT true T .nonAtomic (At inp q) →
    Fails gList (max nT (B t.length + c) + d) true (E T) .nonAtomic (At inp p)
  clean : ∀ ps, CleanL ps → CleanL (f ps)

theorem B_mono {a b : Nat} (h : a ≤ b) : B a ≤ B b :=
  Nat.add_le_add_right (Nat.mul_le_mul_left 60 h) 100

theorem front_le {nT a b K c d : Nat} :
    max (max (B a + K) nT + 1) (B b + c) + d ≤ max nT (B (b + a) + max K c) + (d + 1) := by
  have h1 : B a + K ≤ max nT (B (b + a) + max K c) :=
    Nat.le_trans (Nat.add_le_add (B_mono (Nat.le_add_left ..)) (Nat.le_max_left ..)) (Nat.le_max_right ..)
  have h2 : B b + c ≤ max nT (B (b + a) + max K c) :=
    Nat.le_trans (Nat.add_le_add (B_mono (Nat.le_add_right ..)) (Nat.le_max_right ..)) (Nat.le_max_right ..)
  rw [← Nat.add_assoc, Nat.add_right_comm]
  exact Nat.add_le_add_right (Nat.max_le.mpr ⟨Nat.succ_le_succ (Nat.max_le.mpr ⟨h1, Nat.le_max_left ..⟩),
    Nat.le_succ_of_le h2⟩) d

namespace Front
variable {E : Expr → Expr} {f : List Pair → List Pair} {p q c d K : Nat} {a T : Expr} {t ta : List Char}
  {pa ps : List Pair}

theorem seq (h : Front inp c d E f p t q) (ha : Part inp K a q ta pa) :
    Front inp (max K c) (d + 1) (fun T => E (.seq a T)) (fun ps => f (pa ++ ps)) p (t ++ ta) (q + ta.length) :=
  ⟨by rw [h.off, List.length_append, Nat.add_assoc],
    fun _ _ _ _ hT => (h.run _ _ _ _ (runsK_seq ha.run hT)).mono (List.length_append ▸ front_le),
    fun _ _ hT => (h.fail _ _ (ha.fails_seq hT)).mono (List.length_append ▸ front_le),
    fun _ hc => h.clean _ (cleanL_append.mpr ⟨ha.clean, hc⟩)⟩

theorem part (h : Front inp c d E f p t q) (hT : Part inp K T q ta ps) :
    Part inp (max K c + d) (E T) p (t ++ ta) (f ps) := by
  have e : q + ta.length = p + (t ++ ta).length := by rw [h.off, List.length_append, Nat.add_assoc]
  refine ⟨e ▸ (h.run _ _ _ _ hT.run).mono ?_, h.clean _ hT.clean⟩
  rw [List.length_append, ← Nat.add_assoc]
  exact Nat.add_le_add_right (Nat.max_le.mpr
    ⟨Nat.add_le_add (B_mono (Nat.le_add_left ..)) (Nat.le_max_left ..),
      Nat.add_le_add (B_mono (Nat.le_add_right ..)) (Nat.le_max_right ..)⟩) d

theorem fails {n : Nat} (h : Front inp c d E f p t q) (hT : Fails gList n true T .nonAtomic (At inp q))
    (hn : n ≤ K + 100) (u : List Char) :
    Fails gList (B (t ++ u).length + (max K c + d)) true (E T) .nonAtomic (At inp p) := by
  refine (h.fail _ _ hT).mono ?_
  rw [List.length_append, ← Nat.add_assoc]
  exact Nat.add_le_add_right (Nat.max_le.mpr
    ⟨Nat.le_trans hn (Nat.add_comm .. ▸ Nat.add_le_add (Nat.le_add_left 100 _) (Nat.le_max_left K c)),
      Nat.add_le_add (B_mono (Nat.le_add_right ..)) (Nat.le_max_right ..)⟩) d

end Front

theorem Front.nil (inp : List Char) (p : Nat) : Front inp 0 0 (fun T => T) (fun ps => ps) p [] p :=
  ⟨rfl, fun _ _ _ _ hT => hT.mono (Nat.le_max_left ..), fun _ _ hT => hT.mono (Nat.le_max_left ..), fun _ h => h⟩

theorem front_mono {n b c c' d d' : Nat} (hc : c ≤ c') (hd : d ≤ d') : max n (b + c) + d ≤ max n (b + c') + d' :=
  Nat.add_le_add (Nat.max_le.mpr ⟨Nat.le_max_left .., Nat.le_trans (Nat.add_le_add_left hc b) (Nat.le_max_right ..)⟩) hd

theorem Front.mono {inp : List Char} {c c' d d' p q : Nat} {E : Expr → Expr} {f : List Pair → List Pair} {t : List Char}
    (h : Front inp c d E f p t q) (hc : c ≤ c') (hd : d ≤ d') : Front inp c' d' E f p t q :=
  ⟨h.off, fun T nT cE psT hT => (h.run T nT cE psT hT).mono (front_mono hc hd),
    fun T nT hT => (h.fail T nT hT).mono (front_mono hc hd), h.clean⟩

theorem Front.ofPart {K p : Nat} {a : Expr} {ta : List Char} {pa : List Pair} (ha : Part inp K a p ta pa) :
    Front inp K 1 (fun T => .seq a T) (fun ps => pa ++ ps) p ta (p + ta.length) :=
  ⟨rfl, fun _ _ _ _ hT => (runsK_seq ha.run hT).mono (Nat.max_comm .. ▸ Nat.le_refl _),
    fun _ _ hT => (ha.fails_seq hT).mono (Nat.max_comm .. ▸ Nat.le_refl _),
    fun _ hc => cleanL_append.mpr ⟨ha.clean, hc⟩⟩

theorem Front.fails_nil {c d K p q n : Nat} {E : Expr → Expr} {f : List Pair → List Pair} {T : Expr} {t : List Char}
    (h : Front inp c d E f p t q) (hT : Fails gList n true T .nonAtomic (At inp q)) (hn : n ≤ K + 100) :
    Fails gList (B t.length + (max K c + d)) true (E T) .nonAtomic (At inp p) :=
  List.append_nil t ▸ h.fails hT hn []

/-- `ta`: the text of the second alternative up to an empty piece or the bracketing of `++` -/
theorem PartT.choice_r_le {K Ka p : Nat} {a b : Expr} {t ta : List Char} {ps : List Pair}
    (ha : Fails gList (B ta.length + Ka) true a .nonAtomic (At inp p)) (hb : Part inp K b p t ps)
    (hl : ta.length ≤ t.length) (hk : Ka ≤ K) : Part inp (K + 1) (.choice a b) p t ps :=
  hb.choice_r ha (Nat.add_le_add (B_mono hl) hk)

theorem le_B {n K L : Nat} (h : n ≤ K + 100) : n ≤ B L + K := by simp only [B]; omega

/-- the rule `r` reads the text `t` at `p` (within depth `B t.length + K`) into the pair `pr`, on which the builder
    `bld`, given depth `t.length`, returns `v`; the skip after `t` ends at `c'` (`PartT`) -/
structure ReadsT {β : Type} (inp : List Char) (K n : Nat) (r : RuleId) (p : Nat) (t : List Char) (c' : Cur)
    (bld : Nat → Pair → M β) (v : β) (pr : Pair) : Prop where
  part : PartT inp K n (.call r) p t c' [pr]
  rule : pr.rule = r
  start : pr.start = p
  build : ∀ fuel, t.length ≤ fuel → bld fuel pr = .ok v

/-- … in front of a token -/
abbrev Reads {β : Type} (inp : List Char) (K : Nat) (r : RuleId) (p : Nat) (t : List Char) (bld : Nat → Pair → M β)
    (v : β) (pr : Pair) : Prop := ReadsT inp K 0 r p t (At inp (p + t.length)) bld v pr

/-- … for an optional item `r?` and the builder of the optional pair. Both cases are kept: the item is there and its rule
    reads it, or there is no text and the rule fails in front of the next token; whoever needs the item as a required one
    (the second alternative of a definition, `head Directives !"{"`) takes it from `there`. -/
structure ReadsOpt {β : Type} (inp : List Char) (K : Nat) (r : RuleId) (p : Nat) (t : List Char)
    (bld : Nat → Option Pair → M β) (v : β) (o : Option Pair) : Prop where
  there : ∀ pr ∈ o, Part inp K (.call r) p t [pr] ∧ pr.rule = r
  absent : o = none → t = [] ∧ Tok (At inp p) ∧ Fails gList (K + 99) true (.call r) .nonAtomic (At inp p)
  build : ∀ fuel, t.length ≤ fuel → bld fuel o = .ok v

namespace ReadsT
variable {inp : List Char} {β : Type} {K K' n r p : Nat} {t : List Char} {c' : Cur} {bld : Nat → Pair → M β} {v : β}
  {pr : Pair}

theorem mono (h : ReadsT inp K n r p t c' bld v pr) (hk : K ≤ K') : ReadsT inp K' n r p t c' bld v pr :=
  ⟨h.part.mono hk, h.rule, h.start, h.build⟩

theorem clean (h : ReadsT inp K n r p t c' bld v pr) : CleanP pr := h.part.clean.1

theorem build_succ {bld : Nat → Pair → M β} (h : ReadsT inp K n r p t c' (fun f => bld (f + 1)) v pr) {fuel : Nat}
    (hf : t.length + 1 ≤ fuel) : bld fuel pr = .ok v := by
  obtain ⟨f, rfl⟩ := Nat.exists_eq_add_one.mpr (Nat.lt_of_lt_of_le (Nat.succ_pos _) hf)
  exact h.build f (Nat.le_of_succ_le_succ hf)

end ReadsT

theorem Reads.opt {inp : List Char} {β : Type} {K r p : Nat} {t : List Char} {bld : Nat → Pair → M β} {v : β} {pr : Pair}
    {bldO : Nat → Option Pair → M β} (h : Reads inp K r p t bld v pr)
    (hb : ∀ fuel, bldO fuel (some pr) = bld fuel pr) : ReadsOpt inp K r p t bldO v (some pr) :=
  ⟨fun _ hx => (by cases hx; exact ⟨h.part, h.rule⟩), fun h0 => (by cases h0),
    fun fuel hf => (hb fuel).trans (h.build fuel hf)⟩

namespace ReadsOpt
variable {inp : List Char} {β : Type} {K n r p : Nat} {t : List Char} {bld : Nat → Option Pair → M β} {v : β}
  {o : Option Pair}

theorem none (hf : Fails gList n true (.call r) .nonAtomic (At inp p)) (ht : Tok (At inp p)) (hn : n ≤ K + 99)
    (hb : ∀ fuel, bld fuel .none = .ok v) : ReadsOpt inp K r p [] bld v .none :=
  ⟨fun _ hx => (by cases hx), fun _ => ⟨rfl, ht, hf.mono hn⟩, fun fuel _ => hb fuel⟩

theorem mono {K' : Nat} (h : ReadsOpt inp K r p t bld v o) (hk : K ≤ K') : ReadsOpt inp K' r p t bld v o :=
  ⟨fun x hx => ⟨(h.there x hx).1.mono hk, (h.there x hx).2⟩,
    fun h0 => ⟨(h.absent h0).1, (h.absent h0).2.1, (h.absent h0).2.2.mono (Nat.add_le_add_right hk _)⟩, h.build⟩

theorem part (h : ReadsOpt inp K r p t bld v o) : Part inp (K + 1) (.opt (.call r)) p t o.toList := by
  cases o with
  | none =>
    obtain ⟨rfl, ht, hf⟩ := h.absent rfl
    exact .opt_none hf ht (by omega)
  | some pr => exact (h.there pr rfl).1.opt_some

theorem rule (h : ReadsOpt inp K r p t bld v o) : ∀ x ∈ o, x.rule = r := fun x hx => (h.there x hx).2

theorem some_of_ne (h : ReadsOpt inp K r p t bld v o) (ht : t ≠ []) :
    ∃ pr, o = some pr ∧ Part inp K (.call r) p t [pr] := by
  cases o with
  | none => exact absurd (h.absent rfl).1 ht
  | some pr => exact ⟨pr, rfl, (h.there pr rfl).1⟩

end ReadsOpt

section
variable {α : Type} (ri : Bool → Nat → α → List Char) (sepMid sepLast : Bool)

theorem items_star {inp : List Char} (e : Expr) (bad : Bool → Char → Prop) (K : Nat)
    (Good : Bool → Nat → α → Pair → Prop) (as : List α) (p : Nat)
    (hitem : ∀ x ∈ as, ∀ s p, HasAt inp p (ri s p x) → Nxt inp (bad s) s (p + (ri s p x).length) →
      ∃ pr, RunsK (B (ri s p x).length + K) e (At inp p) (At inp (p + (ri s p x).length)) [pr] ∧ Good s p x pr)
    (hhead : ∀ x ∈ as, ∀ s p, Hd (fun d => ¬ trivia d ∧ ¬ bad sepMid d ∧ (sepMid = false → ¬ nameCont d)) (ri s p x))
    (hclean : ∀ x ∈ as, ∀ s p pr, Good s p x pr → CleanP pr)
    (hat : HasAt inp p (renderItems ri sepMid sepLast p as))
    (hE : Nxt inp (bad sepLast) sepLast (p + (renderItems ri sepMid sepLast p as).length))
    (hfail : Fails gList (K + 100) true e .nonAtomic (At inp (p + (renderItems ri sepMid sepLast p as).length))) :
    ∃ pss, Part inp (K + 5) (.star e) p (renderItems ri sepMid sepLast p as) pss ∧
      GoodItems ri sepMid sepLast Good p as pss := by
  cases as with
  | nil => exact ⟨[], .star_nil hfail hE.tok (by omega), rfl⟩
  | cons a r =>
    obtain ⟨pss, hmany, hgood⟩ := items_many1K ri sepMid sepLast e bad K Good r a p hitem hhead hat hE hfail
    exact ⟨pss, (PartT.star hmany (goodItems_clean ri sepMid sepLast Good (a :: r) hclean p pss hgood) (Nat.le_refl _)).mono
      (Nat.le_succ _), hgood⟩

end

theorem run_build_of_reads {inp : List Char} {K r off : Nat} {t : List Char} {β : Type} {bld : Nat → Pair → Build.M β}
    {v : β} (h : ∃ pr, Reads inp K r off t bld v pr) {fuel bfuel : Nat} (hf : B t.length + K ≤ fuel + 1)
    (hb : t.length ≤ bfuel) :
    ∃ e pair, Peg.run gList fuel r inp off .nonAtomic = some (e, [pair]) ∧ e ≤ off + t.length ∧
      bld bfuel pair = .ok v := by
  obtain ⟨pr, h⟩ := h
  obtain ⟨e, hrun, hle⟩ := run_of_runsK h.part.run hf
  exact ⟨e, pr, hrun, hle, h.build bfuel hb⟩

def itemRule : Item → RuleId
  | .req r => r
  | .opt r => r

/-- the slot of a `parts!` item: a required item has a pair of its rule, an optional one has such a pair or nothing -/
def slotOk : Item → Option Pair → Prop
  | .req r, o => ∃ x, o = some x ∧ x.rule = r
  | .opt r, o => ∀ x ∈ o, x.rule = r

def slotsOk : List Item → List (Option Pair) → Prop
  | [], [] => True
  | i :: is, o :: os => slotOk i o ∧ slotsOk is os
  | _, _ => False

/-- the pairs of the slots, one after another, in the bracketing a rule body gives them (`a ++ (b ++ c)`) -/
def slotPairs : List (Option Pair) → List Pair
  | [] => []
  | [o] => o.toList
  | o :: os => o.toList ++ slotPairs os

theorem slotPairs_cons (o : Option Pair) (os : List (Option Pair)) : slotPairs (o :: os) = o.toList ++ slotPairs os := by
  cases os with
  | nil => exact (List.append_nil _).symm
  | cons _ _ => rfl

theorem slotPairs_head_rule : ∀ (items : List Item) (slots : List (Option Pair)), slotsOk items slots →
    ∀ q ∈ (slotPairs slots).head?, q.rule ∈ items.map itemRule := by
  intro items
  induction items with
  | nil =>
    intro slots h q hq
    cases slots with
    | nil => simp [slotPairs] at hq
    | cons o os => exact absurd h id
  | cons i is ih =>
    intro slots h q hq
    cases slots with
    | nil => exact absurd h id
    | cons o os =>
      obtain ⟨h1, h2⟩ := h
      cases o with
      | none =>
        simp only [slotPairs_cons, Option.toList, List.nil_append] at hq
        exact List.mem_cons_of_mem _ (ih os h2 q hq)
      | some x =>
        simp only [slotPairs_cons, Option.toList, List.cons_append, List.head?_cons, Option.mem_def, Option.some.injEq] at hq
        subst hq
        cases i with
        | req r =>
          obtain ⟨y, hy, hr⟩ := h1
          cases hy
          simp [itemRule, hr]
        | opt r =>
          have := h1 x rfl
          simp [itemRule, this]

/-- the rules of a pattern are pairwise different -/
theorem matchParts_slots : ∀ (items : List Item) (slots : List (Option Pair)), (items.map itemRule).Nodup →
    slotsOk items slots → matchParts items (slotPairs slots) = .ok slots := by
  intro items
  induction items with
  | nil =>
    intro slots _ h
    cases slots with
    | nil => rfl
    | cons o os => exact absurd h id
  | cons i is ih =>
    intro slots hnd h
    cases slots with
    | nil => exact absurd h id
    | cons o os =>
      obtain ⟨h1, h2⟩ := h
      have hnd' : (is.map itemRule).Nodup := (List.nodup_cons.mp hnd).2
      have hnot : itemRule i ∉ is.map itemRule := (List.nodup_cons.mp hnd).1
      have ih' := ih os hnd' h2
      cases i with
      | req r =>
        obtain ⟨x, rfl, hr⟩ := h1
        simp [slotPairs_cons, matchParts, hr, ih', Except.map]
      | opt r =>
        cases o with
        | some x =>
          have hr := h1 x rfl
          simp [slotPairs_cons, matchParts, hr, ih', Except.map]
        | none =>
          simp only [slotPairs_cons, Option.toList, List.nil_append]
          cases hsp : slotPairs os with
          | nil =>
            rw [hsp] at ih'
            simp [matchParts, ih', Except.map]
          | cons y ys =>
            have hy := slotPairs_head_rule is os h2 y (by simp [hsp])
            have hne : y.rule ≠ r := by
              intro e
              exact hnot (by simpa [itemRule, e] using hy)
            rw [hsp] at ih'
            simp [matchParts, hne, ih', Except.map]

end NitroVerif.DocParse
