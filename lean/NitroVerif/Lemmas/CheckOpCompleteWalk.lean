import NitroVerif.Lemmas.CheckOpCompleteApply
import NitroVerif.Lemmas.CheckOpSubscription
/-!
Completeness of the selection-set walk (C04): from the validator-side local facts `SelOK` at every selection the
validator lists for a root selection set, the set is a fine set (`setFine_of_selOK`: `SelOK` speaks of the validator's
lookup `fieldDef?` and says nothing of untyped scopes; `sites_scoped` shows there are none). With `Fine.of_reach` and
`fine_iff` (`CheckOpReach.lean`) that is the quiet walk; what they need to know about the validator's `reachable` is
`DocReach`.
-/
namespace NitroVerif.CheckOp
open NitroVerif.Gql NitroVerif.CheckCommon NitroVerif.Valid

/-- the local facts, as the specification's rules give them, that make one step of the walk quiet. A second predicate
    beside `LocalFact` because the rules speak in the validator's terms: its lookup `fieldDef?`, arguments checked at any
    position, applicability as "nothing pushed", the fragment of a spread left to 5.5.2.1, and nothing said of a selection whose type
    in scope is unknown (`none`; there is none in a valid document, `sites_scoped`) -/
def SelOK (S : Schema) (D : Doc) (A : ErrKind → Bool) (vars : Option (List VarDef)) : Option Name × Selection → Prop
  | (none, _) => True
  | (some t, .field _ name _ args dirs sel) =>
    ∃ fd, fieldDef? S t name = some fd ∧ Quiet A (checkDirectives S vars dirs "FIELD") ∧
      (∀ pos, Quiet A (checkArguments S vars pos args fd.args)) ∧
      ∃ ft, S.typeDef? fd.ty.unwrapped = some ft ∧ sel.isSome = (directFields ft).isSome
  | (some t, .spread name _ dirs pos) =>
    Quiet A (checkDirectives S vars dirs "FRAGMENT_SPREAD") ∧
    ∀ root f ct, S.typeDef? t = some root → fragMap D name = some f → S.typeDef? f.cond = some ct →
      (spreadApplicability S root ct pos).1 = []
  | (some t, .inline cond dirs _ pos) =>
    Quiet A (checkDirectives S vars dirs "INLINE_FRAGMENT") ∧
    match cond with
    | none => True
    | some (c, _) => ∃ ct, S.typeDef? c = some ct ∧ (directFields ct).isSome = true ∧
        ∀ root, S.typeDef? t = some root → (spreadApplicability S root ct pos).1 = []

/-- what `SelOK` says of a selection in a typed scope is its `SiteFact`; that every scope is typed follows from `SelOK`
    along the selection sets (`sites_scoped`) -/
theorem setFine_of_selOK {S : Schema} {D : Doc} {A : ErrKind → Bool} (hN : NoReservedFields S)
    {vars : Option (List VarDef)} {t : Name} {root : TypeDef} {ss : List Selection}
    (hn : S.typeDef? t = some root) (hcomp : (directFields root).isSome = true)
    (hdef : ∀ n ∈ spreadNames ss, ∃ f, fragMap D n = some f)
    (h : ∀ ps ∈ allSels (ctxsOfRoot S t ss), SelOK S D A vars ps) : SetFine S D A vars t ss := by
  obtain ⟨fields, hf⟩ := Option.isSome_iff_exists.mp hcomp
  have h' : ∀ ps ∈ sitesOf S (some t) ss, SelOK S D A vars ps := fun ps hps => h ps ((mem_sitesOf_root hN).mp hps)
  refine ⟨⟨root, hn, hcomp⟩, fun ps hps => ?_⟩
  have hsc := (sites_scoped S).2 ss (some t) ⟨t, root, fields, rfl, hn, hf⟩ (fun ps hps => ?_) ps hps
  · obtain ⟨p, s⟩ := ps
    obtain ⟨t', root', fields', rfl, hn', hf'⟩ := hsc
    have hok := h' _ hps
    refine (localFact_iff hn' hf' s).mpr ?_
    cases s with
    | field al name np args dirs sel =>
      obtain ⟨fd, hfd, hd, ha, hft⟩ := hok
      exact ⟨fd, by rw [← fieldDef?_eq_find hN hn' hf']; exact hfd, hd, ha np, hft⟩
    | spread name np dirs pos =>
      refine ⟨hok.1, ?_⟩
      obtain ⟨f, hm⟩ := hdef name (((mem_spreadNames_iff S name).2 ss (some t)).mpr ⟨_, hps, np, dirs, pos, rfl⟩)
      simp only [spreadLocal, hm]
      cases hct : S.typeDef? f.cond with
      | none => exact quiet_nil
      | some ct => simp only [hok.2 root' f ct hn' hm hct]; exact quiet_nil
    | inline cond dirs ss' pos =>
      refine ⟨hok.1, ?_⟩
      cases cond with
      | none => trivial
      | some cc =>
        obtain ⟨ct, hct, hdf, hap⟩ := hok.2
        exact ⟨ct, hct, by rw [hap root' hn']; exact quiet_nil, hdf⟩
  · obtain ⟨p, s⟩ := ps
    have hok := h' _ hps
    cases p with
    | none => unfold Opens; split <;> simp_all
    | some t' =>
      cases s with
      | spread => trivial
      | field al name np args dirs sel =>
        cases sel with
        | none => trivial
        | some x =>
          obtain ⟨fd, hfd, _, _, ft, hft, hsel⟩ := hok
          simp only [Opens, subScope_eq hN, Option.bind_some, hfd, Option.map_some]
          exact scoped_of_isSome hft hsel.symm
      | inline cond dirs ss' pos =>
        cases cond with
        | none => trivial
        | some cc =>
          obtain ⟨ct, hct, hdf, _⟩ := hok.2
          exact scoped_of_isSome hct hdf

/-- a fragment definition is fine, as the validator's rules say it: quiet directives, a composite type condition, and
    `SelOK` at every selection -/
structure FragOK (S : Schema) (D : Doc) (A : ErrKind → Bool) (vars : Option (List VarDef)) (f : FragmentDef) : Prop where
  dirs : Quiet A (checkDirectives S vars f.dirs "FRAGMENT_DEFINITION")
  cond : ∃ ct, S.typeDef? f.cond = some ct ∧ (directFields ct).isSome = true
  sels : ∀ ps ∈ allSels (ctxsOfRoot S f.cond f.sel), SelOK S D A vars ps

/-- what the walk needs to know about `reachable`: it contains the spreads of the start set, is closed under the
    spreads of reached fragments, and no fragment reaches itself (5.5.2.2) -/
structure DocReach (D : Doc) : Prop where
  start : ∀ ss n, n ∈ spreadNames ss → n ∈ Valid.reachable D ss
  step : ∀ ss m g n, m ∈ Valid.reachable D ss → fragMap D m = some g → n ∈ spreadNames g.sel → n ∈ Valid.reachable D ss
  acyclic : ∀ n f, fragMap D n = some f → n ∉ Valid.reachable D f.sel

end NitroVerif.CheckOp
