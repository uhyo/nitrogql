/-
C01/C02 refinement, model side, part 1: `mapM`/`filterMapM` in `Except` as relations, and the structure of
`deep_merge_selection_tree` (`deepMergeGo`): the result has one field per name, and the field of a name is the left fold
of `merge_fields` over the fields of that name (`mergeAll`).
-/
import NitroVerif.Lemmas.OpTypes
namespace NitroVerif.OpTypes.Ref
open NitroVerif.Gql NitroVerif.OpTypes

inductive All2 {α β : Type} (R : α → β → Prop) : List α → List β → Prop where
  | nil : All2 R [] []
  | cons {a b as bs} : R a b → All2 R as bs → All2 R (a :: as) (b :: bs)

theorem All2.left {α β : Type} {R : α → β → Prop} : ∀ {l : List α} {r : List β}, All2 R l r →
    ∀ a ∈ l, ∃ b ∈ r, R a b
  | _, _, .nil, _, h => by cases h
  | _, _, .cons hr ht, a, h => by
    rcases List.mem_cons.1 h with rfl | h
    · exact ⟨_, by simp, hr⟩
    · obtain ⟨b, hb, hab⟩ := ht.left a h
      exact ⟨b, List.mem_cons_of_mem _ hb, hab⟩

theorem All2.right {α β : Type} {R : α → β → Prop} : ∀ {l : List α} {r : List β}, All2 R l r →
    ∀ b ∈ r, ∃ a ∈ l, R a b
  | _, _, .nil, _, h => by cases h
  | _, _, .cons hr ht, b, h => by
    rcases List.mem_cons.1 h with rfl | h
    · exact ⟨_, by simp, hr⟩
    · obtain ⟨a, ha, hab⟩ := ht.right b h
      exact ⟨a, List.mem_cons_of_mem _ ha, hab⟩

theorem all2_map_right {α β γ : Type} {R : α → γ → Prop} {f : β → γ} : ∀ {l : List α} {r : List β},
    All2 (fun a b => R a (f b)) l r → All2 R l (r.map f)
  | _, _, .nil => .nil
  | _, _, .cons h t => .cons h (all2_map_right t)

theorem all2_imp {α β : Type} {R R' : α → β → Prop} : ∀ {l : List α} {r : List β},
    All2 R l r → (∀ a b, a ∈ l → R a b → R' a b) → All2 R' l r
  | _, _, .nil, _ => .nil
  | _, _, .cons h t, hi => .cons (hi _ _ (by simp) h) (all2_imp t fun a b ha => hi a b (List.mem_cons_of_mem _ ha))

theorem mapM_all2 {α β ε : Type} {f : α → Except ε β} : ∀ (l : List α) (r : List β),
    l.mapM f = .ok r → All2 (fun a b => f a = .ok b) l r
  | [], r, h => by
    simp only [List.mapM_nil, pure, Except.pure] at h; cases h; exact .nil
  | a :: l, r, h => by
    simp only [List.mapM_cons, bind, Except.bind] at h
    obtain ⟨b, hfa, h⟩ := bind_ok h
    obtain ⟨bs, hl, h⟩ := bind_ok h
    cases h
    exact .cons hfa (mapM_all2 l bs hl)

theorem filterMapM_all2 {α β ε : Type} {f : α → Except ε (Option β)} : ∀ (l : List α) (r : List β),
    l.filterMapM f = .ok r → ∃ rs, All2 (fun a b => f a = .ok b) l rs ∧ r = rs.filterMap id
  | [], r, h => by
    simp only [List.filterMapM_nil, pure, Except.pure] at h; cases h; exact ⟨[], .nil, rfl⟩
  | a :: l, r, h => by
    simp only [List.filterMapM_cons, bind, Except.bind] at h
    obtain ⟨ob, hfa, h⟩ := bind_ok h
    cases ob with
    | none =>
      simp only at h
      obtain ⟨rs, h1, h2⟩ := filterMapM_all2 l r h
      exact ⟨none :: rs, .cons hfa h1, by simp [h2]⟩
    | some b =>
      simp only at h
      obtain ⟨bs, hl, h⟩ := bind_ok h
      cases h
      obtain ⟨rs, h1, h2⟩ := filterMapM_all2 l bs hl
      exact ⟨some b :: rs, .cons hfa h1, by simp [h2]⟩

variable {mt : SelTree → SelTree → Except Panic SelTree}

def mergeAll (mt : SelTree → SelTree → Except Panic SelTree) : SField → List SField → Except Panic SField
  | g, [] => .ok g
  | g, f :: fs => mergeFieldsWith mt g f >>= fun r => mergeAll mt r fs

theorem mergeAll_append (mt : SelTree → SelTree → Except Panic SelTree) : ∀ (a b : List SField) (g : SField),
    mergeAll mt g (a ++ b) = mergeAll mt g a >>= fun m => mergeAll mt m b
  | [], _, _ => rfl
  | x :: a, b, g => by
    simp only [List.cons_append, mergeAll]
    cases mergeFieldsWith mt g x with
    | error e => rfl
    | ok y => exact mergeAll_append mt a b y

theorem mergeAll_snoc (mt : SelTree → SelTree → Except Panic SelTree) (rest : List SField) (g f m r : SField)
    (h1 : mergeAll mt g rest = .ok m) (h2 : mergeFieldsWith mt m f = .ok r) : mergeAll mt g (rest ++ [f]) = .ok r := by
  rw [mergeAll_append, h1]
  show mergeFieldsWith mt m f >>= _ = _
  rw [h2]; rfl

def _root_.NitroVerif.OpTypes.SField.isEmpty : SField → Bool
  | .empty _ => true
  | _ => false

theorem mergeFields_cases {g f r : SField}
    (h : mergeFieldsWith mt g f = .ok r) :
    (r = g ∧ f.isEmpty = true) ∨ (r = f ∧ g.isEmpty = true) ∨
    (∃ n t b n' t' b', g = .leaf n t b ∧ f = .leaf n' t' b' ∧ r = g) ∨
    (∃ n l n' r' T, g = .object n l ∧ f = .object n' r' ∧ mt l r' = .ok T ∧ r = .object n T) := by
  cases g with
  | empty n =>
    cases f with
    | empty n' => simp only [mergeFieldsWith] at h; cases h; exact Or.inl ⟨rfl, rfl⟩
    | leaf n' t b => simp only [mergeFieldsWith] at h; cases h; exact Or.inr (Or.inl ⟨rfl, rfl⟩)
    | object n' r' => simp only [mergeFieldsWith] at h; cases h; exact Or.inr (Or.inl ⟨rfl, rfl⟩)
  | leaf n t b =>
    cases f with
    | empty n' => simp only [mergeFieldsWith] at h; cases h; exact Or.inl ⟨rfl, rfl⟩
    | leaf n' t' b' =>
      simp only [mergeFieldsWith] at h; cases h
      exact Or.inr (Or.inr (Or.inl ⟨n, t, b, n', t', b', rfl, rfl, rfl⟩))
    | object n' r' => simp [mergeFieldsWith] at h
  | object n l =>
    cases f with
    | empty n' => simp only [mergeFieldsWith] at h; cases h; exact Or.inl ⟨rfl, rfl⟩
    | leaf n' t' b' => simp [mergeFieldsWith] at h
    | object n' r' =>
      simp only [mergeFieldsWith, bind, Except.bind] at h
      obtain ⟨T, hm, h⟩ := bind_ok h
      cases h
      exact Or.inr (Or.inr (Or.inr ⟨n, l, n', r', T, rfl, rfl, hm, rfl⟩))

theorem mergeFields_name {g f r : SField}
    (h : mergeFieldsWith mt g f = .ok r) (hn : g.name = f.name) : r.name = g.name := by
  rcases mergeFields_cases h with ⟨rfl, _⟩ | ⟨rfl, _⟩ | ⟨_, _, _, _, _, _, _, _, rfl⟩ | ⟨_, _, _, _, _, rfl, _, _, rfl⟩
  · rfl
  · exact hn.symm
  · rfl
  · rfl

theorem mergeFields_isEmpty {g f r : SField}
    (h : mergeFieldsWith mt g f = .ok r) : r.isEmpty = (g.isEmpty && f.isEmpty) := by
  rcases mergeFields_cases h with ⟨rfl, h1⟩ | ⟨rfl, h1⟩ | ⟨_, _, _, _, _, _, rfl, rfl, rfl⟩ | ⟨_, _, _, _, _, rfl, rfl, _, rfl⟩
  · simp [h1]
  · simp [h1]
  · rfl
  · rfl

theorem mergeInto_eq (mt : SelTree → SelTree → Except Panic SelTree) (f : SField) : ∀ (acc : List SField),
    acc.any (·.name == f.name) = true →
    ∃ pre g post, acc = pre ++ g :: post ∧ (∀ x ∈ pre, x.name ≠ f.name) ∧ g.name = f.name ∧
      mergeInto mt f acc = (mergeFieldsWith mt g f).map fun r => pre ++ r :: post
  | [], h => by simp at h
  | g :: gs, hany => by
    by_cases hg : g.name = f.name
    · refine ⟨[], g, gs, rfl, by simp, hg, ?_⟩
      simp only [mergeInto, hg, beq_self_eq_true, ↓reduceIte]
      cases mergeFieldsWith mt g f <;> rfl
    · have hg' : (g.name == f.name) = false := by simpa using hg
      simp only [List.any_cons, hg', Bool.false_or] at hany
      obtain ⟨pre, g0, post, rfl, hpre, hn, heq⟩ := mergeInto_eq mt f gs hany
      refine ⟨g :: pre, g0, post, rfl, List.forall_mem_cons.2 ⟨hg, hpre⟩, hn, ?_⟩
      simp only [mergeInto, hg', Bool.false_eq_true, ↓reduceIte, heq]
      cases mergeFieldsWith mt g0 f <;> rfl

/-- `A` is the deep merge of the fields `xs` -/
def Repr (mt : SelTree → SelTree → Except Panic SelTree) (A xs : List SField) : Prop :=
  (A.map SField.name).Nodup ∧
  (∀ m ∈ A, ∃ f0 rest, xs.filter (·.name == m.name) = f0 :: rest ∧ mergeAll mt f0 rest = .ok m) ∧
  (∀ x ∈ xs, ∃ m ∈ A, m.name = x.name)

theorem repr_new {A xs : List SField} {f : SField}
    (h : Repr mt A xs) (hnew : A.any (·.name == f.name) = false) : Repr mt (A ++ [f]) (xs ++ [f]) := by
  obtain ⟨hn, hm, hc⟩ := h
  have hnotin : ∀ m ∈ A, m.name ≠ f.name := by
    intro m hmA heq
    have : A.any (·.name == f.name) = true := List.any_eq_true.2 ⟨m, hmA, by simpa using heq⟩
    rw [hnew] at this; cases this
  refine ⟨?_, ?_, ?_⟩
  · simp only [List.map_append, List.map_cons, List.map_nil]
    rw [List.nodup_append]
    refine ⟨hn, by simp, ?_⟩
    intro a ha b hb
    simp only [List.mem_singleton] at hb; subst hb
    obtain ⟨m, hmA, rfl⟩ := List.mem_map.1 ha
    exact hnotin m hmA
  · intro m hmem
    rcases List.mem_append.1 hmem with hmA | hmf
    · obtain ⟨f0, rest, h1, h2⟩ := hm m hmA
      refine ⟨f0, rest, ?_, h2⟩
      have : (f.name == m.name) = false := by
        have := hnotin m hmA; simpa using fun h => this h.symm
      simp [List.filter_append, h1, this]
    · simp only [List.mem_singleton] at hmf; subst hmf
      have : xs.filter (·.name == m.name) = [] := by
        rw [List.filter_eq_nil_iff]
        intro x hx hxe
        obtain ⟨m', hm', hname⟩ := hc x hx
        exact hnotin m' hm' (by rw [hname]; simpa using hxe)
      exact ⟨m, [], by simp [List.filter_append, this], rfl⟩
  · intro x hx
    rcases List.mem_append.1 hx with hx | hx
    · obtain ⟨m, hmA, hname⟩ := hc x hx
      exact ⟨m, List.mem_append.2 (Or.inl hmA), hname⟩
    · simp only [List.mem_singleton] at hx; subst hx
      exact ⟨x, by simp, rfl⟩

theorem repr_merge {pre post xs : List SField} {g f r : SField}
    (h : Repr mt (pre ++ g :: post) xs) (hgf : g.name = f.name) (hmerge : mergeFieldsWith mt g f = .ok r) :
    Repr mt (pre ++ r :: post) (xs ++ [f]) := by
  obtain ⟨hn, hm, hc⟩ := h
  have hrn : r.name = g.name := mergeFields_name hmerge hgf
  have hnames : (pre ++ r :: post).map SField.name = (pre ++ g :: post).map SField.name := by
    simp [hrn]
  have hother : ∀ m, m ∈ pre ∨ m ∈ post → m.name ≠ g.name := by
    intro m hmem heq
    simp only [List.map_append, List.map_cons] at hn
    rw [List.nodup_append] at hn
    obtain ⟨_, h2, h3⟩ := hn
    rcases hmem with hmp | hmp
    · exact h3 _ (List.mem_map_of_mem hmp) g.name (by simp) heq
    · rw [List.nodup_cons] at h2
      exact h2.1 (heq ▸ List.mem_map_of_mem hmp)
  refine ⟨hnames ▸ hn, ?_, ?_⟩
  · intro m hmem
    rcases List.mem_append.1 hmem with hmp | hmp
    · obtain ⟨f0, rest, h1, h2⟩ := hm m (List.mem_append.2 (Or.inl hmp))
      refine ⟨f0, rest, ?_, h2⟩
      have : (f.name == m.name) = false := by
        have := hother m (Or.inl hmp); rw [hgf] at this; simpa using fun h => this h.symm
      simp [List.filter_append, h1, this]
    · rcases List.mem_cons.1 hmp with rfl | hmp
      · obtain ⟨f0, rest, h1, h2⟩ := hm g (by simp)
        refine ⟨f0, rest ++ [f], ?_, mergeAll_snoc mt rest f0 f g m h2 hmerge⟩
        have : (f.name == m.name) = true := by rw [hrn, hgf]; simp
        rw [hrn]
        rw [hgf] at h1
        simp [List.filter_append, h1, hgf]
      · obtain ⟨f0, rest, h1, h2⟩ := hm m (List.mem_append.2 (Or.inr (List.mem_cons_of_mem _ hmp)))
        refine ⟨f0, rest, ?_, h2⟩
        have : (f.name == m.name) = false := by
          have := hother m (Or.inr hmp); rw [hgf] at this; simpa using fun h => this h.symm
        simp [List.filter_append, h1, this]
  · intro x hx
    have hmemname : ∀ nm, (∃ m ∈ pre ++ g :: post, m.name = nm) → ∃ m ∈ pre ++ r :: post, m.name = nm := by
      rintro nm ⟨m, hmem, rfl⟩
      rcases List.mem_append.1 hmem with hmp | hmp
      · exact ⟨m, List.mem_append.2 (Or.inl hmp), rfl⟩
      · rcases List.mem_cons.1 hmp with rfl | hmp
        · exact ⟨r, by simp, hrn⟩
        · exact ⟨m, List.mem_append.2 (Or.inr (List.mem_cons_of_mem _ hmp)), rfl⟩
    rcases List.mem_append.1 hx with hx | hx
    · exact hmemname _ (hc x hx)
    · simp only [List.mem_singleton] at hx; subst hx
      exact ⟨r, by simp, by rw [hrn, hgf]⟩

theorem deepMergeGo_repr (mt : SelTree → SelTree → Except Panic SelTree) : ∀ (fs acc xs M : List SField),
    Repr mt acc xs → deepMergeGo mt fs acc = .ok M → Repr mt M (xs ++ fs)
  | [], acc, xs, M, h, hd => by
    simp only [deepMergeGo] at hd; cases hd; simpa using h
  | f :: fs, acc, xs, M, h, hd => by
    simp only [deepMergeGo] at hd
    by_cases hany : acc.any (·.name == f.name) = true
    · simp only [hany, ↓reduceIte, bind, Except.bind] at hd
      obtain ⟨acc', hmi, hd⟩ := bind_ok hd
      obtain ⟨pre, g, post, rfl, _, h2, heq⟩ := mergeInto_eq mt f acc hany
      rw [heq] at hmi
      cases h3 : mergeFieldsWith mt g f with
      | error e => rw [h3] at hmi; cases hmi
      | ok r =>
        rw [h3] at hmi; cases hmi
        have := deepMergeGo_repr mt fs _ (xs ++ [f]) M (repr_merge h h2 h3) hd
        simpa using this
    · have hany' : acc.any (·.name == f.name) = false := by simpa using hany
      simp only [hany', Bool.false_eq_true, ↓reduceIte] at hd
      have := deepMergeGo_repr mt fs _ (xs ++ [f]) M (repr_new h hany') hd
      simpa using this

theorem deepMerge_repr {fs M : List SField}
    (h : deepMergeWith mt fs = .ok M) : Repr mt M fs := by
  have := deepMergeGo_repr mt fs [] [] M ⟨by simp, by simp, by simp⟩ h
  simpa using this

end NitroVerif.OpTypes.Ref
