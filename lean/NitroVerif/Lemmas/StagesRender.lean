/-
C08 (stages after parsing), part: rendering a diagnostic.  Exactly when `print_positioned_error` panics.

`message_for_line` is total (`messageForLine_isSome`, Lemmas/Cli.lean: `skip_chars` splits at a character boundary inside
the line for EVERY source text and every line / column, also outside the text).  Hence the ONLY panic of
`print_positioned_error` is the index `files[position.file]` (main position or a note, when not built-in) outside the
file store; `C18_print_total` (no panic when the indices are inside the store) is the one direction of this.
-/
import NitroVerif.Lemmas.Cli
namespace NitroVerif.Cli

theorem lineAt (files : List (List Char × List Char)) (p : Pos) (m : List Char) (add : Bool) :
    (p.file < files.length ∧ ∃ path src t, files[p.file]? = some (path, src) ∧
      messageForLine path src p m add = some t) ∨ files.length ≤ p.file := by
  by_cases hf : p.file < files.length
  · obtain ⟨t, ht⟩ := Option.isSome_iff_exists.mp (messageForLine_isSome files[p.file].1 files[p.file].2 p m add)
    exact .inl ⟨hf, _, _, t, List.getElem?_eq_getElem hf, ht⟩
  · exact .inr (by omega)

theorem renderExtras_none_iff (files : List (List Char × List Char)) : ∀ (ex : List (Pos × List Char)),
    renderExtras files ex = none ↔ ∃ q ∈ ex, q.1.builtin = false ∧ files.length ≤ q.1.file := by
  intro ex
  induction ex with
  | nil => simp [renderExtras]
  | cons q rest ih =>
    obtain ⟨p, m⟩ := q
    simp only [renderExtras, List.mem_cons, exists_eq_or_imp, ← ih]
    cases hb : p.builtin with
    | true => simp
    | false =>
      rcases lineAt files p m true with ⟨hf, path, src, t, hg, hm⟩ | hf
      · rw [hg]; cases renderExtras files rest <;> simp [hm, Nat.not_le.mpr hf]
      · simp [hf]

theorem printPositioned_none_iff (files : List (List Char × List Char)) (msg : List Char) (pos : Option Pos)
    (extras : List (Pos × List Char)) :
    printPositioned files msg pos extras = none ↔
      ∃ p, pos = some p ∧ p.builtin = false ∧
        (files.length ≤ p.file ∨ ∃ q ∈ extras, q.1.builtin = false ∧ files.length ≤ q.1.file) := by
  unfold printPositioned
  cases pos with
  | none => simp
  | some p =>
    simp only [Option.some.injEq, exists_eq_left', ← renderExtras_none_iff]
    cases hb : p.builtin with
    | true => simp
    | false =>
      rcases lineAt files p msg false with ⟨hf, path, src, t, hg, hm⟩ | hf
      · rw [hg]; cases renderExtras files extras <;> simp [hm, Nat.not_le.mpr hf]
      · simp [hf]

end NitroVerif.Cli
