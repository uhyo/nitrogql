/-
Object and interface type definitions:
`ObjectTypeDefinition = { Description? ~ KEYWORD_type ~ Name ~ ImplementsInterfaces? ~ Directives? ~ FieldsDefinition |
  Description? ~ KEYWORD_type ~ Name ~ ImplementsInterfaces? ~ Directives ~ !("{") }`; `InterfaceTypeDefinition` likewise,
with `KEYWORD_interface` and with `Directives?` in the second alternative too. With the `implements` list counted to the
head, the rules have the shape of `kindBodyK`; an object type without fields has a directive, an interface need not.
-/
import NitroVerif.Lemmas.ParseDocTsDefInputUnion
namespace NitroVerif.DocParse
open NitroVerif.Peg NitroVerif.Gen NitroVerif.Gen.Parts NitroVerif.Build NitroVerif.TypeParse NitroVerif.StringParse
open NitroVerif.Gql NitroVerif.ValueParse NitroVerif.Spec.Lex NitroVerif.ParseText

variable {inp : List Char}

/-- an object (`kw = type`) or interface type definition -/
def rObjDef (τ : Trivia) (kw : List Char) (sep : Bool) (p : Nat) (t : TypeDef) : List Char :=
  let tH := rDefHead τ (!t.implements.isEmpty || (sep && t.fields.isEmpty && t.dirs.isEmpty)) p t.desc kw t.name
  let tI := rOptImpl τ (sep && t.fields.isEmpty && t.dirs.isEmpty) (p + tH.length) t.implements
  let tD := rDirs τ (sep && t.fields.isEmpty) (p + tH.length + tI.length) t.dirs
  tH ++ (tI ++ (tD ++ rOptFields τ sep (p + tH.length + tI.length + tD.length) t.fields))

def wpObjDef (τ : Trivia) (inp : List Char) (k : TypeKind) (kw : List Char) (sep : Bool) (p : Nat) (t : TypeDef) : TypeDef :=
  let tH := rDefHead τ (!t.implements.isEmpty || (sep && t.fields.isEmpty && t.dirs.isEmpty)) p t.desc kw t.name
  let tI := rOptImpl τ (sep && t.fields.isEmpty && t.dirs.isEmpty) (p + tH.length) t.implements
  let tD := rDirs τ (sep && t.fields.isEmpty) (p + tH.length + tI.length) t.dirs
  { kind := k, desc := t.desc, name := t.name, namePos := posAt inp (dhOffN τ p t.desc kw),
    implements := wpNames τ inp '&' (sep && t.fields.isEmpty && t.dirs.isEmpty)
      (p + tH.length + (tk τ true (p + tH.length) kwImplements).length) t.implements,
    dirs := wpDirs τ inp (sep && t.fields.isEmpty) (p + tH.length + tI.length) t.dirs,
    fields := wpFieldDefs τ inp (p + tH.length + tI.length + tD.length +
      (tk τ false (p + tH.length + tI.length + tD.length) ['{']).length) t.fields,
    pos := posAt inp (dhOffK τ p t.desc) }

/-- `tI` is a text for the `implements` list `ns` at `q` that `ImplementsInterfaces?` reads as `wI`: nothing for the
    empty list, and otherwise a text beginning with `i` on which the rule runs whatever follows it (except `&`) -/
structure ImplText (inp : List Char) (ns : List (Name × Pos)) (s : Bool) (q : Nat) (tI : List Char)
    (wI : List (Name × Pos)) : Prop where
  empty : ns = [] → tI = [] ∧ wI = []
  head : ns ≠ [] → Hd (· = 'i') tI
  run : ns ≠ [] → ∀ {bad : Char → Prop}, bad '&' → HasAt inp q tI → Nxt inp bad s (q + tI.length) →
    ∃ o, ReadsOpt inp 49 R.ImplementsInterfaces q tI (fun _ => optImplements (Ctx.spec inp)) wI o

theorem optImplP {ns : List (Name × Pos)} {s : Bool} {q : Nat} {tI : List Char} {wI : List (Name × Pos)}
    (hT : ImplText inp ns s q tI wI) {bad : Char → Prop} (hb : bad '&') (h : HasAt inp q tI)
    (hn : Nxt inp bad s (q + tI.length)) (hm : ns = [] → matchStr kwImplements (inp.drop q) = none) :
    ∃ o, ReadsOpt inp 49 R.ImplementsInterfaces q tI (fun _ => optImplements (Ctx.spec inp)) wI o := by
  by_cases h0 : ns = []
  · obtain ⟨rfl, rfl⟩ := hT.empty h0
    exact ⟨_, .none (fails_rule look_ImplementsInterfaces (fails_seq_1
      (kw_fails_str (la := .none) look_KEYWORD_implements (hm h0)))) hn.tok (by decide) fun _ => rfl⟩
  · exact hT.run h0 hb h hn

/-- `ImplementsInterfaces? Directives?` of the type `t` on the texts `tI`, `tD` at `q`, in front of the optional fields -/
structure ObjMid (τ : Trivia) (inp : List Char) (t : TypeDef) (sep : Bool) (q : Nat) (tI tD : List Char)
    (wI : List (Name × Pos)) (oI oD : Option Pair) : Prop where
  impl : ReadsOpt inp 49 R.ImplementsInterfaces q tI (fun _ => optImplements (Ctx.spec inp)) wI oI
  dirs : ReadsOpt inp 20 R.Directives (q + tI.length) tD (optDirs (Ctx.spec inp))
    (wpDirs τ inp (sep && t.fields.isEmpty) (q + tI.length) t.dirs) oD

/-- `ImplementsInterfaces? Directives?` at `q`: what must follow the head at `q`, and the two parts -/
theorem objMidG (τ : Trivia) (hτ : ∀ q, Ws (τ q)) (t : TypeDef) (hdirs : WFDirs t.dirs) {sep : Bool} {q : Nat}
    (tI : List Char) (wI : List (Name × Pos)) :
    let sI := sep && t.fields.isEmpty && t.dirs.isEmpty
    let tD := rDirs τ (sep && t.fields.isEmpty) (q + tI.length) t.dirs
    let tF := rOptFields τ sep (q + tI.length + tD.length) t.fields
    ImplText inp t.implements sI q tI wI →
    HasAt inp q (tI ++ (tD ++ tF)) → Nxt inp tdBad sep (q + tI.length + tD.length + tF.length) →
    (t.implements = [] → t.dirs = [] → t.fields = [] →
      matchStr kwImplements (inp.drop (q + tI.length + tD.length + tF.length)) = none) →
    Nxt inp (fun _ => False) (!t.implements.isEmpty || sI) q ∧
    ∃ oI oD : Option Pair, ObjMid τ inp t sep q tI tD wI oI oD := by
  intro sI tD tF hT h hn hni
  have g2 := h.right.left
  have g3 := h.right.right
  -- what follows the directives, the interfaces
  have n3 := hn.before g3 (s := sep && t.fields.isEmpty) (hd_rOptFields τ sep _ t.fields) (by decide)
    (fun ht => sep_of_isEmpty (rOptFields_eq_nil ht))
  obtain ⟨oD, D, n2⟩ := optDirsT τ hτ t.dirs hdirs (by decide) (by decide) g2 n3
  have e0 : t.implements = [] → q + tI.length = q := fun hi => by rw [(hT.empty hi).1]; rfl
  have hm : t.implements = [] → matchStr kwImplements (inp.drop q) = none := fun hi =>
    e0 hi ▸ matchStr_none_before g2 (hd_rDirs τ _ _ t.dirs) (by decide) fun hD =>
      matchStr_none_before g3 (hd_rOptFields τ sep _ t.fields) (by decide) fun hF =>
        hni hi (rDirs_eq_nil hD) (rOptFields_eq_nil hF)
  obtain ⟨oI, I⟩ := optImplP hT (by decide) h.left n2 hm
  have n1 : Nxt inp (fun _ => False) (!t.implements.isEmpty || sI) q := by
    by_cases hi : t.implements = []
    · have hs : (!t.implements.isEmpty || sI) = sI := by rw [hi]; rfl
      rw [hs]
      exact (n2.cast (e0 hi)).mono (fun _ => False.elim)
    · have hs : (!t.implements.isEmpty || sI) = true := by
        cases hh : t.implements with
        | nil => exact absurd hh hi
        | cons n ns => rfl
      rw [hs]
      exact Nxt.of_hd_sep h.left (hT.head hi) (by rintro c rfl; exact ⟨by decide, id⟩)
  exact ⟨n1, oI, oD, I, D⟩

theorem implText_rOptImpl (τ : Trivia) (hτ : ∀ q, Ws (τ q)) (ns : List (Name × Pos)) (hv : ∀ x ∈ ns, validName x.1.toList)
    (s : Bool) (q : Nat) :
    ImplText inp ns s q (rOptImpl τ s q ns) (wpNames τ inp '&' s (q + (tk τ true q kwImplements).length) ns) :=
  ⟨fun h0 => by rw [h0]; exact ⟨rfl, rfl⟩,
    fun h0 => (hd_rOptImpl τ s q ns).resolve_left fun e => h0 (rOptImpl_eq_nil e),
    fun h0 _ hb h hn => optImplT τ hτ ns hv h0 hb h hn⟩

theorem buildTypeDefinition_objKind {ctx : Ctx} {fuel : Nat} {k : TypeKind} (hk : k = .object ∨ k = .interface)
    (p e p' e' : Nat) {cs : List Pair} {desc impl dirs fields : Option Pair} {kw name : Pair} {d : Option String}
    {is : List (Name × Pos)} {ds : List Directive} {fs : List FieldDef}
    (hm : matchParts [.opt R.Description, .req (kindKwRule k), .req R.Name, .opt R.ImplementsInterfaces, .opt R.Directives,
      .opt R.FieldsDefinition] cs = .ok [desc, some kw, some name, impl, dirs, fields])
    (h1 : optDesc ctx desc = .ok d) (h2 : optImplements ctx impl = .ok is) (h3 : optDirs ctx fuel dirs = .ok ds)
    (h4 : optFields ctx fuel fields = .ok fs) :
    buildTypeDefinition ctx fuel (.mk R.TypeDefinition p e [.mk (kindDefRule k) p' e' cs]) =
      .ok { kind := k, desc := d, name := asString ctx name, namePos := toPos ctx name, implements := is, dirs := ds,
            fields := fs, pos := toPos ctx kw } := by
  rcases hk with rfl | rfl <;> simp only [kindKwRule] at hm <;>
    simp [buildTypeDefinition, onlyChildOf, onlyChild, Pair.children, OC_TypeDefinition, Pair.rule, kindDefRule,
      P_ObjectTypeDefinition, P_InterfaceTypeDefinition, hm, h1, h2, h3, h4, bind, Except.bind, R.ScalarTypeDefinition,
      R.ObjectTypeDefinition, R.InterfaceTypeDefinition]

/-- object and interface type definitions whose `implements` part is any `ImplText`. An object type without fields needs a
    directive: its second alternative reads `Directives` itself. Where nothing at all follows the name, the word
    `implements` must not follow the definition. -/
theorem objKindDefG (τ : Trivia) (hτ : ∀ q, Ws (τ q)) {k : TypeKind} (hk : k = .object ∨ k = .interface) (t : TypeDef)
    (hname : validName t.name.toList) (hdirs : WFDirs t.dirs) (hfields : ∀ f ∈ t.fields, WFFieldDef f) {sep : Bool}
    {p : Nat} (tI : List Char) (wI : List (Name × Pos)) :
    let sI := sep && t.fields.isEmpty && t.dirs.isEmpty
    let tH := rDefHead τ (!t.implements.isEmpty || sI) p t.desc (kindKw k) t.name
    let tD := rDirs τ (sep && t.fields.isEmpty) (p + tH.length + tI.length) t.dirs
    let tF := rOptFields τ sep (p + tH.length + tI.length + tD.length) t.fields
    ImplText inp t.implements sI (p + tH.length) tI wI →
    HasAt inp p (tH ++ (tI ++ (tD ++ tF))) → Nxt inp tdBad sep (p + (tH ++ (tI ++ (tD ++ tF))).length) →
    (k = .object → t.dirs ≠ [] ∨ t.fields ≠ []) →
    (t.implements = [] → t.dirs = [] → t.fields = [] →
      matchStr kwImplements (inp.drop (p + (tH ++ (tI ++ (tD ++ tF))).length)) = none) →
    KindDefOk inp (kindDefRule k) p (tH ++ (tI ++ (tD ++ tF)))
      { kind := k, desc := t.desc, name := t.name, namePos := posAt inp (dhOffN τ p t.desc (kindKw k)),
        implements := wI, dirs := wpDirs τ inp (sep && t.fields.isEmpty) (p + tH.length + tI.length) t.dirs,
        fields := wpFieldDefs τ inp (p + tH.length + tI.length + tD.length +
          (tk τ false (p + tH.length + tI.length + tD.length) ['{']).length) t.fields,
        pos := posAt inp (dhOffK τ p t.desc) } := by
  intro sI tH tD tF hT h hn hne hni
  have n3 := hn.app.app.app
  obtain ⟨n1, oI, oD, M⟩ := objMidG τ hτ t hdirs tI wI hT h.right n3
    (fun a b c => by rw [← drop_app, ← drop_app, ← drop_app]; exact hni a b c)
  obtain ⟨oS, prK, prN, H⟩ := defHeadF hτ (look_kindKw k) (kindKw_valid k) t.desc t.name hname h.left n1
  obtain ⟨oF, Fd, _⟩ := optFieldsT τ hτ t.fields hfields (by decide) h.right.right.right n3
  -- `ImplementsInterfaces?` belongs to the front
  have F := H.front.seq M.impl.part
  obtain ⟨e, rR⟩ : ∃ e, Part inp 61 (.call (kindDefRule k)) p ((tH ++ tI) ++ (tD ++ tF)) [.mk (kindDefRule k) p e
      (slotPairs [oS, some prK, some prN, oI, oD, oF])] := by
    rcases hk with rfl | rfl
    · exact kindBodyK F (rule := R.ObjectTypeDefinition) rfl (·.mono (Nat.le_succ _)) M.dirs (fun h0 => by
        obtain ⟨prD, rfl, rP⟩ := M.dirs.some_of_ne fun e =>
          (hne rfl).elim (absurd (rDirs_eq_nil e)) (absurd (rOptFields_eq_nil (Fd.absent h0).1))
        exact rP.mono (by decide)) (Fd.mono (by decide)) (bad := tdBad) (by decide) n3
    · exact kindBodyK F (rule := R.InterfaceTypeDefinition) rfl (·.mono (Nat.le_succ _)) M.dirs (fun _ => M.dirs.part)
        (Fd.mono (by decide)) (bad := tdBad) (by decide) n3
  rw [List.append_assoc] at rR
  refine ⟨_, fun e' => ⟨rR.mono (by decide), rfl, rfl, fun fuel hf => ?_⟩⟩
  refine (buildTypeDefinition_objKind hk _ _ _ _ (matchParts_slots _ _ (by rcases hk with rfl | rfl <;> decide)
    ⟨H.descRule, ⟨_, rfl, H.kwRule⟩, ⟨_, rfl, H.nameRule⟩, M.impl.rule, M.dirs.rule, Fd.rule, trivial⟩) H.descB
    (M.impl.build _ (Nat.le_refl _)) (M.dirs.build fuel (fuel_left (fuel_right (fuel_right hf))))
    (Fd.build fuel (fuel_right (fuel_right (fuel_right hf))))).trans ?_
  rw [H.name, H.namePos, H.kwPos]

theorem objDefT (τ : Trivia) (hτ : ∀ q, Ws (τ q)) (t : TypeDef) (hname : validName t.name.toList)
    (himpl : ∀ x ∈ t.implements, validName x.1.toList) (hdirs : WFDirs t.dirs) (hfields : ∀ f ∈ t.fields, WFFieldDef f)
    (hne : t.dirs ≠ [] ∨ t.fields ≠ []) {sep : Bool} {p : Nat} (h : HasAt inp p (rObjDef τ (kindKw .object) sep p t))
    (hn : Nxt inp tdBad sep (p + (rObjDef τ (kindKw .object) sep p t).length)) :
    KindDefOk inp R.ObjectTypeDefinition p (rObjDef τ (kindKw .object) sep p t)
      (wpObjDef τ inp .object (kindKw .object) sep p t) :=
  objKindDefG τ hτ (Or.inl rfl) t hname hdirs hfields _ _ (implText_rOptImpl τ hτ _ himpl _ _) h hn (fun _ => hne)
    (fun _ b c => hne.elim (absurd b) (absurd c))

/-- not the bare `interface I`: that is `tsItemTF` (Lemmas/ParseDocTsBareIface.lean), where the word `implements` must not follow -/
theorem ifaceDefT (τ : Trivia) (hτ : ∀ q, Ws (τ q)) (t : TypeDef) (hname : validName t.name.toList)
    (himpl : ∀ x ∈ t.implements, validName x.1.toList) (hdirs : WFDirs t.dirs) (hfields : ∀ f ∈ t.fields, WFFieldDef f)
    (hne : t.implements ≠ [] ∨ t.dirs ≠ [] ∨ t.fields ≠ []) {sep : Bool} {p : Nat} (h : HasAt inp p (rObjDef τ (kindKw .interface) sep p t))
    (hn : Nxt inp tdBad sep (p + (rObjDef τ (kindKw .interface) sep p t).length)) :
    KindDefOk inp R.InterfaceTypeDefinition p (rObjDef τ (kindKw .interface) sep p t)
      (wpObjDef τ inp .interface (kindKw .interface) sep p t) :=
  objKindDefG τ hτ (Or.inr rfl) t hname hdirs hfields _ _ (implText_rOptImpl τ hτ _ himpl _ _) h hn (fun h => by cases h)
    (fun a b c => (hne.elim (absurd a) fun h => h.elim (absurd b) (absurd c)))

end NitroVerif.DocParse
