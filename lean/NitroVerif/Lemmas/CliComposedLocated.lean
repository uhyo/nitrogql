/-
C18 composed (helper lemmas): every diagnostic of the composed model lies in a file of the kind it announces — the
hypothesis `WF` of `C18_located` (a stage reports positions of the documents it was given) is PROVED for the stage
models, from what the parsers do (`ParserStamps`: every position of a parsed document carries the file index set
before the parse).
-/
import NitroVerif.Lemmas.CliComposedImports
import NitroVerif.Lemmas.CliComposedPosExt
import NitroVerif.Lemmas.CliComposedPosDefs
namespace NitroVerif.CliComposed
open NitroVerif NitroVerif.Gql NitroVerif.Cli

section
variable {Text κ : Type} [DecidableEq κ]

/-- what the real parser does with positions: `Pos::new` stamps every position of the document with the file index
    set by `set_current_file_of_pos` before the parse, and never marks it built-in; the path literal of an `#import`
    line lies in the file of the line -/
structure ParserStamps (E : Env Text κ) : Prop where
  ts : ∀ i t T, E.parseTs i t = .ok T → ∀ p ∈ TsDoc.positions T, p.file = i ∧ p.builtin = false
  op : ∀ i t D, E.parseOp i t = .ok D → ∀ p ∈ Doc.positions D, p.file = i ∧ p.builtin = false
  path : ∀ i : ImportDef, (E.pathPos i).file = i.pos.file ∧ (E.pathPos i).builtin = i.pos.builtin

/-- the part of C03's `SchemaValid` the operation checker relies on when it reports at positions of the SCHEMA: the
    types of arguments and input fields are defined, union members are object types -/
def schemaRefsOkB (S : Schema) : Bool :=
  S.typeDefs.all (fun t =>
    t.inputs.all (fun a => (S.typeDef? a.ty.unwrapped).isSome) &&
    t.fields.all (fun f => f.args.all fun a => (S.typeDef? a.ty.unwrapped).isSome) &&
    t.members.all (fun m => S.kindOf? m.1 == some .object)) &&
  S.directiveDefs.all (fun d => d.args.all fun a => (S.typeDef? a.ty.unwrapped).isSome)

theorem tOk_of_isSome {S : Schema} {Q : Gql.Pos → Prop} {t : GType} (h : (S.typeDef? t.unwrapped).isSome = true) :
    TOk S Q t := by
  left
  rw [CheckCommon.baseNamed_fst]
  cases hq : S.typeDef? t.unwrapped with
  | none => rw [hq] at h; cases h
  | some td => exact ⟨td, rfl⟩

theorem schemaQ_of_refsOk {S : Schema} (h : schemaRefsOkB S = true) (Q : Gql.Pos → Prop) : SchemaQ S Q := by
  unfold schemaRefsOkB at h
  simp only [Bool.and_eq_true, List.all_eq_true] at h
  obtain ⟨ht, hd⟩ := h
  refine ⟨?_, ?_, ?_, ?_⟩
  · intro n td hn _ f hf
    exact tOk_of_isSome ((ht td (List.mem_of_find?_eq_some hn)).1.1 f hf)
  · intro n td hn _ fd hfd a ha
    exact tOk_of_isSome ((ht td (List.mem_of_find?_eq_some hn)).1.2 fd hfd a ha)
  · intro n dd hn a ha
    exact tOk_of_isSome (hd dd (List.mem_of_find?_eq_some hn) a ha)
  · intro n td hn _ m hm
    exact Or.inl (CheckOp.kindOf_beq_some ((ht td (List.mem_of_find?_eq_some hn)).2 m hm))

theorem refsOk_of_valid {S : Schema} (h : Valid.SchemaValid S) : schemaRefsOkB S = true := by
  have hf := CheckOp.schemaFacts_of_valid h
  unfold schemaRefsOkB
  simp only [Bool.and_eq_true, List.all_eq_true]
  have hin : ∀ {t : GType}, CheckOp.InputTy S t → (S.typeDef? t.unwrapped).isSome = true := by
    rintro t ⟨td, htd, _⟩; simp [htd]
  refine ⟨fun t ht => ⟨⟨fun a ha => hin (hf.inputTy t ht a ha), fun f hfm a ha => hin ((hf.fieldTy t ht f hfm).2 a ha)⟩, ?_⟩,
    fun d hd a ha => hin (hf.dirArgs d hd a ha)⟩
  intro m hm
  obtain ⟨o, ho, hk⟩ := hf.members t ht m hm
  simp only [Schema.kindOf?, ho, Option.map_some, hk]
  rfl

/-- global file indices put the schema files first: a position in one of them (or built-in) -/
def SchemaPos (P : Project Text κ) (p : Gql.Pos) : Prop := p.builtin = true ∨ p.file < P.schemaTexts.length

/-- … and a position in one of the operation files (or built-in) -/
def OpPos (P : Project Text κ) (p : Gql.Pos) : Prop :=
  p.builtin = true ∨ (P.schemaTexts.length ≤ p.file ∧ p.file < P.schemaTexts.length + P.ops.length)

theorem builtins_positions : ∀ p ∈ TsDoc.positions CliSchema.builtins, p.builtin = true := by decide

theorem schemaFiles_length (E : Env Text κ) (P : Project Text κ) :
    (stagesOf E P).schemaFiles.length = P.schemaTexts.length := by
  simp [stagesOf, schemaParses, length_mapFrom]

theorem opFiles_length (E : Env Text κ) (P : Project Text κ) : (stagesOf E P).opFiles.length = P.ops.length := by
  simp [stagesOf, views, length_mapFrom]

section general
variable {E : Env Text κ} {P : Project Text κ} {QS QO : Gql.Pos → Prop}
  (hmerged : PQ QS (TsDoc.positions (mergedSchema E P)))
  (hops : ∀ v ∈ views E P, PQ QO (Doc.positions v.doc))
  (hpath : ∀ v ∈ views E P, ∀ i ∈ importsOf v.doc, QO (E.pathPos i))

include hmerged in
theorem resolvedSchema_QS : PQ QS (TsDoc.positions (resolvedSchema E P)) := by
  unfold resolvedSchema
  cases hq : ExtResolve.resolve (mergedSchema E P) with
  | ok T => exact Ext.resolve_PQ hmerged hq
  | error e => exact pq_nil

include hops in
theorem resolvedDoc_QO {v : OpView Text κ} (hv : v ∈ views E P) : PQ QO (Doc.positions (resolvedDoc E P v)) := by
  unfold Doc.positions
  rw [pq_flatMap]
  intro x hx
  obtain ⟨w, hw, hxw⟩ := mem_resolvedDoc hv hx
  exact (pq_flatMap.mp (hops w hw)) x (mem_defsOf hxw).1

include hmerged hops hpath in
/-- one statement for two predicates: `QS` for the schema's positions, `QO` for those of the operation files -/
theorem checkImpl_QQ
    (hS : CheckTs.checkSchema (resolvedSchema E P) = [] → SchemaQ ⟨resolvedSchema E P⟩ QO) :
    ∀ e ∈ checkImpl (stagesOf E P), ∃ p : Gql.Pos, e.diag.pos = toCli p ∧
      ((e.kind = .schema ∧ QS p) ∨ (e.kind = .operation ∧ QO p)) := by
  intro e he
  rcases mem_checkImpl_stagesOf he with ⟨x, hx, rfl⟩ | ⟨x, hx, rfl⟩ | ⟨v, hv, x, hx, rfl⟩ | ⟨v, hv, x, hx, rfl⟩ |
      ⟨hts, v, hv, x, hx, rfl⟩
  · exact ⟨_, rfl, Or.inl ⟨rfl, (Ext.resolve_err_PQ hmerged hx).1⟩⟩
  · exact ⟨x.2, rfl, Or.inl ⟨rfl, Ts.checkSchema_Q _ (resolvedSchema_QS hmerged) x hx⟩⟩
  · exact ⟨_, rfl, Or.inr ⟨rfl, hops v hv _ (extErrPos_mem hx)⟩⟩
  · obtain ⟨w, hw, i, hi, hpos⟩ := impErr_place hv hx
    refine ⟨_, rfl, Or.inr ⟨rfl, ?_⟩⟩
    rcases hpos with hpos | hpos
    · rw [hpos]; exact hpath w hw i hi
    · exact hops w hw _ (import_positions_sub hi _ hpos)
  · exact ⟨x.2, rfl, Or.inr ⟨rfl, checkOp_Q (hS hts) (resolvedDoc_QO hops hv) x hx⟩⟩

end general

variable {E : Env Text κ} {P : Project Text κ} (hp : ParserStamps E)
include hp

theorem mergedSchema_pos : PQ (SchemaPos P) (TsDoc.positions (mergedSchema E P)) := by
  unfold mergedSchema TsDoc.positions
  rw [List.flatMap_append]
  refine pq_append.mpr ⟨?_, fun p hp' => Or.inl (builtins_positions p hp')⟩
  rw [List.flatMap_assoc]
  rw [pq_flatMap]
  intro r hr
  obtain ⟨i, t, hit, rfl⟩ := (mem_schemaParses E P r).mp hr
  have hlt : i < P.schemaTexts.length := by
    rcases Nat.lt_or_ge i P.schemaTexts.length with h | h
    · exact h
    · rw [List.getElem?_eq_none h] at hit; cases hit
  cases hq : E.parseTs i t with
  | error e => simp [docOf]; exact pq_nil
  | ok T =>
    simp only [docOf]
    intro p hp'
    have := hp.ts i t T hq p hp'
    exact Or.inr (by rw [this.1]; exact hlt)

theorem view_doc_pos {v : OpView Text κ} (hv : v ∈ views E P) : PQ (OpPos P) (Doc.positions v.doc) := by
  obtain ⟨j, f, hjf, rfl⟩ := (mem_views E P v).mp hv
  have hlt : j < P.ops.length := by
    rcases Nat.lt_or_ge j P.ops.length with h | h
    · exact h
    · rw [List.getElem?_eq_none h] at hjf; cases hjf
  simp only [OpView.doc]
  cases hq : E.parseOp (P.schemaTexts.length + j) f.text with
  | error e => simp [docOf, Doc.positions]; exact pq_nil
  | ok D =>
    simp only [docOf]
    intro p hp'
    have := hp.op _ _ D hq p hp'
    exact Or.inr (by rw [this.1]; omega)

theorem pathPos_pos {v : OpView Text κ} (hv : v ∈ views E P) : ∀ i ∈ importsOf v.doc, OpPos P (E.pathPos i) := by
  intro i hi
  have hip := view_doc_pos hp hv _ (import_positions_sub hi i.pos (by simp [ImportDef.positions]))
  have hpp := hp.path i
  rcases hip with hb | hr
  · left; rw [hpp.2]; exact hb
  · right; rw [hpp.1]; exact hr

theorem checkImpl_inRange
    (hS : CheckTs.checkSchema (resolvedSchema E P) = [] → SchemaQ ⟨resolvedSchema E P⟩ (OpPos P)) :
    ∀ e ∈ checkImpl (stagesOf E P), InRange (stagesOf E P) e := by
  intro e he
  obtain ⟨p, hpe, hq⟩ := checkImpl_QQ (mergedSchema_pos hp) (fun v hv => view_doc_pos hp hv)
    (fun v hv => pathPos_pos hp hv) hS e he
  rcases hq with ⟨hk, hb | hlt⟩ | ⟨hk, hb | ⟨hge, hlt⟩⟩
  · left; rw [hpe]; exact hb
  · right; left; refine ⟨hk, ?_⟩; rw [hpe, schemaFiles_length]; exact hlt
  · left; rw [hpe]; exact hb
  · right; right; refine ⟨hk, ?_, ?_⟩
    · rw [hpe, schemaFiles_length]; exact hge
    · rw [hpe, schemaFiles_length, opFiles_length]; exact hlt

theorem view_doc_file {v : OpView Text κ} (hv : v ∈ views E P) :
    ∀ p ∈ Doc.positions v.doc, p.file = v.idx ∧ p.builtin = false := by
  obtain ⟨j, f, hjf, rfl⟩ := (mem_views E P v).mp hv
  simp only [OpView.doc]
  cases hq : E.parseOp (P.schemaTexts.length + j) f.text with
  | error e => intro p hp'; simp [docOf, Doc.positions] at hp'
  | ok D =>
    simp only [docOf]
    intro p hp'
    exact hp.op _ _ D hq p hp'

theorem checkImpl_extras : ∀ e ∈ checkImpl (stagesOf E P), ∀ q ∈ e.diag.extra,
    q.builtin = true ∨ q.file < P.schemaTexts.length := by
  intro e he q hq
  rcases mem_checkImpl_stagesOf he with ⟨x, hx, rfl⟩ | ⟨x, hx, rfl⟩ | ⟨v, hv, x, hx, rfl⟩ | ⟨v, hv, x, hx, rfl⟩ |
      ⟨hts, v, hv, x, hx, rfl⟩
  · -- the second position of an extension-resolution error
    obtain ⟨p, hpm, rfl⟩ := List.mem_map.mp hq
    exact (Ext.resolve_err_PQ (mergedSchema_pos hp) hx).2 p hpm
  · cases hq
  · cases hq
  · -- the built-in hint of `FileNotFound`
    cases x with
    | fileNotFound => cases List.mem_singleton.mp hq; exact Or.inl rfl
    | fragmentNotFound => cases hq
  · cases hq

end
end NitroVerif.CliComposed
