/-
The builder half of the `Type` round trip (helper lemmas for Props/C07): `build_type` on the pair tree that the parser
produces for the rendering of `t` returns `t`, every position being the line/column of the corresponding token.
-/
import NitroVerif.Lemmas.TypeRoundTrip
import NitroVerif.Lemmas.Build
namespace NitroVerif.TypeParse
open NitroVerif.Peg NitroVerif.Gen NitroVerif.Gen.Parts NitroVerif.Build NitroVerif.Gql

def posAt (inp : List Char) (p : Nat) : Pos := { line := (lineCol inp p).1, col := (lineCol inp p).2 }

/-- `t` with the positions of its tokens when rendered at offset `p` of `inp` -/
def withPos (inp : List Char) : Nat → GType → GType
  | p, .named n _ => .named n (posAt inp p)
  | p, .list t _ => .list (withPos inp (p + 1) t) (posAt inp p)
  | p, .nonNull t => .nonNull (withPos inp p t)

theorem withPos_erase (inp : List Char) (t : GType) : ∀ p, (withPos inp p t).erasePos = t.erasePos := by
  induction t with
  | named n pos => intro p; simp [withPos, GType.erasePos]
  | list t pos ih => intro p; simp [withPos, GType.erasePos, ih]
  | nonNull t ih => intro p; simp [withPos, GType.erasePos, ih]

/-- builder depth -/
def Dt : GType → Nat
  | .named _ _ => 1
  | .list t _ => Dt t + 2
  | .nonNull t => Dt t + 1

theorem toPos_spec (inp : List Char) (q : Pair) : toPos (Ctx.spec inp) q = posAt inp q.start := rfl
theorem asString_spec (inp : List Char) (q : Pair) :
    asString (Ctx.spec inp) q = String.ofList (slice inp q.start q.stop) := rfl

theorem innerPair_rule (t : GType) (p : Nat) : (innerPair t p).rule = innerRule t := by
  cases t <;> rfl

theorem buildTypeOf_inner (inp : List Char) (t : GType) (hwf : WF t) :
    ∀ (p : Nat) (rest : List Char) (k : Nat), inp.drop p = renderT t ++ rest →
      buildTypeOf (Ctx.spec inp) (Dt t + k) (innerPair t p) = .ok (withPos inp p t) := by
  induction t with
  | named n pos =>
    intro p rest k h
    have hs : slice inp p (p + n.toList.length) = n.toList := by
      rw [slice, h, renderT, Nat.add_sub_cancel_left, List.take_left' rfl]
    rw [Dt, Nat.add_comm 1 k, innerPair, buildTypeOf_named, asString_spec, toPos_spec]
    show Except.ok (GType.named (String.ofList (slice inp p (p + n.toList.length))) (posAt inp p)) = _
    rw [hs, String.ofList_toList]
    rfl
  | list t pos ih =>
    intro p rest k h
    have h' : inp.drop (p + 1) = renderT t ++ (']' :: rest) := by
      rw [← List.drop_drop, h, renderT, List.cons_append, List.drop_one, List.tail_cons, List.append_assoc]
      rfl
    rw [Dt, Nat.add_right_comm (Dt t) 2 k, innerPair, buildTypeOf_list, buildType_single, ih hwf (p + 1) _ k h']
    rfl
  | nonNull t ih =>
    intro p rest k h
    have h' : inp.drop p = renderT t ++ ('!' :: rest) := by rw [h, renderT, List.append_assoc]; rfl
    have hr : (innerPair t p).rule = R.NamedType ∨ (innerPair t p).rule = R.ListType := by
      rw [innerPair_rule]
      cases t with
      | named => exact Or.inl rfl
      | list => exact Or.inr rfl
      | nonNull t' => cases hwf.2
    rw [Dt, Nat.add_right_comm (Dt t) 1 k, innerPair, buildTypeOf_nonNull _ _ _ _ _ hr, ih hwf.1 p _ k h']
    rfl

theorem buildType_typePair (inp : List Char) (t : GType) (hwf : WF t) (p : Nat) (rest : List Char) (k : Nat)
    (h : inp.drop p = renderT t ++ rest) :
    buildType (Ctx.spec inp) (Dt t + k + 1) (typePair t p) = .ok (withPos inp p t) := by
  rw [typePair, buildType_single, buildTypeOf_inner inp t hwf p rest k h]

/-- the list-of-characters rendering is the `Display` rendering of the shared vocabulary -/
theorem render_toList (t : GType) : t.render.toList = renderT t := by
  induction t with
  | named n pos => simp [GType.render, renderT]
  | list t pos ih => simp [GType.render, renderT, ih]
  | nonNull t ih => simp [GType.render, renderT, ih]

theorem kin_linear (t : GType) : Kin t ≤ 60 * (renderT t).length + 14 := by
  induction t with
  | named n pos => simp [Kin, renderT]; omega
  | list t pos ih => simp [Kin, renderT]; omega
  | nonNull t ih => simp [Kin, renderT]; omega

theorem dt_linear (t : GType) : Dt t ≤ 2 * (renderT t).length + 1 := by
  induction t with
  | named n pos => simp [Dt, renderT]
  | list t pos ih => simp [Dt, renderT]; omega
  | nonNull t ih => simp [Dt, renderT]; omega

theorem parse_type_pairs (t : GType) (hwf : WF t) (fuel : Nat) (hf : Kty t ≤ fuel) :
    Peg.parse gList fuel R.«Type» (renderT t) = .pairs [typePair t 0] := by
  have h := ((type_runs t hwf).2 0 [] (Or.inl rfl)).run (inp := renderT t) (by simp) hf
  exact Peg.parse_of_run h

end NitroVerif.TypeParse
