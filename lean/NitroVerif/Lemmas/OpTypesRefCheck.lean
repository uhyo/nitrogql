/-
C01/C02 refinement: a DECIDABLE sufficient check for the coherence hypothesis `∀ d, Coh c d {ss} n` of the refinement
theorem.  `flatL` lists (when nothing is skipped) the occurrences collected for an object type, `cohB` checks, for every
possible object type, pairwise agreement per response key (field name / having a sub-selection), leaf types of
fields without sub-selection, and recursively the sub-selections grouped by response key, down to the depth at which no
selection is left.  `cohB_sound`: the check implies the hypothesis (for selection sets without fragment cycles, `fits`).
-/
import NitroVerif.Lemmas.OpTypesRefThm
namespace NitroVerif.OpTypes.Ref
open NitroVerif.Gql NitroVerif.Ts NitroVerif.Exec NitroVerif.OpTypes

/-- occurrences collected from one selection for an object of type `o` when nothing is skipped -/
def flatSel (S : Schema) (F : FragMap) : Nat → Name → Selection → List FT
  | 0, _, _ => []
  | _ + 1, _, .field alias name _ _ _ sub => [⟨keyOf alias name, isAliased alias name, name, sub⟩]
  | D + 1, o, .inline cond _ ss _ => if condApplies S o cond then ss.flatMap (flatSel S F D o) else []
  | D + 1, o, .spread nm _ _ _ =>
    match F nm with
    | some f => if fragmentTypeApplies S o f.cond then f.sel.flatMap (flatSel S F D o) else []
    | none => []

def flatL (S : Schema) (F : FragMap) (D : Nat) (o : Name) (ss : List Selection) : List FT :=
  ss.flatMap (flatSel S F D o)

theorem flatSel_succ (S : Schema) (F : FragMap) : ∀ (D : Nat) (o : Name) (s : Selection), fits F D s = true →
    flatSel S F (D + 1) o s = flatSel S F D o s
  | 0, _, _, h => by simp [fits] at h
  | D + 1, o, s, h => by
    have hl : ∀ ss : List Selection, ss.all (fits F D) = true →
        ss.flatMap (flatSel S F (D + 1) o) = ss.flatMap (flatSel S F D o) := by
      intro ss hs
      induction ss with
      | nil => rfl
      | cons x xs ih =>
        simp only [List.all_cons, Bool.and_eq_true] at hs
        simp only [List.flatMap_cons, flatSel_succ S F D o x hs.1, ih hs.2]
    cases s with
    | field a n p args ds sub => simp [flatSel]
    | inline cnd ds ss p =>
      simp only [fits] at h
      simp only [flatSel, hl ss h]
    | spread nm np ds p =>
      simp only [fits] at h
      simp only [flatSel]
      cases hF : F nm with
      | none => rfl
      | some f => simp only [hF] at h ⊢; rw [hl f.sel h]

theorem flatL_succ (S : Schema) (F : FragMap) (D : Nat) (o : Name) (ss : List Selection)
    (h : ∀ s ∈ ss, fits F D s = true) : flatL S F (D + 1) o ss = flatL S F D o ss := by
  induction ss with
  | nil => rfl
  | cons x xs ih =>
    simp only [flatL, List.flatMap_cons] at ih ⊢
    rw [flatSel_succ S F D o x (h x (by simp)), ih (fun s hs => h s (List.mem_cons_of_mem _ hs))]

theorem inFlat_mem_flatL {S : Schema} {F : FragMap} {o : Name} {inc : Inc} {ss : List Selection} {t : FT}
    (h : InFlat S F o inc [] ss t) : ∀ D, (∀ s ∈ ss, fits F D s = true) → t ∈ flatL S F D o ss := by
  induction h with
  | @field alias name p args ds sub rest _ =>
    intro D hf
    have := hf _ (List.mem_cons_self)
    cases D with
    | zero => simp [fits] at this
    | succ D => simp [flatL, flatSel]
  | @inline cond ds ss p rest t _ hc _ ih =>
    intro D hf
    have hs := hf _ (List.mem_cons_self)
    cases D with
    | zero => simp [fits] at hs
    | succ D =>
      simp only [fits] at hs
      have := ih D (fun s hsm => List.all_eq_true.1 hs s hsm)
      simp only [flatL, List.flatMap_cons, List.mem_append, flatSel, hc, ↓reduceIte]
      exact Or.inl this
  | @spread nm np ds p rest f t _ _ hF ha _ ih =>
    intro D hf
    have hs := hf _ (List.mem_cons_self)
    cases D with
    | zero => simp [fits] at hs
    | succ D =>
      simp only [fits, hF] at hs
      have := ih D (fun s hsm => List.all_eq_true.1 hs s hsm)
      simp only [flatL, List.flatMap_cons, List.mem_append, flatSel, hF, ha, ↓reduceIte]
      exact Or.inl this
  | @tail s rest t _ ih =>
    intro D hf
    have := ih D (fun s' hs' => hf s' (List.mem_cons_of_mem _ hs'))
    simp only [flatL, List.flatMap_cons, List.mem_append] at this ⊢
    exact Or.inr this

theorem flatSel_sub_fits {S : Schema} {F : FragMap} : ∀ (D : Nat) (o : Name) (s : Selection), fits F D s = true →
    ∀ t ∈ flatSel S F D o s, ∀ s', t.sub = some s' → ∀ x ∈ s', fits F D x = true
  | 0, _, _, h => by simp [fits] at h
  | D + 1, o, s, h => by
    have hl : ∀ ss : List Selection, ss.all (fits F D) = true → ∀ t ∈ ss.flatMap (flatSel S F D o),
        ∀ s', t.sub = some s' → ∀ x ∈ s', fits F (D + 1) x = true := by
      intro ss hs t ht s' hsub x hx
      obtain ⟨y, hy, hty⟩ := List.mem_flatMap.1 ht
      exact (fits_esz_succ F D x (flatSel_sub_fits D o y (List.all_eq_true.1 hs y hy) t hty s' hsub x hx)).1
    cases s with
    | field a n p args ds sub =>
      intro t ht s' hsub x hx
      simp only [flatSel, List.mem_singleton] at ht; subst ht
      simp only at hsub; subst hsub
      simp only [fits] at h
      exact (fits_esz_succ F D x (List.all_eq_true.1 h x hx)).1
    | inline cnd ds ss p =>
      simp only [fits] at h
      intro t ht
      simp only [flatSel] at ht
      split at ht
      · exact hl ss h t ht
      · cases ht
    | spread nm np ds p =>
      simp only [fits] at h
      intro t ht
      simp only [flatSel] at ht
      cases hF : F nm with
      | none => simp [hF] at ht
      | some f =>
        simp only [hF] at h ht
        split at ht
        · exact hl f.sel h t ht
        · cases ht

def pairOk (ts : List FT) : Bool :=
  ts.all fun t => ts.all fun t' =>
    !(t.key == t'.key) || (t.name == t'.name && t.sub.isSome == t'.sub.isSome)

def leafCk (S : Schema) (o : Name) (ts : List FT) : Bool :=
  ts.all fun t => t.name == "__typename" || match S.field? o t.name with
    | some fd => t.sub.isSome || isLeafType S fd.ty.unwrapped
    | none => true

/-- the sub-selections of the listed occurrences with response key `k` -/
def subsAt (ts : List FT) (k : Name) : List (List Selection) :=
  ts.filterMap fun t => if t.key == k then t.sub else none

/-- the decidable coherence check: `sss` = the selection sets merged at this position, `n` = the named parent type,
    `D` = bound on fragment nesting, `d` = remaining nesting depth (at 0 nothing may be left) -/
def cohB (S : Schema) (F : FragMap) (D : Nat) : Nat → List (List Selection) → Name → Bool
  | 0, sss, _ => sss.all (·.isEmpty)
  | d + 1, sss, n => (S.possibleTypes n).all fun o =>
      let ts := sss.flatMap (flatL S F D o)
      pairOk ts && leafCk S o ts && ts.all fun t => match S.field? o t.name with
        | some fd => cohB S F D d (subsAt ts t.key) fd.ty.unwrapped
        | none => true

def SbOf (sss : List (List Selection)) : SSet := fun s => s ∈ sss

theorem coh_empty {c : Ctx} {Sb : SSet} {n : Name} (h : ∀ s, Sb s → s = []) : ∀ d, Coh c d Sb n
  | 0 => by simp [Coh]
  | d + 1 => by
    have hno : ∀ o inc t, ¬ PU c Sb o inc t := by
      rintro o inc t ⟨s, hs, hin⟩
      rw [h s hs] at hin; exact inFlat_nil hin
    simp only [Coh]
    intro o _
    exact ⟨⟨fun t _ ht => absurd ht (hno _ _ _), fun t _ ht => absurd ht (hno _ _ _)⟩,
      fun t _ ht => absurd ht (hno _ _ _)⟩

theorem cohB_sound (c : Ctx) (D : Nat) : ∀ (d : Nat) (sss : List (List Selection)) (n : Name),
    (∀ ss ∈ sss, ∀ s ∈ ss, fits c.F D s = true) → cohB c.S c.F D d sss n = true → ∀ d', Coh c d' (SbOf sss) n
  | 0, sss, n, _, h => by
    simp only [cohB, List.all_eq_true, List.isEmpty_iff] at h
    exact coh_empty (fun s hs => h s hs)
  | d + 1, sss, n, hfit, h => by
    intro d'
    cases d' with
    | zero => simp [Coh]
    | succ d' =>
      simp only [cohB, List.all_eq_true, Bool.and_eq_true] at h
      simp only [Coh]
      intro o ho
      obtain ⟨⟨hpair, hleaf⟩, hnest⟩ := h o ho
      have hmem : ∀ t, PU c (SbOf sss) o allInc t → t ∈ sss.flatMap (flatL c.S c.F D o) := by
        rintro t ⟨s, hs, hin⟩
        exact List.mem_flatMap.2 ⟨s, hs, inFlat_mem_flatL hin D (hfit s hs)⟩
      refine ⟨⟨?_, ?_⟩, ?_⟩
      · intro t t' ht ht' hk
        have := List.all_eq_true.1 (List.all_eq_true.1 hpair t (hmem t ht)) t' (hmem t' ht')
        simp only [Bool.or_eq_true, Bool.not_eq_true', beq_eq_false_iff_ne, ne_eq, Bool.and_eq_true, beq_iff_eq] at this
        rcases this with h1 | h1
        · exact absurd hk h1
        · exact ⟨h1.1, h1.2⟩
      · intro t fd ht htn hfd hsub
        have := List.all_eq_true.1 hleaf t (hmem t ht)
        simp only [htn, Bool.false_or, hfd, hsub, Option.isSome_none] at this
        exact this
      · intro t fd ht hfd
        have := hnest t (hmem t ht)
        simp only [hfd] at this
        have hfit' : ∀ ss ∈ subsAt (sss.flatMap (flatL c.S c.F D o)) t.key, ∀ s ∈ ss, fits c.F D s = true := by
          intro ss hss s hs
          simp only [subsAt, List.mem_filterMap] at hss
          obtain ⟨t', ht', hsome⟩ := hss
          split at hsome
          · obtain ⟨s0, hs0, ht0⟩ := List.mem_flatMap.1 ht'
            simp only [flatL] at ht0
            obtain ⟨y, hy, hty⟩ := List.mem_flatMap.1 ht0
            exact flatSel_sub_fits D o y (hfit s0 hs0 y hy) t' hty ss hsome s hs
          · cases hsome
        refine coh_subset d' _ _ _ ?_ (cohB_sound c D d _ _ hfit' this d')
        rintro s ⟨t', ht', hk', hs'⟩
        simp only [SbOf, subsAt, List.mem_filterMap]
        exact ⟨t', hmem t' ht', by simp [hk', hs']⟩

theorem sbOf_single (ss : List Selection) : ∀ s, Sb1 ss s ↔ SbOf [ss] s := by
  intro s; simp [Sb1, SbOf]

theorem coh_of_cohB (c : Ctx) (D d : Nat) (ss : List Selection) (n : Name) (hfit : ∀ s ∈ ss, fits c.F D s = true)
    (h : cohB c.S c.F D d [ss] n = true) : ∀ d', Coh c d' (Sb1 ss) n := by
  intro d'
  have := cohB_sound c D d [ss] n (by simpa using hfit) h d'
  exact coh_subset d' _ _ _ (fun s hs => (sbOf_single ss s).1 hs) this

end NitroVerif.OpTypes.Ref
