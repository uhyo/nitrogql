/-
C01/C02 refinement, model side, part 3: the field lists of `get_fields_for_selection_set` (`fieldsFor`) under a branch
list exactly the occurrences CollectFields collects (`FlatRel` — skipped ones as `empty`), and the tree
`get_type_for_selection_set` (`implTree`) builds is related (`RelTree`) to its selection set.
-/
import NitroVerif.Lemmas.OpTypesRefMerge
import NitroVerif.Lemmas.OpTypesRefBoolVars
namespace NitroVerif.OpTypes
open NitroVerif.Gql

theorem fragmentApplies_spec (S : Schema) (obj : TypeDef) (cond : Name) (b : Bool)
    (hobj : S.typeDef? obj.name = some obj) (h : fragmentApplies S obj cond = .ok b) :
    b = Exec.fragmentTypeApplies S obj.name cond := by
  unfold fragmentApplies at h
  unfold Exec.fragmentTypeApplies
  cases hc : S.typeDef? cond with
  | none => simp [hc] at h
  | some c =>
    simp only [hc] at h ⊢
    cases hk : c.kind <;> simp only [hk] at h ⊢ <;> cases h
    all_goals first
      | rfl
      | (simp only [hobj, Schema.typeDef?_name hc]; done)
      | (simp only [Schema.typeDef?_name hc]; rw [Bool.eq_iff_iff]; simp only [beq_iff_eq]; exact ⟨Eq.symm, Eq.symm⟩)

end NitroVerif.OpTypes

namespace NitroVerif.OpTypes.Ref
open NitroVerif.Gql NitroVerif.Ts NitroVerif.Exec NitroVerif.OpTypes

theorem checkSkip_agree {vars : List (Name × Bool)} {σ : Sigma} {ds : List Directive} {b : Bool}
    (h : checkSkip vars ds = .ok b) (hag : Agree σ vars) : b = !included σ ds :=
  checkSkip_reads (fun v k b hf => by
    obtain ⟨hm, hk⟩ := find_key_mem hf
    exact hk ▸ hag (k, b) hm) ds b h

/-- the set whose only selection set is `ss` (what a tree built from `ss` alone is related to; merging takes unions) -/
def Sb1 (ss : List Selection) : SSet := fun s => s = ss

theorem pu_sb1 {c : Ctx} {ss : List Selection} {o : Name} {inc : Inc} {t : FT} :
    PU c (Sb1 ss) o inc t ↔ InFlat c.S c.F o inc [] ss t := by
  simp only [PU, Sb1]
  constructor
  · rintro ⟨s, rfl, h⟩; exact h
  · intro h; exact ⟨ss, rfl, h⟩

/-- an element of the field list with the occurrence it was printed for and whether `check_skip_directive` excluded it -/
structure Entry where
  occ : FT
  skipped : Bool
  tagged : Tagged

/-- the alias group and the tree field of an entry -/
abbrev Entry.tag (p : Entry) : Bool := p.tagged.1
abbrev Entry.field (p : Entry) : SField := p.tagged.2

theorem class_fields (Lp : List Entry) (f : Bool → Bool) :
    ((Lp.map (·.tagged)).filter fun x => f x.1).map (·.2) = (Lp.filter fun p => f p.tag).map (·.field) := by
  rw [List.filter_map, List.map_map]
  rfl

/-- the collections of one entry: its occurrence, kept unless the entry was skipped (no assignment is mentioned) -/
abbrev occAll (p : Entry) (t : FT) : Prop := p.occ = t
abbrev occKept (p : Entry) (t : FT) : Prop := p.occ = t ∧ p.skipped = false

/-- the field of the entry is related to the entry's own occurrence (`empty` if it was skipped), and the occurrence is
    collected from `ss`, under every agreeing assignment unless it was skipped -/
structure Good (c : Ctx) (o : Name) (vars : List (Name × Bool)) (ss : List Selection) (p : Entry) : Prop where
  rel : RelFieldP c o (occAll p) (occKept p) p.tag p.field
  all : InFlat c.S c.F o allInc [] ss p.occ
  kept : p.skipped = false → ∀ σ, Agree σ vars → InFlat c.S c.F o (included σ) [] ss p.occ

theorem occ_of_relP {c : Ctx} {o : Name} {p : Entry} {tag : Bool} {f : SField}
    (h : RelFieldP c o (occAll p) (occKept p) tag f) : f.name = p.occ.key ∧ tag = p.occ.aliased := by
  obtain ⟨t, rfl, hk, ha⟩ := relFieldP_origin (fun _ h => h.1) h
  exact ⟨hk.symm, ha.symm⟩

/-- the tagged field list `L` lists the occurrences collected from `ss` (skipped ones as `empty`), and all of them -/
def FlatRel (c : Ctx) (o : Name) (vars : List (Name × Bool)) (ss : List Selection) (L : List Tagged) : Prop :=
  ∃ Lp : List Entry, L = Lp.map (·.tagged) ∧ (∀ p ∈ Lp, Good c o vars ss p) ∧
    ∀ σ, Agree σ vars → ∀ t, InFlat c.S c.F o (included σ) [] ss t → ∃ p ∈ Lp, p.occ = t ∧ p.skipped = false

/-- the part of the list that comes from one selection (complete only if `want`) -/
def FlatPart (c : Ctx) (o : Name) (vars : List (Name × Bool)) (want : Bool) (s : Selection) (l : List Tagged) : Prop :=
  ∃ Lp : List Entry, l = Lp.map (·.tagged) ∧ (∀ p ∈ Lp, Good c o vars [s] p) ∧
    (want = true → ∀ σ, Agree σ vars → ∀ t, InFlat c.S c.F o (included σ) [] [s] t → ∃ p ∈ Lp, p.occ = t ∧ p.skipped = false)

theorem good_head {c : Ctx} {o : Name} {vars : List (Name × Bool)} {s : Selection} {rest : List Selection} {p : Entry}
    (h : Good c o vars [s] p) : Good c o vars (s :: rest) p :=
  ⟨h.rel, inFlat_cons_iff.2 (Or.inl h.all), fun hs σ hag => inFlat_cons_iff.2 (Or.inl (h.kept hs σ hag))⟩

theorem good_tail {c : Ctx} {o : Name} {vars : List (Name × Bool)} {s : Selection} {rest : List Selection} {p : Entry}
    (h : Good c o vars rest p) : Good c o vars (s :: rest) p :=
  ⟨h.rel, .tail h.all, fun hs σ hag => .tail (h.kept hs σ hag)⟩

theorem flat_concat {c : Ctx} {o : Name} {vars : List (Name × Bool)} {want : Selection → Bool} :
    ∀ {ss : List Selection} {ls : List (List Tagged)}, All2 (fun s l => FlatPart c o vars (want s) s l) ss ls →
    ∃ Lp : List Entry, ls.flatten = Lp.map (·.tagged) ∧ (∀ p ∈ Lp, Good c o vars ss p) ∧
      ∀ σ, Agree σ vars → ∀ s ∈ ss, want s = true → ∀ t, InFlat c.S c.F o (included σ) [] [s] t →
        ∃ p ∈ Lp, p.occ = t ∧ p.skipped = false
  | _, _, .nil => by
    refine ⟨[], rfl, ?_, ?_⟩
    · intro p h; cases h
    · intro σ _ s h; cases h
  | _, _, @All2.cons _ _ _ s l ss ls ⟨Lp1, h1, h2, h3⟩ htl => by
    obtain ⟨Lp2, h4, h5, h6⟩ := flat_concat htl
    refine ⟨Lp1 ++ Lp2, by simp [h1, h4], ?_, ?_⟩
    · intro p hp
      rcases List.mem_append.1 hp with hp | hp
      · exact good_head (h2 p hp)
      · exact good_tail (h5 p hp)
    · intro σ hag s' hs' hw t ht
      rcases List.mem_cons.1 hs' with rfl | hs'
      · obtain ⟨p, hp, hpe⟩ := h3 hw σ hag t ht
        exact ⟨p, List.mem_append.2 (Or.inl hp), hpe⟩
      · obtain ⟨p, hp, hpe⟩ := h6 σ hag s' hs' hw t ht
        exact ⟨p, List.mem_append.2 (Or.inr hp), hpe⟩

theorem inFlat_exists_mem {S : Schema} {F : Name → Option FragmentDef} {o : Name} {inc : Inc} {V : List Name} {t : FT} :
    ∀ {ss : List Selection}, InFlat S F o inc V ss t → ∃ s ∈ ss, InFlat S F o inc V [s] t
  | [], h => absurd h inFlat_nil
  | s :: rest, h => by
    rcases inFlat_cons_iff.1 h with h | h
    · exact ⟨s, by simp, h⟩
    · obtain ⟨s', hs', h'⟩ := inFlat_exists_mem h
      exact ⟨s', List.mem_cons_of_mem _ hs', h'⟩

def isFieldSel : Selection → Bool
  | .field .. => true
  | _ => false

theorem filterMap_id_eq_flatten {α : Type} : ∀ (rs : List (Option α)), rs.filterMap id = (rs.map Option.toList).flatten
  | [] => rfl
  | none :: rs => by simp [filterMap_id_eq_flatten rs]
  | some a :: rs => by simp [filterMap_id_eq_flatten rs]

/-- the `filter_map` closure of `get_fields_for_selection_set` (direct fields) -/
def simpleOf (obj : TypeDef) (vars : List (Name × Bool)) (rec : GType → List Selection → Except Panic SelTree) :
    Selection → Except Panic (Option Tagged)
  | .field alias name _ _ dirs sub => do
    let key := match alias with | some (a, _) => a | none => name
    let skipped ← checkSkip vars dirs
    let f ← fieldTree obj key name skipped sub rec
    .ok (some (isAliased alias name, f))
  | _ => .ok none

/-- its `flat_map` closure (fragment contents) -/
def fragOf (S : Schema) (F : Frags) (cnd : Cond) (recF : List Selection → Except Panic (List Tagged)) :
    Selection → Except Panic (List Tagged)
  | .field .. => .ok []
  | .spread n _ dirs _ =>
    match F n with
    | none => .error .typeSystemError
    | some fd => do
      if ← fragmentApplies S cnd.obj fd.cond then
        let fs ← recF fd.sel
        if ← checkSkip cnd.vars dirs then .ok (toEmpty fs) else .ok fs
      else .ok []
  | .inline none dirs sub _ => do
    let fs ← recF sub
    if ← checkSkip cnd.vars dirs then .ok (toEmpty fs) else .ok fs
  | .inline (some (cond, _)) dirs sub _ => do
    if ← fragmentApplies S cnd.obj cond then
      let fs ← recF sub
      if ← checkSkip cnd.vars dirs then .ok (toEmpty fs) else .ok fs
    else .ok []

theorem fieldsFor_succ (S : Schema) (F : Frags) (mfuel fuel : Nat) (cnd : Cond) (ss : List Selection) :
    fieldsFor S F mfuel (fuel + 1) cnd ss = (do
      let obj ← match S.typeDef? cnd.obj.name with
        | some t => (.ok t : Except Panic TypeDef)
        | none => .error .typeSystemError
      let simple ← ss.filterMapM (simpleOf obj cnd.vars (fun ty sub => implTree S F mfuel fuel ty sub))
      let frags ← ss.mapM (fragOf S F cnd (fun sub => fieldsFor S F mfuel fuel cnd sub))
      .ok (simple ++ frags.flatten)) := by
  rw [fieldsFor]
  rfl

theorem inFlat_of_mem {S : Schema} {F : Name → Option FragmentDef} {o : Name} {inc : Inc} {V : List Name} {t : FT}
    {s : Selection} : ∀ {ss : List Selection}, s ∈ ss → InFlat S F o inc V [s] t → InFlat S F o inc V ss t
  | [], h, _ => by cases h
  | s0 :: rest, h, ht => by
    rcases List.mem_cons.1 h with rfl | h
    · exact inFlat_cons_iff.2 (Or.inl ht)
    · exact inFlat_cons_iff.2 (Or.inr (inFlat_of_mem h ht))

/-- sub-selections of the collected fields are coherent at every depth -/
def SubCoh (c : Ctx) (o : Name) (ss : List Selection) : Prop :=
  ∀ t fd s, InFlat c.S c.F o allInc [] ss t → t.sub = some s → c.S.field? o t.name = some fd →
    ∀ d, Coh c d (Sb1 s) fd.ty.unwrapped

theorem subCoh_of_nest {c : Ctx} {o : Name} {ss : List Selection}
    (hnest : ∀ t fd, PU c (Sb1 ss) o allInc t → c.S.field? o t.name = some fd →
      ∀ d, Coh c d (SubSet c (Sb1 ss) o allInc t.key) fd.ty.unwrapped) : SubCoh c o ss := by
  intro t fd s ht hs hfd d
  refine coh_subset d _ _ _ ?_ (hnest t fd (pu_sb1.2 ht) hfd d)
  intro s' hs'
  simp only [Sb1] at hs'; subst hs'
  exact ⟨t, pu_sb1.2 ht, rfl, hs⟩

/-- the statement about `implTree` at one fuel: a tree it returns for a coherent selection set is related to it -/
def ImplStmt (c : Ctx) (mfuel fuel : Nat) : Prop :=
  ∀ ty ss T, implTree c.S c.F mfuel fuel ty ss = .ok T → (∀ d, Coh c d (Sb1 ss) ty.unwrapped) →
    RelTree c T ty (Sb1 ss)

/-- the statement about `fieldsFor` at one fuel: the field list it returns under a branch lists the collected occurrences;
    `impl_rel` (Lemmas/OpTypesRefMain.lean) proves the two together by induction on the fuel -/
def FFStmt (c : Ctx) (mfuel fuel : Nat) : Prop :=
  ∀ cnd ss L, fieldsFor c.S c.F mfuel fuel cnd ss = .ok L → c.S.typeDef? cnd.obj.name = some cnd.obj →
    SubCoh c cnd.obj.name ss → FlatRel c cnd.obj.name cnd.vars ss L

section
variable {c : Ctx} {mfuel fuel : Nat}

theorem fieldTree_relP (HI : ImplStmt c mfuel fuel) {o : Name} {obj : TypeDef} (hobj : c.S.typeDef? o = some obj)
    {t : FT} {sk : Bool} {f : SField}
    (h : fieldTree obj t.key t.name sk t.sub (fun ty s => implTree c.S c.F mfuel fuel ty s) = .ok f)
    (hcoh : ∀ fd s, t.sub = some s → c.S.field? o t.name = some fd → ∀ d, Coh c d (Sb1 s) fd.ty.unwrapped) :
    RelFieldP c o (fun t' => t = t') (fun t' => t = t' ∧ sk = false) t.aliased f := by
  unfold fieldTree at h
  cases sk with
  | true =>
    simp only [↓reduceIte] at h; cases h
    exact ⟨⟨t, rfl, rfl, rfl⟩, fun t' ht' => nomatch ht'.2⟩
  | false =>
    simp only [Bool.false_eq_true, ↓reduceIte] at h
    by_cases htn : (t.name == "__typename") = true
    · simp only [htn, ↓reduceIte] at h; cases h
      exact ⟨t, ⟨rfl, rfl⟩, rfl, rfl, by rw [if_pos htn]⟩
    · simp only [htn, Bool.false_eq_true, ↓reduceIte] at h
      have hfield : c.S.field? o t.name = obj.fields.find? (·.name == t.name) := by
        simp [Schema.field?, Schema.fieldsOf, hobj]
      unfold directField? at h
      cases hf : obj.fields.find? (·.name == t.name) with
      | none => simp [hf, htn] at h
      | some fd =>
        simp only [hf] at h
        have hfd : c.S.field? o t.name = some fd := by rw [hfield, hf]
        cases hsub : t.sub with
        | none =>
          simp only [hsub] at h; cases h
          exact ⟨t, ⟨rfl, rfl⟩, rfl, rfl, by rw [if_neg htn]; exact ⟨rfl, hsub, fd, hfd, rfl⟩⟩
        | some s =>
          simp only [hsub, bind, Except.bind] at h
          obtain ⟨T, hT, h⟩ := bind_ok h
          cases h
          refine ⟨t, fd, ⟨rfl, rfl⟩, rfl, rfl, by simp [hsub], by simpa using htn, hfd,
            relTree_congr T fd.ty _ _ (pEquiv_of_iff fun s' => ?_) (HI fd.ty s T hT (hcoh fd s hsub hfd))⟩
          simp only [Sb1, subOf, and_true]
          constructor
          · rintro rfl; exact ⟨t, rfl, rfl, hsub⟩
          · rintro ⟨t', rfl, _, hs'⟩; rw [hsub] at hs'; cases hs'; rfl

theorem simpleOf_field (obj : TypeDef) (vars : List (Name × Bool)) (rec : GType → List Selection → Except Panic SelTree)
    (alias : Option (Name × Pos)) (name : Name) (np : Pos) (args : List Arg) (dirs : List Directive)
    (sub : Option (List Selection)) :
    simpleOf obj vars rec (.field alias name np args dirs sub) = (do
      let skipped ← checkSkip vars dirs
      let f ← fieldTree obj (keyOf alias name) name skipped sub rec
      .ok (some (isAliased alias name, f))) := by
  cases alias with
  | none => rfl
  | some a => cases a; rfl

theorem flatPart_nil_false {c : Ctx} {o : Name} {vars : List (Name × Bool)} {s : Selection} :
    FlatPart c o vars false s [] := by
  refine ⟨[], rfl, ?_, ?_⟩
  · intro p hp; cases hp
  · intro h; cases h

theorem simple_spec (HI : ImplStmt c mfuel fuel) {o : Name} {obj : TypeDef} (hobj : c.S.typeDef? o = some obj)
    {vars : List (Name × Bool)} {s : Selection} {r : Option Tagged}
    (h : simpleOf obj vars (fun ty sub => implTree c.S c.F mfuel fuel ty sub) s = .ok r)
    (hcoh : SubCoh c o [s]) : FlatPart c o vars (isFieldSel s) s r.toList := by
  cases s with
  | field alias name np args dirs sub =>
    rw [simpleOf_field] at h
    simp only [bind, Except.bind] at h
    obtain ⟨sk, hsk, h⟩ := bind_ok h
    cases hft : fieldTree obj (keyOf alias name) name sk sub
        (fun ty sub => implTree c.S c.F mfuel fuel ty sub) with
    | error e => simp [hft] at h
    | ok f =>
      simp only [hft] at h; cases h
      let t : FT := ⟨keyOf alias name, isAliased alias name, name, sub⟩
      have hin : ∀ inc : Inc, inc dirs = true →
          InFlat c.S c.F o inc [] [.field alias name np args dirs sub] t := fun inc hi => .field hi
      refine ⟨[⟨t, sk, (isAliased alias name, f)⟩], rfl, ?_, ?_⟩
      · intro p hp
        simp only [List.mem_singleton] at hp; subst hp
        refine ⟨fieldTree_relP (t := t) HI hobj hft fun fd s hs hfd d => hcoh t fd s (hin allInc rfl) hs hfd d,
          hin allInc rfl, ?_⟩
        · intro hs σ hag
          simp only at hs; subst hs
          have := checkSkip_agree hsk hag
          exact hin _ (by simpa using this)
      · intro _ σ hag t' ht'
        refine ⟨⟨t, sk, (isAliased alias name, f)⟩, by simp, ?_⟩
        obtain ⟨hi, rfl⟩ := inFlat_field_iff.1 ht'
        have := checkSkip_agree hsk hag
        rw [hi] at this
        subst this; exact ⟨rfl, rfl⟩
  | spread n np ds p =>
    simp only [simpleOf] at h; cases h
    exact flatPart_nil_false
  | inline cnd ds sub p =>
    simp only [simpleOf] at h; cases h
    exact flatPart_nil_false

theorem wrap_spec {o : Name} {vars : List (Name × Bool)} {s : Selection} {sub : List Selection} {dirs : List Directive}
    {fs : List Tagged} {sk : Bool} (hfs : FlatRel c o vars sub fs) (hsk : checkSkip vars dirs = .ok sk)
    (hs : ∀ inc : Inc, ∀ t, InFlat c.S c.F o inc [] [s] t ↔ inc dirs = true ∧ InFlat c.S c.F o inc [] sub t) :
    FlatPart c o vars true s (if sk = true then toEmpty fs else fs) := by
  obtain ⟨Lp, rfl, hgood, hcomp⟩ := hfs
  cases sk with
  | true =>
    simp only [↓reduceIte]
    refine ⟨Lp.map fun p => ⟨p.occ, true, (p.tag, .empty p.field.name)⟩, ?_, ?_, ?_⟩
    · simp [toEmpty, List.map_map, Function.comp_def]
    · intro p hp
      obtain ⟨q, hq, rfl⟩ := List.mem_map.1 hp
      obtain ⟨hrel, hall, _⟩ := hgood q hq
      obtain ⟨hn, ha⟩ := occ_of_relP hrel
      exact ⟨⟨⟨q.occ, rfl, hn.symm, ha.symm⟩, fun _ h => nomatch h.2⟩, (hs allInc _).2 ⟨rfl, hall⟩, fun h => by simp at h⟩
    · intro _ σ hag t ht
      have h1 := ((hs _ t).1 ht).1
      have := checkSkip_agree hsk hag
      rw [h1] at this; simp at this
  | false =>
    simp only [Bool.false_eq_true, ↓reduceIte]
    refine ⟨Lp, rfl, ?_, ?_⟩
    · intro p hp
      obtain ⟨hrel, hall, hinc⟩ := hgood p hp
      refine ⟨hrel, (hs allInc _).2 ⟨rfl, hall⟩, fun hns σ hag => (hs _ _).2 ⟨?_, hinc hns σ hag⟩⟩
      have := checkSkip_agree hsk hag
      simpa using this
    · intro _ σ hag t ht
      exact hcomp σ hag t ((hs _ t).1 ht).2

theorem frag_spec (HF : FFStmt c mfuel fuel) {cnd : Cond} (hcnd : c.S.typeDef? cnd.obj.name = some cnd.obj)
    {s : Selection} {l : List Tagged}
    (h : fragOf c.S c.F cnd (fun sub => fieldsFor c.S c.F mfuel fuel cnd sub) s = .ok l)
    (hcoh : SubCoh c cnd.obj.name [s]) : FlatPart c cnd.obj.name cnd.vars (!isFieldSel s) s l := by
  have core : ∀ (sub : List Selection) (dirs : List Directive),
      (∀ inc : Inc, ∀ t, InFlat c.S c.F cnd.obj.name inc [] [s] t ↔
        inc dirs = true ∧ InFlat c.S c.F cnd.obj.name inc [] sub t) →
      (do let fs ← fieldsFor c.S c.F mfuel fuel cnd sub
          if ← checkSkip cnd.vars dirs then (.ok (toEmpty fs) : Except Panic (List Tagged)) else .ok fs) = .ok l →
      FlatPart c cnd.obj.name cnd.vars true s l := by
    intro sub dirs hs hl
    simp only [bind, Except.bind] at hl
    obtain ⟨fs, hfs, hl⟩ := bind_ok hl
    obtain ⟨sk, hsk, hl⟩ := bind_ok hl
    have hsub : SubCoh c cnd.obj.name sub := fun t fd s' ht => hcoh t fd s' ((hs allInc t).2 ⟨rfl, ht⟩)
    have := wrap_spec (s := s) (HF cnd sub fs hfs hcnd hsub) hsk hs
    cases sk <;> simp only [Bool.false_eq_true, ↓reduceIte] at hl this <;> cases hl <;> exact this
  have none_applies : (∀ inc : Inc, ∀ t, ¬ InFlat c.S c.F cnd.obj.name inc [] [s] t) →
      FlatPart c cnd.obj.name cnd.vars true s [] := fun hno =>
    ⟨[], rfl, fun _ hp => (nomatch hp), fun _ σ _ t ht => absurd ht (hno _ t)⟩
  cases s with
  | field alias name np args dirs sub =>
    simp only [fragOf] at h; cases h
    exact flatPart_nil_false
  | spread n np dirs p =>
    simp only [fragOf] at h
    cases hF : c.F n with
    | none => simp [hF] at h
    | some fd =>
      simp only [hF, bind, Except.bind] at h
      obtain ⟨b, hap, h⟩ := bind_ok h
      have hb := fragmentApplies_spec c.S cnd.obj fd.cond b hcnd hap
      cases b with
      | true =>
        simp only [↓reduceIte] at h
        exact core fd.sel dirs (fun inc t => by simp [inFlat_spread_iff, hF, ← hb]) h
      | false =>
        simp only [Bool.false_eq_true, ↓reduceIte] at h; cases h
        exact none_applies fun inc t => by simp [inFlat_spread_iff, hF, ← hb]
  | inline cond dirs sub p =>
    cases cond with
    | none =>
      exact core sub dirs (fun inc t => by simp [inFlat_inline_iff, condApplies]) (by simpa only [fragOf] using h)
    | some tc =>
      obtain ⟨tcn, tcp⟩ := tc
      simp only [fragOf, bind, Except.bind] at h
      obtain ⟨b, hap, h⟩ := bind_ok h
      have hb := fragmentApplies_spec c.S cnd.obj tcn b hcnd hap
      cases b with
      | true =>
        simp only [↓reduceIte] at h
        exact core sub dirs (fun inc t => by simp [inFlat_inline_iff, condApplies, ← hb]) h
      | false =>
        simp only [Bool.false_eq_true, ↓reduceIte] at h; cases h
        exact none_applies fun inc t => by simp [inFlat_inline_iff, condApplies, ← hb]

theorem ffStmt_succ (HI : ImplStmt c mfuel fuel) (HF : FFStmt c mfuel fuel) : FFStmt c mfuel (fuel + 1) := by
  intro cnd ss L h hcnd hcoh
  rw [fieldsFor_succ] at h
  simp only [hcnd, bind, Except.bind] at h
  obtain ⟨simple, hsimple, h⟩ := bind_ok h
  obtain ⟨frags, hfrags, h⟩ := bind_ok h
  cases h
  have hsub : ∀ s ∈ ss, SubCoh c cnd.obj.name [s] := fun s hs t fd s' ht => hcoh t fd s' (inFlat_of_mem hs ht)
  obtain ⟨rs, hrs, rfl⟩ := filterMapM_all2 _ _ hsimple
  have h1 := flat_concat (want := isFieldSel) (all2_map_right (f := Option.toList)
    (all2_imp hrs fun s r hs hr => simple_spec HI hcnd hr (hsub s hs)))
  have h2 := flat_concat (want := fun s => !isFieldSel s)
    (all2_imp (mapM_all2 _ _ hfrags) fun s l hs hl => frag_spec HF hcnd hl (hsub s hs))
  obtain ⟨Lp1, he1, hg1, hc1⟩ := h1
  obtain ⟨Lp2, he2, hg2, hc2⟩ := h2
  refine ⟨Lp1 ++ Lp2, by rw [filterMap_id_eq_flatten, he1, he2]; simp, ?_, ?_⟩
  · intro p hp
    rcases List.mem_append.1 hp with hp | hp
    · exact hg1 p hp
    · exact hg2 p hp
  · intro σ hag t ht
    obtain ⟨s, hs, hts⟩ := inFlat_exists_mem ht
    cases hw : isFieldSel s with
    | true =>
      obtain ⟨p, hp, hpe⟩ := hc1 σ hag s hs hw t hts
      exact ⟨p, List.mem_append.2 (Or.inl hp), hpe⟩
    | false =>
      obtain ⟨p, hp, hpe⟩ := hc2 σ hag s hs (by simp [hw]) t hts
      exact ⟨p, List.mem_append.2 (Or.inr hp), hpe⟩

end

end NitroVerif.OpTypes.Ref
