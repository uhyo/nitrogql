/-
The `Type` sub-language with ARBITRARY trivia between its tokens (`Lemmas/TypeRoundTrip.lean` covers the canonical
rendering only). The real retry structure is followed: `NonNullType` is tried first and fails on a type that is not
followed by `!` — for a list type only after the whole list has been parsed once.
-/
import NitroVerif.Lemmas.TypeRoundTrip
import NitroVerif.Lemmas.ParseDocDirs
import NitroVerif.Lemmas.ParseDocBraced
namespace NitroVerif.DocParse
open NitroVerif.Peg NitroVerif.Gen NitroVerif.Gen.Parts NitroVerif.Build NitroVerif.TypeParse NitroVerif.StringParse
open NitroVerif.Gql NitroVerif.ValueParse NitroVerif.Spec.Lex

variable {inp : List Char}

def rType (τ : Trivia) : Bool → Nat → GType → List Char
  | sep, p, .named n _ => tk τ sep p n.toList
  | sep, p, .list t _ =>
    let tO := tk τ false p ['[']
    let tI := rType τ false (p + tO.length) t
    tO ++ (tI ++ tk τ sep (p + tO.length + tI.length) [']'])
  | sep, p, .nonNull t =>
    let tI := rType τ false p t
    tI ++ tk τ sep (p + tI.length) ['!']

def wpType (τ : Trivia) (inp : List Char) : Nat → GType → GType
  | p, .named n _ => .named n (posAt inp p)
  | p, .list t _ => .list (wpType τ inp (p + (tk τ false p ['[']).length) t) (posAt inp p)
  | p, .nonNull t => .nonNull (wpType τ inp p t)

theorem hd_rType (τ : Trivia) (sep : Bool) (p : Nat) (t : GType) (hwf : WF t) :
    Hd (fun d => nameStart d ∨ d = '[') (rType τ sep p t) := by
  induction t generalizing sep p with
  | named n pos => exact (hd_tk (hd_of_validName (show validName n.toList from hwf))).mono (fun _ h => Or.inl h)
  | list t pos _ =>
    simp only [rType]
    exact Hd.append (hd_tk (P := fun d => nameStart d ∨ d = '[') (hd_cons [] (Or.inr rfl))) _
  | nonNull t ih =>
    simp only [rType]
    exact (ih false p hwf.1).append _

theorem hd_rType_list (τ : Trivia) (sep : Bool) (p : Nat) (t : GType) (pos : Pos) :
    Hd (· = '[') (rType τ sep p (.list t pos)) := by
  simp only [rType]
  exact Hd.append (hd_tk (P := (· = '[')) (hd_cons [] rfl)) _

def InnerOk (τ : Trivia) (inp : List Char) (t : GType) : Prop := ∀ (sep : Bool) (p : Nat) (bad : Char → Prop),
  HasAt inp p (rType τ sep p t) → Nxt inp bad sep (p + (rType τ sep p t).length) →
  ∃ pr, Reads inp 5 (innerRule t) p (rType τ sep p t) (buildTypeOf (Ctx.spec inp)) (wpType τ inp p t) pr

/-- `build_type` needs one more than the length of the text -/
def TypeOk (τ : Trivia) (inp : List Char) (t : GType) : Prop := ∀ (sep : Bool) (p : Nat) (bad : Char → Prop), bad '!' →
  HasAt inp p (rType τ sep p t) → Nxt inp bad sep (p + (rType τ sep p t).length) →
  ∃ pr, Reads inp 20 R.«Type» p (rType τ sep p t) (fun fuel => buildType (Ctx.spec inp) (fuel + 1)) (wpType τ inp p t) pr

theorem namedType_fails_at {p : Nat} (h : HeadNot nameStart (inp.drop p)) :
    Fails gList 12 true (.call R.NamedType) .nonAtomic (At inp p) :=
  first_fails_letter (by decide) h (headNot_mono (fun _ => Or.inl) h)

theorem listType_fails_at {p : Nat} (h : HeadNot (· = '[') (inp.drop p)) :
    Fails gList 4 true (.call R.ListType) .nonAtomic (At inp p) :=
  first_fails (by decide) h

theorem inner_named (τ : Trivia) (hτ : ∀ q, Ws (τ q)) (n : Name) (pos : Pos) (hn : validName n.toList) :
    InnerOk τ inp (.named n pos) := by
  intro sep p bad h hnx
  simp only [rType] at h hnx ⊢
  obtain ⟨e, r⟩ := PartT.rule look_NamedType (nameP hτ hn h hnx)
  refine ⟨_, r.mono (by decide), rfl, rfl, fun fuel hf => ?_⟩
  obtain ⟨f, rfl⟩ := Nat.exists_eq_add_one.mpr (Nat.lt_of_lt_of_le (hd_tk (hd_of_validName hn)).length_pos hf)
  have hs := (h.left : HasAt inp p n.toList).slice
  simp [buildTypeOf, Pair.rule, onlyChildOf, onlyChild, Pair.children, OC_NamedType, asString_spec',
    toPos_spec', Pair.start, Pair.stop, hs, wpType, bind, Except.bind, R.NamedType, R.NonNullType, R.ListType]

theorem inner_list (τ : Trivia) (hτ : ∀ q, Ws (τ q)) (t : GType) (pos : Pos) (hwf : WF t) (ih : TypeOk τ inp t) :
    InnerOk τ inp (.list t pos) := by
  intro sep p bad h hnx
  simp only [rType] at h hnx ⊢
  have g1 := h.right.left
  have g2 := h.right.right
  have hlO := (hd_tk (τ := τ) (sep := false) (p := p) (hd_cons (P := (· = '[')) [] rfl)).length_pos
  have hdC : Hd (· = ']') (tk τ sep (p + (tk τ false p ['[']).length +
      (rType τ false (p + (tk τ false p ['[']).length) t).length) [']']) := hd_tk (hd_cons _ rfl)
  have r0 := strP hτ ['['] h.left (tok_of_hd g1 (hd_rType τ false _ t hwf) (by
    rintro c (hc | rfl)
    · exact nameStart_not_trivia hc
    · decide))
  obtain ⟨prT, T⟩ := ih false _ (· = '!') rfl g1 (Nxt.of_hd g2 hdC (by rintro c rfl; decide))
  have r2 := strP hτ [']'] g2 hnx.app.app.tok
  obtain ⟨e, rL⟩ := PartT.rule look_ListType (r0.seq (T.part.seq_deep_l r2 hdC.length_pos (by decide)))
  refine ⟨_, rL.mono (by decide), rfl, rfl, fun fuel hf => ?_⟩
  obtain ⟨f, rfl⟩ := Nat.exists_eq_add_one.mpr (Nat.lt_of_lt_of_le hlO (fuel_left hf))
  have hb := T.build_succ (Nat.le_of_succ_le_succ (fuel_between hf hlO hdC.length_pos))
  simp [buildTypeOf, Pair.rule, onlyChild, Pair.children, toPos_spec', Pair.start, hb, wpType,
    bind, Except.bind, R.NonNullType, R.ListType]

theorem bang_fails_at {p : Nat} (h : HeadNot (· = '!') (inp.drop p)) :
    Fails gList 1 true (.str ['!']) .nonAtomic (At inp p) := str_fails h

theorem buildTypeOf_nonNull (ctx : Ctx) (fuel p e : Nat) (prI : Pair) (ty : GType)
    (hr : prI.rule = R.NamedType ∨ prI.rule = R.ListType) (hb : buildTypeOf ctx fuel prI = .ok ty) :
    buildTypeOf ctx (fuel + 1) (.mk R.NonNullType p e [prI]) = .ok (.nonNull ty) := by
  cases prI with
  | mk r s e' cs =>
    rcases hr with rfl | rfl <;>
      simp [buildTypeOf, Pair.rule, onlyChildOf, onlyChild, Pair.children, OC_NonNullType, hb, bind, Except.bind,
        R.NamedType, R.NonNullType, R.ListType]

theorem inner_nonNull (τ : Trivia) (hτ : ∀ q, Ws (τ q)) (t : GType) (hwf : WF (.nonNull t)) (ih : InnerOk τ inp t) :
    InnerOk τ inp (.nonNull t) := by
  intro sep p bad h hnx
  simp only [rType] at h hnx ⊢
  have g2 := h.right
  have hdC : Hd (· = '!') (tk τ sep (p + (rType τ false p t).length) ['!']) := hd_tk (hd_cons _ rfl)
  obtain ⟨prI, I⟩ := ih false p (fun _ => False) h.left (Nxt.of_hd g2 hdC (by rintro c rfl; decide))
  have rB := I.part.seq_deep_l (strP hτ ['!'] g2 hnx.app.tok) hdC.length_pos (by decide)
  -- the alternative of `NonNullType` that fits the inner type
  obtain ⟨rA, hr⟩ : Part inp 2 (.choice (.seq (.call R.NamedType) (.str ['!'])) (.seq (.call R.ListType) (.str ['!']))) p
      (rType τ false p t ++ tk τ sep (p + (rType τ false p t).length) ['!']) ([prI] ++ []) ∧
      (prI.rule = R.NamedType ∨ prI.rule = R.ListType) := by
    cases t with
    | named n pos => exact ⟨rB.choice_l, Or.inl I.rule⟩
    | list t' pos =>
      exact ⟨rB.choice_r (fails_seq_1 (namedType_fails_at
          (headNot_of_hd h.left (hd_rType_list τ false p t' pos) (by rintro c rfl; decide))))
        (le_B (by decide)), Or.inr I.rule⟩
    | nonNull t' => cases hwf.2
  obtain ⟨e, rN⟩ := PartT.rule look_NonNullType rA
  refine ⟨_, rN.mono (by decide), rfl, rfl, fun fuel hf => ?_⟩
  obtain ⟨f, rfl⟩ := Nat.exists_eq_add_one.mpr (Nat.lt_of_lt_of_le hdC.length_pos (fuel_right hf))
  exact buildTypeOf_nonNull _ f p e prI _ hr (I.build f (Nat.le_of_succ_le_succ (fuel_init hf hdC.length_pos)))

theorem buildType_of_inner (τ : Trivia) (t : GType) (p e : Nat) (prI : Pair) (fuel : Nat)
    (hb : buildTypeOf (Ctx.spec inp) fuel prI = .ok (wpType τ inp p t)) :
    buildType (Ctx.spec inp) (fuel + 1) (.mk R.«Type» p e [prI]) = .ok (wpType τ inp p t) := by
  simp [buildType, onlyChild, Pair.children, hb, bind, Except.bind]

/-- `NonNullType` is tried first and fails, in the alternative that fits the type only at the missing `!` -/
theorem type_plain (τ : Trivia) (t : GType) (hwf : WF t) (hnn : t.isNonNull = false) (hin : InnerOk τ inp t) :
    TypeOk τ inp t := by
  intro sep p bad hbad h hnx
  obtain ⟨prI, I⟩ := hin sep p bad h hnx
  have rP := I.part
  have fI := rP.fails_seq_le (bang_fails_at (hnx.ne hbad)) (by decide)
  obtain ⟨fN, rC⟩ : Fails gList (B (rType τ sep p t).length + 9) true (.call R.NonNullType) .nonAtomic (At inp p) ∧
      Part inp 9 (.choice (.call R.NamedType) (.call R.ListType)) p (rType τ sep p t) [prI] := by
    cases t with
    | named n pos =>
      have fL := fails_seq_1 (b := .str ['!']) (listType_fails_at (headNot_of_hd h
        (hd_tk (hd_of_validName (show validName n.toList from hwf)))
        (fun d hd => nameStart_ne hd (by decide))))
      exact ⟨fails_rule look_NonNullType (fails_choice_le fI fL (Nat.le_refl _) (le_B (by decide))),
        rP.choice_l.mono (by decide)⟩
    | list t' pos =>
      have hns : HeadNot nameStart (inp.drop p) :=
        headNot_of_hd h (hd_rType_list τ sep p t' pos) (by rintro c rfl; decide)
      have fA := fails_seq_1 (b := .str ['!']) (namedType_fails_at hns)
      exact ⟨fails_rule look_NonNullType (fails_choice_le fA fI (le_B (by decide)) (Nat.le_refl _)),
        (rP.choice_r (namedType_fails_at hns) (le_B (by decide))).mono (by decide)⟩
    | nonNull t' => cases hnn
  obtain ⟨e, rT⟩ := PartT.rule look_Type (rC.choice_r fN (Nat.le_refl _))
  exact ⟨_, rT.mono (by decide), rfl, rfl, fun fuel hf => buildType_of_inner τ t p e prI fuel (I.build fuel hf)⟩

theorem type_nonNull (τ : Trivia) (t : GType) (hin : InnerOk τ inp (.nonNull t)) : TypeOk τ inp (.nonNull t) := by
  intro sep p bad _ h hnx
  obtain ⟨prI, I⟩ := hin sep p bad h hnx
  obtain ⟨e, rT⟩ := PartT.rule look_Type (I.part.choice_l (b := .choice (.call R.NamedType) (.call R.ListType)))
  exact ⟨_, rT.mono (by decide), rfl, rfl, fun fuel hf => buildType_of_inner τ _ p e prI fuel (I.build fuel hf)⟩

theorem type_all (τ : Trivia) (hτ : ∀ q, Ws (τ q)) : ∀ (t : GType), WF t → InnerOk τ inp t ∧ TypeOk τ inp t := by
  intro t
  induction t with
  | named n pos =>
    intro hwf
    have hin := inner_named (inp := inp) τ hτ n pos hwf
    exact ⟨hin, type_plain τ _ hwf rfl hin⟩
  | list t pos ih =>
    intro hwf
    have hin := inner_list τ hτ t pos hwf (ih hwf).2
    exact ⟨hin, type_plain τ _ hwf rfl hin⟩
  | nonNull t ih =>
    intro hwf
    have hin := inner_nonNull τ hτ t hwf (ih hwf.1).1
    exact ⟨hin, type_nonNull τ t hin⟩

end NitroVerif.DocParse
