/-
Exact content of the declaration tables `Decls.ofFile` / `Decls.ofFiles` (all four components), and the notion of a
file HOSTED at a path prefix of a table (`Hosted D P F`: the file's own table when `P = []`, the image of a module
linked through `import type * as A` when `P = [A]`): inside the hosted region, lookups are determined by the file.
-/
import NitroVerif.Lemmas.DeclsResolve
namespace NitroVerif.Ts

mutual
/-- `export type { a as b }` entries a statement contributes when it stands in `scope` -/
def Stmt.exports (scope : Scope) : Stmt → List (Scope × String × String)
  | .exportList _ items => items.map fun (l, e) => (scope, l, e)
  | .namespace _ n body => Stmt.exportsList (scope ++ [n]) body
  | _ => []
def Stmt.exportsList (scope : Scope) : List Stmt → List (Scope × String × String)
  | [] => []
  | s :: r => s.exports scope ++ Stmt.exportsList scope r
end

mutual
/-- namespace paths a statement contributes when it stands in `scope` -/
def Stmt.nss (scope : Scope) : Stmt → List Scope
  | .namespace _ n body => (scope ++ [n]) :: Stmt.nssList (scope ++ [n]) body
  | _ => []
def Stmt.nssList (scope : Scope) : List Stmt → List Scope
  | [] => []
  | s :: r => s.nss scope ++ Stmt.nssList scope r
end

theorem exportsList_append (sc : Scope) (a b : List Stmt) :
    Stmt.exportsList sc (a ++ b) = Stmt.exportsList sc a ++ Stmt.exportsList sc b := by
  induction a with
  | nil => rfl
  | cons s r ih => simp only [List.cons_append, Stmt.exportsList, ih, List.append_assoc]

theorem nssList_append (sc : Scope) (a b : List Stmt) :
    Stmt.nssList sc (a ++ b) = Stmt.nssList sc a ++ Stmt.nssList sc b := by
  induction a with
  | nil => rfl
  | cons s r ih => simp only [List.cons_append, Stmt.nssList, ih, List.append_assoc]

theorem exportsList_flatMap {α : Type} (sc : Scope) (l : List α) (f : α → List Stmt) :
    Stmt.exportsList sc (l.flatMap f) = l.flatMap fun a => Stmt.exportsList sc (f a) := by
  induction l with
  | nil => rfl
  | cons a r ih => rw [List.flatMap_cons, exportsList_append, ih, List.flatMap_cons]

theorem nssList_flatMap {α : Type} (sc : Scope) (l : List α) (f : α → List Stmt) :
    Stmt.nssList sc (l.flatMap f) = l.flatMap fun a => Stmt.nssList sc (f a) := by
  induction l with
  | nil => rfl
  | cons a r ih => rw [List.flatMap_cons, nssList_append, ih, List.flatMap_cons]

theorem Stmt.size_pos (s : Stmt) : 1 ≤ s.size := by
  cases s <;> simp [Stmt.size]

theorem collect_eq : ∀ (fuel : Nat) (scope : Scope) (stmts : List Stmt) (acc : Decls),
    Stmt.sizeList stmts ≤ fuel →
    Decls.collect fuel scope stmts acc =
      { types := acc.types ++ Stmt.declsList scope stmts,
        exports := acc.exports ++ Stmt.exportsList scope stmts,
        namespaces := acc.namespaces ++ Stmt.nssList scope stmts,
        roots := acc.roots } := by
  intro fuel
  induction fuel with
  | zero =>
    intro scope stmts acc h
    cases stmts with
    | nil => simp [Decls.collect, Stmt.declsList, Stmt.exportsList, Stmt.nssList]
    | cons s r => have := Stmt.size_pos s; simp [Stmt.sizeList] at h; omega
  | succ fuel ih =>
    intro scope stmts acc h
    cases stmts with
    | nil => simp [Decls.collect, Stmt.declsList, Stmt.exportsList, Stmt.nssList]
    | cons s rest =>
      have hs := Stmt.size_pos s
      simp only [Stmt.sizeList] at h
      simp only [Decls.collect]
      rw [ih _ _ _ (by omega)]
      cases s with
      | «namespace» ex n body =>
        have hb : Stmt.sizeList body ≤ fuel := by simp only [Stmt.size] at h; omega
        simp only []
        rw [ih _ _ _ hb]
        simp [Stmt.declsList, Stmt.decls, Stmt.exportsList, Stmt.exports, Stmt.nssList, Stmt.nss]
      | _ => simp [Stmt.declsList, Stmt.decls, Stmt.exportsList, Stmt.exports, Stmt.nssList, Stmt.nss]

theorem ofFile_eq (f : File) :
    Decls.ofFile f =
      { types := Stmt.declsList [] f, exports := Stmt.exportsList [] f, namespaces := Stmt.nssList [] f, roots := [] } := by
  unfold Decls.ofFile
  rw [collect_eq _ _ _ _ (Nat.le_succ _)]
  simp

theorem ofFile_types (f : File) : (Decls.ofFile f).types = Stmt.declsList [] f := by
  rw [ofFile_eq]

theorem ofFile_names (f : File) (d : Decl) (h : d ∈ (Decls.ofFile f).types) : d.name ∈ Stmt.typeNamesList f :=
  declsList_name_mem f [] d (ofFile_types f ▸ h)

theorem resolveRef_none_of_unbound (f : File) (scope : Scope) (n : String)
    (h : n ∉ Stmt.typeNamesList f) : (Decls.ofFile f).resolveRef scope n = none := by
  cases hr : (Decls.ofFile f).resolveRef scope n with
  | none => rfl
  | some x =>
    obtain ⟨hm, hn⟩ := resolveRefAux_some _ _ _ hr
    exact absurd (hn ▸ ofFile_names f x hm) h

mutual
theorem decls_scope : ∀ (s : Stmt) (sc : Scope), ∀ d ∈ s.decls sc, sc <+: d.scope
  | .type .., _, _, hd => by rw [List.mem_singleton.1 hd]; exact List.prefix_refl _
  | .rawType .., _, _, hd => by rw [List.mem_singleton.1 hd]; exact List.prefix_refl _
  | .namespace _ n body, sc, d, hd => (List.prefix_append sc [n]).trans (declsList_scope body (sc ++ [n]) d hd)
  | .import .., _, _, hd => nomatch hd
  | .exportList .., _, _, hd => nomatch hd
  | .const .., _, _, hd => nomatch hd
  | .exportDefault .., _, _, hd => nomatch hd
  | .doc .., _, _, hd => nomatch hd
theorem declsList_scope : ∀ (stmts : List Stmt) (sc : Scope), ∀ d ∈ Stmt.declsList sc stmts, sc <+: d.scope
  | [], _, _, hd => nomatch hd
  | s :: r, sc, d, hd => by
    rw [Stmt.declsList, List.mem_append] at hd
    exact hd.elim (decls_scope s sc d) (declsList_scope r sc d)
end

/-- the test `findExported` performs on the export entries -/
def isExportAt (sc : Scope) (n : String) (x : Scope × String × String) : Bool := x.1 == sc && x.2.2 == n

/-- File `F` is hosted at path `P` of table `D`: inside the region below `P`, every lookup `D` performs is
    determined by `F` alone; lexical lookup does not leave the region. -/
structure Hosted (D : Decls) (P : Scope) (F : File) : Prop where
  findLocal : ∀ sc n, D.findLocal (P ++ sc) n = (Stmt.declsList P F).find? (isDeclAt (P ++ sc) n)
  exported : ∀ sc n, D.types.find? (fun x => x.scope == P ++ sc && x.name == n && x.exported)
    = (Stmt.declsList P F).find? (fun x => x.scope == P ++ sc && x.name == n && x.exported)
  exports : ∀ sc n, D.exports.find? (isExportAt (P ++ sc) n) = (Stmt.exportsList P F).find? (isExportAt (P ++ sc) n)
  nss : ∀ sc, sc ≠ [] → D.namespaces.contains (P ++ sc) = (Stmt.nssList P F).contains (P ++ sc)
  /-- `P` is where lexical lookup stops climbing: the top of the table, or a module root -/
  stop : P = [] ∨ D.roots.contains P = true
  /-- … and nothing strictly below `P` is a module root: from a namespace of `F` the climb reaches `P` -/
  inner : ∀ sc, sc ≠ [] → D.roots.contains (P ++ sc) = false

theorem isExportAt_fun (sc : Scope) (n : String) :
    (fun (x : Scope × String × String) => match x with | (s, _, e) => s == sc && e == n) = isExportAt sc n := by
  funext x; obtain ⟨s, l, e⟩ := x; rfl

theorem findExported_of_type {D : Decls} {sc : Scope} {n : String} {x : Decl}
    (h : D.types.find? (fun x => x.scope == sc && x.name == n && x.exported) = some x) :
    D.findExported sc n = some x := by
  unfold Decls.findExported
  rw [h]

theorem findExported_of_export {D : Decls} {sc : Scope} {n : String} {s : Scope} {l e : String}
    (h1 : D.types.find? (fun x => x.scope == sc && x.name == n && x.exported) = none)
    (h2 : D.exports.find? (isExportAt sc n) = some (s, l, e)) :
    D.findExported sc n = D.resolveRef sc l := by
  unfold Decls.findExported
  rw [h1, isExportAt_fun, h2]

/-! The table of an environment, stated once: over a concrete file the unifier would otherwise evaluate
`Decls.ofFiles` to see these. -/

theorem Env.ofFile_decls (f : File) : (Env.ofFile f).decls = Decls.ofFile f := rfl

theorem Env.ofFiles_decls (main : File) (mods : List (String × File)) :
    (Env.ofFiles main mods).decls = Decls.ofFiles main mods := rfl

theorem Env.withStd_decls (e : Env) : e.withStd.decls = e.decls := rfl

theorem hosted_ofFile (F : File) : Hosted (Decls.ofFile F) [] F := by
  rw [ofFile_eq]
  refine ⟨fun sc n => rfl, fun sc n => rfl, fun sc n => rfl, fun sc _ => rfl, Or.inl rfl, fun sc _ => rfl⟩

/-- the star imports of a file, in order: (module, local name) -/
def starImports (f : File) : List (String × String) :=
  f.filterMap fun | .import m _ (.star a) => some (m, a) | _ => none

def Stmt.isNamespace : Stmt → Bool
  | .namespace _ _ _ => true
  | _ => false

/-- the step of `Decls.ofFiles` -/
def linkStep (mods : List (String × File)) (acc : Decls) (s : Stmt) : Decls :=
  match s with
  | .import m _ (.star a) =>
    match mods.find? (·.1 == m) with
    | some (_, f) =>
      Decls.collect (Stmt.sizeList f + 1) [a] f
        { acc with namespaces := acc.namespaces ++ [[a]], roots := acc.roots ++ [[a]] }
    | none => acc
  | _ => acc

theorem ofFiles_eq_foldl (main : File) (mods : List (String × File)) :
    Decls.ofFiles main mods = main.foldl (linkStep mods) (Decls.ofFile main) := rfl

theorem foldl_linkStep_none (mods : List (String × File)) : ∀ (l : List Stmt) (acc : Decls), starImports l = [] →
    l.foldl (linkStep mods) acc = acc := by
  intro l
  induction l with
  | nil => intro acc _; rfl
  | cons s r ih =>
    -- a statement other than a star import is skipped by `starImports` and by `linkStep`, both by computation
    intro acc h
    cases s with
    | «import» m ty w =>
      cases w with
      | star a => cases h
      | _ => exact ih _ h
    | _ => exact ih _ h

theorem foldl_linkStep_one (m A : String) (F : File) : ∀ (l : List Stmt) (acc : Decls), starImports l = [(m, A)] →
    l.foldl (linkStep [(m, F)]) acc =
      Decls.collect (Stmt.sizeList F + 1) [A] F
        { acc with namespaces := acc.namespaces ++ [[A]], roots := acc.roots ++ [[A]] } := by
  intro l
  induction l with
  | nil => intro acc h; cases h
  | cons s r ih =>
    intro acc h
    cases s with
    | «import» m' ty w =>
      cases w with
      | star a =>
        injection (show (m', a) :: starImports r = [(m, A)] from h) with h1 hr
        cases h1
        rw [List.foldl_cons, foldl_linkStep_none _ r _ hr]
        simp [linkStep]
      | _ => exact ih _ h
    | _ => exact ih _ h

theorem ofFiles_single (op : File) (m A : String) (F : File) (himp : starImports op = [(m, A)]) :
    Decls.ofFiles op [(m, F)] =
      { types := Stmt.declsList [] op ++ Stmt.declsList [A] F,
        exports := Stmt.exportsList [] op ++ Stmt.exportsList [A] F,
        namespaces := Stmt.nssList [] op ++ [[A]] ++ Stmt.nssList [A] F,
        roots := [[A]] } := by
  rw [ofFiles_eq_foldl, foldl_linkStep_one m A F op _ himp, collect_eq _ _ _ _ (Nat.le_succ _), ofFile_eq]
  simp

theorem flat_decls_scope : ∀ (op : List Stmt), op.all (fun s => !s.isNamespace) = true →
    ∀ d ∈ Stmt.declsList [] op, d.scope = [] := by
  intro op
  induction op with
  | nil => intro _ d hd; cases hd
  | cons s r ih =>
    intro h d hd
    rw [List.all_cons, Bool.and_eq_true] at h
    rw [Stmt.declsList, List.mem_append] at hd
    rcases hd with hd | hd
    · cases s with
      | type _ _ _ _ => rw [List.mem_singleton.1 hd]
      | rawType _ _ _ => rw [List.mem_singleton.1 hd]
      | «namespace» _ _ _ => cases h.1
      | _ => cases hd
    · exact ih h.2 d hd

theorem flat_exports_scope : ∀ (op : List Stmt), op.all (fun s => !s.isNamespace) = true →
    ∀ x ∈ Stmt.exportsList [] op, x.1 = [] := by
  intro op
  induction op with
  | nil => intro _ d hd; cases hd
  | cons s r ih =>
    intro h d hd
    rw [List.all_cons, Bool.and_eq_true] at h
    rw [Stmt.exportsList, List.mem_append] at hd
    rcases hd with hd | hd
    · cases s with
      | exportList _ items =>
        obtain ⟨_, _, rfl⟩ := List.mem_map.1 hd
        rfl
      | «namespace» _ _ _ => cases h.1
      | _ => cases hd
    · exact ih h.2 d hd

theorem flat_nss : ∀ (op : List Stmt), op.all (fun s => !s.isNamespace) = true → Stmt.nssList [] op = [] := by
  intro op
  induction op with
  | nil => intro _; rfl
  | cons s r ih =>
    intro h
    rw [List.all_cons, Bool.and_eq_true] at h
    rw [Stmt.nssList, ih h.2, List.append_nil]
    cases s with
    | «namespace» _ _ _ => cases h.1
    | _ => rfl

theorem hosted_ofFiles (op : File) (m A : String) (F : File) (hflat : op.all (fun s => !s.isNamespace) = true)
    (himp : starImports op = [(m, A)]) : Hosted (Decls.ofFiles op [(m, F)]) [A] F := by
  rw [ofFiles_single op m A F himp, flat_nss op hflat]
  -- the flat file's own entries all sit at scope `[]`, so a lookup below `[A]` skips them
  have skip {α : Type} {l1 l2 : List α} {p : α → Bool} (h : ∀ x ∈ l1, p x = false) :
      (l1 ++ l2).find? p = l2.find? p := by
    rw [List.find?_append, List.find?_eq_none.2 fun x hx => by simp [h x hx], Option.none_or]
  refine ⟨fun sc n => ?_, fun sc n => ?_, fun sc n => ?_, fun sc hsc => ?_, Or.inr (by simp), fun sc hsc => ?_⟩
  · exact skip fun d hd => by simp [flat_decls_scope op hflat d hd]
  · exact skip fun d hd => by simp [flat_decls_scope op hflat d hd]
  · exact skip fun d hd => by simp [isExportAt, flat_exports_scope op hflat d hd]
  · cases sc with
    | nil => exact absurd rfl hsc
    | cons a r => simp
  · cases sc with
    | nil => exact absurd rfl hsc
    | cons a r => simp

/-- `([] : Scope).length + 1` is left unreduced: it is the `sc.length + 1` of `hosted_qualified_*` at `sc = []` -/
theorem ofFiles_resolveNs (op : File) (m A : String) (F : File) (himp : starImports op = [(m, A)]) :
    (Decls.ofFiles op [(m, F)]).resolveNsAux A (([] : Scope).length + 1) [] = some [A] := by
  rw [ofFiles_single op m A F himp]
  simp [Decls.resolveNsAux]

theorem ofFiles_findLocal_top (op : File) (m A : String) (F : File) (himp : starImports op = [(m, A)])
    {n : String} {d : Decl} (h : (Stmt.declsList [] op).find? (isDeclAt [] n) = some d) :
    (Decls.ofFiles op [(m, F)]).findLocal [] n = some d := by
  rw [ofFiles_single op m A F himp]
  rw [findLocal_eq, List.find?_append, h]; rfl

theorem ofFiles_findLocal_top_none (op : File) (m A : String) (F : File) (himp : starImports op = [(m, A)])
    {n : String} (h : (Stmt.declsList [] op).find? (isDeclAt [] n) = none) :
    (Decls.ofFiles op [(m, F)]).findLocal [] n = none := by
  rw [ofFiles_single op m A F himp]
  rw [findLocal_eq, List.find?_append, h, Option.none_or]
  apply List.find?_eq_none.2
  intro d hd
  have hp := declsList_scope F [A] d hd
  simp only [isDeclAt, Bool.and_eq_true, beq_iff_eq, not_and]
  intro hs
  rw [hs] at hp
  exact absurd hp (by simp)

/-- `declsList_name_mem`, stated along a size bound -/
theorem declsList_names : ∀ (n : Nat) (stmts : List Stmt) (sc : Scope), Stmt.sizeList stmts ≤ n →
    ∀ d ∈ Stmt.declsList sc stmts, d.name ∈ Stmt.typeNamesList stmts :=
  fun _ stmts sc _ => declsList_name_mem stmts sc

end NitroVerif.Ts
