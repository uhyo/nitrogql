/-
What the closed forms of C10 assume and look up: the side condition `DocOK` on schema document and configuration, and
name resolution inside the generated schema declaration file hosted in a declaration table (`Hosting c doc F D P`):
names that resolve to nothing, and what the local name and the schema name of a definition are bound to.
-/
import NitroVerif.Lemmas.DeclsClosedSchema
import NitroVerif.Lemmas.DeclsClosedGlob
import NitroVerif.Lemmas.DeclsClosedRef
import NitroVerif.Lemmas.DeclsClosedBodies
import NitroVerif.Lemmas.SchemaFacts
import NitroVerif.Spec.ValidTs
namespace NitroVerif.SchemaDecls
open NitroVerif.Gql NitroVerif.Ts NitroVerif.DeclCfg NitroVerif.RefTypes

/-- The document is a checked schema (type names distinct, none beginning with the renaming prefix, every referenced
    type defined and usable in the direction it is used in) and the configured scalar texts stay clear of the
    printer's own identifiers: no type is named like one of the three prelude helpers; no identifier of a scalar text starts with `__tmp_` (open finding
    `C10_rename_counterexample`) or is one of the three prelude helper names / four namespace names; the supplied parse
    of a scalar text mentions only identifiers of that text and contains no internal absolute reference. -/
structure DocOK (c : Cfg) (doc : TsDoc) : Prop where
  distinct : ((typeDefsOf doc).map (·.name)).Nodup
  names : ∀ a ∈ typeDefsOf doc, hasTmpPrefix a.name = false
  notPrelude : ∀ a ∈ typeDefsOf doc, a.name ∉ preludeNames
  fields : ∀ td ∈ typeDefsOf doc, td.kind = .object → ∀ f ∈ td.fields,
    ∃ td' ∈ typeDefsOf doc, td'.name = f.ty.unwrapped ∧ td'.kind ≠ .input
  inputs : ∀ td ∈ typeDefsOf doc, td.kind = .input → ∀ f ∈ td.inputs,
    ∃ td' ∈ typeDefsOf doc, td'.name = f.ty.unwrapped ∧ (td'.kind = .scalar ∨ td'.kind = .enum ∨ td'.kind = .input)
  members : ∀ td ∈ typeDefsOf doc, td.kind = .union → ∀ m ∈ td.members,
    ∃ td' ∈ typeDefsOf doc, td'.name = m.1 ∧ td'.kind = .object
  bagOK : ∀ i ∈ bag (scalarTypes c doc), hasTmpPrefix i = false ∧ i ∉ reservedNames
  parses : ∀ p ∈ scalarTypes c doc, ∀ t ∈ Target.all,
    (c.parseOf (p.2.getType t)).noAbs = true ∧
      ∀ i ∈ (c.parseOf (p.2.getType t)).freeNames, i ∈ bag (scalarTypes c doc)

/-- every clause is a bounded quantification over lists of the document and the configuration. The conjunction is
    split by hand: each clause is within the size bound of instance search, all eight together are not. -/
instance (c : Cfg) (doc : TsDoc) : Decidable (DocOK c doc) := by
  refine @decidable_of_iff _ (_ ∧ _ ∧ _ ∧ _ ∧ _ ∧ _ ∧ _ ∧ _)
    ⟨fun ⟨a, b, c, d, e, f, g, h⟩ => ⟨a, b, c, d, e, f, g, h⟩, fun ⟨a, b, c, d, e, f, g, h⟩ => ⟨a, b, c, d, e, f, g, h⟩⟩ ?_
  repeat' refine @instDecidableAnd _ _ ?_ ?_
  all_goals infer_instance

theorem kind_beq {k k' : TypeKind} : (k == k') = true ↔ k = k' := by
  rw [typeKind_beq, decide_eq_true_eq]

theorem typeDef?_of_mem {c : Cfg} {doc : TsDoc} (ok : DocOK c doc) {td : TypeDef} (hm : td ∈ typeDefsOf doc) :
    (Schema.mk doc).typeDef? td.name = some td :=
  Schema.typeDef?_of_mem (S := ⟨doc⟩) ok.distinct hm

theorem hasTmpPrefix_tmp (s : String) : hasTmpPrefix ("__tmp_" ++ s) = true := by
  simp [hasTmpPrefix, String.toList_append]

theorem tmpPrefix_startsWithUU {n : Name} (h : hasTmpPrefix n = true) : ValidTs.startsWithUU n = true := by
  unfold hasTmpPrefix at h
  unfold ValidTs.startsWithUU
  have e : "__tmp_".toList = ['_', '_', 't', 'm', 'p', '_'] := by decide
  rw [e] at h
  match hn : n.toList, h with
  | a :: b :: r, h =>
    simp only [List.isPrefixOf, Bool.and_eq_true, beq_iff_eq] at h
    obtain ⟨rfl, rfl, _⟩ := h
    rfl
  | [a], h => simp [List.isPrefixOf] at h
  | [], h => simp [List.isPrefixOf] at h

theorem preludeNames_startsWithUU : ∀ n ∈ preludeNames, ValidTs.startsWithUU n = true := by decide +kernel

theorem names_of_noUU {doc : TsDoc} (h : ∀ a ∈ typeDefsOf doc, ValidTs.startsWithUU a.name = false) :
    (∀ a ∈ typeDefsOf doc, hasTmpPrefix a.name = false) ∧ ∀ a ∈ typeDefsOf doc, a.name ∉ preludeNames := by
  refine ⟨fun a ha => ?_, fun a ha hmem => ?_⟩
  · cases hp : hasTmpPrefix a.name with
    | false => rfl
    | true => have := tmpPrefix_startsWithUU hp; rw [h a ha] at this; cases this
  · have := preludeNames_startsWithUU _ hmem
    rw [h a ha] at this; cases this

theorem findExported_of_alias {D : Decls} {sc : Scope} {n ln : String} {d : Decl}
    (hfind : D.findLocal sc ln = some d) (hex : d.exported = (n == ln))
    (hnone : n ≠ ln → D.types.find? (fun x => x.scope == sc && x.name == n && x.exported) = none)
    (hexp : n ≠ ln → D.exports.find? (isExportAt sc n) = some (sc, ln, n)) :
    D.findExported sc n = some d := by
  by_cases hn : n = ln
  · apply findExported_of_type
    rw [hn]
    exact find?_and (isDeclAt sc ln) (fun x => x.exported) _ _ hfind (by rw [hex, hn]; exact beq_self_eq_true ln)
  · rw [findExported_of_export (hnone hn) (hexp hn)]
    exact resolveRef_of_findLocal hfind

/-- The table `D` hosts, at `P`, the declaration file `F` printed for the checked schema `doc`: what every closed form
    below assumes of its environment. -/
structure Hosting (c : Cfg) (doc : TsDoc) (F : File) (D : Decls) (P : Scope) : Prop where
  file : schemaFile c doc = .ok F
  ok : DocOK c doc
  hosted : Hosted D P F

theorem Hosting.ofFile {c : Cfg} {doc : TsDoc} {F : File} (hF : schemaFile c doc = .ok F) (ok : DocOK c doc) :
    Hosting c doc F (Decls.ofFile F) [] :=
  ⟨hF, ok, hosted_ofFile F⟩

theorem Hosting.ofFiles {c : Cfg} {doc : TsDoc} {F : File} (hF : schemaFile c doc = .ok F) (ok : DocOK c doc)
    {main : File} {m A : String} (hflat : main.all (fun s => !s.isNamespace) = true)
    (himp : starImports main = [(m, A)]) : Hosting c doc F (Decls.ofFiles main [(m, F)]) [A] :=
  ⟨hF, ok, hosted_ofFiles main m A F hflat himp⟩

section hosted
variable {c : Cfg} {doc : TsDoc} {F : File} (hF : schemaFile c doc = .ok F) (ok : DocOK c doc)
variable {D : Decls} {P : Scope} (H : Hosted D P F) (X : Hosting c doc F D P)

include ok in
theorem lname_inj {a b : TypeDef} (ha : a ∈ typeDefsOf doc) (hb : b ∈ typeDefsOf doc)
    (h : lname c doc a.name = lname c doc b.name) : a = b :=
  -- the arguments are written out: left to unification, `lname … = lname …` against `localName ?i ?a = localName ?i ?b`
  -- unfolds the scalar table
  eq_of_key_eq_of_nodup (·.name) ok.distinct ha hb
    (localName_inj (bag (scalarTypes c doc)) a.name b.name (ok.names a ha) (ok.names b hb) h)

include hF in
theorem decl_name_cases (d : Decl) (hd : d ∈ Stmt.declsList P F) :
    d.name ∈ preludeNames ∨ ∃ td ∈ typeDefsOf doc, d.name = lname c doc td.name := by
  rcases decls_schemaFile hF P d hd with ⟨_, h | ⟨td, htd, rfl⟩⟩ | ⟨t, td, htd, ty, _, rfl⟩
  · exact Or.inl h
  · exact Or.inr ⟨td, htd, rfl⟩
  · exact Or.inr ⟨td, htd, rfl⟩

include hF ok in
theorem bag_not_decl {i : String} (hi : i ∈ bag (scalarTypes c doc)) : ∀ d ∈ Stmt.declsList P F, d.name ≠ i := by
  intro d hd e
  rcases decl_name_cases hF d hd with h | ⟨td, _, h⟩
  · exact (ok.bagOK i hi).2 (by rw [← e]; simp [reservedNames, h])
  · have hh : localName (bag (scalarTypes c doc)) td.name = i := h.symm.trans e
    exact localName_not_mem_bag _ (fun j hj => (ok.bagOK j hj).1) td.name (by rw [hh]; exact hi)

include hF ok in
theorem renamed_not_decl {td : TypeDef} (hm : td ∈ typeDefsOf doc) (hne : td.name ≠ lname c doc td.name) :
    ∀ d ∈ Stmt.declsList P F, d.name ≠ td.name := by
  intro d hd e
  rcases decl_name_cases hF d hd with h | ⟨a, ha, h⟩
  · exact ok.notPrelude td hm (e ▸ h)
  · rw [h] at e
    unfold lname localName at e hne
    split at e
    · have := ok.names td hm
      rw [← e, hasTmpPrefix_tmp] at this; cases this
    · rename_i hc
      rw [eq_of_key_eq_of_nodup (·.name) ok.distinct ha hm e] at hc
      exact hne (by rw [if_neg hc])

include H in
theorem hosted_findLocal_none {sc : Scope} {n : String} (hn : ∀ d ∈ Stmt.declsList P F, d.name ≠ n) :
    D.findLocal (P ++ sc) n = none := by
  rw [H.findLocal]
  apply List.find?_eq_none.2
  intro d hd
  simp only [isDeclAt, Bool.and_eq_true, beq_iff_eq, not_and]
  intro _ e; exact hn d hd e

include H in
theorem hosted_climb (a : String) :
    D.roots.contains (P ++ [a]) = false ∧ (P.isEmpty || D.roots.contains P) = true ∧ (P ++ [a]).isEmpty = false :=
  ⟨H.inner [a] (by simp), by rcases H.stop with rfl | h; exact rfl; simp only [h, Bool.or_true],
    by cases P <;> rfl⟩

include H in
theorem hosted_resolveRef_none (a n : String) (hn : ∀ d ∈ Stmt.declsList P F, d.name ≠ n) :
    D.resolveRef (P ++ [a]) n = none := by
  have h1 : D.findLocal (P ++ [a]) n = none := hosted_findLocal_none H hn
  have h2 : D.findLocal P n = none := by
    have := hosted_findLocal_none H (sc := []) hn
    simpa using this
  obtain ⟨h3, h4, h5⟩ := hosted_climb H a
  unfold Decls.resolveRef
  rw [show (P ++ [a]).length + 1 = (P.length + 1) + 1 by simp]
  simp only [Decls.resolveRefAux, h1, h3, h5, Bool.or_false, Bool.false_eq_true, if_false,
    List.dropLast_concat, h2, h4, if_true]

include X in
theorem hosted_nss_contains (sc : Scope) (hsc : sc ≠ []) :
    D.namespaces.contains (P ++ sc) = (Target.all.map fun t => P ++ [t.name]).contains (P ++ sc) := by
  rw [X.hosted.nss sc hsc, nss_schemaFile X.file P]

include X in
theorem hosted_resolveNs_none (a n : String) (hn : n ∉ targetNames) :
    D.resolveNsAux n ((P ++ [a]).length + 1) (P ++ [a]) = none := by
  have h1 : D.namespaces.contains (P ++ [a] ++ [n]) = false := by
    rw [List.append_assoc, hosted_nss_contains X _ (by simp)]
    simp [Target.all]
  have h2 : D.namespaces.contains (P ++ [n]) = false := by
    rw [hosted_nss_contains X _ (by simp)]
    simp only [targetNames, List.mem_map, not_exists, not_and] at hn
    rw [Bool.eq_false_iff]
    intro hc
    obtain ⟨t, ht, e⟩ := List.mem_map.1 (List.contains_iff_mem.1 hc)
    exact hn t ht (by simpa using e)
  obtain ⟨h3, h4, h5⟩ := hosted_climb X.hosted a
  rw [show (P ++ [a]).length + 1 = (P.length + 1) + 1 by simp]
  simp only [Decls.resolveNsAux, h1, h3, h5, Bool.or_false, Bool.false_eq_true, if_false,
    List.dropLast_concat, h2, h4, if_true]

include X in
theorem hosted_bag_unbound (t : Target) {i : String} (hi : i ∈ bag (scalarTypes c doc)) :
    Unbound D (P ++ [t.name]) i := by
  refine ⟨hosted_resolveRef_none X.hosted _ _ (bag_not_decl X.file X.ok hi), ?_⟩
  intro r rest
  have hn : i ∉ targetNames := fun h => (X.ok.bagOK i hi).2 (by simp [reservedNames, h])
  simp only [Decls.resolveQ, hosted_resolveNs_none X t.name i hn]

include H in
/-- A declaration `d` of `F` that is the only one of its scope `S` and local name `ln` is what `ln` denotes in `S`, and
    what `S` exports under `n`: directly if `n = ln`, else through the only export entry of `S` for `n`, no declaration
    bearing the name `n`. The alias of a type in a namespace and its representative at the top are the two instances. -/
theorem hosted_binds {sc S : Scope} (hS : S = P ++ sc) {n ln : String} {d : Decl} (hd : d ∈ Stmt.declsList P F)
    (hs : d.scope = S) (hn : d.name = ln) (hex : d.exported = (n == ln))
    (hu : ∀ x ∈ Stmt.declsList P F, x.scope = S → x.name = ln → x = d)
    (hnone : n ≠ ln → ∀ x ∈ Stmt.declsList P F, x.name ≠ n)
    (hexp : n ≠ ln → (S, ln, n) ∈ Stmt.exportsList P F ∧
      ∀ y ∈ Stmt.exportsList P F, y.1 = S → y.2.2 = n → y = (S, ln, n)) :
    D.findLocal S ln = some d ∧ D.findExported S n = some d := by
  subst hS
  have hfl : D.findLocal (P ++ sc) ln = some d := by
    rw [H.findLocal]
    refine find?_of_unique hd (by simp [isDeclAt, hs, hn]) fun x hx hp => ?_
    simp only [isDeclAt, Bool.and_eq_true, beq_iff_eq] at hp
    exact hu x hx hp.1 hp.2
  refine ⟨hfl, findExported_of_alias hfl hex (fun hne => ?_) fun hne => ?_⟩
  · rw [H.exported]
    exact List.find?_eq_none.2 fun x hx => by simp [hnone hne x hx]
  · rw [H.exports]
    refine find?_of_unique (hexp hne).1 (by simp [isExportAt]) fun y hy hp => ?_
    simp only [isExportAt, Bool.and_eq_true, beq_iff_eq] at hp
    exact (hexp hne).2 y hy hp.1 hp.2

include X in
theorem hosted_alias_binds (t : Target) {td : TypeDef} {ty : Ty} (hm : td ∈ typeDefsOf doc)
    (hb : body (Ctx.new c doc t) td = .ok (some ty)) :
    D.findLocal (P ++ [t.name]) (lname c doc td.name) = some (aliasDecl c doc P t td ty) ∧
      D.findExported (P ++ [t.name]) td.name = some (aliasDecl c doc P t td ty) :=
  hosted_binds X.hosted rfl (alias_mem X.file P t hm hb) rfl rfl rfl
    (alias_unique X.file P t hb fun _ ha e => lname_inj X.ok ha hm e) (fun hne => renamed_not_decl X.file X.ok hm hne)
    fun hne => export_entry X.file P hm hne (fun a ha e => eq_of_key_eq_of_nodup (·.name) X.ok.distinct ha hm e) _
      (Or.inr ⟨t, ty, rfl, hb⟩)

include X in
theorem hosted_resolveRef_hit (t : Target) {td : TypeDef} {ty : Ty} (hm : td ∈ typeDefsOf doc)
    (hb : body (Ctx.new c doc t) td = .ok (some ty)) :
    D.resolveRef (P ++ [t.name]) (lname c doc td.name) = some (aliasDecl c doc P t td ty) :=
  resolveRef_of_findLocal (hosted_alias_binds X t hm hb).1

include X in
theorem hosted_body (t : Target) {td : TypeDef} {ty : Ty} (hm : td ∈ typeDefsOf doc)
    (hb : body (Ctx.new c doc t) td = .ok (some ty)) :
    D.body? (P ++ [t.name] ++ [lname c doc td.name]) = some ([], globalise D (P ++ [t.name]) [] ty) :=
  body?_of_findLocal (hosted_alias_binds X t hm hb).1

include X in
theorem hosted_leaf (t : Target) {td : TypeDef} {ty : Ty} (hm : td ∈ typeDefsOf doc)
    (hb : body (Ctx.new c doc t) td = .ok (some ty)) :
    globalise D (P ++ [t.name]) [] ((Ctx.new c doc t).leaf td.name) = Ty.abs (P ++ [t.name]) (lname c doc td.name) :=
  globalise_of_resolveRef (hosted_resolveRef_hit X t hm hb)

theorem preludeNames_noTmp : ∀ n ∈ preludeNames, hasTmpPrefix n = false := by decide +kernel

include ok in
theorem lname_not_prelude {td : TypeDef} (hm : td ∈ typeDefsOf doc) : lname c doc td.name ∉ preludeNames := by
  unfold lname localName
  split
  · intro h
    have := preludeNames_noTmp _ h
    rw [hasTmpPrefix_tmp] at this; cases this
  · exact ok.notPrelude td hm

include X in
theorem hosted_rep_binds {td : TypeDef} (hm : td ∈ typeDefsOf doc) :
    D.findLocal P (lname c doc td.name) = some (repDecl c doc P td) ∧
      D.findExported P td.name = some (repDecl c doc P td) :=
  hosted_binds X.hosted (sc := []) (List.append_nil P).symm (rep_mem X.file P hm) rfl rfl rfl
    (rep_unique X.file P (lname_not_prelude X.ok hm) fun _ ha e => lname_inj X.ok ha hm e)
    (fun hne => renamed_not_decl X.file X.ok hm hne)
    fun hne => export_entry X.file P hm hne (fun a ha e => eq_of_key_eq_of_nodup (·.name) X.ok.distinct ha hm e) _ (Or.inl rfl)

include X in
theorem hosted_ns_mem (t : Target) : D.namespaces.contains (P ++ [t.name]) = true := by
  rw [hosted_nss_contains X [t.name] (by simp)]
  exact List.contains_iff_mem.2 (List.mem_map.2 ⟨t, Target.mem_all t, rfl⟩)

end hosted

end NitroVerif.SchemaDecls
