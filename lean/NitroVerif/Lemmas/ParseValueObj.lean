/-
Objects of the `Value` sub-language (helper lemmas for Props/C07 `render_parse_value`): a rule `Name ~ ":" ~ Value`
(`ObjectField`; `Argument` has the same body) with arbitrary trivia (`Ws`) at both gaps, and the `ObjectValue` rule on the
rendering of an object whose field values are known to parse: the bracketed sequence of `ParseValueList.lean` with
entries as items.
-/
import NitroVerif.Lemmas.ParseValueList
namespace NitroVerif.ValueParse
open NitroVerif.Peg NitroVerif.Gen NitroVerif.Build NitroVerif.TypeParse NitroVerif.StringParse NitroVerif.Gql

/-! ### positions inside a field written after a gap starting at `q` -/

/-- start of the name -/
def fQ0 (τ : Trivia) (q : Nat) (first : Bool) : Nat := q + (gapOf first (τ q)).length
/-- end of the name -/
def fQ1 (τ : Trivia) (q : Nat) (first : Bool) (k : Name) : Nat := fQ0 τ q first + k.toList.length
/-- after the colon -/
def fQ2 (τ : Trivia) (q : Nat) (first : Bool) (k : Name) : Nat := fQ1 τ q first k + (τ (fQ1 τ q first k)).length + 1
/-- start of the value -/
def fQ3 (τ : Trivia) (q : Nat) (first : Bool) (k : Name) : Nat := fQ2 τ q first k + (τ (fQ2 τ q first k)).length

theorem fieldsBody_cons (τ : Trivia) (q : Nat) (first : Bool) (k : Name) (pos : Pos) (v : Value)
    (fs : List (Name × Pos × Value)) :
    fieldsBody τ q first ((k, pos, v) :: fs) = gapOf first (τ q) ++ (k.toList ++ (τ (fQ1 τ q first k) ++ (':' ::
      (τ (fQ2 τ q first k) ++ (renderV τ (fQ3 τ q first k) v ++
        fieldsBody τ (fQ3 τ q first k + (renderV τ (fQ3 τ q first k) v).length) false fs))))) := by
  simp [fieldsBody, fQ0, fQ1, fQ2, fQ3]

/-- the `ObjectField` pair of `k: v` whose name starts at `q0` (`q1` end of the name, `q3` start of the value) -/
def fieldPair (τ : Trivia) (q0 q1 q3 : Nat) (v : Value) : Pair :=
  .mk R.ObjectField q0 (q3 + (renderV τ q3 v).length) [.mk R.Name q0 q1 [], valuePair τ q3 v]

theorem fieldPairs_cons (τ : Trivia) (q : Nat) (first : Bool) (k : Name) (pos : Pos) (v : Value)
    (fs : List (Name × Pos × Value)) :
    fieldPairs τ q first ((k, pos, v) :: fs) = fieldPair τ (fQ0 τ q first) (fQ1 τ q first k) (fQ3 τ q first k) v ::
      fieldPairs τ (fQ3 τ q first k + (renderV τ (fQ3 τ q first k) v).length) false fs := by
  simp [fieldPairs, fieldPair, valuePair, fQ0, fQ1, fQ2, fQ3]

/-- an entry `name gap ":" gap value` (object field, argument) whose name starts at the offset, as a pair of rule `r` -/
def entryKind (τ : Trivia) (r : RuleId) : ItemKind (Name × Pos × Value) where
  text q0 f :=
    let q1 := q0 + f.1.toList.length
    let q2 := q1 + (τ q1).length + 1
    f.1.toList ++ (τ q1 ++ (':' :: (τ q2 ++ renderV τ (q2 + (τ q2).length) f.2.2)))
  pair q0 f :=
    let q1 := q0 + f.1.toList.length
    let q2 := q1 + (τ q1).length + 1
    let q3 := q2 + (τ q2).length
    .mk r q0 (q3 + (renderV τ q3 f.2.2).length) [.mk R.Name q0 q1 [], valuePair τ q3 f.2.2]

abbrev fieldKind (τ : Trivia) : ItemKind (Name × Pos × Value) := entryKind τ R.ObjectField

/-- the end offset and the depth bounds in `entry_runs`, in the lengths of the name, the two gaps and the value -/
theorem fuel_field (q k g1 g2 t : Nat) :
    q + k + g1 + 1 + g2 + t = q + (k + (g1 + (g2 + t + 1))) ∧ k + 12 + 1 ≤ 60 * (k + g1 + g2 + t) + 156 + 1 ∧ g1 + 60 ≤ 60 * (k + g1 + g2 + t) + 156 + 1 ∧
      1 ≤ 60 * (k + g1 + g2 + t) + 156 ∧ g2 + 60 ≤ 60 * (k + g1 + g2 + t) + 156 ∧ B t + 1 ≤ 60 * (k + g1 + g2 + t) + 156 ∧
      60 * (k + g1 + g2 + t) + 156 + 1 + 1 + 1 ≤ B (k + (g1 + (g2 + t + 1))) := by
  simp only [B]; omega

theorem entry_runs {r : RuleId} (hl : gList.look r = some (.normal, .seq (.call R.Name) (.seq (.str [':']) (.call R.Value))))
    (hsp : ¬ (gList.ws = some r ∨ gList.cm = some r)) (τ : Trivia) (hτ : ∀ q, Ws (τ q)) (f : Name × Pos × Value)
    (hk : validName f.1.toList) (hwf : WFV f.2.2) (hv : ValRuns τ f.2.2) (q0 : Nat) (rest : List Char) (hend : ValEnd rest) :
    RunsRule gList (B ((entryKind τ r).text q0 f).length) r .nonAtomic ⟨q0, (entryKind τ r).text q0 f ++ rest⟩
      ⟨q0 + ((entryKind τ r).text q0 f).length, rest⟩ [(entryKind τ r).pair q0 f] := by
  obtain ⟨name, pos, v⟩ := f
  change validName name.toList at hk
  change WFV v at hwf
  change ValRuns τ v at hv
  simp only [entryKind]
  generalize name.toList = k at hk ⊢
  have hg1 := hτ (q0 + k.length)
  generalize τ (q0 + k.length) = g1 at hg1 ⊢
  have hg2 := hτ (q0 + k.length + g1.length + 1)
  generalize τ (q0 + k.length + g1.length + 1) = g2 at hg2 ⊢
  generalize ht : renderV τ (q0 + k.length + g1.length + 1 + g2.length) v = t
  -- the name
  have hnc : HeadNot nameCont (g1 ++ (':' :: (g2 ++ (t ++ rest)))) := by
    refine (valEnd_ws_append hg1 ?_).nameCont
    intro d r he hd
    cases he
    rcases hd with hd | hd | hd <;> first | exact absurd hd (by decide) | (revert hd; decide)
  have hname := runs_call (sk := true) (name_runs hk q0 _ hnc)
  have hs1 := skip_ws g1 hg1 (q0 + k.length) (':' :: (g2 ++ (t ++ rest))) (headNot_trivia_close (Or.inr (Or.inr (Or.inr rfl))))
  have hcolon : Runs gList 1 true (.str [':']) .nonAtomic ⟨q0 + k.length + g1.length, ':' :: (g2 ++ (t ++ rest))⟩
      ⟨q0 + k.length + g1.length + 1, g2 ++ (t ++ rest)⟩ [] :=
    runs_str (c := ⟨q0 + k.length + g1.length, ':' :: (g2 ++ (t ++ rest))⟩) (by simp [matchStr])
  have hs2 := skip_ws g2 hg2 (q0 + k.length + g1.length + 1) (t ++ rest) (ht ▸ renderV_headNot_trivia τ _ v hwf _)
  have hval := hv (q0 + k.length + g1.length + 1 + g2.length) rest hend
  rw [ht] at hval
  -- one common threshold for the leaves
  obtain ⟨b0, b1, b2, b3, b4, b5, b6⟩ := fuel_field q0 k.length g1.length g2.length t.length
  have := runsRule_normal hl hsp
    (runs_seq_skip (hname.mono b1) (hs1.mono b2)
      (runs_seq_skip (hcolon.mono b3) (hs2.mono b4) ((runs_call (sk := true) hval).mono b5)))
  have hlen : q0 + k.length + g1.length + 1 + g2.length + t.length = q0 + (k ++ (g1 ++ ':' :: (g2 ++ t))).length := by
    simp only [List.length_append, List.length_cons]; exact b0
  refine RunsRule.cast (this.mono ?_) (by simp only [List.append_assoc, List.cons_append]) (by rw [hlen])
    (by simp [valuePair, ht, hlen])
  simp only [List.length_append, List.length_cons]
  exact b6

theorem entry_fails_close {r : RuleId} (hl : gList.look r = some (.normal, .seq (.call R.Name) (.seq (.str [':']) (.call R.Value))))
    (hsp : ¬ (gList.ws = some r ∨ gList.cm = some r)) {close : Char} (hclose : ¬ nameStart close) {p : Nat}
    {rest : List Char} : FailsRule gList 12 r .nonAtomic ⟨p, close :: rest⟩ :=
  (failsRule_normal hl hsp (fails_seq_first (fails_call (name_fails (headNot_cons hclose _))))).mono (by omega)

theorem items_entries (τ : Trivia) {r : RuleId} {ps : Nat → Bool → List (Name × Pos × Value) → List Pair}
    (hnil : ∀ q first, ps q first [] = [])
    (hcons : ∀ q first k pos v fs, ps q first ((k, pos, v) :: fs) =
      .mk r (fQ0 τ q first) (fQ3 τ q first k + (renderV τ (fQ3 τ q first k) v).length)
        [.mk R.Name (fQ0 τ q first) (fQ1 τ q first k) [], valuePair τ (fQ3 τ q first k) v] ::
      ps (fQ3 τ q first k + (renderV τ (fQ3 τ q first k) v).length) false fs) :
    ∀ (fs : List (Name × Pos × Value)) (q : Nat) (first : Bool),
    ∃ q', Items τ (entryKind τ r) q first fs (fieldsBody τ q first fs) (ps q first fs) q'
  | [], q, first => by rw [fieldsBody, hnil]; exact ⟨q, .nil q first⟩
  | (k, pos, v) :: fs, q, first => by
    obtain ⟨q', h⟩ := items_entries τ hnil hcons fs (fQ3 τ q first k + (renderV τ (fQ3 τ q first k) v).length) false
    have hpos : fQ3 τ q first k + (renderV τ (fQ3 τ q first k) v).length =
        q + (gapOf first (τ q)).length + ((entryKind τ r).text (q + (gapOf first (τ q)).length) (k, pos, v)).length := by
      simp only [entryKind, fQ3, fQ2, fQ1, fQ0, List.length_append, List.length_cons]; omega
    rw [fieldsBody_cons, hcons]
    rw [hpos] at h
    have := Items.cons (x := (k, pos, v)) rfl rfl h
    rw [← hpos] at this
    simp only [entryKind, fQ3, fQ2, fQ1, fQ0, List.append_assoc, List.cons_append] at this ⊢
    exact ⟨q', this⟩

theorem items_fields (τ : Trivia) (fs : List (Name × Pos × Value)) (q : Nat) (first : Bool) :
    ∃ q', Items τ (fieldKind τ) q first fs (fieldsBody τ q first fs) (fieldPairs τ q first fs) q' :=
  items_entries τ (fun _ _ => by rw [fieldPairs]) (fieldPairs_cons τ) fs q first

/-- hypotheses on the fields: valid names, well-formed values that parse -/
abbrev FieldsOk (τ : Trivia) (fs : List (Name × Pos × Value)) : Prop :=
  ∀ f ∈ fs, validName f.1.toList ∧ WFV f.2.2 ∧ ValRuns τ f.2.2

theorem entryKind_ok {r : RuleId} (hl : gList.look r = some (.normal, .seq (.call R.Name) (.seq (.str [':']) (.call R.Value))))
    (hsp : ¬ (gList.ws = some r ∨ gList.cm = some r)) (τ : Trivia) (hτ : ∀ q, Ws (τ q)) {close : Char}
    (hclose : ¬ nameStart close) {f : Name × Pos × Value} (hk : validName f.1.toList) (hwf : WFV f.2.2)
    (hv : ValRuns τ f.2.2) : ItemOk (entryKind τ r) (.call r) close f := by
  obtain ⟨d, ds, hkl⟩ : ∃ d ds, f.1.toList = d :: ds := by
    cases hkl : f.1.toList with
    | nil => rw [hkl] at hk; exact absurd hk id
    | cons d ds => exact ⟨d, ds, rfl⟩
  have hd : nameStart d := by rw [hkl] at hk; exact hk.1
  refine ⟨fun q y => ?_, fun q y => ?_, fun q rest hr => ?_⟩
  · simp only [entryKind, hkl, List.cons_append]
    exact headNot_cons (nameStart_not_trivia hd) _
  · simp only [entryKind, hkl, List.cons_append]
    exact headNot_cons (by rintro rfl; exact hclose hd) _
  · exact runs_call (sk := true) (entry_runs hl hsp τ hτ f hk hwf hv q rest hr)

theorem value_obj (τ : Trivia) (hτ : ∀ q, Ws (τ q)) (fs : List (Name × Pos × Value)) (pos : Pos)
    (hfs : FieldsOk τ fs) : ValRuns τ (.obj fs pos) := by
  intro p rest _
  obtain ⟨q', hit⟩ := items_fields τ fs (p + 1) true
  obtain rfl := hit.end_eq
  have hL : (renderV τ p (.obj fs pos)).length =
      (fieldsBody τ (p + 1) true fs).length + (τ (p + 1 + (fieldsBody τ (p + 1) true fs).length)).length + 2 := by
    simp only [renderV, List.length_cons, List.length_append, List.length_nil]; omega
  have etext : renderV τ p (.obj fs pos) ++ rest = '{' :: (fieldsBody τ (p + 1) true fs ++
      (τ (p + 1 + (fieldsBody τ (p + 1) true fs).length) ++ '}' :: rest)) := by simp [renderV]
  rw [etext]
  have hov := runsRule_normal look_ObjectValue (notSpecial (by decide) (by decide))
    (hit.bracket (o := '{') hτ (Or.inr (Or.inl rfl))
      (fun p r => (fails_call (sk := true) (entry_fails_close look_ObjectField (notSpecial (by decide) (by decide)) (by decide)
        (p := p) (rest := r))).mono (by decide))
      (fun f hf => entryKind_ok look_ObjectField (notSpecial (by decide) (by decide)) τ hτ (by decide) (hfs f hf).1 (hfs f hf).2.1
        (hfs f hf).2.2) rest)
  rw [← hL] at hov
  have h21 : ∀ k, 21 ≤ 60 * (renderV τ p (.obj fs pos)).length + 79 + k := fun k =>
    Nat.le_trans (Nat.le_trans (by decide) (Nat.le_add_left 79 _)) (Nat.le_add_right _ k)
  have := value_bracketed (.inr rfl) (h21 3) (runs_choice_r ((first_fails (k := 5) (by decide)
    (headNot_cons (P := (· = '[')) (by decide) _)).mono (Nat.le_trans (by decide) (h21 2))) (runs_call (sk := true) hov))
  have hend : p + 1 + (fieldsBody τ (p + 1) true fs).length + (τ (p + 1 + (fieldsBody τ (p + 1) true fs).length)).length + 1 =
      p + (renderV τ p (.obj fs pos)).length := by omega
  refine RunsRule.cast (this.mono ?_) rfl (by rw [← hend]) (by simp only [valuePair, innerV, hend])
  simp only [B]; omega

end NitroVerif.ValueParse
