/-
For `C15_schema_eq`, after the reader of `Lemmas/Introspect.lean`: the schema of the JSON route read back from the
specification's introspection result and the schema of the SDL route answer every lookup alike.
-/
import NitroVerif.Lemmas.Introspect
import NitroVerif.Model.CliSchema
namespace NitroVerif.Routes
open NitroVerif NitroVerif.Gql NitroVerif.SchemaIR NitroVerif.AstSchema NitroVerif.IntrospectSpec NitroVerif.CliSchema

/-! ### `ast_to_type_system` as a function of the three kinds of definitions -/

theorem extendTypes_cons (acc : List ITypeDef) (x : ITypeDef) (r : List ITypeDef) :
    extendTypes acc (x :: r) = extendTypes (extendTypes acc [x]) r :=
  extendTypes_append acc [x] r

theorem extendDirectives_cons (acc : List IDirectiveDef) (x : IDirectiveDef) (r : List IDirectiveDef) :
    extendDirectives acc (x :: r) = extendDirectives (extendDirectives acc [x]) r := by
  rw [extendDirectives_eq, extendDirectives_eq, extendDirectives_eq]
  exact extendBy_append (·.name) acc [x] r

@[simp] theorem userTypes_schemaDef (d) (r : TsDoc) : userTypes (TsItem.schemaDef d :: r) = userTypes r := rfl
@[simp] theorem userDirectives_schemaDef (d) (r : TsDoc) : userDirectives (TsItem.schemaDef d :: r) = userDirectives r := rfl
@[simp] theorem schemaDefs_schemaDef (d) (r : TsDoc) : schemaDefs (TsItem.schemaDef d :: r) = d :: schemaDefs r := rfl
@[simp] theorem userTypes_typeDef (t) (r : TsDoc) : userTypes (TsItem.typeDef t :: r) = convTypeDef t :: userTypes r := rfl
@[simp] theorem userDirectives_typeDef (t) (r : TsDoc) : userDirectives (TsItem.typeDef t :: r) = userDirectives r := rfl
@[simp] theorem schemaDefs_typeDef (t) (r : TsDoc) : schemaDefs (TsItem.typeDef t :: r) = schemaDefs r := rfl
@[simp] theorem userTypes_directiveDef (d) (r : TsDoc) : userTypes (TsItem.directiveDef d :: r) = userTypes r := rfl
@[simp] theorem userDirectives_directiveDef (d) (r : TsDoc) : userDirectives (TsItem.directiveDef d :: r) = convDirectiveDef d :: userDirectives r := rfl
@[simp] theorem schemaDefs_directiveDef (d) (r : TsDoc) : schemaDefs (TsItem.directiveDef d :: r) = schemaDefs r := rfl
@[simp] theorem userTypes_schemaExt (d) (r : TsDoc) : userTypes (TsItem.schemaExt d :: r) = userTypes r := rfl
@[simp] theorem userDirectives_schemaExt (d) (r : TsDoc) : userDirectives (TsItem.schemaExt d :: r) = userDirectives r := rfl
@[simp] theorem schemaDefs_schemaExt (d) (r : TsDoc) : schemaDefs (TsItem.schemaExt d :: r) = schemaDefs r := rfl
@[simp] theorem userTypes_typeExt (t) (r : TsDoc) : userTypes (TsItem.typeExt t :: r) = userTypes r := rfl
@[simp] theorem userDirectives_typeExt (t) (r : TsDoc) : userDirectives (TsItem.typeExt t :: r) = userDirectives r := rfl
@[simp] theorem schemaDefs_typeExt (t) (r : TsDoc) : schemaDefs (TsItem.typeExt t :: r) = schemaDefs r := rfl
@[simp] theorem userTypes_nil : userTypes [] = [] := rfl
@[simp] theorem userDirectives_nil : userDirectives [] = [] := rfl
@[simp] theorem schemaDefs_nil : schemaDefs [] = [] := rfl

def foldRoots (r : Roots) (ds : List SchemaDef) : Roots := ds.foldl (fun r d => setRoots r d.roots) r

theorem foldl_step_components (doc : TsDoc) (b : B) :
    (doc.foldl step b).s.types = extendTypes b.s.types (userTypes doc) ∧
    (doc.foldl step b).s.directives = extendDirectives b.s.directives (userDirectives doc) ∧
    (doc.foldl step b).s.roots = foldRoots b.s.roots (schemaDefs doc) ∧
    (doc.foldl step b).s.explicitRoots =
      (if b.rootsNode then b.s.explicitRoots else
        match schemaDefs doc with
        | [] => b.s.explicitRoots
        | d :: _ => !d.pos.builtin) := by
  induction doc generalizing b with
  | nil => simp [foldRoots, extendTypes, extendDirectives]
  | cons item rest ih =>
    simp only [List.foldl_cons]
    obtain ⟨h1, h2, h3, h4⟩ := ih (step b item)
    rw [h1, h2, h3, h4]
    cases item with
    | schemaDef d =>
      cases hd : d.desc <;> cases hn : b.rootsNode <;> simp [step, hd, hn, foldRoots]
    | typeDef t => simp [step, foldRoots, extendTypes]
    | directiveDef d => simp [step, foldRoots, extendDirectives]
    | schemaExt d => simp [step] <;> rfl
    | typeExt t => simp [step] <;> rfl

theorem astToSchema_types (doc : TsDoc) : (astToSchema doc).types = extendTypes [] (userTypes doc) :=
  (foldl_step_components doc {}).1
theorem astToSchema_directives (doc : TsDoc) :
    (astToSchema doc).directives = extendDirectives [] (userDirectives doc) := (foldl_step_components doc {}).2.1
theorem astToSchema_roots (doc : TsDoc) : (astToSchema doc).roots = foldRoots {} (schemaDefs doc) :=
  (foldl_step_components doc {}).2.2.1
theorem astToSchema_explicit (doc : TsDoc) :
    (astToSchema doc).explicitRoots = (match schemaDefs doc with | [] => false | d :: _ => !d.pos.builtin) := by
  have := (foldl_step_components doc {}).2.2.2
  simpa [astToSchema] using this

/-- the schema of the JSON route for the specification's introspection result of `M` -/
def jsonSide (M : TsDoc) : Schema := addBuiltinScalars (Introspect.readBack (specSchema M))

theorem userTypes_append (a b : TsDoc) : userTypes (a ++ b) = userTypes a ++ userTypes b := by
  simp [userTypes, List.filterMap_append]
theorem userDirectives_append (a b : TsDoc) : userDirectives (a ++ b) = userDirectives a ++ userDirectives b := by
  simp [userDirectives, List.filterMap_append]
theorem schemaDefs_append (a b : TsDoc) : schemaDefs (a ++ b) = schemaDefs a ++ schemaDefs b := by
  simp [schemaDefs, List.filterMap_append]

theorem userTypes_builtins : userTypes builtins = builtinScalarDefs := rfl
theorem schemaDefs_builtins : schemaDefs builtins = [] := rfl

/-- the directive definitions the SDL route appends -/
def sdlDirectives : List IDirectiveDef := userDirectives builtins

theorem cleanType_name (t : ITypeDef) : (cleanType t).name = t.name := by
  cases t with | mk kind name desc fields interfaces possible members inputs =>
  cases kind <;> rfl

theorem cleanType_convTypeDef (t : TypeDef) : cleanType (convTypeDef t) = convTypeDef t := by
  cases h : t.kind <;> simp [convTypeDef, cleanType, h]

theorem userTypes_clean (M : TsDoc) : ∀ t ∈ userTypes M, cleanType t = t := by
  intro t ht
  simp only [userTypes, List.mem_filterMap] at ht
  obtain ⟨item, _, hi⟩ := ht
  cases item <;> simp at hi
  subst hi
  exact cleanType_convTypeDef _

theorem map_clean_userTypes (M : TsDoc) : (userTypes M).map cleanType = userTypes M := by
  conv => rhs; rw [← List.map_id (userTypes M)]
  exact List.map_congr_left fun t ht => by simpa using userTypes_clean M t ht

/-- the non-user part of the types the specification lists: referenced built-in scalars and `__*` types -/
def specExtra (M : TsDoc) : List ITypeDef :=
  (referencedBuiltins (userTypes M ++ introspectionTypes) (builtinDirectives ++ userDirectives M)).map cleanType
    ++ introspectionTypes.map cleanType

theorem jsonSide_types (M : TsDoc) :
    (jsonSide M).types = extendTypes (extendTypes [] (userTypes M ++ specExtra M)) builtinScalarDefs := by
  simp [jsonSide, addBuiltinScalars, Introspect.readBack, specSchema, specExtra, map_clean_userTypes, List.map_append]

theorem routeSdl_types (M : TsDoc) :
    (routeSdl M).types = extendTypes [] (userTypes M ++ builtinScalarDefs) := by
  simp [routeSdl, astToSchema_types, userTypes_append, userTypes_builtins]

theorem jsonSide_mem_cases (M : TsDoc) (t : ITypeDef) (ht : t ∈ (jsonSide M).types) :
    t ∈ userTypes M ∨ t ∈ builtinScalarDefs ∨ t ∈ introspectionTypes.map cleanType := by
  rw [jsonSide_types] at ht
  rcases mem_extendTypes _ _ t ht with h' | h'
  · rcases mem_extendTypes _ _ t h' with h'' | h''
    · cases h''
    · rcases List.mem_append.mp h'' with h3 | h3
      · exact Or.inl h3
      · simp only [specExtra, List.mem_append] at h3
        rcases h3 with h4 | h4
        · simp only [referencedBuiltins, List.map_map, List.mem_map, List.mem_filter, Function.comp_def] at h4
          obtain ⟨b, ⟨hbm, _⟩, rfl⟩ := h4
          refine Or.inr (Or.inl ?_)
          simp only [builtinScalarDefs, List.mem_map]
          exact ⟨b, hbm, rfl⟩
        · exact Or.inr (Or.inr h4)
  · exact Or.inr (Or.inl h')

theorem introspectionTypes_facts :
    ∀ t ∈ introspectionTypes.map cleanType, isIntrospectionName t.name = true ∧ t.interfaces = [] := by
  decide +kernel

theorem introspectionTypes_names : ∀ t ∈ introspectionTypes.map cleanType, isIntrospectionName t.name = true :=
  fun t h => (introspectionTypes_facts t h).1

theorem introspectionTypes_no_interfaces : ∀ t ∈ introspectionTypes.map cleanType, t.interfaces = [] :=
  fun t h => (introspectionTypes_facts t h).2

theorem builtin_find : ∀ b ∈ builtinScalarNames,
    builtinScalarDefs.find? (·.name == b) = some { kind := .scalar, name := b } := by decide +kernel

theorem specExtra_find (M : TsDoc) (n : String) (hn : isIntrospectionName n = false) (t : ITypeDef)
    (h : (specExtra M).find? (·.name == n) = some t) : builtinScalarDefs.find? (·.name == n) = some t := by
  have hmem := List.mem_of_find?_eq_some h
  have hname : t.name = n := by simpa using List.find?_some h
  simp only [specExtra, List.mem_append] at hmem
  rcases hmem with hm | hm
  · simp only [referencedBuiltins, List.map_map, List.mem_map, List.mem_filter, Function.comp_def] at hm
    obtain ⟨b, ⟨hb, _⟩, rfl⟩ := hm
    have : n = b := by rw [← hname]; rfl
    subst this
    exact builtin_find n hb
  · have := introspectionTypes_names t hm
    rw [hname, hn] at this
    exact absurd this (by simp)

theorem typeDef?_jsonSide (M : TsDoc) (n : String) (hn : isIntrospectionName n = false) :
    (jsonSide M).typeDef? n = ((userTypes M).find? (·.name == n)).or (builtinScalarDefs.find? (·.name == n)) := by
  simp only [Schema.typeDef?, jsonSide_types, find?_extendTypes, List.nil_append, List.find?_append]
  cases hu : (userTypes M).find? (·.name == n) with
  | some t => simp
  | none =>
    cases hx : (specExtra M).find? (·.name == n) with
    | none => simp
    | some t => simp [specExtra_find M n hn t hx]

theorem typeDef?_routeSdl (M : TsDoc) (n : String) :
    (routeSdl M).typeDef? n = ((userTypes M).find? (·.name == n)).or (builtinScalarDefs.find? (·.name == n)) := by
  simp only [Schema.typeDef?, routeSdl_types, find?_extendTypes, List.nil_append, List.find?_append]

/-- lookup of a type by name: the same definition on both routes (no hypothesis on `M`) -/
theorem viewType_routes (M : TsDoc) (n : String) : viewType (jsonSide M) n = viewType (routeSdl M) n := by
  simp only [viewType]
  cases hn : isIntrospectionName n with
  | true => simp
  | false => simp [typeDef?_jsonSide M n hn, typeDef?_routeSdl]

def builtinDirectiveNames : List String := ["skip", "include", "deprecated", "specifiedBy"]

theorem builtinDirectives_names : builtinDirectives.map (·.name) = builtinDirectiveNames := rfl
theorem sdlDirectives_names : sdlDirectives.map (·.name) = builtinDirectiveNames ++ ["nitrogql_ts_type"] := rfl

/-- the four built-in directives are defined alike (after erasure) by the specification and by `generate_builtins()` -/
theorem builtinDirectives_agree : ∀ n ∈ builtinDirectiveNames,
    (builtinDirectives.find? (·.name == n)).isSome = true ∧
    (builtinDirectives.find? (·.name == n)).map eraseDirective
      = (sdlDirectives.find? (·.name == n)).map eraseDirective := by decide +kernel

theorem jsonSide_directives (M : TsDoc) :
    (jsonSide M).directives = extendDirectives [] (builtinDirectives ++ userDirectives M) := by
  simp [jsonSide, addBuiltinScalars, Introspect.readBack, specSchema]

theorem routeSdl_directives (M : TsDoc) :
    (routeSdl M).directives = extendDirectives [] (userDirectives M ++ sdlDirectives) := by
  simp [routeSdl, astToSchema_directives, userDirectives_append, sdlDirectives]

theorem viewDirective_routes (M : TsDoc) (hd : ∀ d ∈ userDirectives M, d.name ∉ builtinDirectiveNames) (n : String) :
    viewDirective (jsonSide M) n = viewDirective (routeSdl M) n := by
  simp only [viewDirective]
  cases hn : isNitrogqlDirective n with
  | true => simp
  | false =>
    simp only [Schema.directiveDef?, jsonSide_directives, routeSdl_directives, find?_extendDirectives,
      List.nil_append, List.find?_append]
    by_cases hb : n ∈ builtinDirectiveNames
    · have hu : (userDirectives M).find? (·.name == n) = none := by
        simp only [List.find?_eq_none]
        intro d hdm hdn
        have : d.name = n := by simpa using hdn
        exact hd d hdm (this ▸ hb)
      obtain ⟨hsome, hag⟩ := builtinDirectives_agree n hb
      cases hf : builtinDirectives.find? (·.name == n) with
      | none => simp [hf] at hsome
      | some d => simpa [hu, hf] using hag
    · have h1 : builtinDirectives.find? (·.name == n) = none :=
        find?_name_none (by rw [builtinDirectives_names]; exact hb)
      have h2 : sdlDirectives.find? (·.name == n) = none := by
        apply find?_name_none
        rw [sdlDirectives_names]
        simp only [List.mem_append, List.mem_singleton, not_or]
        refine ⟨hb, fun h => ?_⟩
        simp [isNitrogqlDirective, h] at hn
      simp [h1, h2]

/-! ### root operation types -/

theorem jsonSide_roots (M : TsDoc) : (jsonSide M).roots = specRoots M ∧ (jsonSide M).explicitRoots = false := by
  simp [jsonSide, addBuiltinScalars, Introspect.readBack, specSchema]

theorem routeSdl_roots (M : TsDoc) :
    (routeSdl M).roots = foldRoots {} (schemaDefs M) ∧
    (routeSdl M).explicitRoots = (match schemaDefs M with | [] => false | d :: _ => !d.pos.builtin) := by
  simp [routeSdl, astToSchema_roots, astToSchema_explicit, schemaDefs_append, schemaDefs_builtins]

theorem default_names_facts : ∀ k ∈ allOpK,
    isIntrospectionName (Schema.defaultRootName k) = false ∧
    builtinScalarDefs.find? (·.name == Schema.defaultRootName k) = none := by decide +kernel

theorem specRoots_default_get (M : TsDoc) (h : schemaDefs M = []) (k : OpK) :
    (specRoots M).get k = defaultRoot (userTypes M) (Schema.defaultRootName k) := by
  cases k <;> simp [specRoots, h, Roots.get, Schema.defaultRootName]

theorem specRoots_eq_foldRoots (M : TsDoc) (h1 : (schemaDefs M).length ≤ 1) (hne : schemaDefs M ≠ []) :
    specRoots M = foldRoots {} (schemaDefs M) := by
  cases hs : schemaDefs M with
  | nil => exact absurd hs hne
  | cons d rest =>
    cases rest with
    | nil => simp only [specRoots, hs, foldRoots, List.foldl_cons, List.foldl_nil]
    | cons _ _ => rw [hs] at h1; simp at h1

theorem viewRoot_routes (M : TsDoc) (q : String) (hq : (specRoots M).query = some q)
    (h1 : (schemaDefs M).length ≤ 1)
    (hobj : schemaDefs M = [] → ∀ k t, (userTypes M).find? (·.name == Schema.defaultRootName k) = some t → t.kind = .object)
    (k : OpK) : viewRoot (jsonSide M) k = viewRoot (routeSdl M) k := by
  have hv : viewType (jsonSide M) = viewType (routeSdl M) := funext (viewType_routes M)
  obtain ⟨hjr, hje⟩ := jsonSide_roots M
  obtain ⟨hsr, hse⟩ := routeSdl_roots M
  simp only [viewRoot, hv]
  have hjname : (jsonSide M).rootName k = (specRoots M).get k := by
    simp [Schema.rootName, Schema.rootsDeclared, hjr, hje, hq]
  rw [hjname]
  cases hs : schemaDefs M with
  | cons d rest =>
    have hroots : (routeSdl M).roots = specRoots M := by
      rw [hsr, specRoots_eq_foldRoots M h1 (by rw [hs]; exact List.cons_ne_nil d rest)]
    have hsname : (routeSdl M).rootName k = (specRoots M).get k := by
      simp [Schema.rootName, Schema.rootsDeclared, hroots, hq]
    rw [hsname]
  | nil =>
    have hsname : (routeSdl M).rootName k = some (Schema.defaultRootName k) := by
      simp [Schema.rootName, Schema.rootsDeclared, hsr, hse, hs, foldRoots]
    rw [hsname, specRoots_default_get M hs k]
    simp only [defaultRoot]
    split
    · rfl
    · rename_i hany
      obtain ⟨hi, hb⟩ := default_names_facts k (by cases k <;> simp [allOpK])
      have hu : (userTypes M).find? (·.name == Schema.defaultRootName k) = none := by
        cases hf : (userTypes M).find? (·.name == Schema.defaultRootName k) with
        | none => rfl
        | some t =>
          exfalso
          apply hany
          rw [List.any_eq_true]
          refine ⟨t, List.mem_of_find?_eq_some hf, ?_⟩
          have hn := List.find?_some hf
          have hk := hobj hs k t hf
          simp [hk] at hn ⊢
          exact hn
      simp [viewType, hi, typeDef?_routeSdl, hu, hb]

/-! ### implementers of an interface -/

def isImplementerI (i : String) (t : ITypeDef) : Bool := t.kind == .object && t.interfaces.contains i

theorem cleanType_kind (t : ITypeDef) : (cleanType t).kind = t.kind := by
  cases t with | mk kind name desc fields interfaces possible members inputs =>
  cases kind <;> rfl

theorem isImplementerI_builtinScalarDefs (i : String) : ∀ t ∈ builtinScalarDefs, isImplementerI i t = false := by
  intro t ht
  simp only [builtinScalarDefs, List.mem_map] at ht
  obtain ⟨b, _, rfl⟩ := ht
  simp [isImplementerI]

theorem isImplementerI_specExtra (M : TsDoc) (i : String) : ∀ t ∈ specExtra M, isImplementerI i t = false := by
  intro t ht
  simp only [specExtra, List.mem_append] at ht
  rcases ht with hm | hm
  · simp only [referencedBuiltins, List.map_map, List.mem_map, Function.comp_def] at hm
    obtain ⟨b, _, rfl⟩ := hm
    simp [isImplementerI, cleanType_kind]
  · simp [isImplementerI, introspectionTypes_no_interfaces t hm]

/-- object types implementing `i` come from `M` only: neither route's additions pass the filter -/
theorem jsonSide_filter_isImplementerI (M : TsDoc) (hn : ((userTypes M).map (·.name)).Nodup) (i : String) :
    (jsonSide M).types.filter (isImplementerI i) = (userTypes M).filter (isImplementerI i) := by
  rw [jsonSide_types, filter_extendTypes _ _ _ (isImplementerI_builtinScalarDefs i), extendTypes_append,
    filter_extendTypes _ _ _ (isImplementerI_specExtra M i), extendTypes_nil_nodup _ hn]

theorem routeSdl_filter_isImplementerI (M : TsDoc) (hn : ((userTypes M).map (·.name)).Nodup) (i : String) :
    (routeSdl M).types.filter (isImplementerI i) = (userTypes M).filter (isImplementerI i) := by
  rw [routeSdl_types, extendTypes_append, filter_extendTypes _ _ _ (isImplementerI_builtinScalarDefs i),
    extendTypes_nil_nodup _ hn]

theorem objectImplementers_eq (s : Schema) (i : String) :
    s.objectImplementers i = (s.types.filter (isImplementerI i)).map (·.name) := rfl

theorem objectImplementers_routes (M : TsDoc) (hn : ((userTypes M).map (·.name)).Nodup) (i : String) :
    (jsonSide M).objectImplementers i = (routeSdl M).objectImplementers i := by
  rw [objectImplementers_eq, objectImplementers_eq, jsonSide_filter_isImplementerI M hn, routeSdl_filter_isImplementerI M hn]

theorem implementsB_routes (M : TsDoc) (hn : ((userTypes M).map (·.name)).Nodup) (i o : String) :
    implementsB (jsonSide M) i o = implementsB (routeSdl M) i o := by
  simp only [implementsB, objectImplementers_routes M hn i]

/-! ### validity hypotheses and the assembled equivalence -/

/-- what `C15_schema_eq` needs of a resolved type-system document (all decidable).  Hypotheses: that a document accepted
    by `check_type_system_document` with a query root satisfies them is not derived (OPEN block of `Props/C15.lean`) -/
structure ValidResolved (M : TsDoc) : Prop where
  typeNames : ((userTypes M).map (·.name)).Nodup
  directives : ∀ d ∈ userDirectives M, d.name ∉ builtinDirectiveNames
  oneSchemaDef : (schemaDefs M).length ≤ 1
  /-- the schema has a query root (listed by the schema definition, or an object type `Query`) -/
  query : (specRoots M).query.isSome = true
  /-- without a schema definition, a type named like a default root is an object type -/
  defaultRoots : schemaDefs M = [] →
    ∀ t ∈ userTypes M, t.name ∈ ["Query", "Mutation", "Subscription"] → t.kind = .object

theorem routes_equiv (M : TsDoc) (h : ValidResolved M) : jsonSide M ≃ routeSdl M := by
  obtain ⟨q, hq⟩ := Option.isSome_iff_exists.mp h.query
  refine ⟨viewType_routes M, viewDirective_routes M h.directives, viewRoot_routes M q hq h.oneSchemaDef ?_,
    implementsB_routes M h.typeNames⟩
  intro hs k t hf
  refine h.defaultRoots hs t (List.mem_of_find?_eq_some hf) ?_
  have hn : t.name = Schema.defaultRootName k := by simpa using List.find?_some hf
  rw [hn]
  cases k <;> simp [Schema.defaultRootName]

theorem routeJson_spec (M : TsDoc) (q : String) (hq : (specRoots M).query = some q) :
    routeJson (introspectSpec M) = .ok (jsonSide M) := by
  have hq' : (specSchema M).roots.query = some q := by simpa [specSchema] using hq
  simp only [routeJson, introspectSpec, Introspect.fromIntrospection_encode (specSchema M) _ q hq', jsonSide]

end NitroVerif.Routes
