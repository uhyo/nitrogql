/-
C01/C02 closed forms: the operation declaration file as far as the model has it (`OpTypes.opDecls`: the Result / fragment
type statements) behind the import of the schema declaration file, and the link between `resultTree` and `opDecls`.
-/
import NitroVerif.Lemmas.OpTypesClosedDoc
import NitroVerif.Lemmas.OpTypesClosedHyp
namespace NitroVerif.OpTypes.Closed
open NitroVerif.Gql NitroVerif.Ts NitroVerif.OpTypes

/-- the `type … = …;` statement of one result-type declaration (a panicking declaration prints nothing) -/
def declStmt (d : OpTypes.Decl) : Option Stmt :=
  match d.ty with
  | .ok t => some (.type d.exported d.name [] t)
  | .error _ => none

/-- the operation declaration file as far as the model has it: `import type * as <ns> from "<m>"` followed by the
    result-type statements of `opDecls` (the Variables types and the document constants are C09's / C12's subjects and
    declare no name the result types refer to) -/
def opFileOf (o : Opts) (m : String) (S : Schema) (D : Doc) : File :=
  .import m true (.star o.ns) :: (opDecls S o D).filterMap declStmt

theorem declStmt_type {d : OpTypes.Decl} {st : Stmt} (h : declStmt d = some st) :
    ∃ t, st = .type d.exported d.name [] t := by
  unfold declStmt at h
  split at h <;> cases h
  exact ⟨_, rfl⟩

theorem opFileOf_flat (o : Opts) (m : String) (S : Schema) (D : Doc) :
    (opFileOf o m S D).all (fun s => !s.isNamespace) = true := by
  simp only [opFileOf, List.all_cons, List.all_eq_true, List.mem_filterMap, Bool.and_eq_true]
  refine ⟨rfl, ?_⟩
  rintro s ⟨d, _, hd⟩
  obtain ⟨t, rfl⟩ := declStmt_type hd
  rfl

theorem opFileOf_imports (o : Opts) (m : String) (S : Schema) (D : Doc) :
    starImports (opFileOf o m S D) = [(m, o.ns)] := by
  have h : starImports ((opDecls S o D).filterMap declStmt) = [] := by
    rw [starImports, List.filterMap_eq_nil_iff]
    intro st hst
    obtain ⟨d, _, hd⟩ := List.mem_filterMap.1 hst
    obtain ⟨t, rfl⟩ := declStmt_type hd
    rfl
  simp only [opFileOf, starImports, List.filterMap_cons]
  exact congrArg _ h

theorem opDecls_of_resultTree (S : Schema) (o : Opts) (D : Doc) {x : ExecDef} (hx : x ∈ D) {T : SelTree}
    (h : resultTree S D x = some (.ok T)) : ∃ d ∈ opDecls S o D, d.ty = .ok (toTs o.ns T) := by
  simp only [opDecls, List.mem_filterMap]
  cases x with
  | op op => exact ⟨_, ⟨.op op, hx, by simp only [h]; rfl⟩, rfl⟩
  | frag f => exact ⟨_, ⟨.frag f, hx, by simp only [h]; rfl⟩, rfl⟩
  | imp i => simp [resultTree] at h

/-- the specification context of a schema and a document: fragments of the document, the given scalar value sets and
    fuel -/
def specCtx (S : Schema) (D : Doc) (scalar : Name → J → Bool) (fuel : Nat) : Exec.Ctx :=
  { S := S, F := OpTypes.fragsOf D, scalar := scalar, fuel := fuel }

theorem resultTree_implTree {S : Schema} {D : Doc} {x : ExecDef} {T : SelTree} (h : resultTree S D x = some (.ok T)) :
    ∃ p, implTree S (OpTypes.fragsOf D) (mfuelFor D) (OpTypes.fuelFor D)
      (.nonNull (.named (Stages.rootNameOf S x) p)) (Stages.selOfDef x) = .ok T := by
  cases x with
  | op o => simp only [resultTree, Option.some.injEq] at h; exact ⟨{}, h⟩
  | frag f => simp only [resultTree, Option.some.injEq] at h; exact ⟨f.condPos, h⟩
  | imp i => simp [resultTree] at h

theorem execFragsOf_eq_find (D : Doc) (n : Name) : Exec.fragsOf D n = (CheckOp.fragsOf D).find? (·.name == n) := by
  unfold Exec.fragsOf
  induction D with
  | nil => rfl
  | cons x D ih =>
    cases x with
    | frag f =>
      have hf : CheckOp.fragsOf (ExecDef.frag f :: D) = f :: CheckOp.fragsOf D := by simp [CheckOp.fragsOf]
      rw [List.findSome?_cons, hf, List.find?_cons]
      by_cases hn : (f.name == n) = true
      · simp [hn]
      · simp only [hn, Bool.false_eq_true, if_false]
        exact ih
    | op o =>
      have hf : CheckOp.fragsOf (ExecDef.op o :: D) = CheckOp.fragsOf D := by simp [CheckOp.fragsOf]
      rw [List.findSome?_cons, hf]; exact ih
    | imp i =>
      have hf : CheckOp.fragsOf (ExecDef.imp i :: D) = CheckOp.fragsOf D := by simp [CheckOp.fragsOf]
      rw [List.findSome?_cons, hf]; exact ih

/-- on a document with unique fragment names the specification's fragment map (the FIRST definition of a name) and the
    printer's (a `HashMap`: the LAST definition wins) are the same function -/
theorem fragMaps_agree {D : Doc} (hnd : Valid.nodupB (CheckOp.fragNamesOf D) = true) :
    Exec.fragsOf D = OpTypes.fragsOf D := by
  funext n
  rw [execFragsOf_eq_find, fragsOf_eq_fragMap]
  cases hf : (CheckOp.fragsOf D).find? (·.name == n) with
  | some f =>
    have hm := List.mem_of_find?_eq_some hf
    have hn : f.name = n := by simpa using List.find?_some hf
    rw [← hn]
    exact (CheckOp.fragMap_of_mem hnd hm).symm
  | none =>
    symm
    unfold CheckOp.fragMap
    rw [List.find?_eq_none] at hf ⊢
    intro x hx
    exact hf x (by simpa using hx)

end NitroVerif.OpTypes.Closed
