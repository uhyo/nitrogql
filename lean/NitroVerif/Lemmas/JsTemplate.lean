import NitroVerif.Model.JsTemplate
import NitroVerif.Spec.Cook
/-!
C16: the template-literal escaping of `JsStringWriter` against the cooking spec.
-/
namespace NitroVerif.JsTemplate
open NitroVerif.Cook

/-- the cooking state that corresponds to the writer's `dollar_flag` -/
def stOf (d : Bool) : St := if d then .dollar else .normal

theorem run_escChar (d : Bool) (c : Char) (hc : c ≠ '\r') (rest : List Char) :
    run (stOf d) (escChar d c ++ rest) = (run (stOf (c == '$')) rest).map (c :: ·) := by
  unfold escChar
  by_cases h1 : c = '\\'
  · subst h1
    cases d <;> simp [stOf, run, step, stepNormal, stepBs, isDecimalDigit, LS, PS] <;> rfl
  · by_cases h2 : c = '$'
    · subst h2
      cases d <;> simp [stOf, run, step, stepNormal] <;> rfl
    · by_cases h3 : c = '`'
      · subst h3
        cases d <;> simp [stOf, run, step, stepNormal, stepBs, isDecimalDigit, LS, PS] <;> rfl
      · by_cases h4 : c = '{'
        · subst h4
          cases d <;> simp [stOf, run, step, stepNormal, stepBs, isDecimalDigit, LS, PS] <;> rfl
        · have hd : (c == '$') = false := by simpa using h2
          cases d <;> simp [stOf, run, step, stepNormal, h1, h2, h3, h4, hc, hd]

theorem cook_cons_lf {s v : List Char} (h : cook s = some v) : cook ('\n' :: s) = some ('\n' :: v) := by
  have e := run_escChar false '\n' (by decide) s
  rw [show escChar false '\n' = ['\n'] by decide] at e
  exact e.trans (by rw [show run (stOf ('\n' == '$')) s = cook s from rfl, h]; rfl)

theorem run_jsGo (s : List Char) : ∀ (d : Bool), (∀ c ∈ s, c ≠ '\r') →
    run (stOf d) (jsGo d s) = some s := by
  induction s with
  | nil => intro d _; cases d <;> simp [jsGo, run, finish, stOf]
  | cons c cs ih =>
    intro d h
    have hc : c ≠ '\r' := h c (by simp)
    have hcs : ∀ x ∈ cs, x ≠ '\r' := fun x hx => h x (by simp [hx])
    rw [jsGo, run_escChar d c hc, ih _ hcs]
    rfl

theorem unbroken_escChar (d : Bool) (c : Char) (rest : List Char) :
    unbroken false d (escChar d c ++ rest) = unbroken false (c == '$') rest := by
  unfold escChar
  by_cases h1 : c = '\\'
  · subst h1; simp [unbroken]
  · by_cases h2 : c = '$'
    · subst h2; simp [unbroken]
    · by_cases h3 : c = '`'
      · subst h3; simp [unbroken]
      · by_cases h4 : c = '{'
        · subst h4; cases d <;> simp [unbroken]
        · simp [unbroken, h1, h2, h3, h4]

theorem unbroken_jsGo (s : List Char) : ∀ d, unbroken false d (jsGo d s) = true := by
  induction s with
  | nil => intro d; simp [jsGo, unbroken]
  | cons c cs ih => intro d; rw [jsGo, unbroken_escChar, ih]

end NitroVerif.JsTemplate
