/-
The model of the type-system checker (`Model/CheckTsCommon.lean` + `Model/CheckTs.lean`) as it was BEFORE fix e3584a3
(verbatim copy at /verif commit fc21a0d, namespace renamed to `NitroVerif.PreE3584a3.CheckTs`; it has its own copy of
`ErrKind`): the `"Int"` arm of `scalarAccepts` is `matches!(value, IntValue(_) | NullValue(_))` — every integer literal
is accepted as a directive argument of type `Int`. Used ONLY by the kernel-evaluated pre-repair witness
`C05_int_range_prerepair_witness` (Props/C05.lean); no K comparison runs against it (the code it models is gone).
Core Lean only; structurally recursive (kernel-evaluable).
-/
import NitroVerif.Gql.Schema
namespace NitroVerif.PreE3584a3.CheckTs
open NitroVerif.Gql

/-- the variants of `CheckErrorMessage` reachable from `check_type_system_document` -/
inductive ErrKind where
  | UnknownDirective | DirectiveLocationNotAllowed | RepeatedDirective | ArgumentsNotNeeded
  | RequiredArgumentNotSpecified | TypeMismatch | UnknownVariable | UnknownEnumMember | UnknownArgument
  | UnscoUnsco | DuplicatedName | UnknownType | RecursingDirective | NoOutputType | NoInputType
  | NotInterface | InterfaceNotImplemented | NoImplementSelf | InterfaceFieldNotImplemented
  | FieldTypeMisMatchWithInterface | InterfaceArgumentNotImplemented | ArgumentTypeMisMatchWithInterface
  | ArgumentTypeNonNullAgainstInterface | NonObjectTypeUnionMember | TypeSystemError
  deriving DecidableEq, Repr, Inhabited, BEq

def ErrKind.asStr : ErrKind → String
  | .UnknownDirective => "UnknownDirective"
  | .DirectiveLocationNotAllowed => "DirectiveLocationNotAllowed"
  | .RepeatedDirective => "RepeatedDirective"
  | .ArgumentsNotNeeded => "ArgumentsNotNeeded"
  | .RequiredArgumentNotSpecified => "RequiredArgumentNotSpecified"
  | .TypeMismatch => "TypeMismatch"
  | .UnknownVariable => "UnknownVariable"
  | .UnknownEnumMember => "UnknownEnumMember"
  | .UnknownArgument => "UnknownArgument"
  | .UnscoUnsco => "UnscoUnsco"
  | .DuplicatedName => "DuplicatedName"
  | .UnknownType => "UnknownType"
  | .RecursingDirective => "RecursingDirective"
  | .NoOutputType => "NoOutputType"
  | .NoInputType => "NoInputType"
  | .NotInterface => "NotInterface"
  | .InterfaceNotImplemented => "InterfaceNotImplemented"
  | .NoImplementSelf => "NoImplementSelf"
  | .InterfaceFieldNotImplemented => "InterfaceFieldNotImplemented"
  | .FieldTypeMisMatchWithInterface => "FieldTypeMisMatchWithInterface"
  | .InterfaceArgumentNotImplemented => "InterfaceArgumentNotImplemented"
  | .ArgumentTypeMisMatchWithInterface => "ArgumentTypeMisMatchWithInterface"
  | .ArgumentTypeNonNullAgainstInterface => "ArgumentTypeNonNullAgainstInterface"
  | .NonObjectTypeUnionMember => "NonObjectTypeUnionMember"
  | .TypeSystemError => "TypeSystemError"

abbrev Err := ErrKind × Pos

/-- `name.starts_with("__")` (written over the character list so that the kernel can evaluate it) -/
def reserved (n : Name) : Bool :=
  match n.toList with
  | '_' :: '_' :: _ => true
  | _ => false

/-- `HasPos for Type`: name position / `[` position / position of the inner type -/
def typePos : GType → Pos
  | .named _ p => p
  | .list _ p => p
  | .nonNull t => typePos t

/-- position of the innermost type name (`original_node_ref` of the `NamedType` node) -/
def namedPos : GType → Pos
  | .named _ p => p
  | .list t _ => namedPos t
  | .nonNull t => namedPos t

/-- remove every leading non-null wrapper -/
def stripNN : GType → GType
  | .nonNull t => stripNN t
  | t => t

/-- generic shape of the `let mut seen = vec![]; for x in xs { if seen.contains(name) {…} else {seen.push(name)} … }`
    loops: `body` receives "the name was seen before" -/
def loopSeen {α β : Type} (name : α → Name) (body : Bool → α → List β) : List Name → List α → List β
  | _, [] => []
  | seen, x :: xs =>
    body (seen.contains (name x)) x ++
      loopSeen name body (if seen.contains (name x) then seen else name x :: seen) xs

/-! ### `is_subtype` (types.rs) -/

/-- `is_subtype(definitions, target, other)`; `none` = unknown -/
def isSubtype (S : Schema) : GType → GType → Option Bool
  | .nonNull ti, other =>
    match other with
    | .nonNull oi => isSubtype S ti oi
    | o => isSubtype S ti o
  | .list ti _, other =>
    match other with
    | .list oi _ => isSubtype S ti oi
    | _ => some false
  | .named tn _, other =>
    match other with
    | .named on _ =>
      if tn == on then some true else
      match S.typeDef? tn with
      | none => none
      | some td =>
        match td.kind with
        | .scalar | .enum | .union | .input => some false
        | .interface =>
          if td.implements.any (·.1 == on) then some true
          else if (S.typeDef? on).isSome then some false else none
        | .object =>
          if td.implements.any (·.1 == on) then some true
          else match S.typeDef? on with
            | none => none
            | some od => if od.kind == .union && od.members.any (·.1 == tn) then some true else some false
    | _ =>
      match S.typeDef? tn with
      | none => none
      | some _ => some false

/-! ### `check_value` / `is_value_compatible_type_def` with `variables = None` -/

/-- the scalar arm of `is_value_compatible_type_def`: built-in scalars by name, custom scalars accept anything -/
def scalarAccepts (name : Name) (v : Value) : Bool :=
  if name == "Boolean" then (match v with | .bool .. | .null .. => true | _ => false)
  else if name == "Int" then (match v with | .int .. | .null .. => true | _ => false)
  else if name == "Float" then (match v with | .float .. | .int .. | .null .. => true | _ => false)
  else if name == "String" then (match v with | .str .. | .null .. => true | _ => false)
  else if name == "ID" then (match v with | .str .. | .int .. | .null .. => true | _ => false)
  else true

/-- "non-nullable and without default value" -/
def InputValueDef.required (d : InputValueDef) : Bool := d.ty.isNonNull && d.default.isNone

/-- `res && !(seen_fields < value.fields.len())` of the input-object arm -/
def objShapeOk (defs : List InputValueDef) (fs : List (Name × Pos × Value)) : Bool :=
  !(defs.any fun ef => !(fs.any (·.1 == ef.name)) && InputValueDef.required ef) &&
  !((defs.filter fun ef => fs.any (·.1 == ef.name)).length < fs.length)

mutual
/-- `check_value(definitions, None, value, expected_type, result)` -/
def checkValue (S : Schema) : Value → GType → List Err
  | .var _ p, _ => [(.UnknownVariable, p)]
  | .null p, ty =>
    if ty.isNonNull then [(.TypeMismatch, p)] else
    match stripNN ty with
    | .named n np =>
      match S.typeDef? n with
      | none => [(.TypeSystemError, np)]
      | some td =>
        match td.kind with
        | .object | .interface | .union => [(.TypeMismatch, p)]
        | _ => []
    | _ => []
  | .list vs p, ty =>
    match stripNN ty with
    | .list inner _ => checkValueList S vs inner
    | .named n np =>
      match S.typeDef? n with
      | none => [(.TypeSystemError, np)]
      | some td =>
        match td.kind with
        | .scalar => if scalarAccepts td.name (.list [] p) then [] else [(.TypeMismatch, p)]
        | _ => [(.TypeMismatch, p)]
    | .nonNull _ => []
  | .obj fs p, ty =>
    -- a non-list, non-null value for a list type is checked against the item type (list input coercion),
    -- so it ends up being checked against the innermost named type
    match S.typeDef? ty.unwrapped with
    | none => [(.TypeSystemError, namedPos ty)]
    | some td =>
      match td.kind with
      | .scalar => if scalarAccepts td.name (.obj [] p) then [] else [(.TypeMismatch, p)]
      | .input =>
        -- `for expected_field in object_def.fields { value.fields.find(key == name) → check_value }`
        (td.inputs.flatMap fun ef => checkFieldFind S fs ef.name ef.ty) ++ (if objShapeOk td.inputs fs then [] else [(.TypeMismatch, p)])
      | _ => [(.TypeMismatch, p)]
  | .enum e p, ty =>
    match S.typeDef? ty.unwrapped with
    | none => [(.TypeSystemError, namedPos ty)]
    | some td =>
      match td.kind with
      | .scalar => if scalarAccepts td.name (.enum e p) then [] else [(.TypeMismatch, p)]
      | .enum => if td.values.all (·.name != e) then [(.UnknownEnumMember, p)] else []
      | _ => [(.TypeMismatch, p)]
  | v, ty =>
    -- int / float / str / bool literals
    match S.typeDef? ty.unwrapped with
    | none => [(.TypeSystemError, namedPos ty)]
    | some td =>
      match td.kind with
      | .scalar => if scalarAccepts td.name v then [] else [(.TypeMismatch, v.pos)]
      | _ => [(.TypeMismatch, v.pos)]
/-- the elements of a list literal against the item type -/
def checkValueList (S : Schema) : List Value → GType → List Err
  | [], _ => []
  | v :: vs, ty => checkValue S v ty ++ checkValueList S vs ty
/-- `check_value` of the first field of the object literal with the given key (nothing if absent) -/
def checkFieldFind (S : Schema) : List (Name × Pos × Value) → Name → GType → List Err
  | [], _, _ => []
  | (k, _, v) :: r, name, ty => if k == name then checkValue S v ty else checkFieldFind S r name ty
end

/-! ### `check_arguments` and `check_directives` -/

/-- `check_arguments(definitions, None, parent_pos, …, arguments, arguments_definition, result)`;
    `args = []` is `arguments = None` (the grammar has no empty argument list) -/
def checkArguments (S : Schema) (parentPos : Pos) (args : List Arg) (defs : List InputValueDef) : List Err :=
  if defs.isEmpty then
    (if args.isEmpty then [] else [(.ArgumentsNotNeeded, parentPos)])
  else
    -- "Argument names must be unique; only the first argument of a name is matched below"
    loopSeen (·.1) (fun dup (a : Arg) => if dup then [(ErrKind.DuplicatedName, a.2.1)] else []) [] args ++
    (defs.flatMap fun ad =>
      match args.find? (·.1 == ad.name) with
      | none => if InputValueDef.required ad then [(.RequiredArgumentNotSpecified, parentPos)] else []
      | some (_, _, v) => checkValue S v ad.ty) ++
    (if (defs.filter fun ad => args.any (·.1 == ad.name)).length < args.length then
      (args.filter fun a => defs.all (·.name != a.1)).map fun a => (ErrKind.UnknownArgument, a.2.1)
     else [])

/-- body of the `for d in directives` loop of `check_directives` for a directive whose name was / was not
    seen before at this location -/
def checkDirective (S : Schema) (loc : String) (seenBefore : Bool) (d : Directive) : List Err :=
  match S.directiveDef? d.name with
  | none => [(.UnknownDirective, d.namePos)]
  | some df =>
    (if df.locations.all (· != loc) then [(.DirectiveLocationNotAllowed, d.pos)] else []) ++
    (if seenBefore && !df.repeatable then [(.RepeatedDirective, d.pos)] else []) ++
    checkArguments S d.pos d.args df.args

/-- `check_directives(definitions, None, directives, current_position, result)`: the `seen_directives`
    vector only records names of *defined* directives -/
def checkDirectivesAux (S : Schema) (loc : String) : List Name → List Directive → List Err
  | _, [] => []
  | seen, d :: ds =>
    checkDirective S loc (seen.contains d.name) d ++
      checkDirectivesAux S loc
        (if (S.directiveDef? d.name).isSome && !seen.contains d.name then d.name :: seen else seen) ds

def checkDirectives (S : Schema) (loc : String) (ds : List Directive) : List Err :=
  checkDirectivesAux S loc [] ds

end NitroVerif.PreE3584a3.CheckTs

namespace NitroVerif.PreE3584a3.CheckTs
open NitroVerif.Gql

/-- `definition_map.types.get(n)`: the last type definition named `n` -/
def lastTypeDef? (T : TsDoc) (n : Name) : Option TypeDef :=
  (Schema.typeDefs ⟨T⟩).reverse.find? (·.name == n)

/-- `definition_map.directives.get(n)`: the last directive definition named `n` -/
def lastDirectiveDef? (T : TsDoc) (n : Name) : Option DirectiveDef :=
  (Schema.directiveDefs ⟨T⟩).reverse.find? (·.name == n)

/-! ### interfaces.rs -/

/-- `check_valid_implementation(definitions, object_name, fields, implements, interface, result)` -/
def checkValidImpl (S : Schema) (namePos : Pos) (fields : List FieldDef) (implements : List (Name × Pos))
    (iface : TypeDef) : List Err :=
  ((iface.implements.filter fun imp => !(implements.any (·.1 == imp.1))).map
      fun _ => (ErrKind.InterfaceNotImplemented, namePos)) ++
  iface.fields.flatMap fun impF =>
    match fields.find? (·.name == impF.name) with
    | none => [(.InterfaceFieldNotImplemented, namePos)]
    | some f =>
      (impF.args.flatMap fun ia =>
        match f.args.find? (·.name == ia.name) with
        | none => [(.InterfaceArgumentNotImplemented, f.pos)]
        | some fa => if !(fa.ty.same ia.ty) then [(.ArgumentTypeMisMatchWithInterface, fa.pos)] else []) ++
      ((f.args.filter fun fa => impF.args.all (·.name != fa.name) && InputValueDef.required fa).map
        fun fa => (ErrKind.ArgumentTypeNonNullAgainstInterface, fa.pos)) ++
      (if isSubtype S f.ty impF.ty == some false then [(.FieldTypeMisMatchWithInterface, f.pos)] else [])

/-! ### check_directive_recursion.rs -/

/-- `directives_in_type` as it was before fix 2e4a65e, which is still what the repaired function returns for every
    kind but INPUT OBJECT — and, for an input object, the first part of the result (the directives on the type and on
    its fields, not those inside the types of its fields) -/
def directivesInTypeOld (t : TypeDef) : List Directive :=
  match t.kind with
  | .scalar | .union => t.dirs
  | .object | .interface => t.dirs ++ t.fields.flatMap (·.dirs)
  | .enum => t.dirs ++ t.values.flatMap (·.dirs)
  | .input => t.dirs ++ t.inputs.flatMap (·.dirs)

/-- the `for field in def.fields.iter()` loop of `directives_in_type` (input-object arm): the type of each field is looked
    up in `definition_map.types` (fields of an undefined type are skipped) and walked by `go` with the `seen_types` set
    the previous fields left behind; result = (directives appended to `result`, `seen_types` afterwards) -/
def ditFields (T : TsDoc) (go : TypeDef → List Name → List Directive × List Name) :
    List InputValueDef → List Name → List Directive × List Name
  | [], seen => ([], seen)
  | f :: fs, seen =>
    match lastTypeDef? T f.ty.unwrapped with
    | none => ditFields T go fs seen
    | some ft =>
      let r := go ft seen
      let r' := ditFields T go fs r.2
      (r.1 ++ r'.1, r'.2)

/-- `directives_in_type(definition_map, def, seen_types)` (since fix 2e4a65e) with the mutable `seen_types` threaded
    through: (directives returned, `seen_types` afterwards). An input object whose name is already in `seen_types`
    contributes nothing; otherwise its name is inserted, the directives on the type and on its fields come first, then —
    field by field, depth first — the directives inside the types of its fields. The fuel bounds the NESTING depth:
    every nested call that does not return at once has inserted a new input-object name of the document, so `|T| + 1`
    is never exhausted (`Lemmas/CheckTsWalk.lean`: `directivesInType_fuel`); the out-of-fuel branch is silent. -/
def ditWalk (T : TsDoc) : Nat → TypeDef → List Name → List Directive × List Name
  | 0, t, seen => if t.kind == .input then ([], seen) else (directivesInTypeOld t, seen)
  | fuel + 1, t, seen =>
    if t.kind == .input then
      if seen.contains t.name then ([], seen)
      else
        let r := ditFields T (ditWalk T fuel) t.inputs (t.name :: seen)
        (t.dirs ++ t.inputs.flatMap (·.dirs) ++ r.1, r.2)
    else (directivesInTypeOld t, seen)

/-- `directives_in_type(definition_map, def, &mut HashSet::new())`: the call made for the type of ONE argument of the
    directive definition being expanded (`seen_types` is created afresh for each argument) -/
def directivesInType (T : TsDoc) (t : TypeDef) : List Directive :=
  (ditWalk T (T.length + 1) t []).1

/-- the directive definitions pushed to `next_directives` when `d` is expanded -/
def dirSuccessors (T : TsDoc) (d : DirectiveDef) : List DirectiveDef :=
  (d.args.flatMap fun a =>
      a.dirs ++ (match lastTypeDef? T a.ty.unwrapped with
                 | none => []
                 | some t => directivesInType T t)).filterMap fun dir => lastDirectiveDef? T dir.name

/-- `dirSuccessors` before fix 2e4a65e (only the argument's own type was looked into); kept for the pre-repair
    witnesses -/
def dirSuccessorsOld (T : TsDoc) (d : DirectiveDef) : List DirectiveDef :=
  (d.args.flatMap fun a =>
      a.dirs ++ (match lastTypeDef? T a.ty.unwrapped with
                 | none => []
                 | some t => directivesInTypeOld t)).filterMap fun dir => lastDirectiveDef? T dir.name

/-- one `for d in current_directives` pass: (seen afterwards, diagnostics, next_directives) -/
def recRound (T : TsDoc) (start : Name) : List Name → List DirectiveDef → List Name × List Err × List DirectiveDef
  | seen, [] => (seen, [], [])
  | seen, d :: ds =>
    if seen.contains d.name then
      let r := recRound T start seen ds
      (r.1, (if d.name == start then [(ErrKind.RecursingDirective, d.pos)] else []) ++ r.2.1, r.2.2)
    else
      let r := recRound T start (d.name :: seen) ds
      (r.1, r.2.1, dirSuccessors T d ++ r.2.2)

/-- the `loop { … }`; every round that continues has put at least one new directive name into `seen`,
    so `#directive definitions + 2` rounds of fuel are never exhausted -/
def recLoop (T : TsDoc) (start : Name) : Nat → List Name → List DirectiveDef → List Err
  | 0, _, _ => []
  | fuel + 1, seen, cur =>
    let r := recRound T start seen cur
    if r.2.2.isEmpty then r.2.1 else r.2.1 ++ recLoop T start fuel r.1 r.2.2

/-- `check_directive_recursion(definition_map, directive, result)` -/
def checkDirectiveRecursion (T : TsDoc) (d : DirectiveDef) : List Err :=
  recLoop T d.name (T.length + 2) [] [d]

/-! ### mod.rs -/

/-- the type of an output field (object / interface): `NoInputType` for an input object type,
    `UnknownType` for an undefined one -/
def checkOutputFieldType (S : Schema) (ty : GType) : List Err :=
  match S.kindOf? ty.unwrapped with
  | some k => if Schema.isOutputKind k then [] else [(.NoInputType, typePos ty)]
  | none => [(.UnknownType, typePos ty)]

/-- the type of an argument or input field -/
def checkInputValueType (S : Schema) (ty : GType) : List Err :=
  match S.kindOf? ty.unwrapped with
  | none => [(.UnknownType, typePos ty)]
  | some k => if Schema.isInputKind k then [] else [(.NoOutputType, typePos ty)]

/-- `check_arguments_definition` -/
def checkArgsDef (S : Schema) (args : List InputValueDef) : List Err :=
  loopSeen (·.name) (fun dup (v : InputValueDef) =>
    (if reserved v.name then [(ErrKind.UnscoUnsco, v.pos)] else []) ++
    (if dup then [(.DuplicatedName, v.pos)] else []) ++
    checkInputValueType S v.ty ++
    checkDirectives S "ARGUMENT_DEFINITION" v.dirs) [] args

/-- the `for f in fields` loop shared by `check_object` and `check_interface` -/
def checkFields (S : Schema) (fields : List FieldDef) : List Err :=
  loopSeen (·.name) (fun dup (f : FieldDef) =>
    (if dup then [(ErrKind.DuplicatedName, f.pos)] else []) ++
    (if reserved f.name then [(.UnscoUnsco, f.pos)] else []) ++
    checkDirectives S "FIELD_DEFINITION" f.dirs ++
    checkOutputFieldType S f.ty ++
    checkArgsDef S f.args) [] fields

/-- the `for interface in object.implements` loop of `check_object` -/
def checkObjectImplements (T : TsDoc) (S : Schema) (t : TypeDef) : List Err :=
  t.implements.flatMap fun (n, p) =>
    match lastTypeDef? T n with
    | none => [(.UnknownType, p)]
    | some idef =>
      if idef.kind != .interface then [(.NotInterface, p)]
      else checkValidImpl S t.namePos t.fields t.implements idef

/-- the `for other_interface in interface.implements` loop of `check_interface` -/
def checkInterfaceImplements (T : TsDoc) (S : Schema) (t : TypeDef) : List Err :=
  t.implements.flatMap fun (n, p) =>
    if t.name == n then [(.NoImplementSelf, p)] else
    match lastTypeDef? T n with
    | none => [(.UnknownType, p)]
    | some idef =>
      if idef.kind != .interface then [(.NotInterface, p)]
      else checkValidImpl S t.namePos t.fields t.implements idef

def checkUnionMembers (T : TsDoc) (members : List (Name × Pos)) : List Err :=
  loopSeen (·.1) (fun dup (m : Name × Pos) =>
    (if dup then [(ErrKind.DuplicatedName, m.2)] else []) ++
    (match lastTypeDef? T m.1 with
     | none => [(.UnknownType, m.2)]
     | some d => if d.kind != .object then [(.NonObjectTypeUnionMember, m.2)] else [])) [] members

def checkEnumValues (S : Schema) (values : List EnumValueDef) : List Err :=
  loopSeen (·.name) (fun dup (v : EnumValueDef) =>
    (if dup then [(ErrKind.DuplicatedName, v.pos)] else []) ++
    (if reserved v.name then [(.UnscoUnsco, v.pos)] else []) ++
    checkDirectives S "ENUM_VALUE" v.dirs) [] values

def checkInputFields (S : Schema) (inputs : List InputValueDef) : List Err :=
  loopSeen (·.name) (fun dup (f : InputValueDef) =>
    (if dup then [(ErrKind.DuplicatedName, f.pos)] else []) ++
    (if reserved f.name then [(.UnscoUnsco, f.pos)] else []) ++
    checkDirectives S "INPUT_FIELD_DEFINITION" f.dirs ++
    checkInputValueType S f.ty) [] inputs

def locationOfKind : TypeKind → String
  | .scalar => "SCALAR" | .object => "OBJECT" | .interface => "INTERFACE"
  | .union => "UNION" | .enum => "ENUM" | .input => "INPUT_OBJECT"

/-- `check_scalar` / `check_object` / `check_interface` / `check_union` / `check_enum` / `check_input_object` -/
def checkTypeDef (T : TsDoc) (S : Schema) (t : TypeDef) : List Err :=
  (if reserved t.name then [(ErrKind.UnscoUnsco, t.namePos)] else []) ++
  checkDirectives S (locationOfKind t.kind) t.dirs ++
  (match t.kind with
   | .scalar => []
   | .object => checkFields S t.fields ++ checkObjectImplements T S t
   | .interface => checkFields S t.fields ++ checkInterfaceImplements T S t
   | .union => checkUnionMembers T t.members
   | .enum => checkEnumValues S t.values
   | .input => checkInputFields S t.inputs)

/-- `check_directive` -/
def checkDirectiveDef (T : TsDoc) (S : Schema) (d : DirectiveDef) : List Err :=
  checkDirectiveRecursion T d ++
  (if reserved d.name then [(ErrKind.UnscoUnsco, d.namePos)] else []) ++
  checkArgsDef S d.args

/-- `check_schema`: the directives at `SCHEMA` -/
def checkSchemaDef (_T : TsDoc) (S : Schema) (s : SchemaDef) : List Err :=
  checkDirectives S "SCHEMA" s.dirs

def checkItem (T : TsDoc) (S : Schema) : TsItem → List Err
  | .schemaDef s => checkSchemaDef T S s
  | .typeDef t => checkTypeDef T S t
  | .directiveDef d => checkDirectiveDef T S d
  | .schemaExt _ => []
  | .typeExt _ => []

/-! ### `check_unique_names` (fix 8cdbacf) -/

/-- the `match (other.position.builtin, name.position.builtin)` of `check_unique_names`: which of the two
    identifiers of one name is reported, if any. `other` is the identifier seen EARLIER, `cur` the current one. -/
def uniqueReport (isType : Bool) (other cur : Pos) : List Err :=
  match other.builtin, cur.builtin with
  | false, false => [(.DuplicatedName, cur)]
  | false, true => if isType then [(.DuplicatedName, other)] else []
  | true, false => if isType then [(.DuplicatedName, cur)] else []
  | true, true => []

/-- one iteration: `seen.iter().find(|other| other.name == name.name)` — the FIRST identifier pushed with that
    name — then the report -/
def uniqueStep (isType : Bool) (seen : List (Name × Pos)) (name : Name) (pos : Pos) : List Err :=
  match seen.find? (·.1 == name) with
  | none => []
  | some other => uniqueReport isType other.2 pos

/-- the `for def in document.definitions` loop of `check_unique_names` with its two vectors `seen_types`,
    `seen_directives` (in push order); schema definitions are skipped -/
def checkUniqueNamesAux : List (Name × Pos) → List (Name × Pos) → TsDoc → List Err
  | _, _, [] => []
  | st, sd, .typeDef t :: r =>
    uniqueStep true st t.name t.namePos ++ checkUniqueNamesAux (st ++ [(t.name, t.namePos)]) sd r
  | st, sd, .directiveDef d :: r =>
    uniqueStep false sd d.name d.namePos ++ checkUniqueNamesAux st (sd ++ [(d.name, d.namePos)]) r
  | st, sd, _ :: r => checkUniqueNamesAux st sd r

/-- `check_unique_names(document, &mut result)` -/
def checkUniqueNames (T : TsDoc) : List Err := checkUniqueNamesAux [] [] T

/-- the `for def in document.definitions { match def … }` loop of `check_type_system_document`: the
    per-definition diagnostics. This is ALL the function reported before fix 8cdbacf (pre-repair witnesses are
    stated about it). -/
def checkSchemaItems (T : TsDoc) : List Err :=
  T.flatMap (checkItem T ⟨T⟩)

/-- `check_type_system_document(document)`: the name-uniqueness diagnostics first, then the per-definition ones -/
def checkSchema (T : TsDoc) : List Err :=
  checkUniqueNames T ++ checkSchemaItems T

/-! ### the duplicate-definition rule of `resolve_schema_extensions` -/

/-- `ExtensionList::set_original` over the seven lists: the first definition (in document order) whose
    (kind, name) — or "schema" — was already set. `none` = no `DuplicateOriginal` error. -/
def dupOriginalAux : List (Option (TypeKind × Name)) → TsDoc → Option (Option (TypeKind × Name))
  | _, [] => none
  | seen, .schemaDef _ :: r =>
    if seen.contains none then some none else dupOriginalAux (none :: seen) r
  | seen, .typeDef t :: r =>
    if seen.contains (some (t.kind, t.name)) then some (some (t.kind, t.name))
    else dupOriginalAux (some (t.kind, t.name) :: seen) r
  | seen, _ :: r => dupOriginalAux seen r

def dupOriginal? (T : TsDoc) : Option (Option (TypeKind × Name)) := dupOriginalAux [] T

end NitroVerif.PreE3584a3.CheckTs
