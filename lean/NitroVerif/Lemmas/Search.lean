/-
The invariant behind every search with a seen-list and fuel, for an arbitrary successor function `succ : α → List α`.

`Inv succ R Q seen frontier`: everything met so far satisfies `R` (say: is reachable from the roots; `R` must be kept by
`succ`), every node taken off the frontier so far satisfied `Q` (say: is not the start node), and every successor of a
seen node has been seen or still waits on the frontier.  Both lists are read through membership only, so a stack (depth first), a queue
(breadth first, level by level) and "the whole list again" (closure by rounds) maintain it with the same two steps,
`skip` and `expand`; a recursive depth-first visit of `x` is a frontier transformer `∀ w, Inv vis (x :: w) → Inv r w`.
With an empty frontier the seen-list is closed under `succ`: it contains everything reachable from it (`Inv.reach`), and
every node reachable in at least one step — `Reach succ a b` and then one more edge `c ∈ succ b`, the form in which the
relations of the instances are bridged — satisfies `Q` (`Inv.reachQ`: with `Q` = "is not the start", no cycle).  A walk
whose result carries more than the seen-list (the directives `directives_in_type` collects, `Lemmas/CheckTsWalk.lean`)
keeps an invariant of its own and uses only the measure.

`unseen dom seen`: the termination measure of all of them (elements of a finite carrier not yet seen).
-/
import NitroVerif.Lemmas.ListFacts
namespace NitroVerif.Search
variable {α : Type}

inductive Reach (succ : α → List α) : α → α → Prop where
  | refl (a : α) : Reach succ a a
  | tail {a b c : α} : Reach succ a b → c ∈ succ b → Reach succ a c

theorem Reach.head {succ : α → List α} {a b c : α} (h : b ∈ succ a) (h2 : Reach succ b c) : Reach succ a c := by
  induction h2 with
  | refl => exact .tail (.refl _) h
  | tail _ hc ih => exact .tail ih hc

structure Inv (succ : α → List α) (R Q : α → Prop) (seen frontier : List α) : Prop where
  sound : ∀ x, x ∈ seen ∨ x ∈ frontier → R x
  /-- `Q y` is recorded when `y` LEAVES the frontier: by `expand` when it is new, by `skip` when it is met again -/
  closed : ∀ x ∈ seen, ∀ y ∈ succ x, (y ∈ seen ∧ Q y) ∨ y ∈ frontier

variable {succ : α → List α} {R Q : α → Prop} {seen w w' : List α} {x : α}

theorem Inv.congr (h : Inv succ R Q seen w) (hw : ∀ y, y ∈ w' ↔ y ∈ w) : Inv succ R Q seen w' :=
  ⟨fun y hy => h.sound y (hy.imp_right (hw y).mp), fun a ha y hy => (h.closed a ha y hy).imp_right (hw y).mpr⟩

/-! ### the two ways to begin a search: `Inv.start`, `Inv.first`; then one frontier element at a time by `skip` and
`expand` (or a whole frontier by `round`), and `reach` when the frontier is empty -/

theorem Inv.start {roots : List α} (h : ∀ x ∈ roots, R x) : Inv succ R Q [] roots :=
  ⟨fun x hx => h x (hx.resolve_left List.not_mem_nil), fun _ hx => nomatch hx⟩

theorem Inv.first {a : α} (ha : R a) (hs : ∀ y ∈ succ a, R y) : Inv succ R Q [a] (succ a) :=
  ⟨fun x hx => hx.elim (fun h => List.mem_singleton.mp h ▸ ha) (hs x),
   fun _ hx _ hy => Or.inr (List.mem_singleton.mp hx ▸ hy)⟩

/-- a node met again is dropped; the caller shows `Q` of it (a cycle through the start shows up here) -/
theorem Inv.skip (h : Inv succ R Q seen (x :: w)) (hx : x ∈ seen) (hq : Q x) : Inv succ R Q seen w :=
  ⟨fun y hy => h.sound y (hy.imp_right (List.mem_cons_of_mem _)),
   fun a ha y hy => (h.closed a ha y hy).elim Or.inl fun hm =>
     (List.mem_cons.mp hm).elim (fun e => Or.inl (e ▸ ⟨hx, hq⟩)) Or.inr⟩

/-- a new node is expanded: it joins the seen-list, its successors join the frontier, anywhere in it -/
theorem Inv.expand (hR : ∀ a, R a → ∀ y ∈ succ a, R y) (h : Inv succ R Q seen (x :: w)) (hq : Q x)
    (hw : ∀ y, y ∈ w' ↔ y ∈ succ x ∨ y ∈ w) : Inv succ R Q (x :: seen) w' := by
  have hRx : R x := h.sound x (Or.inr List.mem_cons_self)
  refine ⟨fun y hy => ?_, fun a ha y hy => ?_⟩
  · rcases hy with hy | hy
    · rcases List.mem_cons.mp hy with rfl | hy
      · exact hRx
      · exact h.sound y (Or.inl hy)
    · rcases (hw y).mp hy with hy | hy
      · exact hR x hRx y hy
      · exact h.sound y (Or.inr (List.mem_cons_of_mem _ hy))
  · rcases List.mem_cons.mp ha with rfl | ha
    · exact Or.inr ((hw y).mpr (Or.inl hy))
    · rcases h.closed a ha y hy with ⟨hs, q⟩ | hm
      · exact Or.inl ⟨List.mem_cons_of_mem _ hs, q⟩
      · rcases List.mem_cons.mp hm with rfl | hm
        · exact Or.inl ⟨List.mem_cons_self, hq⟩
        · exact Or.inr ((hw y).mpr (Or.inr hm))

/-- a whole round: everything on the list `V` is expanded at once (`P` = what had been expanded before) -/
theorem Inv.round {P V V' : List α} (hR : ∀ a, R a → ∀ y ∈ succ a, R y) (h : Inv succ R (fun _ => True) P V)
    (hV' : ∀ y, y ∈ V' ↔ y ∈ V ∨ y ∈ V.flatMap succ) : Inv succ R (fun _ => True) V V' := by
  refine ⟨fun y hy => ?_, fun a ha y hy => Or.inr ((hV' y).mpr (Or.inr (List.mem_flatMap.mpr ⟨a, ha, hy⟩)))⟩
  rcases hy with hy | hy
  · exact h.sound y (Or.inr hy)
  · rcases (hV' y).mp hy with hy | hy
    · exact h.sound y (Or.inr hy)
    · obtain ⟨a, ha, hya⟩ := List.mem_flatMap.mp hy
      exact hR a (h.sound a (Or.inr ha)) y hya

theorem Inv.reach (h : Inv succ R Q seen []) {a b : α} (ha : a ∈ seen) (hr : Reach succ a b) : b ∈ seen := by
  induction hr with
  | refl => exact ha
  | tail _ hc ih => exact ((h.closed _ ih _ hc).resolve_right List.not_mem_nil).1

theorem Inv.reachQ (h : Inv succ R Q seen []) {a b c : α} (ha : a ∈ seen) (hr : Reach succ a b) (hc : c ∈ succ b) :
    Q c :=
  ((h.closed _ (h.reach ha hr) _ hc).resolve_right List.not_mem_nil).2

/-! ### the measure -/

section
variable [DecidableEq α]

/-- elements of the carrier `dom` (with repetitions) not yet seen -/
def unseen (dom seen : List α) : Nat := (dom.filter fun x => decide (x ∉ seen)).length

theorem unseen_le (dom seen : List α) : unseen dom seen ≤ dom.length := List.length_filter_le _ _

theorem unseen_eq_zero {dom seen : List α} (h : unseen dom seen = 0) : ∀ x ∈ dom, x ∈ seen := fun x hx =>
  Classical.not_not.mp fun hn =>
    List.filter_eq_nil_iff.mp (List.eq_nil_of_length_eq_zero h) x hx (by simpa using hn)

theorem unseen_le_of_subset {dom seen seen' : List α} (h : ∀ x ∈ seen, x ∈ seen') :
    unseen dom seen' ≤ unseen dom seen :=
  filterLength_le dom fun x hx => by simpa using fun hm => (by simpa using hx : x ∉ seen') (h x hm)

theorem unseen_lt {dom seen seen' : List α} (h : ∀ x ∈ seen, x ∈ seen') {x : α} (hd : x ∈ dom) (h1 : x ∉ seen)
    (h2 : x ∈ seen') : unseen dom seen' < unseen dom seen :=
  filterLength_lt _ _ dom (fun y hy => by simpa using fun hm => (by simpa using hy : y ∉ seen') (h y hm))
    ⟨x, hd, by simpa using h1, by simpa using h2⟩

/-! ### closure by rounds -/

def iter (step : List α → List α) : Nat → List α → List α
  | 0, V => V
  | k + 1, V => iter step k (step V)

/-- A step function that adds exactly the successors reaches a closed list within as many rounds as the carrier has
    elements that are not yet expanded, plus one. -/
theorem iter_closed {step : List α → List α} (hstep : ∀ V y, y ∈ step V ↔ y ∈ V ∨ y ∈ V.flatMap succ)
    {dom : List α} (hdom : ∀ x y, y ∈ succ x → x ∈ dom) (hR : ∀ a, R a → ∀ y ∈ succ a, R y) :
    ∀ (k : Nat) (P V : List α), (∀ x ∈ P, x ∈ V) → Inv succ R (fun _ => True) P V → unseen dom P < k →
      (∀ x ∈ V, x ∈ iter step k V) ∧ Inv succ R (fun _ => True) (iter step k V) [] := by
  intro k
  induction k with
  | zero => intro _ _ _ _ h; omega
  | succ k ih =>
    intro P V hPV hinv hu
    have hVV' : ∀ x ∈ V, x ∈ step V := fun x hx => (hstep V x).mpr (Or.inl hx)
    by_cases hlt : unseen dom V < k
    · obtain ⟨h1, h2⟩ := ih V _ hVV' (hinv.round hR (hstep V)) hlt
      exact ⟨fun x hx => h1 x (hVV' x hx), h2⟩
    · -- no element of the carrier was added since `P`: `V` is closed already, and further rounds add no member
      have hclosed : ∀ x ∈ V, ∀ y ∈ succ x, y ∈ V := by
        intro x hx y hyx
        by_cases hxP : x ∈ P
        · exact (hinv.closed x hxP y hyx).elim (fun h => hPV y h.1) id
        · have := unseen_lt (dom := dom) hPV (hdom x y hyx) hxP hx
          omega
      have hk : ∀ (j : Nat) (W : List α), (∀ x, x ∈ W ↔ x ∈ V) → ∀ x, x ∈ iter step j W ↔ x ∈ V := by
        intro j
        induction j with
        | zero => intro W h; exact h
        | succ j ihj =>
          intro W h
          refine ihj (step W) fun x => ?_
          rw [hstep, h]
          refine ⟨fun hx => hx.elim id fun hx => ?_, Or.inl⟩
          obtain ⟨a, ha, hxa⟩ := List.mem_flatMap.mp hx
          exact hclosed a ((h a).mp ha) x hxa
      have hm := hk (k + 1) V fun _ => Iff.rfl
      exact ⟨fun x hx => (hm x).mpr hx, fun y hy => hinv.sound y (Or.inr ((hm y).mp (hy.elim id (nomatch ·)))),
        fun x hx y hy => Or.inl ⟨(hm y).mpr (hclosed x ((hm x).mp hx) y hy), trivial⟩⟩

end

end NitroVerif.Search
