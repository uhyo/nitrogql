import NitroVerif.Lemmas.ParseDocTsDirDef
/-!
C16 over nitrogql's own parser: name lists WITH the optional leading separator (`implements & A & B`,
`= | A | B`, `on | A | B` — what the printer writes; C07's renderings `rNames` never write it). The lemmas reuse C07's
calculus (`Part`, `namesP`, `locsListP`); only the `"&"?` / `"|"?` in front of the list succeeds here.
Namespace `NitroVerif.DocParseL`: the definitions that differ from C07's carry the same names there.
-/
namespace NitroVerif.DocParseL
open NitroVerif.Peg NitroVerif.Gen NitroVerif.Gen.Parts NitroVerif.Build NitroVerif.TypeParse NitroVerif.StringParse
open NitroVerif.Gql NitroVerif.ValueParse NitroVerif.Spec.Lex NitroVerif.ParseText NitroVerif.DocParse

variable {inp : List Char}

/-- names separated by `c`, WITH the leading separator: `c gap A gap c gap B …` -/
def rNamesL (τ : Trivia) (c : Char) (sep : Bool) (p : Nat) : List (Name × Pos) → List Char
  | [] => []
  | n :: rest => tk τ false p [c] ++ rNames τ c sep (p + (tk τ false p [c]).length) (n :: rest)

def wpNamesL (τ : Trivia) (inp : List Char) (c : Char) (sep : Bool) (p : Nat) : List (Name × Pos) → List (Name × Pos)
  | [] => []
  | n :: rest => wpNames τ inp c sep (p + (tk τ false p [c]).length) (n :: rest)

theorem hd_rNamesL (τ : Trivia) (c : Char) (sep : Bool) (p : Nat) (ns : List (Name × Pos)) :
    rNamesL τ c sep p ns = [] ∨ Hd (· = c) (rNamesL τ c sep p ns) := by
  cases ns with
  | nil => exact Or.inl rfl
  | cons n rest => exact Or.inr (Hd.append (hd_tk (P := (· = c)) (hd_cons [] rfl)) _)

theorem hd_rNames_cons (τ : Trivia) (c : Char) (sep : Bool) (p : Nat) (n : Name × Pos) (rest : List (Name × Pos))
    (hv : validName n.1.toList) : Hd nameStart (rNames τ c sep p (n :: rest)) := by
  simp only [rNames]
  exact Hd.append (hd_tk (hd_of_validName hv)) _

/-- the `UnionMemberTypes` rule on a non-empty list written with the leading `|` -/
theorem membersT (τ : Trivia) (hτ : ∀ q, Ws (τ q)) (n : Name × Pos) (rest : List (Name × Pos))
    (hv : ∀ x ∈ n :: rest, validName x.1.toList) {sep : Bool} {p : Nat} {bad : Char → Prop} (hb : bad '|')
    (h : HasAt inp p (rNamesL τ '|' sep p (n :: rest))) (hn : Nxt inp bad sep (p + (rNamesL τ '|' sep p (n :: rest)).length)) :
    ∃ pr, Reads inp 50 R.UnionMemberTypes p (rNamesL τ '|' sep p (n :: rest))
      (fun _ pr => namedTypeIdents (Ctx.spec inp) AC_UnionMemberTypes (some pr)) (wpNamesL τ inp '|' sep p (n :: rest)) pr := by
  simp only [rNamesL, wpNamesL] at h hn ⊢
  have rBar := (strP hτ ['|'] h.left (tok_of_hd h.right (hd_rNames_cons τ '|' sep _ n rest (hv n (List.mem_cons_self ..)))
    fun _ => nameStart_not_trivia)).opt_some
  obtain ⟨pss, rN, hrules, hmap⟩ := namesP τ hτ '|' (by decide) n rest hv hb h.right hn.app
  obtain ⟨e, rU⟩ := PartT.rule (r := R.UnionMemberTypes) rfl (rBar.seq rN)
  have hall : allChildrenGo AC_UnionMemberTypes pss = .ok () := allChildrenGo_ok hrules
  refine ⟨_, rU.mono (by decide), rfl, rfl, fun _ _ => ?_⟩
  simp [namedTypeIdents, allChildren, Pair.children, hall, hmap, bind, Except.bind]

def rOptImpl (τ : Trivia) (sep : Bool) (p : Nat) : List (Name × Pos) → List Char
  | [] => []
  | n :: rest => tk τ true p kwImplements ++ rNamesL τ '&' sep (p + (tk τ true p kwImplements).length) (n :: rest)

/-- offset of the first name of an `implements` list written at `p` -/
def implOff (τ : Trivia) (p : Nat) : Nat :=
  p + (tk τ true p kwImplements).length + (tk τ false (p + (tk τ true p kwImplements).length) ['&']).length

theorem hd_rOptImpl (τ : Trivia) (sep : Bool) (p : Nat) (ns : List (Name × Pos)) :
    rOptImpl τ sep p ns = [] ∨ Hd (· = 'i') (rOptImpl τ sep p ns) := by
  cases ns with
  | nil => exact Or.inl rfl
  | cons n rest => exact Or.inr (Hd.append (hd_tk (P := (· = 'i')) (hd_cons _ rfl)) _)

theorem rOptImpl_eq_nil {τ : Trivia} {sep : Bool} {p : Nat} {ns : List (Name × Pos)} (h : rOptImpl τ sep p ns = []) :
    ns = [] := by
  cases ns with
  | nil => rfl
  | cons n rest => exact absurd h (Hd.append (hd_tk (P := (· = 'i')) (hd_cons _ rfl)) _).ne_nil

/-- `ImplementsInterfaces?` with the leading `&`, on a non-empty list -/
theorem optImplT (τ : Trivia) (hτ : ∀ q, Ws (τ q)) (ns : List (Name × Pos)) (hv : ∀ x ∈ ns, validName x.1.toList)
    (hne : ns ≠ []) {sep : Bool} {p : Nat} {bad : Char → Prop} (hb : bad '&') (h : HasAt inp p (rOptImpl τ sep p ns))
    (hn : Nxt inp bad sep (p + (rOptImpl τ sep p ns).length)) :
    ∃ o, ReadsOpt inp 49 R.ImplementsInterfaces p (rOptImpl τ sep p ns) (fun _ => optImplements (Ctx.spec inp))
      (wpNames τ inp '&' sep (implOff τ p) ns) o := by
  obtain ⟨n, rest, rfl⟩ := List.exists_cons_of_ne_nil hne
  simp only [rOptImpl, rNamesL, implOff] at h hn ⊢
  have g1 := h.right
  have hdN := hd_rNames_cons τ '&' sep (p + (tk τ true p kwImplements).length +
    (tk τ false (p + (tk τ true p kwImplements).length) ['&']).length) n rest (hv n (List.mem_cons_self ..))
  have r0 := kwP hτ look_KEYWORD_implements h.left (bad := fun _ => False)
    (Nxt.of_hd_sep g1 (Hd.append (hd_tk (P := (· = '&')) (hd_cons [] rfl)) _) (by rintro d rfl; exact ⟨by decide, id⟩))
  have rAmp := (strP hτ ['&'] g1.left (tok_of_hd g1.right hdN fun _ => nameStart_not_trivia)).opt_some
  obtain ⟨pss, rN, hrules, hmap⟩ := namesP τ hτ '&' (by decide) n rest hv hb g1.right hn.app.app
  obtain ⟨e, rI⟩ := PartT.rule look_ImplementsInterfaces (r0.seq (rAmp.seq rN))
  refine ⟨_, Reads.opt (bld := fun _ pr => optImplements (Ctx.spec inp) (some pr))
    ⟨rI.mono (by decide), rfl, rfl, fun _ _ => ?_⟩ fun _ => rfl⟩
  simp only [optImplements, buildImplementsInterfaces, Pair.children, List.nil_append, List.cons_append]
  rw [if_neg (by simp [Pair.rule]), mapM_ident _ pss hrules, hmap]

/-- the `DirectiveLocations` rule on a non-empty list written with the leading `|` -/
theorem locsT (τ : Trivia) (hτ : ∀ q, Ws (τ q)) (n : Name × Pos) (rest : List (Name × Pos))
    (hv : ∀ x ∈ n :: rest, x.1.toList ∈ locWords) {sep : Bool} {p : Nat} {bad : Char → Prop} (hb : bad '|')
    (h : HasAt inp p (rNamesL τ '|' sep p (n :: rest))) (hn : Nxt inp bad sep (p + (rNamesL τ '|' sep p (n :: rest)).length)) :
    ∃ pr, Reads inp 50 R.DirectiveLocations p (rNamesL τ '|' sep p (n :: rest))
      (fun _ pr => (allChildren AC_DirectiveLocations pr).map (List.map (asString (Ctx.spec inp))))
      ((n :: rest).map (·.1)) pr := by
  simp only [rNamesL] at h hn ⊢
  have hdM : Hd nameStart (rNames τ '|' sep (p + (tk τ false p ['|']).length) (n :: rest)) :=
    Hd.append (hd_tk (locWords_ok _ (hv n (List.mem_cons_self ..))).1) _
  have rBar := (strP hτ ['|'] h.left (tok_of_hd h.right hdM fun _ => nameStart_not_trivia)).opt_some
  obtain ⟨pss, rN, hrules, hmap⟩ := locsListP τ hτ n rest hv hb h.right hn.app
  obtain ⟨e, rU⟩ := PartT.rule (r := R.DirectiveLocations) rfl (rBar.seq rN)
  refine ⟨_, rU.mono (by decide), rfl, rfl, fun _ _ => ?_⟩
  rw [List.nil_append, allChildren_ok (r := AC_DirectiveLocations) (p := .mk _ _ _ pss) hrules, ← hmap]
  rfl

end NitroVerif.DocParseL
