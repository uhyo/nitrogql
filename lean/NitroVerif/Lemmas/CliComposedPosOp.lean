/-
C18 composed (helper lemmas): every position `check_operation_document` reports is a position of a node of the document
it was given or of the schema it was given — stated for an arbitrary predicate `Q` that holds of all those positions
(`checkOp_Q`, in CliComposedPosDefs).  Here: the predicates `AllQ` / `PQ` with their list facts, what `Q` asks of the
schema (`TOk`, `SchemaQ`), and the value check (`checkValue_Q`).
-/
import NitroVerif.Lemmas.CliComposedPos
import NitroVerif.Model.CheckOp
namespace NitroVerif.CliComposed
open NitroVerif NitroVerif.Gql NitroVerif.CheckCommon NitroVerif.CheckOp

def AllQ {ε : Type} (Q : Pos → Prop) (ds : List (ε × Pos)) : Prop := ∀ d ∈ ds, Q d.2

def PQ (Q : Pos → Prop) (ps : List Pos) : Prop := ∀ p ∈ ps, Q p

section basics
variable {ε : Type} {Q : Pos → Prop}

theorem allQ_nil : AllQ Q ([] : List (ε × Pos)) := by intro d hd; cases hd

theorem allQ_append {a b : List (ε × Pos)} : AllQ Q (a ++ b) ↔ AllQ Q a ∧ AllQ Q b := List.forall_mem_append

theorem allQ_single {k : ε} {p : Pos} : AllQ Q [(k, p)] ↔ Q p := List.forall_mem_singleton

theorem allQ_ite {c : Prop} [Decidable c] {a b : List (ε × Pos)} (ha : c → AllQ Q a) (hb : ¬ c → AllQ Q b) :
    AllQ Q (if c then a else b) := by
  split
  · exact ha ‹_›
  · exact hb ‹_›

theorem allQ_ite_single {c : Prop} [Decidable c] {k : ε} {p : Pos} (h : Q p) :
    AllQ Q (if c then [(k, p)] else []) :=
  allQ_ite (fun _ => allQ_single.mpr h) (fun _ => allQ_nil)

theorem allQ_ite_single' {c : Prop} [Decidable c] {k : ε} {p : Pos} (h : Q p) :
    AllQ Q (if c then [] else [(k, p)]) :=
  allQ_ite (fun _ => allQ_nil) (fun _ => allQ_single.mpr h)

theorem allQ_flatMap {α : Type} {l : List α} {f : α → List (ε × Pos)} (h : ∀ x ∈ l, AllQ Q (f x)) :
    AllQ Q (l.flatMap f) := List.forall_mem_flatMap.mpr h

theorem allQ_filter {p : ε × Pos → Bool} {ds : List (ε × Pos)} (h : AllQ Q ds) : AllQ Q (ds.filter p) :=
  fun d hd => h d (List.mem_filter.mp hd).1

theorem pq_nil : PQ Q [] := by intro p hp; cases hp

theorem pq_append {a b : List Pos} : PQ Q (a ++ b) ↔ PQ Q a ∧ PQ Q b := List.forall_mem_append

theorem pq_cons {p : Pos} {ps : List Pos} : PQ Q (p :: ps) ↔ Q p ∧ PQ Q ps := List.forall_mem_cons

theorem pq_flatMap {α : Type} {l : List α} {f : α → List Pos} : PQ Q (l.flatMap f) ↔ ∀ x ∈ l, PQ Q (f x) :=
  List.forall_mem_flatMap

theorem pq_map {α : Type} {l : List α} {f : α → Pos} : PQ Q (l.map f) ↔ ∀ x ∈ l, Q (f x) := List.forall_mem_map

end basics

theorem typePos_mem (t : GType) : typePos t ∈ t.positions := by
  induction t with
  | named n p => simp [typePos, GType.positions]
  | list t p _ => simp [typePos, GType.positions]
  | nonNull t ih => simpa [typePos, GType.positions] using ih

theorem baseNamed_mem (t : GType) : (baseNamed t).2 ∈ t.positions := by
  induction t with
  | named n p => simp [baseNamed, GType.positions]
  | list t p ih => simp [baseNamed, GType.positions, ih]
  | nonNull t ih => simpa [baseNamed, GType.positions] using ih

theorem stripNonNull_positions (t : GType) : (stripNonNull t).positions = t.positions := by
  induction t with
  | named n p => rfl
  | list t p _ => rfl
  | nonNull t ih => simpa [stripNonNull, GType.positions] using ih

theorem baseNamed_stripNonNull (t : GType) : baseNamed (stripNonNull t) = baseNamed t := by
  induction t with
  | named n p => rfl
  | list t p _ => rfl
  | nonNull t ih => simpa [stripNonNull, baseNamed] using ih

/-- an expected type is harmless when its innermost named type is defined in the schema (then no diagnostic is
    reported AT the type), or when all its positions satisfy `Q` -/
def TOk (S : Schema) (Q : Pos → Prop) (t : GType) : Prop :=
  (∃ td, S.typeDef? (baseNamed t).1 = some td) ∨ PQ Q t.positions

/-- a type definition the schema's lookup returns: the only definitions the checker ever holds -/
def FromS (S : Schema) (td : TypeDef) : Prop := ∃ n, S.typeDef? n = some td

/-- what the lemmas need of the schema: every position at which the operation checker can report a fault OF THE
    SCHEMA (an undefined argument / input-field type, a union member that is not an object type) satisfies `Q` — or
    the fault does not exist.  Obtained from `schemaQ_of_positions` (all positions of the schema document satisfy `Q`),
    or for any `Q` because the schema has no such fault: `schemaQ_of_facts` / `schemaQ_of_valid` (C03's `SchemaValid`),
    `schemaQ_of_refsOk` (the decidable part of it), `schemaQ_of_checked` (the schema check accepted the document) and
    `schemaQ_of_checked_composed` (the same for what the CLI resolves). -/
structure SchemaQ (S : Schema) (Q : Pos → Prop) : Prop where
  inputs : ∀ {n td}, S.typeDef? n = some td → td.kind = .input → ∀ f ∈ td.inputs, TOk S Q f.ty
  fieldArgs : ∀ {n td}, S.typeDef? n = some td → (td.kind = .object ∨ td.kind = .interface) →
    ∀ fd ∈ td.fields, ∀ a ∈ fd.args, TOk S Q a.ty
  dirArgs : ∀ {n dd}, S.directiveDef? n = some dd → ∀ a ∈ dd.args, TOk S Q a.ty
  members : ∀ {n td}, S.typeDef? n = some td → td.kind = .union → ∀ m ∈ td.members,
    (∃ o, S.typeDef? m.1 = some o ∧ o.kind = .object) ∨ Q m.2

section schema
variable {S : Schema} {Q : Pos → Prop}

theorem typeDef_PQ (hS : PQ Q (TsDoc.positions S.items)) {n : Name} {td : TypeDef} (h : S.typeDef? n = some td) :
    PQ Q td.positions := by
  have hm : td ∈ S.typeDefs := List.mem_of_find?_eq_some h
  unfold Schema.typeDefs at hm
  obtain ⟨it, hit, he⟩ := List.mem_filterMap.mp hm
  have := (pq_flatMap.mp hS) it hit
  cases it <;> simp at he
  subst he
  exact this

theorem directiveDef_PQ (hS : PQ Q (TsDoc.positions S.items)) {n : Name} {dd : DirectiveDef}
    (h : S.directiveDef? n = some dd) : PQ Q dd.positions := by
  have hm : dd ∈ S.directiveDefs := List.mem_of_find?_eq_some h
  unfold Schema.directiveDefs at hm
  obtain ⟨it, hit, he⟩ := List.mem_filterMap.mp hm
  have := (pq_flatMap.mp hS) it hit
  cases it <;> simp at he
  subst he
  exact this

theorem inputValue_ty_PQ {v : InputValueDef} (h : PQ Q v.positions) : PQ Q v.ty.positions := by
  unfold InputValueDef.positions at h
  exact (pq_append.mp (pq_append.mp (pq_cons.mp h).2).1).1

theorem typeDef_inputs_PQ {td : TypeDef} (h : PQ Q td.positions) : ∀ f ∈ td.inputs, PQ Q f.ty.positions := by
  intro f hf
  unfold TypeDef.positions at h
  have := (pq_append.mp (pq_cons.mp (pq_cons.mp h).2).2).2
  exact inputValue_ty_PQ ((pq_flatMap.mp this) f hf)

theorem typeDef_members_PQ {td : TypeDef} (h : PQ Q td.positions) : ∀ m ∈ td.members, Q m.2 := by
  unfold TypeDef.positions at h
  have := (pq_append.mp (pq_append.mp (pq_append.mp (pq_cons.mp (pq_cons.mp h).2).2).1).1).2
  exact pq_map.mp this

theorem typeDef_fields_args_PQ {td : TypeDef} (h : PQ Q td.positions) :
    ∀ fd ∈ td.fields, ∀ a ∈ fd.args, PQ Q a.ty.positions := by
  intro fd hfd a ha
  unfold TypeDef.positions at h
  have := (pq_append.mp (pq_append.mp (pq_append.mp (pq_append.mp (pq_cons.mp (pq_cons.mp h).2).2).1).1).1).2
  have hf := (pq_flatMap.mp this) fd hfd
  unfold FieldDef.positions at hf
  have := (pq_append.mp (pq_append.mp (pq_cons.mp hf).2).1).1
  exact inputValue_ty_PQ ((pq_flatMap.mp this) a ha)

theorem directiveDef_args_PQ {dd : DirectiveDef} (h : PQ Q dd.positions) : ∀ a ∈ dd.args, PQ Q a.ty.positions := by
  intro a ha
  unfold DirectiveDef.positions at h
  exact inputValue_ty_PQ ((pq_flatMap.mp (pq_cons.mp (pq_cons.mp h).2).2) a ha)

theorem schemaQ_of_positions (hS : PQ Q (TsDoc.positions S.items)) : SchemaQ S Q where
  inputs h _ f hf := Or.inr (typeDef_inputs_PQ (typeDef_PQ hS h) f hf)
  fieldArgs h _ fd hfd a ha := Or.inr (typeDef_fields_args_PQ (typeDef_PQ hS h) fd hfd a ha)
  dirArgs h a ha := Or.inr (directiveDef_args_PQ (directiveDef_PQ hS h) a ha)
  members h _ m hm := Or.inr (typeDef_members_PQ (typeDef_PQ hS h) m hm)

end schema

section values
variable {S : Schema} {Q : Pos → Prop} (hS : SchemaQ S Q) (vars : Option (List VarDef))

theorem leafCompat_Q (v : Value) (td : TypeDef) (hv : Q v.pos) : AllQ Q (leafCompat v td).1 := by
  unfold leafCompat
  cases td.kind <;> simp only
  all_goals first
    | exact allQ_nil
    | (cases v <;> simp only <;> first
        | exact allQ_nil
        | (apply allQ_ite
           · intro _; exact allQ_single.mpr hv
           · intro _; exact allQ_nil))

theorem namedLeaf_Q (v : Value) (n : Name) (np : Pos) (hv : Q v.pos) (hn : S.typeDef? n = none → Q np) :
    AllQ Q (namedLeaf S v n np) := by
  unfold namedLeaf
  cases hq : S.typeDef? n with
  | none => exact allQ_single.mpr (hn hq)
  | some td =>
    simp only
    rw [allQ_append]
    refine ⟨leafCompat_Q v td hv, ?_⟩
    exact allQ_ite_single' hv

theorem varCheck_Q (n : Name) (p : Pos) (t : GType) (ld : Bool) (hp : Q p) : AllQ Q (varCheck vars n p t ld) := by
  unfold varCheck
  cases varDef? (vars.getD []) n with
  | none => exact allQ_single.mpr hp
  | some d =>
    simp only
    exact allQ_ite_single' hp

theorem objResult_Q (outcomes : List FieldOutcome) (n : Nat) (p : Pos) (ho : ∀ o ∈ outcomes, AllQ Q o.diags)
    (hp : Q p) : AllQ Q (objResult outcomes n p) := by
  unfold objResult
  simp only
  rw [allQ_append]
  refine ⟨allQ_flatMap ho, ?_⟩
  exact allQ_ite_single' hp

theorem fieldOutcome_Q (r : Option (List Diag)) (f : InputValueDef) (hr : ∀ ds, r = some ds → AllQ Q ds) :
    AllQ Q (fieldOutcome r f).diags := by
  unfold fieldOutcome
  cases r with
  | some ds => exact hr ds rfl
  | none => simp only; split <;> exact allQ_nil

theorem tOk_named {t : GType} {n : Name} {np : Pos} (ht : TOk S Q t) (hst : stripNonNull t = .named n np) :
    S.typeDef? n = none → Q np := by
  intro hnone
  have hb : baseNamed t = (n, np) := by rw [← baseNamed_stripNonNull, hst]; rfl
  rcases ht with ⟨td, htd⟩ | hp
  · rw [hb] at htd; simp only at htd; rw [hnone] at htd; cases htd
  · have := hp _ (baseNamed_mem t)
    rw [hb] at this; exact this

theorem tOk_base {t : GType} (ht : TOk S Q t) : S.typeDef? (baseNamed t).1 = none → Q (baseNamed t).2 := by
  intro hnone
  rcases ht with ⟨td, htd⟩ | hp
  · rw [hnone] at htd; cases htd
  · exact hp _ (baseNamed_mem t)

theorem tOk_inner {t inner : GType} {q : Pos} (ht : TOk S Q t) (hst : stripNonNull t = .list inner q) :
    TOk S Q inner := by
  have hb : baseNamed t = baseNamed inner := by rw [← baseNamed_stripNonNull, hst]; rfl
  rcases ht with ⟨td, htd⟩ | hp
  · left; rw [hb] at htd; exact ⟨td, htd⟩
  · right
    have : PQ Q (stripNonNull t).positions := by rw [stripNonNull_positions]; exact hp
    rw [hst] at this
    simp only [GType.positions] at this
    exact (pq_cons.mp this).2

theorem leafValue_Q (v : Value) (t : GType) (hv : Q v.pos) (ht : TOk S Q t) :
    AllQ Q (if Value.isNull v then
      (if t.isNonNull then [(ErrKind.TypeMismatch, v.pos)]
       else match stripNonNull t with
         | .list _ _ => []
         | .named n np => namedLeaf S v n np
         | .nonNull _ => [])
      else namedLeaf S v (baseNamed t).1 (baseNamed t).2) := by
  apply allQ_ite
  · intro _
    apply allQ_ite
    · intro _; exact allQ_single.mpr hv
    · intro _
      cases hst : stripNonNull t with
      | named n np => exact namedLeaf_Q v n np hv (tOk_named ht hst)
      | list _ _ => exact allQ_nil
      | nonNull _ => exact allQ_nil
  · intro _; exact namedLeaf_Q v _ _ hv (tOk_base ht)

end values

section checkValue
variable {S : Schema} {Q : Pos → Prop}

mutual
theorem checkValue_Q (hS : SchemaQ S Q) (vars : Option (List VarDef)) : ∀ (v : Value) (t : GType) (ld : Bool),
    PQ Q v.positions → TOk S Q t → AllQ Q (checkValue S vars v t ld)
  | .var n p => fun t ld hv _ => by
    simp only [checkValue]
    exact varCheck_Q vars n p t ld (hv _ (Value.pos_mem_positions _))
  | .list vs p => fun t _ hv ht => by
    simp only [checkValue]
    cases hst : stripNonNull t with
    | named n np => exact namedLeaf_Q _ n np (hv _ (Value.pos_mem_positions _)) (tOk_named ht hst)
    | list inner q => exact checkValueList_Q hS vars vs inner (pq_cons.mp hv).2 (tOk_inner ht hst)
    | nonNull _ => exact allQ_nil
  | .obj fs p => fun t _ hv ht => by
    have hvp : Q p := hv _ (Value.pos_mem_positions (.obj fs p))
    simp only [checkValue]
    cases htd : S.typeDef? (baseNamed t).1 with
    | none => exact allQ_single.mpr (tOk_base ht htd)
    | some td =>
      apply allQ_ite
      · intro hkb
        have hk : td.kind = .input := by
          cases hk' : td.kind <;> first | rfl | (rw [hk'] at hkb; exact absurd hkb (by decide))
        apply objResult_Q _ _ _ _ hvp
        intro o ho
        obtain ⟨f, hf, rfl⟩ := List.mem_map.mp ho
        apply fieldOutcome_Q
        exact lookupField_Q hS vars fs _ _ _ (pq_cons.mp hv).2 (hS.inputs htd hk f hf)
      · intro _
        rw [allQ_append]
        refine ⟨leafCompat_Q _ td hvp, ?_⟩
        exact allQ_ite_single' hvp
  | .int s p | .float s p | .str s p | .bool s p | .null p | .enum s p => fun t _ hv ht => by
    simp only [checkValue]
    exact leafValue_Q _ t (hv _ (Value.pos_mem_positions _)) ht
theorem checkValueList_Q (hS : SchemaQ S Q) (vars : Option (List VarDef)) : ∀ (vs : List Value) (t : GType),
    PQ Q (Value.positionsList vs) → TOk S Q t → AllQ Q (checkValueList S vars vs t)
  | [] => fun _ _ _ => allQ_nil
  | v :: vs => fun t hp ht => by
    simp only [checkValueList]
    rw [allQ_append]
    exact ⟨checkValue_Q hS vars v t false (pq_append.mp hp).1 ht, checkValueList_Q hS vars vs t (pq_append.mp hp).2 ht⟩
theorem lookupField_Q (hS : SchemaQ S Q) (vars : Option (List VarDef)) : ∀ (fs : List (Name × Pos × Value)) (n : Name)
    (t : GType) (ld : Bool), PQ Q (Value.positionsFields fs) → TOk S Q t →
    ∀ ds, lookupField S vars fs n t ld = some ds → AllQ Q ds
  | [] => fun _ _ _ _ _ _ h => by cases h
  | (_, _, v) :: fs => fun n t ld hp ht ds h => by
    have hp' := pq_append.mp (pq_cons.mp hp).2
    simp only [lookupField] at h
    split at h
    · cases h
      exact checkValue_Q hS vars v t ld hp'.1 ht
    · exact lookupField_Q hS vars fs n t ld hp'.2 ht ds h
end

end checkValue

end NitroVerif.CliComposed
