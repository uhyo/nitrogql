import NitroVerif.Lemmas.GqlPrintOwnFitsTs
import NitroVerif.Lemmas.GqlPrintOwnFlatLead
import NitroVerif.Lemmas.GqlPrintOwnLeadErase
/-!
C16 over nitrogql's own parser: the printed TEXT of a document is a C07 rendering — glue of `own_render` (generic theorem),
the flat forms of the renderings and the `Fits` walk over the printing functions.
-/
namespace NitroVerif.C16Own
open NitroVerif.Gql NitroVerif.GqlPrint NitroVerif.ValueParse NitroVerif.DocParse NitroVerif.TypeParse NitroVerif.StringParse

/-- every string the printer writes for the token list is one for which `print_string` writes C07's `specEscape` form -/
def strsQ (ts : List Tok) : Bool := ts.all tokQ

theorem strsQ_mem {ts : List Tok} (h : strsQ ts = true) : ∀ t ∈ ts, tokQ t = true := List.all_eq_true.mp h

theorem own_text_exec (doc : List ExecDef) (hwf : ∀ d ∈ doc, WFDef d) (hq : strsQ (printDoc doc) = true)
    (pre0 : List Char) (hpre : ∀ x ∈ pre0, isGapC x = true) :
    rDoc (gaps (pre0 ++ text (printDoc doc))) noSh doc = pre0 ++ text (printDoc doc) := by
  rw [flat_doc]
  exact own_render _ _ pre0 hpre (fits_doc doc hwf) (strsQ_mem hq)

/-- type-system documents: for any token list that fits the flat form (`printTsDoc doc`, `printTsExtDoc doc`), the written
    text (after any prefix of layout characters) is the rendering WITH leading separators (`NitroVerif.DocParseL`) of the
    document under the trivia read off the text -/
theorem own_text_fits (doc : List TsItem) (ts : List Tok) (hf : Fits (cTsDoc doc) ts) (hq : strsQ ts = true)
    (pre0 : List Char) (hpre : ∀ x ∈ pre0, isGapC x = true) :
    DocParseL.rTsDoc (gaps (pre0 ++ text ts)) doc = pre0 ++ text ts := by
  rw [flatL_tsDoc]
  exact own_render _ _ pre0 hpre hf (strsQ_mem hq)

/-! ### items without a list that takes a leading separator

On these the rendering with leading separators IS C07's: both write nothing for an empty list. -/

/-- no `implements` list, no union member list, no directive-location list (where C07's renderings and the printer differ
    by the optional leading `&` / `|`) -/
def noLeadItem : TsItem → Bool
  | .typeDef t => t.implements.isEmpty && t.members.isEmpty
  | .typeExt t => t.implements.isEmpty && t.members.isEmpty
  | .directiveDef d => d.locations.isEmpty
  | _ => true

theorem cNamesLd_nil (lead : Bool) (c : Char) (sep : Bool) : cNamesLd lead c sep [] = [] := rfl

theorem renderItems_congr {α : Type} {ri ri' : Bool → Nat → α → List Char} (sm sl : Bool) :
    ∀ (xs : List α), (∀ x ∈ xs, ∀ s q, ri s q x = ri' s q x) → ∀ p, renderItems ri sm sl p xs = renderItems ri' sm sl p xs
  | [], _, _ => rfl
  | [a], h, p => h a (List.mem_cons_self ..) sl p
  | a :: b :: r, h, p => by
    rw [renderItems_cons2, renderItems_cons2, h a (List.mem_cons_self ..),
      renderItems_congr sm sl (b :: r) fun x hx => h x (List.mem_cons_of_mem _ hx)]

theorem rTsItem_noLead (τ : Trivia) (it : TsItem) (h : noLeadItem it = true) (sep : Bool) (p : Nat) :
    DocParseL.rTsItem τ sep p it = rTsItem τ sep p it := by
  cases it with
  | typeDef t =>
    simp only [noLeadItem, Bool.and_eq_true, List.isEmpty_iff] at h
    simp only [DocParseL.rTsItem, rTsItem, DocParseL.rTypeDefAny, rTypeDefAny]
    cases t.kind <;> simp only [DocParseL.rObjDef, rObjDef, DocParseL.rUnionDef, rUnionDef, h.1, h.2, DocParseL.rOptImpl,
      rOptImpl, DocParseL.rNamesL, rNames]
  | typeExt t =>
    simp only [noLeadItem, Bool.and_eq_true, List.isEmpty_iff] at h
    simp only [DocParseL.rTsItem, rTsItem, DocParseL.rTypeExtAny, rTypeExtAny]
    cases t.kind <;> simp only [DocParseL.rObjExt, rObjExt, DocParseL.rUnionExt, rUnionExt, DocParseL.rUnionExtD, rUnionExtD,
      DocParseL.rUnionExtM, rUnionExtM, h.1, h.2, DocParseL.rOptImpl, rOptImpl, DocParseL.rNamesL, rNames]
  | directiveDef d =>
    simp only [noLeadItem, List.isEmpty_iff] at h
    simp only [DocParseL.rTsItem, rTsItem, DocParseL.rDirectiveDef, rDirectiveDef, locNames, h, List.map_nil,
      DocParseL.rNamesL, rNames]
  | schemaDef s => rfl
  | schemaExt s => rfl

theorem rTsDoc_noLead (τ : Trivia) (doc : List TsItem) (hnl : ∀ d ∈ doc, noLeadItem d = true) :
    DocParseL.rTsDoc τ doc = rTsDoc τ doc :=
  congrArg _ (renderItems_congr true false doc (fun x hx s q => rTsItem_noLead τ x (hnl x hx) s q) _)

theorem own_text_noLead (doc : List TsItem) (ts : List Tok) (hf : Fits (cTsDoc doc) ts)
    (hnl : ∀ d ∈ doc, noLeadItem d = true) (hq : strsQ ts = true) (pre0 : List Char)
    (hpre : ∀ x ∈ pre0, isGapC x = true) : rTsDoc (gaps (pre0 ++ text ts)) doc = pre0 ++ text ts := by
  rw [← rTsDoc_noLead _ doc hnl]
  exact own_text_fits doc ts hf hq pre0 hpre

theorem own_text_tsext_noLead (doc : List TsItem) (hwf : ∀ d ∈ doc, WFTsItem d) (hok : ∀ d ∈ doc, itemOK d = true)
    (hnl : ∀ d ∈ doc, noLeadItem d = true) (hq : strsQ (printTsExtDoc doc) = true) (pre0 : List Char)
    (hpre : ∀ x ∈ pre0, isGapC x = true) :
    rTsDoc (gaps (pre0 ++ text (printTsExtDoc doc))) doc = pre0 ++ text (printTsExtDoc doc) :=
  own_text_noLead doc _ (fits_tsExtDoc doc hwf hok) hnl hq pre0 hpre

/-! ### reading it back -/

theorem parseTs_lead_erase (τ : Trivia) (hτ : ∀ q, Ws (τ q)) (doc : List TsItem) (hne : doc ≠ [])
    (hwf : ∀ d ∈ doc, WFTsItem d) (hn : ∀ d ∈ doc, NormalItem d) :
    ∃ A, Build.parseTs (DocParseL.rTsDoc τ doc) = .ok A ∧ GqlTokens.eraseTsDoc A = GqlTokens.eraseTsDoc doc :=
  ⟨_, DocParseL.parseTs_rTsDoc τ hτ doc hne hwf, DocParseL.tsErase_wpTsDoc τ _ doc hn⟩

theorem nameOK_tsDoc (doc : List TsItem) (hwf : ∀ d ∈ doc, WFTsItem d) (hok : ∀ d ∈ doc, itemOK d = true) :
    ∀ t ∈ printTsDoc doc, t.nameOK = true :=
  nameOK_of_fits _ _ (fits_tsDoc doc hwf hok)

end NitroVerif.C16Own
