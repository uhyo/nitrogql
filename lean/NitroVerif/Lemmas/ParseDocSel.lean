/-
Fragment spreads, fields, inline fragments, the `Selection` choice, the `SelectionSet` rule over a list of selections, and
the induction on the selection tree.
-/
import NitroVerif.Lemmas.ParseDocField
namespace NitroVerif.DocParse
open NitroVerif.Peg NitroVerif.Gen NitroVerif.Gen.Parts NitroVerif.Build NitroVerif.TypeParse NitroVerif.StringParse
open NitroVerif.Gql NitroVerif.ValueParse NitroVerif.Spec.Lex

variable {inp : List Char}

abbrev selBad : Char → Prop := fun c => c = '(' ∨ c = '@' ∨ c = '{' ∨ c = ':'

theorem nameStart_not_selBad {c : Char} (hc : nameStart c) : ¬ selBad c := by
  rintro (rfl | rfl | rfl | rfl) <;> exact absurd hc (by decide)

/-- the statement of the round trip for one selection -/
def SelOk (τ : Trivia) (inp : List Char) (s : Selection) : Prop := ∀ (sep : Bool) (p : Nat),
  HasAt inp p (rSel τ sep p s) → Nxt inp selBad sep (p + (rSel τ sep p s).length) →
  ∃ pr, Reads inp 40 R.Selection p (rSel τ sep p s) (selFn (Ctx.spec inp)) (wpSel τ inp sep p s) pr

/-- … and for a selection set, whose closing `}` may be the last token of an executable definition: its trailing gap is
    followed by a `Tail` (Lemmas/ParseDocTail.lean; a token is `tail_of_tok`) -/
def SelSetOk' (τ : Trivia) (inp : List Char) (ss : List Selection) : Prop := ∀ (sep : Bool) (p : Nat) (n : Nat) (c' : Cur),
  HasAt inp p (rSelSet τ sep p ss) → Tail inp n (p + (rSelSet τ sep p ss).length) c' →
  ∃ pr, ReadsT inp 5 n R.SelectionSet p (rSelSet τ sep p ss) c' (buildSelectionSet (Ctx.spec inp))
    (wpSels τ inp (p + (tk τ false p ['{']).length) ss) pr

theorem field_fails {p : Nat} (h : HeadNot nameStart (inp.drop p)) (ht : Tok (At inp p)) :
    Fails gList 30 true (.call R.Field) .nonAtomic (At inp p) :=
  first_fails_opt (by decide) h (headNot_mono (fun _ => Or.inl) h) ht

theorem selection_fails {p : Nat} (h : HeadNot (fun d => nameStart d ∨ d = '.') (inp.drop p)) (ht : Tok (At inp p)) :
    Fails gList 40 true (.call R.Selection) .nonAtomic (At inp p) :=
  first_fails_opt (by decide) h (headNot_mono (fun _ ha => Or.inl (Or.inl ha)) h) ht

theorem kwOn_valid : validName kwOn := ⟨by decide, fun x hx => by
  simp only [List.mem_cons, List.not_mem_nil, or_false] at hx; subst hx; decide⟩

/-- with the exact end of the pair: the builder reads the name off it -/
theorem fragNameP {τ : Trivia} (hτ : ∀ q, Ws (τ q)) {n : List Char} (hv : validName n) (hne : n ≠ kwOn) {sep : Bool}
    {p : Nat} {bad : Char → Prop} (h : HasAt inp p (tk τ sep p n)) (hn : Nxt inp bad sep (p + (tk τ sep p n).length)) :
    Part inp 5 (.call R.FragmentName) p (tk τ sep p n)
      [.mk R.FragmentName p (p + n.length) [.mk R.Name p (p + n.length) []]] := by
  obtain ⟨gN, _, gGlue⟩ := tk_gap hτ h hn
  have rNot := runsK_not (kw_fails_name (la := .neg) look_KEYWORD_on kwOn_valid hv hne gN gGlue)
    (tok_of_hd h (hd_tk (hd_of_validName hv)) fun d => nameStart_not_trivia)
  have r := runsKE_rule look_FragmentName (runsKE_seq rNot (nameT hτ hv h hn))
  exact .ofRun r.toK (by simp only [B]; omega)
    ⟨cleanP_of (by decide) (by decide) ⟨cleanP_of (by decide) (by decide) trivial, trivial⟩, trivial⟩

theorem spreadT (τ : Trivia) (hτ : ∀ q, Ws (τ q)) (n : Name) (np : Pos) (dirs : List Directive) (pos : Pos)
    (hwf : WFSel (.spread n np dirs pos)) : SelOk τ inp (.spread n np dirs pos) := by
  obtain ⟨hnm, hne, hdirs⟩ := hwf
  intro sep p h hn
  simp only [rSel, wpSel] at h hn ⊢
  have g1 := h.right.left
  have g2 := h.right.right
  have hd0 : Hd (· = '.') (tk τ false p dots) := hd_tk (hd_cons _ rfl)
  have f1 := field_fails (headNot_of_hd h.left hd0 (by rintro c rfl; decide)) (tok_of_hd h.left hd0 (by rintro c rfl; decide))
  have r0 := strP hτ dots h.left (tok_of_hd g1 (hd_tk (hd_of_validName hnm)) fun d => nameStart_not_trivia)
  obtain ⟨oD, D, n1⟩ := optDirsT τ hτ dirs hdirs (bad := selBad) (Or.inl rfl) (Or.inr (Or.inl rfl)) g2 hn.app.app
  have rN := fragNameP hτ hnm hne g1 n1
  obtain ⟨e, rS⟩ := PartT.rule (r := R.FragmentSpread) rfl (r0.seq (rN.seq D.part))
  obtain ⟨e', rSel⟩ := PartT.rule look_Selection ((rS.choice_l (b := .call R.InlineFragment)).choice_r f1 (le_B (by decide)))
  refine ⟨_, rSel.mono (by decide), rfl, rfl, fun fuel hf => ?_⟩
  have hm := matchParts_slots P_FragmentSpread [some _, oD] (by decide) ⟨⟨_, rfl, rN.pairRule⟩, D.rule, trivial⟩
  simp only [slotPairs, Option.toList_some, List.cons_append, List.nil_append] at hm
  refine (selFn_spread_slots _ fuel p e e' _ _ oD _ hm (D.build fuel (fuel_right (fuel_right hf)))).trans ?_
  simp [asString_spec', toPos_spec', Pair.start, Pair.stop, g1.left.slice]

theorem hd_rHead (τ : Trivia) (sD : Bool) (p : Nat) (al : Option (Name × Pos)) (n : Name) (args : List Arg)
    (dirs : List Directive) (hal : ∀ a ∈ al, validName a.1.toList) (hnm : validName n.toList) :
    Hd nameStart (rHead τ sD p al n args dirs) := by
  simp only [rHead]
  cases al with
  | none => simpa [rAlias] using (hd_tk (hd_of_validName hnm)).append _
  | some ap =>
    obtain ⟨a, apos⟩ := ap
    simp only [rAlias, List.append_assoc]
    exact (hd_tk (hd_of_validName (hal (a, apos) rfl))).append _

theorem fieldNoneT (τ : Trivia) (hτ : ∀ q, Ws (τ q)) (al : Option (Name × Pos)) (n : Name) (np : Pos) (args : List Arg)
    (dirs : List Directive) (hwf : WFSel (.field al n np args dirs none)) : SelOk τ inp (.field al n np args dirs none) := by
  obtain ⟨hal, hnm, hargs, hdirs⟩ := hwf
  intro sep p h hn
  simp only [rSel, wpSel] at h hn ⊢
  obtain ⟨oA, oG, oD, hrun, hokA, hB⟩ := headK τ hτ al n args dirs hal hnm hargs hdirs h
    (hn.mono (fun c hc => hc.elim Or.inl (fun h => h.elim (fun h => Or.inr (Or.inl h)) (fun h => Or.inr (Or.inr (Or.inr h))))))
  obtain ⟨e, rF⟩ := PartT.rule (r := R.Field) rfl (hrun (Nat.zero_le _) (.opt_none (K := 0)
    (fails_rule_str (rfl : gList.look R.SelectionSet = _) (headNot_mono (fun c hc => Or.inr (Or.inr (Or.inl hc))) hn.ok)) hn.tok (by decide)))
  obtain ⟨e', rS⟩ := PartT.rule look_Selection rF.choice_l
  rw [List.append_nil] at rS
  exact ⟨_, rS.mono (by decide), rfl, rfl, fun fuel hf =>
    selFn_field τ inp fuel sep p al n args dirs oA oG oD none e e' none hB hokA (fun x hx => by cases hx) hf rfl⟩

theorem hd_rSelSet (τ : Trivia) (sep : Bool) (p : Nat) (ss : List Selection) : Hd (· = '{') (rSelSet τ sep p ss) := by
  simp only [rSelSet]
  exact Hd.append (hd_tk (P := (· = '{')) (hd_cons [] rfl)) _

theorem rSel_field_some (τ : Trivia) (sep : Bool) (p : Nat) (al : Option (Name × Pos)) (n : Name) (np : Pos)
    (args : List Arg) (dirs : List Directive) (ss : List Selection) :
    rSel τ sep p (.field al n np args dirs (some ss)) =
      rHead τ false p al n args dirs ++ rSelSet τ sep (p + (rHead τ false p al n args dirs).length) ss := by
  simp only [rSel, rSelSet]

theorem fieldSomeT (τ : Trivia) (hτ : ∀ q, Ws (τ q)) (al : Option (Name × Pos)) (n : Name) (np : Pos) (args : List Arg)
    (dirs : List Directive) (ss : List Selection) (hal : ∀ a ∈ al, validName a.1.toList) (hnm : validName n.toList)
    (hargs : WFFs args) (hdirs : WFDirs dirs) (hss : SelSetOk' τ inp ss) :
    SelOk τ inp (.field al n np args dirs (some ss)) := by
  intro sep p h hn
  rw [rSel_field_some] at h hn ⊢
  simp only [wpSel]
  have g2 := h.right
  obtain ⟨oA, oG, oD, hrun, hokA, hB⟩ := headK τ hτ al n args dirs hal hnm hargs hdirs h.left
    (Nxt.of_hd g2 (hd_rSelSet τ sep _ ss) (by rintro c rfl; decide))
  obtain ⟨prS, S⟩ := hss sep _ 0 _ g2 (tail_of_tok hn.app.tok)
  obtain ⟨e, rF⟩ := PartT.rule (r := R.Field) rfl (hrun (by decide) S.part.opt_some)
  obtain ⟨e', rS⟩ := PartT.rule look_Selection rF.choice_l
  exact ⟨_, rS.mono (by decide), rfl, rfl, fun fuel hf =>
    selFn_field τ inp fuel false p al n args dirs oA oG oD (some prS) e e' _ hB hokA
      (fun x hx => by cases hx; exact S.rule) (fuel_left hf) (by simp only [optSelB, S.build fuel (fuel_right hf)])⟩

theorem hd_rCond (τ : Trivia) (sep : Bool) (p : Nat) (c : Option (Name × Pos)) :
    rCond τ sep p c = [] ∨ Hd (· = 'o') (rCond τ sep p c) := by
  cases c with
  | none => exact Or.inl rfl
  | some t => exact Or.inr (Hd.append (hd_tk (P := (· = 'o')) (hd_cons ['n'] rfl)) _)

theorem condT (τ : Trivia) (hτ : ∀ q, Ws (τ q)) (t : Name) (tp : Pos) (hv : validName t.toList) {p : Nat}
    {bad : Char → Prop} (h : HasAt inp p (rCond τ false p (some (t, tp))))
    (hn : Nxt inp bad false (p + (rCond τ false p (some (t, tp))).length)) :
    ∃ pr, Reads inp 5 R.TypeCondition p (rCond τ false p (some (t, tp))) (fun _ => typeConditionIdent (Ctx.spec inp))
      (t, posAt inp (p + (tk τ true p kwOn).length)) pr := by
  simp only [rCond] at h hn ⊢
  have r1 := kwP hτ look_KEYWORD_on h.left (bad := fun _ => False)
    (Nxt.of_name h.right (hd_tk (hd_of_validName hv)))
  -- the builder reads the type name off the `NamedType` pair: its exact end is needed
  have r2 := runsKE_rule look_NamedType (nameT hτ hv h.right hn.app)
  obtain ⟨e, rT⟩ := PartT.rule (r := R.TypeCondition) rfl (r1.seq (K' := 2)
    ⟨r2.toK, cleanP_of (by decide) (by decide) ⟨cleanP_of (by decide) (by decide) trivial, trivial⟩, trivial⟩)
  refine ⟨_, rT, rfl, rfl, fun _ _ => ?_⟩
  simp [typeConditionIdent, matchParts, P_TypeCondition, Pair.children, Pair.rule, get2, ident, asString_spec', At,
    toPos_spec', Pair.start, Pair.stop, h.right.left.slice, Except.map, bind, Except.bind]

theorem optCondT (τ : Trivia) (hτ : ∀ q, Ws (τ q)) (c : Option (Name × Pos)) (hc : ∀ t ∈ c, validName t.1.toList)
    {p : Nat} {bad : Char → Prop} (hb : bad 'o') (h : HasAt inp p (rCond τ false p c))
    (hn : Nxt inp bad false (p + (rCond τ false p c).length)) :
    ∃ o, ReadsOpt inp 9 R.TypeCondition p (rCond τ false p c) (fun _ => optCondB (Ctx.spec inp)) (wpCond τ inp p c) o := by
  cases c with
  | none =>
    have hn' : Nxt inp bad false p := hn
    exact ⟨_, .none (fails_rule (r := R.TypeCondition) rfl (fails_seq_1 (b := .call R.NamedType) (kw_fails_head (la := .none)
      look_KEYWORD_on (headNot_mono (fun d (hd : d = 'o') => hd ▸ hb) hn'.ok)))) hn'.tok (by decide) fun _ => rfl⟩
  | some tt =>
    obtain ⟨pr, C⟩ := condT τ hτ tt.1 tt.2 (hc tt rfl) h hn
    exact ⟨some pr, fun _ hx => (by cases hx; exact ⟨C.part.mono (by decide), C.rule⟩), fun h0 => (by cases h0),
      fun fuel hf => by simp [optCondB, C.build fuel hf, wpCond, bind, Except.bind, pure, Except.pure]⟩

theorem inlineT (τ : Trivia) (hτ : ∀ q, Ws (τ q)) (cond : Option (Name × Pos)) (dirs : List Directive)
    (ss : List Selection) (pos : Pos) (hc : ∀ t ∈ cond, validName t.1.toList) (hdirs : WFDirs dirs)
    (hss : SelSetOk' τ inp ss) : SelOk τ inp (.inline cond dirs ss pos) := by
  intro sep p h hn
  simp only [rSel, wpSel] at h hn ⊢
  have g1 := h.right.left
  have g2 := h.right.right.left
  have g3 : HasAt inp _ (rSelSet τ sep _ ss) := h.right.right.right
  have hd0 : Hd (· = '.') (tk τ false p dots) := hd_tk (hd_cons _ rfl)
  -- what follows the directives, the type condition
  have n3 : Nxt inp (fun c => c = '(' ∨ c = '@' ∨ nameStart c) false _ :=
    Nxt.of_hd g3 (hd_rSelSet τ sep _ ss) (by rintro c rfl; decide)
  obtain ⟨oD, D, n2⟩ := optDirsT τ hτ dirs hdirs (Or.inl rfl) (Or.inr (Or.inl rfl)) g2 n3
  have hns : HeadNot nameStart (inp.drop _) := headNot_mono
    (fun d hd => ⟨Or.inr (Or.inr hd), fun e => absurd (e ▸ hd) (by decide)⟩) n2.ok
  -- a token follows `...`, and `FragmentName` fails there: at `on` in front of a name, or at `@`, `{`
  obtain ⟨hTok, fFN⟩ : Tok (At inp (p + (tk τ false p dots).length)) ∧
      Fails gList 38 true (.call R.FragmentName) .nonAtomic (At inp (p + (tk τ false p dots).length)) := by
    cases cond with
    | none =>
      exact ⟨n2.tok, (fails_rule look_FragmentName (fails_seq_K (runsK_not (kw_fails_head (la := .neg) look_KEYWORD_on
        (headNot_mono (fun d (hd : d = 'o') => hd ▸ by decide) hns)) n2.tok) (name_fails_at hns))).mono (by decide)⟩
    | some tt =>
      obtain ⟨gw, _, gglue⟩ := tk_gap hτ g1.left (bad := fun _ => False) (Nxt.of_name g1.right
        (hd_tk (hd_of_validName (hc tt rfl))))
      obtain ⟨ps, hr⟩ := kw_runsL (la := .neg) look_KEYWORD_on gw gglue
      exact ⟨tok_of_hd g1.left (hd_tk (hd_cons (P := (· = 'o')) _ rfl)) (by rintro c rfl; decide),
        (fails_rule look_FragmentName (fails_seq_1 (fails_not hr))).mono (by decide)⟩
  have f1 := field_fails (headNot_of_hd h.left hd0 (by rintro c rfl; decide)) (tok_of_hd h.left hd0 (by rintro c rfl; decide))
  have r0 := strP hτ dots h.left hTok
  have f2 := fails_rule (r := R.FragmentSpread) rfl ((r0.mono (Nat.zero_le 0)).fails_seq_le
    (fails_seq_1 (b := .opt (.call R.Directives)) fFN) (by decide))
  obtain ⟨oC, C⟩ := optCondT τ hτ cond hc (by decide) g1 n2
  obtain ⟨prS, S⟩ := hss sep _ 0 _ g3 (tail_of_tok hn.app.app.app.tok)
  obtain ⟨e, rI⟩ := PartT.rule (r := R.InlineFragment) rfl (r0.seq (C.part.seq (D.part.seq S.part)))
  obtain ⟨e', rSel⟩ := PartT.rule look_Selection ((rI.choice_r f2 (le_B_append (Nat.add_le_add_left (by decide : 3 ≤ 26) _))).choice_r f1
    (le_B (by decide)))
  refine ⟨_, rSel.mono (by decide), rfl, rfl, fun fuel hf => ?_⟩
  have hm := matchParts_slots P_InlineFragment [oC, oD, some prS] (by decide) ⟨C.rule, D.rule, ⟨_, rfl, S.rule⟩, trivial⟩
  simp only [slotPairs, Option.toList_some] at hm
  exact selFn_inline_slots _ fuel p e e' _ oC oD prS _ _ _ hm (C.build _ (Nat.le_refl _))
    (D.build fuel (fuel_left (fuel_right (fuel_right hf)))) (S.build fuel (fuel_right (fuel_right (fuel_right hf))))

theorem rSels_eq (τ : Trivia) : ∀ (ss : List Selection) (p : Nat),
    rSels τ p ss = renderItems (rSel τ) true false p ss := by
  intro ss
  induction ss with
  | nil => intro p; simp only [rSels, renderItems]
  | cons s r ih =>
    intro p
    cases r with
    | nil => simp only [rSels, renderItems]
    | cons t r => simp only [rSels, renderItems, ih]

theorem wpSels_eq (τ : Trivia) (inp : List Char) : ∀ (ss : List Selection) (p : Nat),
    wpSels τ inp p ss = mapItems (rSel τ) true false (wpSel τ inp) p ss := by
  intro ss
  induction ss with
  | nil => intro p; simp only [wpSels, mapItems]
  | cons s r ih =>
    intro p
    cases r with
    | nil => simp only [wpSels, mapItems]
    | cons t r => simp only [wpSels, mapItems, ih]

theorem hd_rSel (τ : Trivia) (sep : Bool) (p : Nat) (s : Selection) (hwf : WFSel s) :
    Hd (fun d => nameStart d ∨ d = '.') (rSel τ sep p s) := by
  cases s with
  | field al n np args dirs sel =>
    cases sel with
    | none =>
      obtain ⟨hal, hnm, _, _⟩ := hwf
      simp only [rSel]
      exact (hd_rHead τ sep p al n args dirs hal hnm).mono (fun _ h => Or.inl h)
    | some ss =>
      obtain ⟨hal, hnm, _, _, _, _⟩ := hwf
      rw [rSel_field_some]
      exact ((hd_rHead τ false p al n args dirs hal hnm).mono (fun _ h => Or.inl h)).append _
  | spread n np dirs pos =>
    simp only [rSel]
    exact Hd.append (hd_tk (P := fun d => nameStart d ∨ d = '.') (hd_cons ['.', '.'] (Or.inr rfl))) _
  | inline cond dirs ss pos =>
    simp only [rSel]
    exact Hd.append (hd_tk (P := fun d => nameStart d ∨ d = '.') (hd_cons ['.', '.'] (Or.inr rfl))) _

def SelGood (τ : Trivia) (inp : List Char) : Bool → Nat → Selection → Pair → Prop := fun s q x pr =>
  Reads inp 40 R.Selection q (rSel τ s q x) (selFn (Ctx.spec inp)) (wpSel τ inp s q x) pr

theorem selStart_ok {c : Char} (h : nameStart c ∨ c = '.') : ¬ trivia c ∧ ¬ selBad c ∧ (true = false → ¬ nameCont c) := by
  rcases h with hc | rfl
  · exact ⟨nameStart_not_trivia hc, nameStart_not_selBad hc, fun h => by cases h⟩
  · decide

theorem selSetT' (τ : Trivia) (hτ : ∀ q, Ws (τ q)) (ss : List Selection) (hne : ss ≠ [])
    (hall : ∀ s ∈ ss, WFSel s ∧ SelOk τ inp s) : SelSetOk' τ inp ss := by
  intro sep p n c' h ht
  cases ss with
  | nil => exact absurd rfl hne
  | cons a r =>
    simp only [rSelSet] at h ht ⊢
    rw [rSels_eq] at h ht ⊢
    obtain ⟨e, pss, rS, hgood⟩ := bracedPT (rSel τ) true τ hτ (rule := R.SelectionSet) rfl (fun _ => selBad) (K := 40) (K' := 0)
      (by decide) (SelGood τ inp) (by decide)
      (fun q hq _ => (selection_fails (headNot_mono (by rintro d h rfl; revert h; decide) hq)
        (headNot_mono (by rintro d h rfl; revert h; decide) hq)).mono (by decide))
      r a (fun x hx s q hat hnx => ((hall x hx).2 s q hat hnx).imp fun _ R => ⟨R.part.run, R⟩)
      (fun x hx s q => (hd_rSel τ s q x (hall x hx).1).mono fun _ => selStart_ok)
      (fun x _ s q pr hg => hg.clean) h ht
    refine ⟨_, rS.mono (by decide), rfl, rfl, fun fuel hf => ?_⟩
    have hlO := (hd_tk (τ := τ) (sep := false) (p := p) (hd_cons (P := (· = '{')) [] rfl)).length_pos
    obtain ⟨f, rfl⟩ := Nat.exists_eq_add_one.mpr (Nat.lt_of_lt_of_le hlO (fuel_left hf))
    rw [buildSelectionSet_eq _ _ _ _ _ (goodItems_all (rSel τ) true false (SelGood τ inp) R.Selection (a :: r)
      (fun x _ s q pr hg => hg.rule) _ pss hgood), wpSels_eq]
    exact goodItems_mapM (rSel τ) true false (SelGood τ inp) (selFn (Ctx.spec inp) f) (wpSel τ inp) f (a :: r)
      (fun x _ s q pr hg hl => hg.build f hl) _ pss
      (Nat.le_of_succ_le (Nat.le_of_succ_le_succ (fuel_between hf hlO (hd_tk (hd_cons (P := (· = '}')) [] rfl)).length_pos)))
      hgood

/-! ### the induction on the selection tree

A field or inline fragment has its selections under a list, so the induction is the mutual one over selections and
lists of selections (`Selection.size.mutual_induct`); for a list it says that every member is well formed and
satisfies the round-trip statement, which is what `selSetT'` asks for. -/

theorem sel_all_sels (τ : Trivia) (hτ : ∀ q, Ws (τ q)) :
    (∀ s : Selection, WFSel s → SelOk τ inp s) ∧
      ∀ ss : List Selection, WFSels ss → ∀ s ∈ ss, WFSel s ∧ SelOk τ inp s := by
  apply Selection.size.mutual_induct
  · intro al n np args dirs ss ih ⟨hal, hnm, hargs, hdirs, hne, hss⟩
    exact fieldSomeT τ hτ al n np args dirs ss hal hnm hargs hdirs (selSetT' τ hτ ss hne (ih hss))
  · intro al n np args dirs hwf
    exact fieldNoneT τ hτ al n np args dirs hwf
  · intro n np dirs pos hwf
    exact spreadT τ hτ n np dirs pos hwf
  · intro cond dirs ss pos ih ⟨hc, hdirs, hne, hss⟩
    exact inlineT τ hτ cond dirs ss pos hc hdirs (selSetT' τ hτ ss hne (ih hss))
  · intro _ s hs
    cases hs
  · intro s ss ih1 ih2 ⟨h1, h2⟩ x hx
    rcases List.mem_cons.mp hx with rfl | hx
    · exact ⟨h1, ih1 h1⟩
    · exact ih2 h2 x hx

theorem sel_all (τ : Trivia) (hτ : ∀ q, Ws (τ q)) (s : Selection) (hwf : WFSel s) : SelOk τ inp s :=
  (sel_all_sels τ hτ).1 s hwf

end NitroVerif.DocParse
