/-
Comments inside trivia (helper lemmas for Props/C07): the `COMMENT` rule of the GENERATED grammar
(`"#" ~ " "* ~ !ext_ImportStatementContent ~ CommentCharacter* ~ (NEWLINE | EOI)`) on a comment text, and the implicit skip
`WHITESPACE* (COMMENT WHITESPACE*)*` over ARBITRARY trivia `Ws t`: a run of whitespace characters followed by any number of
(comment, run of whitespace characters). A comment is `#`, then characters other than LF / CR which — after leading spaces —
are visibly NOT the beginning of an `#import` statement (`NotImportHead`: the rule's negative lookahead
`!ext_ImportStatementContent` is followed through the keyword and the first import target), then LF, CR LF or CR.
-/
import NitroVerif.Lemmas.ParseLex
import NitroVerif.Lemmas.ParseMoreLook
namespace NitroVerif.ValueParse
open NitroVerif.Peg NitroVerif.Gen NitroVerif.Build NitroVerif.TypeParse

theorem look_CommentCharacter : gList.look R.CommentCharacter = some (.normal, .seq (.not (.call R.NEWLINE)) .any) := rfl
theorem look_ext_KEYWORD_import : gList.look R.ext_KEYWORD_import =
    some (.atomic, .seq (.str ['i', 'm', 'p', 'o', 'r', 't']) (.not (.call R.NameContinue))) := rfl

abbrev kwImport : List Char := ['i', 'm', 'p', 'o', 'r', 't']

/-- whitespace characters that do not end a line: BOM, tab, space, comma -/
def lineWs (x : Char) : Prop := x = Char.ofNat 65279 ∨ x = '\t' ∨ x = ' ' ∨ x = ','
instance (x : Char) : Decidable (lineWs x) := by unfold lineWs; infer_instance

/-- why a comment text `b` (leading spaces removed) is not the beginning of an `#import` statement, visibly within the line:
    it does not begin with `import`; or `import` is followed by a name character (`important`, `imports`); or after
    `import` and blanks `w` comes a character `d` that starts neither a name, nor `*`, nor a nested comment, nor is a blank
    (`# import: see below`, `#import "x"`, `# import 2 files`) -/
def NotImportHead (b : List Char) : Prop :=
  ¬ (kwImport <+: b) ∨
  (∃ d r, b = kwImport ++ d :: r ∧ nameCont d) ∨
  (∃ w d r, b = kwImport ++ (w ++ d :: r) ∧ (∀ x ∈ w, lineWs x) ∧ (w = [] → ¬ nameCont d) ∧ ¬ nameStart d ∧ d ≠ '*' ∧
    d ≠ '#' ∧ ¬ lineWs d)

/-- the text of a comment after `#`: `body` then the line terminator `nl` -/
structure CommentText (body nl : List Char) : Prop where
  chars : ∀ x ∈ body, x ≠ '\n' ∧ x ≠ '\r'
  noImport : NotImportHead (body.dropWhile (· = ' '))
  nl : nl = ['\n'] ∨ nl = ['\r', '\n'] ∨ nl = ['\r']

theorem newlineL_runs_some {la : Look} {at_ : Atomicity} {p : Nat} {d : Char} {r : List Char} (hd : d = '\n' ∨ d = '\r') :
    ∃ c', RunsRuleL gList la 4 R.NEWLINE at_ ⟨p, d :: r⟩ c' [] := by
  rcases hd with rfl | rfl
  · exact ⟨_, newlineL_runs (nl := ['\n']) (x := r) (Or.inl rfl) (fun h => by cases h)⟩
  · cases r with
    | nil => exact ⟨_, newlineL_runs (nl := ['\r']) (x := []) (Or.inr (Or.inr rfl)) (fun _ => headNot_nil _)⟩
    | cons y ys =>
      by_cases hy : y = '\n'
      · subst hy
        exact ⟨_, newlineL_runs (nl := ['\r', '\n']) (x := ys) (Or.inr (Or.inl rfl)) (fun h => by cases h)⟩
      · exact ⟨_, newlineL_runs (nl := ['\r']) (x := y :: ys) (Or.inr (Or.inr rfl)) (fun _ => headNot_cons (P := (· = '\n')) hy _)⟩

/-! ### CommentCharacter (called inside COMMENT, i.e. in an atomic context) -/

theorem cc_runs {p : Nat} {d : Char} {r : List Char} (hd : d ≠ '\n' ∧ d ≠ '\r') :
    RunsRule gList 10 R.CommentCharacter .atomic ⟨p, d :: r⟩ ⟨p + 1, r⟩ [] :=
  (runsRuleL_normal_atomic (la := .none) look_CommentCharacter (notSpecial (by decide) (by decide))
    (RunT.nil_seq (t := [d]) (Or.inr (by decide))
      (runsL_not (la := .none) (failsL_call (newlineL_fails (headNot_cons (fun h => h.elim hd.1 hd.2) _))))
      (RunT.one ((runsL_any (c := ⟨p, d :: r⟩) rfl).mono (by decide : 1 ≤ 6))))).mono (by decide)

theorem cc_fails {p : Nat} {d : Char} {r : List Char} (hd : d = '\n' ∨ d = '\r') :
    FailsRule gList 10 R.CommentCharacter .atomic ⟨p, d :: r⟩ := by
  obtain ⟨c', hrun⟩ := newlineL_runs_some (la := .neg) (at_ := .atomic) (p := p) (r := r) hd
  have g1 : Fails gList 6 true (.not (.call R.NEWLINE)) .atomic ⟨p, d :: r⟩ := failsL_not (la := .none) (runsL_call hrun)
  exact (failsRuleL_normal_atomic (la := .none) look_CommentCharacter (notSpecial (by decide) (by decide))
    (failsL_seq_first g1)).mono (by omega)

theorem spaces_star (sp : List Char) (p : Nat) (y : List Char) (hsp : ∀ x ∈ sp, x = ' ') (hy : HeadNot (· = ' ') y) :
    Runs gList (sp.length + 3) false (.star (.str [' '])) .atomic ⟨p, sp ++ y⟩ ⟨p + sp.length, y⟩ [] := by
  have := runsL_star_run (g := gList) (la := .none) (e := .str [' ']) (at_ := .atomic) (k := 1) (P := (· = ' '))
    (fun p d r hd => runsL_str (c := ⟨p, d :: r⟩) (by subst hd; simp [matchStr])) (fun _ => strL_head_fails hy) sp p hsp
  exact this.mono (by omega)

theorem split_spaces (l : List Char) : ∃ sp, l = sp ++ l.dropWhile (· = ' ') ∧ (∀ x ∈ sp, x = ' ') ∧
    HeadNot (· = ' ') (l.dropWhile (· = ' ')) := by
  refine ⟨l.takeWhile (· = ' '), List.takeWhile_append_dropWhile.symm, fun x hx => ?_, ?_⟩
  · have := List.all_takeWhile (l := l) (p := (· = ' '))
    simpa using List.all_eq_true.mp this x hx
  · intro d r he hd
    have := List.head_dropWhile_not (p := (· = ' ')) (l := l) (by rw [he]; simp)
    simp [he, hd] at this

theorem noImport_match {b' cont : List Char} (h : ¬ (kwImport <+: b'))
    (hc : ∀ d r, cont = d :: r → d = '\n' ∨ d = '\r') : matchStr kwImport (b' ++ cont) = none := by
  cases hm : matchStr kwImport (b' ++ cont) with
  | none => rfl
  | some r =>
    exfalso
    have he := matchStr_eq hm
    rcases List.append_eq_append_iff.mp he with ⟨a', h1, h2⟩ | ⟨c', h1, _⟩
    · cases a' with
      | nil => exact h ⟨[], by rw [List.append_nil] at h1 ⊢; exact h1⟩
      | cons d ds =>
        have hd := hc d (ds ++ r) (by simpa using h2)
        have hmem : d ∈ kwImport := by rw [h1]; simp
        simp only [kwImport, List.mem_cons, List.not_mem_nil, or_false] at hmem
        rcases hd with rfl | rfl <;> (rcases hmem with h | h | h | h | h | h <;> exact absurd h (by decide))
    · exact h ⟨c', h1.symm⟩

theorem look_ext_ISC_full : gList.look R.ext_ImportStatementContent = some (.nonAtomic,
    .seq (.call R.ext_KEYWORD_import) (.seq (.call R.ext_ImportTargets) (.seq (.call R.ext_KEYWORD_from)
      (.call R.StringValue)))) := rfl
theorem look_ext_ISC : ∃ tl, gList.look R.ext_ImportStatementContent =
    some (.nonAtomic, .seq (.call R.ext_KEYWORD_import) tl) := ⟨_, look_ext_ISC_full⟩
theorem look_ext_ImportTargets : gList.look R.ext_ImportTargets = some (.normal, .plus (.call R.ext_NameOrAsterisk)) := rfl
theorem look_ext_NameOrAsterisk : gList.look R.ext_NameOrAsterisk = some (.silent,
    .choice (.seq (.not (.call R.ext_KEYWORD_from)) (.call R.Name)) (.call R.ext_PUNC_asterisk)) := rfl
theorem look_ext_PUNC_asterisk : gList.look R.ext_PUNC_asterisk = some (.normal, .str ['*']) := rfl
theorem look_ext_KEYWORD_from : gList.look R.ext_KEYWORD_from =
    some (.atomic, .seq (.str ['f', 'r', 'o', 'm']) (.not (.call R.NameContinue))) := rfl

theorem lineWs_wsChar {x : Char} (h : lineWs x) : wsChar x := by
  rcases h with h | h | h | h
  · exact Or.inl h
  · exact Or.inr (Or.inl h)
  · exact Or.inr (Or.inr (Or.inl h))
  · exact Or.inr (Or.inr (Or.inr (Or.inr (Or.inr h))))

/-- `ext_ImportStatementContent` (any calling context, any lookahead state) fails on a text that is visibly not an import
    statement; `cont` is what follows the comment text: it begins with LF / CR or is empty -/
theorem isc_fails {la : Look} {at_ : Atomicity} {b cont : List Char} (h : NotImportHead b)
    (hb : ∀ x ∈ b, x ≠ '\n' ∧ x ≠ '\r') (hc : ∀ d r, cont = d :: r → d = '\n' ∨ d = '\r') (p : Nat) :
    FailsRuleL gList la (b.length + 24) R.ext_ImportStatementContent at_ ⟨p, b ++ cont⟩ := by
  rcases h with h | ⟨d, r, rfl, hd⟩ | ⟨w, d, r, rfl, hw, hwd, hns, hstar, hhash, hlw⟩
  · have hm : matchStr kwImport (b ++ cont) = none := noImport_match h hc
    exact (failsRuleL_nonAtomicKind look_ext_ISC_full (failsL_seq_first (failsL_call
      (keywordL_fails_str look_ext_KEYWORD_import _ _ hm)))).mono (by omega)
  · have := keywordL_fails_cont (la := la) (at_ := .nonAtomic) look_ext_KEYWORD_import p d (r ++ cont) hd
    have e : (kwImport ++ d :: r) ++ cont = kwImport ++ d :: (r ++ cont) := by simp
    rw [e]
    exact (failsRuleL_nonAtomicKind look_ext_ISC_full (failsL_seq_first (failsL_call this))).mono (by omega)
  · refine FailsRuleL.look (la := .none) ?_ la
    have hdb : d ≠ '\n' ∧ d ≠ '\r' := hb d (by simp)
    have hdt : ¬ trivia d := by
      rintro (h | h | h | h | h | h | h)
      · exact hlw (Or.inl h)
      · exact hlw (Or.inr (Or.inl h))
      · exact hlw (Or.inr (Or.inr (Or.inl h)))
      · exact hdb.1 h
      · exact hdb.2 h
      · exact hlw (Or.inr (Or.inr (Or.inr h)))
      · exact hhash h
    have e : (kwImport ++ (w ++ d :: r)) ++ cont = kwImport ++ (w ++ (d :: (r ++ cont))) := by simp
    rw [e]
    -- `import`
    have hglue : HeadNot nameCont (w ++ (d :: (r ++ cont))) := by
      cases w with
      | nil => exact headNot_cons (hwd rfl) _
      | cons x xs =>
        refine headNot_cons ?_ _
        have := hw x (List.mem_cons_self ..)
        rcases this with rfl | rfl | rfl | rfl <;> decide
    have g1 : Runs gList 13 true (.call R.ext_KEYWORD_import) .nonAtomic ⟨p, kwImport ++ (w ++ (d :: (r ++ cont)))⟩
        ⟨p + 6, w ++ (d :: (r ++ cont))⟩ [Pair.mk R.ext_KEYWORD_import p (p + 6) []] := by
      have := keywordL_runs (la := .none) (at_ := .nonAtomic) look_ext_KEYWORD_import p _ hglue
      exact runs_call (runsRule_iff.mpr (by simpa using this))
    -- the blanks, then no import target
    have g2 := skip_wsrun w (fun x hx => lineWs_wsChar (hw x hx)) (p + 6) (d :: (r ++ cont)) (headNot_cons hdt _)
    have g3 := fails_seq_first (b := .seq (.call R.ext_KEYWORD_from) (.call R.StringValue))
      (first_fails_opt (P := fun c => nameStart c ∨ c = '*') (p := p + 6 + w.length) (e := .call R.ext_ImportTargets) (sk := true)
        (at_ := .nonAtomic) (k := 28) (by decide) (headNot_cons (fun h => h.elim hns hstar) (r ++ cont))
        (headNot_cons (fun h => hns (Or.inl h)) _) (headNot_cons hdt _))
    refine (failsRuleL_nonAtomicKind (la := .none) look_ext_ISC_full (fails_seq_skip_last' g1 g2 g3)).mono ?_
    simp only [List.length_append, List.length_cons]; omega

theorem comment_runs {body nl : List Char} (h : CommentText body nl) (p : Nat) (x : List Char)
    (hx : nl = ['\r'] → HeadNot (· = '\n') x) :
    RunsRule gList (body.length + 40) R.COMMENT .nonAtomic ⟨p, '#' :: (body ++ (nl ++ x))⟩
      ⟨p + 1 + body.length + nl.length, x⟩ [] := by
  obtain ⟨sp, hsplit, hsp, hb'⟩ := split_spaces body
  generalize hbd : body.dropWhile (· = ' ') = b' at hsplit hb'
  have hb'chars : ∀ c ∈ b', c ≠ '\n' ∧ c ≠ '\r' := fun c hc => h.chars c (by rw [hsplit]; simp [hc])
  obtain ⟨d, nr, hnl0, hd⟩ : ∃ d nr, nl = d :: nr ∧ (d = '\n' ∨ d = '\r') := by
    rcases h.nl with rfl | rfl | rfl
    · exact ⟨_, _, rfl, Or.inl rfl⟩
    · exact ⟨_, _, rfl, Or.inr rfl⟩
    · exact ⟨_, _, rfl, Or.inr rfl⟩
  have hhead : HeadNot (· = ' ') (b' ++ (nl ++ x)) := by
    cases b' with
    | nil => rw [hnl0]; refine headNot_cons ?_ _; rcases hd with rfl | rfl <;> decide
    | cons c cs => exact headNot_cons (P := (· = ' ')) (hb' c cs rfl) _
  -- `" "*`, `!ext_ImportStatementContent` (its depth is paid for by the comment text that follows), `CommentCharacter*`, the terminator
  have eas : b' ++ (nl ++ x) = b' ++ nl ++ x := (List.append_assoc ..).symm
  have h2 : Piece gList .none 3 false (.star (.str [' '])) .atomic (p + 1) sp (b' ++ nl ++ x) :=
    spaces_star sp (p + 1) (b' ++ nl ++ x) hsp (eas ▸ hhead)
  have h3 : Runs gList (b'.length + 26) false (.not (.call R.ext_ImportStatementContent)) .atomic
      ⟨p + 1 + sp.length, b' ++ nl ++ x⟩ ⟨p + 1 + sp.length, b' ++ nl ++ x⟩ [] :=
    eas ▸ runsL_not (la := .none) (failsL_call (isc_fails (hbd ▸ h.noImport) hb'chars
      (fun d' r he => by rw [hnl0] at he; cases he; exact hd) _))
  have h4 : Piece gList .none 12 false (.star (.call R.CommentCharacter)) .atomic (p + 1 + sp.length) b' (nl ++ x) :=
    hnl0 ▸ Piece.star (fun _ _ _ hx => runs_call (cc_runs hx)) (fun _ => fails_call (cc_fails hd)) hb'chars
  have h5 : Piece gList .none 6 false (.choice (.call R.NEWLINE) (.call R.EOI)) .atomic (p + 1 + sp.length + b'.length) nl x :=
    (runs_choice_l (runs_call (newlineL_runs (la := .none) h.nl hx))).mono (by omega)
  have hbody := Piece.seq (Or.inl rfl) (Piece.str (la := .none) (sk := false) (at_ := .atomic) (p := p) ['#'])
    (Piece.seq (Or.inl rfl) h2 (Piece.nil_seq (K := 26) (Or.inl rfl) h3 (Piece.seq (Or.inl rfl) h4 h5)
      (by simp only [List.length_append]; omega)))
  have := runsRule_special (at_ := .nonAtomic) look_COMMENT_full (Or.inr ws_cm.2) hbody
  have hlen : body.length = sp.length + b'.length := by rw [hsplit]; simp
  have hnl2 : nl.length ≤ 2 := by rcases h.nl with rfl | rfl | rfl <;> simp
  refine RunsRule.cast (this.mono ?_) (by rw [hsplit]; simp) ?_ rfl
  · simp only [List.length_append, List.length_cons, List.length_nil]; omega
  · congr 1; simp only [List.length_append, List.length_cons, List.length_nil]; omega

/-- `(COMMENT WHITESPACE*)*` -/
inductive Cms : List Char → Prop where
  | nil : Cms []
  | cons {body nl w t : List Char} : CommentText body nl → WsRun w → (nl = ['\r'] → HeadNot (· = '\n') (w ++ t)) →
      Cms t → Cms ('#' :: (body ++ (nl ++ (w ++ t))))

/-- arbitrary trivia: whitespace characters (space, tab, LF, CR, comma, BOM) and comments, in any order -/
def Ws (t : List Char) : Prop := ∃ w0 u, t = w0 ++ u ∧ WsRun w0 ∧ Cms u

theorem ws_of_run {t : List Char} (h : WsRun t) : Ws t := ⟨t, [], by simp, h, .nil⟩
theorem Ws.nil : Ws [] := ws_of_run (fun _ h => by cases h)

theorem cms_head {u : List Char} (h : Cms u) : ∀ d r, u = d :: r → d = '#' := by
  cases h with
  | nil => intro d r he; cases he
  | cons _ _ _ _ => intro d r he; cases he; rfl

theorem Ws.head {t : List Char} (h : Ws t) : ∀ d r, t = d :: r → wsChar d ∨ d = '#' := by
  obtain ⟨w0, u, rfl, hw, hc⟩ := h
  intro d r he
  cases w0 with
  | nil => exact Or.inr (cms_head hc d r (by simpa using he))
  | cons c cs =>
    simp only [List.cons_append, List.cons.injEq] at he
    exact Or.inl (he.1 ▸ hw c (List.mem_cons_self ..))

theorem cms_headNot_wsChar {u rest : List Char} (hc : Cms u) (hr : HeadNot wsChar rest) : HeadNot wsChar (u ++ rest) := by
  cases u with
  | nil => exact hr
  | cons c cs =>
    cases cms_head hc c cs rfl
    exact headNot_cons (by decide) _

/-- the comment loop of the implicit skip -/
abbrev cmStar : Expr := .star (.seq (.call R.COMMENT) (.star (.call R.WHITESPACE)))

/-- `(COMMENT WHITESPACE*)*` over comments `u`, then whatever the loop does on what follows -/
theorem cms_skip_then {u : List Char} (h : Cms u) : ∀ (p : Nat) (rest : List Char) (n : Nat) (c' : Cur),
    HeadNot wsChar rest → Runs gList n false cmStar .nonAtomic ⟨p + u.length, rest⟩ c' [] →
    Runs gList (u.length + max 45 n) false cmStar .nonAtomic ⟨p, u ++ rest⟩ c' [] := by
  induction h with
  | nil =>
    intro p rest n c' _ hrun
    simpa using hrun.mono (by omega)
  | @cons body nl w t hc hw hcr ht ih =>
    intro p rest n c' hr hrun
    have hcr' : nl = ['\r'] → HeadNot (· = '\n') (w ++ (t ++ rest)) := by
      intro hnl
      have h0 := hcr hnl
      cases hwt : w ++ t with
      | nil =>
        have hw0 : w = [] := (List.append_eq_nil_iff.mp hwt).1
        have ht0 : t = [] := (List.append_eq_nil_iff.mp hwt).2
        subst hw0 ht0
        exact headNot_mono (fun _ h => by subst h; simp [wsChar]) hr
      | cons c cs =>
        rw [← List.append_assoc, hwt]
        rw [hwt] at h0
        exact headNot_cons (P := (· = '\n')) (h0 c cs rfl) _
    have h1 := runs_call (sk := false) (comment_runs hc p (w ++ (t ++ rest)) hcr')
    have h2 := ws_star w.length w (Nat.le_refl _) hw (p + 1 + body.length + nl.length) (t ++ rest)
      (cms_headNot_wsChar ht hr)
    have hrest := ih (p + 1 + body.length + nl.length + w.length) rest n c' hr
      (Runs.cast hrun (by congr 1; simp; omega) rfl rfl)
    have := runs_star_cons ((runs_seq_nosk' h1 h2).mono
      (by omega : _ ≤ body.length + nl.length + w.length + t.length + max 45 n)) (hrest.mono (by omega))
    simp only [List.append_nil] at this
    refine Runs.cast (this.mono ?_) (by simp) rfl rfl
    simp; omega

theorem skip_ws_then (t : List Char) (hws : Ws t) (p : Nat) (rest : List Char) (n : Nat) (c' : Cur)
    (hr : HeadNot wsChar rest) (hrun : Runs gList n false cmStar .nonAtomic ⟨p + t.length, rest⟩ c' []) :
    SkipTo (t.length + max 60 (n + 3)) ⟨p, t ++ rest⟩ c' := by
  obtain ⟨w0, u, rfl, hw, hc⟩ := hws
  have hW := ws_star w0.length w0 (Nat.le_refl _) hw p (u ++ rest) (cms_headNot_wsChar hc hr)
  have hC := cms_skip_then hc (p + w0.length) rest n c' hr (Runs.cast hrun (by congr 1; simp; omega) rfl rfl)
  have := after_mono (m := (w0 ++ u).length + max 60 (n + 3)) (skips_of_runs ws_cm.1 ws_cm.2 (runs_seq_nosk' hW hC))
    (by simp only [List.length_append]; omega)
  intro tr
  simpa using this tr

theorem skip_ws (t : List Char) (hws : Ws t) (p : Nat) (rest : List Char) (hr : HeadNot trivia rest) :
    SkipTo (t.length + 60) ⟨p, t ++ rest⟩ ⟨p + t.length, rest⟩ :=
  skip_ws_then t hws p rest 13 _ (headNot_mono (fun _ h => wsChar_trivia h) hr)
    (runs_star_nil (fails_seq_first (fails_call (cm_fails hr))))

end NitroVerif.ValueParse
