import NitroVerif.Lemmas.SourceMap
/-!
Lemmas for C06 about the model of `SourceWriter` and its name mapper: the name mapper under any sound cache policy
(`lruPolicy_sound` is the instance the code uses); the cursor of a text; the writer as a machine with six moves (`Prim`,
`step_prims`, `run_prims`: what is reflexive, transitive and holds of the moves holds of every run of trait calls) and what
holds of every writer state (`Inv`, by cases on the move; its mapping log is `Mono`, the hypothesis of the round trip in
`Lemmas/SourceMap.lean`); a named `write_for` with a one-line chunk spelled out (`writeFor_named`).
-/
namespace NitroVerif.SourceMap

/-- every cached pair points at its own name in the names table -/
def NInv (st : NState) : Prop := ∀ x ∈ st.cache, st.names[x.2]? = some x.1

theorem cacheGet_mem (cache : List (List Char × Nat)) (k : List Char) (i : Nat) :
    cacheGet cache k = some i → (k, i) ∈ cache := by
  induction cache with
  | nil => simp [cacheGet]
  | cons x rest ih =>
    obtain ⟨k', v⟩ := x
    unfold cacheGet
    by_cases h : k' = k
    · simp only [h, if_true, Option.some.injEq]; intro hv; subst hv; simp
    · simp only [h, if_false]; intro hr; exact List.mem_cons_of_mem _ (ih hr)

theorem getElem?_append_some {α} (l suf : List α) (i : Nat) (a : α) (h : l[i]? = some a) :
    (l ++ suf)[i]? = some a := by
  rw [List.getElem?_append_left (List.getElem?_eq_some_iff.mp h).1, h]

theorem mapName_spec (p : Policy) (hp : p.Sound) (st : NState) (name : List Char) (hinv : NInv st) :
    NInv (mapName p st name).1 ∧ (mapName p st name).1.names[(mapName p st name).2]? = some name ∧
    ∃ suf, (mapName p st name).1.names = st.names ++ suf := by
  unfold mapName
  cases hget : cacheGet st.cache name with
  | some i =>
    have hmem := cacheGet_mem _ _ _ hget
    refine ⟨?_, hinv _ hmem, [], by simp⟩
    intro x hx
    exact hinv x (hp _ _ _ hx)
  | none =>
    refine ⟨?_, by simp, [name], rfl⟩
    intro x hx
    have hx' := hp _ _ _ hx
    simp only [List.mem_cons] at hx'
    rcases hx' with rfl | hx'
    · simp
    · exact getElem?_append_some _ _ _ _ (hinv x hx')

theorem lruPolicy_sound : Policy.Sound lruPolicy := by
  intro k l x hx
  unfold lruPolicy at hx
  have := List.mem_of_mem_take hx
  simp only [List.mem_append, List.mem_filter] at this
  rcases this with ⟨h, _⟩ | ⟨h, _⟩ <;> exact h

/-- a sequence of `map_name` calls: final state and the returned indices -/
def mapNames (p : Policy) (st : NState) : List (List Char) → NState × List Nat
  | [] => (st, [])
  | n :: ns =>
    let r := mapName p st n
    let r2 := mapNames p r.1 ns
    (r2.1, r.2 :: r2.2)

theorem mapNames_spec (p : Policy) (hp : p.Sound) (ns : List (List Char)) : ∀ (st : NState), NInv st →
    NInv (mapNames p st ns).1 ∧ (∃ suf, (mapNames p st ns).1.names = st.names ++ suf) ∧
    (mapNames p st ns).2.length = ns.length ∧
    ∀ x ∈ ns.zip (mapNames p st ns).2, (mapNames p st ns).1.names[x.2]? = some x.1 := by
  induction ns with
  | nil => intro st h; exact ⟨h, ⟨[], by simp [mapNames]⟩, rfl, by simp [mapNames]⟩
  | cons n ns ih =>
    intro st h
    obtain ⟨h1, h2, suf1, h3⟩ := mapName_spec p hp st n h
    obtain ⟨i1, ⟨suf2, i2⟩, i3, i4⟩ := ih (mapName p st n).1 h1
    simp only [mapNames]
    refine ⟨i1, ⟨suf1 ++ suf2, by rw [i2, h3, List.append_assoc]⟩, by simp [i3], ?_⟩
    intro x hx
    simp only [List.zip_cons_cons, List.mem_cons] at hx
    rcases hx with rfl | hx
    · rw [i2]; exact getElem?_append_some _ _ _ _ h2
    · exact i4 x hx

theorem cursorFrom_append (a b : List Char) : ∀ lc, cursorFrom lc (a ++ b) = cursorFrom (cursorFrom lc a) b := by
  induction a with
  | nil => intro lc; rfl
  | cons c a ih =>
    intro lc
    simp only [List.cons_append, cursorFrom]
    split <;> exact ih _

theorem cursorFrom_noNl (s : List Char) : ∀ lc, '\n' ∉ s → cursorFrom lc s = (lc.1, lc.2 + utf16Len s) := by
  induction s with
  | nil => intro lc _; simp [cursorFrom, utf16Len]
  | cons c s ih =>
    intro lc h
    simp only [List.mem_cons, not_or] at h
    have hc : ¬ (c = '\n') := fun e => h.1 e.symm
    simp only [cursorFrom, hc, if_false, utf16Len]
    rw [ih _ h.2]
    simp [Nat.add_assoc]

theorem utf16Len_spaces (n : Nat) : utf16Len (List.replicate n ' ') = n := by
  induction n with
  | zero => rfl
  | succ n ih => simp only [List.replicate_succ, utf16Len, ih]; simp [utf16Char]; omega

theorem splitOn_noSep (sep : Char) (s : List Char) : ∀ l ∈ splitOn sep s, sep ∉ l := by
  induction s with
  | nil => intro l hl; simp [splitOn] at hl; subst hl; simp
  | cons c s ih =>
    intro l hl
    unfold splitOn at hl
    by_cases hc : c = sep
    · simp only [hc, if_true, List.mem_cons] at hl
      rcases hl with rfl | hl
      · simp
      · exact ih l hl
    · simp only [hc, if_false] at hl
      cases hs : splitOn sep s with
      | nil => rw [hs] at hl; simp at hl; subst hl; simp; exact fun e => hc e.symm
      | cons l0 ls =>
        rw [hs] at hl ih
        simp only [List.mem_cons] at hl
        rcases hl with rfl | hl
        · have := ih l0 (by simp)
          simp only [List.mem_cons, not_or]
          exact ⟨fun e => hc e.symm, this⟩
        · exact ih l (by simp [hl])

/-- One move of `SourceWriter`, labelled with the text it emits (the indentation it inserts left out). Every trait call is a
    sequence of such moves whose labels concatenate to the call's chunk (`step_prims`). -/
inductive Prim (p : Policy) : WState → List Char → WState → Prop
  | text (st : WState) (l : List Char) : '\n' ∉ l → st.pending = false →
      Prim p st l { st with buf := st.buf ++ l, col := st.col + utf16Len l }
  | flush (st : WState) : st.pending = true →
      Prim p st [] { st with buf := st.buf ++ List.replicate st.indent ' ', col := st.col + st.indent, pending := false }
  | newline (st : WState) : Prim p st ['\n'] (newline st)
  | entry (st : WState) (a b c : Nat) (n : Option Nat) : Prim p st [] (wAddEntry st ⟨st.line, st.col, a, b, c, n⟩)
  | name (st : WState) (nm : List Char) : Prim p st [] { st with names := (mapName p st.names nm).1 }
  | indent (st : WState) (k : Nat) : Prim p st [] { st with indent := k }

def opChunk : Op → List Char
  | .write c => c
  | .writeFor c _ => c
  | _ => []

/-- a call of the `SourceMapWriter` trait: `set_file_index_mapper` is the CLI's, before any printer runs -/
def NoMapper : Op → Prop
  | .setMapper _ => False
  | _ => True

theorem flush_pending (st : WState) : (flushIndent st).pending = false := by
  unfold flushIndent
  split
  · rfl
  · simpa using ‹¬ st.pending = true›

theorem splitOn_join (sep : Char) : ∀ s : List Char, ∃ l ls, splitOn sep s = l :: ls ∧
    s = l ++ (ls.flatMap fun x => sep :: x)
  | [] => ⟨[], [], rfl, rfl⟩
  | c :: cs => by
    obtain ⟨l, ls, h1, h2⟩ := splitOn_join sep cs
    unfold splitOn
    split
    · rename_i hc
      exact ⟨[], l :: ls, by rw [h1], by simp [hc, h2]⟩
    · rw [h1]
      exact ⟨c :: l, ls, rfl, by simp [h2]⟩

section closure
/- A relation between writer states, labelled with emitted text, that is reflexive, transitive (labels concatenated) and
   holds of the six moves holds of every function of the writer, of every trait call and of every run of trait calls. -/
variable (p : Policy) {R : WState → List Char → WState → Prop}
  (refl : ∀ a, R a [] a) (trans : ∀ {a b c x y}, R a x b → R b y c → R a (x ++ y) c)
  (prim : ∀ {a x b}, Prim p a x b → R a x b)
include refl prim

omit trans in
theorem prims_flush (st : WState) : R st [] (flushIndent st) := by
  unfold flushIndent
  split
  · exact prim (.flush st ‹_›)
  · exact refl st

include trans

theorem prims_writeLine (st : WState) (l : List Char) (hl : '\n' ∉ l) : R st l (writeLine st l) := by
  unfold writeLine
  split
  · next h => rw [List.isEmpty_iff.mp h]; exact refl st
  · exact trans (prims_flush p refl prim st) (prim (.text _ l hl (flush_pending st)))

theorem prims_writeLines : ∀ (ls : List (List Char)) (st : WState), (∀ l ∈ ls, '\n' ∉ l) →
    R st (ls.flatMap fun x => '\n' :: x) (writeLines st ls)
  | [], st, _ => refl st
  | l :: ls, st, h => by
    rw [List.flatMap_cons]
    exact trans (trans (prim (.newline st)) (prims_writeLine p refl trans prim _ l (h l (by simp))))
      (prims_writeLines ls _ fun x hx => h x (by simp [hx]))

theorem prims_write (st : WState) (chunk : List Char) : R st chunk (write st chunk) := by
  obtain ⟨l, ls, h1, h2⟩ := splitOn_join '\n' chunk
  have hs := splitOn_noSep '\n' chunk
  rw [h1] at hs
  unfold write
  rw [h1]
  conv => arg 2; rw [h2]
  exact trans (prims_writeLine p refl trans prim st l (hs l (by simp)))
    (prims_writeLines p refl trans prim ls _ fun x hx => hs x (by simp [hx]))

/-- A `write` is its chunk line by line (`prims_write`). A `write_for` that returns is: the name mapper's update, the pending indentation, an entry at the cursor, the chunk, the
    closing entry (named node); or an entry and the chunk (unnamed); or the chunk alone (built-in position). -/
theorem step_prims {st st' : WState} {op : Op} (h : step p st op = some st') (hop : NoMapper op) :
    R st (opChunk op) st' := by
  cases op with
  | write c => cases h; exact prims_write p refl trans prim st c
  | writeFor c node =>
    simp only [step, writeFor] at h
    by_cases hb : node.builtin = true
    · simp only [hb, if_true, Option.some.injEq] at h; subst h; exact prims_write p refl trans prim st c
    · simp only [hb, if_false, Bool.false_eq_true] at h
      split at h
      · cases h
      · rename_i fi _
        cases hn : node.name with
        | some nm =>
          simp only [hn, Option.some.injEq] at h
          subst h
          have := trans (trans (trans (trans (prim (.name st nm)) (prims_flush p refl prim _))
            (prim (.entry _ node.line node.col fi (some (mapName p st.names nm).2)))) (prims_write p refl trans prim _ c))
            (prim (.entry _ node.line (node.col + utf16Len nm) fi none))
          simp only [List.nil_append, List.append_nil] at this
          exact this
        | none =>
          simp only [hn, Option.some.injEq] at h
          subst h
          exact trans (prim (.entry st node.line node.col fi none)) (prims_write p refl trans prim _ c)
  | indent => cases h; exact prim (.indent st _)
  | dedent => cases h; exact prim (.indent st _)
  | setMapper m => exact hop.elim

theorem run_prims : ∀ {ops : List Op} {st st' : WState}, (∀ op ∈ ops, NoMapper op) → run p st ops = some st' →
    R st (ops.flatMap opChunk) st'
  | [], st, st', _, h => by cases h; exact refl st
  | op :: ops, st, st', hm, h => by
    simp only [run] at h
    split at h
    · cases h
    · next s1 hs =>
      rw [List.flatMap_cons]
      exact trans (step_prims p refl trans prim hs (hm op (by simp))) (run_prims (fun o ho => hm o (by simp [ho])) h)

end closure

/-- for runs that may set the file mapper (`run_prims` is about trait calls only) -/
theorem run_induction (p : Policy) {I : WState → Prop} (ops : List Op)
    (hstep : ∀ op ∈ ops, ∀ st st', I st → step p st op = some st' → I st') :
    ∀ st st', I st → run p st ops = some st' → I st' := by
  induction ops with
  | nil => intro st st' h hr; simp only [run, Option.some.injEq] at hr; subst hr; exact h
  | cons op ops ih =>
    intro st st' h hr
    simp only [run] at hr
    cases hs : step p st op with
    | none => rw [hs] at hr; cases hr
    | some st1 =>
      rw [hs] at hr
      exact ih (fun o ho => hstep o (List.mem_cons_of_mem _ ho)) st1 st' (hstep op (List.mem_cons_self ..) st st1 h hs) hr

theorem mono_snoc (l : List Entry) : ∀ (L : Nat) (e : Entry), Mono L l → (∀ x ∈ l, x.genLine ≤ e.genLine) →
    L ≤ e.genLine → Mono L (l ++ [e]) := by
  induction l with
  | nil => intro L e _ _ h; exact ⟨h, trivial⟩
  | cons a l ih =>
    intro L e hm hall hle
    exact ⟨hm.1, ih a.genLine e hm.2 (fun x hx => hall x (by simp [hx])) (hall a (by simp))⟩

/-- the tracked (line, column) is the UTF-16 cursor of the emitted buffer and an indentation is only ever pending at column 0;
    the mapping writer's state is what its entries, in order, produce; their generated lines never decrease and never pass
    the current line; each was recorded at the cursor of a prefix of the buffer -/
structure Inv (st : WState) : Prop where
  cursor : cursorOf st.buf = (st.line, st.col)
  pending : st.pending = true → st.col = 0
  mapping : st.mapping = st.mapping.log.foldl addEntry MState.init
  mono : Mono 0 st.mapping.log
  below : ∀ e ∈ st.mapping.log, e.genLine ≤ st.line
  inside : ∀ e ∈ st.mapping.log, ∃ pre suf, st.buf = pre ++ suf ∧ cursorOf pre = (e.genLine, e.genCol)

theorem inv_init : Inv WState.init :=
  ⟨rfl, fun h => (nomatch h), rfl, trivial, fun _ h => (nomatch h), fun _ h => (nomatch h)⟩

theorem Inv.emit {a b : WState} {y : List Char} (h : Inv a) (hm : b.mapping = a.mapping) (hb : b.buf = a.buf ++ y)
    (hl : a.line ≤ b.line) (hc : cursorOf b.buf = (b.line, b.col)) (hp : b.pending = true → b.col = 0) : Inv b where
  cursor := hc
  pending := hp
  mapping := by rw [hm]; exact h.mapping
  mono := by rw [hm]; exact h.mono
  below := fun e he => Nat.le_trans (h.below e (hm ▸ he)) hl
  inside := fun e he =>
    let ⟨pre, suf, h1, h2⟩ := h.inside e (hm ▸ he)
    ⟨pre, suf ++ y, by rw [hb, h1, List.append_assoc], h2⟩

/-- `Inv` reads the buffer, the cursor, the pending flag and the mapping only -/
theorem Inv.of_eq {a b : WState} (h : Inv a) (hb : b.buf = a.buf) (hl : b.line = a.line) (hc : b.col = a.col)
    (hp : b.pending = a.pending) (hm : b.mapping = a.mapping) : Inv b :=
  ⟨by rw [hb, hl, hc]; exact h.cursor, by rw [hp, hc]; exact h.pending, by rw [hm]; exact h.mapping,
    by rw [hm]; exact h.mono, by rw [hm, hl]; exact h.below, by rw [hm, hb]; exact h.inside⟩

theorem inv_prim {p : Policy} {a b : WState} {x : List Char} (h : Prim p a x b) (hi : Inv a) : Inv b := by
  have hc : cursorFrom (0, 0) a.buf = (a.line, a.col) := hi.cursor
  cases h with
  | text _ hl hpen =>
    refine hi.emit rfl rfl (Nat.le_refl _) ?_ (fun h => by simp [hpen] at h)
    show cursorFrom _ (a.buf ++ x) = _
    rw [cursorFrom_append, hc, cursorFrom_noNl _ _ hl]
  | flush hpen =>
    refine hi.emit rfl rfl (Nat.le_refl _) ?_ (fun h => (nomatch h))
    show cursorFrom _ (a.buf ++ _) = _
    rw [cursorFrom_append, hc, cursorFrom_noNl _ _ (by simp [List.mem_replicate]), utf16Len_spaces]
  | newline =>
    refine hi.emit rfl rfl (Nat.le_succ _) ?_ (fun _ => rfl)
    show cursorFrom _ (a.buf ++ _) = _
    rw [cursorFrom_append, hc]
    simp [cursorFrom, newline]
  | entry a' b' c n =>
    -- the new entry sits at the cursor of the whole buffer, on the current line
    have mem : ∀ {e}, e ∈ (wAddEntry a ⟨a.line, a.col, a', b', c, n⟩).mapping.log →
        e ∈ a.mapping.log ∨ e = ⟨a.line, a.col, a', b', c, n⟩ := fun he => by
      simpa [wAddEntry, addEntry] using he
    refine ⟨hi.cursor, hi.pending, ?_, mono_snoc _ 0 _ hi.mono hi.below (Nat.zero_le _), fun e he => ?_, fun e he => ?_⟩
    · show addEntry a.mapping _ = (a.mapping.log ++ [_]).foldl addEntry MState.init
      rw [List.foldl_append, ← hi.mapping]; rfl
    · rcases mem he with he | rfl
      · exact hi.below e he
      · exact Nat.le_refl _
    · rcases mem he with he | rfl
      · exact hi.inside e he
      · exact ⟨a.buf, [], by simp [wAddEntry], hi.cursor⟩
  | name | indent => exact hi.of_eq rfl rfl rfl rfl rfl

theorem inv_step (p : Policy) {st st' : WState} {op : Op} (h : Inv st) (hs : step p st op = some st') : Inv st' := by
  cases op with
  | setMapper m => cases hs; exact h.of_eq rfl rfl rfl rfl rfl
  | write | writeFor | indent | dedent =>
    exact step_prims p (R := fun a _ b => Inv a → Inv b) (fun _ h => h) (fun f g h => g (f h)) inv_prim hs trivial h

theorem inv_run (p : Policy) (ops : List Op) (st st' : WState) (h : Inv st) (hr : run p st ops = some st') : Inv st' :=
  run_induction p ops (fun _ _ _ _ h hs => inv_step p h hs) st st' h hr

theorem ninv_prim {p : Policy} (hp : p.Sound) {a b : WState} {x : List Char} (h : Prim p a x b) (hn : NInv a.names) :
    NInv b.names := by
  cases h with
  | name nm => exact (mapName_spec p hp a.names nm hn).1
  | text | flush | newline | entry | indent => exact hn

theorem ninv_step (p : Policy) (hp : p.Sound) (st st' : WState) (op : Op) (h : NInv st.names)
    (hr : step p st op = some st') : NInv st'.names := by
  cases op with
  | setMapper m => cases hr; exact h
  | write | writeFor | indent | dedent =>
    exact step_prims p (R := fun a _ b => NInv a.names → NInv b.names) (fun _ h => h) (fun f g h => g (f h))
      (ninv_prim hp) hr trivial h

theorem ninv_run (p : Policy) (hp : p.Sound) (ops : List Op) : ∀ st st', NInv st.names →
    run p st ops = some st' → NInv st'.names :=
  run_induction p (I := fun st => NInv st.names) ops fun op _ st st' h => ninv_step p hp st st' op h

theorem ninv_init : NInv WState.init.names := by intro x hx; cases hx

theorem splitOn_single (sep : Char) (s : List Char) (h : sep ∉ s) : splitOn sep s = [s] := by
  induction s with
  | nil => rfl
  | cons c s ih =>
    simp only [List.mem_cons, not_or] at h
    have hc : ¬ (c = sep) := fun e => h.1 e.symm
    simp [splitOn, hc, ih h.2]

theorem write_noNl (st : WState) (chunk : List Char) (h : '\n' ∉ chunk) (hp : st.pending = false) :
    write st chunk = { st with buf := st.buf ++ chunk, col := st.col + utf16Len chunk } := by
  unfold write
  rw [splitOn_single _ _ h]
  simp only [writeLines, writeLine]
  cases chunk with
  | nil => cases st; simp [utf16Len]
  | cons c cs => simp [flushIndent, hp]

theorem flush_buf (st : WState) : ∃ ind, (flushIndent st).buf = st.buf ++ ind ∧ ∀ c ∈ ind, c = ' ' := by
  unfold flushIndent
  split
  · exact ⟨List.replicate st.indent ' ', rfl, fun c hc => (List.mem_replicate.mp hc).2⟩
  · exact ⟨[], by simp, by simp⟩

/-- What `write_for` of a named, non-builtin node with a one-line chunk did, from `st` to `st'`: the file index `fi` was
    looked up (`PrintMap.fileIndexOf st.mapper node.file`, spelled out), the pending indentation `ind` and the chunk were
    appended, and the two entries of the segment were recorded at the cursor `(l, c)` before the chunk and after it. -/
structure NamedWrite (p : Policy) (st st' : WState) (chunk nm : List Char) (node : Node) (fi : Nat) (ind : List Char)
    (l c : Nat) : Prop where
  file : (match st.mapper with
    | none => some node.file
    | some m => m[node.file]?) = some fi
  log : st'.mapping.log = st.mapping.log ++
    [⟨l, c, node.line, node.col, fi, some (mapName p st.names nm).2⟩,
     ⟨l, c + utf16Len chunk, node.line, node.col + utf16Len nm, fi, none⟩]
  buf : st'.buf = st.buf ++ ind ++ chunk
  spaces : ∀ x ∈ ind, x = ' '
  before : cursorOf (st.buf ++ ind) = (l, c)
  after : cursorOf (st.buf ++ ind ++ chunk) = (l, c + utf16Len chunk)
  names : st'.names = (mapName p st.names nm).1

theorem writeFor_named (p : Policy) (st st' : WState) (chunk nm : List Char) (node : Node)
    (hw : Inv st) (hb : node.builtin = false) (hname : node.name = some nm) (hnl : '\n' ∉ chunk)
    (hr : writeFor p st chunk node = some st') : ∃ fi ind l c, NamedWrite p st st' chunk nm node fi ind l c := by
  unfold writeFor at hr
  simp only [hb, Bool.false_eq_true, if_false] at hr
  split at hr
  · cases hr
  · rename_i fileIndex hfi
    simp only [hname, Option.some.injEq] at hr
    have w1 := prims_flush p (R := fun a _ b => Inv a → Inv b) (fun _ h => h) inv_prim
      { st with names := (mapName p st.names nm).1 } (hw.of_eq rfl rfl rfl rfl rfl)
    have hp1 := flush_pending { st with names := (mapName p st.names nm).1 }
    obtain ⟨ind, hind, hsp⟩ := flush_buf { st with names := (mapName p st.names nm).1 }
    generalize hs1 : flushIndent { st with names := (mapName p st.names nm).1 } = s1 at hr w1 hp1 hind
    have hnames : s1.names = (mapName p st.names nm).1 := by
      rw [← hs1]; unfold flushIndent; split <;> rfl
    have hmap : s1.mapping = st.mapping := by
      rw [← hs1]; unfold flushIndent; split <;> rfl
    have hpend : (wAddEntry s1 ⟨s1.line, s1.col, node.line, node.col, fileIndex, some (mapName p st.names nm).2⟩).pending = false := hp1
    have hcur : cursorFrom (0, 0) s1.buf = (s1.line, s1.col) := w1.cursor
    rw [write_noNl _ chunk hnl hpend] at hr
    subst hr
    have hind' : s1.buf = st.buf ++ ind := hind
    refine ⟨fileIndex, ind, s1.line, s1.col, hfi, ?_, by show s1.buf ++ chunk = _; rw [hind'], hsp, hind' ▸ w1.cursor, ?_,
      hnames⟩
    · simp [wAddEntry, addEntry, hmap]
    · rw [← hind', cursorOf, cursorFrom_append, hcur, cursorFrom_noNl _ _ hnl]

theorem writeFor_named_run (p : Policy) (hp : p.Sound) (ops : List Op) (st st' : WState) (chunk nm : List Char)
    (node : Node) (h : run p WState.init ops = some st) (hb : node.builtin = false) (hname : node.name = some nm)
    (hnl : '\n' ∉ chunk) (hr : writeFor p st chunk node = some st') :
    ∃ fi ind l c, NamedWrite p st st' chunk nm node fi ind l c ∧
      st'.names.names[(mapName p st.names nm).2]? = some nm := by
  obtain ⟨fi, ind, l, c, w⟩ := writeFor_named p st st' chunk nm node (inv_run p ops _ _ inv_init h) hb hname hnl hr
  exact ⟨fi, ind, l, c, w, w.names ▸ (mapName_spec p hp st.names nm (ninv_run p hp ops _ _ ninv_init h)).2.1⟩

end NitroVerif.SourceMap
