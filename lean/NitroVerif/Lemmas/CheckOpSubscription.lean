import NitroVerif.Lemmas.CheckOpSites
/-!
5.2.3.1, the root keys of a subscription. What the checker's `selection_set_has_more_than_one_fields` collects at the
top level of a selection set (`mem_rootKeys_iff`); on an accepted document every key the reference validator collects
(`CollectFields`) is among them — along a `Fine` selection set the top-level spreads are off the stack and defined, so the
collection never stops short (`flatKey_collected`); and conversely the checker collects no key the
validator does not (`hasMoreThanOneField_false`).
-/
namespace NitroVerif.CheckOp
open NitroVerif.Gql NitroVerif.CheckCommon NitroVerif.Valid

/-- a response key collected at the top level of `ss`, through inline fragments and fragment spreads -/
inductive FlatKey (D : Doc) : List Selection → Name → Prop
  | here {ss : List Selection} {key : Name} : key ∈ keysFlat ss → FlatKey D ss key
  | through {ss : List Selection} {n key : Name} {f : FragmentDef} :
      n ∈ spreadsFlat ss → fragMap D n = some f → FlatKey D f.sel key → FlatKey D ss key

theorem mem_rootKeys_iff (H : KeysHandler) (seen : List Name) (key : Name) :
    (∀ s, key ∈ rootKeysSel H seen s ↔ key ∈ keysFlatSel s ∨ ∃ n ∈ spreadsFlatSel s, key ∈ H seen n) ∧
    (∀ ss, key ∈ rootKeys H seen ss ↔ key ∈ keysFlat ss ∨ ∃ n ∈ spreadsFlat ss, key ∈ H seen n) := by
  apply Selection.size.mutual_induct
  case case1 => intro al; cases al <;> simp [rootKeysSel, keysFlatSel, spreadsFlatSel]
  case case2 => intro al; cases al <;> simp [rootKeysSel, keysFlatSel, spreadsFlatSel]
  case case3 => simp [rootKeysSel, keysFlatSel, spreadsFlatSel]
  case case4 => intro _ _ ss _ ih; simpa only [rootKeysSel, keysFlatSel, spreadsFlatSel] using ih
  case case5 => simp [rootKeys, keysFlat, spreadsFlat]
  case case6 =>
    intro s ss ih1 ih2
    simp only [rootKeys, keysFlat, spreadsFlat, List.mem_append, ih1, ih2, or_and_right, exists_or]
    exact or_or_or_comm

theorem spreadsFlat_sub (n : Name) :
    (∀ s, n ∈ spreadsFlatSel s → n ∈ spreadNamesSel s) ∧ (∀ ss, n ∈ spreadsFlat ss → n ∈ spreadNames ss) := by
  apply Selection.size.mutual_induct
  case case1 => intro _ _ _ _ _ _ _ h; simp [spreadsFlatSel] at h
  case case2 => intro _ _ _ _ _ h; simp [spreadsFlatSel] at h
  case case3 => intro _ _ _ _ h; simpa [spreadsFlatSel, spreadNamesSel] using h
  case case4 => intro _ _ _ _ ih h; exact ih (by simpa [spreadsFlatSel] using h)
  case case5 => intro h; simp [spreadsFlat] at h
  case case6 =>
    intro s ss ih1 ih2 h
    simp only [spreadsFlat, List.mem_append] at h
    rw [spreadNames_cons, List.mem_append]
    exact h.imp ih1 ih2

/-- the top-level spreads the collection follows are spreads of a fine set: off the stack and defined -/
theorem flatKey_collected {S : Schema} {D : Doc} {A : ErrKind → Bool} {vars : Option (List VarDef)}
    {seen : List Name} {t : Name} {ss : List Selection} (h : Fine S D A vars seen t ss) :
    ∀ k, Search.unseen (fragNamesOf D) seen < k → ∀ key, FlatKey D ss key → key ∈ rootKeys (keysHandler D k) seen ss := by
  induction h with
  | @mk seen t ss _ hfresh _ _ ih =>
    intro k hk key hkey
    cases hkey with
    | here h => exact ((mem_rootKeys_iff _ _ _).2 _).mpr (.inl h)
    | @through _ n _ f hn hm hsub =>
      have hn' := (spreadsFlat_sub n).2 ss hn
      have hs : seen.contains n = false := by simpa using hfresh n hn'
      have := unseen_push hs hm
      cases k with
      | zero => omega
      | succ k =>
        refine ((mem_rootKeys_iff _ _ _).2 _).mpr (.inr ⟨n, hn, ?_⟩)
        simp only [keysHandler, hs, Bool.false_eq_true, if_false, hm]
        exact ih n hn' f hm k (by omega) key hsub

theorem flatKey_of_reach {D : Doc} (hnd : nodupB (fragNamesOf D) = true) {ss : List Selection} {n : Name}
    (hr : SpecFlatReach D ss n) :
    ∀ (f : FragmentDef) (key : Name), fragMap D n = some f → FlatKey D f.sel key → FlatKey D ss key := by
  induction hr with
  | base hn => intro f key hm hk; exact FlatKey.through hn hm hk
  | step _ hg hn ih =>
    intro f key hm hk
    exact ih _ key (by rw [← frag?_eq_fragMap hnd]; exact hg) (FlatKey.through hn hm hk)

theorem rootKeys_flatKey {D : Doc} (hnd : nodupB (fragNamesOf D) = true) {ss : List Selection} {key : Name}
    (h : key ∈ Valid.rootKeys D ss) : FlatKey D ss key := by
  rcases (mem_validRootKeys_iff D ss key).mp h with h' | ⟨n, g, hr, hg, hk⟩
  · exact FlatKey.here h'
  · exact flatKey_of_reach hnd hr g key (by rw [← frag?_eq_fragMap hnd]; exact hg) (FlatKey.here hk)

theorem length_le_one_of_nodup_const {a : Name} : ∀ {l : List Name}, l.Nodup → (∀ x ∈ l, x = a) → l.length ≤ 1
  | [], _, _ => Nat.zero_le 1
  | [_], _, _ => Nat.le_refl 1
  | x :: y :: _, nd, h =>
    absurd ((h x List.mem_cons_self).trans (h y (List.mem_cons_of_mem _ List.mem_cons_self)).symm)
      fun e => (List.nodup_cons.mp nd).1 (e ▸ List.mem_cons_self)

theorem two_le_length_of_ne {x y : Name} {l : List Name} (hx : x ∈ l) (hy : y ∈ l) (hne : x ≠ y) : 2 ≤ l.length := by
  cases l with
  | nil => cases hx
  | cons a l =>
    cases l with
    | nil => simp at hx hy; exact absurd (hx.trans hy.symm) hne
    | cons b l => simp

theorem dedup_le_one_of_subset {L M : List Name} (hsub : ∀ x ∈ L, x ∈ M) (hM : (dedupNames M).length ≤ 1) :
    (Valid.dedup L).length ≤ 1 := by
  cases L with
  | nil => simp [Valid.dedup]
  | cons a L' =>
    have hall : ∀ x ∈ a :: L', x = a := by
      intro x hx
      cases hc : decide (x = a) with
      | true => exact of_decide_eq_true hc
      | false =>
        exfalso
        have hne : x ≠ a := of_decide_eq_false hc
        have h1 : x ∈ dedupNames M := mem_foldl_dedup_of M [] (Or.inr (hsub x hx))
        have h2 : a ∈ dedupNames M := mem_foldl_dedup_of M [] (Or.inr (hsub a (by simp)))
        have := two_le_length_of_ne h1 h2 hne
        omega
    exact length_le_one_of_nodup_const ((collects_dedup fun x : Name => x).nodup _ [] List.nodup_nil)
      fun x hx => hall x (mem_dedup hx)

/-- 5.2.3.1, at most one: every key the specification collects is among those the checker counted -/
theorem rootKeys_le_one {S : Schema} {D : Doc} (h : checkOp S D = []) {o : OperationDef} (ho : o ∈ opsOf D)
    (hkind : o.kind = .subscription) : (Valid.rootKeys D o.sel).length ≤ 1 := by
  obtain ⟨_, _, hsub, hfine⟩ := accepted_op h ho
  have hM : (dedupNames (rootKeys (keysHandler D (fuelFor D)) [] o.sel)).length ≤ 1 := by
    have hk : (o.kind == OpKind.subscription) = true := by rw [hkind]; rfl
    simp only [hk, Bool.true_and, hasMoreThanOneField, decide_eq_false_iff_not] at hsub
    omega
  unfold Valid.rootKeys
  refine dedup_le_one_of_subset (fun key hkey => ?_) hM
  have hflat : FlatKey D o.sel key := rootKeys_flatKey (accepted_nodup h) (by
    unfold Valid.rootKeys
    exact mem_foldl_dedup_of _ [] (Or.inr hkey))
  exact flatKey_collected hfine _ (fuelFor_enough D [] (Nat.le_refl _)) key hflat

/-! ### the other direction: the checker collects no key the specification does not

so a subscription with exactly one root response key is not reported. -/

section
variable {D : Doc} (hnd : nodupB (fragNamesOf D) = true)
include hnd

/-- what the key handler collects through a fragment reachable from the top level of `ss0` -/
theorem keysHandler_sub (ss0 : List Selection) : ∀ (fuel : Nat) (seen : List Name) (n key : Name),
    n ∈ Valid.reachableFlat D ss0 → key ∈ keysHandler D fuel seen n →
    key ∈ (Valid.reachableFlat D ss0).flatMap fun n => match Valid.frag? D n with | some f => keysFlat f.sel | none => [] := by
  intro fuel
  induction fuel with
  | zero => intro seen n key _ hk; simp [keysHandler] at hk
  | succ fuel ih =>
    intro seen n key hn hk
    simp only [keysHandler] at hk
    split at hk
    · cases hk
    · cases hm : fragMap D n with
      | none => simp [hm] at hk
      | some f =>
        simp only [hm] at hk
        rcases ((mem_rootKeys_iff _ _ key).2 f.sel).mp hk with h | ⟨n', hn', h⟩
        · refine List.mem_flatMap.mpr ⟨n, hn, ?_⟩
          simp only [frag?_eq_fragMap hnd, hm]
          exact h
        · exact ih _ n' key ((reachableFlat_facts hnd ss0).2 n f n' hn hm hn') h

theorem hasMoreThanOneField_false {ss : List Selection} (h : (Valid.rootKeys D ss).length = 1) :
    hasMoreThanOneField D ss = false := by
  unfold hasMoreThanOneField
  have hsub : ∀ key ∈ rootKeys (keysHandler D (fuelFor D)) [] ss,
      key ∈ keysFlat ss ++ (Valid.reachableFlat D ss).flatMap fun n =>
        match Valid.frag? D n with | some f => keysFlat f.sel | none => [] := by
    intro key hk
    rcases ((mem_rootKeys_iff _ _ key).2 ss).mp hk with h' | ⟨n, hn, h'⟩
    · exact List.mem_append_left _ h'
    · exact List.mem_append_right _
        (keysHandler_sub hnd ss _ _ n key ((reachableFlat_facts hnd ss).1 n hn) h')
  have hM : (dedupNames (keysFlat ss ++ (Valid.reachableFlat D ss).flatMap fun n =>
      match Valid.frag? D n with | some f => keysFlat f.sel | none => [])).length ≤ 1 := by
    have : (Valid.rootKeys D ss).length ≤ 1 := by omega
    exact this
  have := dedup_le_one_of_subset hsub hM
  have this' : (dedupNames (rootKeys (keysHandler D (fuelFor D)) [] ss)).length ≤ 1 := this
  simp only [decide_eq_false_iff_not]
  omega
end

end NitroVerif.CheckOp
