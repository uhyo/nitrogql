import NitroVerif.Model.GqlPrint
import NitroVerif.Spec.StripDirective
import NitroVerif.Lemmas.ListFacts
/-!
C16, stripping layer: where the directive is not applied, stripping changes nothing; the conditions under which the code's two
removals are `stripDirective` (`OnlyOnScalars`, `OnlyOnObjects`), and the document the server module prints (`serverDoc`).
-/
namespace NitroVerif.Strip
open NitroVerif.Gql

def dirsClean (n : Name) (ds : List Directive) : Bool := ds.all fun d => d.name != n
def ivClean (n : Name) (v : InputValueDef) : Bool := dirsClean n v.dirs
def fieldClean (n : Name) (f : FieldDef) : Bool := dirsClean n f.dirs && f.args.all (ivClean n)
def enumValueClean (n : Name) (v : EnumValueDef) : Bool := dirsClean n v.dirs
/-- no application of `@n` below the type's own directive list -/
def typeInnerClean (n : Name) (t : TypeDef) : Bool :=
  t.fields.all (fieldClean n) && t.values.all (enumValueClean n) && t.inputs.all (ivClean n)

theorem map_clean {α} {p : α → Bool} {f : α → α} (hf : ∀ x, p x = true → f x = x) (l : List α)
    (h : l.all p = true) : l.map f = l :=
  (List.map_congr_left fun x hx => hf x (List.all_eq_true.mp h x hx)).trans (List.map_id l)

theorem dirs_clean (n : Name) (ds : List Directive) (h : dirsClean n ds = true) : dirs n ds = ds :=
  List.filter_eq_self.mpr (List.all_eq_true.mp h)

theorem inputValue_clean (n : Name) (v : InputValueDef) (h : ivClean n v = true) : inputValue n v = v := by
  rw [inputValue, dirs_clean n v.dirs h]

theorem inputValues_clean (n : Name) (vs : List InputValueDef) (h : vs.all (ivClean n) = true) :
    vs.map (inputValue n) = vs :=
  map_clean (inputValue_clean n) vs h

theorem field_clean (n : Name) (f : FieldDef) (h : fieldClean n f = true) : field n f = f := by
  simp only [fieldClean, Bool.and_eq_true] at h
  rw [field, dirs_clean n f.dirs h.1, inputValues_clean n f.args h.2]

theorem enumValue_clean (n : Name) (v : EnumValueDef) (h : enumValueClean n v = true) : enumValue n v = v := by
  rw [enumValue, dirs_clean n v.dirs h]

theorem typeDef_inner_clean (n : Name) (t : TypeDef) (h : typeInnerClean n t = true) :
    typeDef n t = { t with dirs := dirs n t.dirs } := by
  simp only [typeInnerClean, Bool.and_eq_true] at h
  rw [typeDef, map_clean (field_clean n) _ h.1.1, map_clean (enumValue_clean n) _ h.1.2, inputValues_clean n _ h.2]

theorem field_args_clean (n : Name) (f : FieldDef) (h : f.args.all (ivClean n) = true) :
    field n f = { f with dirs := dirs n f.dirs } := by
  rw [field, inputValues_clean n f.args h]

/-- an object type whose field arguments, enum values and input fields are clean -/
def objectInnerClean (n : Name) (t : TypeDef) : Bool :=
  t.fields.all (fun f => f.args.all (ivClean n)) && t.values.all (enumValueClean n) && t.inputs.all (ivClean n)

theorem typeDef_object_clean (n : Name) (t : TypeDef) (h : objectInnerClean n t = true) :
    typeDef n t = { t with dirs := dirs n t.dirs, fields := t.fields.map fun f => { f with dirs := dirs n f.dirs } } := by
  simp only [objectInnerClean, Bool.and_eq_true] at h
  rw [typeDef, List.map_congr_left fun f hf => field_args_clean n f (List.all_eq_true.mp h.1.1 f hf),
    map_clean (enumValue_clean n) _ h.1.2, inputValues_clean n _ h.2]

/-! ### whole items, and a per-item function that agrees with `item` -/

theorem item_directiveDef_clean (n : Name) (d : DirectiveDef) (h : d.args.all (ivClean n) = true) :
    item n (.directiveDef d) = if d.name = n then none else some (.directiveDef d) := by
  rw [item, inputValues_clean n _ h]

theorem item_typeDef_inner_clean (n : Name) (t : TypeDef) (h : typeInnerClean n t = true) :
    item n (.typeDef t) = some (.typeDef { t with dirs := dirs n t.dirs }) := by
  rw [item, typeDef_inner_clean n t h]

theorem item_typeDef_clean (n : Name) (t : TypeDef) (h : typeInnerClean n t = true) (hd : dirsClean n t.dirs = true) :
    item n (.typeDef t) = some (.typeDef t) := by
  rw [item_typeDef_inner_clean n t h, dirs_clean n _ hd]

theorem item_typeExt_clean (n : Name) (t : TypeDef) (h : typeInnerClean n t = true) (hd : dirsClean n t.dirs = true) :
    item n (.typeExt t) = some (.typeExt t) := by
  rw [item, typeDef_inner_clean n t h, dirs_clean n _ hd]

theorem item_schemaDef_clean (n : Name) (s : SchemaDef) (h : dirsClean n s.dirs = true) :
    item n (.schemaDef s) = some (.schemaDef s) := by
  rw [item, schemaDef, dirs_clean n _ h]

theorem item_schemaExt_clean (n : Name) (s : SchemaDef) (h : dirsClean n s.dirs = true) :
    item n (.schemaExt s) = some (.schemaExt s) := by
  rw [item, schemaDef, dirs_clean n _ h]

theorem stripDirective_of_item (n : Name) (f : TsItem → Option TsItem) (d : TsDoc) (h : ∀ i ∈ d, f i = item n i) :
    d.filterMap f = stripDirective n d :=
  filterMap_congr_mem h

end NitroVerif.Strip

/-! ### the two removals of the code against `stripDirective` -/
namespace NitroVerif.C16
open NitroVerif.Gql NitroVerif.GqlPrint

/-- `@n` is applied on scalar definitions only (what the type-system checker guarantees for
    `@nitrogql_ts_type … on SCALAR`) -/
def OnlyOnScalars (n : Name) (d : TsDoc) : Prop :=
  ∀ i ∈ d, match i with
    | .typeDef t => Strip.typeInnerClean n t = true ∧ (t.kind = .scalar ∨ Strip.dirsClean n t.dirs = true)
    | .typeExt t => Strip.typeInnerClean n t = true ∧ Strip.dirsClean n t.dirs = true
    | .directiveDef dd => dd.args.all (Strip.ivClean n) = true
    | .schemaDef s => Strip.dirsClean n s.dirs = true
    | .schemaExt s => Strip.dirsClean n s.dirs = true

/-- `@n` is applied on object type definitions and on their fields only (what the model plugin's `check_schema`
    and the location list `OBJECT | FIELD_DEFINITION` leave possible in an accepted schema) -/
def OnlyOnObjects (n : Name) (d : TsDoc) : Prop :=
  ∀ i ∈ d, match i with
    | .typeDef t =>
      (t.kind = .object ∧ Strip.objectInnerClean n t = true) ∨
      (t.kind ≠ .object ∧ Strip.typeInnerClean n t = true ∧ Strip.dirsClean n t.dirs = true)
    | .typeExt t => Strip.typeInnerClean n t = true ∧ Strip.dirsClean n t.dirs = true
    | .directiveDef dd => dd.args.all (Strip.ivClean n) = true
    | .schemaDef s => Strip.dirsClean n s.dirs = true
    | .schemaExt s => Strip.dirsClean n s.dirs = true

/-- the document `serverGraphqlOutput` prints for the checked document `d`: `@nitrogql_ts_type` stripped, and `@model`
    too when the model plugin is on (specification side: `Strip.stripDirective`) -/
def serverDoc (d : TsDoc) (modelPlugin : Bool) : TsDoc :=
  if modelPlugin then Strip.stripDirective modelName (Strip.stripDirective nitroName d) else Strip.stripDirective nitroName d

theorem removeBuiltins_strip (d : TsDoc) (h : OnlyOnScalars nitroName d) :
    removeBuiltins d = Strip.stripDirective nitroName d := by
  refine Strip.stripDirective_of_item _ _ d fun i hi => ?_
  have hi := h i hi
  cases i with
  | directiveDef dd =>
    simp only at hi
    rw [Strip.item_directiveDef_clean _ _ hi]
    by_cases hn : dd.name = nitroName <;> simp [removeBuiltinsItem, hn]
  | typeDef t =>
    simp only at hi
    obtain ⟨hin, hd⟩ := hi
    rw [Strip.item_typeDef_inner_clean _ _ hin]
    by_cases hk : t.kind = .scalar
    · simp [removeBuiltinsItem, hk, dropDirs, Strip.dirs]
    · simp [removeBuiltinsItem, hk, Strip.dirs_clean _ _ (hd.resolve_left hk)]
  | typeExt t => simp only at hi; exact (Strip.item_typeExt_clean _ _ hi.1 hi.2).symm
  | schemaDef s => simp only at hi; exact (Strip.item_schemaDef_clean _ _ hi).symm
  | schemaExt s => simp only at hi; exact (Strip.item_schemaExt_clean _ _ hi).symm

theorem removeModel_strip (d : TsDoc) (h : OnlyOnObjects modelName d) :
    removeModel d = Strip.stripDirective modelName d := by
  refine Strip.stripDirective_of_item _ _ d fun i hi => ?_
  have hi := h i hi
  cases i with
  | directiveDef dd =>
    simp only at hi
    rw [Strip.item_directiveDef_clean _ _ hi]
    rfl
  | typeDef t =>
    simp only at hi
    rcases hi with ⟨hk, hin⟩ | ⟨hk, hin, hd⟩
    · simp only [removeModelItem, Strip.item, hk, if_true, Strip.typeDef_object_clean _ _ hin]
      rfl
    · rw [Strip.item_typeDef_clean _ _ hin hd]
      simp [removeModelItem, hk]
  | typeExt t => simp only at hi; exact (Strip.item_typeExt_clean _ _ hi.1 hi.2).symm
  | schemaDef s => simp only at hi; exact (Strip.item_schemaDef_clean _ _ hi).symm
  | schemaExt s => simp only at hi; exact (Strip.item_schemaExt_clean _ _ hi).symm

end NitroVerif.C16
