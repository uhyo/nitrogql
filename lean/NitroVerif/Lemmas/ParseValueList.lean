/-
Lists of the `Value` sub-language (helper lemmas for Props/C07 `render_parse_value`): `e*` / `e+` in a rule body generated
WITH skip calls (`sequence(optional(e ~ (skip ~ e)*))`, `Peg.starRest`); a bracketed sequence of items of any kind, each written
after its gap (`Items`: the loop, the tail of `e+`, the bracket rule `o ~ close | o ~ e+ ~ close`); and the `ListValue` rule on
the rendering of a list whose items are known to parse (`ValRuns`) as the instance for values.
-/
import NitroVerif.Lemmas.ParseValueDefs
namespace NitroVerif.ValueParse
open NitroVerif.Peg NitroVerif.Gen NitroVerif.Build NitroVerif.TypeParse NitroVerif.StringParse NitroVerif.Gql

/-- `repeat(sequence(skip ~ a))` from `c` ends at `c'` with pairs `ps` -/
def RunsSR (n : Nat) (a : Expr) (c c' : Cur) (ps : List Pair) : Prop :=
  ∀ tr, ∃ tr', ∀ f, n ≤ f → starRest gList f a .nonAtomic .none tr c = (tr', .ok c' ps)

theorem RunsSR.mono {n m a c c' ps} (h : RunsSR n a c c' ps) (hnm : n ≤ m) : RunsSR m a c c' ps :=
  fun tr => let ⟨tr', h'⟩ := h tr; ⟨tr', fun f hf => h' f (Nat.le_trans hnm hf)⟩

theorem RunsSR.cast {n a c c' ps d d' qs} (h : RunsSR n a c c' ps) (h1 : c = d) (h2 : c' = d') (h3 : ps = qs) :
    RunsSR n a d d' qs := h1 ▸ h2 ▸ h3 ▸ h

theorem SkipTo.cast {n c c' d d'} (h : SkipTo n c c') (h1 : c = d) (h2 : c' = d') : SkipTo n d d' := h1 ▸ h2 ▸ h

theorem exists_succ_le {n f : Nat} (h : n + 1 ≤ f) : ∃ f', f = f' + 1 ∧ n ≤ f' := by
  cases f with
  | zero => exact absurd h (Nat.not_succ_le_zero n)
  | succ f' => exact ⟨f', rfl, Nat.le_of_succ_le_succ h⟩

/-- the loop stops: after the skip the item fails; the cursor returned is the one BEFORE the skip -/
theorem runsSR_nil {k m a c c1} (hs : SkipTo k c c1) (hf : Fails gList m true a .nonAtomic c1) :
    RunsSR (max k m + 1) a c c [] := by
  intro tr
  obtain ⟨tr1, h1⟩ := hs tr
  obtain ⟨tr2, h2⟩ := hf tr1
  refine ⟨tr2, fun f hf' => ?_⟩
  obtain ⟨f', rfl, hle⟩ := exists_succ_le hf'
  simp only [starRest, h1 f' (Nat.le_trans (Nat.le_max_left ..) hle), h2 f' (Nat.le_trans (Nat.le_max_right ..) hle)]

theorem runsSR_cons {k n m a c c1 c2 c3 p2 p3} (hs : SkipTo k c c1) (ha : Runs gList n true a .nonAtomic c1 c2 p2)
    (hr : RunsSR m a c2 c3 p3) : RunsSR (max k (max n m) + 1) a c c3 (p2 ++ p3) := by
  intro tr
  obtain ⟨tr1, h1⟩ := hs tr
  obtain ⟨tr2, h2⟩ := ha tr1
  obtain ⟨tr3, h3⟩ := hr tr2
  refine ⟨tr3, fun f hf' => ?_⟩
  obtain ⟨f', rfl, hle⟩ := exists_succ_le hf'
  have hnm := Nat.le_trans (Nat.le_max_right k _) hle
  simp only [starRest, h1 f' (Nat.le_trans (Nat.le_max_left ..) hle), h2 f' (Nat.le_trans (Nat.le_max_left ..) hnm),
    h3 f' (Nat.le_trans (Nat.le_max_right ..) hnm), List.nil_append]

theorem runs_star_sk_nil {n a c} (hf : Fails gList n true a .nonAtomic c) :
    Runs gList (n + 1) true (.star a) .nonAtomic c c [] := by
  intro tr
  obtain ⟨tr1, h1⟩ := hf tr
  refine ⟨tr1, fun f hf' => ?_⟩
  obtain ⟨f', rfl, hle⟩ := exists_succ_le hf'
  simp only [eval, if_true, h1 f' hle]

theorem runs_star_sk_cons {n m a c c1 c2 p1 p2} (ha : Runs gList n true a .nonAtomic c c1 p1) (hr : RunsSR m a c1 c2 p2) :
    Runs gList (max n m + 1) true (.star a) .nonAtomic c c2 (p1 ++ p2) := by
  intro tr
  obtain ⟨tr1, h1⟩ := ha tr
  obtain ⟨tr2, h2⟩ := hr tr1
  refine ⟨tr2, fun f hf' => ?_⟩
  obtain ⟨f', rfl, hle⟩ := exists_succ_le hf'
  simp only [eval, if_true, h1 f' (Nat.le_trans (Nat.le_max_left ..) hle), h2 f' (Nat.le_trans (Nat.le_max_right ..) hle)]

theorem runs_plus_sk {n a c c' ps} (h : Runs gList n true (.seq a (.star a)) .nonAtomic c c' ps) :
    Runs gList (n + 1) true (.plus a) .nonAtomic c c' ps := runsL_plus (la := .none) h

theorem valEnd_close {x : Char} {r : List Char} (hx : x = ']' ∨ x = '}' ∨ x = ')') : ValEnd (x :: r) :=
  valEnd_of_head fun d r' he => by
    cases he
    rcases hx with h | h | h
    · exact Or.inr (Or.inl h)
    · exact Or.inr (Or.inr (Or.inl h))
    · exact Or.inr (Or.inr (Or.inr (Or.inl h)))

theorem valEnd_ws_ne {t u : List Char} (ht : Ws t) (hne : t ≠ []) : ValEnd (t ++ u) := by
  cases t with
  | nil => exact absurd rfl hne
  | cons d t' =>
    exact valEnd_of_head fun d' r he => by
      cases he
      rcases ht.head d t' rfl with h | h
      · exact Or.inl h
      · exact Or.inr (Or.inr (Or.inr (Or.inr h)))

theorem valEnd_ws_append {t u : List Char} (ht : Ws t) (hu : ValEnd u) : ValEnd (t ++ u) := by
  cases t with
  | nil => exact hu
  | cons d t' => exact valEnd_ws_ne ht (List.cons_ne_nil _ _)

theorem headNot_trivia_close {x : Char} {r : List Char} (hx : x = ']' ∨ x = '}' ∨ x = ')' ∨ x = ':') :
    HeadNot trivia (x :: r) := by
  rcases hx with rfl | rfl | rfl | rfl <;> exact headNot_cons (by decide) _

/-- the statement of `render_parse_value` for one value (parser half) -/
def ValRuns (τ : Trivia) (v : Value) : Prop := ∀ p rest, ValEnd rest →
  RunsRule gList (B (renderV τ p v).length) R.Value .nonAtomic ⟨p, renderV τ p v ++ rest⟩
    ⟨p + (renderV τ p v).length, rest⟩ [valuePair τ p v]

theorem renderV_headNot_trivia (τ : Trivia) (p : Nat) (v : Value) (h : WFV v) (x : List Char) :
    HeadNot trivia (renderV τ p v ++ x) := by
  obtain ⟨d, r, hd, hh⟩ := renderV_head τ p v h
  rw [hd]; exact headNot_cons (valHead_not_trivia hh) _

theorem renderV_headNot_close (τ : Trivia) (p : Nat) (v : Value) (h : WFV v) (x : List Char) (c : Char)
    (hc : c = ']' ∨ c = '}' ∨ c = ':') : HeadNot (· = c) (renderV τ p v ++ x) := by
  obtain ⟨d, r, hd, hh⟩ := renderV_head τ p v h
  rw [hd]
  refine headNot_cons ?_ _
  have := valHead_not_close hh
  rcases hc with rfl | rfl | rfl
  · exact this.1
  · exact this.2.1
  · exact this.2.2

theorem itemsBody_cons (τ : Trivia) (q : Nat) (first : Bool) (v : Value) (vs : List Value) :
    itemsBody τ q first (v :: vs) = gapOf first (τ q) ++ (renderV τ (q + (gapOf first (τ q)).length) v ++
      itemsBody τ (q + (gapOf first (τ q)).length + (renderV τ (q + (gapOf first (τ q)).length) v).length) false vs) := by
  simp [itemsBody]

theorem itemPairs_cons (τ : Trivia) (q : Nat) (first : Bool) (v : Value) (vs : List Value) :
    itemPairs τ q first (v :: vs) = valuePair τ (q + (gapOf first (τ q)).length) v ::
      itemPairs τ (q + (gapOf first (τ q)).length + (renderV τ (q + (gapOf first (τ q)).length) v).length) false vs := by
  simp [itemPairs, valuePair]

/-- a kind of item: its text and its pair when written at an offset -/
structure ItemKind (α : Type) where
  text : Nat → α → List Char
  pair : Nat → α → Pair

/-- `T` is the text of the items `xs` written from offset `q` up to offset `q'`, each after its gap (`first`: the first gap
    may be empty), and `ps` are their pairs -/
inductive Items (τ : Trivia) {α : Type} (S : ItemKind α) : Nat → Bool → List α → List Char → List Pair → Nat → Prop
  | nil (q first) : Items τ S q first [] [] [] q
  | cons {q first x xs g t T ps q'} (hg : g = gapOf first (τ q)) (ht : t = S.text (q + g.length) x) :
      Items τ S (q + g.length + t.length) false xs T ps q' →
      Items τ S q first (x :: xs) (g ++ (t ++ T)) (S.pair (q + g.length) x :: ps) q'

theorem Items.end_eq {τ : Trivia} {α : Type} {S : ItemKind α} {q first xs T ps q'} (h : Items τ S q first xs T ps q') :
    q' = q + T.length := by
  induction h with
  | nil => rfl
  | cons _ _ _ ih => rw [ih]; simp only [List.length_append, Nat.add_assoc]

/-- what is asked of an item of a sequence read by `e` and closed by `close`: its text starts with neither trivia nor the
    closing bracket, and `e` reads it when a character that ends a value follows -/
structure ItemOk {α : Type} (S : ItemKind α) (e : Expr) (close : Char) (x : α) : Prop where
  notTrivia : ∀ q y, HeadNot trivia (S.text q x ++ y)
  notClose : ∀ q y, HeadNot (· = close) (S.text q x ++ y)
  runs : ∀ q rest, ValEnd rest → Runs gList (B (S.text q x).length + 1) true e .nonAtomic ⟨q, S.text q x ++ rest⟩
    ⟨q + (S.text q x).length, rest⟩ [S.pair q x]

theorem headNot_trivia_of_close {close : Char} (hc : close = ']' ∨ close = '}' ∨ close = ')') (r : List Char) :
    HeadNot trivia (close :: r) :=
  headNot_trivia_close (hc.elim Or.inl fun h => h.elim (fun h => Or.inr (Or.inl h)) fun h => Or.inr (Or.inr (Or.inl h)))

/-! the depth bounds of the three lemmas below, in the lengths `g`, `t`, `T`, `pad` of a gap, an item, the items after it and
    the padding in front of the closing bracket -/

theorem fuel_loop {g t T pad : Nat} (hg : 1 ≤ g) :
    max (g + 60) (max (B t + 1) (B (T + pad))) + 1 ≤ B (g + (t + T) + pad) := by
  simp only [B]; omega

theorem fuel_plus (g t T pad : Nat) :
    g + 60 ≤ B (g + (t + T) + pad) + 2 ∧ max (B t + 1) (B (T + pad)) + 1 ≤ B (g + (t + T) + pad) + 2 ∧
      pad + 60 ≤ B (g + (t + T) + pad) + 2 := by
  simp only [B]; omega

theorem fuel_bracket (g t T pad : Nat) :
    B t + 1 ≤ 60 * (g + t + T + pad) + 102 ∧ B (T + pad) + 2 ≤ 60 * (g + t + T + pad) + 102 ∧
      g + 60 ≤ 60 * (g + t + T + pad) + 102 + 3 ∧
      60 * (g + t + T + pad) + 102 + 3 + 1 + 1 ≤ 60 * (g + (t + T) + pad + 2) + 79 := by
  simp only [B]; omega

section
variable {τ : Trivia} {α : Type} {S : ItemKind α} {e : Expr} {close : Char} (hτ : ∀ q, Ws (τ q))
  (hc : close = ']' ∨ close = '}' ∨ close = ')') (hfail : ∀ p r, Fails gList 32 true e .nonAtomic ⟨p, close :: r⟩)
include hτ hc

theorem Items.valEnd {q xs T ps q'} (h : Items τ S q false xs T ps q') (rest : List Char) :
    ValEnd (T ++ (τ q' ++ close :: rest)) := by
  cases h with
  | nil => exact show ValEnd (τ _ ++ _) from valEnd_ws_append (hτ _) (valEnd_close hc)
  | cons hg ht h =>
    rw [List.append_assoc]
    exact valEnd_ws_ne (hg ▸ ws_gapOf (hτ q)) (hg ▸ sepOf_ne_nil (τ q))

include hfail

/-- the loop over the remaining items, from the cursor right after an item -/
theorem Items.sr {q xs T ps q'} (h : Items τ S q false xs T ps q') (hok : ∀ x ∈ xs, ItemOk S e close x)
    (rest : List Char) :
    RunsSR (B (T.length + (τ q').length)) e ⟨q, T ++ (τ q' ++ close :: rest)⟩ ⟨q', τ q' ++ close :: rest⟩ ps := by
  generalize hf : false = first at h
  induction h with
  | nil q first =>
    refine RunsSR.cast ((runsSR_nil (skip_ws (τ q) (hτ q) q (close :: rest) (headNot_trivia_of_close hc rest))
      (hfail _ rest)).mono ?_) rfl rfl rfl
    simp only [B]; omega
  | @cons q first x xs g t T ps q' hg ht h ih =>
    subst hf
    have hx := hok x (List.mem_cons_self ..)
    have hs := skip_ws g (hg ▸ ws_gapOf (hτ q)) q (t ++ (T ++ (τ q' ++ close :: rest))) (ht ▸ hx.notTrivia _ _)
    have hrun := hx.runs (q + g.length) (T ++ (τ q' ++ close :: rest)) (h.valEnd hτ hc rest)
    rw [← ht] at hrun
    refine RunsSR.cast ((runsSR_cons hs hrun (ih (fun y hy => hok y (List.mem_cons_of_mem _ hy)) rfl)).mono ?_)
      (by rw [List.append_assoc, List.append_assoc]) rfl rfl
    simp only [List.length_append]
    exact fuel_loop (hg ▸ List.length_pos_iff.mpr (sepOf_ne_nil _))

/-- `e+`'s tail after the first item: skip, `e*`, and the skip in front of the closing bracket -/
theorem Items.plus {q xs T ps q'} (h : Items τ S q false xs T ps q') (hok : ∀ x ∈ xs, ItemOk S e close x)
    (rest : List Char) :
    ∃ c3 cE, SkipTo (B (T.length + (τ q').length) + 2) ⟨q, T ++ (τ q' ++ close :: rest)⟩ c3 ∧
      Runs gList (B (T.length + (τ q').length) + 2) true (.star e) .nonAtomic c3 cE ps ∧
      SkipTo (B (T.length + (τ q').length) + 2) cE ⟨q' + (τ q').length, close :: rest⟩ := by
  have hcl := headNot_trivia_of_close hc rest
  cases h with
  | nil =>
    exact ⟨_, _, (skip_ws (τ q) (hτ q) q (close :: rest) hcl).mono (by simp only [B]; omega),
      (runs_star_sk_nil (hfail _ rest)).mono (by simp only [B]; omega), (skipTo_noop hcl).mono (by simp only [B]; omega)⟩
  | @cons _ _ x xs g t T ps _ hg ht h =>
    have hx := hok x (List.mem_cons_self ..)
    have hs := skip_ws g (hg ▸ ws_gapOf (hτ q)) q (t ++ (T ++ (τ q' ++ close :: rest))) (ht ▸ hx.notTrivia _ _)
    have hrun := hx.runs (q + g.length) (T ++ (τ q' ++ close :: rest)) (h.valEnd hτ hc rest)
    rw [← ht] at hrun
    have hsr := h.sr hτ hc hfail (fun y hy => hok y (List.mem_cons_of_mem _ hy)) rest
    have hs2 := skip_ws (τ q') (hτ q') q' (close :: rest) hcl
    simp only [List.length_append]
    obtain ⟨b1, b2, b3⟩ := fuel_plus g.length t.length T.length (τ q').length
    exact ⟨_, _, SkipTo.cast (hs.mono b1) (by rw [List.append_assoc, List.append_assoc]) rfl,
      (runs_star_sk_cons hrun hsr).mono b2, hs2.mono b3⟩

/-- the body `o ~ close | o ~ e+ ~ close` of a bracket rule on the text of a sequence of items -/
theorem Items.bracket {o : Char} {p xs T ps q'} (h : Items τ S (p + 1) true xs T ps q') (hok : ∀ x ∈ xs, ItemOk S e close x)
    (rest : List Char) :
    Runs gList (60 * (T.length + (τ q').length + 2) + 79) true
      (.choice (.seq (.str [o]) (.str [close])) (.seq (.str [o]) (.seq (.plus e) (.str [close])))) .nonAtomic
      ⟨p, o :: (T ++ (τ q' ++ close :: rest))⟩ ⟨q' + (τ q').length + 1, rest⟩ ps := by
  have hopen : ∀ x : List Char, Runs gList 1 true (.str [o]) .nonAtomic ⟨p, o :: x⟩ ⟨p + 1, x⟩ [] := fun x =>
    runs_str (c := ⟨p, o :: x⟩) (by simp [matchStr])
  have hclose : ∀ k, Runs gList 1 true (.str [close]) .nonAtomic ⟨k, close :: rest⟩ ⟨k + 1, rest⟩ [] := fun k =>
    runs_str (c := ⟨k, close :: rest⟩) (by simp [matchStr])
  have hcl := headNot_trivia_of_close hc rest
  cases h with
  | nil =>
    exact (runs_choice_l (runs_seq_skip' (hopen _) (skip_ws (τ (p + 1)) (hτ _) (p + 1) (close :: rest) hcl)
      (hclose _))).mono (by simp only [List.length_nil]; omega)
  | @cons _ _ x xs g t T ps _ hg ht h =>
    have hx := hok x (List.mem_cons_self ..)
    obtain ⟨c3, cE, k1, k2, k3⟩ := h.plus hτ hc hfail (fun y hy => hok y (List.mem_cons_of_mem _ hy)) rest
    -- after the opening bracket: the padding, then the first item; so the alternative `o ~ close` fails
    have hs0 := skip_ws g (hg ▸ ws_gapOf (hτ _)) (p + 1) (t ++ (T ++ (τ q' ++ close :: rest))) (ht ▸ hx.notTrivia _ _)
    have hne := strL_head_fails (la := .none) (sk := true) (at_ := .nonAtomic) (p := p + 1 + g.length) (xs := [])
      (rest := t ++ (T ++ (τ q' ++ close :: rest))) (ht ▸ hx.notClose _ _)
    have hrun := hx.runs (p + 1 + g.length) (T ++ (τ q' ++ close :: rest)) (h.valEnd hτ hc rest)
    rw [← ht] at hrun
    -- one common threshold `N` for the leaves; every combinator adds one
    obtain ⟨b1, b2, b3, b4⟩ := fuel_bracket g.length t.length T.length (τ q').length
    generalize 60 * (g.length + t.length + T.length + (τ q').length) + 102 = N at b1 b2 b3 b4
    have one : ∀ k, 1 ≤ N + k := fun k => Nat.le_trans (Nat.le_trans (Nat.le_add_left 1 _) b2) (Nat.le_add_right N k)
    have hplus := runs_plus_sk (runs_seq_skip (hrun.mono b1) (k1.mono b2) (k2.mono b2))
    have alt2 := runs_seq_skip ((hopen _).mono (one 3)) (hs0.mono b3)
      (runs_seq_skip hplus (k3.mono (Nat.le_trans b2 (Nat.le_add_right N 2))) ((hclose _).mono (one 2)))
    have alt := runs_choice_r (fails_seq_skip_last ((hopen _).mono (one 3)) (hs0.mono b3) (hne.mono (one 3))) alt2
    simp only [List.length_append]
    exact Runs.cast (alt.mono b4) (by rw [List.append_assoc, List.append_assoc]) rfl
      (by simp only [List.nil_append, List.append_nil, List.singleton_append])

end

/-- a list item: a value -/
def valueKind (τ : Trivia) : ItemKind Value := ⟨renderV τ, valuePair τ⟩

theorem items_values (τ : Trivia) : ∀ (vs : List Value) (q : Nat) (first : Bool),
    ∃ q', Items τ (valueKind τ) q first vs (itemsBody τ q first vs) (itemPairs τ q first vs) q'
  | [], q, first => by rw [itemsBody, itemPairs]; exact ⟨q, .nil q first⟩
  | v :: vs, q, first => by
    rw [itemsBody_cons, itemPairs_cons]
    obtain ⟨q', h⟩ := items_values τ vs (q + (gapOf first (τ q)).length +
      (renderV τ (q + (gapOf first (τ q)).length) v).length) false
    exact ⟨q', .cons rfl rfl h⟩

theorem valueKind_ok (τ : Trivia) {v : Value} (hwf : WFV v) (hv : ValRuns τ v) (close : Char)
    (hc : close = ']' ∨ close = '}' ∨ close = ':') : ItemOk (valueKind τ) (.call R.Value) close v :=
  ⟨fun q y => renderV_headNot_trivia τ q v hwf y, fun q y => renderV_headNot_close τ q v hwf y close hc,
    fun q rest hr => runs_call (sk := true) (hv q rest hr)⟩

theorem value_bracketed {o : Char} (ho : o = '[' ∨ o = '{') {p n : Nat} {text : List Char} {c' : Cur} {ps : List Pair}
    (hn : 21 ≤ n)
    (hb : Runs gList n true (.choice (.call R.ListValue) (.call R.ObjectValue)) .nonAtomic ⟨p, o :: text⟩ c' ps) :
    RunsRule gList (n + 8) R.Value .nonAtomic ⟨p, o :: text⟩ c' [.mk R.Value p c'.pos ps] := by
  have hd : ∀ {P : Char → Prop}, ¬ P '[' → ¬ P '{' → HeadNot P (o :: text) := fun h1 h2 =>
    headNot_cons (ho.elim (fun e => e ▸ h1) (fun e => e ▸ h2)) text
  exact value_rule (value_skip4 (hd (by decide) (by decide)) (hd (by decide) (by decide)) (hd (by decide) (by decide))
    (by omega) (value_skip_names (hd (by decide) (by decide))
      (hd (by decide) (by decide)) hn hb))

theorem value_list (τ : Trivia) (hτ : ∀ q, Ws (τ q)) (vs : List Value) (pos : Pos)
    (hvs : ∀ v ∈ vs, WFV v ∧ ValRuns τ v) : ValRuns τ (.list vs pos) := by
  intro p rest _
  obtain ⟨q', hit⟩ := items_values τ vs (p + 1) true
  obtain rfl := hit.end_eq
  have hL : (renderV τ p (.list vs pos)).length =
      (itemsBody τ (p + 1) true vs).length + (τ (p + 1 + (itemsBody τ (p + 1) true vs).length)).length + 2 := by
    simp only [renderV, List.length_cons, List.length_append, List.length_nil]; omega
  have etext : renderV τ p (.list vs pos) ++ rest = '[' :: (itemsBody τ (p + 1) true vs ++
      (τ (p + 1 + (itemsBody τ (p + 1) true vs).length) ++ ']' :: rest)) := by simp [renderV]
  rw [etext]
  have hlv := runsRule_normal look_ListValue (notSpecial (by decide) (by decide))
    (hit.bracket (o := '[') hτ (Or.inl rfl)
      (fun p r => fails_call (sk := true) (value_fails_close (p := p) (r := r) (Or.inl rfl)))
      (fun v hv => valueKind_ok τ (hvs v hv).1 (hvs v hv).2 ']' (Or.inl rfl)) rest)
  rw [← hL] at hlv
  have h21 : ∀ k, 21 ≤ 60 * (renderV τ p (.list vs pos)).length + 79 + k := fun k =>
    Nat.le_trans (Nat.le_trans (by decide) (Nat.le_add_left 79 _)) (Nat.le_add_right _ k)
  have := value_bracketed (.inl rfl) (h21 3) (runs_choice_l (runs_call (sk := true) hlv))
  have hend : p + 1 + (itemsBody τ (p + 1) true vs).length + (τ (p + 1 + (itemsBody τ (p + 1) true vs).length)).length + 1 =
      p + (renderV τ p (.list vs pos)).length := by omega
  refine RunsRule.cast (this.mono ?_) rfl (by rw [← hend]) (by simp only [valuePair, innerV, hend])
  simp only [B]; omega

end NitroVerif.ValueParse
