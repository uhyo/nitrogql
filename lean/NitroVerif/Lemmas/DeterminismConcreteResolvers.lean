/-
The resolvers declaration file model `ResolverDecls.resolversFile` under a permutation of the definitions of the
schema.
-/
import NitroVerif.Lemmas.DeterminismConcreteTyRel
import NitroVerif.Lemmas.DeterminismConcreteDecls
import NitroVerif.Model.ResolverDecls
namespace NitroVerif.DeterminismResolvers
open NitroVerif.Gql NitroVerif.Ts NitroVerif.DeclCfg NitroVerif.SchemaDecls NitroVerif.ResolverDecls
open NitroVerif.DeterminismRel NitroVerif.DeterminismOpTypes
open NitroVerif.DeterminismDecls (RelList relList_refl relList_map relList_append typeDefsOf_eq)
open NitroVerif.Determinism (NoDupTypeNames typeDefs_perm objectImplementers_of_perm)

theorem tsUnion_eq : SchemaDecls.tsUnion = OpTypes.tsUnion := by
  funext l
  match l with
  | [] => rfl
  | [_] => rfl
  | _ :: _ :: _ => rfl

theorem permRel_of_perm_refl {α : Type} {R : α → α → Prop} (hr : ∀ a, R a a) {l l' : List α} (h : l.Perm l') :
    PermRel R l l' := ⟨l', h, relList_refl hr l'⟩

theorem permRel_map_of_perm {α β γ : Type} {R : β → γ → Prop} {f : α → β} {g : α → γ} (hfg : ∀ a, R (f a) (g a))
    {l l' : List α} (h : l.Perm l') : PermRel R (l.map f) (l'.map g) :=
  ⟨l'.map f, h.map f, relList_map f g l' fun a _ => hfg a⟩

theorem permRel_filterMap_of_perm {α β γ : Type} {R : β → γ → Prop} {f : α → Option β} {g : α → Option γ}
    (hfg : ∀ a, OptRel R (f a) (g a)) {l l' : List α} (h : l.Perm l') : PermRel R (l.filterMap f) (l'.filterMap g) :=
  ⟨l'.filterMap f, h.filterMap f, relList_filterMap_same hfg l'⟩

theorem tsUnion_map_perm {l l' : List Name} (h : l.Perm l') (f : Name → Ty) :
    TyRel (SchemaDecls.tsUnion (l.map f)) (SchemaDecls.tsUnion (l'.map f)) := by
  rw [tsUnion_eq]
  exact tsUnion_rel (permRel_of_perm_refl tyRel_refl (h.map f))

section
variable {T T' : TsDoc}

theorem resolverOutputType_rel (h : T.Perm T') (td : TypeDef) :
    TyRel (resolverOutputType ⟨T⟩ td) (resolverOutputType ⟨T'⟩ td) := by
  unfold resolverOutputType
  cases hk : td.kind <;> simp only [] <;> first
    | exact tyRel_refl _
    | exact tsUnion_map_perm (objectImplementers_of_perm (typeDefs_perm h) td.name) _

theorem typeResolver_rel {l l' : List Name} (h : l.Perm l') : TyRel (typeResolver l) (typeResolver l') := by
  unfold typeResolver
  exact tyRel_obj.mpr ⟨⟨rfl, rfl, rfl, tyRel_app.mpr
    ⟨tsUnion_map_perm h _, tyRel_refl _, tsUnion_map_perm h _, trivial⟩⟩, trivial⟩

theorem isEmptyObject_typeResolver (l : List Name) : isEmptyObject (typeResolver l) = false := rfl

theorem rootField_rel (h : T.Perm T') (td : TypeDef) :
    OptRel TyFieldRel
      (match resolverType ⟨T⟩ td with | some t => some (td.name, false, isEmptyObject t, t) | none => none)
      (match resolverType ⟨T'⟩ td with | some t => some (td.name, false, isEmptyObject t, t) | none => none) := by
  unfold resolverType
  cases hk : td.kind <;> simp only []
  · trivial
  · exact ⟨rfl, rfl, rfl, tyRel_refl _⟩
  · exact ⟨rfl, rfl, rfl, typeResolver_rel (objectImplementers_of_perm (typeDefs_perm h) td.name)⟩
  · exact ⟨rfl, rfl, rfl, tyRel_refl _⟩
  · trivial
  · trivial

end

/-- the four fixed statements at the top of the resolvers file -/
def resolversHeader : List Stmt :=
  [.import "graphql" true (.named [("GraphQLResolveInfo", "GraphQLResolveInfo")]),
   .import schemaSource true (.star schemaNs),
   .rawType false "__Resolver" resolverText,
   .rawType false "__TypeResolver" typeResolverText]

/-- **The equivalence on emitted resolvers files.** Same header; the same `type X = …` aliases up to their order and
    the order of union members (`TyRel`); a `Resolvers<Context>` record with the same fields up to their order and
    the order of union members inside; a `ResolverOutput<T extends …>` whose bound lists the same names and whose
    object has the same fields, up to order. -/
def ResolversFileEquiv (f f' : File) : Prop :=
  ∃ (outs outs' : List (String × Ty)) (rs rs' : List Ts.Field) (names names' : List Ty) (os os' : List Ts.Field),
    f = resolversHeader ++ outs.map (fun p => Stmt.type false p.1 [] p.2) ++
        [.type true "Resolvers" [("Context", none)] (.obj rs),
         .type true "ResolverOutput" [("T", some (SchemaDecls.tsUnion names))] (.index (.obj os) (.ref "T"))] ∧
    f' = resolversHeader ++ outs'.map (fun p => Stmt.type false p.1 [] p.2) ++
        [.type true "Resolvers" [("Context", none)] (.obj rs'),
         .type true "ResolverOutput" [("T", some (SchemaDecls.tsUnion names'))] (.index (.obj os') (.ref "T"))] ∧
    PermRel (fun p p' => p.1 = p'.1 ∧ TyRel p.2 p'.2) outs outs' ∧
    PermRel TyFieldRel rs rs' ∧ names.Perm names' ∧ os.Perm os'

theorem resolversFile_perm {T T' : TsDoc} (c : Cfg) (h : T.Perm T') :
    ResolversFileEquiv (resolversFile c T) (resolversFile c T') := by
  have htd : (typeDefsOf T).Perm (typeDefsOf T') := typeDefs_perm h
  have houts := htd.filter (fun td : TypeDef => td.kind != .input)
  let outsOf (T : TsDoc) := (typeDefsOf T).filter (fun td : TypeDef => td.kind != .input)
  let rootOf (T : TsDoc) : TypeDef → Option Ts.Field := fun td =>
    match resolverType ⟨T⟩ td with | some t => some (td.name, false, isEmptyObject t, t) | none => none
  refine ⟨(outsOf T).map fun td => (td.name, resolverOutputType ⟨T⟩ td),
    (outsOf T').map fun td => (td.name, resolverOutputType ⟨T'⟩ td),
    (typeDefsOf T).filterMap (rootOf T), (typeDefsOf T').filterMap (rootOf T'),
    (outsOf T).map (fun td => Ty.strLit td.name), (outsOf T').map (fun td => Ty.strLit td.name),
    (outsOf T).map (fun td => (td.name, false, false, Ty.ref td.name)),
    (outsOf T').map (fun td => (td.name, false, false, Ty.ref td.name)),
    ?_, ?_, ?_, ?_, houts.map _, houts.map _⟩
  · simp only [resolversFile, resolversHeader, rootResolvers, List.map_map, Function.comp_def, outsOf, rootOf]
    rfl
  · simp only [resolversFile, resolversHeader, rootResolvers, List.map_map, Function.comp_def, outsOf, rootOf]
    rfl
  · exact permRel_map_of_perm (fun td => ⟨rfl, resolverOutputType_rel h td⟩) houts
  · exact permRel_filterMap_of_perm (fun td => rootField_rel h td) htd

end NitroVerif.DeterminismResolvers
