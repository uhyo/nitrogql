/-
Scalar and enum type definitions:
`ScalarTypeDefinition = { Description? ~ KEYWORD_scalar ~ Name ~ Directives? }`,
`EnumTypeDefinition = { Description? ~ KEYWORD_enum ~ Name ~ Directives? ~ EnumValuesDefinition |
  Description? ~ KEYWORD_enum ~ Name ~ Directives? ~ !"{" }`.
Enum, input object, object and interface types, their extensions and schema extensions have rules of this shape,
`head Directives? Body | head D2 !"{" (| …)`; `kindBodyK` is the parser half of all of them.
-/
import NitroVerif.Lemmas.ParseDocTsHead
import NitroVerif.Lemmas.ParseDocTsFields
namespace NitroVerif.DocParse
open NitroVerif.Peg NitroVerif.Gen NitroVerif.Gen.Parts NitroVerif.Build NitroVerif.TypeParse NitroVerif.StringParse
open NitroVerif.Gql NitroVerif.ValueParse NitroVerif.Spec.Lex NitroVerif.ParseText

variable {inp : List Char}

/-- A rule `H (Directives? Body) | X` on `head directives body`, where the body (a braced list read by `rV`) may be missing:
    with a body the first alternative runs; without one it fails at the missing `{` and `X` runs, the alternative
    `H (D2 !"{")` or a choice that begins with it (`hX`). `D2` is `Directives?` again or, where a definition needs one
    of the two, `Directives`. -/
theorem kindBodyK {β γ : Type} {H : Expr → Expr} {hp : List Pair → List Pair} {rule rV : RuleId} {D2 X : Expr} {c d p q : Nat}
    {tH tD tV : List Char} {oD oV : Option Pair} {sep : Bool} {bD : Nat → Option Pair → M β} {vD : β}
    {bV : Nat → Option Pair → M γ} {vV : γ} (hH : Front inp c d H hp p tH q)
    (hl : gList.look rule = some (.normal, .choice (H (.seq (.opt (.call R.Directives)) (.call rV))) X))
    (hX : ∀ {K t ps}, Part inp K (H (.seq D2 (.not (.str ['{'])))) p t ps → Part inp (K + 1) X p t ps)
    (D : ReadsOpt inp 20 R.Directives q tD bD vD oD) (hD2 : oV = none → Part inp 21 D2 q tD oD.toList)
    (V : ReadsOpt inp 45 rV (q + tD.length) tV bV vV oV)
    {bad : Char → Prop} (hb : bad '{') (hn : Nxt inp bad sep (q + tD.length + tV.length)) :
    ∃ e, Part inp (max c 45 + d + 5) (.call rule) p (tH ++ (tD ++ tV)) [.mk rule p e (hp (oD.toList ++ oV.toList))] := by
  cases oV with
  | some pr =>
    obtain ⟨e, r⟩ := PartT.rule hl (hH.part (D.part.seq (V.there pr rfl).1)).choice_l
    exact ⟨e, r.mono (by omega)⟩
  | none =>
    obtain ⟨rfl, ht, hf⟩ := V.absent rfl
    have hn' : Nxt inp bad sep (q + tD.length) := hn
    have f1 := (hH.seq D.part).fails (K := 45) hf (by decide) []
    obtain ⟨e, r⟩ := PartT.rule hl ((hX ((hH.seq (hD2 rfl)).part
      (.not (K := 45) (a := .str ['{']) (strL_head_fails (la := .neg) (hn'.ne hb)) ht (by decide)))).choice_r f1
      (Nat.le_succ _))
    rw [List.append_nil (tH ++ tD)] at r
    rw [List.append_nil tD]
    exact ⟨e, r.mono (by omega)⟩

/-- the round-trip statement for one kind of type definition: the rule of the kind, and `build_type_definition` on the
    enclosing `TypeDefinition` pair, whose end `e` is not known before the item is wrapped (`typeDefWrapK`) -/
def KindDefOk (inp : List Char) (rule : RuleId) (p : Nat) (t : List Char) (td : TypeDef) : Prop :=
  ∃ pr, ∀ e, Reads inp 80 rule p t
    (fun fuel pr => buildTypeDefinition (Ctx.spec inp) fuel (.mk R.TypeDefinition p e [pr])) td pr

/-- what must not follow a type definition -/
abbrev tdBad : Char → Prop := fun c => c = '@' ∨ c = '(' ∨ c = '{' ∨ c = '&' ∨ c = '|' ∨ c = '='

def rScalarDef (τ : Trivia) (sep : Bool) (p : Nat) (t : TypeDef) : List Char :=
  let tH := rDefHead τ (sep && t.dirs.isEmpty) p t.desc (kindKw .scalar) t.name
  tH ++ rDirs τ sep (p + tH.length) t.dirs

def wpScalarDef (τ : Trivia) (inp : List Char) (sep : Bool) (p : Nat) (t : TypeDef) : TypeDef :=
  let tH := rDefHead τ (sep && t.dirs.isEmpty) p t.desc (kindKw .scalar) t.name
  { kind := .scalar, desc := t.desc, name := t.name, namePos := posAt inp (dhOffN τ p t.desc (kindKw .scalar)),
    dirs := wpDirs τ inp sep (p + tH.length) t.dirs, pos := posAt inp (dhOffK τ p t.desc) }

/-- `build_type_definition` on a scalar type definition whose items are known -/
theorem buildTypeDefinition_scalar {ctx : Ctx} {fuel : Nat} (p e p' e' : Nat) {cs : List Pair} {desc dirs : Option Pair}
    {kw name : Pair} {d : Option String} {ds : List Directive}
    (hm : matchParts P_ScalarTypeDefinition cs = .ok [desc, some kw, some name, dirs])
    (h1 : optDesc ctx desc = .ok d) (h2 : optDirs ctx fuel dirs = .ok ds) :
    buildTypeDefinition ctx fuel (.mk R.TypeDefinition p e [.mk R.ScalarTypeDefinition p' e' cs]) =
      .ok { kind := .scalar, desc := d, name := asString ctx name, namePos := toPos ctx name, dirs := ds,
            pos := toPos ctx kw } := by
  simp [buildTypeDefinition, onlyChildOf, onlyChild, Pair.children, OC_TypeDefinition, Pair.rule, hm, h1, h2, bind,
    Except.bind, R.ScalarTypeDefinition]

theorem scalarDefT (τ : Trivia) (hτ : ∀ q, Ws (τ q)) (t : TypeDef) (hname : validName t.name.toList)
    (hdirs : WFDirs t.dirs) {sep : Bool} {p : Nat} (h : HasAt inp p (rScalarDef τ sep p t))
    (hn : Nxt inp tdBad sep (p + (rScalarDef τ sep p t).length)) :
    KindDefOk inp R.ScalarTypeDefinition p (rScalarDef τ sep p t) (wpScalarDef τ inp sep p t) := by
  simp only [rScalarDef, wpScalarDef] at h hn ⊢
  obtain ⟨oD, D, n0⟩ := optDirsT τ hτ t.dirs hdirs (by decide) (by decide) h.right hn.app
  obtain ⟨oS, prK, prN, H⟩ := defHeadF hτ (look_kindKw .scalar) (kindKw_valid .scalar) t.desc t.name hname h.left n0
  obtain ⟨e, rR⟩ := PartT.rule (r := R.ScalarTypeDefinition) rfl (H.front.part D.part)
  refine ⟨_, fun e' => ⟨rR.mono (by decide), rfl, rfl, fun fuel hf => ?_⟩⟩
  refine (buildTypeDefinition_scalar _ _ _ _ (matchParts_slots P_ScalarTypeDefinition [oS, some prK, some prN, oD] (by decide)
    ⟨H.descRule, ⟨_, rfl, H.kwRule⟩, ⟨_, rfl, H.nameRule⟩, D.rule, trivial⟩) H.descB (D.build fuel (fuel_right hf))).trans ?_
  rw [H.name, H.namePos, H.kwPos]

def rEnumDef (τ : Trivia) (sep : Bool) (p : Nat) (t : TypeDef) : List Char :=
  let tH := rDefHead τ (sep && t.values.isEmpty && t.dirs.isEmpty) p t.desc (kindKw .enum) t.name
  let tD := rDirs τ (sep && t.values.isEmpty) (p + tH.length) t.dirs
  tH ++ (tD ++ rOptEnumVals τ sep (p + tH.length + tD.length) t.values)

def wpEnumDef (τ : Trivia) (inp : List Char) (sep : Bool) (p : Nat) (t : TypeDef) : TypeDef :=
  let tH := rDefHead τ (sep && t.values.isEmpty && t.dirs.isEmpty) p t.desc (kindKw .enum) t.name
  let tD := rDirs τ (sep && t.values.isEmpty) (p + tH.length) t.dirs
  { kind := .enum, desc := t.desc, name := t.name, namePos := posAt inp (dhOffN τ p t.desc (kindKw .enum)),
    dirs := wpDirs τ inp (sep && t.values.isEmpty) (p + tH.length) t.dirs,
    values := wpEnumVals τ inp (p + tH.length + tD.length + (tk τ false (p + tH.length + tD.length) ['{']).length) t.values,
    pos := posAt inp (dhOffK τ p t.desc) }

theorem buildTypeDefinition_enum {ctx : Ctx} {fuel : Nat} (p e p' e' : Nat) {cs : List Pair}
    {desc dirs values : Option Pair} {kw name : Pair} {d : Option String} {ds : List Directive} {vs : List EnumValueDef}
    (hm : matchParts P_EnumTypeDefinition cs = .ok [desc, some kw, some name, dirs, values])
    (h1 : optDesc ctx desc = .ok d) (h2 : optDirs ctx fuel dirs = .ok ds) (h3 : optEnumValues ctx fuel values = .ok vs) :
    buildTypeDefinition ctx fuel (.mk R.TypeDefinition p e [.mk R.EnumTypeDefinition p' e' cs]) =
      .ok { kind := .enum, desc := d, name := asString ctx name, namePos := toPos ctx name, dirs := ds, values := vs,
            pos := toPos ctx kw } := by
  simp [buildTypeDefinition, onlyChildOf, onlyChild, Pair.children, OC_TypeDefinition, Pair.rule, hm, h1, h2, h3, bind,
    Except.bind, R.ScalarTypeDefinition, R.ObjectTypeDefinition, R.InterfaceTypeDefinition, R.UnionTypeDefinition,
    R.EnumTypeDefinition]

theorem enumDefT (τ : Trivia) (hτ : ∀ q, Ws (τ q)) (t : TypeDef) (hname : validName t.name.toList)
    (hdirs : WFDirs t.dirs) (hvals : ∀ v ∈ t.values, WFEnumVal v) {sep : Bool} {p : Nat}
    (h : HasAt inp p (rEnumDef τ sep p t)) (hn : Nxt inp tdBad sep (p + (rEnumDef τ sep p t).length)) :
    KindDefOk inp R.EnumTypeDefinition p (rEnumDef τ sep p t) (wpEnumDef τ inp sep p t) := by
  simp only [rEnumDef, wpEnumDef] at h hn ⊢
  have n2 := hn.app.app
  obtain ⟨oV, V, n1⟩ := optEnumValsT τ hτ t.values hvals (by decide) h.right.right n2
  obtain ⟨oD, D, n0⟩ := optDirsT τ hτ t.dirs hdirs (by decide) (by decide) h.right.left n1
  obtain ⟨oS, prK, prN, H⟩ := defHeadF hτ (look_kindKw .enum) (kindKw_valid .enum) t.desc t.name hname h.left n0
  obtain ⟨e, rR⟩ := kindBodyK H.front (rule := R.EnumTypeDefinition) rfl (·.mono (Nat.le_succ _)) D (fun _ => D.part)
    (V.mono (by decide)) (by decide) n2
  refine ⟨_, fun e' => ⟨rR.mono (by decide), rfl, rfl, fun fuel hf => ?_⟩⟩
  refine (buildTypeDefinition_enum _ _ _ _ (matchParts_slots P_EnumTypeDefinition [oS, some prK, some prN, oD, oV] (by decide)
    ⟨H.descRule, ⟨_, rfl, H.kwRule⟩, ⟨_, rfl, H.nameRule⟩, D.rule, V.rule, trivial⟩) H.descB
    (D.build fuel (fuel_left (fuel_right hf))) (V.build fuel (fuel_right (fuel_right hf)))).trans ?_
  rw [H.name, H.namePos, H.kwPos]

end NitroVerif.DocParse
