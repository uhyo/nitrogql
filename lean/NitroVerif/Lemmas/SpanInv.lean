/-
The cursor invariant of the PEG interpreter (helper lemmas for Props/C07 `pair_span`): starting from a cursor that
is consistent with the input (`rest = input.drop pos`, `pos ≤ |input|`), every successful call returns a consistent
cursor further right, and the returned pairs are well-formed spans: in order, non-overlapping, inside
[start cursor, end cursor], children inside their parent (`SpanOk`). An instance of the induction `okInv` of
`Lemmas/PegInv.lean`.
-/
import NitroVerif.Lemmas.PegInv
namespace NitroVerif.Peg

/-- the pairs lie in `[lo, hi]`, in order and without overlap; each pair is `start ≤ stop` with its children
    (recursively) inside `[start, stop]` -/
inductive SpanOk : Nat → Nat → List Pair → Prop where
  | nil {lo hi : Nat} : lo ≤ hi → SpanOk lo hi []
  | cons {lo hi : Nat} {r : RuleId} {s e : Nat} {cs ps : List Pair} :
      lo ≤ s → SpanOk s e cs → SpanOk e hi ps → SpanOk lo hi (.mk r s e cs :: ps)

theorem SpanOk.le {lo hi : Nat} {ps : List Pair} (h : SpanOk lo hi ps) : lo ≤ hi := by
  induction h with
  | nil h => exact h
  | cons h1 _ _ ih1 ih2 => omega

theorem SpanOk.append {lo mid hi : Nat} {ps qs : List Pair} (h1 : SpanOk lo mid ps) (h2 : SpanOk mid hi qs) :
    SpanOk lo hi (ps ++ qs) := by
  induction h1 with
  | nil h =>
    simp only [List.nil_append]
    clear ps
    induction h2 with
    | nil h' => exact .nil (by omega)
    | cons h' hc hr _ _ => exact .cons (by omega) hc hr
  | cons h' hc _ _ ih2 => exact .cons h' hc (ih2 h2)

theorem SpanOk.widen {lo hi hi' : Nat} {ps : List Pair} (h : SpanOk lo hi ps) (hh : hi ≤ hi') : SpanOk lo hi' ps := by
  induction h with
  | nil h => exact .nil (by omega)
  | cons h' hc _ _ ih2 => exact .cons h' hc (ih2 hh)

def CurOk (inp : List Char) (c : Cur) : Prop := c.pos ≤ inp.length ∧ c.rest = inp.drop c.pos

theorem matchInsens_eq {s rest r : List Char} (h : matchInsens s rest = some r) :
    ∃ t, rest = t ++ r ∧ t.length = s.length := by
  induction s generalizing rest with
  | nil => simp [matchInsens] at h; exact ⟨[], by simp [h], rfl⟩
  | cons c s ih =>
    cases rest with
    | nil => simp [matchInsens] at h
    | cons d rest =>
      simp only [matchInsens] at h
      split at h
      · obtain ⟨t, ht, hl⟩ := ih h
        exact ⟨d :: t, by simp [ht], by simp [hl]⟩
      · cases h

theorem drop_split {inp t r : List Char} {p : Nat} (hp : p ≤ inp.length) (h : inp.drop p = t ++ r) :
    p + t.length ≤ inp.length ∧ r = inp.drop (p + t.length) := by
  have hl : (inp.drop p).length = t.length + r.length := by rw [h]; simp
  simp only [List.length_drop] at hl
  refine ⟨by omega, ?_⟩
  rw [← List.drop_drop, h]
  simp

theorem termStep_curOk {inp : List Char} {e : Expr} {c c' : Cur} (hc : CurOk inp c) (h : TermStep e c c') :
    CurOk inp c' ∧ c.pos ≤ c'.pos := by
  obtain ⟨hp, hr⟩ := hc
  cases h with
  | str hm =>
    have := matchStr_eq hm
    rw [hr] at this
    obtain ⟨h1, h2⟩ := drop_split hp this
    exact ⟨⟨h1, h2⟩, by simp⟩
  | insens hm =>
    obtain ⟨t, ht, hl⟩ := matchInsens_eq hm
    rw [hr] at ht
    obtain ⟨h1, h2⟩ := drop_split hp ht
    rw [hl] at h1 h2
    exact ⟨⟨h1, h2⟩, by simp⟩
  | range hd =>
    rename_i d r
    rw [hr] at hd
    obtain ⟨h1, h2⟩ := drop_split (t := [d]) hp (by simpa using hd)
    exact ⟨⟨h1, h2⟩, by simp⟩
  | any hd =>
    rename_i d r
    rw [hr] at hd
    obtain ⟨h1, h2⟩ := drop_split (t := [d]) hp (by simpa using hd)
    exact ⟨⟨h1, h2⟩, by simp⟩
  | soi => exact ⟨⟨hp, hr⟩, Nat.le_refl _⟩
  | eoi => exact ⟨⟨hp, hr⟩, Nat.le_refl _⟩

def SpanRes (inp : List Char) (c c' : Cur) (ps : List Pair) : Prop := CurOk inp c' ∧ SpanOk c.pos c'.pos ps

structure SpanInv (g : G) (inp : List Char) (fuel : Nat) : Prop where
  ev : ∀ sk e at_ la tr c tr' c' ps, CurOk inp c → eval g fuel sk e at_ la tr c = (tr', .ok c' ps) → SpanRes inp c c' ps
  sk : ∀ sk at_ la tr c tr' c' ps, CurOk inp c → doSkip g fuel sk at_ la tr c = (tr', .ok c' ps) → SpanRes inp c c' ps
  sr : ∀ a at_ la tr c tr' c' ps, CurOk inp c → starRest g fuel a at_ la tr c = (tr', .ok c' ps) → SpanRes inp c c' ps
  cr : ∀ r at_ la tr c tr' c' ps, CurOk inp c → callRule g fuel r at_ la tr c = (tr', .ok c' ps) → SpanRes inp c c' ps

theorem spanInv (g : G) (inp : List Char) (fuel : Nat) : SpanInv g inp fuel := by
  have h := fun la => okInv g la (fun c c' ps => CurOk inp c → SpanRes inp c c' ps)
    (fun c hc => ⟨hc, .nil (Nat.le_refl _)⟩)
    (fun ht hc => ⟨(termStep_curOk hc ht).1, .nil (termStep_curOk hc ht).2⟩)
    (fun h1 h2 hc => ⟨(h2 (h1 hc).1).1, (h1 hc).2.append (h2 (h1 hc).1).2⟩)
    (fun _ _ _ _ _ h0 hc => ⟨(h0 hc).1, .cons (Nat.le_refl _) (h0 hc).2 (.nil (Nat.le_refl _))⟩) fuel
  exact ⟨fun sk e at_ la tr c tr' c' ps hc he => (h la).ev sk e at_ tr c tr' c' ps he hc,
    fun sk at_ la tr c tr' c' ps hc he => (h la).sk sk at_ tr c tr' c' ps he hc,
    fun a at_ la tr c tr' c' ps hc he => (h la).sr a at_ tr c tr' c' ps he hc,
    fun r at_ la tr c tr' c' ps hc he => (h la).cr r at_ tr c tr' c' ps he hc⟩

theorem eval_curOk (g : G) {inp : List Char} {fuel sk e at_ la tr c tr' c' ps} (hc : CurOk inp c)
    (h : eval g fuel sk e at_ la tr c = (tr', .ok c' ps)) : CurOk inp c' ∧ c.pos ≤ c'.pos := by
  obtain ⟨h1, h2⟩ := (spanInv g inp fuel).ev _ _ _ _ _ _ _ _ _ hc h
  exact ⟨h1, h2.le⟩

end NitroVerif.Peg
