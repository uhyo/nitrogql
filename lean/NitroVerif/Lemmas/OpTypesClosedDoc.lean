/-
C01/C02 closed forms and C08: the printer's totality on a checked document, with explicit fuels.

For a document the operation checker accepts (schema side conditions of the walk lemma `Stages.def_walked`,
Lemmas/StagesGenC.lean): what the check establishes for a definition holds at EVERY nesting bound the document fits
(`def_checked_at`; the document fits its own size, `fitsDoc_docSize_of_checked`), and `get_type_for_selection_set` returns a
tree for a coherent definition whenever `2·Dm + 2 ≤ fuel`, `docSize D ≤ mfuel` (for `get_boolean_variables`) and
`(Dm + 1)·(G + 1) ≤ mfuel` (the merge depth; `Dm` a nesting bound, `G` the deepest wrapper nesting of a field type):
`def_tree_fuels`.  Its two instances: the model's own fuels `fuelFor D = 2·docSize D + 4`, `mfuelFor D = docSize D + 64`
(`def_tree_model_fuels`, C01's `resultTree_ok`) and all fuels from `2·docSize D + 2` / `(docSize D + 1)·(G + 1)` on
(`Stages.doc_trees_ok`, C08's `generate_total_partial`).
-/
import NitroVerif.Lemmas.StagesGenC
import NitroVerif.Lemmas.OpTypesClosedDepth
import NitroVerif.Lemmas.OpTypesRefNoPanic
import NitroVerif.Lemmas.Fuel
namespace NitroVerif.OpTypes.Closed
open NitroVerif.Gql NitroVerif.CheckOp NitroVerif.Valid NitroVerif.OpTypes NitroVerif.OpTypes.Ref NitroVerif.Stages

theorem selOf_eq (x : ExecDef) : selOf x = selOfDef x := by cases x <;> rfl

/-- decidable form of `FitsDoc` -/
def fitsDocB (D : Doc) (R : Nat) : Bool := D.all fun x => (selOf x).all (fitsS (OpTypes.fragsOf D) R)

theorem fitsDoc_of_check {D : Doc} {R : Nat} (h : fitsDocB D R = true) : FitsDoc D R := by
  intro x hx s hs
  exact List.all_eq_true.1 (List.all_eq_true.1 h x hx) s hs

theorem fitsDoc_def {D : Doc} {R : Nat} (h : FitsDoc D R) {x : ExecDef} (hx : x ∈ D) :
    ∀ s ∈ selOfDef x, fitsS (OpTypes.fragsOf D) R s = true :=
  fun s hs => h x hx s (by rw [selOf_eq]; exact hs)

theorem fitsDoc_mono {D : Doc} {R R' : Nat} (hle : R ≤ R') (h : FitsDoc D R) : FitsDoc D R' :=
  fun x hx s hs => Stages.fitsS_mono hle (h x hx s hs)

theorem fragsSelf_of_checked {S : Schema} {D : Doc} (h : checkOp S D = []) : FragsSelf D := by
  intro f hf
  rw [fragsOf_eq_fragMap]
  refine fragMap_of_mem (accepted_nodup h) ?_
  simp only [CheckOp.fragsOf, List.mem_filterMap]
  exact ⟨_, hf, rfl⟩

theorem bvClosed_inDoc {D : Doc} {R mfuel : Nat} (hfit : FitsDoc D R) (hself : FragsSelf D) (hm : docSize D ≤ mfuel) :
    BVClosed (OpTypes.fragsOf D) mfuel (InDoc D) where
  ok := fun _ h => boolVars_inDoc hfit hself h hm
  field := fun ⟨x, hx, hni, hs⟩ hm => ⟨x, hx, hni, .field hs hm⟩
  inline := fun ⟨x, hx, hni, hs⟩ hm => ⟨x, hx, hni, .inline hs hm⟩
  spread := fun _ _ hF => ⟨.frag _, (fragsOf_mem hF).1, ⟨fun _ h => (by cases h), Closed.Sub.refl⟩⟩

section
variable {S : Schema} {D : Doc} (hS : schemaOkB S = true) (hI : ifaceOkB S = true) (hSI : skipIncludeB S = true)
  (h : checkOp S D = [])
include hS hI hSI h

theorem def_checked {x : ExecDef} (hx : x ∈ D) (hni : ∀ i, x ≠ .imp i) :
    parentsOkB S (rootNameOf S x) = true ∧ ∃ Dp, ∀ s ∈ selOfDef x, fitsS (OpTypes.fragsOf D) Dp s = true ∧
      ∀ o ∈ S.possibleTypes (rootNameOf S x), selOkB S (OpTypes.fragsOf D) Dp o s = true := by
  obtain ⟨A, seen, vars, hA, hq⟩ := def_walked h hx hni
  obtain ⟨ct, hct, hcomp, hDp⟩ := fine_ok hS hI hSI (accepted_condsDefined h) hA hq
  exact ⟨parentsOk_of_composite hS hct hcomp, hDp⟩

theorem fitsDoc_of_checked : ∃ R, FitsDoc D R := by
  -- every definition fits some bound (an `#import` has no selections), and `fitsS` is monotone in the bound
  refine exists_common_fuel D (fun x R => ∀ s ∈ selOf x, fitsS (OpTypes.fragsOf D) R s = true)
    (fun _ _ hx s hs => Stages.fitsS_mono (Nat.le_succ _) (hx s hs)) fun y hy => ?_
  by_cases hni : ∀ i, y ≠ .imp i
  · obtain ⟨_, Dp, hDp⟩ := def_checked hS hI hSI h hy hni
    exact ⟨Dp, fun s hs => (hDp s (by rw [← selOf_eq]; exact hs)).1⟩
  · cases y with
    | imp i => exact ⟨0, fun _ hs => by cases hs⟩
    | op o => exact absurd (fun i => by simp) hni
    | frag f => exact absurd (fun i => by simp) hni

theorem fitsDoc_docSize_of_checked : FitsDoc D (docSize D) := by
  obtain ⟨R, hR⟩ := fitsDoc_of_checked hS hI hSI h
  exact fitsDoc_docSize hR (fragsSelf_of_checked h)

omit hS hI hSI h in
theorem coh_of_cohDefB {c : Exec.Ctx} (hcS : c.S = S) (hcF : c.F = OpTypes.fragsOf D) {Dc d : Nat} {x : ExecDef}
    (hcoh : cohDefB S D Dc d x = true) : ∀ d', Coh c d' (Sb1 (selOfDef x)) (rootNameOf S x) := by
  subst hcS
  simp only [cohDefB, ← hcF, Bool.and_eq_true, List.all_eq_true] at hcoh
  exact coh_of_cohB c Dc d (selOfDef x) _ hcoh.1 hcoh.2

theorem def_checked_at {x : ExecDef} (hx : x ∈ D) (hni : ∀ i, x ≠ .imp i) {R : Nat} (hfit : FitsDoc D R) :
    parentsOkB S (rootNameOf S x) = true ∧ ∀ s ∈ selOfDef x, fitsS (OpTypes.fragsOf D) R s = true ∧
      ∀ o ∈ S.possibleTypes (rootNameOf S x), selOkB S (OpTypes.fragsOf D) R o s = true := by
  obtain ⟨hpar, Dp, hDp⟩ := def_checked hS hI hSI h hx hni
  refine ⟨hpar, fun s hs => ?_⟩
  have hf := fitsDoc_def hfit hx s hs
  exact ⟨hf, fun o ho => selOkB_down R Dp o s ((hDp s hs).2 o ho) hf⟩

theorem def_tree_fuels {x : ExecDef} (hx : x ∈ D) (hni : ∀ i, x ≠ .imp i) {Dc d : Nat}
    (hcoh : cohDefB S D Dc d x = true) {Dm : Nat} (hfit : FitsDoc D Dm) {fuel mfuel : Nat} (hfuel : 2 * Dm + 2 ≤ fuel)
    (hbv : docSize D ≤ mfuel) (hG : (Dm + 1) * (fieldDepthBound S + 1) ≤ mfuel) (p : Pos) :
    ∃ T, implTree S (OpTypes.fragsOf D) mfuel fuel (.nonNull (.named (rootNameOf S x) p)) (selOfDef x) = .ok T := by
  obtain ⟨hpar, hDm⟩ := def_checked_at hS hI hSI h hx hni hfit
  have hC := coh_of_cohDefB (S := S) (D := D) (c := ctxOf S D) rfl rfl hcoh
  exact implTree_ok_bv (c := ctxOf S D) (bvClosed_inDoc hfit (fragsSelf_of_checked h) hbv)
    ⟨typeNamesNodup_of_schemaOk hS, fieldDepth_of_check (c := ctxOf S D) (fieldDepthBound_ok S), hG⟩ (Nat.le_refl _)
    (ty := .nonNull (.named (rootNameOf S x) p)) hfuel (by simpa [GType.unwrapped, ctxOf] using hpar)
    (fun o ho s hs => (hDm s hs).2 o (by simpa [GType.unwrapped, ctxOf] using ho)) (fun s hs => (hDm s hs).1)
    ⟨x, hx, hni, by rw [selOf_eq]; exact .refl⟩ (by simpa [GType.unwrapped] using hC)

omit hS hI hSI h in
theorem treeOf_ok_of_root {mfuel fuel : Nat} {x : ExecDef}
    (key : (∀ i, x ≠ .imp i) → ∀ p : Pos, ∃ T, implTree S (OpTypes.fragsOf D) mfuel fuel
      (.nonNull (.named (rootNameOf S x) p)) (selOfDef x) = .ok T) :
    ∀ r, treeOf S D mfuel fuel x = some r → ∃ T, r = .ok T := by
  intro r hr
  cases x with
  | imp i => exact nomatch hr
  | op o => exact Option.some.inj hr ▸ key (fun _ hi => nomatch hi) {}
  | frag f => exact Option.some.inj hr ▸ key (fun _ hi => nomatch hi) f.condPos

theorem def_tree_model_fuels {x : ExecDef} (hx : x ∈ D) {Dc d : Nat} (hcoh : cohDefB S D Dc d x = true)
    {Dn : Nat} (hfitD : FitsDoc D Dn) (hG : (Dn + 1) * (fieldDepthBound S + 1) ≤ docSize D + 64) :
    ∀ r, resultTree S D x = some r → ∃ T, r = .ok T := by
  rw [resultTree_eq]
  refine treeOf_ok_of_root fun hni p => ?_
  -- the smaller of the given bound and the size of the document
  rcases Nat.le_total Dn (docSize D) with hle | hle
  · exact def_tree_fuels hS hI hSI h hx hni hcoh hfitD (by unfold OpTypes.fuelFor; omega)
      (by unfold OpTypes.mfuelFor; omega) (by unfold OpTypes.mfuelFor; omega) p
  · refine def_tree_fuels hS hI hSI h hx hni hcoh (fitsDoc_docSize_of_checked hS hI hSI h)
      (by unfold OpTypes.fuelFor; omega) (by unfold OpTypes.mfuelFor; omega) ?_ p
    have : (docSize D + 1) * (fieldDepthBound S + 1) ≤ (Dn + 1) * (fieldDepthBound S + 1) :=
      Nat.mul_le_mul_right _ (Nat.succ_le_succ hle)
    unfold OpTypes.mfuelFor; omega

end

theorem fuelOk_iff (c : Exec.Ctx) (Dn : Nat) (ss : List Selection) :
    FuelOk c Dn ss ↔ (ss.all (fits c.F Dn) = true ∧ eszL c.F Dn ss ≤ c.fuel) := by
  unfold FuelOk
  rw [List.all_eq_true]

end NitroVerif.OpTypes.Closed

namespace NitroVerif.Stages
open NitroVerif.Gql NitroVerif.CheckOp NitroVerif.Valid NitroVerif.OpTypes NitroVerif.OpTypes.Closed

/-- all definitions of the document: a tree at all fuels from `2·docSize D + 2` and `(docSize D + 1)·(G + 1)` on — the
    numbers to compare with `fuelFor D = 2·docSize D + 4` and `mfuelFor D = docSize D + 64`: the main fuel always suffices,
    the auxiliary one iff the wrapper bound of `def_tree_model_fuels` holds at `Dn = docSize D` -/
theorem doc_trees_ok {S : Schema} {D : Doc} (hS : schemaOkB S = true) (hI : ifaceOkB S = true)
    (hSI : skipIncludeB S = true) (h : checkOp S D = []) {Dc d : Nat} (hcoh : noKeyClashB S D Dc d = true) :
    ∃ N M, ∀ fuel, N ≤ fuel → ∀ mfuel, M ≤ mfuel → ∀ x ∈ D, ∀ r, treeOf S D mfuel fuel x = some r → ∃ T, r = .ok T := by
  refine ⟨2 * docSize D + 2, (docSize D + 1) * (fieldDepthBound S + 1), fun fuel hf mfuel hm x hx => ?_⟩
  refine treeOf_ok_of_root fun hni p => ?_
  have : docSize D + 1 ≤ (docSize D + 1) * (fieldDepthBound S + 1) := Nat.le_mul_of_pos_right _ (Nat.succ_pos _)
  exact def_tree_fuels hS hI hSI h hx hni (List.all_eq_true.mp hcoh x hx) (fitsDoc_docSize_of_checked hS hI hSI h) hf
    (by omega) hm p

theorem doc_trees_any_fuel {S : Schema} {D : Doc} (hS : schemaOkB S = true) (hI : ifaceOkB S = true)
    (hSI : skipIncludeB S = true) (h : checkOp S D = []) {Dc d : Nat} (hcoh : noKeyClashB S D Dc d = true)
    (fuel mfuel : Nat) : ∀ x ∈ D, ∀ r, treeOf S D mfuel fuel x = some r → (∃ T, r = .ok T) ∨ r = .error .outOfFuel := by
  obtain ⟨N, M, hNM⟩ := doc_trees_ok hS hI hSI h hcoh
  intro x hx
  exact treeOf_ok_or_outOfFuel S D (Nat.le_max_left mfuel M) (Nat.le_max_left fuel N) x
    (hNM (max fuel N) (Nat.le_max_right _ _) (max mfuel M) (Nat.le_max_right _ _) x hx)

end NitroVerif.Stages
