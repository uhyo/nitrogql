import NitroVerif.Model.Exports
/-!
C14: what the readers of a module (`exports`, `valueExports`, `exportRefs`, `defaults`, `consts`) see of what
`print_document` emits.  They distribute over `++`; two visitors that agree on every chunk agree on the module
(`printDefs_congr`), so the facts are proved for the JavaScript visitor and carried to the declaration file; `refsFrom`,
`constsFrom`, `defaultsFrom` are the closed forms, computed from the file alone.  No property statements here.
-/
namespace NitroVerif.Exports


@[simp] theorem exports_append (a b : Module) : exports (a ++ b) = exports a ++ exports b := by
  fun_induction exports a <;> simp_all [exports]

@[simp] theorem valueExports_append (a b : Module) : valueExports (a ++ b) = valueExports a ++ valueExports b := by
  fun_induction valueExports a <;> simp_all [valueExports]

@[simp] theorem exportRefs_append (a b : Module) : exportRefs (a ++ b) = exportRefs a ++ exportRefs b := by
  fun_induction exportRefs a <;> simp_all [exportRefs]

@[simp] theorem defaults_append (a b : Module) : defaults (a ++ b) = defaults a ++ defaults b := by
  fun_induction defaults a <;> simp_all [defaults]

@[simp] theorem consts_append (a b : Module) : consts (a ++ b) = consts a ++ consts b := by
  fun_induction consts a <;> simp_all [consts]

theorem valueExports_eq_map_exportRefs (m : Module) : valueExports m = (exportRefs m).map Prod.fst := by
  fun_induction valueExports m <;> simp_all [exportRefs]

/-! ### the visitors, projection by projection (so that the visitor itself can stay folded) -/

@[simp] theorem typeVisitor_operation (t : TypeOptions) (names : OpNames) (i : Nat) (e a b : Bool) :
    (typeVisitor t).operation names i e a b =
      [ .typeAlias (names.operationName ++ t.operationResultTypeSuffix) b,
        .typeAlias (names.operationName ++ t.variablesTypeSuffix) a,
        .const names.operationVariableName i e (!e && !t.printValues) t.printValues ] := rfl

@[simp] theorem typeVisitor_fragment (t : TypeOptions) (vn fn : Str) (i : Nat) (e : Bool) :
    (typeVisitor t).fragment vn fn i e =
      [ .typeAlias (fn ++ t.fragmentTypeSuffix) e,
        .const (fn ++ t.base.fragmentVariableSuffix) i e (!e && !t.printValues) t.printValues ] := rfl

@[simp] theorem typeVisitor_defaultExport (t : TypeOptions) (names : OpNames) :
    (typeVisitor t).defaultExport names = [ .exportDefault names.operationVariableName ] := rfl

@[simp] theorem jsVisitor_operation (names : OpNames) (i : Nat) (e a b : Bool) :
    jsVisitor.operation names i e a b = [ .const names.operationVariableName i e false true ] := rfl

@[simp] theorem jsVisitor_fragment (vn fn : Str) (i : Nat) (e : Bool) :
    jsVisitor.fragment vn fn i e = [ .const vn i e false true ] := rfl

@[simp] theorem jsVisitor_defaultExport (names : OpNames) :
    jsVisitor.defaultExport names = [ .exportDefault names.operationVariableName ] := rfl


@[simp] theorem varName_asLocal (o : BaseOptions) (d : Def) : varName o d.asLocal = varName o d := by
  cases d <;> rfl

@[simp] theorem ops_map_asLocal (F : File) : ops (F.map Def.asLocal) = ops F := by
  induction F with
  | nil => rfl
  | cons d r ih => cases d <;> simp_all [ops, Def.asLocal]

theorem ops_length (F : File) : (ops F).length = operationCount F := by
  induction F with
  | nil => rfl
  | cons d r ih => cases d <;> simp_all [ops, operationCount, isOp, List.filter]

@[simp] theorem operationCount_map_asLocal (F : File) : operationCount (F.map Def.asLocal) = operationCount F := by
  rw [← ops_length, ← ops_length, ops_map_asLocal]

theorem map_asLocal_of_no_import (F : File) (h : ∀ d ∈ F, d.isImported = false) : F.map Def.asLocal = F := by
  induction F with
  | nil => rfl
  | cons d r ih =>
    have hd := h d (by simp)
    have hr : ∀ d ∈ r, d.isImported = false := fun d hd => h d (by simp [hd])
    cases d <;> simp_all [Def.asLocal, Def.isImported]

@[simp] theorem constsFrom_map_asLocal (o : BaseOptions) (i : Nat) (F : File) :
    constsFrom o i (F.map Def.asLocal) = constsFrom o i F := by
  induction F generalizing i with
  | nil => rfl
  | cons d r ih => simp [constsFrom, ih]

/-! ### the two visitors, chunk by chunk

`print_document` emits one chunk of statements per definition (and one for the default export).  Two readers that
distribute over `++` and agree on every chunk the two visitors emit agree on the whole module: this is why the
declaration file and the JavaScript module declare, export and default-export the same. -/

theorem printDefs_congr {α : Type} {rd rd' : Module → List α} (happ : ∀ a b, rd (a ++ b) = rd a ++ rd b)
    (happ' : ∀ a b, rd' (a ++ b) = rd' a ++ rd' b) (hnil : rd [] = rd' []) (v v' : Visitor) (o : BaseOptions)
    (hop : ∀ names i e a b, rd (v.operation names i e a b) = rd' (v'.operation names i e a b))
    (hfrag : ∀ fn i e, rd (v.fragment (fn ++ o.fragmentVariableSuffix) fn i e) =
      rd' (v'.fragment (fn ++ o.fragmentVariableSuffix) fn i e))
    (hdef : ∀ names, rd (v.defaultExport names) = rd' (v'.defaultExport names))
    (n i : Nat) (F : File) : rd (printDefs o v n i F) = rd' (printDefs o v' n i F) := by
  induction F generalizing i with
  | nil => exact hnil
  | cons d r ih =>
    cases d with
    | op k nm => simp only [printDefs, happ, happ', hop, ih]; split <;> simp only [hdef, hnil]
    | frag nm imp => simp only [printDefs, happ, happ', hfrag, ih]


theorem consts_printDefs_js (o : BaseOptions) (n i : Nat) (F : File) :
    consts (printDefs o jsVisitor n i F) = constsFrom o i F := by
  induction F generalizing i with
  | nil => rfl
  | cons d r ih =>
    cases d with
    | op k nm =>
      by_cases h : (o.defaultExportForOperation && n == 1) = true <;>
        simp [printDefs, consts, constsFrom, varName, ih, h]
    | frag nm imp => simp [printDefs, consts, constsFrom, varName, ih]

theorem consts_printDefs_type (t : TypeOptions) (n i : Nat) (F : File) :
    consts (printDefs t.base (typeVisitor t) n i F) = constsFrom t.base i F :=
  (printDefs_congr consts_append consts_append rfl (typeVisitor t) jsVisitor t.base (fun _ _ _ _ _ => rfl)
    (fun _ _ _ => rfl) (fun _ => rfl) n i F).trans (consts_printDefs_js t.base n i F)


/-- (exported name, local name) pairs `print_document` emits, for either visitor -/
def refsFrom (o : BaseOptions) (count : Nat) : File → List (Str × Str)
  | [] => []
  | .op k n :: r =>
    let vn := (operationVariableName o k n).operationVariableName
    (if o.namedExportForOperation then [(vn, vn)] else [])
      ++ (if o.defaultExportForOperation && count == 1 then [(defaultName, vn)] else [])
      ++ refsFrom o count r
  | .frag n imp :: r =>
    (if imp then [] else [(n ++ o.fragmentVariableSuffix, n ++ o.fragmentVariableSuffix)]) ++ refsFrom o count r

theorem exportRefs_printDefs_js (o : BaseOptions) (n i : Nat) (F : File) :
    exportRefs (printDefs o jsVisitor n i F) = refsFrom o n F := by
  induction F generalizing i with
  | nil => rfl
  | cons d r ih =>
    cases d with
    | op k nm =>
      by_cases h : (o.defaultExportForOperation && n == 1) = true <;>
        cases hn : o.namedExportForOperation <;>
        simp [printDefs, exportRefs, refsFrom, ih, h, hn]
    | frag nm imp => cases imp <;> simp [printDefs, exportRefs, refsFrom, ih]

theorem exportRefs_printDefs_type (t : TypeOptions) (n i : Nat) (F : File) :
    exportRefs (printDefs t.base (typeVisitor t) n i F) = refsFrom t.base n F :=
  (printDefs_congr exportRefs_append exportRefs_append rfl (typeVisitor t) jsVisitor t.base
    (fun _ _ e _ _ => by cases e <;> rfl) (fun _ _ e => by cases e <;> rfl) (fun _ => rfl) n i F).trans
    (exportRefs_printDefs_js t.base n i F)

theorem refsFrom_sublist_asLocal (o : BaseOptions) (n : Nat) (F : File) :
    (refsFrom o n F).Sublist (refsFrom o n (F.map Def.asLocal)) := by
  induction F with
  | nil => exact List.Sublist.refl _
  | cons d r ih =>
    cases d with
    | op k nm => exact List.Sublist.append (List.Sublist.refl _) ih
    | frag nm imp =>
      cases imp
      · exact List.Sublist.append (List.Sublist.refl _) ih
      · simpa [refsFrom, Def.asLocal] using List.Sublist.cons _ ih

theorem refsFrom_mem (o : BaseOptions) (count : Nat) (F : File) (e l : Str) (h : (e, l) ∈ refsFrom o count F) :
    ∃ d ∈ F, l = varName o d ∧ (e = l ∨ (e = defaultName ∧ isOp d = true ∧ count = 1)) := by
  induction F with
  | nil => simp [refsFrom] at h
  | cons d r ih =>
    cases d with
    | op k nm =>
      simp only [refsFrom, List.mem_append] at h
      rcases h with (h | h) | h
      · refine ⟨.op k nm, by simp, ?_⟩
        split at h <;> simp_all [varName]
      · refine ⟨.op k nm, by simp, ?_⟩
        split at h
        · rename_i hc
          simp only [Bool.and_eq_true, beq_iff_eq] at hc
          simp_all [varName, isOp]
        · simp at h
      · obtain ⟨d, hd, hh⟩ := ih h
        exact ⟨d, by simp [hd], hh⟩
    | frag nm imp =>
      simp only [refsFrom, List.mem_append] at h
      rcases h with h | h
      · refine ⟨.frag nm imp, by simp, ?_⟩
        split at h <;> simp_all [varName]
      · obtain ⟨d, hd, hh⟩ := ih h
        exact ⟨d, by simp [hd], hh⟩


/-- default-export statements `print_document` emits, for either visitor -/
def defaultsFrom (o : BaseOptions) (count : Nat) (F : File) : List Str :=
  if o.defaultExportForOperation && count == 1 then
    (ops F).map fun p => (operationVariableName o p.1 p.2).operationVariableName
  else []

theorem defaultsFrom_nil (o : BaseOptions) (n : Nat) : defaultsFrom o n [] = [] := by
  simp [defaultsFrom, ops]

theorem defaultsFrom_op (o : BaseOptions) (n : Nat) (k : Kind) (nm : Option Str) (r : File) :
    defaultsFrom o n (.op k nm :: r) =
      (if o.defaultExportForOperation && n == 1 then [(operationVariableName o k nm).operationVariableName] else [])
        ++ defaultsFrom o n r := by
  unfold defaultsFrom
  split <;> simp [ops]

theorem defaultsFrom_frag (o : BaseOptions) (n : Nat) (nm : Str) (imp : Bool) (r : File) :
    defaultsFrom o n (.frag nm imp :: r) = defaultsFrom o n r := by
  simp [defaultsFrom, ops]

theorem defaultsFrom_cases (o : BaseOptions) (F : File) :
    (o.defaultExportForOperation = true ∧ ∃ k nm, ops F = [(k, nm)] ∧
      defaultsFrom o (operationCount F) F = [(operationVariableName o k nm).operationVariableName]) ∨
    ((o.defaultExportForOperation = true → (ops F).length ≠ 1) ∧ defaultsFrom o (operationCount F) F = []) := by
  unfold defaultsFrom
  rw [← ops_length]
  by_cases hc : o.defaultExportForOperation = true ∧ (ops F).length = 1
  · match hops : ops F, hc.2 with
    | [(k, nm)], _ => exact Or.inl ⟨hc.1, k, nm, rfl, by simp [hc.1]⟩
  · refine Or.inr ⟨fun h1 h2 => hc ⟨h1, h2⟩, if_neg ?_⟩
    simpa only [Bool.and_eq_true, beq_iff_eq] using hc

theorem defaults_printDefs_js (o : BaseOptions) (n i : Nat) (F : File) :
    defaults (printDefs o jsVisitor n i F) = defaultsFrom o n F := by
  induction F generalizing i with
  | nil => simp [printDefs, defaults, defaultsFrom_nil]
  | cons d r ih =>
    cases d with
    | op k nm =>
      simp only [printDefs, defaults_append, ih, defaultsFrom_op, jsVisitor_operation, jsVisitor_defaultExport]
      split <;> simp [defaults]
    | frag nm imp => simp [printDefs, defaults, defaultsFrom_frag, ih]

theorem defaults_printDefs_type (t : TypeOptions) (n i : Nat) (F : File) :
    defaults (printDefs t.base (typeVisitor t) n i F) = defaultsFrom t.base n F :=
  (printDefs_congr defaults_append defaults_append rfl (typeVisitor t) jsVisitor t.base (fun _ _ _ _ _ => rfl)
    (fun _ _ _ => rfl) (fun _ => rfl) n i F).trans (defaults_printDefs_js t.base n i F)


theorem exportRefs_dts (c : Config) (F : File) :
    exportRefs (dts c F) = refsFrom (BaseOptions.fromConfig c) (operationCount F) F :=
  exportRefs_printDefs_type (TypeOptions.fromConfig c) _ 0 F

theorem exportRefs_js (c : Config) (F : File) :
    exportRefs (js c F) = refsFrom (BaseOptions.fromConfig c) (operationCount F) F :=
  exportRefs_printDefs_js _ _ 0 F

theorem exportRefs_loaderJs (c : Config) (F : File) :
    exportRefs (loaderJs c F) = refsFrom (BaseOptions.fromConfig c) (operationCount F) (F.map Def.asLocal) := by
  rw [loaderJs, exportRefs_js, operationCount_map_asLocal]

theorem defaults_dts (c : Config) (F : File) :
    defaults (dts c F) = defaultsFrom (BaseOptions.fromConfig c) (operationCount F) F :=
  defaults_printDefs_type (TypeOptions.fromConfig c) _ 0 F

theorem defaults_js (c : Config) (F : File) :
    defaults (js c F) = defaultsFrom (BaseOptions.fromConfig c) (operationCount F) F :=
  defaults_printDefs_js _ _ 0 F

theorem defaults_loaderJs (c : Config) (F : File) :
    defaults (loaderJs c F) = defaultsFrom (BaseOptions.fromConfig c) (operationCount F) F := by
  rw [loaderJs, defaults_js, operationCount_map_asLocal]
  simp [defaultsFrom]


theorem constsFrom_getElem (o : BaseOptions) (k : Nat) (F : File) (i : Nat) (d : Def) (h : F[i]? = some d) :
    (varName o d, k + i) ∈ constsFrom o k F := by
  induction F generalizing k i with
  | nil => simp at h
  | cons x r ih =>
    cases i with
    | zero => simp at h; subst h; simp [constsFrom]
    | succ j =>
      simp at h
      have := ih (k + 1) j h
      simp only [constsFrom, List.mem_cons]
      right
      have e : k + 1 + j = k + (j + 1) := by omega
      rw [← e]; exact this

theorem candidates_of_nodup (n : Str) (i : Nat) (l : List (Str × Nat))
    (hn : (l.map Prod.fst).Nodup) (hm : (n, i) ∈ l) : candidates n l = [i] := by
  induction l with
  | nil => simp at hm
  | cons p r ih =>
    obtain ⟨m, j⟩ := p
    simp only [List.map_cons, List.nodup_cons] at hn
    have none_of : ∀ (r : List (Str × Nat)), n ∉ r.map Prod.fst → candidates n r = [] := by
      intro r
      induction r with
      | nil => intro _; rfl
      | cons q r ihr =>
        obtain ⟨m', j'⟩ := q
        intro hq
        simp only [List.map_cons, List.mem_cons, not_or] at hq
        have : ¬ m' = n := fun e => hq.1 e.symm
        simp [candidates, this, ihr hq.2]
    simp only [List.mem_cons, Prod.mk.injEq] at hm
    rcases hm with ⟨rfl, rfl⟩ | hm
    · simp [candidates, none_of r hn.1]
    · have hne : ¬ m = n := by
        intro e; subst e
        exact hn.1 (List.mem_map.mpr ⟨(m, i), hm, rfl⟩)
      simp [candidates, hne, ih hn.2 hm]

theorem resolve_congr (m m' : Module) (h : consts m = consts m') : resolve m = resolve m' := by
  funext n; simp [resolve, h]

theorem resolve_of_nodup (m : Module) (n : Str) (i : Nat)
    (hn : ((consts m).map Prod.fst).Nodup) (hm : (n, i) ∈ consts m) : resolve m n = some i := by
  simp [resolve, candidates_of_nodup n i _ hn hm]


theorem capitalize_ne_nil (s : Str) (h : s ≠ []) : capitalize s ≠ [] := by
  cases s <;> simp_all [capitalize]

theorem constsFrom_ne_nil (o : BaseOptions) : ∀ (F : File),
    (∀ d ∈ F, match d with | .op _ nm => ∃ s, nm = some s ∧ s ≠ [] | .frag s _ => s ≠ []) →
    ∀ k, ∀ p ∈ constsFrom o k F, p.1 ≠ []
  | [], _, k, p, hp => by simp [constsFrom] at hp
  | d :: r, hnamed, k, p, hp => by
    simp only [constsFrom, List.mem_cons] at hp
    rcases hp with rfl | hp
    · have := hnamed d (by simp)
      cases d with
      | op kd nm =>
        obtain ⟨s, rfl, hs⟩ := this
        cases hcap : o.capitalizeOperationNames <;>
          simp [varName, operationVariableName, hcap, hs, capitalize_ne_nil]
      | frag s imp => simp [varName, this]
    · exact constsFrom_ne_nil o r (fun d hd => hnamed d (by simp [hd])) (k + 1) p hp

end NitroVerif.Exports
