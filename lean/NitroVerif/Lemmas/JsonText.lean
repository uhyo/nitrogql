import NitroVerif.Spec.JsonText
import NitroVerif.Model.PrintMap
/-!
# C12, text level — the writer's text as a list of characters, and the string lemma

`chars t` is `(PrintMap.jsonText t).toList` (`jsonText_toList`): json-writer's compact text as the list of characters the
reference readers of `Spec/JsonText.lean` consume.

String lemma (`strBody_esc`, `js_strBody_esc`): for EVERY string `s` and every text `rest`, reading the escaped characters of
`s`, the closing quotation mark and `rest` gives back exactly `s` and `rest` — with the RFC 8259 scanner and with the ECMA-262
scanner. json-writer's `REPLACEMENTS` table writes a character in one of three forms (`jsonEscChar_cases`): a two-character
escape of RFC 8259 (`simpleEscapes`: `"` `\` `/` BS FF LF CR HT), `\u00XX` for the other C0 controls, or the character itself;
the RFC 8259 scanner reads each form back (`strBodyFuel_escChar`), and whatever it reads the ECMA-262 scanner reads alike
(`js_of_rfc_str`).
-/
namespace NitroVerif.JsonText
open NitroVerif NitroVerif.PrintMap

/-- the escaped characters of a string, without the quotation marks -/
def escChars (s : List Char) : List Char := s.flatMap jsonEscChar

/-- `write_string` -/
def strChars (s : String) : List Char := '"' :: (escChars s.toList ++ ['"'])

mutual
/-- `PrintMap.jsonText` as a list of characters -/
def chars : Json → List Char
  | .null => ['n', 'u', 'l', 'l']
  | .bool b => if b then ['t', 'r', 'u', 'e'] else ['f', 'a', 'l', 's', 'e']
  | .num r => r.toList
  | .str s => strChars s
  | .arr xs => '[' :: (charsList xs true ++ [']'])
  | .obj kvs => '{' :: (charsFields kvs true ++ ['}'])
def charsList : List Json → Bool → List Char
  | [], _ => []
  | x :: xs, first => (if first then [] else [',']) ++ chars x ++ charsList xs false
def charsFields : List (String × Json) → Bool → List Char
  | [], _ => []
  | (k, v) :: r, first => (if first then [] else [',']) ++ strChars k ++ ':' :: chars v ++ charsFields r false
end

theorem jsonStr_toList (s : String) : (jsonStr s).toList = strChars s := by
  simp [jsonStr, strChars, escChars, String.toList_append, String.toList_ofList]

mutual
theorem jsonText_toList : (t : Json) → (jsonText t).toList = chars t
  | .null => by simp [jsonText, chars]
  | .bool b => by cases b <;> simp [jsonText, chars]
  | .num r => by simp [jsonText, chars]
  | .str s => by simp [jsonText, chars, jsonStr_toList]
  | .arr xs => by simp [jsonText, chars, String.toList_append, jsonTextList_toList xs true]
  | .obj kvs => by simp [jsonText, chars, String.toList_append, jsonTextFields_toList kvs true]
theorem jsonTextList_toList : (xs : List Json) → (first : Bool) → (jsonTextList xs first).toList = charsList xs first
  | [], _ => by simp [jsonTextList, charsList]
  | x :: xs, first => by
    cases first <;>
      simp [jsonTextList, charsList, String.toList_append, jsonText_toList x, jsonTextList_toList xs false]
theorem jsonTextFields_toList : (kvs : List (String × Json)) → (first : Bool) →
    (jsonTextFields kvs first).toList = charsFields kvs first
  | [], _ => by simp [jsonTextFields, charsFields]
  | (k, v) :: r, first => by
    cases first <;>
      simp [jsonTextFields, charsFields, String.toList_append, jsonStr_toList, jsonText_toList v,
        jsonTextFields_toList r false]
end

/-- RFC 8259 §7's two-character escapes `\e`, each with the character it denotes (`simpleEscape` as a table) -/
def simpleEscapes : List (Char × Char) :=
  [('"', '"'), ('\\', '\\'), ('/', '/'), ('b', Char.ofNat 8), ('f', Char.ofNat 12), ('n', '\n'), ('r', '\r'), ('t', '\t')]

theorem simpleEscape_of_mem : ∀ p ∈ simpleEscapes, simpleEscape p.1 = some p.2 := by decide

theorem simpleEscape_some {e c : Char} (h : simpleEscape e = some c) : (e, c) ∈ simpleEscapes := by
  by_cases hk : e ∈ simpleEscapes.map (·.1)
  · obtain ⟨p, hp, rfl⟩ := List.mem_map.mp hk
    rw [simpleEscape_of_mem p hp] at h
    cases h; exact hp
  · -- none of the eight tests of `simpleEscape` fires
    simp only [simpleEscapes, List.map_cons, List.map_nil, List.mem_cons, List.not_mem_nil, or_false, not_or] at hk
    obtain ⟨h1, h2, h3, h4, h5, h6, h7, h8⟩ := hk
    rw [simpleEscape, if_neg h1, if_neg h2, if_neg h3, if_neg h4, if_neg h5, if_neg h6, if_neg h7, if_neg h8] at h
    cases h

theorem jsonEscChar_simple : ∀ p ∈ simpleEscapes, jsonEscChar p.2 = ['\\', p.1] := by decide

theorem jsonEscChar_cases (c : Char) :
    (∃ e, (e, c) ∈ simpleEscapes ∧ jsonEscChar c = ['\\', e]) ∨
    (c.toNat < 32 ∧ jsonEscChar c = ['\\', 'u', '0', '0', hexDigit (c.toNat / 16), hexDigit (c.toNat % 16)]) ∨
    (32 ≤ c.toNat ∧ c ≠ '"' ∧ c ≠ '\\' ∧ jsonEscChar c = [c]) := by
  by_cases hs : c ∈ simpleEscapes.map (·.2)
  · obtain ⟨p, hp, rfl⟩ := List.mem_map.mp hs
    exact .inl ⟨p.1, hp, jsonEscChar_simple p hp⟩
  · -- none of the eight tests of `jsonEscChar` fires
    right
    simp only [simpleEscapes, List.map_cons, List.map_nil, List.mem_cons, List.not_mem_nil, or_false, not_or] at hs
    obtain ⟨h1, h2, h3, h4, h5, h6, h7, h8⟩ := hs
    have h4 : c.toNat ≠ 8 := fun e => h4 (by rw [← c.ofNat_toNat, e])
    have h5 : c.toNat ≠ 12 := fun e => h5 (by rw [← c.ofNat_toNat, e])
    rw [jsonEscChar, if_neg h1, if_neg h2, if_neg h3, if_neg h4, if_neg h5, if_neg h6, if_neg h7, if_neg h8]
    by_cases h : c.toNat < 32
    · exact .inl ⟨h, if_pos h⟩
    · exact .inr ⟨Nat.le_of_not_lt h, h1, h2, if_neg h⟩

theorem length_jsonEscChar (c : Char) : 1 ≤ (jsonEscChar c).length := by
  rcases jsonEscChar_cases c with ⟨_, _, h⟩ | ⟨_, h⟩ | ⟨_, _, _, h⟩ <;> simp [h]

theorem length_escChars (s : List Char) : s.length ≤ (escChars s).length := by
  induction s with
  | nil => simp [escChars]
  | cons c s ih =>
    have := length_jsonEscChar c
    simp [escChars] at ih ⊢
    omega

theorem hex4_control : ∀ n, n < 32 → hex4 '0' '0' (hexDigit (n / 16)) (hexDigit (n % 16)) = some n := by
  decide

theorem not_surrogate_of_lt {n : Nat} (h : n < 32) : isHighSurrogate n = false ∧ isLowSurrogate n = false := by
  simp [isHighSurrogate, isLowSurrogate]; omega

theorem strBodyFuel_escape {e c : Char} (h : simpleEscape e = some c) (f : Nat) (r : List Char) :
    strBodyFuel (f + 1) ('\\' :: e :: r) = push c (strBodyFuel f r) := by
  have hu : e ≠ 'u' := by rintro rfl; cases h
  simp [strBodyFuel, hu, h]

theorem strBodyFuel_control {n : Nat} (h : n < 32) (f : Nat) (r : List Char) :
    strBodyFuel (f + 1) ('\\' :: 'u' :: '0' :: '0' :: hexDigit (n / 16) :: hexDigit (n % 16) :: r) =
      push (Char.ofNat n) (strBodyFuel f r) := by
  have hs := not_surrogate_of_lt h
  simp [strBodyFuel, hex4_control n h, unicodeEscape, hs.1, hs.2]

theorem strBodyFuel_raw {c : Char} (h : 32 ≤ c.toNat) (h1 : c ≠ '"') (h2 : c ≠ '\\') (f : Nat) (r : List Char) :
    strBodyFuel (f + 1) (c :: r) = push c (strBodyFuel f r) := by
  simp [strBodyFuel, h1, h2, Nat.not_lt.mpr h]

theorem strBodyFuel_escChar (c : Char) (f : Nat) (tail : List Char) :
    strBodyFuel (f + 1) (jsonEscChar c ++ tail) = push c (strBodyFuel f tail) := by
  rcases jsonEscChar_cases c with ⟨e, he, h⟩ | ⟨hc, h⟩ | ⟨hc, h1, h2, h⟩
  · rw [h]; exact strBodyFuel_escape (simpleEscape_of_mem _ he) f tail
  · rw [h]; exact (strBodyFuel_control hc f tail).trans (by rw [c.ofNat_toNat])
  · rw [h]; exact strBodyFuel_raw hc h1 h2 f tail

theorem strBodyFuel_esc (s rest : List Char) : ∀ f, s.length < f →
    strBodyFuel f (escChars s ++ '"' :: rest) = some (s, rest) := by
  induction s with
  | nil =>
    intro f hf
    obtain ⟨f, rfl⟩ : ∃ g, f = g + 1 := ⟨f - 1, by simp at hf; omega⟩
    simp [escChars, strBodyFuel]
  | cons c s ih =>
    intro f hf
    obtain ⟨f, rfl⟩ : ∃ g, f = g + 1 := ⟨f - 1, by simp at hf; omega⟩
    have : escChars (c :: s) ++ '"' :: rest = jsonEscChar c ++ (escChars s ++ '"' :: rest) := by
      simp [escChars]
    rw [this, strBodyFuel_escChar, ih f (by simp at hf; omega)]
    rfl

/-- STRING LEMMA (RFC 8259): the escaped characters of ANY string, the closing quotation mark and any text behind it are read
    back as exactly that string and that text -/
theorem strBody_esc (s rest : List Char) : strBody (escChars s ++ '"' :: rest) = some (s, rest) := by
  unfold strBody
  apply strBodyFuel_esc
  have := length_escChars s
  simp
  omega

/-! ### the ECMA-262 scanner reads whatever the RFC 8259 scanner reads -/

theorem push_mono {k k' : List Char → Option (List Char × List Char)} (h : ∀ s y, k s = some y → k' s = some y)
    {c : Char} {s : List Char} {y : List Char × List Char} (hy : push c (k s) = some y) : push c (k' s) = some y := by
  cases hk : k s with
  | none => simp [hk, push] at hy
  | some p => rw [hk] at hy; rw [h s p hk]; exact hy

theorem unicodeEscape_mono {k k' : List Char → Option (List Char × List Char)} (h : ∀ s y, k s = some y → k' s = some y)
    {n : Nat} {r : List Char} {y : List Char × List Char} (hy : unicodeEscape k n r = some y) :
    unicodeEscape k' n r = some y := by
  unfold unicodeEscape at hy ⊢
  cases hhi : isHighSurrogate n
  · simp only [hhi, Bool.false_eq_true, if_false] at hy ⊢
    cases hlo : isLowSurrogate n
    · simp only [hlo, Bool.false_eq_true, if_false] at hy ⊢
      exact push_mono h hy
    · simp [hlo] at hy
  · simp only [hhi, if_true] at hy ⊢
    split at hy
    · rename_i b u l1 l2 l3 l4 r2
      split at hy
      · rename_i hbu
        simp only [hbu, and_self, if_true]
        split at hy
        · rename_i m hm
          split at hy
          · rename_i hl
            simp only [hl, if_true]
            exact push_mono h hy
          · cases hy
        · cases hy
      · cases hy
    · cases hy

theorem hexVal_ne_brace {c : Char} {n : Nat} (h : hexVal c = some n) : c ≠ '{' := by
  rintro rfl; cases h

theorem hex4_head {a b c d : Char} {n : Nat} (h : hex4 a b c d = some n) : a ≠ '{' := by
  unfold hex4 at h
  cases ha : hexVal a with
  | none => simp [ha] at h
  | some x => exact hexVal_ne_brace ha

/-- how ECMA-262 §12.9.4 reads the escape letters of RFC 8259: none opens a `\u`, `\x`, `\0` or line-continuation form, and
    each is a `SingleEscapeCharacter` of the same value — except `/`, a `NonEscapeCharacter`, which denotes itself -/
theorem simpleEscapes_js : ∀ p ∈ simpleEscapes, p.1 ≠ 'u' ∧ p.1 ≠ 'x' ∧ p.1 ≠ '0' ∧ isDigit p.1 = false ∧
    JsLit.isLineTerminator p.1 = false ∧ (JsLit.singleEscape p.1).getD p.1 = p.2 := by decide

theorem js_strBodyFuel_escape (es : Bool) {e c : Char} (h : (e, c) ∈ simpleEscapes) (f : Nat) (r : List Char) :
    JsLit.strBodyFuel '"' es (f + 1) ('\\' :: e :: r) = push c (JsLit.strBodyFuel '"' es f r) := by
  obtain ⟨h1, h2, h3, h4, h5, h6⟩ := simpleEscapes_js _ h
  simp only at h1 h2 h3 h4 h5 h6
  subst h6
  simp only [JsLit.strBodyFuel, h1, h2, h3, h4, h5, if_false, Bool.false_eq_true]
  cases JsLit.singleEscape e <;> simp

theorem js_of_rfc_str : ∀ (f : Nat) (s : List Char) (y : List Char × List Char),
    strBodyFuel f s = some y → JsLit.strBodyFuel '"' true f s = some y
  | 0, _, _, h => by simp [strBodyFuel] at h
  | _ + 1, [], _, h => by simp [strBodyFuel] at h
  | f + 1, c :: cs, y, h => by
    have ih := js_of_rfc_str f
    simp only [strBodyFuel] at h
    by_cases hq : c = '"'
    · simpa [JsLit.strBodyFuel, hq] using h
    · simp only [hq, if_false] at h
      by_cases hb : c = '\\'
      · subst hb
        simp only [if_true] at h
        cases cs with
        | nil => simp at h
        | cons e r =>
          simp only at h
          by_cases hu : e = 'u'
          · simp only [JsLit.strBodyFuel, hu, if_true] at h ⊢
            split at h
            · rename_i h1 h2 h3 h4 r1
              cases hh : hex4 h1 h2 h3 h4 with
              | none => simp [hh] at h
              | some n =>
                simp only [hh] at h
                simp only [hex4_head hh, if_false, hh]
                exact unicodeEscape_mono ih h
            · cases h
          · simp only [hu, if_false] at h
            cases hs : simpleEscape e with
            | none => simp [hs] at h
            | some ch =>
              simp only [hs] at h
              rw [js_strBodyFuel_escape true (simpleEscape_some hs)]
              exact push_mono ih h
      · simp only [hb, if_false] at h
        by_cases hc : c.toNat < 32
        · simp [hc] at h
        · simp only [hc, if_false] at h
          have h10 : ¬ (c.toNat = 10 ∨ c.toNat = 13) := by omega
          simp only [JsLit.strBodyFuel, hq, hb, h10, if_false, Bool.true_eq_false, false_and]
          exact push_mono ih h

theorem js_strBody_esc (s rest : List Char) : JsLit.strBody true '"' (escChars s ++ '"' :: rest) = some (s, rest) :=
  js_of_rfc_str _ _ _ (strBody_esc s rest)

end NitroVerif.JsonText
