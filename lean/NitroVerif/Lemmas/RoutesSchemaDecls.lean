/-
C15: the schema declaration printer model (`Model/SchemaDecls.lean`) on the two routes.  On the SDL route it prints the
resolved document `M` followed by the built-ins; on the JSON route it prints `type_system_to_ast` of the schema value
read from the introspection result (`schemaToAst (jsonSide M)`).

Everything rests on one fact, the type definitions of the JSON document in closed form (`typeDefsOf_docJson_closed`): the
twins of the definitions of `M` in the order of `M` (`twin` = through `ast_to_type_system` and back), the built-in scalars,
and the eight `__*` definitions in between.  So the JSON document has a twin of every definition of the SDL document and
beyond them only `__*` definitions (`typeDefsOf_docJson_perm`), `get_scalar_types` returns the same entries in another
order (`scalarTypes_routes`), the printing context is the same, and a definition and its twin are printed alike in every
namespace.
-/
import NitroVerif.Lemmas.RoutesOpTypesConcrete
import NitroVerif.Model.SchemaDecls
import NitroVerif.Lemmas.DeterminismConcreteDecls
namespace NitroVerif.Bridge
open NitroVerif NitroVerif.Gql NitroVerif.SchemaIR NitroVerif.AstSchema NitroVerif.SchemaDecls NitroVerif.DeclCfg
open NitroVerif.IntrospectSpec NitroVerif.Routes NitroVerif.CliSchema

/-- the document the schema declaration printer is given on the SDL route -/
def docSdl (M : TsDoc) : TsDoc := M ++ builtins
/-- … and on the JSON route (`type_system_to_ast`, literally).  The checker and operation-type theorems read the JSON route
    through `jsonView M = ofIR (jsonSide M)` instead, which adds the directive definitions; no lemma relates the two -/
def docJson (M : TsDoc) : TsDoc := schemaToAst (jsonSide M)

/-- the JSON route's copy of a definition of the SDL document -/
def twin (td : TypeDef) : TypeDef := unconvTypeDef (convTypeDef td)

/-! ### the definitions of the two documents -/

theorem typeDefsOf_docJson (M : TsDoc) : typeDefsOf (docJson M) = (jsonSide M).types.map unconvTypeDef := by
  unfold docJson schemaToAst typeDefsOf
  rw [List.filterMap_cons, filterMap_map_some (h := unconvTypeDef) fun _ => by rfl]

/-- user type names are not those of the built-in scalars (a hypothesis; not derived from acceptance by the checker) -/
def UserNotBuiltin (M : TsDoc) : Prop := ∀ t ∈ userTypes M, t.name ∉ builtinScalarNames

instance (M : TsDoc) : Decidable (UserNotBuiltin M) := by unfold UserNotBuiltin; infer_instance

theorem user_nonintro (M : TsDoc) (h : ValidParsed M) : ∀ t ∈ userTypes M, isIntrospectionName t.name = false := by
  intro t ht
  have hC := closed_of_closedB h.closed
  simp only [userTypes, List.mem_filterMap] at ht
  obtain ⟨item, hitem, hconv⟩ := ht
  cases item <;> simp at hconv
  rename_i td
  subst hconv
  rw [convTypeDef_name]
  have hmem : td ∈ (sdlView M).typeDefs := by
    simp only [sdlView, Gql.Schema.typeDefs, List.mem_filterMap]
    exact ⟨.typeDef td, by simp [hitem], rfl⟩
  have hs : ((sdlView M).typeDef? td.name).isSome = true := by
    simp only [Gql.Schema.typeDef?, List.find?_isSome]
    exact ⟨td, hmem, by simp⟩
  obtain ⟨td₀, h0⟩ := Option.isSome_iff_exists.mp hs
  exact hC.typeNames _ _ h0

/-! ### the order of the definitions

`Schema::extend` / `SchemaBuilder::extend` keep the first definition of a name and append new names at the end, so for a
valid `M` the schema value read from the introspection result (+ the five built-in scalars) lists

    the types of `M` in the order of `M`,
    the built-in scalars some definition refers to   (order Int Float String Boolean ID),
    the eight `__*` types                            (order of the specification's list),
    the built-in scalars nobody refers to            (same order),

while the SDL route's document is `M` followed by the five built-in scalars. -/

/-- a built-in scalar is mentioned by a definition of `M`, by a directive definition or by an introspection type
    (spec §3.5: only those are listed in an introspection result) -/
def referenced (M : TsDoc) (b : String) : Bool :=
  ((userTypes M ++ introspectionTypes).flatMap typeRefs ++
    (builtinDirectives ++ userDirectives M).flatMap directiveRefs).contains b

def scalarI (n : String) : ITypeDef := { kind := .scalar, name := n }

/-- the built-in scalars the introspection result lists / does not list, in the order Int Float String Boolean ID -/
def refNames (M : TsDoc) : List String := builtinScalarNames.filter (referenced M)
def restNames (M : TsDoc) : List String := builtinScalarNames.filter fun b => !referenced M b

/-- the eight `__*` types as the reader returns them -/
def introTypes : List ITypeDef := introspectionTypes.map cleanType

theorem specExtra_closed (M : TsDoc) : specExtra M = (refNames M).map scalarI ++ introTypes := by
  simp only [specExtra, referencedBuiltins, refNames, introTypes, List.map_map]
  congr 1

theorem builtinScalarDefs_eq : builtinScalarDefs = builtinScalarNames.map scalarI := rfl

theorem builtinScalarNames_nodup : builtinScalarNames.Nodup := by decide

theorem introTypes_names_nodup : (introTypes.map (·.name)).Nodup := by decide

theorem introTypes_not_builtin : ∀ t ∈ introTypes, t.name ∉ builtinScalarNames := by decide

theorem map_scalarI_name (l : List String) : (l.map scalarI).map (·.name) = l := by
  simp [List.map_map, Function.comp_def, scalarI]

/-- what the order theorem needs of `M`: distinct type names, no `__*` names, no built-in scalar names -/
structure OrderOk (M : TsDoc) : Prop where
  names : ((userTypes M).map (·.name)).Nodup
  nonIntro : ∀ t ∈ userTypes M, isIntrospectionName t.name = false
  notBuiltin : UserNotBuiltin M

theorem orderOk_of_valid {M : TsDoc} (h : ValidParsed M) (hb : UserNotBuiltin M) : OrderOk M :=
  ⟨h.resolved.typeNames, user_nonintro M h, hb⟩

theorem spec_names_nodup {M : TsDoc} (h : OrderOk M) : ((userTypes M ++ specExtra M).map (·.name)).Nodup := by
  rw [specExtra_closed, List.map_append, List.map_append, map_scalarI_name]
  refine List.nodup_append.mpr ⟨h.names, ?_, ?_⟩
  · refine List.nodup_append.mpr ⟨builtinScalarNames_nodup.sublist List.filter_sublist, introTypes_names_nodup, ?_⟩
    intro a ha b hb e
    subst e
    obtain ⟨t, ht, rfl⟩ := List.mem_map.mp hb
    exact introTypes_not_builtin t ht (List.mem_filter.mp ha).1
  · intro a ha b hb e
    subst e
    obtain ⟨u, hu, rfl⟩ := List.mem_map.mp ha
    rcases List.mem_append.mp hb with hb | hb
    · exact h.notBuiltin u hu (List.mem_filter.mp hb).1
    · obtain ⟨t, ht, e⟩ := List.mem_map.mp hb
      have := introspectionTypes_names t ht
      rw [e, h.nonIntro u hu] at this
      cases this

theorem any_name_iff (acc : List ITypeDef) (b : String) :
    acc.any (·.name == b) = true ↔ b ∈ acc.map (·.name) := by
  rw [List.any_eq_true, List.mem_map]
  constructor
  · rintro ⟨t, ht, e⟩
    exact ⟨t, ht, by simpa using e⟩
  · rintro ⟨t, ht, e⟩
    exact ⟨t, ht, by simpa using e⟩

theorem jsonSide_types_closed {M : TsDoc} (h : OrderOk M) :
    (jsonSide M).types =
      userTypes M ++ (refNames M).map scalarI ++ introTypes ++ (restNames M).map scalarI := by
  rw [jsonSide_types, extendTypes_nil_nodup _ (spec_names_nodup h),
    extendTypes_filter _ (by rw [builtinScalarDefs_eq, map_scalarI_name]; exact builtinScalarNames_nodup)]
  rw [specExtra_closed, ← List.append_assoc]
  congr 1
  rw [builtinScalarDefs_eq, restNames, List.filter_map]
  congr 1
  apply List.filter_congr
  intro b hb
  simp only [Function.comp_def]
  show (!(List.any _ fun (x : ITypeDef) => x.name == b)) = !referenced M b
  congr 1
  rw [Bool.eq_iff_iff, any_name_iff, List.map_append, List.map_append, map_scalarI_name]
  constructor
  · intro hm
    rcases List.mem_append.mp hm with hm | hm
    · rcases List.mem_append.mp hm with hm | hm
      · obtain ⟨u, hu, e⟩ := List.mem_map.mp hm
        exact absurd (e ▸ hb) (h.notBuiltin u hu)
      · exact (List.mem_filter.mp hm).2
    · obtain ⟨t, ht, e⟩ := List.mem_map.mp hm
      exact absurd (e ▸ hb) (introTypes_not_builtin t ht)
  · intro hr
    exact List.mem_append_left _ (List.mem_append_right _ (List.mem_filter.mpr ⟨hb, hr⟩))

/-! ### the type definitions of the two documents -/

/-- a built-in scalar as `type_system_to_ast` writes it -/
def scalarDefJ (n : String) : TypeDef := unconvTypeDef (scalarI n)
/-- a built-in scalar as `generate_builtins()` writes it -/
def scalarDefS (n : String) : TypeDef := { kind := .scalar, name := n, namePos := bp, pos := bp }

theorem twin_scalarDefS (n : String) : twin (scalarDefS n) = scalarDefJ n := rfl

/-- the eight `__*` definitions of the JSON route's document -/
def introDefs : List TypeDef := introTypes.map unconvTypeDef

theorem userTypes_eq_map (M : TsDoc) : userTypes M = (typeDefsOf M).map convTypeDef :=
  (gql_typeDefs_eq M).symm

theorem typeDefsOf_builtins : typeDefsOf builtins = builtinScalarNames.map scalarDefS := rfl

theorem typeDefsOf_docSdl_closed (M : TsDoc) :
    typeDefsOf (docSdl M) = typeDefsOf M ++ builtinScalarNames.map scalarDefS := by
  rw [docSdl, typeDefsOf_append, typeDefsOf_builtins]

theorem typeDefsOf_docJson_closed {M : TsDoc} (h : OrderOk M) :
    typeDefsOf (docJson M) =
      (typeDefsOf M).map twin ++ (refNames M).map scalarDefJ ++ introDefs ++ (restNames M).map scalarDefJ := by
  rw [typeDefsOf_docJson, jsonSide_types_closed h, userTypes_eq_map]
  simp only [List.map_append, List.map_map, introDefs]
  rfl

theorem map_typeDefsOf_docJson {β : Type} {PJ PS : TypeDef → β} (hP : ∀ td, PJ (twin td) = PS td) {M : TsDoc}
    (h : OrderOk M) :
    (typeDefsOf (docJson M)).map PJ =
      (typeDefsOf M).map PS ++ (refNames M).map (fun n => PS (scalarDefS n)) ++ introDefs.map PJ ++
        (restNames M).map (fun n => PS (scalarDefS n)) := by
  have ht : PJ ∘ twin = PS := funext hP
  have hs : PJ ∘ scalarDefJ = fun n => PS (scalarDefS n) := funext fun n => hP (scalarDefS n)
  rw [typeDefsOf_docJson_closed h, List.map_append, List.map_append, List.map_append, List.map_map, List.map_map,
    List.map_map, ht, hs]

theorem map_typeDefsOf_docSdl {β : Type} (PS : TypeDef → β) (M : TsDoc) :
    (typeDefsOf (docSdl M)).map PS = (typeDefsOf M).map PS ++ builtinScalarNames.map (fun n => PS (scalarDefS n)) := by
  rw [typeDefsOf_docSdl_closed, List.map_append, List.map_map]
  rfl

theorem ref_rest_perm (M : TsDoc) : (refNames M ++ restNames M).Perm builtinScalarNames :=
  List.filter_append_perm _ _

theorem perm_regroup {α : Type} {U R I R' B : List α} (h : (R ++ R').Perm B) :
    (U ++ R ++ I ++ R').Perm (U ++ B ++ I) := by
  rw [List.append_assoc, List.append_assoc, List.append_assoc]
  refine List.Perm.append_left U ((List.perm_append_comm.append_left R).trans ?_)
  rw [← List.append_assoc]
  exact h.append_right I

theorem userNames_eq (M : TsDoc) : (typeDefsOf M).map (·.name) = (userTypes M).map (·.name) := by
  rw [userTypes_eq_map, List.map_map]
  exact List.map_congr_left fun t _ => (convTypeDef_name t).symm

theorem noDupTypeNames_docSdl {M : TsDoc} (h : OrderOk M) : Determinism.NoDupTypeNames (docSdl M) := by
  unfold Determinism.NoDupTypeNames
  rw [← DeterminismDecls.typeDefsOf_eq, typeDefsOf_docSdl_closed, List.map_append, userNames_eq]
  have hb : (builtinScalarNames.map scalarDefS).map (·.name) = builtinScalarNames := by
    rw [List.map_map]
    exact List.map_id _
  rw [hb]
  refine List.nodup_append.mpr ⟨h.names, builtinScalarNames_nodup, ?_⟩
  intro a ha b hb' e
  subst e
  obtain ⟨t, ht, rfl⟩ := List.mem_map.mp ha
  exact h.notBuiltin t ht hb'

theorem gql_schemaDefs_docSdl (M : TsDoc) : (Gql.Schema.mk (docSdl M)).schemaDefs = schemaDefs M := by
  rw [gql_schemaDefs_eq, docSdl, schemaDefs_append, schemaDefs_builtins, List.append_nil]

theorem oneSchemaDef_docSdl {M : TsDoc} (h : ValidResolved M) : (Gql.Schema.mk (docSdl M)).schemaDefs.length ≤ 1 := by
  rw [gql_schemaDefs_docSdl]
  exact h.oneSchemaDef

theorem sdl_typeDefs_conv (M : TsDoc) : (typeDefsOf (docSdl M)).map convTypeDef = userTypes M ++ builtinScalarDefs := by
  rw [DeterminismDecls.typeDefsOf_eq, docSdl, gql_typeDefs_eq, userTypes_append, userTypes_builtins]

theorem builtinScalarDefs_names : builtinScalarDefs.map (·.name) = builtinScalarNames := by decide

theorem builtin_find_none (n : String) (h : n ∉ builtinScalarNames) : builtinScalarDefs.find? (·.name == n) = none := by
  rw [List.find?_eq_none]
  intro t ht hn
  apply h
  rw [← builtinScalarDefs_names]
  exact List.mem_map.mpr ⟨t, ht, by simpa using hn⟩

/-! ### the same definitions on both routes -/

theorem typeDefsOf_docJson_perm {M : TsDoc} (h : OrderOk M) :
    (typeDefsOf (docJson M)).Perm ((typeDefsOf (docSdl M)).map twin ++ introDefs) := by
  rw [typeDefsOf_docJson_closed h, typeDefsOf_docSdl_closed, List.map_append, List.map_map]
  exact perm_regroup (by rw [← List.map_append]; exact (ref_rest_perm M).map _)

theorem introDefs_names : ∀ td ∈ introDefs, isIntrospectionName td.name = true := fun td h => by
  obtain ⟨t, ht, rfl⟩ := List.mem_map.mp h
  exact unconvTypeDef_name t ▸ introspectionTypes_names t ht

theorem introDefs_not_scalar : ∀ td ∈ introDefs, td.kind ≠ .scalar := by decide

theorem twin_mem {M : TsDoc} (h : OrderOk M) (td : TypeDef) (hm : td ∈ typeDefsOf (docSdl M)) :
    twin td ∈ typeDefsOf (docJson M) :=
  (typeDefsOf_docJson_perm h).mem_iff.mpr (List.mem_append_left _ (List.mem_map_of_mem hm))

theorem twin_surj {M : TsDoc} (h : OrderOk M) (td' : TypeDef) (hm : td' ∈ typeDefsOf (docJson M))
    (hi : isIntrospectionName td'.name = false) : ∃ td ∈ typeDefsOf (docSdl M), td' = twin td := by
  rcases List.mem_append.mp ((typeDefsOf_docJson_perm h).mem_iff.mp hm) with h' | h'
  · obtain ⟨td, htd, rfl⟩ := List.mem_map.mp h'
    exact ⟨td, htd, rfl⟩
  · rw [introDefs_names td' h'] at hi; cases hi

/-! ### scalar types and the bag of identifiers -/

/-- the TypeScript configuration of a scalar definition as `get_scalar_types` computes it -/
def entry (c : Cfg) (t : TypeDef) : Option ScalarCfg := (c.optionScalar? t.name).orElse (fun _ => directiveScalar? t)

/-- no scalar definition relies on `@nitrogql_ts_type` alone (the directive does not survive introspection) -/
def ScalarsConfigured (c : Cfg) (M : TsDoc) : Prop :=
  ∀ td ∈ typeDefsOf (docSdl M), directiveScalar? td = none ∨ (c.optionScalar? td.name).isSome = true

instance (c : Cfg) (M : TsDoc) : Decidable (ScalarsConfigured c M) := by unfold ScalarsConfigured; infer_instance

theorem entry_of_configured {c : Cfg} {td : TypeDef}
    (h : directiveScalar? td = none ∨ (c.optionScalar? td.name).isSome = true) : entry c td = c.optionScalar? td.name := by
  unfold entry
  rcases h with h | h
  · rw [h]; cases c.optionScalar? td.name <;> rfl
  · cases hc : c.optionScalar? td.name with
    | none => simp [hc] at h
    | some s => rfl

theorem twin_dirs (td : TypeDef) : (twin td).dirs = [] := unconvTypeDef_dirs _

theorem twin_name (td : TypeDef) : (twin td).name = td.name := by
  rw [twin, unconvTypeDef_name, convTypeDef_name]

theorem twin_kind (td : TypeDef) : (twin td).kind = td.kind := by
  rw [twin, unconvTypeDef_kind, convTypeDef_kind]
  cases td.kind <;> rfl

theorem twin_desc (td : TypeDef) : (twin td).desc = td.desc := by
  unfold twin
  cases h : td.kind <;> simp [convTypeDef, unconvTypeDef, h]

theorem entry_twin (c : Cfg) (td : TypeDef) : entry c (twin td) = c.optionScalar? td.name := by
  unfold entry directiveScalar?
  rw [twin_dirs, twin_name]
  cases c.optionScalar? td.name <;> rfl

open NitroVerif.SchemaDecls (scalarEntry) in
theorem scalarEntry_twin {c : Cfg} {td : TypeDef}
    (h : directiveScalar? td = none ∨ (c.optionScalar? td.name).isSome = true) :
    scalarEntry c (twin td) = scalarEntry c td := by
  have e1 : (c.optionScalar? (twin td).name).orElse (fun _ => directiveScalar? (twin td)) = c.optionScalar? td.name :=
    entry_twin c td
  have e2 : (c.optionScalar? td.name).orElse (fun _ => directiveScalar? td) = c.optionScalar? td.name :=
    entry_of_configured h
  unfold scalarEntry
  rw [e1, e2, twin_kind, twin_name]

/-- what `ValidParsed` + `UserNotBuiltin` + `ScalarsConfigured` give the declaration printer -/
structure DeclsOk (c : Cfg) (M : TsDoc) : Prop where
  valid : ValidParsed M
  notBuiltin : UserNotBuiltin M
  scalars : ScalarsConfigured c M

theorem DeclsOk.order {c : Cfg} {M : TsDoc} (h : DeclsOk c M) : OrderOk M := orderOk_of_valid h.valid h.notBuiltin

open NitroVerif.SchemaDecls (scalarEntry) in
/-- the `__*` definitions, which only the JSON route has, are objects and enums: they add no entry -/
theorem scalarTypes_routes {c : Cfg} {M : TsDoc} (h : DeclsOk c M) :
    (scalarTypes c (docSdl M)).Perm (scalarTypes c (docJson M)) := by
  rw [SchemaDecls.scalarTypes_eq, SchemaDecls.scalarTypes_eq]
  refine (((typeDefsOf_docJson_perm h.order).filterMap (scalarEntry c)).trans (.of_eq ?_)).symm
  have hi : introDefs.filterMap (scalarEntry c) = [] := List.filterMap_eq_nil_iff.mpr fun td hm =>
    if_neg (by simpa [typeKind_beq] using introDefs_not_scalar td hm)
  rw [List.filterMap_append, hi, List.append_nil, List.filterMap_map]
  exact filterMap_congr_mem fun td hm => scalarEntry_twin (h.scalars td hm)

theorem scalarTypes_keys_nodup {c : Cfg} {M : TsDoc} (h : DeclsOk c M) : ((scalarTypes c (docSdl M)).map (·.1)).Nodup :=
  (DeterminismDecls.scalarTypes_keys_sublist c _).nodup (noDupTypeNames_docSdl h.order)

theorem scalar_find_agree {c : Cfg} {M : TsDoc} (h : DeclsOk c M) (n : Name) :
    (scalarTypes c (docSdl M)).find? (·.1 == n) = (scalarTypes c (docJson M)).find? (·.1 == n) :=
  find?_key_perm Prod.fst (scalarTypes_routes h) (scalarTypes_keys_nodup h) n

theorem ctx_scalarTypes (c : Cfg) (doc : TsDoc) (t : Target) : (Ctx.new c doc t).scalarTypes = scalarTypes c doc := rfl
theorem ctx_cfg (c : Cfg) (doc : TsDoc) (t : Target) : (Ctx.new c doc t).cfg = c := rfl
theorem ctx_target (c : Cfg) (doc : TsDoc) (t : Target) : (Ctx.new c doc t).target = t := rfl

theorem local_agree {c : Cfg} {M : TsDoc} (h : DeclsOk c M) (t₁ t₂ : Target) :
    (Ctx.new c (docSdl M) t₁).local = (Ctx.new c (docJson M) t₂).local :=
  DeterminismDecls.local_of_scalarTypes_perm (scalarTypes_routes h) t₁ t₂

theorem leaf_agree {c : Cfg} {M : TsDoc} (h : DeclsOk c M) (t₁ t₂ : Target) :
    (Ctx.new c (docSdl M) t₁).leaf = (Ctx.new c (docJson M) t₂).leaf :=
  DeterminismDecls.leaf_of_scalarTypes_perm (scalarTypes_routes h) t₁ t₂

/-! ### the body of a definition and of its twin -/

theorem isNonNull_roundtrip (t : GType) : (unconvType (convType t)).isNonNull = t.isNonNull := by
  cases t <;> rfl

theorem tsCore_roundtrip (leaf : Name → Ts.Ty) (ro : Bool) : ∀ t : GType,
    tsCore leaf ro (unconvType (convType t)) = tsCore leaf ro t
  | .named n p => rfl
  | .list t p => by
    simp only [convType, unconvType, tsCore, isNonNull_roundtrip, tsCore_roundtrip leaf ro t]
  | .nonNull t => by
    simp only [convType, unconvType, tsCore, tsCore_roundtrip leaf ro t]

theorem tsOf_roundtrip (leaf : Name → Ts.Ty) (ro : Bool) (t : GType) :
    tsOf leaf ro (unconvType (convType t)) = tsOf leaf ro t := by
  simp only [tsOf, isNonNull_roundtrip, tsCore_roundtrip]

theorem objectBodyL_twin (leaf : Name → Ts.Ty) (td : TypeDef) (hk : td.kind = .object) :
    objectBodyL leaf (twin td) = objectBodyL leaf td := by
  simp only [objectBodyL, twin, convTypeDef, unconvTypeDef, hk, List.map_map, Function.comp_def, unconvField, convField,
    tsOf_roundtrip]

theorem twin_fields (td : TypeDef) (hk : td.kind = .object) :
    (twin td).fields = td.fields.map fun f => unconvField (convField f) := by
  simp only [twin, convTypeDef, unconvTypeDef, hk, List.map_map, Function.comp_def]

theorem twin_inputs (td : TypeDef) (hk : td.kind = .input) :
    (twin td).inputs = td.inputs.map fun f => unconvIV (convIV f) := by
  simp only [twin, convTypeDef, unconvTypeDef, hk, List.map_map, Function.comp_def]

theorem twin_members (td : TypeDef) (hk : td.kind = .union) : (twin td).members.map (·.1) = td.members.map (·.1) := by
  simp only [twin, convTypeDef, unconvTypeDef, hk, List.map_map, Function.comp_def]

theorem twin_values (td : TypeDef) (hk : td.kind = .enum) : (twin td).values.map (·.name) = td.values.map (·.name) := by
  simp only [twin, convTypeDef, unconvTypeDef, hk, List.map_map, Function.comp_def, unconvMember, convMember]

theorem inputBodyL_twin (leaf : Name → Ts.Ty) (opt : Bool) (td : TypeDef) (hk : td.kind = .input) :
    inputBodyL leaf opt (twin td) = inputBodyL leaf opt td := by
  simp only [inputBodyL, twin, convTypeDef, unconvTypeDef, hk, List.map_map]
  congr 1
  apply List.map_congr_left
  intro f _
  simp only [Function.comp, inputFieldL, unconvIV, convIV, isNonNull_roundtrip, optFieldTy, tsOf_roundtrip,
    tsCore_roundtrip]

theorem map_name_factor {α β : Type} (name : α → Name) (g : Name → β) (vs : List α) :
    vs.map (fun v => g (name v)) = (vs.map name).map g := by
  simp [List.map_map, Function.comp_def]

/-! ### `objectImplementers` of the two documents -/

theorem objectImplementers_docJson (M : TsDoc) (i : Name) :
    (Gql.Schema.mk (docJson M)).objectImplementers i = ((jsonSide M).types.filter (isImplementerI i)).map (·.name) := by
  show ((typeDefsOf (docJson M)).filter (isImplementer i)).map (·.name) = _
  rw [typeDefsOf_docJson, List.filter_map, List.map_map,
    show isImplementer i ∘ unconvTypeDef = isImplementerI i from funext (isImplementer_unconv i),
    show (fun t : TypeDef => t.name) ∘ unconvTypeDef = (·.name) from funext unconvTypeDef_name]

theorem objectImplementers_docSdl (M : TsDoc) (i : Name) :
    (Gql.Schema.mk (docSdl M)).objectImplementers i = ((userTypes M).filter (isImplementerI i)).map (·.name) := by
  show ((typeDefsOf (docSdl M)).filter (isImplementer i)).map (·.name) = _
  rw [show isImplementer i = isImplementerI i ∘ convTypeDef from funext (isImplementer_conv i),
    show (fun t : TypeDef => t.name) = (·.name) ∘ convTypeDef from funext fun t => (convTypeDef_name t).symm,
    ← List.map_map, ← List.filter_map, sdl_typeDefs_conv, List.filter_append,
    filter_eq_nil_of_false (isImplementerI_builtinScalarDefs i), List.append_nil]

theorem objectImplementers_docs (M : TsDoc) (hn : ((userTypes M).map (·.name)).Nodup) (i : Name) :
    (Gql.Schema.mk (docSdl M)).objectImplementers i = (Gql.Schema.mk (docJson M)).objectImplementers i := by
  rw [objectImplementers_docSdl, objectImplementers_docJson, jsonSide_filter_isImplementerI M hn]

/-! ### the statements of a definition -/

theorem body_scalar_eq {x y : Ctx} (td : TypeDef) (hc : x.cfg = y.cfg) (ht : x.target = y.target)
    (h : (x.scalarTypes.find? (·.1 == td.name)).map (·.2) = (y.scalarTypes.find? (·.1 == td.name)).map (·.2)) :
    (match x.scalarTypes.find? (·.1 == td.name) with
      | some (_, sc) => (.ok (some (x.cfg.parseOf (sc.getType x.target))) : Except String (Option Ts.Ty))
      | none => .error td.name)
    = (match y.scalarTypes.find? (·.1 == td.name) with
      | some (_, sc) => .ok (some (y.cfg.parseOf (sc.getType y.target)))
      | none => .error td.name) := by
  rw [hc, ht]
  rcases option_map_eq_cases h with ⟨hx, hy⟩ | ⟨a, b, hx, hy, hab⟩
  · rw [hx, hy]
  · obtain ⟨na, sa⟩ := a
    obtain ⟨nb, sb⟩ := b
    rw [hx, hy, show sa = sb from hab]

theorem ctx_schema (c : Cfg) (doc : TsDoc) (t : Target) : (Ctx.new c doc t).schema = ⟨doc⟩ := rfl

theorem interfaceBody_routes {c : Cfg} {M : TsDoc} (h : DeclsOk c M) (t : Target) (td : TypeDef) :
    interfaceBody (Ctx.new c (docSdl M) t) td = interfaceBody (Ctx.new c (docJson M) t) (twin td) := by
  unfold interfaceBody
  rw [leaf_agree h t t, twin_name, ctx_schema, ctx_schema,
    objectImplementers_docs M h.valid.resolved.typeNames td.name]

theorem body_routes {c : Cfg} {M : TsDoc} (h : DeclsOk c M) (t : Target) (td : TypeDef) :
    body (Ctx.new c (docSdl M) t) td = body (Ctx.new c (docJson M) t) (twin td) := by
  have hleaf := leaf_agree h t t
  unfold body
  rw [twin_kind]
  cases hk : td.kind <;> simp only
  · -- scalar
    rw [twin_name]
    simp only [ctx_scalarTypes, ctx_cfg, ctx_target, scalar_find_agree h td.name]
  · -- object
    simp only [objectBody, hleaf, objectBodyL_twin _ td hk]; rfl
  · -- interface
    rw [interfaceBody_routes h t td]; rfl
  · -- union
    simp only [unionBody, hleaf, twin_members td hk]; rfl
  · -- enum
    simp only [enumBody]
    rw [map_name_factor EnumValueDef.name Ts.Ty.strLit td.values,
      map_name_factor EnumValueDef.name Ts.Ty.strLit (twin td).values, twin_values td hk]
  · -- input
    simp only [inputBody, hleaf]
    rw [inputBodyL_twin _ _ td hk]; rfl

theorem printType_routes {c : Cfg} {M : TsDoc} (h : DeclsOk c M) (t : Target) (td : TypeDef) :
    printType (Ctx.new c (docSdl M) t) td = printType (Ctx.new c (docJson M) t) (twin td) := by
  unfold printType
  rw [body_routes h t td, twin_desc, twin_name, local_agree h t t]

theorem namespaceBody_routes {c : Cfg} {M : TsDoc} (h : DeclsOk c M) (t : Target) : ∀ (l : List TypeDef),
    namespaceBody (Ctx.new c (docSdl M) t) l = namespaceBody (Ctx.new c (docJson M) t) (l.map twin)
  | [] => rfl
  | td :: r => by
    simp only [List.map_cons, namespaceBody, printType_routes h t td, namespaceBody_routes h t r]

theorem representative_routes {c : Cfg} {M : TsDoc} (h : DeclsOk c M) (td : TypeDef) :
    representative (Ctx.new c (docSdl M) .operationOutput) td
      = representative (Ctx.new c (docJson M) .operationOutput) (twin td) := by
  unfold representative
  rw [twin_kind, twin_name, local_agree h .operationOutput .operationOutput]
  by_cases hk : td.kind = .enum
  · rw [map_name_factor EnumValueDef.name (fun n => (n, _)) (twin td).values,
      map_name_factor EnumValueDef.name (fun n => (n, _)) td.values, twin_values td hk]
    rfl
  · have hb : (td.kind == TypeKind.enum) = false := by rw [typeKind_beq]; simpa using hk
    simp only [hb, Bool.false_and, Bool.false_eq_true, if_false]

/-! ### the file is produced on one route iff it is produced on the other -/

def okB {ε α : Type} : Except ε α → Bool
  | .ok _ => true
  | .error _ => false

theorem printType_okB (x : Ctx) (td : TypeDef) : okB (printType x td) = okB (body x td) := by
  unfold printType
  cases body x td with
  | error e => rfl
  | ok o => cases o <;> rfl

theorem body_okB_of_not_scalar (x : Ctx) (td : TypeDef) (h : td.kind ≠ .scalar) : okB (body x td) = true := by
  unfold body
  cases hk : td.kind <;> first | exact absurd hk h | rfl

theorem okB_iff {ε α : Type} {r : Except ε α} : okB r = true ↔ ∃ b, r = .ok b := by
  cases r <;> simp [okB]

theorem allOk_iff_okB (c : Cfg) (doc : TsDoc) :
    DeterminismDecls.AllOk c doc Target.all ↔ okB (schemaFile c doc) = true := by
  constructor
  · intro h; rw [DeterminismDecls.schemaFile_ok c doc h]; rfl
  · intro h
    obtain ⟨F, hF⟩ := okB_iff.mp h
    exact (DeterminismDecls.schemaFile_iff_blocks.1 hF).1

theorem schemaFile_ok_routes {c : Cfg} {M : TsDoc} (h : DeclsOk c M) :
    okB (schemaFile c (docSdl M)) = okB (schemaFile c (docJson M)) := by
  rw [Bool.eq_iff_iff, ← allOk_iff_okB, ← allOk_iff_okB]
  constructor
  · intro hS t ht td' hm
    rcases List.mem_append.mp ((typeDefsOf_docJson_perm h.order).mem_iff.mp hm) with h' | h'
    · obtain ⟨td, htd, rfl⟩ := List.mem_map.mp h'
      rw [← printType_routes h t td]
      exact hS t ht td htd
    · -- a `__*` definition is an object or an enum, and those are always printed
      refine okB_iff.mp ?_
      rw [printType_okB]
      exact body_okB_of_not_scalar _ _ (introDefs_not_scalar td' h')
  · intro hJ t ht td hm
    rw [printType_routes h t td]
    exact hJ t ht _ (twin_mem h.order td hm)

end NitroVerif.Bridge
