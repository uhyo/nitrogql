/-
The measure `Value.size` (`Gql/Ast.lean`) on which recursions over a value literal run: a value has positive size, and
an element of a list literal / a field of an object literal is no larger than the whole list of them.
-/
import NitroVerif.Gql.Ast
namespace NitroVerif.Gql

theorem Value.size_pos (v : Value) : 1 ≤ v.size := by
  cases v <;> simp [Value.size]

theorem Value.size_mem_list {v : Value} : ∀ {vs : List Value}, v ∈ vs → v.size ≤ Value.sizeList vs := by
  intro vs
  induction vs with
  | nil => intro h; cases h
  | cons w ws ih =>
    intro h
    simp only [Value.sizeList]
    rcases List.mem_cons.mp h with rfl | h
    · omega
    · have := ih h; omega

theorem Value.size_mem_fields {f : Name × Pos × Value} : ∀ {fs : List (Name × Pos × Value)}, f ∈ fs →
    f.2.2.size ≤ Value.sizeFields fs := by
  intro fs
  induction fs with
  | nil => intro h; cases h
  | cons w ws ih =>
    intro h
    obtain ⟨k, pos, v⟩ := w
    simp only [Value.sizeFields]
    rcases List.mem_cons.mp h with rfl | h
    · exact Nat.le_add_right _ _
    · have := ih h; omega

end NitroVerif.Gql
