/-
The executable membership procedure `memG` / `memFuel` (what the O streams evaluate) against the declarative relation
`Mem` (what the theorems speak about). Soundness: whatever the procedure accepts is a member, and it stays accepted with
more fuel (one induction for both). Completeness: every member is accepted once the fuel is large enough. Together
`Mem e v t ↔ ∃ n, memG e n v t = true`. The equations of `memG` and `objView`, one per shape of type, are stated here once.
-/
import NitroVerif.Lemmas.TsSem
import NitroVerif.Lemmas.Fuel
namespace NitroVerif.Ts
variable {e : Env}

theorem ObjView.merge_ne_outOfFuel {a b : ObjView} (h : a.merge b ≠ .outOfFuel) : a ≠ .outOfFuel ∧ b ≠ .outOfFuel := by
  cases a <;> cases b <;> simp_all [ObjView.merge]

theorem foldl_merge_ne_outOfFuel {α : Type} (f : α → ObjView) : ∀ (l : List α) (a : ObjView),
    l.foldl (fun acc t => acc.merge (f t)) a ≠ .outOfFuel → a ≠ .outOfFuel ∧ ∀ t ∈ l, f t ≠ .outOfFuel := by
  intro l
  induction l with
  | nil => intro a h; exact ⟨h, fun _ h => by cases h⟩
  | cons x r ih =>
    intro a h
    obtain ⟨h1, h2⟩ := ih _ h
    obtain ⟨ha, hx⟩ := ObjView.merge_ne_outOfFuel h1
    exact ⟨ha, List.forall_mem_cons.2 ⟨hx, h2⟩⟩

theorem ObjView.merge_eq_outOfFuel_left (b : ObjView) : ObjView.merge .outOfFuel b = .outOfFuel := by
  cases b <;> rfl

theorem foldl_merge_outOfFuel {α : Type} (f : α → ObjView) (l : List α) :
    l.foldl (fun (acc : ObjView) t => acc.merge (f t)) ObjView.outOfFuel = ObjView.outOfFuel := by
  induction l with
  | nil => rfl
  | cons a r ih => simp only [List.foldl_cons, ObjView.merge_eq_outOfFuel_left, ih]

theorem foldl_merge_congr {α : Type} (f g : α → ObjView) : ∀ (l : List α) (a : ObjView),
    (∀ t ∈ l, f t = g t) →
    l.foldl (fun acc t => acc.merge (f t)) a = l.foldl (fun acc t => acc.merge (g t)) a := by
  intro l
  induction l with
  | nil => intro a _; rfl
  | cons x r ih =>
    intro a h
    simp only [List.foldl_cons]
    rw [h x List.mem_cons_self]
    exact ih _ (fun t ht => h t (List.mem_cons_of_mem _ ht))

theorem objView_inter_cons (n : Nat) (t0 : Ty) (rest : List Ty) :
    objView e (n + 1) (.inter (t0 :: rest))
      = rest.foldl (fun acc t' => acc.merge (objView e n t')) (objView e n t0) := rfl

theorem objView_abs_some {n : Nat} {path : List String} {body : Ty} (hb : e.decls.body? path = some ([], body)) :
    objView e (n + 1) (.other "abs" path) = objView e n body := by
  simp only [objView, hb]

theorem objView_obj (n : Nat) (fs : List Field) : objView e (n + 1) (.obj fs) = .isObj fs := rfl

theorem objView_abs_none {n : Nat} {path : List String} (hb : ∀ body, e.decls.body? path ≠ some ([], body)) :
    objView e (n + 1) (.other "abs" path) = .notObj := by
  simp only [objView]

theorem objView_app_none {n : Nat} {f : Ty} {as : List Ty} (h : e.appHook e.decls f as = none) :
    objView e (n + 1) (.app f as) = .notObj := by
  simp only [objView, h]

theorem objView_app_some {n : Nat} {f : Ty} {as : List Ty} {t' : Ty} (h : e.appHook e.decls f as = some t') :
    objView e (n + 1) (.app f as) = objView e n t' := by
  simp only [objView, h]

theorem not_opaque_other {tag : String} {path : List String} (h : (Ty.other tag path).isOpaque e = false) :
    tag = "abs" ∧ ∃ body, e.decls.body? path = some ([], body) := by
  simp only [Ty.isOpaque] at h
  split at h
  · rename_i htag
    split at h
    · exact ⟨by simpa using htag, _, ‹_›⟩
    · cases h
  · cases h

theorem not_opaque_app {f : Ty} {as : List Ty} (h : (Ty.app f as).isOpaque e = false) :
    ∃ t', e.appHook e.decls f as = some t' := by
  simpa only [Ty.isOpaque, Option.isNone_eq_false_iff, Option.isSome_iff_exists] using h

theorem objView_succ : ∀ (n : Nat) (t : Ty), objView e n t ≠ .outOfFuel → objView e (n + 1) t = objView e n t := by
  intro n
  induction n with
  | zero => intro t h; exact absurd rfl h
  | succ n ih =>
    intro t h
    -- an opaque type is `.notObj` at every positive fuel; the other shapes follow their definition one step
    cases ho : t.isOpaque e with
    | true =>
      cases t with
      | other tag path =>
        by_cases htag : tag = "abs"
        · subst htag
          have hb : ∀ body, e.decls.body? path ≠ some ([], body) := fun body hb => by
            simp only [Ty.isOpaque, beq_self_eq_true, if_true, hb] at ho; cases ho
          rw [objView_abs_none hb, objView_abs_none hb]
        · simp [objView, htag]
      | app f as =>
        have : e.appHook e.decls f as = none := by simpa only [Ty.isOpaque, Option.isNone_iff_eq_none] using ho
        rw [objView_app_none this, objView_app_none this]
      | _ => first | rfl | cases ho
    | false =>
      cases t with
      | other tag path =>
        obtain ⟨rfl, body, hb⟩ := not_opaque_other ho
        rw [objView_abs_some hb] at h ⊢
        rw [objView_abs_some hb]
        exact ih _ h
      | app f as =>
        obtain ⟨t', ht⟩ := not_opaque_app ho
        rw [objView_app_some ht] at h ⊢
        rw [objView_app_some ht]
        exact ih _ h
      | inter ts =>
        cases ts with
        | nil => rfl
        | cons t0 rest =>
          rw [objView_inter_cons] at h ⊢
          rw [objView_inter_cons (n := n)]
          obtain ⟨h0, hr⟩ := foldl_merge_ne_outOfFuel _ _ _ h
          rw [ih _ h0]
          exact foldl_merge_congr _ _ _ _ (fun t ht => ih _ (hr t ht))
      | _ => rfl

theorem objView_le {n m : Nat} {t : Ty} {a : ObjView} (h : objView e n t = a) (ha : a ≠ .outOfFuel) (hle : n ≤ m) :
    objView e m t = a := by
  induction hle with
  | refl => exact h
  | step hle ih => rw [objView_succ _ _ (by rw [ih]; exact ha), ih]

theorem memG_union (n : Nat) (v : J) (ts : List Ty) :
    memG e (n + 1) v (.union ts) = ts.any (memG e n v ·) := rfl

theorem memG_arr_arr (n : Nat) (xs : List J) (t : Ty) :
    memG e (n + 1) (.arr xs) (.arr t) = xs.all (memG e n · t) := rfl

theorem memG_roArr_arr (n : Nat) (xs : List J) (t : Ty) :
    memG e (n + 1) (.arr xs) (.roArr t) = xs.all (memG e n · t) := rfl

theorem memG_obj_obj (n : Nat) (kvs : List (String × J)) (fs : List Field) :
    memG e (n + 1) (.obj kvs) (.obj fs) = memRecord (memG e n) fs kvs := rfl

theorem memG_strLit_iff {n : Nat} {v : J} {s : String} : memG e (n + 1) v (.strLit s) = true ↔ v = .str s := by
  cases v <;> simp [memG]

theorem memG_inter_isObj {n : Nat} {ts : List Ty} {fs : List Field} (v : J)
    (h : objView e n (.inter ts) = .isObj fs) : memG e (n + 1) v (.inter ts) = memG e (n + 1) v (.obj fs) := by
  simp only [memG, h]

theorem memG_inter_notObj {n : Nat} {ts : List Ty} (v : J) (h : objView e n (.inter ts) = .notObj) :
    memG e (n + 1) v (.inter ts) = ts.all (memG e n v ·) := by
  simp only [memG, h]

theorem memG_abs_some {n : Nat} {path : List String} {body : Ty} (v : J)
    (hb : e.decls.body? path = some ([], body)) :
    memG e (n + 1) v (.other "abs" path) = memG e n v body := by
  simp only [memG, hb]

theorem memG_app_some {n : Nat} {f : Ty} {as : List Ty} {t' : Ty} (v : J) (h : e.appHook e.decls f as = some t') :
    memG e (n + 1) v (.app f as) = memG e n v t' := by
  simp only [memG, h]

theorem memG_prim (n : Nat) (v : J) (p : String) (hp : (Ty.prim p).isOpaque e = false) :
    memG e (n + 1) v (.prim p) = primMem p v := by
  simp only [Ty.isOpaque, Bool.not_eq_false', Bool.or_eq_true, beq_iff_eq] at hp
  rcases hp with ((((((((((rfl | rfl) | rfl) | rfl) | rfl) | rfl) | rfl) | rfl) | rfl) | rfl) | rfl) <;>
    simp [memG, primMem] <;> cases v <;> (try rename_i b; cases b) <;> rfl

theorem atomTest_iff {v : J} {s : String} :
    (match v with | .atom tag => tag == s | _ => false) = true ↔ v = .atom s := by
  cases v <;> simp

theorem memG_opaque_iff {n : Nat} {v : J} {t : Ty} (ho : t.isOpaque e = true) :
    memG e (n + 1) v t = true ↔ v = .atom t.show := by
  cases t with
  | prim p =>
    simp only [Ty.isOpaque, Bool.not_eq_true', Bool.or_eq_false_iff, beq_eq_false_iff_ne, ne_eq] at ho
    simp [memG, ho]
    exact atomTest_iff
  | other tag path =>
    by_cases htag : tag = "abs"
    · subst htag
      have hb : ∀ body, e.decls.body? path ≠ some ([], body) := fun body hb => by
        simp only [Ty.isOpaque, beq_self_eq_true, if_true, hb] at ho; cases ho
      simp only [memG]
      exact atomTest_iff
    · simp [memG, htag]
      exact atomTest_iff
  | app f as =>
    have : e.appHook e.decls f as = none := by simpa only [Ty.isOpaque, Option.isNone_iff_eq_none] using ho
    simp only [memG, this]
    exact atomTest_iff
  | strLit _ => cases ho
  | obj _ => cases ho
  | arr _ => cases ho
  | roArr _ => cases ho
  | union _ => cases ho
  | inter _ => cases ho
  | _ => exact atomTest_iff

/-- One induction on the fuel for both facts: each case reads `memG e (n + 1)` one step and passes the components
    through the induction hypothesis, once towards `Mem` and once towards `memG e (n + 2)`. -/
theorem memG_sound_succ : ∀ n v t, memG e n v t = true → Mem e v t ∧ memG e (n + 1) v t = true := by
  intro n
  induction n with
  | zero => intro v t h; cases h
  | succ n ih =>
    intro v t h
    have record {fs kvs} (hr : memRecord (memG e n) fs kvs = true) :
        RecordP (Mem e) fs kvs ∧ memRecord (memG e (n + 1)) fs kvs = true :=
      ⟨(memRecord_iff.1 hr).mono fun v t h => (ih v t h).1,
        memRecord_iff.2 ((memRecord_iff.1 hr).mono fun v t h => (ih v t h).2)⟩
    cases ho : t.isOpaque e with
    | true =>
      rw [(memG_opaque_iff ho).1 h]
      exact ⟨.opaqueTy t ho, (memG_opaque_iff ho).2 rfl⟩
    | false =>
      cases t with
      | prim p => rw [memG_prim _ _ _ ho] at h ⊢; exact ⟨.prim p v h, h⟩
      | strLit s => rw [memG_strLit_iff.1 h]; exact ⟨.strLit s, memG_strLit_iff.2 rfl⟩
      | obj fs =>
        cases v with
        | obj kvs => exact ⟨mem_obj_iff.2 ⟨kvs, rfl, (record h).1⟩, (record h).2⟩
        | _ => cases h
      | arr t' =>
        cases v with
        | arr xs =>
          rw [memG_arr_arr, List.all_eq_true] at h ⊢
          exact ⟨.arr xs t' fun x hx => (ih _ _ (h x hx)).1, fun x hx => (ih _ _ (h x hx)).2⟩
        | _ => cases h
      | roArr t' =>
        cases v with
        | arr xs =>
          rw [memG_roArr_arr, List.all_eq_true] at h ⊢
          exact ⟨.roArr xs t' fun x hx => (ih _ _ (h x hx)).1, fun x hx => (ih _ _ (h x hx)).2⟩
        | _ => cases h
      | union ts =>
        rw [memG_union, List.any_eq_true] at h ⊢
        obtain ⟨t', ht', hm⟩ := h
        exact ⟨.union v ts t' ht' (ih _ _ hm).1, t', ht', (ih _ _ hm).2⟩
      | inter ts =>
        cases hv : objView e n (.inter ts) with
        | isObj fs =>
          have hv' : objView e (n + 1) (.inter ts) = .isObj fs := objView_le hv nofun (Nat.le_succ n)
          rw [memG_inter_isObj _ hv] at h
          rw [memG_inter_isObj _ hv']
          cases v with
          | obj kvs => exact ⟨.interObj _ ts fs n hv (mem_obj_iff.2 ⟨kvs, rfl, (record h).1⟩), (record h).2⟩
          | _ => cases h
        | notObj =>
          have hv' : objView e (n + 1) (.inter ts) = .notObj := objView_le hv nofun (Nat.le_succ n)
          rw [memG_inter_notObj _ hv, List.all_eq_true] at h
          rw [memG_inter_notObj _ hv', List.all_eq_true]
          exact ⟨.interAll v ts n hv fun t ht => (ih _ _ (h t ht)).1, fun t ht => (ih _ _ (h t ht)).2⟩
        | outOfFuel => simp only [memG, hv] at h; cases h
      | other tag path =>
        obtain ⟨rfl, body, hb⟩ := not_opaque_other ho
        rw [memG_abs_some _ hb] at h ⊢
        exact ⟨.alias v path body hb (ih _ _ h).1, (ih _ _ h).2⟩
      | app f as =>
        obtain ⟨t', ht⟩ := not_opaque_app ho
        rw [memG_app_some _ ht] at h ⊢
        exact ⟨.hook v f as t' ht (ih _ _ h).1, (ih _ _ h).2⟩
      | _ => cases ho

theorem memG_sound : ∀ n v t, memG e n v t = true → Mem e v t :=
  fun n v t h => (memG_sound_succ n v t h).1

theorem memG_succ : ∀ (n : Nat) (v : J) (t : Ty), memG e n v t = true → memG e (n + 1) v t = true :=
  fun n v t h => (memG_sound_succ n v t h).2

theorem memG_le {n m : Nat} {v : J} {t : Ty} (h : memG e n v t = true) (hle : n ≤ m) : memG e m v t = true :=
  fuel_mono_le (P := fun k => memG e k v t = true) (fun k hk => memG_succ k v t hk) h hle

theorem memFuel_sound (scope : Scope) (n : Nat) (v : J) (t : Ty) (h : memFuel e scope n v t = true) :
    Mem e v (globalise e.decls scope [] t) :=
  memG_sound n v _ h

theorem memG_complete {v : J} {t : Ty} (h : Mem e v t) : ∃ n, memG e n v t = true := by
  induction h with
  | prim p v hp => exact ⟨1, by rw [memG_prim _ _ _ (primMem_not_opaque hp)]; exact hp⟩
  | strLit s => exact ⟨1, memG_strLit_iff.2 rfl⟩
  | obj kvs fs h1 h2 ih =>
    obtain ⟨n, hn⟩ := exists_common_fuel_guard fs
      (fun f => ¬ (f.2.2.1 = true ∧ J.get kvs f.1 = .absent))
      (fun f n => memG e n (J.get kvs f.1) f.2.2.2 = true) (fun f n hm => memG_succ _ _ _ hm) ih
    exact ⟨n + 1, memRecord_iff.2 ⟨hn, h2⟩⟩
  | arr xs t _ ih =>
    obtain ⟨n, hn⟩ := exists_common_fuel xs (fun x n => memG e n x t = true) (fun x n hm => memG_succ _ _ _ hm) ih
    exact ⟨n + 1, by rw [memG_arr_arr]; simpa [List.all_eq_true] using hn⟩
  | roArr xs t _ ih =>
    obtain ⟨n, hn⟩ := exists_common_fuel xs (fun x n => memG e n x t = true) (fun x n hm => memG_succ _ _ _ hm) ih
    exact ⟨n + 1, by rw [memG_roArr_arr]; simpa [List.all_eq_true] using hn⟩
  | union v ts t ht _ ih =>
    obtain ⟨n, hn⟩ := ih
    exact ⟨n + 1, by rw [memG_union]; exact List.any_eq_true.2 ⟨t, ht, hn⟩⟩
  | interObj v ts fs n hv _ ih =>
    obtain ⟨m, hm⟩ := ih
    have hv' : objView e (max n m) (.inter ts) = .isObj fs := objView_le hv nofun (Nat.le_max_left n m)
    exact ⟨max n m + 1, by rw [memG_inter_isObj _ hv']; exact memG_le hm (Nat.le_succ_of_le (Nat.le_max_right n m))⟩
  | interAll v ts n hv _ ih =>
    obtain ⟨m, hm⟩ := exists_common_fuel ts (fun t k => memG e k v t = true) (fun t k h => memG_succ _ _ _ h) ih
    refine ⟨max n m + 1, ?_⟩
    have hv' : objView e (max n m) (.inter ts) = .notObj := objView_le hv nofun (Nat.le_max_left n m)
    rw [memG_inter_notObj _ hv']
    simp only [List.all_eq_true]
    exact fun t ht => memG_le (hm t ht) (Nat.le_max_right n m)
  | alias v path body hb _ ih =>
    obtain ⟨n, hn⟩ := ih
    exact ⟨n + 1, by rw [memG_abs_some _ hb]; exact hn⟩
  | hook v f as t' hh _ ih =>
    obtain ⟨n, hn⟩ := ih
    exact ⟨n + 1, by rw [memG_app_some _ hh]; exact hn⟩
  | opaqueTy t ho => exact ⟨1, (memG_opaque_iff ho).2 rfl⟩

theorem mem_iff_memG {v : J} {t : Ty} : Mem e v t ↔ ∃ n, memG e n v t = true :=
  ⟨memG_complete, fun ⟨n, h⟩ => memG_sound n v t h⟩

end NitroVerif.Ts
