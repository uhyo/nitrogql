/-
`check_unique_names` (nitrogql fix 8cdbacf) under a permutation of the definitions. With pairwise distinct names it
reports nothing in any order; the statements about the built-in part of a document (`BuiltinsApart`) are invariant
under permutation; under them the verdict of the whole checker is the same for every order, whatever the user's names
are.
-/
import NitroVerif.Lemmas.DeterminismConcreteTs
import NitroVerif.Lemmas.CheckTsUnique
namespace NitroVerif.Determinism
open NitroVerif.Gql NitroVerif.CheckTs NitroVerif.ValidTs

theorem noDupTypeNames_iff (T : TsDoc) : NoDupTypeNames T ↔ uniqueTypeNames T = true := by
  unfold NoDupTypeNames uniqueTypeNames ValidTs.typeDefs
  exact (noDup_iff_nodup _).symm

theorem noDupDirectiveNames_iff (T : TsDoc) : NoDupDirectiveNames T ↔ uniqueDirectiveNames T = true := by
  unfold NoDupDirectiveNames uniqueDirectiveNames ValidTs.directiveDefs
  exact (noDup_iff_nodup _).symm

theorem checkUniqueNames_nil_of_noDup {T : TsDoc} (ndt : NoDupTypeNames T) (ndd : NoDupDirectiveNames T) :
    checkUniqueNames T = [] :=
  checkUniqueNames_nil_of_spec ((noDupTypeNames_iff T).mp ndt) ((noDupDirectiveNames_iff T).mp ndd)

/-- the part of the document that the user cannot influence: the built-in-position type definitions have pairwise
    distinct names, so have the built-in-position directive definitions, and no user directive definition re-declares
    one of the latter -/
def BuiltinsApart (T : TsDoc) : Prop :=
  builtinTypeNamesDistinct T = true ∧ builtinDirectiveNamesDistinct T = true ∧ builtinDirectivesNotRedeclared T = true

instance (T : TsDoc) : Decidable (BuiltinsApart T) := by unfold BuiltinsApart; infer_instance

theorem typeIdents_perm {T T' : TsDoc} (h : T.Perm T') : (typeIdents T).Perm (typeIdents T') :=
  (typeDefs_perm h).map _

theorem directiveIdents_perm {T T' : TsDoc} (h : T.Perm T') : (directiveIdents T).Perm (directiveIdents T') :=
  (directiveDefs_perm h).map _

theorem userNames_perm {l l' : List (Name × Pos)} (h : l.Perm l') : (userNames l).Perm (userNames l') :=
  (h.filter _).map _

theorem builtinNames_perm {l l' : List (Name × Pos)} (h : l.Perm l') : (builtinNames l).Perm (builtinNames l') :=
  (h.filter _).map _

theorem noDup_perm {l l' : List Name} (h : l.Perm l') (hn : noDup l = true) : noDup l' = true :=
  (noDup_iff_nodup _).mpr (h.nodup_iff.mp ((noDup_iff_nodup _).mp hn))

theorem builtinTypeNamesDistinct_perm {T T' : TsDoc} (h : T.Perm T') (hb : builtinTypeNamesDistinct T = true) :
    builtinTypeNamesDistinct T' = true :=
  noDup_perm (builtinNames_perm (typeIdents_perm h)) hb

theorem BuiltinsApart.perm {T T' : TsDoc} (h : T.Perm T') (hb : BuiltinsApart T) : BuiltinsApart T' := by
  obtain ⟨h1, h2, h3⟩ := hb
  refine ⟨builtinTypeNamesDistinct_perm h h1,
    noDup_perm (builtinNames_perm (directiveIdents_perm h)) h2, ?_⟩
  apply all_of_disjoint
  intro n hn hm
  exact disjoint_of_all h3 n ((userNames_perm (directiveIdents_perm h)).mem_iff.mpr hn)
    ((builtinNames_perm (directiveIdents_perm h)).mem_iff.mpr hm)

theorem noDup_of_unique_nil {T : TsDoc} (hb : BuiltinsApart T) (h : checkUniqueNames T = []) :
    NoDupTypeNames T ∧ NoDupDirectiveNames T :=
  ⟨(noDupTypeNames_iff T).mpr (uniqueTypeNames_of_unique h hb.1),
   (noDupDirectiveNames_iff T).mpr (uniqueDirectiveNames_of_unique h hb.2.1 hb.2.2)⟩

theorem checkSchemaItems_keeps {T T' : TsDoc} (h : T.Perm T') (ndt : NoDupTypeNames T) (hk : KeepsDirectiveOrder T T') :
    (checkSchemaItems T).Perm (checkSchemaItems T') := by
  unfold checkSchemaItems
  rw [checkItem_keeps h ndt hk]
  exact h.flatMap_right _

theorem checkSchemaItems_perm {T T' : TsDoc} (h : T.Perm T') (ndt : NoDupTypeNames T) (ndd : NoDupDirectiveNames T) :
    (checkSchemaItems T).Perm (checkSchemaItems T') :=
  checkSchemaItems_keeps h ndt (keepsDirectiveOrder_of_noDup h ndd)

theorem checkSchema_perm {T T' : TsDoc} (h : T.Perm T') (ndt : NoDupTypeNames T) (ndd : NoDupDirectiveNames T) :
    (checkSchema T).Perm (checkSchema T') := by
  unfold checkSchema
  rw [checkUniqueNames_nil_of_noDup ndt ndd, checkUniqueNames_nil_of_noDup (ndt.perm h) (ndd.perm h)]
  exact checkSchemaItems_perm h ndt ndd

theorem checkSchema_nil_perm {T T' : TsDoc} (h : T.Perm T') (hb : BuiltinsApart T) (e : checkSchema T = []) :
    checkSchema T' = [] := by
  obtain ⟨ndt, ndd⟩ := noDup_of_unique_nil hb (checkSchema_nil_unique e)
  exact eq_nil_of_perm (checkSchema_perm h ndt ndd) e

theorem directiveIdents_filter (T : TsDoc) (n : Name) :
    (directiveIdents T).filter (·.1 == n) =
      ((Schema.mk T).directiveDefs.filter (·.name == n)).map fun d => (d.name, d.namePos) := by
  unfold directiveIdents ValidTs.directiveDefs
  rw [List.filter_map]
  rfl

theorem identsOk_perm {l l' : List (Name × Pos)} (h : l.Perm l') (hi : IdentsOk l) : IdentsOk l' :=
  ⟨(userNames_perm h).nodup_iff.mp hi.1,
   fun n hn hm => hi.2 n ((userNames_perm h).mem_iff.mpr hn) ((builtinNames_perm h).mem_iff.mpr hm)⟩

theorem checkUniqueNames_nil_keeps {T T' : TsDoc} (h : T.Perm T') (hk : KeepsDirectiveOrder T T')
    (e : checkUniqueNames T = []) : checkUniqueNames T' = [] := by
  rw [checkUniqueNames_nil_iff] at e ⊢
  refine ⟨(uniqLoop_type_nil_iff _).mpr (identsOk_perm (typeIdents_perm h) ((uniqLoop_type_nil_iff _).mp e.1)), ?_⟩
  rw [uniqLoop_nil_iff_groups false] at e ⊢
  intro n
  rw [directiveIdents_filter, ← hk n, ← directiveIdents_filter]
  exact e.2 n

theorem checkSchema_nil_keeps {T T' : TsDoc} (h : T.Perm T') (hk : KeepsDirectiveOrder T T')
    (hb : builtinTypeNamesDistinct T = true) (e : checkSchema T = []) : checkSchema T' = [] := by
  obtain ⟨e1, e2⟩ := (checkSchema_nil_iff T).mp e
  have ndt : NoDupTypeNames T := (noDupTypeNames_iff T).mpr (uniqueTypeNames_of_unique e1 hb)
  rw [checkSchema_nil_iff]
  refine ⟨checkUniqueNames_nil_keeps h hk e1, ?_⟩
  exact eq_nil_of_perm (checkSchemaItems_keeps h ndt hk) e2

end NitroVerif.Determinism
