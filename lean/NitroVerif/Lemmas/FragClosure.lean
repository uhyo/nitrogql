/-
The code's fragment collection (`Model/FragClosure.lean`) is the textbook depth-first search over the spread graph
(`Spec/ReadDoc.lean visit`), and that search is correct and never exhausts a depth bound ≥ the number of unseen defined names.
The search keeps an invariant of its own (`Good`): that the result has no duplicates is part of what is proved, and the
invariant of `Lemmas/Search.lean` reads its lists through membership only; the termination measure is `Search.unseen`.
-/
import NitroVerif.Model.FragClosure
import NitroVerif.Spec.ReadDoc
import NitroVerif.Lemmas.Search
import NitroVerif.Lemmas.SchemaFacts
import NitroVerif.Lemmas.ListFacts
namespace NitroVerif.C12
open NitroVerif NitroVerif.Gql NitroVerif.FragClosure NitroVerif.ReadDoc

/-! ### the walk over selection trees is a fold over the directly spread names -/

theorem visitAll_append (v : Name → List Name → Option (List Name)) (a b : List Name) (vis : List Name) :
    visitAll v (a ++ b) vis = match visitAll v a vis with
      | some r => visitAll v b r
      | none => none := by
  induction a generalizing vis with
  | nil => simp [visitAll]
  | cons c cs ih =>
    simp only [List.cons_append, visitAll]
    cases v c vis with
    | none => rfl
    | some r => exact ih r

/-- the fragment environment seen by the reference: name ↦ body -/
def envOfGet (get : Name → Option FragmentDef) : Env := fun n => (get n).map (·.sel)

mutual
theorem walkSel_eq (get : Name → Option FragmentDef) (recF : List Selection → List Name → Option (List Name))
    (v : Name → List Name → Option (List Name))
    (hv : ∀ n names, v n names = if n ∈ names then some names else
      match get n with
      | none => some (names ++ [n])
      | some f => recF f.sel (names ++ [n])) :
    (s : Selection) → (names : List Name) → walkSel recF get s names = visitAll v (spreadsSel s) names
  | .field _ _ _ _ _ (some ss), names => by
    simp only [walkSel, spreadsSel]; exact walkSels_eq get recF v hv ss names
  | .field _ _ _ _ _ none, names => by simp [walkSel, spreadsSel, visitAll]
  | .spread n _ _ _, names => by
    simp only [walkSel, spreadsSel, visitAll, hv]
    by_cases h : n ∈ names
    · simp [h]
    · simp only [h, if_false]
      cases get n with
      | none => rfl
      | some f => simp only []; cases recF f.sel (names ++ [n]) <;> rfl
  | .inline _ _ ss _, names => by
    simp only [walkSel, spreadsSel]; exact walkSels_eq get recF v hv ss names
theorem walkSels_eq (get : Name → Option FragmentDef) (recF : List Selection → List Name → Option (List Name))
    (v : Name → List Name → Option (List Name))
    (hv : ∀ n names, v n names = if n ∈ names then some names else
      match get n with
      | none => some (names ++ [n])
      | some f => recF f.sel (names ++ [n])) :
    (ss : List Selection) → (names : List Name) → walkSels recF get ss names = visitAll v (spreads ss) names
  | [], names => by simp [walkSels, spreads, visitAll]
  | s :: r, names => by
    simp only [walkSels, spreads, visitAll_append, walkSel_eq get recF v hv s names]
    cases visitAll v (spreadsSel s) names with
    | none => rfl
    | some r' => exact walkSels_eq get recF v hv r r'
end

theorem collect_eq_visitAll (get : Name → Option FragmentDef) :
    ∀ (d : Nat) (ss : List Selection) (names : List Name),
      FragClosure.collect get (d + 1) ss names = visitAll (visit (envOfGet get) d) (spreads ss) names
  | d, ss, names => by
    rw [FragClosure.collect]
    apply walkSels_eq
    intro n names
    conv => lhs; unfold visit
    by_cases h : n ∈ names
    · simp [h]
    · simp only [h, if_false, envOfGet]
      cases get n with
      | none => simp
      | some f =>
        match d with
        | 0 => simp [FragClosure.collect]
        | d + 1 => simp [collect_eq_visitAll get d]
termination_by structural d => d

/-- `y`'s direct spreads are all in `r` -/
def ClosedAt (env : Env) (y : Name) (r : List Name) : Prop :=
  ∀ body, env y = some body → ∀ c ∈ spreads body, c ∈ r

/-- `P` is preserved by "the body of a `P` fragment spreads …" -/
def StepClosed (env : Env) (P : Name → Prop) : Prop :=
  ∀ y body c, P y → env y = some body → c ∈ spreads body → P c

/-- what one (or a sequence of) visit(s) of the targets `cs` guarantees about start `vis` and result `r` -/
structure Good (env : Env) (vis cs r : List Name) : Prop where
  sub : ∀ y ∈ vis, y ∈ r
  targets : ∀ c ∈ cs, c ∈ r
  nodup : vis.Nodup → r.Nodup
  closed : ∀ y ∈ r, y ∉ vis → ClosedAt env y r
  sound : ∀ P : Name → Prop, StepClosed env P → (∀ c ∈ cs, P c) → ∀ y ∈ r, y ∈ vis ∨ P y

theorem good_visitAll (env : Env) (v : Name → List Name → Option (List Name))
    (hv : ∀ c vis r, v c vis = some r → Good env vis [c] r) :
    ∀ (cs vis r : List Name), visitAll v cs vis = some r → Good env vis cs r := by
  intro cs
  induction cs with
  | nil =>
    intro vis r h
    simp only [visitAll, Option.some.injEq] at h
    subst h
    exact ⟨fun _ h => h, by simp, id, fun y hy hn => absurd hy hn, fun _ _ _ y hy => Or.inl hy⟩
  | cons c cs ih =>
    intro vis r h
    simp only [visitAll] at h
    cases h1 : v c vis with
    | none => simp [h1] at h
    | some r1 =>
      simp only [h1] at h
      have g1 := hv c vis r1 h1
      have g2 := ih r1 r h
      refine ⟨fun y hy => g2.sub y (g1.sub y hy), ?_, fun hn => g2.nodup (g1.nodup hn), ?_, ?_⟩
      · intro x hx
        rcases List.mem_cons.mp hx with rfl | hx
        · exact g2.sub _ (g1.targets _ (by simp))
        · exact g2.targets x hx
      · intro y hy hn
        by_cases hy1 : y ∈ r1
        · intro body hb c' hc'
          exact g2.sub _ (g1.closed y hy1 hn body hb c' hc')
        · exact g2.closed y hy hy1
      · intro P hP hcs y hy
        rcases g2.sound P hP (fun c' hc' => hcs c' (by simp [hc'])) y hy with h' | h'
        · exact g1.sound P hP (fun c' hc' => by simp at hc'; subst hc'; exact hcs _ (by simp)) y h'
        · exact Or.inr h'

theorem good_visit (env : Env) : ∀ (d : Nat) (x : Name) (vis r : List Name),
    visit env d x vis = some r → Good env vis [x] r
  | d, x, vis, r, h => by
    unfold visit at h
    by_cases hx : x ∈ vis
    · simp only [hx, if_true, Option.some.injEq] at h
      subst h
      exact ⟨fun _ h => h, by simpa using hx, id, fun y hy hn => absurd hy hn, fun _ _ _ y hy => Or.inl hy⟩
    · simp only [hx, if_false] at h
      have hnd : vis.Nodup → (vis ++ [x]).Nodup := fun hn =>
        List.nodup_append.mpr ⟨hn, by simp, by intro a ha b hb; simp at hb; subst hb; intro e; subst e; exact hx ha⟩
      cases he : env x with
      | none =>
        simp only [he, Option.some.injEq] at h
        subst h
        refine ⟨fun y hy => by simp [hy], by simp, hnd, ?_, ?_⟩
        · intro y hy hn body hb
          simp only [List.mem_append, List.mem_singleton] at hy
          rcases hy with hy | rfl
          · exact absurd hy hn
          · simp [he] at hb
        · intro P _ hcs y hy
          simp only [List.mem_append, List.mem_singleton] at hy
          rcases hy with hy | rfl
          · exact Or.inl hy
          · exact Or.inr (hcs _ (by simp))
      | some body =>
        simp only [he] at h
        match d, h with
        | d + 1, h =>
          have g := good_visitAll env (visit env d) (good_visit env d) (spreads body) (vis ++ [x]) r h
          have hxr : x ∈ r := g.sub x (by simp)
          refine ⟨fun y hy => g.sub y (by simp [hy]), by simpa using hxr, fun hn => g.nodup (hnd hn), ?_, ?_⟩
          · intro y hy hn
            by_cases hyx : y = x
            · subst hyx
              intro body' hb' c hc
              rw [he] at hb'
              cases hb'
              exact g.targets c hc
            · exact g.closed y hy (by simp [hn, hyx])
          · intro P hP hcs y hy
            have hPx : P x := hcs x (by simp)
            rcases g.sound P hP (fun c hc => hP x body c hPx he hc) y hy with h' | h'
            · simp only [List.mem_append, List.mem_singleton] at h'
              rcases h' with h' | rfl
              · exact Or.inl h'
              · exact Or.inr hPx
            · exact Or.inr h'
termination_by structural d => d

theorem total_visitAll (env : Env) (dom : List Name) (d : Nat)
    (hv : ∀ x vis, Search.unseen dom vis ≤ d → ∃ r, visit env d x vis = some r) :
    ∀ (cs vis : List Name), Search.unseen dom vis ≤ d → ∃ r, visitAll (visit env d) cs vis = some r := by
  intro cs
  induction cs with
  | nil => intro vis _; exact ⟨vis, rfl⟩
  | cons c cs ih =>
    intro vis h
    obtain ⟨r1, h1⟩ := hv c vis h
    have g := good_visit env d c vis r1 h1
    have := Search.unseen_le_of_subset (dom := dom) g.sub
    obtain ⟨r, hr⟩ := ih r1 (by omega)
    exact ⟨r, by simp [visitAll, h1, hr]⟩

theorem total_visit (env : Env) (dom : List Name) (hdom : ∀ x body, env x = some body → x ∈ dom) :
    ∀ (d : Nat) (x : Name) (vis : List Name), Search.unseen dom vis ≤ d → ∃ r, visit env d x vis = some r
  | d, x, vis, h => by
    unfold visit
    by_cases hx : x ∈ vis
    · exact ⟨vis, by simp [hx]⟩
    · cases he : env x with
      | none => exact ⟨vis ++ [x], by simp [hx]⟩
      | some body =>
        have := Search.unseen_lt (dom := dom) (seen' := vis ++ [x]) (fun y hy => List.mem_append_left _ hy)
          (hdom x body he) hx (by simp)
        match d, h with
        | 0, h => omega
        | d + 1, h =>
          obtain ⟨r, hr⟩ :=
            total_visitAll env dom d (total_visit env dom hdom d) (spreads body) (vis ++ [x]) (by omega)
          exact ⟨r, by simp [hx, hr]⟩
termination_by structural d => d

theorem closure_total (env : Env) (dom : List Name) (hdom : ∀ x body, env x = some body → x ∈ dom)
    (bound : Nat) (hb : dom.length ≤ bound) (ss : List Selection) : ∃ ns, closure env bound ss = some ns := by
  unfold closure
  exact total_visitAll env dom bound (total_visit env dom hdom bound) _ _ (Nat.le_trans (Search.unseen_le dom []) hb)

theorem closure_good (env : Env) (bound : Nat) (ss : List Selection) (ns : List Name)
    (h : closure env bound ss = some ns) :
    ns.Nodup ∧ ∀ n, n ∈ ns ↔ Reach env ss n := by
  have g := good_visitAll env (visit env bound) (good_visit env bound) (spreads ss) [] ns h
  refine ⟨g.nodup List.nodup_nil, fun n => ⟨fun hn => ?_, fun hr => ?_⟩⟩
  · have := g.sound (Reach env ss) (fun y body c hy he hc => Reach.step hy he (Reach.direct hc))
      (fun c hc => Reach.direct hc) n hn
    simpa using this
  · -- the result contains the direct spreads and is closed under "spreads of the body"
    have key : ∀ body m, Reach env body m → (∀ c ∈ spreads body, c ∈ ns) → m ∈ ns := by
      intro body m hm
      induction hm with
      | direct hc => intro hroots; exact hroots _ hc
      | step _ he _ ih1 ih2 =>
        intro hroots
        have hm := ih1 hroots
        exact ih2 (fun c hc => g.closed _ hm (by simp) _ he c hc)
    exact key ss n hr g.targets

def fragNamesOf : List ExecDef → List Name
  | [] => []
  | .frag f :: r => f.name :: fragNamesOf r
  | _ :: r => fragNamesOf r

/-! `fragments.get(name)` is the LAST fragment definition of that name: a `find?` on the reversed list of the document's fragment
    definitions (`CheckOp.fragsOf`; the checker's `fragMap` is that expression). What follows are list facts. -/

/-- the right side is `CheckOp.fragNamesOf l` by definition -/
theorem fragNamesOf_eq_map (l : List ExecDef) : fragNamesOf l = (CheckOp.fragsOf l).map (·.name) := by
  induction l with
  | nil => rfl
  | cons d r ih => cases d <;> simp [fragNamesOf, CheckOp.fragsOf, ih] <;> rfl

theorem getFrag_eq_find? (l : List ExecDef) (n : Name) :
    getFrag l n = (CheckOp.fragsOf l).reverse.find? (·.name == n) := by
  induction l with
  | nil => rfl
  | cons d r ih =>
    cases d with
    | frag f =>
      show _ = (f :: CheckOp.fragsOf r).reverse.find? _
      rw [List.reverse_cons, List.find?_append, ← ih, getFrag]
      cases getFrag r n with
      | some g => rfl
      | none => by_cases h : f.name = n <;> simp [List.find?, h, beq_false_of_ne]
    | op _ | imp _ => exact ih

theorem fragNamesOf_length (defs : List ExecDef) : (fragNamesOf defs).length ≤ defs.length := by
  rw [fragNamesOf_eq_map, List.length_map]; exact List.length_filterMap_le _ _

theorem mem_fragNamesOf (l : List ExecDef) (n : Name) :
    n ∈ fragNamesOf l ↔ ∃ f, ExecDef.frag f ∈ l ∧ f.name = n := by
  simp [fragNamesOf_eq_map, CheckOp.mem_fragsOf]

theorem getFrag_some (defs : List ExecDef) (n : Name) (f : FragmentDef) (h : getFrag defs n = some f) :
    f.name = n ∧ n ∈ fragNamesOf defs ∧ ExecDef.frag f ∈ defs := by
  rw [getFrag_eq_find?] at h
  have hn : f.name = n := by simpa using List.find?_some h
  have hm : f ∈ CheckOp.fragsOf defs := List.mem_reverse.mp (List.mem_of_find?_eq_some h)
  exact ⟨hn, by rw [fragNamesOf_eq_map, ← hn]; exact List.mem_map_of_mem hm, CheckOp.mem_fragsOf.mp hm⟩

theorem getFrag_isSome_iff (l : List ExecDef) (n : Name) : (getFrag l n).isSome = true ↔ n ∈ fragNamesOf l := by
  rw [getFrag_eq_find?, fragNamesOf_eq_map, List.find?_isSome]
  simp

theorem getFrag_none (defs : List ExecDef) (n : Name) (h : n ∉ fragNamesOf defs) : getFrag defs n = none := by
  rw [← Option.not_isSome_iff_eq_none, getFrag_isSome_iff]; exact h

theorem getFrag_unique (defs : List ExecDef) (hu : (fragNamesOf defs).Nodup) (f : FragmentDef)
    (hf : ExecDef.frag f ∈ defs) : getFrag defs f.name = some f := by
  rw [fragNamesOf_eq_map] at hu
  rw [getFrag_eq_find?, find?_key_reverse (fun x : FragmentDef => x.name) hu]
  exact find?_key_of_nodup (·.name) hu (CheckOp.mem_fragsOf.mpr hf)

theorem getFrag_eq_some_iff (l : List ExecDef) (hu : (fragNamesOf l).Nodup) (n : Name) (f : FragmentDef) :
    getFrag l n = some f ↔ ExecDef.frag f ∈ l ∧ f.name = n := by
  constructor
  · intro h; obtain ⟨h1, _, h3⟩ := getFrag_some l n f h; exact ⟨h3, h1⟩
  · rintro ⟨hf, rfl⟩; exact getFrag_unique l hu f hf

/-- the fragment environment of a document: name ↦ body of the fragment definition of that name -/
def envOf (defs : List ExecDef) : Env := envOfGet (getFrag defs)

/-- the fragment definitions named by `names`, in that order -/
def fragDefs (defs : List ExecDef) (names : List Name) : List ExecDef :=
  names.filterMap fun n => (getFrag defs n).map ExecDef.frag

theorem mem_fragDefs (defs : List ExecDef) (names : List Name) (d : ExecDef) :
    d ∈ fragDefs defs names ↔ ∃ n g, n ∈ names ∧ getFrag defs n = some g ∧ d = .frag g := by
  simp only [fragDefs, List.mem_filterMap, Option.map_eq_some_iff]
  constructor
  · rintro ⟨n, hn, g, hg, rfl⟩; exact ⟨n, g, hn, hg, rfl⟩
  · rintro ⟨n, g, hn, hg, rfl⟩; exact ⟨n, hn, g, hg, rfl⟩

theorem lookupAll_cases (defs : List ExecDef) (names : List Name) :
    ((∀ n ∈ names, (getFrag defs n).isSome) ∧ lookupAll defs names = .ok (fragDefs defs names)) ∨
    ∃ n ∈ names, getFrag defs n = none ∧ lookupAll defs names = .error (.fragmentNotFound n) := by
  induction names with
  | nil => exact .inl ⟨by simp, rfl⟩
  | cons n r ih =>
    cases hg : getFrag defs n with
    | none => exact .inr ⟨n, by simp, hg, by simp [lookupAll, hg]⟩
    | some f =>
      rcases ih with ⟨h1, h2⟩ | ⟨m, hm, h1, h2⟩
      · exact .inl ⟨by simpa [hg] using h1, by simp [lookupAll, hg, h2, fragDefs]⟩
      · exact .inr ⟨m, by simp [hm], h1, by simp [lookupAll, hg, h2]⟩

theorem fragmentNames_eq_closure (defs : List ExecDef) (ss : List Selection) :
    fragmentNames defs ss = closure (envOf defs) defs.length ss := by
  unfold fragmentNames bound closure envOf
  exact collect_eq_visitAll (getFrag defs) defs.length ss []

theorem envOf_dom (defs : List ExecDef) : ∀ x body, envOf defs x = some body → x ∈ fragNamesOf defs := by
  intro x body h
  simp only [envOf, envOfGet, Option.map_eq_some_iff] at h
  obtain ⟨f, hf, _⟩ := h
  exact (getFrag_some defs x f hf).2.1

theorem fragmentNames_total (defs : List ExecDef) (ss : List Selection) : ∃ ns, fragmentNames defs ss = some ns := by
  rw [fragmentNames_eq_closure]
  exact closure_total (envOf defs) (fragNamesOf defs) (envOf_dom defs) defs.length (fragNamesOf_length defs) ss

theorem fragmentNames_spec (defs : List ExecDef) (ss : List Selection) :
    ∃ names, fragmentNames defs ss = some names ∧ closure (envOf defs) defs.length ss = some names ∧ names.Nodup ∧
      ∀ n, n ∈ names ↔ Reach (envOf defs) ss n := by
  obtain ⟨names, hn⟩ := fragmentNames_total defs ss
  have hc := hn
  rw [fragmentNames_eq_closure] at hc
  exact ⟨names, hn, hc, closure_good _ _ _ _ hc⟩

end NitroVerif.C12
