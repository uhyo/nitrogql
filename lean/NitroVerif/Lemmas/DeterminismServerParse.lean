import NitroVerif.Lemmas.DeterminismServerBlocks
import NitroVerif.Lemmas.Strip
import NitroVerif.Lemmas.GqlPrintWritten
import NitroVerif.Lemmas.GqlPrintLexText
/-!
The side conditions of C16's round-trip theorem (`server_module_roundtrip_text`) are invariant under permutation of
the definitions — each is a "for every definition" statement.
-/
namespace NitroVerif.DeterminismServer
open NitroVerif.Gql NitroVerif.GqlPrint NitroVerif.GqlTokens NitroVerif.C16

theorem listToks_eq_flatMap {α : Type} (t : α → List LTok) (l : List α) : listToks t l = l.flatMap t := by
  induction l with
  | nil => rfl
  | cons x xs ih => simp [listToks, ih]

theorem tsDocToks_perm {d d' : TsDoc} (h : d'.Perm d) : (tsDocToks d').Perm (tsDocToks d) := by
  unfold tsDocToks
  rw [listToks_eq_flatMap, listToks_eq_flatMap]
  exact h.flatMap_right _

theorem onlyOnScalars_perm {n : Name} {d d' : TsDoc} (h : d'.Perm d) (hd : OnlyOnScalars n d) : OnlyOnScalars n d' :=
  fun i hi => hd i (h.mem_iff.mp hi)

theorem onlyOnObjects_perm {n : Name} {d d' : TsDoc} (h : d'.Perm d) (hd : OnlyOnObjects n d) : OnlyOnObjects n d' :=
  fun i hi => hd i (h.mem_iff.mp hi)

theorem stripDirective_perm (n : Name) {d d' : TsDoc} (h : d'.Perm d) :
    (Strip.stripDirective n d').Perm (Strip.stripDirective n d) := h.filterMap _

theorem serverDoc_perm {d d' : TsDoc} (h : d'.Perm d) (mp : Bool) : (serverDoc d' mp).Perm (serverDoc d mp) := by
  unfold serverDoc
  cases mp
  · exact stripDirective_perm _ h
  · exact stripDirective_perm _ (stripDirective_perm _ h)

theorem wfTsDoc_perm {d d' : TsDoc} (h : d'.Perm d) : wfTsDoc d' = wfTsDoc d := h.all_eq

theorem strsOK_perm {a b : List LTok} (h : a.Perm b) : strsOK a = strsOK b := h.all_eq

theorem lexemesOK_perm {a b : List LTok} (h : a.Perm b) : lexemesOK a = lexemesOK b := h.all_eq

end NitroVerif.DeterminismServer
