/-
Leaves in the offset form: string terminals, `Name` and keywords followed by their gap, `Value` and `Arguments` as parts.
The pair trees of the value level contain no `\u` escape, and the builder's depth bound for values is at most the length of
the text.
-/
import NitroVerif.Lemmas.ParseDocPart
namespace NitroVerif.DocParse
open NitroVerif.Peg NitroVerif.Gen NitroVerif.Gen.Parts NitroVerif.Build NitroVerif.TypeParse NitroVerif.StringParse
open NitroVerif.Gql NitroVerif.ValueParse NitroVerif.Spec.Lex

theorem clean_charPairs : ∀ (s : List Char) (p : Nat), CleanL (charPairs s p) := by
  intro s
  induction s with
  | nil => intro p; trivial
  | cons c cs ih =>
    intro p
    refine ⟨?_, ih _⟩
    unfold charPair
    split <;> exact cleanP_of (by decide) (by decide) ⟨cleanP_of (by decide) (by decide) trivial, trivial⟩

theorem clean_stringPair (s : List Char) (p : Nat) : CleanP (stringPair s p) := by
  cases s with
  | nil => exact cleanP_of (by decide) (by decide) ⟨cleanP_of (by decide) (by decide) trivial, trivial⟩
  | cons c cs =>
    exact cleanP_of (by decide) (by decide) ⟨cleanP_of (by decide) (by decide) (clean_charPairs _ _), trivial⟩

mutual
theorem clean_innerV (τ : Trivia) : (v : Value) → ∀ p, CleanP (innerV τ p v)
  | .var n _ => fun p => cleanP_of (by decide) (by decide) ⟨cleanP_of (by decide) (by decide) trivial, trivial⟩
  | .int s _ => fun p => cleanP_of (by decide) (by decide) trivial
  | .float s _ => fun p => cleanP_of (by decide) (by decide) trivial
  | .str s _ => fun p => clean_stringPair _ _
  | .bool b _ => fun p => by
    cases b <;> exact cleanP_of (by decide) (by decide) ⟨cleanP_of (by decide) (by decide) trivial, trivial⟩
  | .null _ => fun p => cleanP_of (by decide) (by decide) ⟨cleanP_of (by decide) (by decide) trivial, trivial⟩
  | .enum n _ => fun p => cleanP_of (by decide) (by decide) ⟨cleanP_of (by decide) (by decide) trivial, trivial⟩
  | .list vs _ => fun p => cleanP_of (by decide) (by decide) (clean_itemPairs τ vs _ _)
  | .obj fs _ => fun p => cleanP_of (by decide) (by decide) (clean_fieldPairs τ fs _ _)
theorem clean_itemPairs (τ : Trivia) : (vs : List Value) → ∀ q first, CleanL (itemPairs τ q first vs)
  | [] => fun q first => trivial
  | v :: vs => fun q first => by
    rw [itemPairs_cons]
    exact ⟨cleanP_of (by decide) (by decide) ⟨clean_innerV τ v _, trivial⟩, clean_itemPairs τ vs _ _⟩
theorem clean_fieldPairs (τ : Trivia) : (fs : List (Name × Pos × Value)) → ∀ q first, CleanL (fieldPairs τ q first fs)
  | [] => fun q first => trivial
  | (k, _, v) :: fs => fun q first => by
    rw [fieldPairs_cons]
    exact ⟨cleanP_of (by decide) (by decide) ⟨cleanP_of (by decide) (by decide) trivial,
      cleanP_of (by decide) (by decide) ⟨clean_innerV τ v _, trivial⟩, trivial⟩, clean_fieldPairs τ fs _ _⟩
end

theorem clean_valuePair (τ : Trivia) (p : Nat) (v : Value) : CleanP (valuePair τ p v) :=
  cleanP_of (by decide) (by decide) ⟨clean_innerV τ v p, trivial⟩

theorem clean_argPairs (τ : Trivia) : ∀ (fs : List (Name × Pos × Value)) (q : Nat) (first : Bool),
    CleanL (argPairs τ q first fs) := by
  intro fs
  induction fs with
  | nil => intro q first; trivial
  | cons f fs ih =>
    intro q first
    obtain ⟨k, kp, v⟩ := f
    rw [argPairs_cons]
    exact ⟨cleanP_of (by decide) (by decide) ⟨cleanP_of (by decide) (by decide) trivial, clean_valuePair τ _ v, trivial⟩,
      ih _ _⟩

theorem clean_argsPair (τ : Trivia) (p : Nat) (args : List Arg) : CleanP (argsPair τ p args) :=
  cleanP_of (by decide) (by decide) (clean_argPairs τ args _ _)

theorem sizeFields_le (τ : Trivia) : ∀ (fs : List (Name × Pos × Value)), WFFs fs → ∀ q first,
    Value.sizeFields fs ≤ (fieldsBody τ q first fs).length := by
  intro fs
  induction fs with
  | nil => intro _ q first; simp [Value.sizeFields]
  | cons w ws ih =>
    intro hwf q first
    obtain ⟨k, kp, v⟩ := w
    simp only [WFFs] at hwf
    have h1 := size_le_length τ v.size v (Nat.le_refl _) hwf.2.1 (fQ3 τ q first k)
    have h2 := ih hwf.2.2 (fQ3 τ q first k + (renderV τ (fQ3 τ q first k) v).length) false
    rw [fieldsBody_cons]
    simp only [Value.sizeFields, List.length_append, List.length_cons]
    omega

theorem sizeFields_le_args (τ : Trivia) (args : List Arg) (hwf : WFFs args) (p : Nat) :
    Value.sizeFields args ≤ (renderArgs τ p args).length := by
  have := sizeFields_le τ args hwf (p + 1) true
  simp only [renderArgs, List.length_cons, List.length_append]
  omega

variable {inp : List Char}

theorem tk_gap {τ : Trivia} (hτ : ∀ q, Ws (τ q)) {sep : Bool} {p : Nat} {t : List Char} {bad : Char → Prop}
    (h : HasAt inp p (tk τ sep p t)) (hn : Nxt inp bad sep (p + (tk τ sep p t).length)) :
    HasAt inp p t ∧ Gap inp (p + t.length) (gapS sep (τ (p + t.length))) ∧ HeadNot nameCont (inp.drop (p + t.length)) := by
  have h1 : HasAt inp p t := h.left
  have h2 : HasAt inp (p + t.length) (gapS sep (τ (p + t.length))) := h.right
  have hn' : Nxt inp bad sep (p + t.length + (gapS sep (τ (p + t.length))).length) := by
    rw [tk_length, ← Nat.add_assoc] at hn; exact hn
  exact ⟨h1, Nxt.gap (hτ _) h2 hn'⟩

theorem runsKE_tk {τ : Trivia} (hτ : ∀ q, Ws (τ q)) {e : Expr} {t : List Char} {sep : Bool} {p n K : Nat} {ps : List Pair}
    (h : HasAt inp p (tk τ sep p t)) (ht : Tok (At inp (p + (tk τ sep p t).length)))
    (hrun : Runs gList n true e .nonAtomic ⟨p, t ++ inp.drop (p + t.length)⟩ ⟨p + t.length, inp.drop (p + t.length)⟩ ps)
    (hn : n ≤ B t.length + K) :
    RunsKE (B (tk τ sep p t).length + K) e (At inp p) (At inp (p + t.length)) (At inp (p + (tk τ sep p t).length)) ps := by
  have hg : Gap inp (p + t.length) (gapS sep (τ (p + t.length))) :=
    ⟨h.right, ws_gapS (hτ _), by rwa [tk_length, ← Nat.add_assoc] at ht⟩
  have hb : B t.length + K ≤ B (tk τ sep p t).length + K ∧
      (gapS sep (τ (p + t.length))).length + 60 ≤ B (tk τ sep p t).length + K := by
    rw [tk_length]; simp only [B]; omega
  refine ⟨?_, SkipTo.cast (hg.skip.mono hb.2) rfl (by rw [tk_length, Nat.add_assoc])⟩
  simp only [At]
  rw [h.left.drop]
  exact hrun.mono (Nat.le_trans hn hb.1)

theorem strT {τ : Trivia} (hτ : ∀ q, Ws (τ q)) (s : List Char) {sep : Bool} {p : Nat}
    (h : HasAt inp p (tk τ sep p s)) (ht : Tok (At inp (p + (tk τ sep p s).length))) :
    RunsK (B (tk τ sep p s).length) (.str s) (At inp p) (At inp (p + (tk τ sep p s).length)) [] :=
  (runsKE_tk (K := 0) hτ h ht (runs_str (c := ⟨p, _⟩) (matchStr_self_append _ _)) (le_B (by decide))).toK

theorem nameT {τ : Trivia} (hτ : ∀ q, Ws (τ q)) {n : List Char} (hv : validName n) {sep : Bool} {p : Nat}
    {bad : Char → Prop} (h : HasAt inp p (tk τ sep p n)) (hn : Nxt inp bad sep (p + (tk τ sep p n).length)) :
    RunsKE (B (tk τ sep p n).length) (.call R.Name) (At inp p) (At inp (p + n.length)) (At inp (p + (tk τ sep p n).length))
      [.mk R.Name p (p + n.length) []] :=
  runsKE_tk (K := 0) hτ h hn.tok (runs_call (name_runs hv p _ (tk_gap hτ h hn).2.2)) (by simp only [B]; omega)

theorem kwT {τ : Trivia} (hτ : ∀ q, Ws (τ q)) {r : RuleId} {w : List Char}
    (hl : gList.look r = some (.atomic, .seq (.str w) (.not (.call R.NameContinue)))) {sep : Bool} {p : Nat}
    {bad : Char → Prop} (h : HasAt inp p (tk τ sep p w)) (hn : Nxt inp bad sep (p + (tk τ sep p w).length)) :
    RunsKE (B (tk τ sep p w).length) (.call r) (At inp p) (At inp (p + w.length)) (At inp (p + (tk τ sep p w).length))
      [.mk r p (p + w.length) []] := by
  have := keywordL_runs (la := .none) (at_ := .nonAtomic) hl p _ (tk_gap hτ h hn).2.2
  exact runsKE_tk (K := 0) hτ h hn.tok (runs_call (runsRule_iff.mpr (by simpa using this))) (le_B (by decide))

theorem strP {τ : Trivia} (hτ : ∀ q, Ws (τ q)) (s : List Char) {sep : Bool} {p : Nat}
    (h : HasAt inp p (tk τ sep p s)) (ht : Tok (At inp (p + (tk τ sep p s).length))) :
    Part inp 0 (.str s) p (tk τ sep p s) [] := .tok (strT hτ s h ht)

theorem nameP {τ : Trivia} (hτ : ∀ q, Ws (τ q)) {n : List Char} (hv : validName n) {sep : Bool} {p : Nat}
    {bad : Char → Prop} (h : HasAt inp p (tk τ sep p n)) (hn : Nxt inp bad sep (p + (tk τ sep p n).length)) :
    Part inp 0 (.call R.Name) p (tk τ sep p n) [.mk R.Name p (p + n.length) []] :=
  ⟨(nameT hτ hv h hn).toK, cleanP_of (by decide) (by decide) trivial, trivial⟩

theorem kwP {τ : Trivia} (hτ : ∀ q, Ws (τ q)) {r : RuleId} {w : List Char}
    (hl : gList.look r = some (.atomic, .seq (.str w) (.not (.call R.NameContinue)))) {sep : Bool} {p : Nat}
    {bad : Char → Prop} (h : HasAt inp p (tk τ sep p w)) (hn : Nxt inp bad sep (p + (tk τ sep p w).length)) :
    Part inp 0 (.call r) p (tk τ sep p w) [.mk r p (p + w.length) []] :=
  ⟨(kwT hτ hl h hn).toK, cleanP_of (keyword_ne hl).1 (keyword_ne hl).2 trivial, trivial⟩

theorem valEnd_at {q : Nat} {g : List Char} (hg : Gap inp q g)
    (hx : g = [] → HeadNot (fun d => nameCont d ∨ d = '.' ∨ d = '"') (inp.drop q)) : ValEnd (inp.drop q) := by
  cases hgl : g with
  | nil => exact hx hgl
  | cons d r =>
    rw [hg.has.drop, hgl]
    exact valEnd_ws_ne (hgl ▸ hg.ws) (by simp)

theorem valueP (τ : Trivia) (hτ : ∀ q, Ws (τ q)) (v : Value) (hwf : WFV v) {sep : Bool} {p : Nat} {bad : Char → Prop}
    (hbad : sep = false → ∀ d, d = '.' ∨ d = '"' → bad d) (h : HasAt inp p (tk τ sep p (renderV τ p v)))
    (hn : Nxt inp bad sep (p + (tk τ sep p (renderV τ p v)).length)) :
    Part inp 1 (.call R.Value) p (tk τ sep p (renderV τ p v)) [valuePair τ p v] := by
  refine ⟨?_, clean_valuePair τ p v, trivial⟩
  obtain ⟨h1, hg, hglue⟩ := tk_gap hτ h hn
  have hend : ValEnd (inp.drop (p + (renderV τ p v).length)) := by
    refine valEnd_at hg fun hnil => ?_
    have e : inp.drop (p + (renderV τ p v).length) = inp.drop (p + (tk τ sep p (renderV τ p v)).length) := by
      rw [tk_length, hnil]; simp
    have hsep : sep = false := by
      cases sep with
      | false => rfl
      | true => exact absurd hnil gapS_ne_nil
    intro d r he hd
    rcases hd with hd | hd
    · exact hglue d r he hd
    · rw [e] at he; exact hn.ok d r he (hbad hsep d hd)
  exact (runsKE_tk hτ h hn.tok (runs_call (value_runs τ hτ v.size v (Nat.le_refl _) hwf p _ hend)) (Nat.le_refl _)).toK

theorem argsP (τ : Trivia) (hτ : ∀ q, Ws (τ q)) (args : List Arg) (hne : args ≠ []) (hwf : WFFs args) {sep : Bool}
    {p : Nat} (h : HasAt inp p (tk τ sep p (renderArgs τ p args)))
    (ht : Tok (At inp (p + (tk τ sep p (renderArgs τ p args)).length))) :
    Part inp 1 (.call R.Arguments) p (tk τ sep p (renderArgs τ p args)) [argsPair τ p args] := by
  refine ⟨?_, clean_argsPair τ p args, trivial⟩
  have hok : FieldsOk τ args := fun f hf' =>
    ⟨(wffs_mem hwf hf').1, (wffs_mem hwf hf').2, value_runs τ hτ f.2.2.size f.2.2 (Nat.le_refl _) (wffs_mem hwf hf').2⟩
  exact (runsKE_tk hτ h ht (runs_call (arguments_runs τ hτ args hne hok p _)) (Nat.le_refl _)).toK

theorem args_fails {p : Nat} (h : HeadNot (· = '(') (inp.drop p)) :
    Fails gList 4 true (.call R.Arguments) .nonAtomic (At inp p) :=
  first_fails (by decide) h

end NitroVerif.DocParse
