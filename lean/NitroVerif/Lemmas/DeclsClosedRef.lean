/-
The reference specification `Ref_t(T)` (`Spec/RefTypes.lean`, executable with fuel) read as propositions:
more fuel never hurts, and per kind `Ref` unfolds into the clause of the property statement with `Ref` itself at
the leaves (records through `RecordSpec`, wrappers through `Conf`). Last, the rank of a value (`jrank`): `Conf` and
`RecordSpec` over two leaf relations agree once the relations agree on smaller values.
-/
import NitroVerif.Spec.RefTypes
import NitroVerif.Lemmas.TsSemSound
namespace NitroVerif.RefTypes
open NitroVerif.Gql NitroVerif.Ts NitroVerif.DeclCfg

theorem confCore_iff {leaf : Name → J → Bool} :
    ∀ (ty : GType) (v : J), confCore leaf ty v = true ↔ ConfCore (fun n x => leaf n x = true) ty v := by
  intro ty
  induction ty with
  | named n p => intro v; exact Iff.rfl
  | nonNull t ih => intro v; exact ih v
  | list t p ih =>
    intro v
    cases v with
    | arr xs =>
      simp only [confCore, ConfCore, List.all_eq_true, Bool.or_eq_true, Bool.and_eq_true, Bool.not_eq_true', ih,
        isNull_iff, J.arr.injEq, exists_eq_left']
    | _ => exact ⟨fun h => (nomatch h), fun ⟨_, h, _⟩ => (nomatch h)⟩

theorem conf_iff {leaf : Name → J → Bool} (ty : GType) (v : J) :
    conf leaf ty v = true ↔ Conf (fun n x => leaf n x = true) ty v := by
  simp only [conf, Conf, Bool.or_eq_true, Bool.and_eq_true, Bool.not_eq_true', isNull_iff, confCore_iff]

theorem ConfCore.mono {R Q : Name → J → Prop} (h : ∀ n x, R n x → Q n x) :
    ∀ (ty : GType) (v : J), ConfCore R ty v → ConfCore Q ty v := by
  intro ty
  induction ty with
  | named n p => intro v hv; exact h n v hv
  | nonNull t ih => intro v hv; exact ih v hv
  | list t p ih => rintro v ⟨xs, rfl, hx⟩; exact ⟨xs, rfl, fun x hxs => (hx x hxs).imp_right (ih x)⟩

theorem Conf.mono {R Q : Name → J → Prop} (h : ∀ n x, R n x → Q n x) {ty : GType} {v : J} (hv : Conf R ty v) :
    Conf Q ty v :=
  hv.imp_right (ConfCore.mono h ty v)

theorem conf_sound {leaf : Name → J → Bool} {R : Name → J → Prop} (h : ∀ n x, leaf n x = true → R n x)
    (ty : GType) (v : J) (hv : conf leaf ty v = true) : Conf R ty v :=
  ((conf_iff ty v).1 hv).mono h

theorem conf_mono {l1 l2 : Name → J → Bool} (h : ∀ n x, l1 n x = true → l2 n x = true)
    (ty : GType) (v : J) (hv : conf l1 ty v = true) : conf l2 ty v = true :=
  (conf_iff ty v).2 (((conf_iff ty v).1 hv).mono h)

theorem confCore_complete {leaf : Nat → Name → J → Bool}
    (mono : ∀ k n x, leaf k n x = true → leaf (k + 1) n x = true) :
    ∀ (ty : GType) (v : J), ConfCore (fun n x => ∃ k, leaf k n x = true) ty v →
      ∃ k, ConfCore (fun n x => leaf k n x = true) ty v := by
  intro ty
  induction ty with
  | named n p => intro v hv; exact hv
  | nonNull t ih => intro v hv; exact ih v hv
  | list t p ih =>
    rintro v ⟨xs, rfl, hx⟩
    obtain ⟨k, hk⟩ := exists_common_fuel xs
      (fun x k => (t.isNonNull = false ∧ x = .null) ∨ ConfCore (fun n x => leaf k n x = true) t x)
      (fun x k hk => hk.imp_right (ConfCore.mono (mono k) t x))
      (fun x hxs => (hx x hxs).elim (fun h => ⟨0, Or.inl h⟩) fun h => (ih x h).imp fun _ => Or.inr)
    exact ⟨k, xs, rfl, hk⟩

theorem conf_iff_exists {leaf : Nat → Name → J → Bool}
    (mono : ∀ k n x, leaf k n x = true → leaf (k + 1) n x = true) (ty : GType) (v : J) :
    (∃ k, conf (leaf k) ty v = true) ↔ Conf (fun n x => ∃ k, leaf k n x = true) ty v := by
  simp only [conf_iff]
  constructor
  · rintro ⟨k, hk⟩; exact hk.mono fun n x h => ⟨k, h⟩
  · rintro (h | h)
    · exact ⟨0, Or.inl h⟩
    · exact (confCore_complete mono ty v h).imp fun _ => Or.inr

/-- the propositional reading of an executable field -/
def specOf (f : String × Bool × (J → Bool)) : String × Bool × (J → Prop) := (f.1, f.2.1, fun x => f.2.2 x = true)

theorem recordMem_iff (fields : List (String × Bool × (J → Bool))) (kvs : List (String × J)) :
    recordMem fields kvs = true ↔ RecordSpec (fields.map specOf) kvs := by
  simp only [recordMem, RecordSpec, specOf, Bool.and_eq_true, List.all_eq_true, Bool.or_eq_true, List.any_eq_true,
    beq_iff_eq, List.mem_map, isAbsent_iff]
  constructor
  · rintro ⟨h1, h2⟩
    refine ⟨?_, ?_⟩
    · rintro f ⟨g, hg, rfl⟩; exact h1 g hg
    · intro kv hkv
      rcases h2 kv hkv with h | ⟨g, hg, hk⟩
      · exact Or.inl h
      · exact Or.inr ⟨_, ⟨g, hg, rfl⟩, hk⟩
  · rintro ⟨h1, h2⟩
    refine ⟨fun g hg => h1 _ ⟨g, hg, rfl⟩, ?_⟩
    intro kv hkv
    rcases h2 kv hkv with h | ⟨f, ⟨g, hg, rfl⟩, hk⟩
    · exact Or.inl h
    · exact Or.inr ⟨g, hg, hk⟩

theorem RecordSpec.imp_get {α : Type} {pre : List (String × Bool × (J → Prop))} {l : List α} {key : α → String}
    {opt : α → Bool} {Pf Qf : α → J → Prop} {kvs : List (String × J)}
    (h : ∀ a ∈ l, Pf a (J.get kvs (key a)) → Qf a (J.get kvs (key a)))
    (hr : RecordSpec (pre ++ l.map fun a => (key a, opt a, Pf a)) kvs) :
    RecordSpec (pre ++ l.map fun a => (key a, opt a, Qf a)) kvs := by
  simp only [RecordSpec, List.mem_append, List.mem_map] at hr ⊢
  refine ⟨?_, fun kv hkv => (hr.2 kv hkv).imp_right ?_⟩
  · rintro f (hf | ⟨a, ha, rfl⟩)
    · exact hr.1 f (Or.inl hf)
    · exact (hr.1 _ (Or.inr ⟨a, ha, rfl⟩)).imp_right (h a ha)
  · rintro ⟨f, hf | ⟨a, ha, rfl⟩, hk⟩
    · exact ⟨f, Or.inl hf, hk⟩
    · exact ⟨_, Or.inr ⟨a, ha, rfl⟩, hk⟩

theorem recordSpec_congr_get {α : Type} (pre : List (String × Bool × (J → Prop))) (l : List α) (key : α → String)
    (opt : α → Bool) (Pf Qf : α → J → Prop) (kvs : List (String × J))
    (h : ∀ a ∈ l, Pf a (J.get kvs (key a)) ↔ Qf a (J.get kvs (key a))) :
    RecordSpec (pre ++ l.map fun a => (key a, opt a, Pf a)) kvs ↔
      RecordSpec (pre ++ l.map fun a => (key a, opt a, Qf a)) kvs :=
  ⟨RecordSpec.imp_get fun a ha => (h a ha).1, RecordSpec.imp_get fun a ha => (h a ha).2⟩

theorem exists_recordMem_pre_iff {α : Type} (pre : List (String × Bool × (J → Bool))) (l : List α) (key : α → String)
    (opt : α → Bool) (test : Nat → α → J → Bool) (mono : ∀ k a x, test k a x = true → test (k + 1) a x = true)
    (kvs : List (String × J)) :
    (∃ k, recordMem (pre ++ l.map fun a => (key a, opt a, test k a)) kvs = true) ↔
      RecordSpec (pre.map specOf ++ l.map fun a => (key a, opt a, fun x => ∃ k, test k a x = true)) kvs := by
  have e : ∀ k, (pre ++ l.map fun a => (key a, opt a, test k a)).map specOf
      = pre.map specOf ++ l.map fun a => (key a, opt a, fun x => test k a x = true) := fun k => by
    rw [List.map_append, List.map_map]; rfl
  constructor
  · rintro ⟨k, hk⟩
    rw [recordMem_iff, e] at hk
    exact RecordSpec.imp_get (fun a _ h => ⟨k, h⟩) hk
  · intro hr
    obtain ⟨k, hk⟩ := exists_common_fuel_guard l (fun a => ∃ k, test k a (J.get kvs (key a)) = true)
      (fun a k => test k a (J.get kvs (key a)) = true) (fun a k h => mono k a _ h) (fun _ _ h => h)
    exact ⟨k, by rw [recordMem_iff, e]; exact RecordSpec.imp_get hk hr⟩

theorem recordMem_mono {α : Type} (pre : List (String × Bool × (J → Bool))) (l : List α) (key : α → String)
    (opt : α → Bool) (t1 t2 : α → J → Bool) (h : ∀ a ∈ l, ∀ x, t1 a x = true → t2 a x = true)
    (kvs : List (String × J)) (hm : recordMem (pre ++ l.map fun a => (key a, opt a, t1 a)) kvs = true) :
    recordMem (pre ++ l.map fun a => (key a, opt a, t2 a)) kvs = true := by
  rw [recordMem_iff, List.map_append, List.map_map] at hm ⊢
  exact RecordSpec.imp_get (fun a ha => h a ha _) hm

theorem exists_obj_iff {P : J → Prop} {Q : List (String × J) → Prop} {v : J}
    (hno : (∀ kvs, v ≠ .obj kvs) → ¬ P v) (hobj : ∀ kvs, P (.obj kvs) ↔ Q kvs) :
    P v ↔ ∃ kvs, v = .obj kvs ∧ Q kvs := by
  cases v with
  | obj kvs => rw [hobj]; exact ⟨fun h => ⟨kvs, rfl, h⟩, fun ⟨_, e, h⟩ => by cases e; exact h⟩
  | _ => exact ⟨fun h => absurd h (hno fun _ e => nomatch e), fun ⟨_, e, _⟩ => nomatch e⟩

theorem kindFits_output {k : TypeKind} {t : Target} (hk : k ≠ .input) (ht : t.isOutput = true) :
    kindFits k t = true := by
  cases k <;> first | rfl | exact ht | exact absurd rfl hk

variable (c : Cfg) (s : Schema) (t : Target)

/-- the test for the `__typename` key -/
def typenameTest (name : Name) (x : J) : Bool := match x with | .str y => y == name | _ => false

theorem typenameTest_iff {name : Name} {x : J} : typenameTest name x = true ↔ x = .str name := by
  cases x <;> simp [typenameTest]

theorem refMem_unknown {n : Nat} {name : Name} {v : J} (h : s.typeDef? name = none) :
    refMem c s t n name v = false := by
  cases n <;> simp [refMem, h]

theorem refMem_unfit {n : Nat} {name : Name} {v : J} {td : TypeDef} (h : s.typeDef? name = some td)
    (hk : kindFits td.kind t = false) : refMem c s t n name v = false := by
  cases n <;> simp [refMem, h, hk]

theorem refMem_scalar {n : Nat} {name : Name} {v : J} {td : TypeDef} (h : s.typeDef? name = some td)
    (hk : td.kind = .scalar) :
    refMem c s t (n + 1) name v =
      match scalarType? c s.items name with
      | some sc => memG Env.empty (n + 1) v (c.parseOf (sc.getType t))
      | none => false := by
  simp only [refMem, h, hk, kindFits]
  rfl

theorem refMem_enum {n : Nat} {name : Name} {v : J} {td : TypeDef} (h : s.typeDef? name = some td)
    (hk : td.kind = .enum) :
    refMem c s t (n + 1) name v = true ↔ ∃ x ∈ td.values, v = .str x.name := by
  simp only [refMem, h, hk, kindFits]
  cases v <;> simp
  constructor
  · rintro ⟨x, hx, rfl⟩; exact ⟨x, hx, rfl⟩
  · rintro ⟨x, hx, rfl⟩; exact ⟨x, hx, rfl⟩

theorem refMem_object {n : Nat} {name : Name} {td : TypeDef} (h : s.typeDef? name = some td)
    (hk : td.kind = .object) (ht : t.isOutput = true) (kvs : List (String × J)) :
    refMem c s t (n + 1) name (.obj kvs) =
      recordMem ([("__typename", false, typenameTest td.name)]
        ++ td.fields.map fun f => (f.name, false, conf (refMem c s t n) f.ty)) kvs := by
  simp only [refMem, h, hk, kindFits, ht]
  rfl

theorem refMem_notObj {n : Nat} {name : Name} {td : TypeDef} {v : J} (h : s.typeDef? name = some td)
    (hk : td.kind = .object ∨ td.kind = .input) (hv : ∀ kvs, v ≠ .obj kvs) : refMem c s t n name v = false := by
  cases n with
  | zero => rfl
  | succ n =>
    cases v with
    | obj kvs => exact absurd rfl (hv kvs)
    | _ => rcases hk with hk | hk <;> simp [refMem, h, hk]

theorem refMem_input {n : Nat} {name : Name} {td : TypeDef} (h : s.typeDef? name = some td)
    (hk : td.kind = .input) (ht : t.isInput = true) (kvs : List (String × J)) :
    refMem c s t (n + 1) name (.obj kvs) =
      recordMem (td.inputs.map fun f =>
        (f.name, c.optionalInput && !f.ty.isNonNull, conf (refMem c s t n) f.ty)) kvs := by
  simp only [refMem, h, hk, kindFits, ht]
  rfl

theorem refMem_abstract {n : Nat} {name : Name} {v : J} {td : TypeDef} (h : s.typeDef? name = some td)
    (hk : td.kind = .interface ∨ td.kind = .union) (ht : t.isOutput = true) :
    refMem c s t (n + 1) name v = (s.possibleTypes name).any fun o => refMem c s t n o v := by
  rcases hk with hk | hk <;> simp only [refMem, h, hk, kindFits, ht] <;> rfl

theorem refMem_succ : ∀ (n : Nat) (name : Name) (v : J),
    refMem c s t n name v = true → refMem c s t (n + 1) name v = true := by
  intro n
  induction n with
  | zero => intro name v h; simp [refMem] at h
  | succ n ih =>
    intro name v h
    cases htd : s.typeDef? name with
    | none => rw [refMem_unknown c s t htd] at h; cases h
    | some td =>
      cases hfit : kindFits td.kind t with
      | false => rw [refMem_unfit c s t htd hfit] at h; cases h
      | true =>
        cases hk : td.kind with
        | scalar =>
          rw [refMem_scalar c s t htd hk] at h ⊢
          split at h
          · exact memG_succ _ _ _ h
          · cases h
        | «enum» =>
          exact (refMem_enum c s t htd hk).2 ((refMem_enum c s t htd hk).1 h)
        | object =>
          have ht : t.isOutput = true := by simpa [kindFits, hk] using hfit
          cases v with
          | obj kvs =>
            rw [refMem_object c s t htd hk ht] at h ⊢
            exact recordMem_mono _ _ _ _ _ _ (fun f _ x hx => conf_mono ih f.ty x hx) kvs h
          | _ => rw [refMem_notObj c s t htd (Or.inl hk) (by intro kvs; simp)] at h; cases h
        | input =>
          have ht : t.isInput = true := by simpa [kindFits, hk] using hfit
          cases v with
          | obj kvs =>
            rw [refMem_input c s t htd hk ht] at h ⊢
            exact recordMem_mono [] _ _ _ _ _ (fun f _ x hx => conf_mono ih f.ty x hx) kvs h
          | _ => rw [refMem_notObj c s t htd (Or.inr hk) (by intro kvs; simp)] at h; cases h
        | interface | union =>
          have ht : t.isOutput = true := by simpa [kindFits, hk] using hfit
          rw [refMem_abstract c s t htd (by simp [hk]) ht] at h ⊢
          simp only [List.any_eq_true] at h ⊢
          obtain ⟨o, ho, hm⟩ := h
          exact ⟨o, ho, ih _ _ hm⟩

theorem refMem_le {n m : Nat} {name : Name} {v : J} (h : refMem c s t n name v = true) (hle : n ≤ m) :
    refMem c s t m name v = true :=
  fuel_mono_le (P := fun k => refMem c s t k name v = true) (fun k hk => refMem_succ c s t k name v hk) h hle

theorem Ref_succ_iff {name : Name} {v : J} : Ref c s t name v ↔ ∃ n, refMem c s t (n + 1) name v = true := by
  constructor
  · rintro ⟨n, hn⟩; exact ⟨n, refMem_succ c s t n name v hn⟩
  · rintro ⟨n, hn⟩; exact ⟨n + 1, hn⟩

theorem Ref_unknown {name : Name} {v : J} (h : s.typeDef? name = none) : ¬ Ref c s t name v := by
  rintro ⟨n, hn⟩; rw [refMem_unknown c s t h] at hn; cases hn

theorem Ref_unfit {name : Name} {v : J} {td : TypeDef} (h : s.typeDef? name = some td)
    (hk : kindFits td.kind t = false) : ¬ Ref c s t name v := by
  rintro ⟨n, hn⟩; rw [refMem_unfit c s t h hk] at hn; cases hn

theorem Ref_scalar {name : Name} {v : J} {td : TypeDef} (h : s.typeDef? name = some td) (hk : td.kind = .scalar) :
    Ref c s t name v ↔
      ∃ sc, scalarType? c s.items name = some sc ∧ Mem Env.empty v (c.parseOf (sc.getType t)) := by
  rw [Ref_succ_iff]
  constructor
  · rintro ⟨n, hn⟩
    rw [refMem_scalar c s t h hk] at hn
    split at hn
    · rename_i sc hsc; exact ⟨sc, hsc, memG_sound _ _ _ hn⟩
    · cases hn
  · rintro ⟨sc, hsc, hm⟩
    obtain ⟨n, hn⟩ := memG_complete hm
    refine ⟨n, ?_⟩
    rw [refMem_scalar c s t h hk, hsc]
    exact memG_succ _ _ _ hn

theorem Ref_enum {name : Name} {v : J} {td : TypeDef} (h : s.typeDef? name = some td) (hk : td.kind = .enum) :
    Ref c s t name v ↔ ∃ x ∈ td.values, v = .str x.name := by
  rw [Ref_succ_iff]
  constructor
  · rintro ⟨n, hn⟩; exact (refMem_enum c s t h hk).1 hn
  · intro hx; exact ⟨0, (refMem_enum c s t h hk).2 hx⟩

theorem exists_conf_refMem_iff (ty : GType) (x : J) :
    (∃ k, conf (refMem c s t k) ty x = true) ↔ Conf (Ref c s t) ty x :=
  conf_iff_exists (leaf := refMem c s t) (fun k n x h => refMem_succ c s t k n x h) ty x

theorem exists_recordMem_conf_iff {α : Type} (pre : List (String × Bool × (J → Bool))) (l : List α) (key : α → String)
    (opt : α → Bool) (ty : α → GType) (kvs : List (String × J)) :
    (∃ k, recordMem (pre ++ l.map fun a => (key a, opt a, conf (refMem c s t k) (ty a))) kvs = true) ↔
      RecordSpec (pre.map specOf ++ l.map fun a => (key a, opt a, Conf (Ref c s t) (ty a))) kvs := by
  rw [exists_recordMem_pre_iff pre l key opt (fun n a => conf (refMem c s t n) (ty a))
    (fun k a x hx => conf_mono (fun n x h => refMem_succ c s t k n x h) (ty a) x hx)]
  exact recordSpec_congr_get _ l _ _ _ _ kvs (fun a _ => exists_conf_refMem_iff c s t (ty a) _)

theorem Ref_object {name : Name} {v : J} {td : TypeDef} (h : s.typeDef? name = some td) (hk : td.kind = .object)
    (ht : t.isOutput = true) :
    Ref c s t name v ↔
      ∃ kvs, v = .obj kvs ∧
        RecordSpec (("__typename", false, fun x => x = .str td.name)
          :: td.fields.map fun f => (f.name, false, Conf (Ref c s t) f.ty)) kvs := by
  rw [Ref_succ_iff]
  refine exists_obj_iff (P := fun v => ∃ n, refMem c s t (n + 1) name v = true)
    (fun hv ⟨n, hn⟩ => by rw [refMem_notObj c s t h (Or.inl hk) hv] at hn; cases hn) fun kvs => ?_
  simp only [refMem_object c s t h hk ht]
  rw [exists_recordMem_conf_iff c s t _ td.fields (fun f => f.name) (fun _ => false) (fun f => f.ty)]
  simp only [List.map_cons, List.map_nil, specOf, typenameTest_iff]
  rfl

theorem Ref_input {name : Name} {v : J} {td : TypeDef} (h : s.typeDef? name = some td) (hk : td.kind = .input)
    (ht : t.isInput = true) :
    Ref c s t name v ↔
      ∃ kvs, v = .obj kvs ∧
        RecordSpec (td.inputs.map fun f => (f.name, c.optionalInput && !f.ty.isNonNull, Conf (Ref c s t) f.ty)) kvs := by
  rw [Ref_succ_iff]
  refine exists_obj_iff (P := fun v => ∃ n, refMem c s t (n + 1) name v = true)
    (fun hv ⟨n, hn⟩ => by rw [refMem_notObj c s t h (Or.inr hk) hv] at hn; cases hn) fun kvs => ?_
  simp only [refMem_input c s t h hk ht]
  exact exists_recordMem_conf_iff c s t [] td.inputs (fun f => f.name) _ (fun f => f.ty) kvs

theorem Ref_abstract {name : Name} {v : J} {td : TypeDef} (h : s.typeDef? name = some td)
    (hk : td.kind = .interface ∨ td.kind = .union) (ht : t.isOutput = true) :
    Ref c s t name v ↔ ∃ o ∈ s.possibleTypes name, Ref c s t o v := by
  rw [Ref_succ_iff]
  simp only [refMem_abstract c s t h hk ht, List.any_eq_true]
  constructor
  · rintro ⟨n, o, ho, hm⟩; exact ⟨o, ho, n, hm⟩
  · rintro ⟨o, ho, n, hm⟩; exact ⟨n, o, ho, hm⟩

end NitroVerif.RefTypes

namespace NitroVerif.SchemaDecls
open NitroVerif.Gql NitroVerif.Ts NitroVerif.RefTypes

/-! ### a measure on values under which a missing key is smaller than the record -/

mutual
def jrank : J → Nat
  | .arr xs => jrankList xs + 1
  | .obj kvs => jrankFields kvs + 1
  | _ => 0
def jrankList : List J → Nat
  | [] => 0
  | x :: xs => jrank x + jrankList xs
def jrankFields : List (String × J) → Nat
  | [] => 0
  | (_, x) :: r => jrank x + jrankFields r
end

theorem jrank_mem_list {x : J} : ∀ {xs : List J}, x ∈ xs → jrank x ≤ jrankList xs := by
  intro xs
  induction xs with
  | nil => intro h; cases h
  | cons a r ih =>
    intro h
    simp only [jrankList]
    rcases List.mem_cons.1 h with rfl | h
    · omega
    · have := ih h; omega

theorem jrank_mem_fields {kv : String × J} : ∀ {kvs : List (String × J)}, kv ∈ kvs → jrank kv.2 ≤ jrankFields kvs := by
  intro kvs
  induction kvs with
  | nil => intro h; cases h
  | cons a r ih =>
    intro h
    obtain ⟨k, x⟩ := a
    simp only [jrankFields]
    rcases List.mem_cons.1 h with rfl | h
    · simp
    · have := ih h; omega

theorem jrank_get (kvs : List (String × J)) (k : String) : jrank (J.get kvs k) < jrank (.obj kvs) := by
  unfold J.get
  split
  · rename_i k' v h
    have := jrank_mem_fields (List.mem_of_find?_eq_some h)
    simp only [jrank]; simp only at this; omega
  · simp [jrank]

theorem jrank_elem {x : J} {xs : List J} (h : x ∈ xs) : jrank x < jrank (.arr xs) := by
  have := jrank_mem_list h
  simp only [jrank]; omega

theorem confCore_congr {R1 R2 : Name → J → Prop} : ∀ (ty : GType) (x : J),
    (∀ y, jrank y ≤ jrank x → (R1 ty.unwrapped y ↔ R2 ty.unwrapped y)) → (ConfCore R1 ty x ↔ ConfCore R2 ty x) := by
  intro ty
  induction ty with
  | named n p => intro x h; exact h x (Nat.le_refl _)
  | nonNull t ih => intro x h; exact ih x h
  | list t p ih =>
    intro x h
    simp only [ConfCore]
    constructor
    · rintro ⟨xs, rfl, hx⟩
      refine ⟨xs, rfl, fun y hy => ?_⟩
      rcases hx y hy with h1 | h1
      · exact Or.inl h1
      · exact Or.inr ((ih y (fun z hz => h z (by have := jrank_elem hy; omega))).1 h1)
    · rintro ⟨xs, rfl, hx⟩
      refine ⟨xs, rfl, fun y hy => ?_⟩
      rcases hx y hy with h1 | h1
      · exact Or.inl h1
      · exact Or.inr ((ih y (fun z hz => h z (by have := jrank_elem hy; omega))).2 h1)

theorem conf_congr {R1 R2 : Name → J → Prop} (ty : GType) (x : J)
    (h : ∀ y, jrank y ≤ jrank x → (R1 ty.unwrapped y ↔ R2 ty.unwrapped y)) : Conf R1 ty x ↔ Conf R2 ty x := by
  unfold Conf
  rw [confCore_congr ty x h]

theorem recordSpec_conf_congr {α : Type} {R1 R2 : Name → J → Prop} (pre : List (String × Bool × (J → Prop)))
    (l : List α) (key : α → String) (opt : α → Bool) (ty : α → GType) (kvs : List (String × J))
    (h : ∀ a ∈ l, ∀ y, jrank y ≤ jrank (J.get kvs (key a)) → (R1 (ty a).unwrapped y ↔ R2 (ty a).unwrapped y)) :
    RecordSpec (pre ++ l.map fun a => (key a, opt a, Conf R1 (ty a))) kvs ↔
      RecordSpec (pre ++ l.map fun a => (key a, opt a, Conf R2 (ty a))) kvs :=
  recordSpec_congr_get pre l key opt _ _ kvs fun a ha => conf_congr _ _ (h a ha)

end NitroVerif.SchemaDecls
