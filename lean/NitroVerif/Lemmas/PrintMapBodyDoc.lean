import NitroVerif.Lemmas.PrintMapBodyTy
import NitroVerif.Lemmas.PrintMapOps
/-!
# C06 — the WHOLE call sequence of the operation printers: its projection onto the mapped calls

The loops of the full sequences (`opTypeOps`, `opJsOps`) project onto the same mapped calls as the call-site lists of
`Model/PrintMap.lean` (`opTypeSites`, `opJsSites`): the two descriptions of the printers agree, and nothing inside a
selection-set type, a Variables type or a runtime document is mapped.
-/
namespace NitroVerif.PrintMap
open NitroVerif.Gql NitroVerif.DeclCfg

@[simp] theorem mappedOps_exportKw (b : Bool) : mappedOps (exportKw b) = [] := by cases b <;> rfl

@[simp] theorem mappedOps_constPrefix (e pv : Bool) : mappedOps (constPrefixOps e pv) = [] := by
  cases e <;> cases pv <;> rfl

theorem resultTy_simple {ns : String} {S : Schema} {D : Doc} {x : ExecDef} {rt : TSTy} (h : resultTy ns S D x = .ok rt) :
    rt.simple = true := by
  unfold resultTy at h
  split at h
  · cases h; exact simple_treeTy ns _ false
  · cases h
  · cases h; rfl

theorem opTypeOperationOps_mapped {fo : FullOpts} {S : Schema} {D : Doc} {count : Nat} {op : OperationDef} {sp : Pos}
    {a : List POp} (h : opTypeOperationOps fo S D count op sp = .ok a) :
    mappedOps a = mappedOps (opTypeOperationSites fo.names op sp) := by
  unfold opTypeOperationOps at h
  split at h
  · cases h
  · rename_i rt hrt
    split at h
    · cases h
    · rename_i js _
      cases h
      have h1 := mappedOps_simple rt (resultTy_simple hrt)
      have h2 := mappedOps_simple _ (simple_varsTy fo.ns fo.optionalInput op.vars)
      have hd : mappedOps (if (fo.defaultExport && count == 1) = true then defaultExportOps fo op else []) = [] := by
        split <;> simp [defaultExportOps]
      simp only [resultDeclOps, varsDeclOps, opConstOps, opTypeOperationSites, mappedOps_append, mappedOps_exportKw,
        mappedOps_constPrefix, h1, h2, hd, List.nil_append, List.append_nil]
      cases js <;> cases (namePosOf op).2 <;>
        simp [mappedOps_writeFor_none, mappedOps_write, mappedOps_writeFor]

theorem opTypeFragmentOps_mapped {fo : FullOpts} {S : Schema} {D : Doc} {docFile : Nat} {f : FragmentDef}
    {a : List POp} (h : opTypeFragmentOps fo S D docFile f = .ok a) :
    mappedOps a = mappedOps (opTypeFragmentSites fo.names f) := by
  unfold opTypeFragmentOps at h
  split at h
  · cases h
  · rename_i rt hrt
    split at h
    · cases h
    · rename_i js hjs
      cases h
      have h1 := mappedOps_simple rt (resultTy_simple hrt)
      have hpv : js.isSome = fo.names.printValues := by
        unfold optRuntime at hjs
        split at hjs
        · rename_i hp
          cases hr : runtimeText D (.frag f) <;> simp [hr, Except.map] at hjs
          subst hjs; simp [hp]
        · rename_i hp
          cases hjs; simp at hp; simp [hp]
      simp only [fragDeclOps, fragConstOps, opTypeFragmentSites, mappedOps_append, mappedOps_exportKw,
        mappedOps_constPrefix, h1, List.nil_append, List.append_nil]
      cases js
      · have : fo.names.printValues = false := by simpa using hpv.symm
        simp [this]
      · have : fo.names.printValues = true := by simpa using hpv.symm
        simp [this]

/-! The two loops over the definitions return a block of calls per operation and per fragment, in document order (`#import`
    lines contribute nothing); the arms in which a block fails never return. -/

theorem opTypeDefsOps_mapped (fo : FullOpts) (S : Schema) (D : Doc) (docFile count : Nat) (L : Doc) (sps : List Pos)
    (r : List POp) (h : opTypeDefsOps fo S D docFile count L sps = .ok r) :
    mappedOps r = mappedOps (opTypeSites fo.names L sps) := by
  fun_induction opTypeDefsOps fo S D docFile count L sps generalizing r with
  | case1 => cases h; simp [opTypeSites]
  | case4 o rest sps a ha r' hr' ih =>
    cases h; cases sps <;> simpa [opTypeSites, opTypeOperationOps_mapped ha] using ih r' hr'
  | case7 f rest sps a ha r' hr' ih => cases h; simp [opTypeSites, opTypeFragmentOps_mapped ha, ih r' hr']
  | case8 i rest sps ih => simpa [opTypeSites] using ih r h
  | case2 | case3 | case5 | case6 => cases h

theorem opJsDefsOps_mapped (fo : FullOpts) (D : Doc) (docFile count : Nat) (L : Doc) (r : List POp)
    (h : opJsDefsOps fo D docFile count L = .ok r) : mappedOps r = mappedOps (opJsSites fo.names L) := by
  fun_induction opJsDefsOps fo D docFile count L generalizing r with
  | case1 => cases h; simp [opJsSites]
  | case4 op rest js _ r' hr' ih =>
    cases h
    have hd : mappedOps (if (fo.defaultExport && count == 1) = true then defaultExportOps fo op else []) = [] := by
      split <;> simp [defaultExportOps]
    simp only [jsConstOps, opJsSites, mappedOps_append, mappedOps_exportKw, hd, ih r' hr', List.nil_append]
    cases hn : (namePosOf op).2 <;> cases hb : (namePosOf op).1.builtin <;>
      simp [mappedOps, POp.mapped, hb, List.filter]
  | case7 f rest js _ r' hr' ih =>
    cases h
    simp only [jsConstOps, opJsSites, mappedOps_append, mappedOps_exportKw, ih r' hr', List.nil_append]
    cases hb : f.pos.builtin <;> simp [mappedOps, POp.mapped, hb, List.filter]
  | case8 i rest ih => simpa [opJsSites] using ih r h
  | case2 | case3 | case5 | case6 => cases h

end NitroVerif.PrintMap
