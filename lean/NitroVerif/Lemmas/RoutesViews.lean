/-
C15: the document views of the two routes and of a schema value.  `Sees G s`: the lookups of the document view
`G : Gql.Schema` (what the checker / printer models read) are the lookups of the schema value `s : SchemaIR.Schema`, after
erasure.  A type-system document sees the schema `ast_to_type_system` builds from it, `ofIR s` is the document view of a
schema value, and every lookup the operation checker model uses is a function of `lookupOf`: two views that see `≃`
schema values satisfy `AgreeRoots` (`agreeRoots_of_equiv`).
-/
import NitroVerif.Lemmas.RoutesCheckOp
namespace NitroVerif.Bridge
open NitroVerif NitroVerif.Gql NitroVerif.SchemaIR NitroVerif.AstSchema NitroVerif.CheckCommon NitroVerif.CheckOp
open NitroVerif.IntrospectSpec NitroVerif.Routes

/-- the lookups of the document view `G` are those of the schema value `s`, after erasure -/
structure Sees (G : Gql.Schema) (s : SchemaIR.Schema) : Prop where
  types : ∀ n, (G.typeDef? n).map tv = (s.typeDef? n).map eraseType
  directives : ∀ n, (G.directiveDef? n).map dv = (s.directiveDef? n).map eraseDirective
  declared : hasExplicitSchema G = s.rootsDeclared
  roots : ∀ k, G.explicitRoot? k = s.roots.get (convOpKind k)

/-- no root operation type of the schema value has an introspection name. About the schema routes of C15 only; unrelated
    to its near namesakes `Imports.Spec.RootOK` (C13: the file map has no entry under the root's key or has the root
    document itself there), `RootOKp` (`Lemmas/DocJsonComposed.lean`: the same over `Project`) and `Loader.RootOk` (C19:
    every live task holds a file under its root name) -/
def RootsOk (s : SchemaIR.Schema) : Prop := ∀ k n, s.rootName k = some n → isIntrospectionName n = false

/-- type names of a schema value are pairwise distinct (what `SchemaBuilder::extend` guarantees) -/
def NamesNodup (s : SchemaIR.Schema) : Prop := (s.types.map (·.name)).Nodup

/-! ### the definitions of a document, converted -/

theorem gql_typeDefs_eq (doc : TsDoc) : (Gql.Schema.mk doc).typeDefs.map convTypeDef = userTypes doc := by
  unfold Gql.Schema.typeDefs userTypes
  rw [List.map_filterMap]
  congr 1
  funext x
  cases x <;> rfl

theorem gql_directiveDefs_eq (doc : TsDoc) :
    (Gql.Schema.mk doc).directiveDefs.map convDirectiveDef = userDirectives doc := by
  unfold Gql.Schema.directiveDefs userDirectives
  rw [List.map_filterMap]
  congr 1
  funext x
  cases x <;> rfl

theorem gql_schemaDefs_eq (doc : TsDoc) : (Gql.Schema.mk doc).schemaDefs = schemaDefs doc := rfl

theorem find?_map_name {α β : Type} (f : α → β) (nameA : α → String) (nameB : β → String)
    (h : ∀ a, nameB (f a) = nameA a) (l : List α) (n : String) :
    (l.map f).find? (fun b => nameB b == n) = (l.find? (fun a => nameA a == n)).map f := by
  induction l with
  | nil => rfl
  | cons x r ih =>
    simp only [List.map_cons, List.find?_cons, h]
    cases nameA x == n with
    | true => rfl
    | false => exact ih

/-! ### a document sees its `ast_to_type_system` schema -/

theorem get_set (r : Roots) (k k' : OpK) (n : String) :
    (r.set k' n).get k = if k' = k then some n else r.get k := by
  cases k <;> cases k' <;> simp [Roots.set, Roots.get]

theorem convOpKind_inj {a b : OpKind} : convOpKind a = convOpKind b ↔ a = b := by
  cases a <;> cases b <;> simp [convOpKind]

theorem setRoots_get (k : OpKind) : ∀ (l : List (OpKind × Name × Pos)) (r : Roots),
    (setRoots r l).get (convOpKind k)
      = l.foldl (fun acc (x : OpKind × Name × Pos) => if x.1 == k then some x.2.1 else acc) (r.get (convOpKind k))
  | [], r => rfl
  | (k', n, p) :: rest, r => by
    simp only [setRoots, List.foldl_cons]
    rw [setRoots_get k rest, get_set, opKind_beq]
    simp only [convOpKind_inj, decide_eq_true_eq]

theorem foldRoots_get (k : OpKind) : ∀ (ds : List SchemaDef) (r : Roots),
    (foldRoots r ds).get (convOpKind k)
      = (ds.flatMap (·.roots)).foldl (fun acc (x : OpKind × Name × Pos) => if x.1 == k then some x.2.1 else acc)
          (r.get (convOpKind k))
  | [], r => rfl
  | d :: ds, r => by
    simp only [foldRoots, List.foldl_cons, List.flatMap_cons, List.foldl_append]
    have := foldRoots_get k ds (setRoots r d.roots)
    simp only [foldRoots] at this
    rw [this, setRoots_get]

theorem explicitRoot?_eq (G : Gql.Schema) (k : OpKind) :
    G.explicitRoot? k
      = (G.schemaDefs.flatMap (·.roots)).foldl
          (fun acc (x : OpKind × Name × Pos) => if x.1 == k then some x.2.1 else acc) none := rfl

theorem foldRoots_nil_get (ds : List SchemaDef) (h : ds.flatMap (·.roots) = []) (k : OpK) :
    (foldRoots {} ds).get k = none := by
  have : ∀ k' : OpKind, (foldRoots {} ds).get (convOpKind k') = none := by
    intro k'; rw [foldRoots_get, h]; cases k' <;> rfl
  cases k
  · exact this .query
  · exact this .mutation
  · exact this .subscription

/-- the schema definitions of a parsed document carry parsed positions -/
def ParsedSchemaDefs (doc : TsDoc) : Prop := ∀ d ∈ schemaDefs doc, d.pos.builtin = false

instance (doc : TsDoc) : Decidable (ParsedSchemaDefs doc) := by unfold ParsedSchemaDefs; infer_instance

theorem sees_doc (doc : TsDoc) (hp : ParsedSchemaDefs doc) : Sees ⟨doc⟩ (astToSchema doc) := by
  refine ⟨fun n => ?_, fun n => ?_, ?_, fun k => ?_⟩
  · simp only [SchemaIR.Schema.typeDef?, astToSchema_types, find?_extendTypes, List.nil_append,
      ← gql_typeDefs_eq, Gql.Schema.typeDef?]
    rw [find?_map_name convTypeDef (·.name) (·.name) convTypeDef_name, Option.map_map]
    rfl
  · simp only [SchemaIR.Schema.directiveDef?, astToSchema_directives, find?_extendDirectives, List.nil_append,
      ← gql_directiveDefs_eq, Gql.Schema.directiveDef?]
    rw [find?_map_name convDirectiveDef (·.name) (·.name) (fun _ => rfl), Option.map_map]
    rfl
  · simp only [hasExplicitSchema, gql_schemaDefs_eq, SchemaIR.Schema.rootsDeclared, astToSchema_explicit,
      astToSchema_roots]
    cases hs : schemaDefs doc with
    | nil => rfl
    | cons d rest =>
      have := hp d (by simp [hs])
      simp [this]
  · rw [astToSchema_roots, foldRoots_get, explicitRoot?_eq, gql_schemaDefs_eq]
    cases k <;> rfl

/-! ### the document view of a schema value -/

def unconvDirectiveDef (d : IDirectiveDef) : DirectiveDef :=
  { desc := d.desc, name := d.name, namePos := bpos, args := d.args.map unconvIV, repeatable := d.repeatable,
    locations := d.locations, pos := bpos }

/-- The document view of a schema value: `type_system_to_ast` (a schema definition listing the root types that are
    set, the type definitions in order) followed by the directive definitions.  The schema definition is there — and
    carries a parsed position — exactly when the schema value declares root types: this is what `check_operation`
    tests (`root_types_are_declared`, /repo 4dcb71b). -/
def ofIR (s : SchemaIR.Schema) : Gql.Schema :=
  ⟨(if s.rootsDeclared then [TsItem.schemaDef { desc := s.desc, roots := rootEntries s.roots, pos := {} }] else [])
    ++ s.types.map (fun t => TsItem.typeDef (unconvTypeDef t))
    ++ s.directives.map (fun d => TsItem.directiveDef (unconvDirectiveDef d))⟩

theorem filterMap_map_some {α β γ : Type} {f : α → β} {g : β → Option γ} {h : α → γ} (e : ∀ a, g (f a) = some (h a))
    (l : List α) : (l.map f).filterMap g = l.map h := by
  induction l with
  | nil => rfl
  | cons a r ih => rw [List.map_cons, List.filterMap_cons, e, ih, List.map_cons]

theorem filterMap_map_none {α β γ : Type} {f : α → β} {g : β → Option γ} (e : ∀ a, g (f a) = none) (l : List α) :
    (l.map f).filterMap g = [] :=
  List.filterMap_eq_nil_iff.mpr fun b hb => by obtain ⟨a, _, rfl⟩ := List.mem_map.mp hb; exact e a

theorem ofIR_typeDefs (s : SchemaIR.Schema) : (ofIR s).typeDefs = s.types.map unconvTypeDef := by
  unfold ofIR Gql.Schema.typeDefs
  rw [List.filterMap_append, List.filterMap_append, filterMap_map_some (h := unconvTypeDef) fun _ => by rfl,
    filterMap_map_none fun _ => by rfl, List.append_nil]
  split <;> rfl

theorem ofIR_directiveDefs (s : SchemaIR.Schema) : (ofIR s).directiveDefs = s.directives.map unconvDirectiveDef := by
  unfold ofIR Gql.Schema.directiveDefs
  rw [List.filterMap_append, List.filterMap_append, filterMap_map_some (h := unconvDirectiveDef) fun _ => by rfl,
    filterMap_map_none fun _ => by rfl, List.append_nil]
  split <;> rfl

theorem ofIR_schemaDefs (s : SchemaIR.Schema) :
    (ofIR s).schemaDefs
      = if s.rootsDeclared then [{ desc := s.desc, roots := rootEntries s.roots, pos := {} }] else [] := by
  unfold ofIR Gql.Schema.schemaDefs
  rw [List.filterMap_append, List.filterMap_append, filterMap_map_none fun _ => by rfl, filterMap_map_none fun _ => by rfl,
    List.append_nil, List.append_nil]
  split <;> rfl

theorem ofIR_typeDef? (s : SchemaIR.Schema) (n : Name) :
    (ofIR s).typeDef? n = (s.typeDef? n).map unconvTypeDef := by
  simp only [Gql.Schema.typeDef?, ofIR_typeDefs, SchemaIR.Schema.typeDef?]
  exact find?_map_name unconvTypeDef (·.name) (·.name) unconvTypeDef_name _ _

theorem ofIR_directiveDef? (s : SchemaIR.Schema) (n : Name) :
    (ofIR s).directiveDef? n = (s.directiveDef? n).map unconvDirectiveDef := by
  simp only [Gql.Schema.directiveDef?, ofIR_directiveDefs, SchemaIR.Schema.directiveDef?]
  exact find?_map_name unconvDirectiveDef (·.name) (·.name) (fun _ => rfl) _ _

theorem eraseDirective_roundtrip (d : IDirectiveDef) :
    eraseDirective (convDirectiveDef (unconvDirectiveDef d)) = eraseDirective d := by
  cases d with | mk name desc locations args repeatable =>
  simp [eraseDirective, convDirectiveDef, unconvDirectiveDef, List.map_map, Function.comp_def, eraseIV_roundtrip]

theorem rootEntries_get (r : Roots) (k : OpKind) :
    (rootEntries r).foldl (fun acc (x : OpKind × Name × Pos) => if x.1 == k then some x.2.1 else acc) none
      = r.get (convOpKind k) := by
  cases r with | mk q m s =>
  cases k <;> cases q <;> cases m <;> cases s <;> rfl

theorem sees_ofIR (s : SchemaIR.Schema) (hclean : ∀ t ∈ s.types, cleanType t = t) : Sees (ofIR s) s := by
  refine ⟨fun n => ?_, fun n => ?_, ?_, fun k => ?_⟩
  · rw [ofIR_typeDef?]
    cases hf : s.typeDef? n with
    | none => rfl
    | some t =>
      have ht : t ∈ s.types := List.mem_of_find?_eq_some hf
      simp only [Option.map_some, tv, eraseType_roundtrip, hclean t ht]
  · rw [ofIR_directiveDef?]
    cases hf : s.directiveDef? n with
    | none => rfl
    | some d => simp only [Option.map_some, dv, eraseDirective_roundtrip]
  · simp only [hasExplicitSchema, ofIR_schemaDefs]
    cases s.rootsDeclared <;> rfl
  · rw [explicitRoot?_eq, ofIR_schemaDefs]
    cases hd : s.rootsDeclared with
    | true => simp only [if_true, List.flatMap_cons, List.flatMap_nil, List.append_nil]; exact rootEntries_get _ _
    | false =>
      simp only [SchemaIR.Schema.rootsDeclared, Bool.or_eq_false_iff] at hd
      obtain ⟨⟨⟨_, hq⟩, hm⟩, hs⟩ := hd
      cases k <;> simp_all [convOpKind, Roots.get]

/-! ### `ifaceBoth` through a schema value -/

theorem contains_map_name {α : Type} (name : α → String) (acc : List α) (x : String) :
    (acc.map name).contains x = acc.any (fun u => name u == x) :=
  List.any_beq'.symm.trans List.any_map

theorem typeNames_fold (l : List TypeDef) (acc : List ITypeDef) :
    l.foldl (fun a t => if a.contains t.name then a else a ++ [t.name]) (acc.map (·.name))
      = (extendTypes acc (l.map convTypeDef)).map (·.name) := by
  induction l generalizing acc with
  | nil => rfl
  | cons t r ih =>
    simp only [List.foldl_cons, List.map_cons, extendTypes, contains_map_name, convTypeDef_name]
    split
    · exact ih acc
    · have := ih (acc ++ [convTypeDef t])
      simpa [convTypeDef_name] using this

theorem typeNames_eq (G : Gql.Schema) :
    G.typeNames = (extendTypes [] (G.typeDefs.map convTypeDef)).map (·.name) := by
  have := typeNames_fold G.typeDefs []
  simpa [Gql.Schema.typeNames] using this

/-- the test "`o` is an object type implementing both `a` and `b`" on a `Gql` definition and on a schema value -/
def implementsBoth (a b : Name) (o : TypeDef) : Bool := o.kind == .object && implementsIface o a && implementsIface o b
def implementsBothI (a b : String) (t : ITypeDef) : Bool := t.kind == .object && t.interfaces.contains a && t.interfaces.contains b

theorem any_fst_eq (l : List (Name × Pos)) (a : Name) : l.any (·.1 == a) = (l.map (·.1)).contains a :=
  List.any_map.symm.trans List.any_beq'

theorem isImplementer_conv (i : Name) (o : TypeDef) : isImplementer i o = isImplementerI i (convTypeDef o) := by
  unfold isImplementer isImplementerI
  cases h : o.kind <;> simp only [convTypeDef, h]
  case object => exact congrArg (true && ·) (any_fst_eq o.implements i)
  all_goals rfl

theorem isImplementer_unconv (i : Name) (t : ITypeDef) : isImplementer i (unconvTypeDef t) = isImplementerI i t := by
  cases t with | mk kind name desc fields interfaces possible members inputs =>
  cases kind
  case object => exact congrArg (true && ·) (List.any_map.trans List.any_beq')
  all_goals rfl

theorem and_and_self_left (k x y : Bool) : (k && x && y) = ((k && x) && (k && y)) := by cases k <;> rfl

theorem implementsBoth_tv (a b : Name) (o : TypeDef) : implementsBoth a b o = implementsBothI a b (tv o) :=
  (and_and_self_left ..).trans
    ((congr (congrArg and (isImplementer_conv a o)) (isImplementer_conv b o)).trans (and_and_self_left ..).symm)

theorem implementsBothI_erase (a b : String) (t : ITypeDef) : implementsBothI a b (eraseType t) = implementsBothI a b t := rfl

theorem ifaceBoth_iff (G : Gql.Schema) (a b : Name) :
    ifaceBoth G a b = true ↔ ∃ n o, G.typeDef? n = some o ∧ implementsBoth a b o = true := by
  unfold ifaceBoth
  rw [List.any_eq_true]
  constructor
  · rintro ⟨n, _, h⟩
    cases ho : G.typeDef? n with
    | none => simp [ho] at h
    | some o => exact ⟨n, o, ho, by simpa [ho, implementsBoth] using h⟩
  · rintro ⟨n, o, ho, hq⟩
    refine ⟨n, (Schema.mem_typeNames_iff G n).2 (List.mem_map.mpr ⟨o, Schema.typeDef?_mem ho, Schema.typeDef?_name ho⟩), ?_⟩
    simpa [ho, implementsBoth] using hq

theorem ifaceBoth_sees {G : Gql.Schema} {s : SchemaIR.Schema} (h : Sees G s) (a b : Name) :
    ifaceBoth G a b = true ↔ ∃ n t, s.typeDef? n = some t ∧ implementsBothI a b t = true := by
  rw [ifaceBoth_iff]
  constructor
  · rintro ⟨n, o, ho, hq⟩
    have := h.types n
    rw [ho] at this
    cases ht : s.typeDef? n with
    | none => simp [ht] at this
    | some t =>
      refine ⟨n, t, ht, ?_⟩
      have e : tv o = eraseType t := by simpa [ht] using this
      rw [implementsBoth_tv, e, implementsBothI_erase] at hq
      exact hq
  · rintro ⟨n, t, ht, hq⟩
    have := h.types n
    rw [ht] at this
    cases ho : G.typeDef? n with
    | none => simp [ho] at this
    | some o =>
      refine ⟨n, o, ho, ?_⟩
      have e : tv o = eraseType t := by simpa [ho] using this
      rw [implementsBoth_tv, e, implementsBothI_erase]
      exact hq

theorem both_iff_implementsB {s : SchemaIR.Schema} (hn : NamesNodup s) (a b : String) :
    (∃ n t, s.typeDef? n = some t ∧ implementsBothI a b t = true) ↔ ∃ o, implementsB s a o = true ∧ implementsB s b o = true := by
  simp only [implementsB, SchemaIR.Schema.objectImplementers, List.contains_iff_mem, List.mem_map, List.mem_filter,
    Bool.and_eq_true, implementsBothI]
  constructor
  · rintro ⟨n, t, ht, ⟨hk, ha⟩, hb⟩
    have hm : t ∈ s.types := List.mem_of_find?_eq_some ht
    exact ⟨t.name, ⟨t, ⟨hm, hk, ha⟩, rfl⟩, ⟨t, ⟨hm, hk, hb⟩, rfl⟩⟩
  · rintro ⟨o, ⟨t₁, ⟨hm₁, hk₁, ha⟩, rfl⟩, ⟨t₂, ⟨hm₂, _, hb⟩, he⟩⟩
    have h1 := find?_key_of_nodup ITypeDef.name hn hm₁
    have h2 := find?_key_of_nodup ITypeDef.name hn hm₂
    rw [he, h1] at h2
    have : t₁ = t₂ := by simpa using h2
    subst this
    exact ⟨t₁.name, t₁, h1, ⟨hk₁, ha⟩, hb⟩

theorem rootsDeclared_false {s : SchemaIR.Schema} (h : s.rootsDeclared = false) (k : OpK) : s.roots.get k = none := by
  simp only [SchemaIR.Schema.rootsDeclared, Bool.or_eq_false_iff] at h
  obtain ⟨⟨⟨_, hq⟩, hm⟩, hs⟩ := h
  cases k <;> simp_all [Roots.get]

theorem defaultRootName_conv (k : OpKind) :
    Gql.Schema.defaultRootName k = SchemaIR.Schema.defaultRootName (convOpKind k) := by
  cases k <;> rfl

theorem rootDef?_sees {G : Gql.Schema} {s : SchemaIR.Schema} (h : Sees G s) (k : OpKind) :
    (rootDef? G k).map tv = (s.rootName (convOpKind k)).bind (fun n => (s.typeDef? n).map eraseType) := by
  unfold rootDef? Gql.Schema.rootName SchemaIR.Schema.rootName
  rw [h.declared, h.roots]
  cases hd : s.rootsDeclared with
  | false =>
    simp only [Bool.false_and, Bool.false_eq_true, if_false, rootsDeclared_false hd, Option.getD_none,
      Option.bind_some, defaultRootName_conv]
    exact h.types _
  | true =>
    cases hr : s.roots.get (convOpKind k) with
    | none => simp
    | some n => simpa using h.types n

theorem viewRoot_eq {s : SchemaIR.Schema} (hr : RootsOk s) (k : OpK) :
    viewRoot s k = (s.rootName k).bind (fun n => (s.typeDef? n).map eraseType) := by
  unfold viewRoot
  cases hn : s.rootName k with
  | none => rfl
  | some n => simp [viewType, hr k n hn]

/-! ### the lookups of the checker are a function of `lookupOf` -/

theorem agreeRoots_of_equiv {G₁ G₂ : Gql.Schema} {s₁ s₂ : SchemaIR.Schema} (h₁ : Sees G₁ s₁) (h₂ : Sees G₂ s₂)
    (he : s₁ ≃ s₂) (n₁ : NamesNodup s₁) (n₂ : NamesNodup s₂) (r₁ : RootsOk s₁) (r₂ : RootsOk s₂) :
    AgreeRoots G₁ G₂ := by
  refine ⟨⟨fun n hn => ?_, fun n hn => ?_, fun a b => ?_⟩, fun k => ?_⟩
  · have := he.types n
    simp only [viewType, hn, Bool.false_eq_true, if_false] at this
    rw [h₁.types, h₂.types, this]
  · have := he.directives n
    simp only [viewDirective, hn, Bool.false_eq_true, if_false] at this
    rw [h₁.directives, h₂.directives, this]
  · rw [Bool.eq_iff_iff, ifaceBoth_sees h₁, ifaceBoth_sees h₂, both_iff_implementsB n₁, both_iff_implementsB n₂]
    simp only [he.implementers]
  · rw [rootDef?_sees h₁, rootDef?_sees h₂, ← viewRoot_eq r₁, ← viewRoot_eq r₂, he.roots]

/-! ### a decidable sufficient condition for `Closed` -/

def refOkB (S : Gql.Schema) (n : Name) : Bool := !isIntrospectionName n && (S.typeDef? n).isSome

def isObjectB (S : Gql.Schema) (n : Name) : Bool :=
  match S.typeDef? n with
  | some o => (match o.kind with | .object => true | _ => false)
  | none => false

/-- every reference inside a definition of the view is resolvable (checked over ALL definitions, which is more than
    `Closed` asks) -/
def closedB (S : Gql.Schema) : Bool :=
  S.typeDefs.all (fun td =>
    td.fields.all (fun f => !isIntrospectionName f.ty.unwrapped && f.args.all (fun a => refOkB S a.ty.unwrapped)) &&
    td.inputs.all (fun f => refOkB S f.ty.unwrapped) &&
    td.members.all (fun m => !isIntrospectionName m.1 && isObjectB S m.1) &&
    !isIntrospectionName td.name) &&
  S.directiveDefs.all (fun d => d.args.all (fun a => refOkB S a.ty.unwrapped))

theorem refOkB_iff (S : Gql.Schema) (n : Name) : refOkB S n = true ↔ RefOk S n := by
  simp [refOkB, RefOk]

theorem isObjectB_iff (S : Gql.Schema) (n : Name) :
    isObjectB S n = true ↔ ∃ o, S.typeDef? n = some o ∧ o.kind = .object := by
  unfold isObjectB
  cases S.typeDef? n with
  | none => exact ⟨fun h => (nomatch h), fun ⟨_, h, _⟩ => (nomatch h)⟩
  | some o =>
    show (match o.kind with | .object => true | _ => false) = true ↔ _
    cases hk : o.kind <;> simp only [Option.some.injEq, exists_eq_left', hk, reduceCtorEq, Bool.false_eq_true]

theorem closed_of_closedB {S : Gql.Schema} (h : closedB S = true) : Closed S := by
  simp only [closedB, Bool.and_eq_true, List.all_eq_true, Bool.not_eq_true'] at h
  obtain ⟨ht, hd⟩ := h
  refine ⟨fun n td hf f hfm => ?_, fun n td hf f hfm => ?_, fun n td hf m hm => ?_, fun n dd hf a ha => ?_,
    fun n td hf => ?_⟩
  · have := (ht td (Schema.typeDef?_mem hf)).1.1.1 f hfm
    exact ⟨this.1, fun a ha => (refOkB_iff S _).1 (this.2 a ha)⟩
  · exact (refOkB_iff S _).1 ((ht td (Schema.typeDef?_mem hf)).1.1.2 f hfm)
  · have := (ht td (Schema.typeDef?_mem hf)).1.2 m hm
    exact ⟨this.1, (isObjectB_iff S _).1 this.2⟩
  · exact (refOkB_iff S _).1 (hd dd (List.mem_of_find?_eq_some hf) a ha)
  · exact Schema.typeDef?_name hf ▸ (ht td (Schema.typeDef?_mem hf)).2

end NitroVerif.Bridge
