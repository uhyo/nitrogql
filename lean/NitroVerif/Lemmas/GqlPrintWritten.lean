import NitroVerif.Lemmas.GqlPrintBlock
import NitroVerif.Lemmas.TokChunks
import NitroVerif.Lemmas.GqlPrintToks
/-!
C16: string literals as the writer leaves them in the output (`written`), decoded by the GraphQL `StringValue`
semantics; the token sequence a GraphQL lexer finds in the written text (`lexW`: string tokens are decoded from their
written text at the indentation where they stand).
-/
namespace NitroVerif.GqlPrint
open NitroVerif.GqlString NitroVerif.JsTemplate

theorem decode_written_block (k : Nat) (s : List Char) (h : useBlock s = true) :
    decodeStringLiteral (written k false (printString s)) = some (blockStringValue s) := by
  have hcan := useBlock_canBlock h
  have hcr := canBlock_no_cr s hcan
  obtain ⟨hend, hs⟩ := canBlock_spec hcan
  have hsrc : ∀ c ∈ indentRaw k false s, sourceChar c = true := by
    intro c hc
    rcases mem_indentRaw k s false c hc with hc | rfl
    · exact hs c hc
    · decide
  have hraw := blockRaw_escTriple (indentRaw k false s) 0 (by omega) (endOK_indentRaw k s hend) hsrc
  simp only [List.replicate, List.nil_append] at hraw
  have hw := written_escTriple k s 0 false (by omega)
  simp only [List.replicate, List.nil_append] at hw
  unfold printString printBlock
  simp only [h, if_true]
  show decodeStringLiteral (written k false ('"' :: '"' :: '"' :: (escTriple 0 s ++ close3))) = _
  rw [written_cons k false '"' _ (by decide), written_cons k false '"' _ (by decide),
    written_cons k false '"' _ (by decide), hw]
  simp [pre, decodeStringLiteral, hraw, blockStringValue_indentRaw k s hcr]

theorem written_printQuoted (k : Nat) (s : List Char) : written k false (printQuoted s) = printQuoted s :=
  written_no_nl k _ (printQuoted_ne_nl s)

/-- the side condition under which `print_string` is exact, as a decidable predicate: no double quote in the quoted
    form; `BlockStringValue` leaves the string unchanged in the block form -/
def strExact (s : List Char) : Bool :=
  if useBlock s then decide (blockStringValue s = s) else !s.contains '"'

theorem decode_written (k : Nat) (s : List Char) (h : strExact s = true) :
    decodeStringLiteral (written k false (printString s)) = some s := by
  unfold strExact at h
  by_cases hb : useBlock s = true
  · simp only [hb, if_true, decide_eq_true_eq] at h
    rw [decode_written_block k s hb, h]
  · have hb' : useBlock s = false := by simpa using hb
    simp only [hb', Bool.false_eq_true, if_false, Bool.not_eq_true', List.contains_eq_mem, decide_eq_false_iff_not] at h
    unfold printString
    simp only [hb', Bool.false_eq_true, if_false]
    rw [written_printQuoted]
    exact decode_printQuoted s (fun c hc e => h (e ▸ hc))

theorem written_printString_flag (k : Nat) (s : List Char) :
    written k true (printString s) = spaces k ++ written k false (printString s) := by
  unfold printString printBlock printQuoted
  split
  · exact written_flag k '"' _ (by decide)
  · exact written_flag k '"' _ (by decide)

theorem runOps_str (st : WSt) (v : String) (ts : List Tok) :
    ∃ st' : WSt, st'.indent = st.indent ∧
      runOps false st (ops (Tok.str v :: ts)) =
        pre st.indent st.flag ++ written st.indent false (printString v.toList) ++ runOps false st' (ops ts) := by
  refine ⟨(writeChars false st false (printString v.toList)).2, writeChars_indent _ _ _ _, ?_⟩
  have hw : (writeChars false st false (printString v.toList)).1 = written st.indent st.flag (printString v.toList) := rfl
  simp only [ops, List.flatMap_cons, Tok.ops, List.cons_append, List.nil_append, runOps, hw]
  cases hfl : st.flag
  · simp [pre]
  · rw [written_printString_flag]
    simp [pre]

end NitroVerif.GqlPrint

namespace NitroVerif.C16
open NitroVerif.Gql NitroVerif.GqlPrint NitroVerif.GqlTokens NitroVerif.GqlString

/-- The token sequence a GraphQL lexer finds in the text `JustWriter` writes for the printer tokens `ts`, starting at
    indentation `k`: names, numbers and punctuators are themselves, layout is `Ignored`, and a string token is
    DECODED (GraphQL `StringValue` semantics) from the literal as the writer left it at the indentation where it
    stands. `none` if some string literal is not exactly one string token. -/
def lexW : Nat → List Tok → Option (List LTok)
  | _, [] => some []
  | k, t :: ts =>
    match t with
    | .ind => lexW (k + 2) ts
    | .ded => lexW (k - 2) ts
    | .str v =>
      match decodeStringLiteral (written k false (printString v.toList)) with
      | some s => (lexW k ts).map (LTok.str (String.ofList s) :: ·)
      | none => none
    | t => (lexW k ts).map (lex t ++ ·)

/-- every string token of the stream satisfies the side condition of `print_string` -/
def strsOK (toks : List LTok) : Bool :=
  toks.all fun
    | .str v => strExact v.toList
    | _ => true

def tokStrOK : Tok → Bool
  | .str v => strExact v.toList
  | _ => true

theorem all_flatMap_lex {P : LTok → Bool} {Q : Tok → Bool} (hPQ : ∀ t, (lex t).all P = true → Q t = true) (ts : List Tok)
    (h : (ts.flatMap lex).all P = true) : ∀ t ∈ ts, Q t = true := by
  rw [List.all_flatMap] at h
  exact fun t ht => hPQ t (List.all_eq_true.mp h t ht)

theorem tokStrOK_of_strsOK (ts : List Tok) (h : strsOK (ts.flatMap lex) = true) : ∀ t ∈ ts, tokStrOK t = true :=
  all_flatMap_lex (fun t => by cases t <;> simp [lex, tokStrOK]) ts h

theorem lexW_exact (ts : List Tok) (h : ∀ t ∈ ts, tokStrOK t = true) : ∀ k, lexW k ts = some (ts.flatMap lex) := by
  induction ts with
  | nil => intro k; rfl
  | cons a as ih =>
    intro k
    have hrec := ih (fun t ht => h t (by simp [ht]))
    have ha := h a (by simp)
    cases a with
    | str v =>
      simp only [tokStrOK] at ha
      simp [lexW, decode_written k v.toList ha, hrec, lex]
    | ind => simp [lexW, hrec, lex]
    | ded => simp [lexW, hrec, lex]
    | p s => simp [lexW, hrec, lex]
    | name s => simp [lexW, hrec, lex]
    | var s => simp [lexW, hrec, lex]
    | int s => simp [lexW, hrec, lex]
    | float s => simp [lexW, hrec, lex]
    | lay s => simp [lexW, hrec, lex]

/-- the token-level chain, once: the printed tokens' lexical tokens are a stream `T` with exact strings that `parse` reads -/
theorem roundtrip_tokens {α : Type} (parse : List LTok → Option α) {ts : List Tok} {T : List LTok} {v : α}
    (htoks : ts.flatMap lex = T) (hs : strsOK T = true) (hp : parse T = some v) : (lexW 0 ts).bind parse = some v := by
  subst htoks
  rw [lexW_exact _ (tokStrOK_of_strsOK _ hs) 0]
  exact hp

end NitroVerif.C16
