/-
Every pair of a parse tree is WITNESSED by a successful evaluation of the body of its rule on the actual input
(helper lemmas for Props/C08 `parse_no_panic`, text-dependent panic sites): `Wit g inp p` records, for the pair
`(r, s, e, cs)` and recursively for all pairs below it, the rule's kind and body, how the body was run (`bodyCfg`), and
the evaluation `eval … body … ⟨s, inp.drop s⟩ = ok ⟨e, inp.drop e⟩ cs`. From it the TEXT of a pair is derived rule by
rule with the inversion lemmas of `Lemmas/PegInv.lean` (see `Lemmas/ParseText.lean`).
An instance of the induction `okInv`, like `spanInv` / `deepInv`.
-/
import NitroVerif.Lemmas.SpanInv
namespace NitroVerif.Peg

/-- the pair (and every pair below it) was produced by a successful evaluation of its rule's body on `inp`,
    outside lookahead, under a configuration in which the rule emits a token pair -/
inductive Wit (g : G) (inp : List Char) : Pair → Prop where
  | mk {r : RuleId} {s e : Nat} {cs : List Pair} (kind : RuleKind) (body : Expr) (at_ : Atomicity) (fuel : Nat)
      (tr0 tr1 : Tr) (c c' : Cur) :
      g.look r = some (kind, body) → kind ≠ .silent →
      (bodyCfg (decide (g.ws = some r ∨ g.cm = some r)) kind at_).2.2 ≠ .atomic →
      CurOk inp c → CurOk inp c' → c.pos = s → c'.pos = e →
      eval g fuel (bodyCfg (decide (g.ws = some r ∨ g.cm = some r)) kind at_).1 body
        (bodyCfg (decide (g.ws = some r ∨ g.cm = some r)) kind at_).2.1 .none tr0 c = (tr1, .ok c' cs) →
      (∀ x ∈ cs, Wit g inp x) → Wit g inp (.mk r s e cs)

theorem Wit.children {g : G} {inp : List Char} {p : Pair} (h : Wit g inp p) : ∀ x ∈ p.children, Wit g inp x := by
  cases h with
  | mk _ _ _ _ _ _ _ _ _ _ _ _ _ _ _ _ hcs => exact hcs

theorem Wit.body {g : G} {inp : List Char} {p : Pair} (h : Wit g inp p) {kind : RuleKind} {body : Expr}
    (hl : g.look p.rule = some (kind, body)) :
    ∃ at_ fuel tr0 tr1 c c',
      (bodyCfg (decide (g.ws = some p.rule ∨ g.cm = some p.rule)) kind at_).2.2 ≠ .atomic ∧
      CurOk inp c ∧ CurOk inp c' ∧ c.pos = p.start ∧ c'.pos = p.stop ∧
      eval g fuel (bodyCfg (decide (g.ws = some p.rule ∨ g.cm = some p.rule)) kind at_).1 body
        (bodyCfg (decide (g.ws = some p.rule ∨ g.cm = some p.rule)) kind at_).2.1 .none tr0 c =
        (tr1, .ok c' p.children) := by
  cases h with
  | mk kind' body' at_ fuel tr0 tr1 c c' hl' hk hseen hc hc' hs he hb hcs =>
    simp only [Pair.rule] at hl
    rw [hl] at hl'
    cases hl'
    exact ⟨at_, fuel, tr0, tr1, c, c', hseen, hc, hc', hs, he, hb⟩

theorem witInv (g : G) (inp : List Char) (fuel : Nat) :
    OkInv g .none (fun c c' ps => CurOk inp c → CurOk inp c' ∧ ∀ p ∈ ps, Wit g inp p) fuel :=
  okInv g .none _ (fun c hc => ⟨hc, fun p hp => by cases hp⟩)
    (fun ht hc => ⟨(termStep_curOk hc ht).1, fun p hp => by cases hp⟩)
    (fun h1 h2 hc => ⟨(h2 (h1 hc).1).1, fun p hp =>
      (List.mem_append.mp hp).elim ((h1 hc).2 p) ((h2 (h1 hc).1).2 p)⟩)
    (fun {fuel r kind body at_ tr0 tr1 c c' ps0} hl hk hseen _ hb h0 hc => ⟨(h0 hc).1, fun p hp => by
      cases List.mem_singleton.mp hp
      exact .mk kind body at_ fuel tr0 tr1 c c' hl hk hseen hc (h0 hc).1 rfl rfl hb (h0 hc).2⟩) fuel

theorem parse_wit (g : G) (fuel : Nat) (r : RuleId) (input : List Char) (ps : List Pair)
    (h : Peg.parse g fuel r input = .pairs ps) : ∀ p ∈ ps, Wit g input p := by
  obtain ⟨tr, c', hc⟩ := parse_pairs g h
  exact ((witInv g input fuel).cr _ _ _ _ _ _ _ hc ⟨Nat.zero_le _, rfl⟩).2

/-! ### the text between two consistent cursors -/

/-- the input between offsets `a` and `b` is exactly `t` -/
def Txt (inp : List Char) (a b : Nat) (t : List Char) : Prop :=
  a + t.length = b ∧ b ≤ inp.length ∧ inp.drop a = t ++ inp.drop b

theorem Txt.refl {inp : List Char} {a : Nat} (h : a ≤ inp.length) : Txt inp a a [] := ⟨rfl, h, rfl⟩

theorem Txt.append {inp : List Char} {a b c : Nat} {t u : List Char} (h1 : Txt inp a b t) (h2 : Txt inp b c u) :
    Txt inp a c (t ++ u) := by
  obtain ⟨l1, _, d1⟩ := h1
  obtain ⟨l2, b2, d2⟩ := h2
  refine ⟨by simp; omega, b2, ?_⟩
  rw [d1, d2, List.append_assoc]

theorem Txt.slice {inp : List Char} {a b : Nat} {t : List Char} (h : Txt inp a b t) : slice inp a b = t := by
  obtain ⟨l, _, d⟩ := h
  unfold Peg.slice
  rw [d, show b - a = t.length by omega]
  simp

theorem Txt.length {inp : List Char} {a b : Nat} {t : List Char} (h : Txt inp a b t) : t.length = b - a := by
  have := h.1; omega

theorem txt_of_curOk {inp : List Char} {c c' : Cur} (hc' : CurOk inp c') (hle : c.pos ≤ c'.pos) :
    Txt inp c.pos c'.pos (slice inp c.pos c'.pos) := by
  have h1 : (slice inp c.pos c'.pos).length = c'.pos - c.pos := by
    simp [Peg.slice]; have := hc'.1; omega
  refine ⟨by omega, hc'.1, ?_⟩
  unfold Peg.slice
  have : inp.drop c'.pos = (inp.drop c.pos).drop (c'.pos - c.pos) := by
    rw [List.drop_drop]; congr 1; omega
  rw [this, List.take_append_drop]

theorem txt_of_str {inp : List Char} {s : List Char} {c c' : Cur} (hc : CurOk inp c) (h : TermStep (.str s) c c') :
    Txt inp c.pos c'.pos s ∧ CurOk inp c' := by
  have hc' := (termStep_curOk hc h).1
  cases h with
  | str hm =>
    have e := matchStr_eq hm
    rw [hc.2] at e
    exact ⟨⟨rfl, hc'.1, by rw [e]; congr 1; exact hc'.2⟩, hc'⟩

theorem txt_of_any {inp : List Char} {c c' : Cur} (hc : CurOk inp c) (h : TermStep .any c c') :
    ∃ d, Txt inp c.pos c'.pos [d] ∧ CurOk inp c' := by
  have hc' := (termStep_curOk hc h).1
  cases h with
  | any hd =>
    rename_i d r
    rw [hc.2] at hd
    exact ⟨d, ⟨rfl, hc'.1, by rw [hd]; simp; exact hc'.2⟩, hc'⟩

end NitroVerif.Peg
