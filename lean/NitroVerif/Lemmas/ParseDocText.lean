/-
Texts at offsets of ONE fixed input `inp`: what the renderings of documents are made of, and what is known of the input
around them. Nothing here mentions the interpreter.
-/
import NitroVerif.Lemmas.ParseValueBuild
namespace NitroVerif.DocParse
open NitroVerif.Peg NitroVerif.Gen NitroVerif.Gen.Parts NitroVerif.Build NitroVerif.TypeParse NitroVerif.StringParse
open NitroVerif.Gql NitroVerif.ValueParse

/-- the cursor of the parser at offset `p` of `inp` -/
def At (inp : List Char) (p : Nat) : Cur := ⟨p, inp.drop p⟩

/-- the input continues at offset `p` with the text `t` -/
def HasAt (inp : List Char) (p : Nat) (t : List Char) : Prop := ∃ Y, inp.drop p = t ++ Y

theorem HasAt.drop {inp : List Char} {p : Nat} {t : List Char} (h : HasAt inp p t) :
    inp.drop p = t ++ inp.drop (p + t.length) := by
  obtain ⟨Y, hY⟩ := h
  rw [drop_after hY, hY]

theorem hasAt_nil (inp : List Char) (p : Nat) : HasAt inp p [] := ⟨_, rfl⟩

theorem hasAt_append {inp : List Char} {p : Nat} {a b : List Char} :
    HasAt inp p (a ++ b) ↔ HasAt inp p a ∧ HasAt inp (p + a.length) b := by
  constructor
  · rintro ⟨Y, h⟩
    refine ⟨⟨b ++ Y, by simpa using h⟩, ⟨Y, ?_⟩⟩
    rw [← List.drop_drop, h]; simp
  · rintro ⟨h1, Y, h2⟩
    exact ⟨Y, by rw [h1.drop, h2]; simp⟩

theorem hasAt_cons {inp : List Char} {p : Nat} {c : Char} {t : List Char} :
    HasAt inp p (c :: t) ↔ HasAt inp p [c] ∧ HasAt inp (p + 1) t :=
  hasAt_append (a := [c]) (b := t)

theorem HasAt.slice {inp : List Char} {p : Nat} {t : List Char} (h : HasAt inp p t) :
    slice inp p (p + t.length) = t := slice_of_drop h.drop

theorem HasAt.left {inp : List Char} {p : Nat} {a b : List Char} (h : HasAt inp p (a ++ b)) : HasAt inp p a :=
  (hasAt_append.mp h).1
theorem HasAt.right {inp : List Char} {p : Nat} {a b : List Char} (h : HasAt inp p (a ++ b)) :
    HasAt inp (p + a.length) b := (hasAt_append.mp h).2

theorem HasAt.cast {inp : List Char} {p q : Nat} {t u : List Char} (h : HasAt inp p t) (hp : p = q) (ht : t = u) :
    HasAt inp q u := hp ▸ ht ▸ h

/-- the theorems of Props/C07Doc state their hypotheses as `inp.drop off = t ++ X` and `HeadNot … X`; this and
    `nxt_of_drop` bring them into the form used here -/
theorem hasAt_of_drop {inp : List Char} {off : Nat} {t X : List Char} (h : inp.drop off = t ++ X) : HasAt inp off t := ⟨X, h⟩

/-- `t` begins with a character satisfying `P` -/
def Hd (P : Char → Prop) (t : List Char) : Prop := ∃ d r, t = d :: r ∧ P d

theorem hd_cons {P : Char → Prop} {d : Char} (r : List Char) (h : P d) : Hd P (d :: r) := ⟨d, r, rfl, h⟩
theorem Hd.append {P : Char → Prop} {t : List Char} (h : Hd P t) (u : List Char) : Hd P (t ++ u) := by
  obtain ⟨d, r, rfl, hp⟩ := h
  exact ⟨d, r ++ u, rfl, hp⟩
theorem Hd.mono {P Q : Char → Prop} {t : List Char} (h : Hd P t) (hpq : ∀ d, P d → Q d) : Hd Q t := by
  obtain ⟨d, r, rfl, hp⟩ := h
  exact ⟨d, r, rfl, hpq d hp⟩
theorem Hd.ne_nil {P : Char → Prop} {t : List Char} (h : Hd P t) : t ≠ [] := by
  obtain ⟨d, r, rfl, _⟩ := h; simp
theorem Hd.length_pos {P : Char → Prop} {t : List Char} (h : Hd P t) : 1 ≤ t.length := by
  obtain ⟨d, r, rfl, _⟩ := h; simp
theorem hd_of_validName {n : List Char} (h : validName n) : Hd nameStart n := by
  cases n with
  | nil => exact absurd h id
  | cons d ds => exact ⟨d, ds, rfl, h.1⟩

theorem headNot_of_hd {inp : List Char} {p : Nat} {t : List Char} {P Q : Char → Prop} (h : HasAt inp p t) (hd : Hd P t)
    (hpq : ∀ d, P d → ¬ Q d) : HeadNot Q (inp.drop p) := by
  obtain ⟨Y, hY⟩ := h
  obtain ⟨d, r, rfl, hp⟩ := hd
  rw [hY]
  exact headNot_cons (hpq d hp) _

theorem nameStart_ne {d c : Char} (h : nameStart d) (hc : ¬ nameStart c) : d ≠ c := fun e => hc (e ▸ h)

/-- the next token starts at `c`: its first character is not trivia (or the input ends) -/
def Tok (c : Cur) : Prop := HeadNot trivia c.rest

theorem tok_of_hd {inp : List Char} {p : Nat} {t : List Char} {P : Char → Prop} (h : HasAt inp p t) (hd : Hd P t)
    (hp : ∀ d, P d → ¬ trivia d) : Tok (At inp p) := headNot_of_hd h hd hp

/-- a gap `g` (whitespace, commas, comments) lies at offset `q` and the next token starts right after it -/
structure Gap (inp : List Char) (q : Nat) (g : List Char) : Prop where
  has : HasAt inp q g
  ws : Ws g
  tok : Tok (At inp (q + g.length))

theorem gap_nil {inp : List Char} {q : Nat} (h : Tok (At inp q)) : Gap inp q [] := ⟨hasAt_nil _ _, Ws.nil, by simpa using h⟩

theorem ws_head_not_nameCont {g : List Char} (hg : Ws g) : ∀ d r, g = d :: r → ¬ nameCont d := by
  intro d r he hd
  rcases hg.head d r he with hw | rfl
  · rcases hw with rfl | rfl | rfl | rfl | rfl | rfl <;> exact absurd hd (by decide)
  · exact absurd hd (by decide)

theorem ws_head_trivia {g : List Char} (hg : Ws g) : ∀ d r, g = d :: r → trivia d := by
  intro d r he
  rcases hg.head d r he with hw | rfl
  · exact wsChar_trivia hw
  · simp [trivia]

theorem noGlue_of_gap {inp : List Char} {q : Nat} {g : List Char} (h : Gap inp q g)
    (hx : g = [] → HeadNot nameCont (inp.drop q)) : HeadNot nameCont (inp.drop q) := by
  cases hgl : g with
  | nil => exact hx hgl
  | cons d r =>
    rw [h.has.drop, hgl]
    exact headNot_cons (ws_head_not_nameCont h.ws d r hgl) _

/-- the gap after a token: the trivia `t`, with one blank in place of an empty `t` if the gap must not be empty (`sep`).
    A construct is rendered with the flag `sep` of its LAST gap, chosen by whatever contains it ("the next token would
    run into mine"); the flags of its inner tokens are computed from the construct. -/
def gapS (sep : Bool) (t : List Char) : List Char := if sep then sepOf t else t

theorem ws_gapS {sep : Bool} {t : List Char} (h : Ws t) : Ws (gapS sep t) := by
  unfold gapS; split
  · exact ws_sepOf h
  · exact h

theorem gapS_ne_nil {t : List Char} : gapS true t ≠ [] := by simpa [gapS] using sepOf_ne_nil t

theorem gapS_false (t : List Char) : gapS false t = t := rfl

/-- at offset `q` (right after the trailing gap of a construct) a token begins whose first character is not in `bad`;
    if that gap was allowed to be empty (`sep = false`) the token does not begin with a name character.
    `bad` holds the first characters of the optional pieces the grammar would still take behind the construct (`(`
    after the name of a directive, `!` after a type, `@`, `=`, `{` …): so every construct theorem says what must not
    follow it. `glue`: right behind a name, keyword or number a name character would be read as part of it. -/
structure Nxt (inp : List Char) (bad : Char → Prop) (sep : Bool) (q : Nat) : Prop where
  tok : Tok (At inp q)
  ok : HeadNot bad (inp.drop q)
  glue : sep = false → HeadNot nameCont (inp.drop q)

theorem Nxt.mono {inp : List Char} {bad bad' : Char → Prop} {sep : Bool} {q : Nat} (h : Nxt inp bad sep q)
    (hb : ∀ d, bad' d → bad d) : Nxt inp bad' sep q := ⟨h.tok, headNot_mono hb h.ok, h.glue⟩

theorem Nxt.cast {inp : List Char} {bad : Char → Prop} {sep : Bool} {q q' : Nat} (h : Nxt inp bad sep q) (e : q = q') :
    Nxt inp bad sep q' := e ▸ h

/-- a text `R` that begins with a punctuation-like character lies at `q`: nothing is asked of the gap in front of it -/
theorem Nxt.of_hd {inp : List Char} {bad : Char → Prop} {s : Bool} {q : Nat} {R : List Char} {P : Char → Prop}
    (hat : HasAt inp q R) (hR : Hd P R) (hP : ∀ d, P d → ¬ trivia d ∧ ¬ bad d ∧ ¬ nameCont d) : Nxt inp bad s q :=
  ⟨tok_of_hd hat hR (fun d h => (hP d h).1), headNot_of_hd hat hR (fun d h => (hP d h).2.1),
    fun _ => headNot_of_hd hat hR (fun d h => (hP d h).2.2)⟩

theorem Nxt.of_hd_sep {inp : List Char} {bad : Char → Prop} {q : Nat} {R : List Char} {P : Char → Prop}
    (hat : HasAt inp q R) (hR : Hd P R) (hP : ∀ d, P d → ¬ trivia d ∧ ¬ bad d) : Nxt inp bad true q :=
  ⟨tok_of_hd hat hR (fun d h => (hP d h).1), headNot_of_hd hat hR (fun d h => (hP d h).2), fun h => by cases h⟩

/-- in front of a word (a name or a keyword) behind a non-empty gap, where no character is excluded -/
theorem Nxt.of_name {inp : List Char} {q : Nat} {R : List Char} (hat : HasAt inp q R) (hR : Hd nameStart R) :
    Nxt inp (fun _ => False) true q :=
  Nxt.of_hd_sep hat hR fun _ hd => ⟨nameStart_not_trivia hd, id⟩

/-- in front of the (possibly empty) rest `R` of a construct: if `R` is there its first character decides, otherwise what
    follows the construct does (`hb`, `hs`: only then must the new `bad'` and flag `s` be covered by the outer ones) -/
theorem Nxt.rest {inp : List Char} {bad bad' : Char → Prop} {sep s : Bool} {q : Nat} {R : List Char} {P : Char → Prop}
    (hat : HasAt inp q R) (hn : Nxt inp bad sep (q + R.length)) (hR : R = [] ∨ Hd P R)
    (hP : ∀ d, P d → ¬ trivia d ∧ ¬ bad' d ∧ ¬ nameCont d) (hb : R = [] → ∀ d, bad' d → bad d)
    (hs : R = [] → s = false → sep = false) : Nxt inp bad' s q := by
  rcases hR with rfl | hR
  · have hn' : Nxt inp bad sep q := by simpa using hn
    exact ⟨hn'.tok, headNot_mono (hb rfl) hn'.ok, fun h => hn'.glue (hs rfl h)⟩
  · exact Nxt.of_hd hat hR hP

theorem Nxt.gap {inp : List Char} {bad : Char → Prop} {sep : Bool} {q : Nat} {t : List Char} (hτ : Ws t)
    (hat : HasAt inp q (gapS sep t)) (hn : Nxt inp bad sep (q + (gapS sep t).length)) :
    Gap inp q (gapS sep t) ∧ HeadNot nameCont (inp.drop q) := by
  have hg : Gap inp q (gapS sep t) := ⟨hat, ws_gapS hτ, hn.tok⟩
  refine ⟨hg, noGlue_of_gap hg ?_⟩
  intro hnil
  cases sep with
  | true => exact absurd hnil gapS_ne_nil
  | false =>
    have : inp.drop q = inp.drop (q + (gapS false t).length) := by rw [hnil]; simp
    rw [this]
    exact hn.glue rfl

theorem Nxt.app {inp : List Char} {bad : Char → Prop} {s : Bool} {p : Nat} {a b : List Char}
    (h : Nxt inp bad s (p + (a ++ b).length)) : Nxt inp bad s (p + a.length + b.length) := by
  rwa [List.length_append, ← Nat.add_assoc] at h

/-- `Nxt.rest` for an optional piece `R` that begins with `x`: in front of it `x` must not follow besides `bad`; the flag
    `s` of the piece in front may be anything unless `R` is empty (`hs`) -/
theorem Nxt.before {inp : List Char} {bad : Char → Prop} {sep s : Bool} {q : Nat} {R : List Char} {x : Char}
    (hn : Nxt inp bad sep (q + R.length)) (hat : HasAt inp q R) (hR : R = [] ∨ Hd (· = x) R)
    (hx : ¬ trivia x ∧ ¬ nameCont x) (hs : R = [] → s = false → sep = false) :
    Nxt inp (fun c => bad c ∧ c ≠ x) s q :=
  Nxt.rest hat hn hR (P := (· = x)) (fun d hd => by subst hd; exact ⟨hx.1, fun h => h.2 rfl, hx.2⟩) (fun _ _ h => h.1) hs

theorem Nxt.ne {inp : List Char} {bad : Char → Prop} {s : Bool} {q : Nat} {c : Char} (h : Nxt inp bad s q) (hb : bad c) :
    HeadNot (· = c) (inp.drop q) := headNot_mono (fun _ hd => hd ▸ hb) h.ok

/-- … where the piece is not there; `sep && true` is how `sep && xs.isEmpty` reads at `xs = []` -/
theorem Nxt.beforeNil {inp : List Char} {bad : Char → Prop} {sep : Bool} {q : Nat} {x : Char} (h : Nxt inp bad sep q) :
    Nxt inp (fun c => bad c ∧ c ≠ x) (sep && true) q :=
  ⟨h.tok, headNot_mono (fun _ h => h.1) h.ok, fun hs => h.glue (by simpa using hs)⟩

/-- … where it is there -/
theorem Nxt.beforeHd {inp : List Char} {bad : Char → Prop} {s : Bool} {q : Nat} {t : List Char} {x : Char}
    (hat : HasAt inp q t) (hd : Hd (· = x) t) (hx : ¬ trivia x ∧ ¬ nameCont x) : Nxt inp (fun c => bad c ∧ c ≠ x) s q :=
  Nxt.of_hd hat hd (by rintro d rfl; exact ⟨hx.1, fun h => h.2 rfl, hx.2⟩)

theorem nxt_of_drop {inp : List Char} {off : Nat} {t X : List Char} {bad : Char → Prop} {sep : Bool}
    (h : inp.drop off = t ++ X) (h1 : HeadNot (fun d => trivia d ∨ bad d) X) (h2 : sep = false → HeadNot nameCont X) :
    Nxt inp bad sep (off + t.length) := by
  have : inp.drop (off + t.length) = X := drop_after h
  exact ⟨by simp only [Tok, At]; rw [this]; exact headNot_mono (fun _ h => Or.inl h) h1,
    by rw [this]; exact headNot_mono (fun _ h => Or.inr h) h1, fun hs => by rw [this]; exact h2 hs⟩

theorem sep_of_isEmpty {α : Type} {s : Bool} {l : List α} (h : l = []) (hs : (s && l.isEmpty) = false) : s = false := by
  subst h; simpa using hs

theorem punct_at : ¬ trivia '@' ∧ ¬ nameCont '@' := by decide
theorem punct_brace : ¬ trivia '{' ∧ ¬ nameCont '{' := by decide

/-- a token followed by its trailing gap -/
def tk (τ : Trivia) (sep : Bool) (p : Nat) (s : List Char) : List Char := s ++ gapS sep (τ (p + s.length))

theorem tk_length (τ : Trivia) (sep : Bool) (p : Nat) (s : List Char) :
    (tk τ sep p s).length = s.length + (gapS sep (τ (p + s.length))).length := by simp [tk]

theorem hd_tk {P : Char → Prop} {τ : Trivia} {sep : Bool} {p : Nat} {s : List Char} (h : Hd P s) : Hd P (tk τ sep p s) :=
  h.append _

section Items
variable {α : Type} (ri : Bool → Nat → α → List Char) (sepMid sepLast : Bool)

/-- the items one after another; the gap after an item that is followed by another one is rendered with `sepMid`, the gap
    after the last one with `sepLast` -/
def renderItems : Nat → List α → List Char
  | _, [] => []
  | p, [a] => ri sepLast p a
  | p, a :: b :: r => ri sepMid p a ++ renderItems (p + (ri sepMid p a).length) (b :: r)

/-- apply `f` to every item together with the offset it is written at -/
def mapItems {β : Type} (f : Bool → Nat → α → β) : Nat → List α → List β
  | _, [] => []
  | p, [a] => [f sepLast p a]
  | p, a :: b :: r => f sepMid p a :: mapItems f (p + (ri sepMid p a).length) (b :: r)

/-- the pairs of the items, one per item -/
def GoodItems (Good : Bool → Nat → α → Pair → Prop) : Nat → List α → List Pair → Prop
  | _, [], pss => pss = []
  | p, [a], pss => ∃ pr, pss = [pr] ∧ Good sepLast p a pr
  | p, a :: b :: r, pss => ∃ pr pss', pss = pr :: pss' ∧ Good sepMid p a pr ∧
      GoodItems Good (p + (ri sepMid p a).length) (b :: r) pss'

theorem renderItems_cons (p : Nat) (a : α) (r : List α) :
    ∃ s tail, renderItems ri sepMid sepLast p (a :: r) = ri s p a ++ tail := by
  cases r with
  | nil => exact ⟨sepLast, [], by simp [renderItems]⟩
  | cons b r => exact ⟨sepMid, _, rfl⟩

theorem renderItems_cons2 (p : Nat) (a b : α) (r : List α) :
    renderItems ri sepMid sepLast p (a :: b :: r) =
      ri sepMid p a ++ renderItems ri sepMid sepLast (p + (ri sepMid p a).length) (b :: r) := rfl

theorem hd_renderItems {P : Char → Prop} {as : List α} (hhd : ∀ x ∈ as, ∀ s q, Hd P (ri s q x)) (p : Nat) :
    renderItems ri sepMid sepLast p as = [] ∨ Hd P (renderItems ri sepMid sepLast p as) := by
  cases as with
  | nil => exact Or.inl rfl
  | cons a r =>
    obtain ⟨s, tail, ht⟩ := renderItems_cons ri sepMid sepLast p a r
    exact Or.inr (ht ▸ (hhd a (List.mem_cons_self ..) s p).append _)

theorem renderItems_eq_nil {P : Char → Prop} {as : List α} (hhd : ∀ x ∈ as, ∀ s q, Hd P (ri s q x)) {p : Nat}
    (h : renderItems ri sepMid sepLast p as = []) : as = [] := by
  cases as with
  | nil => rfl
  | cons a r =>
    obtain ⟨s, tail, ht⟩ := renderItems_cons ri sepMid sepLast p a r
    exact absurd (ht ▸ h) ((hhd a (List.mem_cons_self ..) s p).append _).ne_nil

end Items

/-- The builders take a depth bound; a construct theorem gives its builder the length of its text, and each piece's builder
    fact wants the length of that piece: `hf : (tA ++ (tB ++ tC)).length ≤ fuel` gives `fuel_left hf` for `tA`,
    `fuel_left (fuel_right hf)` for `tB`, `fuel_right (fuel_right hf)` for `tC`. -/
theorem fuel_left {α : Type} {a b : List α} {n : Nat} (h : (a ++ b).length ≤ n) : a.length ≤ n :=
  Nat.le_trans (by rw [List.length_append]; exact Nat.le_add_right ..) h
theorem fuel_right {α : Type} {a b : List α} {n : Nat} (h : (a ++ b).length ≤ n) : b.length ≤ n :=
  Nat.le_trans (by rw [List.length_append]; exact Nat.le_add_left ..) h
theorem fuel_succ {α : Type} {a b c : List α} {n : Nat} (h : (a ++ (b ++ c)).length ≤ n) (ha : 1 ≤ a.length) :
    b.length + 1 ≤ n := by
  simp only [List.length_append] at h; omega

end NitroVerif.DocParse
