/-
Type-system definitions, the bracketed lists of input value definitions:
`ArgumentsDefinition?` (`( … )`) and `InputFieldsDefinition?` (`{ … }`), both from `optIvdsT`.
-/
import NitroVerif.Lemmas.ParseDocTsBase
namespace NitroVerif.DocParse
open NitroVerif.Peg NitroVerif.Gen NitroVerif.Gen.Parts NitroVerif.Build NitroVerif.TypeParse NitroVerif.StringParse
open NitroVerif.Gql NitroVerif.ValueParse NitroVerif.Spec.Lex

variable {inp : List Char}

/-- the head of the remaining input is exactly `c` (or the input is at its end) -/
theorem headNot_of_head_eq {c : Char} {rest : List Char} (h : HeadNot (· ≠ c) rest) {P : Char → Prop} (hP : ¬ P c) :
    HeadNot P rest := by
  intro d r he hd
  have : d = c := Classical.byContradiction fun hne => h d r he hne
  exact hP (this ▸ hd)

def wpIVDs (τ : Trivia) (inp : List Char) (p : Nat) (vs : List InputValueDef) : List InputValueDef :=
  mapItems (rIVD τ) true false (wpIVD τ inp) p vs

theorem descName_fails {rule : RuleId} {T : Expr}
    (hl : gList.look rule = some (.normal, .seq (.opt (.call R.Description)) (.seq (.call R.Name) T))) {q : Nat}
    (h : HeadNot (fun d => nameStart d ∨ d = '"') (inp.drop q)) (ht : Tok (At inp q)) :
    Fails gList 40 true (.call rule) .nonAtomic (At inp q) :=
  (fails_rule hl (fails_seq_K (runsK_opt_none (description_fails (headNot_mono (fun _ h => Or.inr h) h)) ht)
    (fails_seq_1 (name_fails_at (headNot_mono (fun _ h => Or.inl h) h))))).mono (by decide)

theorem optIvdsT (τ : Trivia) (hτ : ∀ q, Ws (τ q)) (rule : RuleId) (o c : Char)
    (hl : gList.look rule = some (.normal, .seq (.str [o]) (.seq (.plus (.call R.InputValueDefinition)) (.str [c]))))
    (hc : ¬ trivia c ∧ ¬ ivdBad false c ∧ ¬ nameCont c ∧ ¬ nameStart c ∧ c ≠ '"') (ho : ¬ trivia o ∧ ¬ nameCont o)
    (vs : List InputValueDef) {sep sepN : Bool} {p : Nat} {t : List Char}
    (ht : t = match vs with | [] => [] | _ :: _ => rBraced (rIVD τ) true τ o c sep p vs) (hwf : ∀ v ∈ vs, WFIVD v)
    (bldO : Nat → Option Pair → M (List InputValueDef)) (hb0 : ∀ fuel, bldO fuel none = .ok [])
    (hbld : ∀ fuel e pss, allChildrenGo R.InputValueDefinition pss = .ok () →
      bldO fuel (some (.mk rule p e pss)) = pss.mapM (buildInputValueDefinition (Ctx.spec inp) fuel))
    {bad : Char → Prop} (hb : bad o) (h : HasAt inp p t) (hn : Nxt inp bad sepN (p + t.length)) :
    ∃ o', ReadsOpt inp 4 rule p t bldO (wpIVDs τ inp (p + (tk τ false p [o]).length) vs) o' ∧
      Nxt inp (fun d => bad d ∧ d ≠ o) (sepN && vs.isEmpty) p :=
  optBracedT (rIVD τ) true τ hτ rule R.InputValueDefinition o c hl ivdBad 30 (by decide)
    (buildInputValueDefinition (Ctx.spec inp)) (wpIVD τ inp) ⟨hc.1, hc.2.1, hc.2.2.1⟩ ho
    (fun q hq => (descName_fails (rule := R.InputValueDefinition) rfl (headNot_of_head_eq hq (by rintro (h | h); exact hc.2.2.2.1 h; exact hc.2.2.2.2 h))
      (headNot_of_head_eq hq hc.1)).mono (by decide))
    vs sep p bldO hb0 hbld (fun x hx s q hat hnx => ivdT τ hτ x (hwf x hx) hat hnx) (fun x hx s q => descName_head_ok
      (by rintro c (h | h | h | h | ⟨h, _⟩); exact .inl h; exact .inr (.inl h); exact .inr (.inr (.inl h));
          exact .inr (.inr (.inr h)); cases h)
      (hd_rIVD τ s q x (hwf x hx))) (by subst ht; cases vs <;> rfl) hb h hn

/-- `( … ) gap`; nothing for an empty list -/
def rOptArgsDef (τ : Trivia) (sep : Bool) (p : Nat) : List InputValueDef → List Char
  | [] => []
  | v :: vs => rBraced (rIVD τ) true τ '(' ')' sep p (v :: vs)

/-- the argument definitions as the builders of field / directive definitions treat them -/
def optArgsDefB (ctx : Ctx) (fuel : Nat) : Option Pair → M (List InputValueDef)
  | some a => buildArgumentsDefinition ctx fuel a
  | none => .ok []

/-- `ArgumentsDefinition?`; the gap after `)` is written with `sep`, but a name may follow it directly: what follows is
    known with `sepN` -/
theorem optArgsDefT (τ : Trivia) (hτ : ∀ q, Ws (τ q)) (vs : List InputValueDef) (hwf : ∀ v ∈ vs, WFIVD v)
    {sep sepN : Bool} {p : Nat} {bad : Char → Prop} (hb : bad '(') (h : HasAt inp p (rOptArgsDef τ sep p vs))
    (hn : Nxt inp bad sepN (p + (rOptArgsDef τ sep p vs).length)) :
    ∃ o, ReadsOpt inp 4 R.ArgumentsDefinition p (rOptArgsDef τ sep p vs) (optArgsDefB (Ctx.spec inp))
        (wpIVDs τ inp (p + (tk τ false p ['(']).length) vs) o ∧
      Nxt inp (fun c => bad c ∧ c ≠ '(') (sepN && vs.isEmpty) p :=
  optIvdsT τ hτ R.ArgumentsDefinition '(' ')' rfl
    ⟨by decide, by rintro (h | h | h | h | ⟨_, h | h⟩) <;> exact absurd h (by decide), by decide, by decide, by decide⟩
    (by decide) vs (by cases vs <;> rfl) hwf (optArgsDefB (Ctx.spec inp)) (fun _ => rfl) (fun fuel e pss hall => by
      simp [optArgsDefB, buildArgumentsDefinition, allChildren, Pair.children, AC_ArgumentsDefinition, hall, bind, Except.bind])
    hb h hn

/-- `{ … } gap`; nothing for an empty list -/
def rOptInputs (τ : Trivia) (sep : Bool) (p : Nat) : List InputValueDef → List Char
  | [] => []
  | v :: vs => rBraced (rIVD τ) true τ '{' '}' sep p (v :: vs)

theorem optInputFieldsT (τ : Trivia) (hτ : ∀ q, Ws (τ q)) (vs : List InputValueDef) (hwf : ∀ v ∈ vs, WFIVD v)
    {sep : Bool} {p : Nat} {bad : Char → Prop} (hb : bad '{') (h : HasAt inp p (rOptInputs τ sep p vs))
    (hn : Nxt inp bad sep (p + (rOptInputs τ sep p vs).length)) :
    ∃ o, ReadsOpt inp 4 R.InputFieldsDefinition p (rOptInputs τ sep p vs) (optInputFields (Ctx.spec inp))
        (wpIVDs τ inp (p + (tk τ false p ['{']).length) vs) o ∧
      Nxt inp (fun c => bad c ∧ c ≠ '{') (sep && vs.isEmpty) p :=
  optIvdsT τ hτ R.InputFieldsDefinition '{' '}' rfl
    ⟨by decide, by rintro (h | h | h | h | ⟨_, h | h⟩) <;> exact absurd h (by decide), by decide, by decide, by decide⟩
    punct_brace vs (by cases vs <;> rfl) hwf (optInputFields (Ctx.spec inp)) (fun _ => rfl) (fun fuel e pss hall => by
      simp [optInputFields, buildInputFieldsDefinition, allChildren, Pair.children, AC_InputFieldsDefinition, hall, bind,
        Except.bind])
    hb h hn

end NitroVerif.DocParse
