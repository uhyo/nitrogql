import NitroVerif.Model.Cli
/-!
Helper lemmas for C18 (`Props/C18.lean`): the file store's index arithmetic; what `generate` commands do to the state
(`Gen`); what the command loop of the CLI model does from a resolved context (`FromResolved`) and from the initial one
(`FromInit`); the character/byte arithmetic of `message_for_line`; which stage `check_impl`'s result comes from
(`CheckImplCase`).  A run is read in three ways: `Shape` is `runCli` unfolded, the four ways with the outcome spelled
out, for statements about the parse errors; `Ends` joins the three ways that stop before the loop and hands the loop's
description `FromInit` out, for statements about exit status and files; `outcome_cases` gives the diagnostics and the
store only (and that `check` ran when the diagnostics are `checkImpl`'s), which is what `located_of_inRange` and
`Props/C18Composed.lean` need.
-/
namespace NitroVerif.Cli

theorem addFiles_schema (n s : Nat) : addFiles .schema n ⟨s, 0⟩ = some ⟨s + n, 0⟩ := by
  induction n generalizing s with
  | zero => simp [addFiles]
  | succ n ih => simp [addFiles, FileStore.addFile, ih]; omega

theorem addFiles_operation (n s o : Nat) : addFiles .operation n ⟨s, o⟩ = some ⟨s, o + n⟩ := by
  induction n generalizing o with
  | zero => simp [addFiles]
  | succ n ih => simp [addFiles, FileStore.addFile, ih]; omega

theorem getFile_schema (s o i : Nat) (h : i < s) : FileStore.getFile ⟨s, o⟩ i = some (.schema, i) := by
  simp [FileStore.getFile, h]

theorem getFile_operation (s o j : Nat) (h : j < o) : FileStore.getFile ⟨s, o⟩ (s + j) = some (.operation, j) := by
  simp [FileStore.getFile, h]

/-- every listed source map has its file listed (the map lies next to it: same directory, `<name>.map`) -/
def MapsHaveFiles (l : List OutFile) : Prop := ∀ t, (⟨t, true⟩ : OutFile) ∈ l → (⟨t, false⟩ : OutFile) ∈ l

theorem MapsHaveFiles.append {a b : List OutFile} (ha : MapsHaveFiles a) (hb : MapsHaveFiles b) :
    MapsHaveFiles (a ++ b) := by
  intro t ht
  rcases List.mem_append.mp ht with h | h
  · exact List.mem_append_left _ (ha t h)
  · exact List.mem_append_right _ (hb t h)

/-- `st'` is `st` after zero or more `generate` commands in a resolved context: each was recorded, only files were
    appended, the same to `written` and to `listed`, every source map together with its file; nothing else changed -/
structure Gen (st st' : St) : Prop where
  resolved : st'.resolved = st.resolved
  diags : st'.diags = st.diags
  cmds : ∃ k, st'.commandsRun = st.commandsRun ++ List.replicate k Cmd.generate
  files : ∃ ws, MapsHaveFiles ws ∧ st'.written = st.written ++ ws ∧ st'.listed = st.listed ++ ws

theorem Gen.refl (st : St) : Gen st st :=
  ⟨rfl, rfl, ⟨0, (List.append_nil _).symm⟩, [], fun _ h => (List.not_mem_nil h).elim, (List.append_nil _).symm,
    (List.append_nil _).symm⟩

theorem Gen.trans {a b c : St} (h : Gen a b) (h' : Gen b c) : Gen a c := by
  obtain ⟨k, ek⟩ := h.cmds
  obtain ⟨k', ek'⟩ := h'.cmds
  obtain ⟨ws, hw, e1, e2⟩ := h.files
  obtain ⟨ws', hw', e1', e2'⟩ := h'.files
  exact ⟨h'.resolved.trans h.resolved, h'.diags.trans h.diags,
    ⟨k + k', by rw [ek', ek, List.append_assoc, List.replicate_append_replicate]⟩, ws ++ ws',
    hw.append hw', by rw [e1', e1, List.append_assoc], by rw [e2', e2, List.append_assoc]⟩

theorem Gen.mem_commandsRun {st st' : St} (g : Gen st st') {x : Cmd} (h : x ∈ st.commandsRun) :
    x ∈ st'.commandsRun := by
  obtain ⟨k, ek⟩ := g.cmds
  rw [ek]; exact List.mem_append_left _ h

theorem runSteps_gen (steps : List Step) (st : St) : Gen st (runSteps steps st).1 := by
  induction steps generalizing st with
  | nil => exact .refl st
  | cons s rest ih =>
    have h1 : MapsHaveFiles [⟨s.target, false⟩] := fun t h => by cases List.mem_singleton.mp h
    have h2 : MapsHaveFiles [⟨s.target, false⟩, ⟨s.target, true⟩] := fun t h => by
      rcases List.mem_cons.mp h with h | h
      · cases h
      · cases List.mem_singleton.mp h; exact List.mem_cons_self
    have same : ∃ k, st.commandsRun = st.commandsRun ++ List.replicate k Cmd.generate := (Gen.refl st).cmds
    rw [runSteps]
    by_cases hp : s.printerFails = true
    · rw [if_pos hp]; exact .refl st
    by_cases hm : s.io = .mainFails
    · rw [if_neg hp, if_pos hm]; exact .refl st
    rw [if_neg hp, if_neg hm]
    dsimp only
    by_cases hh : s.hasMap = true
    · rw [if_pos hh]
      by_cases hf : s.io = .mapFails
      · rw [if_pos hf]; exact ⟨rfl, rfl, same, _, h1, rfl, rfl⟩
      · rw [if_neg hf]
        refine .trans ?_ (ih _)
        exact ⟨rfl, rfl, same, _, h2, List.append_assoc .., List.append_assoc ..⟩
    · rw [if_neg hh]
      refine .trans ?_ (ih _)
      exact ⟨rfl, rfl, same, _, h1, rfl, rfl⟩

/-- the printer and the writes of one step succeed; the write of the map counts only if the step has one -/
def stepOk (s : Step) : Bool := !s.printerFails && !(s.io = .mainFails) && !(s.hasMap && s.io = .mapFails)

theorem stepOk_withMap (t : Target) (pf : Bool) (io : IoRes) :
    stepOk ⟨t, true, pf, io⟩ = (!pf && decide (io = .ok)) := by
  cases io <;> simp [stepOk]

theorem stepOk_noMap (t : Target) (io : IoRes) : stepOk ⟨t, false, false, io⟩ = !decide (io = .mainFails) := by
  simp [stepOk]

/-- the generate options are usable and no printer / file-system failure occurs -/
def genOk (r : Run) : Bool :=
  (r.gen.schemaOutput || r.gen.moduleSpecifier) && !r.gen.runtimeToDts && (genSteps r).all stepOk

theorem runSteps_ok (steps : List Step) (st : St) : (runSteps steps st).2 = none ↔ steps.all stepOk = true := by
  induction steps generalizing st with
  | nil => simp [runSteps]
  | cons s rest ih =>
    unfold runSteps
    by_cases h1 : s.printerFails = true
    · simp [h1, stepOk]
    · by_cases h2 : s.io = .mainFails
      · simp [h1, h2, stepOk]
      · by_cases h3 : s.hasMap = true
        · by_cases h4 : s.io = .mapFails
          · simp [h1, h3, h4, stepOk]
          · simp [h1, h2, h3, h4, stepOk, ih]
        · simp [h1, h2, h3, stepOk, ih]

theorem genTail_gen (r : Run) (st : St) : Gen st (genTail r st).1 := by
  have g : Gen st { st with commandsRun := st.commandsRun ++ [Cmd.generate] } :=
    ⟨rfl, rfl, ⟨1, rfl⟩, (Gen.refl st).files⟩
  unfold genTail
  dsimp only
  by_cases h1 : (!r.gen.schemaOutput && !r.gen.moduleSpecifier) = true
  · rw [if_pos h1]; exact g
  by_cases h2 : r.gen.runtimeToDts = true
  · rw [if_neg h1, if_pos h2]; exact g
  rw [if_neg h1, if_neg h2]
  exact g.trans (runSteps_gen _ _)

theorem genTail_ok (r : Run) (st : St) : (genTail r st).2 = none ↔ genOk r = true := by
  unfold genTail genOk
  simp only []
  by_cases h1 : (!r.gen.schemaOutput && !r.gen.moduleSpecifier) = true
  · have : (r.gen.schemaOutput || r.gen.moduleSpecifier) = false := by
      cases h : r.gen.schemaOutput <;> cases h' : r.gen.moduleSpecifier <;> simp_all
    simp [h1, this]
  · have : (r.gen.schemaOutput || r.gen.moduleSpecifier) = true := by
      cases h : r.gen.schemaOutput <;> cases h' : r.gen.moduleSpecifier <;> simp_all
    by_cases h2 : r.gen.runtimeToDts = true
    · simp [h1, h2]
    · simp [h1, h2, this, runSteps_ok]

theorem runCheck_resolved {r : Run} {st : St} (hr : st.resolved = true) :
    runCheck r st = (st, some .invalidCommand) := by
  rw [runCheck, if_pos hr]

theorem runCheck_pass {r : Run} {st : St} (hr : st.resolved = false) (hc : checkImpl r = []) :
    runCheck r st = ({ st with commandsRun := st.commandsRun ++ [Cmd.check], resolved := true }, none) := by
  rw [runCheck, if_neg (by rw [hr]; exact Bool.false_ne_true)]
  dsimp only
  rw [if_pos (by rw [hc]; rfl)]

theorem runCheck_fail {r : Run} {st : St} (hr : st.resolved = false) (hc : checkImpl r ≠ []) :
    runCheck r st = ({ st with commandsRun := st.commandsRun ++ [Cmd.check], diags := st.diags ++ checkImpl r },
      some .checkFailed) := by
  rw [runCheck, if_neg (by rw [hr]; exact Bool.false_ne_true)]
  dsimp only
  rw [if_neg (by rw [List.isEmpty_iff]; exact hc)]

theorem runGenerate_resolved {r : Run} {st : St} (hr : st.resolved = true) : runGenerate r st = genTail r st := by
  rw [runGenerate, if_pos hr]

theorem runGenerate_pass {r : Run} {st : St} (hr : st.resolved = false) (hc : checkImpl r = []) :
    runGenerate r st = genTail r { st with commandsRun := st.commandsRun ++ [Cmd.check], resolved := true } := by
  rw [runGenerate, if_neg (by rw [hr]; exact Bool.false_ne_true), runCheck_pass hr hc]

theorem runGenerate_fail {r : Run} {st : St} (hr : st.resolved = false) (hc : checkImpl r ≠ []) :
    runGenerate r st = runCheck r st := by
  rw [runGenerate, if_neg (by rw [hr]; exact Bool.false_ne_true), runCheck_fail hr hc]

/-- a usable command list: `check` or `generate` first, then only `generate` -/
def cmdsOk : List Cmd → Bool
  | [] => false
  | c :: cs => (c = .check || c = .generate) && cs.all (· = Cmd.generate)

/-- no fault anywhere in the stage results that the requested commands look at -/
def Clean (r : Run) : Prop :=
  cmdsOk r.cmds = true ∧ (∀ f ∈ r.schemaFiles, f = .ok) ∧ (∀ f ∈ r.opFiles, f.parse = .ok) ∧
  checkImpl r = [] ∧ (Cmd.generate ∈ r.cmds → genOk r = true)

/-- what holds of every state the loop can end in when it starts from the initial state -/
structure Final (r : Run) (st : St) : Prop where
  wl : st.written = st.listed
  maps : MapsHaveFiles st.listed
  ran : Cmd.check ∈ st.commandsRun → st.diags = checkImpl r
  notRan : Cmd.check ∉ st.commandsRun → st.diags = []
  gated : checkImpl r ≠ [] → st.written = []

/-! From the initial state the loop is not really a loop: the first command (`check` or `generate`) runs the check; when
    it passes the context is resolved, and from a resolved context every command but `generate` is an error without
    effect. -/

structure FromResolved (r : Run) (cs : List Cmd) (st : St) (p : St × Option CmdErr) : Prop where
  gen : Gen st p.1
  idle : Cmd.generate ∉ cs → p.1 = st
  ok : p.2 = none ↔ (cs.all (· = Cmd.generate) = true ∧ (Cmd.generate ∈ cs → genOk r = true))

theorem runCommands_resolved (r : Run) (cs : List Cmd) (st : St) (hr : st.resolved = true) :
    FromResolved r cs st (runCommands r cs st) := by
  induction cs generalizing st with
  | nil => exact ⟨.refl st, fun _ => rfl, by simp [runCommands]⟩
  | cons c cs ih =>
    rw [runCommands]
    cases c with
    | check => rw [runCommand, runCheck_resolved hr]; exact ⟨.refl st, fun _ => rfl, by simp⟩
    | other n => exact ⟨.refl st, fun _ => rfl, by simp [runCommand]⟩
    | generate =>
      have g := genTail_gen r st
      have hok := genTail_ok r st
      rw [runCommand, runGenerate_resolved hr]
      rcases hq : genTail r st with ⟨st1, _ | f⟩
      · rw [hq] at g hok
        have h1 := ih st1 (g.resolved.trans hr)
        have : genOk r = true := hok.mp rfl
        exact ⟨g.trans h1.gen, fun h => absurd List.mem_cons_self h, by simp [h1.ok, this]⟩
      · rw [hq] at g hok
        have : ¬ (genOk r = true) := fun h => nomatch hok.mpr h
        exact ⟨g, fun h => absurd List.mem_cons_self h, by simp [this]⟩

/-- the state after the check has passed from the initial state -/
def checked : St := { St.init with commandsRun := [Cmd.check], resolved := true }

theorem runCommands_init_cons (r : Run) (c : Cmd) (cs : List Cmd) :
    (cmdsOk (c :: cs) = false ∧ Cmd.generate ≠ c ∧ Cmd.check ≠ c ∧
      runCommands r (c :: cs) St.init = (St.init, some ⟨some c, .unknownCommand⟩)) ∨
    ((c = .check ∨ c = .generate) ∧ checkImpl r ≠ [] ∧ runCommands r (c :: cs) St.init =
      ({ St.init with commandsRun := [Cmd.check], diags := checkImpl r }, some ⟨some c, .checkFailed⟩)) ∨
    ((c = .check ∨ c = .generate) ∧ checkImpl r = [] ∧
      runCommands r (c :: cs) St.init = runCommands r (if c = .generate then c :: cs else cs) checked) := by
  by_cases hc : checkImpl r = []
  · cases c with
    | other n => exact Or.inl ⟨rfl, nofun, nofun, rfl⟩
    | check => exact Or.inr (Or.inr ⟨Or.inl rfl, hc, by rw [runCommands, runCommand, runCheck_pass rfl hc]; rfl⟩)
    | generate =>
      refine Or.inr (Or.inr ⟨Or.inr rfl, hc, ?_⟩)
      rw [if_pos rfl, runCommands, runCommands, runCommand, runCommand, runGenerate_pass rfl hc, runGenerate_resolved rfl]
      rfl
  · cases c with
    | other n => exact Or.inl ⟨rfl, nofun, nofun, rfl⟩
    | check =>
      exact Or.inr (Or.inl ⟨Or.inl rfl, hc, by rw [runCommands, runCommand, runCheck_fail rfl hc]; rfl⟩)
    | generate =>
      exact Or.inr (Or.inl ⟨Or.inr rfl, hc, by
        rw [runCommands, runCommand, runGenerate_fail rfl hc, runCheck_fail rfl hc]; rfl⟩)

structure FromInit (r : Run) (cs : List Cmd) (p : St × Option CmdErr) : Prop where
  final : Final r p.1
  fails : p.1.diags ≠ [] → p.2 ≠ none
  idle : Cmd.generate ∉ cs → p.1.written = [] ∧ p.1.listed = []
  checks : ∀ c cs', cs = c :: cs' → c = .check ∨ c = .generate → Cmd.check ∈ p.1.commandsRun
  ok : p.2 = none ↔ (cs = [] ∨ (cmdsOk cs = true ∧ checkImpl r = [] ∧ (Cmd.generate ∈ cs → genOk r = true)))

theorem runCommands_init (r : Run) (cs : List Cmd) : FromInit r cs (runCommands r cs St.init) := by
  have nomaps : MapsHaveFiles [] := fun _ h => (List.not_mem_nil h).elim
  have fin0 : Final r St.init := ⟨rfl, nomaps, nofun, fun _ => rfl, fun _ => rfl⟩
  cases cs with
  | nil => exact ⟨fin0, fun h => absurd rfl h, fun _ => ⟨rfl, rfl⟩, nofun, by simp [runCommands]⟩
  | cons c cs =>
    rcases runCommands_init_cons r c cs with ⟨hbad, hg, hk, heq⟩ | ⟨hc, hne, heq⟩ | ⟨hc, hnil, heq⟩ <;> rw [heq]
    · refine ⟨fin0, fun h => absurd rfl h, fun _ => ⟨rfl, rfl⟩, ?_, by simp [hbad]⟩
      rintro _ _ ⟨rfl, _⟩ (rfl | rfl)
      · exact absurd rfl hk
      · exact absurd rfl hg
    · exact ⟨⟨rfl, nomaps, fun _ => rfl, fun h => absurd List.mem_cons_self h, fun _ => rfl⟩, fun _ => nofun,
        fun _ => ⟨rfl, rfl⟩, fun _ _ _ _ => List.mem_cons_self, by simp [hne]⟩
    · have fr := runCommands_resolved r (if c = .generate then c :: cs else cs) checked rfl
      generalize runCommands r (if c = .generate then c :: cs else cs) checked = p at fr
      obtain ⟨ws, hw, e1, e2⟩ := fr.gen.files
      have hd : p.1.diags = [] := fr.gen.diags
      have hck : Cmd.check ∈ p.1.commandsRun := fr.gen.mem_commandsRun List.mem_cons_self
      refine ⟨⟨e1.trans e2.symm, by rw [e2]; exact nomaps.append hw, fun _ => hd.trans hnil.symm,
        fun h => absurd hck h, fun h => absurd hnil h⟩, fun h => absurd hd h, fun hg => ?_, fun _ _ _ _ => hck, ?_⟩
      · have : p.1 = checked := fr.idle (by
          rcases hc with rfl | rfl
          · simpa using fun h => hg (List.mem_cons_of_mem _ h)
          · exact absurd List.mem_cons_self hg)
        rw [this]; exact ⟨rfl, rfl⟩
      · rw [fr.ok]
        rcases hc with rfl | rfl <;> simp [cmdsOk, hnil]

theorem utf8Len_pos (c : Char) : 1 ≤ utf8Len c := by
  unfold utf8Len; split <;> (try split) <;> (try split) <;> omega

theorem splitAtBytes_take (l : List Char) (n : Nat) :
    splitAtBytes l (byteLen (l.take n)) = some (l.drop n) := by
  induction l generalizing n with
  | nil => simp [splitAtBytes, byteLen]
  | cons c cs ih =>
    cases n with
    | zero => simp [splitAtBytes, byteLen]
    | succ n =>
      have hp := utf8Len_pos c
      simp only [List.take_succ_cons, byteLen, List.drop_succ_cons]
      unfold splitAtBytes
      have h1 : ¬ (utf8Len c + byteLen (List.take n cs) = 0) := by omega
      have h2 : utf8Len c ≤ utf8Len c + byteLen (List.take n cs) := by omega
      simp only [h1, if_false, h2, if_true, Nat.add_sub_cancel_left]
      exact ih n

/-- `skip_chars` never panics: the byte offset it computes is a character boundary inside the line -/
theorem skipChars_eq (l : List Char) (n : Nat) : skipChars l n = some (l.drop n) :=
  splitAtBytes_take l n

theorem renderRows_isSome (msg : List Char) (add : Bool) (line m tcol : Nat) (rel : List (Nat × List Char)) :
    (renderRows msg add line m tcol rel).isSome = true := by
  induction rel with
  | nil => rfl
  | cons q rest ih =>
    obtain ⟨tail, ht⟩ := Option.isSome_iff_exists.mp ih
    rw [renderRows, skipChars_eq, ht]
    dsimp only
    split <;> rfl

theorem messageForLine_isSome (path src : List Char) (p : Pos) (msg : List Char) (add : Bool) :
    (messageForLine path src p msg add).isSome = true := by
  unfold messageForLine
  dsimp only
  split
  · rfl
  · split
    · rfl
    · next m _ =>
      obtain ⟨rows, hr⟩ := Option.isSome_iff_exists.mp
        (renderRows_isSome msg add p.line m (p.col - m) (relevantLines (lines src) p.line))
      rw [hr]
      rfl

theorem enumFrom_getElem? {α} (i k : Nat) (xs : List α) :
    (enumFrom i xs)[k]? = xs[k]?.map fun x => (i + k, x) := by
  induction xs generalizing i k with
  | nil => simp [enumFrom]
  | cons x xs ih =>
    cases k with
    | zero => simp [enumFrom]
    | succ k =>
      simp only [enumFrom, List.getElem?_cons_succ, ih]
      have : i + 1 + k = i + (k + 1) := by omega
      rw [this]

theorem mem_relevantLines (ls : List (List Char)) (line : Nat) (l : List Char) (h : ls[line]? = some l) :
    (line, l) ∈ relevantLines ls line := by
  unfold relevantLines
  rw [List.mem_iff_getElem?]
  refine ⟨line - (line - 2), ?_⟩
  rw [List.getElem?_take]
  have h1 : line - (line - 2) < 5 := by omega
  simp only [h1, if_true, List.getElem?_drop]
  have h2 : line - 2 + (line - (line - 2)) = line := by omega
  rw [h2, enumFrom_getElem?, h]
  simp

theorem firstNonSpace_le (l : List Char) (col : Nat) (c : Char) (h : l[col]? = some c) (hc : isWs c = false) :
    ∃ k, firstNonSpace l = some k ∧ k ≤ col := by
  induction l generalizing col with
  | nil => simp at h
  | cons x xs ih =>
    unfold firstNonSpace
    cases col with
    | zero =>
      simp at h; subst h; simp [hc]
    | succ col =>
      simp at h
      by_cases hx : isWs x = true
      · obtain ⟨k, hk, hle⟩ := ih col h
        simp [hx, hk]; omega
      · simp [hx]

theorem minList_le (xs : List Nat) (x : Nat) (h : x ∈ xs) : ∃ m, minList xs = some m ∧ m ≤ x := by
  induction xs with
  | nil => cases h
  | cons y ys ih =>
    unfold minList
    cases hm : minList ys with
    | none =>
      cases ys with
      | nil => simp at h; subst h; exact ⟨x, rfl, Nat.le_refl _⟩
      | cons z zs =>
        exfalso
        unfold minList at hm
        split at hm <;> cases hm
    | some m =>
      simp only []
      rcases List.mem_cons.mp h with rfl | h'
      · refine ⟨_, rfl, ?_⟩; split <;> omega
      · obtain ⟨m', hm', hle⟩ := ih h'
        rw [hm] at hm'; cases hm'
        refine ⟨_, rfl, ?_⟩; split <;> omega

theorem minIndent_le (ls : List (List Char)) (line col : Nat) (l : List Char) (c : Char)
    (hl : ls[line]? = some l) (hc : l[col]? = some c) (hw : isWs c = false) :
    ∃ m, minIndent (relevantLines ls line) = some m ∧ m ≤ col := by
  obtain ⟨k, hk, hle⟩ := firstNonSpace_le l col c hc hw
  have hmem : k ∈ (relevantLines ls line).filterMap fun p => firstNonSpace p.2 := by
    rw [List.mem_filterMap]
    exact ⟨(line, l), mem_relevantLines ls line l hl, hk⟩
  obtain ⟨m, hm, hmk⟩ := minList_le _ k hmem
  exact ⟨m, hm, Nat.le_trans hmk hle⟩

theorem parseErrs_mem (k : FileKind) (c : Cls) (base : Nat) (fs : List ParseRes) (e : CheckErr)
    (h : e ∈ parseErrs k c base fs) :
    e.kind = k ∧ e.cls = c ∧ e.diag.pos.builtin = false ∧ base ≤ e.diag.pos.file ∧ e.diag.pos.file < base + fs.length := by
  induction fs generalizing base with
  | nil => simp [parseErrs] at h
  | cons f rest ih =>
    cases f with
    | ok =>
      simp only [parseErrs] at h
      obtain ⟨h1, h2, h3, h4, h5⟩ := ih (base + 1) h
      exact ⟨h1, h2, h3, by omega, by simp only [List.length_cons]; omega⟩
    | err l col t =>
      simp only [parseErrs, List.mem_cons] at h
      rcases h with rfl | h
      · simp
      · obtain ⟨h1, h2, h3, h4, h5⟩ := ih (base + 1) h
        exact ⟨h1, h2, h3, by omega, by simp only [List.length_cons]; omega⟩

theorem parseErrs_complete (k : FileKind) (c : Cls) (base : Nat) (fs : List ParseRes) (i l col t : Nat)
    (h : fs[i]? = some (.err l col t)) :
    (⟨k, c, ⟨⟨l, col, base + i, false⟩, [], t⟩⟩ : CheckErr) ∈ parseErrs k c base fs := by
  induction fs generalizing base i with
  | nil => simp at h
  | cons f rest ih =>
    cases i with
    | zero =>
      simp at h; subst h; simp [parseErrs]
    | succ i =>
      simp at h
      have := ih (base + 1) i h
      have e : base + 1 + i = base + (i + 1) := by omega
      rw [e] at this
      cases f <;> simp [parseErrs, this]

theorem parseErrs_nil_iff (k : FileKind) (c : Cls) (base : Nat) (fs : List ParseRes) :
    parseErrs k c base fs = [] ↔ ∀ f ∈ fs, f = .ok := by
  induction fs generalizing base with
  | nil => simp [parseErrs]
  | cons f rest ih =>
    cases f with
    | ok => simp [parseErrs, ih]
    | err l col t => simp [parseErrs]

theorem mem_tagged {k : FileKind} {c : Cls} {ds : List Diag} {e : CheckErr} :
    e ∈ tagged k c ds ↔ ∃ d ∈ ds, e = ⟨k, c, d⟩ := by
  unfold tagged
  rw [List.mem_map]
  exact ⟨fun ⟨d, hd, he⟩ => ⟨d, hd, he.symm⟩, fun ⟨d, hd, he⟩ => ⟨d, hd, he.symm⟩⟩

/-- the five ways `check_impl` can end: the first stage that reports anything determines the whole result -/
inductive CheckImplCase (r : Run) : List CheckErr → Prop where
  | schemaExt {d : Diag} (h : r.schemaExt = some d) : CheckImplCase r [⟨.schema, .schemaExt, d⟩]
  | schemaCheck (h0 : r.schemaExt = none) (h1 : r.schemaCheck ≠ []) :
      CheckImplCase r (tagged .schema .schemaCheck r.schemaCheck)
  | opExt (h0 : r.schemaExt = none) (h1 : r.schemaCheck = []) (h2 : r.opFiles.filterMap (·.ext) ≠ []) :
      CheckImplCase r (tagged .operation .opExt (r.opFiles.filterMap (·.ext)))
  | opImport (h0 : r.schemaExt = none) (h1 : r.schemaCheck = []) (h2 : r.opFiles.filterMap (·.ext) = [])
      (h3 : r.opFiles.filterMap (·.imp) ≠ []) :
      CheckImplCase r (tagged .operation .opImport (r.opFiles.filterMap (·.imp)))
  | opCheck (h0 : r.schemaExt = none) (h1 : r.schemaCheck = []) (h2 : r.opFiles.filterMap (·.ext) = [])
      (h3 : r.opFiles.filterMap (·.imp) = []) :
      CheckImplCase r (tagged .operation .opCheck (r.opFiles.flatMap (·.check)))

theorem checkImpl_case (r : Run) : CheckImplCase r (checkImpl r) := by
  have ne : ∀ {α : Type} {l : List α}, l ≠ [] → (!l.isEmpty) = true := fun h => by
    rw [Bool.not_eq_true', ← Bool.not_eq_true, List.isEmpty_iff]; exact h
  unfold checkImpl
  cases hse : r.schemaExt with
  | some d => exact .schemaExt hse
  | none =>
    dsimp only
    by_cases h1 : r.schemaCheck = []
    · by_cases h2 : r.opFiles.filterMap (·.ext) = []
      · by_cases h3 : r.opFiles.filterMap (·.imp) = []
        · rw [h1, h2, h3]; exact .opCheck hse h1 h2 h3
        · rw [h1, h2, if_pos (ne h3)]; exact .opImport hse h1 h2 h3
      · rw [h1, if_pos (ne h2)]; exact .opExt hse h1 h2
    · rw [if_pos (ne h1)]; exact .schemaCheck hse h1

theorem checkImpl_nil_iff (r : Run) :
    checkImpl r = [] ↔ r.schemaExt = none ∧ r.schemaCheck = [] ∧
      ∀ f ∈ r.opFiles, f.ext = none ∧ f.imp = none ∧ f.check = [] := by
  have hnil : ∀ {k : FileKind} {c : Cls} {ds : List Diag}, tagged k c ds = [] ↔ ds = [] := List.map_eq_nil_iff
  have hc := checkImpl_case r
  generalize checkImpl r = l at hc ⊢
  cases hc with
  | schemaExt hd => exact ⟨nofun, fun h => nomatch hd.symm.trans h.1⟩
  | schemaCheck _ h1 => exact ⟨fun h => absurd (hnil.mp h) h1, fun h => absurd h.2.1 h1⟩
  | opExt _ _ h2 =>
    exact ⟨fun h => absurd (hnil.mp h) h2,
      fun h => absurd (List.filterMap_eq_nil_iff.mpr fun f hf => (h.2.2 f hf).1) h2⟩
  | opImport _ _ _ h3 =>
    exact ⟨fun h => absurd (hnil.mp h) h3,
      fun h => absurd (List.filterMap_eq_nil_iff.mpr fun f hf => (h.2.2 f hf).2.1) h3⟩
  | opCheck h0 h1 h2 h3 =>
    rw [hnil, List.flatMap_eq_nil_iff]
    rw [List.filterMap_eq_nil_iff] at h2 h3
    exact ⟨fun h => ⟨h0, h1, fun f hf => ⟨h2 f hf, h3 f hf, h f hf⟩⟩, fun h f hf => (h.2.2 f hf).2.2⟩

theorem checkImpl_mem (r : Run) (e : CheckErr) (h : e ∈ checkImpl r) :
    (e.kind = .schema ∧ (r.schemaExt = some e.diag ∨ e.diag ∈ r.schemaCheck)) ∨
    (e.kind = .operation ∧ ∃ f ∈ r.opFiles, f.ext = some e.diag ∨ f.imp = some e.diag ∨ e.diag ∈ f.check) := by
  have hc := checkImpl_case r
  generalize checkImpl r = l at hc h
  cases hc with
  | schemaExt hd => cases List.mem_singleton.mp h; exact Or.inl ⟨rfl, Or.inl hd⟩
  | schemaCheck =>
    obtain ⟨d, hd, rfl⟩ := mem_tagged.mp h
    exact Or.inl ⟨rfl, Or.inr hd⟩
  | opExt =>
    obtain ⟨d, hd, rfl⟩ := mem_tagged.mp h
    obtain ⟨f, hf, hfe⟩ := List.mem_filterMap.mp hd
    exact Or.inr ⟨rfl, f, hf, Or.inl hfe⟩
  | opImport =>
    obtain ⟨d, hd, rfl⟩ := mem_tagged.mp h
    obtain ⟨f, hf, hfe⟩ := List.mem_filterMap.mp hd
    exact Or.inr ⟨rfl, f, hf, Or.inr (Or.inl hfe)⟩
  | opCheck =>
    obtain ⟨d, hd, rfl⟩ := mem_tagged.mp h
    obtain ⟨f, hf, hfe⟩ := List.mem_flatMap.mp hd
    exact Or.inr ⟨rfl, f, hf, Or.inr (Or.inr hfe)⟩

/-- the four ways a run can go -/
inductive Shape (r : Run) (o : Outcome) : Prop where
  | noCommand (h : r.cmds = [])
      (ho : o = outcomeOf St.init (some ⟨none, .noCommand⟩) FileStore.empty)
  | schemaParse (hc : r.cmds ≠ []) (he : parseErrs .schema .parseSchema 0 r.schemaFiles ≠ [])
      (ho : o = outcomeOf { St.init with diags := parseErrs .schema .parseSchema 0 r.schemaFiles }
        (some ⟨none, .parseFailed⟩) ⟨r.schemaFiles.length, 0⟩)
  | opParse (hc : r.cmds ≠ []) (hs : parseErrs .schema .parseSchema 0 r.schemaFiles = [])
      (he : parseErrs .operation .parseOperation r.schemaFiles.length (r.opFiles.map (·.parse)) ≠ [])
      (ho : o = outcomeOf { St.init with diags := parseErrs .operation .parseOperation r.schemaFiles.length (r.opFiles.map (·.parse)) }
        (some ⟨none, .parseFailed⟩) ⟨r.schemaFiles.length, r.opFiles.length⟩)
  | commands (hc : r.cmds ≠ []) (hs : parseErrs .schema .parseSchema 0 r.schemaFiles = [])
      (hp : parseErrs .operation .parseOperation r.schemaFiles.length (r.opFiles.map (·.parse)) = [])
      (ho : o = outcomeOf (runCommands r r.cmds St.init).1 (runCommands r r.cmds St.init).2
        ⟨r.schemaFiles.length, r.opFiles.length⟩)

theorem runCli_shape (r : Run) : ∃ o, runCli r = some o ∧ Shape r o := by
  unfold runCli
  by_cases hc : r.cmds = []
  · simp only [hc, List.isEmpty_nil, if_true]
    exact ⟨_, rfl, .noCommand hc rfl⟩
  · have hc' : r.cmds.isEmpty = false := by simpa using hc
    have h1 : addFiles .schema r.schemaFiles.length FileStore.empty = some ⟨r.schemaFiles.length, 0⟩ := by
      have := addFiles_schema r.schemaFiles.length 0
      simpa [FileStore.empty] using this
    simp only [hc', Bool.false_eq_true, if_false, h1]
    by_cases hs : parseErrs .schema .parseSchema 0 r.schemaFiles = []
    · have h2 : addFiles .operation r.opFiles.length ⟨r.schemaFiles.length, 0⟩ = some ⟨r.schemaFiles.length, r.opFiles.length⟩ := by
        have := addFiles_operation r.opFiles.length r.schemaFiles.length 0
        simpa using this
      simp only [hs, List.isEmpty_nil, Bool.not_true, Bool.false_eq_true, if_false, h2]
      by_cases hp : parseErrs .operation .parseOperation r.schemaFiles.length (r.opFiles.map (·.parse)) = []
      · simp only [hp, List.isEmpty_nil, Bool.not_true, Bool.false_eq_true, if_false]
        exact ⟨_, rfl, .commands hc hs hp rfl⟩
      · have hp' : (parseErrs .operation .parseOperation r.schemaFiles.length (r.opFiles.map (·.parse))).isEmpty = false := by
          simpa using hp
        simp only [hp', Bool.not_false, if_true]
        exact ⟨_, rfl, .opParse hc hs hp rfl⟩
    · have hs' : (parseErrs .schema .parseSchema 0 r.schemaFiles).isEmpty = false := by simpa using hs
      simp only [hs', Bool.not_false, if_true]
      exact ⟨_, rfl, .schemaParse hc hs rfl⟩

theorem shape_of_run {r : Run} {o : Outcome} (h : runCli r = some o) : Shape r o := by
  obtain ⟨o', h', sh⟩ := runCli_shape r
  rw [h] at h'; cases h'
  exact sh

inductive Ends (r : Run) (o : Outcome) : Prop where
  /-- before the command loop: no command, or a file does not parse -/
  | early (ds : List CheckErr) (k : ErrKind) (fs : FileStore)
      (ho : o = outcomeOf { St.init with diags := ds } (some ⟨none, k⟩) fs) (hn : ¬ Clean r)
  | commands (p : St × Option CmdErr) (hp : FromInit r r.cmds p) (hc : r.cmds ≠ [])
      (hs : ∀ f ∈ r.schemaFiles, f = .ok) (hop : ∀ f ∈ r.opFiles, f.parse = .ok)
      (ho : o = outcomeOf p.1 p.2 ⟨r.schemaFiles.length, r.opFiles.length⟩)

theorem opParse_ok_iff (r : Run) (b : Nat) :
    parseErrs .operation .parseOperation b (r.opFiles.map (·.parse)) = [] ↔ ∀ f ∈ r.opFiles, f.parse = .ok := by
  rw [parseErrs_nil_iff]
  exact ⟨fun h f hf => h _ (List.mem_map.mpr ⟨f, hf, rfl⟩), fun h p hp => by
    obtain ⟨f, hf, rfl⟩ := List.mem_map.mp hp; exact h f hf⟩

theorem ends_of_run {r : Run} {o : Outcome} (h : runCli r = some o) : Ends r o := by
  cases shape_of_run h with
  | noCommand h0 ho => exact .early _ _ _ ho fun c => by have := c.1; rw [h0] at this; cases this
  | schemaParse _ he ho => exact .early _ _ _ ho fun c => he ((parseErrs_nil_iff _ _ _ _).mpr c.2.1)
  | opParse _ _ he ho => exact .early _ _ _ ho fun c => he ((opParse_ok_iff r _).mpr c.2.2.1)
  | commands hc hs hp ho =>
    exact .commands _ (runCommands_init r r.cmds) hc ((parseErrs_nil_iff _ _ _ _).mp hs) ((opParse_ok_iff r _).mp hp) ho

theorem outcome_cases (r : Run) (o : Outcome) (h : runCli r = some o) :
    o.diags = [] ∨
    (o.diags = parseErrs .schema .parseSchema 0 r.schemaFiles ∧ o.store = ⟨r.schemaFiles.length, 0⟩) ∨
    (o.diags = parseErrs .operation .parseOperation r.schemaFiles.length (r.opFiles.map (·.parse)) ∧
      o.store = ⟨r.schemaFiles.length, r.opFiles.length⟩) ∨
    (Cmd.check ∈ o.commandsRun ∧ o.diags = checkImpl r ∧ o.store = ⟨r.schemaFiles.length, r.opFiles.length⟩) := by
  cases shape_of_run h with
  | noCommand _ ho => subst ho; exact Or.inl rfl
  | schemaParse _ _ ho => subst ho; exact Or.inr (Or.inl ⟨rfl, rfl⟩)
  | opParse _ _ _ ho => subst ho; exact Or.inr (Or.inr (Or.inl ⟨rfl, rfl⟩))
  | commands _ _ _ ho =>
    subst ho
    have fin := (runCommands_init r r.cmds).final
    by_cases hc : Cmd.check ∈ (runCommands r r.cmds St.init).1.commandsRun
    · exact Or.inr (Or.inr (Or.inr ⟨hc, fin.ran hc, rfl⟩))
    · exact Or.inl (fin.notRan hc)

/-- the file of the diagnostic is of the kind it announces -/
def InRange (r : Run) (e : CheckErr) : Prop :=
  e.diag.pos.builtin = true ∨ (e.kind = .schema ∧ e.diag.pos.file < r.schemaFiles.length) ∨
  (e.kind = .operation ∧ r.schemaFiles.length ≤ e.diag.pos.file ∧
    e.diag.pos.file < r.schemaFiles.length + r.opFiles.length)

theorem located_of_inRange (r : Run) (o : Outcome) (h : runCli r = some o) (hr : ∀ e ∈ checkImpl r, InRange r e) :
    ∀ e ∈ o.diags, e.diag.pos.builtin = false →
      (∃ i, o.store.getFile e.diag.pos.file = some (e.kind, i)) ∧
      jsonFile o.store e.diag.pos = some (e.diag.pos.file, e.diag.pos.line, e.diag.pos.col) := by
  intro e he hb
  have hin : InRange r e ∧ o.store = ⟨r.schemaFiles.length, r.opFiles.length⟩ ∨
      (e.kind = .schema ∧ e.diag.pos.file < r.schemaFiles.length ∧ o.store = ⟨r.schemaFiles.length, 0⟩) := by
    rcases outcome_cases r o h with h0 | ⟨h1, hs⟩ | ⟨h2, hs⟩ | ⟨_, h3, hs⟩
    · rw [h0] at he; cases he
    · rw [h1] at he
      obtain ⟨hk, _, _, _, hlt⟩ := parseErrs_mem _ _ _ _ e he
      exact Or.inr ⟨hk, by rwa [Nat.zero_add] at hlt, hs⟩
    · rw [h2] at he
      obtain ⟨hk, _, _, hge, hlt⟩ := parseErrs_mem _ _ _ _ e he
      exact Or.inl ⟨Or.inr (Or.inr ⟨hk, hge, by rwa [List.length_map] at hlt⟩), hs⟩
    · rw [h3] at he
      exact Or.inl ⟨hr e he, hs⟩
  have key : (∃ i, o.store.getFile e.diag.pos.file = some (e.kind, i)) := by
    rcases hin with ⟨hb' | ⟨hk, hlt⟩ | ⟨hk, hge, hlt⟩, hs⟩ | ⟨hk, hlt, hs⟩
    · rw [hb] at hb'; cases hb'
    · exact ⟨_, by rw [hs, hk]; exact getFile_schema _ _ _ hlt⟩
    · refine ⟨e.diag.pos.file - r.schemaFiles.length, ?_⟩
      have := getFile_operation r.schemaFiles.length r.opFiles.length (e.diag.pos.file - r.schemaFiles.length)
        (by omega)
      rwa [Nat.add_sub_cancel' hge, ← hs, ← hk] at this
    · exact ⟨_, by rw [hs, hk]; exact getFile_schema _ _ _ hlt⟩
  obtain ⟨i, hi⟩ := key
  exact ⟨⟨i, hi⟩, by simp [jsonFile, hb, hi]⟩

theorem parseErrs_extra (k : FileKind) (c : Cls) (base : Nat) (fs : List ParseRes) :
    ∀ e ∈ parseErrs k c base fs, e.diag.extra = [] := by
  induction fs generalizing base with
  | nil => intro e he; cases he
  | cons f rest ih =>
    intro e he
    cases f with
    | ok => exact ih _ e he
    | err l col t =>
      rcases List.mem_cons.mp he with rfl | he
      · rfl
      · exact ih _ e he

end NitroVerif.Cli
