/-
Three small things about `Model/Build.lean`:
* the O(1) tables the compiled driver uses (`Build.Ctx.ofInput`: position table, array-backed text) agree with the
  definitions the theorems talk about (`Build.Ctx.spec`: `Peg.lineCol`, `Peg.slice`);
* `build_type` / `build_type_of` on a pair with one child, rule by rule, and when the `all_children` test passes;
* every pair of a tree (`flat`, `Pairs::flatten`): membership, that it lies inside the range of a well-formed forest, and that a
  property which passes to children holds of all of them.
-/
import NitroVerif.Model.Build
import NitroVerif.Lemmas.SpanInv
namespace NitroVerif.Build
open NitroVerif.Peg NitroVerif.Gen NitroVerif.Gen.Parts

theorem ofInput_text (inp : List Char) (s e : Nat) :
    (Ctx.ofInput inp).text s e = (Ctx.spec inp).text s e := by
  simp [Ctx.ofInput, Ctx.spec, slice]

/-- the table is `acc` followed by the positions of the offsets `0 … r.length` -/
theorem table_get (r : List Char) : ∀ (l c : Nat) (acc : Array (Nat × Nat)),
    (∀ i, i < acc.size → (lineColTableFrom r l c acc)[i]? = acc[i]?) ∧
    ∀ o, o ≤ r.length → (lineColTableFrom r l c acc)[acc.size + o]? = some (lineColFrom r o l c) := by
  have push_lt : ∀ (acc : Array (Nat × Nat)) x i, i < acc.size → (acc.push x)[i]? = acc[i]? :=
    fun acc x i hi => Array.getElem?_push.trans (if_neg (Nat.ne_of_lt hi))
  induction r with
  | nil =>
    intro l c acc
    refine ⟨push_lt acc _, fun o ho => ?_⟩
    rw [Nat.le_zero.mp ho]
    exact Array.getElem?_push_size
  | cons ch r ih =>
    intro l c acc
    -- table and `lineColFrom` step over `ch` to the same line and column
    obtain ⟨l', c', e1, e2⟩ : ∃ l' c',
        lineColTableFrom (ch :: r) l c acc = lineColTableFrom r l' c' (acc.push (l, c)) ∧
        ∀ o, lineColFrom (ch :: r) (o + 1) l c = lineColFrom r o l' c' := by
      by_cases h : ch = '\n'
      · exact ⟨l + 1, 0, by rw [lineColTableFrom, if_pos h], fun o => by rw [lineColFrom, if_pos h]⟩
      · exact ⟨l, c + 1, by rw [lineColTableFrom, if_neg h], fun o => by rw [lineColFrom, if_neg h]⟩
    obtain ⟨hp, hf⟩ := ih l' c' (acc.push (l, c))
    rw [Array.size_push] at hp hf
    rw [e1]
    refine ⟨fun i hi => (hp i (Nat.lt_succ_of_lt hi)).trans (push_lt acc _ i hi), fun o ho => ?_⟩
    cases o with
    | zero => exact (hp acc.size (Nat.lt_succ_self _)).trans Array.getElem?_push_size
    | succ o =>
      rw [e2, ← hf o (Nat.le_of_succ_le_succ ho), Nat.add_right_comm, Nat.add_assoc]

theorem ofInput_pos (inp : List Char) (o : Nat) (h : o ≤ inp.length) :
    (Ctx.ofInput inp).pos o = (Ctx.spec inp).pos o := by
  have := (table_get inp 0 0 #[]).2 o h
  rw [Array.size_empty, Nat.zero_add] at this
  simp only [Ctx.ofInput, Ctx.spec, lineColTable, this, lineCol]

theorem spanOk_flat_bounds {lo hi : Nat} {ps : List Pair} (h : SpanOk lo hi ps) :
    ∀ p ∈ flatList ps, lo ≤ p.start ∧ p.start ≤ p.stop ∧ p.stop ≤ hi := by
  induction h with
  | nil _ => nofun
  | cons h1 hc hr ih1 ih2 =>
    intro p hp
    rw [flatList, flat, List.cons_append, List.mem_cons, List.mem_append] at hp
    rcases hp with rfl | hp | hp
    · exact ⟨h1, hc.le, hr.le⟩
    · obtain ⟨a, b, c⟩ := ih1 p hp
      exact ⟨Nat.le_trans h1 a, b, Nat.le_trans c hr.le⟩
    · obtain ⟨a, b, c⟩ := ih2 p hp
      exact ⟨Nat.le_trans (Nat.le_trans h1 hc.le) a, b, c⟩

/-! ### `build_type` / `build_type_of` on a pair with exactly one child -/

theorem buildType_single (ctx : Ctx) (fuel : Nat) (r : RuleId) (s e : Nat) (c : Pair) :
    buildType ctx (fuel + 1) (.mk r s e [c]) = buildTypeOf ctx fuel c := rfl

theorem buildTypeOf_named (ctx : Ctx) (fuel : Nat) (s e : Nat) (c : Pair) :
    buildTypeOf ctx (fuel + 1) (.mk R.NamedType s e [c]) = .ok (.named (asString ctx c) (toPos ctx c)) := by
  rw [buildTypeOf]
  rfl

theorem buildTypeOf_list (ctx : Ctx) (fuel : Nat) (s e : Nat) (c : Pair) :
    buildTypeOf ctx (fuel + 1) (.mk R.ListType s e [c]) =
      (buildType ctx fuel c).bind fun t => .ok (.list t (toPos ctx (.mk R.ListType s e [c]))) := by
  rw [buildTypeOf]
  rfl

/-- the dispatch of `NonNullType` has arms for `NamedType` and `ListType` only -/
theorem buildTypeOf_nonNull (ctx : Ctx) (fuel : Nat) (s e : Nat) (c : Pair)
    (hc : c.rule = R.NamedType ∨ c.rule = R.ListType) :
    buildTypeOf ctx (fuel + 1) (.mk R.NonNullType s e [c]) =
      (buildTypeOf ctx fuel c).bind fun t => .ok (.nonNull t) := by
  have : (OC_NonNullType.isEmpty || OC_NonNullType.contains c.rule) = true := by
    rcases hc with h | h <;> rw [h] <;> rfl
  rw [buildTypeOf, if_pos (show (Pair.mk R.NonNullType s e [c]).rule = R.NonNullType from rfl)]
  simp only [onlyChildOf, onlyChild, Pair.children, this, bind, Except.bind, if_true]

theorem allChildrenGo_ok {r : RuleId} : ∀ {pss : List Pair}, (∀ x ∈ pss, x.rule = r) → allChildrenGo r pss = .ok ()
  | [], _ => rfl
  | x :: xs, h => by
    rw [allChildrenGo, if_pos (h x (List.mem_cons_self ..))]
    exact allChildrenGo_ok fun y hy => h y (List.mem_cons_of_mem _ hy)

theorem allChildren_ok {r : RuleId} {p : Pair} (h : ∀ c ∈ p.children, c.rule = r) : allChildren r p = .ok p.children := by
  rw [allChildren, allChildrenGo_ok h]
  rfl

/-! ### every pair of a tree (`Pairs::flatten`) -/

theorem flat_sub_flatList {q c : Pair} : ∀ {cs : List Pair}, c ∈ cs → q ∈ flat c → q ∈ flatList cs := by
  intro cs
  induction cs with
  | nil => intro h; cases h
  | cons x cs ih =>
    intro hc hq
    simp only [flatList, List.mem_append]
    rcases List.mem_cons.mp hc with rfl | hc
    · exact Or.inl hq
    · exact Or.inr (ih hc hq)

theorem self_mem_flat (p : Pair) : p ∈ flat p := by
  cases p; simp [flat]

theorem child_flat {p c q : Pair} (hc : c ∈ p.children) (hq : q ∈ flat c) : q ∈ flat p := by
  cases p with
  | mk r s e cs =>
    simp only [flat, List.mem_cons]
    exact Or.inr (flat_sub_flatList hc hq)

theorem mem_flatList {q : Pair} : ∀ {ps : List Pair}, q ∈ flatList ps → ∃ c ∈ ps, q ∈ flat c := by
  intro ps
  induction ps with
  | nil => intro h; simp [flatList] at h
  | cons p ps ih =>
    intro h
    simp only [flatList, List.mem_append] at h
    rcases h with h | h
    · exact ⟨p, List.mem_cons_self .., h⟩
    · obtain ⟨c, hc, hq⟩ := ih h
      exact ⟨c, List.mem_cons_of_mem _ hc, hq⟩

mutual
theorem flat_hered {Q : Pair → Prop} (hQ : ∀ {p c}, Q p → c ∈ p.children → Q c) : (p : Pair) → Q p → ∀ q ∈ flat p, Q q
  | .mk r s e cs => fun h q hq => by
    simp only [flat, List.mem_cons] at hq
    rcases hq with rfl | hq
    · exact h
    · exact flatList_hered hQ cs (fun c hc => hQ h hc) q hq
theorem flatList_hered {Q : Pair → Prop} (hQ : ∀ {p c}, Q p → c ∈ p.children → Q c) :
    (ps : List Pair) → (∀ c ∈ ps, Q c) → ∀ q ∈ flatList ps, Q q
  | [] => fun _ q hq => by simp [flatList] at hq
  | p :: ps => fun h q hq => by
    simp only [flatList, List.mem_append] at hq
    rcases hq with hq | hq
    · exact flat_hered hQ p (h p (List.mem_cons_self ..)) q hq
    · exact flatList_hered hQ ps (fun c hc => h c (List.mem_cons_of_mem _ hc)) q hq
end

end NitroVerif.Build
