import NitroVerif.Lemmas.CheckOp
import NitroVerif.Lemmas.Collects
import NitroVerif.Lemmas.Search
/-!
Closures by rounds over the spread graph of a document: the reference validator's `reachable` / `reachableFlat`
(`Valid.closure`) and the model's `usedFragments` (`usedIter`) iterate "add the successors of everything in the list,
without duplicates". Such rounds are a search by rounds in the sense of `Lemmas/Search.lean`: with more rounds than the
carrier of the successor function has elements the list is a finished search, and a closed list without duplicates is a
fixed point of the round function as a LIST, because the de-duplicating fold only appends. Hence the validator's closures
are exactly the reachability relations `SpecReach` / `SpecFlatReach` (no fuel in what the C03 theorems conclude), and
`usedFragments` does not depend on its number of rounds.
-/
namespace NitroVerif.CheckOp
open NitroVerif.Gql NitroVerif.CheckCommon NitroVerif.Valid

/-- with unique fragment names the reference validator's lookup (first definition) and the checker's
    `fragment_map` (last definition) agree -/
theorem frag?_eq_fragMap {D : Doc} (hnd : nodupB (fragNamesOf D) = true) (n : Name) :
    Valid.frag? D n = fragMap D n := by
  cases hm : fragMap D n with
  | none =>
    have := List.find?_eq_none.mp hm
    exact List.find?_eq_none.mpr fun x hx => this x (List.mem_reverse.mpr hx)
  | some f =>
    obtain ⟨hf, hfn⟩ := fragMap_eq_some hm
    exact find?_of_unique hf (by simp [hfn]) fun x hx hp =>
      eq_of_key_eq_of_nodup (fun g : FragmentDef => g.name) (l := fragsOf D) ((nodupB_iff_nodup _).mp hnd) hx hf ((beq_iff_eq.mp hp).trans hfn.symm)

theorem spreadNames_cons (s : Selection) (ss : List Selection) :
    spreadNames (s :: ss) = spreadNamesSel s ++ spreadNames ss := by simp only [spreadNames]

theorem spreadsDeep_eq_spreadNames :
    (∀ s, Valid.spreadsDeepSel s = spreadNamesSel s) ∧ (∀ ss, Valid.spreadsDeep ss = spreadNames ss) := by
  apply Selection.size.mutual_induct <;> intros <;> simp_all [Valid.spreadsDeepSel, Valid.spreadsDeep, spreadNamesSel, spreadNames]

theorem spreadsDeep_eq' (ss : List Selection) : Valid.spreadsDeep ss = spreadNames ss :=
  spreadsDeep_eq_spreadNames.2 ss

theorem mem_foldl_dedup_iff {x : Name} (xs acc : List Name) :
    x ∈ xs.foldl (fun acc x => if acc.contains x then acc else acc ++ [x]) acc ↔ x ∈ acc ∨ x ∈ xs := by
  simpa using foldl_dedup_mem (fun x : Name => x) xs acc x

theorem mem_foldl_dedup_of {x : Name} (xs acc : List Name) (h : x ∈ acc ∨ x ∈ xs) :
    x ∈ xs.foldl (fun acc x => if acc.contains x then acc else acc ++ [x]) acc :=
  (mem_foldl_dedup_iff xs acc).mpr h

theorem mem_dedupNames {x : Name} {xs : List Name} (h : x ∈ dedupNames xs) : x ∈ xs :=
  ((mem_foldl_dedup_iff xs []).mp h).resolve_left List.not_mem_nil

theorem mem_dedup {x : Name} {xs : List Name} (h : x ∈ Valid.dedup xs) : x ∈ xs :=
  mem_dedupNames h

theorem mem_dedupNames_iff {x : Name} {xs : List Name} : x ∈ dedupNames xs ↔ x ∈ xs :=
  ⟨mem_dedupNames, fun h => mem_foldl_dedup_of xs [] (Or.inr h)⟩

theorem closure_subset (next : Name → List Name) : ∀ (k : Nat) (acc : List Name) (x : Name), x ∈ acc →
    x ∈ Valid.closure next k acc := by
  intro k
  induction k with
  | zero => intro acc x hx; exact hx
  | succ k ih =>
    intro acc x hx
    simp only [Valid.closure]
    exact ih _ x (mem_foldl_dedup_of _ [] (Or.inr (List.mem_append_left _ hx)))

abbrev dedupStep (acc : List Name) (x : Name) : List Name := if acc.contains x then acc else acc ++ [x]

theorem foldl_dedup_nodup (xs init : List Name) (h : init.Nodup) : (xs.foldl dedupStep init).Nodup :=
  (collects_dedup fun x : Name => x).nodup xs init h

theorem foldl_dedup_fixed : ∀ (xs init : List Name), (∀ x ∈ xs, x ∈ init) → xs.foldl dedupStep init = init := by
  intro xs
  induction xs with
  | nil => intro _ _; rfl
  | cons x xs ih =>
    intro init h
    simp only [List.foldl_cons]
    have hx : init.contains x = true := by simpa using h x (by simp)
    have : dedupStep init x = init := by simp only [dedupStep, hx, if_true]
    rw [this]
    exact ih init (fun y hy => h y (List.mem_cons_of_mem _ hy))

theorem foldl_dedup_of_nodup (xs init : List Name) (h : (init ++ xs).Nodup) : xs.foldl dedupStep init = init ++ xs := by
  have e := (collects_dedup fun x : Name => x).eq_append xs init (fun _ _ => not_false)
  rw [List.map_id'] at e
  exact e h

theorem dedupNames_append_fixed {acc ys : List Name} (hnd : acc.Nodup) (hsub : ∀ y ∈ ys, y ∈ acc) :
    dedupNames (acc ++ ys) = acc := by
  unfold dedupNames
  rw [List.foldl_append]
  have h1 := foldl_dedup_of_nodup acc [] (by simpa using hnd)
  simp only [List.nil_append] at h1
  show List.foldl dedupStep (List.foldl dedupStep [] acc) ys = acc
  rw [h1]
  exact foldl_dedup_fixed ys acc hsub

section generic
variable (next : Name → List Name)

/-- one round of `Valid.closure` -/
def closStep (acc : List Name) : List Name := Valid.dedup (acc ++ acc.flatMap next)

theorem closure_succ (k : Nat) (acc : List Name) : Valid.closure next (k + 1) acc = Valid.closure next k (closStep next acc) := rfl

theorem closure_succ' : ∀ (k : Nat) (acc : List Name), Valid.closure next (k + 1) acc = closStep next (Valid.closure next k acc) := by
  intro k
  induction k with
  | zero => intro acc; rfl
  | succ k ih => intro acc; rw [closure_succ, ih (closStep next acc)]; rfl

theorem closStep_nodup (acc : List Name) : (closStep next acc).Nodup := foldl_dedup_nodup _ [] List.nodup_nil

theorem mem_closStep {acc : List Name} {y : Name} : y ∈ closStep next acc ↔ y ∈ acc ∨ y ∈ acc.flatMap next := by
  constructor
  · intro h; exact List.mem_append.mp (mem_dedup h)
  · intro h; exact mem_foldl_dedup_of _ [] (Or.inr (List.mem_append.mpr h))

theorem closStep_fixed_of {acc : List Name} (hnd : acc.Nodup) (hsub : ∀ y ∈ acc.flatMap next, y ∈ acc) :
    closStep next acc = acc :=
  dedupNames_append_fixed hnd hsub

theorem closure_eq_iter : ∀ (k : Nat) (acc : List Name), Valid.closure next k acc = Search.iter (closStep next) k acc := by
  intro k
  induction k with
  | zero => intro acc; rfl
  | succ k ih => intro acc; exact ih _

variable {next} {dom : List Name} (hdom : ∀ x y, y ∈ next x → x ∈ dom) {bound : Nat} (hb : dom.length ≤ bound)
include hdom hb

/-- after more rounds than the carrier has names the list is a finished search: `Search.Inv` with an empty frontier -/
theorem closure_inv {P : Name → Prop} (hstep : ∀ m, P m → ∀ n ∈ next m, P n) {acc : List Name} (hacc : ∀ x ∈ acc, P x)
    {k : Nat} (hk : bound < k) : Search.Inv next P (fun _ => True) (Valid.closure next k acc) [] := by
  rw [closure_eq_iter]
  exact (Search.iter_closed (fun V y => mem_closStep next) hdom hstep k [] acc (fun _ h => nomatch h)
    ⟨fun x hx => hacc x (hx.resolve_left List.not_mem_nil), fun _ h => nomatch h⟩
    (by have := Search.unseen_le dom []; omega)).2

theorem closure_sound_generic {P : Name → Prop} (hstep : ∀ m, P m → ∀ n ∈ next m, P n) {acc : List Name}
    (hacc : ∀ x ∈ acc, P x) {k : Nat} (hk : bound < k) : ∀ x ∈ Valid.closure next k acc, P x :=
  fun x hx => (closure_inv hdom hb hstep hacc hk).sound x (.inl hx)

theorem closure_is_fixed {acc : List Name} :
    closStep next (Valid.closure next (bound + 1) acc) = Valid.closure next (bound + 1) acc := by
  have hinv := closure_inv hdom hb (P := fun _ => True) (fun _ _ _ _ => trivial) (acc := acc) (fun _ _ => trivial)
    (Nat.lt_succ_self bound)
  apply closStep_fixed_of next (by rw [closure_succ']; exact closStep_nodup next _)
  intro y hy
  obtain ⟨x, hx, hyx⟩ := List.mem_flatMap.mp hy
  exact ((hinv.closed x hx y hyx).resolve_right List.not_mem_nil).1

theorem closure_indep {acc : List Name} :
    ∀ j, Valid.closure next (bound + 1 + j) acc = Valid.closure next (bound + 1) acc := by
  intro j
  induction j with
  | zero => rfl
  | succ j ih => rw [← Nat.add_assoc, closure_succ', ih]; exact closure_is_fixed hdom hb

theorem closure_closed {acc : List Name} {z w : Name} (hz : z ∈ Valid.closure next (bound + 1) acc) (hw : w ∈ next z) :
    w ∈ Valid.closure next (bound + 1) acc := by
  rw [← closure_is_fixed hdom hb (acc := acc)]
  exact (mem_closStep next).mpr (Or.inr (List.mem_flatMap.mpr ⟨z, hz, hw⟩))

end generic

/-- the spreads of the fragment named `n` (none when `n` is not defined) -/
def usedNext (D : Doc) (n : Name) : List Name :=
  match fragMap D n with | some f => spreadNames f.sel | none => []

theorem usedIter_eq_closure (D : Doc) : ∀ (k : Nat) (acc : List Name),
    usedIter D k acc = Valid.closure (usedNext D) k acc := by
  intro k
  induction k with
  | zero => intro acc; rfl
  | succ k ih => intro acc; exact ih _

theorem mem_usedStep {D : Doc} {acc : List Name} {y : Name} :
    y ∈ usedStep D acc ↔ y ∈ acc ∨ y ∈ acc.flatMap (usedNext D) :=
  mem_closStep (usedNext D)

theorem usedIter_nodup {D : Doc} : ∀ (k : Nat) (acc : List Name), acc.Nodup → (usedIter D k acc).Nodup := by
  intro k
  induction k with
  | zero => intro acc h; exact h
  | succ k ih => intro acc _; exact ih _ (closStep_nodup (usedNext D) acc)

theorem usedNext_dom (D : Doc) : ∀ x y, y ∈ usedNext D x → x ∈ fragNamesOf D := by
  intro x y hy
  cases hm : fragMap D x with
  | none => simp [usedNext, hm] at hy
  | some f =>
    obtain ⟨hf, hfn⟩ := fragMap_eq_some hm
    exact List.mem_map.mpr ⟨f, hf, hfn⟩

theorem fragNamesOf_length (D : Doc) : (fragNamesOf D).length ≤ (fragsOf D).length := by simp [fragNamesOf]

theorem usedIter_indep {D : Doc} {acc : List Name} (j : Nat) :
    usedIter D ((fragsOf D).length + 1 + j) acc = usedIter D ((fragsOf D).length + 1) acc := by
  rw [usedIter_eq_closure, usedIter_eq_closure]
  exact closure_indep (usedNext_dom D) (fragNamesOf_length D) j

def usedStart (D : Doc) : List Name := dedupNames ((opsOf D).flatMap fun o => spreadNames o.sel)

theorem usedFragments_eq (D : Doc) : usedFragments D = usedIter D ((fragsOf D).length + 2) (usedStart D) := rfl

theorem usedFragments_fuel {D : Doc} {n : Nat} (hn : (fragsOf D).length + 1 ≤ n) :
    usedIter D n (usedStart D) = usedFragments D := by
  obtain ⟨j, rfl⟩ : ∃ j, n = (fragsOf D).length + 1 + j := ⟨n - ((fragsOf D).length + 1), by omega⟩
  rw [usedIter_indep j, usedFragments_eq, show (fragsOf D).length + 2 = (fragsOf D).length + 1 + 1 from rfl,
    usedIter_indep 1]

/-- the state in which the worklist loop of `fragments_used_by_operations` stops -/
theorem usedFragments_fixed (D : Doc) : usedStep D (usedFragments D) = usedFragments D := by
  rw [usedFragments_eq, show (fragsOf D).length + 2 = (fragsOf D).length + 1 + 1 from rfl, usedIter_indep 1,
    usedIter_eq_closure]
  exact closure_is_fixed (usedNext_dom D) (fragNamesOf_length D)

theorem frag?_mem {D : Doc} {n : Name} {f : FragmentDef} (h : Valid.frag? D n = some f) : f ∈ Valid.frags D ∧ f.name = n := by
  unfold Valid.frag? at h
  refine ⟨List.mem_of_find?_eq_some h, ?_⟩
  have := List.find?_some h
  simpa using this

theorem frag?_mem_frags {D : Doc} {n : Name} {f : FragmentDef} (h : Valid.frag? D n = some f) : f ∈ fragsOf D :=
  (frag?_mem h).1

/-- spread graph of the reference validator, any depth -/
def specNext (D : Doc) (n : Name) : List Name :=
  match Valid.frag? D n with | some f => Valid.spreadsDeep f.sel | none => []
/-- spread graph of the reference validator, top level of selection sets -/
def specNextFlat (D : Doc) (n : Name) : List Name :=
  match Valid.frag? D n with | some f => Valid.spreadsFlat f.sel | none => []

theorem spec_dom {D : Doc} {next : Name → List Name} (hn : ∀ n, Valid.frag? D n = none → next n = []) :
    ∀ x y, y ∈ next x → x ∈ (Valid.frags D).map (·.name) := by
  intro x y hy
  cases hm : Valid.frag? D x with
  | none => rw [hn x hm] at hy; cases hy
  | some f =>
    obtain ⟨hf, hfn⟩ := frag?_mem hm
    exact List.mem_map.mpr ⟨f, hf, hfn⟩

theorem reachable_eq (D : Doc) (ss : List Selection) :
    Valid.reachable D ss = Valid.closure (specNext D) ((Valid.frags D).length + 1) (Valid.dedup (Valid.spreadsDeep ss)) := by
  unfold Valid.reachable Valid.reachFuel
  congr 1

theorem reachableFlat_eq' (D : Doc) (ss : List Selection) :
    Valid.reachableFlat D ss =
      Valid.closure (specNextFlat D) ((Valid.frags D).length + 1) (Valid.dedup (Valid.spreadsFlat ss)) := by
  unfold Valid.reachableFlat Valid.reachFuel
  congr 1

/-- `n` is reached from the selection set `ss0` through fragment spreads at any depth (reference validator's lookup):
    the reference validator's closure `Valid.reachable` as a relation (`mem_reachable_iff`) -/
inductive SpecReach (D : Doc) (ss0 : List Selection) : Name → Prop
  | base {n : Name} : n ∈ Valid.spreadsDeep ss0 → SpecReach D ss0 n
  | step {m n : Name} {g : FragmentDef} : SpecReach D ss0 m → Valid.frag? D m = some g → n ∈ Valid.spreadsDeep g.sel →
      SpecReach D ss0 n

/-- `n` is reached from the top level of `ss0` through top-level fragment spreads (spec `CollectFields`): the reference
    validator's closure `Valid.reachableFlat` as a relation (`mem_reachableFlat_iff`) -/
inductive SpecFlatReach (D : Doc) (ss0 : List Selection) : Name → Prop
  | base {n : Name} : n ∈ Valid.spreadsFlat ss0 → SpecFlatReach D ss0 n
  | step {m n : Name} {g : FragmentDef} : SpecFlatReach D ss0 m → Valid.frag? D m = some g → n ∈ Valid.spreadsFlat g.sel →
      SpecFlatReach D ss0 n

theorem mem_reachable_iff (D : Doc) (ss : List Selection) (n : Name) : n ∈ Valid.reachable D ss ↔ SpecReach D ss n := by
  rw [reachable_eq]
  constructor
  · intro h
    refine closure_sound_generic (spec_dom (D := D) (next := specNext D) fun m hm => by simp only [specNext, hm])
      (Nat.le_of_eq (by simp)) (P := SpecReach D ss) ?_ ?_ (Nat.lt_succ_self _) n h
    · intro m hm x hx
      simp only [specNext] at hx
      cases hg : Valid.frag? D m with
      | none => simp [hg] at hx
      | some g => simp only [hg] at hx; exact SpecReach.step hm hg hx
    · intro x hx; exact SpecReach.base (mem_dedup hx)
  · intro h
    have hdom := spec_dom (D := D) (next := specNext D) fun m hm => by simp only [specNext, hm]
    induction h with
    | base hn => exact closure_subset _ _ _ _ (mem_foldl_dedup_of _ [] (Or.inr hn))
    | step _ hg hn ih => exact closure_closed hdom (by simp) ih (by simp only [specNext, hg]; exact hn)

theorem mem_reachableFlat_iff (D : Doc) (ss : List Selection) (n : Name) :
    n ∈ Valid.reachableFlat D ss ↔ SpecFlatReach D ss n := by
  rw [reachableFlat_eq']
  constructor
  · intro h
    refine closure_sound_generic (spec_dom (D := D) (next := specNextFlat D) fun m hm => by simp only [specNextFlat, hm])
      (Nat.le_of_eq (by simp)) (P := SpecFlatReach D ss) ?_ ?_ (Nat.lt_succ_self _) n h
    · intro m hm x hx
      simp only [specNextFlat] at hx
      cases hg : Valid.frag? D m with
      | none => simp [hg] at hx
      | some g => simp only [hg] at hx; exact SpecFlatReach.step hm hg hx
    · intro x hx; exact SpecFlatReach.base (mem_dedup hx)
  · intro h
    have hdom := spec_dom (D := D) (next := specNextFlat D) fun m hm => by simp only [specNextFlat, hm]
    induction h with
    | base hn => exact closure_subset _ _ _ _ (mem_foldl_dedup_of _ [] (Or.inr hn))
    | step _ hg hn ih => exact closure_closed hdom (by simp) ih (by simp only [specNextFlat, hg]; exact hn)

theorem mem_validRootKeys_iff (D : Doc) (ss : List Selection) (key : Name) :
    key ∈ Valid.rootKeys D ss ↔
      key ∈ keysFlat ss ∨ ∃ n f, SpecFlatReach D ss n ∧ Valid.frag? D n = some f ∧ key ∈ keysFlat f.sel := by
  unfold Valid.rootKeys
  constructor
  · intro hk
    rcases List.mem_append.mp (mem_dedup hk) with hk | hk
    · exact Or.inl hk
    · obtain ⟨n, hn, hkn⟩ := List.mem_flatMap.mp hk
      cases hf : Valid.frag? D n with
      | none => simp [hf] at hkn
      | some f =>
        simp only [hf] at hkn
        exact Or.inr ⟨n, f, (mem_reachableFlat_iff D ss n).mp hn, hf, hkn⟩
  · rintro (hk | ⟨n, f, hr, hf, hk⟩)
    · exact mem_foldl_dedup_of _ [] (Or.inr (List.mem_append_left _ hk))
    · refine mem_foldl_dedup_of _ [] (Or.inr (List.mem_append_right _ (List.mem_flatMap.mpr ⟨n, ?_, ?_⟩)))
      · exact (mem_reachableFlat_iff D ss n).mpr hr
      · simp only [hf]; exact hk

section
variable {D : Doc} (hnd : nodupB (fragNamesOf D) = true)
include hnd

theorem reachable_facts (ss : List Selection) :
    (∀ n ∈ spreadNames ss, n ∈ Valid.reachable D ss) ∧
    (∀ m g n, m ∈ Valid.reachable D ss → fragMap D m = some g → n ∈ spreadNames g.sel → n ∈ Valid.reachable D ss) :=
  ⟨fun n hn => (mem_reachable_iff D ss n).mpr (.base (by rw [spreadsDeep_eq']; exact hn)),
   fun m g n hm hg hn => (mem_reachable_iff D ss n).mpr
    (.step ((mem_reachable_iff D ss m).mp hm) (by rw [frag?_eq_fragMap hnd]; exact hg)
      (by rw [spreadsDeep_eq']; exact hn))⟩

theorem reachableFlat_facts (ss : List Selection) :
    (∀ n ∈ spreadsFlat ss, n ∈ Valid.reachableFlat D ss) ∧
    (∀ m g n, m ∈ Valid.reachableFlat D ss → fragMap D m = some g → n ∈ spreadsFlat g.sel → n ∈ Valid.reachableFlat D ss) :=
  ⟨fun n hn => (mem_reachableFlat_iff D ss n).mpr (.base hn),
   fun m g n hm hg hn => (mem_reachableFlat_iff D ss n).mpr
    (.step ((mem_reachableFlat_iff D ss m).mp hm) (by rw [frag?_eq_fragMap hnd]; exact hg) hn)⟩
end

end NitroVerif.CheckOp
