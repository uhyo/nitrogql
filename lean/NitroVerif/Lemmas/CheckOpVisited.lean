import NitroVerif.Lemmas.CheckOpReach
/-!
Accepted documents: what `checkOp S D = []` says about each definition, and the "every selection set of the
document was visited with its correct type in scope" theorems the rule proofs rest on.
-/
namespace NitroVerif.CheckOp
open NitroVerif.Gql NitroVerif.CheckCommon NitroVerif.Valid

theorem fragMap_of_mem {D : Doc} (hnd : nodupB (fragNamesOf D) = true) {f : FragmentDef} (hf : f ∈ fragsOf D) :
    fragMap D f.name = some f := by
  rw [← frag?_eq_fragMap hnd]
  exact find?_key_of_nodup (fun g : FragmentDef => g.name) ((nodupB_iff_nodup _).mp hnd) hf

section
variable {S : Schema} {D : Doc} (h : checkOp S D = [])
include h

theorem accepted_nodup : nodupB (fragNamesOf D) = true := (checkDefs_fragNames (S := S) (D := D) D [] h).2

theorem accepted_frag {f : FragmentDef} (hf : f ∈ fragsOf D) :
    ((usedFragments D).contains f.name = false →
      Quiet allowUV (checkDirectives S none f.dirs "FRAGMENT_DEFINITION")) ∧
    ∃ ct, S.typeDef? f.cond = some ct ∧ (directFields ct).isSome = true ∧
      ((usedFragments D).contains f.name = false →
        Quiet allowUV (checkSelectionSet S (spreadHandler S D (fuelFor D)) [f.name] none ct f.sel f.pos)) := by
  obtain ⟨_, hb⟩ := checkDefs_mem D [] h _ (mem_fragsOf.mp hf)
  simp only [defBody, checkFragmentDefinition] at hb
  obtain ⟨hd, hb⟩ := List.append_eq_nil_iff.mp hb
  refine ⟨fun hu => by rw [hu] at hd; exact quiet_uv_iff.mp (by simpa using hd), ?_⟩
  cases ht : S.typeDef? f.cond with
  | none => simp [ht] at hb
  | some t =>
    simp only [ht] at hb
    cases hdf : (directFields t).isSome with
    | false => simp [hdf] at hb
    | true =>
      refine ⟨t, rfl, hdf, ?_⟩
      intro hu
      simp only [hdf, if_true, hu, Bool.false_eq_true, if_false] at hb
      exact quiet_uv_iff.mp hb

theorem accepted_condsDefined : CondsDefined S D := by
  intro f hf
  obtain ⟨_, ct, hct, _⟩ := accepted_frag h hf
  exact ⟨ct, hct⟩

theorem accepted_op {o : OperationDef} (ho : o ∈ opsOf D) :
    checkDirectives S (some o.vars) o.dirs (opLocation o.kind) = [] ∧
    checkVariablesAux S [] o.vars = [] ∧
    (o.kind == .subscription && hasMoreThanOneField D o.sel) = false ∧
    Fine S D allowNone (some o.vars) [] (S.rootName o.kind) o.sel := by
  obtain ⟨root, hroot, h1, h2, h3, h4⟩ := accepted_operation h ho
  exact ⟨h1, h2, h3, (fine_iff_model admissible_none (accepted_condsDefined h) hroot).mp (quiet_none_iff.mpr h4)⟩

theorem op_fine {o : OperationDef} (ho : o ∈ opsOf D) : Fine S D allowNone (some o.vars) [] (S.rootName o.kind) o.sel :=
  (accepted_op h ho).2.2.2

/-- every fragment definition of an accepted document is fine with its own name on the stack: as a fragment some
    operation reaches, or directly when none does -/
theorem frag_walked {f : FragmentDef} (hf : f ∈ fragsOf D) :
    ∃ A vars seen, Admissible A ∧ f.name ∈ seen ∧
      Quiet A (checkDirectives S vars f.dirs "FRAGMENT_DEFINITION") ∧ Fine S D A vars seen f.cond f.sel := by
  obtain ⟨hdu, ct, hct, _, hun⟩ := accepted_frag h hf
  cases hu : (usedFragments D).contains f.name with
  | false =>
    exact ⟨allowUV, none, [f.name], admissible_uv, by simp, hdu hu,
      (fine_iff_model admissible_uv (accepted_condsDefined h) hct).mp (hun hu)⟩
  | true =>
    obtain ⟨o, ho, hr⟩ := usedFragments_sound (accepted_nodup h) (by simpa using hu)
    obtain ⟨_, seen, f', hm, _, hmem, hd, hq'⟩ := (op_fine h ho).reach admissible_none (accepted_nodup h) hr
    rw [fragMap_of_mem (accepted_nodup h) hf] at hm
    cases hm
    exact ⟨allowNone, some o.vars, seen, admissible_none, hmem, hd, hq'⟩

/-- every selection the reference validator lists for the document (`allCtxs`) was visited in its scope, a defined
    composite type, and passed its local test — up to `UnknownVariable` where no operation is in scope -/
theorem all_visited (hS : NoReservedFields S) {p : Option Name} {s : Selection} (hps : (p, s) ∈ allSels (allCtxs S D)) :
    ∃ A vars t root fields, Admissible A ∧ p = some t ∧ S.typeDef? t = some root ∧
      directFields root = some fields ∧ SiteFact S A (spreadLocal S D) [] vars root fields s := by
  simp only [allCtxs, allSels, List.mem_flatMap] at hps
  obtain ⟨c, ⟨d, hd, hc⟩, hpc⟩ := hps
  have hpc' : (p, s) ∈ allSels (ctxsOfDef S d) := by
    simp only [allSels, List.mem_flatMap]; exact ⟨c, hc, hpc⟩
  cases d with
  | imp i => simp [ctxsOfDef, allSels] at hpc'
  | op o =>
    have ho : o ∈ opsOf D := by simp only [opsOf, List.mem_filterMap]; exact ⟨_, hd, rfl⟩
    obtain ⟨t, root, fields, hl⟩ := localFact_scoped ((op_fine h ho).set.2 _ ((mem_sitesOf_root hS).mpr hpc'))
    exact ⟨allowNone, some o.vars, t, root, fields, admissible_none, hl⟩
  | frag f =>
    have hf : f ∈ fragsOf D := by simp only [fragsOf, List.mem_filterMap]; exact ⟨_, hd, rfl⟩
    obtain ⟨A, vars, seen, hA, _, _, hq⟩ := frag_walked h hf
    obtain ⟨t, root, fields, hl⟩ := localFact_scoped (hq.set.2 _ ((mem_sitesOf_root hS).mpr hpc'))
    exact ⟨A, vars, t, root, fields, hA, hl⟩

/-- **Every selection in the scope of an operation was visited with that operation's variables**, and with no
    diagnostic at all. -/
theorem op_scope_visited (hS : NoReservedFields S) {o : OperationDef} (ho : o ∈ opsOf D) {p : Option Name}
    {s : Selection} (hps : (p, s) ∈ allSels (opCtxs S D o)) :
    ∃ t root fields, p = some t ∧ S.typeDef? t = some root ∧ directFields root = some fields ∧
      SiteFact S allowNone (spreadLocal S D) [] (some o.vars) root fields s := by
  have hq := op_fine h ho
  simp only [opCtxs, allSels_append, List.mem_append] at hps
  rcases hps with hps | hps
  · exact localFact_scoped (hq.set.2 _ ((mem_sitesOf_root hS).mpr hps))
  · simp only [allSels, List.mem_flatMap] at hps
    obtain ⟨c, ⟨n, hn, hc⟩, hpc⟩ := hps
    obtain ⟨_, seen, f, hm, _, _, _, hq'⟩ := hq.reach admissible_none (accepted_nodup h) ((mem_reachable_iff D _ n).mp hn)
    rw [frag?_eq_fragMap (accepted_nodup h), hm] at hc
    refine localFact_scoped (hq'.set.2 _ ((mem_sitesOf_root hS).mpr ?_))
    simp only [allSels, List.mem_flatMap]
    exact ⟨c, hc, hpc⟩
end

theorem schemaValid_noReserved {S : Schema} (h : SchemaValid S) : NoReservedFields S := by
  unfold SchemaValid schemaValidB at h
  exact (Bool.and_eq_true _ _ ▸ h).1

theorem schemaValid_uniqueArgs {S : Schema} (h : SchemaValid S) : uniqueArgNamesB S = true := by
  unfold SchemaValid schemaValidB at h
  have h2 := (Bool.and_eq_true _ _ ▸ h).2
  exact (Bool.and_eq_true _ _ ▸ h2).1

theorem inline_cond_ok {S : Schema} {D : Doc} (hS : SchemaValid S) (h : checkOp S D = []) :
    ∀ ps ∈ allSels (allCtxs S D), ∀ c cp dirs ss pos, ps.2 = Selection.inline (some (c, cp)) dirs ss pos →
      ∃ ct, S.typeDef? c = some ct ∧ (directFields ct).isSome = true := by
  rintro ⟨p, s⟩ hps c cp dirs ss pos hs
  simp only at hs
  subst hs
  obtain ⟨_, _, _, _, _, _, _, _, _, _, ct, hct, _, hd⟩ := all_visited h (schemaValid_noReserved hS) hps
  exact ⟨ct, hct, hd⟩

theorem directFields_isSome_composite {td : TypeDef} (h : (directFields td).isSome = true) :
    isCompositeKind td.kind = true := by
  unfold directFields at h
  cases hk : td.kind <;> simp [hk, isCompositeKind] at h ⊢

theorem typeConditions_ok {S : Schema} {D : Doc} (hS : SchemaValid S) (h : checkOp S D = []) :
    ∀ c ∈ typeConditions S D, ∃ ct, S.typeDef? c = some ct ∧ (directFields ct).isSome = true := by
  intro c hc
  simp only [typeConditions, List.mem_append, List.mem_map, List.mem_filterMap] at hc
  rcases hc with ⟨f, hf, rfl⟩ | ⟨ps, hps, hc⟩
  · obtain ⟨_, ct, hct, hd, _⟩ := accepted_frag h (by rw [← frags_eq]; exact hf)
    exact ⟨ct, hct, hd⟩
  · obtain ⟨p, s⟩ := ps
    cases s with
    | field | spread => simp at hc
    | inline cond dirs ss pos =>
      cases cond with
      | none => simp at hc
      | some cc =>
        obtain ⟨c', cp⟩ := cc
        simp only [Option.some.injEq] at hc
        subst hc
        exact inline_cond_ok hS h _ hps c' cp dirs ss pos rfl

end NitroVerif.CheckOp
