/-
C15: the WHOLE schema declaration file (`SchemaDecls.schemaFile`) on the two routes, in closed form over the same
per-definition blocks: declaration order inside every namespace and among the representative aliases.
-/
import NitroVerif.Lemmas.RoutesSchemaDecls
namespace NitroVerif.Bridge
open NitroVerif NitroVerif.Gql NitroVerif.SchemaIR NitroVerif.AstSchema NitroVerif.SchemaDecls NitroVerif.DeclCfg
open NitroVerif.IntrospectSpec NitroVerif.Routes NitroVerif.CliSchema NitroVerif.Ts
open NitroVerif.DeterminismDecls (Block blockOf OkAt AllOk nsBlocks nsStmt repBlocks preludeWith schemaFile_ok)

theorem blockOf_routes {c : Cfg} {M : TsDoc} (h : DeclsOk c M) (t : Target) (td : TypeDef) :
    blockOf (Ctx.new c (docJson M) t) (twin td) = blockOf (Ctx.new c (docSdl M) t) td := by
  unfold blockOf
  rw [printType_routes h t td]

theorem allOk_of_okB (c : Cfg) (doc : TsDoc) (h : okB (schemaFile c doc) = true) : AllOk c doc Target.all :=
  (allOk_iff_okB c doc).mpr h

theorem allOk_json {c : Cfg} {M : TsDoc} (h : DeclsOk c M) (hok : AllOk c (docSdl M) Target.all) :
    AllOk c (docJson M) Target.all :=
  allOk_of_okB c _ (by rw [← schemaFile_ok_routes h, schemaFile_ok c _ hok]; rfl)

/-! ### the per-definition pieces -/

/-- the blocks of the definitions of `M` in namespace `t`, as the SDL route prints them -/
def userBlocks (c : Cfg) (M : TsDoc) (t : Target) : List Block :=
  (typeDefsOf M).map (blockOf (Ctx.new c (docSdl M) t))
/-- the block of the built-in scalar `n` in namespace `t`, as the SDL route prints it -/
def scalarBlock (c : Cfg) (M : TsDoc) (t : Target) (n : String) : Block :=
  blockOf (Ctx.new c (docSdl M) t) (scalarDefS n)
/-- the blocks of the eight `__*` definitions in namespace `t` (JSON route only) -/
def introBlocks (c : Cfg) (M : TsDoc) (t : Target) : List Block :=
  introDefs.map (blockOf (Ctx.new c (docJson M) t))

def userReps (c : Cfg) (M : TsDoc) : List Block :=
  (typeDefsOf M).map (representative (Ctx.new c (docSdl M) .operationOutput))
def scalarRep (c : Cfg) (M : TsDoc) (n : String) : Block :=
  representative (Ctx.new c (docSdl M) .operationOutput) (scalarDefS n)
def introReps (c : Cfg) (M : TsDoc) : List Block :=
  introDefs.map (representative (Ctx.new c (docJson M) .operationOutput))

/-- the blocks of namespace `t` on the SDL route -/
def sdlNs (c : Cfg) (M : TsDoc) (t : Target) : String × List Block :=
  (t.name, userBlocks c M t ++ builtinScalarNames.map (scalarBlock c M t))
/-- … and on the JSON route -/
def jsonNs (c : Cfg) (M : TsDoc) (t : Target) : String × List Block :=
  (t.name, userBlocks c M t ++ (refNames M).map (scalarBlock c M t) ++ introBlocks c M t ++
    (restNames M).map (scalarBlock c M t))

theorem nsBlocks_sdl (c : Cfg) (M : TsDoc) (t : Target) : nsBlocks c (docSdl M) t = sdlNs c M t :=
  congrArg (Prod.mk t.name) (map_typeDefsOf_docSdl _ M)

theorem nsBlocks_json {c : Cfg} {M : TsDoc} (h : DeclsOk c M) (t : Target) : nsBlocks c (docJson M) t = jsonNs c M t :=
  congrArg (Prod.mk t.name) (map_typeDefsOf_docJson (blockOf_routes h t) h.order)

theorem repBlocks_sdl (c : Cfg) (M : TsDoc) :
    repBlocks c (docSdl M) = userReps c M ++ builtinScalarNames.map (scalarRep c M) :=
  map_typeDefsOf_docSdl _ M

theorem repBlocks_json {c : Cfg} {M : TsDoc} (h : DeclsOk c M) :
    repBlocks c (docJson M) =
      userReps c M ++ (refNames M).map (scalarRep c M) ++ introReps c M ++ (restNames M).map (scalarRep c M) :=
  map_typeDefsOf_docJson (fun td => (representative_routes h td).symm) h.order

theorem schemaFile_routes_closed {c : Cfg} {M : TsDoc} (h : DeclsOk c M) (hok : AllOk c (docSdl M) Target.all) :
    schemaFile c (docSdl M) = .ok (preludeWith (schemaMetadata (docSdl M)) ++ (Target.all.map (sdlNs c M)).map nsStmt ++
      (userReps c M ++ builtinScalarNames.map (scalarRep c M)).flatten) ∧
    schemaFile c (docJson M) = .ok (preludeWith (schemaMetadata (docJson M)) ++ (Target.all.map (jsonNs c M)).map nsStmt ++
      (userReps c M ++ (refNames M).map (scalarRep c M) ++ introReps c M ++ (restNames M).map (scalarRep c M)).flatten) := by
  constructor
  · rw [schemaFile_ok c _ hok, repBlocks_sdl, show nsBlocks c (docSdl M) = sdlNs c M from funext (nsBlocks_sdl c M)]
  · rw [schemaFile_ok c _ (allOk_json h hok), repBlocks_json h,
      show nsBlocks c (docJson M) = jsonNs c M from funext (nsBlocks_json h)]

end NitroVerif.Bridge
