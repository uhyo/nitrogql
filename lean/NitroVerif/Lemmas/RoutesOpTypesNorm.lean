/-
C15: selection trees modulo the source positions inside leaf types (`normTree`), and the fact that merging
(`deep_merge.rs`) never looks at a leaf's type: it commutes with `normTree`.  The printed TypeScript type does not
depend on those positions (`toTs_normTree`).
-/
import NitroVerif.Lemmas.RoutesExcept
import NitroVerif.Model.OpTypes
namespace NitroVerif.Bridge
open NitroVerif NitroVerif.Gql NitroVerif.OpTypes

mutual
/-- the tree with the positions inside its leaf types erased -/
def normTree : SelTree → SelTree
  | .nonNull t => .nonNull (normTree t)
  | .list t => .list (normTree t)
  | .object bs => .object (normBranches bs)
def normBranches : List Branch → List Branch
  | [] => []
  | b :: bs => normBranch b :: normBranches bs
def normBranch : Branch → Branch
  | .mk n v u a => .mk n v (normFields u) (normFields a)
def normFields : List SField → List SField
  | [] => []
  | f :: fs => normField f :: normFields fs
def normField : SField → SField
  | .empty n => .empty n
  | .leaf n ty b => .leaf n ty.erasePos b
  | .object n sel => .object n (normTree sel)
end

theorem normBranches_eq (bs : List Branch) : normBranches bs = bs.map normBranch := by
  induction bs with
  | nil => rfl
  | cons b r ih => simp [normBranches, ih]

theorem normFields_eq (fs : List SField) : normFields fs = fs.map normField := by
  induction fs with
  | nil => rfl
  | cons b r ih => simp [normFields, ih]

@[simp] theorem normTree_object (bs : List Branch) : normTree (.object bs) = .object (bs.map normBranch) := by
  simp [normTree, normBranches_eq]

@[simp] theorem normBranch_mk (n : Name) (v : List (Name × Bool)) (u a : List SField) :
    normBranch (.mk n v u a) = .mk n v (u.map normField) (a.map normField) := by
  simp [normBranch, normFields_eq]

@[simp] theorem normField_name (f : SField) : (normField f).name = f.name := by
  cases f <;> rfl

@[simp] theorem normBranch_typeName (b : Branch) : (normBranch b).typeName = b.typeName := by
  cases b; simp [Branch.typeName]
@[simp] theorem normBranch_vars (b : Branch) : (normBranch b).vars = b.vars := by
  cases b; simp [Branch.vars]
@[simp] theorem normBranch_unaliased (b : Branch) : (normBranch b).unaliased = b.unaliased.map normField := by
  cases b; simp [Branch.unaliased]
@[simp] theorem normBranch_aliased (b : Branch) : (normBranch b).aliased = b.aliased.map normField := by
  cases b; simp [Branch.aliased]

/-! ### merging commutes with `normTree` -/

/-- `mt'` is `mt` on normalised trees -/
def MtComm (mt mt' : SelTree → SelTree → Except Panic SelTree) : Prop :=
  ∀ l r, mt' (normTree l) (normTree r) = (mt l r).map normTree

variable {mt mt' : SelTree → SelTree → Except Panic SelTree}

theorem mergeFieldsWith_comm (h : MtComm mt mt') (a b : SField) :
    mergeFieldsWith mt' (normField a) (normField b) = (mergeFieldsWith mt a b).map normField := by
  cases a <;> cases b <;> simp only [normField, mergeFieldsWith] <;> try rfl
  rename_i n l m r
  exact comm_bind (h l r) (fun x _ => rfl)

theorem mergeInto_comm (h : MtComm mt mt') (f : SField) : ∀ (gs : List SField),
    mergeInto mt' (normField f) (gs.map normField) = (mergeInto mt f gs).map (List.map normField)
  | [] => rfl
  | g :: gs => by
    simp only [List.map_cons, mergeInto, normField_name]
    split
    · exact comm_bind (mergeFieldsWith_comm h g f) (fun x _ => rfl)
    · exact comm_bind (mergeInto_comm h f gs) (fun x _ => rfl)

theorem any_name_norm (acc : List SField) (n : Name) :
    (acc.map normField).any (·.name == n) = acc.any (·.name == n) := by
  simp [List.any_map, Function.comp_def]

theorem deepMergeGo_comm (h : MtComm mt mt') : ∀ (fs acc : List SField),
    deepMergeGo mt' (fs.map normField) (acc.map normField) = (deepMergeGo mt fs acc).map (List.map normField)
  | [], acc => rfl
  | f :: fs, acc => by
    simp only [List.map_cons, deepMergeGo, normField_name, any_name_norm]
    split
    · exact comm_bind (mergeInto_comm h f acc) (fun x _ => deepMergeGo_comm h fs x)
    · have := deepMergeGo_comm h fs (acc ++ [f])
      simpa using this

theorem deepMergeWith_comm (h : MtComm mt mt') (fs : List SField) :
    deepMergeWith mt' (fs.map normField) = (deepMergeWith mt fs).map (List.map normField) :=
  deepMergeGo_comm h fs []

theorem filter_typeName_norm (right : List Branch) (p : Name → Bool) :
    (right.map normBranch).filter (fun b => p b.typeName) = (right.filter (fun b => p b.typeName)).map normBranch := by
  rw [List.filter_map]
  simp [Function.comp_def]

theorem mergeBranchesWith_comm (h : MtComm mt mt') (left right : List Branch) :
    mergeBranchesWith mt' (left.map normBranch) (right.map normBranch)
      = (mergeBranchesWith mt left right).map (List.map normBranch) := by
  unfold mergeBranchesWith
  refine comm_bind (g := List.map normBranch) (h := List.map (List.map normBranch))
    (comm_mapM (h := normBranch) (g := List.map normBranch) (fun lb _ => ?_)) (fun merged _ => ?_)
  · simp only [normBranch_typeName, normBranch_vars, normBranch_unaliased, normBranch_aliased]
    rw [filter_typeName_norm right (fun n => n == lb.typeName)]
    simp only [List.isEmpty_map]
    split
    · simp [Except.map]
    · refine comm_filterMapM (fun rb _ => ?_)
      simp only [normBranch_vars, normBranch_unaliased, normBranch_aliased]
      cases unifyVars lb.vars rb.vars with
      | none => rfl
      | some vars =>
        simp only [← List.map_append]
        refine comm_bind (deepMergeWith_comm h _) (fun u _ => ?_)
        refine comm_bind (deepMergeWith_comm h _) (fun a _ => ?_)
        simp [Except.map]
  · have hf : (right.map normBranch).filter (fun rb => !(left.map normBranch).any (·.typeName == rb.typeName))
        = (right.filter (fun rb => !left.any (·.typeName == rb.typeName))).map normBranch := by
      have := filter_typeName_norm right (fun n => !left.any (·.typeName == n))
      simpa [List.any_map, Function.comp_def] using this
    simp only [hf, Except.map, List.map_append, List.map_flatten]

theorem mergeTrees_comm : ∀ (fuel : Nat), MtComm (mergeTrees fuel) (mergeTrees fuel)
  | 0 => fun _ _ => rfl
  | fuel + 1 => by
    intro l r
    have ih := mergeTrees_comm fuel
    cases l <;> cases r <;> simp only [normTree, mergeTrees] <;> try rfl
    · exact comm_bind (ih _ _) (fun x _ => rfl)
    · exact comm_bind (ih _ _) (fun x _ => rfl)
    · rename_i bl br
      rw [normBranches_eq, normBranches_eq]
      exact comm_bind (mergeBranchesWith_comm ih bl br) (fun x _ => by simp [Except.map])

theorem deepMerge_comm (mfuel : Nat) (fs : List SField) :
    deepMerge mfuel (fs.map normField) = (deepMerge mfuel fs).map (List.map normField) :=
  deepMergeWith_comm (mergeTrees_comm mfuel) fs

theorem deepMerge_eqOn (mfuel : Nat) {fs₁ fs₂ : List SField} (h : fs₁.map normField = fs₂.map normField) :
    EqOn (List.map normField) (deepMerge mfuel fs₁) (deepMerge mfuel fs₂) := by
  unfold EqOn
  rw [← deepMerge_comm, ← deepMerge_comm, h]

/-! ### the printed type does not depend on the positions -/

mutual
theorem leafCore_erasePos (q : Name → Ts.Ty) : ∀ t : GType, leafCore q t.erasePos = leafCore q t
  | .named n p => rfl
  | .list t p => by simp only [GType.erasePos, leafCore, leafTs_erasePos q t]
  | .nonNull t => by simp only [GType.erasePos, leafCore, leafCore_erasePos q t]
theorem leafTs_erasePos (q : Name → Ts.Ty) : ∀ t : GType, leafTs q t.erasePos = leafTs q t
  | .named n p => rfl
  | .list t p => by simp only [GType.erasePos, leafTs, leafTs_erasePos q t]
  | .nonNull t => by simp only [GType.erasePos, leafTs, leafCore_erasePos q t]
end

mutual
theorem treeTs_norm (r : Refs) : ∀ (t : SelTree) (nn : Bool), treeTs r (normTree t) nn = treeTs r t nn
  | .nonNull t, nn => by simp only [normTree, treeTs, treeTs_norm r t]
  | .list t, nn => by simp only [normTree, treeTs, treeTs_norm r t]
  | .object bs, nn => by simp only [normTree, treeTs, branchesTs_norm r bs]
theorem branchesTs_norm (r : Refs) : ∀ bs : List Branch, branchesTs r (normBranches bs) = branchesTs r bs
  | [] => rfl
  | b :: bs => by simp only [normBranches, branchesTs, branchTs_norm r b, branchesTs_norm r bs]
theorem branchTs_norm (r : Refs) : ∀ b : Branch, branchTs r (normBranch b) = branchTs r b
  | .mk tn v un al => by simp only [normBranch, branchTs, fieldsTs_norm r tn un, fieldsTs_norm r tn al]
theorem fieldsTs_norm (r : Refs) (parent : Name) : ∀ fs : List SField, fieldsTs r parent (normFields fs) = fieldsTs r parent fs
  | [] => rfl
  | f :: fs => by simp only [normFields, fieldsTs, fieldTs_norm r parent f, fieldsTs_norm r parent fs]
theorem fieldTs_norm (r : Refs) (parent : Name) : ∀ f : SField, fieldTs r parent (normField f) = fieldTs r parent f
  | .empty n => rfl
  | .leaf n ty b => by simp only [normField, fieldTs, leafTs_erasePos]
  | .object n sel => by simp only [normField, fieldTs, treeTs_norm r sel]
end

theorem toTs_normTree (ns : String) (t : SelTree) : toTs ns (normTree t) = toTs ns t := treeTs_norm _ t false

end NitroVerif.Bridge
