import NitroVerif.Lemmas.GqlPrintParse
/-!
C16, token level: parse-back of variable definitions, operations, fragments and executable documents; the generic
bracketed-list lemma (`optBracketed`) used for `VariableDefinitions`, `ArgumentsDefinition`, `FieldsDefinition` ….
-/
namespace NitroVerif.C16
open NitroVerif.Gql NitroVerif.GqlTokens

/-! ### lengths of concatenated streams -/

theorem listToks_length_mem {α : Type} (t : α → List LTok) (xs : List α) (y : α) (h : y ∈ xs) :
    (t y).length ≤ (listToks t xs).length := by
  induction xs with
  | nil => simp at h
  | cons x xs ih =>
    simp only [listToks, List.length_append]
    rcases List.mem_cons.mp h with rfl | h
    · omega
    · have := ih h; omega

theorem listToks_length_count {α : Type} (t : α → List LTok) (xs : List α) (h : ∀ x ∈ xs, 1 ≤ (t x).length) :
    xs.length ≤ (listToks t xs).length := by
  induction xs with
  | nil => simp
  | cons x xs ih =>
    simp only [listToks, List.length_append, List.length_cons]
    have := h x (by simp)
    have := ih (fun y hy => h y (by simp [hy]))
    omega

/-! ### `( open X+ close )?` -/

/-- the stream of an optional bracketed list: absent iff the list is empty -/
def bracketToks {α : Type} (open_ close : String) (t : α → List LTok) : List α → List LTok
  | [] => []
  | x :: xs => .p open_ :: (listToks t (x :: xs) ++ [.p close])

theorem bracedToks_eq {α : Type} (t : α → List LTok) (xs : List α) : bracedToks t xs = bracketToks "{" "}" t xs := by
  cases xs <;> rfl

theorem argDefsToks_eq (xs : List InputValueDef) : argDefsToks xs = bracketToks "(" ")" inputValueDefToks xs := by
  cases xs <;> rfl

theorem varDefListToks_eq (vs : List VarDef) : varDefListToks vs = listToks varDefToks vs := by
  induction vs with
  | nil => rfl
  | cons v vs ih => simp [varDefListToks, listToks, ih]

theorem varDefsToks_eq (vs : List VarDef) : varDefsToks vs = bracketToks "(" ")" varDefToks vs := by
  cases vs with
  | nil => rfl
  | cons v vs => simp [varDefsToks, bracketToks, varDefListToks_eq]

theorem startsP_bracket {α : Type} (s open_ close : String) (hs : s ≠ open_) (t : α → List LTok) (xs : List α)
    (rest : List LTok) (h : startsP s rest = false) : startsP s (bracketToks open_ close t xs ++ rest) = false := by
  cases xs with
  | nil => simpa [bracketToks] using h
  | cons x xs => simp [bracketToks, startsP]; exact fun e => hs e.symm

theorem optBracketed_bracket {α : Type} (open_ close : String) (p : List LTok → Option (α × List LTok))
    (t : α → List LTok) (er : α → α) (xs : List α) (rest : List LTok) (f : Nat)
    (hrest : startsP open_ rest = false) (hclose : Stops (.p close :: rest)) (hf : xs.length + 2 ≤ f)
    (hp : ∀ y ∈ xs, ∀ r, Stops r → p (t y ++ r) = some (er y, r))
    (hs : ∀ y ∈ xs, ∀ r, Stops (t y ++ r) ∧ ∃ tok r', t y ++ r = tok :: r' ∧ tok ≠ .p close) :
    optBracketed open_ close p f (bracketToks open_ close t xs ++ rest) = some (xs.map er, rest) := by
  cases xs with
  | nil =>
    cases rest with
    | nil => simp [bracketToks, optBracketed]
    | cons tok r => simp [bracketToks, optBracketed, startsP_cons_false _ _ _ hrest]
  | cons x xs =>
    have := many1Until_toks close p t er rest hclose x xs f (by simp at hf; omega) hp hs
    simp only [bracketToks, List.cons_append, List.append_assoc, List.nil_append]
    simp only [optBracketed, if_true, this]

theorem bracketToks_length {α : Type} (open_ close : String) (t : α → List LTok) (xs : List α) :
    (listToks t xs).length ≤ (bracketToks open_ close t xs).length := by
  cases xs with
  | nil => simp [bracketToks, listToks]
  | cons x xs => simp [bracketToks]; omega

/-- a bracketed list whose items are read back by a parser `p` with fuel: every item's stream is non-empty (it has a
    first token), so the fuel for the whole stream covers the number of items and each single item -/
theorem parse_bracketList {α : Type} (open_ close : String) (p : Nat → List LTok → Option (α × List LTok))
    (t : α → List LTok) (er : α → α) (wf : α → Bool) (xs : List α) (hwf : xs.all wf = true) (rest : List LTok) (f : Nat)
    (hrest : startsP open_ rest = false) (hclose : Stops (.p close :: rest))
    (hf : 2 * (bracketToks open_ close t xs).length + 2 ≤ f)
    (hp : ∀ y, wf y = true → ∀ (r : List LTok) (g : Nat), Stops r → 2 * (t y).length + 2 ≤ g →
      p g (t y ++ r) = some (er y, r))
    (hs : ∀ y r, Stops (t y ++ r) ∧ ∃ tok r', t y ++ r = tok :: r' ∧ tok ≠ .p close) :
    optBracketed open_ close (p f) f (bracketToks open_ close t xs ++ rest) = some (xs.map er, rest) := by
  have hl := bracketToks_length open_ close t xs
  have hc := listToks_length_count t xs fun y _ => by
    obtain ⟨_, _, _, h, _⟩ := hs y []
    rw [List.append_nil] at h
    simp [h]
  refine optBracketed_bracket open_ close _ t er xs rest f hrest hclose (by omega) ?_ fun y _ => hs y
  intro y hy r hsr
  have := listToks_length_mem t xs y hy
  exact hp y (List.all_eq_true.mp hwf y hy) r f hsr (by omega)

/-! ### variable definitions -/

theorem parseDefault_stop (f : Nat) (rest : List LTok) (h : startsP "=" rest = false) :
    parseDefault f rest = some (none, rest) := by
  cases rest with
  | nil => rfl
  | cons tok r => simp [parseDefault, startsP_cons_false _ _ _ h]

def defaultToks : Option Value → List LTok
  | some d => .p "=" :: valueToks d
  | none => []

theorem parse_default (d : Option Value) (hwf : wfDefault d = true) (rest : List LTok) (f : Nat)
    (hf : 2 * (defaultToks d).length ≤ f) (hr : startsP "=" rest = false) :
    parseDefault f (defaultToks d ++ rest) = some (d.map Value.erasePos, rest) := by
  cases d with
  | none => simpa [defaultToks] using parseDefault_stop f rest hr
  | some v =>
    simp only [defaultToks, List.length_cons] at hf
    have := parse_value' v hwf rest f (by omega)
    simp [defaultToks, parseDefault, this]

theorem startsP_default (s : String) (hs : s ≠ "=") (d : Option Value) (rest : List LTok)
    (h : startsP s rest = false) : startsP s (defaultToks d ++ rest) = false := by
  cases d with
  | none => simpa [defaultToks] using h
  | some v => simp [defaultToks, startsP]; exact fun e => hs e.symm

theorem varDefToks_eq (v : VarDef) :
    varDefToks v = .p "$" :: .name v.name :: .p ":" :: (typeToks v.ty ++ (defaultToks v.default ++ dirsToks v.dirs)) := by
  cases h : v.default <;> simp [varDefToks, defaultToks, h]

theorem parse_varDef (v : VarDef) (hwf : wfVarDef v = true) (rest : List LTok) (f : Nat) (hr : Stops rest)
    (hf : 2 * (varDefToks v).length + 2 ≤ f) : parseVarDef f (varDefToks v ++ rest) = some (eraseVarDef v, rest) := by
  simp only [wfVarDef, Bool.and_eq_true] at hwf
  obtain ⟨⟨hw1, hw2⟩, hw3⟩ := hwf
  rw [varDefToks_eq] at hf ⊢
  simp only [List.length_cons, List.length_append] at hf
  have h1 := parse_type' v.ty hw1 (defaultToks v.default ++ (dirsToks v.dirs ++ rest)) f (by omega)
    (startsP_default "!" (by decide) _ _ (startsP_dirs "!" (by decide) _ _ hr.bang))
  have h2 := parse_default v.default hw2 (dirsToks v.dirs ++ rest) f (by omega)
    (startsP_dirs "=" (by decide) _ _ hr.eq)
  have h3 := parse_dirs v.dirs hw3 rest f (by omega) hr.paren hr.at_
  simp only [List.cons_append, List.append_assoc]
  simp [parseVarDef, h1, h2, h3, eraseVarDef]

theorem varDefToks_head (v : VarDef) (r : List LTok) :
    Stops (varDefToks v ++ r) ∧ ∃ tok r', varDefToks v ++ r = tok :: r' ∧ tok ≠ .p ")" := by
  rw [varDefToks_eq]
  simp only [List.cons_append]
  exact ⟨Stops.dollar _, _, _, rfl, by simp⟩

theorem parse_varDefs (vs : List VarDef) (hwf : vs.all wfVarDef = true) (rest : List LTok) (f : Nat)
    (hr : startsP "(" rest = false) (hf : 2 * (varDefsToks vs).length + 2 ≤ f) :
    optBracketed "(" ")" (parseVarDef f) f (varDefsToks vs ++ rest) = some (vs.map eraseVarDef, rest) := by
  rw [varDefsToks_eq] at hf ⊢
  exact parse_bracketList "(" ")" parseVarDef varDefToks eraseVarDef wfVarDef vs hwf rest f hr (Stops.close_paren rest) hf
    (fun y hy r g => parse_varDef y hy r g) varDefToks_head

/-! ### operations and fragments -/

theorem parseOptName_none (X : List LTok) (h : ∃ s r, X = .p s :: r) : parseOptName X = (none, X) := by
  obtain ⟨s, r, rfl⟩ := h
  rfl

theorem opKindOf_asStr (k : OpKind) : opKindOf k.asStr = some k := by cases k <;> rfl

theorem asStr_ne_fragment (k : OpKind) : k.asStr ≠ "fragment" := by cases k <;> decide

theorem selectionSetToks_startsP (s : String) (hs : s ≠ "{") (ss : List Selection) (rest : List LTok) :
    startsP s (selectionSetToks ss ++ rest) = false := by
  simp [selectionSetToks, startsP]; exact fun e => hs e.symm

theorem parse_operation (o : OperationDef) (hwf : wfOp o = true) (rest : List LTok) (f : Nat)
    (hf : 2 * (operationToks o).length + 2 ≤ f) :
    parseExecDef f (operationToks o ++ rest) = some (.op (eraseOp o), rest) := by
  simp only [wfOp, Bool.and_eq_true, Bool.not_eq_true'] at hwf
  obtain ⟨⟨⟨hw1, hw2⟩, hne⟩, hw3⟩ := hwf
  have hS1 := selectionSetToks_startsP "(" (by decide) o.sel rest
  have hS2 := selectionSetToks_startsP "@" (by decide) o.sel rest
  have hkw : (LTok.name o.kind.asStr = LTok.p "{") = False := by simp
  have hlen : (varDefsToks o.vars).length + (dirsToks o.dirs).length + (selectionSetToks o.sel).length + 1 ≤
      (operationToks o).length := by
    simp only [operationToks, List.length_cons, List.length_append]
    omega
  have hvars := parse_varDefs o.vars hw1 (dirsToks o.dirs ++ (selectionSetToks o.sel ++ rest)) f
    (startsP_dirs "(" (by decide) _ _ hS1) (by omega)
  have hdirs := parse_dirs o.dirs hw2 (selectionSetToks o.sel ++ rest) f (by omega) hS1 hS2
  have hsel := parse_selSet o.sel hne hw3 rest f (by omega)
  unfold operationToks
  rcases hn : o.name with _ | ⟨n, p⟩
  · have hP : ∃ s r, varDefsToks o.vars ++ (dirsToks o.dirs ++ (selectionSetToks o.sel ++ rest)) = LTok.p s :: r := by
      cases o.vars with
      | nil =>
        cases o.dirs with
        | nil => exact ⟨_, _, by simp [varDefsToks, dirsToks, selectionSetToks]; exact ⟨rfl, rfl⟩⟩
        | cons d ds => exact ⟨_, _, by simp [varDefsToks, dirsToks, directiveToks]; exact ⟨rfl, rfl⟩⟩
      | cons v vs => exact ⟨_, _, by simp [varDefsToks]; exact ⟨rfl, rfl⟩⟩
    simp only [List.nil_append, List.cons_append, List.append_assoc]
    simp only [parseExecDef, hkw, if_false, asStr_ne_fragment, opKindOf_asStr, parseOptName_none _ hP, hvars, hdirs, hsel]
    simp [eraseOp, hn, eraseOptName]
  · simp only [List.nil_append, List.cons_append, List.append_assoc]
    simp only [parseExecDef, hkw, if_false, asStr_ne_fragment, opKindOf_asStr, parseOptName, hvars, hdirs, hsel]
    simp [eraseOp, hn, eraseOptName]

theorem parse_fragment (fr : FragmentDef) (hwf : wfFrag fr = true) (rest : List LTok) (f : Nat)
    (hf : 2 * (fragmentToks fr).length + 2 ≤ f) :
    parseExecDef f (fragmentToks fr ++ rest) = some (.frag (eraseFrag fr), rest) := by
  simp only [wfFrag, Bool.and_eq_true, Bool.not_eq_true', bne_iff_ne, ne_eq] at hwf
  obtain ⟨⟨⟨hw0, hw2⟩, hne⟩, hw3⟩ := hwf
  have hS1 := selectionSetToks_startsP "(" (by decide) fr.sel rest
  have hS2 := selectionSetToks_startsP "@" (by decide) fr.sel rest
  simp only [fragmentToks, List.length_cons, List.length_append] at hf
  have hdirs := parse_dirs fr.dirs hw2 _ f (by omega) hS1 hS2
  have hsel := parse_selSet fr.sel hne hw3 rest f (by omega)
  simp only [fragmentToks, List.cons_append, List.append_assoc]
  simp [parseExecDef, hw0, hdirs, hsel, eraseFrag]

theorem parse_execDef (d : ExecDef) (hwf : wfExecDef d = true) (rest : List LTok) (f : Nat)
    (hf : 2 * (execDefToks d).length + 2 ≤ f) :
    parseExecDef f (execDefToks d ++ rest) = some (eraseExecDef d, rest) := by
  cases d with
  | op o => exact parse_operation o hwf rest f hf
  | frag fr => exact parse_fragment fr hwf rest f hf
  | imp i => simp [wfExecDef] at hwf

theorem execDefToks_ne_nil (d : ExecDef) (hwf : wfExecDef d = true) : 1 ≤ (execDefToks d).length := by
  cases d with
  | op o => simp [execDefToks, operationToks]
  | frag fr => simp [execDefToks, fragmentToks]
  | imp i => simp [wfExecDef] at hwf

theorem parse_execDoc (d : Doc) (hwf : wfDoc d = true) (f : Nat) (hf : 2 * (docToks d).length + 2 ≤ f) :
    parseExecDoc f (docToks d) = some (eraseDoc d) := by
  unfold parseExecDoc docToks eraseDoc
  unfold docToks at hf
  have hall := List.all_eq_true.mp hwf
  have hc := listToks_length_count execDefToks d (fun x hx => execDefToks_ne_nil x (hall x hx))
  refine manyEnd_toks (parseExecDef f) execDefToks eraseExecDef d f (by omega) ?_ ?_
  · intro x hx r _
    have := listToks_length_mem execDefToks d x hx
    exact parse_execDef x (hall x hx) r f (by omega)
  · intro x hx e
    have := execDefToks_ne_nil x (hall x hx)
    rw [e] at this
    simp at this

theorem parse_execDocument (d : Doc) (hwf : wfDoc d = true) : parseExecDocument (docToks d) = some (eraseDoc d) :=
  parse_execDoc d hwf _ (by omega)

end NitroVerif.C16
