/-
`type_to_selection_tree` (`wrapTree`) asks its continuation once, for the innermost named type, and wraps the answer in the
list and non-null markers of the type: a closed form, so that what is known of the continuation's answer carries over to
the tree without another recursion over the type.
-/
import NitroVerif.Model.OpTypes
namespace NitroVerif.OpTypes
open NitroVerif.Gql

/-- the branches of the innermost named type under the list and non-null markers of `ty` -/
def shapeTree : GType → List Branch → SelTree
  | .named _ _, bs => .object bs
  | .list t _, bs => .list (shapeTree t bs)
  | .nonNull t, bs => .nonNull (shapeTree t bs)

theorem wrapTree_eq (mk : Name → Except Panic (List Branch)) :
    ∀ ty : GType, wrapTree mk ty = (mk ty.unwrapped).map (shapeTree ty)
  | .named n _ => by cases h : mk n <;> simp only [wrapTree, GType.unwrapped, h] <;> rfl
  | .list t _ => by
    rw [wrapTree, wrapTree_eq mk t, GType.unwrapped]
    cases mk t.unwrapped <;> rfl
  | .nonNull t => by
    rw [wrapTree, wrapTree_eq mk t, GType.unwrapped]
    cases mk t.unwrapped <;> rfl

end NitroVerif.OpTypes
