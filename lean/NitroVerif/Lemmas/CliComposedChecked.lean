/-
C18 composed (helper lemmas): a schema document the schema check ACCEPTS is harmless for the operation checker's
position reports (`SchemaQ`, any `Q`) — argument / input-field types are defined (C05 `knownTypeRefs`) and union members
are object types (C05 `unionMembersObjects`, which needs the built-in-position type definitions to be pairwise
distinct) — and the resolved schema of the composed model has that last property when the parser never stamps a
position built-in.
-/
import NitroVerif.Lemmas.CliComposedLocated
import NitroVerif.Lemmas.CheckTsUnique
import NitroVerif.Lemmas.SchemaFacts
namespace NitroVerif.CliComposed
open NitroVerif NitroVerif.Gql NitroVerif.Cli NitroVerif.CheckTs NitroVerif.ValidTs

theorem schemaQ_of_checked (T : TsDoc) (h : checkSchema T = []) (hb : builtinTypeNamesDistinct T = true)
    (Q : Gql.Pos → Prop) : SchemaQ ⟨T⟩ Q := by
  have hk := knownTypeRefs_of_accepted h
  have hu := unionMembersObjects_of_accepted h hb
  simp only [knownTypeRefs, Bool.and_eq_true, List.all_eq_true] at hk
  obtain ⟨hkt, hki⟩ := hk
  have hknown : ∀ v ∈ inputValues T, TOk (⟨T⟩ : Schema) Q v.ty := fun v hv => tOk_of_isSome (hki v hv)
  refine ⟨?_, ?_, ?_, ?_⟩
  · intro n td hn hkind f hf
    exact hknown f (mem_inputValues.mpr (Or.inr ⟨td, Schema.typeDef?_mem hn, mem_inputsOfT.mpr ⟨hkind, hf⟩⟩))
  · intro n td hn hkind fd hfd a ha
    exact hknown a (mem_inputValues.mpr (Or.inl ⟨fd.args, mem_argLists.mpr
      (Or.inl ⟨td, Schema.typeDef?_mem hn, fd, mem_fieldsOfT.mpr ⟨hkind, hfd⟩, rfl⟩), ha⟩))
  · intro n dd hn a ha
    exact hknown a (mem_inputValues.mpr (Or.inl ⟨dd.args, mem_argLists.mpr
      (Or.inr ⟨dd, Schema.directiveDef?_mem hn, rfl⟩), ha⟩))
  · intro n td hn hkind m hm
    left
    have htd := Schema.typeDef?_mem hn
    have hmm : m ∈ membersOfT td := mem_membersOfT.mpr ⟨hkind, hm⟩
    have hmk : known ⟨T⟩ m.1 = true := ((hkt td htd).2 m hmm)
    simp only [unionMembersObjects, List.all_eq_true] at hu
    have hmo := hu td htd m hmm
    unfold known at hmk
    cases hq : Schema.typeDef? ⟨T⟩ m.1 with
    | none => rw [hq] at hmk; cases hmk
    | some o =>
      refine ⟨o, rfl, ?_⟩
      simp only [Schema.kindOf?, hq, Option.map_some] at hmo
      cases hko : o.kind <;> first | rfl | (rw [hko] at hmo; exact absurd hmo (by decide))

theorem typeDefs_of_typeItems (l : List TypeDef) :
    Schema.typeDefs ⟨l.map TsItem.typeDef⟩ = l := by
  unfold Schema.typeDefs
  induction l with
  | nil => rfl
  | cons t l ih => simp only [List.map_cons, List.filterMap_cons]; simp only at ih; rw [ih]

section
variable {Text κ : Type} [DecidableEq κ] {E : Env Text κ} {P : Project Text κ}

theorem resolvedSchema_builtinsDistinct (hp : ParserStamps E) :
    builtinTypeNamesDistinct (resolvedSchema E P) = true := by
  unfold resolvedSchema
  cases hq : ExtResolve.resolve (mergedSchema E P) with
  | error e => rfl
  | ok out =>
    refine ExtResolve.builtinTypeNamesDistinct_cli (user := (schemaParses E P).flatMap docOf) hq fun td htd => ?_
    obtain ⟨r, hr, hit⟩ := List.mem_flatMap.mp htd
    obtain ⟨i, txt, _, rfl⟩ := (mem_schemaParses E P r).mp hr
    cases hq' : E.parseTs i txt with
    | error e => rw [hq'] at hit; cases hit
    | ok T =>
      rw [hq'] at hit
      exact (hp.ts i txt T hq' _ (List.mem_flatMap.mpr ⟨_, hit, by simp [TsItem.positions, TypeDef.positions]⟩)).2

theorem schemaQ_of_checked_composed (hp : ParserStamps E) (h : checkSchema (resolvedSchema E P) = [])
    (Q : Gql.Pos → Prop) : SchemaQ ⟨resolvedSchema E P⟩ Q :=
  schemaQ_of_checked _ h (resolvedSchema_builtinsDistinct hp) Q

end

end NitroVerif.CliComposed
