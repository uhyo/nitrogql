import NitroVerif.Lemmas.PrintMap
/-!
# C06 — the bodies of the operation type printer: selection-set types and Variables types are built from strings

`TSTy.simple t` — every `TypeVariable` and every `ObjectKey` of `t` has the position `Pos::builtin()` and no property has a
description: what a `TSType` looks like when it is built from strings only (`"…".into()`). For such a type `print_type`
makes no mapped call, and every `write_for` it makes passes (text, `Pos::builtin()`, name = text). `treeTy` (selection
trees), `varsTy` (variable definitions) and `tsOfType` over a string-built leaf are simple.
-/
namespace NitroVerif.PrintMap
open NitroVerif.Gql NitroVerif.DeclCfg

mutual
/-- built from strings only: built-in positions everywhere, no descriptions -/
def TSTy.simple : TSTy → Bool
  | .var _ p => decide (p = bi)
  | .func f args => f.simple && simpleList args
  | .obj fs => simpleFields fs
  | .arr t => t.simple
  | .roArr t => t.simple
  | .union ts => simpleList ts
  | .inter ts => simpleList ts
  | _ => true
def simpleList : List TSTy → Bool
  | [] => true
  | t :: ts => t.simple && simpleList ts
def simpleFields : List TSField → Bool
  | [] => true
  | .mk _ kp ty _ _ d :: r => decide (kp = bi) && d.isNone && ty.simple && simpleFields r
end

/-- a call that maps nothing: a plain `write`, `indent`, `dedent`, or a `write_for` whose node was built from the written
    text itself (position `Pos::builtin()`, name = the text) -/
def POp.unmappedCall : POp → Bool
  | .writeFor t p n => decide (p = bi) && decide (n = some t)
  | _ => true

mutual
theorem simple_calls : ∀ t : TSTy, t.simple = true → (printTy t).all POp.unmappedCall = true
  | .var n p, h => by
    have : p = bi := by simpa [TSTy.simple] using h
    subst this
    simp [printTy, POp.unmappedCall]
  | .func f args, h => by
    simp only [TSTy.simple, Bool.and_eq_true] at h
    simp [printTy, List.all_append, POp.unmappedCall, simple_calls f h.1, simple_callsSep ", " args true h.2]
  | .strLit s, _ => by simp [printTy, POp.unmappedCall]
  | .ns2 _ _, _ => by simp [printTy, POp.unmappedCall]
  | .ns3 _ _ _, _ => by simp [printTy, POp.unmappedCall]
  | .obj fs, h => by
    simp only [TSTy.simple] at h
    simp only [printTy]
    split
    · simp [POp.unmappedCall]
    · simp [List.all_append, POp.unmappedCall, simple_callsFields fs h]
  | .arr t, h => by
    simp only [TSTy.simple] at h
    simp [printTy, List.all_append, POp.unmappedCall, simple_calls t h]
  | .roArr t, h => by
    simp only [TSTy.simple] at h
    simp [printTy, List.all_append, POp.unmappedCall, simple_calls t h]
  | .union ts, h => by
    simp only [TSTy.simple] at h
    simp only [printTy]
    split
    · simp [POp.unmappedCall]
    · exact simple_callsSep " | " ts true h
  | .inter ts, h => by
    simp only [TSTy.simple] at h
    simp only [printTy]
    split
    · simp [POp.unmappedCall]
    · exact simple_callsSep " & " ts true h
  | .undefined, _ => by simp [printTy, POp.unmappedCall]
  | .null, _ => by simp [printTy, POp.unmappedCall]
  | .never, _ => by simp [printTy, POp.unmappedCall]
  | .unknown, _ => by simp [printTy, POp.unmappedCall]
  | .raw s, _ => by simp [printTy, POp.unmappedCall]
theorem simple_callsSep : ∀ (sep : String) (ts : List TSTy) (first : Bool), simpleList ts = true →
    (printSep sep ts first).all POp.unmappedCall = true
  | _, [], _, _ => by simp [printSep]
  | sep, t :: ts, first, h => by
    simp only [simpleList, Bool.and_eq_true] at h
    cases first <;>
      simp [printSep, List.all_append, POp.unmappedCall, simple_calls t h.1, simple_callsSep sep ts false h.2]
theorem simple_callsFields : ∀ fs : List TSField, simpleFields fs = true → (printFields fs).all POp.unmappedCall = true
  | [], _ => by simp [printFields]
  | .mk k kp ty ro opt d :: r, h => by
    simp only [simpleFields, Bool.and_eq_true, decide_eq_true_eq] at h
    obtain ⟨⟨⟨rfl, hd⟩, h2⟩, h3⟩ := h
    have hd' : d = none := by cases d <;> simp_all
    subst hd'
    cases ro <;> cases opt <;> cases hk : SchemaDecls.isRawIdent k <;>
      simp [printFields, optDescOps, List.all_append, POp.unmappedCall, hk, simple_calls ty h2, simple_callsFields r h3]
end

theorem mappedOps_unmapped {ops : List POp} (h : ops.all POp.unmappedCall = true) : mappedOps ops = [] := by
  refine List.filter_eq_nil_iff.mpr fun op hop hm => ?_
  have hu := List.all_eq_true.mp h op hop
  cases op with
  | writeFor t p n =>
    obtain ⟨rfl, _⟩ : p = bi ∧ n = some t := by simpa [POp.unmappedCall] using hu
    cases hm
  | _ => cases hm

theorem mappedOps_simple (t : TSTy) (h : t.simple = true) : mappedOps (printTy t) = [] :=
  mappedOps_unmapped (simple_calls t h)

theorem simple_sites (t : TSTy) (h : t.simple = true) : tySites t = [] :=
  mapped_printTy t ▸ mappedOps_simple t h
theorem simple_sitesList : ∀ ts : List TSTy, simpleList ts = true → tySitesList ts = [] :=
  fun ts h => mapped_printSep ", " ts true ▸ mappedOps_unmapped (simple_callsSep ", " ts true h)
theorem simple_sitesFields : ∀ fs : List TSField, simpleFields fs = true → fieldSites fs = [] :=
  fun fs h => mapped_printFields fs ▸ mappedOps_unmapped (simple_callsFields fs h)

theorem simple_tsUnion (l : List TSTy) (h : simpleList l = true) : (tsUnion l).simple = true := by
  match l, h with
  | [], _ => rfl
  | [t], h => simpa [tsUnion, simpleList] using h
  | _ :: _ :: _, h => simpa [tsUnion, TSTy.simple] using h

theorem simple_tsOfTypeImpl (leaf : Name → Pos → TSTy) (hl : ∀ n p, (leaf n p).simple = true) :
    ∀ t : GType, (tsOfTypeImpl leaf t).1.simple = true
  | .named n p => hl n p
  | .list t _ => by
    have ih := simple_tsOfTypeImpl leaf hl t
    simp only [tsOfTypeImpl]
    split
    · simp [TSTy.simple, simpleList, ih]
    · simp [TSTy.simple, ih]
  | .nonNull t => by simpa [tsOfTypeImpl] using simple_tsOfTypeImpl leaf hl t

theorem simple_tsOfType (leaf : Name → Pos → TSTy) (hl : ∀ n p, (leaf n p).simple = true) (t : GType) :
    (tsOfType leaf t).simple = true := by
  have ih := simple_tsOfTypeImpl leaf hl t
  simp only [tsOfType]
  split
  · simp [TSTy.simple, simpleList, ih]
  · exact ih

theorem simple_outLeaf (ns : String) (n : Name) (p : Pos) : (outLeaf ns n p).simple = true := rfl
theorem simple_inLeaf (ns : String) (n : Name) (p : Pos) : (inLeaf ns n p).simple = true := rfl

mutual
theorem simple_treeTy (ns : String) : ∀ (t : OpTypes.SelTree) (nn : Bool), (treeTy ns t nn).simple = true
  | .nonNull t, _ => by simpa [treeTy] using simple_treeTy ns t true
  | .list t, nn => by
    have ih := simple_treeTy ns t false
    cases nn <;> simp [treeTy, tsUnion, TSTy.simple, simpleList, ih]
  | .object bs, nn => by
    have ih := simple_tsUnion _ (simple_branchesTy ns bs)
    cases nn
    · simp only [treeTy, Bool.false_eq_true, if_false]
      exact simple_tsUnion _ (by simp [simpleList, ih, TSTy.simple])
    · simpa [treeTy] using ih
theorem simple_branchesTy (ns : String) : ∀ bs : List OpTypes.Branch, simpleList (branchesTy ns bs) = true
  | [] => rfl
  | b :: bs => by simp [branchesTy, simpleList, simple_branchTy ns b, simple_branchesTy ns bs]
theorem simple_branchTy (ns : String) : ∀ b : OpTypes.Branch, (branchTy ns b).simple = true
  | .mk tn _ un al => by
    simp [branchTy, TSTy.simple, simpleList, simple_fieldsTy ns tn un, simple_fieldsTy ns tn al]
theorem simple_fieldsTy (ns : String) (parent : Name) : ∀ fs : List OpTypes.SField, simpleFields (fieldsTy ns parent fs) = true
  | [] => rfl
  | .empty n :: fs => by simp [fieldsTy, fieldTy, simpleFields, TSTy.simple, simple_fieldsTy ns parent fs]
  | .leaf n ty isTn :: fs => by
    have h := simple_tsOfType (outLeaf ns) (simple_outLeaf ns) ty
    cases isTn <;> simp [fieldsTy, fieldTy, simpleFields, TSTy.simple, simple_fieldsTy ns parent fs, h]
  | .object n sel :: fs => by
    simp [fieldsTy, fieldTy, simpleFields, simple_treeTy ns sel false, simple_fieldsTy ns parent fs]
end

theorem simple_varField (ns : String) (oi : Bool) (d : VarDef) (r : List TSField) (h : simpleFields r = true) :
    simpleFields (varField ns oi d :: r) = true := by
  have ht := simple_tsOfType (inLeaf ns) (simple_inLeaf ns) d.ty
  simp only [varField]
  split <;> simp [simpleFields, tsUnion, TSTy.simple, simpleList, ht, h]

theorem simple_varsTy (ns : String) (oi : Bool) (vars : List VarDef) : (varsTy ns oi vars).simple = true := by
  simp only [varsTy, TSTy.simple]
  induction vars with
  | nil => rfl
  | cons d r ih => simpa using simple_varField ns oi d _ ih

end NitroVerif.PrintMap
