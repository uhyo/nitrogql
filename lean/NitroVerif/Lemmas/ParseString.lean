/-
The canonical string literal (helper lemmas for Props/C07 `string_decode`): for EVERY list of characters `s`, the GENERATED
grammar's `StringValue` rule on `"` ++ specEscape s ++ `"` (embedded anywhere in an input) yields the pair tree `stringPair` —
one `StringCharacter` pair per character, with an `EscapedCharacter` or `NormalStringCharacter` child — and
`build_string_value` on that tree returns `s`. The canonical literal is the literal of the item list `s.map itemOf` (one simple
escape or one plain character per character of `s`), so both are the theorems about ANY legal literal body
(Lemmas/ParseStringItems.lean, ParseStringBuild.lean) at these items; only the empty string `""` is a case of its own.
-/
import NitroVerif.Lemmas.ParseStringBuild
namespace NitroVerif.StringParse
open NitroVerif.Peg NitroVerif.Gen NitroVerif.Gen.Parts NitroVerif.Build NitroVerif.Spec.Lex NitroVerif.TypeParse
open NitroVerif.ParseText NitroVerif.ValueParse

/-- the pair tree of one character written at offset `p` -/
def charPair (c : Char) (p : Nat) : Pair :=
  match simpleEscape? c with
  | some _ => .mk R.StringCharacter p (p + 2) [.mk R.EscapedCharacter p (p + 2) []]
  | none => .mk R.StringCharacter p (p + 1) [.mk R.NormalStringCharacter p (p + 1) []]

def charPairs : List Char → Nat → List Pair
  | [], _ => []
  | c :: cs, p => charPair c p :: charPairs cs (p + (specEscapeChar c).length)

theorem specEscape_cons (c : Char) (cs : List Char) : specEscape (c :: cs) = specEscapeChar c ++ specEscape cs := by
  simp [specEscape]

theorem specEscapeChar_length_pos (c : Char) : 1 ≤ (specEscapeChar c).length := by
  unfold specEscapeChar; split <;> simp

theorem specEscape_length_ge (s : List Char) : s.length ≤ (specEscape s).length := by
  induction s with
  | nil => simp [specEscape]
  | cons c cs ih =>
    rw [specEscape_cons]
    have := specEscapeChar_length_pos c
    simp only [List.length_cons, List.length_append]
    omega

/-- the `StringValue` pair of the literal of `s` written at offset `p` -/
def stringPair (s : List Char) (p : Nat) : Pair :=
  match s with
  | [] => .mk R.StringValue p (p + 2) [.mk R.EmptyStringValue p (p + 2) []]
  | _ :: _ => .mk R.StringValue p (p + ((specEscape s).length + 2))
      [.mk R.NormalStringValue p (p + ((specEscape s).length + 2)) (charPairs s (p + 1))]

/-- the canonical literal -/
def quoted (s : List Char) : List Char := '"' :: (specEscape s ++ ['"'])

/-- what may follow the literal: after `""` no further `"` (that would open a block string) -/
def StrEnd (s rest : List Char) : Prop := s = [] → HeadNot (· = '"') rest

/-- how `specEscape` writes a character, as an item -/
def itemOf (c : Char) : SItem :=
  match simpleEscape? c with
  | some e => .esc e
  | none => .plain c

theorem itemOf_text (c : Char) : (itemOf c).text = specEscapeChar c := by
  unfold itemOf specEscapeChar; cases simpleEscape? c <;> rfl

theorem itemOf_pair (c : Char) (p : Nat) : (itemOf c).pair p = charPair c p := by
  unfold itemOf charPair; cases simpleEscape? c <;> rfl

theorem itemOf_depth (c : Char) : (itemOf c).depth = 20 := by
  unfold itemOf; cases simpleEscape? c <;> rfl

theorem itemOf_ok (c : Char) : (itemOf c).Ok := by
  unfold itemOf
  cases h : simpleEscape? c with
  | some e => exact (simpleEscape_cases h).1
  | none => exact plain_char h

theorem itemOf_decode (c : Char) : (itemOf c).decode = .ok c := by
  unfold itemOf
  cases h : simpleEscape? c with
  | some e => exact escapedChar_simple h
  | none => rfl

theorem itemOf_not_u4 (c : Char) : ∀ x y z w, itemOf c ≠ .u4 x y z w := by
  intro x y z w; unfold itemOf; cases simpleEscape? c <;> exact fun h => nomatch h

theorem allOk_map (s : List Char) : AllOk (s.map itemOf) := fun it hit => by
  obtain ⟨d, -, rfl⟩ := List.mem_map.mp hit
  exact itemOf_ok d

theorem litText_map (s : List Char) : litText (s.map itemOf) = specEscape s := by
  induction s with
  | nil => rfl
  | cons c cs ih => rw [List.map_cons, litText_cons, ih, itemOf_text, specEscape_cons]

theorem litPairs_map (s : List Char) : ∀ p, litPairs (s.map itemOf) p = charPairs s p := by
  induction s with
  | nil => intro p; rfl
  | cons c cs ih => intro p; rw [List.map_cons, litPairs, charPairs, itemOf_pair, itemOf_text, ih]

theorem decodeItems_map (s : List Char) : decodeItems false (s.map itemOf) = .ok s := by
  induction s with
  | nil => rfl
  | cons c cs ih => rw [List.map_cons, decodeItems_other _ _ (itemOf_not_u4 c), itemOf_decode, ih]; rfl

theorem stringPair_lit (c : Char) (cs : List Char) (p : Nat) :
    stringPair (c :: cs) p = litPair ((c :: cs).map itemOf) p := by
  rw [litPair, litText_map, litPairs_map]; rfl

theorem stringValue_runs (s : List Char) (p : Nat) (rest : List Char) (hend : StrEnd s rest) {at_ : Atomicity} :
    RunsRule gList (s.length + 40) R.StringValue at_ ⟨p, quoted s ++ rest⟩ ⟨p + (quoted s).length, rest⟩
      [stringPair s p] := by
  cases s with
  | nil =>
    have he := runsRule_atomic (at_ := .compound) look_EmptyStringValue
      (runs_seq_nosk' (runs_str (c := ⟨p, '"' :: '"' :: rest⟩) (by simp [matchStr]))
        (runsL_not (la := .none) (failsL_str (c := ⟨p + 2, rest⟩) (matchStr_none_of_head (hend rfl)))))
    have := (runsRule_compound (at_ := at_) look_StringValue (runs_choice_l (runs_call he))).mono
      (m := ([] : List Char).length + 40) (by decide)
    simpa [quoted, specEscape, stringPair] using this
  | cons c cs =>
    -- every item of a canonical literal has depth 20
    have := litValue_runs_of (itemOf c) (cs.map itemOf) (allOk_map (c :: cs)) (D := 20)
      (fun x hx => by obtain ⟨d, -, rfl⟩ := List.mem_map.mp (List.map_cons ▸ hx); exact Nat.le_of_eq (itemOf_depth d))
      p rest (at_ := at_)
    rw [← List.map_cons, litText_map, ← stringPair_lit] at this
    refine RunsRule.cast (this.mono (by simp only [List.length_cons, List.length_map]; omega)) (by simp [quoted]) ?_ rfl
    simp [quoted]

theorem stringValueChars_stringPair {inp : List Char} (s : List Char) (p : Nat) (rest : List Char)
    (h : inp.drop p = quoted s ++ rest) :
    stringValueChars (Ctx.spec inp) (stringPair s p) =
      .ok (s, { line := (lineCol inp p).1, col := (lineCol inp p).2 }) := by
  cases s with
  | nil =>
    simp [stringValueChars, stringPair, onlyChildOf, onlyChild, Pair.children, Pair.rule, OC_StringValue, toPos, Ctx.spec,
      Pair.start, bind, Except.bind]
  | cons c cs =>
    have := stringValueChars_litPair (inp := inp) (itemOf c) (cs.map itemOf) (allOk_map (c :: cs)) p rest
      (by rw [← List.map_cons, litText_map, h, quoted]; simp)
    rw [← List.map_cons, ← stringPair_lit, decodeItems_map] at this
    exact this

end NitroVerif.StringParse
