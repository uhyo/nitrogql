/-
Type-system items: a type definition of any of the six kinds through `TypeDefinition`,
`TypeSystemDefinition`, `TypeSystemDefinitionOrExtension` (every earlier alternative is shown to fail: the optional
description is parsed again for each of them and then their keyword does not match). `TypeDefinition` and
`TypeExtension` only choose between the rules of the six kinds (`alts`).
-/
import NitroVerif.Lemmas.ParseDocTsDefInputUnion
namespace NitroVerif.DocParse
open NitroVerif.Peg NitroVerif.Gen NitroVerif.Gen.Parts NitroVerif.Build NitroVerif.TypeParse NitroVerif.StringParse
open NitroVerif.Gql NitroVerif.ValueParse NitroVerif.Spec.Lex NitroVerif.ParseText

theorem look_TypeSystemDefinition : gList.look R.TypeSystemDefinition = some (.normal,
    .choice (.call R.SchemaDefinition) (.choice (.call R.TypeDefinition) (.call R.DirectiveDefinition))) := rfl
theorem look_TSDOE : gList.look R.TypeSystemDefinitionOrExtension = some (.normal,
    .choice (.call R.TypeSystemDefinition) (.call R.TypeSystemExtension)) := rfl

variable {inp : List Char}

/-- the alternatives `f a | f b | …` -/
def alts {α : Type} (f : α → RuleId) : α → List α → Expr
  | a, [] => .call (f a)
  | a, b :: l => .choice (.call (f a)) (alts f b l)

theorem fails_alts {α : Type} (f : α → RuleId) {n : Nat} {c : Cur} : ∀ (l : List α) (a : α),
    (∀ x ∈ a :: l, Fails gList n true (.call (f x)) .nonAtomic c) →
    Fails gList (n + l.length) true (alts f a l) .nonAtomic c
  | [], a, h => h a (List.mem_cons_self ..)
  | b :: l, a, h => (fails_choice_K (h a (List.mem_cons_self ..))
      (fails_alts f l b fun x hx => h x (List.mem_cons_of_mem _ hx))).mono (by simp only [List.length_cons]; omega)

theorem runsK_alts {α : Type} (f : α → RuleId) {n : Nat} {c c' : Cur} {ps : List Pair} (x : α)
    (hrun : RunsK n (.call (f x)) c c' ps) : ∀ (l : List α) (a : α), x ∈ a :: l →
    (∀ y ∈ a :: l, y ≠ x → Fails gList n true (.call (f y)) .nonAtomic c) →
    RunsK (n + l.length + 1) (alts f a l) c c' ps
  | [], a, hx, _ => by cases List.mem_singleton.mp hx; exact hrun.mono (by omega)
  | b :: l, a, hx, hf => by
    by_cases e : a = x
    · subst e; exact (runsK_choice_l hrun).mono (by simp only [List.length_cons]; omega)
    · have hx' : x ∈ b :: l := (List.mem_cons.mp hx).resolve_left fun h => e h.symm
      exact (runsK_choice_r (hf a (List.mem_cons_self ..) e)
        (runsK_alts f x hrun l b hx' fun y hy => hf y (List.mem_cons_of_mem _ hy))).mono
        (by simp only [List.length_cons]; omega)

theorem kind_mem (k : TypeKind) : k ∈ TypeKind.scalar :: [.object, .interface, .union, .enum, .input] := by
  cases k <;> simp

theorem kindKw_ne_schema (k : TypeKind) : kindKw k ≠ kwSchema := by cases k <;> decide

/-- every alternative of the rule of kind `k'` begins with `Description? KEYWORD_k'`: the rule fails where that fails -/
theorem kindRule_fails_of {n : Nat} {c : Cur} (k' : TypeKind) (f : ∀ T, Fails gList n true
      (.seq (.opt (.call R.Description)) (.seq (.call (kindKwRule k')) T)) .nonAtomic c) :
    Fails gList (n + 3) true (.call (kindDefRule k')) .nonAtomic c := by
  cases k' with
  | scalar => exact (fails_rule (r := R.ScalarTypeDefinition) rfl (f _)).mono (by omega)
  | object => exact (fails_rule (r := R.ObjectTypeDefinition) rfl (fails_choice_K (f _) (f _))).mono (by omega)
  | interface => exact (fails_rule (r := R.InterfaceTypeDefinition) rfl (fails_choice_K (f _) (f _))).mono (by omega)
  | union => exact (fails_rule (r := R.UnionTypeDefinition) rfl (f _)).mono (by omega)
  | «enum» => exact (fails_rule (r := R.EnumTypeDefinition) rfl (fails_choice_K (f _) (f _))).mono (by omega)
  | input => exact (fails_rule (r := R.InputObjectTypeDefinition) rfl (fails_choice_K (f _) (f _))).mono (by omega)

theorem kindRule_fails {τ : Trivia} (hτ : ∀ q, Ws (τ q)) (k' : TypeKind) (desc : Option String) (w' : List Char)
    (hw' : validName w') (hne : w' ≠ kindKw k') {p : Nat} {sK : Bool} {bad : Char → Prop}
    (h : HasAt inp p (rOptDesc τ p desc ++ tk τ sK (p + (rOptDesc τ p desc).length) w'))
    (ht : Nxt inp bad sK (p + (rOptDesc τ p desc).length + (tk τ sK (p + (rOptDesc τ p desc).length) w').length)) :
    Fails gList (B (rOptDesc τ p desc).length + 40) true (.call (kindDefRule k')) .nonAtomic (At inp p) :=
  (kindRule_fails_of k' fun T => descKw_fails hτ (look_kindKw k') (kindKw_valid k') desc w' hw' hne T h ht).mono
    (by omega)

theorem schemaDef_fails_kw {τ : Trivia} (hτ : ∀ q, Ws (τ q)) (desc : Option String) (w' : List Char)
    (hw' : validName w') (hne : w' ≠ kwSchema) {p : Nat} {sK : Bool} {bad : Char → Prop}
    (h : HasAt inp p (rOptDesc τ p desc ++ tk τ sK (p + (rOptDesc τ p desc).length) w'))
    (ht : Nxt inp bad sK (p + (rOptDesc τ p desc).length + (tk τ sK (p + (rOptDesc τ p desc).length) w').length)) :
    Fails gList (B (rOptDesc τ p desc).length + 40) true (.call R.SchemaDefinition) .nonAtomic (At inp p) := by
  exact (fails_rule (r := R.SchemaDefinition) rfl
    (descKw_fails hτ look_KEYWORD_schema kw_words_valid.2.1 desc w' hw' hne _ h ht)).mono (by omega)

theorem typeDefWrapK {τ : Trivia} (hτ : ∀ q, Ws (τ q)) (k : TypeKind) (desc : Option String) {p : Nat} {n : Nat} {c' : Cur}
    {prK : Pair} (hrun : RunsK n (.call (kindDefRule k)) (At inp p) c' [prK])
    (h : HasAt inp p (rOptDesc τ p desc ++ tk τ true (p + (rOptDesc τ p desc).length) (kindKw k)))
    (ht : Tok (At inp (p + (rOptDesc τ p desc).length + (tk τ true (p + (rOptDesc τ p desc).length) (kindKw k)).length))) :
    ∃ e1 e2 e3, RunsK (max n (B (rOptDesc τ p desc).length + 40) + 20) (.call R.TypeSystemDefinitionOrExtension) (At inp p) c'
      [.mk R.TypeSystemDefinitionOrExtension p e3 [.mk R.TypeSystemDefinition p e2 [.mk R.TypeDefinition p e1 [prK]]]] := by
  have fs := (schemaDef_fails_kw hτ desc (kindKw k) (kindKw_valid k) (kindKw_ne_schema k) h (nxt_sep ht)).mono
    (Nat.le_max_right n _)
  have body := runsK_alts kindDefRule k (hrun.mono (Nat.le_max_left n (B (rOptDesc τ p desc).length + 40)))
    [.object, .interface, .union, .enum, .input] .scalar (kind_mem k) fun k' _ hne =>
      (kindRule_fails hτ k' desc (kindKw k) (kindKw_valid k) (kindKw_ne hne) h (nxt_sep ht)).mono (Nat.le_max_right n _)
  generalize max n (B (rOptDesc τ p desc).length + 40) = m at fs body ⊢
  obtain ⟨e1, rTD⟩ := runsK_rule (r := R.TypeDefinition) rfl body
  obtain ⟨e2, rTSD⟩ := runsK_rule look_TypeSystemDefinition
    (runsK_choice_r fs (runsK_choice_l (b := .call R.DirectiveDefinition) rTD))
  obtain ⟨e3, rI⟩ := runsK_rule look_TSDOE
    (runsK_choice_l (b := .call R.TypeSystemExtension) rTSD)
  exact ⟨e1, e2, e3, rI.mono (by simp only [List.length_cons, List.length_nil]; omega)⟩

theorem buildItem_typeDef (ctx : Ctx) (fuel : Nat) (p e1 e2 e3 : Nat) (prK : Pair) (td : TypeDef)
    (h : buildTypeDefinition ctx fuel (.mk R.TypeDefinition p e1 [prK]) = .ok td) :
    buildTypeSystemDefinitionOrExtension ctx fuel (.mk R.TypeSystemDefinitionOrExtension p e3
      [.mk R.TypeSystemDefinition p e2 [.mk R.TypeDefinition p e1 [prK]]]) = .ok (.typeDef td) := by
  simp [buildTypeSystemDefinitionOrExtension, onlyChildOf, onlyChild, Pair.children, Pair.rule,
    OC_TypeSystemDefinitionOrExtension, OC_TypeSystemDefinition, h, bind, Except.bind, pure, Except.pure,
    R.TypeSystemDefinition, R.SchemaDefinition, R.TypeDefinition]

end NitroVerif.DocParse
