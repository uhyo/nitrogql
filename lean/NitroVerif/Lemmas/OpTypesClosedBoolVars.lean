/-
C01/C02 closed forms, fuels: `get_boolean_variables` within the fuel the model really uses.

The work list of `boolVarsGo` visits every selection it reaches ONCE (a fragment is entered only if it is not in `seen`),
so on a document without fragment cycles it terminates within the number of selections of the document — whereas the
bound of Lemmas/OpTypesRefBoolVars.lean (`boolVarsGo_ok`: the EXPANDED size `eszL`, which counts a fragment body once per spread) can be
exponentially larger.  Potential: the work-list weight of `L` plus the weights of the bodies of the fragment definitions
not yet seen and not excluded, where the excluded name is the fragment the selection set itself lies in (which it cannot
reach: `acyclic`).
-/
import NitroVerif.Lemmas.OpTypesClosedReach
namespace NitroVerif.OpTypes.Closed
open NitroVerif.Gql NitroVerif.OpTypes NitroVerif.OpTypes.Ref

mutual
/-- work-list weight: a field counts one (its sub-selection is not entered), an inline fragment one plus its body -/
def wS : Selection → Nat
  | .field .. => 1
  | .spread .. => 1
  | .inline _ _ ss _ => 1 + wL ss
def wL : List Selection → Nat
  | [] => 0
  | s :: r => wS s + wL r
end

theorem wL_append : ∀ (a b : List Selection), wL (a ++ b) = wL a + wL b
  | [], b => by simp [wL]
  | s :: a, b => by simp only [List.cons_append, wL, wL_append a b]; omega

mutual
theorem wS_le : ∀ (s : Selection), wS s ≤ selSize s
  | .field _ _ _ _ _ none => by simp [wS, selSize]
  | .field _ _ _ _ _ (some ss) => by simp [wS, selSize]
  | .spread .. => by simp [wS, selSize]
  | .inline _ _ ss _ => by have := wL_le ss; simp only [wS, selSize]; omega
theorem wL_le : ∀ (L : List Selection), wL L ≤ selSizeList L
  | [] => by simp [wL, selSizeList]
  | s :: r => by have := wS_le s; have := wL_le r; simp only [wL, selSizeList]; omega
end

theorem wS_pos (s : Selection) : 1 ≤ wS s := by
  cases s <;> simp [wS]

/-- weight of a fragment body in the pool -/
def bodyW (f : FragmentDef) : Nat := wL f.sel

theorem bodyW_le (f : FragmentDef) : bodyW f ≤ selSizeList f.sel + 1 := by
  have := wL_le f.sel; unfold bodyW; omega

theorem fragsOf_mem {D : Doc} {n : Name} {f : FragmentDef} (h : OpTypes.fragsOf D n = some f) :
    ExecDef.frag f ∈ D ∧ f.name = n := by
  rw [fragsOf_eq_fragMap] at h
  exact ⟨CheckOp.mem_fragsOf.mp (CheckOp.fragMap_eq_some h).1, (CheckOp.fragMap_eq_some h).2⟩

theorem boolVarsGo_tight (D : Doc) (R : Nat) (X : Name → Bool) (n : Nat) :
    ∀ (L : List Selection) (seen acc : List Name),
      (∀ s ∈ L, fitsS (OpTypes.fragsOf D) R s = true) → (∀ nm, X nm = true → ¬ Rch (OpTypes.fragsOf D) L nm) →
      wL L + pool bodyW D (fun m => seen.contains m || X m) ≤ n →
      ∃ r, boolVarsGo (OpTypes.fragsOf D) n L seen acc = .ok r := by
  induction n with
  | zero =>
    intro L seen acc _ _ hn
    cases L with
    | nil => exact ⟨acc, by simp [boolVarsGo]⟩
    | cons s rest => have := wS_pos s; simp only [wL] at hn; omega
  | succ n ih =>
    intro L seen acc hfit hav hn
    cases L with
    | nil => exact ⟨acc, by simp [boolVarsGo]⟩
    | cons s rest =>
      have hrest : ∀ s' ∈ rest, fitsS (OpTypes.fragsOf D) R s' = true :=
        fun s' hs' => hfit s' (List.mem_cons_of_mem _ hs')
      have havrest : ∀ nm, X nm = true → ¬ Rch (OpTypes.fragsOf D) rest nm :=
        fun nm hx hr => hav nm hx (rch_mono (fun s hs => List.mem_cons_of_mem _ hs) hr)
      have hs := hfit s (by simp)
      -- what is entered from `s` goes in front of the work list: it fits the same bound
      have hin : ∀ s' ∈ kids (OpTypes.fragsOf D) s ++ rest, fitsS (OpTypes.fragsOf D) R s' = true :=
        fun s' hs' => (List.mem_append.1 hs').elim (fitsS_kids hs s') (hrest s')
      simp only [wL] at hn
      simp only [boolVarsGo]
      cases s with
      | field alias name p args ds sub =>
        simp only [wS] at hn
        exact ih rest seen _ hrest havrest (by omega)
      | inline cond ds ss p =>
        simp only [wS] at hn
        refine ih (ss ++ rest) seen _ hin ?_ (by rw [wL_append]; omega)
        intro nm' hx hr
        rcases rch_append hr with h | h
        · exact hav nm' hx (.inline List.mem_cons_self h)
        · exact havrest nm' hx h
      | spread nm np ds p =>
        simp only [wS] at hn
        simp only
        by_cases hseen : seen.contains nm = true
        · simp only [hseen, if_true]
          exact ih rest seen _ hrest havrest (by omega)
        · simp only [hseen, Bool.false_eq_true, if_false]
          obtain ⟨f, hF⟩ := fitsS_defined hs
          simp only [hF]
          obtain ⟨hfD, hfn⟩ := fragsOf_mem hF
          have hXnm : X nm = false := by
            cases hx : X nm with
            | false => rfl
            | true => exact absurd (Rch.here (List.mem_cons_self)) (hav nm hx)
          have hex : (seen.contains f.name || X f.name) = false := by
            have hs' : seen.contains nm = false := by simpa using hseen
            rw [hfn, hs', hXnm]; rfl
          have hpool := pool_exclude (g := bodyW) (excl := fun m => seen.contains m || X m)
            (excl' := fun m => (seen ++ [nm]).contains m || X m) (f := f) hex
            (by
              intro m
              have h1 : (seen ++ [nm]).contains m = (seen.contains m || m == nm) := by
                simp only [List.contains_eq_mem, List.mem_append, List.mem_singleton, Bool.decide_or]
                congr 1
              simp only [h1, hfn]
              cases seen.contains m <;> cases X m <;> cases (m == nm) <;> rfl) hfD
          refine ih (f.sel ++ rest) (seen ++ [nm]) _
            (by simpa only [kids, hF, Option.map_some, Option.getD_some] using hin) ?_ ?_
          · intro nm' hx hr
            rcases rch_append hr with h | h
            · exact hav nm' hx (.spread List.mem_cons_self hF h)
            · exact havrest nm' hx h
          · rw [wL_append]
            have hb : bodyW f = wL f.sel := rfl
            omega

/-- the selection set of a definition -/
def selOf : ExecDef → List Selection
  | .op o => o.sel
  | .frag f => f.sel
  | .imp _ => []

/-- the selection sets `get_type_for_selection_set` is called on: those nested in a definition of the document -/
def InDoc (D : Doc) (ss : List Selection) : Prop :=
  ∃ x ∈ D, (∀ i, x ≠ .imp i) ∧ Sub (selOf x) ss

/-- every definition's selection set fits the nesting bound `R` (no fragment cycle, spreads defined) -/
def FitsDoc (D : Doc) (R : Nat) : Prop :=
  ∀ x ∈ D, ∀ s ∈ selOf x, fitsS (OpTypes.fragsOf D) R s = true

/-- a fragment definition is the one its name denotes (true of all when fragment names are unique) -/
def FragsSelf (D : Doc) : Prop := ∀ f, ExecDef.frag f ∈ D → OpTypes.fragsOf D f.name = some f

/-- the model's own auxiliary fuel is `mfuelFor D = docSize D + 64`; `docSize D` already suffices -/
theorem boolVars_inDoc {D : Doc} {R : Nat} (hfit : FitsDoc D R) (hself : FragsSelf D) {ss : List Selection}
    (h : InDoc D ss) {mfuel : Nat} (hm : docSize D ≤ mfuel) : ∃ vars, boolVars (OpTypes.fragsOf D) mfuel ss = .ok vars := by
  obtain ⟨x, hx, hni, hsub⟩ := h
  have hfss := sub_fits hsub (hfit x hx)
  have hsz := sub_size hsub
  have hw := wL_le ss
  rw [docSize_eq] at hm
  have key : ∀ (X : Name → Bool), (∀ nm, X nm = true → ¬ Rch (OpTypes.fragsOf D) ss nm) →
      pool bodyW D X + dsz x ≤ tot D → ∃ vars, boolVars (OpTypes.fragsOf D) mfuel ss = .ok vars := by
    intro X hav hp
    have hd : selSizeList (selOf x) + 1 = dsz x := by
      cases x with
      | op o => rfl
      | frag f => rfl
      | imp i => exact absurd rfl (hni i)
    obtain ⟨r, hr⟩ := boolVarsGo_tight D R X mfuel ss [] [] hfss hav (by
      have : pool bodyW D (fun m => ([] : List Name).contains m || X m) = pool bodyW D X := by
        congr 1
      rw [this]; omega)
    exact ⟨r.eraseDups, by simp [boolVars, hr, Except.map]⟩
  cases x with
  | imp i => exact absurd rfl (hni i)
  | op o =>
    refine key (fun _ => false) (fun _ h => by cases h) ?_
    exact pool_add_le_tot bodyW_le _ (x := .op o) trivial hx
  | frag f =>
    refine key (fun m => m == f.name) ?_ ?_
    · intro nm hnm hr
      have : nm = f.name := by simpa using hnm
      subst this
      exact acyclic (hself f hx) R (hfit _ hx) (sub_rch hsub hr)
    · exact pool_add_le_tot bodyW_le _ (x := .frag f) (by simp) hx

end NitroVerif.OpTypes.Closed
