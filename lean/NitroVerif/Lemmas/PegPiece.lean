/-
Text against a sub-expression of a rule body in which the implicit skip does nothing (the body of an atomic or compound-atomic
rule, or any body run in an atomic context): `RunT`, a run whose two cursors are determined by the text it consumes, and
`Piece`, the run without pairs whose depth bound follows the text as well. The lemmas put runs side by side and wrap a rule
around its body, so that a rule is derived clause by clause from its body without a cursor or an offset being written.
String literals and block strings are derived in `RunT` (the depth bound of a literal counts items, and their rules produce pairs);
numbers, names and comments are `Piece`s. Both are to such bodies what `DocParse.Part` is to bodies generated with skip calls.
-/
import NitroVerif.Lemmas.PegRun

namespace NitroVerif.Peg

/-- `e`, started at offset `p` in front of `t ++ rest`, consumes exactly `t` and yields the pairs `ps`, within depth `n` -/
def RunT (g : G) (la : Look) (n : Nat) (sk : Bool) (e : Expr) (at_ : Atomicity) (p : Nat) (t rest : List Char)
    (ps : List Pair) : Prop :=
  RunsL g la n sk e at_ ⟨p, t ++ rest⟩ ⟨p + t.length, rest⟩ ps

namespace RunT
variable {g : G} {la : Look} {n m : Nat} {sk : Bool} {a b e : Expr} {at_ : Atomicity} {p : Nat}
  {t ta tb u rest : List Char} {ps pa pb qs : List Pair}

theorem mono (h : RunT g la n sk e at_ p t rest ps) (hnm : n ≤ m) : RunT g la m sk e at_ p t rest ps := RunsL.mono h hnm

theorem cast (h : RunT g la n sk e at_ p t rest ps) (ht : t = u) (hp : ps = qs) : RunT g la n sk e at_ p u rest qs :=
  ht ▸ hp ▸ h

theorem one {d : Char} (h : RunsL g la n sk e at_ ⟨p, d :: rest⟩ ⟨p + 1, rest⟩ ps) : RunT g la n sk e at_ p [d] rest ps := h

theorem str (w : List Char) : RunT g la 1 sk (.str w) at_ p w rest [] :=
  runsL_str (c := ⟨p, w ++ rest⟩) (matchStr_self_append w rest)

theorem seq (hn : sk = false ∨ at_ ≠ .nonAtomic) (ha : RunT g la n sk a at_ p ta (tb ++ rest) pa)
    (hb : RunT g la n sk b at_ (p + ta.length) tb rest pb) : RunT g la (n + 2) sk (.seq a b) at_ p (ta ++ tb) rest (pa ++ pb) := by
  unfold RunT at *
  rw [List.append_assoc, List.length_append, ← Nat.add_assoc p]
  exact runsL_seq_noskip hn ha hb

theorem nil_seq (hn : sk = false ∨ at_ ≠ .nonAtomic) (ha : RunsL g la n sk a at_ ⟨p, t ++ rest⟩ ⟨p, t ++ rest⟩ [])
    (hb : RunT g la n sk b at_ p t rest ps) : RunT g la (n + 2) sk (.seq a b) at_ p t rest ps :=
  runsL_seq_noskip hn ha hb

theorem fails_seq (hn : sk = false ∨ at_ ≠ .nonAtomic) (ha : RunT g la n sk a at_ p t rest ps)
    (hb : FailsL g la n sk b at_ ⟨p + t.length, rest⟩) : FailsL g la (n + 2) sk (.seq a b) at_ ⟨p, t ++ rest⟩ :=
  failsL_seq_last_noskip hn ha hb

theorem choice_l (h : RunT g la n sk a at_ p t rest ps) : RunT g la (n + 1) sk (.choice a b) at_ p t rest ps := runsL_choice_l h

/-- `x` with `hx` and not `t ++ rest` in `hf`: unification against `t ++ rest` settles on the wrong split of the text -/
theorem choice_r {x : List Char} (hf : FailsL g la n sk a at_ ⟨p, x⟩) (hb : RunT g la n sk b at_ p t rest ps)
    (hx : x = t ++ rest) : RunT g la (n + 1) sk (.choice a b) at_ p t rest ps := runsL_choice_r (hx ▸ hf) hb

theorem plus (h : RunT g la n sk (.seq a (.star a)) at_ p t rest ps) : RunT g la (n + 1) sk (.plus a) at_ p t rest ps :=
  runsL_plus h

theorem star_nil (hf : FailsL g la n false a at_ ⟨p, rest⟩) : RunT g la (n + 1) false (.star a) at_ p [] rest [] :=
  runsL_star_nil hf

theorem star_cons (ha : RunT g la n false a at_ p ta (tb ++ rest) pa)
    (hr : RunT g la n false (.star a) at_ (p + ta.length) tb rest pb) :
    RunT g la (n + 1) false (.star a) at_ p (ta ++ tb) rest (pa ++ pb) := by
  unfold RunT at *
  rw [List.append_assoc, List.length_append, ← Nat.add_assoc p]
  exact runsL_star_cons ha hr

theorem rep {k : Nat} (h : RunT g la n sk (unroll k a) at_ p t rest ps) : RunT g la (n + 1) sk (.rep k a) at_ p t rest ps :=
  runsL_rep h

/-- an atomic rule called from an atomic context: no pair of its own -/
theorem atomicIn {r : RuleId} {body : Expr} (hl : g.look r = some (.atomic, body))
    (h : RunT g la n false body .atomic p t rest ps) : RunT g la (n + 2) sk (.call r) .atomic p t rest ps := by
  have := runsL_call (sk := sk) (runsRuleL_atomic (at_ := .atomic) hl h)
  rwa [if_neg (fun h => h.2 rfl)] at this

/-- an atomic rule called outside lookahead from a context that is not atomic: one pair over the text -/
theorem atomicRule {r : RuleId} {body : Expr} (hl : g.look r = some (.atomic, body))
    (h : RunT g .none n false body .atomic p t rest ps) (hat : at_ ≠ .atomic) :
    RunT g .none (n + 2) sk (.call r) at_ p t rest [.mk r p (p + t.length) ps] := by
  have := runsL_call (sk := sk) (runsRuleL_atomic (at_ := at_) hl h)
  rwa [if_pos ⟨rfl, hat⟩] at this

theorem compound {r : RuleId} {body : Expr} (hl : g.look r = some (.compound, body))
    (h : RunT g .none n false body .compound p t rest ps) (at_ : Atomicity) :
    RunsRule g (n + 1) r at_ ⟨p, t ++ rest⟩ ⟨p + t.length, rest⟩ [.mk r p (p + t.length) ps] :=
  runsRule_compound hl h

theorem compoundRule {r : RuleId} {body : Expr} (hl : g.look r = some (.compound, body))
    (h : RunT g .none n false body .compound p t rest ps) :
    RunT g .none (n + 2) sk (.call r) at_ p t rest [.mk r p (p + t.length) ps] :=
  runs_call (sk := sk) (compound hl h at_)

end RunT

/-- a run that yields no pair, within a depth that grows with the text: `t.length + K`. A loop may then run over a text of
    any length within one `K`, and no bound is written in a derivation either. -/
def Piece (g : G) (la : Look) (K : Nat) (sk : Bool) (e : Expr) (at_ : Atomicity) (p : Nat) (t rest : List Char) : Prop :=
  RunT g la (t.length + K) sk e at_ p t rest []

namespace Piece
variable {g : G} {la : Look} {K K' n k : Nat} {sk : Bool} {a b e : Expr} {at_ : Atomicity} {p : Nat} {d : Char}
  {t ta tb u x rest : List Char}

theorem mono (h : Piece g la K sk e at_ p t rest) (hk : K ≤ K') : Piece g la K' sk e at_ p t rest :=
  RunsL.mono h (Nat.add_le_add_left hk _)

theorem cast (h : Piece g la K sk e at_ p t rest) (ht : t = u) : Piece g la K sk e at_ p u rest := ht ▸ h

theorem of (h : RunsL g la k sk e at_ ⟨p, t ++ rest⟩ ⟨p + t.length, rest⟩ []) : Piece g la k sk e at_ p t rest :=
  RunsL.mono h (Nat.le_add_left ..)

theorem empty (h : RunsL g la k sk e at_ ⟨p, rest⟩ ⟨p, rest⟩ []) : Piece g la k sk e at_ p [] rest :=
  RunsL.mono h (Nat.le_add_left ..)

theorem one (h : RunsL g la k sk e at_ ⟨p, d :: rest⟩ ⟨p + 1, rest⟩ []) : Piece g la k sk e at_ p [d] rest :=
  RunsL.mono h (Nat.le_add_left ..)

theorem str (w : List Char) : Piece g la 1 sk (.str w) at_ p w rest := (RunT.str w).mono (Nat.le_add_left ..)

theorem seq (hn : sk = false ∨ at_ ≠ .nonAtomic) (ha : Piece g la K sk a at_ p ta (tb ++ rest))
    (hb : Piece g la K' sk b at_ (p + ta.length) tb rest) : Piece g la (max K K' + 2) sk (.seq a b) at_ p (ta ++ tb) rest :=
  (RunT.seq (n := ta.length + tb.length + max K K') hn (RunT.mono ha (by omega)) (RunT.mono hb (by omega))).mono
    (by simp only [List.length_append]; omega)

theorem seq_nil (hn : sk = false ∨ at_ ≠ .nonAtomic) (ha : Piece g la K sk a at_ p t rest)
    (hb : Piece g la K' sk b at_ (p + t.length) [] rest) : Piece g la (max K K' + 2) sk (.seq a b) at_ p t rest :=
  (seq (tb := []) hn ha hb).cast (List.append_nil t)

/-- … where the FIRST expression consumes nothing (a lookahead): its depth may be paid for by the text of the piece after it -/
theorem nil_seq (hn : sk = false ∨ at_ ≠ .nonAtomic) (ha : RunsL g la n sk a at_ ⟨p, t ++ rest⟩ ⟨p, t ++ rest⟩ [])
    (hb : Piece g la K' sk b at_ p t rest) (hle : n ≤ t.length + K) : Piece g la (max K K' + 2) sk (.seq a b) at_ p t rest :=
  (RunT.nil_seq (n := t.length + max K K') hn (ha.mono (by omega)) (RunT.mono hb (by omega))).mono (by omega)

theorem fails_seq (hn : sk = false ∨ at_ ≠ .nonAtomic) (ha : Piece g la K sk a at_ p t rest)
    (hb : FailsL g la n sk b at_ ⟨p + t.length, rest⟩) :
    FailsL g la (max (t.length + K) n + 2) sk (.seq a b) at_ ⟨p, t ++ rest⟩ :=
  RunT.fails_seq hn (RunT.mono ha (Nat.le_max_left ..)) (hb.mono (Nat.le_max_right ..))

theorem choice_l (h : Piece g la K sk a at_ p t rest) : Piece g la (K + 1) sk (.choice a b) at_ p t rest := RunT.choice_l h

theorem choice_r (hf : FailsL g la n sk a at_ ⟨p, x⟩) (hb : Piece g la K sk b at_ p t rest) (hx : x = t ++ rest)
    (hn : n ≤ t.length + K) : Piece g la (K + 1) sk (.choice a b) at_ p t rest :=
  RunT.choice_r (hf.mono hn) hb hx

theorem opt_some (h : Piece g la K sk a at_ p t rest) : Piece g la (K + 1) sk (.opt a) at_ p t rest := runsL_opt_some h

theorem opt_none (hf : FailsL g la n sk a at_ ⟨p, rest⟩) (hn : n ≤ K) : Piece g la (K + 1) sk (.opt a) at_ p [] rest :=
  empty (runsL_opt_none (hf.mono hn))

theorem not_ (hf : FailsL g (lookNot la) n sk a at_ ⟨p, rest⟩) (hn : n ≤ K) : Piece g la (K + 1) sk (.not a) at_ p [] rest :=
  empty (runsL_not (hf.mono hn))

theorem plus (h : Piece g la K sk (.seq a (.star a)) at_ p t rest) : Piece g la (K + 1) sk (.plus a) at_ p t rest :=
  RunT.plus h

theorem star {P : Char → Prop} (hruns : ∀ p d r, P d → RunsL g la k false e at_ ⟨p, d :: r⟩ ⟨p + 1, r⟩ [])
    (hfails : ∀ p, FailsL g la k false e at_ ⟨p, rest⟩) (ht : ∀ y ∈ t, P y) :
    Piece g la (k + 1) false (.star e) at_ p t rest := runsL_star_run hruns hfails t p ht

/-- one more iteration in front of a loop: its characters pay for the level it adds -/
theorem star_cons (h1 : 1 ≤ ta.length) (hk : K + 1 ≤ K') (ha : Piece g la K false a at_ p ta (tb ++ rest))
    (hr : Piece g la K' false (.star a) at_ (p + ta.length) tb rest) : Piece g la K' false (.star a) at_ p (ta ++ tb) rest := by
  obtain ⟨m, hm⟩ : ∃ m, ta.length = m + 1 := ⟨ta.length - 1, by omega⟩
  exact (RunT.star_cons (n := m + tb.length + K') (RunT.mono ha (by omega)) (RunT.mono hr (by omega))).mono
    (by simp only [List.length_append]; omega)

theorem atomic {r : RuleId} {body : Expr} (hl : g.look r = some (.atomic, body))
    (h : Piece g la K false body .atomic p t rest) : Piece g la (K + 2) sk (.call r) .atomic p t rest := RunT.atomicIn hl h

theorem rule {r : RuleId} {body : Expr} (hl : g.look r = some (.atomic, body))
    (h : Piece g .none K false body .atomic p t rest) (at_ : Atomicity) :
    RunsRule g (t.length + K + 1) r at_ ⟨p, t ++ rest⟩ ⟨p + t.length, rest⟩
      (if at_ ≠ .atomic then [Pair.mk r p (p + t.length) []] else []) := runsRule_atomic hl h

end Piece
end NitroVerif.Peg
