import NitroVerif.Lemmas.PrintMap
import NitroVerif.Lemmas.SchemaFacts
/-!
# C06 — printer call sites: the schema type printer

`schemaSites c doc` is a closed form (no `TSType`, no writer operations other than the mapped calls) of the `write_for`
calls with a non-builtin position that `SchemaTypePrinter::print_document` performs, in order;
the pieces of the modelled operation sequence (prelude, namespaces, representatives) project onto its three parts;
`schema_sites_exact` (`Props/C06Sites.lean`) puts them together.
-/
namespace NitroVerif.PrintMap
open NitroVerif.Gql NitroVerif.DeclCfg NitroVerif.SchemaDecls

theorem tySitesList_append (a b : List TSTy) : tySitesList (a ++ b) = tySitesList a ++ tySitesList b := by
  induction a with
  | nil => simp [tySitesList]
  | cons t a ih => simp [tySitesList, ih]

theorem tySitesList_map {α} (l : List α) (f : α → TSTy) :
    tySitesList (l.map f) = l.flatMap (fun a => tySites (f a)) := by
  induction l with
  | nil => simp [tySitesList]
  | cons a l ih => simp [tySitesList, ih]

theorem fieldSites_map {α} (l : List α) (f : α → TSField) :
    fieldSites (l.map f) = l.flatMap (fun a => fieldSites [f a]) := by
  induction l with
  | nil => simp [fieldSites]
  | cons a l ih =>
    simp only [List.map_cons, List.flatMap_cons, ← ih]
    cases f a with
    | mk k kp ty ro opt d => simp [fieldSites]

theorem fieldSites_filterMap {α} (l : List α) (f : α → Option TSField) :
    fieldSites (l.filterMap f) = l.flatMap (fun a => match f a with | some x => fieldSites [x] | none => []) := by
  induction l with
  | nil => simp [fieldSites]
  | cons a l ih =>
    simp only [List.filterMap_cons, List.flatMap_cons]
    cases h : f a with
    | none => simpa using ih
    | some x =>
      cases x with
      | mk k kp ty ro opt d => simp [fieldSites, ih]

theorem tySites_tsUnion (ts : List TSTy) : tySites (tsUnion ts) = tySitesList ts := by
  match ts with
  | [] => simp [tsUnion, tySites, tySitesList]
  | [t] => simp [tsUnion, tySitesList]
  | t :: u :: r => simp [tsUnion, tySites]

/-- position of the named type at the bottom of a type reference -/
def leafPos : GType → Pos
  | .named _ p => p
  | .list t _ => leafPos t
  | .nonNull t => leafPos t

theorem tySites_tsOfTypeImpl (leaf : Name → Pos → TSTy) (t : GType) :
    tySites (tsOfTypeImpl leaf t).1 = tySites (leaf t.unwrapped (leafPos t)) := by
  induction t with
  | named n p => simp [tsOfTypeImpl, GType.unwrapped, leafPos]
  | list t p ih =>
    simp only [tsOfTypeImpl, GType.unwrapped, leafPos]
    split <;> simp [tySites, tySitesList, ih]
  | nonNull t ih => simp [tsOfTypeImpl, GType.unwrapped, leafPos, ih]

theorem tySites_tsOfType (leaf : Name → Pos → TSTy) (t : GType) :
    tySites (tsOfType leaf t) = tySites (leaf t.unwrapped (leafPos t)) := by
  unfold tsOfType
  rw [← tySites_tsOfTypeImpl]
  generalize tsOfTypeImpl leaf t = r
  obtain ⟨i, nullable⟩ := r
  cases nullable <;> simp [tySites, tySitesList]

mutual
theorem tySites_intoReadonly : ∀ t : TSTy, tySites (intoReadonly t) = tySites t
  | .var _ _ => by simp [intoReadonly]
  | .func f args => by simp [intoReadonly, tySites, tySitesList_intoReadonly args]
  | .strLit _ => by simp [intoReadonly]
  | .ns2 _ _ => by simp [intoReadonly]
  | .ns3 _ _ _ => by simp [intoReadonly]
  | .obj fs => by simp [intoReadonly, tySites, fieldSites_readonly fs]
  | .arr t => by simp [intoReadonly, tySites, tySites_intoReadonly t]
  | .roArr t => by simp [intoReadonly, tySites, tySites_intoReadonly t]
  | .union ts => by simp [intoReadonly, tySites, tySitesList_intoReadonly ts]
  | .inter ts => by simp [intoReadonly, tySites, tySitesList_intoReadonly ts]
  | .undefined => by simp [intoReadonly]
  | .null => by simp [intoReadonly]
  | .never => by simp [intoReadonly]
  | .unknown => by simp [intoReadonly]
  | .raw _ => by simp [intoReadonly]
theorem tySitesList_intoReadonly : ∀ ts : List TSTy, tySitesList (intoReadonlyList ts) = tySitesList ts
  | [] => by simp [intoReadonlyList]
  | t :: ts => by simp [intoReadonlyList, tySitesList, tySites_intoReadonly t, tySitesList_intoReadonly ts]
theorem fieldSites_readonly : ∀ fs : List TSField, fieldSites (fieldsReadonly fs) = fieldSites fs
  | [] => by simp [fieldsReadonly]
  | .mk k kp ty ro opt d :: r => by simp [fieldsReadonly, fieldSites, fieldSites_readonly r]
end

/-- the mapped call of an object key: only keys printed as raw identifiers go through `write_for` -/
def keySites (k : String) (p : Pos) : List POp := if isRawIdent k then node k p k else []

@[simp] theorem keySites_builtin (k : String) : keySites k bi = [] := by
  unfold keySites; split <;> simp

theorem tySites_localLeaf (x : Ctx) (t : GType) : tySites (tsOfType (localLeaf x) t) = [] := by
  rw [tySites_tsOfType]; simp [localLeaf, tySites]

/-- `"export type "` when the definition keeps its name, `"type "` when it is emitted under a `__tmp_` local name -/
def headerText (td : TypeDef) (localName : String) : String :=
  if td.name == localName then "export type " else "type "

/-- the two mapped calls of a declaration header: the keyword node, then the definition's NAME node -/
def headerSites (td : TypeDef) (localName : String) : List POp :=
  node (headerText td localName) td.pos (keywordOf td.kind) ++ node localName td.namePos td.name

/-- the mapped calls inside the body of a declaration: the keys of an object or input object, the kept-name members of a union -/
def bodySites (x : Ctx) (td : TypeDef) : List POp :=
  match td.kind with
  | .object => td.fields.flatMap fun f => keySites f.name f.pos
  | .union => td.members.flatMap fun m => if x.local m.1 == m.1 then node m.1 m.2 m.1 else []
  | .input => td.inputs.flatMap fun f => keySites f.name f.pos
  | _ => []

/-- is a definition of this kind printed in the namespace of the context's target? -/
def printed (x : Ctx) (td : TypeDef) : Bool :=
  match td.kind with
  | .scalar | .enum => true
  | .object | .interface | .union => !x.target.isInput
  | .input => !x.target.isOutput

/-- the mapped calls of one definition in one namespace: header and body, if its kind is printed there -/
def typeSites (x : Ctx) (td : TypeDef) : List POp :=
  if printed x td then headerSites td (x.local td.name) ++ bodySites x td else []

def itemSites (x : Ctx) : TsItem → List POp
  | .typeDef td => typeSites x td
  | _ => []

theorem mapped_exportTypeOps (td : TypeDef) (l : String) (body : List POp) :
    mappedOps (exportTypeOps td l body) = headerSites td l ++ mappedOps body := by
  unfold exportTypeOps headerSites headerText
  split <;> simp

theorem bodyOps_mapped (x : Ctx) (td : TypeDef) (r : Option (List POp)) (h : bodyOps x td = .ok r) :
    (r = none ∧ printed x td = false) ∨ (∃ b, r = some b ∧ printed x td = true ∧ mappedOps b = bodySites x td) := by
  unfold bodyOps at h
  cases hk : td.kind <;> simp only [hk] at h
  · -- scalar
    split at h
    · cases h; exact .inr ⟨_, rfl, by simp [printed, hk], by simp [bodySites, hk]⟩
    · cases h
  · -- object
    cases ht : x.target.isInput <;> simp only [ht] at h <;> cases h
    · refine .inr ⟨_, rfl, by simp [printed, hk, ht], ?_⟩
      rw [mapped_printTy]
      simp only [objectTy, tySites, fieldSites, plainField, node_builtin, bodySites, hk]
      rw [fieldSites_map]
      simp [fieldSites, tySites_localLeaf, keySites]
    · exact .inl ⟨rfl, by simp [printed, hk, ht]⟩
  · -- interface
    cases ht : x.target.isInput <;> simp only [ht] at h <;> cases h
    · refine .inr ⟨_, rfl, by simp [printed, hk, ht], ?_⟩
      rw [mapped_printTy]
      simp [interfaceTy, tySites_tsUnion, tySitesList_map, tySites, bodySites, hk]
    · exact .inl ⟨rfl, by simp [printed, hk, ht]⟩
  · -- union
    cases ht : x.target.isInput <;> simp only [ht] at h <;> cases h
    · refine .inr ⟨_, rfl, by simp [printed, hk, ht], ?_⟩
      rw [mapped_printTy]
      simp only [unionTy, tySites_tsUnion, tySitesList_map, bodySites, hk]
      congr 1
      funext m
      split <;> simp [tySites]
    · exact .inl ⟨rfl, by simp [printed, hk, ht]⟩
  · -- enum
    cases h
    refine .inr ⟨_, rfl, by simp [printed, hk], ?_⟩
    rw [mapped_printTy]
    simp [enumTy, tySites, tySitesList_map, bodySites, hk]
  · -- input
    cases ht : x.target.isOutput <;> simp only [ht] at h <;> cases h
    · refine .inr ⟨_, rfl, by simp [printed, hk, ht], ?_⟩
      rw [mapped_printTy]
      simp only [inputTy, tySites, bodySites, hk]
      rw [fieldSites_map]
      congr 1
      funext f
      have hty : tySites (if (x.cfg.optionalInput && !f.ty.isNonNull) = true then
          TSTy.union [intoReadonly (tsOfType (localLeaf x) f.ty), TSTy.undefined]
          else intoReadonly (tsOfType (localLeaf x) f.ty)) = [] := by
        split <;> simp [tySites, tySitesList, tySites_intoReadonly, tySites_localLeaf]
      simp only [inputField, fieldSites, List.append_nil, keySites, hty]
    · exact .inl ⟨rfl, by simp [printed, hk, ht]⟩

theorem printTypeOps_mapped (x : Ctx) (td : TypeDef) (ops : List POp) (h : printTypeOps x td = .ok ops) :
    mappedOps ops = typeSites x td := by
  unfold printTypeOps at h
  cases hb : bodyOps x td with
  | error e => simp [hb] at h
  | ok r =>
    rcases bodyOps_mapped x td r hb with ⟨rfl, hp⟩ | ⟨b, rfl, hp, hm⟩
    · simp only [hb] at h; cases h; simp [typeSites, hp]
    · simp only [hb] at h; cases h
      simp [typeSites, hp, mapped_exportTypeOps, hm]

theorem itemOps_mapped (x : Ctx) (it : TsItem) (ops : List POp) (h : itemOps x it = .ok ops) :
    mappedOps ops = itemSites x it := by
  cases it with
  | typeDef td => exact printTypeOps_mapped x td ops h
  | schemaDef _ => simp [itemOps] at h; subst h; rfl
  | directiveDef _ => simp [itemOps] at h; subst h; rfl
  | schemaExt _ => simp [itemOps] at h; subst h; rfl
  | typeExt _ => simp [itemOps] at h; subst h; rfl

theorem namespaceBodyOps_mapped (x : Ctx) (doc : TsDoc) (ops : List POp) (h : namespaceBodyOps x doc = .ok ops) :
    mappedOps ops = doc.flatMap (itemSites x) := by
  fun_induction namespaceBodyOps x doc generalizing ops with
  | case1 => cases h; rfl
  | case4 it rest a ha r hr ih => cases h; simp [itemOps_mapped x it a ha, ih r hr]
  | case2 | case3 => cases h

theorem namespacesOps_mapped (c : Cfg) (doc : TsDoc) (ts : List Target) (ops : List POp)
    (h : namespacesOps c doc ts = .ok ops) :
    mappedOps ops = ts.flatMap (fun t => doc.flatMap (itemSites (Ctx.new c doc t))) := by
  fun_induction namespacesOps c doc ts generalizing ops with
  | case1 => cases h; rfl
  | case4 t rest body hb r hr ih => cases h; simp [namespaceBodyOps_mapped _ doc body hb, ih r hr]
  | case2 | case3 => cases h

/-- the mapped calls of `print_representative`: the header again, and for an enum with `emitSchemaRuntime` the
    `export const` header and, per value, the property key and the string content -/
def reprSites (x : Ctx) (td : TypeDef) : List POp :=
  headerSites td (x.local td.name)
  ++ (if td.kind == .enum && x.cfg.emitSchemaRuntime then
        node "export const " td.pos (keywordOf td.kind) ++ node td.name td.namePos td.name
        ++ td.values.flatMap (fun v => node v.name v.pos v.name ++ node v.name v.pos v.name)
      else [])

def itemReprSites (x : Ctx) : TsItem → List POp
  | .typeDef td => reprSites x td
  | _ => []

theorem mapped_exportRepresentativeOps (td : TypeDef) (l : String) (t : Target) :
    mappedOps (exportRepresentativeOps td l t) = headerSites td l := by
  unfold exportRepresentativeOps headerSites headerText
  split <;> simp

theorem representativeOps_mapped (x : Ctx) (td : TypeDef) :
    mappedOps (representativeOps x td) = reprSites x td := by
  unfold representativeOps reprSites
  rw [mappedOps_append, mapped_exportRepresentativeOps]
  congr 1
  split
  · simp only [List.cons_append, List.nil_append, mappedOps_writeFor, mappedOps_write, mappedOps_indent,
      mappedOps_append, mappedOps_dedent, mappedOps_nil, List.append_nil, List.append_assoc]
    rw [mappedOps_flatMap]
    simp
  · rfl

theorem itemRepresentativeOps_mapped (x : Ctx) (it : TsItem) :
    mappedOps (itemRepresentativeOps x it ++ [.write "\n"]) = itemReprSites x it := by
  cases it <;> simp [itemRepresentativeOps, itemReprSites, representativeOps_mapped]

/-- an object type called Query, Mutation or Subscription: a root type when the document has no schema definition -/
def isRootName (td : TypeDef) : Bool :=
  td.kind == .object && (td.name == "Query" || td.name == "Mutation" || td.name == "Subscription")

/-- the mapped calls of `print_prelude`: the root type references of the `__nitrogql_schema` type — from the first
    schema definition, else the object types called Query / Mutation / Subscription (their definition's name node) -/
def metadataSites (doc : TsDoc) : List POp :=
  match firstSchemaDef doc with
  | some sd => sd.roots.flatMap fun r => node r.2.1 r.2.2 r.2.1
  | none => (typeDefsOf doc).flatMap fun td => if isRootName td then node td.name td.namePos td.name else []

theorem preludeOps_mapped (doc : TsDoc) : mappedOps (preludeOps doc) = metadataSites doc := by
  unfold preludeOps metadataSites
  simp only [List.cons_append, List.nil_append, mappedOps_write, mappedOps_append, mappedOps_nil, List.append_nil,
    mapped_printTy, schemaMetadataTy]
  cases firstSchemaDef doc with
  | some sd =>
    simp only [tySites]
    rw [fieldSites_map]
    congr 1
    funext r
    obtain ⟨k, n, p⟩ := r
    simp [plainField, fieldSites, tySites]
  | none =>
    simp only [tySites]
    rw [fieldSites_filterMap]
    congr 1
    funext td
    unfold isRootName
    by_cases hk : td.kind = .object
    · by_cases h1 : td.name = "Query"
      · simp [hk, h1, typeKind_beq, plainField, fieldSites, tySites]
      · by_cases h2 : td.name = "Mutation"
        · simp [hk, h2, typeKind_beq, plainField, fieldSites, tySites]
        · by_cases h3 : td.name = "Subscription"
          · simp [hk, h3, typeKind_beq, plainField, fieldSites, tySites]
          · simp [hk, h1, h2, h3, typeKind_beq]
    · simp [hk, typeKind_beq]

/-- closed form of the mapped calls of `SchemaTypePrinter::print_document`, in order -/
def schemaSites (c : Cfg) (doc : TsDoc) : List POp :=
  metadataSites doc
  ++ Target.all.flatMap (fun t => doc.flatMap (itemSites (Ctx.new c doc t)))
  ++ doc.flatMap (itemReprSites (Ctx.new c doc .operationOutput))

end NitroVerif.PrintMap
