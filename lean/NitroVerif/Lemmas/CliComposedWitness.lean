/-
C18 composed: a small concrete project — the witness by which the hypotheses of the theorems of
`Props/C18Composed.lean` are shown satisfiable — two faulty variants of it, and the stage results the stage models
compute for the three (one evaluation each; what the driver makes of them is then a computation on a `Run` literal).
-/
import NitroVerif.Lemmas.CliComposedDocs
import NitroVerif.Lemmas.CliComposedPos
namespace NitroVerif.CliComposed
open NitroVerif NitroVerif.Gql NitroVerif.Cli

/-- texts of the witness: a "text" is the pair of documents the two parsers return for it -/
abbrev WText := TsDoc × Doc

def wEnv : Env WText Nat :=
  { parseTs := fun i t =>
      if t.1.isEmpty || !(TsDoc.positions t.1).all (fun p => p.file == i && !p.builtin) then .error (0, 0, i) else .ok t.1
    parseOp := fun i t =>
      if t.2.isEmpty || !Doc.nonEmptySelectionsB t.2 || !(Doc.positions t.2).all (fun p => p.file == i && !p.builtin)
      then .error (0, 0, i) else .ok t.2
    res := fun _ rel => rel.length
    code := fun n => n.length
    pathPos := fun i => i.pos
    tags := ⟨fun _ => 0, fun _ => 1, fun _ => 2, fun _ => 3, fun _ => 4⟩ }

/-- `type Query { a: Int  q: Query }` (file 0) -/
def wSchemaText : WText :=
  ([.typeDef { kind := .object, name := "Query", namePos := ⟨0, 5, 0, false⟩, pos := ⟨0, 0, 0, false⟩,
               fields := [{ name := "a", pos := ⟨0, 13, 0, false⟩, ty := .named "Int" ⟨0, 16, 0, false⟩ },
                          { name := "q", pos := ⟨0, 21, 0, false⟩, ty := .named "Query" ⟨0, 24, 0, false⟩ }] }], [])

/-- `#import F from "x"` / `query Q { a ...F }` (file 1, registered under path 0) -/
def wOpText1 : WText :=
  ([], [.imp { targets := [some ("F", ⟨0, 8, 1, false⟩)], path := "x", pos := ⟨0, 0, 1, false⟩ },
        .op { kind := .query, name := some ("Q", ⟨1, 6, 1, false⟩), pos := ⟨1, 0, 1, false⟩,
              sel := [.field none "a" ⟨1, 10, 1, false⟩ [] [] none, .spread "F" ⟨1, 15, 1, false⟩ [] ⟨1, 12, 1, false⟩] }])

/-- `fragment F on Query { q { a } }` (file 2, registered under path 1 = the length of the literal `"x"`) -/
def wOpText2 : WText :=
  ([], [.frag { name := "F", namePos := ⟨0, 9, 2, false⟩, cond := "Query", condPos := ⟨0, 14, 2, false⟩,
                pos := ⟨0, 0, 2, false⟩,
                sel := [.field none "q" ⟨0, 22, 2, false⟩ [] [] (some [.field none "a" ⟨0, 26, 2, false⟩ [] [] none])] }])

def wGen : GenOpts := ⟨true, false, false, false, false, .withLoaderTs50⟩

/-- a clean project: `check generate` on one schema file and two operation files, one importing from the other -/
def wProject : Project WText Nat :=
  ⟨[.check, .generate], [wSchemaText], [⟨0, wOpText1, .ok⟩, ⟨1, wOpText2, .ok⟩], wGen, false, .ok, .ok, .ok⟩

/-- the same project with a field the schema does not have in the second operation file -/
def wBadProject : Project WText Nat :=
  { wProject with ops := [⟨0, wOpText1, .ok⟩,
      ⟨1, ([], [.frag { name := "F", namePos := ⟨0, 9, 2, false⟩, cond := "Query", condPos := ⟨0, 14, 2, false⟩,
                        pos := ⟨0, 0, 2, false⟩, sel := [.field none "zz" ⟨0, 22, 2, false⟩ [] [] none] }]), .ok⟩] }

/-- a project whose second operation file imports from a file that is not among the documents -/
def wDanglingProject : Project WText Nat :=
  { wProject with ops := [⟨0, wOpText1, .ok⟩,
      ⟨1, ([], [.imp { targets := [none], path := "nowhere", pos := ⟨0, 0, 2, false⟩ },
                .frag { name := "F", namePos := ⟨1, 9, 2, false⟩, cond := "Query", condPos := ⟨1, 14, 2, false⟩,
                        pos := ⟨1, 0, 2, false⟩, sel := [.field none "a" ⟨1, 22, 2, false⟩ [] [] none] }]), .ok⟩] }

theorem stagesOf_wProject : stagesOf wEnv wProject =
    ⟨[.check, .generate], [.ok], none, [], [⟨.ok, none, none, [], .ok⟩, ⟨.ok, none, none, [], .ok⟩], wGen,
      false, .ok, .ok, .ok⟩ := by
  decide +kernel

/-- the unknown field `zz` is reported by the operation check twice: for file 2, and for file 1, which imports the
    fragment -/
theorem stagesOf_wBadProject : stagesOf wEnv wBadProject =
    ⟨[.check, .generate], [.ok], none, [],
      [⟨.ok, none, none, [⟨⟨0, 22, 2, false⟩, [], 4⟩], .ok⟩, ⟨.ok, none, none, [⟨⟨0, 22, 2, false⟩, [], 4⟩], .ok⟩],
      wGen, false, .ok, .ok, .ok⟩ := by
  decide +kernel

/-- both files fail at the import stage, file 1 through its import of file 2; the model of the operation check also
    misses the fragment `F` in file 1, which the driver does not get to see -/
theorem stagesOf_wDanglingProject : stagesOf wEnv wDanglingProject =
    ⟨[.check, .generate], [.ok], none, [],
      [⟨.ok, none, some ⟨⟨0, 0, 2, false⟩, [⟨0, 0, 0, true⟩], 3⟩, [⟨⟨1, 15, 1, false⟩, [], 4⟩], .ok⟩,
       ⟨.ok, none, some ⟨⟨0, 0, 2, false⟩, [⟨0, 0, 0, true⟩], 3⟩, [], .ok⟩],
      wGen, false, .ok, .ok, .ok⟩ := by
  decide +kernel

theorem wSchemaValid : Valid.SchemaValid ⟨resolvedSchema wEnv wProject⟩ := by
  decide +kernel

end NitroVerif.CliComposed
