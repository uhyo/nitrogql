import NitroVerif.Lemmas.Loader
import NitroVerif.Lemmas.DocJsonComposed
import NitroVerif.Model.Exports
import NitroVerif.Model.DocJson
/-!
The CONCRETE emitter of the loader, assembled from the models of the other properties:

  `emit_js` (graphql-loader/src/loader.rs) =
      `task.get_root_document()`                                              — the file held under the root name AS SUPPLIED
      `resolve_operation_imports((root, ..), TaskOperationResolver(task))`   — `Model/Imports.lean` (C13) through
                                                                               `Composed.resolveDoc`, started from the
                                                                               NORMALISED root name (`Params.norm`)
      `find_undefined_fragment_spread` (fix 08fd7e5)                          — `Composed.findUndefined`
      `print_js` = `print_js_for_operation_document`                          — statements: `Model/Exports.lean` (C14, the
                                                                               loader never marks a fragment imported);
                                                                               document literals: `Model/FragClosure.lean`
                                                                               + `Model/DocJson.lean` (C12)

The parser (`parse_operation_document` + `resolve_operation_extensions`), the path resolver, the `Nat`-coding of
fragment names, the configuration and the numbering of error messages stay parameters (`Params`).
`Loader.Env.emit` receives the task's files as a lookup FUNCTION (what `TaskOperationResolver` offers); the import
model wants a finite map.  `emitFiles` is the computable emitter on a file list, `emitOfLook` picks any list with the
given lookup function, and `emitOfLook_lookup` shows the choice is immaterial (`resolve_lookup_congr`).
No property statements here.
-/
namespace NitroVerif.LoaderC
open NitroVerif NitroVerif.Gql NitroVerif.Loader NitroVerif.Composed NitroVerif.FragClosure NitroVerif.Imports
  NitroVerif.C12



/-- the JavaScript module `print_js` writes: its top-level statements (`Model/Exports.lean`; the constant of
    definition `i` carries the index `i`) and, per definition, the JSON document literal assigned to that constant -/
structure JsModule where
  stmts : Exports.Module
  docs : List Json

def kindOf : OpKind → Exports.Kind
  | .query => .query
  | .mutation => .mutation
  | .subscription => .subscription

/-- what the naming / export decisions read of a definition -/
def expDef (imported : Bool) : ExecDef → Option Exports.Def
  | .op o => some (.op (kindOf o.kind) (o.name.map (·.1.toList)))
  | .frag f => some (.frag f.name.toList imported)
  | .imp _ => none

/-- the resolved document as the CLI's printers see it: the first `nLocal` definitions are the root file's own, the
    rest was appended by `resolve_operation_imports` (their `position.file` differs) -/
def cliFile (nLocal : Nat) (R : List ExecDef) : Exports.File :=
  (R.take nLocal).filterMap (expDef false) ++ (R.drop nLocal).filterMap (expDef true)

/-- … and as the loader's printer sees it (every file it parses has `Pos.file = 0`: nothing looks imported) -/
def loaderFile (R : List ExecDef) : Exports.File := R.filterMap (expDef false)

theorem filterMap_expDef_asLocal (b : Bool) (R : List ExecDef) :
    (R.filterMap (expDef b)).map Exports.Def.asLocal = R.filterMap (expDef false) := by
  induction R with
  | nil => rfl
  | cons d r ih =>
    cases d with
    | op o => simp [expDef, Exports.Def.asLocal, ih]
    | frag f => simp [expDef, Exports.Def.asLocal, ih]
    | imp i =>
      have e : ∀ c, (ExecDef.imp i :: r).filterMap (expDef c) = r.filterMap (expDef c) := by
        intro c; simp [List.filterMap_cons, expDef]
      rw [e, e]; exact ih

theorem cliFile_asLocal (n : Nat) (R : List ExecDef) : (cliFile n R).map Exports.Def.asLocal = loaderFile R := by
  simp only [cliFile, List.map_append, filterMap_expDef_asLocal, loaderFile, ← List.filterMap_append,
    List.take_append_drop]

/-- the document literal of every definition of `l`, printed against the document `R` -/
def docsOf (R : List ExecDef) : List ExecDef → Except RtErr (List Json)
  | [] => .ok []
  | d :: r =>
    match runtimeDefs R d with
    | .error e => .error e
    | .ok ds => match docsOf R r with
      | .ok js => .ok (DocJson.toJson ds :: js)
      | .error e => .error e

/-- `print_js(document, config)`; an error is the printer's `expect("fragment not found")` -/
def moduleOf (cfg : Exports.Config) (R : List ExecDef) : Except RtErr JsModule :=
  match docsOf R R with
  | .ok js => .ok ⟨Exports.js cfg (loaderFile R), js⟩
  | .error e => .error e

theorem docsOf_ok {R : List ExecDef} : ∀ (l : List ExecDef), (∀ d ∈ l, ∃ ds, runtimeDefs R d = .ok ds) →
    ∃ js, docsOf R l = .ok js ∧ js.length = l.length ∧
      ∀ (i : Nat) (d : ExecDef), l[i]? = some d → ∃ ds, runtimeDefs R d = .ok ds ∧ js[i]? = some (DocJson.toJson ds)
  | [], _ => ⟨[], rfl, rfl, fun i d h => by simp at h⟩
  | x :: r, h => by
    obtain ⟨ds, hds⟩ := h x (by simp)
    obtain ⟨js, hjs, hlen, hidx⟩ := docsOf_ok r (fun d hd => h d (by simp [hd]))
    refine ⟨DocJson.toJson ds :: js, by simp [docsOf, hds, hjs], by simp [hlen], ?_⟩
    intro i d hi
    cases i with
    | zero => simp only [List.getElem?_cons_zero, Option.some.injEq] at hi; subst hi; exact ⟨ds, hds, rfl⟩
    | succ i => simp only [List.getElem?_cons_succ] at hi ⊢; exact hidx i d hi

theorem docsOf_error {R : List ExecDef} : ∀ (l : List ExecDef) (e : RtErr), docsOf R l = .error e →
    ∃ d ∈ l, runtimeDefs R d = .error e
  | [], e, h => by simp [docsOf] at h
  | x :: r, e, h => by
    simp only [docsOf] at h
    cases hx : runtimeDefs R x with
    | error e' => rw [hx] at h; injection h with h; subst h; exact ⟨x, by simp, hx⟩
    | ok ds =>
      rw [hx] at h
      cases hr : docsOf R r with
      | ok js => rw [hr] at h; cases h
      | error e' =>
        rw [hr] at h; injection h with h; subst h
        obtain ⟨d, hd, he⟩ := docsOf_error r e' hr
        exact ⟨d, by simp [hd], he⟩

theorem moduleOf_ok (cfg : Exports.Config) {R : List ExecDef} (hs : SpreadsDefined R) :
    ∃ m, moduleOf cfg R = .ok m ∧ m.stmts = Exports.js cfg (loaderFile R) ∧ m.docs.length = R.length ∧
      ∀ (i : Nat) (d : ExecDef), R[i]? = some d → ∃ ds, runtimeDefs R d = .ok ds ∧ m.docs[i]? = some (DocJson.toJson ds) := by
  obtain ⟨js, hjs, hlen, hidx⟩ := docsOf_ok (R := R) R (fun d hd => runtimeDefs_ok_of_spreads hs hd)
  exact ⟨⟨Exports.js cfg (loaderFile R), js⟩, by simp [moduleOf, hjs], rfl, hlen, hidx⟩


/-- what stays abstract -/
structure Params (P S : Type) where
  /-- `parse_operation_document` + `resolve_operation_extensions`: an error number, or the parsed file -/
  parseSrc : S → Except Nat (SrcFile P)
  /-- `resolve_relative_path(from_file, literal)` -/
  res : P → P → P
  /-- `normalize_path`: `resolve_operation_imports` knows the ROOT document by `normalize_path(root_file_name)` (its
      initial `expanded` set), while the task looks its root document up under the name as supplied.  The code resolves
      the root's own literals against the name as supplied; the model resolves them against `norm root`, which is the
      same whenever `res (norm p) r = res p r` — true of `resolve_relative_path`, which normalises its base
      (`Paths.resolve_normalize_base` for the C20 model) -/
  norm : P → P
  /-- `Nat`-coding of fragment names (import lines carry coded names) -/
  code : Name → Nat
  /-- the `CONFIG` cell -/
  cfg : Exports.Config
  /-- numbering of the import resolver's error messages -/
  eImp : ImpErr P P → Nat
  /-- number of `LoaderError::FragmentNotDefined { name }` -/
  eUndef : Name → Nat

variable {P S : Type} [DecidableEq P] (π : Params P S)

/-- the parsed document a task holds for a supplied source (`register_file` only stores sources that parse) -/
def parsedOf (d : Loader.Doc P S) : SrcFile P :=
  match π.parseSrc d.src with
  | .ok f => f
  | .error _ => ⟨[], []⟩

/-- `loaded_files` as the `TaskOperationResolver` presents it -/
def projOf (files : List (P × Loader.Doc P S)) : Project P P := files.map fun e => (e.1, parsedOf π e.2)

/-- `emit_js` after the task lookup, on a task holding `files` -/
def emitFiles (root : P) (files : List (P × Loader.Doc P S)) : EmitRes JsModule :=
  match (projOf π files).lookup root with
  | none => .err 0    -- `get_root_document`: not reached, `Loader.stepCall` traps before calling the emitter
  | some rootFile =>
    -- the root document is looked up under its name as supplied, the import resolver starts from the normalised name
    match resolveDoc π.code π.res (projOf π files) (π.norm root) rootFile with
    | .err e => .err (π.eImp e)
    | .outOfFuel => .trap
    | .ok R =>
      match findUndefined R with
      | some n => .err (π.eUndef n)
      | none =>
        match moduleOf π.cfg R with
        | .ok m => .js m
        | .error _ => .trap

open Classical in
/-- the emitter as `Loader.Env` wants it: a function of the task's lookup function -/
noncomputable def emitOfLook (root : P) (look : P → Option (Loader.Doc P S)) : EmitRes JsModule :=
  if h : ∃ files : List (P × Loader.Doc P S), Loader.lookup files = look then emitFiles π root (Classical.choose h)
  else .err 0

/-- the loader's environment with the concrete emitter -/
noncomputable def concreteEnv : Loader.Env P S JsModule where
  parse s := match π.parseSrc s with
    | .ok f => .ok (f.imports.map (·.rel))
    | .error c => .error c
  resolve := π.res
  emit := emitOfLook π

theorem parsedOf_spec {d : Loader.Doc P S} (h : (concreteEnv π).parse d.src = .ok d.imports) :
    π.parseSrc d.src = .ok (parsedOf π d) ∧ d.imports = (parsedOf π d).imports.map (·.rel) := by
  have h' : (match π.parseSrc d.src with
      | .ok f => Except.ok (f.imports.map Imports.Import.rel)
      | .error c => Except.error c) = .ok d.imports := h
  cases hq : π.parseSrc d.src with
  | error c => rw [hq] at h'; cases h'
  | ok f =>
    rw [hq] at h'
    injection h' with h'
    simp only [parsedOf, hq]
    exact ⟨trivial, h'.symm⟩


theorem lookup_bridge {K V : Type} [DecidableEq K] (l : List (K × V)) (k : K) : l.lookup k = Loader.lookup l k := by
  induction l with
  | nil => rfl
  | cons e r ih =>
    obtain ⟨a, v⟩ := e
    rw [Loader.lookup_cons, List.lookup_cons]
    by_cases h : a = k
    · subst h; simp
    · have : (k == a) = false := by simpa using fun h' => h h'.symm
      simp [this, h, ih]

theorem lookup_projOf (files : List (P × Loader.Doc P S)) (p : P) :
    (projOf π files).lookup p = (Loader.lookup files p).map (parsedOf π) := by
  rw [← lookup_bridge]; exact lookup_map_snd (parsedOf π) files p

theorem resolveDoc_lookup_congr {κ ρ : Type} [DecidableEq κ] [DecidableEq ρ] (code : Name → Nat) (res : κ → ρ → κ)
    {fs fs' : Project κ ρ} (h : ∀ p, fs.lookup p = fs'.lookup p) (root : κ) (rootFile : SrcFile ρ) :
    resolveDoc code res fs root rootFile = resolveDoc code res fs' root rootFile := by
  have h1 : ∀ p, (absFS code fs).lookup p = (absFS code fs').lookup p := by
    intro p; rw [lookup_absFS, lookup_absFS, h]
  have h2 : defAt fs = defAt fs' := by funext x; simp only [defAt, h]
  simp only [resolveDoc, resolve_lookup_congr res h1, materialise, h2]

theorem resolveDoc_of_resolve {κ ρ : Type} [DecidableEq κ] [DecidableEq ρ] (code : Name → Nat) (res : κ → ρ → κ)
    (fs : Project κ ρ) (root : κ) (rootFile : SrcFile ρ) {out : List (DefId κ)}
    (h : resolve res (absFS code fs) root (absFile code rootFile) = .ok out) :
    resolveDoc code res fs root rootFile = .ok (rootFile.defs ++ materialise fs out) := by
  rw [resolveDoc, h]

theorem resolveDoc_eq_err {κ ρ : Type} [DecidableEq κ] [DecidableEq ρ] (code : Name → Nat) (res : κ → ρ → κ)
    (fs : Project κ ρ) (root : κ) (rootFile : SrcFile ρ) {e : ImpErr κ ρ} :
    resolveDoc code res fs root rootFile = .err e ↔
      resolve res (absFS code fs) root (absFile code rootFile) = .err e := by
  rw [resolveDoc]
  cases resolve res (absFS code fs) root (absFile code rootFile) with
  | ok out => exact ⟨nofun, nofun⟩
  | outOfFuel => exact ⟨nofun, nofun⟩
  | err e' => exact ⟨fun h => Res.err.inj h ▸ rfl, fun h => Res.err.inj h ▸ rfl⟩

theorem resolveDoc_ne_outOfFuel {κ ρ : Type} [DecidableEq κ] [DecidableEq ρ] (code : Name → Nat) (res : κ → ρ → κ)
    (fs : Project κ ρ) (root : κ) (rootFile : SrcFile ρ) : resolveDoc code res fs root rootFile ≠ .outOfFuel := by
  intro h
  rw [resolveDoc] at h
  cases hq : resolve res (absFS code fs) root (absFile code rootFile) with
  | ok out => rw [hq] at h; cases h
  | err e => rw [hq] at h; cases h
  | outOfFuel => exact resolve_fuel _ _ _ _ hq

theorem emitFiles_ext (root : P) {files files' : List (P × Loader.Doc P S)}
    (h : Loader.lookup files = Loader.lookup files') : emitFiles π root files = emitFiles π root files' := by
  have hl : ∀ p, (projOf π files).lookup p = (projOf π files').lookup p := by
    intro p; rw [lookup_projOf, lookup_projOf, h]
  unfold emitFiles
  rw [hl root]
  cases (projOf π files').lookup root with
  | none => rfl
  | some rootFile => simp only [resolveDoc_lookup_congr π.code π.res hl]

theorem emitOfLook_lookup (root : P) (files : List (P × Loader.Doc P S)) :
    emitOfLook π root (Loader.lookup files) = emitFiles π root files := by
  have hex : ∃ fl : List (P × Loader.Doc P S), Loader.lookup fl = Loader.lookup files := ⟨files, rfl⟩
  unfold emitOfLook
  rw [dif_pos hex]
  exact emitFiles_ext π root (Classical.choose_spec hex)


section Answers
variable {π} {root : P} {files : List (P × Loader.Doc P S)} {rootFile : SrcFile P}
  (hlk : (projOf π files).lookup root = some rootFile)
include hlk

theorem emitFiles_importErr {e : ImpErr P P}
    (hR : resolveDoc π.code π.res (projOf π files) (π.norm root) rootFile = .err e) :
    emitFiles π root files = .err (π.eImp e) := by
  simp only [emitFiles, hlk, hR]

theorem emitFiles_undefined {R : List ExecDef} {n : Name}
    (hR : resolveDoc π.code π.res (projOf π files) (π.norm root) rootFile = .ok R) (hu : findUndefined R = some n) :
    emitFiles π root files = .err (π.eUndef n) := by
  simp only [emitFiles, hlk, hR, hu]

theorem emitFiles_module {R : List ExecDef} {m : JsModule}
    (hR : resolveDoc π.code π.res (projOf π files) (π.norm root) rootFile = .ok R) (hu : findUndefined R = none)
    (hm : moduleOf π.cfg R = .ok m) : emitFiles π root files = .js m := by
  simp only [emitFiles, hlk, hR, hu, hm]

end Answers

theorem step_emit_concrete {σ : Loader.St P S JsModule} (hd : σ.dead = false) {t : Nat} {T : Loader.Task P S}
    (hl : Loader.lookup σ.tasks t = some T) {d : Loader.Doc P S} (hr : Loader.lookup T.files T.root = some d) :
    (Loader.step (concreteEnv π) σ (.call (.emit t))).2 =
      match emitFiles π T.root T.files with
      | .js m => .js m
      | .err c => .failed (.source c)
      | .trap => .trap := by
  rw [Loader.step_emit_some (concreteEnv π) hd hl hr]
  have hemit : (concreteEnv π).emit T.root (Loader.lookup T.files) = emitFiles π T.root T.files :=
    emitOfLook_lookup π T.root T.files
  rw [hemit]
  cases emitFiles π T.root T.files <;> rfl


theorem emitFiles_ne_trap (root : P) (files : List (P × Loader.Doc P S)) : emitFiles π root files ≠ .trap := by
  unfold emitFiles
  cases (projOf π files).lookup root with
  | none => simp
  | some rootFile =>
    simp only
    cases hr : resolveDoc π.code π.res (projOf π files) (π.norm root) rootFile with
    | err e => simp
    | outOfFuel => exact absurd hr (resolveDoc_ne_outOfFuel _ _ _ _ _)
    | ok R =>
      simp only
      cases hu : findUndefined R with
      | some n => simp
      | none =>
        obtain ⟨m, hm, _⟩ := moduleOf_ok π.cfg ((findUndefined_none_iff R).mp hu)
        simp [hm]

theorem emitTotal_concrete : EmitTotal (concreteEnv π) := by
  intro root look
  show emitOfLook π root look ≠ .trap
  unfold emitOfLook
  split
  · exact emitFiles_ne_trap π root _
  · simp

end NitroVerif.LoaderC
