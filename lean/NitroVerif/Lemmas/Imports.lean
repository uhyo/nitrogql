import NitroVerif.Model.Imports
import NitroVerif.Spec.Imports
import NitroVerif.Lemmas.Search
/-!
`#import` resolution (`Model/Imports.lean`) against its specification (`Spec/Imports.lean`), for C13.

The traversal: `step_case` lists the ways one iteration of the loop ends.  `Inv S st` is the depth-first invariant with the
recursion stack `S` as a ghost: the finished files are the expanded ones no longer on the stack, each once and with all
its lines processed; it is kept by the three moves of the state (`inv_enter`, `inv_leave`, `inv_record`).  One property
of the recursive call is closed under the loop (`Sound n`, by `Outcome n`): a call with budget `n` ends with the state
grown, the stack as it was and its lines processed (`Post`), or in a justified error, or out of budget only if `n` was
not above the number of configured files still unexpanded (measure `unexp`) — which gives `resolve_spec`.  Beside it: the final loop `emit`; the
specification's executable reference computes its declarative form (`mem_reachList`, `mem_refImports`, `refError_iff`);
merging of raw lines keeps the three views the specification reads (`extLoop_view`, `*_views`); the resolver is read
through its answers only (`Agrees`, `resolve_lookup_congr`).  No property statements here.
-/
namespace NitroVerif.Imports
open NitroVerif.Imports.Spec

variable {κ ρ : Type} [DecidableEq κ]


theorem selects_iff (t : Targets) (d : Def) :
    selects t d = true ↔ ∃ n, d = Def.frag n ∧ Requests t n := by
  cases d with
  | other => simp [selects]
  | frag m =>
    cases t with
    | wildcard => simp [selects, Requests]
    | specific ids => simp [selects, Requests]

theorem selectedFrom_eq (t : Targets) (ds : List Def) (k : Nat) :
    selectedFrom t k ds = ((ds.zipIdx k).filter (fun p => selects t p.1)).map (·.2) := by
  induction ds generalizing k with
  | nil => rfl
  | cons d ds ih =>
    rw [selectedFrom, List.zipIdx_cons, List.filter_cons, ih]
    split <;> rfl

theorem mem_selectedIdx (t : Targets) (ds : List Def) (i : Nat) :
    i ∈ selectedIdx t ds ↔ ∃ n, ds[i]? = some (Def.frag n) ∧ Requests t n := by
  simp only [selectedIdx, selectedFrom_eq, List.mem_map, List.mem_filter, Prod.exists, List.mem_zipIdx_iff_getElem?,
    selects_iff, exists_eq_right]
  constructor
  · rintro ⟨d, hd, n, rfl, hr⟩; exact ⟨n, hd, hr⟩
  · rintro ⟨n, hd, hr⟩; exact ⟨_, hd, n, rfl, hr⟩

theorem requestedFrom_eq (t : Targets) (ds : List Def) (k : Nat) : requestedFrom t k ds = selectedFrom t k ds := by
  induction ds generalizing k with
  | nil => rfl
  | cons d ds ih =>
    cases d with
    | other => rw [requestedFrom, selectedFrom, ih]; rfl
    | frag m =>
      rw [requestedFrom, selectedFrom, ih]
      by_cases hr : Requests t m
      · rw [if_pos hr, if_pos ((selects_iff t _).mpr ⟨m, rfl, hr⟩)]
      · rw [if_neg hr, if_neg (fun h => hr (by obtain ⟨n, e, h⟩ := (selects_iff t _).mp h; cases e; exact h))]

theorem any_isFragNamed (n : Nat) (ds : List Def) : ds.any (isFragNamed n) = true ↔ Def.frag n ∈ ds := by
  induction ds with
  | nil => simp
  | cons d ds ih =>
    cases d with
    | other => simp [isFragNamed, ih]
    | frag m =>
      simp only [List.any_cons, Bool.or_eq_true, ih, List.mem_cons, isFragNamed, beq_iff_eq]
      constructor
      · rintro (h | h)
        · left; rw [h]
        · right; exact h
      · rintro (h | h)
        · left; injection h with h; exact h.symm
        · right; exact h

theorem missingTarget_none (t : Targets) (ds : List Def) :
    missingTarget t ds = none ↔ ∀ n ∈ namesOf t, Def.frag n ∈ ds := by
  cases t with
  | wildcard => simp [missingTarget, namesOf]
  | specific ids =>
    simp only [missingTarget, namesOf, List.find?_eq_none, List.mem_map, forall_exists_index, and_imp,
      forall_apply_eq_imp_iff₂]
    constructor
    · intro h id hid
      have := h id hid
      rw [Bool.not_eq_eq_eq_not, Bool.not_true, Bool.not_eq_false] at this
      exact (any_isFragNamed _ _).mp this
    · intro h id hid
      rw [Bool.not_eq_eq_eq_not, Bool.not_true, Bool.not_eq_false]
      exact (any_isFragNamed _ _).mpr (h id hid)

theorem missingTarget_some {t : Targets} {ds : List Def} {id : Ident} (h : missingTarget t ds = some id) :
    id.name ∈ namesOf t ∧ Def.frag id.name ∉ ds := by
  cases t with
  | wildcard => simp [missingTarget] at h
  | specific ids =>
    simp only [missingTarget] at h
    have hm := List.mem_of_find?_eq_some h
    have hp := List.find?_some h
    refine ⟨by simpa [namesOf] using ⟨id, hm, rfl⟩, ?_⟩
    intro hin
    have := (any_isFragNamed id.name ds).mpr hin
    simp [this] at hp


omit [DecidableEq κ] in
theorem lookup_mem {α β : Type} [BEq α] [LawfulBEq α] {l : List (α × β)} {k : α} {v : β} (h : l.lookup k = some v) :
    (k, v) ∈ l := by
  obtain ⟨l₁, l₂, rfl, _⟩ := List.lookup_eq_some_iff.mp h
  exact List.mem_append_right _ List.mem_cons_self

theorem lookup_some_mem_keys {fs : FS κ ρ} {p : κ} {f : File ρ} (h : fs.lookup p = some f) :
    p ∈ fs.map Prod.fst :=
  List.mem_map.mpr ⟨(p, f), lookup_mem h, rfl⟩

theorem lookup_map_snd {α β γ : Type} [BEq α] (f : β → γ) (l : List (α × β)) (k : α) :
    (l.map fun p => (p.1, f p.2)).lookup k = (l.lookup k).map f := by
  induction l with
  | nil => rfl
  | cons a l ih =>
    obtain ⟨a1, a2⟩ := a
    simp only [List.map_cons, List.lookup]
    split <;> simp [ih]

/-- number of configured files not yet expanded (the termination measure): `Search.unseen` over the keys of the map -/
def unexp (fs : FS κ ρ) (E : List κ) : Nat := Search.unseen (fs.map Prod.fst) E

theorem unexp_le_length (fs : FS κ ρ) (E : List κ) : unexp fs E ≤ fs.length :=
  Nat.le_trans (Search.unseen_le _ _) (by simp)

theorem unexp_anti (fs : FS κ ρ) {E E' : List κ} (h : ∀ x ∈ E, x ∈ E') : unexp fs E' ≤ unexp fs E :=
  Search.unseen_le_of_subset h

theorem unexp_lt (fs : FS κ ρ) {E E' : List κ} (h : ∀ x ∈ E, x ∈ E') {p : κ} (hp : p ∈ fs.map Prod.fst) (hE : p ∉ E)
    (hE' : p ∈ E') : unexp fs E' < unexp fs E :=
  Search.unseen_lt h hp hE hE'


variable (res : κ → ρ → κ) (fs : FS κ ρ)

/-- the state handed to the recursive call -/
def enter (st : St κ) (p : κ) : St κ := { st with expanded := p :: st.expanded }
/-- the state after the recursive call returned -/
def leave (st : St κ) (p : κ) : St κ := { st with finished := st.finished ++ [p] }
/-- the state after the targets of the line were recorded -/
def record (st : St κ) (p : κ) (t : Targets) (ds : List Def) : St κ :=
  { st with requested := st.requested ++ (selectedIdx t ds).map (fun i => (p, i)) }

/-- the state in which the targets of a line are looked at: the file was expanded before, or is expanded now and left -/
def Visited (expand : κ → List (Import ρ) → St κ → Res κ ρ (St κ)) (st : St κ) (p : κ) (file : File ρ) (st1 : St κ) : Prop :=
  (p ∈ st.expanded ∧ st1 = st) ∨ (p ∉ st.expanded ∧ ∃ st0, expand p file.imports (enter st p) = .ok st0 ∧ st1 = leave st0 p)

/-- every way one iteration of the loop can end, with the answer it then gives -/
inductive StepCase (expand : κ → List (Import ρ) → St κ → Res κ ρ (St κ)) (doc : κ) (st : St κ) (imp : Import ρ) :
    Res κ ρ (St κ) → Prop where
  | dangling : fs.lookup (res doc imp.rel) = none → StepCase expand doc st imp (.err (.fileNotFound doc imp.rel imp.line))
  | inner {file e} : fs.lookup (res doc imp.rel) = some file → res doc imp.rel ∉ st.expanded →
      expand (res doc imp.rel) file.imports (enter st (res doc imp.rel)) = .err e → StepCase expand doc st imp (.err e)
  | innerFuel {file} : fs.lookup (res doc imp.rel) = some file → res doc imp.rel ∉ st.expanded →
      expand (res doc imp.rel) file.imports (enter st (res doc imp.rel)) = .outOfFuel → StepCase expand doc st imp .outOfFuel
  | missing {file st1 id} : fs.lookup (res doc imp.rel) = some file → Visited expand st (res doc imp.rel) file st1 →
      missingTarget imp.targets file.defs = some id → StepCase expand doc st imp (.err (.fragmentNotFound doc imp.rel id))
  | ok {file st1} : fs.lookup (res doc imp.rel) = some file → Visited expand st (res doc imp.rel) file st1 →
      missingTarget imp.targets file.defs = none →
      StepCase expand doc st imp (.ok (record st1 (res doc imp.rel) imp.targets file.defs))

theorem step_case (expand : κ → List (Import ρ) → St κ → Res κ ρ (St κ)) (doc : κ) (st : St κ) (imp : Import ρ) :
    StepCase res fs expand doc st imp (step res fs expand doc st imp) := by
  simp only [step]
  cases hl : fs.lookup (res doc imp.rel) with
  | none => exact .dangling hl
  | some file =>
    dsimp only
    by_cases hp : res doc imp.rel ∈ st.expanded
    · rw [if_pos hp]
      cases hm : missingTarget imp.targets file.defs with
      | some id => exact .missing hl (.inl ⟨hp, rfl⟩) hm
      | none => exact .ok hl (.inl ⟨hp, rfl⟩) hm
    · rw [if_neg hp]
      cases he : expand (res doc imp.rel) file.imports { st with expanded := res doc imp.rel :: st.expanded } with
      | err e => exact .inner hl hp he
      | outOfFuel => exact .innerFuel hl hp he
      | ok st0 =>
        cases hm : missingTarget imp.targets file.defs with
        | some id => exact .missing hl (.inr ⟨hp, st0, he, rfl⟩) hm
        | none => exact .ok hl (.inr ⟨hp, st0, he, rfl⟩) hm

theorem iter_cons_err {expand : κ → List (Import ρ) → St κ → Res κ ρ (St κ)} {doc : κ} {st : St κ}
    {imp : Import ρ} {rest : List (Import ρ)} {e : ImpErr κ ρ}
    (h : iter res fs expand doc (imp :: rest) st = .err e) :
    step res fs expand doc st imp = .err e ∨
    ∃ st1, step res fs expand doc st imp = .ok st1 ∧ iter res fs expand doc rest st1 = .err e := by
  simp only [iter] at h
  cases hs : step res fs expand doc st imp with
  | ok st1 => simp only [hs] at h; exact Or.inr ⟨st1, rfl, h⟩
  | err e' => simp only [hs] at h; injection h with h; left; rw [h]
  | outOfFuel => simp [hs] at h

/-! ### the state only grows -/

structure Le (a b : St κ) : Prop where
  exp : ∀ x ∈ a.expanded, x ∈ b.expanded
  req : ∀ x ∈ a.requested, x ∈ b.requested
  fin : ∀ x ∈ a.finished, x ∈ b.finished

omit [DecidableEq κ] in
theorem Le.refl (a : St κ) : Le a a := ⟨fun _ h => h, fun _ h => h, fun _ h => h⟩
omit [DecidableEq κ] in
theorem Le.trans {a b c : St κ} (h1 : Le a b) (h2 : Le b c) : Le a c :=
  ⟨fun x h => h2.exp x (h1.exp x h), fun x h => h2.req x (h1.req x h), fun x h => h2.fin x (h1.fin x h)⟩

omit [DecidableEq κ] in
theorem le_enter (st : St κ) (p : κ) : Le st (enter st p) :=
  ⟨fun _ h => List.mem_cons_of_mem _ h, fun _ h => h, fun _ h => h⟩
omit [DecidableEq κ] in
theorem le_leave (st : St κ) (p : κ) : Le st (leave st p) :=
  ⟨fun _ h => h, fun _ h => h, fun _ h => List.mem_append_left _ h⟩
omit [DecidableEq κ] in
theorem le_record (st : St κ) (p : κ) (t : Targets) (ds : List Def) : Le st (record st p t ds) :=
  ⟨fun _ h => h, fun _ h => List.mem_append_left _ h, fun _ h => h⟩


variable (root : κ) (rootFile : File ρ)

/-- the import line `imp` of document `doc` has been processed in state `st` -/
def Proc (st : St κ) (doc : κ) (imp : Import ρ) : Prop :=
  ∃ f, fs.lookup (res doc imp.rel) = some f ∧ res doc imp.rel ∈ st.expanded ∧
    missingTarget imp.targets f.defs = none ∧
    ∀ i ∈ selectedIdx imp.targets f.defs, (res doc imp.rel, i) ∈ st.requested

theorem Proc.mono {st st' : St κ} {doc : κ} {imp : Import ρ} (h : Proc res fs st doc imp) (hle : Le st st') :
    Proc res fs st' doc imp := by
  obtain ⟨f, h1, h2, h3, h4⟩ := h
  exact ⟨f, h1, hle.exp _ h2, h3, fun i hi => hle.req _ (h4 i hi)⟩

/-- every import line of the document at `q` has been processed -/
def Done (st : St κ) (q : κ) : Prop := ∀ imp ∈ importsOf fs root rootFile q, Proc res fs st q imp

theorem Done.mono {st st' : St κ} {q : κ} (h : Done res fs root rootFile st q) (hle : Le st st') :
    Done res fs root rootFile st' q := fun imp hi => (h imp hi).mono res fs hle

/-- a requested definition is backed by an import line of a reachable file -/
def ReqJust (x : DefId κ) : Prop :=
  ∃ q imp f, Reach res fs root rootFile q ∧ imp ∈ importsOf fs root rootFile q ∧ res q imp.rel = x.1 ∧
    fs.lookup x.1 = some f ∧ x.2 ∈ selectedIdx imp.targets f.defs

/-- What holds of the traversal's state while the files of `S` are being expanded (the recursion stack, a ghost; the
    root lies at its bottom): only reachable files are expanded, only justified definitions requested, and the finished
    files are the expanded ones that are no longer on the stack, each once and with all its lines processed. -/
structure Inv (S : List κ) (st : St κ) : Prop where
  reach : ∀ q ∈ st.expanded, Reach res fs root rootFile q
  just : ∀ x ∈ st.requested, ReqJust res fs root rootFile x
  nodup : st.finished.Nodup
  bottom : root ∈ S
  stack : ∀ q ∈ S, q ∈ st.expanded
  fin : ∀ q, q ∈ st.finished ↔ q ∈ st.expanded ∧ q ∉ S
  done : ∀ q ∈ st.finished, Done res fs root rootFile st q

/-- what a call on the lines `imps` of `doc` from `st` leaves in `st'`: the stack is as it was and the lines are processed -/
structure Post (S : List κ) (doc : κ) (imps : List (Import ρ)) (st st' : St κ) : Prop where
  le : Le st st'
  inv : Inv res fs root rootFile S st'
  proc : ∀ imp ∈ imps, Proc res fs st' doc imp

/-- an error is raised only for a dangling / missing-name import line of a reachable file -/
inductive ErrJust : ImpErr κ ρ → Prop where
  | dangling {q : κ} {imp : Import ρ} : Reach res fs root rootFile q → imp ∈ importsOf fs root rootFile q →
      fs.lookup (res q imp.rel) = none → ErrJust (.fileNotFound q imp.rel imp.line)
  | missing {q : κ} {imp : Import ρ} {f : File ρ} {id : Ident} : Reach res fs root rootFile q →
      imp ∈ importsOf fs root rootFile q → fs.lookup (res q imp.rel) = some f →
      missingTarget imp.targets f.defs = some id → ErrJust (.fragmentNotFound q imp.rel id)

/-- what a call with recursion budget `n` answers: the post-condition; a justified error; or the budget was not above
    the number of configured files still unexpanded at the call -/
def Outcome (n : Nat) (S : List κ) (doc : κ) (imps : List (Import ρ)) (st : St κ) : Res κ ρ (St κ) → Prop
  | .ok st' => Post res fs root rootFile S doc imps st st'
  | .err e => ErrJust res fs root rootFile e
  | .outOfFuel => n ≤ unexp fs st.expanded

def Sound (n : Nat) (expand : κ → List (Import ρ) → St κ → Res κ ρ (St κ)) : Prop :=
  ∀ S doc imps st, Inv res fs root rootFile S st → Reach res fs root rootFile doc →
    (∀ imp ∈ imps, imp ∈ importsOf fs root rootFile doc) →
    Outcome res fs root rootFile n S doc imps st (expand doc imps st)

theorem defsAt_of_lookup {p : κ} {f : File ρ} (h : fs.lookup p = some f) : defsAt fs p = some f.defs := by
  simp [defsAt, h]


theorem inv_enter {S : List κ} {st : St κ} {doc : κ} {imp : Import ρ} {file : File ρ}
    (hinv : Inv res fs root rootFile S st) (hdoc : Reach res fs root rootFile doc)
    (himp : imp ∈ importsOf fs root rootFile doc) (hl : fs.lookup (res doc imp.rel) = some file)
    (hp : res doc imp.rel ∉ st.expanded) :
    Inv res fs root rootFile (res doc imp.rel :: S) (enter st (res doc imp.rel)) ∧
      Reach res fs root rootFile (res doc imp.rel) ∧ importsOf fs root rootFile (res doc imp.rel) = file.imports := by
  have hreach : Reach res fs root rootFile (res doc imp.rel) :=
    Reach.step hdoc himp (by simp [defsAt_of_lookup fs hl])
  have hne : res doc imp.rel ≠ root := fun e => hp (e ▸ hinv.stack _ hinv.bottom)
  refine ⟨⟨?_, hinv.just, hinv.nodup, List.mem_cons_of_mem _ hinv.bottom, ?_, fun q => ?_, ?_⟩, hreach, ?_⟩
  · intro q hq
    rcases List.mem_cons.mp hq with rfl | hq
    · exact hreach
    · exact hinv.reach q hq
  · intro q hq
    exact (List.mem_cons.mp hq).elim (fun e => e ▸ List.mem_cons_self) fun h => List.mem_cons_of_mem _ (hinv.stack q h)
  · show q ∈ st.finished ↔ q ∈ res doc imp.rel :: st.expanded ∧ q ∉ res doc imp.rel :: S
    rw [hinv.fin q, List.mem_cons, List.mem_cons, not_or]
    exact ⟨fun ⟨h1, h2⟩ => ⟨Or.inr h1, fun e => hp (e ▸ h1), h2⟩, fun ⟨h1, h2, h3⟩ => ⟨h1.resolve_left h2, h3⟩⟩
  · exact fun q hq => (hinv.done q hq).mono res fs root rootFile (le_enter _ _)
  · simp [importsOf, hne, hl]

theorem inv_leave {S : List κ} {st0 : St κ} {p : κ} (hinv : Inv res fs root rootFile (p :: S) st0) (hp : p ∉ S)
    (hr : root ∈ S) (hd : Done res fs root rootFile st0 p) : Inv res fs root rootFile S (leave st0 p) := by
  have hpf : p ∉ st0.finished := fun h => ((hinv.fin p).mp h).2 List.mem_cons_self
  refine ⟨hinv.reach, hinv.just, ?_, hr, fun q hq => hinv.stack q (List.mem_cons_of_mem _ hq), fun q => ?_, fun q hq => ?_⟩
  · refine List.nodup_append.mpr ⟨hinv.nodup, by simp, fun a ha b hb e => hpf ?_⟩
    rw [← List.mem_singleton.mp hb, ← e]; exact ha
  · show q ∈ st0.finished ++ [p] ↔ q ∈ st0.expanded ∧ q ∉ S
    rw [List.mem_append, hinv.fin q, List.mem_cons, not_or, List.mem_singleton]
    constructor
    · rintro (⟨h1, _, h3⟩ | rfl)
      · exact ⟨h1, h3⟩
      · exact ⟨hinv.stack _ List.mem_cons_self, hp⟩
    · rintro ⟨h1, h2⟩
      by_cases e : q = p
      · exact Or.inr e
      · exact Or.inl ⟨h1, e, h2⟩
  · refine Done.mono res fs root rootFile ?_ (le_leave _ _)
    rcases List.mem_append.mp hq with hq | hq
    · exact hinv.done q hq
    · exact List.mem_singleton.mp hq ▸ hd

theorem inv_record {S : List κ} {st1 : St κ} {doc : κ} {imp : Import ρ} {file : File ρ}
    (hinv : Inv res fs root rootFile S st1) (hdoc : Reach res fs root rootFile doc)
    (himp : imp ∈ importsOf fs root rootFile doc) (hl : fs.lookup (res doc imp.rel) = some file) :
    Inv res fs root rootFile S (record st1 (res doc imp.rel) imp.targets file.defs) := by
  refine ⟨hinv.reach, fun x hx => ?_, hinv.nodup, hinv.bottom, hinv.stack, hinv.fin,
    fun q hq => (hinv.done q hq).mono res fs root rootFile (le_record _ _ _ _)⟩
  simp only [Imports.record, List.mem_append, List.mem_map] at hx
  rcases hx with hx | ⟨i, hi, rfl⟩
  · exact hinv.just x hx
  · exact ⟨doc, imp, file, hdoc, himp, rfl, hl, hi⟩

theorem proc_record {st1 : St κ} {doc : κ} {imp : Import ρ} {file : File ρ}
    (hl : fs.lookup (res doc imp.rel) = some file) (hm : missingTarget imp.targets file.defs = none)
    (hp : res doc imp.rel ∈ st1.expanded) :
    Proc res fs (record st1 (res doc imp.rel) imp.targets file.defs) doc imp :=
  ⟨file, hl, hp, hm, fun i hi => by
    simp only [record, List.mem_append, List.mem_map]
    exact Or.inr ⟨i, hi, rfl⟩⟩

theorem step_sound {n : Nat} {expand : κ → List (Import ρ) → St κ → Res κ ρ (St κ)}
    (hs : Sound res fs root rootFile n expand) {S : List κ} {doc : κ} {st : St κ} {imp : Import ρ}
    (hinv : Inv res fs root rootFile S st) (hdoc : Reach res fs root rootFile doc)
    (himp : imp ∈ importsOf fs root rootFile doc) :
    Outcome res fs root rootFile (n + 1) S doc [imp] st (step res fs expand doc st imp) := by
  have hc := step_case res fs expand doc st imp
  generalize step res fs expand doc st imp = r at hc
  -- what the recursive call on a new file answers
  have hcall : ∀ {file}, fs.lookup (res doc imp.rel) = some file → res doc imp.rel ∉ st.expanded →
      Outcome res fs root rootFile n (res doc imp.rel :: S) (res doc imp.rel) file.imports (enter st (res doc imp.rel))
        (expand (res doc imp.rel) file.imports (enter st (res doc imp.rel))) ∧
      importsOf fs root rootFile (res doc imp.rel) = file.imports := fun hl hp =>
    have ⟨hinv', hreach, himps⟩ := inv_enter res fs root rootFile hinv hdoc himp hl hp
    ⟨hs _ _ _ _ hinv' hreach (by intro i hi; rw [himps]; exact hi), himps⟩
  cases hc with
  | innerFuel hl hp he =>
    -- the recursive call starts with one unexpanded file fewer
    have := (hcall hl hp).1
    rw [he] at this
    exact Nat.succ_le_of_lt (Nat.lt_of_le_of_lt this
      (unexp_lt fs (fun _ => List.mem_cons_of_mem _) (lookup_some_mem_keys hl) hp List.mem_cons_self))
  | dangling hl => exact ErrJust.dangling hdoc himp hl
  | missing hl _ hm => exact ErrJust.missing hdoc himp hl hm
  | inner hl hp he => have := (hcall hl hp).1; rw [he] at this; exact this
  | @ok file st1 hl hc hm =>
    show Post res fs root rootFile S doc [imp] st _
    rcases hc with ⟨hp, rfl⟩ | ⟨hp, st0, he, rfl⟩
    · exact ⟨le_record _ _ _ _, inv_record res fs root rootFile hinv hdoc himp hl,
        fun i hi => by rw [List.mem_singleton.mp hi]; exact proc_record res fs hl hm hp⟩
    · obtain ⟨P0, himps⟩ := hcall hl hp
      rw [he] at P0
      change Post res fs root rootFile _ (res doc imp.rel) file.imports (enter st (res doc imp.rel)) st0 at P0
      exact ⟨((le_enter st _).trans P0.le).trans ((le_leave _ _).trans (le_record _ _ _ _)),
        inv_record res fs root rootFile (inv_leave res fs root rootFile P0.inv (fun h => hp (hinv.stack _ h)) hinv.bottom
          fun i hi => P0.proc i (himps ▸ hi)) hdoc himp hl,
        fun i hi => by
          rw [List.mem_singleton.mp hi]; exact proc_record res fs hl hm (P0.inv.stack _ List.mem_cons_self)⟩

theorem iter_sound {n : Nat} {expand : κ → List (Import ρ) → St κ → Res κ ρ (St κ)}
    (hs : Sound res fs root rootFile n expand) : Sound res fs root rootFile (n + 1) (iter res fs expand) := by
  intro S doc imps
  induction imps with
  | nil => intro st hinv _ _; exact ⟨Le.refl _, hinv, nofun⟩
  | cons imp rest ih =>
    intro st hinv hdoc himps
    have h1 := step_sound res fs root rootFile hs hinv hdoc (himps imp (by simp))
    simp only [iter]
    cases hr : step res fs expand doc st imp with
    | outOfFuel => rw [hr] at h1; exact h1
    | err e => rw [hr] at h1; exact h1
    | ok st1 =>
      rw [hr] at h1
      change Post res fs root rootFile S doc [imp] st st1 at h1
      have h2 := ih st1 h1.inv hdoc (fun i hi => himps i (List.mem_cons_of_mem _ hi))
      show Outcome res fs root rootFile (n + 1) S doc (imp :: rest) st (iter res fs expand doc rest st1)
      cases hr2 : iter res fs expand doc rest st1 with
      | outOfFuel => rw [hr2] at h2; exact Nat.le_trans h2 (unexp_anti fs h1.le.exp)
      | err e => rw [hr2] at h2; exact h2
      | ok st' =>
        rw [hr2] at h2
        exact ⟨h1.le.trans h2.le, h2.inv, fun i hi => (List.mem_cons.mp hi).elim
          (fun e => e ▸ (h1.proc imp List.mem_cons_self).mono res fs h2.le) (h2.proc i)⟩

theorem expandFuel_sound : ∀ n, Sound res fs root rootFile n (expandFuel res fs n)
  | 0 => fun _ _ _ _ _ _ _ => Nat.zero_le _
  | n + 1 => iter_sound res fs root rootFile (expandFuel_sound n)


theorem importsOf_root : importsOf fs root rootFile root = rootFile.imports := by simp [importsOf]

theorem inv_init : Inv res fs root rootFile [root] (initSt root) :=
  ⟨by intro q hq; simp [initSt] at hq; subst hq; exact Reach.root, by intro x hx; simp [initSt] at hx, by simp [initSt],
   List.mem_singleton_self _, by simp [initSt], by simp [initSt], by intro q hq; simp [initSt] at hq⟩

theorem top_sound : Outcome res fs root rootFile (fs.length + 1) [root] root rootFile.imports (initSt root)
    (expandFuel res fs (fs.length + 1) root rootFile.imports (initSt root)) :=
  expandFuel_sound res fs root rootFile _ _ root rootFile.imports (initSt root) (inv_init res fs root rootFile)
    Reach.root (by intro i hi; rw [importsOf_root]; exact hi)

theorem top_fuel : expandFuel res fs (fs.length + 1) root rootFile.imports (initSt root) ≠ .outOfFuel := fun h => by
  have hs := top_sound res fs root rootFile
  rw [h] at hs
  exact Nat.not_succ_le_self _ (Nat.le_trans hs (unexp_le_length fs _))

theorem resolve_spec :
    match resolve res fs root rootFile with
    | .ok out => ∃ st, Post res fs root rootFile [root] root rootFile.imports (initSt root) st ∧ out = emit fs st
    | .err e => ErrJust res fs root rootFile e
    | .outOfFuel => False := by
  have hs := top_sound res fs root rootFile
  unfold resolve
  cases hr : expandFuel res fs (fs.length + 1) root rootFile.imports (initSt root) with
  | ok st => rw [hr] at hs; exact ⟨st, hs, rfl⟩
  | err e => rw [hr] at hs; exact hs
  | outOfFuel => exact top_fuel res fs root rootFile hr

theorem resolve_ok {out : List (DefId κ)} (h : resolve res fs root rootFile = .ok out) :
    ∃ st, Post res fs root rootFile [root] root rootFile.imports (initSt root) st ∧ out = emit fs st := by
  have := resolve_spec res fs root rootFile
  rwa [h] at this

theorem resolve_err {e : ImpErr κ ρ} (h : resolve res fs root rootFile = .err e) :
    ErrJust res fs root rootFile e := by
  have := resolve_spec res fs root rootFile
  rwa [h] at this

theorem resolve_fuel : resolve res fs root rootFile ≠ .outOfFuel := by
  intro h
  have := resolve_spec res fs root rootFile
  rwa [h] at this

theorem post_closed {st : St κ} (hp : Post res fs root rootFile [root] root rootFile.imports (initSt root) st) :
    ∀ q, Reach res fs root rootFile q → q ∈ st.expanded ∧ Done res fs root rootFile st q := by
  have hdone : ∀ q ∈ st.expanded, Done res fs root rootFile st q := by
    intro q hq
    by_cases hqr : q = root
    · subst hqr
      intro imp hi
      rw [importsOf_root] at hi
      exact hp.proc imp hi
    · exact hp.inv.done q ((hp.inv.fin q).mpr ⟨hq, by simpa using hqr⟩)
  have hroot := hp.inv.stack _ hp.inv.bottom
  intro q hq
  induction hq with
  | root => exact ⟨hroot, hdone _ hroot⟩
  | step _ himp _ ih =>
    obtain ⟨f, _, hexp, _, _⟩ := ih.2 _ himp
    exact ⟨hexp, hdone _ hexp⟩

theorem post_finished {st : St κ} (hp : Post res fs root rootFile [root] root rootFile.imports (initSt root) st) (q : κ) :
    q ∈ st.finished ↔ q ∈ st.expanded ∧ q ≠ root := by
  simpa using hp.inv.fin q


theorem mem_emitFile {R : List (DefId κ)} {p : κ} {x : DefId κ} :
    x ∈ emitFile fs R p ↔ x.1 = p ∧ x ∈ R ∧ ∃ f, fs.lookup p = some f ∧ x.2 < f.defs.length := by
  unfold emitFile
  cases hl : fs.lookup p with
  | none => simp
  | some f =>
    simp only [List.mem_map, List.mem_filter, List.mem_range, decide_eq_true_eq, Option.some.injEq,
      exists_eq_left']
    constructor
    · rintro ⟨i, ⟨hi, hr⟩, rfl⟩
      exact ⟨rfl, hr, hi⟩
    · rintro ⟨h1, h2, h3⟩
      obtain ⟨a, b⟩ := x
      simp only at h1 h3
      subst h1
      exact ⟨b, ⟨h3, h2⟩, rfl⟩

theorem mem_emit {st : St κ} {x : DefId κ} :
    x ∈ emit fs st ↔ x.1 ∈ st.finished ∧ x ∈ st.requested ∧ ∃ f, fs.lookup x.1 = some f ∧ x.2 < f.defs.length := by
  unfold emit
  simp only [List.mem_flatMap, mem_emitFile]
  constructor
  · rintro ⟨p, hp, rfl, h2, h3⟩
    exact ⟨hp, h2, h3⟩
  · rintro ⟨h1, h2, h3⟩
    exact ⟨x.1, h1, rfl, h2, h3⟩

theorem nodup_emitFile (R : List (DefId κ)) (p : κ) : (emitFile fs R p).Nodup := by
  unfold emitFile
  cases fs.lookup p with
  | none => simp
  | some f =>
    simp only [List.Nodup]
    rw [List.pairwise_map]
    refine List.Pairwise.imp ?_ (List.Pairwise.filter _ List.nodup_range)
    intro a b hab h
    injection h with _ h
    exact hab h

theorem nodup_emit {st : St κ} (h : st.finished.Nodup) : (emit fs st).Nodup := by
  unfold emit
  simp only [List.Nodup]
  rw [List.pairwise_flatMap]
  refine ⟨fun a _ => nodup_emitFile fs _ a, List.Pairwise.imp ?_ h⟩
  intro a b hab x hx y hy e
  rw [mem_emitFile] at hx hy
  exact hab (by rw [← hx.1, ← hy.1, e])

/-! ### the specification only looks at the set of import lines of each file -/

omit [DecidableEq κ] in
theorem mem_rootIds {x : DefId κ} : x ∈ rootIds root rootFile ↔ x.1 = root ∧ x.2 < rootFile.defs.length := by
  obtain ⟨a, b⟩ := x
  simp only [rootIds, List.mem_map, List.mem_range, Prod.mk.injEq]
  constructor
  · rintro ⟨i, hi, rfl, rfl⟩; exact ⟨rfl, hi⟩
  · rintro ⟨rfl, h⟩; exact ⟨b, h, rfl, rfl⟩

/-- same definitions, import lines permuted -/
def FilePerm (a b : File ρ) : Prop := a.defs = b.defs ∧ a.imports.Perm b.imports

/-- the same configured documents, the import lines of each one permuted -/
inductive FSPerm : FS κ ρ → FS κ ρ → Prop where
  | nil : FSPerm [] []
  | cons {k : κ} {f f' : File ρ} {l l' : FS κ ρ} : FilePerm f f' → FSPerm l l' → FSPerm ((k, f) :: l) ((k, f') :: l')

theorem FilePerm.symm {a b : File ρ} (h : FilePerm a b) : FilePerm b a := ⟨h.1.symm, h.2.symm⟩

set_option linter.unusedSectionVars false in
theorem FSPerm.symm {fs fs' : FS κ ρ} (h : FSPerm fs fs') : FSPerm fs' fs := by
  induction h with
  | nil => exact FSPerm.nil
  | cons hab _ ih => exact FSPerm.cons hab.symm ih

theorem FSPerm.lookup {fs fs' : FS κ ρ} (h : FSPerm fs fs') (p : κ) :
    (fs.lookup p = none ∧ fs'.lookup p = none) ∨
    ∃ f f', fs.lookup p = some f ∧ fs'.lookup p = some f' ∧ FilePerm f f' := by
  induction h with
  | nil => left; simp
  | @cons ka fa fb l l' hf _ ih =>
    by_cases hp : p = ka
    · subst hp
      right
      exact ⟨fa, fb, by simp, by simp, hf⟩
    · have : (p == ka) = false := by simpa using hp
      rw [List.lookup_cons, List.lookup_cons, this]
      exact ih

theorem FSPerm.defsAt {fs fs' : FS κ ρ} (h : FSPerm fs fs') (p : κ) : defsAt fs p = defsAt fs' p := by
  rcases h.lookup p with ⟨h1, h2⟩ | ⟨f, f', h1, h2, h3⟩
  · simp [Spec.defsAt, h1, h2]
  · simp [Spec.defsAt, h1, h2, h3.1]

theorem FSPerm.importsOf {fs fs' : FS κ ρ} {rootFile rootFile' : File ρ} (h : FSPerm fs fs')
    (hr : FilePerm rootFile rootFile') (q : κ) (imp : Import ρ) :
    imp ∈ importsOf fs root rootFile q ↔ imp ∈ importsOf fs' root rootFile' q := by
  unfold Spec.importsOf
  by_cases hq : q = root
  · simp only [hq, if_true]; exact hr.2.mem_iff
  · simp only [hq, if_false]
    rcases h.lookup q with ⟨h1, h2⟩ | ⟨f, f', h1, h2, h3⟩
    · simp [h1, h2]
    · simp only [h1, h2]; exact h3.2.mem_iff


theorem mem_dedup {α : Type} [DecidableEq α] (l : List α) (a : α) : a ∈ dedup l ↔ a ∈ l := by
  induction l with
  | nil => simp [dedup]
  | cons b l ih =>
    unfold dedup
    by_cases hb : b ∈ l
    · simp only [hb, if_true, ih, List.mem_cons]
      constructor
      · exact Or.inr
      · rintro (rfl | h)
        · exact hb
        · exact h
    · simp [hb, ih]

theorem nodup_dedup {α : Type} [DecidableEq α] (l : List α) : (dedup l).Nodup := by
  induction l with
  | nil => simp [dedup]
  | cons b l ih =>
    unfold dedup
    by_cases hb : b ∈ l
    · simpa [hb] using ih
    · rw [if_neg hb, List.nodup_cons, mem_dedup]
      exact ⟨hb, ih⟩

theorem mem_targetsOf {S : List κ} {p : κ} :
    p ∈ targetsOf res fs root rootFile S ↔
      ∃ q ∈ S, ∃ imp ∈ importsOf fs root rootFile q, (defsAt fs (res q imp.rel)).isSome = true ∧ res q imp.rel = p := by
  simp only [targetsOf, List.mem_flatMap, List.mem_filterMap]
  constructor
  · rintro ⟨q, hq, imp, hi, h⟩
    by_cases hs : (defsAt fs (res q imp.rel)).isSome = true
    · simp only [hs, if_true, Option.some.injEq] at h
      exact ⟨q, hq, imp, hi, hs, h⟩
    · simp [hs] at h
  · rintro ⟨q, hq, imp, hi, hs, rfl⟩
    exact ⟨q, hq, imp, hi, by simp [hs]⟩

theorem closure_subset (n : Nat) (S : List κ) : ∀ q ∈ S, q ∈ closure res fs root rootFile n S := by
  induction n generalizing S with
  | zero => intro q hq; exact hq
  | succ n ih =>
    intro q hq
    simp only [closure]
    split
    · exact hq
    · exact ih _ q (List.mem_append_left _ hq)

theorem closure_sound (n : Nat) (S : List κ) (hS : ∀ q ∈ S, Reach res fs root rootFile q) :
    ∀ q ∈ closure res fs root rootFile n S, Reach res fs root rootFile q := by
  induction n generalizing S with
  | zero => exact hS
  | succ n ih =>
    simp only [closure]
    split
    · exact hS
    · apply ih
      intro q hq
      rcases List.mem_append.mp hq with h | h
      · exact hS q h
      · obtain ⟨hq', _⟩ := List.mem_filter.mp h
        obtain ⟨q0, hq0, imp, hi, hs, rfl⟩ := (mem_targetsOf res fs root rootFile).mp hq'
        exact Reach.step (hS q0 hq0) hi hs

/-- closed under import lines with an existing target -/
def Closed (T : List κ) : Prop := ∀ p ∈ targetsOf res fs root rootFile T, p ∈ T

theorem defsAt_isSome_mem_keys {p : κ} (h : (defsAt fs p).isSome = true) : p ∈ fs.map Prod.fst := by
  unfold Spec.defsAt at h
  cases hl : fs.lookup p with
  | none => simp [hl] at h
  | some f => exact lookup_some_mem_keys hl

theorem unexp_zero_mem {E : List κ} (h : unexp fs E = 0) {p : κ} (hp : p ∈ fs.map Prod.fst) : p ∈ E :=
  Search.unseen_eq_zero h p hp

theorem closure_closed (n : Nat) (S : List κ) (hn : unexp fs S ≤ n) :
    Closed res fs root rootFile (closure res fs root rootFile n S) := by
  induction n generalizing S with
  | zero =>
    intro p hp
    obtain ⟨q, _, imp, _, hs, rfl⟩ := (mem_targetsOf res fs root rootFile).mp hp
    show res q imp.rel ∈ S
    exact unexp_zero_mem fs (by omega) (defsAt_isSome_mem_keys fs hs)
  | succ n ih =>
    simp only [closure]
    split
    · rename_i hempty
      intro p hp
      by_cases hin : p ∈ S
      · exact hin
      · have : p ∈ (targetsOf res fs root rootFile S).filter (fun p => decide (p ∉ S)) :=
          List.mem_filter.mpr ⟨hp, by simpa using hin⟩
        rw [List.isEmpty_iff.mp hempty] at this
        cases this
    · rename_i hne
      apply ih
      cases hnew : (targetsOf res fs root rootFile S).filter (fun p => decide (p ∉ S)) with
      | nil => rw [hnew] at hne; simp at hne
      | cons p rest =>
        have hpm : p ∈ (targetsOf res fs root rootFile S).filter (fun p => decide (p ∉ S)) := by
          rw [hnew]; simp
        obtain ⟨hpt, hpS⟩ := List.mem_filter.mp hpm
        have hpS' : p ∉ S := by simpa using hpS
        obtain ⟨q, _, imp, _, hs, rfl⟩ := (mem_targetsOf res fs root rootFile).mp hpt
        have := unexp_lt fs (E' := S ++ res q imp.rel :: rest) (fun _ => List.mem_append_left _)
          (defsAt_isSome_mem_keys fs hs) hpS'
          (List.mem_append_right S List.mem_cons_self)
        omega

theorem mem_reachList (q : κ) : q ∈ reachList res fs root rootFile ↔ Reach res fs root rootFile q := by
  unfold reachList
  constructor
  · exact closure_sound res fs root rootFile _ _ (by intro q hq; simp at hq; subst hq; exact Reach.root) q
  · intro h
    have hc := closure_closed res fs root rootFile fs.length [root] (unexp_le_length fs _)
    induction h with
    | root => exact closure_subset res fs root rootFile _ _ root (by simp)
    | step _ hi hs ih => exact hc _ ((mem_targetsOf res fs root rootFile).mpr ⟨_, ih, _, hi, hs, rfl⟩)

theorem mem_lineSel {q : κ} {imp : Import ρ} {x : DefId κ} :
    x ∈ lineSel res fs q imp ↔ res q imp.rel = x.1 ∧
      ∃ ds n, defsAt fs x.1 = some ds ∧ ds[x.2]? = some (Def.frag n) ∧ Requests imp.targets n := by
  unfold lineSel
  obtain ⟨a, b⟩ := x
  cases hd : defsAt fs (res q imp.rel) with
  | none =>
    simp only [List.not_mem_nil, false_iff]
    rintro ⟨h1, ds, n, h2, _⟩
    rw [← h1, hd] at h2
    cases h2
  | some ds =>
    simp only [requestedFrom_eq, List.mem_map, Prod.mk.injEq]
    constructor
    · rintro ⟨i, hi, rfl, rfl⟩
      obtain ⟨n, h1, h2⟩ := (mem_selectedIdx _ _ _).mp hi
      exact ⟨rfl, ds, n, hd, h1, h2⟩
    · rintro ⟨h1, ds', n, h2, h3, h4⟩
      subst h1
      rw [hd] at h2
      cases h2
      exact ⟨b, (mem_selectedIdx _ _ _).mpr ⟨n, h3, h4⟩, rfl, rfl⟩

theorem mem_refImports (x : DefId κ) : x ∈ refImports res fs root rootFile ↔ InRef res fs root rootFile x := by
  unfold refImports InRef Selected
  simp only [mem_dedup, List.mem_filter, List.mem_flatMap, mem_reachList, mem_lineSel, decide_eq_true_eq]
  constructor
  · rintro ⟨⟨q, hq, imp, hi, h1, ds, n, h2, h3, h4⟩, hn⟩
    exact ⟨⟨q, imp, ds, n, hq, hi, h1, h2, h3, h4⟩, hn⟩
  · rintro ⟨⟨q, imp, ds, n, hq, hi, h1, h2, h3, h4⟩, hn⟩
    exact ⟨⟨q, hq, imp, hi, h1, ds, n, h2, h3, h4⟩, hn⟩

theorem nodup_refImports : (refImports res fs root rootFile).Nodup := nodup_dedup _

theorem lineBad_iff {q : κ} {imp : Import ρ} :
    lineBad res fs q imp = true ↔ defsAt fs (res q imp.rel) = none ∨
      ∃ ds n, defsAt fs (res q imp.rel) = some ds ∧ n ∈ namesOf imp.targets ∧ Def.frag n ∉ ds := by
  unfold lineBad
  cases hd : defsAt fs (res q imp.rel) with
  | none => simp
  | some ds =>
    simp only [List.any_eq_true, Bool.not_eq_eq_eq_not, Bool.not_true, List.contains_eq_mem, decide_eq_false_iff_not,
      Option.some.injEq, false_or, reduceCtorEq]
    constructor
    · rintro ⟨n, h1, h2⟩; exact ⟨ds, n, rfl, h1, h2⟩
    · rintro ⟨_, n, rfl, h1, h2⟩; exact ⟨n, h1, h2⟩

theorem refError_iff :
    refError res fs root rootFile = true ↔ Dangling res fs root rootFile ∨ MissingName res fs root rootFile := by
  unfold refError Dangling MissingName
  simp only [List.any_eq_true, mem_reachList, lineBad_iff]
  constructor
  · rintro ⟨q, hq, imp, hi, h | ⟨ds, n, h1, h2, h3⟩⟩
    · exact Or.inl ⟨q, imp, hq, hi, h⟩
    · exact Or.inr ⟨q, imp, ds, n, hq, hi, h1, h2, h3⟩
  · rintro (⟨q, imp, hq, hi, h⟩ | ⟨q, imp, ds, n, hq, hi, h1, h2, h3⟩)
    · exact ⟨q, hq, imp, hi, Or.inl h⟩
    · exact ⟨q, hq, imp, hi, Or.inr ⟨ds, n, h1, h2, h3⟩⟩


/-- what a raw line asks for -/
def RawRequests (ts : List RawTarget) (n : Nat) : Prop := RawTarget.wildcard ∈ ts ∨ RawTarget.name n ∈ ts

theorem requests_specific_snoc (ids : List Ident) (id : Ident) (n : Nat) :
    Requests (.specific (ids ++ [id])) n ↔ Requests (.specific ids) n ∨ id.name = n := by
  simp only [Requests, List.mem_append, List.mem_singleton]
  constructor
  · rintro ⟨x, hx | rfl, h⟩
    · exact Or.inl ⟨x, hx, h⟩
    · exact Or.inr h
  · rintro (⟨x, hx, h⟩ | h)
    · exact ⟨x, Or.inl hx, h⟩
    · exact ⟨id, Or.inr rfl, h⟩

theorem foldTargets_sem (line : Nat) (ts : List RawTarget) : ∀ (t : Targets) (i : Nat) (t' : Targets),
    foldTargets line t i ts = .ok t' →
    (∀ n, Requests t' n ↔ Requests t n ∨ RawRequests ts n) ∧
    (∀ n, n ∈ namesOf t' ↔ n ∈ namesOf t ∨ RawTarget.name n ∈ ts) := by
  induction ts with
  | nil =>
    intro t i t' h
    simp only [foldTargets] at h
    injection h with h
    subst h
    simp [RawRequests]
  | cons a ts ih =>
    intro t i t' h
    cases t with
    | wildcard => cases a <;> simp [foldTargets] at h
    | specific ids =>
      cases a with
      | wildcard =>
        simp only [foldTargets] at h
        by_cases he : ids.isEmpty = true
        · simp only [he, if_true] at h
          obtain ⟨h1, h2⟩ := ih _ _ _ h
          have hids : ids = [] := List.isEmpty_iff.mp he
          subst hids
          refine ⟨fun n => ?_, fun n => ?_⟩
          · rw [h1]; simp [Requests, RawRequests]
          · rw [h2]; simp [namesOf]
        · simp [he] at h
      | name m =>
        simp only [foldTargets] at h
        obtain ⟨h1, h2⟩ := ih _ _ _ h
        refine ⟨fun n => ?_, fun n => ?_⟩
        · rw [h1, requests_specific_snoc]
          simp only [RawRequests, List.mem_cons, RawTarget.name.injEq, reduceCtorEq, false_or, eq_comm (a := n),
            or_assoc, or_left_comm]
        · rw [h2]
          simp only [namesOf, List.map_append, List.map_cons, List.map_nil, List.mem_append,
            List.mem_cons, RawTarget.name.injEq, List.not_mem_nil, or_false, or_assoc]

/-- the three views of an import list the specification depends on -/
structure SameRequests (A : List (Import ρ)) (P1 : ρ → Prop) (P2 P3 : ρ → Nat → Prop) : Prop where
  rel : ∀ r, (∃ e ∈ A, e.rel = r) ↔ P1 r
  req : ∀ r n, (∃ e ∈ A, e.rel = r ∧ Requests e.targets n) ↔ P2 r n
  names : ∀ r n, (∃ e ∈ A, e.rel = r ∧ n ∈ namesOf e.targets) ↔ P3 r n

section Merge
variable [DecidableEq ρ]

omit [DecidableEq κ] in
theorem exists_mem_eraseP_or {A : List (Import ρ)} {r0 : ρ} {e0 : Import ρ}
    (hf : A.find? (fun i => decide (i.rel = r0)) = some e0) (Q : Import ρ → Prop) :
    (∃ e ∈ A, Q e) ↔ Q e0 ∨ ∃ e ∈ A.eraseP (fun i => decide (i.rel = r0)), Q e := by
  obtain ⟨hp, as, bs, rfl, has⟩ := List.find?_eq_some_iff_append.mp hf
  rw [List.eraseP_append_right _ (fun b hb => by simpa using has b hb),
    List.eraseP_cons_of_pos (p := fun i : Import ρ => decide (i.rel = r0)) hp]
  simp only [List.mem_append, List.mem_cons, or_and_right, exists_or, exists_eq_left]
  exact or_left_comm

omit [DecidableEq κ] in
theorem eraseP_of_find_none {A : List (Import ρ)} {r0 : ρ}
    (hf : A.find? (fun i => decide (i.rel = r0)) = none) : A.eraseP (fun i => decide (i.rel = r0)) = A :=
  List.eraseP_of_forall_not (by simpa using hf)

/-! A view of an import list: the path literals with an entry whose targets satisfy `Φ`.  When folding raw targets `ts`
    into targets `t` makes `Φ` hold iff it held of `t` or `Ψ` holds of `ts` (and `Φ` of the empty start implies `Ψ`),
    merging a raw line adds to the view exactly its literal, if `Ψ` holds of its targets. -/

section View
variable {Φ : Targets → Prop} {Ψ : List RawTarget → Prop}
  (hfold : ∀ line ts t i t', foldTargets line t i ts = .ok t' → (Φ t' ↔ Φ t ∨ Ψ ts))
  (h0 : ∀ ts, Φ (.specific []) → Ψ ts)
include hfold h0

omit [DecidableEq κ] in
theorem extStep_view {acc acc' : List (Import ρ)} {line : Nat} {raw : RawImport ρ}
    (h : extStep acc line raw = .ok acc') (r : ρ) :
    (∃ e ∈ acc', e.rel = r ∧ Φ e.targets) ↔ (∃ e ∈ acc, e.rel = r ∧ Φ e.targets) ∨ (r = raw.rel ∧ Ψ raw.targets) := by
  unfold extStep at h
  cases hf : acc.find? (fun i => decide (i.rel = raw.rel)) with
  | none =>
    simp only [hf] at h
    cases hfold' : foldTargets line (.specific []) 0 raw.targets with
    | error e => simp [hfold'] at h
    | ok t =>
      simp only [hfold'] at h
      injection h with h
      rw [eraseP_of_find_none hf] at h
      subst h
      have h1 := hfold _ _ _ _ _ hfold'
      simp only [List.mem_append, List.mem_singleton]
      constructor
      · rintro ⟨e, he | rfl, rfl, hr⟩
        · exact Or.inl ⟨e, he, rfl, hr⟩
        · exact Or.inr ⟨rfl, (h1.mp hr).elim (h0 _) id⟩
      · rintro (⟨e, he, rfl, hr⟩ | ⟨rfl, hr⟩)
        · exact ⟨e, Or.inl he, rfl, hr⟩
        · exact ⟨_, Or.inr rfl, rfl, h1.mpr (Or.inr hr)⟩
  | some e0 =>
    simp only [hf] at h
    have he0 : e0.rel = raw.rel := by simpa using List.find?_some hf
    cases hfold' : foldTargets line e0.targets 0 raw.targets with
    | error e => simp [hfold'] at h
    | ok t =>
      simp only [hfold'] at h
      injection h with h
      subst h
      have h1 := hfold _ _ _ _ _ hfold'
      rw [exists_mem_eraseP_or hf (fun e => e.rel = r ∧ Φ e.targets)]
      simp only [List.mem_append, List.mem_singleton]
      constructor
      · rintro ⟨e, he | rfl, rfl, hr⟩
        · exact Or.inl (Or.inr ⟨e, he, rfl, hr⟩)
        · rcases h1.mp hr with h | h
          · exact Or.inl (Or.inl ⟨he0, h⟩)
          · exact Or.inr ⟨rfl, h⟩
      · rintro ((⟨hr0, hr⟩ | ⟨e, he, rfl, hr⟩) | ⟨rfl, hr⟩)
        · exact ⟨_, Or.inr rfl, by rw [← hr0, he0], h1.mpr (Or.inl hr)⟩
        · exact ⟨e, Or.inl he, rfl, hr⟩
        · exact ⟨_, Or.inr rfl, rfl, h1.mpr (Or.inr hr)⟩

omit [DecidableEq κ] in
theorem extLoop_view (lines : List (RawImport ρ)) : ∀ (acc : List (Import ρ)) (k : Nat) (imps : List (Import ρ)),
    extLoop acc k lines = .ok imps → ∀ r,
    ((∃ e ∈ imps, e.rel = r ∧ Φ e.targets) ↔
      (∃ e ∈ acc, e.rel = r ∧ Φ e.targets) ∨ ∃ l ∈ lines, l.rel = r ∧ Ψ l.targets) := by
  induction lines with
  | nil =>
    intro acc k imps h r
    simp only [extLoop] at h
    injection h with h
    subst h
    simp
  | cons l lines ih =>
    intro acc k imps h r
    simp only [extLoop] at h
    cases hs : extStep acc k l with
    | error e => simp [hs] at h
    | ok acc' =>
      simp only [hs] at h
      rw [ih _ _ _ h, extStep_view hfold h0 hs]
      simp only [List.mem_cons, exists_eq_or_imp, or_assoc, eq_comm (a := r)]

end View

end Merge


section views
variable {fs} {rootFile} {fs' : FS κ ρ} {rootFile' : File ρ}
variable (hd : ∀ p, defsAt fs p = defsAt fs' p)
variable (h1 : ∀ q r, (∃ imp ∈ importsOf fs root rootFile q, imp.rel = r) →
  ∃ imp ∈ importsOf fs' root rootFile' q, imp.rel = r)
variable (h2 : ∀ q r n, (∃ imp ∈ importsOf fs root rootFile q, imp.rel = r ∧ Requests imp.targets n) →
  ∃ imp ∈ importsOf fs' root rootFile' q, imp.rel = r ∧ Requests imp.targets n)
variable (h3 : ∀ q r n, (∃ imp ∈ importsOf fs root rootFile q, imp.rel = r ∧ n ∈ namesOf imp.targets) →
  ∃ imp ∈ importsOf fs' root rootFile' q, imp.rel = r ∧ n ∈ namesOf imp.targets)
include hd h1

theorem reach_views {q : κ} (h : Reach res fs root rootFile q) : Reach res fs' root rootFile' q := by
  induction h with
  | root => exact Reach.root
  | @step q imp _ himp hsome ih =>
    obtain ⟨imp', hi', hr⟩ := h1 q imp.rel ⟨imp, himp, rfl⟩
    rw [← hr]
    exact Reach.step ih hi' (by rw [hr, ← hd]; exact hsome)

theorem dangling_views (h : Dangling res fs root rootFile) : Dangling res fs' root rootFile' := by
  obtain ⟨q, imp, a1, a2, a3⟩ := h
  obtain ⟨imp', hi', hr⟩ := h1 q imp.rel ⟨imp, a2, rfl⟩
  exact ⟨q, imp', reach_views res root hd h1 a1, hi', by rw [hr, ← hd]; exact a3⟩

include h2 in
theorem selected_views {x : DefId κ} (h : Selected res fs root rootFile x) : Selected res fs' root rootFile' x := by
  obtain ⟨q, imp, ds, n, a1, a2, a3, a4, a5, a6⟩ := h
  obtain ⟨imp', hi', hr, hreq⟩ := h2 q imp.rel n ⟨imp, a2, rfl, a6⟩
  exact ⟨q, imp', ds, n, reach_views res root hd h1 a1, hi', by rw [hr]; exact a3, by rw [← hd]; exact a4, a5, hreq⟩

include h3 in
theorem missing_views (h : MissingName res fs root rootFile) : MissingName res fs' root rootFile' := by
  obtain ⟨q, imp, ds, n, a1, a2, a3, a4, a5⟩ := h
  obtain ⟨imp', hi', hr, hn⟩ := h3 q imp.rel n ⟨imp, a2, rfl, a4⟩
  exact ⟨q, imp', ds, n, reach_views res root hd h1 a1, hi', by rw [hr, ← hd]; exact a3, hn, a5⟩

end views


theorem resolve_result (hroot : RootOK fs root rootFile) {out : List (DefId κ)}
    (h : resolve res fs root rootFile = .ok out) :
    (∀ x, x ∈ out ↔ InRef res fs root rootFile x) ∧ out.Nodup := by
  obtain ⟨st, hp, rfl⟩ := resolve_ok res fs root rootFile h
  refine ⟨?_, nodup_emit fs hp.inv.nodup⟩
  intro x
  rw [mem_emit, post_finished res fs root rootFile hp]
  constructor
  · rintro ⟨⟨_, hne⟩, hreq, _⟩
    obtain ⟨q, imp, f, h1, h2, h3, h4, h5⟩ := hp.inv.just x hreq
    obtain ⟨n, hn, hr⟩ := (mem_selectedIdx _ _ _).mp h5
    refine ⟨⟨q, imp, f.defs, n, h1, h2, h3, defsAt_of_lookup fs h4, hn, hr⟩, ?_⟩
    rw [mem_rootIds]
    exact fun h => hne h.1
  · rintro ⟨⟨q, imp, ds, n, h1, h2, h3, h4, h5, h6⟩, hnot⟩
    obtain ⟨f, hl, hexp, _, hsel⟩ := (post_closed res fs root rootFile hp q h1).2 imp h2
    rw [h3] at hl hexp hsel
    obtain rfl : ds = f.defs := Option.some.inj (h4.symm.trans (defsAt_of_lookup fs hl))
    have hlt : x.2 < f.defs.length := (List.getElem?_eq_some_iff.mp h5).1
    refine ⟨⟨hexp, ?_⟩, hsel x.2 ((mem_selectedIdx _ _ _).mpr ⟨n, h5, h6⟩), f, hl, hlt⟩
    intro he
    apply hnot
    rw [mem_rootIds]
    refine ⟨he, ?_⟩
    have : f = rootFile := hroot f (by rw [← he]; exact hl)
    rw [← this]; exact hlt

theorem resolve_isErr_iff :
    (resolve res fs root rootFile).isErr = true ↔ Dangling res fs root rootFile ∨ MissingName res fs root rootFile := by
  constructor
  · intro h
    cases hr : resolve res fs root rootFile with
    | ok out => rw [hr] at h; simp [Res.isErr] at h
    | outOfFuel => rw [hr] at h; simp [Res.isErr] at h
    | err e =>
      have hj := resolve_err res fs root rootFile hr
      cases hj with
      | dangling h1 h2 h3 => exact Or.inl ⟨_, _, h1, h2, by simp [defsAt, h3]⟩
      | missing h1 h2 h3 h4 =>
        obtain ⟨hn, hnot⟩ := missingTarget_some h4
        exact Or.inr ⟨_, _, _, _, h1, h2, defsAt_of_lookup fs h3, hn, hnot⟩
  · intro h
    cases hr : resolve res fs root rootFile with
    | err e => rfl
    | outOfFuel => exact absurd hr (resolve_fuel res fs root rootFile)
    | ok out =>
      exfalso
      obtain ⟨st, hp, _⟩ := resolve_ok res fs root rootFile hr
      rcases h with ⟨q, imp, h1, h2, h3⟩ | ⟨q, imp, ds, n, h1, h2, h3, h4, h5⟩
      · obtain ⟨f, hl, _⟩ := (post_closed res fs root rootFile hp q h1).2 imp h2
        simp [defsAt, hl] at h3
      · obtain ⟨f, hl, _, hm, _⟩ := (post_closed res fs root rootFile hp q h1).2 imp h2
        obtain rfl : ds = f.defs := Option.some.inj (h3.symm.trans (defsAt_of_lookup fs hl))
        exact h5 ((missingTarget_none _ _).mp hm n h4)

theorem resolve_exec (hroot : RootOK fs root rootFile) :
    (resolve res fs root rootFile).isErr = refError res fs root rootFile ∧
    ∀ out, resolve res fs root rootFile = .ok out → out.Perm (refImports res fs root rootFile) := by
  constructor
  · have h1 := resolve_isErr_iff res fs root rootFile
    have h2 := refError_iff res fs root rootFile
    cases ha : (resolve res fs root rootFile).isErr <;> cases hb : refError res fs root rootFile <;> simp_all
  · intro out h
    obtain ⟨hm, hn⟩ := resolve_result res fs root rootFile hroot h
    rw [List.perm_ext_iff_of_nodup hn (nodup_refImports res fs root rootFile)]
    intro x
    rw [hm, mem_refImports]

/-! ### the resolver is read through its answers only

`resolve res fs root rootFile` is a function of the LOOKUP FUNCTION of `fs` — exactly what the loader's
`TaskOperationResolver` offers to `resolve_operation_imports`.  Two traversals are compared by one relation, `Agrees`: the
second answers like the first wherever the first does not run out of budget.  It is closed under the loop, for another
budget and another file list with the same lookups at once, and the budget of `resolve` is never exhausted (`top_fuel`). -/

section Answers
variable {fs} {fs' : FS κ ρ} (h : ∀ p, fs.lookup p = fs'.lookup p)

/-- `e'` answers like `e` wherever `e` does not run out of budget -/
def Agrees (e e' : κ → List (Import ρ) → St κ → Res κ ρ (St κ)) : Prop :=
  ∀ doc imps st, e doc imps st ≠ .outOfFuel → e' doc imps st = e doc imps st

include h in
theorem iter_agrees {e e' : κ → List (Import ρ) → St κ → Res κ ρ (St κ)} (hx : Agrees e e') :
    Agrees (iter res fs e) (iter res fs' e') := by
  intro doc imps
  induction imps with
  | nil => intro st _; rfl
  | cons imp rest ih =>
    intro st hne
    simp only [iter] at hne ⊢
    -- one line: the two loops look the same file up and differ only in the recursive call
    have hs : step res fs e doc st imp ≠ .outOfFuel → step res fs' e' doc st imp = step res fs e doc st imp := by
      intro hne
      simp only [step, ← h] at hne ⊢
      cases hl : fs.lookup (res doc imp.rel) with
      | none => rfl
      | some file =>
        simp only [hl] at hne ⊢
        by_cases hp : res doc imp.rel ∈ st.expanded
        · simp only [hp, if_true]
        · simp only [hp, if_false] at hne ⊢
          rw [hx _ _ _ (fun hE => hne (by rw [hE]))]
    cases hst : step res fs e doc st imp with
    | outOfFuel => rw [hst] at hne; exact absurd rfl hne
    | err er => rw [hs (by rw [hst]; nofun), hst]
    | ok st' => rw [hst] at hne; rw [hs (by rw [hst]; nofun), hst]; exact ih st' hne

include h in
theorem expandFuel_agrees : ∀ n k, Agrees (expandFuel res fs n) (expandFuel res fs' (n + k))
  | 0, _ => fun _ _ _ hne => absurd rfl hne
  | n + 1, k => by
    rw [Nat.add_right_comm]
    exact iter_agrees res h (expandFuel_agrees n k)

include h in
theorem emit_lookup_congr (st : St κ) : emit fs st = emit fs' st := by
  have : emitFile fs st.requested = emitFile fs' st.requested := by
    funext p; simp only [emitFile, h]
  simp only [emit, this]

/-- `resolve_operation_imports` depends on the `OperationResolver` only through its answers -/
theorem resolve_lookup_congr (h : ∀ p, fs.lookup p = fs'.lookup p) (root : κ) (rootFile : File ρ) :
    resolve res fs root rootFile = resolve res fs' root rootFile := by
  -- both budgets suffice, so each run agrees with the run of `fs'` on the sum of the two budgets
  have key : expandFuel res fs (fs.length + 1) root rootFile.imports (initSt root) =
      expandFuel res fs' (fs'.length + 1) root rootFile.imports (initSt root) := by
    have h1 := expandFuel_agrees res h (fs.length + 1) (fs'.length + 1) root rootFile.imports (initSt root)
      (top_fuel res fs root rootFile)
    have h2 := expandFuel_agrees res (fs := fs') (fs' := fs') (fun _ => rfl) (fs'.length + 1) (fs.length + 1) root
      rootFile.imports (initSt root) (top_fuel res fs' root rootFile)
    rw [← h1, ← h2, Nat.add_comm]
  simp only [resolve, key, emit_lookup_congr h]

end Answers

end NitroVerif.Imports
