import NitroVerif.Lemmas.CheckOpWalk
/-!
`check_fragment_spread_core`'s applicability analysis against the specification's "possible types overlap" (5.5.2.3), once
(`applicability_iff`): the possible types of a defined type by its kind (`mem_possibleTypes_iff`), and for each pair of
composite kinds what the checker tests there. C03 reads it from left to right (`applicability_canApply`), C04 from right
to left (`applicability_complete`, `CheckOpCompleteApply.lean`), where a union without members is the one exception.
-/
namespace NitroVerif.CheckOp
open NitroVerif.Gql NitroVerif.CheckCommon NitroVerif.Valid

theorem possibleTypes_object {S : Schema} {n : Name} {td : TypeDef} (h : S.typeDef? n = some td)
    (hk : td.kind = .object) : S.possibleTypes n = [td.name] := by simp [Schema.possibleTypes, h, hk]
theorem possibleTypes_union {S : Schema} {n : Name} {td : TypeDef} (h : S.typeDef? n = some td)
    (hk : td.kind = .union) : S.possibleTypes n = td.members.map (·.1) := by simp [Schema.possibleTypes, h, hk]
theorem possibleTypes_interface {S : Schema} {n : Name} {td : TypeDef} (h : S.typeDef? n = some td)
    (hk : td.kind = .interface) : S.possibleTypes n = S.objectImplementers n := by simp [Schema.possibleTypes, h, hk]

theorem mem_objectImplementers {S : Schema} {o : TypeDef} {i : Name} (hm : o ∈ S.typeDefs) (hk : o.kind = .object)
    (hi : implementsIface o i = true) : o.name ∈ S.objectImplementers i := by
  unfold Schema.objectImplementers
  refine List.mem_map.mpr ⟨o, List.mem_filter.mpr ⟨hm, ?_⟩, rfl⟩
  simp only [hk]
  exact hi

theorem kind_beq_object {k : TypeKind} : (k == TypeKind.object) = true → k = .object := by
  cases k <;> decide

theorem isComposite_of_kind {S : Schema} {n : Name} {td : TypeDef} (h : S.typeDef? n = some td) :
    S.isComposite n = (match td.kind with | .object | .interface | .union => true | _ => false) := by
  simp only [Schema.isComposite, Schema.kindOf?, h, Option.map_some]
  cases td.kind <;> rfl

theorem canApply_of_not_composite {S : Schema} {t c : Name} (h : S.isComposite t = false ∨ S.isComposite c = false) :
    canApply S t c = true := by
  unfold canApply
  rcases h with h | h <;> simp [h]

theorem of_mem_objectImplementers {S : Schema} {x i : Name} (h : x ∈ S.objectImplementers i) :
    ∃ o ∈ S.typeDefs, o.kind = .object ∧ implementsIface o i = true ∧ o.name = x := by
  unfold Schema.objectImplementers at h
  obtain ⟨o, ho, hn⟩ := List.mem_map.mp h
  obtain ⟨hm, hp⟩ := List.mem_filter.mp ho
  simp only [Bool.and_eq_true] at hp
  exact ⟨o, hm, kind_beq_object hp.1, hp.2, hn⟩

theorem typeDefs_name_inj {l : List TypeDef} (hnd : nodupB (l.map (·.name)) = true) {f g : TypeDef}
    (hf : f ∈ l) (hg : g ∈ l) (h : f.name = g.name) : f = g :=
  eq_of_key_eq_of_nodup (fun t : TypeDef => t.name) ((nodupB_iff_nodup _).mp hnd) hf hg h

theorem typeDef?_of_mem {S : Schema} (hnd : nodupB (S.typeDefs.map (·.name)) = true) {td : TypeDef}
    (h : td ∈ S.typeDefs) : S.typeDef? td.name = some td :=
  Schema.typeDef?_of_mem ((nodupB_iff_nodup _).mp hnd) h

theorem mem_possibleTypes_iff {S : Schema} {t x : Name} {td : TypeDef} (ht : S.typeDef? t = some td) :
    x ∈ S.possibleTypes t ↔
      (td.kind = .object ∧ x = td.name) ∨ (td.kind = .union ∧ ∃ m ∈ td.members, m.1 = x) ∨
      (td.kind = .interface ∧ ∃ o ∈ S.typeDefs, o.kind = .object ∧ implementsIface o t = true ∧ o.name = x) := by
  cases hk : td.kind
  case object => simp [possibleTypes_object ht hk]
  case union => simp [possibleTypes_union ht hk]
  case interface =>
    rw [possibleTypes_interface ht hk]
    simp only [reduceCtorEq, false_and, false_or, true_and]
    exact ⟨of_mem_objectImplementers, fun ⟨o, hm, hok, hi, hn⟩ => hn ▸ mem_objectImplementers hm hok hi⟩
  all_goals simp [Schema.possibleTypes, ht, hk]

theorem canApply_iff {S : Schema} {t c : Name} {root ct : TypeDef} (ht : S.typeDef? t = some root)
    (hc : S.typeDef? c = some ct) (hrk : isCompositeKind root.kind = true) (hck : isCompositeKind ct.kind = true) :
    canApply S t c = true ↔ t = c ∨ ∃ x, x ∈ S.possibleTypes t ∧ x ∈ S.possibleTypes c := by
  have e1 : S.isComposite t = true := by rw [isComposite_of_kind ht]; exact hrk
  have e2 : S.isComposite c = true := by rw [isComposite_of_kind hc]; exact hck
  simp [canApply, e1, e2, List.any_eq_true]

/-- with members that are all objects the search of the interface × union arm pushes nothing and finds a member that
    implements the interface iff there is one -/
theorem unionMemberImplements_eq {S : Schema} {iface : Name} :
    ∀ (ms : List (Name × Pos)), (∀ m ∈ ms, ∃ o, S.typeDef? m.1 = some o ∧ o.kind = .object) →
      (unionMemberImplements S iface ms).1 = [] ∧
      ((unionMemberImplements S iface ms).2 = true ↔ ∃ m ∈ ms, ∃ o, S.typeDef? m.1 = some o ∧ implementsIface o iface = true) := by
  intro ms
  induction ms with
  | nil => intro _; simp [unionMemberImplements]
  | cons m ms ih =>
    obtain ⟨mn, mp⟩ := m
    intro hobj
    obtain ⟨o, ho, hok⟩ := hobj (mn, mp) (by simp)
    have ih := ih fun m' hm' => hobj m' (List.mem_cons_of_mem _ hm')
    have ho' : S.typeDef? mn = some o := ho
    have hkb : (o.kind == TypeKind.object) = true := by rw [hok]; rfl
    have hex : (∃ m ∈ (mn, mp) :: ms, ∃ o, S.typeDef? m.1 = some o ∧ implementsIface o iface = true) ↔
        implementsIface o iface = true ∨ ∃ m ∈ ms, ∃ o, S.typeDef? m.1 = some o ∧ implementsIface o iface = true := by
      simp only [List.mem_cons, exists_eq_or_imp, ho', Option.some.injEq, exists_eq_left']
    simp only [unionMemberImplements, ho', hkb, if_true, hex]
    cases hi : implementsIface o iface <;> simp [ih]

/-- **Applicability.** Between two defined types of a schema with unique type names whose union members are objects, the
    analysis of `check_fragment_spread_core` is quiet exactly when the validator's possible types overlap — except
    that a union without members, which overlaps itself for the validator, never matches for the checker. One case
    per pair of composite kinds: what the checker tests there is "a common possible type", read off
    `mem_possibleTypes_iff`. -/
theorem applicability_iff {S : Schema} {A : ErrKind → Bool} (hA : Admissible A)
    (hND : nodupB (S.typeDefs.map (·.name)) = true)
    (hMem : ∀ td ∈ S.typeDefs, ∀ m ∈ td.members, ∃ o, S.typeDef? m.1 = some o ∧ o.kind = .object)
    {t c : Name} {root ct : TypeDef} {pos : Pos} (ht : S.typeDef? t = some root) (hc : S.typeDef? c = some ct) :
    Quiet A (spreadApplicability S root ct pos).1 ↔
      canApply S t c = true ∧ ¬ (root.kind = .union ∧ t = c ∧ root.members = []) := by
  have htn := Schema.typeDef?_name ht
  have hcn := Schema.typeDef?_name hc
  have hrm := Schema.typeDef?_mem ht
  have hcm := Schema.typeDef?_mem hc
  have hsame : t = c → root = ct := fun e => by rw [e, hc] at ht; cases ht; rfl
  have hN := hA _ (by decide : ErrKind.FragmentConditionNeverMatches ≠ ErrKind.UnknownVariable)
  -- a definition of the schema named `t` (`c`) is `root` (`ct`)
  have hroot : ∀ o ∈ S.typeDefs, o.name = t → o = root := fun o ho e => typeDefs_name_inj hND ho hrm (e.trans htn.symm)
  have hct : ∀ o ∈ S.typeDefs, o.name = c → o = ct := fun o ho e => typeDefs_name_inj hND ho hcm (e.trans hcn.symm)
  have hdiff : root.kind ≠ ct.kind → ¬ t = c := fun hne e => hne (hsame e ▸ rfl)
  cases hrk : root.kind
  -- the type in scope is not composite: nothing is pushed, and the validator does not ask
  case scalar | enum | input =>
    simp [spreadApplicability, hrk, quiet_nil, canApply_of_not_composite, isComposite_of_kind ht]
  case object =>
    cases hck : ct.kind
    case object =>
      simp only [spreadApplicability, hrk, hck, quiet_ite_not hN, bne_iff_ne, ne_eq, Decidable.not_not,
        canApply_iff ht hc (by rw [hrk]; rfl) (by rw [hck]; rfl), mem_possibleTypes_iff ht, mem_possibleTypes_iff hc,
        reduceCtorEq, false_and, or_false, true_and, htn, hcn, and_true, not_false_eq_true]
      exact ⟨fun h => .inl h, fun h => h.elim id fun ⟨x, h1, h2⟩ => h1 ▸ h2⟩
    case interface =>
      simp only [spreadApplicability, hrk, hck, quiet_ite_prop hN, hdiff (by rw [hrk, hck]; decide),
        canApply_iff ht hc (by rw [hrk]; rfl) (by rw [hck]; rfl), mem_possibleTypes_iff ht, mem_possibleTypes_iff hc,
        reduceCtorEq, false_and, or_false, false_or, true_and, htn, hcn, and_true, not_false_eq_true]
      exact ⟨fun h => ⟨t, rfl, root, hrm, hrk, h, htn⟩, fun ⟨x, hx, o, ho, _, hi, hn⟩ => hroot o ho (hn.trans hx) ▸ hi⟩
    case union =>
      simp only [spreadApplicability, hrk, hck, quiet_ite_prop hN, hdiff (by rw [hrk, hck]; decide), List.any_eq_true,
        beq_iff_eq, canApply_iff ht hc (by rw [hrk]; rfl) (by rw [hck]; rfl), mem_possibleTypes_iff ht, mem_possibleTypes_iff hc,
        reduceCtorEq, false_and, or_false, false_or, true_and, htn, hcn, and_true, not_false_eq_true]
      exact ⟨fun ⟨m, hm, e⟩ => ⟨t, rfl, m, hm, e⟩, fun ⟨x, hx, m, hm, e⟩ => ⟨m, hm, e.trans hx⟩⟩
    -- the condition is not composite
    all_goals
      simp [spreadApplicability, hrk, hck, quiet_nil, canApply_of_not_composite, isComposite_of_kind hc]
  case interface =>
    cases hck : ct.kind
    case object =>
      simp only [spreadApplicability, hrk, hck, quiet_ite_prop hN, hdiff (by rw [hrk, hck]; decide),
        canApply_iff ht hc (by rw [hrk]; rfl) (by rw [hck]; rfl), mem_possibleTypes_iff ht, mem_possibleTypes_iff hc,
        reduceCtorEq, false_and, or_false, false_or, true_and, htn, hcn, and_true, not_false_eq_true]
      exact ⟨fun h => ⟨c, ⟨ct, hcm, hck, h, hcn⟩, rfl⟩, fun ⟨x, ⟨o, ho, _, hi, hn⟩, hx⟩ => hct o ho (hn.trans hx) ▸ hi⟩
    case interface =>
      simp only [spreadApplicability, hrk, hck, canApply_iff ht hc (by rw [hrk]; rfl) (by rw [hck]; rfl), mem_possibleTypes_iff ht, mem_possibleTypes_iff hc,
        reduceCtorEq, false_and, false_or, true_and, htn, hcn, and_true, not_false_eq_true]
      by_cases e : t = c
      · simp [e, quiet_nil]
      · -- an object that implements both: found among the type names iff there is one among the definitions
        simp only [beq_iff_eq, e, if_false, quiet_ite_prop hN, List.any_eq_true, false_or]
        constructor
        · rintro ⟨n, _, h⟩
          cases ho : S.typeDef? n with
          | none => simp [ho] at h
          | some o =>
            simp only [ho, Bool.and_eq_true] at h
            have hm := Schema.typeDef?_mem ho
            exact ⟨o.name, ⟨o, hm, kind_beq_object h.1.1, h.1.2, rfl⟩, o, hm, kind_beq_object h.1.1, h.2, rfl⟩
        · rintro ⟨x, ⟨o, ho, hok, hi, hn⟩, o', ho', _, hi', hn'⟩
          obtain rfl := typeDefs_name_inj hND ho' ho (hn'.trans hn.symm)
          exact ⟨o'.name, Schema.mem_typeNames ho', by simp [typeDef?_of_mem hND ho', hok, hi, hi', Gql.typeKind_beq]⟩
    case union =>
      obtain ⟨h1, h2⟩ := unionMemberImplements_eq (S := S) (iface := t) ct.members (hMem ct hcm)
      simp only [spreadApplicability, hrk, hck, hdiff (by rw [hrk, hck]; decide), canApply_iff ht hc (by rw [hrk]; rfl) (by rw [hck]; rfl), mem_possibleTypes_iff ht, mem_possibleTypes_iff hc,
        reduceCtorEq, false_and, or_false, false_or, true_and, htn, hcn, and_true, not_false_eq_true, h1, List.nil_append, quiet_ite_prop hN, h2]
      constructor
      · rintro ⟨m, hm, o, ho, hi⟩
        obtain ⟨o', ho', hok⟩ := hMem ct hcm m hm
        rw [ho] at ho'; cases ho'
        exact ⟨m.1, ⟨o, Schema.typeDef?_mem ho, hok, hi, Schema.typeDef?_name ho⟩, m, hm, rfl⟩
      · rintro ⟨x, ⟨o, ho, _, hi, hn⟩, m, hm, e⟩
        exact ⟨m, hm, o, by rw [e, ← hn]; exact typeDef?_of_mem hND ho, hi⟩
    -- the condition is not composite
    all_goals
      simp [spreadApplicability, hrk, hck, quiet_nil, canApply_of_not_composite, isComposite_of_kind hc]
  case union =>
    cases hck : ct.kind
    case object =>
      simp only [spreadApplicability, hrk, hck, quiet_ite_prop hN, hdiff (by rw [hrk, hck]; decide), List.any_eq_true,
        beq_iff_eq, canApply_iff ht hc (by rw [hrk]; rfl) (by rw [hck]; rfl), mem_possibleTypes_iff ht, mem_possibleTypes_iff hc,
        reduceCtorEq, false_and, or_false, false_or, true_and, htn, hcn, and_true, not_false_eq_true]
      exact ⟨fun ⟨m, hm, e⟩ => ⟨c, ⟨m, hm, e⟩, rfl⟩, fun ⟨x, ⟨m, hm, e⟩, hx⟩ => ⟨m, hm, e.trans hx⟩⟩
    case interface =>
      obtain ⟨h1, h2⟩ := unionMemberImplements_eq (S := S) (iface := c) root.members (hMem root hrm)
      simp only [spreadApplicability, hrk, hck, hdiff (by rw [hrk, hck]; decide), canApply_iff ht hc (by rw [hrk]; rfl) (by rw [hck]; rfl), mem_possibleTypes_iff ht, mem_possibleTypes_iff hc,
        reduceCtorEq, false_and, or_false, false_or, true_and, htn, hcn, and_true, not_false_eq_true, h1, List.nil_append, quiet_ite_prop hN, h2]
      constructor
      · rintro ⟨m, hm, o, ho, hi⟩
        obtain ⟨o', ho', hok⟩ := hMem root hrm m hm
        rw [ho] at ho'; cases ho'
        exact ⟨m.1, ⟨m, hm, rfl⟩, o, Schema.typeDef?_mem ho, hok, hi, Schema.typeDef?_name ho⟩
      · rintro ⟨x, ⟨m, hm, e⟩, o, ho, _, hi, hn⟩
        exact ⟨m, hm, o, by rw [e, ← hn]; exact typeDef?_of_mem hND ho, hi⟩
    case union =>
      simp only [spreadApplicability, hrk, hck, quiet_ite_prop hN, List.any_eq_true, beq_iff_eq, canApply_iff ht hc (by rw [hrk]; rfl) (by rw [hck]; rfl), mem_possibleTypes_iff ht, mem_possibleTypes_iff hc,
        reduceCtorEq, false_and, or_false, false_or, true_and, htn, hcn]
      constructor
      · rintro ⟨m2, h2, m1, h1, e⟩
        exact ⟨.inr ⟨m1.1, ⟨m1, h1, rfl⟩, m2, h2, e.symm⟩, fun h => by rw [h.2] at h1; cases h1⟩
      · rintro ⟨h | ⟨x, ⟨m1, h1, e1⟩, m2, h2, e2⟩, hne⟩
        · -- the same union: any member is common, and there is one
          obtain rfl := hsame h
          cases hms : root.members with
          | nil => exact absurd ⟨h, hms⟩ hne
          | cons m ms => exact ⟨m, by simp, m, by simp, rfl⟩
        · exact ⟨m2, h2, m1, h1, e1.trans e2.symm⟩
    -- the condition is not composite
    all_goals
      simp [spreadApplicability, hrk, hck, quiet_nil, canApply_of_not_composite, isComposite_of_kind hc]
    all_goals exact fun e => absurd e (hdiff (by rw [hrk, hck]; decide))

theorem applicability_canApply {S : Schema} {A : ErrKind → Bool} (hA : Admissible A)
    (hND : nodupB (S.typeDefs.map (·.name)) = true)
    (hMem : ∀ td ∈ S.typeDefs, ∀ m ∈ td.members, ∃ o, S.typeDef? m.1 = some o ∧ o.kind = .object)
    {t c : Name} {root ct : TypeDef} {pos : Pos} (ht : S.typeDef? t = some root) (hc : S.typeDef? c = some ct)
    (hq : Quiet A (spreadApplicability S root ct pos).1) : canApply S t c = true :=
  ((applicability_iff hA hND hMem ht hc).mp hq).1

end NitroVerif.CheckOp
