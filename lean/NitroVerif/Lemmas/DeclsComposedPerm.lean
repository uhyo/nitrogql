/-
C10 ∘ C11 — helper lemmas: the reference sets `Ref_t(T)`, the resolver references and the side condition `DocOK` do not
depend on the ORDER of the definitions of a resolved document with distinct type names.
-/
import NitroVerif.Lemmas.DeclsComposed
import NitroVerif.Lemmas.DeterminismConcreteDecls
import NitroVerif.Lemmas.DeclsClosedResolvers
namespace NitroVerif.DeclsComposed
open NitroVerif.Gql NitroVerif.Ts NitroVerif.DeclCfg NitroVerif.SchemaDecls NitroVerif.RefTypes
open NitroVerif.ExtMerge NitroVerif.ExtResolve

theorem typeDefsOf_perm {R R' : TsDoc} (hp : R.Perm R') : (typeDefsOf R).Perm (typeDefsOf R') := hp.filterMap _

/-! Everything below only needs the TYPE DEFINITIONS of the two documents to be permutations of each other
   (`typeDefsOf R ~ typeDefsOf R'`): directive and schema definitions play no part in the declaration semantics. -/

theorem scalarTypes_perm (c : Cfg) {R R' : TsDoc} (hp : (typeDefsOf R).Perm (typeDefsOf R')) :
    (scalarTypes c R).Perm (scalarTypes c R') :=
  DeterminismDecls.scalarTypes_perm c hp

theorem mem_bag_perm (c : Cfg) {R R' : TsDoc} (hp : (typeDefsOf R).Perm (typeDefsOf R')) (i : String) :
    i ∈ bag (scalarTypes c R) ↔ i ∈ bag (scalarTypes c R') :=
  DeterminismDecls.bag_mem_perm c hp i

theorem docOK_perm {c : Cfg} {R R' : TsDoc} (hp : (typeDefsOf R).Perm (typeDefsOf R')) (ok : DocOK c R) : DocOK c R' := by
  have hm : ∀ td, td ∈ typeDefsOf R' ↔ td ∈ typeDefsOf R := fun td => hp.mem_iff.symm
  have hs : ∀ p, p ∈ scalarTypes c R' ↔ p ∈ scalarTypes c R := fun p => (scalarTypes_perm c hp).mem_iff.symm
  have hb : ∀ i, i ∈ bag (scalarTypes c R') ↔ i ∈ bag (scalarTypes c R) := fun i => (mem_bag_perm c hp i).symm
  refine ⟨?_, ?_, ?_, ?_, ?_, ?_, ?_, ?_⟩
  · exact ((hp.map (·.name)).nodup_iff).mp ok.distinct
  · intro a ha; exact ok.names a ((hm a).mp ha)
  · intro a ha; exact ok.notPrelude a ((hm a).mp ha)
  · intro td htd hk f hf
    obtain ⟨td', h1, h2⟩ := ok.fields td ((hm td).mp htd) hk f hf
    exact ⟨td', (hm td').mpr h1, h2⟩
  · intro td htd hk f hf
    obtain ⟨td', h1, h2⟩ := ok.inputs td ((hm td).mp htd) hk f hf
    exact ⟨td', (hm td').mpr h1, h2⟩
  · intro td htd hk m hmm
    obtain ⟨td', h1, h2⟩ := ok.members td ((hm td).mp htd) hk m hmm
    exact ⟨td', (hm td').mpr h1, h2⟩
  · intro i hi; exact ok.bagOK i ((hb i).mp hi)
  · intro p hp' t ht
    obtain ⟨h1, h2⟩ := ok.parses p ((hs p).mp hp') t ht
    exact ⟨h1, fun i hi => (hb i).mpr (h2 i hi)⟩

section lookups
variable {R R' : TsDoc} (hp : (typeDefsOf R).Perm (typeDefsOf R')) (hd : ((typeDefsOf R).map (·.name)).Nodup)

include hp hd in
theorem typeDef?_perm (n : Name) : (Schema.mk R').typeDef? n = (Schema.mk R).typeDef? n :=
  (Determinism.typeDef?_of_perm (S := ⟨R⟩) (S' := ⟨R'⟩) hp hd n).symm

include hp hd in
theorem scalarType?_perm (c : Cfg) (n : Name) : scalarType? c R' n = scalarType? c R n := by
  unfold scalarType?
  rw [DeterminismDecls.scalarTypes_find_perm c hp hd n]

include hp hd in
theorem possibleTypes_perm (n : Name) : ((Schema.mk R).possibleTypes n).Perm ((Schema.mk R').possibleTypes n) :=
  Determinism.possibleTypes_of_perm (S := ⟨R⟩) (S' := ⟨R'⟩) hp hd n

include hp hd in
theorem refMem_perm (c : Cfg) (t : Target) : ∀ n, refMem c ⟨R'⟩ t n = refMem c ⟨R⟩ t n := by
  intro n
  induction n with
  | zero => funext name v; rfl
  | succ n ih =>
    funext name v
    rw [refMem, refMem, ih, typeDef?_perm hp hd name]
    have hs : scalarType? c (Schema.mk R').items name = scalarType? c (Schema.mk R).items name :=
      scalarType?_perm hp hd c name
    rw [hs]
    have ha : ∀ f : Name → Bool, ((Schema.mk R').possibleTypes name).any f = ((Schema.mk R).possibleTypes name).any f :=
      fun f => (possibleTypes_perm hp hd name).any_eq.symm
    simp only [ha]

include hp hd in
theorem Ref_perm (c : Cfg) (t : Target) (name : Name) (v : J) : Ref c ⟨R'⟩ t name v ↔ Ref c ⟨R⟩ t name v := by
  unfold Ref
  simp only [refMem_perm hp hd c t]

include hp hd in
theorem refResolverOut_perm (c : Cfg) : ∀ n, refResolverOut c ⟨R'⟩ n = refResolverOut c ⟨R⟩ n := by
  intro n
  induction n with
  | zero => funext name v; rfl
  | succ n ih =>
    funext name v
    rw [refResolverOut, refResolverOut, ih, typeDef?_perm hp hd name, refMem_perm hp hd, refMem_perm hp hd]
    have ha : ∀ f : Name → Bool, ((Schema.mk R').possibleTypes name).any f = ((Schema.mk R).possibleTypes name).any f :=
      fun f => (possibleTypes_perm hp hd name).any_eq.symm
    simp only [ha]

include hp hd in
theorem refArgs_perm (c : Cfg) (n : Nat) (args : List InputValueDef) (v : J) :
    refArgs c ⟨R'⟩ n args v = refArgs c ⟨R⟩ n args v := by
  unfold refArgs
  rw [refMem_perm hp hd]

end lookups

theorem typeDefsOf_resolved_refMerge {src R : TsDoc} (h : resolve src = .ok R) :
    (typeDefsOf R).Perm (typeDefsOf (refMerge src)) := by
  rw [typeDefsOf_refMerge]; exact typeDefsOf_resolved h

theorem Ref_resolved_eq (c : Cfg) {src R : TsDoc} (h : resolve src = .ok R)
    (hd : ((typeDefsOf R).map (·.name)).Nodup) (t : Target) : Ref c ⟨refMerge src⟩ t = Ref c ⟨R⟩ t := by
  funext name v
  exact propext (Ref_perm (typeDefsOf_resolved_refMerge h) hd c t name v)

theorem refResolverOut_resolved_eq (c : Cfg) {src R : TsDoc} (h : resolve src = .ok R)
    (hd : ((typeDefsOf R).map (·.name)).Nodup) (n : Nat) : refResolverOut c ⟨refMerge src⟩ n = refResolverOut c ⟨R⟩ n :=
  refResolverOut_perm (typeDefsOf_resolved_refMerge h) hd c n

theorem refArgs_resolved_eq (c : Cfg) {src R : TsDoc} (h : resolve src = .ok R)
    (hd : ((typeDefsOf R).map (·.name)).Nodup) (n : Nat) (args : List InputValueDef) (v : J) :
    refArgs c ⟨refMerge src⟩ n args v = refArgs c ⟨R⟩ n args v :=
  refArgs_perm (typeDefsOf_resolved_refMerge h) hd c n args v

end NitroVerif.DeclsComposed
