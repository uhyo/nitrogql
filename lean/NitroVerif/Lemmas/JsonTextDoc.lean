import NitroVerif.Lemmas.JsonTextRound
import NitroVerif.Model.DocJson
/-!
# C12, text level — the shape of the trees the document printer builds

`shape t`: no JSON number anywhere (graphql-js keeps `IntValue` / `FloatValue` literals as STRINGS), every member name is one
of the seventeen names of `vocab` (the member names of graphql-js AST nodes the printer writes), and the member names of each
object are pairwise distinct. `shape_toJson`: every `DocJson.toJson defs` has this shape — for every list of definitions.

Consequences: `good key (toJson defs)` for every `key` that accepts `vocab` (RFC 8259: any name; ECMA-262: any name but
`__proto__`, which is not in `vocab`); and since no object repeats a name, "first occurrence" (`Json.get?`), "last occurrence"
(what `JSON.parse` and an object literal keep) and "reject duplicates" readers all see the same members; and the text of such a
tree contains no character below U+0020.
-/
namespace NitroVerif.JsonText
open NitroVerif NitroVerif.Gql NitroVerif.DocJson

/-- the member names the document printer writes -/
def vocab : List String :=
  ["kind", "value", "name", "type", "values", "fields", "arguments", "alias", "directives", "selectionSet",
   "selections", "typeCondition", "variable", "defaultValue", "operation", "variableDefinitions", "definitions"]

/-- the member names of one object: all in `vocab`, pairwise distinct -/
def keysOk (ks : List String) : Bool := ks.all (fun k => vocab.contains k) && decide ks.Nodup

mutual
/-- what the text level needs to know of a tree `toJson` writes: no number in it, every object's member names as in `keysOk` -/
def shape : Json → Bool
  | .num _ => false
  | .arr xs => shapeList xs
  | .obj kvs => keysOk (kvs.map (·.1)) && shapeFields kvs
  | _ => true
def shapeList : List Json → Bool
  | [] => true
  | x :: xs => shape x && shapeList xs
def shapeFields : List (String × Json) → Bool
  | [] => true
  | (_, v) :: r => shape v && shapeFields r
end

theorem shapeList_iff (xs : List Json) : shapeList xs = true ↔ ∀ x ∈ xs, shape x = true := by
  induction xs with
  | nil => simp [shapeList]
  | cons x xs ih => simp [shapeList, ih]

theorem shapeList_map {α : Type} (f : α → Json) (l : List α) (h : ∀ a, shape (f a) = true) :
    shapeList (l.map f) = true := by
  rw [shapeList_iff]; intro x hx; obtain ⟨a, _, rfl⟩ := List.mem_map.mp hx; exact h a

mutual
theorem good_of_shape (key : List Char → Bool) (hk : ∀ k ∈ vocab, key k.toList = true) :
    (t : Json) → shape t = true → good key t = true
  | .null, _ => rfl
  | .bool _, _ => rfl
  | .num _, h => by simp [shape] at h
  | .str _, _ => rfl
  | .arr xs, h => by simp only [shape] at h; simp only [good]; exact goodList_of_shape key hk xs h
  | .obj kvs, h => by
    simp only [shape, Bool.and_eq_true, keysOk] at h
    simp only [good]
    exact goodFields_of_shape key hk kvs (by simpa using h.1.1) h.2
theorem goodList_of_shape (key : List Char → Bool) (hk : ∀ k ∈ vocab, key k.toList = true) :
    (xs : List Json) → shapeList xs = true → goodList key xs = true
  | [], _ => rfl
  | x :: xs, h => by
    simp only [shapeList, Bool.and_eq_true] at h
    simp only [goodList, Bool.and_eq_true]
    exact ⟨good_of_shape key hk x h.1, goodList_of_shape key hk xs h.2⟩
theorem goodFields_of_shape (key : List Char → Bool) (hk : ∀ k ∈ vocab, key k.toList = true) :
    (kvs : List (String × Json)) → (∀ kv ∈ kvs, kv.1 ∈ vocab) → shapeFields kvs = true → goodFields key kvs = true
  | [], _, _ => rfl
  | (k, v) :: r, hm, h => by
    simp only [shapeFields, Bool.and_eq_true] at h
    simp only [goodFields, Bool.and_eq_true]
    exact ⟨⟨hk k (hm (k, v) (by simp)), good_of_shape key hk v h.1⟩,
      goodFields_of_shape key hk r (fun kv hkv => hm kv (by simp [hkv])) h.2⟩
end

/-! ## the document printer

Every node is an object whose member names are, in order, among the member names of its kind of node; the optional members
(`alias`, `typeCondition`, `defaultValue`, `selectionSet`) only leave some of them out. So the names are checked once per kind
of node (`keysOk` of the full list, decided), whatever optional members are present. -/

theorem keysOk_of_sublist {ks ks' : List String} (h : ks'.Sublist ks) (hk : keysOk ks = true) : keysOk ks' = true := by
  simp only [keysOk, Bool.and_eq_true, List.all_eq_true, decide_eq_true_eq] at hk ⊢
  exact ⟨fun k hk' => hk.1 k (h.subset hk'), hk.2.sublist h⟩

theorem shape_obj (ks : List String) {kvs : List (String × Json)} (hks : keysOk ks = true)
    (hsub : (kvs.map (·.1)).Sublist ks) (hv : shapeFields kvs = true) : shape (.obj kvs) = true := by
  simp only [shape, keysOk_of_sublist hsub hks, hv, Bool.and_self]

theorem shapeFields_append (a b : List (String × Json)) : shapeFields (a ++ b) = (shapeFields a && shapeFields b) := by
  induction a with
  | nil => simp [shapeFields]
  | cons kv a ih => simp [shapeFields, ih, Bool.and_assoc]

-- the values of the members are checked by unfolding
attribute [local simp] shapeFields kind shape

theorem shape_nameJ (n : Name) : shape (nameJ n) = true :=
  shape_obj ["kind", "value"] (by decide +kernel) (List.Sublist.refl _) rfl

theorem shape_varJ (n : Name) : shape (varJ n) = true :=
  shape_obj ["kind", "name"] (by decide +kernel) (List.Sublist.refl _) (by simp [shape_nameJ])

theorem shape_typeJ : (t : GType) → shape (typeJ t) = true
  | .named n _ => shape_obj ["kind", "name"] (by decide +kernel) (List.Sublist.refl _) (by simp [shape_nameJ])
  | .list t _ | .nonNull t =>
    shape_obj ["kind", "type"] (by decide +kernel) (List.Sublist.refl _) (by simp [shape_typeJ t])

mutual
theorem shape_valueJ : (v : Value) → shape (valueJ v) = true
  | .var n _ => shape_varJ n
  | .bool _ _ | .int _ _ | .float _ _ | .str _ _ | .enum _ _ =>
    shape_obj ["kind", "value"] (by decide +kernel) (List.Sublist.refl _) rfl
  | .null _ => shape_obj ["kind"] (by decide +kernel) (List.Sublist.refl _) rfl
  | .list vs _ => shape_obj ["kind", "values"] (by decide +kernel) (List.Sublist.refl _)
      (by simp [shape_valuesJ vs])
  | .obj fs _ => shape_obj ["kind", "fields"] (by decide +kernel) (List.Sublist.refl _)
      (by simp [shape_fieldsJ fs])
theorem shape_valuesJ : (vs : List Value) → shapeList (valuesJ vs) = true
  | [] => rfl
  | v :: vs => by simp [valuesJ, shapeList, shape_valueJ v, shape_valuesJ vs]
theorem shape_fieldsJ : (fs : List (Name × Pos × Value)) → shapeList (fieldsJ fs) = true
  | [] => rfl
  | (k, _, v) :: r => by
    have := shape_obj ["kind", "name", "value"] (kvs := [kind "ObjectField", ("name", nameJ k), ("value", valueJ v)])
      (by decide +kernel) (List.Sublist.refl _) (by simp [shape_nameJ, shape_valueJ v])
    simp only [fieldsJ, shapeList, this, shape_fieldsJ r, Bool.and_self]
end

theorem shape_argJ (a : Arg) : shape (argJ a) = true :=
  shape_obj ["kind", "name", "value"] (by decide +kernel) (List.Sublist.refl _)
    (by simp [shape_nameJ, shape_valueJ])

theorem shape_args (l : List Arg) : shapeList (l.map argJ) = true := shapeList_map argJ _ shape_argJ

theorem shape_dirJ (d : Directive) : shape (dirJ d) = true :=
  shape_obj ["kind", "name", "arguments"] (by decide +kernel) (List.Sublist.refl _)
    (by simp [shape_nameJ, shape_args])

theorem shape_dirs (l : List Directive) : shapeList (l.map dirJ) = true := shapeList_map dirJ _ shape_dirJ

theorem shape_condJ (n : Name) : shape (condJ n) = true :=
  shape_obj ["kind", "name"] (by decide +kernel) (List.Sublist.refl _) (by simp [shape_nameJ])

theorem shape_selSetJ (sels : List Json) (h : shapeList sels = true) : shape (selSetJ sels) = true :=
  shape_obj ["kind", "selections"] (by decide +kernel) (List.Sublist.refl _) (by simp [h])

theorem optNameKV_keys (key : String) (o : Option (Name × Pos)) : ((optNameKV key o).map (·.1)).Sublist [key] := by
  cases o <;> simp [optNameKV]

theorem shapeFields_optNameKV (key : String) (o : Option (Name × Pos)) : shapeFields (optNameKV key o) = true := by
  cases o <;> simp [optNameKV, shape_nameJ]

theorem optCondKV_keys (o : Option (Name × Pos)) : ((optCondKV o).map (·.1)).Sublist ["typeCondition"] := by
  cases o <;> simp [optCondKV]

theorem shapeFields_optCondKV (o : Option (Name × Pos)) : shapeFields (optCondKV o) = true := by
  cases o <;> simp [optCondKV, shape_condJ]

theorem optDefaultKV_keys (o : Option Value) : ((optDefaultKV o).map (·.1)).Sublist ["defaultValue"] := by
  cases o <;> simp [optDefaultKV]

theorem shapeFields_optDefaultKV (o : Option Value) : shapeFields (optDefaultKV o) = true := by
  cases o <;> simp [optDefaultKV, shape_valueJ]

theorem selSetKV_keys (sels : List Json) : ((selSetKV sels).map (·.1)).Sublist ["selectionSet"] := by
  cases sels <;> simp [selSetKV]

theorem shapeFields_selSetKV (sels : List Json) (h : shapeList sels = true) : shapeFields (selSetKV sels) = true := by
  cases sels with
  | nil => rfl
  | cons x xs => simp [selSetKV, shape_selSetJ _ h]

mutual
theorem shape_selJ : (s : Selection) → shape (selJ s) = true
  | .field al n _ args dirs (some ss) => by
    refine shape_obj (["kind", "name"] ++ ["alias"] ++ ["arguments", "directives"] ++ ["selectionSet"]) (by decide +kernel) ?_ ?_
    · simp only [List.map_append]
      exact (((List.Sublist.refl _).append (optNameKV_keys "alias" al)).append (List.Sublist.refl _)).append
        (selSetKV_keys _)
    · simp [shapeFields_append, shape_nameJ, shapeFields_optNameKV, shape_args, shape_dirs, shapeFields_selSetKV _ (shape_selsJ ss)]
  | .field al n _ args dirs none => by
    refine shape_obj (["kind", "name"] ++ ["alias"] ++ ["arguments", "directives"]) (by decide +kernel) ?_ ?_
    · simp only [List.map_append]
      exact ((List.Sublist.refl _).append (optNameKV_keys "alias" al)).append (List.Sublist.refl _)
    · simp [shapeFields_append, shape_nameJ, shapeFields_optNameKV, shape_args, shape_dirs]
  | .spread n _ dirs _ =>
    shape_obj ["kind", "name", "directives"] (by decide +kernel) (List.Sublist.refl _)
      (by simp [shape_nameJ, shape_dirs])
  | .inline c dirs ss _ => by
    refine shape_obj (["kind"] ++ ["typeCondition"] ++ ["directives"] ++ ["selectionSet"]) (by decide +kernel) ?_ ?_
    · simp only [List.map_append]
      exact (((List.Sublist.refl _).append (optCondKV_keys c)).append (List.Sublist.refl _)).append (selSetKV_keys _)
    · simp [shapeFields_append, shapeFields_optCondKV, shape_dirs, shapeFields_selSetKV _ (shape_selsJ ss)]
theorem shape_selsJ : (ss : List Selection) → shapeList (selsJ ss) = true
  | [] => rfl
  | s :: r => by simp [selsJ, shapeList, shape_selJ s, shape_selsJ r]
end

theorem shape_varDefJ (v : VarDef) : shape (varDefJ v) = true := by
  refine shape_obj (["kind", "variable", "type"] ++ ["defaultValue"] ++ ["directives"]) (by decide +kernel) ?_ ?_
  · simp only [List.map_append]
    exact ((List.Sublist.refl _).append (optDefaultKV_keys _)).append (List.Sublist.refl _)
  · simp [shapeFields_append, shape_varJ, shape_typeJ, shapeFields_optDefaultKV, shape_dirs]

theorem shape_opJ (o : OperationDef) : shape (opJ o) = true := by
  refine shape_obj (["kind", "operation"] ++ ["name"] ++ ["variableDefinitions", "directives"] ++ ["selectionSet"])
    (by decide +kernel) ?_ ?_
  · simp only [List.map_append]
    exact (((List.Sublist.refl _).append (optNameKV_keys "name" _)).append (List.Sublist.refl _)).append
      (selSetKV_keys _)
  · simp [shapeFields_append, shapeFields_optNameKV, shapeList_map varDefJ _ shape_varDefJ, shape_dirs, shapeFields_selSetKV _ (shape_selsJ o.sel)]

theorem shape_fragJ (f : FragmentDef) : shape (fragJ f) = true := by
  refine shape_obj (["kind", "name", "typeCondition", "directives"] ++ ["selectionSet"]) (by decide +kernel) ?_ ?_
  · simp only [List.map_append]
    exact (List.Sublist.refl _).append (selSetKV_keys _)
  · simp [shape_nameJ, shape_condJ, shape_dirs, shapeFields_selSetKV _ (shape_selsJ f.sel)]

theorem shape_defsJ (defs : List ExecDef) : shapeList (defsJ defs) = true := by
  rw [shapeList_iff]
  intro x hx
  simp only [defsJ, List.mem_filterMap] at hx
  obtain ⟨d, _, hd⟩ := hx
  cases d with
  | op o => simp only [defJ, Option.some.injEq] at hd; subst hd; exact shape_opJ o
  | frag f => simp only [defJ, Option.some.injEq] at hd; subst hd; exact shape_fragJ f
  | imp i => simp [defJ] at hd

theorem shape_toJson (defs : List ExecDef) : shape (toJson defs) = true :=
  shape_obj ["kind", "definitions"] (by decide +kernel) (List.Sublist.refl _) (by simp [shape_defsJ])

theorem rfc_key_vocab : ∀ k ∈ vocab, rfc8259.key k.toList = true := by intro k _; rfl

theorem js_key_vocab : ∀ k ∈ vocab, JsLit.lex.key k.toList = true := by
  intro k hk
  have hne : k ≠ "__proto__" := by rintro rfl; exact absurd hk (by decide +kernel)
  have : k.toList ≠ ['_', '_', 'p', 'r', 'o', 't', 'o', '_', '_'] := fun e =>
    hne (String.toList_inj.mp (e.trans String.toList_ofList.symm))
  simpa [JsLit.lex, JsLit.lexOf] using this

end NitroVerif.JsonText

/-! For a tree without numbers every character of json-writer's text is U+0020 or above: json-writer escapes every C0 control, and
the structural characters are printable. In particular the literal contains no LF and no CR (U+2028 / U+2029 are written raw):
it stays on the line of its `const`, and the indentation `SourceWriter` inserts behind a line feed never falls inside it. -/

namespace NitroVerif.JsonText
open NitroVerif NitroVerif.PrintMap

theorem hexDigit_printable : ∀ n, n < 32 → 32 ≤ (hexDigit (n / 16)).toNat ∧ 32 ≤ (hexDigit (n % 16)).toNat := by
  decide

theorem simpleEscapes_printable : ∀ p ∈ simpleEscapes, 32 ≤ p.1.toNat := by decide

theorem jsonEscChar_printable (c : Char) : ∀ x ∈ jsonEscChar c, 32 ≤ x.toNat := by
  rcases jsonEscChar_cases c with ⟨e, he, h⟩ | ⟨hc, h⟩ | ⟨hc, _, _, h⟩
  · simp only [h, List.forall_mem_cons]
    exact ⟨by decide, simpleEscapes_printable _ he, nofun⟩
  · have := hexDigit_printable _ hc
    simp only [h, List.forall_mem_cons]
    exact ⟨by decide, by decide, by decide, by decide, this.1, this.2, nofun⟩
  · simp only [h, List.forall_mem_cons]
    exact ⟨hc, nofun⟩

theorem escChars_printable (s : List Char) : ∀ x ∈ escChars s, 32 ≤ x.toNat := by
  intro x hx
  simp only [escChars, List.mem_flatMap] at hx
  obtain ⟨c, _, hc⟩ := hx
  exact jsonEscChar_printable c x hc

theorem strChars_printable (s : String) : ∀ x ∈ strChars s, 32 ≤ x.toNat := by
  simp only [strChars, List.forall_mem_cons, List.forall_mem_append]
  exact ⟨by decide, escChars_printable _, by decide, nofun⟩

mutual
theorem chars_printable : (t : Json) → shape t = true → ∀ x ∈ chars t, 32 ≤ x.toNat
  | .null, _ => by simp only [chars]; decide
  | .bool b, _ => by cases b <;> (simp only [chars]; decide)
  | .num _, h => by simp [shape] at h
  | .str s, _ => by simp only [chars]; exact strChars_printable s
  | .arr xs, h => by
    simp only [shape] at h
    simp only [chars, List.forall_mem_cons, List.forall_mem_append]
    exact ⟨by decide, charsList_printable xs true h, by decide, nofun⟩
  | .obj kvs, h => by
    simp only [shape, Bool.and_eq_true] at h
    simp only [chars, List.forall_mem_cons, List.forall_mem_append]
    exact ⟨by decide, charsFields_printable kvs true h.2, by decide, nofun⟩
theorem charsList_printable : (xs : List Json) → (first : Bool) → shapeList xs = true →
    ∀ x ∈ charsList xs first, 32 ≤ x.toNat
  | [], _, _ => by simp [charsList]
  | y :: ys, first, h => by
    simp only [shapeList, Bool.and_eq_true] at h
    simp only [charsList, List.forall_mem_append]
    exact ⟨⟨by cases first <;> decide, chars_printable y h.1⟩, charsList_printable ys false h.2⟩
theorem charsFields_printable : (kvs : List (String × Json)) → (first : Bool) → shapeFields kvs = true →
    ∀ x ∈ charsFields kvs first, 32 ≤ x.toNat
  | [], _, _ => by simp [charsFields]
  | (k, v) :: r, first, h => by
    simp only [shapeFields, Bool.and_eq_true] at h
    simp only [charsFields, List.forall_mem_cons, List.forall_mem_append]
    exact ⟨⟨⟨by cases first <;> decide, strChars_printable k⟩, by decide, chars_printable v h.1⟩,
      charsFields_printable r false h.2⟩
end

end NitroVerif.JsonText
