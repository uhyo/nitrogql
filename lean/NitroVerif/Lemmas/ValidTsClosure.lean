/-
The executable closure of `Spec/ValidTs.lean` (`reachable`: `|T| + 1` rounds of "add everything referenced") holds
exactly the nodes the relation `SpecReaches` reaches: an instance of the closure by rounds of `Lemmas/Search.lean`,
the carrier being the nodes that have a definition (only these have references).
-/
import NitroVerif.Spec.ValidTs
import NitroVerif.Lemmas.Search
import NitroVerif.Lemmas.Collects
namespace NitroVerif.ValidTs
open NitroVerif.Gql NitroVerif.Search

theorem insertNew_eq_foldl : ∀ (ns acc : List Node),
    insertNew acc ns = ns.foldl (fun acc n => if acc.contains n then acc else acc ++ [n]) acc
  | [], _ => rfl
  | n :: ns, acc => by
    rw [insertNew, List.foldl_cons, ← insertNew_eq_foldl ns, apply_ite (insertNew · ns)]

theorem mem_insertNew (ns acc : List Node) (x : Node) : x ∈ insertNew acc ns ↔ x ∈ acc ∨ x ∈ ns := by
  rw [insertNew_eq_foldl, foldl_dedup_mem (fun n : Node => n), List.map_id']

/-- the nodes that have a definition (only these have references) -/
def definedNodes (T : TsDoc) : List Node :=
  (directiveDefs T).map (fun d => Node.dir d.name) ++ (typeDefs T).map (fun t => Node.ty t.name)

theorem mem_refs_dir {S : Schema} {a : Name} {y : Node} :
    y ∈ refs S (.dir a) ↔ ∃ d, S.directiveDef? a = some d ∧
      ∃ arg ∈ d.args, (∃ dir ∈ arg.dirs, y = .dir dir.name) ∨ y = .ty arg.ty.unwrapped := by
  simp only [refs]
  cases S.directiveDef? a with
  | none => simp
  | some d =>
    simp only [List.mem_flatMap, List.mem_append, List.mem_map, List.mem_singleton, Option.some.injEq,
      exists_eq_left', eq_comm (a := y)]

theorem mem_refs_ty {S : Schema} {n : Name} {y : Node} :
    y ∈ refs S (.ty n) ↔ ∃ t, S.typeDef? n = some t ∧
      ((∃ dir ∈ dirsWithin t, y = .dir dir.name) ∨ ∃ f ∈ inputsOfT t, y = .ty f.ty.unwrapped) := by
  simp only [refs]
  cases S.typeDef? n with
  | none => simp
  | some t =>
    simp only [List.mem_append, List.mem_map, Option.some.injEq, exists_eq_left', eq_comm (a := y)]

theorem mem_definedNodes_of_refs {T : TsDoc} {x y : Node} (h : y ∈ refs ⟨T⟩ x) : x ∈ definedNodes T := by
  cases x with
  | dir n =>
    obtain ⟨d, hd, _⟩ := mem_refs_dir.mp h
    unfold Schema.directiveDef? at hd
    exact List.mem_append_left _ (List.mem_map.mpr
      ⟨d, List.mem_of_find?_eq_some hd, by rw [show d.name = n by simpa using List.find?_some hd]⟩)
  | ty n =>
    obtain ⟨t, ht, _⟩ := mem_refs_ty.mp h
    unfold Schema.typeDef? at ht
    exact List.mem_append_right _ (List.mem_map.mpr
      ⟨t, List.mem_of_find?_eq_some ht, by rw [show t.name = n by simpa using List.find?_some ht]⟩)

theorem defs_length_le (T : TsDoc) : (directiveDefs T).length + (typeDefs T).length ≤ T.length := by
  unfold directiveDefs typeDefs Schema.directiveDefs Schema.typeDefs
  induction T with
  | nil => simp
  | cons it r ih =>
    cases it <;> simp only [List.filterMap_cons, List.length_cons] at ih ⊢ <;> omega

theorem SpecReaches.snoc {S : Schema} {a b c : Node} (h : SpecReaches S a b) (hc : c ∈ refs S b) : SpecReaches S a c := by
  induction h with
  | step h1 => exact .cons h1 (.step hc)
  | cons h1 _ ih => exact .cons h1 (ih hc)

theorem closure_eq_iter (S : Schema) : ∀ (k : Nat) (V : List Node),
    closure S k V = iter (fun V => insertNew V (V.flatMap (refs S))) k V
  | 0, _ => rfl
  | k + 1, _ => closure_eq_iter S k _

theorem specReaches_iff_reach {S : Schema} {a b : Node} :
    SpecReaches S a b ↔ ∃ c ∈ refs S a, Reach (refs S) c b := by
  constructor
  · intro h
    induction h with
    | step h1 => exact ⟨_, h1, .refl _⟩
    | cons h1 _ ih => obtain ⟨c, hc, hr⟩ := ih; exact ⟨_, h1, .head hc hr⟩
  · rintro ⟨c, hc, hr⟩
    induction hr with
    | refl => exact .step hc
    | tail _ hd ih => exact ih.snoc hd

theorem reachable_inv (T : TsDoc) (a : Node) :
    (∀ x ∈ refs ⟨T⟩ a, x ∈ reachable T a) ∧
      Inv (refs ⟨T⟩) (SpecReaches ⟨T⟩ a) (fun _ => True) (reachable T a) [] := by
  unfold reachable
  rw [closure_eq_iter]
  have hlt : unseen (definedNodes T) [] < T.length + 1 := by
    have h1 := unseen_le (definedNodes T) []
    have h2 : (definedNodes T).length = (directiveDefs T).length + (typeDefs T).length := by simp [definedNodes]
    have h3 := defs_length_le T
    omega
  obtain ⟨h1, h2⟩ := iter_closed (succ := refs ⟨T⟩) (R := SpecReaches ⟨T⟩ a) (dom := definedNodes T)
    (fun V y => mem_insertNew _ V y) (fun x y h => mem_definedNodes_of_refs h)
    (fun _ h y hy => h.snoc hy) (T.length + 1) [] (insertNew [] (refs ⟨T⟩ a)) nofun
    (Inv.start fun x hx => .step (((mem_insertNew _ _ _).mp hx).resolve_left List.not_mem_nil)) hlt
  exact ⟨fun x hx => h1 x ((mem_insertNew _ _ _).mpr (Or.inr hx)), h2⟩

/-- the closure of the type-system specification over definitions (`CheckOp.mem_reachable_iff` is the operation
    specification's, over fragment spreads) -/
theorem mem_reachable_iff {T : TsDoc} {a b : Node} : b ∈ reachable T a ↔ SpecReaches ⟨T⟩ a b := by
  obtain ⟨h1, h2⟩ := reachable_inv T a
  refine ⟨fun h => h2.sound b (Or.inl h), fun h => ?_⟩
  obtain ⟨c, hc, hr⟩ := specReaches_iff_reach.mp h
  exact h2.reach (h1 c hc) hr

theorem noSpecRecursion_of_exec {T : TsDoc} (h : noRecursiveDirectives T = true) : NoSpecRecursion T := by
  intro d hd hreach
  simp only [noRecursiveDirectives, List.all_eq_true, Bool.not_eq_true'] at h
  have := h d hd
  exact (contains_eq_false_iff.mp this) (mem_reachable_iff.mpr hreach)

theorem exec_of_noSpecRecursion {T : TsDoc} (h : NoSpecRecursion T) : noRecursiveDirectives T = true := by
  simp only [noRecursiveDirectives, List.all_eq_true, Bool.not_eq_true']
  intro d hd
  exact contains_eq_false_iff.mpr fun hm => h d hd (mem_reachable_iff.mp hm)

theorem noRecursiveDirectives_iff {T : TsDoc} : noRecursiveDirectives T = true ↔ NoSpecRecursion T :=
  ⟨noSpecRecursion_of_exec, exec_of_noSpecRecursion⟩

end NitroVerif.ValidTs
