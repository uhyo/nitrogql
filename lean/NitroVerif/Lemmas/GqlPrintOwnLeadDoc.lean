import NitroVerif.Lemmas.GqlPrintOwnLeadDefs
import NitroVerif.Lemmas.ParseDocTsDoc
/-!
C16 over nitrogql's own parser: items and documents over the renderings WITH leading separators. The items
go kind by kind as in C07's `tsItemT`; the document is an instance of C07's `tsDoc_parseG` over any item renderer
(`Lemmas/ParseDocTsDoc.lean`); the well-formedness predicates are C07's.
-/
namespace NitroVerif.DocParseL
open NitroVerif.Peg NitroVerif.Gen NitroVerif.Gen.Parts NitroVerif.Build NitroVerif.TypeParse NitroVerif.StringParse
open NitroVerif.Gql NitroVerif.ValueParse NitroVerif.Spec.Lex NitroVerif.ParseText NitroVerif.DocParse

variable {inp : List Char}

def rTypeDefAny (τ : Trivia) (sep : Bool) (p : Nat) (t : TypeDef) : List Char :=
  match t.kind with
  | .scalar => rScalarDef τ sep p t
  | .object => rObjDef τ (kindKw .object) sep p t
  | .interface => rObjDef τ (kindKw .interface) sep p t
  | .union => rUnionDef τ sep p t
  | .enum => rEnumDef τ sep p t
  | .input => rInputDef τ sep p t

def wpTypeDefAny (τ : Trivia) (inp : List Char) (sep : Bool) (p : Nat) (t : TypeDef) : TypeDef :=
  match t.kind with
  | .scalar => wpScalarDef τ inp sep p t
  | .object => wpObjDef τ inp .object (kindKw .object) sep p t
  | .interface => wpObjDef τ inp .interface (kindKw .interface) sep p t
  | .union => wpUnionDef τ inp sep p t
  | .enum => wpEnumDef τ inp sep p t
  | .input => wpInputDef τ inp sep p t

def rTypeExtAny (τ : Trivia) (sep : Bool) (p : Nat) (t : TypeDef) : List Char :=
  match t.kind with
  | .scalar => rScalarExt τ sep p t
  | .object => rObjExt τ (kindKw .object) sep p t
  | .interface => rObjExt τ (kindKw .interface) sep p t
  | .union => rUnionExt τ sep p t
  | .enum => rEnumExt τ sep p t
  | .input => rInputExt τ sep p t

def wpTypeExtAny (τ : Trivia) (inp : List Char) (sep : Bool) (p : Nat) (t : TypeDef) : TypeDef :=
  match t.kind with
  | .scalar => wpScalarExt τ inp sep p t
  | .object => wpObjExt τ inp .object (kindKw .object) sep p t
  | .interface => wpObjExt τ inp .interface (kindKw .interface) sep p t
  | .union => wpUnionExt τ inp sep p t
  | .enum => wpEnumExt τ inp sep p t
  | .input => wpInputExt τ inp sep p t

def rTsItem (τ : Trivia) : Bool → Nat → TsItem → List Char
  | sep, p, .typeDef t => rTypeDefAny τ sep p t
  | sep, p, .schemaDef s => rSchemaDef τ sep p s
  | sep, p, .directiveDef d => rDirectiveDef τ sep p d
  | sep, p, .schemaExt s => rSchemaExt τ sep p s
  | sep, p, .typeExt t => rTypeExtAny τ sep p t

def wpTsItem (τ : Trivia) (inp : List Char) : Bool → Nat → TsItem → TsItem
  | sep, p, .typeDef t => .typeDef (wpTypeDefAny τ inp sep p t)
  | sep, p, .schemaDef s => .schemaDef (wpSchemaDef τ inp sep p s)
  | sep, p, .directiveDef d => .directiveDef (wpDirectiveDef τ inp sep p d)
  | sep, p, .schemaExt s => .schemaExt (wpSchemaExt τ inp sep p s)
  | sep, p, .typeExt t => .typeExt (wpTypeExtAny τ inp sep p t)

theorem tsItemT (τ : Trivia) (hτ : ∀ q, Ws (τ q)) (it : TsItem) (hwf : WFTsItem it) (sep : Bool) (p : Nat)
    (h : HasAt inp p (rTsItem τ sep p it)) (hn : Nxt inp tdBad sep (p + (rTsItem τ sep p it).length)) :
    TsItemOk inp p (rTsItem τ sep p it) (wpTsItem τ inp sep p it) := by
  cases it with
  | typeDef t =>
    obtain ⟨hname, hdirs, hk⟩ := hwf
    simp only [rTsItem, wpTsItem, rTypeDefAny, wpTypeDefAny] at h hn ⊢
    cases hkind : t.kind <;> simp only [hkind] at h hn hk ⊢
    · exact tsItem_of_def hτ .scalar hname h (scalarDefT τ hτ t hname hdirs h hn)
    · exact tsItem_of_def hτ .object hname h (objDefT τ hτ t hname hk.1 hdirs hk.2.1 hk.2.2 h hn)
    · exact tsItem_of_def hτ .interface hname h (ifaceDefT τ hτ t hname hk.1 hdirs hk.2.1 hk.2.2 h hn)
    · exact tsItem_of_def hτ .union hname h (unionDefT τ hτ t hname hdirs hk.1 hk.2 h hn)
    · exact tsItem_of_def hτ .enum hname h (enumDefT τ hτ t hname hdirs hk h hn)
    · exact tsItem_of_def hτ .input hname h (inputDefT τ hτ t hname hdirs hk h hn)
  | schemaDef s => exact schemaDefT τ hτ s hwf h hn
  | directiveDef d => exact directiveDefT τ hτ d hwf h hn
  | schemaExt s => exact schemaExtT τ hτ s hwf h hn
  | typeExt t =>
    obtain ⟨hname, hdirs, hk⟩ := hwf
    simp only [rTsItem, wpTsItem, rTypeExtAny, wpTypeExtAny] at h hn ⊢
    cases hkind : t.kind <;> simp only [hkind] at h hn hk ⊢
    · exact tsItem_of_extHead hτ .scalar hname h (scalarExtT τ hτ t hname hdirs h hn)
    · exact tsItem_of_extHead hτ .object hname h (objExtAllT τ hτ t hname hk.1 hdirs hk.2.1 hk.2.2 h hn)
    · exact tsItem_of_extHead hτ .interface hname h (ifaceExtT τ hτ t hname hk.1 hdirs hk.2.1 hk.2.2 h hn)
    · have hk' := unionExtT τ hτ t hname hdirs hk.1 hk.2 h hn
      -- both forms of a union extension (members or directives only) begin with the head
      obtain ⟨Rr, hRr⟩ : ∃ Rr, rUnionExt τ sep p t = rExtHead τ false p (kindKw .union) t.name ++ Rr := by
        simp only [rUnionExt]
        split <;> exact ⟨_, rfl⟩
      rw [hRr] at h hk' ⊢
      exact tsItem_of_extHead hτ .union hname h hk'
    · exact tsItem_of_extHead hτ .enum hname h (enumExtT τ hτ t hname hdirs hk h hn)
    · exact tsItem_of_extHead hτ .input hname h (inputExtT τ hτ t hname hdirs hk h hn)

theorem hd_rTsItem (τ : Trivia) (sep : Bool) (p : Nat) (it : TsItem) (hwf : WFTsItem it) :
    Hd (fun d => nameStart d ∨ d = '"') (rTsItem τ sep p it) := by
  cases it with
  | typeDef t =>
    simp only [rTsItem, rTypeDefAny]
    cases t.kind <;> simp only [rScalarDef, rObjDef, rUnionDef, rEnumDef, rInputDef] <;>
      exact (hd_rDefHead τ _ p t.desc _ t.name (kindKw_valid _)).append _
  | schemaDef s => exact hd_rSchemaDef τ sep p s
  | directiveDef d => exact hd_rDirectiveDef τ sep p d
  | schemaExt s => exact hd_rSchemaExt τ sep p s
  | typeExt t =>
    simp only [rTsItem, rTypeExtAny]
    cases t.kind <;> simp only [rScalarExt, rObjExt, rUnionExt, rUnionExtD, rUnionExtM, rEnumExt, rInputExt] <;>
      first
      | exact (hd_rExtHead τ _ p _ t.name).append _
      | (split <;> exact (hd_rExtHead τ _ p _ t.name).append _)

def rTsDoc (τ : Trivia) (doc : List TsItem) : List Char :=
  τ 0 ++ renderItems (rTsItem τ) true false (τ 0).length doc

def wpTsDoc (τ : Trivia) (inp : List Char) (doc : List TsItem) : TsDoc :=
  mapItems (rTsItem τ) true false (wpTsItem τ inp) (τ 0).length doc

theorem tsDoc_parse (τ : Trivia) (hτ : ∀ q, Ws (τ q)) (doc : List TsItem) (hne : doc ≠ []) (hwf : ∀ d ∈ doc, WFTsItem d) :
    ∃ pr, Peg.parse gList (defaultFuel (rTsDoc τ doc)) R.TypeSystemExtensionDocument (rTsDoc τ doc) = .pairs [pr] ∧
      CleanP pr ∧ buildTypeSystemDocument (Ctx.spec (rTsDoc τ doc)) (4 * (rTsDoc τ doc).length + 64) [pr] =
        .ok (wpTsDoc τ (rTsDoc τ doc) doc) :=
  tsDoc_parseG (hτ 0) (rTsItem τ) (wpTsItem τ _) doc hne rfl (fun x hx s q => tsItemT τ hτ x (hwf x hx) s q)
    (fun x hx s q => hd_rTsItem τ s q x (hwf x hx))

/-- `parse_type_system_document` on the rendering of a type-system document returns the document with the true
    positions -/
theorem parseTs_rTsDoc (τ : Trivia) (hτ : ∀ q, Ws (τ q)) (doc : List TsItem) (hne : doc ≠ []) (hwf : ∀ d ∈ doc, WFTsItem d) :
    parseTs (rTsDoc τ doc) = .ok (wpTsDoc τ (rTsDoc τ doc) doc) :=
  parseTs_of_parse (tsDoc_parse τ hτ doc hne hwf)

end NitroVerif.DocParseL
