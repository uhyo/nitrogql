/-
C01/C02 refinement: the hypotheses of the refinement theorem hold on the witness schema `W` (Lemmas/OpTypes.lean:
`Query { a: A, name: String! }`, `A { x: Int, y: String }`, its schema declaration file as the printer writes it) and
the witness document `{ a { x } a { y @skip(if: $v) } }` (two object fields under one response key: the merge is
exercised).
-/
import NitroVerif.Lemmas.OpTypesRefCheck
namespace NitroVerif.OpTypes.Ref.W
open NitroVerif.Gql NitroVerif.Ts NitroVerif.Exec NitroVerif.OpTypes NitroVerif.OpTypes.W NitroVerif.OpTypes.Ref

def r : Refs := (Refs.ofNs "Schema").close W.env.decls
def orig : Name → Option (List Field) := fun tn => SelSem.origFields W.env.decls 8 (r.out tn)

def dInt : TypeDef := { kind := .scalar, name := "Int" }
def dString : TypeDef := { kind := .scalar, name := "String" }
def dBoolean : TypeDef := { kind := .scalar, name := "Boolean" }
def dQuery : TypeDef :=
  { kind := .object, name := "Query", fields := [{ name := "a", ty := .named "A" {} }, { name := "name", ty := .nonNull (.named "String" {}) }] }
def dA : TypeDef :=
  { kind := .object, name := "A", fields := [{ name := "x", ty := .named "Int" {} }, { name := "y", ty := .named "String" {} }] }

theorem typeDefs_eq : W.S.typeDefs = [dInt, dString, dBoolean, dQuery, dA] := rfl

theorem typeDef_cases {n : Name} {t : TypeDef} (h : W.S.typeDef? n = some t) :
    (n = "Int" ∧ t = dInt) ∨ (n = "String" ∧ t = dString) ∨ (n = "Boolean" ∧ t = dBoolean) ∨
    (n = "Query" ∧ t = dQuery) ∨ (n = "A" ∧ t = dA) := by
  have hn := Schema.typeDef?_name h
  have hm := Schema.typeDef?_mem h
  rw [typeDefs_eq] at hm
  simp only [List.mem_cons, List.not_mem_nil, or_false] at hm
  rcases hm with rfl | rfl | rfl | rfl | rfl
  · exact Or.inl ⟨hn.symm, rfl⟩
  · exact Or.inr (Or.inl ⟨hn.symm, rfl⟩)
  · exact Or.inr (Or.inr (Or.inl ⟨hn.symm, rfl⟩))
  · exact Or.inr (Or.inr (Or.inr (Or.inl ⟨hn.symm, rfl⟩)))
  · exact Or.inr (Or.inr (Or.inr (Or.inr ⟨hn.symm, rfl⟩)))

theorem typeNamesNodup : TypeNamesNodup W.S := by
  unfold TypeNamesNodup
  rw [typeDefs_eq]
  decide

theorem out_eq (n : Name) : r.out n = globalise W.env.decls [] [] (.qref ["Schema", "__OperationOutput", n]) := by
  simp only [r, Refs.close, Refs.ofNs]

theorem out_Int : r.out "Int" = .other "abs" ["Schema", "__OperationOutput", "Int"] := by rfl
theorem out_String : r.out "String" = .other "abs" ["Schema", "__OperationOutput", "String"] := by rfl
theorem out_Boolean : r.out "Boolean" = .other "abs" ["Schema", "__OperationOutput", "Boolean"] := by rfl
theorem bodyBoolean : W.env.decls.body? ["Schema", "__OperationOutput", "Boolean"] = some ([], .prim "boolean") := by rfl

theorem scalar_eq (n : Name) (v : J) : W.ctx.scalar n v = memG W.env 16 v (r.out n) := by
  rw [out_eq]; simp only [W.ctx, W.close]

theorem leaf_scalar {n p : String} {path : List String} {d : TypeDef} (hd : W.S.typeDef? n = some d)
    (hk : d.kind = .scalar) (hout : r.out n = .other "abs" path)
    (hbody : W.env.decls.body? path = some ([], .prim p)) (hp : p = "number" ∨ p = "string" ∨ p = "boolean") (v : J) :
    Mem W.env v (r.out n) ↔ leafOk W.ctx n v = true := by
  have hlf : leafOk W.ctx n v = memG W.env 16 v (r.out n) := by
    rw [← scalar_eq]
    unfold leafOk
    rw [show W.ctx.S.typeDef? n = some d from hd]
    simp only [hk]
  rw [hlf]
  refine ⟨fun h => ?_, memG_sound 16 v _⟩
  rw [hout] at h ⊢
  rw [mem_alias_iff hbody, mem_prim_iff (by rcases hp with rfl | rfl | rfl <;> rfl)] at h
  rw [memG_abs_some (n := 15) _ hbody, memG_prim hp 14]
  exact h

theorem leafW (n : Name) (v : J) (hl : isLeafType W.S n = true) : Mem W.env v (r.out n) ↔ leafOk W.ctx n v = true := by
  unfold isLeafType Schema.kindOf? at hl
  cases ht : W.S.typeDef? n with
  | none => simp [ht] at hl
  | some t =>
    rcases typeDef_cases ht with ⟨rfl, rfl⟩ | ⟨rfl, rfl⟩ | ⟨rfl, rfl⟩ | ⟨rfl, rfl⟩ | ⟨rfl, rfl⟩
    · exact leaf_scalar ht rfl out_Int bodyInt (Or.inl rfl) v
    · exact leaf_scalar ht rfl out_String bodyString (Or.inr (Or.inl rfl)) v
    · exact leaf_scalar ht rfl out_Boolean bodyBoolean (Or.inr (Or.inr rfl)) v
    · simp [ht, dQuery] at hl
    · simp [ht, dA] at hl

theorem leafNotNullW (n : Name) : leafOk W.ctx n .null = false := by
  unfold leafOk
  cases ht : W.ctx.S.typeDef? n with
  | none => rfl
  | some t =>
    rcases typeDef_cases ht with ⟨rfl, rfl⟩ | ⟨rfl, rfl⟩ | ⟨rfl, rfl⟩ | ⟨rfl, rfl⟩ | ⟨rfl, rfl⟩
    · show W.ctx.scalar "Int" .null = false; decide +kernel
    · show W.ctx.scalar "String" .null = false; decide +kernel
    · show W.ctx.scalar "Boolean" .null = false; decide +kernel
    · rfl
    · rfl

theorem inhabitedW : ∀ n, W.ctx.S.isComposite n = true → W.ctx.S.possibleTypes n ≠ [] :=
  inhabited_of_check (by decide +kernel)

theorem orig_Query : ∃ ofs, orig "Query" = some ofs ∧ ofs.map (·.1) = ["__typename", "a", "name"] := ⟨_, rfl, rfl⟩
theorem orig_A : ∃ ofs, orig "A" = some ofs ∧ ofs.map (·.1) = ["__typename", "x", "y"] := ⟨_, rfl, rfl⟩

theorem origObjW (tn : Name) (td : TypeDef) (ht : W.ctx.S.typeDef? tn = some td) (hk : td.kind = .object) :
    ∃ ofs, orig tn = some ofs ∧
      ∀ k, ofs.any (·.1 == k) = true ↔ (k = "__typename" ∨ (W.ctx.S.field? tn k).isSome = true) := by
  rcases typeDef_cases ht with ⟨rfl, rfl⟩ | ⟨rfl, rfl⟩ | ⟨rfl, rfl⟩ | ⟨rfl, rfl⟩ | ⟨rfl, rfl⟩
  · cases hk
  · cases hk
  · cases hk
  · obtain ⟨ofs, h1, h2⟩ := orig_Query
    exact ⟨ofs, h1, declares_iff ht h2⟩
  · obtain ⟨ofs, h1, h2⟩ := orig_A
    exact ⟨ofs, h1, declares_iff ht h2⟩

theorem hyp : Hyp W.ctx W.env r orig where
  envOk := envOk_of_hook W.env.decls r ["Schema", "__SelectionSet"] rfl W.isSelSet
    (fun n => (globalise_qref_shape W.env.decls ["Schema", "__OperationOutput", n]).1)
    (fun n => (globalise_qref_shape W.env.decls ["Schema", "__OperationOutput", n]).2)
  origObj := origObjW
  leaf := fun n v hl => leafW n v hl
  leafNotNull := leafNotNullW
  inhabited := inhabitedW

theorem coh_selA : ∀ d, Coh W.ctx d (Sb1 W.selA) "Query" :=
  coh_of_cohB W.ctx 4 4 W.selA "Query" (by decide +kernel) (by decide +kernel)

theorem fuelOk_selA : FuelOk W.ctx 4 W.selA := by
  constructor
  · decide
  · decide

end NitroVerif.OpTypes.Ref.W
