import NitroVerif.Lemmas.GqlString
/-!
C16: the block form of `print_string` against the GraphQL block-string semantics.
Part A: the printed text lexes back to ONE block-string token whose raw value is the string.
Part B: `BlockStringValue` is the identity on strings without CR whose first and last lines are not blank and whose
continuation lines have no common indentation (`blockFaithful`); a CR would come back as LF.
-/
namespace NitroVerif.GqlPrint
open NitroVerif.GqlString

/-! ### equations of `blockRaw` -/

def tripleQ : List Char → Bool
  | '"' :: '"' :: '"' :: _ => true
  | _ => false

def doubleQ : List Char → Bool
  | '"' :: '"' :: _ => true
  | _ => false

theorem blockRaw_close (r : List Char) : blockRaw ('"' :: '"' :: '"' :: r) = some ([], r) := by
  simp [blockRaw]

theorem blockRaw_escape (r : List Char) :
    blockRaw ('\\' :: '"' :: '"' :: '"' :: r) = (blockRaw r).map fun x => ('"' :: '"' :: '"' :: x.1, x.2) := by
  simp [blockRaw]

theorem blockRaw_cons (c : Char) (r : List Char) (hs : sourceChar c = true)
    (hq : c = '"' → doubleQ r = false) (hb : c = '\\' → tripleQ r = false) :
    blockRaw (c :: r) = (blockRaw r).map fun x => (c :: x.1, x.2) := by
  conv => lhs; unfold blockRaw
  split
  · rename_i heq
    cases heq
    cases hq rfl
  · rename_i heq
    cases heq
    cases hb rfl
  · rename_i heq
    cases heq
    rw [if_pos hs]
  · rename_i heq
    cases heq

theorem blockRaw_plain (c : Char) (r : List Char) (h1 : c ≠ '"') (h2 : c ≠ '\\') (hs : sourceChar c = true) :
    blockRaw (c :: r) = (blockRaw r).map fun x => (c :: x.1, x.2) :=
  blockRaw_cons c r hs (fun e => absurd e h1) (fun e => absurd e h2)

theorem blockRaw_backslash (r : List Char) (h : tripleQ r = false) :
    blockRaw ('\\' :: r) = (blockRaw r).map fun x => ('\\' :: x.1, x.2) :=
  blockRaw_cons '\\' r (by decide) (fun e => absurd e (by decide)) (fun _ => h)

theorem blockRaw_quote (r : List Char) (h : doubleQ r = false) :
    blockRaw ('"' :: r) = (blockRaw r).map fun x => ('"' :: x.1, x.2) :=
  blockRaw_cons '"' r (by decide) (fun _ => h) (fun e => absurd e (by decide))

/-! ### Part A -/

def close3 : List Char := ['"', '"', '"']

/-- the pending quotes as "last character so far" -/
def pending (n : Nat) : Option Char := if n = 0 then none else some '"'

/-- the text (pending quotes included) does not end in `"` or `\` -/
def endOK (n : Nat) (s : List Char) : Prop :=
  lastOf (pending n) s ≠ some '"' ∧ lastOf (pending n) s ≠ some '\\'

theorem useBlock_canBlock {s : List Char} (h : useBlock s = true) : canBlock s = true :=
  (of_decide_eq_true h).2

theorem canBlock_spec {s : List Char} (h : canBlock s = true) : endOK 0 s ∧ ∀ c ∈ s, sourceChar c = true := by
  obtain ⟨hq, hb, hall⟩ := of_decide_eq_true h
  refine ⟨⟨hq, hb⟩, fun c hc => ?_⟩
  have hc := List.all_eq_true.mp hall c hc
  simp only [Bool.decide_or, Bool.or_eq_true, decide_eq_true_eq] at hc
  rcases hc with rfl | rfl | hc
  · decide
  · decide
  · simp [isControl] at hc
    simp [sourceChar]; omega

theorem endOK_cons_of (n : Nat) (c : Char) (cs : List Char) (h : endOK n (c :: cs)) : endOK 0 cs := by
  cases cs with
  | nil => exact ⟨nofun, nofun⟩
  | cons e es => exact h

theorem endOK_last_single (n : Nat) (c : Char) (h : endOK n [c]) : c ≠ '"' ∧ c ≠ '\\' :=
  ⟨fun e => h.1 (e ▸ rfl), fun e => h.2 (e ▸ rfl)⟩

theorem endOK_nil (n : Nat) (h : endOK n []) : n = 0 := by
  cases n with
  | zero => rfl
  | succ n => exact absurd rfl h.1

theorem endOK_shift (n : Nat) (cs : List Char) (h : endOK n ('"' :: cs)) : endOK (n + 1) cs := h

theorem endOK_quote_ne_nil {n : Nat} {cs : List Char} (h : endOK n ('"' :: cs)) : cs ≠ [] := by
  rintro rfl
  exact h.1 rfl

theorem doubleQ_cons_ne (c : Char) (hc : c ≠ '"') (X : List Char) : doubleQ (c :: X) = false := by
  unfold doubleQ
  split
  · rename_i heq
    exact absurd (List.cons.inj heq).1 hc
  · rfl

theorem doubleQ_q_ne (c : Char) (hc : c ≠ '"') (X : List Char) : doubleQ ('"' :: c :: X) = false := by
  unfold doubleQ
  split
  · rename_i heq
    exact absurd (List.cons.inj (List.cons.inj heq).2).1 hc
  · rfl

theorem le_two {n : Nat} (h : n ≤ 2) : n = 0 ∨ n = 1 ∨ n = 2 := by omega

theorem tripleQ_quotes (n : Nat) (hn : n ≤ 2) (c : Char) (hc : c ≠ '"') (X : List Char) :
    tripleQ (List.replicate n '"' ++ c :: X) = false := by
  unfold tripleQ
  split
  · rename_i heq
    obtain rfl | rfl | rfl := le_two hn
    · exact absurd (List.cons.inj heq).1 hc
    · exact absurd (List.cons.inj (List.cons.inj heq).2).1 hc
    · exact absurd (List.cons.inj (List.cons.inj (List.cons.inj heq).2).2).1 hc
  · rfl

theorem tripleQ_escTriple (s : List Char) : ∀ (n : Nat), n ≤ 2 → s ≠ [] → endOK n s →
    tripleQ (escTriple n s ++ close3) = false := by
  induction s with
  | nil => intro n _ h; exact absurd rfl h
  | cons c cs ih =>
    intro n hn _ h
    rw [escTriple]
    by_cases hc : c = '"'
    · subst hc
      rw [if_neg (not_not_intro rfl)]
      rcases Nat.lt_or_eq_of_le hn with hlt | rfl
      · rw [if_neg (Nat.ne_of_lt (Nat.succ_lt_succ hlt))]
        exact ih (n + 1) hlt (endOK_quote_ne_nil h) (endOK_shift n cs h)
      · rfl
    · rw [if_pos hc, List.append_assoc]
      exact tripleQ_quotes n hn c hc _

theorem blockRaw_quotes (n : Nat) (hn : n ≤ 2) (c : Char) (hc : c ≠ '"') (X : List Char) :
    blockRaw (List.replicate n '"' ++ c :: X) =
      (blockRaw (c :: X)).map fun x => (List.replicate n '"' ++ x.1, x.2) := by
  obtain rfl | rfl | rfl := le_two hn
  · exact Option.map_id'.symm
  · show blockRaw ('"' :: c :: X) = _
    rw [blockRaw_quote _ (doubleQ_cons_ne c hc X)]
    rfl
  · show blockRaw ('"' :: '"' :: c :: X) = _
    rw [blockRaw_quote _ (doubleQ_q_ne c hc X), blockRaw_quote _ (doubleQ_cons_ne c hc X), Option.map_map]
    rfl

theorem blockRaw_escTriple (s : List Char) : ∀ (n : Nat), n ≤ 2 → endOK n s → (∀ c ∈ s, sourceChar c = true) →
    blockRaw (escTriple n s ++ close3) = some (List.replicate n '"' ++ s, []) := by
  induction s with
  | nil =>
    intro n _ h _
    rw [endOK_nil n h]
    rfl
  | cons c cs ih =>
    intro n hn h hsrc
    have hsrc' : ∀ x ∈ cs, sourceChar x = true := fun x hx => hsrc x (List.mem_cons_of_mem _ hx)
    have hrec := ih 0 (Nat.zero_le 2) (endOK_cons_of n c cs h) hsrc'
    rw [escTriple]
    by_cases hc : c = '"'
    · subst hc
      rw [if_neg (not_not_intro rfl)]
      rcases Nat.lt_or_eq_of_le hn with hlt | rfl
      · rw [if_neg (Nat.ne_of_lt (Nat.succ_lt_succ hlt)), ih (n + 1) hlt (endOK_shift n cs h) hsrc',
          List.replicate_succ', List.append_assoc]
        rfl
      · rw [if_pos rfl, List.append_assoc]
        show blockRaw ('\\' :: '"' :: '"' :: '"' :: (escTriple 0 cs ++ close3)) = _
        rw [blockRaw_escape, hrec]
        rfl
    · -- after a backslash the rest must not start with `"""`: it is printed text, or empty (excluded by `endOK`)
      have hb : c = '\\' → tripleQ (escTriple 0 cs ++ close3) = false := by
        intro e
        refine tripleQ_escTriple cs 0 (Nat.zero_le 2) ?_ (endOK_cons_of n c cs h)
        rintro rfl
        exact (endOK_last_single n c h).2 e
      rw [if_pos hc, List.append_assoc, List.cons_append, blockRaw_quotes n hn c hc,
        blockRaw_cons c _ (hsrc c (List.mem_cons_self ..)) (fun e => absurd e hc) hb, hrec]
      rfl

/-! ### Part B -/

/-- first and last line not blank, no common indentation of the continuation lines -/
def blockFaithful (s : List Char) : Bool :=
  match splitLines s with
  | [] => false
  | first :: others =>
    !isBlank first &&
    (match (first :: others).reverse with
     | last :: _ => !isBlank last
     | [] => false) &&
    (match commonIndent others with
     | none => true
     | some n => n == 0)

theorem splitLinesAux_ne_nil (s : List Char) : ∀ cr cur, splitLinesAux cr s cur ≠ [] := by
  induction s with
  | nil => intro cr cur; exact List.cons_ne_nil _ _
  | cons c cs ih =>
    intro cr cur
    rw [splitLinesAux]
    by_cases h1 : c = '\n'
    · rw [if_pos h1]
      cases cr
      · exact List.cons_ne_nil _ _
      · exact ih _ _
    · rw [if_neg h1]
      by_cases h2 : c = '\r'
      · rw [if_pos h2]
        exact List.cons_ne_nil _ _
      · rw [if_neg h2]
        exact ih _ _

theorem joinLines_cons (l : List Char) (rest : List (List Char)) (h : rest ≠ []) :
    joinLines (l :: rest) = l ++ '\n' :: joinLines rest := by
  cases rest with
  | nil => exact absurd rfl h
  | cons r rs => rfl

theorem joinLines_splitLinesAux (s : List Char) (h : ∀ c ∈ s, c ≠ '\r') : ∀ cur,
    joinLines (splitLinesAux false s cur) = cur.reverse ++ s := by
  induction s with
  | nil => intro cur; exact (List.append_nil _).symm
  | cons c cs ih =>
    intro cur
    have ih := ih fun x hx => h x (List.mem_cons_of_mem _ hx)
    rw [splitLinesAux]
    by_cases h1 : c = '\n'
    · rw [if_pos h1, if_neg Bool.false_ne_true, joinLines_cons _ _ (splitLinesAux_ne_nil cs false []), ih [], h1]
      rfl
    · rw [if_neg h1, if_neg (h c (List.mem_cons_self ..)), ih (c :: cur), List.reverse_cons, List.append_assoc]
      rfl

theorem dropLeadingBlank_keep (l : List Char) (ls : List (List Char)) (h : isBlank l = false) :
    dropLeadingBlank (l :: ls) = l :: ls := by
  simp [dropLeadingBlank, h]

theorem blockStringValue_faithful (s : List Char) (hcr : ∀ c ∈ s, c ≠ '\r') (h : blockFaithful s = true) :
    blockStringValue s = s := by
  have hjoin := joinLines_splitLinesAux s hcr []
  unfold blockFaithful at h
  unfold blockStringValue
  unfold splitLines at h hjoin ⊢
  cases hsp : splitLinesAux false s [] with
  | nil => simp [hsp] at h
  | cons first others =>
    rw [hsp] at h hjoin
    simp only [Bool.and_eq_true, Bool.not_eq_true'] at h
    obtain ⟨⟨hfirst, hlast⟩, hind⟩ := h
    have hothers : stripIndent (commonIndent others) others = others := by
      cases hci : commonIndent others with
      | none => rfl
      | some n =>
        rw [hci] at hind
        have : n = 0 := by simpa using hind
        subst this
        simp [stripIndent]
    simp only [hothers]
    rw [dropLeadingBlank_keep first others hfirst]
    unfold dropTrailingBlank
    cases hrev : (first :: others).reverse with
    | nil => simp at hrev
    | cons last rest =>
      rw [hrev] at hlast
      have hl : isBlank last = false := by simpa using hlast
      rw [dropLeadingBlank_keep last rest hl, ← hrev, List.reverse_reverse]
      simpa using hjoin

end NitroVerif.GqlPrint
