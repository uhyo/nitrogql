/-
C18 composed (helper lemmas): every position `check_type_system_document` reports is a position of a node of the document
it was given (`checkSchema_Q`, `checkSchema_positions`) — for an arbitrary predicate `Q` that holds of all positions
of the document.
-/
import NitroVerif.Lemmas.CliComposedPosWalk
import NitroVerif.Lemmas.CheckCommonBridge
namespace NitroVerif.CliComposed.Ts
open NitroVerif NitroVerif.Gql NitroVerif.CheckTs NitroVerif.CliComposed

theorem typePos_mem (t : GType) : CheckTs.typePos t ∈ t.positions := by
  induction t with
  | named n p => simp [CheckTs.typePos, GType.positions]
  | list t p _ => simp [CheckTs.typePos, GType.positions]
  | nonNull t ih => simpa [CheckTs.typePos, GType.positions] using ih

section parts
variable {Q : Pos → Prop}

theorem inputValue_parts {v : InputValueDef} (h : PQ Q v.positions) :
    Q v.pos ∧ PQ Q v.ty.positions ∧ PQ Q (optValuePositions v.default) ∧ PQ Q (dirsPositions v.dirs) := by
  unfold InputValueDef.positions at h
  have h1 := pq_cons.mp h
  have h2 := pq_append.mp h1.2
  exact ⟨h1.1, (pq_append.mp h2.1).1, (pq_append.mp h2.1).2, h2.2⟩

theorem field_parts {f : FieldDef} (h : PQ Q f.positions) :
    Q f.pos ∧ (∀ a ∈ f.args, PQ Q a.positions) ∧ PQ Q f.ty.positions ∧ PQ Q (dirsPositions f.dirs) := by
  unfold FieldDef.positions at h
  have h1 := pq_cons.mp h
  have h2 := pq_append.mp h1.2
  exact ⟨h1.1, pq_flatMap.mp (pq_append.mp h2.1).1, (pq_append.mp h2.1).2, h2.2⟩

theorem enumValue_parts {v : EnumValueDef} (h : PQ Q v.positions) : Q v.pos ∧ PQ Q (dirsPositions v.dirs) := by
  unfold EnumValueDef.positions at h
  exact pq_cons.mp h

theorem typeDef_parts {t : TypeDef} (h : PQ Q t.positions) :
    Q t.namePos ∧ Q t.pos ∧ (∀ i ∈ t.implements, Q i.2) ∧ PQ Q (dirsPositions t.dirs) ∧
    (∀ f ∈ t.fields, PQ Q f.positions) ∧ (∀ m ∈ t.members, Q m.2) ∧ (∀ v ∈ t.values, PQ Q v.positions) ∧
    (∀ v ∈ t.inputs, PQ Q v.positions) := by
  unfold TypeDef.positions at h
  have h1 := pq_cons.mp h
  have h2 := pq_cons.mp h1.2
  have a5 := pq_append.mp h2.2
  have a4 := pq_append.mp a5.1
  have a3 := pq_append.mp a4.1
  have a2 := pq_append.mp a3.1
  have a1 := pq_append.mp a2.1
  exact ⟨h1.1, h2.1, pq_map.mp a1.1, a1.2, pq_flatMap.mp a2.2, pq_map.mp a3.2, pq_flatMap.mp a4.2, pq_flatMap.mp a5.2⟩

theorem directiveDef_parts {d : DirectiveDef} (h : PQ Q d.positions) :
    Q d.namePos ∧ Q d.pos ∧ (∀ a ∈ d.args, PQ Q a.positions) := by
  unfold DirectiveDef.positions at h
  have h1 := pq_cons.mp h
  have h2 := pq_cons.mp h1.2
  exact ⟨h1.1, h2.1, pq_flatMap.mp h2.2⟩

theorem loopSeen_Q {α ε : Type} (name : α → Name) (body : Bool → α → List (ε × Pos)) (seen : List Name) (xs : List α)
    (h : ∀ b, ∀ x ∈ xs, AllQ Q (body b x)) : AllQ Q (loopSeen name body seen xs) := by
  induction xs generalizing seen with
  | nil => exact allQ_nil
  | cons x xs ih =>
    simp only [loopSeen]
    rw [allQ_append]
    exact ⟨h _ x (by simp), ih _ (fun b y hy => h b y (List.mem_cons_of_mem _ hy))⟩

end parts

section checker
variable {T : TsDoc} {Q : Pos → Prop} (hT : PQ Q (TsDoc.positions T))

theorem lastTypeDef_PQ (hT : PQ Q (TsDoc.positions T)) {n : Name} {td : TypeDef} (h : lastTypeDef? T n = some td) :
    PQ Q td.positions := by
  unfold lastTypeDef? at h
  have hm : td ∈ Schema.typeDefs ⟨T⟩ := List.mem_reverse.mp (List.mem_of_find?_eq_some h)
  unfold Schema.typeDefs at hm
  obtain ⟨it, hit, he⟩ := List.mem_filterMap.mp hm
  have := (pq_flatMap.mp hT) it hit
  cases it <;> simp at he
  subst he
  exact this

theorem lastDirectiveDef_PQ (hT : PQ Q (TsDoc.positions T)) {n : Name} {dd : DirectiveDef}
    (h : lastDirectiveDef? T n = some dd) : PQ Q dd.positions := by
  unfold lastDirectiveDef? at h
  have hm : dd ∈ Schema.directiveDefs ⟨T⟩ := List.mem_reverse.mp (List.mem_of_find?_eq_some h)
  unfold Schema.directiveDefs at hm
  obtain ⟨it, hit, he⟩ := List.mem_filterMap.mp hm
  have := (pq_flatMap.mp hT) it hit
  cases it <;> simp at he
  subst he
  exact this

theorem allQ_map_tsErr {ds : List CheckCommon.Diag} (h : AllQ Q ds) : AllQ Q (ds.map CheckCommon.tsErr) := by
  intro d hd
  obtain ⟨x, hx, rfl⟩ := List.mem_map.mp hd
  exact h x hx

include hT

/-! The schema checker reaches `check_arguments` and `check_value` only through `check_directives`, which is that of the
shared model (`Lemmas/CheckCommonBridge.lean`); its positions are in `CliComposedPosWalk.lean`. -/

theorem checkDirectives_Q (loc : String) (ds : List Directive) (h : PQ Q (dirsPositions ds)) :
    AllQ Q (CheckTs.checkDirectives ⟨T⟩ loc ds) := by
  rw [CheckCommon.checkDirectives_bridge]
  exact allQ_map_tsErr (CliComposed.checkDirectives_Q (schemaQ_of_positions hT) none ds loc h)

theorem checkValidImpl_Q (namePos : Pos) (fields : List FieldDef) (implements : List (Name × Pos)) (iface : TypeDef)
    (hn : Q namePos) (hf : ∀ f ∈ fields, PQ Q f.positions) :
    AllQ Q (checkValidImpl ⟨T⟩ namePos fields implements iface) := by
  unfold checkValidImpl
  rw [allQ_append]
  constructor
  · intro x hx
    obtain ⟨_, _, rfl⟩ := List.mem_map.mp hx
    exact hn
  · apply allQ_flatMap
    intro impF _
    cases hfd : fields.find? (·.name == impF.name) with
    | none => exact allQ_single.mpr hn
    | some f =>
      simp only
      obtain ⟨hfpos, hfargs, _, _⟩ := field_parts (hf f (List.mem_of_find?_eq_some hfd))
      rw [allQ_append, allQ_append]
      refine ⟨⟨?_, ?_⟩, ?_⟩
      · apply allQ_flatMap
        intro ia _
        cases hfa : f.args.find? (·.name == ia.name) with
        | none => exact allQ_single.mpr hfpos
        | some fa =>
          simp only
          exact allQ_ite_single ((inputValue_parts (hfargs fa (List.mem_of_find?_eq_some hfa))).1)
      · intro x hx
        obtain ⟨fa, hfa, rfl⟩ := List.mem_map.mp hx
        exact (inputValue_parts (hfargs fa (List.mem_filter.mp hfa).1)).1
      · exact allQ_ite_single hfpos

theorem dirSuccessors_Q (d : DirectiveDef) : ∀ x ∈ dirSuccessors T d, Q x.pos := by
  intro x hx
  unfold dirSuccessors at hx
  obtain ⟨dir, _, hl⟩ := List.mem_filterMap.mp hx
  exact (directiveDef_parts (lastDirectiveDef_PQ hT hl)).2.1

theorem recRound_Q (start : Name) (seen : List Name) (cur : List DirectiveDef) (hc : ∀ d ∈ cur, Q d.pos) :
    AllQ Q (recRound T start seen cur).2.1 ∧ ∀ d ∈ (recRound T start seen cur).2.2, Q d.pos := by
  induction cur generalizing seen with
  | nil => simp only [recRound]; exact ⟨allQ_nil, fun d hd => by cases hd⟩
  | cons d ds ih =>
    have hd : Q d.pos := hc d (by simp)
    have hds : ∀ x ∈ ds, Q x.pos := fun x hx => hc x (List.mem_cons_of_mem _ hx)
    simp only [recRound]
    split
    · obtain ⟨h1, h2⟩ := ih seen hds
      refine ⟨?_, h2⟩
      simp only
      rw [allQ_append]
      refine ⟨?_, h1⟩
      exact allQ_ite_single hd
    · obtain ⟨h1, h2⟩ := ih (d.name :: seen) hds
      refine ⟨h1, ?_⟩
      intro x hx
      simp only at hx
      rcases List.mem_append.mp hx with hx | hx
      · exact dirSuccessors_Q hT d x hx
      · exact h2 x hx

theorem recLoop_Q (start : Name) (fuel : Nat) (seen : List Name) (cur : List DirectiveDef) (hc : ∀ d ∈ cur, Q d.pos) :
    AllQ Q (recLoop T start fuel seen cur) := by
  induction fuel generalizing seen cur with
  | zero => simp only [recLoop]; exact allQ_nil
  | succ fuel ih =>
    obtain ⟨h1, h2⟩ := recRound_Q hT start seen cur hc
    simp only [recLoop]
    split
    · exact h1
    · rw [allQ_append]
      exact ⟨h1, ih _ _ h2⟩

theorem checkDirectiveRecursion_Q (d : DirectiveDef) (hd : Q d.pos) : AllQ Q (checkDirectiveRecursion T d) := by
  unfold checkDirectiveRecursion
  exact recLoop_Q hT _ _ _ _ (fun x hx => by simp at hx; subst hx; exact hd)

theorem checkOutputFieldType_Q (ty : GType) (h : PQ Q ty.positions) : AllQ Q (checkOutputFieldType ⟨T⟩ ty) := by
  have := h _ (typePos_mem ty)
  unfold checkOutputFieldType
  cases Schema.kindOf? ⟨T⟩ ty.unwrapped with
  | none => exact allQ_single.mpr this
  | some k =>
    simp only
    exact allQ_ite_single' this

theorem checkInputValueType_Q (ty : GType) (h : PQ Q ty.positions) : AllQ Q (checkInputValueType ⟨T⟩ ty) := by
  have := h _ (typePos_mem ty)
  unfold checkInputValueType
  cases Schema.kindOf? ⟨T⟩ ty.unwrapped with
  | none => exact allQ_single.mpr this
  | some k =>
    simp only
    exact allQ_ite_single' this

theorem checkArgsDef_Q (args : List InputValueDef) (h : ∀ a ∈ args, PQ Q a.positions) :
    AllQ Q (checkArgsDef ⟨T⟩ args) := by
  unfold checkArgsDef
  apply loopSeen_Q
  intro b v hv
  obtain ⟨hpos, hty, _, hdirs⟩ := inputValue_parts (h v hv)
  rw [allQ_append, allQ_append, allQ_append]
  refine ⟨⟨⟨?_, ?_⟩, checkInputValueType_Q hT v.ty hty⟩, checkDirectives_Q hT _ v.dirs hdirs⟩
  · exact allQ_ite_single hpos
  · exact allQ_ite_single hpos

theorem checkFields_Q (fields : List FieldDef) (h : ∀ f ∈ fields, PQ Q f.positions) :
    AllQ Q (checkFields ⟨T⟩ fields) := by
  unfold checkFields
  apply loopSeen_Q
  intro b f hf
  obtain ⟨hpos, hargs, hty, hdirs⟩ := field_parts (h f hf)
  rw [allQ_append, allQ_append, allQ_append, allQ_append]
  refine ⟨⟨⟨⟨?_, ?_⟩, checkDirectives_Q hT _ f.dirs hdirs⟩, checkOutputFieldType_Q hT f.ty hty⟩,
    checkArgsDef_Q hT f.args hargs⟩
  · exact allQ_ite_single hpos
  · exact allQ_ite_single hpos

theorem checkObjectImplements_Q (t : TypeDef) (ht : PQ Q t.positions) : AllQ Q (checkObjectImplements T ⟨T⟩ t) := by
  obtain ⟨hnp, _, himpl, _, hfields, _⟩ := typeDef_parts ht
  unfold checkObjectImplements
  apply allQ_flatMap
  intro ip hip
  obtain ⟨n, p⟩ := ip
  have hp : Q p := himpl (n, p) hip
  simp only
  cases lastTypeDef? T n with
  | none => exact allQ_single.mpr hp
  | some idef =>
    simp only
    apply allQ_ite
    · intro _; exact allQ_single.mpr hp
    · intro _; exact checkValidImpl_Q hT _ _ _ _ hnp hfields

theorem checkInterfaceImplements_Q (t : TypeDef) (ht : PQ Q t.positions) :
    AllQ Q (checkInterfaceImplements T ⟨T⟩ t) := by
  obtain ⟨hnp, _, himpl, _, hfields, _⟩ := typeDef_parts ht
  unfold checkInterfaceImplements
  apply allQ_flatMap
  intro ip hip
  obtain ⟨n, p⟩ := ip
  have hp : Q p := himpl (n, p) hip
  simp only
  apply allQ_ite
  · intro _; exact allQ_single.mpr hp
  · intro _
    cases lastTypeDef? T n with
    | none => exact allQ_single.mpr hp
    | some idef =>
      simp only
      apply allQ_ite
      · intro _; exact allQ_single.mpr hp
      · intro _; exact checkValidImpl_Q hT _ _ _ _ hnp hfields

theorem checkUnionMembers_Q (members : List (Name × Pos)) (h : ∀ m ∈ members, Q m.2) :
    AllQ Q (checkUnionMembers T members) := by
  unfold checkUnionMembers
  apply loopSeen_Q
  intro b m hm
  have hq := h m hm
  rw [allQ_append]
  constructor
  · exact allQ_ite_single hq
  · cases lastTypeDef? T m.1 with
    | none => exact allQ_single.mpr hq
    | some d =>
      simp only
      exact allQ_ite_single hq

theorem checkEnumValues_Q (values : List EnumValueDef) (h : ∀ v ∈ values, PQ Q v.positions) :
    AllQ Q (checkEnumValues ⟨T⟩ values) := by
  unfold checkEnumValues
  apply loopSeen_Q
  intro b v hv
  obtain ⟨hpos, hdirs⟩ := enumValue_parts (h v hv)
  rw [allQ_append, allQ_append]
  refine ⟨⟨?_, ?_⟩, checkDirectives_Q hT _ v.dirs hdirs⟩
  · exact allQ_ite_single hpos
  · exact allQ_ite_single hpos

theorem checkInputFields_Q (inputs : List InputValueDef) (h : ∀ v ∈ inputs, PQ Q v.positions) :
    AllQ Q (checkInputFields ⟨T⟩ inputs) := by
  unfold checkInputFields
  apply loopSeen_Q
  intro b f hf
  obtain ⟨hpos, hty, _, hdirs⟩ := inputValue_parts (h f hf)
  rw [allQ_append, allQ_append, allQ_append]
  refine ⟨⟨⟨?_, ?_⟩, checkDirectives_Q hT _ f.dirs hdirs⟩, checkInputValueType_Q hT f.ty hty⟩
  · exact allQ_ite_single hpos
  · exact allQ_ite_single hpos

theorem checkTypeDef_Q (t : TypeDef) (ht : PQ Q t.positions) : AllQ Q (checkTypeDef T ⟨T⟩ t) := by
  obtain ⟨hnp, _, _, hdirs, hfields, hmembers, hvalues, hinputs⟩ := typeDef_parts ht
  unfold checkTypeDef
  rw [allQ_append, allQ_append]
  refine ⟨⟨?_, checkDirectives_Q hT _ t.dirs hdirs⟩, ?_⟩
  · exact allQ_ite_single hnp
  · cases t.kind <;> simp only
    · exact allQ_nil
    · rw [allQ_append]; exact ⟨checkFields_Q hT _ hfields, checkObjectImplements_Q hT t ht⟩
    · rw [allQ_append]; exact ⟨checkFields_Q hT _ hfields, checkInterfaceImplements_Q hT t ht⟩
    · exact checkUnionMembers_Q hT _ hmembers
    · exact checkEnumValues_Q hT _ hvalues
    · exact checkInputFields_Q hT _ hinputs

theorem checkDirectiveDef_Q (d : DirectiveDef) (hd : PQ Q d.positions) : AllQ Q (checkDirectiveDef T ⟨T⟩ d) := by
  obtain ⟨hnp, hpos, hargs⟩ := directiveDef_parts hd
  unfold checkDirectiveDef
  rw [allQ_append, allQ_append]
  refine ⟨⟨checkDirectiveRecursion_Q hT d hpos, ?_⟩, checkArgsDef_Q hT d.args hargs⟩
  exact allQ_ite_single hnp

theorem checkItem_Q (it : TsItem) (h : PQ Q it.positions) : AllQ Q (checkItem T ⟨T⟩ it) := by
  cases it with
  | schemaDef s =>
    simp only [checkItem, checkSchemaDef]
    simp only [TsItem.positions, SchemaDef.positions] at h
    exact checkDirectives_Q hT _ s.dirs (pq_append.mp (pq_cons.mp h).2).1
  | typeDef t => exact checkTypeDef_Q hT t h
  | directiveDef d => exact checkDirectiveDef_Q hT d h
  | schemaExt _ => exact allQ_nil
  | typeExt _ => exact allQ_nil

theorem checkSchemaItems_Q : AllQ Q (checkSchemaItems T) := by
  unfold checkSchemaItems
  exact allQ_flatMap fun it hit => checkItem_Q hT it ((pq_flatMap.mp hT) it hit)

end checker

section unique
variable {Q : Pos → Prop}

theorem uniqueStep_Q (isType : Bool) (seen : List (Name × Pos)) (name : Name) (pos : Pos)
    (hs : ∀ x ∈ seen, Q x.2) (hp : Q pos) : AllQ Q (uniqueStep isType seen name pos) := by
  unfold uniqueStep
  cases hf : seen.find? (·.1 == name) with
  | none => exact allQ_nil
  | some other =>
    simp only
    have ho : Q other.2 := hs other (List.mem_of_find?_eq_some hf)
    unfold uniqueReport
    cases other.2.builtin <;> cases pos.builtin <;> simp only
    · exact allQ_single.mpr hp
    · exact allQ_ite_single ho
    · exact allQ_ite_single hp
    · exact allQ_nil

theorem checkUniqueNamesAux_Q (T : TsDoc) (hT : PQ Q (TsDoc.positions T)) :
    ∀ (st sd : List (Name × Pos)), (∀ x ∈ st, Q x.2) → (∀ x ∈ sd, Q x.2) → AllQ Q (checkUniqueNamesAux st sd T) := by
  induction T with
  | nil => intro _ _ _ _; simp only [checkUniqueNamesAux]; exact allQ_nil
  | cons it r ih =>
    intro st sd hst hsd
    unfold TsDoc.positions at hT
    rw [List.flatMap_cons] at hT
    have hit := (pq_append.mp hT).1
    have hr : PQ Q (TsDoc.positions r) := (pq_append.mp hT).2
    cases it with
    | typeDef t =>
      have hnp : Q t.namePos := hit _ (by simp [TsItem.positions, TypeDef.positions])
      simp only [checkUniqueNamesAux]
      rw [allQ_append]
      refine ⟨uniqueStep_Q true st t.name t.namePos hst hnp, ih hr _ _ ?_ hsd⟩
      intro x hx
      rcases List.mem_append.mp hx with hx | hx
      · exact hst x hx
      · simp at hx; subst hx; exact hnp
    | directiveDef d =>
      have hnp : Q d.namePos := hit _ (by simp [TsItem.positions, DirectiveDef.positions])
      simp only [checkUniqueNamesAux]
      rw [allQ_append]
      refine ⟨uniqueStep_Q false sd d.name d.namePos hsd hnp, ih hr _ _ hst ?_⟩
      intro x hx
      rcases List.mem_append.mp hx with hx | hx
      · exact hsd x hx
      · simp at hx; subst hx; exact hnp
    | schemaDef s => simp only [checkUniqueNamesAux]; exact ih hr _ _ hst hsd
    | schemaExt s => simp only [checkUniqueNamesAux]; exact ih hr _ _ hst hsd
    | typeExt t => simp only [checkUniqueNamesAux]; exact ih hr _ _ hst hsd

theorem checkUniqueNames_Q (T : TsDoc) (hT : PQ Q (TsDoc.positions T)) : AllQ Q (checkUniqueNames T) :=
  checkUniqueNamesAux_Q T hT [] [] (fun _ h => by cases h) (fun _ h => by cases h)

theorem checkSchema_Q (T : TsDoc) (hT : PQ Q (TsDoc.positions T)) : AllQ Q (checkSchema T) := by
  unfold checkSchema
  rw [allQ_append]
  exact ⟨checkUniqueNames_Q T hT, checkSchemaItems_Q hT⟩

end unique

theorem checkSchema_positions (T : TsDoc) : ∀ d ∈ checkSchema T, d.2 ∈ TsDoc.positions T :=
  checkSchema_Q (Q := fun p => p ∈ TsDoc.positions T) T (fun _ hp => hp)

end NitroVerif.CliComposed.Ts
