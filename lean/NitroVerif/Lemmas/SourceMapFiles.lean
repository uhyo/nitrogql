import NitroVerif.Model.SourceMap
/-!
Lemma for C06 about `FileMap` (cli/src/generate.rs): the loop that hands out `sources` indices (`fileIndicesOpGo`) and the loop
that lists the kept files (`sourceFilesGo`), read together — the entries written so far are as many as the next index.
-/
namespace NitroVerif.SourceMap

/-- a file is listed in `sources` iff it is a schema file or one of the document's files -/
def keptFile (nSchema : Nat) (used : List Nat) (f : Nat) : Prop := f < nSchema ∨ used.contains f = true

theorem getElem?_cons_shift (m : Nat) (ms : List Nat) {f idx : Nat} (h : idx < f) :
    (m :: ms)[f - idx]? = ms[f - (idx + 1)]? := by
  rw [show f - idx = (f - (idx + 1)) + 1 by omega, List.getElem?_cons_succ]

/-- Invariant of the two loops read together: `pre` = the `sources` entries written so far, as many as the next index
    `file_indices` hands out (`idx` while in the schema files, `next` afterwards). The side conditions: while in the schema
    files the counter `next` still stands at `nSchema`; it never runs ahead of the files seen; no index handed out reaches
    the `usize::MAX` marker. Then every kept file `f` still to come gets an index that is not the marker and at which
    `sources` lists `f`. -/
theorem fileIndicesOpGo_spec (nSchema : Nat) (used : List Nat) (r : Nat) :
    ∀ (idx next : Nat) (pre : List Nat),
    pre.length = (if idx < nSchema then idx else next) →
    (idx < nSchema → next = nSchema) → next ≤ idx + nSchema → idx + nSchema + r < usizeMax →
    ∀ f, idx ≤ f → f < idx + r → keptFile nSchema used f →
    ∃ i, (fileIndicesOpGo nSchema used idx next r)[f - idx]? = some i ∧ i ≠ usizeMax ∧
      (pre ++ sourceFilesGo idx (fileIndicesOpGo nSchema used idx next r))[i]? = some f := by
  induction r with
  | zero => intro idx next pre _ _ _ _ f h1 h2; omega
  | succ r ih =>
    intro idx next pre hpre hns hle hbound f h1 h2 hk
    -- the entry `m` written for `idx` is not the marker: it is the length of `pre`, and `idx` is pushed on `sources`
    have here : ∀ m tl, m = pre.length → m ≠ usizeMax → f = idx →
        ∃ i, (m :: tl)[f - idx]? = some i ∧ i ≠ usizeMax ∧ (pre ++ sourceFilesGo idx (m :: tl))[i]? = some f := by
      rintro m tl rfl hm rfl
      refine ⟨pre.length, by simp, hm, ?_⟩
      rw [sourceFilesGo, if_neg hm, List.getElem?_append_right (Nat.le_refl _)]
      simp
    -- a later position is found in the tail
    have later : ∀ m next' pre', f ≠ idx →
        pre ++ sourceFilesGo idx (m :: fileIndicesOpGo nSchema used (idx + 1) next' r) =
          pre' ++ sourceFilesGo (idx + 1) (fileIndicesOpGo nSchema used (idx + 1) next' r) →
        pre'.length = (if idx + 1 < nSchema then idx + 1 else next') →
        (idx + 1 < nSchema → next' = nSchema) → next' ≤ idx + 1 + nSchema →
        ∃ i, (m :: fileIndicesOpGo nSchema used (idx + 1) next' r)[f - idx]? = some i ∧ i ≠ usizeMax ∧
          (pre ++ sourceFilesGo idx (m :: fileIndicesOpGo nSchema used (idx + 1) next' r))[i]? = some f := by
      intro m next' pre' hf hsrc a b c
      obtain ⟨i, e1, e2, e3⟩ := ih (idx + 1) next' pre' a b c (by omega) f (by omega) (by omega) hk
      exact ⟨i, (getElem?_cons_shift m _ (by omega)).trans e1, e2, hsrc ▸ e3⟩
    by_cases hf : f = idx
    · by_cases hs : idx < nSchema
      · simp only [fileIndicesOpGo, hs, if_true]
        exact here _ _ (by rw [hpre, if_pos hs]) (by omega) hf
      · have hu : used.contains idx = true := (hk.resolve_left (hf ▸ hs)).symm ▸ hf ▸ rfl
        simp only [fileIndicesOpGo, hs, if_false, hu, if_true]
        exact here _ _ (by rw [hpre, if_neg hs]) (by omega) hf
    · by_cases hs : idx < nSchema
      · simp only [fileIndicesOpGo, hs, if_true]
        refine later idx next (pre ++ [idx]) hf ?_ ?_ (fun _ => hns hs) (by omega)
        · rw [sourceFilesGo, if_neg (by omega), List.append_assoc]; rfl
        · rw [List.length_append, hpre, if_pos hs]
          split
          · rfl
          · have := hns hs; simp; omega
      · by_cases hu : used.contains idx = true
        · simp only [fileIndicesOpGo, hs, if_false, hu, if_true]
          refine later next (next + 1) (pre ++ [idx]) hf ?_ ?_ (fun h => by omega) (by omega)
          · rw [sourceFilesGo, if_neg (by omega), List.append_assoc]; rfl
          · rw [List.length_append, hpre, if_neg hs, if_neg (by omega)]; rfl
        · simp only [fileIndicesOpGo, hs, if_false, hu, Bool.false_eq_true]
          refine later usizeMax next pre hf ?_ ?_ (fun h => by omega) (by omega)
          · rw [sourceFilesGo, if_pos rfl]
          · rw [hpre, if_neg hs, if_neg (by omega)]

theorem length_fileIndicesOpGo (nSchema : Nat) (used : List Nat) : ∀ (r idx next : Nat),
    (fileIndicesOpGo nSchema used idx next r).length = r
  | 0, _, _ => rfl
  | r + 1, idx, next => by
    simp only [fileIndicesOpGo]
    split
    · simp [length_fileIndicesOpGo nSchema used r]
    · split <;> simp [length_fileIndicesOpGo nSchema used r]

/-- a successful lookup is inside the list, so no bound on `f` is asked for -/
theorem fileIndicesOp_lookup (nSchema nOps : Nat) (used : List Nat) (f fi : Nat)
    (h : (fileIndicesOp nSchema nOps used)[f]? = some fi) (hk : keptFile nSchema used f)
    (hsmall : 2 * nSchema + nOps < usizeMax) :
    fi ≠ usizeMax ∧ (sourceFiles (fileIndicesOp nSchema nOps used))[fi]? = some f := by
  have hf : f < nSchema + nOps := by
    have := (List.getElem?_eq_some_iff.mp h).1
    rwa [fileIndicesOp, length_fileIndicesOpGo] at this
  have := fileIndicesOpGo_spec nSchema used (nSchema + nOps) 0 nSchema []
    (by split <;> simp_all) (fun _ => rfl) (by omega) (by omega) f (by omega) (by omega) hk
  obtain ⟨i, h1, h2, h3⟩ : ∃ i, (fileIndicesOp nSchema nOps used)[f]? = some i ∧ i ≠ usizeMax ∧
      (sourceFiles (fileIndicesOp nSchema nOps used))[i]? = some f := by
    simpa [fileIndicesOp, sourceFiles] using this
  cases h1.symm.trans h
  exact ⟨h2, h3⟩

end NitroVerif.SourceMap
