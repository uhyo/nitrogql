/-
The PEG interpreter emits only child sequences in the computed shape (helper lemmas for Props/C08):
* `MemInv`: whatever `eval` / `doSkip` / `starRest` / `callRule` return (outside lookahead), the rules of the returned
  top-level pairs are a word of `exprShape` / `skipShape` / `callShape` — for EVERY depth bound of the shape
  computation (a shape that ran out of fuel is `top`);
* `deepInv`: every pair in the returned trees has children in `ruleShape` of its rule (`Deep`).
The first is an induction on the interpreter's depth bound using only the inversion lemmas of `Lemmas/PegInv.lean` — not
an instance of `okInv`, whose relation sees the cursors and the pairs but not WHAT was evaluated, on which the shape depends;
the second is an instance of `okInv`.
-/
import NitroVerif.Lemmas.PegInv
import NitroVerif.Lemmas.Shape
namespace NitroVerif.Shape
open NitroVerif.Peg

theorem mem_eps_inv {w : List RuleId} (h : Mem .eps w) : w = [] := by cases h; rfl

theorem mem_mkSeq {a b : Re} {u v : List RuleId} (ha : Mem a u) (hb : Mem b v) : Mem (mkSeq a b) (u ++ v) := by
  unfold mkSeq
  split
  · have := mem_eps_inv ha; subst this; simpa using hb
  · have := mem_eps_inv hb; subst this; simpa using ha
  · exact .seq ha hb

theorem mem_mkAlt_l {a b : Re} {u : List RuleId} (h : Mem a u) : Mem (mkAlt a b) u := by
  unfold mkAlt; split
  · exact h
  · exact .altL h

theorem mem_mkAlt_r {a b : Re} {u : List RuleId} (h : Mem b u) : Mem (mkAlt a b) u := by
  unfold mkAlt; split
  · rename_i hab; exact hab ▸ h
  · exact .altR h

theorem mem_star_append {a : Re} {u v : List RuleId} (hu : Mem (.star a) u) (hv : Mem (.star a) v) :
    Mem (.star a) (u ++ v) := by
  generalize he : Re.star a = e at hu
  induction hu with
  | starNil => cases he; simpa using hv
  | starCons h1 _ _ ih2 =>
    cases he
    rw [List.append_assoc]
    exact .starCons h1 (ih2 rfl)
  | eps => cases he
  | sym => cases he
  | seq => cases he
  | altL => cases he
  | altR => cases he
  | top => cases he

theorem mem_mkStar_nil (a : Re) : Mem (mkStar a) [] := by
  unfold mkStar; split
  · exact .eps
  · exact .starNil
  · exact .starNil

theorem mem_mkStar_cons {a : Re} {u v : List RuleId} (hu : Mem a u) (hv : Mem (mkStar a) v) :
    Mem (mkStar a) (u ++ v) := by
  unfold mkStar at hv ⊢
  split at hv
  · have h1 := mem_eps_inv hu; have h2 := mem_eps_inv hv; subst h1 h2; exact .eps
  · exact mem_star_append hu hv
  · exact .starCons hu hv

/-- `P` holds of (rule, rules of the children) for the pair and, recursively, for all pairs below it -/
inductive Deep (P : RuleId → List RuleId → Prop) : Pair → Prop where
  | mk {r s e cs} : P r (cs.map Pair.rule) → (∀ c ∈ cs, Deep P c) → Deep P (.mk r s e cs)

theorem Deep.mono {P Q : RuleId → List RuleId → Prop} (hpq : ∀ r w, P r w → Q r w) :
    ∀ {p : Pair}, Deep P p → Deep Q p := by
  intro p h
  induction h with
  | mk h1 _ ih => exact .mk (hpq _ _ h1) ih

/-- every pair of the tree has children in the shape of its rule -/
abbrev DeepOk (g : G) : Pair → Prop := Deep (fun r w => Mem (ruleShape g r) w)

theorem mem_exprShape_star_nil (g : G) (F : Nat) (at_ : Atomicity) (a : Expr) : Mem (exprShape g F false at_ (.star a)) [] := by
  cases F with
  | zero => exact .top _
  | succ F => simp only [exprShape, Bool.false_eq_true, if_false]; exact mem_mkStar_nil _

theorem mem_skipShape_nil (g : G) (F : Nat) (sk : Bool) (at_ : Atomicity) : Mem (skipShape g F sk at_) [] := by
  cases F with
  | zero => exact .top _
  | succ F =>
    simp only [skipShape]
    split
    · -- the skip expression is a loop, or one loop after another with no skip between them
      cases hw : g.ws <;> cases hc : g.cm <;> simp only [G.skipExpr, hw, hc]
      · exact .eps
      · exact mem_exprShape_star_nil g F at_ _
      · exact mem_exprShape_star_nil g F at_ _
      · cases F with
        | zero => exact .top _
        | succ F =>
          have h0 : Mem (skipShape g F false at_) [] := by
            cases F with
            | zero => exact .top _
            | succ F => simp only [skipShape, Bool.false_eq_true, false_and, if_false]; exact .eps
          simpa [exprShape] using mem_mkSeq (mem_exprShape_star_nil g F at_ _) (mem_mkSeq h0 (mem_exprShape_star_nil g F at_ _))
    · exact .eps

/-- the condition is that of `callRule` for wrapping no pair around the result: a silent rule, or one seen as atomic -/
theorem callShape_succ (g : G) (F : Nat) (r : RuleId) (at_ : Atomicity) {kind : RuleKind} {body : Expr}
    (hl : g.look r = some (kind, body)) :
    callShape g (F + 1) r at_ =
      if kind = .silent ∨ (bodyCfg (decide (g.ws = some r ∨ g.cm = some r)) kind at_).2.2 = .atomic then
        exprShape g F (bodyCfg (decide (g.ws = some r ∨ g.cm = some r)) kind at_).1
          (bodyCfg (decide (g.ws = some r ∨ g.cm = some r)) kind at_).2.1 body
      else .sym r := by
  simp only [callShape, hl]
  by_cases hs : g.ws = some r ∨ g.cm = some r <;> cases kind <;> cases at_ <;> simp [bodyCfg, hs]

structure MemInv (g : G) (fuel : Nat) : Prop where
  ev : ∀ F sk e at_ tr c tr' c' ps, eval g fuel sk e at_ .none tr c = (tr', .ok c' ps) →
    Mem (exprShape g F sk at_ e) (ps.map Pair.rule)
  sk : ∀ F sk at_ tr c tr' c' ps, doSkip g fuel sk at_ .none tr c = (tr', .ok c' ps) →
    Mem (skipShape g F sk at_) (ps.map Pair.rule)
  sr : ∀ F a at_ tr c tr' c' ps, starRest g fuel a at_ .none tr c = (tr', .ok c' ps) →
    Mem (mkStar (mkSeq (skipShape g F true at_) (exprShape g F true at_ a))) (ps.map Pair.rule)
  cr : ∀ F r at_ tr c tr' c' ps, callRule g fuel r at_ .none tr c = (tr', .ok c' ps) →
    Mem (callShape g F r at_) (ps.map Pair.rule)

theorem memInv (g : G) : ∀ fuel, MemInv g fuel := by
  intro fuel
  induction fuel with
  | zero =>
    exact ⟨fun _ _ _ _ _ _ _ _ _ h => by simp [eval_zero] at h, fun _ _ _ _ _ _ _ _ h => by simp [doSkip_zero] at h,
      fun _ _ _ _ _ _ _ _ h => by simp [starRest_zero] at h, fun _ _ _ _ _ _ _ _ h => by simp [callRule_zero] at h⟩
  | succ fuel ih =>
    refine ⟨?_, ?_, ?_, ?_⟩
    · -- eval
      intro F sk e at_ tr c tr' c' ps h
      cases F with
      | zero => simp only [exprShape]; exact .top _
      | succ F =>
        cases e with
        | str s => obtain ⟨_, rfl⟩ := eval_str_ok g h; simp only [exprShape, List.map_nil]; exact .eps
        | insens s => obtain ⟨_, rfl⟩ := eval_insens_ok g h; simp only [exprShape, List.map_nil]; exact .eps
        | range lo hi => obtain ⟨_, rfl⟩ := eval_range_ok g h; simp only [exprShape, List.map_nil]; exact .eps
        | any => obtain ⟨_, rfl⟩ := eval_any_ok g h; simp only [exprShape, List.map_nil]; exact .eps
        | soi => obtain ⟨_, rfl⟩ := eval_soi_ok g h; simp only [exprShape, List.map_nil]; exact .eps
        | eoi => obtain ⟨_, rfl⟩ := eval_eoi_ok g h; simp only [exprShape, List.map_nil]; exact .eps
        | seq a b =>
          obtain ⟨tr1, c1, p1, tr2, c2, p2, p3, h1, h2, h3, rfl⟩ := eval_seq_ok g h
          simp only [exprShape, List.map_append, List.append_assoc]
          exact mem_mkSeq (ih.ev F _ _ _ _ _ _ _ _ h1) (mem_mkSeq (ih.sk F _ _ _ _ _ _ _ h2) (ih.ev F _ _ _ _ _ _ _ _ h3))
        | choice a b =>
          simp only [exprShape]
          rcases eval_choice_ok g h with h1 | ⟨tr1, _, h2⟩
          · exact mem_mkAlt_l (ih.ev F _ _ _ _ _ _ _ _ h1)
          · exact mem_mkAlt_r (ih.ev F _ _ _ _ _ _ _ _ h2)
        | opt a =>
          simp only [exprShape]
          rcases eval_opt_ok g h with h1 | ⟨_, rfl⟩
          · exact mem_mkAlt_l (ih.ev F _ _ _ _ _ _ _ _ h1)
          · exact mem_mkAlt_r .eps
        | star a =>
          cases sk with
          | true =>
            simp only [exprShape, if_true]
            rcases eval_star_sk_ok g h with ⟨tr1, c1, p1, p2, h1, h2, rfl⟩ | ⟨_, rfl⟩
            · rw [List.map_append]
              exact mem_mkAlt_l (mem_mkSeq (ih.ev F _ _ _ _ _ _ _ _ h1) (ih.sr F _ _ _ _ _ _ _ h2))
            · exact mem_mkAlt_r .eps
          | false =>
            simp only [exprShape, Bool.false_eq_true, if_false]
            rcases eval_star_nosk_ok g h with ⟨tr1, c1, p1, p2, h1, h2, rfl⟩ | ⟨_, rfl⟩
            · rw [List.map_append]
              have hs := ih.ev (F + 1) _ _ _ _ _ _ _ _ h2
              simp only [exprShape, Bool.false_eq_true, if_false] at hs
              exact mem_mkStar_cons (ih.ev F _ _ _ _ _ _ _ _ h1) hs
            · exact mem_mkStar_nil _
        | plus a =>
          rw [eval_plus] at h
          simp only [exprShape]
          exact ih.ev F _ _ _ _ _ _ _ _ h
        | rep n a =>
          rw [eval_rep] at h
          simp only [exprShape]
          exact ih.ev F _ _ _ _ _ _ _ _ h
        | not a => obtain ⟨_, rfl⟩ := eval_not_ok g h; simp only [exprShape, List.map_nil]; exact .eps
        | and a => obtain ⟨_, rfl⟩ := eval_and_ok g h; simp only [exprShape, List.map_nil]; exact .eps
        | call r =>
          rw [eval_call] at h
          simp only [exprShape]
          exact ih.cr F _ _ _ _ _ _ _ h
    · -- doSkip
      intro F sk at_ tr c tr' c' ps h
      cases F with
      | zero => simp only [skipShape]; exact .top _
      | succ F =>
        rcases doSkip_ok g h with ⟨hsk, hat, e, he, h1⟩ | ⟨_, rfl⟩
        · subst hsk hat
          simp only [skipShape, and_self, if_true, he]
          exact ih.ev F _ _ _ _ _ _ _ _ h1
        · exact mem_skipShape_nil g (F + 1) sk at_
    · -- starRest
      intro F a at_ tr c tr' c' ps h
      rcases starRest_ok g h with ⟨tr1, c1, p1, tr2, c2, p2, p3, h1, h2, h3, rfl⟩ | ⟨_, rfl⟩
      · simp only [List.map_append, List.append_assoc]
        rw [← List.append_assoc]
        exact mem_mkStar_cons (mem_mkSeq (ih.sk F _ _ _ _ _ _ _ h1) (ih.ev F _ _ _ _ _ _ _ _ h2)) (ih.sr F _ _ _ _ _ _ _ h3)
      · exact mem_mkStar_nil _
    · -- callRule
      intro F r at_ tr c tr' c' ps h
      cases F with
      | zero => simp only [callShape]; exact .top _
      | succ F =>
        obtain ⟨kind, body, tr0, tr1, ps0, hl, hb, hps⟩ := callRule_ok g h
        rw [callShape_succ g F r at_ hl]
        by_cases hp : kind = .silent ∨ (bodyCfg (decide (g.ws = some r ∨ g.cm = some r)) kind at_).2.2 = .atomic
        · -- no pair is wrapped: the result is the body's
          rw [if_pos hp]
          obtain rfl : ps = ps0 := by
            by_cases hk : kind = .silent
            · rw [hps, if_pos hk]
            · rw [hps, if_neg hk, if_neg fun h => h.2 (hp.resolve_left hk)]
          exact ih.ev F _ _ _ _ _ _ _ _ hb
        · rw [if_neg hp]
          have hk : kind ≠ .silent := fun h => hp (.inl h)
          rw [hps, if_neg hk, if_pos ⟨rfl, fun h => hp (.inr h)⟩]
          exact .sym r

theorem emitted_in_ruleShape (g : G) {fuel r kind body at_ tr0 c tr1 c' ps0}
    (hl : g.look r = some (kind, body))
    (hb : eval g fuel (bodyCfg (decide (g.ws = some r ∨ g.cm = some r)) kind at_).1 body
        (bodyCfg (decide (g.ws = some r ∨ g.cm = some r)) kind at_).2.1 .none tr0 c = (tr1, .ok c' ps0))
    (hk : kind ≠ .silent) (hseen : (bodyCfg (decide (g.ws = some r ∨ g.cm = some r)) kind at_).2.2 ≠ .atomic) :
    Mem (ruleShape g r) (ps0.map Pair.rule) := by
  have hbody := fun F => (memInv g fuel).ev F _ _ _ _ _ _ _ _ hb
  simp only [ruleShape, hl]
  cases kind with
  | silent => exact absurd rfl hk
  | normal =>
    by_cases hs : g.ws = some r ∨ g.cm = some r
    · simpa [bodyCfg, hs] using hbody shapeFuel
    · simp only [bodyCfg, hs, decide_false, Bool.false_eq_true, if_false] at hseen hbody ⊢
      cases at_ with
      | atomic => exact absurd rfl hseen
      | nonAtomic => exact mem_mkAlt_l (hbody shapeFuel)
      | compound => exact mem_mkAlt_r (hbody shapeFuel)
  | atomic => simpa [bodyCfg] using hbody shapeFuel
  | compound => simpa [bodyCfg] using hbody shapeFuel
  | nonAtomic => simpa [bodyCfg] using hbody shapeFuel

theorem deepInv (g : G) (fuel : Nat) : OkInv g .none (fun _ _ ps => ∀ p ∈ ps, DeepOk g p) fuel :=
  okInv g .none _ (fun _ p hp => by cases hp) (fun _ p hp => by cases hp)
    (fun h1 h2 p hp => (List.mem_append.mp hp).elim (h1 p) (h2 p))
    (fun hl hk hseen _ hb h0 p hp => by
      cases List.mem_singleton.mp hp
      exact .mk (emitted_in_ruleShape g hl hb hk hseen) h0) fuel

theorem parse_deepOk (g : G) (fuel : Nat) (r : RuleId) (input : List Char) (ps : List Pair)
    (h : Peg.parse g fuel r input = .pairs ps) : ∀ p ∈ ps, DeepOk g p := by
  obtain ⟨tr, c', hc⟩ := parse_pairs g h
  exact (deepInv g fuel).cr _ _ _ _ _ _ _ hc

end NitroVerif.Shape
