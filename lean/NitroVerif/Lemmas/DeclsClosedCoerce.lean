/-
The propositional reading of the C09 specification (`ExplicitP`, `CoerceP`, `CoercibleP`) and its connection with the
fuel-indexed executable specification `Spec/Coerce.lean` (`explicitVars`, `coerceVal`, `coercibleVars`): same sets, for
all inputs.
-/
import NitroVerif.Spec.Coerce
import NitroVerif.Lemmas.DeclsClosedRef
namespace NitroVerif.Coerce
open NitroVerif.Gql NitroVerif.Ts NitroVerif.DeclCfg NitroVerif.RefTypes

/-- the canonical explicit assignments for `vars` (omission of nullable variables iff `opt`), over leaf sets `R` -/
def ExplicitP (R : Name → J → Prop) (opt : Bool) (vars : List VarDef) (v : J) : Prop :=
  ∃ kvs, v = .obj kvs ∧
    RecordSpec (vars.map fun d => (d.name, !d.ty.isNonNull && opt, Conf R d.ty)) kvs

/-- spec input coercion of a PRESENT value (permissive: a bare item is accepted for a list), over leaf sets `RC` -/
def CoerceP (RC : Name → J → Prop) : GType → J → Prop
  | .named n _, v => v = .null ∨ RC n v
  | .list t _, v => v = .null ∨ (∃ xs, v = .arr xs ∧ ∀ x ∈ xs, CoerceP RC t x) ∨ ((∀ xs, v ≠ .arr xs) ∧ CoerceP RC t v)
  | .nonNull t, v => v ≠ .null ∧ CoerceP RC t v

/-- CoerceVariableValues succeeds on the record -/
def CoercibleP (RC : Name → J → Prop) (vars : List VarDef) (v : J) : Prop :=
  ∃ kvs, v = .obj kvs ∧ ∀ d ∈ vars,
    (J.get kvs d.name = .absent ∧ (d.default.isSome = true ∨ d.ty.isNonNull = false)) ∨
    (J.get kvs d.name ≠ .absent ∧ CoerceP RC d.ty (J.get kvs d.name))

theorem coerceP_null {RC : Name → J → Prop} {t : GType} (h : t.isNonNull = false) : CoerceP RC t .null := by
  cases t with
  | nonNull _ => cases h
  | _ => exact Or.inl rfl

theorem confCore_coerceP (R RC : Name → J → Prop) (hsub : ∀ n v, R n v → RC n v) (hnull : ∀ n, ¬ R n .null) :
    ∀ (ty : GType) (v : J), ConfCore R ty v → v ≠ .null ∧ CoerceP RC ty v := by
  intro ty
  induction ty with
  | named n p => intro v h; exact ⟨fun e => hnull n (e ▸ h), Or.inr (hsub n v h)⟩
  | list t p ih =>
    rintro v ⟨xs, rfl, hx⟩
    exact ⟨nofun, Or.inr (Or.inl ⟨xs, rfl, fun x hxs =>
      (hx x hxs).elim (fun ⟨hnn, e⟩ => e ▸ coerceP_null hnn) fun hc => (ih x hc).2⟩)⟩
  | nonNull t ih => intro v h; exact ⟨(ih v h).1, ih v h⟩

theorem conf_coerceP (R RC : Name → J → Prop) (hsub : ∀ n v, R n v → RC n v) (hnull : ∀ n, ¬ R n .null)
    (ty : GType) (v : J) (h : Conf R ty v) : CoerceP RC ty v :=
  h.elim (fun ⟨hnn, e⟩ => e ▸ coerceP_null hnn) fun hc => (confCore_coerceP R RC hsub hnull ty v hc).2

theorem confCore_absent (R : Name → J → Prop) (habs : ∀ n, ¬ R n .absent) :
    ∀ ty, ¬ ConfCore R ty .absent := by
  intro ty
  induction ty with
  | named n p => exact habs n
  | list t p _ => rintro ⟨xs, h, _⟩; cases h
  | nonNull t ih => exact ih

theorem explicitP_coercibleP (R RC : Name → J → Prop) (hsub : ∀ n v, R n v → RC n v) (hnull : ∀ n, ¬ R n .null)
    (habs : ∀ n, ¬ R n .absent) (opt : Bool) (vars : List VarDef) (v : J) (h : ExplicitP R opt vars v) :
    CoercibleP RC vars v := by
  obtain ⟨kvs, rfl, h1, _⟩ := h
  refine ⟨kvs, rfl, ?_⟩
  intro d hd
  rcases h1 (d.name, !d.ty.isNonNull && opt, Conf R d.ty) (List.mem_map.2 ⟨d, hd, rfl⟩) with ⟨ho, hx⟩ | hc
  · left
    simp only [Bool.and_eq_true, Bool.not_eq_true'] at ho
    exact ⟨hx, Or.inr ho.1⟩
  · right
    refine ⟨?_, conf_coerceP R RC hsub hnull _ _ hc⟩
    intro hx
    simp only at hc hx
    rw [hx] at hc
    rcases hc with ⟨_, h⟩ | h
    · cases h
    · exact confCore_absent R habs _ h

theorem explicitP_required (R : Name → J → Prop) (hnull : ∀ n, ¬ R n .null) (habs : ∀ n, ¬ R n .absent)
    (opt : Bool) (vars : List VarDef) (kvs : List (String × J)) (h : ExplicitP R opt vars (.obj kvs))
    (d : VarDef) (hd : d ∈ vars) (hnn : d.ty.isNonNull = true) :
    J.get kvs d.name ≠ .absent ∧ J.get kvs d.name ≠ .null := by
  obtain ⟨kvs', hk, h1, _⟩ := h
  cases hk
  rcases h1 (d.name, !d.ty.isNonNull && opt, Conf R d.ty) (List.mem_map.2 ⟨d, hd, rfl⟩) with ⟨ho, _⟩ | hc
  · simp [hnn] at ho
  · simp only at hc
    rcases hc with ⟨h', _⟩ | hc
    · simp [hnn] at h'
    · exact ⟨fun hx => confCore_absent R habs _ (hx ▸ hc), (confCore_coerceP R R (fun _ _ h => h) hnull _ _ hc).1⟩

theorem explicitP_omitted (R : Name → J → Prop) (habs : ∀ n, ¬ R n .absent)
    (opt : Bool) (vars : List VarDef) (kvs : List (String × J)) (h : ExplicitP R opt vars (.obj kvs))
    (d : VarDef) (hd : d ∈ vars) (hx : J.get kvs d.name = .absent) : opt = true ∧ d.ty.isNonNull = false := by
  obtain ⟨kvs', hk, h1, _⟩ := h
  cases hk
  rcases h1 (d.name, !d.ty.isNonNull && opt, Conf R d.ty) (List.mem_map.2 ⟨d, hd, rfl⟩) with ⟨ho, _⟩ | hc
  · simp only [Bool.and_eq_true, Bool.not_eq_true'] at ho
    exact ⟨ho.2, ho.1⟩
  · simp only at hc
    rw [hx] at hc
    rcases hc with ⟨_, h'⟩ | h'
    · cases h'
    · exact absurd h' (confCore_absent R habs _)

theorem explicitP_empty (R : Name → J → Prop) (vars : List VarDef) (hall : ∀ d ∈ vars, d.ty.isNonNull = false) :
    ExplicitP R true vars (.obj []) := by
  refine ⟨[], rfl, ?_, fun kv h => by cases h⟩
  intro f hf
  obtain ⟨d, hd, rfl⟩ := List.mem_map.1 hf
  left
  simp [hall d hd, J.get]

theorem explicit_iff (c : Cfg) (s : Schema) (vars : List VarDef) (v : J) :
    Explicit c s vars v ↔ ExplicitP (Ref c s .operationInput) c.optionalInput vars v := by
  unfold Explicit ExplicitP
  refine exists_obj_iff (P := fun v => ∃ n, explicitVars c s n vars v = true)
    (fun hv ⟨n, hn⟩ => by cases v <;> first | cases hn | exact hv _ rfl) fun kvs => ?_
  simp only [explicitVars, Bool.and_comm (!_)]
  exact exists_recordMem_conf_iff c s .operationInput [] vars (fun d => d.name) _ (fun d => d.ty) kvs

theorem coerceVal_absent (c : Cfg) (s : Schema) (k : Nat) (ty : GType) : coerceVal c s k ty .absent = false := by
  cases k <;> simp [coerceVal, J.isAbsent]

theorem coerceVal_null_named (c : Cfg) (s : Schema) (k : Nat) (n : Name) (p : Pos) :
    coerceVal c s (k + 1) (.named n p) .null = true := by
  simp [coerceVal, J.isAbsent, J.isNull]

theorem coerceVal_named_pos (c : Cfg) (s : Schema) (k : Nat) (n : Name) (p q : Pos) (v : J) :
    coerceVal c s k (.named n p) v = coerceVal c s k (.named n q) v := by
  cases k <;> simp [coerceVal]

/-- one unfolding of `coerceVal`, with the recursive calls and the scalar fuel abstracted -/
def coerceStep (c : Cfg) (s : Schema) (rec : GType → J → Bool) (mfuel : Nat) (ty : GType) (v : J) : Bool :=
  if v.isAbsent then false else
  match ty with
  | .nonNull t => !v.isNull && rec t v
  | .list t _ =>
    v.isNull ||
    (match v with
     | .arr xs => xs.all (rec t)
     | _ => rec t v)
  | .named name _ =>
    v.isNull ||
    (match s.typeDef? name with
     | none => false
     | some td =>
       match td.kind with
       | .scalar =>
         match scalarType? c s.items name with
         | some sc => memG Env.empty mfuel v (c.parseOf (sc.getType .operationInput))
         | none => false
       | .enum => match v with | .str x => td.values.any (·.name == x) | _ => false
       | .input =>
         match v with
         | .obj kvs =>
           kvs.all (fun kv => kv.2.isAbsent || td.inputs.any (·.name == kv.1))
           && td.inputs.all (fun f =>
                let x := J.get kvs f.name
                if x.isAbsent then f.default.isSome || !f.ty.isNonNull else rec f.ty x)
         | _ => false
       | _ => false)

theorem coerceVal_step (c : Cfg) (s : Schema) (k : Nat) (ty : GType) (v : J) :
    coerceVal c s (k + 1) ty v = coerceStep c s (coerceVal c s k) (k + 1) ty v := by
  cases ty <;> rfl

theorem coerceStep_mono (c : Cfg) (s : Schema) {r1 r2 : GType → J → Bool} {m1 m2 : Nat}
    (hr : ∀ t x, r1 t x = true → r2 t x = true) (hm : m1 ≤ m2) (ty : GType) (v : J)
    (h : coerceStep c s r1 m1 ty v = true) : coerceStep c s r2 m2 ty v = true := by
  cases hab : v.isAbsent with
  | true => simp [coerceStep, hab] at h
  | false =>
    cases ty with
    | nonNull t =>
      simp only [coerceStep, hab, Bool.false_eq_true, if_false, Bool.and_eq_true] at h ⊢
      exact ⟨h.1, hr _ _ h.2⟩
    | list t p =>
      simp only [coerceStep, hab, Bool.false_eq_true, if_false, Bool.or_eq_true] at h ⊢
      rcases h with h | h
      · exact Or.inl h
      · right
        cases v with
        | arr xs =>
          simp only [List.all_eq_true] at h ⊢
          exact fun x hx => hr _ _ (h x hx)
        | _ => exact hr _ _ h
    | named name p =>
      simp only [coerceStep, hab, Bool.false_eq_true, if_false, Bool.or_eq_true] at h ⊢
      rcases h with h | h
      · exact Or.inl h
      · right
        cases htd : s.typeDef? name with
        | none => simp [htd] at h
        | some td =>
          simp only [htd] at h ⊢
          cases hk : td.kind with
          | scalar =>
            simp only [hk] at h ⊢
            split at h
            · exact memG_le h hm
            · cases h
          | «enum» => simpa only [hk] using h
          | input =>
            simp only [hk] at h ⊢
            cases v with
            | obj kvs =>
              simp only [Bool.and_eq_true, List.all_eq_true] at h ⊢
              refine ⟨h.1, fun f hf => ?_⟩
              have := h.2 f hf
              split at this
              · rename_i hx; simp only [hx, if_true]; exact this
              · rename_i hx; simp only [hx]; exact hr _ _ this
            | _ => simp at h
          | _ => simp [hk] at h

theorem coerceVal_succ (c : Cfg) (s : Schema) : ∀ (k : Nat) (ty : GType) (v : J),
    coerceVal c s k ty v = true → coerceVal c s (k + 1) ty v = true := by
  intro k
  induction k with
  | zero => intro ty v h; simp [coerceVal] at h
  | succ k ih =>
    intro ty v h
    rw [coerceVal_step] at h ⊢
    exact coerceStep_mono c s ih (Nat.le_succ _) ty v h

theorem coerceVal_le (c : Cfg) (s : Schema) {k m : Nat} {ty : GType} {v : J} (h : coerceVal c s k ty v = true)
    (hle : k ≤ m) : coerceVal c s m ty v = true :=
  fuel_mono_le (P := fun j => coerceVal c s j ty v = true) (fun j hj => coerceVal_succ c s j ty v hj) h hle

/-- the non-null values input coercion accepts for the NAMED type `n` -/
def CoerceNamed (c : Cfg) (s : Schema) (n : Name) (v : J) : Prop :=
  v ≠ .null ∧ ∃ k, coerceVal c s k (.named n {}) v = true

theorem coerceP_absent (c : Cfg) (s : Schema) : ∀ ty, ¬ CoerceP (CoerceNamed c s) ty .absent := by
  intro ty
  induction ty with
  | named n p =>
    rintro (h | ⟨_, k, hk⟩)
    · cases h
    · rw [coerceVal_absent] at hk; cases hk
  | list t p ih =>
    rintro (h | ⟨xs, h, _⟩ | ⟨_, h⟩)
    · cases h
    · cases h
    · exact ih h
  | nonNull t ih => rintro ⟨_, h⟩; exact ih h

theorem coerceVal_iff (c : Cfg) (s : Schema) : ∀ (ty : GType) (v : J),
    (∃ k, coerceVal c s k ty v = true) ↔ CoerceP (CoerceNamed c s) ty v := by
  intro ty
  induction ty with
  | named n p =>
    intro v
    simp only [CoerceP, CoerceNamed]
    constructor
    · rintro ⟨k, hk⟩
      by_cases hv : v = .null
      · exact Or.inl hv
      · exact Or.inr ⟨hv, k, by rw [coerceVal_named_pos c s k n {} p]; exact hk⟩
    · rintro (rfl | ⟨_, k, hk⟩)
      · exact ⟨1, coerceVal_null_named c s 0 n p⟩
      · exact ⟨k, by rw [coerceVal_named_pos c s k n p {}]; exact hk⟩
  | nonNull t ih =>
    intro v
    simp only [CoerceP]
    constructor
    · rintro ⟨k, hk⟩
      cases k with
      | zero => simp [coerceVal] at hk
      | succ k =>
        cases hab : v.isAbsent with
        | true => simp [coerceVal, hab] at hk
        | false =>
          simp only [coerceVal, hab, Bool.false_eq_true, if_false, Bool.and_eq_true, Bool.not_eq_true'] at hk
          refine ⟨fun hv => ?_, (ih v).1 ⟨k, hk.2⟩⟩
          rw [hv] at hk; simp [J.isNull] at hk
    · rintro ⟨hv, hc⟩
      obtain ⟨k, hk⟩ := (ih v).2 hc
      refine ⟨k + 1, ?_⟩
      have hab : v.isAbsent = false := isAbsent_eq_false fun e => coerceP_absent c s t (e ▸ hc)
      have hnl : v.isNull = false := isNull_eq_false hv
      simp [coerceVal, hab, hnl, hk]
  | list t p ih =>
    intro v
    simp only [CoerceP]
    constructor
    · rintro ⟨k, hk⟩
      cases k with
      | zero => simp [coerceVal] at hk
      | succ k =>
        cases hab : v.isAbsent with
        | true => simp [coerceVal, hab] at hk
        | false =>
          simp only [coerceVal, hab, Bool.false_eq_true, if_false, Bool.or_eq_true] at hk
          rcases hk with hk | hk
          · exact Or.inl (isNull_iff.1 hk)
          · right
            cases v with
            | arr xs =>
              simp only [List.all_eq_true] at hk
              exact Or.inl ⟨xs, rfl, fun x hx => (ih x).1 ⟨k, hk x hx⟩⟩
            | _ => exact Or.inr ⟨by simp, (ih _).1 ⟨k, hk⟩⟩
    · rintro (rfl | ⟨xs, rfl, hx⟩ | ⟨hna, hc⟩)
      · exact ⟨1, by simp [coerceVal, J.isAbsent, J.isNull]⟩
      · obtain ⟨k, hk⟩ := exists_common_fuel xs (fun x k => coerceVal c s k t x = true)
          (fun x k h => coerceVal_succ c s k t x h) (fun x hxs => (ih x).2 (hx x hxs))
        exact ⟨k + 1, by simp only [coerceVal, J.isAbsent, Bool.false_eq_true, if_false, Bool.or_eq_true,
          List.all_eq_true]; exact Or.inr hk⟩
      · obtain ⟨k, hk⟩ := (ih v).2 hc
        have hab : v.isAbsent = false := isAbsent_eq_false fun e => coerceP_absent c s t (e ▸ hc)
        refine ⟨k + 1, ?_⟩
        cases v with
        | arr xs => exact absurd rfl (hna xs)
        | _ => simp_all [coerceVal]

theorem exists_fieldTests_iff (c : Cfg) (s : Schema) {α : Type} (l : List α) (name : α → String) (dflt : α → Bool)
    (ty : α → GType) (kvs : List (String × J)) :
    (∃ k, ∀ a ∈ l, (if (J.get kvs (name a)).isAbsent then dflt a || !(ty a).isNonNull
        else coerceVal c s k (ty a) (J.get kvs (name a))) = true) ↔
      ∀ a ∈ l, (J.get kvs (name a) = .absent ∧ (dflt a = true ∨ (ty a).isNonNull = false)) ∨
        (J.get kvs (name a) ≠ .absent ∧ CoerceP (CoerceNamed c s) (ty a) (J.get kvs (name a))) := by
  constructor
  · rintro ⟨k, hk⟩ a ha
    have := hk a ha
    split at this
    · rename_i hx
      exact Or.inl ⟨isAbsent_iff.1 hx, by simpa using this⟩
    · rename_i hx
      exact Or.inr ⟨fun e => hx (by rw [e]; rfl), (coerceVal_iff c s (ty a) _).1 ⟨k, this⟩⟩
  · intro h
    refine exists_common_fuel l _ (fun a k h' => ?_) fun a ha => ?_
    · split at h'
      · rename_i hx; simp only [hx, if_true]; exact h'
      · rename_i hx; simp only [hx]; exact coerceVal_succ c s k _ _ h'
    · rcases h a ha with ⟨hx, hd⟩ | ⟨hx, hc⟩
      · exact ⟨0, by rw [hx]; simpa [J.isAbsent] using hd⟩
      · obtain ⟨k, hk⟩ := (coerceVal_iff c s (ty a) _).2 hc
        exact ⟨k, by rw [isAbsent_eq_false hx]; simpa using hk⟩

theorem coercible_iff (c : Cfg) (s : Schema) (vars : List VarDef) (v : J) :
    Coercible c s vars v ↔ CoercibleP (CoerceNamed c s) vars v := by
  unfold Coercible CoercibleP
  refine exists_obj_iff (P := fun v => ∃ n, coercibleVars c s n vars v = true)
    (fun hv ⟨n, hn⟩ => by cases v <;> first | cases hn | exact hv _ rfl) fun kvs => ?_
  simp only [coercibleVars, List.all_eq_true]
  exact exists_fieldTests_iff c s vars (fun d => d.name) (fun d => d.default.isSome) (fun d => d.ty) kvs

theorem coerceNamed_iff_step (c : Cfg) (s : Schema) (n : Name) (v : J) :
    CoerceNamed c s n v ↔ v ≠ .null ∧ ∃ k, coerceStep c s (coerceVal c s k) (k + 1) (.named n {}) v = true := by
  unfold CoerceNamed
  constructor
  · rintro ⟨hv, k, hk⟩
    refine ⟨hv, k, ?_⟩
    rw [← coerceVal_step]; exact coerceVal_succ c s k _ _ hk
  · rintro ⟨hv, k, hk⟩
    exact ⟨hv, k + 1, by rw [coerceVal_step]; exact hk⟩

theorem coerceNamed_unknown (c : Cfg) (s : Schema) {n : Name} {v : J} (h : s.typeDef? n = none) :
    ¬ CoerceNamed c s n v := by
  rw [coerceNamed_iff_step]
  rintro ⟨hv, k, hk⟩
  have hnl : v.isNull = false := isNull_eq_false hv
  simp [coerceStep, h, hnl] at hk

theorem coerceNamed_output (c : Cfg) (s : Schema) {n : Name} {v : J} {td : TypeDef} (h : s.typeDef? n = some td)
    (hk : td.kind = .object ∨ td.kind = .interface ∨ td.kind = .union) : ¬ CoerceNamed c s n v := by
  rw [coerceNamed_iff_step]
  rintro ⟨hv, k, hk'⟩
  have hnl : v.isNull = false := isNull_eq_false hv
  rcases hk with hk | hk | hk <;> simp [coerceStep, h, hk, hnl] at hk'

theorem coerceNamed_scalar (c : Cfg) (s : Schema) {n : Name} {v : J} {td : TypeDef} (h : s.typeDef? n = some td)
    (hk : td.kind = .scalar) :
    CoerceNamed c s n v ↔ v ≠ .null ∧ v ≠ .absent ∧
      ∃ sc, scalarType? c s.items n = some sc ∧ Mem Env.empty v (c.parseOf (sc.getType .operationInput)) := by
  rw [coerceNamed_iff_step]
  constructor
  · rintro ⟨hv, k, hk'⟩
    have hnl : v.isNull = false := isNull_eq_false hv
    cases hab : v.isAbsent with
    | true => simp [coerceStep, hab] at hk'
    | false =>
      refine ⟨hv, ?_, ?_⟩
      · intro e; rw [e] at hab; cases hab
      simp only [coerceStep, hab, Bool.false_eq_true, if_false, hnl, Bool.false_or, h, hk] at hk'
      split at hk'
      · rename_i sc hsc; exact ⟨sc, hsc, memG_sound _ _ _ hk'⟩
      · cases hk'
  · rintro ⟨hv, ha, sc, hsc, hm⟩
    obtain ⟨k, hk'⟩ := memG_complete hm
    refine ⟨hv, k, ?_⟩
    have hab : v.isAbsent = false := isAbsent_eq_false ha
    simp [coerceStep, hab, h, hk, hsc, memG_succ _ _ _ hk']

theorem coerceNamed_enum (c : Cfg) (s : Schema) {n : Name} {v : J} {td : TypeDef} (h : s.typeDef? n = some td)
    (hk : td.kind = .enum) : CoerceNamed c s n v ↔ ∃ x ∈ td.values, v = .str x.name := by
  rw [coerceNamed_iff_step]
  constructor
  · rintro ⟨hv, k, hk'⟩
    cases v with
    | str y =>
      simp only [coerceStep, J.isAbsent, J.isNull, Bool.false_eq_true, if_false, Bool.false_or, h, hk,
        List.any_eq_true, beq_iff_eq] at hk'
      obtain ⟨x, hx, e⟩ := hk'
      exact ⟨x, hx, by rw [e]⟩
    | null => exact absurd rfl hv
    | _ => simp [coerceStep, J.isAbsent, J.isNull, h, hk] at hk'
  · rintro ⟨x, hx, rfl⟩
    refine ⟨by simp, 0, ?_⟩
    simp only [coerceStep, J.isAbsent, J.isNull, Bool.false_eq_true, if_false, Bool.false_or, h, hk,
      List.any_eq_true, beq_iff_eq]
    exact ⟨x, hx, rfl⟩

theorem isAbsent_obj (kvs : List (String × J)) : (J.obj kvs).isAbsent = false := rfl
theorem isNull_obj (kvs : List (String × J)) : (J.obj kvs).isNull = false := rfl

theorem coerceNamed_input (c : Cfg) (s : Schema) {n : Name} {v : J} {td : TypeDef} (h : s.typeDef? n = some td)
    (hk : td.kind = .input) :
    CoerceNamed c s n v ↔ ∃ kvs, v = .obj kvs ∧
      (∀ kv ∈ kvs, kv.2 = .absent ∨ ∃ f ∈ td.inputs, f.name = kv.1) ∧
      ∀ f ∈ td.inputs,
        (J.get kvs f.name = .absent ∧ (f.default.isSome = true ∨ f.ty.isNonNull = false)) ∨
        (J.get kvs f.name ≠ .absent ∧ CoerceP (CoerceNamed c s) f.ty (J.get kvs f.name)) := by
  rw [coerceNamed_iff_step]
  refine exists_obj_iff
    (P := fun v => v ≠ .null ∧ ∃ k, coerceStep c s (coerceVal c s k) (k + 1) (.named n {}) v = true)
    (fun hv ⟨hnn, k, hk'⟩ => by
      cases v <;> first | exact hv _ rfl | exact hnn rfl | simp [coerceStep, J.isAbsent, J.isNull, h, hk] at hk')
    fun kvs => ?_
  rw [← exists_fieldTests_iff c s td.inputs (fun f => f.name) (fun f => f.default.isSome) (fun f => f.ty) kvs]
  simp only [coerceStep, isAbsent_obj, isNull_obj, Bool.false_eq_true, if_false, Bool.false_or, h, hk,
    Bool.and_eq_true, List.all_eq_true, Bool.or_eq_true, List.any_eq_true, beq_iff_eq, isAbsent_iff, ne_eq,
    reduceCtorEq, not_false_eq_true, true_and, exists_and_left]

/-- no configured scalar INPUT text admits `null` or `undefined` (false for a scalar mapped to `unknown` / `any`:
    then "a non-null variable is never null" fails by the user's own configuration) -/
def ScalarsStrict (c : Cfg) (s : Schema) : Prop :=
  ∀ n sc, scalarType? c s.items n = some sc →
    ¬ Mem Env.empty .null (c.parseOf (sc.getType .operationInput)) ∧
    ¬ Mem Env.empty .absent (c.parseOf (sc.getType .operationInput))

theorem refMem_coerceNamed (c : Cfg) (s : Schema) (hs : ScalarsStrict c s) : ∀ (k : Nat) (n : Name) (v : J),
    refMem c s .operationInput k n v = true →
      v ≠ .null ∧ v ≠ .absent ∧ ∃ k', coerceVal c s k' (.named n {}) v = true := by
  intro k
  induction k with
  | zero => intro n v h; cases h
  | succ k ih =>
    intro n v h
    cases htd : s.typeDef? n with
    | none => rw [refMem_unknown c s _ htd] at h; cases h
    | some td =>
      cases hfit : kindFits td.kind .operationInput with
      | false => rw [refMem_unfit c s _ htd hfit] at h; cases h
      | true =>
        cases hk : td.kind with
        | scalar =>
          obtain ⟨sc, hsc, hm⟩ := (Ref_scalar c s .operationInput htd hk).1 ⟨k + 1, h⟩
          have hnn : v ≠ .null := fun e => (hs n sc hsc).1 (e ▸ hm)
          have hna : v ≠ .absent := fun e => (hs n sc hsc).2 (e ▸ hm)
          exact ⟨hnn, hna, ((coerceNamed_scalar c s htd hk).2 ⟨hnn, hna, sc, hsc, hm⟩).2⟩
        | «enum» =>
          obtain ⟨x, hx, rfl⟩ := (refMem_enum c s _ htd hk).1 h
          exact ⟨nofun, nofun, ((coerceNamed_enum c s htd hk).2 ⟨x, hx, rfl⟩).2⟩
        | input =>
          cases v with
          | obj kvs =>
            rw [refMem_input c s _ htd hk rfl, recordMem_iff, List.map_map] at h
            refine ⟨nofun, nofun, ((coerceNamed_input c s htd hk).2 ⟨kvs, rfl, fun kv hkv => ?_, fun f hf => ?_⟩).2⟩
            · refine (h.2 kv hkv).imp_right fun ⟨g, hg, hk'⟩ => ?_
              obtain ⟨f, hf, rfl⟩ := List.mem_map.1 hg
              exact ⟨f, hf, hk'⟩
            · rcases h.1 _ (List.mem_map.2 ⟨f, hf, rfl⟩) with ⟨ho, hx⟩ | hc
              · simp only [Function.comp, specOf, Bool.and_eq_true, Bool.not_eq_true'] at ho
                exact Or.inl ⟨hx, Or.inr ho.2⟩
              · have hC : Conf (fun n x => refMem c s .operationInput k n x = true) f.ty (J.get kvs f.name) :=
                  conf_sound (fun _ _ h => h) f.ty _ hc
                refine Or.inr ⟨fun e => ?_, conf_coerceP _ (CoerceNamed c s) (fun n x hx => ⟨(ih n x hx).1, (ih n x hx).2.2⟩)
                  (fun n hx => (ih n _ hx).1 rfl) f.ty _ hC⟩
                rw [e] at hC
                rcases hC with ⟨_, h'⟩ | h'
                · cases h'
                · exact confCore_absent _ (fun n hx => (ih n _ hx).2.1 rfl) _ h'
          | _ => rw [refMem_notObj c s _ htd (Or.inr hk) (by intro kvs; simp)] at h; cases h
        | object | interface | union => cases hk ▸ hfit

theorem ref_coerceNamed (c : Cfg) (s : Schema) (hs : ScalarsStrict c s) (n : Name) (v : J)
    (h : Ref c s .operationInput n v) : CoerceNamed c s n v := by
  obtain ⟨k, hk⟩ := h
  exact ⟨(refMem_coerceNamed c s hs k n v hk).1, (refMem_coerceNamed c s hs k n v hk).2.2⟩

theorem ref_not_null (c : Cfg) (s : Schema) (hs : ScalarsStrict c s) (n : Name) : ¬ Ref c s .operationInput n .null := by
  rintro ⟨k, hk⟩; exact (refMem_coerceNamed c s hs k n _ hk).1 rfl

theorem ref_not_absent (c : Cfg) (s : Schema) (hs : ScalarsStrict c s) (n : Name) :
    ¬ Ref c s .operationInput n .absent := by
  rintro ⟨k, hk⟩; exact (refMem_coerceNamed c s hs k n _ hk).2.1 rfl

theorem explicit_coercible (c : Cfg) (s : Schema) (hs : ScalarsStrict c s) (vars : List VarDef) (v : J)
    (h : Explicit c s vars v) : Coercible c s vars v :=
  (coercible_iff c s vars v).2
    (explicitP_coercibleP _ _ (ref_coerceNamed c s hs) (ref_not_null c s hs) (ref_not_absent c s hs) _ vars v
      ((explicit_iff c s vars v).1 h))

end NitroVerif.Coerce
