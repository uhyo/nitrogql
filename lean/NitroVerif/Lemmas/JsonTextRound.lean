import NitroVerif.Lemmas.JsonText
import NitroVerif.Lemmas.JsonTextNumber
import NitroVerif.Lemmas.JsonTextCases
/-!
# C12, text level — reading the writer's text gives back the tree (any lexical layer that reads the writer's strings)

`LexOk L`: the lexical layer `L` does not treat a character that begins a token of the writer's text as white space, opens a
string exactly at `"` among those characters, and reads json-writer's escaped strings back (`strBody_esc`, `js_strBody_esc`).
Both `rfc8259` and `JsLit.lex` are `LexOk`.

`value_chars` (mutual induction over the tree): for every tree `t` whose numbers are number tokens and whose member names the
lexical layer accepts (`good`), every text `rest` that cannot continue a number and every fuel `≥ cost t`,
`value L fuel (chars t ++ rest) = some (t, rest)`. `cost_le`: `cost t < 2 * length`, so `fuelFor` is enough.
-/
namespace NitroVerif.JsonText
open NitroVerif NitroVerif.PrintMap

/-- the characters that begin a value of the writer's text -/
def isStart (c : Char) : Bool :=
  c = '"' || c = '[' || c = '{' || c = 't' || c = 'f' || c = 'n' || c = '-' || isDigit c

/-- what the induction over the tree needs of a lexical layer: no character that begins a value or punctuates is white space, `"`
    and no other character that begins a value opens a string, and the string scanner reads the writer's escapes back -/
structure LexOk (L : Lex) : Prop where
  ws_start : ∀ c, isStart c = true → L.ws c = false
  ws_punct : L.ws ']' = false ∧ L.ws '}' = false ∧ L.ws ',' = false ∧ L.ws ':' = false
  quote_dq : L.quote '"' = true
  quote_start : ∀ c, isStart c = true → c ≠ '"' → L.quote c = false
  quote_close : L.quote '}' = false
  str_esc : ∀ s rest, L.str '"' (escChars s ++ '"' :: rest) = some (s, rest)

theorem rfc8259_ok : LexOk rfc8259 where
  ws_start := by
    intro c h
    simp only [isStart, isDigit, Bool.or_eq_true, decide_eq_true_eq, Bool.and_eq_true] at h
    simp only [rfc8259, decide_eq_false_iff_not]
    rintro (h' | h' | h' | h') <;> subst h' <;> simp at h
  ws_punct := by simp [rfc8259]
  quote_dq := by simp [rfc8259]
  quote_start := by intro c _ h; simp [rfc8259, h]
  quote_close := by simp [rfc8259]
  str_esc := fun s rest => strBody_esc s rest

theorem jsLit_ok : LexOk JsLit.lex where
  ws_start := by
    intro c h
    simp only [isStart, isDigit, Bool.or_eq_true, decide_eq_true_eq, Bool.and_eq_true] at h
    have hn : c.toNat = 34 ∨ c.toNat = 91 ∨ c.toNat = 123 ∨ c.toNat = 116 ∨ c.toNat = 102 ∨ c.toNat = 110 ∨
        c.toNat = 45 ∨ (48 ≤ c.toNat ∧ c.toNat ≤ 57) := by
      rcases h with ((((((h | h) | h) | h) | h) | h) | h) | h
      all_goals first | (subst h; simp) | (right; right; right; right; right; right; right; exact h)
    simp only [JsLit.lex, JsLit.lexOf, JsLit.ws, decide_eq_false_iff_not]
    omega
  ws_punct := by simp [JsLit.lex, JsLit.lexOf, JsLit.ws]
  quote_dq := by simp [JsLit.lex, JsLit.lexOf]
  quote_start := by
    intro c h hq
    simp only [isStart, isDigit, Bool.or_eq_true, decide_eq_true_eq, Bool.and_eq_true] at h
    simp only [JsLit.lex, JsLit.lexOf, decide_eq_false_iff_not]
    rintro (h' | h')
    · exact hq h'
    · subst h'; simp at h
  quote_close := by simp [JsLit.lex, JsLit.lexOf]
  str_esc := fun s rest => js_strBody_esc s rest

/-- `r` is ONE number token of RFC 8259 §6 -/
def numTok (r : List Char) : Bool := decide (number r = some (r, []))

mutual
/-- every number of the tree is a number token, every member name is accepted by `key` -/
def good (key : List Char → Bool) : Json → Bool
  | .num r => numTok r.toList
  | .arr xs => goodList key xs
  | .obj kvs => goodFields key kvs
  | _ => true
def goodList (key : List Char → Bool) : List Json → Bool
  | [] => true
  | x :: xs => good key x && goodList key xs
def goodFields (key : List Char → Bool) : List (String × Json) → Bool
  | [] => true
  | (k, v) :: r => key k.toList && good key v && goodFields key r
end

mutual
/-- fuel `value` needs for the text of a tree: one unit for the value itself; `elements` / `members` spend one unit per
    element before they call `value` on it, hence the `+ 1` per element. `cost_le` bounds it by twice the length of the text. -/
def cost : Json → Nat
  | .arr xs => costList xs + 1
  | .obj kvs => costFields kvs + 1
  | _ => 1
def costList : List Json → Nat
  | [] => 0
  | x :: xs => cost x + costList xs + 1
def costFields : List (String × Json) → Nat
  | [] => 0
  | (_, v) :: r => cost v + costFields r + 1
end

/-- a number token begins with `-` or a digit: a start character that opens no string, array, object or keyword -/
theorem number_start {s raw r : List Char} (h : number s = some (raw, r)) :
    ∃ c cs, s = c :: cs ∧ isStart c = true ∧ (c ≠ '"' ∧ c ≠ '[' ∧ c ≠ '{') ∧ c ≠ 't' ∧ c ≠ 'f' ∧ c ≠ 'n' := by
  obtain ⟨c, cs, hs, hc⟩ := number_head h
  refine ⟨c, cs, hs, ?_⟩
  rcases hc with rfl | hc
  · decide
  · simp only [isStart, hc, Bool.or_true, true_and]
    refine ⟨⟨?_, ?_, ?_⟩, ?_, ?_, ?_⟩ <;> (rintro rfl; simp [isDigit] at hc)

theorem chars_head (key : List Char → Bool) (t : Json) (h : good key t = true) :
    ∃ c r, chars t = c :: r ∧ isStart c = true := by
  cases t with
  | null => exact ⟨'n', _, rfl, by decide⟩
  | bool b => cases b
              · exact ⟨'f', _, rfl, by decide⟩
              · exact ⟨'t', _, rfl, by decide⟩
  | num raw =>
    simp only [good, numTok, decide_eq_true_eq] at h
    obtain ⟨c, cs, hs, hc, _⟩ := number_start h
    exact ⟨c, cs, by simp [chars, hs], hc⟩
  | str s => exact ⟨'"', _, rfl, by decide⟩
  | arr xs => exact ⟨'[', _, rfl, by decide⟩
  | obj kvs => exact ⟨'{', _, rfl, by decide⟩

theorem start_ne {c : Char} (h : isStart c = true) : c ≠ ']' ∧ c ≠ '}' ∧ c ≠ ',' ∧ c ≠ ':' := by
  simp only [isStart, isDigit, Bool.or_eq_true, decide_eq_true_eq, Bool.and_eq_true] at h
  refine ⟨?_, ?_, ?_, ?_⟩ <;> (intro e; subst e; simp at h)

theorem skipWs_cons {ws : Char → Bool} {c : Char} (h : ws c = false) (r : List Char) : skipWs ws (c :: r) = c :: r := by
  simp [skipWs, h]

/-! one step of `value` / `elements` / `members`: the case views of `Lemmas/JsonTextCases.lean`, read from right to left -/

theorem strChars_append (s : String) (rest : List Char) :
    strChars s ++ rest = '"' :: (escChars s.toList ++ '"' :: rest) := by simp [strChars]

section
variable {L : Lex} (hL : LexOk L)
include hL

theorem skipWs_start {c : Char} (h : isStart c = true) (r : List Char) : skipWs L.ws (c :: r) = c :: r :=
  skipWs_cons (hL.ws_start c h) r

theorem value_str (s : String) (f : Nat) (rest : List Char) :
    value L (f + 1) (strChars s ++ rest) = some (.str s, rest) := by
  rw [strChars_append]
  exact value_succ_iff.mpr (.str '"' _ s.toList (skipWs_start hL (by decide) _) hL.quote_dq (hL.str_esc _ _)
    (by rw [String.ofList_toList]))

theorem value_leaf {c : Char} {r : List Char} {t : Json} {rest : List Char} (hc : isStart c = true)
    (hne : c ≠ '"' ∧ c ≠ '[' ∧ c ≠ '{') (hl : leaf c r = some (t, rest)) (f : Nat) :
    value L (f + 1) (c :: r) = some (t, rest) :=
  value_succ_iff.mpr (.leaf c r (skipWs_start hL hc r) (hL.quote_start c hc hne.1) hne.2.1 hne.2.2 hl)

theorem value_num (raw : String) (hn : numTok raw.toList = true) (f : Nat) (rest : List Char) (hd : Delim rest) :
    value L (f + 1) (raw.toList ++ rest) = some (.num raw, rest) := by
  simp only [numTok, decide_eq_true_eq] at hn
  have hnum := number_append rest hd hn
  obtain ⟨c, cs, hs, hc, hne, hkw⟩ := number_start hnum
  rw [hs] at hnum ⊢
  exact value_leaf hL hc hne (by simp [leaf, hkw, hnum, String.ofList_toList]) f

theorem value_arr_nil (f : Nat) (rest : List Char) : value L (f + 1) ('[' :: ']' :: rest) = some (.arr [], rest) :=
  value_succ_iff.mpr (.arrNil _ (skipWs_start hL (by decide) _) (hL.quote_start _ (by decide) (by decide))
    (skipWs_cons hL.ws_punct.1 _) rfl)

theorem value_arr_cons (f : Nat) (c : Char) (r : List Char) (hc : isStart c = true) (xs : List Json) (r' : List Char)
    (he : elements L f (c :: r) = some (xs, r')) : value L (f + 1) ('[' :: c :: r) = some (.arr xs, r') :=
  value_succ_iff.mpr (.arr _ c r xs (skipWs_start hL (by decide) _) (hL.quote_start _ (by decide) (by decide))
    (skipWs_start hL hc r) (start_ne hc).1 he rfl)

theorem value_obj_nil (f : Nat) (rest : List Char) : value L (f + 1) ('{' :: '}' :: rest) = some (.obj [], rest) :=
  value_succ_iff.mpr (.objNil _ (skipWs_start hL (by decide) _) (hL.quote_start _ (by decide) (by decide))
    (skipWs_cons hL.ws_punct.2.1 _) rfl)

theorem value_obj_cons (f : Nat) (r : List Char) (kvs : List (String × Json)) (r' : List Char)
    (hm : members L f ('"' :: r) = some (kvs, r')) : value L (f + 1) ('{' :: '"' :: r) = some (.obj kvs, r') :=
  value_succ_iff.mpr (.obj _ '"' r kvs (skipWs_start hL (by decide) _) (hL.quote_start _ (by decide) (by decide))
    (skipWs_start hL (by decide) r) (by decide) hm rfl)

theorem elements_last (f : Nat) (s : List Char) (x : Json) (rest : List Char)
    (hv : value L f s = some (x, ']' :: rest)) : elements L (f + 1) s = some ([x], rest) :=
  elements_succ_iff.mpr (.last x _ hv (skipWs_cons hL.ws_punct.1 _) rfl)

theorem elements_more (f : Nat) (s : List Char) (x : Json) (xs : List Json) (r rest : List Char)
    (hv : value L f s = some (x, ',' :: r)) (he : elements L f r = some (xs, rest)) :
    elements L (f + 1) s = some (x :: xs, rest) :=
  elements_succ_iff.mpr (.more x _ r xs hv (skipWs_cons hL.ws_punct.2.2.1 _) he rfl)

/-- `"k":v` followed by `d`, a `}` or a `,` with more members -/
theorem members_step (f : Nat) (k : String) (hk : L.key k.toList = true) (s : List Char) (v : Json) (d : Char)
    (hd : L.ws d = false) (r4 : List Char) (kvs : List (String × Json)) (r : List Char)
    (hv : value L f s = some (v, d :: r4))
    (h : d = '}' ∧ kvs = [(k, v)] ∧ r = r4 ∨ d = ',' ∧ ∃ rest, members L f r4 = some (rest, r) ∧ kvs = (k, v) :: rest) :
    members L (f + 1) (strChars k ++ ':' :: s) = some (kvs, r) := by
  rw [strChars_append]
  exact members_succ_iff.mpr (.mk '"' _ k.toList _ s v _ d r4 (skipWs_start hL (by decide) _) hL.quote_dq
    (hL.str_esc _ _) hk (skipWs_cons hL.ws_punct.2.2.2 _) hv (skipWs_cons hd _) (by rw [String.ofList_toList]; exact h))

end

theorem delim_comma (r : List Char) : Delim (',' :: r) := delim_cons (by decide)
theorem delim_rbracket (r : List Char) : Delim (']' :: r) := delim_cons (by decide)
theorem delim_rbrace (r : List Char) : Delim ('}' :: r) := delim_cons (by decide)

theorem cost_pos (t : Json) : 1 ≤ cost t := by cases t <;> simp [cost]

mutual
theorem value_chars {L : Lex} (hL : LexOk L) : (t : Json) → good L.key t = true → ∀ (f : Nat) (rest : List Char),
    Delim rest → cost t ≤ f → value L f (chars t ++ rest) = some (t, rest)
  | t, _, 0, _, _, hf => absurd (cost_pos t) (by omega)
  | .null, _, f + 1, rest, _, _ => value_leaf hL (c := 'n') (by decide) (by decide) rfl f
  | .bool true, _, f + 1, rest, _, _ => value_leaf hL (c := 't') (by decide) (by decide) rfl f
  | .bool false, _, f + 1, rest, _, _ => value_leaf hL (c := 'f') (by decide) (by decide) rfl f
  | .num raw, h, f + 1, rest, hd, _ => value_num hL raw (by simpa only [good] using h) f rest hd
  | .str s, _, f + 1, rest, _, _ => value_str hL s f rest
  | .arr [], _, f + 1, rest, _, _ => by simpa [chars, charsList] using value_arr_nil hL f rest
  | .arr (x :: xs), h, f + 1, rest, _, hf => by
    simp only [good] at h
    have he := elements_chars hL (x :: xs) (by simp) h f rest (by simp only [cost] at hf; omega)
    have hx : good L.key x = true := by simp only [goodList, Bool.and_eq_true] at h; exact h.1
    obtain ⟨c, r, hc, hst⟩ := chars_head L.key x hx
    have e : chars (.arr (x :: xs)) ++ rest = '[' :: c :: (r ++ charsList xs false ++ ']' :: rest) := by
      simp [chars, charsList, hc]
    have e2 : charsList (x :: xs) true ++ ']' :: rest = c :: (r ++ charsList xs false ++ ']' :: rest) := by
      simp [charsList, hc]
    rw [e2] at he
    rw [e]
    exact value_arr_cons hL f c _ hst _ _ he
  | .obj [], _, f + 1, rest, _, _ => by simpa [chars, charsFields] using value_obj_nil hL f rest
  | .obj ((k, v) :: kvs), h, f + 1, rest, _, hf => by
    simp only [good] at h
    have hm := members_chars hL ((k, v) :: kvs) (by simp) h f rest (by simp only [cost] at hf; omega)
    have e2 : charsFields ((k, v) :: kvs) true ++ '}' :: rest =
        '"' :: (escChars k.toList ++ '"' :: ':' :: (chars v ++ charsFields kvs false ++ '}' :: rest)) := by
      simp [charsFields, strChars]
    have e : chars (.obj ((k, v) :: kvs)) ++ rest = '{' :: (charsFields ((k, v) :: kvs) true ++ '}' :: rest) := by
      simp [chars]
    rw [e2] at hm
    rw [e, e2]
    exact value_obj_cons hL f _ _ _ hm
theorem elements_chars {L : Lex} (hL : LexOk L) : (xs : List Json) → xs ≠ [] → goodList L.key xs = true →
    ∀ (f : Nat) (rest : List Char), costList xs ≤ f →
      elements L f (charsList xs true ++ ']' :: rest) = some (xs, rest)
  | [], hne, _, _, _, _ => absurd rfl hne
  | _ :: _, _, _, 0, _, hf => by simp [costList] at hf
  | [x], _, h, f + 1, rest, hf => by
    simp only [goodList, Bool.and_eq_true] at h
    have hv := value_chars hL x h.1 f (']' :: rest) (delim_rbracket rest) (by simp only [costList] at hf; omega)
    simpa [charsList] using elements_last hL f _ x rest hv
  | x :: y :: ys, _, h, f + 1, rest, hf => by
    simp only [goodList, Bool.and_eq_true] at h
    have hv := value_chars hL x h.1 f (',' :: (charsList (y :: ys) true ++ ']' :: rest)) (delim_comma _)
      (by simp only [costList] at hf; omega)
    have he := elements_chars hL (y :: ys) (by simp) (by simp only [goodList, Bool.and_eq_true]; exact h.2) f rest
      (by simp only [costList] at hf ⊢; omega)
    have e : charsList (x :: y :: ys) true ++ ']' :: rest =
        chars x ++ ',' :: (charsList (y :: ys) true ++ ']' :: rest) := by simp [charsList]
    rw [e]
    exact elements_more hL f _ x (y :: ys) _ rest hv he
theorem members_chars {L : Lex} (hL : LexOk L) : (kvs : List (String × Json)) → kvs ≠ [] →
    goodFields L.key kvs = true → ∀ (f : Nat) (rest : List Char), costFields kvs ≤ f →
      members L f (charsFields kvs true ++ '}' :: rest) = some (kvs, rest)
  | [], hne, _, _, _, _ => absurd rfl hne
  | (_, _) :: _, _, _, 0, _, hf => by simp [costFields] at hf
  | [(k, v)], _, h, f + 1, rest, hf => by
    simp only [goodFields, Bool.and_eq_true] at h
    have hv := value_chars hL v h.1.2 f ('}' :: rest) (delim_rbrace rest) (by simp only [costFields] at hf; omega)
    simpa [charsFields] using members_step hL f k h.1.1 _ v _ hL.ws_punct.2.1 rest _ _ hv (.inl ⟨rfl, rfl, rfl⟩)
  | (k, v) :: (k', v') :: r, _, h, f + 1, rest, hf => by
    simp only [goodFields, Bool.and_eq_true] at h
    have hv := value_chars hL v h.1.2 f (',' :: (charsFields ((k', v') :: r) true ++ '}' :: rest)) (delim_comma _)
      (by simp only [costFields] at hf; omega)
    have hm := members_chars hL ((k', v') :: r) (by simp)
      (by simp only [goodFields, Bool.and_eq_true]; exact ⟨h.2.1, h.2.2⟩) f rest
      (by simp only [costFields] at hf ⊢; omega)
    have e : charsFields ((k, v) :: (k', v') :: r) true ++ '}' :: rest =
        strChars k ++ ':' :: (chars v ++ ',' :: (charsFields ((k', v') :: r) true ++ '}' :: rest)) := by
      simp [charsFields]
    rw [e]
    exact members_step hL f k h.1.1 _ v _ hL.ws_punct.2.2.1 _ _ rest hv (.inr ⟨rfl, _, hm, rfl⟩)
end

theorem two_le_length_strChars (s : String) : 2 ≤ (strChars s).length := by simp [strChars]

mutual
theorem cost_le (key : List Char → Bool) : (t : Json) → good key t = true → cost t + 1 ≤ 2 * (chars t).length
  | .null, _ => by simp [cost, chars]
  | .bool b, _ => by cases b <;> simp [cost, chars]
  | .num raw, h => by
    simp only [good, numTok, decide_eq_true_eq] at h
    obtain ⟨c, cs, hs, _⟩ := number_head h
    simp only [cost, chars, hs, List.length_cons]
    omega
  | .str s, _ => by have := two_le_length_strChars s; simp only [cost, chars]; omega
  | .arr xs, h => by
    simp only [good] at h
    have := costList_le key xs true h
    simp only [cost, chars, List.length_cons, List.length_append, List.length_nil]
    omega
  | .obj kvs, h => by
    simp only [good] at h
    have := costFields_le key kvs true h
    simp only [cost, chars, List.length_cons, List.length_append, List.length_nil]
    omega
theorem costList_le (key : List Char → Bool) : (xs : List Json) → (first : Bool) → goodList key xs = true →
    costList xs ≤ 2 * (charsList xs first).length
  | [], _, _ => by simp [costList]
  | x :: xs, first, h => by
    simp only [goodList, Bool.and_eq_true] at h
    have h1 := cost_le key x h.1
    have h2 := costList_le key xs false h.2
    simp only [costList, charsList, List.length_append]
    omega
theorem costFields_le (key : List Char → Bool) : (kvs : List (String × Json)) → (first : Bool) →
    goodFields key kvs = true → costFields kvs ≤ 2 * (charsFields kvs first).length
  | [], _, _ => by simp [costFields]
  | (k, v) :: r, first, h => by
    simp only [goodFields, Bool.and_eq_true] at h
    have h1 := cost_le key v h.1.2
    have h2 := costFields_le key r false h.2
    simp only [costFields, charsFields, List.length_append, List.length_cons]
    omega
end

theorem value_chars_fuelFor {L : Lex} (hL : LexOk L) (t : Json) (h : good L.key t = true) (rest : List Char)
    (hd : Delim rest) : value L (fuelFor (chars t ++ rest)) (chars t ++ rest) = some (t, rest) := by
  apply value_chars hL t h _ rest hd
  have := cost_le L.key t h
  simp only [fuelFor, List.length_append]
  omega

theorem parseWith_eq_some {L : Lex} {s : List Char} {t : Json} :
    parseWith L s = some t ↔ ∃ r, value L (fuelFor s) s = some (t, r) ∧ skipWs L.ws r = [] := by
  unfold parseWith
  cases hv : value L (fuelFor s) s with
  | none => simp
  | some p =>
    obtain ⟨t', r⟩ := p
    cases he : (skipWs L.ws r).isEmpty with
    | true =>
      simp only [he, if_true, Option.some.injEq, Prod.mk.injEq]
      exact ⟨fun e => ⟨r, ⟨e, rfl⟩, List.isEmpty_iff.mp he⟩, fun ⟨_, ⟨e, _⟩, _⟩ => e⟩
    | false =>
      simp only [he, Bool.false_eq_true, if_false, reduceCtorEq, false_iff, Option.some.injEq, Prod.mk.injEq]
      rintro ⟨r', ⟨_, e⟩, h⟩
      rw [e, h] at he; cases he

theorem parseWith_chars {L : Lex} (hL : LexOk L) (t : Json) (h : good L.key t = true) :
    parseWith L (chars t) = some t := by
  have := value_chars_fuelFor hL t h [] delim_nil
  rw [List.append_nil] at this
  exact parseWith_eq_some.mpr ⟨[], this, rfl⟩

end NitroVerif.JsonText
