/-
The type-system documents returned by the round trip differ from the given ones only in positions:
`eraseTsDoc (wpTsDoc …) = eraseTsDoc doc`, with the position-erasing functions of `Spec/GqlDocTokens.lean`, for documents
whose type definitions carry only the components of their kind.
-/
import NitroVerif.Lemmas.ParseDocTsDoc
import NitroVerif.Lemmas.ParseDocErase
import NitroVerif.Spec.GqlDocTokens
namespace NitroVerif.DocParse
open NitroVerif.Peg NitroVerif.Gen NitroVerif.Build NitroVerif.TypeParse NitroVerif.StringParse
open NitroVerif.Gql NitroVerif.ValueParse NitroVerif.GqlTokens

theorem tsErase_withPosD (τ : Trivia) (inp : List Char) (q : Nat) (d : Directive) :
    eraseDirective (withPosD τ inp q d) = eraseDirective d := by
  simp [eraseDirective, withPosD, withPosFs_erase]

theorem tsErase_wpDirs (τ : Trivia) (inp : List Char) (sep : Bool) (p : Nat) (ds : List Directive) :
    eraseDirs (wpDirs τ inp sep p ds) = eraseDirs ds :=
  mapItems_map _ _ _ _ eraseDirective eraseDirective (fun _ q d => tsErase_withPosD τ inp q d) ds p

theorem tsErase_wpIVD (τ : Trivia) (inp : List Char) (sep : Bool) (p : Nat) (v : InputValueDef) :
    eraseIV (wpIVD τ inp sep p v) = eraseIV v := by
  cases hd : v.default with
  | none => simp [eraseIV, wpIVD, erase_wpType, tsErase_wpDirs, hd, wpOptDefault]
  | some d => simp [eraseIV, wpIVD, erase_wpType, tsErase_wpDirs, hd, wpOptDefault, withPosV_erase]

theorem tsErase_wpIVDs (τ : Trivia) (inp : List Char) (p : Nat) (vs : List InputValueDef) :
    (wpIVDs τ inp p vs).map eraseIV = vs.map eraseIV :=
  mapItems_map _ _ _ _ eraseIV eraseIV (fun s q v => tsErase_wpIVD τ inp s q v) vs p

theorem tsErase_wpFieldDef (τ : Trivia) (inp : List Char) (sep : Bool) (p : Nat) (f : FieldDef) :
    eraseFieldDef (wpFieldDef τ inp sep p f) = eraseFieldDef f := by
  simp [eraseFieldDef, wpFieldDef, erase_wpType, tsErase_wpDirs, tsErase_wpIVDs]

theorem tsErase_wpFieldDefs (τ : Trivia) (inp : List Char) (p : Nat) (fs : List FieldDef) :
    (wpFieldDefs τ inp p fs).map eraseFieldDef = fs.map eraseFieldDef :=
  mapItems_map _ _ _ _ eraseFieldDef eraseFieldDef (fun s q v => tsErase_wpFieldDef τ inp s q v) fs p

theorem tsErase_wpEnumVal (τ : Trivia) (inp : List Char) (sep : Bool) (p : Nat) (v : EnumValueDef) :
    eraseEnumValue (wpEnumVal τ inp sep p v) = eraseEnumValue v := by
  simp [eraseEnumValue, wpEnumVal, tsErase_wpDirs]

theorem tsErase_wpEnumVals (τ : Trivia) (inp : List Char) (p : Nat) (vs : List EnumValueDef) :
    (wpEnumVals τ inp p vs).map eraseEnumValue = vs.map eraseEnumValue :=
  mapItems_map _ _ _ _ eraseEnumValue eraseEnumValue (fun s q v => tsErase_wpEnumVal τ inp s q v) vs p

theorem tsErase_wpNames (τ : Trivia) (inp : List Char) (c : Char) (sep : Bool) (p : Nat) (ns : List (Name × Pos)) :
    eraseNames (wpNames τ inp c sep p ns) = eraseNames ns := by
  cases ns with
  | nil => rfl
  | cons n rest =>
    simp only [wpNames, eraseNames, List.map_cons]
    exact congrArg _ (mapItems_map (riSepName τ c) false sep
      (fun _ q (m : Name × Pos) => (m.1, posAt inp (q + (tk τ false q [c]).length)))
      (fun x : Name × Pos => (x.1, Pos.none)) (fun x : Name × Pos => (x.1, Pos.none)) (fun _ _ _ => rfl) rest _)

/-- a type definition carries only the components of its kind -/
def KindNormal (t : TypeDef) : Prop :=
  match t.kind with
  | .scalar => t.implements = [] ∧ t.fields = [] ∧ t.members = [] ∧ t.values = [] ∧ t.inputs = []
  | .object => t.members = [] ∧ t.values = [] ∧ t.inputs = []
  | .interface => t.members = [] ∧ t.values = [] ∧ t.inputs = []
  | .union => t.implements = [] ∧ t.fields = [] ∧ t.values = [] ∧ t.inputs = []
  | .enum => t.implements = [] ∧ t.fields = [] ∧ t.members = [] ∧ t.inputs = []
  | .input => t.implements = [] ∧ t.fields = [] ∧ t.members = [] ∧ t.values = []

theorem tsErase_wpTypeDefAny (τ : Trivia) (inp : List Char) (sep : Bool) (p : Nat) (t : TypeDef) (hn : KindNormal t) :
    eraseTypeDef (wpTypeDefAny τ inp sep p t) = eraseTypeDef t := by
  simp only [KindNormal] at hn
  simp only [wpTypeDefAny]
  cases hk : t.kind <;> simp only [hk] at hn ⊢ <;>
    simp [eraseTypeDef, wpScalarDef, wpObjDef, wpUnionDef, wpEnumDef, wpInputDef, tsErase_wpDirs, tsErase_wpNames,
      tsErase_wpFieldDefs, tsErase_wpEnumVals, tsErase_wpIVDs, hk, hn]

theorem tsErase_wpTypeExtAny (τ : Trivia) (inp : List Char) (sep : Bool) (p : Nat) (t : TypeDef) (hn : KindNormal t)
    (hdesc : t.desc = none) : eraseTypeDef (wpTypeExtAny τ inp sep p t) = eraseTypeDef t := by
  simp only [KindNormal] at hn
  simp only [wpTypeExtAny]
  cases hk : t.kind <;> simp only [hk] at hn ⊢
  case union =>
    -- a union extension is written with its members, or with its directives only
    simp only [wpUnionExt]
    split
    · rename_i hm
      have hm' : t.members = [] := by simpa using hm
      simp [eraseTypeDef, wpUnionExtD, tsErase_wpDirs, hk, hn, hdesc, hm', eraseNames]
    · simp [eraseTypeDef, wpUnionExtM, tsErase_wpDirs, tsErase_wpNames, hk, hn, hdesc]
  all_goals
    simp [eraseTypeDef, wpScalarExt, wpObjExt, wpEnumExt, wpInputExt, tsErase_wpDirs, tsErase_wpNames, tsErase_wpFieldDefs,
      tsErase_wpEnumVals, tsErase_wpIVDs, hk, hn, hdesc]

theorem tsErase_wpRoots (τ : Trivia) (inp : List Char) (p : Nat) (rs : List (OpKind × Name × Pos)) :
    (wpRoots τ inp p rs).map eraseRoot = rs.map eraseRoot :=
  mapItems_map (rRoot τ) true false (wpRoot τ inp) eraseRoot eraseRoot (fun _ _ _ => rfl) rs p

/-- the items that carry only what their rendering shows: a type definition or extension only the components of its kind;
    extensions no description -/
def NormalItem : TsItem → Prop
  | .typeDef t => KindNormal t
  | .typeExt t => KindNormal t ∧ t.desc = none
  | .schemaExt s => s.desc = none
  | _ => True

theorem tsErase_wpTsItem (τ : Trivia) (inp : List Char) (sep : Bool) (p : Nat) (it : TsItem) (hn : NormalItem it) :
    eraseTsItem (wpTsItem τ inp sep p it) = eraseTsItem it := by
  cases it with
  | typeDef t => simp [wpTsItem, eraseTsItem, tsErase_wpTypeDefAny τ inp sep p t hn]
  | schemaDef s => simp [wpTsItem, eraseTsItem, eraseSchemaDef, wpSchemaDef, tsErase_wpDirs, tsErase_wpRoots]
  | directiveDef d => simp [wpTsItem, eraseTsItem, eraseDirectiveDef, wpDirectiveDef, tsErase_wpIVDs]
  | schemaExt s =>
    have hd : s.desc = none := hn
    simp [wpTsItem, eraseTsItem, eraseSchemaDef, wpSchemaExt, tsErase_wpDirs, tsErase_wpRoots, hd]
  | typeExt t => simp [wpTsItem, eraseTsItem, tsErase_wpTypeExtAny τ inp sep p t hn.1 hn.2]

theorem tsErase_wpTsDoc (τ : Trivia) (inp : List Char) (doc : List TsItem) (hn : ∀ d ∈ doc, NormalItem d) :
    eraseTsDoc (wpTsDoc τ inp doc) = eraseTsDoc doc :=
  mapItems_map_mem _ _ _ _ eraseTsItem eraseTsItem doc _ (fun d hd s q => tsErase_wpTsItem τ inp s q d (hn d hd))

end NitroVerif.DocParse
