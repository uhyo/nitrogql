/-
C08 (stages after parsing): the schema checker establishes `ifaceOkB`.

`ifaceOkB S` (Lemmas/StagesGenA.lean) is the condition on the schema under which the operation checker's verdict (fields
looked up on the STATIC parent type) carries over to the operation type printer (fields looked up on every POSSIBLE
OBJECT TYPE).  Here: a resolved document with unique type names that `check_type_system_document` accepts satisfies it —
`check_valid_implementation` found every interface field on the implementing object (`InterfaceFieldNotImplemented`), with
a type that `is_subtype` did not refute (`FieldTypeMisMatchWithInterface`; = the spec's covariance by C05's
`isSubtype_spec`), and every interface of an implemented interface is declared (`InterfaceNotImplemented`), which makes
the possible object types of a sub-interface possible types of the super-interface.
-/
import NitroVerif.Lemmas.StagesGenA
import NitroVerif.Lemmas.CheckTs
import NitroVerif.Lemmas.CheckTsSpecBridge
namespace NitroVerif.Stages
open NitroVerif.Gql NitroVerif.CheckTs NitroVerif.ValidTs NitroVerif.OpTypes NitroVerif.OpTypes.Ref

theorem nodup_of_noDup : ∀ {l : List Name}, noDup l = true → l.Nodup :=
  fun {l} h => (noDup_iff_nodup l).mp h

theorem subTypeSpec_of_validImpl (S : Schema) (a b : GType) (h : validImplFieldType S a b = true) :
    isSubTypeSpec S a.unwrapped b.unwrapped = true := by
  fun_induction validImplFieldType S a b with
  | case1 a b ih => exact ih h
  | case2 a b _ ih => exact ih h
  | case3 a _ b _ ih => exact ih h
  | case4 => exact h
  | case5 => cases h

section
variable {T : TsDoc} (hu : uniqueTypeNames T = true) (h : checkSchema T = [])
include hu h

theorem implemented_facts {od : TypeDef} (hod : od ∈ ValidTs.typeDefs T) (hk : od.kind = .object) {i : Name × Pos}
    (hi : i ∈ od.implements) : ∃ idef, Schema.typeDef? ⟨T⟩ i.1 = some idef ∧ idef.kind = .interface ∧
      checkValidImpl ⟨T⟩ od.namePos od.fields od.implements idef = [] := by
  have hi' : i ∈ implementsOfT od := mem_implementsOfT.mpr ⟨Or.inl hk, hi⟩
  obtain ⟨_, idef, hl, hv⟩ := implementsOfT_facts h hod i hi'
  exact ⟨idef, lastTypeDef_eq_typeDef hu _ ▸ hl, hv⟩

theorem implements_trans {t sd : TypeDef} (ht : t ∈ ValidTs.typeDefs T) (hto : t.kind = .object) {x y : Name}
    (hsd : Schema.typeDef? ⟨T⟩ x = some sd) (htx : t.implements.any (·.1 == x) = true)
    (hsy : sd.implements.any (·.1 == y) = true) : t.implements.any (·.1 == y) = true := by
  obtain ⟨i, hi, hix⟩ := List.any_eq_true.mp htx
  obtain ⟨j, hj, hjy⟩ := List.any_eq_true.mp hsy
  obtain ⟨idef, hl, _, hv⟩ := implemented_facts hu h ht hto hi
  rw [beq_iff_eq.mp hix, hsd] at hl
  cases hl
  exact beq_iff_eq.mp hjy ▸ (checkValidImpl_nil_iff.mp hv).1 j hj

theorem subOk_of_subTypeSpec {x y : Name} (hs : isSubTypeSpec ⟨T⟩ x y = true) : subOkB ⟨T⟩ x y = true := by
  unfold subOkB
  by_cases hxy : x = y
  · rw [beq_iff_eq.mpr hxy]; rfl
  · unfold isSubTypeSpec at hs
    rw [beq_eq_false_iff_ne.mpr hxy, Bool.false_or] at hs
    cases hsd : Schema.typeDef? ⟨T⟩ x with
    | none => simp [hsd] at hs
    | some sd =>
      cases hpd : Schema.typeDef? ⟨T⟩ y with
      | none => simp [hsd, hpd] at hs
      | some pd =>
        simp only [hsd, hpd, Bool.or_eq_true, Bool.and_eq_true, beq_iff_eq] at hs
        rw [Bool.or_eq_true, Bool.and_eq_true, List.all_eq_true]
        right
        rcases hs with ⟨⟨hk, hpk⟩, himp⟩ | ⟨⟨hk, hpk⟩, hmem⟩
        · -- `sd` (object or interface) implements the interface `pd`
          refine ⟨parentsOk_of_kind hsd hk, fun o' ho' => ?_⟩
          rw [List.contains_iff_mem, CheckOp.possibleTypes_interface hpd hpk]
          rcases hk with hk | hk
          · rw [CheckOp.possibleTypes_object hsd hk, List.mem_singleton] at ho'
            exact ho' ▸ CheckOp.mem_objectImplementers (Schema.typeDef?_mem hsd) hk himp
          · rw [CheckOp.possibleTypes_interface hsd hk] at ho'
            obtain ⟨t, ht, hto, htx, rfl⟩ := CheckOp.of_mem_objectImplementers ho'
            exact CheckOp.mem_objectImplementers ht hto (implements_trans hu h ht hto hsd htx himp)
        · -- `sd` is an object type, member of the union `pd`
          refine ⟨parentsOk_of_kind hsd (Or.inl hk), fun o' ho' => ?_⟩
          rw [CheckOp.possibleTypes_object hsd hk, List.mem_singleton] at ho'
          rw [List.contains_iff_mem, CheckOp.possibleTypes_union hpd hpk, ho']
          obtain ⟨m, hm, hmx⟩ := List.any_eq_true.mp hmem
          exact List.mem_map.mpr ⟨m, hm, (beq_iff_eq.mp hmx).trans (Schema.typeDef?_name hsd).symm⟩

theorem ifaceOk_of_accepted : ifaceOkB ⟨T⟩ = true := by
  unfold ifaceOkB
  simp only [List.all_eq_true, Bool.or_eq_true, bne_iff_ne, ne_eq, ← Decidable.imp_iff_not_or]
  intro od hod hk i hi
  obtain ⟨idef, hl, hik, hv⟩ := implemented_facts hu h hod hk hi
  rw [hl]
  simp only [List.all_eq_true]
  intro f hf
  obtain ⟨g, hg, _, _, hsub⟩ := (checkValidImpl_nil_iff.mp hv).2 f hf
  rw [hg]
  have hgm : g ∈ fieldsOfT od := mem_fieldsOfT.mpr ⟨Or.inl hk, List.mem_of_find?_eq_some hg⟩
  have hfm : f ∈ fieldsOfT idef := mem_fieldsOfT.mpr ⟨Or.inr hik, hf⟩
  have hkn := knownTypeRefs_of_accepted h
  simp only [knownTypeRefs, Bool.and_eq_true, List.all_eq_true] at hkn
  rw [isSubtype_spec (implementsOk_of_accepted hu h) g.ty f.ty ((hkn.1 od hod).1.1 g hgm)
    ((hkn.1 idef (Schema.typeDef?_mem hl)).1.1 f hfm)] at hsub
  refine subOk_of_subTypeSpec hu h (subTypeSpec_of_validImpl ⟨T⟩ g.ty f.ty ?_)
  cases hvv : validImplFieldType ⟨T⟩ g.ty f.ty with
  | true => rfl
  | false => rw [hvv] at hsub; exact absurd rfl hsub

/-- **the schema checker establishes `schemaOkB`** for a resolved document with unique type names in which no type
    declares a field named `__typename` (the checker reports `__`-names on the fields of object and interface types) -/
theorem schemaOk_of_accepted (hnr : Valid.noReservedFieldsB ⟨T⟩ = true) : schemaOkB ⟨T⟩ = true := by
  refine schemaOkB_iff.mpr ⟨⟨(noDup_eq_nodupB _).symm.trans hu, hnr⟩, fun t ht hk m hm => ?_⟩
  obtain ⟨d, hd, hdk⟩ := unionMember_object_of_accepted h hu ht (mem_membersOfT.mpr ⟨hk, hm⟩)
  rw [Schema.kindOf_of_typeDef hd, hdk]
  rfl

end
end NitroVerif.Stages
