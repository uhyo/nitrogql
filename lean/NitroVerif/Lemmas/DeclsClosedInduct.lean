/-
THE CLOSED FORM of C10, as a lemma over any declaration table that hosts the generated schema declaration file:
inside the namespace of target `t`, the alias of a schema type `T` (usable in the direction of `t`) admits exactly
`Ref_t(T)`. Kind by kind, then the induction on values.
-/
import NitroVerif.Lemmas.DeclsClosedExact
namespace NitroVerif.SchemaDecls
open NitroVerif.Gql NitroVerif.Ts NitroVerif.DeclCfg NitroVerif.RefTypes

theorem isInput_of_isOutput {t : Target} (h : t.isOutput = true) : t.isInput = false := by simp [Target.isInput, h]
theorem isOutput_of_isInput {t : Target} (h : t.isInput = true) : t.isOutput = false := by
  simpa [Target.isInput] using h

@[simp] theorem Ctx.new_target (c : Cfg) (doc : TsDoc) (t : Target) : (Ctx.new c doc t).target = t := rfl
@[simp] theorem Ctx.new_cfg (c : Cfg) (doc : TsDoc) (t : Target) : (Ctx.new c doc t).cfg = c := rfl
@[simp] theorem Ctx.new_scalarTypes (c : Cfg) (doc : TsDoc) (t : Target) :
    (Ctx.new c doc t).scalarTypes = DeclCfg.scalarTypes c doc := rfl
@[simp] theorem Ctx.new_schema (c : Cfg) (doc : TsDoc) (t : Target) : (Ctx.new c doc t).schema = ⟨doc⟩ := rfl

/-- in `E`, every configured scalar text is read as in the empty declaration environment -/
def ScalarsGlobal (c : Cfg) (doc : TsDoc) (E : Env) : Prop :=
  ∀ p ∈ scalarTypes c doc, ∀ t ∈ Target.all, ∀ v,
    Mem E v (c.parseOf (p.2.getType t)) ↔ Mem Env.empty v (c.parseOf (p.2.getType t))

theorem scalarsGlobal_of_nohook {c : Cfg} {doc : TsDoc} (ok : DocOK c doc) {E : Env}
    (hh : ∀ d f as, E.appHook d f as = none) : ScalarsGlobal c doc E :=
  fun p hp t ht _ => mem_indep hh (fun _ _ _ => rfl) (ok.parses p hp t ht).1

section closed
variable {c : Cfg} {doc : TsDoc} {F : File} (hF : schemaFile c doc = .ok F) (ok : DocOK c doc)
variable {E : Env} {P : Scope} (X : Hosting c doc F E.decls P) (hsc : ScalarsGlobal c doc E) (t : Target)

/-- the absolute reference to the alias of schema type `n` in the namespace of `t` -/
abbrev absRef (c : Cfg) (doc : TsDoc) (P : Scope) (t : Target) (n : Name) : Ty :=
  Ty.abs (P ++ [t.name]) (lname c doc n)

include hF in
theorem fits_body {td : TypeDef} (hm : td ∈ typeDefsOf doc) (hfit : kindFits td.kind t = true) :
    ∃ ty, body (Ctx.new c doc t) td = .ok (some ty) := by
  obtain ⟨o, ho⟩ := body_ok hF t td hm
  unfold body at ho ⊢
  cases hk : td.kind <;> simp only [hk, kindFits, Ctx.new_target] at hfit ho ⊢
  · split at ho
    · exact ⟨_, rfl⟩
    · cases ho
  · exact ⟨objectBody (Ctx.new c doc t) td, by simp [isInput_of_isOutput hfit]⟩
  · exact ⟨interfaceBody (Ctx.new c doc t) td, by simp [isInput_of_isOutput hfit]⟩
  · exact ⟨unionBody (Ctx.new c doc t) td, by simp [isInput_of_isOutput hfit]⟩
  · exact ⟨_, rfl⟩
  · exact ⟨inputBody (Ctx.new c doc t) td, by simp [isOutput_of_isInput hfit]⟩

omit hF in
/-- with `fits_body`: `kindFits` says exactly which definitions are printed in a namespace -/
theorem unfit_body {td : TypeDef} (hfit : kindFits td.kind t = false) : body (Ctx.new c doc t) td = .ok none := by
  unfold body
  cases hk : td.kind <;> simp only [hk, kindFits, Ctx.new_target, Target.isInput] at hfit ⊢ <;> simp_all

include X in
theorem mem_absRef {td : TypeDef} {ty : Ty} (hm : td ∈ typeDefsOf doc)
    (hb : body (Ctx.new c doc t) td = .ok (some ty)) (v : J) :
    Mem E v (absRef c doc P t td.name) ↔ Mem E v (globalise E.decls (P ++ [t.name]) [] ty) :=
  mem_alias_iff (hosted_body X t hm hb)

/-- the statement of the closed form at one value -/
def Agree (c : Cfg) (doc : TsDoc) (E : Env) (P : Scope) (t : Target) (v : J) : Prop :=
  ∀ td ∈ typeDefsOf doc, kindFits td.kind t = true →
    (Mem E v (absRef c doc P t td.name) ↔ Ref c ⟨doc⟩ t td.name v)

include X in
theorem leaf_abs {td : TypeDef} (hm : td ∈ typeDefsOf doc) (hfit : kindFits td.kind t = true) :
    globalise E.decls (P ++ [t.name]) [] ((Ctx.new c doc t).leaf td.name) = absRef c doc P t td.name := by
  obtain ⟨ty, hb⟩ := fits_body X.file t hm hfit
  exact hosted_leaf X t hm hb

include X in
theorem enum_case {td : TypeDef} (hm : td ∈ typeDefsOf doc) (hk : td.kind = .enum) (v : J) :
    Mem E v (absRef c doc P t td.name) ↔ Ref c ⟨doc⟩ t td.name v := by
  have hb : body (Ctx.new c doc t) td = .ok (some (enumBody td)) := by simp [body, hk]
  rw [mem_absRef X t hm hb, globalise_enumBody, mem_enumBody_iff, Ref_enum c ⟨doc⟩ t (typeDef?_of_mem X.ok hm) hk]

include X hsc in
theorem scalar_case {td : TypeDef} (hm : td ∈ typeDefsOf doc) (hk : td.kind = .scalar) (v : J) :
    Mem E v (absRef c doc P t td.name) ↔ Ref c ⟨doc⟩ t td.name v := by
  obtain ⟨ty, hb⟩ := fits_body X.file t hm (by simp [hk, kindFits])
  have hb' := hb
  unfold body at hb'
  simp only [hk, Ctx.new_target, Ctx.new_cfg, Ctx.new_scalarTypes] at hb'
  split at hb'
  · rename_i n' sc hfind
    cases hb'
    have hfind' : (scalarTypes c doc).find? (·.1 == td.name) = some (n', sc) := hfind
    have hp : (n', sc) ∈ scalarTypes c doc := List.mem_of_find?_eq_some hfind'
    obtain ⟨hna, hfree⟩ := X.ok.parses (n', sc) hp t (Target.mem_all t)
    rw [mem_absRef X t hm hb,
      globalise_id _ _ _ (fun i hi => hosted_bag_unbound X t (hfree i hi)),
      hsc (n', sc) hp t (Target.mem_all t) v,
      Ref_scalar c ⟨doc⟩ t (typeDef?_of_mem X.ok hm) hk]
    constructor
    · intro h; exact ⟨sc, by simp [scalarType?, hfind'], h⟩
    · rintro ⟨sc', hsc', h⟩
      simp only [scalarType?, hfind'] at hsc'
      cases hsc'; exact h
  · cases hb'

include X in
theorem object_case {td : TypeDef} (hm : td ∈ typeDefsOf doc) (hk : td.kind = .object) (ht : t.isOutput = true)
    (v : J) (IH : ∀ y, jrank y < jrank v → Agree c doc E P t y) :
    Mem E v (absRef c doc P t td.name) ↔ Ref c ⟨doc⟩ t td.name v := by
  have hb : body (Ctx.new c doc t) td = .ok (some (objectBody (Ctx.new c doc t) td)) := by
    simp [body, hk, isInput_of_isOutput ht]
  rw [mem_absRef X t hm hb, objectBody, globalise_objectBodyL,
    mem_objectBodyL_iff _ (fun n x => Mem E x (globalise E.decls (P ++ [t.name]) [] ((Ctx.new c doc t).leaf n)))
      (fun _ _ => Iff.rfl),
    Ref_object c ⟨doc⟩ t (typeDef?_of_mem X.ok hm) hk ht]
  refine exists_congr fun kvs => and_congr_right fun hv =>
    recordSpec_conf_congr [("__typename", false, fun x => x = .str td.name)] td.fields (fun f => f.name)
      (fun _ => false) (fun f => f.ty) kvs fun f hf y hy => ?_
  obtain ⟨td', hm', hn', hk'⟩ := X.ok.fields td hm hk f hf
  have hfit' : kindFits td'.kind t = true := kindFits_output hk' ht
  rw [← hn', leaf_abs X t hm' hfit']
  exact IH y (by have := jrank_get kvs f.name; rw [hv]; omega) td' hm' hfit'

include X in
theorem input_case {td : TypeDef} (hm : td ∈ typeDefsOf doc) (hk : td.kind = .input) (ht : t.isInput = true)
    (v : J) (IH : ∀ y, jrank y < jrank v → Agree c doc E P t y) :
    Mem E v (absRef c doc P t td.name) ↔ Ref c ⟨doc⟩ t td.name v := by
  have hb : body (Ctx.new c doc t) td = .ok (some (inputBody (Ctx.new c doc t) td)) := by
    simp [body, hk, isOutput_of_isInput ht]
  rw [mem_absRef X t hm hb, inputBody, globalise_inputBodyL,
    mem_inputBodyL_iff _ (fun n x => Mem E x (globalise E.decls (P ++ [t.name]) [] ((Ctx.new c doc t).leaf n)))
      (fun _ _ => Iff.rfl),
    Ref_input c ⟨doc⟩ t (typeDef?_of_mem X.ok hm) hk ht]
  refine exists_congr fun kvs => and_congr_right fun hv =>
    recordSpec_conf_congr [] td.inputs (fun f => f.name)
      (fun f => (Ctx.new c doc t).cfg.optionalInput && !f.ty.isNonNull) (fun f => f.ty) kvs fun f hf y hy => ?_
  obtain ⟨td', hm', hn', hk'⟩ := X.ok.inputs td hm hk f hf
  have hfit' : kindFits td'.kind t = true := by
    rcases hk' with h | h | h <;> simp [h, kindFits, ht]
  rw [← hn', leaf_abs X t hm' hfit']
  exact IH y (by have := jrank_get kvs f.name; rw [hv]; omega) td' hm' hfit'

include ok in
theorem possibleTypes_objects {td : TypeDef} (hm : td ∈ typeDefsOf doc) (hk : td.kind = .interface ∨ td.kind = .union) :
    ∀ n ∈ (Schema.mk doc).possibleTypes td.name, ∃ td' ∈ typeDefsOf doc, td'.name = n ∧ td'.kind = .object := by
  intro n hn
  rcases hk with hk | hk <;> simp only [Schema.possibleTypes, typeDef?_of_mem ok hm, hk] at hn
  · simp only [Schema.objectImplementers, List.mem_map, List.mem_filter, Bool.and_eq_true] at hn
    obtain ⟨td', ⟨hm', hk', _⟩, rfl⟩ := hn
    exact ⟨td', by rw [← typeDefs_eq]; exact hm', rfl, kind_beq.1 hk'⟩
  · obtain ⟨m, hmm, rfl⟩ := List.mem_map.1 hn
    exact ok.members td hm hk m hmm

include ok in
theorem body_abstract {td : TypeDef} (hm : td ∈ typeDefsOf doc) (hk : td.kind = .interface ∨ td.kind = .union)
    (ht : t.isOutput = true) :
    body (Ctx.new c doc t) td
      = .ok (some (membersBodyL (Ctx.new c doc t).leaf ((Schema.mk doc).possibleTypes td.name))) := by
  rcases hk with hk | hk <;>
    simp [body, hk, isInput_of_isOutput ht, interfaceBody, unionBody, Ctx.new, Schema.possibleTypes, typeDef?_of_mem ok hm]

include X in
/-- interfaces and unions: through the object case at the same value -/
theorem members_case {td : TypeDef} (hm : td ∈ typeDefsOf doc) (ht : t.isOutput = true)
    (hk : td.kind = .interface ∨ td.kind = .union)
    (v : J) (IH : ∀ y, jrank y < jrank v → Agree c doc E P t y) :
    Mem E v (absRef c doc P t td.name) ↔ Ref c ⟨doc⟩ t td.name v := by
  rw [mem_absRef X t hm (body_abstract X.ok t hm hk ht), globalise_membersBodyL,
    Ref_abstract c ⟨doc⟩ t (typeDef?_of_mem X.ok hm) hk ht]
  refine mem_membersBodyL_iff _ _ _ v fun n hn => ?_
  obtain ⟨td', hm', hn', hk'⟩ := possibleTypes_objects X.ok hm hk n hn
  have hfit' : kindFits td'.kind t = true := by simp [hk', kindFits, ht]
  rw [← hn', leaf_abs X t hm' hfit']
  exact object_case X t hm' hk' ht v IH

include X hsc in
theorem agree_step (v : J) (IH : ∀ y, jrank y < jrank v → Agree c doc E P t y) : Agree c doc E P t v := by
  intro td hm hfit
  cases hk : td.kind with
  | scalar => exact scalar_case X hsc t hm hk v
  | «enum» => exact enum_case X t hm hk v
  | object =>
    have ht : t.isOutput = true := by simpa [kindFits, hk] using hfit
    exact object_case X t hm hk ht v IH
  | input =>
    have ht : t.isInput = true := by simpa [kindFits, hk] using hfit
    exact input_case X t hm hk ht v IH
  | interface | union =>
    have ht : t.isOutput = true := by simpa [kindFits, hk] using hfit
    exact members_case X t hm ht (by simp [hk]) v IH

include X hsc in
theorem agree_all : ∀ (n : Nat) (v : J), jrank v < n → Agree c doc E P t v := by
  intro n
  induction n with
  | zero => intro v h; omega
  | succ n ih =>
    intro v hv
    exact agree_step X hsc t v (fun y hy => ih y (by omega))

include X hsc in
/-- the closed form, for any environment that reads the scalar texts globally (no hook: `scalarsGlobal_of_nohook`; a hook
    installed: `RE_scalars`, `scalarsGlobal_selHook`). It speaks of the absolute reference to the alias; the routes below
    say which reference written in a file becomes that one. -/
theorem hosted_alias_exact {td : TypeDef} (hm : td ∈ typeDefsOf doc) (hfit : kindFits td.kind t = true) (v : J) :
    Mem E v (absRef c doc P t td.name) ↔ Ref c ⟨doc⟩ t td.name v :=
  agree_all X hsc t (jrank v + 1) v (Nat.lt_succ_self _) td hm hfit

include X in
theorem hosted_qualified_inner {td : TypeDef} {ty : Ty} (hm : td ∈ typeDefsOf doc)
    (hb : body (Ctx.new c doc t) td = .ok (some ty)) :
    E.decls.resolveQ P [t.name, td.name] = some (aliasDecl c doc P t td ty) :=
  (resolveQ_member (by simp only [Decls.resolveNsAux, hosted_ns_mem X t, if_true])).trans (hosted_alias_binds X t hm hb).2

include X in
theorem hosted_qualified_outer {sc : Scope} {A : String}
    (hA : E.decls.resolveNsAux A (sc.length + 1) sc = some P)
    {td : TypeDef} {ty : Ty} (hm : td ∈ typeDefsOf doc) (hb : body (Ctx.new c doc t) td = .ok (some ty)) :
    E.decls.resolveQ sc [A, t.name, td.name] = some (aliasDecl c doc P t td ty) :=
  (resolveQ_member₂ hA (hosted_ns_mem X t)).trans (hosted_alias_binds X t hm hb).2

include X hsc in
theorem hosted_qualified_exact {sc : Scope} {A : String}
    (hA : E.decls.resolveNsAux A (sc.length + 1) sc = some P)
    {td : TypeDef} (hm : td ∈ typeDefsOf doc) (hfit : kindFits td.kind t = true) (v : J) :
    Mem E v (globalise E.decls sc [] (.qref [A, t.name, td.name])) ↔ Ref c ⟨doc⟩ t td.name v := by
  obtain ⟨ty, hb⟩ := fits_body X.file t hm hfit
  rw [globalise_of_resolveQ (hosted_qualified_outer X t hA hm hb)]
  exact hosted_alias_exact X hsc t hm hfit v

include X hsc in
theorem hosted_inner_exact {td : TypeDef} (hm : td ∈ typeDefsOf doc) (hfit : kindFits td.kind t = true) (v : J) :
    Mem E v (globalise E.decls P [] (.qref [t.name, td.name])) ↔ Ref c ⟨doc⟩ t td.name v := by
  obtain ⟨ty, hb⟩ := fits_body X.file t hm hfit
  rw [globalise_of_resolveQ (hosted_qualified_inner X t hm hb)]
  exact hosted_alias_exact X hsc t hm hfit v

theorem repTarget_fits (td : TypeDef) : kindFits td.kind (repTarget td) = true := by
  unfold repTarget
  cases hk : td.kind <;> rfl

include X hsc in
theorem hosted_rep_exact {td : TypeDef} (hm : td ∈ typeDefsOf doc) (v : J) :
    Mem E v (Ty.abs P (lname c doc td.name)) ↔ Ref c ⟨doc⟩ (repTarget td) td.name v := by
  obtain ⟨ty, hb⟩ := fits_body X.file (repTarget td) hm (repTarget_fits td)
  rw [Ty.abs, mem_alias_iff (body?_of_findLocal (hosted_rep_binds X hm).1), repDecl,
    globalise_of_resolveQ (hosted_qualified_inner X (repTarget td) hm hb)]
  exact hosted_alias_exact X hsc (repTarget td) hm (repTarget_fits td) v

include X in
theorem hosted_qualified_top {sc : Scope} {A : String}
    (hA : E.decls.resolveNsAux A (sc.length + 1) sc = some P) {td : TypeDef} (hm : td ∈ typeDefsOf doc) :
    E.decls.resolveQ sc [A, td.name] = some (repDecl c doc P td) :=
  (resolveQ_member hA).trans (hosted_rep_binds X hm).2

include X hsc in
theorem hosted_top_exact {td : TypeDef} (hm : td ∈ typeDefsOf doc) (v : J) :
    Mem E v (globalise E.decls P [] (.ref (lname c doc td.name))) ↔ Ref c ⟨doc⟩ (repTarget td) td.name v := by
  rw [globalise_of_resolveRef (resolveRef_of_findLocal (hosted_rep_binds X hm).1)]
  exact hosted_rep_exact X hsc hm v

include X hsc in
theorem hosted_qualified_top_exact {sc : Scope} {A : String}
    (hA : E.decls.resolveNsAux A (sc.length + 1) sc = some P) {td : TypeDef} (hm : td ∈ typeDefsOf doc) (v : J) :
    Mem E v (globalise E.decls sc [] (.qref [A, td.name])) ↔ Ref c ⟨doc⟩ (repTarget td) td.name v := by
  rw [globalise_of_resolveQ (hosted_qualified_top X hA hm)]
  exact hosted_rep_exact X hsc hm v

end closed

end NitroVerif.SchemaDecls
