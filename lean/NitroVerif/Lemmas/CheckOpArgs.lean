import NitroVerif.Lemmas.CheckOpWalk
/-!
`check_arguments` and `check_directives` against the reference validator's rules, each as one equivalence read in both
directions (`checkArguments_iff`: 5.4.1, 5.4.2, 5.4.2.1 and the nested value checks; `checkDirectivesAux_iff`:
5.7.1 – 5.7.3). The checker detects an unknown argument by counting the matched definitions, which is exact when the
definition names are unique.
-/
namespace NitroVerif.CheckOp
open NitroVerif.Gql NitroVerif.CheckCommon NitroVerif.Valid

/-- for a duplicate-free `L`: the elements of `L` occurring in `N` are at most as many as the elements of `N`
    occurring in `L` -/
theorem matched_le {L : List Name} (hL : nodupB L = true) (N : List Name) :
    (L.filter (fun x => N.contains x)).length ≤ (N.filter (fun y => L.contains y)).length := by
  induction L with
  | nil => simp
  | cons x L' ih =>
    obtain ⟨hx, hL'⟩ := (nodupB_cons_iff _ _).mp hL
    have ih' := ih hL'
    have hmono : ∀ y, (fun y => L'.contains y) y = true → (fun y => (x :: L').contains y) y = true := by
      intro y hy; simp at hy ⊢; exact Or.inr hy
    simp only [List.filter_cons]
    cases hxN : N.contains x with
    | false =>
      simp only [Bool.false_eq_true, if_false]
      exact Nat.le_trans ih' (filterLength_le (q := fun y => L'.contains y) (p := fun y => (x :: L').contains y) N hmono)
    | true =>
      simp only [if_true, List.length_cons]
      have hstrict := filterLength_lt (fun y => (x :: L').contains y) (fun y => L'.contains y) N hmono
        ⟨x, by simpa using hxN, by simp, by simpa using hx⟩
      omega

/-- `seen_args` = the number of definition names that occur among the argument names -/
theorem seen_count (S : Schema) (vars : Option (List VarDef)) (pos : Pos) (args : List Arg) (defs : List InputValueDef) :
    ((argOutcomes S vars pos args defs).filter (·.2)).length
      = ((defs.map (·.name)).filter (fun x => (args.map (·.1)).contains x)).length := by
  unfold argOutcomes
  rw [List.filter_map, List.length_map, List.filter_map, List.length_map]
  congr 1
  apply List.filter_congr
  intro d _
  simp only [Function.comp]
  cases hf : args.find? (fun a => d.name == a.1) with
  | none =>
    simp only []
    have : (args.map (·.1)).contains d.name = false := by
      rw [List.find?_eq_none] at hf
      cases hc : (args.map (·.1)).contains d.name with
      | false => rfl
      | true =>
        have : d.name ∈ args.map (·.1) := by simpa using hc
        obtain ⟨b, hb, hbn⟩ := List.mem_map.mp this
        have := hf b hb
        simp [hbn] at this
    rw [this]; split <;> rfl
  | some b =>
    simp only []
    have hb := List.mem_of_find?_eq_some hf
    have hp := List.find?_some hf
    have hp' : d.name = b.1 := by simpa using hp
    have : (args.map (·.1)).contains d.name = true := by
      simp only [List.contains_iff_mem]; exact List.mem_map.mpr ⟨b, hb, hp'.symm⟩
    rw [this]

theorem dupArgsAux_iff {A : ErrKind → Bool} (hA : Admissible A) :
    ∀ (as : List Arg) (seen : List Name), Quiet A (dupArgsAux seen as) ↔
      (∀ a ∈ as, a.1 ∉ seen) ∧ nodupB (as.map (·.1)) = true := by
  intro as
  induction as with
  | nil => intro _; simp [dupArgsAux, quiet_nil, nodupB]
  | cons a as ih =>
    intro seen
    simp only [dupArgsAux, quiet_append, ih, List.forall_mem_cons, List.map_cons, nodupB_cons_iff, List.mem_append,
      List.mem_singleton, not_or, quiet_ite_not (hA _ (by decide : ErrKind.DuplicatedName ≠ ErrKind.UnknownVariable)),
      List.contains_iff_mem, List.mem_map]
    constructor
    · rintro ⟨h1, h2, h3⟩
      exact ⟨⟨h1, fun b hb => (h2 b hb).1⟩, fun ⟨b, hb, hbn⟩ => (h2 b hb).2 hbn, h3⟩
    · rintro ⟨⟨h1, h2⟩, h0, h3⟩
      exact ⟨h1, fun b hb => ⟨h2 b hb, fun hbn => h0 ⟨b, hb, hbn⟩⟩, h3⟩

theorem argOutcomes_quiet_iff {S : Schema} {A : ErrKind → Bool} (hA : Admissible A) {vars : Option (List VarDef)} {pos : Pos}
    {args : List Arg} {defs : List InputValueDef} :
    Quiet A ((argOutcomes S vars pos args defs).flatMap (·.1)) ↔
      ∀ d ∈ defs, ((d.ty.isNonNull && d.default.isNone) = true → args.any (·.1 == d.name) = true) ∧
        ∀ a, args.find? (fun a => d.name == a.1) = some a → Quiet A (checkValue S vars a.2.2 d.ty d.default.isSome) := by
  unfold argOutcomes
  rw [quiet_flatMap, List.forall_mem_map]
  refine forall₂_congr fun d _ => ?_
  cases hf : args.find? (fun a => d.name == a.1) with
  | none =>
    have hany : args.any (·.1 == d.name) = false := by
      rw [List.any_eq_false]; intro a ha
      simpa [Bool.beq_comm] using List.find?_eq_none.mp hf a ha
    have hk := hA _ (by decide : ErrKind.RequiredArgumentNotSpecified ≠ ErrKind.UnknownVariable)
    cases h1 : d.ty.isNonNull <;> cases h2 : d.default <;> simp [hany, quiet_nil, quiet_single, hk]
  | some a =>
    have : args.any (·.1 == d.name) = true :=
      List.any_eq_true.mpr ⟨a, List.mem_of_find?_eq_some hf, by simpa [Bool.beq_comm] using List.find?_some hf⟩
    simp [this]

/-- the unknown-argument test counts matched definitions: it fires exactly when some argument is unknown -/
theorem unknownArgs_quiet_iff {S : Schema} {A : ErrKind → Bool} (hA : Admissible A) {vars : Option (List VarDef)} {pos : Pos}
    {args : List Arg} {defs : List InputValueDef} (hdefs : nodupB (defs.map (·.name)) = true) :
    Quiet A (if ((argOutcomes S vars pos args defs).filter (·.2)).length < args.length
      then (args.filter fun a => defs.all (fun d => d.name != a.1)).map fun a => (ErrKind.UnknownArgument, a.2.1)
      else []) ↔ ∀ a ∈ args, defs.any (·.name == a.1) = true := by
  have hk := hA _ (by decide : ErrKind.UnknownArgument ≠ ErrKind.UnknownVariable)
  have hall : ∀ a : Arg, (defs.all fun d => d.name != a.1) = !defs.any (·.name == a.1) := fun a => by
    rw [List.not_any_eq_all_not]; rfl
  constructor
  · intro h a ha
    cases hknown : defs.any (·.name == a.1) with
    | true => rfl
    | false =>
      exfalso
      have hlt : ((argOutcomes S vars pos args defs).filter (·.2)).length < args.length := by
        rw [seen_count]
        have h1 := matched_le hdefs (args.map (·.1))
        have h2 : ((args.map (·.1)).filter (fun y => (defs.map (·.name)).contains y)).length < (args.map (·.1)).length := by
          refine List.length_filter_lt_length_iff_exists.mpr ⟨a.1, List.mem_map.mpr ⟨a, ha, rfl⟩, ?_⟩
          intro hc
          obtain ⟨d, hd, hdn⟩ := List.mem_map.mp (by simpa using hc : a.1 ∈ defs.map (·.name))
          simpa [hdn] using List.any_eq_false.mp hknown d hd
        rw [List.length_map] at h2
        omega
      rw [if_pos hlt] at h
      have := h _ (List.mem_map.mpr ⟨a, List.mem_filter.mpr ⟨ha, by rw [hall, hknown]; rfl⟩, rfl⟩)
      rw [hk] at this; cases this
  · intro h
    have : (args.filter fun a => defs.all (fun d => d.name != a.1)) = [] :=
      List.filter_eq_nil_iff.mpr fun a ha => by rw [hall, h a ha]; simp
    rw [this]; split <;> exact quiet_nil

theorem checkArguments_iff {S : Schema} {A : ErrKind → Bool} (hA : Admissible A) {vars : Option (List VarDef)} {pos : Pos}
    {args : List Arg} {defs : List InputValueDef} (hdefs : nodupB (defs.map (·.name)) = true) :
    Quiet A (checkArguments S vars pos args defs) ↔
      nodupB (args.map (·.1)) = true ∧ (∀ a ∈ args, defs.any (·.name == a.1) = true) ∧
      ∀ d ∈ defs, ((d.ty.isNonNull && d.default.isNone) = true → args.any (·.1 == d.name) = true) ∧
        ∀ a, args.find? (fun a => d.name == a.1) = some a → Quiet A (checkValue S vars a.2.2 d.ty d.default.isSome) := by
  unfold checkArguments
  cases hde : defs.isEmpty with
  | true =>
    have : defs = [] := by simpa using hde
    subst this
    cases args with
    | nil => simp [quiet_nil, nodupB]
    | cons a as =>
      simp only [List.isEmpty_cons, Bool.false_eq_true, if_false, if_true, quiet_single,
        hA _ (by decide : ErrKind.ArgumentsNotNeeded ≠ ErrKind.UnknownVariable), false_iff]
      rintro ⟨_, h, _⟩
      simpa using h a (by simp)
  | false =>
    simp only [Bool.false_eq_true, if_false, quiet_append, dupArgsAux_iff hA, List.not_mem_nil, not_false_eq_true,
      implies_true, true_and, argOutcomes_quiet_iff hA, unknownArgs_quiet_iff hA hdefs]
    constructor
    · rintro ⟨⟨h1, h2⟩, h4⟩; exact ⟨h1, h4, h2⟩
    · rintro ⟨h1, h4, h2⟩; exact ⟨⟨h1, h2⟩, h4⟩

theorem checkArguments_nodup {S : Schema} {A : ErrKind → Bool} (hA : Admissible A) {vars : Option (List VarDef)} {pos : Pos}
    {args : List Arg} {defs : List InputValueDef} (h : Quiet A (checkArguments S vars pos args defs)) :
    nodupB (args.map (·.1)) = true := by
  unfold checkArguments at h
  cases hde : defs.isEmpty with
  | false =>
    simp only [hde, Bool.false_eq_true, if_false, quiet_append, dupArgsAux_iff hA] at h
    exact h.1.1.2
  | true =>
    cases args with
    | nil => rfl
    | cons a as =>
      simp only [hde, if_true, List.isEmpty_cons, Bool.false_eq_true, if_false, quiet_single,
        hA _ (by decide : ErrKind.ArgumentsNotNeeded ≠ ErrKind.UnknownVariable)] at h

/-- the rules 5.7.1 – 5.7.3 (and a quiet argument check for each directive) on one directive list at a location -/
def DirFacts (S : Schema) (A : ErrKind → Bool) (vars : Option (List VarDef)) (site : String × List Directive) : Prop :=
  (∀ d ∈ site.2, ∃ dd, S.directiveDef? d.name = some dd ∧ dd.locations.contains site.1 = true ∧
      Quiet A (checkArguments S vars d.pos d.args dd.args)) ∧
  nodupB ((site.2.filter (nonRepeatable S)).map (·.name)) = true

/-- the loop of `check_directives` with its `seen_directives` accumulator -/
theorem checkDirectivesAux_iff {S : Schema} {A : ErrKind → Bool} (hA : Admissible A)
    {vars : Option (List VarDef)} {loc : String} :
    ∀ (ds : List Directive) (seen : List Name), Quiet A (checkDirectivesAux S vars loc seen ds) ↔
      DirFacts S A vars (loc, ds) ∧ ∀ d ∈ ds, nonRepeatable S d = true → d.name ∉ seen := by
  intro ds
  induction ds with
  | nil => intro _; simp [checkDirectivesAux, DirFacts, quiet_nil, nodupB]
  | cons d ds ih =>
    intro seen
    simp only [checkDirectivesAux, DirFacts, List.forall_mem_cons]
    cases hd : S.directiveDef? d.name with
    | none => simp [quiet_cons, hA _ (by decide : ErrKind.UnknownDirective ≠ ErrKind.UnknownVariable)]
    | some dd =>
      have hnr : nonRepeatable S d = !dd.repeatable := by simp [nonRepeatable, hd]
      have hloc : dd.locations.all (· != loc) = !dd.locations.contains loc := by
        rw [← List.any_beq', List.not_any_eq_all_not]; simp [bne, Bool.beq_comm]
      simp only [quiet_append, ih, DirFacts, Option.some.injEq, exists_eq_left', hloc,
        quiet_ite_not (hA _ (by decide : ErrKind.DirectiveLocationNotAllowed ≠ ErrKind.UnknownVariable)),
        Bool.not_eq_true', Bool.not_eq_false]
      -- what remains is the accumulator: `d` is new or repeatable, and the later ones avoid `seen` and `d`
      have hacc : (Quiet A (if seen.contains d.name = true then if dd.repeatable = true then [] else [(ErrKind.RepeatedDirective, d.pos)] else []) ∧
            nodupB ((ds.filter (nonRepeatable S)).map (·.name)) = true ∧
            ∀ e ∈ ds, nonRepeatable S e = true → e.name ∉ (if seen.contains d.name = true then seen else seen ++ [d.name])) ↔
          nodupB (((d :: ds).filter (nonRepeatable S)).map (·.name)) = true ∧
            (nonRepeatable S d = true → d.name ∉ seen) ∧ ∀ e ∈ ds, nonRepeatable S e = true → e.name ∉ seen := by
        have hRD := hA _ (by decide : ErrKind.RepeatedDirective ≠ ErrKind.UnknownVariable)
        have hsame : ∀ e : Directive, e.name = d.name → nonRepeatable S e = nonRepeatable S d := fun e h => by
          simp [nonRepeatable, h]
        cases hr : dd.repeatable with
        | true =>
          have hn : nonRepeatable S d = false := by rw [hnr, hr]; rfl
          simp only [if_true, ite_self, quiet_nil, true_and, List.filter_cons, hn, Bool.false_eq_true, if_false, false_imp_iff]
          refine and_congr_right fun _ => forall₂_congr fun e he => imp_congr_right fun hne => ?_
          have hne' : e.name ≠ d.name := fun h => by rw [hsame e h, hn] at hne; cases hne
          split <;> simp [hne']
        | false =>
          have hn : nonRepeatable S d = true := by rw [hnr, hr]; rfl
          cases hc : seen.contains d.name with
          | true => simp [quiet_single, hRD, hn, List.contains_iff_mem.mp hc]
          | false =>
            have hc' : d.name ∉ seen := by simpa using hc
            simp only [Bool.false_eq_true, if_false, quiet_nil, true_and, List.filter_cons, hn, if_true, List.map_cons,
              nodupB_cons_iff, List.mem_append, List.mem_singleton, not_or, hc', not_false_eq_true, forall_const,
              List.mem_map, List.mem_filter]
            constructor
            · rintro ⟨h1, h2⟩
              exact ⟨⟨fun ⟨e, ⟨he, hne⟩, hen⟩ => (h2 e he hne).2 hen, h1⟩, fun e he hne => (h2 e he hne).1⟩
            · rintro ⟨⟨h0, h1⟩, h2⟩
              exact ⟨h1, fun e he hne => ⟨h2 e he hne, fun hen => h0 ⟨e, ⟨he, hne⟩, hen⟩⟩⟩
      constructor
      · rintro ⟨⟨⟨h1, h2⟩, h3⟩, ⟨h4, h5⟩, h6⟩
        obtain ⟨a, b, c⟩ := hacc.mp ⟨h2, h5, h6⟩
        exact ⟨⟨⟨⟨h1, h3⟩, h4⟩, a⟩, b, c⟩
      · rintro ⟨⟨⟨⟨h1, h3⟩, h4⟩, a⟩, b, c⟩
        obtain ⟨h2, h5, h6⟩ := hacc.mpr ⟨a, b, c⟩
        exact ⟨⟨⟨h1, h2⟩, h3⟩, ⟨h4, h5⟩, h6⟩

theorem checkDirectives_iff {S : Schema} {A : ErrKind → Bool} (hA : Admissible A) {vars : Option (List VarDef)}
    {loc : String} {ds : List Directive} : Quiet A (checkDirectives S vars ds loc) ↔ DirFacts S A vars (loc, ds) := by
  unfold checkDirectives
  rw [checkDirectivesAux_iff hA]
  exact and_iff_left fun _ _ _ h => nomatch h

end NitroVerif.CheckOp
