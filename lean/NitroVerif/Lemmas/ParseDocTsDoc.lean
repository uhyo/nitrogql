/-
Items of a type-system document (`rTsItem`, `wpTsItem`, `WFTsItem`, `tsItemT`: the dispatch over the fifteen constructs) and
`TypeSystemExtensionDocument = { SOI ~ TypeSystemDefinitionOrExtension+ ~ EOI }` through `parse_type_system_document` over ANY
item renderer and any follow condition on the items (`tsDoc_parse_of`; `tsDoc_parseG` for items that need `Nxt`). The
theorem on `rTsDoc` itself is `parseTs_rTsDocF` (Lemmas/ParseDocTsBareIface.lean).
-/
import NitroVerif.Lemmas.ParseDocTsDirDef
import NitroVerif.Lemmas.ParseDocExec
import NitroVerif.Lemmas.ParseDocTsDefObject
import NitroVerif.Lemmas.ParseDocTsExtEnumInput
import NitroVerif.Lemmas.ParseDocTsExtUnion
import NitroVerif.Lemmas.ParseDocTsExtObject
import NitroVerif.Lemmas.ParseDocTsSchemaExt
namespace NitroVerif.DocParse
open NitroVerif.Peg NitroVerif.Gen NitroVerif.Gen.Parts NitroVerif.Build NitroVerif.TypeParse NitroVerif.StringParse
open NitroVerif.Gql NitroVerif.ValueParse NitroVerif.Spec.Lex NitroVerif.ParseText

variable {inp : List Char}

def rTypeDefAny (τ : Trivia) (sep : Bool) (p : Nat) (t : TypeDef) : List Char :=
  match t.kind with
  | .scalar => rScalarDef τ sep p t
  | .object => rObjDef τ (kindKw .object) sep p t
  | .interface => rObjDef τ (kindKw .interface) sep p t
  | .union => rUnionDef τ sep p t
  | .enum => rEnumDef τ sep p t
  | .input => rInputDef τ sep p t

def wpTypeDefAny (τ : Trivia) (inp : List Char) (sep : Bool) (p : Nat) (t : TypeDef) : TypeDef :=
  match t.kind with
  | .scalar => wpScalarDef τ inp sep p t
  | .object => wpObjDef τ inp .object (kindKw .object) sep p t
  | .interface => wpObjDef τ inp .interface (kindKw .interface) sep p t
  | .union => wpUnionDef τ inp sep p t
  | .enum => wpEnumDef τ inp sep p t
  | .input => wpInputDef τ inp sep p t

/-- well-formed type definitions: valid names, well-formed parts; an object type has fields or directives, an interface
    type fields, directives or interfaces, a union type members -/
def WFTypeDef (t : TypeDef) : Prop :=
  validName t.name.toList ∧ WFDirs t.dirs ∧
  match t.kind with
  | .scalar => True
  | .object => (∀ x ∈ t.implements, validName x.1.toList) ∧ (∀ f ∈ t.fields, WFFieldDef f) ∧
      (t.dirs ≠ [] ∨ t.fields ≠ [])
  | .interface => (∀ x ∈ t.implements, validName x.1.toList) ∧ (∀ f ∈ t.fields, WFFieldDef f) ∧
      (t.implements ≠ [] ∨ t.dirs ≠ [] ∨ t.fields ≠ [])
  | .union => t.members ≠ [] ∧ ∀ x ∈ t.members, validName x.1.toList
  | .enum => ∀ v ∈ t.values, WFEnumVal v
  | .input => ∀ v ∈ t.inputs, WFIVD v

def rTypeExtAny (τ : Trivia) (sep : Bool) (p : Nat) (t : TypeDef) : List Char :=
  match t.kind with
  | .scalar => rScalarExt τ sep p t
  | .object => rObjExt τ (kindKw .object) sep p t
  | .interface => rObjExt τ (kindKw .interface) sep p t
  | .union => rUnionExt τ sep p t
  | .enum => rEnumExt τ sep p t
  | .input => rInputExt τ sep p t

def wpTypeExtAny (τ : Trivia) (inp : List Char) (sep : Bool) (p : Nat) (t : TypeDef) : TypeDef :=
  match t.kind with
  | .scalar => wpScalarExt τ inp sep p t
  | .object => wpObjExt τ inp .object (kindKw .object) sep p t
  | .interface => wpObjExt τ inp .interface (kindKw .interface) sep p t
  | .union => wpUnionExt τ inp sep p t
  | .enum => wpEnumExt τ inp sep p t
  | .input => wpInputExt τ inp sep p t

/-- well-formed type extensions: valid names, well-formed parts; an object or interface type extension has fields,
    directives or interfaces, a union type extension members or directives -/
def WFTypeExt (t : TypeDef) : Prop :=
  validName t.name.toList ∧ WFDirs t.dirs ∧
  match t.kind with
  | .scalar => True
  | .object => (∀ x ∈ t.implements, validName x.1.toList) ∧ (∀ f ∈ t.fields, WFFieldDef f) ∧
      (t.implements ≠ [] ∨ t.dirs ≠ [] ∨ t.fields ≠ [])
  | .interface => (∀ x ∈ t.implements, validName x.1.toList) ∧ (∀ f ∈ t.fields, WFFieldDef f) ∧
      (t.implements ≠ [] ∨ t.dirs ≠ [] ∨ t.fields ≠ [])
  | .union => (t.members ≠ [] ∨ t.dirs ≠ []) ∧ ∀ x ∈ t.members, validName x.1.toList
  | .enum => ∀ v ∈ t.values, WFEnumVal v
  | .input => ∀ v ∈ t.inputs, WFIVD v

def rTsItem (τ : Trivia) : Bool → Nat → TsItem → List Char
  | sep, p, .typeDef t => rTypeDefAny τ sep p t
  | sep, p, .schemaDef s => rSchemaDef τ sep p s
  | sep, p, .directiveDef d => rDirectiveDef τ sep p d
  | sep, p, .schemaExt s => rSchemaExt τ sep p s
  | sep, p, .typeExt t => rTypeExtAny τ sep p t

def wpTsItem (τ : Trivia) (inp : List Char) : Bool → Nat → TsItem → TsItem
  | sep, p, .typeDef t => .typeDef (wpTypeDefAny τ inp sep p t)
  | sep, p, .schemaDef s => .schemaDef (wpSchemaDef τ inp sep p s)
  | sep, p, .directiveDef d => .directiveDef (wpDirectiveDef τ inp sep p d)
  | sep, p, .schemaExt s => .schemaExt (wpSchemaExt τ inp sep p s)
  | sep, p, .typeExt t => .typeExt (wpTypeExtAny τ inp sep p t)

def WFTsItem : TsItem → Prop
  | .typeDef t => WFTypeDef t
  | .schemaDef s => WFSchemaDef s
  | .directiveDef d => WFDirectiveDef d
  | .schemaExt s => WFSchemaExt s
  | .typeExt t => WFTypeExt t

theorem defHead_prefix {τ : Trivia} {sN : Bool} {p : Nat} {desc : Option String} {kw : List Char} {name : Name}
    {Rr : List Char} (hname : validName name.toList) (h : HasAt inp p (rDefHead τ sN p desc kw name ++ Rr)) :
    HasAt inp p (rOptDesc τ p desc ++ tk τ true (p + (rOptDesc τ p desc).length) kw) ∧
      Tok (At inp (p + (rOptDesc τ p desc).length + (tk τ true (p + (rOptDesc τ p desc).length) kw).length)) := by
  have h0 := h.left
  simp only [rDefHead] at h0
  refine ⟨hasAt_append.mpr ⟨h0.left, h0.right.left⟩, ?_⟩
  exact tok_of_hd h0.right.right (hd_tk (hd_of_validName hname)) (fun d => nameStart_not_trivia)

theorem tsItem_of_kind {τ : Trivia} (hτ : ∀ q, Ws (τ q)) (k : TypeKind) (desc : Option String) {p : Nat} {t : List Char}
    {td : TypeDef} (hk : KindDefOk inp (kindDefRule k) p t td)
    (h : HasAt inp p (rOptDesc τ p desc ++ tk τ true (p + (rOptDesc τ p desc).length) (kindKw k)))
    (ht : Tok (At inp (p + (rOptDesc τ p desc).length + (tk τ true (p + (rOptDesc τ p desc).length) (kindKw k)).length)))
    (hlen : (rOptDesc τ p desc).length ≤ t.length) : TsItemOk inp p t (.typeDef td) := by
  obtain ⟨prK, hK⟩ := hk
  obtain ⟨e1, e2, e3, hr⟩ := typeDefWrapK hτ k desc (hK 0).part.run h ht
  exact ⟨_, ⟨hr.mono (by have := B_mono hlen; omega), cleanP_of (by decide) (by decide) ⟨cleanP_of (by decide) (by decide)
      ⟨cleanP_of (by decide) (by decide) ⟨(hK 0).clean, trivial⟩, trivial⟩, trivial⟩, trivial⟩, rfl, rfl,
    fun fuel hf => buildItem_typeDef _ fuel p e1 e2 e3 prK td ((hK e1).build fuel hf)⟩

theorem tsItem_of_def {τ : Trivia} (hτ : ∀ q, Ws (τ q)) (k : TypeKind) {sN : Bool} {p : Nat} {desc : Option String}
    {name : Name} {Rr : List Char} {td : TypeDef} (hname : validName name.toList)
    (h : HasAt inp p (rDefHead τ sN p desc (kindKw k) name ++ Rr))
    (hk : KindDefOk inp (kindDefRule k) p (rDefHead τ sN p desc (kindKw k) name ++ Rr) td) :
    TsItemOk inp p (rDefHead τ sN p desc (kindKw k) name ++ Rr) (.typeDef td) := by
  obtain ⟨h1, h2⟩ := defHead_prefix hname h
  exact tsItem_of_kind hτ k desc hk h1 h2 (by simp [rDefHead])

theorem tsItem_of_extHead {τ : Trivia} (hτ : ∀ q, Ws (τ q)) (k : TypeKind) {sN : Bool} {p : Nat} {name : Name}
    {Rr : List Char} {td : TypeDef} (hname : validName name.toList)
    (h : HasAt inp p (rExtHead τ sN p (kindKw k) name ++ Rr))
    (hk : KindExtOk inp (kindExtRule k) p (rExtHead τ sN p (kindKw k) name ++ Rr) td) :
    TsItemOk inp p (rExtHead τ sN p (kindKw k) name ++ Rr) (.typeExt td) := by
  obtain ⟨h1, h2⟩ := extHead_prefix hname h
  exact tsItem_of_ext hτ k hk h1 h2 (by simp [rExtHead])

theorem tsItemT (τ : Trivia) (hτ : ∀ q, Ws (τ q)) (it : TsItem) (hwf : WFTsItem it) (sep : Bool) (p : Nat)
    (h : HasAt inp p (rTsItem τ sep p it)) (hn : Nxt inp tdBad sep (p + (rTsItem τ sep p it).length)) :
    TsItemOk inp p (rTsItem τ sep p it) (wpTsItem τ inp sep p it) := by
  cases it with
  | typeDef t =>
    obtain ⟨hname, hdirs, hk⟩ := hwf
    simp only [rTsItem, wpTsItem, rTypeDefAny, wpTypeDefAny] at h hn ⊢
    cases hkind : t.kind <;> simp only [hkind] at h hn hk ⊢
    · exact tsItem_of_def hτ .scalar hname h (scalarDefT τ hτ t hname hdirs h hn)
    · exact tsItem_of_def hτ .object hname h (objDefT τ hτ t hname hk.1 hdirs hk.2.1 hk.2.2 h hn)
    · exact tsItem_of_def hτ .interface hname h (ifaceDefT τ hτ t hname hk.1 hdirs hk.2.1 hk.2.2 h hn)
    · exact tsItem_of_def hτ .union hname h (unionDefT τ hτ t hname hdirs hk.1 hk.2 h hn)
    · exact tsItem_of_def hτ .enum hname h (enumDefT τ hτ t hname hdirs hk h hn)
    · exact tsItem_of_def hτ .input hname h (inputDefT τ hτ t hname hdirs hk h hn)
  | schemaDef s => exact schemaDefT τ hτ s hwf h hn
  | directiveDef d => exact directiveDefT τ hτ d hwf h hn
  | schemaExt s => exact schemaExtT τ hτ s hwf h hn
  | typeExt t =>
    obtain ⟨hname, hdirs, hk⟩ := hwf
    simp only [rTsItem, wpTsItem, rTypeExtAny, wpTypeExtAny] at h hn ⊢
    cases hkind : t.kind <;> simp only [hkind] at h hn hk ⊢
    · exact tsItem_of_extHead hτ .scalar hname h (scalarExtT τ hτ t hname hdirs h hn)
    · exact tsItem_of_extHead hτ .object hname h (objExtAllT τ hτ t hname hk.1 hdirs hk.2.1 hk.2.2 h hn)
    · exact tsItem_of_extHead hτ .interface hname h (ifaceExtT τ hτ t hname hk.1 hdirs hk.2.1 hk.2.2 h hn)
    · have hk' := unionExtT τ hτ t hname hdirs hk.1 hk.2 h hn
      -- both forms of a union extension (members or directives only) begin with the head
      obtain ⟨Rr, hRr⟩ : ∃ Rr, rUnionExt τ sep p t = rExtHead τ false p (kindKw .union) t.name ++ Rr := by
        simp only [rUnionExt]
        split <;> exact ⟨_, rfl⟩
      rw [hRr] at h hk' ⊢
      exact tsItem_of_extHead hτ .union hname h hk'
    · exact tsItem_of_extHead hτ .enum hname h (enumExtT τ hτ t hname hdirs hk h hn)
    · exact tsItem_of_extHead hτ .input hname h (inputExtT τ hτ t hname hdirs hk h hn)

def rTsDoc (τ : Trivia) (doc : List TsItem) : List Char :=
  τ 0 ++ renderItems (rTsItem τ) true false (τ 0).length doc

def wpTsDoc (τ : Trivia) (inp : List Char) (doc : List TsItem) : TsDoc :=
  mapItems (rTsItem τ) true false (wpTsItem τ inp) (τ 0).length doc

/-- an item begins with a character after which the item before it ends: no trivia, none of `@ ( { & | =` -/
theorem tdStart_ok {c : Char} (h : nameStart c ∨ c = '"') : ¬ trivia c ∧ ¬ tdBad c := by
  rcases h with hc | rfl
  · exact ⟨nameStart_not_trivia hc, by rintro (rfl | rfl | rfl | rfl | rfl | rfl) <;> exact absurd hc (by decide)⟩
  · decide

/-- parsing and building a leading gap followed by a non-empty list of items, written by any renderer `rI` whose items
    the rule `TypeSystemDefinitionOrExtension` reads as `wI`. `F s q` is what an item written with the flag `s` needs to
    know of the offset `q` where it ends: it holds where an item begins and at the end of the input. -/
theorem tsDoc_parse_of {g : List Char} (hg : Ws g) (rI : Bool → Nat → TsItem → List Char) (wI : Bool → Nat → TsItem → TsItem)
    (F : Bool → Nat → Prop) (hF : ∀ s q, F s q → Tok (At inp q)) (doc : List TsItem) (hne : doc ≠ [])
    (hI : inp = g ++ renderItems rI true false g.length doc)
    (hitem : ∀ x ∈ doc, ∀ s q, HasAt inp q (rI s q x) → F s (q + (rI s q x).length) →
      TsItemOk inp q (rI s q x) (wI s q x))
    (hhd : ∀ x ∈ doc, ∀ s q, Hd (fun d => nameStart d ∨ d = '"') (rI s q x))
    (hnext : ∀ x ∈ doc, ∀ s q Y, HasAt inp q (rI s q x ++ Y) → F true q) (hE : ∀ q, inp.drop q = [] → F false q) :
    ∃ pr, Peg.parse gList (defaultFuel inp) R.TypeSystemExtensionDocument inp = .pairs [pr] ∧ CleanP pr ∧
      buildTypeSystemDocument (Ctx.spec inp) (4 * inp.length + 64) [pr] =
        .ok (mapItems rI true false wI g.length doc) := by
  cases doc with
  | nil => exact absurd rfl hne
  | cons a r =>
    have hat : HasAt inp g.length (renderItems rI true false g.length (a :: r)) := ⟨[], by rw [hI]; simp⟩
    have hend : inp.drop (g.length + (renderItems rI true false g.length (a :: r)).length) = [] := by rw [hI]; simp
    obtain ⟨pss, hmany, hgood⟩ := items_many1K_of rI true false (.call R.TypeSystemDefinitionOrExtension) 130
      (fun s q it pr => Reads inp 130 R.TypeSystemDefinitionOrExtension q (rI s q it)
        (buildTypeSystemDefinitionOrExtension (Ctx.spec inp)) (wI s q it) pr)
      F hF r a g.length (fun x hx s q hat hf => (hitem x hx s q hat hf).imp fun _ R => ⟨R.part.run, R⟩) hnext
      (fun x hx s q => (hhd x hx s q).length_pos) hat (hE _ hend) ((tsItem_fails_eoi hend).mono (by decide))
    have hrule := goodItems_forall rI true false _ (fun x => x.rule = R.TypeSystemDefinitionOrExtension) (a :: r)
      (fun x _ s q pr hgd => hgd.rule) _ pss hgood
    have hclean := goodItems_clean rI true false _ (a :: r) (fun x _ s q pr hgd => hgd.clean) _ pss hgood
    have htok : Tok (At inp g.length) := tok_of_hd hat
      ((hd_renderItems rI true false hhd g.length).resolve_left (by rintro h; cases renderItems_eq_nil rI true false hhd h))
      (fun _ h => (tdStart_ok h).1)
    have hlenI : inp.length = g.length + (renderItems rI true false g.length (a :: r)).length := by rw [hI]; simp
    have hgap : Gap inp 0 g := ⟨⟨_, by simpa using hI⟩, hg, by simpa using htok⟩
    obtain ⟨e, hp, hc⟩ := document_parse (rfl : gList.look R.TypeSystemExtensionDocument = _) (by simpa using hgap.skip) hmany hclean hend
      (by simp only [defaultFuel, hlenI]; omega) (by simp only [defaultFuel, B, hlenI]; omega)
    refine ⟨_, hp, hc, ?_⟩
    rw [buildTypeSystemDocument, if_pos (show (Pair.mk R.TypeSystemExtensionDocument 0 e _).rule = R.TypeSystemExtensionDocument from rfl)]
    simp only [Pair.children]
    rw [filter_items (by decide) pss _ hrule]
    exact goodItems_mapM rI true false _ _ wI _ (a :: r) (fun x _ s q pr hgd hl => hgd.build _ hl) g.length pss
      (by rw [hI, List.length_append]; omega) hgood

theorem nxt_end {bad : Char → Prop} {s : Bool} {q : Nat} (h : inp.drop q = []) : Nxt inp bad s q :=
  have hn : ∀ P : Char → Prop, HeadNot P (inp.drop q) := fun P => by rw [h]; exact headNot_nil P
  ⟨hn _, hn _, fun _ => hn _⟩

/-- … for items that need no more than `Nxt` after them -/
theorem tsDoc_parseG {g : List Char} (hg : Ws g) (rI : Bool → Nat → TsItem → List Char) (wI : Bool → Nat → TsItem → TsItem)
    (doc : List TsItem) (hne : doc ≠ []) (hI : inp = g ++ renderItems rI true false g.length doc)
    (hitem : ∀ x ∈ doc, ∀ s q, HasAt inp q (rI s q x) → Nxt inp tdBad s (q + (rI s q x).length) →
      TsItemOk inp q (rI s q x) (wI s q x))
    (hhd : ∀ x ∈ doc, ∀ s q, Hd (fun d => nameStart d ∨ d = '"') (rI s q x)) :
    ∃ pr, Peg.parse gList (defaultFuel inp) R.TypeSystemExtensionDocument inp = .pairs [pr] ∧ CleanP pr ∧
      buildTypeSystemDocument (Ctx.spec inp) (4 * inp.length + 64) [pr] =
        .ok (mapItems rI true false wI g.length doc) :=
  tsDoc_parse_of hg rI wI (fun s q => Nxt inp tdBad s q) (fun _ _ h => h.tok) doc hne hI hitem hhd
    (fun x hx s q Y hY => .of_hd_sep hY ((hhd x hx s q).append Y) fun _ => tdStart_ok) fun _ => nxt_end

theorem parseTs_of_parse {doc : TsDoc} (h : ∃ pr, Peg.parse gList (defaultFuel inp) R.TypeSystemExtensionDocument inp =
      .pairs [pr] ∧ CleanP pr ∧ buildTypeSystemDocument (Ctx.spec inp) (4 * inp.length + 64) [pr] = .ok doc) :
    parseTs inp = .ok doc := by
  obtain ⟨pr, hp, hc, hb⟩ := h
  simp only [parseTs, parseWith, hp, firstBadEscape_clean _ [pr] ⟨hc, trivial⟩, hb]

end NitroVerif.DocParse
