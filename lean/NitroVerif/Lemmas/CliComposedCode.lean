/-
C18 composed (helper definitions and lemmas): an injective `Nat` coding of names, so that the `Nat`-coded fragment names
of `Model/Imports.lean` identify exactly the fragment names of the documents (`Env.code := nameCode` is a faithful
instance; the theorems of Props/C18Composed.lean hold for every coding).
-/
namespace NitroVerif.CliComposed

def charsCode : List Char → Nat
  | [] => 0
  | c :: cs => (c.toNat + 1) + 1114113 * charsCode cs

theorem char_toNat_lt (c : Char) : c.toNat < 1114112 := by
  have := c.valid
  simp only [Char.toNat]
  rcases this with h | ⟨_, h⟩
  · have : c.val.toNat < 55296 := h
    omega
  · have : c.val.toNat < 1114112 := h
    omega

theorem charsCode_inj : ∀ a b : List Char, charsCode a = charsCode b → a = b := by
  intro a
  induction a with
  | nil =>
    intro b h
    cases b with
    | nil => rfl
    | cons d ds => simp only [charsCode] at h; omega
  | cons c cs ih =>
    intro b h
    cases b with
    | nil => simp only [charsCode] at h; omega
    | cons d ds =>
      simp only [charsCode] at h
      have hc := char_toNat_lt c
      have hd := char_toNat_lt d
      have h1 : c.toNat = d.toNat := by omega
      have h2 : charsCode cs = charsCode ds := by omega
      rw [Char.toNat_inj.mp h1, ih ds h2]

/-- base-1114113 coding of the characters of a name (injective: `nameCode_inj`) -/
def nameCode (n : String) : Nat := charsCode n.toList

theorem nameCode_inj (a b : String) (h : nameCode a = nameCode b) : a = b := by
  have := charsCode_inj _ _ h
  exact String.toList_inj.mp this

end NitroVerif.CliComposed
