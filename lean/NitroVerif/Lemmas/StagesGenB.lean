/-
C08 (stages after parsing), the operation type printer, part B: the walk lemma.

If `check_selection_set` walks a selection set with the static type `t` in scope and reports nothing (up to
`UnknownVariable` under `without_variable_checks`), then — under `schemaOkB`, `ifaceOkB`, `skipIncludeB` — there is a
nesting bound `Dp` such that every selection of the set
  * has no fragment cycle and only defined spreads within `Dp` levels (`fitsS`), and
  * passes C01's validity check `selOkB` for EVERY possible object type of `t`
    (fields exist on the object type, `@skip`/`@include` carry `if`, composite field types have parent objects,
    spreads and type conditions are defined, applicable fragments are valid for the object type).
The quiet walk is taken as `CheckOp.Fine` (`CheckOp.fine_iff`): the induction is on that tree (= entering a fragment);
inside it a fine set says "every selection of the set and of the sets nested in it passed its local test" (`SiteFact`,
`Local`), and the structural induction over selections goes over those facts.
-/
import NitroVerif.Lemmas.StagesGenA
namespace NitroVerif.Stages
open NitroVerif.Gql NitroVerif.CheckOp NitroVerif.CheckCommon NitroVerif.Valid NitroVerif.OpTypes NitroVerif.OpTypes.Ref
  NitroVerif.Exec
variable {S : Schema} {F : FragMap} {D : Doc} {A : ErrKind → Bool} {H : SpreadHandler}

/-- what the walk establishes about one selection visited with the static type named `t`, at nesting bound `Dp` -/
def SelP (S : Schema) (F : FragMap) (t : Name) (Dp : Nat) (s : Selection) : Prop :=
  fitsS F Dp s = true ∧ ∀ o ∈ S.possibleTypes t, selOkB S F Dp o s = true

theorem selP_mono {t : Name} (D1 D2 : Nat) (s : Selection) (h : D1 ≤ D2)
    (hp : SelP S F t D1 s) : SelP S F t D2 s :=
  ⟨fitsS_mono h hp.1, fun o ho => selOkB_mono h (hp.2 o ho)⟩

/-- the selections of `ss`, with the type named `t` in scope, pass at one common nesting bound -/
def WalkOK (S : Schema) (F : FragMap) (t : Name) (ss : List Selection) : Prop :=
  ∃ Dp, ∀ s ∈ ss, SelP S F t Dp s

theorem all_selOkB {t : Name} {Dp : Nat} {ss : List Selection}
    (hDp : ∀ s ∈ ss, SelP S F t Dp s) :
    ss.all (fitsS F Dp) = true ∧ ∀ o ∈ S.possibleTypes t, ss.all (selOkB S F Dp o) = true :=
  ⟨List.all_eq_true.mpr fun x hx => (hDp x hx).1, fun o ho => List.all_eq_true.mpr fun x hx => (hDp x hx).2 o ho⟩

theorem selOkB_applies {c o : Name} {Dp : Nat} {ss : List Selection}
    (hDp : ∀ s ∈ ss, SelP S F c Dp s) (hobj : IsObj S o) :
    (!fragmentTypeApplies S o c || ss.all (selOkB S F Dp o)) = true := by
  cases happ : fragmentTypeApplies S o c with
  | false => rfl
  | true => exact (all_selOkB hDp).2 o (possible_of_applies hobj happ)

theorem isComposite_of_directFields {n : Name} {ft : TypeDef} (hn : S.typeDef? n = some ft)
    (h : (CheckOp.directFields ft).isSome = true) : S.isComposite n = true := by
  unfold Schema.isComposite Schema.kindOf?
  rw [hn]
  unfold CheckOp.directFields at h
  cases hk : ft.kind <;> simp [hk] at h ⊢

section
variable (hS : schemaOkB S = true) (hI : ifaceOkB S = true) (hSI : skipIncludeB S = true) (hC : CondsDefined S D)
  (hA : Admissible A)
include hS hI hSI hC hA

theorem walk_sites (vars : Option (List VarDef)) :
    (∀ s n root fields, S.typeDef? n = some root → CheckOp.directFields root = some fields →
      SiteFact S A (spreadLocal S D) [] vars root fields s →
      (∀ ps ∈ sitesIn S (some n) s, Local S D A vars ps) →
      (∀ m ∈ spreadNamesSel s, ∀ f, fragMap D m = some f → WalkOK S (OpTypes.fragsOf D) f.cond f.sel) →
      ∃ Dp, SelP S (OpTypes.fragsOf D) n Dp s) ∧
    (∀ ss n root fields, S.typeDef? n = some root → CheckOp.directFields root = some fields →
      (∀ ps ∈ sitesOf S (some n) ss, Local S D A vars ps) →
      (∀ m ∈ spreadNames ss, ∀ f, fragMap D m = some f → WalkOK S (OpTypes.fragsOf D) f.cond f.sel) →
      ∀ s ∈ ss, ∃ Dp, SelP S (OpTypes.fragsOf D) n Dp s) := by
  apply Selection.size.mutual_induct
  case case1 =>
    -- a field with a sub-selection
    intro al name np args dirs ss ih n root fields hn hf ⟨fd, hfd, hd, _, ft, hft, hsel⟩ hsub HP
    simp only [sitesIn, subScope, Option.bind_some, hn, hf, hfd, Option.map_some] at hsub
    have hcomp : (CheckOp.directFields ft).isSome = true := hsel ▸ rfl
    obtain ⟨ffields, hff⟩ := Option.isSome_iff_exists.mp hcomp
    obtain ⟨Dp, hDp⟩ := depth_for_list selP_mono ss (ih _ ft ffields hft hff hsub HP)
    have hdirs := dirsOk_of_quiet hSI hA hd
    refine ⟨Dp + 1, (all_selOkB hDp).1, fun o ho => ?_⟩
    simp only [selOkB, hdirs, Bool.true_and, Bool.or_eq_true]
    by_cases hnt : name = "__typename"
    · exact Or.inl (beq_iff_eq.mpr hnt)
    obtain ⟨g, hg, hsub⟩ := field_on_possible hS hI hn hf hfd hnt ho
    refine Or.inr ?_
    -- the possible object types of the object's field type are possible types of the checked field type
    have hpo : parentsOkB S g.ty.unwrapped = true ∧
        ∀ o' ∈ S.possibleTypes g.ty.unwrapped, o' ∈ S.possibleTypes fd.ty.unwrapped := by
      unfold subOkB at hsub
      simp only [Bool.or_eq_true, Bool.and_eq_true, List.all_eq_true, beq_iff_eq, List.contains_iff_mem] at hsub
      rcases hsub with (heq | hleaf) | hsub
      · rw [heq]
        exact ⟨parentsOk_of_composite hS hft hcomp, fun o' ho' => ho'⟩
      · rw [isComposite_of_directFields hft hcomp] at hleaf; cases hleaf
      · exact hsub
    simp only [hg, Bool.and_eq_true, List.all_eq_true]
    exact ⟨hpo.1, fun o' ho' => List.all_eq_true.mp ((all_selOkB hDp).2 o' (hpo.2 o' ho'))⟩
  case case2 =>
    intro al name np args dirs n root fields hn hf ⟨fd, hfd, hd, _⟩ _ _
    have hdirs := dirsOk_of_quiet hSI hA hd
    refine ⟨1, rfl, fun o ho => ?_⟩
    simp only [selOkB, hdirs, Bool.true_and, Bool.or_eq_true]
    by_cases hnt : name = "__typename"
    · exact Or.inl (beq_iff_eq.mpr hnt)
    · obtain ⟨g, hg, _⟩ := field_on_possible hS hI hn hf hfd hnt ho
      exact Or.inr (by rw [hg])
  case case3 =>
    -- a fragment spread: the fragment's set is valid
    intro name np dirs pos n root fields hn hf ⟨hd, hq⟩ _ HP
    have hdirs := dirsOk_of_quiet hSI hA hd
    obtain ⟨f, hm⟩ := spreadLocal_defined hA hq
    obtain ⟨ct', hct'⟩ := hC f (fragMap_eq_some hm).1
    obtain ⟨Dp, hDp⟩ := HP name (by simp [spreadNamesSel]) f hm
    have hF : OpTypes.fragsOf D name = some f := (OpTypes.fragsOf_eq_fragMap D name).trans hm
    refine ⟨Dp + 1, ?_, fun o ho => ?_⟩
    · simp only [fitsS, hF]
      exact (all_selOkB hDp).1
    · simp only [selOkB, hdirs, Bool.true_and, hF, hct', Option.isSome_some]
      exact selOkB_applies hDp (isObj_of_walked hS hn hf ho)
  case case4 =>
    intro cond dirs ss pos ih n root fields hn hf ⟨hd, hc⟩ hsub HP
    have hdirs := dirsOk_of_quiet hSI hA hd
    cases cond with
    | none =>
      obtain ⟨Dp, hDp⟩ := depth_for_list selP_mono ss (ih n root fields hn hf hsub HP)
      refine ⟨Dp + 1, (all_selOkB hDp).1, fun o ho => ?_⟩
      simp only [selOkB, hdirs, Bool.true_and, condApplies, Bool.not_true, Bool.false_or]
      exact (all_selOkB hDp).2 o ho
    | some cc =>
      obtain ⟨c, cp⟩ := cc
      obtain ⟨ct, hct, _, hcomp⟩ := hc
      obtain ⟨cfields, hcf⟩ := Option.isSome_iff_exists.mp hcomp
      obtain ⟨Dp, hDp⟩ := depth_for_list selP_mono ss (ih c ct cfields hct hcf hsub HP)
      refine ⟨Dp + 1, (all_selOkB hDp).1, fun o ho => ?_⟩
      simp only [selOkB, hdirs, Bool.true_and, hct, Option.isSome_some, condApplies]
      exact selOkB_applies hDp (isObj_of_walked hS hn hf ho)
  case case5 => exact fun _ _ _ _ _ _ _ _ hs => nomatch hs
  case case6 =>
    intro s ss ih1 ih2 n root fields hn hf h HP
    obtain ⟨⟨h0, h1⟩, h2⟩ := forall_sitesOf_cons.mp h
    rw [spreadNames_cons] at HP
    exact List.forall_mem_cons.mpr
      ⟨ih1 n root fields hn hf ((localFact_iff hn hf s).mp h0) h1 fun m hm => HP m (List.mem_append_left _ hm),
       ih2 n root fields hn hf h2 fun m hm => HP m (List.mem_append_right _ hm)⟩

theorem walk_set {seen : List Name} {vars : Option (List VarDef)} {t : Name} {ss : List Selection}
    (h : Fine S D A vars seen t ss) : WalkOK S (OpTypes.fragsOf D) t ss := by
  induction h with
  | mk hfine _ _ _ ih =>
    obtain ⟨⟨ct, hct, hcomp⟩, hl⟩ := hfine
    obtain ⟨fields, hf⟩ := Option.isSome_iff_exists.mp hcomp
    exact depth_for_list selP_mono _ ((walk_sites hS hI hSI hC hA vars).2 _ _ ct fields hct hf hl ih)

theorem fine_ok {seen : List Name} {vars : Option (List VarDef)} {t : Name} {ss : List Selection}
    (h : Fine S D A vars seen t ss) :
    ∃ ct, S.typeDef? t = some ct ∧ (CheckOp.directFields ct).isSome = true ∧
      ∃ Dp, ∀ s ∈ ss, fitsS (OpTypes.fragsOf D) Dp s = true ∧
        ∀ o ∈ S.possibleTypes t, selOkB S (OpTypes.fragsOf D) Dp o s = true := by
  obtain ⟨ct, hct, hcomp⟩ := h.set.1
  exact ⟨ct, hct, hcomp, walk_set hS hI hSI hC hA h⟩

end
end NitroVerif.Stages
