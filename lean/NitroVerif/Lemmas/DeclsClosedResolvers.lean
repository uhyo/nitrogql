/-
The resolvers declaration file (`Model/ResolverDecls.lean`) linked with the generated schema declaration file through its
`import type * as Schema`: shape of the file (flat, one star import), and the meaning of the `Args` record and the
`Result` type of a field resolver — exactly the executable references `RefTypes.refArgs` and `RefTypes.refResolverOut`.
-/
import NitroVerif.Model.ResolverDecls
import NitroVerif.Lemmas.DeclsClosedInduct
namespace NitroVerif.ResolverDecls
open NitroVerif.Gql NitroVerif.Ts NitroVerif.DeclCfg NitroVerif.SchemaDecls NitroVerif.RefTypes

theorem starImports_append (a b : File) : starImports (a ++ b) = starImports a ++ starImports b := by
  simp [starImports, List.filterMap_append]

theorem resolversFile_flat (c : Cfg) (doc : TsDoc) :
    (resolversFile c doc).all (fun s => !s.isNamespace) = true := by
  simp [resolversFile, Stmt.isNamespace]

theorem resolversFile_imports (c : Cfg) (doc : TsDoc) :
    starImports (resolversFile c doc) = [(schemaSource, schemaNs)] := by
  rw [resolversFile, starImports_append, starImports_append]
  simp [starImports, List.filterMap_map, Function.comp_def]

variable {e : Env}

theorem refArgs_iff (c : Cfg) (s : Schema) (args : List InputValueDef) (v : J) :
    (∃ n, refArgs c s n args v = true) ↔
      ∃ kvs, v = .obj kvs ∧ RecordSpec (args.map fun a => (a.name, false, Conf (Ref c s .resolverInput) a.ty)) kvs := by
  refine exists_obj_iff (P := fun v => ∃ n, refArgs c s n args v = true)
    (fun hv ⟨n, hn⟩ => by cases v <;> first | cases hn | exact hv _ rfl) fun kvs => ?_
  simp only [refArgs]
  exact exists_recordMem_conf_iff c s .resolverInput [] args (fun a => a.name) _ (fun a => a.ty) kvs

/-- what a resolver returns for the named type (∃ fuel) -/
def RefOut (c : Cfg) (s : Schema) (name : Name) (v : J) : Prop := ∃ n, refResolverOut c s n name v = true

variable (c : Cfg) (s : Schema)

theorem refResolverOut_object {n : Nat} {name : Name} {td : TypeDef} (h : s.typeDef? name = some td)
    (hk : td.kind = .object) (kvs : List (String × J)) :
    refResolverOut c s (n + 1) name (.obj kvs) =
      recordMem (td.fields.map fun f => (f.name, false, conf (refMem c s .resolverOutput n) f.ty)) kvs := by
  simp only [refResolverOut, h, hk]

theorem refResolverOut_object_notObj {n : Nat} {name : Name} {td : TypeDef} {v : J} (h : s.typeDef? name = some td)
    (hk : td.kind = .object) (hv : ∀ kvs, v ≠ .obj kvs) : refResolverOut c s n name v = false := by
  cases n with
  | zero => simp [refResolverOut]
  | succ n =>
    simp only [refResolverOut, h, hk]

theorem refResolverOut_abstract {n : Nat} {name : Name} {v : J} {td : TypeDef} (h : s.typeDef? name = some td)
    (hk : td.kind = .interface ∨ td.kind = .union) :
    refResolverOut c s (n + 1) name v = (s.possibleTypes name).any fun o => refResolverOut c s n o v := by
  rcases hk with hk | hk <;> simp only [refResolverOut, h, hk]

theorem refResolverOut_leaf {n : Nat} {name : Name} {v : J} {td : TypeDef} (h : s.typeDef? name = some td)
    (hk : td.kind = .scalar ∨ td.kind = .enum ∨ td.kind = .input) :
    refResolverOut c s (n + 1) name v = refMem c s .resolverOutput (n + 1) name v := by
  rcases hk with hk | hk | hk <;> simp only [refResolverOut, h, hk]

theorem refResolverOut_unknown {n : Nat} {name : Name} {v : J} (h : s.typeDef? name = none) :
    refResolverOut c s n name v = false := by
  cases n <;> simp [refResolverOut, h]

theorem refResolverOut_succ : ∀ (n : Nat) (name : Name) (v : J),
    refResolverOut c s n name v = true → refResolverOut c s (n + 1) name v = true := by
  intro n
  induction n with
  | zero => intro name v h; simp [refResolverOut] at h
  | succ n ih =>
    intro name v h
    cases htd : s.typeDef? name with
    | none => rw [refResolverOut_unknown c s htd] at h; cases h
    | some td =>
      cases hk : td.kind with
      | object =>
        cases v with
        | obj kvs =>
          rw [refResolverOut_object c s htd hk] at h ⊢
          exact recordMem_mono [] _ _ _ _ _
            (fun a _ x hx => conf_mono (fun m y hy => refMem_succ c s .resolverOutput n m y hy) a.ty x hx) kvs h
        | _ => rw [refResolverOut_object_notObj c s htd hk (by intro kvs; simp)] at h; cases h
      | interface | union =>
        rw [refResolverOut_abstract c s htd (by simp [hk])] at h ⊢
        simp only [List.any_eq_true] at h ⊢
        obtain ⟨o, ho, hm⟩ := h
        exact ⟨o, ho, ih _ _ hm⟩
      | scalar | «enum» | input =>
        rw [refResolverOut_leaf c s htd (by simp [hk])] at h ⊢
        exact refMem_succ c s _ _ _ _ h

theorem RefOut_succ_iff {name : Name} {v : J} : RefOut c s name v ↔ ∃ n, refResolverOut c s (n + 1) name v = true := by
  constructor
  · rintro ⟨n, hn⟩; exact ⟨n, refResolverOut_succ c s n name v hn⟩
  · rintro ⟨n, hn⟩; exact ⟨n + 1, hn⟩

theorem RefOut_leaf {name : Name} {v : J} {td : TypeDef} (h : s.typeDef? name = some td)
    (hk : td.kind = .scalar ∨ td.kind = .enum ∨ td.kind = .input) :
    RefOut c s name v ↔ Ref c s .resolverOutput name v := by
  rw [RefOut_succ_iff, Ref_succ_iff]
  simp only [refResolverOut_leaf c s h hk]

theorem RefOut_object {name : Name} {v : J} {td : TypeDef} (h : s.typeDef? name = some td) (hk : td.kind = .object) :
    RefOut c s name v ↔ ∃ kvs, v = .obj kvs ∧
      RecordSpec (td.fields.map fun f => (f.name, false, Conf (Ref c s .resolverOutput) f.ty)) kvs := by
  rw [RefOut_succ_iff]
  refine exists_obj_iff (P := fun v => ∃ n, refResolverOut c s (n + 1) name v = true)
    (fun hv ⟨n, hn⟩ => by rw [refResolverOut_object_notObj c s h hk hv] at hn; cases hn) fun kvs => ?_
  simp only [refResolverOut_object c s h hk]
  exact exists_recordMem_conf_iff c s .resolverOutput [] td.fields (fun f => f.name) _ (fun f => f.ty) kvs

theorem RefOut_abstract {name : Name} {v : J} {td : TypeDef} (h : s.typeDef? name = some td)
    (hk : td.kind = .interface ∨ td.kind = .union) :
    RefOut c s name v ↔ ∃ o ∈ s.possibleTypes name, RefOut c s o v := by
  rw [RefOut_succ_iff]
  simp only [refResolverOut_abstract c s h hk, List.any_eq_true]
  constructor
  · rintro ⟨n, o, ho, hm⟩; exact ⟨o, ho, n, hm⟩
  · rintro ⟨o, ho, n, hm⟩; exact ⟨n, o, ho, hm⟩

theorem exists_conf_refResolverOut_iff (ty : GType) (x : J) :
    (∃ k, conf (refResolverOut c s k) ty x = true) ↔ Conf (RefOut c s) ty x :=
  conf_iff_exists (leaf := refResolverOut c s) (fun k n x h => refResolverOut_succ c s k n x h) ty x

theorem decls_map_type {α : Type} (sc : Scope) (l : List α) (n : α → String) (ty : α → Ty) :
    Stmt.declsList sc (l.map fun a => Stmt.type false (n a) [] (ty a))
      = l.map fun a => (⟨sc, n a, false, [], ty a⟩ : Decl) := by
  induction l with
  | nil => rfl
  | cons a r ih => simp [Stmt.declsList, Stmt.decls, ih]

/-- the definitions that get a local alias in the resolvers file: every kind but input objects -/
def outsOf (doc : TsDoc) : List TypeDef := (typeDefsOf doc).filter (·.kind != .input)

/-- the two fixed top-level declarations of the resolvers file (the two imports before them declare nothing) -/
def headDecls : List Decl :=
  [⟨[], "__Resolver", false, [], .other "raw" [resolverText]⟩,
   ⟨[], "__TypeResolver", false, [], .other "raw" [typeResolverText]⟩]

def tailDecls (doc : TsDoc) : List Decl :=
  [⟨[], "Resolvers", true, ["Context"], rootResolvers ⟨doc⟩ (typeDefsOf doc)⟩,
   ⟨[], "ResolverOutput", true, ["T"],
     .index (.obj ((outsOf doc).map fun td => (td.name, false, false, .ref td.name))) (.ref "T")⟩]

theorem decls_resolversFile (c : Cfg) (doc : TsDoc) :
    Stmt.declsList [] (resolversFile c doc) =
      headDecls ++ (outsOf doc).map (fun td => (⟨[], td.name, false, [], resolverOutputType ⟨doc⟩ td⟩ : Decl))
        ++ tailDecls doc := by
  simp only [resolversFile, declsList_append, decls_map_type, outsOf, headDecls, tailDecls]
  simp [Stmt.declsList, Stmt.decls]

theorem find_map_decl (g : TypeDef → Ty) (td : TypeDef) (l : List TypeDef) (hm : td ∈ l)
    (hinj : ∀ a ∈ l, a.name = td.name → a = td) (rest : List Decl) :
    ((l.map fun a => (⟨[], a.name, false, [], g a⟩ : Decl)) ++ rest).find? (isDeclAt [] td.name)
      = some ⟨[], td.name, false, [], g td⟩ := by
  rw [List.find?_append, find?_of_unique (d := ⟨[], td.name, false, [], g td⟩) (List.mem_map_of_mem hm)
    (by simp [isDeclAt]) fun x hx hp => ?_]
  · rfl
  · obtain ⟨a, ha, rfl⟩ := List.mem_map.1 hx
    simp only [isDeclAt, Bool.and_eq_true, beq_iff_eq] at hp
    rw [hinj a ha hp.2]

/-- side conditions of the `Result` closed form: no configured scalar text applies `Omit<…>` on its interpreted spine
    (the membership environment of the O stream interprets `Omit`, `Ref` reads texts without helper types); no schema
    type is named like a helper of the resolvers file or `Omit`; no field is called `__typename` (GraphQL reserves
    names beginning with `__`) -/
structure ResolversOK (c : Cfg) (doc : TsDoc) : Prop where
  noOmit : ∀ p ∈ scalarTypes c doc, ∀ t ∈ Target.all, (c.parseOf (p.2.getType t)).noOmit = true
  names : ∀ td ∈ typeDefsOf doc, td.name ∉ ["__Resolver", "__TypeResolver", "Omit"]
  fieldNames : ∀ td ∈ typeDefsOf doc, ∀ f ∈ td.fields, f.name ≠ "__typename"

instance (c : Cfg) (doc : TsDoc) : Decidable (ResolversOK c doc) :=
  decidable_of_iff (_ ∧ _ ∧ _) ⟨fun ⟨a, b, c⟩ => ⟨a, b, c⟩, fun ⟨a, b, c⟩ => ⟨a, b, c⟩⟩

section result
variable {c : Cfg} {doc : TsDoc} {F : File} (hF : schemaFile c doc = .ok F) (ok : DocOK c doc) (rok : ResolversOK c doc)

/-- the environment of the O stream for the resolvers file: linked with the schema file, `Omit` interpreted -/
abbrev RE (c : Cfg) (doc : TsDoc) (F : File) : Env := (Env.ofFiles (resolversFile c doc) [(schemaSource, F)]).withStd

theorem RE_decls (c : Cfg) (doc : TsDoc) (F : File) :
    (RE c doc F).decls = Decls.ofFiles (resolversFile c doc) [(schemaSource, F)] :=
  (Env.withStd_decls _).trans (Env.ofFiles_decls _ _)

include hF ok in
theorem RE_hosting : Hosting c doc F (RE c doc F).decls [schemaNs] := by
  rw [RE_decls]
  exact .ofFiles hF ok (resolversFile_flat c doc) (resolversFile_imports c doc)

theorem RE_resolveNs (c : Cfg) (doc : TsDoc) (F : File) :
    (RE c doc F).decls.resolveNsAux schemaNs (([] : Scope).length + 1) [] = some [schemaNs] := by
  rw [RE_decls]
  exact ofFiles_resolveNs (resolversFile c doc) schemaSource schemaNs F (resolversFile_imports c doc)

include rok in
theorem RE_scalars : ScalarsGlobal c doc (RE c doc F) :=
  fun p hp t ht _ => mem_indep_std (fun _ _ _ => rfl) (rok.noOmit p hp t ht)

include hF ok rok in
theorem RE_schemaRef {td : TypeDef} (hm : td ∈ typeDefsOf doc) (hk : td.kind ≠ .input) :
    globalise (RE c doc F).decls [] [] (.qref [schemaNs, Target.resolverOutput.name, td.name])
      = absRef c doc [schemaNs] .resolverOutput td.name ∧
    ∀ v, Mem (RE c doc F) v (absRef c doc [schemaNs] .resolverOutput td.name) ↔ Ref c ⟨doc⟩ .resolverOutput td.name v := by
  have hfit : kindFits td.kind .resolverOutput = true := kindFits_output hk rfl
  obtain ⟨ty, hb⟩ := fits_body hF .resolverOutput hm hfit
  have hq := hosted_qualified_outer (RE_hosting hF ok) .resolverOutput (sc := []) (A := schemaNs)
    (RE_resolveNs c doc F) hm hb
  exact ⟨globalise_of_resolveQ hq,
    fun v => hosted_alias_exact (RE_hosting hF ok) (RE_scalars rok) .resolverOutput hm hfit v⟩

include ok rok in
theorem RE_findLocal {td : TypeDef} (hm : td ∈ typeDefsOf doc) (hk : td.kind ≠ .input) :
    (RE c doc F).decls.findLocal [] td.name = some ⟨[], td.name, false, [], resolverOutputType ⟨doc⟩ td⟩ := by
  rw [RE_decls]
  apply ofFiles_findLocal_top (resolversFile c doc) schemaSource schemaNs F (resolversFile_imports c doc)
  rw [decls_resolversFile]
  have hn := rok.names td hm
  simp only [List.mem_cons, List.mem_nil_iff, or_false, not_or] at hn
  have e1 : ("__Resolver" == td.name) = false := by simpa using Ne.symm hn.1
  have e2 : ("__TypeResolver" == td.name) = false := by simpa using Ne.symm hn.2.1
  simp only [headDecls, List.cons_append, List.nil_append, List.find?_cons, isDeclAt, e1, e2, Bool.and_false]
  apply find_map_decl
  · simp only [outsOf, List.mem_filter]
    refine ⟨hm, ?_⟩
    cases hkk : td.kind <;> first | rfl | exact absurd hkk hk
  · intro a ha e
    exact eq_of_key_eq_of_nodup (·.name) ok.distinct (List.mem_filter.1 ha).1 hm e

include ok rok in
theorem RE_leaf {td : TypeDef} (hm : td ∈ typeDefsOf doc) (hk : td.kind ≠ .input) :
    globalise (RE c doc F).decls [] [] (.ref td.name) = Ty.abs [] td.name ∧
    (RE c doc F).decls.body? [td.name]
      = some ([], globalise (RE c doc F).decls [] [] (resolverOutputType ⟨doc⟩ td)) :=
  ⟨globalise_of_resolveRef (resolveRef_of_findLocal (RE_findLocal (F := F) ok rok hm hk)),
    body?_of_findLocal (sc := []) (RE_findLocal (F := F) ok rok hm hk)⟩

include rok in
theorem RE_omit : globalise (RE c doc F).decls [] [] (.ref "Omit") = .ref "Omit" := by
  have hfl : (RE c doc F).decls.findLocal [] "Omit" = none := by
    rw [RE_decls]
    apply ofFiles_findLocal_top_none (resolversFile c doc) schemaSource schemaNs F (resolversFile_imports c doc)
    rw [decls_resolversFile]
    apply List.find?_eq_none.2
    intro d hdm
    simp only [isDeclAt, Bool.and_eq_true, beq_iff_eq, not_and]
    intro _ hn
    simp only [headDecls, tailDecls, List.mem_append, List.mem_cons, List.mem_nil_iff, or_false, List.mem_map] at hdm
    rcases hdm with ((rfl | rfl) | ⟨a, ha, rfl⟩) | (rfl | rfl)
    · exact absurd hn (by decide)
    · exact absurd hn (by decide)
    · have := rok.names a (List.mem_filter.1 ha).1
      simp only at hn
      simp [hn] at this
    · exact absurd (show "Resolvers" = "Omit" from hn) (by decide)
    · exact absurd (show "ResolverOutput" = "Omit" from hn) (by decide)
  simp [globalise, Decls.resolveRef, Decls.resolveRefAux, hfl]

theorem filter_typename {α : Type} (l : List α) (key : α → String) (g : α → Bool × Bool × Ty) (t0 : Bool × Bool × Ty)
    (h : ∀ a ∈ l, key a ≠ "__typename") :
    ((("__typename", t0) :: l.map fun a => (key a, g a)) : List Field).filter
        (fun fld => !(["__typename"] : List String).contains fld.1)
      = l.map fun a => (key a, g a) := by
  simp only [List.filter_cons, List.contains_cons, List.contains_nil, Bool.or_false, beq_self_eq_true,
    Bool.not_true, Bool.false_eq_true, if_false]
  apply List.filter_eq_self.2
  intro x hx
  obtain ⟨a, ha, rfl⟩ := List.mem_map.1 hx
  simpa using h a ha

theorem stdHook_omit {D : Decls} {path : List String} {fs : List Field} {k : String}
    (hb : D.body? path = some ([], .obj fs)) :
    stdHook D (.ref "Omit") [.other "abs" path, .strLit k]
      = some (.obj (fs.filter fun fld => !([k] : List String).contains fld.1)) := by
  have hv : objView ({ decls := D } : Env) 64 (.other "abs" path) = .isObj fs := by
    rw [objView_abs_some (n := 63) hb]; rfl
  simp only [stdHook, hv, Ty.strLits]

include hF ok rok in
theorem RE_inner_leaf {td' : TypeDef} (hm' : td' ∈ typeDefsOf doc) (hk' : td'.kind ≠ .input) (y : J) :
    Mem (RE c doc F) y (globalise (RE c doc F).decls ([schemaNs] ++ [Target.resolverOutput.name]) []
        ((Ctx.new c doc .resolverOutput).leaf td'.name))
      ↔ Ref c ⟨doc⟩ .resolverOutput td'.name y := by
  have hfit' : kindFits td'.kind .resolverOutput = true := kindFits_output hk' rfl
  rw [leaf_abs (RE_hosting hF ok) .resolverOutput hm' hfit']
  exact hosted_alias_exact (RE_hosting hF ok) (RE_scalars rok) .resolverOutput hm' hfit' y

include hF ok rok in
theorem RE_object_exact {td : TypeDef} (hm : td ∈ typeDefsOf doc) (hk : td.kind = .object) (v : J) :
    Mem (RE c doc F) v (Ty.abs [] td.name) ↔ RefOut c ⟨doc⟩ td.name v := by
  have hki : td.kind ≠ .input := by rw [hk]; decide
  obtain ⟨_, hbody⟩ := RE_leaf (F := F) ok rok hm hki
  obtain ⟨hq, _⟩ := RE_schemaRef hF ok rok hm hki
  have hrt : resolverOutputType ⟨doc⟩ td
      = .app (.ref "Omit") [.qref [schemaNs, Target.resolverOutput.name, td.name], .strLit "__typename"] := by
    simp [resolverOutputType, hk]
  have hglob : globalise (RE c doc F).decls [] [] (resolverOutputType ⟨doc⟩ td)
      = .app (.ref "Omit") [absRef c doc [schemaNs] .resolverOutput td.name, .strLit "__typename"] := by
    rw [hrt, globalise, globaliseList, globaliseList, globaliseList, RE_omit rok, hq]
    simp only [globalise]
  have hb0 : body (Ctx.new c doc .resolverOutput) td = .ok (some (objectBody (Ctx.new c doc .resolverOutput) td)) := by
    simp [body, hk, Target.isInput, Target.isOutput]
  have hsb := hosted_body (RE_hosting hF ok) .resolverOutput hm hb0
  rw [objectBody, globalise_objectBodyL] at hsb
  have hhook : (RE c doc F).appHook (RE c doc F).decls (.ref "Omit")
      [absRef c doc [schemaNs] .resolverOutput td.name, .strLit "__typename"]
      = some (.obj (td.fields.map fun f =>
          (f.name, false, false, tsOf (fun n => globalise (RE c doc F).decls ([schemaNs] ++ [Target.resolverOutput.name]) []
            ((Ctx.new c doc .resolverOutput).leaf n)) false f.ty))) := by
    rw [show (RE c doc F).appHook = stdHook from rfl, absRef, Ty.abs, stdHook_omit hsb,
      filter_typename td.fields (fun f => f.name) _ _ (rok.fieldNames td hm)]
  rw [Ty.abs, List.nil_append, mem_alias_iff (by rw [hbody, hglob]), mem_app_iff hhook,
    mem_recordBody_iff td.fields (fun f => f.name) (fun _ => false) (fun f => f.ty) _
      (fun n x => Mem (RE c doc F) x (globalise (RE c doc F).decls ([schemaNs] ++ [Target.resolverOutput.name]) []
        ((Ctx.new c doc .resolverOutput).leaf n))) (fun _ _ => Iff.rfl),
    RefOut_object c ⟨doc⟩ (typeDef?_of_mem ok hm) hk]
  refine exists_congr fun kvs => and_congr_right fun _ =>
    recordSpec_conf_congr [] td.fields (fun f => f.name) (fun _ => false) (fun f => f.ty) kvs fun f hf y _ => ?_
  obtain ⟨td', hm', hn', hk'⟩ := ok.fields td hm hk f hf
  rw [← hn']
  exact RE_inner_leaf hF ok rok hm' hk' y

include hF ok rok in
theorem RE_leafKind_exact {td : TypeDef} (hm : td ∈ typeDefsOf doc) (hk : td.kind = .scalar ∨ td.kind = .enum)
    (v : J) : Mem (RE c doc F) v (Ty.abs [] td.name) ↔ RefOut c ⟨doc⟩ td.name v := by
  have hki : td.kind ≠ .input := by rcases hk with hk | hk <;> rw [hk] <;> decide
  obtain ⟨_, hbody⟩ := RE_leaf (F := F) ok rok hm hki
  obtain ⟨hq, hx⟩ := RE_schemaRef hF ok rok hm hki
  have hrt : resolverOutputType ⟨doc⟩ td = .qref [schemaNs, Target.resolverOutput.name, td.name] := by
    rcases hk with hk | hk <;> simp [resolverOutputType, hk]
  rw [Ty.abs, List.nil_append, mem_alias_iff (by rw [hbody, hrt, hq]), hx v,
    RefOut_leaf c ⟨doc⟩ (typeDef?_of_mem ok hm) (by rcases hk with hk | hk <;> simp [hk])]

include hF ok rok in
theorem RE_members_exact {td : TypeDef} (hm : td ∈ typeDefsOf doc) (hk : td.kind = .interface ∨ td.kind = .union)
    (v : J) : Mem (RE c doc F) v (Ty.abs [] td.name) ↔ RefOut c ⟨doc⟩ td.name v := by
  have hki : td.kind ≠ .input := by rcases hk with hk | hk <;> rw [hk] <;> decide
  obtain ⟨_, hbody⟩ := RE_leaf (F := F) ok rok hm hki
  have hrt : resolverOutputType ⟨doc⟩ td = membersBodyL .ref ((Schema.mk doc).possibleTypes td.name) := by
    rcases hk with hk | hk <;>
      simp [resolverOutputType, hk, Schema.possibleTypes, typeDef?_of_mem ok hm, membersBodyL, List.map_map,
        Function.comp_def]
  rw [Ty.abs, List.nil_append, mem_alias_iff hbody, hrt, globalise_membersBodyL,
    RefOut_abstract c ⟨doc⟩ (typeDef?_of_mem ok hm) hk]
  refine mem_membersBodyL_iff _ _ _ v fun n hn => ?_
  obtain ⟨td', hm', hn', hk'⟩ := possibleTypes_objects ok hm hk n hn
  have hki' : td'.kind ≠ .input := by rw [hk']; decide
  rw [← hn', (RE_leaf (F := F) ok rok hm' hki').1]
  exact RE_object_exact hF ok rok hm' hk' v

include hF ok rok in
theorem RE_alias_exact {td : TypeDef} (hm : td ∈ typeDefsOf doc) (hki : td.kind ≠ .input) (v : J) :
    Mem (RE c doc F) v (Ty.abs [] td.name) ↔ RefOut c ⟨doc⟩ td.name v := by
  cases hk : td.kind with
  | scalar | «enum» => exact RE_leafKind_exact hF ok rok hm (by simp [hk]) v
  | object => exact RE_object_exact hF ok rok hm hk v
  | input => exact absurd hk hki
  | interface | union => exact RE_members_exact hF ok rok hm (by simp [hk]) v

include hF ok rok in
theorem RE_result_exact (ty : GType) {td : TypeDef} (hm : td ∈ typeDefsOf doc) (hki : td.kind ≠ .input)
    (hn : td.name = ty.unwrapped) (v : J) :
    Mem (RE c doc F) v (globalise (RE c doc F).decls [] [] (tsOf .ref false ty))
      ↔ ∃ k, conf (refResolverOut c ⟨doc⟩ k) ty v = true := by
  rw [globalise_tsOf, mem_tsOf_iff, exists_conf_refResolverOut_iff]
  apply conf_congr
  intro y _
  rw [← hn, (RE_leaf (F := F) ok rok hm hki).1]
  exact RE_alias_exact hF ok rok hm hki y

include hF ok in
theorem args_exact {E : Env} (hE : E.decls = Decls.ofFiles (resolversFile c doc) [(schemaSource, F)])
    (hsc : ScalarsGlobal c doc E) (args : List InputValueDef)
    (hargs : ∀ a ∈ args, ∃ td ∈ typeDefsOf doc, td.name = a.ty.unwrapped ∧ kindFits td.kind .resolverInput = true)
    (v : J) :
    Mem E v (globalise E.decls [] [] (argsType args)) ↔ ∃ n, refArgs c ⟨doc⟩ n args v = true := by
  have X : Hosting c doc F E.decls [schemaNs] := by
    rw [hE]; exact .ofFiles hF ok (resolversFile_flat c doc) (resolversFile_imports c doc)
  have hleaf : ∀ td ∈ typeDefsOf doc, kindFits td.kind .resolverInput = true → ∀ y,
      (Mem E y (globalise E.decls [] [] (.qref [schemaNs, Target.resolverInput.name, td.name]))
        ↔ Ref c ⟨doc⟩ .resolverInput td.name y) := fun td hm hfit y =>
    hosted_qualified_exact X hsc .resolverInput
      (by rw [hE]; exact ofFiles_resolveNs _ _ _ F (resolversFile_imports c doc)) hm hfit y
  rw [refArgs_iff, argsType, globalise, globaliseFields_map _ _ args (fun a => a.name) (fun _ => true) (fun _ => false)]
  simp only [globalise_tsOf]
  rw [mem_recordBody_iff args (fun a => a.name) (fun _ => true) (fun a => a.ty) _
    (fun n x => Mem E x (globalise E.decls [] [] (.qref [schemaNs, Target.resolverInput.name, n]))) (fun _ _ => Iff.rfl)]
  refine exists_congr fun kvs => and_congr_right fun _ =>
    recordSpec_conf_congr [] args (fun a => a.name) (fun _ => false) (fun a => a.ty) kvs fun a ha y _ => ?_
  obtain ⟨td, hm, hn, hfit⟩ := hargs a ha
  rw [← hn]
  exact hleaf td hm hfit y

end result

end NitroVerif.ResolverDecls
