import NitroVerif.Lemmas.GqlPrintOwnFlat
import NitroVerif.Lemmas.GqlPrintAttr
/-!
C16 over nitrogql's own parser: the printer's token lists FIT the flat forms of C07's renderings (`Fits`), construct by
construct. `Fits` checks the flag of a token by looking ahead (`gapNext`); the walk carries the flag instead, as a state:
`FitsD d cs ts` — `cs` fits `ts` after a token whose demand for a non-empty gap is `d`. A significant token asks for `d = false`
and leaves its own flag; a layout token meets the demand. A construct that begins and ends with a significant token is then
like a token,
  `FitsD d (c… sep x ++ cs) (print… x ++ B) ↔ d = false ∧ FitsD sep cs B`,
an optional piece hands the state on when it is empty (`FitsD (if x.isEmpty then d else sep) cs B`), and a definition that ends
with a line feed leaves `false`. No rule says anything about `B`, so the rules are rewrite rules (simp set `fitw`): the rules of
the single tokens first, then every construct by unfolding it and rewriting with the rules of its parts.
-/
namespace NitroVerif.C16Own
open NitroVerif.Gql NitroVerif.GqlPrint NitroVerif.ValueParse NitroVerif.DocParse NitroVerif.TypeParse NitroVerif.StringParse

variable {B : List Tok} {b d : Bool} {cs : List (List Char × Bool)}

/-! ### names and numbers are good tokens -/

theorem nameCont_ok {x : Char} (h : nameCont x) : x ≠ '\n' ∧ x ≠ '\r' ∧ x ≠ '$' ∧ x ≠ '{' := by
  refine ⟨?_, ?_, ?_, ?_⟩ <;> (rintro rfl; exact absurd h (by decide))
theorem nameStart_not_gap {d : Char} (h : nameStart d) : isGapC d = false := by
  cases hg : isGapC d with
  | false => rfl
  | true =>
    simp only [isGapC, Bool.or_eq_true, beq_iff_eq] at hg
    rcases hg with (rfl | rfl) | rfl <;> exact absurd h (by decide)

theorem goodNm_of_chars {t : List Char} (hne : t ≠ []) (hhd : ∀ d r, t = d :: r → isGapC d = false)
    (h : ∀ x ∈ t, x ≠ '\n' ∧ x ≠ '\r' ∧ x ≠ '$' ∧ x ≠ '{') : goodNm t = true := by
  cases t with
  | nil => exact absurd rfl hne
  | cons d ds =>
    simp only [goodNm, goodStr, headNotBrace, Bool.and_eq_true, Bool.not_eq_true', List.all_eq_true, bne_iff_ne]
    exact ⟨⟨⟨hhd d ds rfl, fun x hx => (h x hx).1⟩, fun x hx => ⟨(h x hx).2.1, (h x hx).2.2.1⟩⟩, (h d (by simp)).2.2.2⟩

theorem good_of_validName {n : List Char} (h : validName n) : goodNm n = true := by
  cases n with
  | nil => exact absurd h id
  | cons d ds =>
    obtain ⟨hd, hds⟩ := h
    refine goodNm_of_chars (by simp) ?_ ?_
    · intro d' r he
      cases he
      exact nameStart_not_gap hd
    · intro x hx
      rcases List.mem_cons.mp hx with rfl | hx
      · exact nameCont_ok (nameStart_nameCont hd)
      · exact nameCont_ok (hds x hx)

/-- the characters of a number -/
def numChar (x : Char) : Prop := digit x ∨ x = '-' ∨ x = '+' ∨ x = '.' ∨ x = 'e' ∨ x = 'E'

theorem numChar_ok {x : Char} (h : numChar x) : (x ≠ '\n' ∧ x ≠ '\r' ∧ x ≠ '$' ∧ x ≠ '{') ∧ isGapC x = false := by
  rcases h with h | rfl | rfl | rfl | rfl | rfl
  · constructor
    · refine ⟨?_, ?_, ?_, ?_⟩ <;> (rintro rfl; exact absurd h (by decide))
    · cases hg : isGapC x with
      | false => rfl
      | true =>
        simp only [isGapC, Bool.or_eq_true, beq_iff_eq] at hg
        rcases hg with (rfl | rfl) | rfl <;> exact absurd h (by decide)
  all_goals decide

theorem good_of_numChars {t : List Char} (hne : t ≠ []) (h : ∀ x ∈ t, numChar x) : goodNm t = true :=
  goodNm_of_chars hne (fun d r he => (numChar_ok (h d (by simp [he]))).2) (fun x hx => (numChar_ok (h x hx)).1)

theorem intText_numChars {t : List Char} (h : IntText t) : t ≠ [] ∧ ∀ x ∈ t, numChar x := by
  cases h with
  | zero neg =>
    cases neg
    · exact ⟨by simp [sign], by intro x hx; simp [sign] at hx; subst hx; exact Or.inl (by decide)⟩
    · refine ⟨by simp [sign], ?_⟩
      intro x hx
      simp [sign] at hx
      rcases hx with rfl | rfl
      · exact Or.inr (Or.inl rfl)
      · exact Or.inl (by decide)
  | nz neg d ds hd hds =>
    refine ⟨by cases neg <;> simp [sign], ?_⟩
    intro x hx
    simp only [List.mem_append, List.mem_cons] at hx
    rcases hx with hx | rfl | hx
    · cases neg
      · simp [sign] at hx
      · simp [sign] at hx; subst hx; exact Or.inr (Or.inl rfl)
    · exact Or.inl (nzdigit_digit hd)
    · exact Or.inl (hds x hx)

theorem expText_numChars {t : List Char} (h : ExpText t) : ∀ x ∈ t, numChar x := by
  cases h with
  | mk e sg d ds he hsg hd hds =>
    intro x hx
    simp only [List.mem_cons, List.mem_append] at hx
    rcases hx with rfl | hx | rfl | hx
    · rcases he with rfl | rfl
      · exact Or.inr (Or.inr (Or.inr (Or.inr (Or.inl rfl))))
      · exact Or.inr (Or.inr (Or.inr (Or.inr (Or.inr rfl))))
    · rcases hsg with rfl | rfl | rfl
      · cases hx
      · simp at hx; subst hx; exact Or.inr (Or.inr (Or.inl rfl))
      · simp at hx; subst hx; exact Or.inr (Or.inl rfl)
    · exact Or.inl hd
    · exact Or.inl (hds x hx)

theorem floatText_numChars {t : List Char} (h : FloatText t) : t ≠ [] ∧ ∀ x ∈ t, numChar x := by
  cases h with
  | fe ip fd ex hip hfd hex =>
    obtain ⟨hne, hi⟩ := intText_numChars hip
    refine ⟨by simp [hne], ?_⟩
    intro x hx
    simp only [List.mem_append, List.mem_cons] at hx
    rcases hx with hx | (rfl | hx) | hx
    · exact hi x hx
    · exact Or.inr (Or.inr (Or.inr (Or.inl rfl)))
    · exact Or.inl (hfd x hx)
    · exact expText_numChars hex x hx
  | f ip fd hip hfd =>
    obtain ⟨hne, hi⟩ := intText_numChars hip
    refine ⟨by simp [hne], ?_⟩
    intro x hx
    simp only [List.mem_append, List.mem_cons] at hx
    rcases hx with hx | rfl | hx
    · exact hi x hx
    · exact Or.inr (Or.inr (Or.inr (Or.inl rfl)))
    · exact Or.inl (hfd x hx)
  | e ip ex hip hex =>
    obtain ⟨hne, hi⟩ := intText_numChars hip
    refine ⟨by simp [hne], ?_⟩
    intro x hx
    simp only [List.mem_append] at hx
    rcases hx with hx | hx
    · exact hi x hx
    · exact expText_numChars hex x hx

theorem good_of_int {t : List Char} (h : IntText t) : goodNm t = true :=
  good_of_numChars (intText_numChars h).1 (intText_numChars h).2
theorem good_of_float {t : List Char} (h : FloatText t) : goodNm t = true :=
  good_of_numChars (floatText_numChars h).1 (floatText_numChars h).2

/-! ### the demand as a state -/

/-- `cs` fits `ts` after a token whose flag is `d`: if that token asked for a non-empty gap, `ts` begins with one -/
def FitsD (d : Bool) (cs : List (List Char × Bool)) (ts : List Tok) : Prop := (d = true → gapNext ts = true) ∧ Fits cs ts

theorem fits_iff_fitsD : Fits cs B ↔ FitsD false cs B := by simp [FitsD]

theorem FitsD.of_fits (hd : d = true → gapNext B = true) (h : Fits cs B) : FitsD d cs B := ⟨hd, h⟩

/-! ### the rules of the tokens

Every rule is stated for a right-nested list `t :: B` / `print… x ++ B`; `List.append_assoc` and its companions in the set
bring a goal into that form. In the set are the rules of the tokens and the Boolean identities of the states; the rule of a
construct has hypotheses (its well-formedness) and is NAMED, with them, where a later construct uses it. The rule of a keyword
stands in front of the first construct that is printed with it, also in the two files that follow. -/

attribute [fitw] List.cons_append List.nil_append List.append_assoc List.singleton_append List.isEmpty_nil List.isEmpty_cons
  true_and and_true eq_self if_true if_false Bool.false_eq_true Bool.not_false Bool.not_true Bool.true_or Bool.or_true
  Bool.false_or Bool.or_false Bool.true_and Bool.and_true Bool.false_and Bool.and_false Bool.and_not_self Bool.or_not_self
  Bool.not_eq_true'

theorem gapNext_lay_cons (s : String) (ts : List Tok) (h : s.toList ≠ []) : gapNext (.lay s :: ts) = true := by
  simp [gapNext, h]

/-- a layout token of the printer, given by a literal: its characters are read off without decoding the string -/
theorem gapNext_lay (c : Char) (w : List Char) : gapNext (.lay (String.ofList (c :: w)) :: B) = true :=
  gapNext_lay_cons _ _ (by rw [String.toList_ofList]; exact List.cons_ne_nil _ _)

@[fitw] theorem fitsD_nil : FitsD d cs [] ↔ (d = false ∧ cs = []) := by cases d <;> simp [FitsD, Fits, gapNext]
@[fitw] theorem fitsD_ind : FitsD d cs (.ind :: B) ↔ FitsD d cs B := by simp only [FitsD, Fits, gapNext]
@[fitw] theorem fitsD_ded : FitsD d cs (.ded :: B) ↔ FitsD d cs B := by simp only [FitsD, Fits, gapNext]

theorem fitsD_lay (c : Char) (w : List Char) (h : (c :: w).all isGapC = true) :
    FitsD d cs (.lay (String.ofList (c :: w)) :: B) ↔ FitsD false cs B := by
  simp only [FitsD, Fits, gapNext_lay, String.toList_ofList, h, implies_true, Bool.false_eq_true, false_imp_iff, true_and]

theorem fitsD_sig (t : Tok) (hs : t.isSig = true) (hv : ∀ n, t ≠ .var n) :
    FitsD d ((chars t, b) :: cs) (t :: B) ↔ (d = false ∧ tokGood t = true ∧ FitsD b cs B) := by
  have hg : gapNext (t :: B) = false := by cases t <;> first | rfl | cases hs
  rw [FitsD, fits_cons_sig hs hv, hg, FitsD]
  constructor
  · rintro ⟨hd, hgood, b', cs', e, h⟩
    obtain ⟨rfl, rfl⟩ : b = b' ∧ cs = cs' := by simpa using e
    exact ⟨by cases d <;> simp_all, hgood, h⟩
  · rintro ⟨rfl, hgood, h⟩; exact ⟨nofun, hgood, b, cs, rfl, h⟩

theorem fitsD_p (w : List Char) (h : goodStr w = true) :
    FitsD d ((w, b) :: cs) (.p (String.ofList w) :: B) ↔ (d = false ∧ FitsD b cs B) := by
  have := fitsD_sig (B := B) (b := b) (d := d) (cs := cs) (.p (String.ofList w)) rfl (fun _ => nofun)
  simpa only [chars, tokGood, String.toList_ofList, h, true_and] using this
theorem fitsD_kw (w : List Char) (h : goodNm w = true) :
    FitsD d ((w, b) :: cs) (.name (String.ofList w) :: B) ↔ (d = false ∧ FitsD b cs B) := by
  have := fitsD_sig (B := B) (b := b) (d := d) (cs := cs) (.name (String.ofList w)) rfl (fun _ => nofun)
  simpa only [chars, tokGood, String.toList_ofList, h, true_and] using this

@[fitw] theorem fitsD_name (s : String) :
    FitsD d ((s.toList, b) :: cs) (.name s :: B) ↔ (d = false ∧ goodNm s.toList = true ∧ FitsD b cs B) :=
  fitsD_sig (.name s) rfl (fun _ => nofun)
@[fitw] theorem fitsD_int (s : String) :
    FitsD d ((s.toList, b) :: cs) (.int s :: B) ↔ (d = false ∧ goodNm s.toList = true ∧ FitsD b cs B) :=
  fitsD_sig (.int s) rfl (fun _ => nofun)
@[fitw] theorem fitsD_float (s : String) :
    FitsD d ((s.toList, b) :: cs) (.float s :: B) ↔ (d = false ∧ goodNm s.toList = true ∧ FitsD b cs B) :=
  fitsD_sig (.float s) rfl (fun _ => nofun)
@[fitw] theorem fitsD_str (s : String) :
    FitsD d ((quoted s.toList, b) :: cs) (.str s :: B) ↔ (d = false ∧ FitsD b cs B) := by
  have := fitsD_sig (B := B) (b := b) (d := d) (cs := cs) (.str s) rfl (fun _ => nofun)
  simpa only [chars, tokGood, true_and] using this

/-- a variable as ONE token (`$name` in a value) or as TWO (`$`, `name` in a variable definition; the printer writes nothing
    between them) -/
theorem fitsD_var_of (n : String) (c : List (List Char × Bool))
    (h : goodNm n.toList = true → (Fits c (.var n :: B) ↔ (b = true → gapNext B = true) ∧ Fits cs B)) :
    FitsD d c (.var n :: B) ↔ (d = false ∧ goodNm n.toList = true ∧ FitsD b cs B) := by
  have hg : gapNext (.var n :: B) = false := rfl
  rw [FitsD, hg, FitsD]
  constructor
  · rintro ⟨hd, hf⟩
    have hgood : goodNm n.toList = true := by simp only [Fits] at hf; exact hf.1
    exact ⟨by cases d <;> simp_all, hgood, (h hgood).mp hf⟩
  · rintro ⟨rfl, hgood, hf⟩; exact ⟨nofun, (h hgood).mpr hf⟩

@[fitw] theorem fitsD_var (n : String) :
    FitsD d (('$' :: n.toList, b) :: cs) (.var n :: B) ↔ (d = false ∧ goodNm n.toList = true ∧ FitsD b cs B) := by
  refine fitsD_var_of n _ fun hg => ?_
  simp only [Fits, hg, true_and]
  constructor
  · rintro (⟨b', cs', e, h⟩ | ⟨b', cs', e, _⟩)
    · obtain ⟨rfl, rfl⟩ : b = b' ∧ cs = cs' := by simpa using e
      exact h
    · -- the name is not empty, so `$name` is not the single character `$`
      cases hn : n.toList with
      | nil => rw [hn] at hg; cases hg
      | cons x r => rw [hn] at e; simp at e
  · exact fun h => .inl ⟨b, cs, rfl, h⟩

@[fitw] theorem fitsD_var2 (n : String) :
    FitsD d ((['$'], false) :: (n.toList, b) :: cs) (.var n :: B) ↔
      (d = false ∧ goodNm n.toList = true ∧ FitsD b cs B) := by
  refine fitsD_var_of n _ fun hg => ?_
  simp only [Fits, hg, true_and]
  constructor
  · rintro (⟨b', cs', e, _⟩ | ⟨b', cs', e, h⟩)
    · -- the name is not empty, so the single character `$` is not `$name`
      simp only [List.cons.injEq, Prod.mk.injEq, true_and] at e
      rw [← e.1.1] at hg; cases hg
    · obtain ⟨rfl, rfl⟩ : b = b' ∧ cs = cs' := by simpa using e
      exact h
  · exact fun h => .inr ⟨b, cs, rfl, h⟩

@[fitw] theorem fitsD_sp : FitsD d cs (sp :: B) ↔ FitsD false cs B := fitsD_lay ' ' [] (by decide)
@[fitw] theorem fitsD_nl : FitsD d cs (nl :: B) ↔ FitsD false cs B := fitsD_lay '\n' [] (by decide)
@[fitw] theorem fitsD_comma : FitsD d cs (.lay "," :: B) ↔ FitsD false cs B := fitsD_lay ',' [] (by decide)
@[fitw] theorem fitsD_commasp : FitsD d cs (.lay ", " :: B) ↔ FitsD false cs B := fitsD_lay ',' [' '] (by decide)
@[fitw] theorem fitsD_commanl : FitsD d cs (.lay ",\n" :: B) ↔ FitsD false cs B := fitsD_lay ',' ['\n'] (by decide)

@[fitw] theorem fitsD_lb : FitsD d ((['['], b) :: cs) (.p "[" :: B) ↔ (d = false ∧ FitsD b cs B) := fitsD_p ['['] (by decide)
@[fitw] theorem fitsD_rb : FitsD d (([']'], b) :: cs) (.p "]" :: B) ↔ (d = false ∧ FitsD b cs B) := fitsD_p [']'] (by decide)
@[fitw] theorem fitsD_bang : FitsD d ((['!'], b) :: cs) (.p "!" :: B) ↔ (d = false ∧ FitsD b cs B) := fitsD_p ['!'] (by decide)
@[fitw] theorem fitsD_lc : FitsD d ((['{'], b) :: cs) (.p "{" :: B) ↔ (d = false ∧ FitsD b cs B) := fitsD_p ['{'] (by decide)
@[fitw] theorem fitsD_rc : FitsD d ((['}'], b) :: cs) (.p "}" :: B) ↔ (d = false ∧ FitsD b cs B) := fitsD_p ['}'] (by decide)
@[fitw] theorem fitsD_lp : FitsD d ((['('], b) :: cs) (.p "(" :: B) ↔ (d = false ∧ FitsD b cs B) := fitsD_p ['('] (by decide)
@[fitw] theorem fitsD_rp : FitsD d (([')'], b) :: cs) (.p ")" :: B) ↔ (d = false ∧ FitsD b cs B) := fitsD_p [')'] (by decide)
@[fitw] theorem fitsD_colon : FitsD d (([':'], b) :: cs) (.p ":" :: B) ↔ (d = false ∧ FitsD b cs B) := fitsD_p [':'] (by decide)
@[fitw] theorem fitsD_at : FitsD d ((['@'], b) :: cs) (.p "@" :: B) ↔ (d = false ∧ FitsD b cs B) := fitsD_p ['@'] (by decide)
@[fitw] theorem fitsD_eq : FitsD d ((['='], b) :: cs) (.p "=" :: B) ↔ (d = false ∧ FitsD b cs B) := fitsD_p ['='] (by decide)
@[fitw] theorem fitsD_true : FitsD d ((kwTrue, b) :: cs) (.name "true" :: B) ↔ (d = false ∧ FitsD b cs B) :=
  fitsD_kw kwTrue (by decide)
@[fitw] theorem fitsD_false : FitsD d ((kwFalse, b) :: cs) (.name "false" :: B) ↔ (d = false ∧ FitsD b cs B) :=
  fitsD_kw kwFalse (by decide)
@[fitw] theorem fitsD_null : FitsD d ((kwNull, b) :: cs) (.name "null" :: B) ↔ (d = false ∧ FitsD b cs B) :=
  fitsD_kw kwNull (by decide)

/-! #### the states around an optional piece

C07 demands the gap `sep` after the LAST token of a construct that is there: the token in front of an optional piece carries
`x && a` when the piece carries `x` and is empty iff `a`. The piece hands the state on when it is empty and leaves `x` when it
is not, so after it the state is `x` either way (`state_opt`); and a piece that begins with no gap (`@…`, `(…)`) may stand
behind that token (`state_tight`). -/

@[fitw] theorem state_opt (a x : Bool) : (if a = true then (x && a) else x) = x := by cases a <;> cases x <;> rfl
@[fitw] theorem state_tight (a x : Bool) : (a || !(x && a)) = true := by cases a <;> cases x <;> rfl
/-- the flag of the last item of a list (`cList`: `sep` for the last one, none between two) -/
@[fitw] theorem flag_last (a s : Bool) : (if a = true then s else false) = (s && a) := by cases a <;> cases s <;> rfl
/-- … and the one of a list with a gap between two items and none after the last -/
@[fitw] theorem flag_mid (a : Bool) : (if a = true then false else true) = !a := by cases a <;> rfl

/-! ### types -/

/-- a construct that begins and ends with a significant token is like a token: no demand may be open in front of it, and
    `sep` is the state after it -/
theorem fitsD_type : ∀ (t : GType), WF t → ∀ (d sep : Bool) (B : List Tok) (cs : List (List Char × Bool)),
    (FitsD d (cType sep t ++ cs) (printType t ++ B) ↔ (d = false ∧ FitsD sep cs B)) := by
  intro t
  induction t with
  | named n pos => intro hwf d sep B cs; simp only [fitw, printType, cType, good_of_validName hwf]
  | list t pos ih => intro hwf d sep B cs; simp only [fitw, printType, cType, ih hwf]
  | nonNull t ih => intro hwf d sep B cs; simp only [fitw, printType, cType, ih hwf.1]

/-! ### values -/

mutual
theorem fitsD_value : (v : Value) → WFV v → ∀ (d sep : Bool) (B : List Tok) (cs : List (List Char × Bool)),
    (FitsD d (cValue sep v ++ cs) (printValue v ++ B) ↔ (d = false ∧ FitsD sep cs B))
  | .var n _ => fun hwf d sep B cs => by simp only [fitw, printValue, cValue, good_of_validName hwf]
  | .int s _ => fun hwf d sep B cs => by simp only [fitw, printValue, cValue, good_of_int hwf]
  | .float s _ => fun hwf d sep B cs => by simp only [fitw, printValue, cValue, good_of_float hwf]
  | .str s _ => fun _ d sep B cs => by simp only [fitw, printValue, cValue]
  | .bool b _ => fun _ d sep B cs => by cases b <;> simp only [fitw, printValue, cValue]
  | .null _ => fun _ d sep B cs => by simp only [fitw, printValue, cValue]
  | .enum n _ => fun hwf d sep B cs => by simp only [fitw, printValue, cValue, good_of_validName hwf.1]
  | .list vs _ => fun hwf d sep B cs => by simp only [fitw, printValue, cValue, fitsD_valueList vs hwf true]
  | .obj [] _ => fun _ d sep B cs => by simp only [fitw, printValue, cValue, cFields]
  | .obj [(k, kp, v)] _ => fun hwf d sep B cs => by
    have hw : WFFs [(k, kp, v)] := hwf
    simp only [fitw, printValue, cValue, cFields, good_of_validName hw.1, fitsD_value v hw.2.1]
  | .obj (f1 :: f2 :: fs) _ => fun hwf d sep B cs => by
    simp only [fitw, printValue, cValue, fitsD_fieldLines (f1 :: f2 :: fs) hwf]
theorem fitsD_valueList : (vs : List Value) → WFVs vs → ∀ (first d : Bool) (B : List Tok) (cs : List (List Char × Bool)),
    (FitsD d (cItems vs ++ cs) (printValueList vs first ++ B) ↔
      ((vs.isEmpty || !first || !d) = true ∧ FitsD (vs.isEmpty && d) cs B))
  | [], _ => fun first d B cs => by simp only [fitw, printValueList, cItems]
  | v :: vs, hwf => fun first d B cs => by
    cases first <;> simp only [fitw, printValueList, cItems, fitsD_value v hwf.1, fitsD_valueList vs hwf.2 false]
theorem fitsD_fieldLines : (fs : List (Name × Pos × Value)) → WFFs fs → ∀ (d : Bool) (B : List Tok)
    (cs : List (List Char × Bool)),
    (FitsD d (cFields fs ++ cs) (printFieldLines fs ++ B) ↔ ((fs.isEmpty || !d) = true ∧ FitsD (fs.isEmpty && d) cs B))
  | [], _ => fun d B cs => by simp only [fitw, printFieldLines, cFields]
  | (k, _, v) :: fs, hwf => fun d B cs => by
    cases d <;> simp only [fitw, printFieldLines, cFields, good_of_validName hwf.1, fitsD_value v hwf.2.1,
      fitsD_fieldLines fs hwf.2.2, reduceCtorEq, false_and]
end

/-! ### arguments, directives -/

theorem fitsD_args : (args : List Arg) → args ≠ [] → WFFs args → ∀ (d sep : Bool) (B : List Tok)
    (cs : List (List Char × Bool)),
    (FitsD d (cArgs sep args ++ cs) (printArgs args ++ B) ↔ (d = false ∧ FitsD sep cs B))
  | [], h, _ => absurd rfl h
  | [(k, kp, v)], _, hw => fun d sep B cs => by
    simp only [fitw, printArgs, cArgs, cFields, good_of_validName hw.1, fitsD_value v hw.2.1]
  | f1 :: f2 :: fs, _, hw => fun d sep B cs => by
    simp only [fitw, printArgs, cArgs, fitsD_fieldLines (f1 :: f2 :: fs) hw]

theorem fitsD_dir (x : Directive) (hwf : WFDir x) (sep : Bool) :
    FitsD d (cDir sep x ++ cs) (printDirective x ++ B) ↔ (d = false ∧ FitsD sep cs B) := by
  unfold cDir printDirective
  cases hd : x.args with
  | nil => simp only [fitw, printArgs, good_of_validName hwf.1]
  | cons a as => simp only [fitw, good_of_validName hwf.1, fitsD_args (a :: as) (List.cons_ne_nil _ _) (hd ▸ hwf.2)]

/-- `for d in directives { write(" "); d.print }`: an optional piece that begins with a gap -/
theorem fitsD_dirs : ∀ (ds : List Directive), WFDirs ds → ∀ (d sep : Bool) (B : List Tok) (cs : List (List Char × Bool)),
    (FitsD d (cDirs sep ds ++ cs) (printDirs ds ++ B) ↔ FitsD (if ds.isEmpty then d else sep) cs B)
  | [], _ => fun d sep B cs => by simp only [fitw, printDirs, cDirs, cList]
  | x :: ds, hwf => fun d sep B cs => by
    have ih := fitsD_dirs ds hwf.2 (sep && ds.isEmpty) sep B cs
    simp only [cDirs] at ih
    simp only [fitw, printDirs, cDirs, cList, fitsD_dir x hwf.1, ih]

/-- directives written without any separator (`schema @a@b{`): an optional piece that begins with no gap -/
theorem fitsD_dirsTight : ∀ (ds : List Directive), WFDirs ds → ∀ (d sep : Bool) (B : List Tok)
    (cs : List (List Char × Bool)),
    (FitsD d (cDirs sep ds ++ cs) (printDirsTight ds ++ B) ↔
      ((ds.isEmpty || !d) = true ∧ FitsD (if ds.isEmpty then d else sep) cs B))
  | [], _ => fun d sep B cs => by simp only [fitw, printDirsTight, cDirs, cList]
  | x :: ds, hwf => fun d sep B cs => by
    have ih := fitsD_dirsTight ds hwf.2 (sep && ds.isEmpty) sep B cs
    simp only [cDirs] at ih
    simp only [fitw, printDirsTight, cDirs, cList, fitsD_dir x hwf.1, ih]

/-! ### the implication forms of some of the rules (the walk does not use them) -/

theorem fits_valueList : (vs : List Value) → WFVs vs → ∀ (first : Bool) (cs : List (List Char × Bool)) (ts : List Tok),
    Fits cs ts → Fits (cItems vs ++ cs) (printValueList vs first ++ ts) := by
  intro vs hwf first cs ts h
  simpa only [fitw, fits_iff_fitsD, fitsD_valueList vs hwf first] using h

theorem gapNext_printDirs (ds : List Directive) (ts : List Tok) (h : ds ≠ []) : gapNext (printDirs ds ++ ts) = true := by
  cases ds with
  | nil => exact absurd rfl h
  | cons d ds => exact gapNext_lay ' ' []

theorem fits_dirsTight : ∀ (ds : List Directive), WFDirs ds → ∀ (cs : List (List Char × Bool)) (ts : List Tok),
    Fits cs ts → Fits (cDirs false ds ++ cs) (printDirsTight ds ++ ts) := by
  intro ds hwf cs ts h
  simpa only [fitw, fits_iff_fitsD, fitsD_dirsTight ds hwf, ite_self] using h

end NitroVerif.C16Own
