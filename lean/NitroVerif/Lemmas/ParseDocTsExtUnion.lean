/-
Union type extensions,
`UnionTypeExtension = { KEYWORD_extend ~ KEYWORD_union ~ Name ~ Directives? ~ "=" ~ UnionMemberTypes |
  KEYWORD_extend ~ KEYWORD_union ~ Name ~ Directives }`: with members, with directives only, and the two together.
-/
import NitroVerif.Lemmas.ParseDocTsExtItem
namespace NitroVerif.DocParse
open NitroVerif.Peg NitroVerif.Gen NitroVerif.Gen.Parts NitroVerif.Build NitroVerif.TypeParse NitroVerif.StringParse
open NitroVerif.Gql NitroVerif.ValueParse NitroVerif.Spec.Lex NitroVerif.ParseText

variable {inp : List Char}

def rUnionExtM (τ : Trivia) (sep : Bool) (p : Nat) (t : TypeDef) : List Char :=
  let tH := rExtHead τ false p (kindKw .union) t.name
  let tD := rDirs τ false (p + tH.length) t.dirs
  let tE := tk τ false (p + tH.length + tD.length) ['=']
  tH ++ (tD ++ (tE ++ rNames τ '|' sep (p + tH.length + tD.length + tE.length) t.members))

def wpUnionExtM (τ : Trivia) (inp : List Char) (sep : Bool) (p : Nat) (t : TypeDef) : TypeDef :=
  let tH := rExtHead τ false p (kindKw .union) t.name
  let tD := rDirs τ false (p + tH.length) t.dirs
  let tE := tk τ false (p + tH.length + tD.length) ['=']
  { kind := .union, name := t.name, namePos := posAt inp (ehOffN τ p (kindKw .union)),
    dirs := wpDirs τ inp false (p + tH.length) t.dirs,
    members := wpNames τ inp '|' sep (p + tH.length + tD.length + tE.length) t.members,
    pos := posAt inp p }

theorem buildTypeExtension_union {ctx : Ctx} {fuel : Nat} (p e p' e' : Nat) {cs : List Pair}
    {dirs members : Option Pair} {kw kk name : Pair} {ds : List Directive} {ms : List (Name × Pos)}
    (hm : matchParts P_UnionTypeExtension cs = .ok [some kw, some kk, some name, dirs, members])
    (h2 : optDirs ctx fuel dirs = .ok ds) (h3 : namedTypeIdents ctx AC_UnionMemberTypes members = .ok ms) :
    buildTypeExtension ctx fuel (.mk R.TypeExtension p e [.mk R.UnionTypeExtension p' e' cs]) =
      .ok { kind := .union, name := asString ctx name, namePos := toPos ctx name, dirs := ds, members := ms,
            pos := toPos ctx kw } := by
  simp [buildTypeExtension, onlyChildOf, onlyChild, Pair.children, OC_TypeExtension, Pair.rule, hm, h2, h3, bind,
    Except.bind, R.ScalarTypeExtension, R.ObjectTypeExtension, R.InterfaceTypeExtension, R.UnionTypeExtension]

/-- a union type extension with members: the member list is any text `tM` that the `UnionMemberTypes` rule reads as `wM` -/
theorem unionExtMG (τ : Trivia) (hτ : ∀ q, Ws (τ q)) (t : TypeDef) (hname : validName t.name.toList)
    (hdirs : WFDirs t.dirs) {sep : Bool} {p : Nat} (tM : List Char) (wM : List (Name × Pos)) :
    let tH := rExtHead τ false p (kindKw .union) t.name
    let tD := rDirs τ false (p + tH.length) t.dirs
    let tE := tk τ false (p + tH.length + tD.length) ['=']
    Hd (fun d => ¬ trivia d) tM →
    (HasAt inp (p + tH.length + tD.length + tE.length) tM →
      Nxt inp tdBad sep (p + tH.length + tD.length + tE.length + tM.length) →
      ∃ pr, Reads inp 50 R.UnionMemberTypes (p + tH.length + tD.length + tE.length) tM
        (fun _ pr => namedTypeIdents (Ctx.spec inp) AC_UnionMemberTypes (some pr)) wM pr) →
    HasAt inp p (tH ++ (tD ++ (tE ++ tM))) → Nxt inp tdBad sep (p + (tH ++ (tD ++ (tE ++ tM))).length) →
    KindExtOk inp R.UnionTypeExtension p (tH ++ (tD ++ (tE ++ tM)))
      { kind := .union, name := t.name, namePos := posAt inp (ehOffN τ p (kindKw .union)),
        dirs := wpDirs τ inp false (p + tH.length) t.dirs, members := wM, pos := posAt inp p } := by
  intro tH tD tE hdM hM h hn
  have g1 := h.right.left
  have g2 := h.right.right.left
  have g3 := h.right.right.right
  have n2 : Nxt inp (fun c => c = '@' ∨ c = '(') false (p + tH.length + tD.length) :=
    Nxt.of_hd g2 (hd_tk (hd_cons (P := (· = '=')) _ rfl)) (by rintro c rfl; decide)
  obtain ⟨oD, D, n1⟩ := optDirsT τ hτ t.dirs hdirs (Or.inr rfl) (Or.inl rfl) g1 n2
  obtain ⟨prE, prK, prN, H⟩ := extHeadF hτ (look_kindKw .union) (kindKw_valid .union) t.name hname h.left n1
  have rE := strP hτ ['='] g2 (tok_of_hd g3 hdM (fun _ h => h))
  obtain ⟨prM, M⟩ := hM g3 hn.app.app.app
  obtain ⟨e, rR⟩ := PartT.rule look_UnionTypeExtension (H.front.part (D.part.seq (rE.seq M.part))).choice_l
  refine ⟨_, fun e' => ⟨rR.mono (by decide), rfl, rfl, fun fuel hf => ?_⟩⟩
  refine (buildTypeExtension_union _ _ _ _ (matchParts_slots P_UnionTypeExtension
    [some prE, some prK, some prN, oD, some prM] (by decide)
    ⟨⟨_, rfl, H.extRule⟩, ⟨_, rfl, H.kwRule⟩, ⟨_, rfl, H.nameRule⟩, D.rule, fun x hx => by cases hx; exact M.rule,
      trivial⟩) (D.build fuel (fuel_left (fuel_right hf))) (M.build _ (Nat.le_refl _))).trans ?_
  rw [H.name, H.namePos, H.extPos]

theorem unionExtMT (τ : Trivia) (hτ : ∀ q, Ws (τ q)) (t : TypeDef) (hname : validName t.name.toList)
    (hdirs : WFDirs t.dirs) (hmem : t.members ≠ []) (hmv : ∀ x ∈ t.members, validName x.1.toList) {sep : Bool} {p : Nat}
    (h : HasAt inp p (rUnionExtM τ sep p t)) (hn : Nxt inp tdBad sep (p + (rUnionExtM τ sep p t).length)) :
    KindExtOk inp R.UnionTypeExtension p (rUnionExtM τ sep p t) (wpUnionExtM τ inp sep p t) := by
  obtain ⟨m, ms, hms⟩ := List.exists_cons_of_ne_nil hmem
  rw [hms] at hmv
  refine unionExtMG τ hτ t hname hdirs _ _ ?_ ?_ h hn
  · rw [hms]
    exact (Hd.append (hd_tk (hd_of_validName (hmv m (List.mem_cons_self ..)))) _).mono fun _ => nameStart_not_trivia
  · rw [hms]
    exact membersT τ hτ m ms hmv (Or.inr (Or.inr (Or.inr (Or.inr (Or.inl rfl)))))

def rUnionExtD (τ : Trivia) (sep : Bool) (p : Nat) (t : TypeDef) : List Char :=
  let tH := rExtHead τ false p (kindKw .union) t.name
  tH ++ rDirs τ sep (p + tH.length) t.dirs

def wpUnionExtD (τ : Trivia) (inp : List Char) (sep : Bool) (p : Nat) (t : TypeDef) : TypeDef :=
  let tH := rExtHead τ false p (kindKw .union) t.name
  { kind := .union, name := t.name, namePos := posAt inp (ehOffN τ p (kindKw .union)),
    dirs := wpDirs τ inp sep (p + tH.length) t.dirs, pos := posAt inp p }

theorem unionExtDT (τ : Trivia) (hτ : ∀ q, Ws (τ q)) (t : TypeDef) (hname : validName t.name.toList)
    (hdirs : WFDirs t.dirs) (hd : t.dirs ≠ []) {sep : Bool} {p : Nat} (h : HasAt inp p (rUnionExtD τ sep p t))
    (hn : Nxt inp tdBad sep (p + (rUnionExtD τ sep p t).length)) :
    KindExtOk inp R.UnionTypeExtension p (rUnionExtD τ sep p t) (wpUnionExtD τ inp sep p t) := by
  simp only [rUnionExtD, wpUnionExtD] at h hn ⊢
  obtain ⟨prE, prK, prN, H⟩ := extHeadF hτ (look_kindKw .union) (kindKw_valid .union) t.name hname h.left
    (bad := fun _ => False) (Nxt.of_hd h.right ((hd_rDirs τ sep _ t.dirs).resolve_left fun e => hd (rDirs_eq_nil e))
      (by rintro c rfl; decide))
  obtain ⟨prD, D⟩ := dirsT τ hτ t.dirs hd hdirs (Or.inr (Or.inl rfl)) (Or.inl rfl) h.right hn.app
  -- the alternative with members fails at `=`, the one with directives only runs
  have f1 := (H.front.seq D.part.opt_some).fails_nil (T := .seq (.str ['=']) (.call R.UnionMemberTypes)) (K := 0)
    (fails_seq_1 (str_fails (hn.app.ne (by decide)))) (by decide)
  obtain ⟨e, rR⟩ := PartT.rule look_UnionTypeExtension (((H.front.part D.part).mono (Nat.le_add_right _ 2)).choice_r_le f1 (Nat.le_refl _) (by decide))
  refine ⟨_, fun e' => ⟨rR.mono (by decide), rfl, rfl, fun fuel hf => ?_⟩⟩
  refine (buildTypeExtension_union _ _ _ _ (matchParts_slots P_UnionTypeExtension
    [some prE, some prK, some prN, some prD, none] (by decide)
    ⟨⟨_, rfl, H.extRule⟩, ⟨_, rfl, H.kwRule⟩, ⟨_, rfl, H.nameRule⟩, (fun x hx => by cases hx; exact D.rule),
      (fun x hx => by cases hx), trivial⟩) (D.build fuel (fuel_right hf)) rfl).trans ?_
  rw [H.name, H.namePos, H.extPos]

/-- a union type extension: `= members` (with optional directives), or directives only -/
def rUnionExt (τ : Trivia) (sep : Bool) (p : Nat) (t : TypeDef) : List Char :=
  if t.members.isEmpty then rUnionExtD τ sep p t else rUnionExtM τ sep p t

def wpUnionExt (τ : Trivia) (inp : List Char) (sep : Bool) (p : Nat) (t : TypeDef) : TypeDef :=
  if t.members.isEmpty then wpUnionExtD τ inp sep p t else wpUnionExtM τ inp sep p t

theorem unionExtT (τ : Trivia) (hτ : ∀ q, Ws (τ q)) (t : TypeDef) (hname : validName t.name.toList)
    (hdirs : WFDirs t.dirs) (hne : t.members ≠ [] ∨ t.dirs ≠ []) (hmv : ∀ x ∈ t.members, validName x.1.toList)
    {sep : Bool} {p : Nat} (h : HasAt inp p (rUnionExt τ sep p t))
    (hn : Nxt inp tdBad sep (p + (rUnionExt τ sep p t).length)) :
    KindExtOk inp R.UnionTypeExtension p (rUnionExt τ sep p t) (wpUnionExt τ inp sep p t) := by
  simp only [rUnionExt, wpUnionExt] at h hn ⊢
  by_cases hm : t.members = []
  · have hd : t.dirs ≠ [] := hne.resolve_left (fun h => h hm)
    simp only [hm, List.isEmpty_nil, if_true] at h hn ⊢
    exact unionExtDT τ hτ t hname hdirs hd h hn
  · have hme : t.members.isEmpty = false := by
      cases hh : t.members with
      | nil => exact absurd hh hm
      | cons a r => rfl
    simp only [hme, Bool.false_eq_true, if_false] at h hn ⊢
    exact unionExtMT τ hτ t hname hdirs hm hmv h hn

end NitroVerif.DocParse
