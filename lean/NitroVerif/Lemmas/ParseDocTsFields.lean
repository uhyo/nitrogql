/-
Type-system definitions:
`FieldDefinition = { Description? ~ Name ~ ArgumentsDefinition? ~ ":" ~ Type ~ Directives? }` with its list
`FieldsDefinition = { "{" ~ FieldDefinition+ ~ "}" }`, and
`EnumValueDefinition = { Description? ~ EnumValue ~ Directives? }` with
`EnumValuesDefinition = { "{" ~ EnumValueDefinition+ ~ "}" }`.
-/
import NitroVerif.Lemmas.ParseDocTsParts
namespace NitroVerif.DocParse
open NitroVerif.Peg NitroVerif.Gen NitroVerif.Gen.Parts NitroVerif.Build NitroVerif.TypeParse NitroVerif.StringParse
open NitroVerif.Gql NitroVerif.ValueParse NitroVerif.Spec.Lex

variable {inp : List Char}

def rFieldDef (τ : Trivia) (sep : Bool) (p : Nat) (f : FieldDef) : List Char :=
  let tS := rOptDesc τ p f.desc
  let tN := tk τ false (p + tS.length) f.name.toList
  let tA := rOptArgsDef τ false (p + tS.length + tN.length) f.args
  let tC := tk τ false (p + tS.length + tN.length + tA.length) [':']
  let tT := rType τ (sep && f.dirs.isEmpty) (p + tS.length + tN.length + tA.length + tC.length) f.ty
  tS ++ (tN ++ (tA ++ (tC ++ (tT ++ rDirs τ sep (p + tS.length + tN.length + tA.length + tC.length + tT.length) f.dirs))))

def wpFieldDef (τ : Trivia) (inp : List Char) (sep : Bool) (p : Nat) (f : FieldDef) : FieldDef :=
  let tS := rOptDesc τ p f.desc
  let tN := tk τ false (p + tS.length) f.name.toList
  let tA := rOptArgsDef τ false (p + tS.length + tN.length) f.args
  let tC := tk τ false (p + tS.length + tN.length + tA.length) [':']
  let tT := rType τ (sep && f.dirs.isEmpty) (p + tS.length + tN.length + tA.length + tC.length) f.ty
  { desc := f.desc, name := f.name, pos := posAt inp (p + tS.length),
    args := wpIVDs τ inp (p + tS.length + tN.length + (tk τ false (p + tS.length + tN.length) ['(']).length) f.args,
    ty := wpType τ inp (p + tS.length + tN.length + tA.length + tC.length) f.ty,
    dirs := wpDirs τ inp sep (p + tS.length + tN.length + tA.length + tC.length + tT.length) f.dirs }

def WFFieldDef (f : FieldDef) : Prop := validName f.name.toList ∧ (∀ v ∈ f.args, WFIVD v) ∧ WF f.ty ∧ WFDirs f.dirs

/-- what must not follow a field definition -/
abbrev fdBad : Char → Prop := fun c => c = '!' ∨ c = '@' ∨ c = '('

/-- the function `build_fields_definition` maps over the `FieldDefinition` children; it occurs in the statement of
    `render_parse_field_definition`, and `buildFieldsDefinition_eq` is its justification -/
def fieldDefFn (ctx : Ctx) (fuel : Nat) : Pair → M FieldDef := fun f => do
  match ← matchParts P_FieldDefinition f.children with
  | [desc, some name, args, some ty, dirs] =>
    let desc ← optDesc ctx desc
    let args ← match args with
      | some a => buildArgumentsDefinition ctx fuel a
      | none => pure []
    let ty ← buildType ctx fuel ty
    let dirs ← optDirs ctx fuel dirs
    .ok { desc, name := asString ctx name, pos := toPos ctx name, args, ty, dirs }
  | _ => .error (.modelBug "FieldDefinition")

theorem buildFieldsDefinition_eq (ctx : Ctx) (fuel : Nat) (s e : Nat) (cs : List Pair)
    (hcs : allChildrenGo AC_FieldsDefinition cs = .ok ()) :
    buildFieldsDefinition ctx fuel (.mk R.FieldsDefinition s e cs) = cs.mapM (fieldDefFn ctx fuel) := by
  simp only [buildFieldsDefinition, allChildren, Pair.children, hcs, bind, Except.bind]
  rfl

theorem hd_rFieldDef (τ : Trivia) (sep : Bool) (p : Nat) (f : FieldDef) (hwf : WFFieldDef f) :
    Hd (fun d => nameStart d ∨ d = '"') (rFieldDef τ sep p f) := by
  simp only [rFieldDef]
  exact hd_desc_name τ p f.desc (Hd.append (hd_tk (hd_of_validName hwf.1)) _)

theorem fieldDefT (τ : Trivia) (hτ : ∀ q, Ws (τ q)) (f : FieldDef) (hwf : WFFieldDef f) {sep : Bool} {p : Nat}
    (h : HasAt inp p (rFieldDef τ sep p f)) (hn : Nxt inp fdBad sep (p + (rFieldDef τ sep p f).length)) :
    ∃ pr, Reads inp 30 R.FieldDefinition p (rFieldDef τ sep p f) (fieldDefFn (Ctx.spec inp))
      (wpFieldDef τ inp sep p f) pr := by
  obtain ⟨hname, hargs, hty, hdirs⟩ := hwf
  simp only [rFieldDef, wpFieldDef] at h hn ⊢
  have g1 := h.right.left
  have g2 := h.right.right.left
  have g3 := h.right.right.right.left
  have g4 := h.right.right.right.right.left
  have g5 := h.right.right.right.right.right
  -- what follows the directives, the type, the arguments
  obtain ⟨oD, D, n4⟩ := optDirsT τ hτ f.dirs hdirs (by decide) (by decide) g5 hn.app.app.app.app.app
  have n2 : Nxt inp (· = '(') false _ := Nxt.of_hd g3 (hd_tk (hd_cons (P := (· = ':')) _ rfl)) (by rintro c rfl; decide)
  obtain ⟨oA, A, n1⟩ := optArgsDefT τ hτ f.args hargs (by rfl) g2 n2
  obtain ⟨oS, S⟩ := optDescT hτ f.desc h.left g1 (hd_tk (hd_of_validName hname))
  have r1 := nameP hτ hname g1 n1
  have r3 := strP hτ [':'] g3 (tok_of_hd g4 (hd_rType τ _ _ f.ty hty) (by
    rintro c (hc | rfl)
    · exact nameStart_not_trivia hc
    · decide))
  obtain ⟨prT, T⟩ := (type_all τ hτ f.ty hty).2 _ _ _ (by decide) g4 n4
  -- the depth of the argument list is paid for by the characters of the name
  obtain ⟨e, rR⟩ := PartT.rule (r := R.FieldDefinition) rfl (S.part.seq (r1.seq_pos (K' := 0)
    ((A.part.seq (r3.seq (T.part.seq D.part))).mono (by decide)) (hd_tk (hd_of_validName hname)).length_pos))
  refine ⟨_, rR.mono (by decide), rfl, rfl, fun fuel hf => ?_⟩
  have hm := matchParts_slots P_FieldDefinition [oS, some _, oA, some prT, oD] (by decide)
    ⟨S.rule, ⟨_, rfl, r1.pairRule⟩, A.rule, ⟨_, rfl, T.rule⟩, D.rule, trivial⟩
  simp only [slotPairs, Option.toList_some, List.cons_append, List.nil_append] at hm
  have hbS := S.build _ (Nat.le_refl _)
  have hfR := fuel_right (fuel_right hf)
  have hfA := A.build fuel (fuel_left hfR)
  have hfT := T.build_succ (fuel_succ (fuel_right hfR) (tk_pos ..))
  have hfD := D.build fuel (fuel_right (fuel_right (fuel_right hfR)))
  cases oA with
  | none =>
    have ha0 := (Except.ok.inj hfA).symm
    simp only [Option.toList_none, List.nil_append] at hm
    simp [fieldDefFn, Pair.children, hm, hbS, ha0, hfT, hfD, asString_spec', toPos_spec', Pair.start, Pair.stop,
      g1.left.slice, bind, Except.bind, pure, Except.pure]
  | some a =>
    simp only [optArgsDefB] at hfA
    simp only [Option.toList_some, List.cons_append, List.nil_append] at hm
    simp [fieldDefFn, Pair.children, hm, hbS, hfA, hfT, hfD, asString_spec', toPos_spec', Pair.start, Pair.stop,
      g1.left.slice, bind, Except.bind]

def wpFieldDefs (τ : Trivia) (inp : List Char) (p : Nat) (fs : List FieldDef) : List FieldDef :=
  mapItems (rFieldDef τ) true false (wpFieldDef τ inp) p fs

/-- `{ … } gap`; nothing for an empty list -/
def rOptFields (τ : Trivia) (sep : Bool) (p : Nat) : List FieldDef → List Char
  | [] => []
  | f :: fs => rBraced (rFieldDef τ) true τ '{' '}' sep p (f :: fs)

theorem hd_rOptFields (τ : Trivia) (sep : Bool) (p : Nat) (fs : List FieldDef) :
    rOptFields τ sep p fs = [] ∨ Hd (· = '{') (rOptFields τ sep p fs) := by
  cases fs with
  | nil => exact Or.inl rfl
  | cons v vs => exact Or.inr (hd_rBraced _ _ τ '{' '}' sep p _)

theorem fieldsDef_fails {p : Nat} (h : HeadNot (· = '{') (inp.drop p)) :
    Fails gList 4 true (.call R.FieldsDefinition) .nonAtomic (At inp p) :=
  first_fails (by decide) h

theorem rOptFields_eq_nil {τ : Trivia} {sep : Bool} {p : Nat} {fs : List FieldDef}
    (h : rOptFields τ sep p fs = []) : fs = [] := by
  cases fs with
  | nil => rfl
  | cons v vs => exact absurd h (hd_rBraced _ _ τ '{' '}' sep p _).ne_nil

theorem optFieldsT (τ : Trivia) (hτ : ∀ q, Ws (τ q)) (fs : List FieldDef) (hwf : ∀ f ∈ fs, WFFieldDef f)
    {sep : Bool} {p : Nat} {bad : Char → Prop} (hb : bad '{') (h : HasAt inp p (rOptFields τ sep p fs))
    (hn : Nxt inp bad sep (p + (rOptFields τ sep p fs).length)) :
    ∃ o, ReadsOpt inp 4 R.FieldsDefinition p (rOptFields τ sep p fs) (optFields (Ctx.spec inp))
        (wpFieldDefs τ inp (p + (tk τ false p ['{']).length) fs) o ∧
      Nxt inp (fun c => bad c ∧ c ≠ '{') (sep && fs.isEmpty) p :=
  optBracedT (rFieldDef τ) true τ hτ R.FieldsDefinition R.FieldDefinition '{' '}' rfl (fun _ => fdBad) 30
    (by decide) (fieldDefFn (Ctx.spec inp)) (wpFieldDef τ inp) ⟨by decide, by decide, by decide⟩ punct_brace
    (fun q hq => (descName_fails (rule := R.FieldDefinition) rfl (headNot_of_head_eq hq (by decide)) (headNot_of_head_eq hq (by decide))).mono (by decide))
    fs sep p (optFields (Ctx.spec inp)) (fun _ => rfl) (fun fuel e pss hall => buildFieldsDefinition_eq _ _ _ _ _ hall)
    (fun x hx s q hat hnx => fieldDefT τ hτ x (hwf x hx) hat hnx)
    (fun x hx s q => descName_head_ok
      (by rintro c (h | h | h); exact .inl h; exact .inr (.inr (.inl h)); exact .inr (.inr (.inr h)))
      (hd_rFieldDef τ s q x (hwf x hx))) (by cases fs <;> rfl) hb h hn

def rEnumVal (τ : Trivia) (sep : Bool) (p : Nat) (v : EnumValueDef) : List Char :=
  let tS := rOptDesc τ p v.desc
  let tN := tk τ (sep && v.dirs.isEmpty) (p + tS.length) v.name.toList
  tS ++ (tN ++ rDirs τ sep (p + tS.length + tN.length) v.dirs)

def wpEnumVal (τ : Trivia) (inp : List Char) (sep : Bool) (p : Nat) (v : EnumValueDef) : EnumValueDef :=
  let tS := rOptDesc τ p v.desc
  let tN := tk τ (sep && v.dirs.isEmpty) (p + tS.length) v.name.toList
  { desc := v.desc, name := v.name, pos := posAt inp (p + tS.length),
    dirs := wpDirs τ inp sep (p + tS.length + tN.length) v.dirs }

def WFEnumVal (v : EnumValueDef) : Prop :=
  validName v.name.toList ∧ v.name.toList ≠ kwTrue ∧ v.name.toList ≠ kwFalse ∧ v.name.toList ≠ kwNull ∧ WFDirs v.dirs

abbrev evBad : Char → Prop := fun c => c = '@' ∨ c = '('

theorem hd_rEnumVal (τ : Trivia) (sep : Bool) (p : Nat) (v : EnumValueDef) (hwf : WFEnumVal v) :
    Hd (fun d => nameStart d ∨ d = '"') (rEnumVal τ sep p v) := by
  simp only [rEnumVal]
  exact hd_desc_name τ p v.desc (Hd.append (hd_tk (hd_of_validName hwf.1)) _)

theorem enumValueT {τ : Trivia} (hτ : ∀ q, Ws (τ q)) {n : List Char} (hn : validName n) (h1 : n ≠ kwTrue)
    (h2 : n ≠ kwFalse) (h3 : n ≠ kwNull) {s : Bool} {p : Nat} {bad : Char → Prop} (h : HasAt inp p (tk τ s p n))
    (hnx : Nxt inp bad s (p + (tk τ s p n).length)) :
    RunsKE (B (tk τ s p n).length + 10) (.call R.EnumValue) (At inp p) (At inp (p + n.length))
      (At inp (p + (tk τ s p n).length)) [.mk R.EnumValue p (p + n.length) [.mk R.Name p (p + n.length) []]] := by
  obtain ⟨gN, _, gGlue⟩ := tk_gap hτ h hnx
  have rN := nameT hτ hn h hnx
  have htok : Tok (At inp p) := tok_of_hd gN (hd_of_validName hn) (fun d => nameStart_not_trivia)
  have f1 := kw_fails_name (la := .neg) look_KEYWORD_true kw_valid.1 hn h1 gN gGlue
  have f2 := kw_fails_name (la := .neg) look_KEYWORD_false kw_valid.2.1 hn h2 gN gGlue
  have f3 := kw_fails_name (la := .neg) look_KEYWORD_null kw_valid.2.2 hn h3 gN gGlue
  have rNot := runsK_not (failsL_choice (f1.mono (by omega : 13 ≤ 14)) (failsL_choice f2 f3)) htok
  have := runsKE_rule look_EnumValue (runsKE_seq rNot rN)
  exact RunsKE.cast (this.mono (by simp only [B]; omega)) rfl rfl rfl (by simp [At])

theorem enumValDefT (τ : Trivia) (hτ : ∀ q, Ws (τ q)) (v : EnumValueDef) (hwf : WFEnumVal v) {sep : Bool} {p : Nat}
    (h : HasAt inp p (rEnumVal τ sep p v)) (hn : Nxt inp evBad sep (p + (rEnumVal τ sep p v).length)) :
    ∃ pr, Reads inp 30 R.EnumValueDefinition p (rEnumVal τ sep p v) (buildEnumValueDefinition (Ctx.spec inp))
      (wpEnumVal τ inp sep p v) pr := by
  obtain ⟨hname, hn1, hn2, hn3, hdirs⟩ := hwf
  simp only [rEnumVal, wpEnumVal] at h hn ⊢
  have g1 := h.right.left
  have g2 := h.right.right
  obtain ⟨oD, D, n1⟩ := optDirsT τ hτ v.dirs hdirs (by decide) (by decide) g2 hn.app.app
  obtain ⟨oS, S⟩ := optDescT hτ v.desc h.left g1 (hd_tk (hd_of_validName hname))
  have r1 : Part inp 10 (.call R.EnumValue) _ _ _ := ⟨(enumValueT hτ hname hn1 hn2 hn3 g1 n1).toK,
    cleanP_of (by decide) (by decide) ⟨cleanP_of (by decide) (by decide) trivial, trivial⟩, trivial⟩
  obtain ⟨e, rR⟩ := PartT.rule (r := R.EnumValueDefinition) rfl (S.part.seq (r1.seq D.part))
  refine ⟨_, rR.mono (by decide), rfl, rfl, fun fuel hf => ?_⟩
  have hm := matchParts_slots P_EnumValueDefinition [oS, some _, oD] (by decide)
    ⟨S.rule, ⟨_, rfl, r1.pairRule⟩, D.rule, trivial⟩
  simp only [slotPairs, Option.toList_some, List.cons_append, List.nil_append] at hm
  simp [buildEnumValueDefinition, Pair.children, hm, S.build _ (Nat.le_refl _), D.build fuel (fuel_right (fuel_right hf)), asString_spec',
    toPos_spec', Pair.start, Pair.stop, g1.left.slice, bind, Except.bind]

def wpEnumVals (τ : Trivia) (inp : List Char) (p : Nat) (vs : List EnumValueDef) : List EnumValueDef :=
  mapItems (rEnumVal τ) true false (wpEnumVal τ inp) p vs

theorem enumValDef_fails {q : Nat} (h : HeadNot (fun d => nameStart d ∨ d = '"') (inp.drop q)) (ht : Tok (At inp q)) :
    Fails gList 60 true (.call R.EnumValueDefinition) .nonAtomic (At inp q) :=
  first_fails_opt (by decide) h (headNot_mono (fun _ ha => Or.inl (Or.inl ha)) h) ht

/-- `{ … } gap`; nothing for an empty list -/
def rOptEnumVals (τ : Trivia) (sep : Bool) (p : Nat) : List EnumValueDef → List Char
  | [] => []
  | v :: vs => rBraced (rEnumVal τ) true τ '{' '}' sep p (v :: vs)

theorem optEnumValsT (τ : Trivia) (hτ : ∀ q, Ws (τ q)) (vs : List EnumValueDef) (hwf : ∀ v ∈ vs, WFEnumVal v)
    {sep : Bool} {p : Nat} {bad : Char → Prop} (hb : bad '{') (h : HasAt inp p (rOptEnumVals τ sep p vs))
    (hn : Nxt inp bad sep (p + (rOptEnumVals τ sep p vs).length)) :
    ∃ o, ReadsOpt inp 4 R.EnumValuesDefinition p (rOptEnumVals τ sep p vs) (optEnumValues (Ctx.spec inp))
        (wpEnumVals τ inp (p + (tk τ false p ['{']).length) vs) o ∧
      Nxt inp (fun c => bad c ∧ c ≠ '{') (sep && vs.isEmpty) p :=
  optBracedT (rEnumVal τ) true τ hτ R.EnumValuesDefinition R.EnumValueDefinition '{' '}' rfl
    (fun _ => evBad) 30 (by decide) (buildEnumValueDefinition (Ctx.spec inp)) (wpEnumVal τ inp)
    ⟨by decide, by decide, by decide⟩ punct_brace
    (fun q hq => (enumValDef_fails (headNot_of_head_eq hq (by decide)) (headNot_of_head_eq hq (by decide))).mono
      (by decide))
    vs sep p (optEnumValues (Ctx.spec inp)) (fun _ => rfl) (fun fuel e pss hall => by
      simp only [optEnumValues, allChildren, Pair.children, AC_EnumValuesDefinition, hall, bind, Except.bind])
    (fun x hx s q hat hnx => enumValDefT τ hτ x (hwf x hx) hat hnx)
    (fun x hx s q => descName_head_ok (by rintro c (h | h); exact .inr (.inr (.inl h)); exact .inr (.inr (.inr h)))
      (hd_rEnumVal τ s q x (hwf x hx))) (by cases vs <;> rfl) hb h hn

end NitroVerif.DocParse
