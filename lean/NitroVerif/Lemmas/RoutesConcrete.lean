/-
C15: the document views of the two routes of a type-system document `M` (`sdlView`, `jsonView`) and the facts that
instantiate `agreeRoots_of_equiv` for them.
-/
import NitroVerif.Lemmas.RoutesViews
namespace NitroVerif.Bridge
open NitroVerif NitroVerif.Gql NitroVerif.SchemaIR NitroVerif.AstSchema NitroVerif.CheckCommon NitroVerif.CheckOp
open NitroVerif.IntrospectSpec NitroVerif.Routes NitroVerif.CliSchema

/-- what the checker / printer models read on the SDL route: the resolved document followed by the built-ins -/
def sdlView (M : TsDoc) : Gql.Schema := ⟨M ++ builtins⟩

/-- what they read on the JSON route: the document view of the schema value read from the introspection result of `M`
    (+ the five built-in scalars) -/
def jsonView (M : TsDoc) : Gql.Schema := ofIR (jsonSide M)

theorem sees_sdl (M : TsDoc) (hp : ParsedSchemaDefs M) : Sees (sdlView M) (routeSdl M) := by
  apply sees_doc
  intro d hd
  rw [schemaDefs_append, schemaDefs_builtins, List.append_nil] at hd
  exact hp d hd

theorem cleanType_idem (t : ITypeDef) : cleanType (cleanType t) = cleanType t := by
  cases t with | mk kind name desc fields interfaces possible members inputs =>
  cases kind <;> rfl

theorem builtinScalarDefs_clean : ∀ t ∈ builtinScalarDefs, cleanType t = t := by decide

theorem jsonSide_clean (M : TsDoc) : ∀ t ∈ (jsonSide M).types, cleanType t = t := by
  intro t ht
  rcases jsonSide_mem_cases M t ht with h | h | h
  · exact userTypes_clean M t h
  · exact builtinScalarDefs_clean t h
  · obtain ⟨u, _, rfl⟩ := List.mem_map.mp h
    exact cleanType_idem u

theorem sees_json (M : TsDoc) : Sees (jsonView M) (jsonSide M) := sees_ofIR _ (jsonSide_clean M)

theorem namesNodup_sdl (M : TsDoc) : NamesNodup (routeSdl M) := by
  unfold NamesNodup
  rw [routeSdl_types]
  exact extendTypes_nodup _ _ (by simp)

theorem namesNodup_json (M : TsDoc) : NamesNodup (jsonSide M) := by
  unfold NamesNodup
  rw [jsonSide_types]
  exact extendTypes_nodup _ _ (extendTypes_nodup _ _ (by simp))

def RootNamesOk (M : TsDoc) : Prop := ∀ d ∈ schemaDefs M, ∀ r ∈ d.roots, isIntrospectionName r.2.1 = false

instance (M : TsDoc) : Decidable (RootNamesOk M) := by unfold RootNamesOk; infer_instance

theorem foldl_root_mem (k : OpKind) (l : List (OpKind × Name × Pos)) (init : Option Name) (n : Name)
    (h : l.foldl (fun acc (x : OpKind × Name × Pos) => if x.1 == k then some x.2.1 else acc) init = some n) :
    init = some n ∨ ∃ x ∈ l, x.2.1 = n := by
  rw [foldl_last_eq (fun x : OpKind × Name × Pos => x.1) (fun x => x.2.1) k] at h
  cases hf : l.reverse.find? (·.1 == k) with
  | none => rw [hf] at h; exact Or.inl h
  | some x =>
    rw [hf] at h
    exact Or.inr ⟨x, List.mem_reverse.mp (List.mem_of_find?_eq_some hf), Option.some.inj h⟩

theorem conv_surj (k : OpK) : ∃ k', convOpKind k' = k := by
  cases k
  · exact ⟨.query, rfl⟩
  · exact ⟨.mutation, rfl⟩
  · exact ⟨.subscription, rfl⟩

theorem foldRoots_get_ok (ds : List SchemaDef) (h : ∀ d ∈ ds, ∀ r ∈ d.roots, isIntrospectionName r.2.1 = false)
    (k : OpK) (n : String) (hn : (foldRoots {} ds).get k = some n) : isIntrospectionName n = false := by
  obtain ⟨k', rfl⟩ := conv_surj k
  rw [foldRoots_get] at hn
  rcases foldl_root_mem k' _ _ n hn with h' | ⟨x, hx, rfl⟩
  · cases k' <;> simp [convOpKind, Roots.get] at h'
  · obtain ⟨d, hd, hxd⟩ := List.mem_flatMap.mp hx
    exact h d hd x hxd

theorem defaultRootName_ok (k : OpK) : isIntrospectionName (SchemaIR.Schema.defaultRootName k) = false := by
  cases k <;> decide

/-- a default root name is no `__*` name, so only the declared root names matter -/
theorem rootsOk_of_get {s : SchemaIR.Schema} (h : ∀ k n, s.roots.get k = some n → isIntrospectionName n = false) :
    RootsOk s := by
  intro k n hn
  unfold SchemaIR.Schema.rootName at hn
  split at hn
  · exact h k n hn
  · exact Option.some.inj hn ▸ defaultRootName_ok k

theorem rootsOk_sdl (M : TsDoc) (h : RootNamesOk M) : RootsOk (routeSdl M) :=
  rootsOk_of_get fun k n hn => foldRoots_get_ok _ h k n ((routeSdl_roots M).1 ▸ hn)

theorem rootsOk_json (M : TsDoc) (h : RootNamesOk M) : RootsOk (jsonSide M) := by
  refine rootsOk_of_get fun k n hn => ?_
  rw [(jsonSide_roots M).1] at hn
  cases hs : schemaDefs M with
  | nil =>
    rw [specRoots_default_get M hs, defaultRoot] at hn
    split at hn
    · exact Option.some.inj hn ▸ defaultRootName_ok k
    · cases hn
  | cons d rest =>
    rw [show specRoots M = foldRoots {} [d] by simp [specRoots, hs, foldRoots]] at hn
    refine foldRoots_get_ok [d] (fun d' hd' => ?_) k n hn
    rw [List.mem_singleton.mp hd']
    exact h d (by simp [hs])

/-- what the concrete theorems need of `M` beyond `ValidResolved` (all decidable): the schema definition is a parsed
    one, root type names are not `__*` names, and every type a definition refers to is defined (hypotheses; not derived
    from acceptance by the checker) -/
structure ValidParsed (M : TsDoc) : Prop where
  resolved : ValidResolved M
  parsed : ∀ d ∈ schemaDefs M, d.pos.builtin = false
  rootNames : RootNamesOk M
  closed : closedB (sdlView M) = true

/-- `type Query { a: Int }`, the smallest valid document: the witnesses that a hypothesis or an exemption is needed
    are built on it -/
def queryOnly : TsDoc :=
  [.typeDef { kind := .object, name := "Query", fields := [{ name := "a", ty := .named "Int" {} }] }]

theorem queryOnly_valid : ValidParsed queryOnly :=
  ⟨⟨by decide +kernel, by decide +kernel, by decide +kernel, by decide +kernel, by decide +kernel⟩, by decide +kernel,
    by decide +kernel, by decide +kernel⟩

theorem agreeRoots_routes (M : TsDoc) (h : ValidParsed M) : AgreeRoots (sdlView M) (jsonView M) :=
  agreeRoots_of_equiv (sees_sdl M h.parsed) (sees_json M) (routes_equiv M h.resolved).symm
    (namesNodup_sdl M) (namesNodup_json M) (rootsOk_sdl M h.rootNames) (rootsOk_json M h.rootNames)

end NitroVerif.Bridge
