/-
C18 composed (helper lemmas): what the diagnostics of an outcome are, and that an extension-resolution error names an existing `#import` line of the document.
-/
import NitroVerif.Lemmas.CliComposedDocs
import NitroVerif.Lemmas.CliComposedPos
namespace NitroVerif.CliComposed
open NitroVerif NitroVerif.Gql NitroVerif.Cli

theorem mem_checkImpl_stagesOf {Text κ : Type} [DecidableEq κ] {E : Env Text κ} {P : Project Text κ} {e : CheckErr}
    (he : e ∈ checkImpl (stagesOf E P)) :
    (∃ x, ExtResolve.resolve (mergedSchema E P) = .error x ∧ e = ⟨.schema, .schemaExt, schemaExtDiag E x⟩) ∨
    (∃ x ∈ CheckTs.checkSchema (resolvedSchema E P), e = ⟨.schema, .schemaCheck, schemaCheckDiag E x⟩) ∨
    (∃ v ∈ views E P, ∃ x, extOf E.code v.doc = .error x ∧ e = ⟨.operation, .opExt, opExtDiag E v.doc x⟩) ∨
    (∃ v ∈ views E P, ∃ x, impOf E P v = .err x ∧ e = ⟨.operation, .opImport, opImportDiag E P v x⟩) ∨
    (CheckTs.checkSchema (resolvedSchema E P) = [] ∧ ∃ v ∈ views E P,
      ∃ x ∈ CheckOp.checkOp ⟨resolvedSchema E P⟩ (resolvedDoc E P v), e = ⟨.operation, .opCheck, opCheckDiag E x⟩) := by
  have hc := checkImpl_case (stagesOf E P)
  generalize checkImpl (stagesOf E P) = l at hc he
  cases hc with
  | schemaExt hd =>
    cases List.mem_singleton.mp he
    simp only [stagesOf] at hd
    cases hq : ExtResolve.resolve (mergedSchema E P) with
    | ok T => rw [hq] at hd; cases hd
    | error x => rw [hq] at hd; cases hd; exact .inl ⟨x, rfl, rfl⟩
  | schemaCheck =>
    obtain ⟨d, hd, rfl⟩ := mem_tagged.mp he
    obtain ⟨x, hx, rfl⟩ := List.mem_map.mp hd
    exact .inr (.inl ⟨x, hx, rfl⟩)
  | opExt =>
    obtain ⟨d, hd, rfl⟩ := mem_tagged.mp he
    obtain ⟨_, hf, hfe⟩ := List.mem_filterMap.mp hd
    obtain ⟨v, hv, rfl⟩ := mem_opFiles.mp hf
    obtain ⟨x, hx, rfl⟩ := opFileOf_ext_eq_some.mp hfe
    exact .inr (.inr (.inl ⟨v, hv, x, hx, rfl⟩))
  | opImport =>
    obtain ⟨d, hd, rfl⟩ := mem_tagged.mp he
    obtain ⟨_, hf, hfe⟩ := List.mem_filterMap.mp hd
    obtain ⟨v, hv, rfl⟩ := mem_opFiles.mp hf
    obtain ⟨x, hx, rfl⟩ := opFileOf_imp_eq_some.mp hfe
    exact .inr (.inr (.inr (.inl ⟨v, hv, x, hx, rfl⟩)))
  | opCheck _ hsc =>
    obtain ⟨d, hd, rfl⟩ := mem_tagged.mp he
    obtain ⟨_, hf, hfe⟩ := List.mem_flatMap.mp hd
    obtain ⟨v, hv, rfl⟩ := mem_opFiles.mp hf
    obtain ⟨x, hx, rfl⟩ := List.mem_map.mp hfe
    exact .inr (.inr (.inr (.inr ⟨(schemaCheck_nil_iff E P).mp hsc, v, hv, x, hx, rfl⟩)))

def _root_.NitroVerif.Imports.ExtErr.line : Imports.ExtErr → Nat
  | .wildcardOnlyOnce l | .wildcardCombined l => l

theorem foldTargets_err_line (line : Nat) : ∀ (ts : List Imports.RawTarget) (acc : Imports.Targets) (i : Nat)
    (e : Imports.ExtErr), Imports.foldTargets line acc i ts = .error e → e.line = line := by
  intro ts
  induction ts with
  | nil => intro acc i e h; simp [Imports.foldTargets] at h
  | cons t ts ih =>
    intro acc i e h
    cases acc with
    | wildcard =>
      cases t with
      | wildcard => simp only [Imports.foldTargets] at h; cases h; rfl
      | name n => simp only [Imports.foldTargets] at h; cases h; rfl
    | specific ids =>
      cases t with
      | wildcard =>
        simp only [Imports.foldTargets] at h
        split at h
        · exact ih _ _ e h
        · cases h; rfl
      | name n =>
        simp only [Imports.foldTargets] at h
        exact ih _ _ e h

theorem extLoop_err_line {ρ : Type} [DecidableEq ρ] : ∀ (raws : List (Imports.RawImport ρ)) (acc : List (Imports.Import ρ))
    (line : Nat) (e : Imports.ExtErr), Imports.extLoop acc line raws = .error e →
    line ≤ e.line ∧ e.line < line + raws.length := by
  intro raws
  induction raws with
  | nil => intro acc line e h; simp [Imports.extLoop] at h
  | cons raw raws ih =>
    intro acc line e h
    simp only [Imports.extLoop] at h
    cases hs : Imports.extStep acc line raw with
    | ok acc' =>
      rw [hs] at h
      have := ih acc' (line + 1) e h
      simp only [List.length_cons]
      omega
    | error e' =>
      rw [hs] at h
      cases h
      unfold Imports.extStep at hs
      simp only at hs
      split at hs
      · cases hs
      · rename_i e'' hf
        cases hs
        have := foldTargets_err_line line _ _ _ _ hf
        simp only [List.length_cons]
        omega

theorem extErr_line_exists {code : Name → Nat} {D : Doc} {e : Imports.ExtErr} (h : extOf code D = .error e) :
    ∃ i, (importsOf D)[e.line]? = some i ∧ extErrPos D e = i.pos := by
  unfold extOf Imports.resolveExt at h
  have hb := extLoop_err_line _ _ _ _ h
  have hlt : e.line < (importsOf D).length := by
    have : (rawLines code D).length = (importsOf D).length := by simp [rawLines]
    omega
  refine ⟨(importsOf D)[e.line], by simp [hlt], ?_⟩
  unfold extErrPos
  cases e <;> simp [Imports.ExtErr.line] at hlt ⊢ <;> simp [hlt]

theorem import_positions_sub {D : Doc} {i : ImportDef} (hi : i ∈ importsOf D) : ∀ p ∈ i.positions, p ∈ Doc.positions D := by
  intro p hp'
  unfold importsOf at hi
  obtain ⟨d, hd, he⟩ := List.mem_filterMap.mp hi
  cases d <;> simp at he
  subst he
  exact List.mem_flatMap.mpr ⟨_, hd, hp'⟩

theorem extErrPos_mem {code : Name → Nat} {D : Doc} {e : Imports.ExtErr} (h : extOf code D = .error e) :
    extErrPos D e ∈ Doc.positions D := by
  obtain ⟨i, hi, hpos⟩ := extErr_line_exists h
  exact hpos ▸ import_positions_sub (List.mem_of_getElem? hi) i.pos List.mem_cons_self

end NitroVerif.CliComposed
