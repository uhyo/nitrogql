import NitroVerif.Lemmas.GqlPrintParseExec
/-!
C16, token level: the specification's token parser reads back the canonical token streams of the PARTS of type-system
definitions: descriptions, input values and their lists, fields, enum values, the bracketed bodies, and the `implements` /
member lists with their optional leading separator. The definitions themselves are in `Lemmas/GqlPrintParseTsDoc.lean`.
-/
namespace NitroVerif.C16
open NitroVerif.Gql NitroVerif.GqlTokens

/-- the token list begins with the name `n` -/
def startsN (n : String) : List LTok → Bool
  | [] => false
  | tok :: _ => tok = .name n

theorem startsN_cons_false (n : String) (tok : LTok) (r : List LTok) (h : startsN n (tok :: r) = false) :
    tok ≠ .name n := by simpa [startsN] using h

/-- what may follow a type-system definition: the end of the input, a description or a keyword — in particular
    no continuation punctuator and not the word `implements` -/
structure ItemFollow (ts : List LTok) : Prop where
  stops : Stops ts
  impl : startsN "implements" ts = false

/-! ### descriptions -/

theorem parseDesc_desc (d : Option String) (n : String) (X : List LTok) :
    parseDesc (descToks d ++ .name n :: X) = (d, .name n :: X) := by
  cases d <;> rfl

theorem descToks_head (d : Option String) (n : String) (X : List LTok) (close : String) :
    Stops (descToks d ++ .name n :: X) ∧ ∃ tok r', descToks d ++ .name n :: X = tok :: r' ∧ tok ≠ .p close := by
  cases d with
  | none => exact ⟨Stops.name _ _, _, _, rfl, by simp⟩
  | some s => exact ⟨Stops.str _ _, _, _, rfl, by simp⟩

theorem descToks_length (d : Option String) : (descToks d).length ≤ 1 := by cases d <;> simp [descToks]

/-! ### input value definitions -/

theorem inputValueDefToks_eq (v : InputValueDef) :
    inputValueDefToks v = descToks v.desc ++
      .name v.name :: .p ":" :: (typeToks v.ty ++ (defaultToks v.default ++ dirsToks v.dirs)) := by
  cases h : v.default <;> simp [inputValueDefToks, defaultToks, h]

theorem parse_inputValueDef (v : InputValueDef) (hwf : wfIV v = true) (rest : List LTok) (f : Nat) (hr : Stops rest)
    (hf : 2 * (inputValueDefToks v).length + 2 ≤ f) :
    parseInputValueDef f (inputValueDefToks v ++ rest) = some (eraseIV v, rest) := by
  simp only [wfIV, Bool.and_eq_true] at hwf
  obtain ⟨⟨hw1, hw2⟩, hw3⟩ := hwf
  rw [inputValueDefToks_eq] at hf ⊢
  simp only [List.length_cons, List.length_append] at hf
  have h1 := parse_type' v.ty hw1 (defaultToks v.default ++ (dirsToks v.dirs ++ rest)) f (by omega)
    (startsP_default "!" (by decide) _ _ (startsP_dirs "!" (by decide) _ _ hr.bang))
  have h2 := parse_default v.default hw2 (dirsToks v.dirs ++ rest) f (by omega)
    (startsP_dirs "=" (by decide) _ _ hr.eq)
  have h3 := parse_dirs v.dirs hw3 rest f (by omega) hr.paren hr.at_
  simp only [List.cons_append, List.append_assoc]
  simp [parseInputValueDef, parseDesc_desc, h1, h2, h3, eraseIV]

theorem inputValueDefToks_head (close : String) (v : InputValueDef) (r : List LTok) :
    Stops (inputValueDefToks v ++ r) ∧ ∃ tok r', inputValueDefToks v ++ r = tok :: r' ∧ tok ≠ .p close := by
  rw [inputValueDefToks_eq]
  simp only [List.cons_append, List.append_assoc]
  exact descToks_head _ _ _ _

theorem parse_ivList (open_ close : String) (xs : List InputValueDef) (hwf : xs.all wfIV = true) (rest : List LTok)
    (f : Nat) (hrest : startsP open_ rest = false) (hclose : Stops (.p close :: rest))
    (hf : 2 * (bracketToks open_ close inputValueDefToks xs).length + 2 ≤ f) :
    optBracketed open_ close (parseInputValueDef f) f (bracketToks open_ close inputValueDefToks xs ++ rest) =
      some (xs.map eraseIV, rest) :=
  parse_bracketList open_ close parseInputValueDef inputValueDefToks eraseIV wfIV xs hwf rest f hrest hclose hf
    (fun y hy r g => parse_inputValueDef y hy r g) (inputValueDefToks_head close)

/-! ### field definitions, enum values -/

theorem parse_fieldDef (fd : FieldDef) (hwf : wfFieldDef fd = true) (rest : List LTok) (f : Nat) (hr : Stops rest)
    (hf : 2 * (fieldDefToks fd).length + 2 ≤ f) :
    parseFieldDef f (fieldDefToks fd ++ rest) = some (eraseFieldDef fd, rest) := by
  simp only [wfFieldDef, Bool.and_eq_true] at hwf
  obtain ⟨⟨hw1, hw2⟩, hw3⟩ := hwf
  simp only [fieldDefToks, argDefsToks_eq, List.length_cons, List.length_append] at hf
  have h1 := parse_ivList "(" ")" fd.args hw1 (LTok.p ":" :: (typeToks fd.ty ++ (dirsToks fd.dirs ++ rest))) f
    (by simp [startsP]) (Stops.close_paren _) (by omega)
  have h2 := parse_type' fd.ty hw2 (dirsToks fd.dirs ++ rest) f (by omega) (startsP_dirs "!" (by decide) _ _ hr.bang)
  have h3 := parse_dirs fd.dirs hw3 rest f (by omega) hr.paren hr.at_
  simp only [fieldDefToks, argDefsToks_eq, List.cons_append, List.append_assoc]
  simp [parseFieldDef, parseDesc_desc, h1, h2, h3, eraseFieldDef]

theorem fieldDefToks_head (close : String) (fd : FieldDef) (r : List LTok) :
    Stops (fieldDefToks fd ++ r) ∧ ∃ tok r', fieldDefToks fd ++ r = tok :: r' ∧ tok ≠ .p close := by
  simp only [fieldDefToks, List.cons_append, List.append_assoc]
  exact descToks_head _ _ _ _

theorem parse_enumValueDef (v : EnumValueDef) (hwf : wfEnumValue v = true) (rest : List LTok) (f : Nat)
    (hr : Stops rest) (hf : 2 * (enumValueDefToks v).length + 2 ≤ f) :
    parseEnumValueDef f (enumValueDefToks v ++ rest) = some (eraseEnumValue v, rest) := by
  simp only [wfEnumValue, Bool.and_eq_true] at hwf
  simp only [enumValueDefToks, List.length_cons, List.length_append] at hf
  have h3 := parse_dirs v.dirs hwf.2 rest f (by omega) hr.paren hr.at_
  simp only [enumValueDefToks, List.cons_append, List.append_assoc]
  simp [parseEnumValueDef, parseDesc_desc, hwf.1, h3, eraseEnumValue]

theorem enumValueDefToks_head (close : String) (v : EnumValueDef) (r : List LTok) :
    Stops (enumValueDefToks v ++ r) ∧ ∃ tok r', enumValueDefToks v ++ r = tok :: r' ∧ tok ≠ .p close := by
  simp only [enumValueDefToks, List.cons_append, List.append_assoc]
  exact descToks_head _ _ _ _

theorem parse_fieldList (xs : List FieldDef) (hwf : xs.all wfFieldDef = true) (rest : List LTok)
    (f : Nat) (hrest : startsP "{" rest = false) (hf : 2 * (bracedToks fieldDefToks xs).length + 2 ≤ f) :
    optBracketed "{" "}" (parseFieldDef f) f (bracedToks fieldDefToks xs ++ rest) = some (xs.map eraseFieldDef, rest) := by
  rw [bracedToks_eq] at hf ⊢
  exact parse_bracketList "{" "}" parseFieldDef fieldDefToks eraseFieldDef wfFieldDef xs hwf rest f hrest
    (Stops.close_brace _) hf (fun y hy r g => parse_fieldDef y hy r g) (fieldDefToks_head "}")

theorem parse_enumValueList (xs : List EnumValueDef) (hwf : xs.all wfEnumValue = true) (rest : List LTok)
    (f : Nat) (hrest : startsP "{" rest = false) (hf : 2 * (bracedToks enumValueDefToks xs).length + 2 ≤ f) :
    optBracketed "{" "}" (parseEnumValueDef f) f (bracedToks enumValueDefToks xs ++ rest) =
      some (xs.map eraseEnumValue, rest) := by
  rw [bracedToks_eq] at hf ⊢
  exact parse_bracketList "{" "}" parseEnumValueDef enumValueDefToks eraseEnumValue wfEnumValue xs hwf rest f hrest
    (Stops.close_brace _) hf (fun y hy r g => parse_enumValueDef y hy r g) (enumValueDefToks_head "}")

theorem parse_inputList (xs : List InputValueDef) (hwf : xs.all wfIV = true) (rest : List LTok)
    (f : Nat) (hrest : startsP "{" rest = false) (hf : 2 * (bracedToks inputValueDefToks xs).length + 2 ≤ f) :
    optBracketed "{" "}" (parseInputValueDef f) f (bracedToks inputValueDefToks xs ++ rest) =
      some (xs.map eraseIV, rest) := by
  rw [bracedToks_eq] at hf ⊢
  exact parse_ivList "{" "}" xs hwf rest f hrest (Stops.close_brace _) hf

/-! ### `& A & B`, `| A | B` -/

theorem sepToks_length (sep : String) (l : List (Name × Pos)) : (sepToks sep l).length = 2 * l.length := by
  induction l with
  | nil => rfl
  | cons x xs ih => obtain ⟨n, p⟩ := x; simp [sepToks, ih]; omega

theorem sepNames_toks (sep : String) (rest : List LTok) (hr : startsP sep rest = false) :
    ∀ (l : List (Name × Pos)) (f : Nat), l.length + 1 ≤ f →
    sepNames sep f (sepToks sep l ++ rest) = some (eraseNames l, rest) := by
  intro l
  induction l with
  | nil =>
    intro f hf
    obtain ⟨g, rfl⟩ := succ_of_pos f (by omega)
    cases rest with
    | nil => simp [sepToks, sepNames, eraseNames]
    | cons tok r => simp [sepToks, sepNames, eraseNames, startsP_cons_false _ _ _ hr]
  | cons x xs ih =>
    intro f hf
    obtain ⟨g, rfl⟩ := succ_of_pos f (by omega)
    obtain ⟨n, p⟩ := x
    have := ih g (by simp at hf; omega)
    simp only [eraseNames] at this
    simp [sepToks, sepNames, this, eraseNames]

theorem sepNames1_toks (sep : String) (rest : List LTok) (hr : startsP sep rest = false) (x : Name × Pos)
    (l : List (Name × Pos)) (f : Nat) (hf : l.length + 2 ≤ f) :
    sepNames1 sep f (sepToks sep (x :: l) ++ rest) = some (eraseNames (x :: l), rest) := by
  have := sepNames_toks sep rest hr (x :: l) f (by simp; omega)
  obtain ⟨n, p⟩ := x
  simp only [sepToks, List.cons_append] at this ⊢
  unfold sepNames1
  simp only [this]
  simp [eraseNames]

theorem parse_implements (l : List (Name × Pos)) (rest : List LTok) (f : Nat) (hf : l.length + 2 ≤ f)
    (hr : startsP "&" rest = false) (hi : startsN "implements" rest = false) :
    parseImplements f (implementsToks l ++ rest) = some (eraseNames l, rest) := by
  cases l with
  | nil =>
    cases rest with
    | nil => simp [implementsToks, parseImplements, eraseNames]
    | cons tok r => simp [implementsToks, parseImplements, eraseNames, startsN_cons_false _ _ _ hi]
  | cons x xs =>
    have := sepNames1_toks "&" rest hr x xs f (by simp at hf; omega)
    simp [implementsToks, parseImplements, this]

theorem parse_members (l : List (Name × Pos)) (rest : List LTok) (f : Nat) (hf : l.length + 2 ≤ f)
    (hr : startsP "|" rest = false) (he : startsP "=" rest = false) :
    parseMembers f (membersToks l ++ rest) = some (eraseNames l, rest) := by
  cases l with
  | nil =>
    cases rest with
    | nil => simp [membersToks, parseMembers, eraseNames]
    | cons tok r => simp [membersToks, parseMembers, eraseNames, startsP_cons_false _ _ _ he]
  | cons x xs =>
    have := sepNames1_toks "|" rest hr x xs f (by simp at hf; omega)
    simp [membersToks, parseMembers, this]

theorem startsP_implements (s : String) (l : List (Name × Pos)) (rest : List LTok) (h : startsP s rest = false) :
    startsP s (implementsToks l ++ rest) = false := by
  cases l with
  | nil => simpa [implementsToks] using h
  | cons x xs => simp [implementsToks, startsP]

theorem implementsToks_length (l : List (Name × Pos)) : 2 * l.length ≤ (implementsToks l).length := by
  cases l with
  | nil => simp
  | cons x xs => simp only [implementsToks, List.length_cons, sepToks_length]; omega

theorem membersToks_length (l : List (Name × Pos)) : 2 * l.length ≤ (membersToks l).length := by
  cases l with
  | nil => simp
  | cons x xs => simp only [membersToks, List.length_cons, sepToks_length]; omega

end NitroVerif.C16
