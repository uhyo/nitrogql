import NitroVerif.Lemmas.GqlPrintOwnBase
import NitroVerif.Lemmas.ParseDocType
/-!
C16 over nitrogql's own parser: C07's renderings are FLAT — every rendering function of `Lemmas/ParseDoc*.lean` is
`rToks τ p (c… sep x)` for an explicit list `c… sep x` of (token text, "gap after it is made non-empty") pairs.
This file: types, values, arguments, directives, generic item lists and bracketed lists.
-/
namespace NitroVerif.C16Own
open NitroVerif.Gql NitroVerif.ValueParse NitroVerif.DocParse NitroVerif.TypeParse NitroVerif.StringParse

/-! ### types -/

def cType : Bool → GType → List (List Char × Bool)
  | sep, .named n _ => [(n.toList, sep)]
  | sep, .list t _ => (['['], false) :: (cType false t ++ [([']'], sep)])
  | sep, .nonNull t => cType false t ++ [(['!'], sep)]

theorem flat_type (τ : Trivia) : ∀ (t : GType) (sep : Bool) (p : Nat), rType τ sep p t = rToks τ p (cType sep t) := by
  intro t
  induction t with
  | named n pos => intro sep p; simp [rType, cType, rToks]
  | list t pos ih =>
    intro sep p
    simp only [rType, cType, rToks_cons, rToks_append, rToks_nil, List.append_nil, ih]
  | nonNull t ih =>
    intro sep p
    simp only [rType, cType, rToks_cons, rToks_append, rToks_nil, List.append_nil, ih]

/-! ### values -/

mutual
def cValue : Bool → Value → List (List Char × Bool)
  | sep, .var n _ => [('$' :: n.toList, sep)]
  | sep, .int s _ => [(s.toList, sep)]
  | sep, .float s _ => [(s.toList, sep)]
  | sep, .str s _ => [(quoted s.toList, sep)]
  | sep, .bool b _ => [(if b then kwTrue else kwFalse, sep)]
  | sep, .null _ => [(kwNull, sep)]
  | sep, .enum n _ => [(n.toList, sep)]
  | sep, .list vs _ => (['['], false) :: (cItems vs ++ [([']'], sep)])
  | sep, .obj fs _ => (['{'], false) :: (cFields fs ++ [(['}'], sep)])
/-- the gap after an item is made non-empty iff another item follows -/
def cItems : List Value → List (List Char × Bool)
  | [] => []
  | v :: vs => cValue (!vs.isEmpty) v ++ cItems vs
def cFields : List (Name × Pos × Value) → List (List Char × Bool)
  | [] => []
  | (k, _, v) :: fs => (k.toList, false) :: ([':'], false) :: (cValue (!fs.isEmpty) v ++ cFields fs)
end

theorem tk_eq (τ : Trivia) (sep : Bool) (p : Nat) (s : List Char) : tk τ sep p s = s ++ gapS sep (τ (p + s.length)) := rfl

theorem gapOf_true (t : List Char) : gapOf true t = t := rfl
theorem gapOf_false (t : List Char) : gapOf false t = gapS true t := rfl

/-- items after the token that ends at `q`: the gap in front of the first one belongs to that token -/
def ItemsFlat (τ : Trivia) (vs : List Value) : Prop := ∀ (q : Nat) (first : Bool), vs ≠ [] →
  itemsBody τ q first vs ++ τ (q + (itemsBody τ q first vs).length) =
    gapOf first (τ q) ++ rToks τ (q + (gapOf first (τ q)).length) (cItems vs)

def FieldsFlat (τ : Trivia) (fs : List (Name × Pos × Value)) : Prop := ∀ (q : Nat) (first : Bool), fs ≠ [] →
  fieldsBody τ q first fs ++ τ (q + (fieldsBody τ q first fs).length) =
    gapOf first (τ q) ++ rToks τ (q + (gapOf first (τ q)).length) (cFields fs)

theorem bracket_flat (τ : Trivia) (o c : Char) (sep : Bool) (p : Nat) (body : List Char) (cs : List (List Char × Bool))
    (h : body ++ τ (p + 1 + body.length) = τ (p + 1) ++ rToks τ (p + 1 + (τ (p + 1)).length) cs) :
    tk τ sep p (o :: (body ++ (τ (p + 1 + body.length) ++ [c]))) = rToks τ p (([o], false) :: (cs ++ [([c], sep)])) := by
  have hlen : body.length + (τ (p + 1 + body.length)).length =
      (τ (p + 1)).length + (rToks τ (p + 1 + (τ (p + 1)).length) cs).length := by
    have := congrArg List.length h
    simpa using this
  have e3 : o :: (body ++ (τ (p + 1 + body.length) ++ [c])) = [o] ++ ((body ++ τ (p + 1 + body.length)) ++ [c]) := by simp
  rw [e3, h]
  simp only [rToks_cons, rToks_append, rToks_nil, tk_eq, gapS_false, List.length_cons, List.length_nil,
    List.length_append, List.append_assoc, List.append_nil, Nat.zero_add, List.cons_append, List.nil_append,
    Nat.add_assoc, Nat.add_comm 1]

theorem flat_keyColon (τ : Trivia) (q1 : Nat) (k X : List Char) (cs : List (List Char × Bool))
    (hX : X = rToks τ (q1 + k.length + (τ (q1 + k.length)).length + 1 +
      (τ (q1 + k.length + (τ (q1 + k.length)).length + 1)).length) cs) :
    k ++ (τ (q1 + k.length) ++ ':' :: (τ (q1 + k.length + (τ (q1 + k.length)).length + 1) ++ X)) =
      rToks τ q1 ((k, false) :: ([':'], false) :: cs) := by
  rw [rToks_cons, rToks_cons, tk_eq, gapS_false, tk_eq, gapS_false, hX]
  simp only [List.length_append, List.length_cons, List.length_nil, List.append_assoc, List.cons_append, List.nil_append,
    Nat.add_assoc, Nat.zero_add, Nat.add_comm 1]

mutual
theorem flat_value (τ : Trivia) : (v : Value) → ∀ (sep : Bool) (p : Nat),
    tk τ sep p (renderV τ p v) = rToks τ p (cValue sep v)
  | .var n _ => fun sep p => by simp [renderV, cValue, rToks]
  | .int s _ => fun sep p => by simp [renderV, cValue, rToks]
  | .float s _ => fun sep p => by simp [renderV, cValue, rToks]
  | .str s _ => fun sep p => by simp [renderV, cValue, rToks]
  | .bool b _ => fun sep p => by simp [renderV, cValue, rToks]
  | .null _ => fun sep p => by simp [renderV, cValue, rToks]
  | .enum n _ => fun sep p => by simp [renderV, cValue, rToks]
  | .list vs _ => fun sep p => by
    simp only [renderV, cValue]
    apply bracket_flat
    cases vs with
    | nil => simp [itemsBody, cItems, rToks]
    | cons v vs' => exact flat_items τ (v :: vs') (p + 1) true (by simp)
  | .obj fs _ => fun sep p => by
    simp only [renderV, cValue]
    apply bracket_flat
    cases fs with
    | nil => simp [fieldsBody, cFields, rToks]
    | cons f fs' => exact flat_fields τ (f :: fs') (p + 1) true (by simp)
theorem flat_items (τ : Trivia) : (vs : List Value) → ItemsFlat τ vs
  | [] => fun _ _ h => absurd rfl h
  | v :: vs => fun q first _ => by
    rw [itemsBody_cons]
    have hv := flat_value τ v
    generalize gapOf first (τ q) = g
    generalize hq1 : q + g.length = q1
    cases vs with
    | nil =>
      have hv1 := hv false q1
      generalize renderV τ q1 v = rv at *
      simp only [cItems, List.isEmpty_nil, Bool.not_true, List.append_nil, itemsBody]
      rw [← hv1, tk_eq, gapS_false]
      subst hq1
      simp only [List.append_assoc, List.length_append, Nat.add_assoc]
    | cons v' vs' =>
      have ih := flat_items τ (v' :: vs') (q1 + (renderV τ q1 v).length) false (by simp)
      have hv1 := hv true q1
      generalize renderV τ q1 v = rv at *
      generalize itemsBody τ (q1 + rv.length) false (v' :: vs') = ib at ih ⊢
      have e : q + (g ++ (rv ++ ib)).length = q1 + rv.length + ib.length := by
        simp only [List.length_append]; omega
      rw [e, show (g ++ (rv ++ ib)) ++ τ (q1 + rv.length + ib.length) = g ++ (rv ++ (ib ++ τ (q1 + rv.length + ib.length))) by
        simp, ih]
      rw [show cItems (v :: v' :: vs') = cValue true v ++ cItems (v' :: vs') by simp [cItems]]
      rw [rToks_append, ← hv1, tk_eq, gapOf_false]
      subst hq1
      simp only [List.append_assoc, List.length_append, Nat.add_assoc]
theorem flat_fields (τ : Trivia) : (fs : List (Name × Pos × Value)) → FieldsFlat τ fs
  | [] => fun _ _ h => absurd rfl h
  | (k, pos, v) :: fs => fun q first _ => by
    rw [fieldsBody_cons]
    simp only [fQ3, fQ2, fQ1, fQ0]
    generalize gapOf first (τ q) = g
    generalize hq1 : q + g.length = q1
    generalize hq4 : q1 + k.toList.length + (τ (q1 + k.toList.length)).length + 1 +
      (τ (q1 + k.toList.length + (τ (q1 + k.toList.length)).length + 1)).length = q4
    have hv := flat_value τ v (!fs.isEmpty) q4
    generalize renderV τ q4 v = rv at hv ⊢
    -- everything after the colon's gap, flat from `q4`, gives the whole field list
    have key : ∀ X, X = rToks τ q4 (cValue (!fs.isEmpty) v ++ cFields fs) →
        g ++ (k.toList ++ (τ (q1 + k.toList.length) ++ ':' ::
          (τ (q1 + k.toList.length + (τ (q1 + k.toList.length)).length + 1) ++ X))) =
        g ++ rToks τ q1 (cFields ((k, pos, v) :: fs)) :=
      fun X hX => congrArg (g ++ ·) (flat_keyColon τ q1 k.toList X _ (by rw [hq4]; exact hX))
    cases fs with
    | nil =>
      have e : q + (g ++ (k.toList ++ (τ (q1 + k.toList.length) ++ ':' ::
          (τ (q1 + k.toList.length + (τ (q1 + k.toList.length)).length + 1) ++ rv)))).length = q4 + rv.length := by
        simp only [List.length_append, List.length_cons]; omega
      simp only [fieldsBody, List.append_nil]
      rw [e]
      simp only [List.append_assoc, List.cons_append]
      exact key _ (by rw [cFields, List.append_nil, ← hv]; rfl)
    | cons f' fs' =>
      have ih := flat_fields τ (f' :: fs') (q4 + rv.length) false (by simp)
      generalize fieldsBody τ (q4 + rv.length) false (f' :: fs') = fb at ih ⊢
      have e : q + (g ++ (k.toList ++ (τ (q1 + k.toList.length) ++ ':' ::
          (τ (q1 + k.toList.length + (τ (q1 + k.toList.length)).length + 1) ++ (rv ++ fb))))).length =
          q4 + rv.length + fb.length := by
        simp only [List.length_append, List.length_cons]; omega
      rw [e]
      simp only [List.append_assoc, List.cons_append]
      refine key _ ?_
      rw [ih, rToks_append, ← hv, gapOf_false]
      simp only [tk_eq, List.isEmpty_cons, Bool.not_false, List.append_assoc, List.length_append, Nat.add_assoc]
end

/-! ### arguments, directives -/

def cArgs (sep : Bool) (args : List Arg) : List (List Char × Bool) := (['('], false) :: (cFields args ++ [([')'], sep)])

theorem flat_args (τ : Trivia) (sep : Bool) (p : Nat) (args : List Arg) :
    tk τ sep p (renderArgs τ p args) = rToks τ p (cArgs sep args) := by
  simp only [renderArgs, cArgs]
  apply bracket_flat
  cases args with
  | nil => simp [fieldsBody, cFields, rToks]
  | cons f fs' => exact flat_fields τ (f :: fs') (p + 1) true (by simp)

def cDir (sep : Bool) (d : Directive) : List (List Char × Bool) :=
  (['@'], false) :: (match d.args with
    | [] => [(d.name.toList, sep)]
    | a :: as => (d.name.toList, false) :: cArgs sep (a :: as))

theorem flat_dir (τ : Trivia) (sep : Bool) (p : Nat) (d : Directive) : rDir τ sep p d = rToks τ p (cDir sep d) := by
  rw [rDir_eq]
  unfold cDir
  cases hd : d.args with
  | nil =>
    simp only [rToks_cons, rToks_nil, List.append_nil, tk_eq, gapS_false, List.length_append, List.length_cons,
      List.length_nil, Nat.zero_add, Nat.add_assoc, Nat.add_comm 1]
  | cons a as =>
    simp only [rToks_cons, dQ]
    rw [flat_args]
    simp only [tk_eq, gapS_false, List.length_append, List.length_cons, List.length_nil, Nat.zero_add, List.append_assoc,
      Nat.add_assoc, Nat.add_comm 1]

/-! ### lists of items -/

section Items
variable {α : Type} (ci : Bool → α → List (List Char × Bool)) (sepMid sepLast : Bool)

/-- the flat form of `renderItems` -/
def cList : List α → List (List Char × Bool)
  | [] => []
  | a :: r => ci (if r.isEmpty then sepLast else sepMid) a ++ cList r

theorem flat_list_mem (τ : Trivia) (ri : Bool → Nat → α → List Char) :
    ∀ (xs : List α) (_ : ∀ a ∈ xs, ∀ s q, ri s q a = rToks τ q (ci s a)) (p : Nat),
      renderItems ri sepMid sepLast p xs = rToks τ p (cList ci sepMid sepLast xs) := by
  intro xs
  induction xs with
  | nil => intro _ p; rfl
  | cons a r ih =>
    intro h p
    cases r with
    | nil => simp [renderItems, cList, h a (by simp)]
    | cons b r' =>
      rw [renderItems_cons2, ih (fun x hx => h x (by simp [hx])), h a (by simp)]
      simp only [cList, List.isEmpty_cons, Bool.false_eq_true, if_false, rToks_append]

theorem flat_list (τ : Trivia) (ri : Bool → Nat → α → List Char) (h : ∀ s q a, ri s q a = rToks τ q (ci s a))
    (xs : List α) (p : Nat) : renderItems ri sepMid sepLast p xs = rToks τ p (cList ci sepMid sepLast xs) :=
  flat_list_mem ci sepMid sepLast τ ri xs (fun a _ s q => h s q a) p

end Items

def cDirs (sep : Bool) (ds : List Directive) : List (List Char × Bool) := cList cDir false sep ds

theorem flat_dirs (τ : Trivia) (sep : Bool) (p : Nat) (ds : List Directive) : rDirs τ sep p ds = rToks τ p (cDirs sep ds) :=
  flat_list cDir false sep τ (rDir τ) (fun s q d => flat_dir τ s q d) ds p

end NitroVerif.C16Own
