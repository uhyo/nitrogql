/-
C10 ∘ C11 — helper lemmas: the type definitions of a RESOLVED document (`ExtResolve.resolve src = .ok R`) are, up to
order, the source's type definitions merged with their extensions (`ExtMerge.refType`), and what the lookups the
declaration printers and the reference `Ref` perform (`typeDef?`, `objectImplementers`, `possibleTypes`, `scalarType?`)
return on `R` in terms of the SOURCE items; when the schema declaration printer model succeeds
(`ScalarTypeNotProvided` is its only failure) and the first statement of the file it emits (`__nitrogql_schema`).
-/
import NitroVerif.Lemmas.ExtResolve
import NitroVerif.Lemmas.DeclsClosedExact
import NitroVerif.Model.CliSchema
import NitroVerif.Lemmas.SchemaFacts
namespace NitroVerif.DeclsComposed
open NitroVerif.Gql NitroVerif.Ts NitroVerif.DeclCfg NitroVerif.SchemaDecls NitroVerif.RefTypes
open NitroVerif.ExtMerge NitroVerif.ExtResolve

/-- the extensions of the source definition `td`: same kind, same name, in document order -/
def extsOf (src : TsDoc) (td : TypeDef) : List TypeDef := typeExts td.kind td.name src

/-- fields of `td` followed by the fields of each of its extensions (document order); likewise the other components -/
def mergedFields (src : TsDoc) (td : TypeDef) : List FieldDef := td.fields ++ (extsOf src td).flatMap (·.fields)
def mergedImplements (src : TsDoc) (td : TypeDef) : List (Name × Pos) :=
  td.implements ++ (extsOf src td).flatMap (·.implements)
def mergedMembers (src : TsDoc) (td : TypeDef) : List (Name × Pos) := td.members ++ (extsOf src td).flatMap (·.members)
def mergedValues (src : TsDoc) (td : TypeDef) : List EnumValueDef := td.values ++ (extsOf src td).flatMap (·.values)
def mergedInputs (src : TsDoc) (td : TypeDef) : List InputValueDef := td.inputs ++ (extsOf src td).flatMap (·.inputs)
def mergedDirs (src : TsDoc) (td : TypeDef) : List Directive := td.dirs ++ (extsOf src td).flatMap (·.dirs)

theorem refType_kind (src : TsDoc) (td : TypeDef) : (refType src td).kind = td.kind := rfl
theorem refType_name (src : TsDoc) (td : TypeDef) : (refType src td).name = td.name := rfl
theorem refType_desc (src : TsDoc) (td : TypeDef) : (refType src td).desc = td.desc := rfl
theorem refType_dirs (src : TsDoc) (td : TypeDef) : (refType src td).dirs = mergedDirs src td := rfl

theorem refType_fields (src : TsDoc) (td : TypeDef) (hk : td.kind = .object ∨ td.kind = .interface) :
    (refType src td).fields = mergedFields src td :=
  refType_fields_eq src td hk

theorem refType_implements (src : TsDoc) (td : TypeDef) (hk : td.kind = .object ∨ td.kind = .interface) :
    (refType src td).implements = mergedImplements src td :=
  refType_implements_eq src td hk

theorem refType_members (src : TsDoc) (td : TypeDef) (hk : td.kind = .union) :
    (refType src td).members = mergedMembers src td :=
  refType_members_eq src td hk

theorem refType_values (src : TsDoc) (td : TypeDef) (hk : td.kind = .enum) :
    (refType src td).values = mergedValues src td :=
  refType_values_eq src td hk

theorem refType_inputs (src : TsDoc) (td : TypeDef) (hk : td.kind = .input) :
    (refType src td).inputs = mergedInputs src td :=
  refType_inputs_eq src td hk

theorem mem_typeDefsOf_resolved {src R : TsDoc} (h : resolve src = .ok R) {td' : TypeDef} :
    td' ∈ typeDefsOf R ↔ ∃ td, TsItem.typeDef td ∈ src ∧ td' = refType src td := by
  rw [(typeDefsOf_resolved h).mem_iff, List.mem_map]
  constructor
  · rintro ⟨td, htd, rfl⟩; exact ⟨td, mem_typeDefsOf.mp htd, rfl⟩
  · rintro ⟨td, htd, rfl⟩; exact ⟨td, mem_typeDefsOf.mpr htd, rfl⟩

theorem refType_mem_resolved {src R : TsDoc} (h : resolve src = .ok R) {td : TypeDef} (hm : TsItem.typeDef td ∈ src) :
    refType src td ∈ typeDefsOf R :=
  (mem_typeDefsOf_resolved h).mpr ⟨td, hm, rfl⟩

theorem typeDef?_resolved {src R : TsDoc} (h : resolve src = .ok R)
    (hd : ((typeDefsOf R).map (·.name)).Nodup) {td : TypeDef} (hm : TsItem.typeDef td ∈ src) :
    (Schema.mk R).typeDef? td.name = some (refType src td) := by
  unfold Schema.typeDef?
  rw [typeDefs_eq]
  exact find?_key_of_nodup (·.name) hd (refType_mem_resolved h hm)

theorem src_def_unique {src R : TsDoc} (h : resolve src = .ok R)
    (hd : ((typeDefsOf R).map (·.name)).Nodup) {a b : TypeDef} (ha : TsItem.typeDef a ∈ src)
    (hb : TsItem.typeDef b ∈ src) (hn : a.name = b.name) : a = b := by
  have hp := (typeDefsOf_resolved h).map (·.name)
  rw [List.map_map] at hp
  have hnd : ((typeDefsOf src).map (·.name)).Nodup := by
    have : ((typeDefsOf src).map ((·.name) ∘ refType src)) = (typeDefsOf src).map (·.name) :=
      List.map_congr_left (fun _ _ => rfl)
    rw [← this]; exact hp.nodup_iff.mp hd
  exact eq_of_key_eq_of_nodup (·.name) hnd (mem_typeDefsOf.mpr ha) (mem_typeDefsOf.mpr hb) hn

theorem mem_objectImplementers_resolved {src R : TsDoc} (h : resolve src = .ok R) (iface o : Name) :
    o ∈ (Schema.mk R).objectImplementers iface ↔
      ∃ od, TsItem.typeDef od ∈ src ∧ od.kind = .object ∧ od.name = o ∧ ∃ i ∈ mergedImplements src od, i.1 = iface := by
  unfold Schema.objectImplementers
  rw [typeDefs_eq]
  simp only [List.mem_map, List.mem_filter, Bool.and_eq_true, kind_beq, beq_iff_eq, List.any_eq_true]
  constructor
  · rintro ⟨td', ⟨hm, hk, i, hi, hie⟩, rfl⟩
    obtain ⟨od, hod, rfl⟩ := (mem_typeDefsOf_resolved h).mp hm
    refine ⟨od, hod, hk, rfl, i, ?_, hie⟩
    rwa [refType_implements src od (Or.inl hk)] at hi
  · rintro ⟨od, hod, hk, rfl, i, hi, hie⟩
    refine ⟨refType src od, ⟨refType_mem_resolved h hod, hk, i, ?_, hie⟩, rfl⟩
    rwa [refType_implements src od (Or.inl hk)]

theorem possibleTypes_union_resolved {src R : TsDoc} (h : resolve src = .ok R)
    (hd : ((typeDefsOf R).map (·.name)).Nodup) {td : TypeDef} (hm : TsItem.typeDef td ∈ src) (hk : td.kind = .union) :
    (Schema.mk R).possibleTypes td.name = (mergedMembers src td).map (·.1) := by
  unfold Schema.possibleTypes
  rw [typeDef?_resolved h hd hm]
  simp only [refType_kind, hk, refType_members src td hk]

theorem possibleTypes_interface_resolved {src R : TsDoc} (h : resolve src = .ok R)
    (hd : ((typeDefsOf R).map (·.name)).Nodup) {td : TypeDef} (hm : TsItem.typeDef td ∈ src)
    (hk : td.kind = .interface) :
    (Schema.mk R).possibleTypes td.name = (Schema.mk R).objectImplementers td.name := by
  unfold Schema.possibleTypes
  rw [typeDef?_resolved h hd hm]
  simp only [refType_kind, hk]

theorem find?_scalarEntry (c : Cfg) {l : List TypeDef} (hd : (l.map (·.name)).Nodup) {td : TypeDef} (hm : td ∈ l) :
    (l.filterMap (scalarEntry c)).find? (·.1 == td.name) = scalarEntry c td := by
  have key : ∀ p ∈ l.filterMap (scalarEntry c), p.1 = td.name → scalarEntry c td = some p := fun p hp hk => by
    obtain ⟨y, hy, hye⟩ := List.mem_filterMap.mp hp
    rw [eq_of_key_eq_of_nodup (·.name) hd hy hm ((scalarEntry_key hye).symm.trans hk)] at hye
    exact hye
  cases hx : scalarEntry c td with
  | some p =>
    exact find?_of_unique (List.mem_filterMap.mpr ⟨td, hm, hx⟩) (by simp [scalarEntry_key hx])
      fun q hq hk => Option.some.inj ((key q hq (by simpa using hk)).symm.trans hx)
  | none =>
    exact List.find?_eq_none.2 fun p hp hk => nomatch (key p hp (by simpa using hk)).symm.trans hx

theorem scalarType?_resolved (c : Cfg) {src R : TsDoc} (h : resolve src = .ok R)
    (hd : ((typeDefsOf R).map (·.name)).Nodup) {td : TypeDef} (hm : TsItem.typeDef td ∈ src) (hk : td.kind = .scalar) :
    scalarType? c R td.name = (c.optionScalar? td.name).orElse (fun _ => directiveScalar? (refType src td)) := by
  unfold scalarType?
  rw [scalarTypes_eq]
  have := find?_scalarEntry c hd (refType_mem_resolved h hm)
  rw [refType_name] at this
  rw [this]
  simp only [scalarEntry, refType_kind, hk, refType_name]
  cases (c.optionScalar? td.name).orElse (fun _ => directiveScalar? (refType src td)) <;> rfl

theorem findSome?_of_filterMap_singleton {α β : Type} (f : α → Option β) {b : β} :
    ∀ {l : List α}, l.filterMap f = [b] → l.findSome? f = some b := by
  intro l
  induction l with
  | nil => intro h; cases h
  | cons x r ih =>
    intro h
    rw [List.filterMap_cons] at h
    rw [List.findSome?_cons]
    cases hx : f x with
    | none => rw [hx] at h; exact ih h
    | some y => rw [hx] at h; simp only [List.cons.injEq] at h; rw [h.1]

theorem findSome?_schema_resolved {src R : TsDoc} (h : resolve src = .ok R) {s : SchemaDef}
    (hs : TsItem.schemaDef s ∈ src) :
    R.findSome? (fun | .schemaDef s => some s | _ => none) = some (refSchema src s) := by
  have hle : (schemaDefs src).length ≤ 1 := (resolve_ok src R h).1.1
  have hmem : s ∈ schemaDefs src := List.mem_filterMap.mpr ⟨_, hs, rfl⟩
  have he : schemaDefs src = [s] := by
    match hq : schemaDefs src, hle, hmem with
    | [a], _, hm => simp only [List.mem_cons, List.not_mem_nil, or_false] at hm; rw [hm]
    | [], _, hm => cases hm
    | _ :: _ :: _, hl, _ => simp at hl
  have hp := schemaDefs_resolved h
  rw [he, List.map_cons, List.map_nil, List.perm_singleton] at hp
  exact findSome?_of_filterMap_singleton _ hp

theorem findSome?_schema_resolved_none {src R : TsDoc} (h : resolve src = .ok R)
    (hs : ∀ s, TsItem.schemaDef s ∉ src) :
    R.findSome? (fun | .schemaDef s => some s | _ => none) = none := by
  have he : schemaDefs src = [] := by
    rw [schemaDefs, List.filterMap_eq_nil_iff]
    intro x hx
    cases x <;> first | rfl | exact absurd hx (hs _)
  have hp := schemaDefs_resolved h
  rw [he, List.map_nil, List.perm_nil] at hp
  rw [List.findSome?_eq_none_iff]
  intro x hx
  unfold schemaDefs at hp
  rw [List.filterMap_eq_nil_iff] at hp
  exact hp x hx

theorem typeExts_append (k : TypeKind) (n : Name) (a b : TsDoc) : typeExts k n (a ++ b) = typeExts k n a ++ typeExts k n b := by
  simp [typeExts, List.filterMap_append]

theorem typeExts_builtins (k : TypeKind) (n : Name) : typeExts k n CliSchema.builtins = [] := by
  simp [typeExts, CliSchema.builtins, CliSchema.bScalar, CliSchema.bDirective]

theorem extsOf_cli (user : TsDoc) (td : TypeDef) : extsOf (user ++ CliSchema.builtins) td = extsOf user td := by
  simp [extsOf, typeExts_append, typeExts_builtins]

theorem mergedFields_cli (user : TsDoc) (td : TypeDef) : mergedFields (user ++ CliSchema.builtins) td = mergedFields user td := by
  simp [mergedFields, extsOf_cli]
theorem mergedImplements_cli (user : TsDoc) (td : TypeDef) :
    mergedImplements (user ++ CliSchema.builtins) td = mergedImplements user td := by
  simp [mergedImplements, extsOf_cli]
theorem mergedMembers_cli (user : TsDoc) (td : TypeDef) : mergedMembers (user ++ CliSchema.builtins) td = mergedMembers user td := by
  simp [mergedMembers, extsOf_cli]
theorem mergedValues_cli (user : TsDoc) (td : TypeDef) : mergedValues (user ++ CliSchema.builtins) td = mergedValues user td := by
  simp [mergedValues, extsOf_cli]
theorem mergedInputs_cli (user : TsDoc) (td : TypeDef) : mergedInputs (user ++ CliSchema.builtins) td = mergedInputs user td := by
  simp [mergedInputs, extsOf_cli]
theorem mergedDirs_cli (user : TsDoc) (td : TypeDef) : mergedDirs (user ++ CliSchema.builtins) td = mergedDirs user td := by
  simp [mergedDirs, extsOf_cli]

theorem mem_cli_defs (user : TsDoc) (td : TypeDef) :
    TsItem.typeDef td ∈ user ++ CliSchema.builtins ↔
      TsItem.typeDef td ∈ user ∨
      ∃ n ∈ ["Int", "Float", "String", "Boolean", "ID"],
        td = { kind := .scalar, name := n, namePos := CliSchema.bp, pos := CliSchema.bp } := by
  rw [List.mem_append]
  apply or_congr Iff.rfl
  simp [CliSchema.builtins, CliSchema.bScalar, CliSchema.bDirective]

theorem body_ok_iff (x : Ctx) (td : TypeDef) :
    (∃ b, body x td = .ok b) ↔ (td.kind = .scalar → (x.scalarTypes.find? (·.1 == td.name)).isSome = true) := by
  unfold body
  cases hk : td.kind <;> simp only [reduceCtorEq, false_implies, iff_true, true_implies] <;>
    first
    | exact ⟨_, rfl⟩
    | (cases hq : x.scalarTypes.find? (·.1 == td.name) with
       | none => simp
       | some p => simp)

theorem printType_ok_iff (x : Ctx) (td : TypeDef) : (∃ ss, printType x td = .ok ss) ↔ ∃ b, body x td = .ok b := by
  unfold printType
  cases hb : body x td with
  | error e => simp
  | ok b => cases b <;> simp

theorem schemaFile_ok_iff (c : Cfg) (doc : TsDoc) :
    (∃ F, schemaFile c doc = .ok F) ↔
      ∀ td ∈ typeDefsOf doc, td.kind = .scalar → (scalarType? c doc td.name).isSome = true := by
  have hsc : ∀ n, (scalarType? c doc n).isSome = ((scalarTypes c doc).find? (·.1 == n)).isSome := by
    intro n; unfold scalarType?; cases (scalarTypes c doc).find? (·.1 == n) <;> rfl
  constructor
  · rintro ⟨F, hF⟩ td htd hk
    have := (schemaFile_iff.1 hF).1 .operationInput (Target.mem_all _) td htd
    rw [printType_ok_iff, body_ok_iff] at this
    exact (hsc td.name).trans (this hk)
  · intro h
    exact ⟨_, schemaFile_iff.2 ⟨fun t _ td htd => (printType_ok_iff _ td).2
      ((body_ok_iff _ td).2 fun hk => (hsc td.name).symm.trans (h td htd hk)), rfl⟩⟩

theorem schemaFile_head {c : Cfg} {doc : TsDoc} {F : File} (hF : schemaFile c doc = .ok F) :
    F.head? = some (.type true "__nitrogql_schema" [] (schemaMetadata doc)) := by
  unfold schemaFile at hF
  split at hF
  · cases hF
  · cases hF; rfl

theorem schemaMetadata_resolved {src R : TsDoc} (hres : resolve src = .ok R) {s : SchemaDef}
    (hs : TsItem.schemaDef s ∈ src) :
    schemaMetadata R = .obj ((s.roots ++ (schemaExts src).flatMap (·.roots)).map
      fun (k, n, _) => (k.asStr, false, false, .ref n)) := by
  have h := findSome?_schema_resolved hres hs
  unfold schemaMetadata
  generalize hg : List.findSome? _ R = r
  have hr : r = some (refSchema src s) := by
    rw [← hg, ← h]; congr 1
  subst hr
  rfl

end NitroVerif.DeclsComposed
