import NitroVerif.Lemmas.PrintMapBodyText
import NitroVerif.Model.VarTypes
/-!
# C06 — the printer-level types and the syntax trees of the C01 / C09 models are the same types

The models of C01 (`OpTypes.toTs`) and C09 (`VarTypes.varsTsL`) give the types of the operation declaration file in
print→parse NORMAL FORM: `print_type` writes no parentheses around a union inside a union, so `A | B | null` reads back as ONE
union. `norm` is that normalisation on syntax trees (members that are unions are spliced; a union of one member is the
member, of none is `never`). `Good t` is the invariant of its results: a union has members and none of them is a union.
Normalising does not change the layout text, and the types the printer builds for a selection tree and for the variable
definitions normalise to the types of the C01 and the C09 model.
-/
namespace NitroVerif.PrintMap
open NitroVerif.Gql NitroVerif.DeclCfg
open NitroVerif.Ts (Ty Field)

theorem layoutList_append (a b : List Ty) : layoutList (a ++ b) = layoutList a ++ layoutList b := by
  induction a with
  | nil => rfl
  | cons t a ih => simp [layoutList, ih]

theorem layoutList_isEmpty (a : List Ty) : (layoutList a).isEmpty = a.isEmpty := by cases a <;> rfl

theorem layoutList_ne_nil {a : List Ty} (h : a ≠ []) : layoutList a ≠ [] := by
  cases a with
  | nil => exact absurd rfl h
  | cons t a => simp [layoutList]

def isUnion : Ty → Bool
  | .union _ => true
  | _ => false

/-- the members a type contributes to an enclosing union -/
def members : Ty → List Ty
  | .union us => us
  | t => [t]

def flattenU : List Ty → List Ty
  | [] => []
  | t :: r => members t ++ flattenU r

/-- `ts_union` on syntax trees (= `OpTypes.tsUnion` = `SchemaDecls.tsUnion`) -/
def mkUnion : List Ty → Ty
  | [] => .prim "never"
  | [t] => t
  | ts => .union ts

mutual
/-- print→parse normal form: nested unions are spliced -/
def norm : Ty → Ty
  | .app f as => .app (norm f) (normList as)
  | .obj fs => .obj (normFields fs)
  | .arr t => .arr (norm t)
  | .roArr t => .roArr (norm t)
  | .union ts => mkUnion (flattenU (normList ts))
  | .inter ts => .inter (normList ts)
  | .prim s => .prim s
  | .ref n => .ref n
  | .qref p => .qref p
  | .strLit s => .strLit s
  | .numLit s => .numLit s
  | .fn ps r => .fn ps r
  | .index t k => .index t k
  | .tuple ts => .tuple ts
  | .other tag ps => .other tag ps
def normList : List Ty → List Ty
  | [] => []
  | t :: ts => norm t :: normList ts
def normFields : List Field → List Field
  | [] => []
  | (k, ro, opt, t) :: r => (k, ro, opt, norm t) :: normFields r
end

/-- a union in normal form has members, none of which is a union -/
def Good : Ty → Prop
  | .union us => us ≠ [] ∧ ∀ u ∈ us, isUnion u = false
  | _ => True

theorem good_of_not_union {t : Ty} (h : isUnion t = false) : Good t := by
  cases t <;> first | trivial | (simp [isUnion] at h)

theorem members_not_union {t : Ty} (h : Good t) : ∀ u ∈ members t, isUnion u = false := by
  cases t <;> simp_all [members, Good, isUnion]

theorem members_ne_nil {t : Ty} (h : Good t) : members t ≠ [] := by
  cases t <;> simp_all [members, Good]

theorem flattenU_not_union : ∀ {L : List Ty}, (∀ t ∈ L, Good t) → ∀ u ∈ flattenU L, isUnion u = false
  | [], _, u, hu => by cases hu
  | t :: r, h, u, hu => by
    simp only [flattenU, List.mem_append] at hu
    rcases hu with hu | hu
    · exact members_not_union (h t (by simp)) u hu
    · exact flattenU_not_union (fun x hx => h x (by simp [hx])) u hu

theorem flattenU_isEmpty : ∀ {L : List Ty}, (∀ t ∈ L, Good t) → (flattenU L).isEmpty = L.isEmpty
  | [], _ => rfl
  | t :: r, h => by
    have := members_ne_nil (h t (by simp))
    cases hm : members t with
    | nil => exact absurd hm this
    | cons a b => simp [flattenU, hm]

theorem good_mkUnion {X : List Ty} (h : ∀ u ∈ X, isUnion u = false) : Good (mkUnion X) := by
  match X, h with
  | [], _ => trivial
  | [t], h => exact good_of_not_union (h t (by simp))
  | a :: b :: r, h => exact ⟨by simp, h⟩

mutual
theorem good_norm : ∀ t : Ty, Good (norm t)
  | .app _ _ => trivial
  | .obj _ => trivial
  | .arr _ => trivial
  | .roArr _ => trivial
  | .union ts => by
    simp only [norm]
    exact good_mkUnion (flattenU_not_union (good_normList ts))
  | .inter _ => trivial
  | .prim _ => trivial
  | .ref _ => trivial
  | .qref _ => trivial
  | .strLit _ => trivial
  | .numLit _ => trivial
  | .fn _ _ => trivial
  | .index _ _ => trivial
  | .tuple _ => trivial
  | .other _ _ => trivial
theorem good_normList : ∀ ts : List Ty, ∀ t ∈ normList ts, Good t
  | [], _, h => by cases h
  | t :: ts, u, h => by
    simp only [normList, List.mem_cons] at h
    rcases h with rfl | h
    · exact good_norm t
    · exact good_normList ts u h
end

theorem normList_isEmpty (ts : List Ty) : (normList ts).isEmpty = ts.isEmpty := by cases ts <;> rfl
theorem normFields_isEmpty (fs : List Field) : (normFields fs).isEmpty = fs.isEmpty := by
  cases fs with
  | nil => rfl
  | cons f r => obtain ⟨k, ro, opt, t⟩ := f; rfl

theorem layout_members {t : Ty} (h : Good t) : joinSep " | " (layoutList (members t)) = layoutTy t := by
  cases t <;> try (simp [members, layoutList, joinSep])
  case union us =>
    have : us ≠ [] := h.1
    cases us with
    | nil => exact absurd rfl this
    | cons a b => simp [layoutTy]

theorem layout_flattenU : ∀ {L : List Ty}, (∀ t ∈ L, Good t) →
    joinSep " | " (layoutList (flattenU L)) = joinSep " | " (layoutList L)
  | [], _ => rfl
  | t :: r, h => by
    have ht := h t (by simp)
    have hr : ∀ x ∈ r, Good x := fun x hx => h x (by simp [hx])
    have ih := layout_flattenU hr
    simp only [flattenU, layoutList_append, layoutList]
    rw [joinSep_append _ _ _ (layoutList_ne_nil (members_ne_nil ht)), joinSep_cons, layout_members ht, ih,
      layoutList_isEmpty, layoutList_isEmpty, flattenU_isEmpty hr]

theorem layout_mkUnion (X : List Ty) :
    layoutTy (mkUnion X) = if X.isEmpty then "never" else joinSep " | " (layoutList X) := by
  match X with
  | [] => simp [mkUnion, layoutTy]
  | [t] => simp [mkUnion, layoutList, joinSep]
  | a :: b :: r => simp [mkUnion, layoutTy]

mutual
theorem layout_norm : ∀ t : Ty, layoutTy (norm t) = layoutTy t
  | .app f as => by simp [norm, layoutTy, layout_norm f, layout_normList as]
  | .obj fs => by simp [norm, layoutTy, normFields_isEmpty, layout_normFields fs]
  | .arr t => by simp [norm, layoutTy, layout_norm t]
  | .roArr t => by simp [norm, layoutTy, layout_norm t]
  | .union ts => by
    have hg := good_normList ts
    simp only [norm, layout_mkUnion, flattenU_isEmpty hg, normList_isEmpty, layout_flattenU hg, layout_normList ts, layoutTy]
  | .inter ts => by simp [norm, layoutTy, normList_isEmpty, layout_normList ts]
  | .prim _ => rfl
  | .ref _ => rfl
  | .qref _ => rfl
  | .strLit _ => rfl
  | .numLit _ => rfl
  | .fn _ _ => rfl
  | .index _ _ => rfl
  | .tuple _ => rfl
  | .other _ _ => rfl
theorem layout_normList : ∀ ts : List Ty, layoutList (normList ts) = layoutList ts
  | [] => rfl
  | t :: ts => by simp [normList, layoutList, layout_norm t, layout_normList ts]
theorem layout_normFields : ∀ fs : List Field, layoutFields (normFields fs) = layoutFields fs
  | [] => rfl
  | (k, ro, opt, t) :: r => by simp [normFields, layoutFields, layout_norm t, layout_normFields r]
end

theorem rawText_printTy_norm (t : TSTy) (h : t.simple = true) : rawText (printTy t) = layoutTy (norm (erase t)) := by
  rw [layout_norm, rawText_printTy t h]

theorem mkUnion_eq_opTypes (l : List Ty) : mkUnion l = OpTypes.tsUnion l := by
  match l with
  | [] => rfl
  | [_] => rfl
  | _ :: _ :: _ => rfl

theorem erase_tsUnion (l : List TSTy) : erase (tsUnion l) = mkUnion (eraseList l) := by
  match l with
  | [] => rfl
  | [_] => rfl
  | _ :: _ :: _ => rfl

theorem members_of_not_union {x : Ty} (h : isUnion x = false) : members x = [x] := by
  cases x <;> simp_all [members, isUnion]

theorem flattenU_of_not_union : ∀ {L : List Ty}, (∀ t ∈ L, isUnion t = false) → flattenU L = L
  | [], _ => rfl
  | t :: r, h => by
    rw [flattenU, members_of_not_union (h t (List.mem_cons_self ..)),
      flattenU_of_not_union fun x hx => h x (List.mem_cons_of_mem _ hx)]
    rfl

theorem norm_orNull {x : Ty} (hx : Good x) :
    mkUnion (flattenU [x, .prim "null"]) = OpTypes.orNull x := by
  cases x <;> try rfl
  case union us =>
    obtain ⟨hne, _⟩ := hx
    simp only [flattenU, members, List.append_nil, OpTypes.orNull]
    match us, hne with
    | [a], _ => rfl
    | a :: b :: r, _ => rfl

mutual
theorem norm_erase_leafCore (ns : String) : ∀ t : GType,
    norm (erase (tsOfTypeImpl (outLeaf ns) t).1) = OpTypes.leafCore (OpTypes.Refs.ofNs ns).out t
  | .named n p => rfl
  | .list t _ => by
    have ih := norm_erase_leafTs ns t
    simp only [tsOfType] at ih
    simp only [tsOfTypeImpl, OpTypes.leafCore]
    split at ih <;> simp_all [erase, norm]
  | .nonNull t => by simpa [tsOfTypeImpl, OpTypes.leafCore] using norm_erase_leafCore ns t
theorem norm_erase_leafTs (ns : String) : ∀ t : GType,
    norm (erase (tsOfType (outLeaf ns) t)) = OpTypes.leafTs (OpTypes.Refs.ofNs ns).out t
  | .named n p => rfl
  | .list t _ => by
    have ih := norm_erase_leafTs ns t
    simp only [tsOfType] at ih
    simp only [tsOfType, tsOfTypeImpl, OpTypes.leafTs]
    split at ih <;>
      simp_all [erase, eraseList, norm, normList, flattenU, members, mkUnion, OpTypes.orNull]
  | .nonNull t => by
    have ih := norm_erase_leafCore ns t
    simpa [tsOfType, tsOfTypeImpl, OpTypes.leafTs] using ih
end

theorem branchTs_not_union (r : OpTypes.Refs) : ∀ bs : List OpTypes.Branch, ∀ t ∈ OpTypes.branchesTs r bs, isUnion t = false
  | [], _, h => by cases h
  | .mk _ _ _ _ :: bs, t, h => by
    simp only [OpTypes.branchesTs, List.mem_cons] at h
    rcases h with rfl | h
    · rfl
    · exact branchTs_not_union r bs t h

theorem good_opTypes_tsUnion (r : OpTypes.Refs) (bs : List OpTypes.Branch) : Good (OpTypes.tsUnion (OpTypes.branchesTs r bs)) := by
  rw [← mkUnion_eq_opTypes]
  exact good_mkUnion (branchTs_not_union r bs)

mutual
theorem norm_erase_treeTy (ns : String) : ∀ (t : OpTypes.SelTree) (nn : Bool),
    norm (erase (treeTy ns t nn)) = OpTypes.treeTs (OpTypes.Refs.ofNs ns) t nn
  | .nonNull t, _ => by simpa [treeTy, OpTypes.treeTs] using norm_erase_treeTy ns t true
  | .list t, nn => by
    have ih := norm_erase_treeTy ns t false
    cases nn
    · simp [treeTy, OpTypes.treeTs, tsUnion, erase, eraseList, norm, normList, ih, flattenU, members, mkUnion,
        OpTypes.orNull]
    · simp [treeTy, OpTypes.treeTs, erase, norm, ih]
  | .object bs, nn => by
    have ih := norm_erase_branchesTy ns bs
    have hb : norm (erase (tsUnion (branchesTy ns bs))) = OpTypes.tsUnion (OpTypes.branchesTs (OpTypes.Refs.ofNs ns) bs) := by
      rw [← mkUnion_eq_opTypes]
      match hbs : branchesTy ns bs, ih with
      | [], ih => simp [eraseList, normList] at ih; simp [tsUnion, erase, norm, ih, mkUnion]
      | [b], ih => simp [eraseList, normList] at ih; simp [tsUnion, ← ih, mkUnion]
      | a :: b :: r, ih =>
        simp only [tsUnion, erase, norm, ih]
        rw [flattenU_of_not_union (branchTs_not_union _ bs)]
    cases nn
    · simp only [treeTy, OpTypes.treeTs, Bool.false_eq_true, if_false]
      rw [show tsUnion [tsUnion (branchesTy ns bs), TSTy.null] = TSTy.union [tsUnion (branchesTy ns bs), TSTy.null] from rfl]
      simp only [erase, eraseList, norm, normList, hb]
      exact norm_orNull (good_opTypes_tsUnion _ bs)
    · simpa [treeTy, OpTypes.treeTs] using hb
theorem norm_erase_branchesTy (ns : String) : ∀ bs : List OpTypes.Branch,
    normList (eraseList (branchesTy ns bs)) = OpTypes.branchesTs (OpTypes.Refs.ofNs ns) bs
  | [] => rfl
  | b :: bs => by
    simp [branchesTy, eraseList, normList, OpTypes.branchesTs, norm_erase_branchTy ns b, norm_erase_branchesTy ns bs]
theorem norm_erase_branchTy (ns : String) : ∀ b : OpTypes.Branch,
    norm (erase (branchTy ns b)) = OpTypes.branchTs (OpTypes.Refs.ofNs ns) b
  | .mk tn _ un al => by
    simp [branchTy, erase, eraseList, norm, normList, OpTypes.branchTs, OpTypes.Refs.ofNs, Target.name,
      norm_erase_fieldsTy ns tn un, norm_erase_fieldsTy ns tn al]
theorem norm_erase_fieldsTy (ns : String) (parent : Name) : ∀ fs : List OpTypes.SField,
    normFields (eraseFields (fieldsTy ns parent fs)) = OpTypes.fieldsTs (OpTypes.Refs.ofNs ns) parent fs
  | [] => rfl
  | .empty n :: fs => by
    simp [fieldsTy, fieldTy, eraseFields, normFields, OpTypes.fieldsTs, OpTypes.fieldTs, erase, norm,
      norm_erase_fieldsTy ns parent fs]
  | .leaf n ty isTn :: fs => by
    cases isTn <;>
      simp [fieldsTy, fieldTy, eraseFields, normFields, OpTypes.fieldsTs, OpTypes.fieldTs, erase, norm,
        norm_erase_fieldsTy ns parent fs, norm_erase_leafTs ns ty]
  | .object n sel :: fs => by
    simp [fieldsTy, fieldTy, eraseFields, normFields, OpTypes.fieldsTs, OpTypes.fieldTs,
      norm_erase_fieldsTy ns parent fs, norm_erase_treeTy ns sel false]
end

theorem norm_erase_toTs (ns : String) (t : OpTypes.SelTree) : norm (erase (treeTy ns t false)) = OpTypes.toTs ns t :=
  norm_erase_treeTy ns t false

/-- how the C09 model refers to an input type: `NS.__OperationInput.<name>` -/
def inRef (ns : String) (n : Name) : Ty := .qref [ns, Target.operationInput.name, n]

theorem tsCore_not_union (leaf : Name → Ty) (hl : ∀ n, isUnion (leaf n) = false) (ro : Bool) :
    ∀ t : GType, isUnion (SchemaDecls.tsCore leaf ro t) = false
  | .named n _ => hl n
  | .list t _ => by simp only [SchemaDecls.tsCore]; cases ro <;> rfl
  | .nonNull t => by simpa [SchemaDecls.tsCore] using tsCore_not_union leaf hl ro t

theorem members_prim (s : String) : members (.prim s) = [.prim s] := rfl
theorem members_union (us : List Ty) : members (.union us) = us := rfl

theorem mkUnion_pair {x y : Ty} (hx : isUnion x = false) (hy : isUnion y = false) :
    mkUnion (flattenU [x, y]) = .union [x, y] := by
  rw [flattenU_of_not_union (L := [x, y]) (by intro t ht; simp at ht; rcases ht with rfl | rfl <;> assumption)]
  rfl

theorem norm_erase_tsCore (ns : String) : ∀ t : GType,
    norm (erase (tsOfTypeImpl (inLeaf ns) t).1) = SchemaDecls.tsCore (inRef ns) false t ∧
    (tsOfTypeImpl (inLeaf ns) t).2 = !t.isNonNull
  | .named n p => ⟨rfl, rfl⟩
  | .list t _ => by
    obtain ⟨ih1, ih2⟩ := norm_erase_tsCore ns t
    refine ⟨?_, rfl⟩
    have hc := tsCore_not_union (inRef ns) (fun _ => rfl) false t
    simp only [tsOfTypeImpl, SchemaDecls.tsCore]
    cases hn : t.isNonNull
    · simp only [hn, Bool.not_false] at ih2
      simp only [ih2, if_true, erase, eraseList, norm, normList, ih1, Bool.false_eq_true, if_false]
      rw [mkUnion_pair hc rfl]
    · simp only [hn, Bool.not_true] at ih2
      simp [ih2, erase, norm, ih1]
  | .nonNull t => by
    obtain ⟨ih1, _⟩ := norm_erase_tsCore ns t
    exact ⟨by simpa [tsOfTypeImpl, SchemaDecls.tsCore] using ih1, rfl⟩

theorem norm_erase_varField (ns : String) (oi : Bool) (d : VarDef) :
    normFields (eraseFields [varField ns oi d]) = [VarTypes.varFieldL (inRef ns) oi d] := by
  obtain ⟨h1, h2⟩ := norm_erase_tsCore ns d.ty
  have hc := tsCore_not_union (inRef ns) (fun _ => rfl) false d.ty
  simp only [varField, VarTypes.varFieldL, SchemaDecls.optFieldTy, SchemaDecls.tsOf, tsOfType]
  cases hn : d.ty.isNonNull <;> cases oi
  all_goals simp only [hn, Bool.not_false, Bool.not_true] at h2
  all_goals
    simp [h2, tsUnion, eraseFields, normFields, erase, eraseList, norm, normList, h1, flattenU, members_of_not_union hc,
      members_prim, members_union, mkUnion]

theorem norm_erase_varsTy (ns : String) (oi : Bool) (vars : List VarDef) :
    norm (erase (varsTy ns oi vars)) = VarTypes.varsTsL (inRef ns) oi vars := by
  simp only [varsTy, VarTypes.varsTsL, erase, norm]
  congr 1
  induction vars with
  | nil => rfl
  | cons d r ih =>
    have h := norm_erase_varField ns oi d
    simp only [List.map_cons]
    cases hv : varField ns oi d with
    | mk k kp ty ro opt desc =>
      simp only [hv, eraseFields, normFields] at h ⊢
      simp only [List.cons.injEq, and_true] at h
      rw [h, ih]

theorem norm_erase_varsTy_default (c : Cfg) (vars : List VarDef) :
    norm (erase (varsTy VarTypes.schemaNs c.optionalInput vars)) = VarTypes.varsTs c vars :=
  norm_erase_varsTy _ _ _

end NitroVerif.PrintMap
