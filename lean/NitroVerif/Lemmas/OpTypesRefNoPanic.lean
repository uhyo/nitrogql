/-
`get_type_for_selection_set` does not panic (and the model does not run out of either fuel) on selection sets that pass
the decidable validity check `selOkB`, have no fragment cycle, are coherent, and lie in a family on which
`get_boolean_variables` succeeds (`BVClosed`): induction on the nesting bound D, `get_type_for_selection_set` at D from
`get_fields_for_selection_set` at D (`ip_of_ffp`), the latter at D + 1 from both at D (`ffp_succ`).
-/
import NitroVerif.Lemmas.OpTypesRefBoolVars
import NitroVerif.Lemmas.OpTypesRefMergeOk
import NitroVerif.Lemmas.OpTypesRefMain
import NitroVerif.Lemmas.OpTypesWrap
namespace NitroVerif.OpTypes.Ref
open NitroVerif.Gql NitroVerif.Ts NitroVerif.Exec NitroVerif.OpTypes NitroVerif.OpTypes.Closed

theorem class_ok {c : Ctx} {mt : SelTree → SelTree → Except Panic SelTree} {N G K : Nat} (HM : MergeSpec c mt)
    (MP : MergeProg c mt N) (hG : FieldDepthLe c G) (hN : (K + 1) * (G + 1) ≤ N) {o : Name}
    {ss : List Selection} {vars : List (Name × Bool)} {tag : Bool} {Lp Lc : List Entry}
    (hLc : ∀ q, q ∈ Lc ↔ q ∈ Lp ∧ q.tag = tag) (hgood : ∀ p ∈ Lp, Good c o vars ss p)
    (hR : CohIn c o (PU c (Sb1 ss) o allInc))
    (hK : NestLe c K (Sb1 ss)) : ∃ M, deepMergeWith mt (Lc.map (·.field)) = .ok M := by
  have inp := class_inputs hLc hgood hR
  refine deepMerge_okP (tn := o) (tag := tag) (fld := Entry.field) (PA := occAll) (PI := occKept) HM MP
    inp.rel (fun _ _ _ h => h.1) inp.coh ?_
  -- a field related to occurrences of `ss` is as deep as the nesting of `ss` and the wrappers of the field types allow
  intro A I g hI hg
  cases g with
  | empty k => simp [wf]
  | leaf k ty b => simp [wf]
  | object k T =>
    obtain ⟨t, fd, ht, hk, _, _, _, hfd, hrel⟩ := hg
    have hn : NestLe c K (subOf I k) :=
      nestLe_subset K _ _ (fun s ⟨t', ht', hk', hs'⟩ => ⟨t', inp.all t' (hI t' ht'), by rw [hk', hk], hs'⟩)
        (nestLe_succ c K _ hK o t (inp.all t (hI t ht)))
    have h1 := wd_le hG T fd.ty _ K hrel hn
    have h2 := hG o t.name fd hfd
    have : (K + 1) * (G + 1) = K * (G + 1) + (G + 1) := by rw [Nat.add_mul]; simp
    simp only [wf]; omega

def dirsOkB (ds : List Directive) : Bool :=
  ds.all fun d => !(d.name == "skip" || d.name == "include") || (ifArg d).isSome

def parentsOkB (S : Schema) (n : Name) : Bool :=
  match parentObjects S n with
  | .ok _ => true
  | .error _ => false

/-- the selection can be typed for an object of type `o` (nesting at most `D`): directives are well formed, a field exists
    on `o` (or is `__typename`), the type of a field with a sub-selection has parent objects and the sub-selection can be
    typed for each of its possible object types, spreads and type conditions are defined, applicable fragments can be
    typed for `o` -/
def selOkB (S : Schema) (F : FragMap) : Nat → Name → Selection → Bool
  | 0, _, _ => false
  | D + 1, o, .field _ name _ _ dirs sub =>
    dirsOkB dirs && (name == "__typename" || match S.field? o name with
      | none => false
      | some fd => match sub with
        | none => true
        | some ss' => parentsOkB S fd.ty.unwrapped &&
            (S.possibleTypes fd.ty.unwrapped).all fun o' => ss'.all (selOkB S F D o'))
  | D + 1, o, .spread nm _ dirs _ =>
    dirsOkB dirs && match F nm with
      | none => false
      | some fd => (S.typeDef? fd.cond).isSome && (!fragmentTypeApplies S o fd.cond || fd.sel.all (selOkB S F D o))
  | D + 1, o, .inline cond dirs ss' _ =>
    dirsOkB dirs && (match cond with | some (t, _) => (S.typeDef? t).isSome | none => true) &&
      (!condApplies S o cond || ss'.all (selOkB S F D o))

theorem rd_of_mem {F : FragMap} {V : List Name} {s : Selection} : ∀ {ss : List Selection}, s ∈ ss →
    RD F V ss (Selection.dirs s)
  | [], h => by cases h
  | s0 :: rest, h => by
    rcases List.mem_cons.1 h with rfl | h
    · exact .here
    · exact .tail (rd_of_mem h)

theorem rd_into {F : FragMap} {V : List Name} {s : Selection} {d : List Directive} : ∀ {ss : List Selection}, s ∈ ss →
    RD F V [s] d → RD F V ss d
  | [], h, _ => by cases h
  | s0 :: rest, h, hd => by
    rcases List.mem_cons.1 h with rfl | h
    · have := (rd_append (F := F) (V := V) (a := [s]) (b := rest) (d := d)).2 (Or.inl hd)
      simpa using this
    · exact .tail (rd_into h hd)

theorem wrapTree_ok {mk : Name → Except Panic (List Branch)} (ty : GType) (h : ∃ bs, mk ty.unwrapped = .ok bs) :
    ∃ T, wrapTree mk ty = .ok T := by
  obtain ⟨bs, h⟩ := h
  exact ⟨shapeTree ty bs, by rw [wrapTree_eq, h]; rfl⟩

/-- the global assumptions of the no-panic argument -/
structure NPEnv (c : Ctx) (mfuel G K : Nat) : Prop where
  nodup : TypeNamesNodup c.S
  depth : FieldDepthLe c G
  fuel : (K + 1) * (G + 1) ≤ mfuel

/-- "`get_fields_for_selection_set` proceeds" at nesting bound `D`: it returns a field list under any branch condition whose
    assignment covers the Boolean variables of the enclosing selection set `ss0` -/
def FFP (c : Ctx) (mfuel : Nat) (BV : List Selection → Prop) (D : Nat) : Prop :=
  ∀ (fuel : Nat) (cnd : Cond) (ss ss0 : List Selection) (bv : List Name), 2 * D + 1 ≤ fuel →
    c.S.typeDef? cnd.obj.name = some cnd.obj →
    (∀ s ∈ ss, selOkB c.S c.F D cnd.obj.name s = true ∧ fitsS c.F D s = true) → BV ss →
    SubCoh c cnd.obj.name ss → boolVars c.F mfuel ss0 = .ok bv → cnd.vars.map (·.1) = bv →
    (∀ ds, RD c.F [] ss ds → RD c.F [] ss0 ds) →
    ∃ L, fieldsFor c.S c.F mfuel fuel cnd ss = .ok L

/-- "`get_type_for_selection_set` (`implTree`) proceeds" at nesting bound `D` -/
def IP (c : Ctx) (mfuel : Nat) (BV : List Selection → Prop) (D : Nat) : Prop :=
  ∀ (fuel : Nat) (ty : GType) (ss : List Selection), 2 * D + 2 ≤ fuel → parentsOkB c.S ty.unwrapped = true →
    (∀ o ∈ c.S.possibleTypes ty.unwrapped, ∀ s ∈ ss, selOkB c.S c.F D o s = true) →
    (∀ s ∈ ss, fitsS c.F D s = true) → BV ss → (∀ d, Coh c d (Sb1 ss) ty.unwrapped) →
    ∃ T, implTree c.S c.F mfuel fuel ty ss = .ok T

theorem ip_of_ffp {c : Ctx} {mfuel : Nat} {BV : List Selection → Prop} (HB : BVClosed c.F mfuel BV) {G K D : Nat}
    (E : NPEnv c mfuel G K) (hDK : D ≤ K) (HF : FFP c mfuel BV D) :
    IP c mfuel BV D := by
  intro fuel ty ss hfuel hpar hsel hfit hbvs hC
  cases fuel with
  | zero => omega
  | succ f =>
    rw [implTree_succ]
    apply wrapTree_ok
    simp only [mkBranches, branchConds, bind, Except.bind]
    unfold parentsOkB at hpar
    cases hpo : parentObjects c.S ty.unwrapped with
    | error e => simp [hpo] at hpar
    | ok objs =>
      obtain ⟨vars, hbv⟩ := HB.ok ss hbvs
      simp only [hbv]
      obtain ⟨_, hobjs, _⟩ := parentObjects_spec hpo
      have hvn := boolVars_nodup hbv
      apply mapM_ok
      intro cnd hc
      simp only [List.mem_flatMap, List.mem_map] at hc
      obtain ⟨obj, hobj, a, ha, rfl⟩ := hc
      have hav := (assignments_mem vars a).1 ha
      obtain ⟨h1, h2, h3⟩ := hobjs obj hobj
      have hR := cohIn_at hC h3
      have hsub := subCoh_of_nest hR.nest
      obtain ⟨L, hL⟩ := HF f ⟨obj, a⟩ ss ss vars (by omega) h1
        (fun s hs => ⟨hsel obj.name h3 s hs, hfit s hs⟩) hbvs hsub hbv hav (fun _ h => h)
      simp only [branchOf, bind, Except.bind, hL]
      obtain ⟨Lp, rfl, hgood, _⟩ := (impl_rel c mfuel E.nodup f).2 ⟨obj, a⟩ ss L hL h1 hsub
      have hK : NestLe c K (Sb1 ss) := nestLe_mono c hDK (nestLe_of_fits c D _ (by
        intro s hs x hx
        simp only [Sb1] at hs; subst hs
        exact fitsS_fits D x (hfit x hx)))
      have HM := mergeTrees_rel c mfuel
      have MP := mergeTrees_ok c mfuel
      obtain ⟨un, hun⟩ := class_ok (tag := false) (Lc := Lp.filter fun p => !p.tag) HM MP E.depth E.fuel
        (fun q => by simp [List.mem_filter]) hgood hR hK
      obtain ⟨al, hal⟩ := class_ok (tag := true) (Lc := Lp.filter fun p => p.tag) HM MP E.depth E.fuel
        (fun q => by simp [List.mem_filter]) hgood hR hK
      have e1 := class_fields Lp (fun b => !b)
      have e2 := class_fields Lp (fun b => b)
      simp only [deepMerge, e1, e2, hun, hal]
      exact ⟨_, rfl⟩

theorem fragmentApplies_ok {S : Schema} {obj : TypeDef} {cond : Name} (h : (S.typeDef? cond).isSome = true) :
    ∃ b, fragmentApplies S obj cond = .ok b := by
  unfold fragmentApplies
  cases hc : S.typeDef? cond with
  | none => rw [hc] at h; cases h
  | some t =>
    simp only
    cases hk : t.kind <;> exact ⟨_, rfl⟩

theorem dirsOk_if {ds : List Directive} (h : dirsOkB ds = true) :
    ∀ d ∈ ds, (d.name == "skip" || d.name == "include") = true → (ifArg d).isSome = true := by
  intro d hd hsi
  have := List.all_eq_true.1 h d hd
  simpa [hsi] using this

section
variable {c : Ctx} {mfuel : Nat} {BV : List Selection → Prop} (HB : BVClosed c.F mfuel BV)
include HB

omit HB in
theorem ffp_zero (c : Ctx) (mfuel : Nat) (BV : List Selection → Prop) : FFP c mfuel BV 0 := by
  intro fuel cnd ss ss0 bv hfuel hcnd hsel _ _ _ _ _
  have : ss = [] := by
    cases ss with
    | nil => rfl
    | cons x xs => have := (hsel x (by simp)).1; simp [selOkB] at this
  subst this
  cases fuel with
  | zero => omega
  | succ f =>
    rw [fieldsFor_succ]
    simp [hcnd, bind, Except.bind, pure, Except.pure]

theorem ffp_succ {D : Nat} (HF : FFP c mfuel BV D) (HI : IP c mfuel BV D) : FFP c mfuel BV (D + 1) := by
  intro fuel cnd ss ss0 bv hfuel hcnd hsel hbvs hcoh hbv hvars hreach
  cases fuel with
  | zero => omega
  | succ f =>
    have cs_ok : ∀ ds, RD c.F [] ss0 ds → dirsOkB ds = true → ∃ b, checkSkip cnd.vars ds = .ok b := fun ds hrd hok =>
      checkSkip_ok cnd.vars ds (ifOk_of_boolVars hbv hvars hrd (dirsOk_if hok))
    have hfieldq : ∀ name, c.S.field? cnd.obj.name name = cnd.obj.fields.find? (·.name == name) := by
      intro name; simp [Schema.field?, Schema.fieldsOf, hcnd]
    rw [fieldsFor_succ]
    simp only [hcnd, bind, Except.bind]
    have hsimple : ∃ simple, ss.filterMapM (simpleOf cnd.obj cnd.vars
        (fun ty sub => implTree c.S c.F mfuel f ty sub)) = .ok simple := by
      apply filterMapM_ok
      intro s hs
      obtain ⟨hok, hfit⟩ := hsel s hs
      cases s with
      | field alias name np args dirs sub =>
        rw [simpleOf_field]
        simp only [selOkB, Bool.and_eq_true] at hok
        obtain ⟨hdirs, hfield⟩ := hok
        obtain ⟨sk, hsk⟩ := cs_ok dirs (hreach _ (rd_of_mem hs)) hdirs
        simp only [hsk, bind, Except.bind]
        have hft : ∃ fld, fieldTree cnd.obj (keyOf alias name) name sk sub
            (fun ty sub => implTree c.S c.F mfuel f ty sub) = .ok fld := by
          unfold fieldTree
          cases sk with
          | true => exact ⟨_, rfl⟩
          | false =>
            simp only [Bool.false_eq_true, ↓reduceIte]
            by_cases htn : (name == "__typename") = true
            · simp only [htn, ↓reduceIte]; exact ⟨_, rfl⟩
            · simp only [htn, Bool.false_eq_true, ↓reduceIte]
              simp only [htn, Bool.false_or] at hfield
              cases hfd : c.S.field? cnd.obj.name name with
              | none => simp [hfd] at hfield
              | some fd =>
                simp only [hfd] at hfield
                have hdf : directField? cnd.obj name = some fd.ty := by
                  unfold directField?
                  rw [← hfieldq, hfd]
                simp only [hdf]
                cases sub with
                | none => exact ⟨_, rfl⟩
                | some ss' =>
                  simp only [Bool.and_eq_true, List.all_eq_true] at hfield
                  simp only [fitsS] at hfit
                  obtain ⟨T, hT⟩ := HI f fd.ty ss' (by omega) hfield.1 (fun o ho s' hs' => hfield.2 o ho s' hs')
                    (fun s' hs' => List.all_eq_true.1 hfit s' hs') (HB.field hbvs hs)
                    (hcoh ⟨keyOf alias name, isAliased alias name, name, some ss'⟩ fd ss'
                      (inFlat_of_mem hs (.field rfl)) rfl hfd)
                  simp only [hT, bind, Except.bind]
                  exact ⟨_, rfl⟩
        obtain ⟨fld, hfld⟩ := hft
        simp only [hfld]
        exact ⟨_, rfl⟩
      | spread n np ds p => exact ⟨none, rfl⟩
      | inline cond ds sub p => exact ⟨none, rfl⟩
    have core : ∀ (s : Selection) (sub : List Selection) (dirs : List Directive), s ∈ ss →
        dirs = Selection.dirs s → dirsOkB dirs = true →
        (∀ x ∈ sub, selOkB c.S c.F D cnd.obj.name x = true) → (∀ x ∈ sub, fitsS c.F D x = true) →
        BV sub →
        (∀ t, InFlat c.S c.F cnd.obj.name allInc [] sub t → InFlat c.S c.F cnd.obj.name allInc [] [s] t) →
        (∀ d, RD c.F [] sub d → RD c.F [] [s] d) →
        ∃ l, (do
          let fs ← fieldsFor c.S c.F mfuel f cnd sub
          if ← checkSkip cnd.vars dirs then (.ok (toEmpty fs) : Except Panic (List Tagged)) else .ok fs) = .ok l := by
      intro s sub dirs hs hdirs hdok hsok hsfit hsz hemb hrd
      obtain ⟨fs, hfs⟩ := HF f cnd sub ss0 bv (by omega) hcnd (fun x hx => ⟨hsok x hx, hsfit x hx⟩) hsz
        (fun t fd s' ht => hcoh t fd s' (inFlat_of_mem hs (hemb t ht))) hbv hvars
        (fun d hd => hreach d (rd_into hs (hrd d hd)))
      obtain ⟨sk, hsk⟩ := cs_ok dirs (hreach _ (hdirs ▸ rd_of_mem hs)) hdok
      simp only [hfs, hsk, bind, Except.bind]
      cases sk <;> exact ⟨_, rfl⟩
    have hfrags : ∃ frags, ss.mapM (fragOf c.S c.F cnd (fun sub => fieldsFor c.S c.F mfuel f cnd sub)) = .ok frags := by
      apply mapM_ok
      intro s hs
      obtain ⟨hok, hfit⟩ := hsel s hs
      cases s with
      | field alias name np args dirs sub => exact ⟨[], rfl⟩
      | spread n np dirs p =>
        simp only [selOkB, Bool.and_eq_true] at hok
        obtain ⟨hdirs, hrest⟩ := hok
        simp only [fragOf]
        cases hF : c.F n with
        | none => simp [hF] at hrest
        | some fd =>
          simp only [hF, Bool.and_eq_true, Bool.or_eq_true, Bool.not_eq_true', List.all_eq_true] at hrest
          obtain ⟨hdef, happ⟩ := hrest
          obtain ⟨b, hb⟩ := fragmentApplies_ok (S := c.S) (obj := cnd.obj) hdef
          have hbs := fragmentApplies_spec c.S cnd.obj fd.cond b hcnd hb
          simp only [hb, bind, Except.bind]
          cases b with
          | false => exact ⟨[], rfl⟩
          | true =>
            simp only [↓reduceIte]
            simp only [fitsS, hF] at hfit
            refine core _ fd.sel dirs hs rfl hdirs ?_ (fun x hx => List.all_eq_true.1 hfit x hx)
              (HB.spread hbvs hs hF) ?_ ?_
            · rcases happ with h | h
              · rw [← hbs] at h; cases h
              · exact h
            · intro t ht; exact .spread rfl (by simp) hF hbs.symm ht
            · intro d hd; exact .spread (by simp) hF hd
      | inline cond dirs sub p =>
        simp only [selOkB, Bool.and_eq_true, Bool.or_eq_true, Bool.not_eq_true', List.all_eq_true] at hok
        obtain ⟨⟨hdirs, hdef⟩, happ⟩ := hok
        simp only [fitsS] at hfit
        have hfit' : ∀ x ∈ sub, fitsS c.F D x = true := fun x hx => List.all_eq_true.1 hfit x hx
        have hsz : BV sub := HB.inline hbvs hs
        cases cond with
        | none =>
          simp only [fragOf]
          refine core _ sub dirs hs rfl hdirs ?_ hfit' hsz ?_ ?_
          · rcases happ with h | h
            · simp [condApplies] at h
            · exact h
          · intro t ht; exact .inline rfl rfl ht
          · intro d hd; exact .inline hd
        | some tc =>
          obtain ⟨tcn, tcp⟩ := tc
          simp only at hdef
          obtain ⟨b, hb⟩ := fragmentApplies_ok (S := c.S) (obj := cnd.obj) hdef
          have hbs := fragmentApplies_spec c.S cnd.obj tcn b hcnd hb
          simp only [fragOf, hb, bind, Except.bind]
          cases b with
          | false => exact ⟨[], rfl⟩
          | true =>
            simp only [↓reduceIte]
            refine core _ sub dirs hs rfl hdirs ?_ hfit' hsz ?_ ?_
            · rcases happ with h | h
              · simp [condApplies, ← hbs] at h
              · exact h
            · intro t ht; exact .inline rfl (by simp [condApplies, ← hbs]) ht
            · intro d hd; exact .inline hd
    obtain ⟨simple, h1⟩ := hsimple
    obtain ⟨frags, h2⟩ := hfrags
    simp only [h1, h2]
    exact ⟨_, rfl⟩

theorem ffp_all {G K : Nat} (E : NPEnv c mfuel G K) : ∀ D, D ≤ K → FFP c mfuel BV D
  | 0, _ => ffp_zero c mfuel BV
  | D + 1, h => by
    have hF := ffp_all E D (by omega)
    exact ffp_succ HB hF (ip_of_ffp HB E (by omega) hF)

theorem implTree_ok_bv {G K D : Nat} (E : NPEnv c mfuel G K) (hDK : D ≤ K) {fuel : Nat} {ty : GType}
    {ss : List Selection} (hfuel : 2 * D + 2 ≤ fuel) (hpar : parentsOkB c.S ty.unwrapped = true)
    (hsel : ∀ o ∈ c.S.possibleTypes ty.unwrapped, ∀ s ∈ ss, selOkB c.S c.F D o s = true)
    (hfit : ∀ s ∈ ss, fitsS c.F D s = true) (hbvs : BV ss)
    (hC : ∀ d, Coh c d (Sb1 ss) ty.unwrapped) : ∃ T, implTree c.S c.F mfuel fuel ty ss = .ok T :=
  ip_of_ffp HB E hDK (ffp_all HB E D hDK) fuel ty ss hfuel hpar hsel hfit hbvs hC

end

theorem implTree_ok {c : Ctx} {mfuel G K D : Nat} (E : NPEnv c mfuel G K) (hDK : D ≤ K) {fuel : Nat} {ty : GType}
    {ss : List Selection} (hfuel : 2 * D + 2 ≤ fuel) (hpar : parentsOkB c.S ty.unwrapped = true)
    (hsel : ∀ o ∈ c.S.possibleTypes ty.unwrapped, ∀ s ∈ ss, selOkB c.S c.F D o s = true)
    (hfit : ∀ s ∈ ss, fitsS c.F D s = true) (hesz : eszL c.F D ss ≤ mfuel)
    (hC : ∀ d, Coh c d (Sb1 ss) ty.unwrapped) : ∃ T, implTree c.S c.F mfuel fuel ty ss = .ok T :=
  implTree_ok_bv (bvClosed_esz c.F mfuel) E hDK hfuel hpar hsel hfit ⟨D, hfit, hesz⟩ hC

/-- a decidable sufficient check for `FieldDepthLe` -/
def fieldDepthB (S : Schema) (G : Nat) : Bool :=
  S.typeDefs.all fun t => t.fields.all fun f => gdepth f.ty ≤ G

theorem fieldDepth_of_check {c : Ctx} {G : Nat} (h : fieldDepthB c.S G = true) : FieldDepthLe c G := by
  intro o f fd hfd
  unfold Schema.field? Schema.fieldsOf at hfd
  cases ht : c.S.typeDef? o with
  | none => simp [ht] at hfd
  | some t =>
    simp only [ht] at hfd
    have h1 := List.all_eq_true.1 h t (Schema.typeDef?_mem ht)
    have h2 := List.all_eq_true.1 h1 fd (List.mem_of_find?_eq_some hfd)
    simpa using h2

end NitroVerif.OpTypes.Ref
