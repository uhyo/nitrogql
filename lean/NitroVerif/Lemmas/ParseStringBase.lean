/-
The string-literal sub-language, what every reading of a literal uses (helper lemmas for Props/C07): the rule bodies of the
GENERATED grammar, the seven simple escapes as the reference writer and `build_string_value` read them (`escTable`), and the
alternatives of `StringCharacter` that fail on a given first character.
-/
import NitroVerif.Lemmas.ParseLex
import NitroVerif.Lemmas.ParseText
import NitroVerif.Spec.Lex
namespace NitroVerif.StringParse
open NitroVerif.Peg NitroVerif.Gen NitroVerif.Gen.Parts NitroVerif.Build NitroVerif.Spec.Lex NitroVerif.TypeParse
open NitroVerif.ParseText NitroVerif.ValueParse

theorem look_StringValue : gList.look R.StringValue = some (.compound,
    .choice (.call R.EmptyStringValue) (.choice (.call R.NormalStringValue) (.call R.BlockStringValue))) := rfl
theorem look_EmptyStringValue : gList.look R.EmptyStringValue =
    some (.atomic, .seq (.str ['"', '"']) (.not (.str ['"']))) := rfl
theorem look_NormalStringValue : gList.look R.NormalStringValue =
    some (.compound, .seq (.str ['"']) (.seq (.plus (.call R.StringCharacter)) (.str ['"']))) := rfl
theorem look_StringCharacter : gList.look R.StringCharacter = some (.compound,
    .choice (.call R.EscapedUnicodeBrace) (.choice (.call R.EscapedUnicode4)
      (.choice (.call R.EscapedCharacter) (.call R.NormalStringCharacter)))) := rfl

theorem ite_some_cases {α : Type} {p : Prop} [Decidable p] {a e : α} {x : Option α}
    (h : (if p then some a else x) = some e) : (p ∧ a = e) ∨ x = some e := by
  by_cases hp : p
  · rw [if_pos hp] at h; exact Or.inl ⟨hp, Option.some.inj h⟩
  · rw [if_neg hp] at h; exact Or.inr h

/-- the seven characters that have a two-character escape, each with its escape letter -/
def escTable : List (Char × Char) :=
  [('"', '"'), ('\\', '\\'), (Char.ofNat 8, 'b'), (Char.ofNat 12, 'f'), ('\n', 'n'), ('\r', 'r'), ('\t', 't')]

theorem simpleEscape_some {c e : Char} (h : simpleEscape? c = some e) : (c, e) ∈ escTable := by
  unfold simpleEscape? at h
  iterate 7
    replace h := ite_some_cases h
    rcases h with ⟨rfl, rfl⟩ | h
    · decide
  cases h

theorem escTable_letters : ∀ p ∈ escTable,
    [p.2] ∈ [['"'], ['\\'], ['/'], ['b'], ['f'], ['n'], ['r'], ['t']] ∧ p.2 ≠ 'u' := by decide

theorem escTable_decodes : ∀ p ∈ escTable, escapedChar ['\\', p.2] = .ok p.1 := by
  intro p hp
  simp only [escTable, List.mem_cons, List.not_mem_nil, or_false] at hp
  rcases hp with rfl | rfl | rfl | rfl | rfl | rfl | rfl <;> rfl

theorem simpleEscape_cases {c e : Char} (h : simpleEscape? c = some e) :
    [e] ∈ [['"'], ['\\'], ['/'], ['b'], ['f'], ['n'], ['r'], ['t']] ∧ e ≠ 'u' :=
  escTable_letters _ (simpleEscape_some h)

theorem escapedChar_simple {c e : Char} (h : simpleEscape? c = some e) : escapedChar ['\\', e] = .ok c :=
  escTable_decodes _ (simpleEscape_some h)

theorem plain_char {c : Char} (h : simpleEscape? c = none) : c ≠ '"' ∧ c ≠ '\\' ∧ c ≠ '\n' ∧ c ≠ '\r' := by
  unfold simpleEscape? at h
  refine ⟨?_, ?_, ?_, ?_⟩ <;> (rintro rfl; simp at h)

theorem brace_fails {p : Nat} {rest : List Char} {at_ : Atomicity} (h : matchStr ['\\', 'u'] rest = none) :
    FailsRule gList 3 R.EscapedUnicodeBrace at_ ⟨p, rest⟩ :=
  failsRule_compound look_EscapedUnicodeBrace (fails_seq_first (fails_str (c := ⟨p, rest⟩) h))

theorem u4_fails {p : Nat} {rest : List Char} {at_ : Atomicity} (h : matchStr ['\\', 'u'] rest = none) :
    FailsRule gList 3 R.EscapedUnicode4 at_ ⟨p, rest⟩ :=
  failsRule_atomic look_EscapedUnicode4 (fails_seq_first (fails_str (c := ⟨p, rest⟩) h))

theorem esc_fails {p : Nat} {rest : List Char} {at_ : Atomicity} (h : matchStr ['\\'] rest = none) :
    FailsRule gList 3 R.EscapedCharacter at_ ⟨p, rest⟩ :=
  failsRule_atomic look_EscapedCharacter (fails_seq_first (fails_str (c := ⟨p, rest⟩) h))

theorem escAlts : strAlts (.choice (.str ['"']) (.choice (.str ['\\']) (.choice (.str ['/'])
      (.choice (.str ['b']) (.choice (.str ['f']) (.choice (.str ['n']) (.choice (.str ['r']) (.str ['t']))))))))
    = some [['"'], ['\\'], ['/'], ['b'], ['f'], ['n'], ['r'], ['t']] := rfl

/-- the lookahead of `NormalStringCharacter` (`"\"" | "\\" | NEWLINE`, run under negative lookahead) fails on a
    character that is none of `"`, `\`, LF, CR -/
theorem normalGuard_fails {p : Nat} {d : Char} {r : List Char} (h1 : d ≠ '"') (h2 : d ≠ '\\') (h3 : d ≠ '\n')
    (h4 : d ≠ '\r') :
    FailsL gList .neg 7 false (.choice (.str ['"']) (.choice (.str ['\\']) (.call R.NEWLINE))) .atomic ⟨p, d :: r⟩ := by
  have fs : ∀ (x : Char) (xs : List Char) (sk : Bool), x ≠ d →
      FailsL gList .neg 1 sk (.str (x :: xs)) .atomic ⟨p, d :: r⟩ := fun x xs sk hx =>
    failsL_str (c := ⟨p, d :: r⟩) (by simp [matchStr, hx])
  have hnl : FailsRuleL gList .neg 4 R.NEWLINE .atomic ⟨p, d :: r⟩ :=
    newlineL_fails (headNot_cons (fun h => h.elim h3 h4) _)
  exact failsL_choice ((fs '"' [] _ (Ne.symm h1)).mono (by omega))
    (failsL_choice ((fs '\\' [] _ (Ne.symm h2)).mono (by omega)) (failsL_call hnl))

theorem normalGuard_runs_quote {p : Nat} {r : List Char} :
    RunsL gList .neg 2 false (.choice (.str ['"']) (.choice (.str ['\\']) (.call R.NEWLINE))) .atomic ⟨p, '"' :: r⟩
      ⟨p + 1, r⟩ [] :=
  runsL_choice_l (runsL_str (c := ⟨p, '"' :: r⟩) (by simp [matchStr]))

theorem normal_fails_quote {p : Nat} {r : List Char} {at_ : Atomicity} :
    FailsRule gList 5 R.NormalStringCharacter at_ ⟨p, '"' :: r⟩ :=
  failsRule_atomic look_NormalStringCharacter (fails_seq_first (failsL_not (la := .none) normalGuard_runs_quote))

theorem sc_fails_quote {p : Nat} {r : List Char} {at_ : Atomicity} :
    FailsRule gList 10 R.StringCharacter at_ ⟨p, '"' :: r⟩ := by
  have hm : matchStr ['\\', 'u'] ('"' :: r) = none := by simp [matchStr]
  have hm' : matchStr ['\\'] ('"' :: r) = none := by simp [matchStr]
  exact (failsRule_compound look_StringCharacter (fails_choice' (fails_call (brace_fails hm))
    (fails_choice' (fails_call (u4_fails hm)) (fails_choice' (fails_call (esc_fails hm'))
      (fails_call normal_fails_quote))))).mono (by decide)

end NitroVerif.StringParse
