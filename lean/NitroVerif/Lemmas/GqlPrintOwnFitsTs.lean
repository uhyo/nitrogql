import NitroVerif.Lemmas.GqlPrintOwnFitsExec
import NitroVerif.Lemmas.GqlPrintOwnFlatTs
/-!
C16 over nitrogql's own parser: the printer's token lists of type-system documents fit the flat forms `cTsDoc`, which have the
leading separators the printer writes (`implements & A & B`, `= | A | B`, `on | A | B`).
-/
namespace NitroVerif.C16Own
open NitroVerif.Gql NitroVerif.GqlPrint NitroVerif.ValueParse NitroVerif.DocParse NitroVerif.TypeParse NitroVerif.StringParse

variable {B : List Tok} {b d : Bool} {cs : List (List Char × Bool)}

/-! ### descriptions, input values, argument definitions -/

/-- a description stands at the beginning of a definition, where nothing is demanded -/
theorem fitsD_desc (x : Option String) : FitsD false (cOptDesc x ++ cs) (printDesc x ++ B) ↔ FitsD false cs B := by
  cases x <;> simp only [fitw, printDesc, cOptDesc]

theorem printInputValueDef_eq (v : InputValueDef) :
    printInputValueDef v = printDesc v.desc ++ [.name v.name, .p ":", sp] ++ printType v.ty ++ pDefault v.default ++
      printDirs v.dirs := by
  unfold printInputValueDef; cases v.default <;> rfl

theorem fitsD_ivd (v : InputValueDef) (hwf : WFIVD v) (sep : Bool) :
    FitsD false (cIVD sep v ++ cs) (printInputValueDef v ++ B) ↔ FitsD sep cs B := by
  obtain ⟨hn, ht, hd, hdirs⟩ := hwf
  simp only [fitw, printInputValueDef_eq, cIVD, fitsD_desc, good_of_validName hn, fitsD_type _ ht, fitsD_optDefault _ hd,
    fitsD_dirs _ hdirs]

theorem fitsD_argDefsTail : ∀ (vs : List InputValueDef), (∀ v ∈ vs, WFIVD v) → ∀ (d : Bool) (B : List Tok)
    (cs : List (List Char × Bool)),
    (FitsD d (cList cIVD true false vs ++ cs) (printArgDefsSep vs false ++ B) ↔ FitsD (vs.isEmpty && d) cs B)
  | [], _ => fun d B cs => by simp only [fitw, printArgDefsSep, cList]
  | v :: vs, hwf => fun d B cs => by
    simp only [fitw, printArgDefsSep, cList, fitsD_ivd v (hwf v (List.mem_cons_self ..)),
      fitsD_argDefsTail vs (fun x hx => hwf x (List.mem_cons_of_mem _ hx))]

theorem fitsD_optArgsDef (vs : List InputValueDef) (hwf : ∀ v ∈ vs, WFIVD v) (sep : Bool) :
    FitsD d (cOptArgsDef sep vs ++ cs) (printArgDefs vs ++ B) ↔
      ((vs.isEmpty || !d) = true ∧ FitsD (if vs.isEmpty then d else sep) cs B) := by
  cases vs with
  | nil => simp only [fitw, printArgDefs, cOptArgsDef]
  | cons v vs =>
    simp only [fitw, printArgDefs, printArgDefsSep, cOptArgsDef, cBraced, cList,
      fitsD_ivd v (hwf v (List.mem_cons_self ..)), fitsD_argDefsTail vs (fun x hx => hwf x (List.mem_cons_of_mem _ hx))]

/-! ### lines of definitions, bracketed bodies -/

section Lines
variable {α : Type} (ci : Bool → α → List (List Char × Bool)) (pr : α → List Tok) (plines : List α → List Tok)

theorem fitsD_lines (hnil : plines [] = []) (hcons : ∀ x xs, plines (x :: xs) = pr x ++ [nl] ++ plines xs)
    (sm sl : Bool) : ∀ (xs : List α),
    (∀ x ∈ xs, ∀ (sep : Bool) {B : List Tok} {cs : List (List Char × Bool)},
      (FitsD false (ci sep x ++ cs) (pr x ++ B) ↔ FitsD sep cs B)) →
    ∀ (B : List Tok) (cs : List (List Char × Bool)),
      (FitsD false (cList ci sm sl xs ++ cs) (plines xs ++ B) ↔ FitsD false cs B)
  | [], _ => fun B cs => by simp only [fitw, hnil, cList]
  | x :: xs, h => fun B cs => by
    simp only [fitw, hcons, cList, h x (List.mem_cons_self ..),
      fitsD_lines hnil hcons sm sl xs fun y hy => h y (List.mem_cons_of_mem _ hy)]

/-- `c`: the flat form of the optional body -/
theorem fitsD_braced (hnil : plines [] = []) (hcons : ∀ x xs, plines (x :: xs) = pr x ++ [nl] ++ plines xs)
    (xs : List α) (c : Bool → List α → List (List Char × Bool)) (hc0 : ∀ s, c s [] = [])
    (hc : ∀ s x xs, c s (x :: xs) = cBraced ci true '{' '}' s (x :: xs))
    (h : ∀ x ∈ xs, ∀ (sep : Bool) {B : List Tok} {cs : List (List Char × Bool)},
      (FitsD false (ci sep x ++ cs) (pr x ++ B) ↔ FitsD sep cs B))
    (sep : Bool) :
    FitsD d (c sep xs ++ cs) (braced (plines xs) xs.isEmpty ++ B) ↔ FitsD (if xs.isEmpty then d else sep) cs B := by
  cases xs with
  | nil => simp only [fitw, braced, hc0]
  | cons x xs => simp only [fitw, braced, hc, cBraced, fitsD_lines ci pr plines hnil hcons true false (x :: xs) h]

end Lines

/-! ### field definitions, enum values -/

theorem fitsD_fieldDef (f : FieldDef) (hwf : WFFieldDef f) (sep : Bool) :
    FitsD false (cFieldDef sep f ++ cs) (printFieldDef f ++ B) ↔ FitsD sep cs B := by
  obtain ⟨hn, ha, ht, hd⟩ := hwf
  simp only [fitw, printFieldDef, cFieldDef, fitsD_desc, good_of_validName hn, fitsD_optArgsDef _ ha,
    fitsD_type _ ht, fitsD_dirs _ hd]

theorem fitsD_optFields (fs : List FieldDef) (hwf : ∀ f ∈ fs, WFFieldDef f) (sep : Bool) :
    FitsD d (cOptFields sep fs ++ cs) (braced (printFieldLinesTs fs) fs.isEmpty ++ B) ↔
      FitsD (if fs.isEmpty then d else sep) cs B :=
  fitsD_braced cFieldDef printFieldDef printFieldLinesTs rfl (fun _ _ => rfl) fs cOptFields (fun _ => rfl)
    (fun _ _ _ => rfl) (fun f hf sep => fitsD_fieldDef f (hwf f hf) sep) sep

theorem fitsD_enumVal (v : EnumValueDef) (hwf : WFEnumVal v) (sep : Bool) :
    FitsD false (cEnumVal sep v ++ cs) (printEnumValueDef v ++ B) ↔ FitsD sep cs B := by
  simp only [fitw, printEnumValueDef, cEnumVal, fitsD_desc, good_of_validName hwf.1, fitsD_dirs _ hwf.2.2.2.2]

theorem fitsD_optEnumVals (vs : List EnumValueDef) (hwf : ∀ v ∈ vs, WFEnumVal v) (sep : Bool) :
    FitsD d (cOptEnumVals sep vs ++ cs) (braced (printEnumValueLines vs) vs.isEmpty ++ B) ↔
      FitsD (if vs.isEmpty then d else sep) cs B :=
  fitsD_braced cEnumVal printEnumValueDef printEnumValueLines rfl (fun _ _ => rfl) vs cOptEnumVals (fun _ => rfl)
    (fun _ _ _ => rfl) (fun v hv sep => fitsD_enumVal v (hwf v hv) sep) sep

theorem fitsD_optInputs (vs : List InputValueDef) (hwf : ∀ v ∈ vs, WFIVD v) (sep : Bool) :
    FitsD d (cOptInputs sep vs ++ cs) (braced (printInputLines vs) vs.isEmpty ++ B) ↔
      FitsD (if vs.isEmpty then d else sep) cs B :=
  fitsD_braced cIVD printInputValueDef printInputLines rfl (fun _ _ => rfl) vs cOptInputs (fun _ => rfl)
    (fun _ _ _ => rfl) (fun v hv sep => fitsD_ivd v (hwf v hv) sep) sep

/-! ### lists of names: `implements & A & B`, `= | A | B`, `on | A | B` -/

theorem fitsD_sepNames (c : Char) (hg : goodStr [c] = true) : ∀ (ns : List (Name × Pos)),
    (∀ x ∈ ns, validName x.1.toList) → ∀ (d sep : Bool) (B : List Tok) (cs : List (List Char × Bool)),
    (FitsD d (cList (ciSepName c) false sep ns ++ cs)
        ((ns.flatMap fun x => [sp, .p (String.ofList [c]), sp, .name x.1]) ++ B) ↔
      FitsD (if ns.isEmpty then d else sep) cs B)
  | [], _ => fun d sep B cs => by simp only [fitw, List.flatMap_nil, cList]
  | n :: ns, hv => fun d sep B cs => by
    simp only [fitw, List.flatMap_cons, cList, ciSepName, fitsD_p [c] hg, good_of_validName (hv n (List.mem_cons_self ..)),
      fitsD_sepNames c hg ns (fun x hx => hv x (List.mem_cons_of_mem _ hx))]

theorem fitsD_namesLd (c : Char) (hg : goodStr [c] = true) (ns : List (Name × Pos))
    (hv : ∀ x ∈ ns, validName x.1.toList) (d sep : Bool) (B : List Tok) (cs : List (List Char × Bool)) :
    FitsD d (cNamesLd true c sep ns ++ cs) ((ns.flatMap fun x => [sp, .p (String.ofList [c]), sp, .name x.1]) ++ B) ↔
      FitsD (if ns.isEmpty then d else sep) cs B := by
  cases ns with
  | nil => simp only [fitw, List.flatMap_nil, cNamesLd]
  | cons n ns =>
    simp only [fitw, List.flatMap_cons, cNamesLd, cNames, fitsD_p [c] hg, good_of_validName (hv n (List.mem_cons_self ..)),
      fitsD_sepNames c hg ns (fun x hx => hv x (List.mem_cons_of_mem _ hx))]

@[fitw] theorem fitsD_implements :
    FitsD d ((kwImplements, b) :: cs) (.name "implements" :: B) ↔ (d = false ∧ FitsD b cs B) :=
  fitsD_kw kwImplements (by decide)
@[fitw] theorem fitsD_extend : FitsD d ((kwExtend, b) :: cs) (.name "extend" :: B) ↔ (d = false ∧ FitsD b cs B) :=
  fitsD_kw kwExtend (by decide)
@[fitw] theorem fitsD_schema : FitsD d ((kwSchema, b) :: cs) (.name "schema" :: B) ↔ (d = false ∧ FitsD b cs B) :=
  fitsD_kw kwSchema (by decide)
@[fitw] theorem fitsD_directive :
    FitsD d ((kwDirective, b) :: cs) (.name "directive" :: B) ↔ (d = false ∧ FitsD b cs B) :=
  fitsD_kw kwDirective (by decide)
@[fitw] theorem fitsD_repeatable :
    FitsD d ((kwRepeatable, b) :: cs) (.name "repeatable" :: B) ↔ (d = false ∧ FitsD b cs B) :=
  fitsD_kw kwRepeatable (by decide)

theorem fitsD_optImpl (ns : List (Name × Pos)) (hv : ∀ x ∈ ns, validName x.1.toList) (sep : Bool) :
    FitsD d (cOptImpl sep ns ++ cs) (printImplements ns ++ B) ↔ FitsD (if ns.isEmpty then d else sep) cs B := by
  cases ns with
  | nil => simp only [fitw, printImplements, cOptImpl]
  | cons n ns =>
    have := fitsD_namesLd '&' (by decide) (n :: ns) hv true sep B cs
    simp only [fitw] at this
    simp only [fitw, printImplements, cOptImpl, this]

/-! ### type definitions and extensions -/

theorem kindKw_eq (k : TypeKind) : (kindKeyword k).toList = kindKw k := by cases k <;> exact String.toList_ofList
theorem good_kindKeyword (k : TypeKind) : goodNm (kindKeyword k).toList = true := by rw [kindKw_eq]; cases k <;> decide

/-- the kind's own part of C07's side conditions `WFTypeDef` / `WFTypeExt`, as far as the printed form depends on it -/
def WFBody (t : TypeDef) : Prop :=
  match t.kind with
  | .scalar => True
  | .object | .interface => (∀ x ∈ t.implements, validName x.1.toList) ∧ (∀ f ∈ t.fields, WFFieldDef f)
  | .union => ∀ x ∈ t.members, validName x.1.toList
  | .enum => ∀ v ∈ t.values, WFEnumVal v
  | .input => ∀ v ∈ t.inputs, WFIVD v

theorem WFBody.of_def {t : TypeDef} (hwf : WFTypeDef t) : WFBody t := by
  obtain ⟨_, _, hk⟩ := hwf
  unfold WFBody
  cases hkind : t.kind <;> simp only [hkind] at hk ⊢
  · exact ⟨hk.1, hk.2.1⟩
  · exact ⟨hk.1, hk.2.1⟩
  · exact hk.2
  · exact hk
  · exact hk

theorem WFBody.of_ext {t : TypeDef} (hwf : WFTypeExt t) : WFBody t := by
  obtain ⟨_, _, hk⟩ := hwf
  unfold WFBody
  cases hkind : t.kind <;> simp only [hkind] at hk ⊢
  · exact ⟨hk.1, hk.2.1⟩
  · exact ⟨hk.1, hk.2.1⟩
  · exact hk.2
  · exact hk
  · exact hk

/-- what follows the name, for every kind: it begins with a gap (a blank or the line feed) and ends with the line feed, so any
    state may stand before it and `false` is left after it -/
theorem fitsD_typeBody (t : TypeDef) (ext : Bool) (hdirs : WFDirs t.dirs) (hk : WFBody t) (sep : Bool) :
    FitsD d (cTypeBody sep t ++ cs) (printTypeBody t ext ++ B) ↔ FitsD false cs B := by
  unfold WFBody at hk
  unfold cTypeBody printTypeBody
  cases hkind : t.kind <;> simp only [hkind] at hk ⊢
  · simp only [fitw, fitsD_dirs _ hdirs]
  · simp only [fitw, fitsD_optImpl _ hk.1, fitsD_dirs _ hdirs, fitsD_optFields _ hk.2]
  · simp only [fitw, fitsD_optImpl _ hk.1, fitsD_dirs _ hdirs, fitsD_optFields _ hk.2]
  · simp only [fitw, printMembers, fitsD_dirs _ hdirs, fitsD_namesLd '|' (by decide) _ hk]
  · simp only [fitw, fitsD_dirs _ hdirs, fitsD_optEnumVals _ hk]
  · simp only [fitw, fitsD_dirs _ hdirs, fitsD_optInputs _ hk]

theorem fitsD_typeDef (t : TypeDef) (hwf : WFTypeDef t) (sep : Bool) :
    FitsD false (cTypeDefAny sep t ++ cs) (printTypeDef t ++ B) ↔ FitsD false cs B := by
  simp only [fitw, printTypeDef, cTypeDefAny, cDefHead, fitsD_desc, ← kindKw_eq, good_kindKeyword,
    good_of_validName hwf.1, fitsD_typeBody t false hwf.2.1 (.of_def hwf)]

/-- a union extension is printed with `=` even when it has no members (`extend union U @d =`, open finding): the printer's
    output is a rendering only when there are members. The test is `C16.unionOK`; over the specification's grammar it is asked of
    definitions too (`itemUnionOK`), here of extensions only (`itemOK`): nitrogql's own grammar reads `union U =` -/
def extOK (t : TypeDef) : Bool := t.kind != .union || !t.members.isEmpty

theorem fitsD_typeExt (t : TypeDef) (hwf : WFTypeExt t) (hu : extOK t = true) (sep : Bool) :
    FitsD false (cTypeExtAny sep t ++ cs) (printTypeExt t ++ B) ↔ FitsD false cs B := by
  have hne : ¬ (t.kind = .union ∧ t.members.isEmpty = true) := by
    rintro ⟨h1, h2⟩
    rw [extOK, h1, h2] at hu
    exact absurd hu (by decide)
  rw [cTypeExtAny, if_neg hne]
  simp only [fitw, printTypeExt, cExtHead, ← kindKw_eq, good_kindKeyword, good_of_validName hwf.1,
    fitsD_typeBody t true hwf.2.1 (.of_ext hwf)]

/-! ### schema definition / extension -/

theorem fitsD_roots : ∀ (rs : List (OpKind × Name × Pos)), (∀ x ∈ rs, validName x.2.1.toList) → ∀ (sm sl : Bool)
    (B : List Tok) (cs : List (List Char × Bool)),
    (FitsD false (cList cRoot sm sl rs ++ cs) (printRoots rs ++ B) ↔ FitsD false cs B)
  | [], _ => fun sm sl B cs => by simp only [fitw, printRoots, cList]
  | (k, n, np) :: rs, hv => fun sm sl B cs => by
    have hk : goodNm k.asStr.toList = true := by rw [opKw_eq]; cases k <;> decide
    simp only [fitw, printRoots, cList, cRoot, ← opKw_eq, hk, good_of_validName (hv (k, n, np) (List.mem_cons_self ..)),
      fitsD_roots rs (fun x hx => hv x (List.mem_cons_of_mem _ hx))]

theorem fitsD_schemaDef (s : SchemaDef) (hwf : WFSchemaDef s) (sep : Bool) :
    FitsD false (cSchemaDef sep s ++ cs) (printSchemaDef s ++ B) ↔ FitsD false cs B := by
  obtain ⟨hdirs, _, hv⟩ := hwf
  simp only [fitw, printSchemaDef, cSchemaDef, cRoots, cBraced, fitsD_desc, fitsD_dirsTight _ hdirs, fitsD_roots _ hv,
    ite_self]

theorem fitsD_schemaExt (s : SchemaDef) (hwf : WFSchemaExt s) (sep : Bool) :
    FitsD false (cSchemaExt sep s ++ cs) (printSchemaExt s ++ B) ↔ FitsD false cs B := by
  obtain ⟨hdirs, _, hv⟩ := hwf
  cases hr : s.roots with
  | nil => simp only [fitw, printSchemaExt, cSchemaExt, cOptRoots, hr, fitsD_dirsTight _ hdirs]
  | cons a r =>
    simp only [fitw, printSchemaExt, cSchemaExt, cOptRoots, cRoots, cBraced, hr, fitsD_dirsTight _ hdirs,
      fitsD_roots (a :: r) (hr ▸ hv), ite_self]

/-! ### directive definitions -/

/-- C07's `TypeParse.validName` (a `Prop`, the one the rules above ask for) as a Boolean test, for the witnesses of
    `Props/C16Own.lean`; the lexer side has its own over the specification's character classes, `C16.validName` -/
def validNameB : List Char → Bool
  | [] => false
  | d :: ds => decide (nameStart d) && ds.all fun x => decide (nameCont x)

theorem validName_of_B {w : List Char} (h : validNameB w = true) : validName w := by
  cases w with
  | nil => cases h
  | cons d ds =>
    simp only [validNameB, Bool.and_eq_true, decide_eq_true_eq, List.all_eq_true] at h
    exact ⟨h.1, h.2⟩

theorem validName_of_locWord {w : List Char} (h : w ∈ locWords) : validName w := by
  have hall : locWords.all validNameB = true := by
    unfold locWords execWords tsWords
    repeat rw [String.toList_ofList]
    decide +kernel
  exact validName_of_B (List.all_eq_true.mp hall w h)

theorem fitsD_directiveDef (x : DirectiveDef) (hwf : WFDirectiveDef x) (sep : Bool) :
    FitsD false (cDirectiveDef sep x ++ cs) (printDirectiveDef x ++ B) ↔ FitsD false cs B := by
  obtain ⟨hn, hargs, _, hloc⟩ := hwf
  have hl : ∀ y ∈ locNames x, validName y.1.toList := by
    intro y hy
    simp only [locNames, List.mem_map] at hy
    obtain ⟨l, hl, rfl⟩ := hy
    exact validName_of_locWord (hloc l hl)
  have hnames := fitsD_namesLd '|' (by decide) (locNames x) hl
  simp only [locNames, List.flatMap_map, List.isEmpty_map] at hnames
  cases hr : x.repeatable <;>
    simp only [fitw, printDirectiveDef, printLocations, cDirectiveDef, cOptRep, hr, fitsD_desc, good_of_validName hn,
      fitsD_optArgsDef _ hargs, locNames, hnames]

/-! ### items and documents -/

/-- the item is one whose printed form the grammar can read back (only union extensions without members are not) -/
def itemOK : TsItem → Bool
  | .typeExt t => extOK t
  | _ => true

theorem fitsD_tsItem (it : TsItem) (hwf : WFTsItem it) (hok : itemOK it = true) (sep : Bool) :
    FitsD false (cTsItem sep it ++ cs) (printTsItem it ++ B) ↔ FitsD false cs B := by
  cases it with
  | typeDef t => exact fitsD_typeDef t hwf sep
  | schemaDef s => exact fitsD_schemaDef s hwf sep
  | directiveDef x => exact fitsD_directiveDef x hwf sep
  | schemaExt s => exact fitsD_schemaExt s hwf sep
  | typeExt t => exact fitsD_typeExt t hwf hok sep

theorem fits_tsDoc (doc : List TsItem) (hwf : ∀ x ∈ doc, WFTsItem x) (hok : ∀ x ∈ doc, itemOK x = true) :
    Fits (cTsDoc doc) (printTsDoc doc) := by
  rw [fits_iff_fitsD]
  induction doc with
  | nil => simp only [fitw, cTsDoc, cList, printTsDoc]
  | cons x xs ih =>
    have ih := ih (fun y hy => hwf y (List.mem_cons_of_mem _ hy)) fun y hy => hok y (List.mem_cons_of_mem _ hy)
    simp only [cTsDoc] at ih
    simp only [cTsDoc, cList, printTsDoc,
      fitsD_tsItem x (hwf x (List.mem_cons_self ..)) (hok x (List.mem_cons_self ..)), ih]

/-- `TypeSystemOrExtensionDocument`: an extra line feed after every definition -/
theorem fits_tsExtDoc (doc : List TsItem) (hwf : ∀ x ∈ doc, WFTsItem x) (hok : ∀ x ∈ doc, itemOK x = true) :
    Fits (cTsDoc doc) (printTsExtDoc doc) := by
  rw [fits_iff_fitsD]
  induction doc with
  | nil => simp only [fitw, cTsDoc, cList, printTsExtDoc]
  | cons x xs ih =>
    have ih := ih (fun y hy => hwf y (List.mem_cons_of_mem _ hy)) fun y hy => hok y (List.mem_cons_of_mem _ hy)
    simp only [cTsDoc] at ih
    simp only [fitw, cTsDoc, cList, printTsExtDoc,
      fitsD_tsItem x (hwf x (List.mem_cons_self ..)) (hok x (List.mem_cons_self ..)), ih]

/-! ### what the printed form of some pieces begins with (the walk does not use them) -/

theorem gapNext_sepNames (cstr : String) (ns : List (Name × Pos)) (ts : List Tok) (h : ns ≠ []) :
    gapNext ((ns.flatMap fun x => [sp, .p cstr, sp, .name x.1]) ++ ts) = true := by
  cases ns with
  | nil => exact absurd rfl h
  | cons n rest => rfl

theorem gapNext_printImplements (ns : List (Name × Pos)) (ts : List Tok) (h : ns ≠ []) :
    gapNext (printImplements ns ++ ts) = true := by
  cases ns with
  | nil => exact absurd rfl h
  | cons n rest => rfl

theorem gapNext_dirs_nl (ds : List Directive) (ts : List Tok) : gapNext (printDirs ds ++ nl :: ts) = true := by
  cases ds with
  | nil => exact gapNext_lay '\n' []
  | cons x ds => exact gapNext_lay ' ' []

end NitroVerif.C16Own
