/-
The instance of C13 with the C20 path model: `resolve_relative_path(from_file, literal)` as a
left fold of `normalize_path`'s step over the literal's components, and the respellings that cannot be told apart.
-/
import NitroVerif.Model.Paths
namespace NitroVerif.Paths

theorem normalize_append (p : P) (c : Comp) : normalize (p ++ [c]) = normStep (normalize p) c := by
  simp [normalize, List.foldl_append]

/-- `PathBuf::push` followed by `normalize_path` = one step of `normalize_path` on the normalised base -/
theorem normalize_push (p : P) (c : Comp) : normalize (push p c) = normStep (normalize p) c := by
  cases c with
  | root => simp [push, normalize, normStep]
  | cur =>
    cases p with
    | nil => simp [push, normalize, normStep]
    | cons a r => simp [push, normStep]
  | parent => exact normalize_append p _
  | normal s => exact normalize_append p _

theorem normalize_pushPath (p rel : P) : normalize (pushPath p rel) = rel.foldl normStep (normalize p) := by
  induction rel generalizing p with
  | nil => rfl
  | cons c r ih =>
    simp only [pushPath, List.foldl_cons] at ih ⊢
    rw [ih, normalize_push]

/-- `resolve_relative_path(from_file, rel)`: the literal's components are applied, `normalize_path`-step by step, to
    the normalised directory of the importing file -/
theorem resolve_eq_foldl (doc rel : P) : resolve doc rel = rel.foldl normStep (normalize (pop (normalize doc))) := by
  unfold resolve
  exact normalize_pushPath _ _

/-- two component lists are respellings of one another: they move every directory stack to the same place -/
def SameTarget (a b : P) : Prop := ∀ s : P, a.foldl normStep s = b.foldl normStep s

theorem SameTarget.refl (a : P) : SameTarget a a := fun _ => rfl
theorem SameTarget.symm {a b : P} (h : SameTarget a b) : SameTarget b a := fun s => (h s).symm
theorem SameTarget.trans {a b c : P} (h1 : SameTarget a b) (h2 : SameTarget b c) : SameTarget a c :=
  fun s => (h1 s).trans (h2 s)

theorem SameTarget.append {a b c d : P} (h1 : SameTarget a b) (h2 : SameTarget c d) : SameTarget (a ++ c) (b ++ d) := by
  intro s; rw [List.foldl_append, List.foldl_append, h1 s, h2]

theorem sameTarget_cur (pre post : P) : SameTarget (pre ++ Comp.cur :: post) (pre ++ post) := by
  apply SameTarget.append (SameTarget.refl pre)
  intro s; simp [normStep]

theorem sameTarget_updown (pre post : P) (x : String) :
    SameTarget (pre ++ Comp.normal x :: Comp.parent :: post) (pre ++ post) := by
  apply SameTarget.append (SameTarget.refl pre)
  intro s; simp [normStep]

theorem resolve_sameTarget {a b : P} (h : SameTarget a b) (doc : P) : resolve doc a = resolve doc b := by
  rw [resolve_eq_foldl, resolve_eq_foldl, h]

/-- the components of a string literal: `rw` with this before evaluating, so that the kernel does not decode the literal -/
theorem components_ofList (l : List Char) : components (String.ofList l) = componentsL l := by
  rw [components, String.toList_ofList]

/-! ### the three paths of the example project of `Props/C12Composed.lean`

Evaluated once here: reading the components off a string literal is by far the most expensive step of evaluating the resolver
on that project, and every comparison of two paths would repeat it. -/

theorem components_main : components "/p/main.graphql" = [.root, .normal "p", .normal "main.graphql"] := by
  rw [components_ofList]
  decide +kernel

theorem components_x : components "/p/x.graphql" = [.root, .normal "p", .normal "x.graphql"] := by
  rw [components_ofList]
  decide +kernel

theorem components_y : components "/p/sub/y.graphql" = [.root, .normal "p", .normal "sub", .normal "y.graphql"] := by
  rw [components_ofList]
  decide +kernel

end NitroVerif.Paths
