/-
C15: the operation type printer model (`Model/OpTypes.lean`: `implTree`, `opDecls`) gives the same selection trees —
up to the source positions inside leaf types — on two document views that agree on the lookups and list the
implementers of every interface in the same order.
-/
import NitroVerif.Lemmas.RoutesOpTypesNorm
import NitroVerif.Lemmas.RoutesViews
import NitroVerif.Lemmas.OpTypesRefMain
namespace NitroVerif.Bridge
open NitroVerif NitroVerif.Gql NitroVerif.SchemaIR NitroVerif.AstSchema NitroVerif.OpTypes

/-- `Agree` + the implementers of every interface, in order -/
structure AgreeImpl (S₁ S₂ : Gql.Schema) : Prop extends Agree S₁ S₂ where
  impl : ∀ i, (implementers S₁ i).map tv = (implementers S₂ i).map tv

def normTagged (x : Tagged) : Tagged := (x.1, normField x.2)

/-- what is visible of a branching condition -/
def cv (c : Cond) : ITypeDef × List (Name × Bool) := (tv c.obj, c.vars)

variable {S₁ S₂ : Gql.Schema}

/-! ### parent objects, branching conditions -/

theorem parentObjects_found {S : Gql.Schema} {n : Name} {objs : List TypeDef} (h : parentObjects S n = .ok objs) :
    ∀ o ∈ objs, Found S o ∧ o.kind = .object := fun o ho =>
  have := (Ref.parentObjects_spec h).2.1 o ho
  ⟨⟨_, this.1⟩, this.2.1⟩

theorem parentObjects_rel (hA : AgreeImpl S₁ S₂) (hC : Closed S₁) {n : Name} (hn : isIntrospectionName n = false) :
    EqOn (List.map tv) (parentObjects S₁ n) (parentObjects S₂ n) := by
  unfold parentObjects
  rcases agree_name hA.toAgree hn with ⟨e1, e2⟩ | ⟨t₁, t₂, e1, e2, ht⟩
  · simp only [e1, e2]; rfl
  · simp only [e1, e2]
    have hk := tv_kind ht
    rw [← hk]
    cases hk1 : t₁.kind <;> simp only
    · rfl
    · exact eqOn_ok (by simp [ht])
    · rw [← tv_name ht]; exact eqOn_ok (hA.impl _)
    · refine eqOn_mapM (v := (·.1)) (tv_members ht hk1) (fun a ha b _ hab => ?_)
      have hab' : a.1 = b.1 := hab
      rw [← hab']
      obtain ⟨hni, _⟩ := hC.members _ _ e1 a ha
      rcases agree_name hA.toAgree hni with ⟨x1, x2⟩ | ⟨o₁, o₂, x1, x2, ho⟩
      · simp only [x1, x2]; rfl
      · simp only [x1, x2, ← tv_kind ho]
        split
        · exact eqOn_ok ho
        · rfl
    · rfl
    · rfl

theorem flatMap_cv (objs : List TypeDef) (as : List (List (Name × Bool))) :
    (objs.flatMap fun o => as.map fun a => (⟨o, a⟩ : Cond)).map cv
      = (objs.map tv).flatMap fun t => as.map fun a => (t, a) := by
  induction objs with
  | nil => rfl
  | cons o r ih => simp [ih, cv, List.map_map, Function.comp_def]

theorem branchConds_rel (hA : AgreeImpl S₁ S₂) (hC : Closed S₁) (F : Frags) (fuel : Nat) (ss : List Selection)
    {n : Name} (hn : isIntrospectionName n = false) :
    EqOn (List.map cv) (branchConds S₁ F fuel ss n) (branchConds S₂ F fuel ss n) := by
  unfold branchConds
  refine eqOn_bind (parentObjects_rel hA hC hn) (fun o₁ o₂ _ _ ho => ?_)
  exact eqOn_bind_same fun v _ => eqOn_ok (by rw [flatMap_cv, flatMap_cv, ho])

theorem branchConds_found {S : Gql.Schema} {F : Frags} {fuel : Nat} {ss : List Selection} {n : Name}
    {conds : List Cond} (h : branchConds S F fuel ss n = .ok conds) :
    ∀ c ∈ conds, Found S c.obj ∧ c.obj.kind = .object := by
  unfold branchConds at h
  cases ho : parentObjects S n with
  | error e => simp [ho, bind, Except.bind] at h
  | ok objs =>
    cases hv : boolVars F fuel ss with
    | error e => simp [ho, hv, bind, Except.bind] at h
    | ok vars =>
      simp only [ho, hv, bind, Except.bind, Except.ok.injEq] at h
      subst h
      intro c hc
      simp only [List.mem_flatMap, List.mem_map] at hc
      obtain ⟨o, hom, a, _, rfl⟩ := hc
      exact parentObjects_found ho o hom

theorem fragmentApplies_rel (hA : Agree S₁ S₂) {o₁ o₂ : TypeDef} (ho : tv o₁ = tv o₂) (hk : o₁.kind = .object)
    {cond : Name} (hn : isIntrospectionName cond = false) :
    fragmentApplies S₁ o₁ cond = fragmentApplies S₂ o₂ cond := by
  unfold fragmentApplies
  rcases agree_name hA hn with ⟨e1, e2⟩ | ⟨c₁, c₂, e1, e2, hc⟩
  · simp only [e1, e2]
  · simp only [e1, e2, ← tv_kind hc, ← tv_name hc, ← tv_name ho]
    cases hk1 : c₁.kind <;> simp only
    · have := implementsIface_congr ho (Or.inl hk) c₁.name
      simp only [CheckOp.implementsIface] at this
      rw [this]
    · rw [membersAny_congr hc hk1 (fun m => m == o₁.name)]

theorem directField?_rel {o₁ o₂ : TypeDef} (ho : tv o₁ = tv o₂) (hk : o₁.kind = .object) (name : Name) :
    (directField? o₁ name = none ∧ directField? o₂ name = none) ∨
    ∃ t₁ t₂, directField? o₁ name = some t₁ ∧ directField? o₂ name = some t₂ ∧ convType t₁ = convType t₂ ∧
      ((∃ f ∈ o₁.fields, f.ty = t₁) ∨ t₁.unwrapped = "String") := by
  unfold directField?
  rcases find_field_rel (tv_fields ho (Or.inl hk)) name with ⟨h1, h2⟩ | ⟨a, b, h1, h2, hab⟩
  · simp only [h1, h2]
    split
    · exact Or.inr ⟨_, _, rfl, rfl, rfl, Or.inr rfl⟩
    · exact Or.inl ⟨rfl, rfl⟩
  · simp only [h1, h2]
    exact Or.inr ⟨_, _, rfl, rfl, fv_ty hab, Or.inl ⟨a, List.mem_of_find?_eq_some h1, rfl⟩⟩

theorem fieldTree_rel (hC : Closed S₁) {o₁ o₂ : TypeDef} (ho : tv o₁ = tv o₂) (hk : o₁.kind = .object)
    (hf : Found S₁ o₁) (key name : Name) (skipped : Bool) (sub : Option (List Selection))
    {rec₁ rec₂ : GType → List Selection → Except Panic SelTree}
    (hrec : ∀ t₁ t₂, convType t₁ = convType t₂ → isIntrospectionName t₁.unwrapped = false → ∀ s, sub = some s →
      EqOn normTree (rec₁ t₁ s) (rec₂ t₂ s)) :
    EqOn normField (fieldTree o₁ key name skipped sub rec₁) (fieldTree o₂ key name skipped sub rec₂) := by
  unfold fieldTree
  split
  · rfl
  · split
    · rfl
    · rcases directField?_rel ho hk name with ⟨h1, h2⟩ | ⟨t₁, t₂, h1, h2, ht, hsrc⟩
      · simp only [h1, h2]; rfl
      · simp only [h1, h2]
        cases sub with
        | none => exact eqOn_ok (by simp [normField, erasePos_eq_of_convType ht])
        | some s =>
          have hni : isIntrospectionName t₁.unwrapped = false := by
            rcases hsrc with ⟨f, hfm, rfl⟩ | hs
            · obtain ⟨n, hn⟩ := hf
              exact (hC.fields n o₁ hn f hfm).1
            · rw [hs]; decide
          exact eqOn_bind (hrec t₁ t₂ ht hni s rfl) (fun x y _ _ hxy => eqOn_ok (by simp [normField, hxy]))

theorem wrapTree_rel {mk₁ mk₂ : Name → Except Panic (List Branch)} {p₁ p₂ : GType} (h : convType p₁ = convType p₂)
    (hm : EqOn (List.map normBranch) (mk₁ p₁.unwrapped) (mk₂ p₁.unwrapped)) :
    EqOn normTree (wrapTree mk₁ p₁) (wrapTree mk₂ p₂) := by
  induction p₁, p₂, h using convType_induction with
  | named n p q => exact eqOn_bind hm (fun x y _ _ hxy => eqOn_ok (by simp [hxy]))
  | list a b p q h ih => exact eqOn_bind (ih hm) (fun x y _ _ hxy => eqOn_ok (by simp [normTree, hxy]))
  | nonNull a b h ih => exact eqOn_bind (ih hm) (fun x y _ _ hxy => eqOn_ok (by simp [normTree, hxy]))

theorem toEmpty_norm (fs : List Tagged) : (toEmpty fs).map normTagged = toEmpty (fs.map normTagged) := by
  simp [toEmpty, normTagged, List.map_map, Function.comp_def, normField]

theorem toEmpty_norm' (fs : List Tagged) : toEmpty (fs.map normTagged) = toEmpty fs := by
  simp [toEmpty, normTagged, List.map_map, Function.comp_def]

theorem toEmpty_rel {fs₁ fs₂ : List Tagged} (h : fs₁.map normTagged = fs₂.map normTagged) :
    (toEmpty fs₁).map normTagged = (toEmpty fs₂).map normTagged := by
  rw [toEmpty_norm, toEmpty_norm, h]

theorem filter_snd_norm (p : Bool → Bool) (fs : List Tagged) :
    ((fs.filter (fun x => p x.1)).map (·.2)).map normField
      = ((fs.map normTagged).filter (fun x => p x.1)).map (·.2) := by
  induction fs with
  | nil => rfl
  | cons x r ih =>
    simp only [List.map_cons, List.filter_cons, normTagged]
    cases p x.1 <;> simp [ih]

/-! ### fragments of the document -/

theorem fragsOf_ok' {D : Doc} (hD : docOk D = true) {n : Name} {f : FragmentDef} (h : OpTypes.fragsOf D n = some f) :
    fragOk f = true :=
  fragsOf_ok hD (CheckOp.fragMap_eq_some (fragsOf_eq_fragMap D n ▸ h)).1

/-! ### the two mutually recursive functions, by induction on the fuel -/

theorem ok_bind' {ε α β : Type} (a : α) (k : α → Except ε β) : (Except.ok a >>= k) = k a := rfl

theorem selsOk_mem : ∀ {ss : List Selection}, selsOk ss = true → ∀ s ∈ ss, selOk s = true
  | [], _, s, hs => by cases hs
  | x :: r, h, s, hs => by
    simp only [selsOk, Bool.and_eq_true] at h
    rcases List.mem_cons.mp hs with rfl | hs'
    · exact h.1
    · exact selsOk_mem h.2 s hs'

/-- the fragments of the document are fine (see `docOk`) -/
def FragsOk (F : Frags) : Prop := ∀ n f, F n = some f → fragOk f = true

theorem implTree_fieldsFor_rel (hA : AgreeImpl S₁ S₂) (hC : Closed S₁) (F : Frags) (hF : FragsOk F) (mfuel : Nat) :
    ∀ fuel,
    (∀ (p₁ p₂ : GType) (ss : List Selection), convType p₁ = convType p₂ → isIntrospectionName p₁.unwrapped = false →
      selsOk ss = true → EqOn normTree (implTree S₁ F mfuel fuel p₁ ss) (implTree S₂ F mfuel fuel p₂ ss)) ∧
    (∀ (c₁ c₂ : Cond) (ss : List Selection), cv c₁ = cv c₂ → Found S₁ c₁.obj → c₁.obj.kind = .object →
      selsOk ss = true →
      EqOn (List.map normTagged) (fieldsFor S₁ F mfuel fuel c₁ ss) (fieldsFor S₂ F mfuel fuel c₂ ss)) := by
  intro fuel
  induction fuel with
  | zero => exact ⟨fun _ _ _ _ _ _ => rfl, fun _ _ _ _ _ _ _ => rfl⟩
  | succ fuel ih =>
    obtain ⟨ih1, ih2⟩ := ih
    refine ⟨fun p₁ p₂ ss hp hni hss => ?_, fun c₁ c₂ ss hc hf hk hss => ?_⟩
    · simp only [implTree]
      refine wrapTree_rel hp ?_
      refine eqOn_bind (branchConds_rel hA hC F mfuel ss hni) (fun cs₁ cs₂ hcs₁ _ hcs => ?_)
      refine eqOn_mapM (v := cv) hcs (fun c₁ hc₁ c₂ _ hc => ?_)
      obtain ⟨hf, hk⟩ := branchConds_found hcs₁ c₁ hc₁
      refine eqOn_bind (ih2 c₁ c₂ ss hc hf hk hss) (fun fs₁ fs₂ _ _ hfs => ?_)
      have hun := deepMerge_eqOn mfuel (fs₁ := (fs₁.filter (!·.1)).map (·.2)) (fs₂ := (fs₂.filter (!·.1)).map (·.2))
        (by rw [filter_snd_norm (fun b => !b), filter_snd_norm (fun b => !b), hfs])
      have hal := deepMerge_eqOn mfuel (fs₁ := (fs₁.filter (·.1)).map (·.2)) (fs₂ := (fs₂.filter (·.1)).map (·.2))
        (by rw [filter_snd_norm (fun b => b), filter_snd_norm (fun b => b), hfs])
      refine eqOn_bind hun (fun u₁ u₂ _ _ hu => ?_)
      refine eqOn_bind hal (fun a₁ a₂ _ _ ha => ?_)
      have hobj : tv c₁.obj = tv c₂.obj := congrArg Prod.fst hc
      have hvars : c₁.vars = c₂.vars := congrArg Prod.snd hc
      exact eqOn_ok (by simp [hu, ha, tv_name hobj, hvars])
    · have hobj : tv c₁.obj = tv c₂.obj := congrArg Prod.fst hc
      have hvars : c₁.vars = c₂.vars := congrArg Prod.snd hc
      obtain ⟨n, hn⟩ := hf
      have hname : c₁.obj.name = n := by simpa using List.find?_some hn
      have hni : isIntrospectionName c₁.obj.name = false := hname ▸ hC.typeNames n _ hn
      have hlook₁ : S₁.typeDef? c₁.obj.name = some c₁.obj := hname ▸ hn
      simp only [fieldsFor]
      rw [← tv_name hobj, ← hvars]
      rcases agree_name hA.toAgree hni with ⟨e1, _⟩ | ⟨t₁, o₂, e1, e2, ho⟩
      · rw [hlook₁] at e1; cases e1
      rw [hlook₁] at e1
      have ht₁ : t₁ = c₁.obj := by simpa using e1.symm
      subst ht₁
      simp only [hlook₁, e2, ok_bind']
      -- the fields of a nested selection set, emptied when the fragment is skipped …
      let inner := fun (S : Gql.Schema) (c : Cond) (dirs : List Directive) (sub : List Selection) =>
        fieldsFor S F mfuel fuel c sub >>= fun fs => checkSkip c₁.vars dirs >>= fun k =>
          if k = true then Except.ok (toEmpty fs) else .ok fs
      have hinner : ∀ (dirs : List Directive) (sub : List Selection), selsOk sub = true →
          EqOn (List.map normTagged) (inner S₁ c₁ dirs sub) (inner S₂ c₂ dirs sub) := fun dirs sub hsub =>
        eqOn_bind (ih2 c₁ c₂ sub hc ⟨n, hn⟩ hk hsub) fun x y _ _ hxy => eqOn_bind_same fun k _ => by
          cases k with
          | true => exact eqOn_ok (toEmpty_rel hxy)
          | false => exact eqOn_ok hxy
      -- … taken only when the type condition applies to the object type
      have guarded : ∀ (cond : Name) (dirs : List Directive) (sub : List Selection),
          isIntrospectionName cond = false → selsOk sub = true →
          EqOn (List.map normTagged)
            (fragmentApplies S₁ c₁.obj cond >>= fun b => if b = true then inner S₁ c₁ dirs sub else .ok [])
            (fragmentApplies S₂ c₂.obj cond >>= fun b => if b = true then inner S₂ c₂ dirs sub else .ok []) :=
        fun cond dirs sub hcond hsub => by
          rw [fragmentApplies_rel hA.toAgree hobj hk hcond]
          refine eqOn_bind_same fun b _ => ?_
          cases b with
          | false => rfl
          | true => exact hinner dirs sub hsub
      refine eqOn_bind (h := List.map normTagged) ?_ (fun s₁ s₂ _ _ hs => ?_)
      · -- the direct fields
        refine eqOn_filterMapM_same (fun s hs => ?_)
        cases s with
        | field alias name np args dirs sub =>
          refine eqOn_bind_same fun sk _ => ?_
          refine eqOn_bind (fieldTree_rel hC ho hk ⟨n, hn⟩ _ name sk sub (fun t₁ t₂ ht hnt s' hs' => ?_))
            (fun f₁ f₂ _ _ hf => eqOn_ok (by simp [normTagged, hf]))
          refine ih1 t₁ t₂ s' ht hnt ?_
          have hsel := selsOk_mem hss _ hs
          subst hs'
          simp only [selOk, Bool.and_eq_true] at hsel
          exact hsel.2
        | spread _ _ _ _ => rfl
        | inline _ _ _ _ => rfl
      · refine eqOn_bind (h := List.map (List.map normTagged)) ?_ (fun f₁ f₂ _ _ hf => ?_)
        · -- the fragments
          refine eqOn_mapM_same (fun s hs => ?_)
          have hsel := selsOk_mem hss _ hs
          cases s with
          | field _ _ _ _ _ _ => rfl
          | spread fn fnp dirs pos =>
            simp only
            cases hfd : F fn with
            | none => rfl
            | some fd =>
              have hfo := hF fn fd hfd
              simp only [fragOk, Bool.and_eq_true, nameOk, Bool.not_eq_true'] at hfo
              exact guarded fd.cond dirs fd.sel hfo.1.2 hfo.2
          | inline cond dirs sub pos =>
            cases cond with
            | none =>
              simp only [selOk, Bool.and_eq_true] at hsel
              exact hinner dirs sub hsel.2
            | some cp =>
              obtain ⟨cn, cpos⟩ := cp
              simp only [selOk, Bool.and_eq_true, nameOk, Bool.not_eq_true'] at hsel
              exact guarded cn dirs sub hsel.1.2 hsel.2
        · exact eqOn_ok (by simp only [List.map_append, List.map_flatten, hs, hf])

end NitroVerif.Bridge
