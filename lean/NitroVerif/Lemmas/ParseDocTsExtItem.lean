/-
Type extensions as items of a document: an extension of any of the six kinds through `TypeExtension`,
`TypeSystemExtension`, `TypeSystemDefinitionOrExtension` (all earlier alternatives are shown to fail on a text that begins
with `extend`), `ScalarTypeExtension = { KEYWORD_extend ~ KEYWORD_scalar ~ Name ~ Directives? }`, and the failure of every
alternative of an item at the end of the input.
-/
import NitroVerif.Lemmas.ParseDocTsSchema
namespace NitroVerif.DocParse
open NitroVerif.Peg NitroVerif.Gen NitroVerif.Gen.Parts NitroVerif.Build NitroVerif.TypeParse NitroVerif.StringParse
open NitroVerif.Gql NitroVerif.ValueParse NitroVerif.Spec.Lex NitroVerif.ParseText

theorem look_ObjectTypeExtension : gList.look R.ObjectTypeExtension = some (.normal, .choice
    (.seq (.call R.KEYWORD_extend) (.seq (.call R.KEYWORD_type) (.seq (.call R.Name)
      (.seq (.opt (.call R.ImplementsInterfaces)) (.seq (.opt (.call R.Directives)) (.call R.FieldsDefinition))))))
    (.choice (.seq (.call R.KEYWORD_extend) (.seq (.call R.KEYWORD_type) (.seq (.call R.Name)
      (.seq (.opt (.call R.ImplementsInterfaces)) (.seq (.call R.Directives) (.not (.str ['{'])))))))
    (.seq (.call R.KEYWORD_extend) (.seq (.call R.KEYWORD_type) (.seq (.call R.Name)
      (.seq (.call R.ImplementsInterfaces) (.not (.str ['{'])))))))) := rfl
theorem look_UnionTypeExtension : gList.look R.UnionTypeExtension = some (.normal, .choice
    (.seq (.call R.KEYWORD_extend) (.seq (.call R.KEYWORD_union) (.seq (.call R.Name)
      (.seq (.opt (.call R.Directives)) (.seq (.str ['=']) (.call R.UnionMemberTypes))))))
    (.seq (.call R.KEYWORD_extend) (.seq (.call R.KEYWORD_union) (.seq (.call R.Name) (.call R.Directives))))) := rfl

variable {inp : List Char}

def kindExtRule : TypeKind → RuleId
  | .scalar => R.ScalarTypeExtension
  | .object => R.ObjectTypeExtension
  | .interface => R.InterfaceTypeExtension
  | .union => R.UnionTypeExtension
  | .enum => R.EnumTypeExtension
  | .input => R.InputObjectTypeExtension

theorem directiveDef_fails_kw {τ : Trivia} (hτ : ∀ q, Ws (τ q)) (desc : Option String) (w' : List Char)
    (hw' : validName w') (hne : w' ≠ kwDirective) {p : Nat} {sK : Bool} {bad : Char → Prop}
    (h : HasAt inp p (rOptDesc τ p desc ++ tk τ sK (p + (rOptDesc τ p desc).length) w'))
    (ht : Nxt inp bad sK (p + (rOptDesc τ p desc).length + (tk τ sK (p + (rOptDesc τ p desc).length) w').length)) :
    Fails gList (B (rOptDesc τ p desc).length + 40) true (.call R.DirectiveDefinition) .nonAtomic (At inp p) := by
  exact (fails_rule (r := R.DirectiveDefinition) rfl
    (descKw_fails hτ (r := R.KEYWORD_directive) rfl kw_words_valid.2.2 desc w' hw' hne _ h ht)).mono (by omega)

theorem typeDefinition_fails_kw {τ : Trivia} (hτ : ∀ q, Ws (τ q)) (desc : Option String) (w' : List Char)
    (hw' : validName w') (hne : ∀ k, w' ≠ kindKw k) {p : Nat} {sK : Bool} {bad : Char → Prop}
    (h : HasAt inp p (rOptDesc τ p desc ++ tk τ sK (p + (rOptDesc τ p desc).length) w'))
    (ht : Nxt inp bad sK (p + (rOptDesc τ p desc).length + (tk τ sK (p + (rOptDesc τ p desc).length) w').length)) :
    Fails gList (B (rOptDesc τ p desc).length + 50) true (.call R.TypeDefinition) .nonAtomic (At inp p) :=
  (fails_rule (r := R.TypeDefinition) rfl (fails_alts kindDefRule [.object, .interface, .union, .enum, .input] .scalar
    fun k _ => kindRule_fails hτ k desc w' hw' (hne k) h ht)).mono (by simp only [List.length_cons, List.length_nil]; omega)

theorem tsd_fails_extend {τ : Trivia} (hτ : ∀ q, Ws (τ q)) {p : Nat} (h : HasAt inp p (tk τ true p kwExtend))
    (ht : Tok (At inp (p + (tk τ true p kwExtend).length))) :
    Fails gList 170 true (.call R.TypeSystemDefinition) .nonAtomic (At inp p) := by
  have h' : HasAt inp p (rOptDesc τ p none ++ tk τ true (p + (rOptDesc τ p none).length) kwExtend) := h
  have ht' : Nxt inp (fun _ => False) true
      (p + (rOptDesc τ p none).length + (tk τ true (p + (rOptDesc τ p none).length) kwExtend).length) := nxt_sep ht
  have f1 := schemaDef_fails_kw hτ none kwExtend kw_words_valid.1 (by decide) h' ht'
  have f2 := typeDefinition_fails_kw hτ none kwExtend kw_words_valid.1 (by intro k; cases k <;> decide) h' ht'
  have f3 := directiveDef_fails_kw hτ none kwExtend kw_words_valid.1 (by decide) h' ht'
  exact (fails_rule look_TypeSystemDefinition (fails_choice_K f1 (fails_choice_K f2 f3))).mono (by simp [rOptDesc, B])

/-- every alternative of the extension rule of kind `k'` begins with `extend KEYWORD_k'`: the rule fails where that
    fails -/
theorem kindExtRule_fails_of {n : Nat} {c : Cur} (k' : TypeKind) (f : ∀ T, Fails gList n true
      (.seq (.call R.KEYWORD_extend) (.seq (.call (kindKwRule k')) T)) .nonAtomic c) :
    Fails gList (n + 4) true (.call (kindExtRule k')) .nonAtomic c := by
  cases k' with
  | scalar => exact (fails_rule (r := R.ScalarTypeExtension) rfl (f _)).mono (by omega)
  | object =>
    exact (fails_rule look_ObjectTypeExtension (fails_choice_K (f _) (fails_choice_K (f _) (f _)))).mono (by omega)
  | interface =>
    exact (fails_rule (r := R.InterfaceTypeExtension) rfl (fails_choice_K (f _) (fails_choice_K (f _) (f _)))).mono (by omega)
  | union => exact (fails_rule look_UnionTypeExtension (fails_choice_K (f _) (f _))).mono (by omega)
  | «enum» => exact (fails_rule (r := R.EnumTypeExtension) rfl (fails_choice_K (f _) (f _))).mono (by omega)
  | input => exact (fails_rule (r := R.InputObjectTypeExtension) rfl (fails_choice_K (f _) (f _))).mono (by omega)

theorem kindExtRule_fails {τ : Trivia} (hτ : ∀ q, Ws (τ q)) (k' : TypeKind) (w' : List Char)
    (hw' : validName w') (hne : w' ≠ kindKw k') {p : Nat}
    (h : HasAt inp p (tk τ true p kwExtend ++ tk τ true (p + (tk τ true p kwExtend).length) w'))
    (ht : Tok (At inp (p + (tk τ true p kwExtend).length + (tk τ true (p + (tk τ true p kwExtend).length) w').length))) :
    Fails gList (B (tk τ true p kwExtend).length + 40) true (.call (kindExtRule k')) .nonAtomic (At inp p) :=
  (kindExtRule_fails_of k' fun T => extKw_fails hτ (look_kindKw k') (kindKw_valid k') w' hw' hne T h ht).mono (by omega)

theorem schemaExt_fails_kw {τ : Trivia} (hτ : ∀ q, Ws (τ q)) (w' : List Char)
    (hw' : validName w') (hne : w' ≠ kwSchema) {p : Nat}
    (h : HasAt inp p (tk τ true p kwExtend ++ tk τ true (p + (tk τ true p kwExtend).length) w'))
    (ht : Tok (At inp (p + (tk τ true p kwExtend).length + (tk τ true (p + (tk τ true p kwExtend).length) w').length))) :
    Fails gList (B (tk τ true p kwExtend).length + 40) true (.call R.SchemaExtension) .nonAtomic (At inp p) := by
  have f : ∀ T, Fails gList (B (tk τ true p kwExtend).length + 30) true
      (.seq (.call R.KEYWORD_extend) (.seq (.call R.KEYWORD_schema) T)) .nonAtomic (At inp p) := fun T =>
    extKw_fails hτ look_KEYWORD_schema kw_words_valid.2.1 w' hw' hne T h ht
  exact (fails_rule (r := R.SchemaExtension) rfl (fails_choice_K (f _) (f _))).mono (by omega)

theorem typeExtWrapK {τ : Trivia} (hτ : ∀ q, Ws (τ q)) (k : TypeKind) {p : Nat} {n : Nat} {c' : Cur}
    {prK : Pair} (hrun : RunsK n (.call (kindExtRule k)) (At inp p) c' [prK])
    (h : HasAt inp p (tk τ true p kwExtend ++ tk τ true (p + (tk τ true p kwExtend).length) (kindKw k)))
    (ht : Tok (At inp (p + (tk τ true p kwExtend).length +
      (tk τ true (p + (tk τ true p kwExtend).length) (kindKw k)).length))) :
    ∃ e1 e2 e3, RunsK (max n (B (tk τ true p kwExtend).length + 40) + 20) (.call R.TypeSystemDefinitionOrExtension)
      (At inp p) c'
      [.mk R.TypeSystemDefinitionOrExtension p e3 [.mk R.TypeSystemExtension p e2 [.mk R.TypeExtension p e1 [prK]]]] := by
  have hl : 1 ≤ (tk τ true p kwExtend).length := (hd_tk (P := nameStart) (hd_of_validName kw_words_valid.1)).length_pos
  have fs := (schemaExt_fails_kw hτ (kindKw k) (kindKw_valid k) (kindKw_ne_schema k) h ht).mono (Nat.le_max_right n _)
  have fd := (tsd_fails_extend hτ h.left (tok_of_hd h.right (hd_tk (hd_of_validName (kindKw_valid k)))
    (fun d => nameStart_not_trivia))).mono (Nat.le_trans (by simp only [B]; omega)
      (Nat.le_max_right n (B (tk τ true p kwExtend).length + 40)))
  have body := runsK_alts kindExtRule k (hrun.mono (Nat.le_max_left n (B (tk τ true p kwExtend).length + 40)))
    [.object, .interface, .union, .enum, .input] .scalar (kind_mem k) fun k' _ hne =>
      (kindExtRule_fails hτ k' (kindKw k) (kindKw_valid k) (kindKw_ne hne) h ht).mono (Nat.le_max_right n _)
  generalize max n (B (tk τ true p kwExtend).length + 40) = m at fs fd body ⊢
  obtain ⟨e1, rTE⟩ := runsK_rule (r := R.TypeExtension) rfl body
  obtain ⟨e2, rTSE⟩ := runsK_rule (r := R.TypeSystemExtension) rfl (runsK_choice_r fs rTE)
  obtain ⟨e3, rI⟩ := runsK_rule look_TSDOE (runsK_choice_r fd rTSE)
  exact ⟨e1, e2, e3, rI.mono (by simp only [List.length_cons, List.length_nil]; omega)⟩

theorem buildItem_typeExt (ctx : Ctx) (fuel : Nat) (p e1 e2 e3 : Nat) (prK : Pair) (td : TypeDef)
    (h : buildTypeExtension ctx fuel (.mk R.TypeExtension p e1 [prK]) = .ok td) :
    buildTypeSystemDefinitionOrExtension ctx fuel (.mk R.TypeSystemDefinitionOrExtension p e3
      [.mk R.TypeSystemExtension p e2 [.mk R.TypeExtension p e1 [prK]]]) = .ok (.typeExt td) := by
  simp [buildTypeSystemDefinitionOrExtension, onlyChildOf, onlyChild, Pair.children, Pair.rule,
    OC_TypeSystemDefinitionOrExtension, OC_TypeSystemExtension, h, bind, Except.bind, pure, Except.pure,
    R.TypeSystemDefinition, R.TypeSystemExtension, R.SchemaExtension, R.TypeExtension]

/-- the round-trip statement for one kind of type extension: the rule of the kind, and `build_type_extension` -/
def KindExtOk (inp : List Char) (rule : RuleId) (p : Nat) (t : List Char) (td : TypeDef) : Prop :=
  ∃ pr, ∀ e, Reads inp 80 rule p t
    (fun fuel pr => buildTypeExtension (Ctx.spec inp) fuel (.mk R.TypeExtension p e [pr])) td pr

theorem tsItem_of_ext {τ : Trivia} (hτ : ∀ q, Ws (τ q)) (k : TypeKind) {p : Nat} {t : List Char}
    {td : TypeDef} (hk : KindExtOk inp (kindExtRule k) p t td)
    (h : HasAt inp p (tk τ true p kwExtend ++ tk τ true (p + (tk τ true p kwExtend).length) (kindKw k)))
    (ht : Tok (At inp (p + (tk τ true p kwExtend).length +
      (tk τ true (p + (tk τ true p kwExtend).length) (kindKw k)).length)))
    (hlen : (tk τ true p kwExtend).length ≤ t.length) : TsItemOk inp p t (.typeExt td) := by
  obtain ⟨prK, hK⟩ := hk
  obtain ⟨e1, e2, e3, hr⟩ := typeExtWrapK hτ k (hK 0).part.run h ht
  exact ⟨_, ⟨hr.mono (by have := B_mono hlen; omega), cleanP_of (by decide) (by decide) ⟨cleanP_of (by decide) (by decide)
      ⟨cleanP_of (by decide) (by decide) ⟨(hK 0).clean, trivial⟩, trivial⟩, trivial⟩, trivial⟩, rfl, rfl,
    fun fuel hf => buildItem_typeExt _ fuel p e1 e2 e3 prK td ((hK e1).build fuel hf)⟩

theorem extHead_prefix {τ : Trivia} {sN : Bool} {p : Nat} {kw : List Char} {name : Name}
    {Rr : List Char} (hname : validName name.toList) (h : HasAt inp p (rExtHead τ sN p kw name ++ Rr)) :
    HasAt inp p (tk τ true p kwExtend ++ tk τ true (p + (tk τ true p kwExtend).length) kw) ∧
      Tok (At inp (p + (tk τ true p kwExtend).length + (tk τ true (p + (tk τ true p kwExtend).length) kw).length)) := by
  have h0 := h.left
  simp only [rExtHead] at h0
  refine ⟨hasAt_append.mpr ⟨h0.left, h0.right.left⟩, ?_⟩
  exact tok_of_hd h0.right.right (hd_tk (hd_of_validName hname)) (fun d => nameStart_not_trivia)

theorem hd_rExtHead (τ : Trivia) (sN : Bool) (p : Nat) (kw : List Char) (name : Name) :
    Hd (fun d => nameStart d ∨ d = '"') (rExtHead τ sN p kw name) := by
  simp only [rExtHead]
  exact Hd.append (hd_tk (P := fun d => nameStart d ∨ d = '"')
    ((hd_of_validName kw_words_valid.1).mono (fun _ h => Or.inl h))) _

def rScalarExt (τ : Trivia) (sep : Bool) (p : Nat) (t : TypeDef) : List Char :=
  let tH := rExtHead τ (sep && t.dirs.isEmpty) p (kindKw .scalar) t.name
  tH ++ rDirs τ sep (p + tH.length) t.dirs

def wpScalarExt (τ : Trivia) (inp : List Char) (sep : Bool) (p : Nat) (t : TypeDef) : TypeDef :=
  let tH := rExtHead τ (sep && t.dirs.isEmpty) p (kindKw .scalar) t.name
  { kind := .scalar, name := t.name, namePos := posAt inp (ehOffN τ p (kindKw .scalar)),
    dirs := wpDirs τ inp sep (p + tH.length) t.dirs, pos := posAt inp p }

/-- `build_type_extension` on a scalar type extension whose items are known -/
theorem buildTypeExtension_scalar {ctx : Ctx} {fuel : Nat} (p e p' e' : Nat) {cs : List Pair} {dirs : Option Pair}
    {kw kk name : Pair} {ds : List Directive}
    (hm : matchParts P_ScalarTypeExtension cs = .ok [some kw, some kk, some name, dirs])
    (h2 : optDirs ctx fuel dirs = .ok ds) :
    buildTypeExtension ctx fuel (.mk R.TypeExtension p e [.mk R.ScalarTypeExtension p' e' cs]) =
      .ok { kind := .scalar, name := asString ctx name, namePos := toPos ctx name, dirs := ds, pos := toPos ctx kw } := by
  simp [buildTypeExtension, onlyChildOf, onlyChild, Pair.children, OC_TypeExtension, Pair.rule, hm, h2, bind, Except.bind,
    R.ScalarTypeExtension]

theorem scalarExtT (τ : Trivia) (hτ : ∀ q, Ws (τ q)) (t : TypeDef) (hname : validName t.name.toList)
    (hdirs : WFDirs t.dirs) {sep : Bool} {p : Nat} (h : HasAt inp p (rScalarExt τ sep p t))
    (hn : Nxt inp tdBad sep (p + (rScalarExt τ sep p t).length)) :
    KindExtOk inp R.ScalarTypeExtension p (rScalarExt τ sep p t) (wpScalarExt τ inp sep p t) := by
  simp only [rScalarExt, wpScalarExt] at h hn ⊢
  obtain ⟨oD, D, n0⟩ := optDirsT τ hτ t.dirs hdirs (by decide) (by decide) h.right hn.app
  obtain ⟨prE, prK, prN, H⟩ := extHeadF hτ (look_kindKw .scalar) (kindKw_valid .scalar) t.name hname h.left n0
  obtain ⟨e, rR⟩ := PartT.rule (r := R.ScalarTypeExtension) rfl (H.front.part D.part)
  refine ⟨_, fun e' => ⟨rR.mono (by decide), rfl, rfl, fun fuel hf => ?_⟩⟩
  refine (buildTypeExtension_scalar _ _ _ _ (matchParts_slots P_ScalarTypeExtension [some prE, some prK, some prN, oD]
    (by decide) ⟨⟨_, rfl, H.extRule⟩, ⟨_, rfl, H.kwRule⟩, ⟨_, rfl, H.nameRule⟩, D.rule, trivial⟩)
    (D.build fuel (fuel_right hf))).trans ?_
  rw [H.name, H.namePos, H.extPos]

/-- the FIRST test with the class of all characters: on the empty rest every class passes -/
theorem tsItem_fails_eoi {p : Nat} (h : inp.drop p = []) :
    Fails gList 100 true (.call R.TypeSystemDefinitionOrExtension) .nonAtomic (At inp p) := by
  have hn : ∀ P : Char → Prop, HeadNot P (inp.drop p) := fun P => by rw [h]; exact headNot_nil P
  exact first_fails_opt (P := fun _ => True) (by decide +kernel) (hn _) (hn _) (hn _)

end NitroVerif.DocParse
