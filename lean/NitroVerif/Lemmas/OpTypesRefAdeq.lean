/-
C01/C02 refinement: adequacy of the invariant — a tree related (`RelTree`) to the set of selection sets collected from
`ss` denotes (`DenTree`) exactly CompleteValue of `ss` with nested objects in `RefLocal`.
-/
import NitroVerif.Lemmas.OpTypesRefRel
import NitroVerif.Lemmas.OpTypesRefFuel
namespace NitroVerif.OpTypes.Ref
open NitroVerif.Gql NitroVerif.Ts NitroVerif.Exec

theorem groups_unique : ∀ {g : Groups}, (g.map (·.1)).Nodup → ∀ {k : Name} {fs fs' : List CField},
    (k, fs) ∈ g → (k, fs') ∈ g → fs = fs'
  | e0 :: g, hn, k, fs, fs', h1, h2 => by
    simp only [List.map_cons, List.nodup_cons] at hn
    rcases List.mem_cons.1 h1 with h1 | h1 <;> rcases List.mem_cons.1 h2 with h2 | h2
    · rw [← h1] at h2; cases h2; rfl
    · exact absurd (by rw [← h1]; exact List.mem_map_of_mem (f := (·.1)) h2) hn.1
    · exact absurd (by rw [← h2]; exact List.mem_map_of_mem (f := (·.1)) h1) hn.1
    · exact groups_unique hn.2 h1 h2

theorem inG_iff_mem {g : Groups} (hw : GroupsWF g) {k : Name} {fs : List CField} (h : (k, fs) ∈ g) (f : CField) :
    InG g k f ↔ f ∈ fs := by
  constructor
  · rintro ⟨fs', h', hf⟩; rw [groups_unique hw.1 h h']; exact hf
  · intro hf; exact ⟨fs, h, hf⟩

theorem inFlat_mergedSub {S : Schema} {F : Name → Option FragmentDef} {o : Name} {inc : Inc} {t : FT} :
    ∀ (fs : List CField), InFlat S F o inc [] (mergedSub fs) t ↔ ∃ f ∈ fs, ∃ s, f.sub = some s ∧ InFlat S F o inc [] s t
  | [] => by simp [mergedSub, inFlat_nil]
  | f :: fs => by
    have ih := inFlat_mergedSub (S := S) (F := F) (o := o) (inc := inc) (t := t) fs
    simp only [mergedSub, List.flatMap_cons] at ih ⊢
    rw [inFlat_append, ih]
    simp only [List.mem_cons, exists_eq_or_imp]
    cases hs : f.sub with
    | none => simp [inFlat_nil]
    | some s => simp

section
variable {c : Ctx}

/-- from `Sb` is collected what is collected from the single selection set `ss` — `PEquiv c Sb (Sb1 ss)` (`pu_sb1`); the
    merged sub-selections of a group stand in this relation to the sub-selections under its key (`subSet_merged`) -/
def PEq (c : Ctx) (Sb : SSet) (ss : List Selection) : Prop :=
  ∀ o inc t, PU c Sb o inc t ↔ InFlat c.S c.F o inc [] ss t

theorem subSet_merged {Sb : SSet} {ss : List Selection} {σ : Sigma} {tn : Name} {g : Groups}
    (hpe : PEq c Sb ss) (hg : collectFields c σ tn ss = some g) {k : Name} {fs : List CField} (hk : (k, fs) ∈ g) :
    PEq c (SubSet c Sb tn (included σ) k) (mergedSub fs) := by
  obtain ⟨hw, hin⟩ := collectFields_spec c σ tn hg
  intro o' inc' t'
  rw [inFlat_mergedSub]
  simp only [PU, SubSet]
  constructor
  · rintro ⟨s, ⟨t, ⟨s0, hs0, ht⟩, hkey, hsub⟩, hin'⟩
    have ht' : InFlat c.S c.F tn (included σ) [] ss t := (hpe tn _ t).1 ⟨s0, hs0, ht⟩
    obtain ⟨k', al, nm, sub⟩ := t
    simp only at hkey hsub; subst hkey; subst hsub
    have : InG g k' ⟨nm, some s⟩ := (hin k' ⟨nm, some s⟩).2 ⟨al, ht'⟩
    exact ⟨⟨nm, some s⟩, (inG_iff_mem hw hk _).1 this, s, rfl, hin'⟩
  · rintro ⟨f, hf, s, hs, hin'⟩
    obtain ⟨al, hfl⟩ := (hin k f).1 ((inG_iff_mem hw hk f).2 hf)
    obtain ⟨s0, hs0, ht⟩ := (hpe tn _ _).2 hfl
    exact ⟨s, ⟨⟨k, al, f.name, f.sub⟩, ⟨s0, hs0, ht⟩, rfl, hs⟩, hin'⟩

variable {e : Env} {r : Refs} {orig : Name → Option (List Field)}

theorem compP_leaf (H : Hyp c e r orig) (R : Name → List Selection → J → Prop) (sub : List Selection) :
    ∀ (ty : GType), isLeafType c.S ty.unwrapped = true →
    (∀ v, CompP c R sub ty false v ↔ WrapConf (fun n v => Mem e v (r.out n)) ty v) ∧
    (∀ v, CompP c R sub ty true v ↔ WrapConfNN (fun n v => Mem e v (r.out n)) ty v)
  | .named n p, hl => by
    simp only [GType.unwrapped] at hl
    have hc := isLeaf_not_composite hl
    have hn : ∀ v, NamedP c R sub n v ↔ Mem e v (r.out n) := by
      intro v; simp only [NamedP, hc, Bool.false_eq_true, ↓reduceIte]; exact (H.leaf n v hl).symm
    constructor
    · intro v; simp only [CompP, Bool.false_eq_true, ↓reduceIte, WrapConf, hn]
    · intro v
      simp only [CompP, ↓reduceIte, WrapConfNN, hn]
      constructor
      · exact fun h => h.2
      · intro h
        refine ⟨?_, h⟩
        rintro rfl
        have := (H.leaf n .null hl).1 h
        rw [H.leafNotNull] at this; cases this
  | .list t p, hc => by
    simp only [GType.unwrapped] at hc
    have ih := (compP_leaf H R sub t hc).1
    constructor
    · intro v
      simp only [CompP, WrapConf, true_and]
      constructor
      · rintro (h | ⟨xs, rfl, hx⟩)
        · exact Or.inl h
        · exact Or.inr ⟨xs, rfl, fun x hxm => (ih x).1 (hx x hxm)⟩
      · rintro (h | ⟨xs, rfl, hx⟩)
        · exact Or.inl h
        · exact Or.inr ⟨xs, rfl, fun x hxm => (ih x).2 (hx x hxm)⟩
    · intro v
      simp only [CompP, WrapConfNN, Bool.true_eq_false, false_and, false_or]
      constructor
      · rintro ⟨xs, rfl, hx⟩; exact ⟨xs, rfl, fun x hxm => (ih x).1 (hx x hxm)⟩
      · rintro ⟨xs, rfl, hx⟩; exact ⟨xs, rfl, fun x hxm => (ih x).2 (hx x hxm)⟩
  | .nonNull t, hc => by
    simp only [GType.unwrapped] at hc
    have ih := (compP_leaf H R sub t hc).2
    exact ⟨fun v => by simp only [CompP, WrapConf]; exact ih v, fun v => by simp only [CompP, WrapConfNN]; exact ih v⟩

theorem un_declared (H : Hyp c e r orig) {tn : Name} {td : TypeDef} (htd : c.S.typeDef? tn = some td)
    (hk : td.kind = .object) {ofs : List Field} (hofs : orig tn = some ofs) {σ : Sigma} {Sb : SSet} {f : SField}
    (hr : RelField c tn σ Sb false f) (hne : f.isEmpty = false) : ofs.any (·.1 == f.name) = true := by
  obtain ⟨ofs', hofs', hdecl⟩ := H.origObj tn td htd hk
  rw [hofs] at hofs'; cases hofs'
  cases f with
  | empty k => simp [SField.isEmpty] at hne
  | leaf k ty b =>
    simp only [RelField] at hr
    obtain ⟨t, ⟨s, _, hin⟩, hkey, hal, hcond⟩ := hr
    have hkn := inFlat_key hin hal
    simp only [SField.name]
    rw [hdecl, ← hkey, hkn]
    split at hcond
    · rename_i htn; exact Or.inl (by simpa using htn)
    · obtain ⟨_, _, fd, hfd, _⟩ := hcond; exact Or.inr (by simp [hfd])
  | object k T =>
    simp only [RelField] at hr
    obtain ⟨t, fd, ⟨s, _, hin⟩, hkey, hal, _, _, hfd, _⟩ := hr
    have hkn := inFlat_key hin hal
    simp only [SField.name]
    rw [hdecl, ← hkey, hkn]
    exact Or.inr (by simp [hfd])

mutual
theorem rel_wfTree (H : Hyp c e r orig) : ∀ (T : SelTree) (ty : GType) (Sb : SSet), RelTree c T ty Sb → WFTree orig T
  | .nonNull T, ty, Sb, h | .list T, ty, Sb, h => by
    cases ty <;> simp only [RelTree] at h
    simp only [WFTree]; exact rel_wfTree H T _ Sb h
  | .object bs, ty, Sb, h => by
    cases ty <;> simp only [RelTree] at h
    rename_i n p
    obtain ⟨hc, hcov, hb⟩ := h
    simp only [WFTree]
    refine ⟨?_, rel_wfBranches H bs n Sb hb⟩
    rintro rfl
    have hne := H.inhabited n hc
    cases hp : c.S.possibleTypes n with
    | nil => exact hne hp
    | cons o os =>
      obtain ⟨b, hb, _⟩ := hcov o (by rw [hp]; simp) (fun _ => false)
      cases hb
theorem rel_wfBranches (H : Hyp c e r orig) : ∀ (bs : List Branch) (n : Name) (Sb : SSet),
    RelBranches c bs n Sb → WFBranches orig bs
  | [], _, _, _ => by simp [WFBranches]
  | b :: bs, n, Sb, h => by
    simp only [RelBranches] at h
    simp only [WFBranches]
    exact ⟨rel_wfBranch H b n Sb h.1, rel_wfBranches H bs n Sb h.2⟩
theorem rel_wfBranch (H : Hyp c e r orig) : ∀ (b : Branch) (n : Name) (Sb : SSet), RelBranch c b n Sb → WFBranch orig b
  | .mk tn vars un al, n, Sb, h => by
    have h := relBranch_iff.1 h
    obtain ⟨td, htd, hk⟩ := h.obj
    obtain ⟨hu, ha, _⟩ := h.fields (sigmaOf vars) h.self
    obtain ⟨ofs, hofs, _⟩ := H.origObj tn td htd hk
    simp only [WFBranch]
    exact ⟨by simp [hofs], h.alNodup, h.disjoint, rel_wfFields H tn _ Sb false un hu, rel_wfFields H tn _ Sb true al ha⟩
theorem rel_wfFields (H : Hyp c e r orig) (tn : Name) (σ : Sigma) (Sb : SSet) (tag : Bool) : ∀ (fs : List SField),
    RelFields c tn σ Sb tag fs → WFFields orig fs
  | [], _ => by simp [WFFields]
  | f :: fs, h => by
    simp only [RelFields] at h
    simp only [WFFields]
    exact ⟨rel_wfField H tn σ Sb tag f h.1, rel_wfFields H tn σ Sb tag fs h.2⟩
theorem rel_wfField (H : Hyp c e r orig) (tn : Name) (σ : Sigma) (Sb : SSet) (tag : Bool) : ∀ (f : SField),
    RelField c tn σ Sb tag f → WFField orig f
  | .empty _, _ => by simp [WFField]
  | .leaf _ _ _, _ => by simp [WFField]
  | .object k T, h => by
    simp only [RelField] at h
    obtain ⟨t, fd, _, _, _, _, _, _, hT⟩ := h
    simp only [WFField]
    exact rel_wfTree H T fd.ty _ hT
end

variable (c e r orig)

/-- adequacy for one tree / field / branch, the three statements of one induction on the tree: first conjunct, what the
    specification allows (`RefLocal`) the tree denotes; second, what the tree denotes (a value without repeated keys, the
    specification's fuel sufficing) the specification allows, at the depth of the tree -/
def TreeStmt (T : SelTree) : Prop :=
  ∀ (ty : GType) (Sb : SSet) (ss : List Selection) (nn : Bool), RelTree c T ty Sb → PEq c Sb ss →
    Coh c (tdepth T) Sb ty.unwrapped →
    (∀ v, CompP c (RefLocal c) ss ty nn v → DenTree e r orig T nn v) ∧
    (∀ D, FuelOk c D ss → ∀ v, JWf v → DenTree e r orig T nn v → CompP c (RefLocalN c (tdepth T)) ss ty nn v)

def FieldStmt (f : SField) : Prop :=
  ∀ (tn : Name) (σ : Sigma) (Sb : SSet) (tag : Bool) (ss : List Selection) (g : Groups),
    RelField c tn σ Sb tag f → PEq c Sb ss → CohAt c Sb tn →
    (∀ t fd, PU c Sb tn allInc t → c.S.field? tn t.name = some fd →
      Coh c (fdepth f) (SubSet c Sb tn allInc t.key) fd.ty.unwrapped) →
    collectFields c σ tn ss = some g →
    (∀ kvs, (∀ e' ∈ g, FieldOkP c (RefLocal c) tn e'.2 (J.get kvs e'.1)) →
      (∀ kv ∈ kvs, kv.2 = .absent ∨ ∃ e' ∈ g, e'.1 = kv.1) → DenField e r orig tn f (J.get kvs f.name)) ∧
    (∀ D kvs fs, (∀ e' ∈ g, FuelOk c D (mergedSub e'.2)) → JWf (.obj kvs) → f.isEmpty = false → (f.name, fs) ∈ g →
      DenField e r orig tn f (J.get kvs f.name) → FieldOkP c (RefLocalN c (fdepth f)) tn fs (J.get kvs f.name))

def BranchStmt (b : Branch) : Prop :=
  ∀ (n : Name) (Sb : SSet) (ss : List Selection), RelBranch c b n Sb → PEq c Sb ss → Coh c (bdepth b + 1) Sb n →
    (∀ σ g v, Agree σ b.vars → collectFields c σ b.typeName ss = some g → SetOkP c (RefLocal c) b.typeName g v →
      DenBranch e r orig b v) ∧
    (∀ D v, FuelOk c D ss → JWf v → DenBranch e r orig b v → RefLocalN c (bdepth b + 1) b.typeName ss v)

variable {c e r orig}

theorem group_head {Sb : SSet} {ss : List Selection} {σ : Sigma} {tn : Name} {g : Groups}
    (hpe : PEq c Sb ss) (hg : collectFields c σ tn ss = some g) {k : Name} {fs : List CField} (hk : (k, fs) ∈ g) :
    ∃ f0 rest al, fs = f0 :: rest ∧ PU c Sb tn (included σ) ⟨k, al, f0.name, f0.sub⟩ := by
  obtain ⟨hw, hin⟩ := collectFields_spec c σ tn hg
  cases fs with
  | nil => exact absurd rfl (hw.2 _ hk)
  | cons f0 rest =>
    obtain ⟨al, h⟩ := (hin k f0).1 ⟨_, hk, by simp⟩
    exact ⟨f0, rest, al, rfl, (hpe _ _ _).2 h⟩

theorem group_of {Sb : SSet} {ss : List Selection} {σ : Sigma} {tn : Name} {g : Groups}
    (hpe : PEq c Sb ss) (hg : collectFields c σ tn ss = some g) {t : FT} (ht : PU c Sb tn (included σ) t) :
    ∃ fs, (t.key, fs) ∈ g := by
  obtain ⟨_, hin⟩ := collectFields_spec c σ tn hg
  obtain ⟨k, al, nm, sub⟩ := t
  obtain ⟨fs, h, _⟩ := (hin k ⟨nm, sub⟩).2 ⟨al, (hpe _ _ _).1 ht⟩
  exact ⟨fs, h⟩

theorem fieldStmt_empty (k : Name) : FieldStmt c e r orig (.empty k) := by
  intro tn σ Sb tag ss g hr hpe _ _ hg
  simp only [RelField] at hr
  refine ⟨fun kvs _ hK => ?_, fun D kvs fs _ _ hne => by simp [SField.isEmpty] at hne⟩
  simp only [DenField, SField.name]
  refine Classical.byContradiction fun hx => ?_
  have hm := jget_mem hx
  rcases hK _ hm with h | ⟨e', he', hk'⟩
  · exact hx h
  · obtain ⟨k', fs⟩ := e'
    simp only at hk'; subst hk'
    obtain ⟨f0, rest, al, _, hpu⟩ := group_head hpe hg he'
    exact hr.2 _ hpu rfl

theorem fieldStmt_leaf (H : Hyp c e r orig) (k : Name) (ty : GType) (b : Bool) : FieldStmt c e r orig (.leaf k ty b) := by
  intro tn σ Sb tag ss g hr hpe hcoh _ hg
  simp only [RelField] at hr
  obtain ⟨t, ht, hkey, _, hcond⟩ := hr
  have key : ∀ fs, (k, fs) ∈ g → ∃ f0 rest, fs = f0 :: rest ∧ f0.name = t.name := by
    intro fs hfs
    obtain ⟨f0, rest, al, hfs', hpu⟩ := group_head hpe hg hfs
    have := (cohAt_full hcoh.1 _ _ (pu_all hpu) (pu_all ht) (by simp [hkey])).2.1
    exact ⟨f0, rest, hfs', this⟩
  constructor
  · intro kvs hF _
    obtain ⟨fs, hfs⟩ := group_of hpe hg ht
    rw [hkey] at hfs
    obtain ⟨f0, rest, hfs', hname⟩ := key fs hfs
    obtain ⟨f0', rest', hfs'', hok⟩ := hF _ hfs
    simp only at hfs'' hok
    rw [hfs'] at hfs''; cases hfs''
    simp only [DenField, SField.name]
    rw [hname] at hok
    split at hcond
    · rename_i htn
      rw [if_pos htn] at hok
      subst hcond; simpa using hok
    · rename_i htn
      rw [if_neg htn] at hok
      obtain ⟨rfl, hsub, fd, hfd, rfl⟩ := hcond
      obtain ⟨fd', hfd', hc⟩ := hok
      rw [hfd] at hfd'; cases hfd'
      have hnc := hcoh.2 t fd (pu_all ht) (by simpa using htn) hfd hsub
      simpa using ((compP_leaf H _ _ fd.ty hnc).1 _).1 hc
  · intro D kvs fs _ _ _ hfs hden
    simp only [SField.name] at hfs hden ⊢
    obtain ⟨f0, rest, hfs', hname⟩ := key fs hfs
    refine ⟨f0, rest, hfs', ?_⟩
    rw [hname]
    simp only [DenField] at hden
    split at hcond
    · rename_i htn
      rw [if_pos htn]
      subst hcond; simpa using hden
    · rename_i htn
      rw [if_neg htn]
      obtain ⟨rfl, hsub, fd, hfd, rfl⟩ := hcond
      have hnc := hcoh.2 t fd (pu_all ht) (by simpa using htn) hfd hsub
      exact ⟨fd, hfd, ((compP_leaf H _ _ fd.ty hnc).1 _).2 (by simpa using hden)⟩

theorem fieldStmt_object (k : Name) (T : SelTree) (hT : TreeStmt c e r orig T) : FieldStmt c e r orig (.object k T) := by
  intro tn σ Sb tag ss g hr hpe hcoh hnest hg
  simp only [RelField] at hr
  obtain ⟨t, fd, ht, hkey, _, _, htn, hfd, hrel⟩ := hr
  have hcohT : Coh c (tdepth T) (SubSet c Sb tn (included σ) k) fd.ty.unwrapped := by
    have := hnest t fd (pu_all ht) hfd
    simp only [fdepth, hkey] at this
    refine coh_subset _ _ _ _ ?_ this
    rintro s ⟨t', ht', hk', hs'⟩
    exact ⟨t', pu_all ht', hk', hs'⟩
  have key : ∀ fs, (k, fs) ∈ g → ∃ f0 rest, fs = f0 :: rest ∧ f0.name = t.name := by
    intro fs hfs
    obtain ⟨f0, rest, al, hfs', hpu⟩ := group_head hpe hg hfs
    have := (cohAt_full hcoh.1 _ _ (pu_all hpu) (pu_all ht) (by simp [hkey])).2.1
    exact ⟨f0, rest, hfs', this⟩
  have htn' : ¬ (t.name == "__typename") = true := by simp [htn]
  constructor
  · intro kvs hF _
    obtain ⟨fs, hfs⟩ := group_of hpe hg ht
    rw [hkey] at hfs
    obtain ⟨f0, rest, hfs', hname⟩ := key fs hfs
    obtain ⟨f0', rest', hfs'', hok⟩ := hF _ hfs
    simp only at hfs'' hok
    rw [hfs'] at hfs''; cases hfs''
    rw [hname, if_neg htn'] at hok
    obtain ⟨fd', hfd', hc⟩ := hok
    rw [hfd] at hfd'; cases hfd'
    simp only [DenField, SField.name]
    exact (hT fd.ty _ (mergedSub fs) false hrel (subSet_merged hpe hg hfs) hcohT).1 _ hc
  · intro D kvs fs hfuel hwf _ hfs hden
    simp only [SField.name] at hfs hden ⊢
    obtain ⟨f0, rest, hfs', hname⟩ := key fs hfs
    refine ⟨f0, rest, hfs', ?_⟩
    rw [hname, if_neg htn']
    simp only [DenField] at hden
    refine ⟨fd, hfd, ?_⟩
    simp only [fdepth]
    exact (hT fd.ty _ (mergedSub fs) false hrel (subSet_merged hpe hg hfs) hcohT).2 D (hfuel _ hfs) _
      (jget_wf hwf k) hden

theorem branchStmt_of (H : Hyp c e r orig) (tn : Name) (vars : List (Name × Bool)) (un al : List SField)
    (hun : ∀ f ∈ un, FieldStmt c e r orig f) (hal : ∀ f ∈ al, FieldStmt c e r orig f) :
    BranchStmt c e r orig (.mk tn vars un al) := by
  intro n Sb ss hrel hpe hcoh
  obtain ⟨hposs, ⟨td, htd, hkind⟩, hself, _, _, _, hf⟩ := relBranch_iff.1 hrel
  simp only [Coh] at hcoh
  obtain ⟨hcohAt, hnest⟩ := hcoh tn hposs
  obtain ⟨ofs, hofs, hdecl⟩ := H.origObj tn td htd hkind
  have hnestU : ∀ f ∈ un, ∀ t fd, PU c Sb tn allInc t → c.S.field? tn t.name = some fd →
      Coh c (fdepth f) (SubSet c Sb tn allInc t.key) fd.ty.unwrapped := by
    intro f hfm t fd ht hfd
    refine coh_mono _ _ ?_ _ _ (hnest t fd ht hfd)
    have := fsdepth_mem hfm; simp only [bdepth]; omega
  have hnestA : ∀ f ∈ al, ∀ t fd, PU c Sb tn allInc t → c.S.field? tn t.name = some fd →
      Coh c (fdepth f) (SubSet c Sb tn allInc t.key) fd.ty.unwrapped := by
    intro f hfm t fd ht hfd
    refine coh_mono _ _ ?_ _ _ (hnest t fd ht hfd)
    have := fsdepth_mem hfm; simp only [bdepth]; omega
  simp only [Branch.vars, Branch.typeName]
  constructor
  · intro σ g v hag hg hset
    obtain ⟨hu, ha, hcov⟩ := hf σ hag
    obtain ⟨kvs, rfl, hF, hK⟩ := hset
    simp only [DenBranch]
    refine ⟨ofs, hofs, kvs, rfl, ?_, ?_, ?_⟩
    · rw [denFields_iff]
      intro f hfm _
      exact (hun f hfm tn σ Sb false ss g (relFields_iff.1 hu f hfm) hpe hcohAt (hnestU f hfm) hg).1 kvs hF hK
    · rw [denFields_iff]
      intro f hfm _
      exact (hal f hfm tn σ Sb true ss g (relFields_iff.1 ha f hfm) hpe hcohAt (hnestA f hfm) hg).1 kvs hF hK
    · intro kv hkv
      rcases hK kv hkv with h | ⟨e', he', hk'⟩
      · exact Or.inl h
      · obtain ⟨k', fs⟩ := e'
        simp only at hk'; subst hk'
        obtain ⟨f0, rest, alx, _, hpu⟩ := group_head hpe hg he'
        obtain ⟨f, hfm, hname, hne⟩ := hcov _ hpu
        by_cases hax : alx = true
        · simp only [hax, ↓reduceIte] at hfm
          exact Or.inr (Or.inr ⟨f, hfm, hname⟩)
        · simp only [hax, Bool.false_eq_true, ↓reduceIte] at hfm
          exact Or.inr (Or.inl ⟨f, hfm, un_declared H htd hkind hofs (relFields_iff.1 hu f hfm) hne, hname⟩)
  · intro D v hfuel hwf hden
    simp only [DenBranch] at hden
    obtain ⟨ofs', hofs', kvs, rfl, hdu, hda, hkeys⟩ := hden
    rw [hofs] at hofs'; cases hofs'
    rw [denFields_iff] at hdu hda
    obtain ⟨hu, ha, hcov⟩ := hf (sigmaOf vars) hself
    obtain ⟨g, hg, hgf⟩ := collectFields_fuel hfuel (sigmaOf vars) tn
    rw [refLocalN_succ_iff]
    refine ⟨sigmaOf vars, g, hg, kvs, rfl, ?_, ?_⟩
    · rintro ⟨k, fs⟩ he'
      simp only
      obtain ⟨f0, rest, alx, _, hpu⟩ := group_head hpe hg he'
      obtain ⟨f, hfm, hname, hne⟩ := hcov _ hpu
      simp only at hname
      by_cases hax : alx = true
      · simp only [hax, ↓reduceIte] at hfm
        have hd := hda f hfm rfl
        have := (hal f hfm tn _ Sb true ss g (relFields_iff.1 ha f hfm) hpe hcohAt (hnestA f hfm) hg).2 D kvs fs hgf hwf hne
          (hname ▸ he') hd
        rw [hname] at this
        refine fieldOkP_mono (refLocalN_mono c _ _ ?_) this
        have := fsdepth_mem hfm; simp only [bdepth]; omega
      · simp only [hax, Bool.false_eq_true, ↓reduceIte] at hfm
        have hd := hdu f hfm (un_declared H htd hkind hofs (relFields_iff.1 hu f hfm) hne)
        have := (hun f hfm tn _ Sb false ss g (relFields_iff.1 hu f hfm) hpe hcohAt (hnestU f hfm) hg).2 D kvs fs hgf hwf hne
          (hname ▸ he') hd
        rw [hname] at this
        refine fieldOkP_mono (refLocalN_mono c _ _ ?_) this
        have := fsdepth_mem hfm; simp only [bdepth]; omega
    · intro kv hkv
      have hnd : (kvs.map (·.1)).Nodup := by simp only [JWf] at hwf; exact hwf.1
      have hget := jget_of_mem hnd kv hkv
      have fin : ∀ (tag : Bool) (f : SField), RelField c tn (sigmaOf vars) Sb tag f → f.name = kv.1 →
          DenField e r orig tn f (J.get kvs f.name) → kv.2 = .absent ∨ ∃ e' ∈ g, e'.1 = kv.1 := by
        intro tag f hr hname hd
        cases f with
        | empty k =>
          simp only [DenField, SField.name] at hd hname
          rw [hname, hget] at hd; exact Or.inl hd
        | leaf k ty b =>
          simp only [RelField] at hr
          obtain ⟨t, ht, hkey, _⟩ := hr
          obtain ⟨fs, hfs⟩ := group_of hpe hg ht
          simp only [SField.name] at hname
          exact Or.inr ⟨_, hfs, by simp [hkey, hname]⟩
        | object k T =>
          simp only [RelField] at hr
          obtain ⟨t, fd, ht, hkey, _⟩ := hr
          obtain ⟨fs, hfs⟩ := group_of hpe hg ht
          simp only [SField.name] at hname
          exact Or.inr ⟨_, hfs, by simp [hkey, hname]⟩
      rcases hkeys kv hkv with h | ⟨f, hfm, hdeclf, hname⟩ | ⟨f, hfm, hname⟩
      · exact Or.inl h
      · exact fin false f (relFields_iff.1 hu f hfm) hname (hdu f hfm hdeclf)
      · exact fin true f (relFields_iff.1 ha f hfm) hname (hda f hfm rfl)

theorem treeStmt_object (H : Hyp c e r orig) (bs : List Branch) (hbs : ∀ b ∈ bs, BranchStmt c e r orig b) :
    TreeStmt c e r orig (.object bs) := by
  intro ty Sb ss nn hrel hpe hcoh
  cases ty <;> simp only [RelTree] at hrel
  rename_i n p
  obtain ⟨hcomp, hcov, hrb⟩ := hrel
  simp only [GType.unwrapped, tdepth] at hcoh
  have hb : ∀ b ∈ bs, _ := fun b hb => hbs b hb n Sb ss (relBranches_iff.1 hrb b hb) hpe
    (coh_mono _ _ (by have := bsdepth_mem hb; omega) _ _ hcoh)
  have hN : ∀ R v, NamedP c R ss n v ↔ ∃ o ∈ c.S.possibleTypes n, R o ss v := by
    intro R v; simp only [NamedP, hcomp, ↓reduceIte]
  constructor
  · intro v hv
    have main : NamedP c (RefLocal c) ss n v → DenTree e r orig (.object bs) nn v := by
      intro hn
      obtain ⟨o, ho, hr⟩ := (hN _ _).1 hn
      obtain ⟨σ, g, hg, hset⟩ := refLocal_unfold hr
      obtain ⟨b, hbm, rfl, hag⟩ := hcov o ho σ
      simp only [DenTree]
      exact Or.inr ((denBranches_iff v bs).2 ⟨b, hbm, (hb b hbm).1 σ g v hag hg hset⟩)
    simp only [CompP] at hv
    split at hv
    · exact main hv.2
    · rename_i hnn
      rcases hv with rfl | hv
      · simp only [DenTree]; exact Or.inl (by simpa using hnn)
      · exact main hv
  · intro D hfuel v hwf hden
    simp only [DenTree] at hden
    simp only [CompP, tdepth]
    have main : DenBranches e r orig bs v → v ≠ .null ∧ NamedP c (RefLocalN c (bsdepth bs + 1)) ss n v := by
      intro hd
      obtain ⟨b, hbm, hdb⟩ := (denBranches_iff v bs).1 hd
      have h1 := (hb b hbm).2 D v hfuel hwf hdb
      have hposs := relBranch_poss (relBranches_iff.1 hrb b hbm)
      refine ⟨?_, (hN _ _).2 ⟨b.typeName, hposs, refLocalN_mono c _ _ (by have := bsdepth_mem hbm; omega) _ _ _ h1⟩⟩
      rintro rfl
      cases b; simp only [DenBranch] at hdb
      obtain ⟨_, _, _, h, _⟩ := hdb; cases h
    split
    · rename_i hnn
      rcases hden with ⟨h, _⟩ | hd
      · rw [hnn] at h; cases h
      · exact main hd
    · rcases hden with ⟨_, h⟩ | hd
      · exact Or.inl h
      · exact Or.inr (main hd).2

mutual
theorem adeq_tree (H : Hyp c e r orig) : ∀ (T : SelTree), TreeStmt c e r orig T
  | .nonNull T => by
    intro ty Sb ss nn hrel hpe hcoh
    cases ty <;> simp only [RelTree] at hrel
    rename_i ty'
    simp only [GType.unwrapped, tdepth] at hcoh
    have ih := adeq_tree H T ty' Sb ss true hrel hpe hcoh
    simp only [CompP, DenTree, tdepth]
    exact ih
  | .list T => by
    intro ty Sb ss nn hrel hpe hcoh
    cases ty <;> simp only [RelTree] at hrel
    rename_i ty' p
    simp only [GType.unwrapped, tdepth] at hcoh
    have ih := adeq_tree H T ty' Sb ss false hrel hpe hcoh
    simp only [CompP, DenTree, tdepth]
    constructor
    · rintro v (h | ⟨xs, rfl, hx⟩)
      · exact Or.inl h
      · exact Or.inr ⟨xs, rfl, fun x hxm => ih.1 x (hx x hxm)⟩
    · rintro D hfuel v hwf (h | ⟨xs, rfl, hx⟩)
      · exact Or.inl h
      · simp only [JWf] at hwf
        exact Or.inr ⟨xs, rfl, fun x hxm => ih.2 D hfuel x (jWfList_iff.1 hwf x hxm) (hx x hxm)⟩
  | .object bs => treeStmt_object H bs (adeq_branches H bs)
theorem adeq_branches (H : Hyp c e r orig) : ∀ (bs : List Branch), ∀ b ∈ bs, BranchStmt c e r orig b
  | [], _, h => by cases h
  | b0 :: bs, b, h => by
    rcases List.mem_cons.1 h with h | h
    · exact h ▸ adeq_branch H b0
    · exact adeq_branches H bs b h
theorem adeq_branch (H : Hyp c e r orig) : ∀ (b : Branch), BranchStmt c e r orig b
  | .mk tn vars un al => branchStmt_of H tn vars un al (adeq_fields H un) (adeq_fields H al)
theorem adeq_fields (H : Hyp c e r orig) : ∀ (fs : List SField), ∀ f ∈ fs, FieldStmt c e r orig f
  | [], _, h => by cases h
  | f0 :: fs, f, h => by
    rcases List.mem_cons.1 h with h | h
    · exact h ▸ adeq_field H f0
    · exact adeq_fields H fs f h
theorem adeq_field (H : Hyp c e r orig) : ∀ (f : SField), FieldStmt c e r orig f
  | .empty k => fieldStmt_empty k
  | .leaf k ty b => fieldStmt_leaf H k ty b
  | .object k T => fieldStmt_object k T (adeq_tree H T)
end

end
end NitroVerif.OpTypes.Ref
