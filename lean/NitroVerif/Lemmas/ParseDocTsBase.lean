/-
Type-system definitions, shared pieces: optional descriptions and one
`InputValueDefinition = { Description? ~ Name ~ ":" ~ Type ~ DefaultValue? ~ Directives? }`.
-/
import NitroVerif.Lemmas.ParseDocVar
namespace NitroVerif.DocParse
open NitroVerif.Peg NitroVerif.Gen NitroVerif.Gen.Parts NitroVerif.Build NitroVerif.TypeParse NitroVerif.StringParse
open NitroVerif.Gql NitroVerif.ValueParse NitroVerif.Spec.Lex

variable {inp : List Char}

theorem length_app₃ (p : Nat) (a b c : List Char) :
    p + (a ++ (b ++ c)).length = p + a.length + b.length + c.length := by
  simp only [List.length_append, Nat.add_assoc]

/-- `"…" gap`, nothing without a description -/
def rOptDesc (τ : Trivia) (p : Nat) : Option String → List Char
  | none => []
  | some s => tk τ false p (quoted s.toList)

theorem hd_rOptDesc (τ : Trivia) (p : Nat) (d : Option String) :
    rOptDesc τ p d = [] ∨ Hd (· = '"') (rOptDesc τ p d) := by
  cases d with
  | none => exact Or.inl rfl
  | some s => exact Or.inr (hd_tk ⟨'"', _, rfl, rfl⟩)

theorem hd_desc_name (τ : Trivia) (p : Nat) (d : Option String) {t : List Char} (ht : Hd nameStart t) :
    Hd (fun c => nameStart c ∨ c = '"') (rOptDesc τ p d ++ t) := by
  cases d with
  | none => exact ht.mono fun _ h => Or.inl h
  | some s => exact Hd.append (hd_tk ⟨'"', _, rfl, Or.inr rfl⟩) _

theorem description_fails {p : Nat} (h : HeadNot (· = '"') (inp.drop p)) :
    Fails gList 12 true (.call R.Description) .nonAtomic (At inp p) :=
  first_fails (by decide) h

theorem clean_stringPair' (s : List Char) (p : Nat) : CleanP (stringPair s p) := clean_stringPair s p

theorem stringPair_rule (s : List Char) (p : Nat) : (stringPair s p).rule = R.StringValue := by
  cases s <;> rfl

theorem buildDescription_pair (s : String) (p e : Nat) (h : HasAt inp p (quoted s.toList)) :
    optDesc (Ctx.spec inp) (some (.mk R.Description p e [stringPair s.toList p])) = .ok (some s) := by
  have hsv := stringValueChars_stringPair (inp := inp) s.toList p _ h.drop
  simp [optDesc, buildDescription, onlyChildOf, onlyChild, Pair.children, OC_Description, stringPair_rule,
    buildStringValue, hsv, bind, Except.bind]

theorem optDescT {τ : Trivia} (hτ : ∀ q, Ws (τ q)) (d : Option String) {p : Nat} {t : List Char}
    (h : HasAt inp p (rOptDesc τ p d)) (ht : HasAt inp (p + (rOptDesc τ p d).length) t) (hd : Hd nameStart t) :
    ∃ o, ReadsOpt inp 4 R.Description p (rOptDesc τ p d) (fun _ => optDesc (Ctx.spec inp)) d o := by
  have hq := headNot_of_hd ht hd fun c hc => nameStart_ne (c := '"') hc (by decide)
  have htk := tok_of_hd ht hd fun _ => nameStart_not_trivia
  cases d with
  | none => exact ⟨_, .none (description_fails hq) htk (by decide) fun _ => rfl⟩
  | some s =>
    obtain ⟨e, rD⟩ := PartT.rule (r := R.Description) rfl (stringP hτ s.toList h htk hq)
    exact ⟨_, Reads.opt (bld := fun _ pr => optDesc (Ctx.spec inp) (some pr))
      ⟨rD.mono (by decide), rfl, rfl, fun _ _ => buildDescription_pair s p e h.left⟩ fun _ => rfl⟩

def rIVD (τ : Trivia) (sep : Bool) (p : Nat) (v : InputValueDef) : List Char :=
  let tD := rOptDesc τ p v.desc
  let tN := tk τ false (p + tD.length) v.name.toList
  let tC := tk τ false (p + tD.length + tN.length) [':']
  let tT := rType τ (sep && v.dirs.isEmpty && v.default.isNone) (p + tD.length + tN.length + tC.length) v.ty
  let tE := rOptDefault τ (sep && v.dirs.isEmpty) (p + tD.length + tN.length + tC.length + tT.length) v.default
  tD ++ (tN ++ (tC ++ (tT ++ (tE ++ rDirs τ sep (p + tD.length + tN.length + tC.length + tT.length + tE.length) v.dirs))))

def wpIVD (τ : Trivia) (inp : List Char) (sep : Bool) (p : Nat) (v : InputValueDef) : InputValueDef :=
  let tD := rOptDesc τ p v.desc
  let tN := tk τ false (p + tD.length) v.name.toList
  let tC := tk τ false (p + tD.length + tN.length) [':']
  let tT := rType τ (sep && v.dirs.isEmpty && v.default.isNone) (p + tD.length + tN.length + tC.length) v.ty
  let tE := rOptDefault τ (sep && v.dirs.isEmpty) (p + tD.length + tN.length + tC.length + tT.length) v.default
  { desc := v.desc, name := v.name, pos := posAt inp (p + tD.length),
    ty := wpType τ inp (p + tD.length + tN.length + tC.length) v.ty,
    default := wpOptDefault τ inp (p + tD.length + tN.length + tC.length + tT.length) v.default,
    dirs := wpDirs τ inp sep (p + tD.length + tN.length + tC.length + tT.length + tE.length) v.dirs }

def WFIVD (v : InputValueDef) : Prop := validName v.name.toList ∧ WF v.ty ∧ (∀ d ∈ v.default, WFV d) ∧ WFDirs v.dirs

/-- what must not follow an input value definition (`.` and `"` only if no gap separates them from it) -/
abbrev ivdBad (s : Bool) : Char → Prop :=
  fun c => c = '!' ∨ c = '=' ∨ c = '@' ∨ c = '(' ∨ (s = false ∧ (c = '.' ∨ c = '"'))

theorem hd_rIVD (τ : Trivia) (sep : Bool) (p : Nat) (v : InputValueDef) (hwf : WFIVD v) :
    Hd (fun d => nameStart d ∨ d = '"') (rIVD τ sep p v) := by
  simp only [rIVD]
  exact hd_desc_name τ p v.desc (Hd.append (hd_tk (hd_of_validName hwf.1)) _)

/-- an item that begins with a name or a description may follow an item after which only punctuation is excluded -/
theorem descName_head_ok {bad : Char → Prop} (hb : ∀ c, bad c → c = '!' ∨ c = '=' ∨ c = '@' ∨ c = '(') {t : List Char}
    (h : Hd (fun d => nameStart d ∨ d = '"') t) :
    Hd (fun d => ¬ trivia d ∧ ¬ bad d ∧ (true = false → ¬ nameCont d)) t := by
  refine h.mono ?_
  rintro c (hc | rfl)
  · refine ⟨nameStart_not_trivia hc, fun hbc => ?_, fun h => by cases h⟩
    rcases hb c hbc with rfl | rfl | rfl | rfl <;> exact absurd hc (by decide)
  · exact ⟨by decide, fun hbc => (by decide : ¬ ('"' = '!' ∨ '"' = '=' ∨ '"' = '@' ∨ '"' = '(')) (hb _ hbc), fun h => by cases h⟩

theorem ivdT (τ : Trivia) (hτ : ∀ q, Ws (τ q)) (v : InputValueDef) (hwf : WFIVD v) {sep : Bool} {p : Nat}
    (h : HasAt inp p (rIVD τ sep p v)) (hn : Nxt inp (ivdBad sep) sep (p + (rIVD τ sep p v).length)) :
    ∃ pr, Reads inp 30 R.InputValueDefinition p (rIVD τ sep p v) (buildInputValueDefinition (Ctx.spec inp))
      (wpIVD τ inp sep p v) pr := by
  obtain ⟨hname, hty, hdef, hdirs⟩ := hwf
  simp only [rIVD, wpIVD] at h hn ⊢
  have g1 := h.right.left
  have g2 := h.right.right
  obtain ⟨oS, S⟩ := optDescT hτ v.desc h.left g1 (hd_tk (hd_of_validName hname))
  have r1 := nameP hτ hname g1 (bad := fun _ => False)
    (Nxt.of_hd g2 (Hd.append (hd_tk (hd_cons (P := (· = ':')) _ rfl)) _) (by rintro c rfl; decide))
  obtain ⟨prT, oE, oD, rT, hrT, hrE, hrD, hb⟩ := typedP τ hτ v.ty hty v.default hdef v.dirs hdirs
    ⟨Or.inl rfl, Or.inr (Or.inl rfl), Or.inr (Or.inr (Or.inl rfl)), Or.inr (Or.inr (Or.inr (Or.inl rfl)))⟩
    (fun hs c hc => Or.inr (Or.inr (Or.inr (Or.inr ⟨hs, hc⟩)))) g2 hn.app.app rfl rfl rfl rfl
  obtain ⟨e, rR⟩ := PartT.rule (r := R.InputValueDefinition) rfl (S.part.seq (r1.seq rT))
  refine ⟨_, rR.mono (by decide), rfl, rfl, fun fuel hf => ?_⟩
  have hm := matchParts_slots P_InputValueDefinition [oS, some _, some prT, oE, oD] (by decide)
    ⟨S.rule, ⟨_, rfl, r1.pairRule⟩, ⟨_, rfl, hrT⟩, hrE, hrD, trivial⟩
  simp only [slotPairs, Option.toList_some, List.cons_append, List.nil_append] at hm
  obtain ⟨hbT, hbE, hbD⟩ := hb fuel (fuel_right (fuel_right hf))
  simp [buildInputValueDefinition, Pair.children, hm, S.build _ (Nat.le_refl _), hbT, hbE, hbD, asString_spec', toPos_spec', Pair.start,
    Pair.stop, g1.left.slice, bind, Except.bind]

end NitroVerif.DocParse
