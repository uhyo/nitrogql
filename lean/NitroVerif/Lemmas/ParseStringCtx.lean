/-
Any string literal in its two grammatical contexts (helper lemmas for Props/C07): a `StringValue` that is parsed
at some offset is parsed there as a `Value` (the earlier alternatives `Variable`, `IntValue`, `FloatValue` fail on `"`) and as a
`Description`; `build_value` / the description builder return the characters `build_string_value` returns. Generic in the
literal: used with `litValue_runs` (every escape form) and `blockString_runs` (block strings).
-/
import NitroVerif.Lemmas.ParseStringBuild
import NitroVerif.Lemmas.ParseBlockString
import NitroVerif.Lemmas.ParseValueAlt
namespace NitroVerif.StringParse
open NitroVerif.Peg NitroVerif.Gen NitroVerif.Gen.Parts NitroVerif.Build NitroVerif.Spec.Lex NitroVerif.TypeParse
open NitroVerif.ParseText NitroVerif.ValueParse

theorem look_Description' : gList.look R.Description = some (.normal, .call R.StringValue) := rfl

theorem value_of_string {n p : Nat} {r : List Char} {c' : Cur} {pr : Pair}
    (h : RunsRule gList n R.StringValue .nonAtomic ⟨p, '"' :: r⟩ c' [pr]) :
    RunsRule gList (max n 20 + 6) R.Value .nonAtomic ⟨p, '"' :: r⟩ c' [.mk R.Value p c'.pos [pr]] := by
  obtain ⟨f1, f2, f3⟩ := nonnum_fails (p := p) (text := '"' :: r) (headNot_cons (by decide) _) (headNot_cons (by decide) _)
  have h4 := runs_call (sk := true) h
  have := value_rule (runs_choice_r' f1 (runs_choice_r' f2 (runs_choice_r' f3 (runs_choice_l h4))))
  exact RunsRule.cast (this.mono (by simp only [Nat.add_le_add_iff_right, Nat.max_le]; omega)) rfl rfl rfl

theorem description_of_string {n p : Nat} {r : List Char} {c' : Cur} {pr : Pair}
    (h : RunsRule gList n R.StringValue .nonAtomic ⟨p, '"' :: r⟩ c' [pr]) :
    RunsRule gList (n + 2) R.Description .nonAtomic ⟨p, '"' :: r⟩ c' [.mk R.Description p c'.pos [pr]] :=
  runsRule_normal look_Description' (notSpecial (by decide) (by decide)) (runs_call h)

theorem buildValue_string {ctx : Ctx} {pr : Pair} {cs : List Char} {pos : Gql.Pos} (hr : pr.rule = R.StringValue)
    (hsv : stringValueChars ctx pr = .ok (cs, pos)) (fuel s e : Nat) :
    buildValue ctx (fuel + 1) (.mk R.Value s e [pr]) = .ok (.str (String.ofList cs) pos) := by
  simp [buildValue, onlyChildOf, onlyChild, Pair.children, OC_Value, hr, buildStringValue, hsv, bind, Except.bind,
    R.Variable, R.IntValue, R.FloatValue, R.StringValue]

theorem buildDescription_string {ctx : Ctx} {pr : Pair} {cs : List Char} {pos : Gql.Pos} (hr : pr.rule = R.StringValue)
    (hsv : stringValueChars ctx pr = .ok (cs, pos)) (s e : Nat) :
    buildDescription ctx (.mk R.Description s e [pr]) = .ok (String.ofList cs) := by
  simp [buildDescription, onlyChildOf, onlyChild, Pair.children, OC_Description, hr, buildStringValue, hsv, bind,
    Except.bind]

theorem litPair_rule (its : List SItem) (p : Nat) : (litPair its p).rule = R.StringValue := rfl
theorem blockPair_rule (n p : Nat) : (blockPair n p).rule = R.StringValue := rfl

end NitroVerif.StringParse
