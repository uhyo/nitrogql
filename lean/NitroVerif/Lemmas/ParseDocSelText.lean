/-
Selections as texts with a gap after every token (`rSel`, `rSels`, `rSelSet`), the selection with the positions of its
tokens (`wpSel`), the side conditions (`WFSel`).
-/
import NitroVerif.Lemmas.ParseDocDirs
namespace NitroVerif.DocParse
open NitroVerif.Peg NitroVerif.Gen NitroVerif.Gen.Parts NitroVerif.Build NitroVerif.TypeParse NitroVerif.StringParse
open NitroVerif.Gql NitroVerif.ValueParse NitroVerif.Spec.Lex

abbrev dots : List Char := ['.', '.', '.']
abbrev kwOn : List Char := ['o', 'n']

/-- `alias gap : gap` -/
def rAlias (τ : Trivia) (p : Nat) : Option (Name × Pos) → List Char
  | none => []
  | some (a, _) => tk τ false p a.toList ++ tk τ false (p + (tk τ false p a.toList).length) [':']

/-- `( … ) gap`, nothing for an empty argument list -/
def rOptArgs (τ : Trivia) (sep : Bool) (p : Nat) : List Arg → List Char
  | [] => []
  | a :: as => tk τ sep p (renderArgs τ p (a :: as))

/-- alias, name, arguments, directives of a field, each token followed by its gap; `sD`: the last gap is made non-empty -/
def rHead (τ : Trivia) (sD : Bool) (p : Nat) (al : Option (Name × Pos)) (n : Name) (args : List Arg)
    (dirs : List Directive) : List Char :=
  let tA := rAlias τ p al
  let tN := tk τ (sD && dirs.isEmpty && args.isEmpty) (p + tA.length) n.toList
  let tG := rOptArgs τ (sD && dirs.isEmpty) (p + tA.length + tN.length) args
  tA ++ (tN ++ (tG ++ rDirs τ sD (p + tA.length + tN.length + tG.length) dirs))

def hOffN (τ : Trivia) (p : Nat) (al : Option (Name × Pos)) : Nat := p + (rAlias τ p al).length
def hOffG (τ : Trivia) (sD : Bool) (p : Nat) (al : Option (Name × Pos)) (n : Name) (args : List Arg)
    (dirs : List Directive) : Nat :=
  hOffN τ p al + (tk τ (sD && dirs.isEmpty && args.isEmpty) (hOffN τ p al) n.toList).length
def hOffD (τ : Trivia) (sD : Bool) (p : Nat) (al : Option (Name × Pos)) (n : Name) (args : List Arg)
    (dirs : List Directive) : Nat :=
  hOffG τ sD p al n args dirs + (rOptArgs τ (sD && dirs.isEmpty) (hOffG τ sD p al n args dirs) args).length

/-- `on gap Type gap` -/
def rCond (τ : Trivia) (sep : Bool) (p : Nat) : Option (Name × Pos) → List Char
  | none => []
  | some (t, _) => tk τ true p kwOn ++ tk τ sep (p + (tk τ true p kwOn).length) t.toList

mutual
/-- a selection, every token followed by its gap; `sep`: the gap after the last token is made non-empty -/
def rSel (τ : Trivia) : Bool → Nat → Selection → List Char
  | sep, p, .field al n _ args dirs none => rHead τ sep p al n args dirs
  | sep, p, .field al n _ args dirs (some ss) =>
    let tH := rHead τ false p al n args dirs
    let tO := tk τ false (p + tH.length) ['{']
    let tI := rSels τ (p + tH.length + tO.length) ss
    tH ++ (tO ++ (tI ++ tk τ sep (p + tH.length + tO.length + tI.length) ['}']))
  | sep, p, .spread n _ dirs _ =>
    let t0 := tk τ false p dots
    let tN := tk τ (sep && dirs.isEmpty) (p + t0.length) n.toList
    t0 ++ (tN ++ rDirs τ sep (p + t0.length + tN.length) dirs)
  | sep, p, .inline cond dirs ss _ =>
    let t0 := tk τ false p dots
    let tC := rCond τ false (p + t0.length) cond
    let tD := rDirs τ false (p + t0.length + tC.length) dirs
    let tO := tk τ false (p + t0.length + tC.length + tD.length) ['{']
    let tI := rSels τ (p + t0.length + tC.length + tD.length + tO.length) ss
    t0 ++ (tC ++ (tD ++ (tO ++ (tI ++ tk τ sep (p + t0.length + tC.length + tD.length + tO.length + tI.length) ['}']))))
/-- the selections of a selection set: a non-empty gap between two selections -/
def rSels (τ : Trivia) : Nat → List Selection → List Char
  | _, [] => []
  | p, [s] => rSel τ false p s
  | p, s :: t :: r => rSel τ true p s ++ rSels τ (p + (rSel τ true p s).length) (t :: r)
end

/-- `{ gap selections } gap` -/
def rSelSet (τ : Trivia) (sep : Bool) (p : Nat) (ss : List Selection) : List Char :=
  let tO := tk τ false p ['{']
  let tI := rSels τ (p + tO.length) ss
  tO ++ (tI ++ tk τ sep (p + tO.length + tI.length) ['}'])

def wpAlias (inp : List Char) (p : Nat) : Option (Name × Pos) → Option (Name × Pos)
  | none => none
  | some (a, _) => some (a, posAt inp p)

def wpField (τ : Trivia) (inp : List Char) (sD : Bool) (p : Nat) (al : Option (Name × Pos)) (n : Name) (args : List Arg)
    (dirs : List Directive) (sel : Option (List Selection)) : Selection :=
  .field (wpAlias inp p al) n (posAt inp (hOffN τ p al)) (withPosFs τ inp (hOffG τ sD p al n args dirs + 1) true args)
    (wpDirs τ inp sD (hOffD τ sD p al n args dirs) dirs) sel

def wpCond (τ : Trivia) (inp : List Char) (p : Nat) : Option (Name × Pos) → Option (Name × Pos)
  | none => none
  | some (t, _) => some (t, posAt inp (p + (tk τ true p kwOn).length))

mutual
def wpSel (τ : Trivia) (inp : List Char) : Bool → Nat → Selection → Selection
  | sep, p, .field al n _ args dirs none => wpField τ inp sep p al n args dirs none
  | _, p, .field al n _ args dirs (some ss) =>
    let tH := rHead τ false p al n args dirs
    let tO := tk τ false (p + tH.length) ['{']
    wpField τ inp false p al n args dirs (some (wpSels τ inp (p + tH.length + tO.length) ss))
  | sep, p, .spread n _ dirs _ =>
    let t0 := tk τ false p dots
    let tN := tk τ (sep && dirs.isEmpty) (p + t0.length) n.toList
    .spread n (posAt inp (p + t0.length)) (wpDirs τ inp sep (p + t0.length + tN.length) dirs) (posAt inp p)
  | _, p, .inline cond dirs ss _ =>
    let t0 := tk τ false p dots
    let tC := rCond τ false (p + t0.length) cond
    let tD := rDirs τ false (p + t0.length + tC.length) dirs
    let tO := tk τ false (p + t0.length + tC.length + tD.length) ['{']
    .inline (wpCond τ inp (p + t0.length) cond) (wpDirs τ inp false (p + t0.length + tC.length) dirs)
      (wpSels τ inp (p + t0.length + tC.length + tD.length + tO.length) ss) (posAt inp p)
def wpSels (τ : Trivia) (inp : List Char) : Nat → List Selection → List Selection
  | _, [] => []
  | p, [s] => [wpSel τ inp false p s]
  | p, s :: t :: r => wpSel τ inp true p s :: wpSels τ inp (p + (rSel τ true p s).length) (t :: r)
end

mutual
def WFSel : Selection → Prop
  | .field al n _ args dirs none =>
    (∀ a ∈ al, validName a.1.toList) ∧ validName n.toList ∧ WFFs args ∧ WFDirs dirs
  | .field al n _ args dirs (some ss) =>
    (∀ a ∈ al, validName a.1.toList) ∧ validName n.toList ∧ WFFs args ∧ WFDirs dirs ∧ ss ≠ [] ∧ WFSels ss
  | .spread n _ dirs _ => validName n.toList ∧ n.toList ≠ kwOn ∧ WFDirs dirs
  | .inline cond dirs ss _ => (∀ c ∈ cond, validName c.1.toList) ∧ WFDirs dirs ∧ ss ≠ [] ∧ WFSels ss
def WFSels : List Selection → Prop
  | [] => True
  | s :: r => WFSel s ∧ WFSels r
end

end NitroVerif.DocParse
