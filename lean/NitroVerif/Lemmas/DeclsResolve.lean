/-
Name resolution in declaration tables (`Ts/Sem.lean`): the declarations a statement list contributes when it stands
in a scope (`Stmt.declsList`), the names its `type` statements bind (`Stmt.typeNamesList`), and the fact that a
successful lexical resolution of `n` returns a declaration of the table named `n`
(used to show that identifiers of scalar texts are bound by NO declaration of the generated schema file).
Binding time: what `globalise` makes of a reference that resolves, and the stored body `Decls.body?` of a bound declaration.
-/
import NitroVerif.Ts.Sem
import NitroVerif.Lemmas.ListFacts
namespace NitroVerif.Ts

mutual
/-- names bound by the `type` statements of a statement (at any namespace depth) -/
def Stmt.typeNames : Stmt → List String
  | .type _ n _ _ => [n]
  | .rawType _ n _ => [n]
  | .namespace _ _ body => Stmt.typeNamesList body
  | _ => []
def Stmt.typeNamesList : List Stmt → List String
  | [] => []
  | s :: r => s.typeNames ++ Stmt.typeNamesList r
end

mutual
/-- the declarations a statement contributes when it stands in `scope` -/
def Stmt.decls (scope : Scope) : Stmt → List Decl
  | .type ex n ps t => [⟨scope, n, ex, ps.map (·.1), t⟩]
  | .rawType ex n text => [⟨scope, n, ex, [], .other "raw" [text]⟩]
  | .namespace _ n body => Stmt.declsList (scope ++ [n]) body
  | _ => []
def Stmt.declsList (scope : Scope) : List Stmt → List Decl
  | [] => []
  | s :: r => s.decls scope ++ Stmt.declsList scope r
end

theorem typeNamesList_append (a b : List Stmt) :
    Stmt.typeNamesList (a ++ b) = Stmt.typeNamesList a ++ Stmt.typeNamesList b := by
  induction a with
  | nil => rfl
  | cons s r ih => simp only [List.cons_append, Stmt.typeNamesList, ih, List.append_assoc]

theorem typeNamesList_flatMap {α : Type} (l : List α) (f : α → List Stmt) (n : String)
    (h : n ∈ Stmt.typeNamesList (l.flatMap f)) : ∃ a ∈ l, n ∈ Stmt.typeNamesList (f a) := by
  induction l with
  | nil => cases h
  | cons a r ih =>
    rw [List.flatMap_cons, typeNamesList_append, List.mem_append] at h
    rcases h with h | h
    · exact ⟨a, List.mem_cons_self, h⟩
    · obtain ⟨b, hb, hn⟩ := ih h
      exact ⟨b, List.mem_cons_of_mem _ hb, hn⟩

theorem declsList_append (sc : Scope) (a b : List Stmt) :
    Stmt.declsList sc (a ++ b) = Stmt.declsList sc a ++ Stmt.declsList sc b := by
  induction a with
  | nil => rfl
  | cons s r ih => simp only [List.cons_append, Stmt.declsList, ih, List.append_assoc]

theorem declsList_flatMap {α : Type} (sc : Scope) (l : List α) (f : α → List Stmt) :
    Stmt.declsList sc (l.flatMap f) = l.flatMap fun a => Stmt.declsList sc (f a) := by
  induction l with
  | nil => rfl
  | cons a r ih => rw [List.flatMap_cons, declsList_append, ih, List.flatMap_cons]

/-- the test `findLocal` performs -/
def isDeclAt (sc : Scope) (n : String) (d : Decl) : Bool := d.scope == sc && d.name == n

theorem findLocal_eq (D : Decls) (sc : Scope) (n : String) : D.findLocal sc n = D.types.find? (isDeclAt sc n) := rfl

mutual
theorem typeNames_eq_decls : ∀ (s : Stmt) (sc : Scope), s.typeNames = (s.decls sc).map (·.name)
  | .type .., _ => rfl
  | .rawType .., _ => rfl
  | .namespace _ n body, sc => typeNamesList_eq_decls body (sc ++ [n])
  | .import .., _ => rfl
  | .exportList .., _ => rfl
  | .const .., _ => rfl
  | .exportDefault .., _ => rfl
  | .doc .., _ => rfl
theorem typeNamesList_eq_decls : ∀ (ss : List Stmt) (sc : Scope),
    Stmt.typeNamesList ss = (Stmt.declsList sc ss).map (·.name)
  | [], _ => rfl
  | s :: r, sc => by
    rw [Stmt.typeNamesList, Stmt.declsList, List.map_append, ← typeNames_eq_decls s sc, ← typeNamesList_eq_decls r sc]
end

theorem declsList_name_mem (ss : List Stmt) (sc : Scope) :
    ∀ d ∈ Stmt.declsList sc ss, d.name ∈ Stmt.typeNamesList ss := fun d hd => by
  rw [typeNamesList_eq_decls ss sc]; exact List.mem_map_of_mem hd

theorem findLocal_some {d : Decls} {scope : Scope} {n : String} {x : Decl} (h : d.findLocal scope n = some x) :
    x ∈ d.types ∧ x.name = n := by
  rw [findLocal_eq] at h
  refine ⟨List.mem_of_find?_eq_some h, ?_⟩
  have := List.find?_some h
  simp only [isDeclAt, Bool.and_eq_true, beq_iff_eq] at this
  exact this.2

theorem resolveRefAux_some {d : Decls} {n : String} : ∀ (fuel : Nat) (scope : Scope) (x : Decl),
    Decls.resolveRefAux d n fuel scope = some x → x ∈ d.types ∧ x.name = n := by
  intro fuel
  induction fuel with
  | zero => intro scope x h; cases h
  | succ fuel ih =>
    intro scope x h
    simp only [Decls.resolveRefAux] at h
    split at h
    · rename_i y hy; cases h; exact findLocal_some hy
    · split at h
      · cases h
      · exact ih _ _ h

theorem resolveRef_of_findLocal {D : Decls} {sc : Scope} {n : String} {x : Decl} (h : D.findLocal sc n = some x) :
    D.resolveRef sc n = some x := by
  simp [Decls.resolveRef, Decls.resolveRefAux, h]

theorem resolveQ_member {d : Decls} {sc P : Scope} {A x : String}
    (hA : d.resolveNsAux A (sc.length + 1) sc = some P) : d.resolveQ sc [A, x] = d.findExported P x := by
  have e1 : [x].dropLast = [] := rfl
  have e2 : [x].getLast? = some x := rfl
  simp only [Decls.resolveQ, hA, e1, e2, List.append_nil, List.length_singleton, beq_self_eq_true, Bool.or_true, if_true]

theorem resolveQ_member₂ {d : Decls} {sc P : Scope} {A m x : String}
    (hA : d.resolveNsAux A (sc.length + 1) sc = some P) (hm : d.namespaces.contains (P ++ [m]) = true) :
    d.resolveQ sc [A, m, x] = d.findExported (P ++ [m]) x := by
  have e1 : [m, x].dropLast = [m] := rfl
  have e2 : [m, x].getLast? = some x := rfl
  simp only [Decls.resolveQ, hA, e1, e2, hm, Bool.true_or, if_true]

theorem globalise_of_resolveRef {D : Decls} {sc : Scope} {n : String} {d : Decl} (h : D.resolveRef sc n = some d) :
    globalise D sc [] (.ref n) = Ty.abs d.scope d.name := by
  simp only [globalise, List.contains_nil, Bool.false_eq_true, if_false, h]

theorem globalise_ref_unbound {D : Decls} {sc : Scope} {n : String} (h : D.resolveRef sc n = none) :
    globalise D sc [] (.ref n) = .ref n := by
  simp only [globalise, List.contains_nil, Bool.false_eq_true, if_false, h]

theorem globalise_of_resolveQ {D : Decls} {sc : Scope} {n : String} {p : List String} {d : Decl}
    (h : D.resolveQ sc (n :: p) = some d) : globalise D sc [] (.qref (n :: p)) = Ty.abs d.scope d.name := by
  simp only [globalise, List.contains_nil, Bool.false_eq_true, if_false, h]

theorem body?_of_findLocal {D : Decls} {sc : Scope} {n : String} {d : Decl} (h : D.findLocal sc n = some d) :
    D.body? (sc ++ [n]) = some (d.params, globalise D d.scope d.params d.ty) := by
  simp only [Decls.body?, List.getLast?_concat, List.dropLast_concat, h]

end NitroVerif.Ts
