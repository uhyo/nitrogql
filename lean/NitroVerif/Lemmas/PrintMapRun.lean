import NitroVerif.Lemmas.SourceMapWriter
import NitroVerif.Lemmas.PrintMap
/-!
# C06 — printer call sites composed with the model of `SourceWriter`

What a run of trait calls keeps besides `Inv`: everything emitted so far — buffer, mapping log, names table — only grows and
the file mapper stays (`Grow`, by cases on the move, for any cache policy); the only call that can panic is the file-index
lookup (`step_total`, `run_total`). `NamedSegment` says what a named `write_for` leaves in the final state; `Props/C06Sites.lean`
(`named_site_segment`) proves it by cutting the run at the call.
-/
namespace NitroVerif.PrintMap
open NitroVerif.SourceMap

/-- everything emitted so far stays: buffer, mapping log and names table are extended at the end only; the file mapper
    does not change -/
structure Grow (a b : WState) : Prop where
  buf : ∃ x, b.buf = a.buf ++ x
  log : ∃ y, b.mapping.log = a.mapping.log ++ y
  names : ∃ z, b.names.names = a.names.names ++ z
  mapper : b.mapper = a.mapper

theorem grow_refl (a : WState) : Grow a a := ⟨⟨[], by simp⟩, ⟨[], by simp⟩, ⟨[], by simp⟩, rfl⟩

theorem grow_trans {a b c : WState} (h1 : Grow a b) (h2 : Grow b c) : Grow a c := by
  obtain ⟨⟨x1, b1⟩, ⟨y1, l1⟩, ⟨z1, n1⟩, m1⟩ := h1
  obtain ⟨⟨x2, b2⟩, ⟨y2, l2⟩, ⟨z2, n2⟩, m2⟩ := h2
  exact ⟨⟨x1 ++ x2, by rw [b2, b1, List.append_assoc]⟩, ⟨y1 ++ y2, by rw [l2, l1, List.append_assoc]⟩,
    ⟨z1 ++ z2, by rw [n2, n1, List.append_assoc]⟩, m2.trans m1⟩

theorem grow_of_eq {a b : WState} (hl : b.mapping.log = a.mapping.log) (hn : b.names = a.names) (hm : b.mapper = a.mapper)
    (hb : ∃ x, b.buf = a.buf ++ x) : Grow a b :=
  ⟨hb, ⟨[], by simp [hl]⟩, ⟨[], by simp [hn]⟩, hm⟩

theorem grow_prim {p : Policy} {a b : WState} {x : List Char} (h : Prim p a x b) : Grow a b := by
  cases h with
  | text | flush | newline => exact grow_of_eq rfl rfl rfl ⟨_, rfl⟩
  | indent => exact grow_of_eq rfl rfl rfl ⟨[], (List.append_nil _).symm⟩
  | entry => exact ⟨⟨[], by simp [wAddEntry]⟩, ⟨[_], rfl⟩, ⟨[], by simp [wAddEntry]⟩, rfl⟩
  | name nm =>
    refine ⟨⟨[], by simp⟩, ⟨[], by simp⟩, ?_, rfl⟩
    -- the names table grows whatever the cache holds
    unfold mapName
    split
    · exact ⟨[], by simp⟩
    · exact ⟨[nm], rfl⟩

theorem grow_step (p : Policy) {st st' : WState} {op : Op} (hr : step p st op = some st')
    (hm : NoMapper op) : Grow st st' :=
  step_prims p (R := fun a _ b => Grow a b) grow_refl grow_trans grow_prim hr hm

theorem grow_run (p : Policy) {ops : List Op} {st st' : WState} (hm : ∀ op ∈ ops, NoMapper op)
    (hr : run p st ops = some st') : Grow st st' :=
  run_prims p (R := fun a _ b => Grow a b) grow_refl grow_trans grow_prim hm hr

theorem run_append (p : Policy) (a b : List Op) : ∀ st, run p st (a ++ b) = (run p st a).bind fun s => run p s b := by
  induction a with
  | nil => intro st; rfl
  | cons op a ih =>
    intro st
    simp only [List.cons_append, run]
    cases step p st op with
    | none => rfl
    | some s1 => exact ih s1

theorem toOp_noMapper (ops : List POp) : ∀ op ∈ ops.map POp.toOp, NoMapper op := by
  intro op hop
  obtain ⟨o, _, rfl⟩ := List.mem_map.mp hop
  cases o <;> simp [POp.toOp, NoMapper]

/-- every mapped call's file is inside the file mapper (vacuous without a mapper) -/
def FilesInMapper (mapper : Option (List Nat)) (ops : List POp) : Prop :=
  ∀ m, mapper = some m → ∀ t q n, POp.writeFor t q n ∈ ops → q.builtin = false → q.file < m.length

/-- the only call of a printer that can panic in the writer is the lookup `map[original_pos.file]` -/
theorem step_total (p : Policy) (st : WState) (op : POp) (hm : FilesInMapper st.mapper [op]) :
    ∃ s1, step p st (POp.toOp op) = some s1 := by
  cases op with
  | write t => exact ⟨_, rfl⟩
  | indent => exact ⟨_, rfl⟩
  | dedent => exact ⟨_, rfl⟩
  | writeFor t q n =>
    simp only [POp.toOp, step, writeFor]
    cases hb : q.builtin
    · cases hmp : st.mapper with
      | none =>
        simp only [Bool.false_eq_true, if_false]
        cases n <;> exact ⟨_, rfl⟩
      | some m =>
        have hlt := hm m hmp t q n (by simp) hb
        simp only [Bool.false_eq_true, if_false, List.getElem?_eq_getElem hlt]
        cases n <;> exact ⟨_, rfl⟩
    · exact ⟨_, rfl⟩

theorem run_total (p : Policy) (ops : List POp) (st0 : WState) (hfiles : FilesInMapper st0.mapper ops) :
    ∃ st, run p st0 (ops.map POp.toOp) = some st := by
  induction ops generalizing st0 with
  | nil => exact ⟨st0, rfl⟩
  | cons op ops ih =>
    obtain ⟨s1, hs⟩ := step_total p st0 op fun m hmp t q n hmem hb =>
      hfiles m hmp t q n (List.mem_cons.mpr (.inl (List.mem_singleton.mp hmem))) hb
    -- a trait call leaves the file mapper alone
    have hm1 : s1.mapper = st0.mapper := (grow_step p hs (toOp_noMapper [op] _ (by simp))).mapper
    obtain ⟨st', h'⟩ := ih s1 fun m hmp t q n hmem hb =>
      hfiles m (hm1 ▸ hmp) t q n (List.mem_cons_of_mem _ hmem) hb
    exact ⟨st', by simp only [List.map_cons, run, hs]; exact h'⟩

/-- the `sources` index the writer records for a position in file `f`: `f` itself without a mapper, else `map[f]` -/
def fileIndexOf (mapper : Option (List Nat)) (f : Nat) : Option Nat :=
  match mapper with
  | none => some f
  | some m => m[f]?

open NitroVerif.SourceMapSpec (decodeMappings) in
/-- The final writer state `st` (file mapper `mapper`) holds a NAMED SEGMENT for the generated text `text` that points
    at the original position `pos` with name `name`:
    * the mapping log contains, next to each other, the entries (g₁, file, pos, name index) and
      (g₂, file, pos + utf16(name)), where file = `mapper[pos.file]` (or `pos.file` without a mapper);
    * g₁ = (l, c) is the cursor of a prefix `bpre` of the generated buffer, the buffer continues with `text`, and
      g₂ = (l, c + utf16(text)) is the cursor after it — the generated text between the two segments is `text`;
    * the names table holds `name` at the recorded index;
    * the reference Source Map decoder reads the emitted `mappings` back with these two segments next to each other. -/
def NamedSegment (st : WState) (mapper : Option (List Nat)) (text : String) (pos : Gql.Pos) (name : String) : Prop :=
  ∃ (fi idx l c : Nat) (lpre lsuf : List Entry) (bpre bsuf : List Char),
    fileIndexOf mapper pos.file = some fi ∧
    st.mapping.log = lpre ++
      [⟨l, c, pos.line, pos.col, fi, some idx⟩,
       ⟨l, c + utf16Len text.toList, pos.line, pos.col + utf16Len name.toList, fi, none⟩] ++ lsuf ∧
    st.buf = bpre ++ text.toList ++ bsuf ∧ cursorOf bpre = (l, c) ∧
    cursorOf (bpre ++ text.toList) = (l, c + utf16Len text.toList) ∧
    st.names.names[idx]? = some name.toList ∧
    ∃ segs, (decodeMappings st.mapping.buf).map (flattenFrom 0) = some segs ∧
      [(l, segOf ⟨l, c, pos.line, pos.col, fi, some idx⟩),
       (l, segOf ⟨l, c + utf16Len text.toList, pos.line, pos.col + utf16Len name.toList, fi, none⟩)] <:+: segs

end NitroVerif.PrintMap
