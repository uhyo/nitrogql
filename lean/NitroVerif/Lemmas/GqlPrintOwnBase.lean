import NitroVerif.Lemmas.GqlPrintLexText
import NitroVerif.Lemmas.ParseDocText
/-!
C16 over nitrogql's OWN parser (C07's PEG model), base layer. C07 renders a document as a sequence of tokens, each followed
by the trivia `τ` assigns to the offset where the token ends (`tk τ sep p s`; `sep`: an empty gap is replaced by one blank).
`rToks τ p cs` is that rendering for a FLAT list `cs` of (token text, `sep`) pairs; `gaps T` is the trivia assignment READ OFF a
text `T`; `Fits cs ts` says that `cs` agrees with the printer tokens `ts`; and `own_render`: `Fits cs ts` ⇒ the text `JustWriter`
writes for `ts` (after any prefix of gap characters) IS the rendering of `cs` under the trivia read off that text. The writer's
indentation (blanks flushed before the first character of a line) is part of the gaps.
-/
namespace NitroVerif.C16Own
open NitroVerif.Gql NitroVerif.GqlPrint NitroVerif.JsTemplate NitroVerif.ValueParse NitroVerif.DocParse
open NitroVerif.StringParse NitroVerif.Spec.Lex

/-! ### the trivia of a text -/

/-- the layout characters of the printer: blank, line feed, comma -/
def isGapC (c : Char) : Bool := c == ' ' || c == '\n' || c == ','

/-- the layout characters a text begins with, and the text after them -/
def tw (l : List Char) : List Char := l.takeWhile isGapC
def dw (l : List Char) : List Char := l.dropWhile isGapC

theorem tw_dw (l : List Char) : tw l ++ dw l = l := List.takeWhile_append_dropWhile

/-- the trivia assignment read off a text: the maximal run of layout characters at every offset -/
def gaps (T : List Char) : Trivia := fun q => tw (T.drop q)

theorem isGapC_wsChar {c : Char} (h : isGapC c = true) : wsChar c := by
  simp only [isGapC, Bool.or_eq_true, beq_iff_eq] at h
  rcases h with (rfl | rfl) | rfl
  · exact Or.inr (Or.inr (Or.inl rfl))
  · exact Or.inr (Or.inr (Or.inr (Or.inl rfl)))
  · exact Or.inr (Or.inr (Or.inr (Or.inr (Or.inr rfl))))

theorem tw_mem (l : List Char) : ∀ x ∈ tw l, isGapC x = true := by
  induction l with
  | nil => intro x hx; cases hx
  | cons c cs ih =>
    intro x hx
    simp only [tw, List.takeWhile_cons] at hx
    split at hx
    · rcases List.mem_cons.mp hx with rfl | hx
      · assumption
      · exact ih x hx
    · cases hx

theorem ws_gaps (T : List Char) (q : Nat) : Ws (gaps T q) :=
  ws_of_run fun x hx => isGapC_wsChar (tw_mem _ x hx)

theorem tw_all (w r : List Char) (hw : ∀ x ∈ w, isGapC x = true) : tw (w ++ r) = w ++ tw r := by
  induction w with
  | nil => rfl
  | cons x xs ih =>
    simp only [tw, List.cons_append, List.takeWhile_cons, hw x (by simp), if_true]
    exact congrArg _ (ih fun y hy => hw y (by simp [hy]))

theorem dw_all (w r : List Char) (hw : ∀ x ∈ w, isGapC x = true) : dw (w ++ r) = dw r := by
  induction w with
  | nil => rfl
  | cons x xs ih =>
    simp only [dw, List.cons_append, List.dropWhile_cons, hw x (by simp), if_true]
    exact ih fun y hy => hw y (by simp [hy])

theorem tw_stop (d : Char) (r : List Char) (hd : isGapC d = false) : tw (d :: r) = [] := by
  simp [tw, hd]

theorem dw_stop (d : Char) (r : List Char) (hd : isGapC d = false) : dw (d :: r) = d :: r := by
  simp [dw, hd]

theorem gaps_at (a b : List Char) : gaps (a ++ b) a.length = tw b := by
  simp [gaps]

/-! ### flat renderings -/

/-- tokens one after another, each followed by the gap `τ` gives at its end (made non-empty where the flag says so) -/
def rToks (τ : Trivia) : Nat → List (List Char × Bool) → List Char
  | _, [] => []
  | p, (s, b) :: cs => tk τ b p s ++ rToks τ (p + (tk τ b p s).length) cs

theorem rToks_nil (τ : Trivia) (p : Nat) : rToks τ p [] = [] := rfl
theorem rToks_cons (τ : Trivia) (p : Nat) (s : List Char) (b : Bool) (cs : List (List Char × Bool)) :
    rToks τ p ((s, b) :: cs) = tk τ b p s ++ rToks τ (p + (tk τ b p s).length) cs := rfl

theorem rToks_append (τ : Trivia) (a b : List (List Char × Bool)) : ∀ p,
    rToks τ p (a ++ b) = rToks τ p a ++ rToks τ (p + (rToks τ p a).length) b := by
  induction a with
  | nil => intro p; simp [rToks]
  | cons x xs ih =>
    intro p
    obtain ⟨s, f⟩ := x
    simp only [List.cons_append, rToks, ih, List.append_assoc, List.length_append, Nat.add_assoc]

theorem rToks_one (τ : Trivia) (p : Nat) (s : List Char) (b : Bool) : rToks τ p [(s, b)] = tk τ b p s := by
  simp [rToks]

/-! ### printer tokens against a flat rendering -/

/-- the text of a significant printer token in C07's renderings (a string: the `specEscape` form `quoted`) -/
def chars : Tok → List Char
  | .p s | .name s | .int s | .float s => s.toList
  | .var n => '$' :: n.toList
  | .str v => quoted v.toList
  | .lay _ | .ind | .ded => []

/-- a token text that can stand in a written text: begins with a non-layout character and has no line feed -/
def goodStr : List Char → Bool
  | [] => false
  | d :: r => !isGapC d && (d :: r).all (· != '\n')

/-- … and, for names and numbers, is also a safe chunk for the template writer: no CR, no `$`, not beginning with `{` -/
def goodNm (s : List Char) : Bool :=
  goodStr s && s.all (fun c => c != '\r' && c != '$') && headNotBrace s

theorem goodNm_goodStr {s : List Char} (h : goodNm s = true) : goodStr s = true := by
  simp only [goodNm, Bool.and_eq_true] at h; exact h.1.1

theorem endDollar_of_no_dollar : ∀ (s : List Char) (d : Bool), s ≠ [] → (∀ c ∈ s, c ≠ '$') → endDollar d s = false := by
  intro s
  induction s with
  | nil => intro d h; exact absurd rfl h
  | cons c cs ih =>
    intro d _ hc
    have hcd : (c == '$') = false := by simpa using hc c (by simp)
    cases cs with
    | nil => simp [endDollar, hcd]
    | cons x xs =>
      rw [endDollar, hcd]
      exact ih false (by simp) (fun y hy => hc y (by simp [hy]))

theorem goodNm_goodText {s : List Char} (h : goodNm s = true) : goodText s = true ∧ headNotBrace s = true := by
  simp only [goodNm, Bool.and_eq_true, List.all_eq_true, bne_iff_ne] at h
  obtain ⟨⟨hg, hc⟩, hb⟩ := h
  refine ⟨?_, hb⟩
  have hne : s ≠ [] := by rintro rfl; cases hg
  simp only [goodText, noCR, Bool.and_eq_true, List.all_eq_true, bne_iff_ne, Bool.not_eq_true']
  exact ⟨fun c hc' => (hc c hc').1, endDollar_of_no_dollar s false hne (fun c hc' => (hc c hc').2)⟩

/-- the per-token condition of `Fits` -/
def tokGood : Tok → Bool
  | .p s => goodStr s.toList
  | .name s | .int s | .float s => goodNm s.toList
  | _ => true

/-! ### string literals: where `print_string` writes C07's `specEscape` form

`print_string` escapes `\`, CR, LF by the two-character escapes, every other control character as `\u{…}`, and leaves the
double quote alone; `specEscape` (C07's rendering) uses the seven two-character escapes and writes everything else raw.
They agree exactly on strings that are written in the quoted form (no line feed, or not block-printable), contain no
double quote and no control character other than CR / LF. -/

def charQ (c : Char) : Bool := c != '"' && (!isControl c || c == '\n' || c == '\r')

/-- the string is written in the quoted form, and that form is `specEscape`'s -/
def strQ (s : List Char) : Bool := !useBlock s && s.all charQ

theorem quotedChar_eq (c : Char) (h : charQ c = true) : quotedChar c = specEscapeChar c := by
  simp only [charQ, Bool.and_eq_true, bne_iff_ne, Bool.or_eq_true, Bool.not_eq_true', beq_iff_eq] at h
  obtain ⟨hq, hc⟩ := h
  unfold quotedChar specEscapeChar simpleEscape?
  by_cases h1 : c = '\\'
  · subst h1; rfl
  by_cases h2 : c = '\r'
  · subst h2; rfl
  by_cases h3 : c = '\n'
  · subst h3; rfl
  have hnc : isControl c = false := by
    rcases hc with (hc | hc) | hc
    · exact hc
    · exact absurd hc h3
    · exact absurd hc h2
  have h8 : c ≠ Char.ofNat 8 := by rintro rfl; exact absurd hnc (by decide)
  have h12 : c ≠ Char.ofNat 12 := by rintro rfl; exact absurd hnc (by decide)
  have h9 : c ≠ '\t' := by rintro rfl; exact absurd hnc (by decide)
  simp [h1, h2, h3, hq, hnc, h8, h12, h9]

theorem quotedBody_eq (s : List Char) (h : s.all charQ = true) : quotedBody s = specEscape s := by
  induction s with
  | nil => rfl
  | cons c cs ih =>
    simp only [List.all_cons, Bool.and_eq_true] at h
    simp only [quotedBody, specEscape, List.flatMap_cons, quotedChar_eq c h.1]
    exact congrArg _ (ih h.2)

theorem printString_eq_quoted (s : List Char) (h : strQ s = true) : printString s = quoted s := by
  simp only [strQ, Bool.and_eq_true, Bool.not_eq_true'] at h
  simp only [printString, h.1, Bool.false_eq_true, if_false, printQuoted, quoted, quotedBody_eq s h.2]

/-- every string token is one for which `print_string` writes C07's form -/
def tokQ : Tok → Bool
  | .str v => strQ v.toList
  | _ => true

theorem specEscapeChar_ne_nl (c : Char) : ∀ x ∈ specEscapeChar c, x ≠ '\n' := by
  unfold specEscapeChar
  intro x hx
  cases he : simpleEscape? c with
  | some e =>
    -- `\` and the escape letter, one of `" \ / b f n r t`
    simp only [he, List.mem_cons, List.mem_nil_iff, or_false] at hx
    rcases hx with rfl | rfl
    · decide
    · rintro rfl
      exact absurd (simpleEscape_cases he).1 (by decide)
  | none =>
    simp only [he, List.mem_cons, List.mem_nil_iff, or_false] at hx
    exact hx ▸ (plain_char he).2.2.1

theorem goodStr_quoted (s : List Char) : goodStr (quoted s) = true := by
  simp only [quoted, goodStr, Bool.and_eq_true, Bool.not_eq_true', List.all_eq_true, bne_iff_ne]
  refine ⟨by decide, ?_⟩
  intro x hx
  simp only [List.mem_cons, List.mem_append, List.mem_nil_iff, or_false] at hx
  rcases hx with rfl | hx | rfl
  · decide
  · simp only [specEscape, List.mem_flatMap] at hx
    obtain ⟨c, _, hc⟩ := hx
    exact specEscapeChar_ne_nl c x hc
  · decide

/-- the next thing the printer writes (before any significant token) is a non-empty layout token -/
def gapNext : List Tok → Bool
  | [] => false
  | .lay s :: ts => if s.toList = [] then gapNext ts else true
  | .ind :: ts => gapNext ts
  | .ded :: ts => gapNext ts
  | _ :: _ => false

/-- the flat rendering `cs` agrees with the printer tokens `ts`: same significant tokens in the same order, each a good one
    (`tokGood`), every layout token consists of layout characters, and wherever `cs` demands a non-empty gap the printer wrote a
    non-empty layout token before the next significant token -/
def Fits : List (List Char × Bool) → List Tok → Prop
  | cs, [] => cs = []
  | cs, .lay s :: ts => s.toList.all isGapC = true ∧ Fits cs ts
  | cs, .ind :: ts => Fits cs ts
  | cs, .ded :: ts => Fits cs ts
  | cs, .var n :: ts => goodNm n.toList = true ∧
      ((∃ b cs', cs = ('$' :: n.toList, b) :: cs' ∧ (b = true → gapNext ts = true) ∧ Fits cs' ts) ∨
       (∃ b cs', cs = (['$'], false) :: (n.toList, b) :: cs' ∧ (b = true → gapNext ts = true) ∧ Fits cs' ts))
  | cs, t :: ts => tokGood t = true ∧
      ∃ b cs', cs = (chars t, b) :: cs' ∧ (b = true → gapNext ts = true) ∧ Fits cs' ts

theorem fits_cons_sig {t : Tok} (hs : t.isSig = true) (hv : ∀ n, t ≠ .var n) (cs : List (List Char × Bool))
    (ts : List Tok) :
    Fits cs (t :: ts) ↔ tokGood t = true ∧
      ∃ b cs', cs = (chars t, b) :: cs' ∧ (b = true → gapNext ts = true) ∧ Fits cs' ts := by
  cases t with
  | var n => exact absurd rfl (hv n)
  | lay _ => cases hs
  | ind => cases hs
  | ded => cases hs
  | p _ => simp only [Fits]
  | name _ => simp only [Fits]
  | int _ => simp only [Fits]
  | float _ => simp only [Fits]
  | str _ => simp only [Fits]

theorem gapNext_append {a : List Tok} (b : List Tok) (h : gapNext a = true) : gapNext (a ++ b) = true := by
  induction a with
  | nil => cases h
  | cons t ts ih =>
    cases t with
    | lay s =>
      simp only [gapNext, List.cons_append] at h ⊢
      split
      · rename_i he; rw [if_pos he] at h; exact ih h
      · rfl
    | ind => exact ih h
    | ded => exact ih h
    | p s => cases h
    | name s => cases h
    | var s => cases h
    | int s => cases h
    | float s => cases h
    | str s => cases h

/-! ### the writer on one token -/

/-- what `JustWriter` writes for the tokens from the state `st` -/
def W (st : WSt) (ts : List Tok) : List Char := runOps false st (ops ts)

theorem goodStr_ne_nl {s : List Char} (h : goodStr s = true) : ∀ x ∈ s, x ≠ '\n' := by
  cases s with
  | nil => cases h
  | cons d r =>
    simp only [goodStr, Bool.and_eq_true, List.all_eq_true, bne_iff_ne] at h
    exact h.2

theorem goodStr_head {s : List Char} (h : goodStr s = true) : ∃ d r, s = d :: r ∧ isGapC d = false := by
  cases s with
  | nil => cases h
  | cons d r =>
    simp only [goodStr, Bool.and_eq_true, Bool.not_eq_true'] at h
    exact ⟨d, r, rfl, h.1⟩

theorem W_write (st : WSt) (c : List Char) (rest : List WOp) (hc : ∀ x ∈ c, x ≠ '\n') (hne : c ≠ []) :
    runOps false st (.write c :: rest) = GqlPrint.pre st.indent st.flag ++ c ++ runOps false ⟨st.indent, false⟩ rest := by
  obtain ⟨k, fl⟩ := st
  rw [C16.runOps_write, C16.writeChars_plain k c hc hne]

theorem W_sig (st : WSt) (t : Tok) (ts : List Tok) (c : List Char) (hops : t.ops = [.write c]) (hg : goodStr c = true) :
    W st (t :: ts) = GqlPrint.pre st.indent st.flag ++ c ++ W ⟨st.indent, false⟩ ts := by
  unfold W
  rw [ops_cons, hops]
  exact W_write st c _ (goodStr_ne_nl hg) (by obtain ⟨d, r, rfl, _⟩ := goodStr_head hg; simp)

theorem W_var (st : WSt) (n : String) (ts : List Tok) (hg : goodStr n.toList = true) :
    W st (.var n :: ts) = GqlPrint.pre st.indent st.flag ++ '$' :: (n.toList ++ W ⟨st.indent, false⟩ ts) := by
  unfold W
  rw [ops_cons]
  simp only [Tok.ops, List.cons_append, List.nil_append]
  rw [W_write st ['$'] _ (by simp) (by simp),
    W_write ⟨st.indent, false⟩ n.toList _ (goodStr_ne_nl hg) (by obtain ⟨d, r, h, _⟩ := goodStr_head hg; simp [h])]
  simp [GqlPrint.pre]

theorem writeChars_ne_nil (st : WSt) (d : Bool) (x : Char) (xs : List Char) :
    (writeChars false st d (x :: xs)).1 ≠ [] := by
  simp only [writeChars]
  split <;> simp

theorem W_lay (st : WSt) (s : String) (ts : List Tok) :
    W st (.lay s :: ts) = (writeChars false st false s.toList).1 ++ W (writeChars false st false s.toList).2 ts := by
  unfold W
  rw [ops_cons]
  rfl

theorem W_ind (st : WSt) (ts : List Tok) : W st (.ind :: ts) = W { st with indent := st.indent + 2 } ts := by
  unfold W; rw [ops_cons]; rfl
theorem W_ded (st : WSt) (ts : List Tok) : W st (.ded :: ts) = W { st with indent := st.indent - 2 } ts := by
  unfold W; rw [ops_cons]; rfl

theorem tw_ne_nil_of_gapNext : ∀ (ts : List Tok) (cs : List (List Char × Bool)) (st : WSt), Fits cs ts →
    gapNext ts = true → tw (W st ts) ≠ [] := by
  intro ts
  induction ts with
  | nil => intro cs st _ h; cases h
  | cons t ts ih =>
    intro cs st hf hg
    cases t with
    | lay s =>
      simp only [Fits] at hf
      simp only [gapNext] at hg
      rw [W_lay]
      have hall : ∀ x ∈ (writeChars false st false s.toList).1, isGapC x = true :=
        writeChars_all (isGapC · = true) rfl _ (fun c hc => List.all_eq_true.mp hf.1 c hc) _ _
      rw [tw_all _ _ hall]
      cases hs : s.toList with
      | nil =>
        rw [hs] at hg
        simp only [if_true] at hg
        simp only [C16.writeChars_nil, List.nil_append]
        exact ih cs st hf.2 hg
      | cons x xs =>
        intro h
        exact writeChars_ne_nil st false x xs (List.append_eq_nil_iff.mp h).1
    | ind => rw [W_ind]; exact ih cs _ (by simpa only [Fits] using hf) (by simpa only [gapNext] using hg)
    | ded => rw [W_ded]; exact ih cs _ (by simpa only [Fits] using hf) (by simpa only [gapNext] using hg)
    | p s => simp [gapNext] at hg
    | name s => simp [gapNext] at hg
    | var s => simp [gapNext] at hg
    | int s => simp [gapNext] at hg
    | float s => simp [gapNext] at hg
    | str s => simp [gapNext] at hg

theorem gapS_of {b : Bool} {t : List Char} (h : b = true → t ≠ []) : gapS b t = t := by
  cases b with
  | false => rfl
  | true => simp [gapS, sepOf, h rfl]

theorem step_sig (pre0 ind c W' : List Char) (b : Bool) (cs : List (List Char × Bool))
    (hind : ∀ x ∈ ind, isGapC x = true) (hg : goodStr c = true) (hb : b = true → tw W' ≠ [])
    (ih : rToks (gaps ((pre0 ++ ind ++ c) ++ W')) ((pre0 ++ ind ++ c).length + (tw W').length) cs = dw W') :
    rToks (gaps (pre0 ++ (ind ++ c ++ W'))) (pre0.length + (tw (ind ++ c ++ W')).length) ((c, b) :: cs) =
      dw (ind ++ c ++ W') := by
  obtain ⟨d, r, rfl, hd⟩ := goodStr_head hg
  have e1 : tw (ind ++ (d :: r) ++ W') = ind := by
    rw [List.append_assoc, tw_all _ _ hind]
    simp [tw_stop d _ hd]
  have e2 : dw (ind ++ (d :: r) ++ W') = (d :: r) ++ W' := by
    rw [List.append_assoc, dw_all _ _ hind]
    exact dw_stop d _ hd
  have e3 : pre0 ++ (ind ++ (d :: r) ++ W') = (pre0 ++ ind ++ (d :: r)) ++ W' := by simp
  rw [e1, e2, e3, rToks_cons]
  have e4 : gaps ((pre0 ++ ind ++ (d :: r)) ++ W') (pre0.length + ind.length + (d :: r).length) = tw W' := by
    have := gaps_at (pre0 ++ ind ++ (d :: r)) W'
    simpa [Nat.add_assoc] using this
  have e5 : tk (gaps ((pre0 ++ ind ++ (d :: r)) ++ W')) b (pre0.length + ind.length) (d :: r) = (d :: r) ++ tw W' := by
    unfold tk
    rw [e4, gapS_of hb]
  rw [e5]
  have e6 : pre0.length + ind.length + ((d :: r) ++ tw W').length = (pre0 ++ ind ++ (d :: r)).length + (tw W').length := by
    simp only [List.length_append]; omega
  rw [e6, ih, List.append_assoc, tw_dw]

/-- `own_render` from any writer state, after any prefix `pre0` -/
theorem own_render_gen : ∀ (ts : List Tok) (cs : List (List Char × Bool)) (st : WSt) (pre0 : List Char), Fits cs ts →
    (∀ t ∈ ts, tokQ t = true) →
    rToks (gaps (pre0 ++ W st ts)) (pre0.length + (tw (W st ts)).length) cs = dw (W st ts) := by
  intro ts
  induction ts with
  | nil =>
    intro cs st pre0 hf _
    simp only [Fits] at hf
    subst hf
    rfl
  | cons t ts ih =>
    intro cs st pre0 hf hq
    have hq' : ∀ t ∈ ts, tokQ t = true := fun x hx => hq x (List.mem_cons_of_mem _ hx)
    have ih := fun cs st pre0 hf => ih cs st pre0 hf hq'
    have sig : ∀ (c : List Char), t.ops = [.write c] → chars t = c →
        goodStr (chars t) = true →
        (tokGood t = true ∧ ∃ b cs', cs = (chars t, b) :: cs' ∧ (b = true → gapNext ts = true) ∧ Fits cs' ts) →
        rToks (gaps (pre0 ++ W st (t :: ts))) (pre0.length + (tw (W st (t :: ts))).length) cs = dw (W st (t :: ts)) := by
      intro c hops hch hg ⟨_, b, cs', hcs, hb, hf'⟩
      rw [hch] at hg hcs
      subst hcs
      rw [W_sig st t ts c hops hg]
      exact step_sig pre0 _ c _ b cs' (pre_all (isGapC · = true) rfl _ _) hg (fun hbt => tw_ne_nil_of_gapNext ts cs' _ hf' (hb hbt))
        (ih cs' _ _ hf')
    cases t with
    | lay s =>
      simp only [Fits] at hf
      rw [W_lay]
      have hall : ∀ x ∈ (writeChars false st false s.toList).1, isGapC x = true :=
        writeChars_all (isGapC · = true) rfl _ (fun c hc => List.all_eq_true.mp hf.1 c hc) _ _
      rw [tw_all _ _ hall, dw_all _ _ hall]
      have := ih cs (writeChars false st false s.toList).2 (pre0 ++ (writeChars false st false s.toList).1) hf.2
      simp only [List.append_assoc, List.length_append, Nat.add_assoc] at this ⊢
      exact this
    | ind => rw [W_ind]; exact ih cs _ pre0 (by simpa only [Fits] using hf)
    | ded => rw [W_ded]; exact ih cs _ pre0 (by simpa only [Fits] using hf)
    | p s =>
      have hf' := by simpa only [Fits] using hf
      exact sig s.toList rfl rfl hf'.1 hf'
    | name s =>
      have hf' := by simpa only [Fits] using hf
      exact sig s.toList rfl rfl (goodNm_goodStr hf'.1) hf'
    | int s =>
      have hf' := by simpa only [Fits] using hf
      exact sig s.toList rfl rfl (goodNm_goodStr hf'.1) hf'
    | float s =>
      have hf' := by simpa only [Fits] using hf
      exact sig s.toList rfl rfl (goodNm_goodStr hf'.1) hf'
    | str s =>
      have e : printString s.toList = quoted s.toList := printString_eq_quoted _ (hq (.str s) (List.mem_cons_self ..))
      exact sig (quoted s.toList) (by simp only [Tok.ops, e]) rfl (goodStr_quoted _) (by simpa only [Fits] using hf)
    | var n =>
      simp only [Fits] at hf
      obtain ⟨hgn, h⟩ := hf
      have hg := goodNm_goodStr hgn
      rcases h with h | h
      · obtain ⟨b, cs', rfl, hb, hf'⟩ := h
        have hg' : goodStr ('$' :: n.toList) = true := by
          have := goodStr_ne_nl hg
          simp only [goodStr, Bool.and_eq_true, List.all_eq_true, bne_iff_ne]
          refine ⟨by decide, ?_⟩
          intro x hx
          rcases List.mem_cons.mp hx with rfl | hx
          · decide
          · exact this x hx
        rw [W_var st n ts hg]
        have := step_sig pre0 (GqlPrint.pre st.indent st.flag) ('$' :: n.toList) (W ⟨st.indent, false⟩ ts) b cs' (pre_all (isGapC · = true) rfl _ _) hg'
          (fun hbt => tw_ne_nil_of_gapNext ts cs' _ hf' (hb hbt)) (ih cs' _ _ hf')
        simpa using this
      · obtain ⟨b, cs', rfl, hb, hf'⟩ := h
        rw [W_var st n ts hg]
        obtain ⟨d, r, hn, hd⟩ := goodStr_head hg
        -- first `$` (followed by the name: empty gap), then the name
        have h2 := step_sig (pre0 ++ GqlPrint.pre st.indent st.flag ++ ['$']) [] n.toList (W ⟨st.indent, false⟩ ts) b cs'
          (by simp) hg (fun hbt => tw_ne_nil_of_gapNext ts cs' _ hf' (hb hbt))
          (by simpa using ih cs' ⟨st.indent, false⟩ (pre0 ++ GqlPrint.pre st.indent st.flag ++ ['$'] ++ n.toList) hf')
        have h1 := step_sig pre0 (GqlPrint.pre st.indent st.flag) ['$'] (n.toList ++ W ⟨st.indent, false⟩ ts) false
          ((n.toList, b) :: cs') (pre_all (isGapC · = true) rfl _ _) (by decide) (by simp)
          (by
            have e : tw (n.toList ++ W ⟨st.indent, false⟩ ts) = [] := by rw [hn]; exact tw_stop d _ hd
            have e' : dw (n.toList ++ W ⟨st.indent, false⟩ ts) = n.toList ++ W ⟨st.indent, false⟩ ts := by
              rw [hn]; exact dw_stop d _ hd
            rw [e, e']
            simpa [e, e'] using h2)
        simpa using h1

theorem fits_tail {x : Tok} {xs : List Tok} {cs : List (List Char × Bool)} (hf : Fits cs (x :: xs)) : ∃ cs', Fits cs' xs := by
  cases x with
  | lay s => exact ⟨cs, (by simpa only [Fits] using hf : _ ∧ _).2⟩
  | ind => exact ⟨cs, by simpa only [Fits] using hf⟩
  | ded => exact ⟨cs, by simpa only [Fits] using hf⟩
  | var n =>
    simp only [Fits] at hf
    rcases hf.2 with ⟨b, cs', _, _, h'⟩ | ⟨b, cs', _, _, h'⟩ <;> exact ⟨cs', h'⟩
  | p s => obtain ⟨_, b, cs', _, _, h'⟩ := (by simpa only [Fits] using hf : _ ∧ _); exact ⟨cs', h'⟩
  | name s => obtain ⟨_, b, cs', _, _, h'⟩ := (by simpa only [Fits] using hf : _ ∧ _); exact ⟨cs', h'⟩
  | int s => obtain ⟨_, b, cs', _, _, h'⟩ := (by simpa only [Fits] using hf : _ ∧ _); exact ⟨cs', h'⟩
  | float s => obtain ⟨_, b, cs', _, _, h'⟩ := (by simpa only [Fits] using hf : _ ∧ _); exact ⟨cs', h'⟩
  | str s => obtain ⟨_, b, cs', _, _, h'⟩ := (by simpa only [Fits] using hf : _ ∧ _); exact ⟨cs', h'⟩

theorem nameOK_of_fits : ∀ (ts : List Tok) (cs : List (List Char × Bool)), Fits cs ts → ∀ t ∈ ts, t.nameOK = true := by
  intro ts
  induction ts with
  | nil => intro cs _ t ht; cases ht
  | cons x xs ih =>
    intro cs hf t ht
    rcases List.mem_cons.mp ht with rfl | ht'
    · cases t with
      | name s => exact (goodNm_goodText (by simpa only [Fits, tokGood] using hf : _ ∧ _).1).1
      | int s => exact (goodNm_goodText (by simpa only [Fits, tokGood] using hf : _ ∧ _).1).1
      | float s => exact (goodNm_goodText (by simpa only [Fits, tokGood] using hf : _ ∧ _).1).1
      | var n =>
        simp only [Fits] at hf
        have := goodNm_goodText hf.1
        simp [Tok.nameOK, this.1, this.2]
      | _ => rfl
    · obtain ⟨cs', h'⟩ := fits_tail hf
      exact ih cs' h' t ht'

/-- if the flat rendering `cs` fits the printer tokens `ts`, then the text `JustWriter` writes for `ts`,
    after any prefix `pre0` of layout characters, is the leading trivia followed by the rendering of `cs` under the
    trivia assignment read off that very text. -/
theorem own_render (ts : List Tok) (cs : List (List Char × Bool)) (pre0 : List Char)
    (hpre : ∀ x ∈ pre0, isGapC x = true) (hf : Fits cs ts) (hq : ∀ t ∈ ts, tokQ t = true) :
    gaps (pre0 ++ text ts) 0 ++ rToks (gaps (pre0 ++ text ts)) (gaps (pre0 ++ text ts) 0).length cs = pre0 ++ text ts := by
  have h := own_render_gen ts cs {} pre0 hf hq
  have e0 : gaps (pre0 ++ text ts) 0 = pre0 ++ tw (W {} ts) := by
    simp only [gaps, List.drop_zero]
    exact tw_all _ _ hpre
  have eT : text ts = W {} ts := rfl
  rw [e0, eT, List.length_append, h, List.append_assoc, tw_dw]

end NitroVerif.C16Own
