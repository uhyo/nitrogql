import NitroVerif.Lemmas.CheckOpSubscription
/-!
5.2.3.1, the "at least one root field" half, under `Doc.NonEmptySelections D`: what the grammar guarantees of every parsed
document (`crates/parser/src/parser/grammar.pest`: `SelectionSet = { "{" ~ Selection+ ~ "}" }`) and the abstract syntax
`Doc` does not.

Under that hypothesis the root selection set of an accepted operation collects at least one response key:
follow first selections. A first selection is a field (a key), an inline fragment (non-empty again, structurally
smaller) or a fragment spread; a spread of a `Fine` selection set names a defined fragment whose (non-empty) selection
set is `Fine` again. So, by induction on `Fine` — the finite tree of the accepted walk — a field is found in a fragment
reached from the top level (`SpecFlatReach`), and that fragment is in the reference validator's closure `reachableFlat`
(`mem_reachableFlat_iff`).
-/
namespace NitroVerif.Gql

mutual
/-- every selection set nested in the selection is non-empty -/
def Selection.nonEmptyB : Selection → Bool
  | .field _ _ _ _ _ (some ss) => !ss.isEmpty && Selection.nonEmptyListB ss
  | .field _ _ _ _ _ none => true
  | .spread .. => true
  | .inline _ _ ss _ => !ss.isEmpty && Selection.nonEmptyListB ss
/-- every selection set nested in one of the selections is non-empty -/
def Selection.nonEmptyListB : List Selection → Bool
  | [] => true
  | s :: ss => s.nonEmptyB && Selection.nonEmptyListB ss
end

/-- a selection set that is non-empty and so are all selection sets nested in it -/
def Selection.setNonEmptyB (ss : List Selection) : Bool := !ss.isEmpty && Selection.nonEmptyListB ss

def ExecDef.nonEmptyB : ExecDef → Bool
  | .op o => Selection.setNonEmptyB o.sel
  | .frag f => Selection.setNonEmptyB f.sel
  | .imp _ => true

def Doc.nonEmptySelectionsB (D : Doc) : Bool := D.all ExecDef.nonEmptyB

/-- **Well-formedness of parsed documents**: every selection set of the document — of every operation, every
    fragment definition, every field and every inline fragment, at any depth — has at least one selection
    (grammar: `SelectionSet = "{" Selection+ "}"`). -/
def Doc.NonEmptySelections (D : Doc) : Prop := Doc.nonEmptySelectionsB D = true

instance (D : Doc) : Decidable (Doc.NonEmptySelections D) := inferInstanceAs (Decidable (_ = true))

end NitroVerif.Gql

namespace NitroVerif.CheckOp
open NitroVerif.Gql NitroVerif.CheckCommon NitroVerif.Valid

theorem nonEmpty_op {D : Doc} (hD : Doc.NonEmptySelections D) {o : OperationDef} (ho : o ∈ opsOf D) :
    Selection.setNonEmptyB o.sel = true := by
  have := List.all_eq_true.mp hD _ (op_mem_doc ho)
  simpa [ExecDef.nonEmptyB] using this

theorem nonEmpty_frag {D : Doc} (hD : Doc.NonEmptySelections D) {f : FragmentDef} (hf : f ∈ fragsOf D) :
    Selection.setNonEmptyB f.sel = true := by
  have := List.all_eq_true.mp hD _ (mem_fragsOf.mp hf)
  simpa [ExecDef.nonEmptyB] using this

theorem first_flat :
    (∀ s, Selection.nonEmptyB s = true → (∃ key, key ∈ keysFlatSel s) ∨ (∃ n, n ∈ spreadsFlatSel s)) ∧
    (∀ ss, Selection.setNonEmptyB ss = true → (∃ key, key ∈ keysFlat ss) ∨ (∃ n, n ∈ spreadsFlat ss)) := by
  apply Selection.size.mutual_induct
  case case1 => intro al name np args dirs ss _ _; cases al <;> simp [keysFlatSel]
  case case2 => intro al name np args dirs _; cases al <;> simp [keysFlatSel]
  case case3 => intro name np dirs pos _; simp [spreadsFlatSel]
  case case4 =>
    intro cond dirs ss pos ih hne
    simpa only [keysFlatSel, spreadsFlatSel] using ih (by simpa [Selection.nonEmptyB, Selection.setNonEmptyB] using hne)
  case case5 => intro hne; simp [Selection.setNonEmptyB] at hne
  case case6 =>
    intro s ss ih1 _ hne
    simp only [Selection.setNonEmptyB, Selection.nonEmptyListB, Bool.and_eq_true] at hne
    simp only [keysFlat, spreadsFlat, List.mem_append]
    rcases ih1 hne.2.1 with ⟨key, hk⟩ | ⟨n, hn⟩
    · exact .inl ⟨key, .inl hk⟩
    · exact .inr ⟨n, .inl hn⟩

theorem SpecFlatReach.through {D : Doc} {ss : List Selection} {n y : Name} {f : FragmentDef}
    (hn : SpecFlatReach D ss n) (hf : Valid.frag? D n = some f) (hy : SpecFlatReach D f.sel y) : SpecFlatReach D ss y := by
  induction hy with
  | base h => exact .step hn hf h
  | step _ hg h ih => exact .step ih hg h

theorem first_key {S : Schema} {D : Doc} {A : ErrKind → Bool} {vars : Option (List VarDef)} (hA : Admissible A)
    (hD : Doc.NonEmptySelections D) (hnd : nodupB (fragNamesOf D) = true) {seen : List Name} {t : Name}
    {ss : List Selection} (h : Fine S D A vars seen t ss) : Selection.setNonEmptyB ss = true →
      (∃ key, key ∈ keysFlat ss) ∨
      (∃ y g key, SpecFlatReach D ss y ∧ fragMap D y = some g ∧ key ∈ keysFlat g.sel) := by
  induction h with
  | @mk seen t ss hfine _ _ _ ih =>
    intro hne
    rcases first_flat.2 ss hne with hk | ⟨n, hn⟩
    · exact .inl hk
    · have hn' := (spreadsFlat_sub n).2 ss hn
      obtain ⟨f, hm⟩ := hfine.defined hA hn'
      rcases ih n hn' f hm (nonEmpty_frag hD (fragMap_eq_some hm).1) with ⟨key, hkey⟩ | ⟨y, g, key, hr, hg, hkey⟩
      · exact .inr ⟨n, f, key, .base hn, hm, hkey⟩
      · exact .inr ⟨y, g, key, SpecFlatReach.through (.base hn) (by rw [frag?_eq_fragMap hnd]; exact hm) hr, hg, hkey⟩

/-- 5.2.3.1, at least one -/
theorem rootKeys_nonempty {S : Schema} {D : Doc} (h : checkOp S D = []) (hD : Doc.NonEmptySelections D)
    {o : OperationDef} (ho : o ∈ opsOf D) : 1 ≤ (Valid.rootKeys D o.sel).length := by
  have hnd := accepted_nodup h
  have hmem : ∃ key, key ∈ Valid.rootKeys D o.sel := by
    rcases first_key admissible_none hD hnd (op_fine h ho) (nonEmpty_op hD ho) with
      ⟨key, hkey⟩ | ⟨y, g, key, hr, hg, hkey⟩
    · exact ⟨key, (mem_validRootKeys_iff D o.sel key).mpr (.inl hkey)⟩
    · exact ⟨key, (mem_validRootKeys_iff D o.sel key).mpr (.inr ⟨y, g, hr, by rw [frag?_eq_fragMap hnd]; exact hg, hkey⟩)⟩
  obtain ⟨key, hkey⟩ := hmem
  cases hl : Valid.rootKeys D o.sel with
  | nil => rw [hl] at hkey; cases hkey
  | cons a l => simp

end NitroVerif.CheckOp
