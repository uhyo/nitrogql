/-
C18 composed (helper lemmas): an import-resolution error names an existing `#import` line (its path literal), or an
existing target identifier of such a line — of the root document or of a document of the resolver map.

Invariant of `resolve_operation_extensions` (`Imports.resolveExt`): every import it returns carries the index of one
of the raw lines, and every identifier it returns sits at its (line, column) in the raw lines.
-/
import NitroVerif.Lemmas.CliComposedDiags
namespace NitroVerif.CliComposed
open NitroVerif NitroVerif.Gql NitroVerif.Cli

section ext
variable {ρ : Type} [DecidableEq ρ]
open Imports

/-- the identifier sits at its (line, column) in the raw lines -/
def IdOk (L : List (RawImport ρ)) (id : Ident) : Prop :=
  ∃ raw, L[id.line]? = some raw ∧ raw.targets[id.col]? = some (.name id.name)

def TgtOk (L : List (RawImport ρ)) : Targets → Prop
  | .wildcard => True
  | .specific ids => ∀ id ∈ ids, IdOk L id

def ImpOk (L : List (RawImport ρ)) (imp : Import ρ) : Prop := imp.line < L.length ∧ TgtOk L imp.targets

theorem foldTargets_ok (L : List (RawImport ρ)) (line : Nat) (raw : RawImport ρ) (hraw : L[line]? = some raw) :
    ∀ (ts pre : List RawTarget) (acc : Targets) (t' : Targets), raw.targets = pre ++ ts → TgtOk L acc →
      foldTargets line acc pre.length ts = .ok t' → TgtOk L t' := by
  intro ts
  induction ts with
  | nil => intro pre acc t' _ hacc h; simp only [foldTargets] at h; cases h; exact hacc
  | cons t ts ih =>
    intro pre acc t' hsplit hacc h
    have hsplit' : raw.targets = (pre ++ [t]) ++ ts := by simp [hsplit]
    have hlen : (pre ++ [t]).length = pre.length + 1 := by simp
    cases acc with
    | wildcard => cases t <;> simp only [foldTargets] at h <;> cases h
    | specific ids =>
      cases t with
      | wildcard =>
        simp only [foldTargets] at h
        split at h
        · rw [← hlen] at h
          exact ih _ .wildcard _ hsplit' trivial h
        · cases h
      | name n =>
        simp only [foldTargets] at h
        rw [← hlen] at h
        refine ih _ _ _ hsplit' ?_ h
        intro id hid
        rcases List.mem_append.mp hid with hid | hid
        · exact hacc id hid
        · simp at hid
          subst hid
          refine ⟨raw, hraw, ?_⟩
          simp only
          rw [hsplit]
          simp

theorem extStep_ok (L : List (RawImport ρ)) (line : Nat) (raw : RawImport ρ) (hraw : L[line]? = some raw)
    (acc acc' : List (Import ρ)) (hacc : ∀ imp ∈ acc, ImpOk L imp) (h : extStep acc line raw = .ok acc') :
    ∀ imp ∈ acc', ImpOk L imp := by
  have hlt : line < L.length := by
    rcases Nat.lt_or_ge line L.length with h | h
    · exact h
    · rw [List.getElem?_eq_none h] at hraw; cases hraw
  unfold extStep at h
  simp only at h
  split at h
  · rename_i t hf
    cases h
    intro imp himp
    rcases List.mem_append.mp himp with himp | himp
    · exact hacc imp (List.mem_of_mem_eraseP himp)
    · simp at himp
      subst himp
      refine ⟨hlt, ?_⟩
      simp only
      refine foldTargets_ok L line raw hraw raw.targets [] _ t rfl ?_ hf
      cases hfind : acc.find? (fun i => i.rel = raw.rel) with
      | none => intro id hid; cases hid
      | some e0 => exact (hacc e0 (List.mem_of_find?_eq_some hfind)).2
  · cases h

theorem extLoop_ok (L : List (RawImport ρ)) : ∀ (raws pre : List (RawImport ρ)) (acc imps : List (Import ρ)),
    L = pre ++ raws → (∀ imp ∈ acc, ImpOk L imp) → extLoop acc pre.length raws = .ok imps →
    ∀ imp ∈ imps, ImpOk L imp := by
  intro raws
  induction raws with
  | nil => intro pre acc imps _ hacc h; simp only [extLoop] at h; cases h; exact hacc
  | cons raw raws ih =>
    intro pre acc imps hL hacc h
    simp only [extLoop] at h
    cases hs : extStep acc pre.length raw with
    | error e => rw [hs] at h; cases h
    | ok acc' =>
      rw [hs] at h
      simp only at h
      have hraw : L[pre.length]? = some raw := by rw [hL]; simp
      have hacc' := extStep_ok L pre.length raw hraw acc acc' hacc hs
      have hL' : L = (pre ++ [raw]) ++ raws := by simp [hL]
      have : (pre ++ [raw]).length = pre.length + 1 := by simp
      rw [← this] at h
      exact ih _ _ _ hL' hacc' h

theorem resolveExt_ok (L : List (RawImport ρ)) (imps : List (Import ρ)) (h : resolveExt L = .ok imps) :
    ∀ imp ∈ imps, ImpOk L imp :=
  extLoop_ok L L [] [] imps rfl (fun _ h => by cases h) h

end ext

section docs
variable {Text κ : Type} [DecidableEq κ]

theorem fileOf_imports_ok (code : Name → Nat) (D : Doc) :
    ∀ imp ∈ (fileOf code D).imports, ImpOk (rawLines code D) imp := by
  intro imp himp
  unfold fileOf at himp
  simp only at himp
  cases h : extOf code D with
  | ok imps => rw [h] at himp; exact resolveExt_ok _ imps h imp himp
  | error e => rw [h] at himp; cases himp

theorem rawLines_get (code : Name → Nat) (D : Doc) (l : Nat) (raw : Imports.RawImport String)
    (h : (rawLines code D)[l]? = some raw) : ∃ i, (importsOf D)[l]? = some i ∧ raw = rawImport code i := by
  unfold rawLines at h
  rw [List.getElem?_map] at h
  cases hi : (importsOf D)[l]? with
  | none => rw [hi] at h; cases h
  | some i => rw [hi] at h; cases h; exact ⟨i, rfl, rfl⟩

theorem specImportsOf_docAt (E : Env Text κ) (P : Project Text κ) (v : OpView Text κ) (q : κ)
    (imp : Imports.Import String)
    (h : imp ∈ Imports.Spec.importsOf (opFs E P) v.input.path (fileOf E.code v.doc) q) :
    ∃ D, docAt (opDocs E P) v.input.path v.doc q = some D ∧ imp ∈ (fileOf E.code D).imports := by
  unfold Imports.Spec.importsOf at h
  unfold docAt
  by_cases hq : q = v.input.path
  · simp only [hq, if_true] at h ⊢
    exact ⟨_, rfl, h⟩
  · simp only [hq, if_false] at h ⊢
    unfold opFs at h
    rw [Imports.lookup_map_snd] at h
    cases hl : (opDocs E P).lookup q with
    | none => rw [hl] at h; simp at h
    | some D => rw [hl] at h; exact ⟨D, rfl, h⟩

theorem docAt_view {E : Env Text κ} {P : Project Text κ} {v : OpView Text κ} (hv : v ∈ views E P) {q : κ} {D : Doc}
    (h : docAt (opDocs E P) v.input.path v.doc q = some D) : ∃ w ∈ views E P, w.doc = D := by
  unfold docAt at h
  split at h
  · cases h; exact ⟨v, hv, rfl⟩
  · obtain ⟨w, hw, _, rfl⟩ := mem_opDocs (Imports.lookup_mem h)
    exact ⟨w, hw, rfl⟩

theorem impErr_place {E : Env Text κ} {P : Project Text κ} {v : OpView Text κ} (hv : v ∈ views E P)
    {e : Imports.ImpErr κ String} (h : impOf E P v = .err e) :
    ∃ w ∈ views E P, ∃ i ∈ importsOf w.doc,
      (impErrPos E (opDocs E P) v.input.path v.doc e = E.pathPos i ∨
       impErrPos E (opDocs E P) v.input.path v.doc e ∈ i.positions) := by
  have hj := Imports.resolve_err _ _ _ _ h
  cases hj with
  | dangling hreach himp hlook =>
    rename_i q imp
    obtain ⟨D, hD, himpD⟩ := specImportsOf_docAt E P v q imp himp
    have hok := fileOf_imports_ok E.code D imp himpD
    have hlt : imp.line < (importsOf D).length := by
      have := hok.1; simpa [rawLines] using this
    obtain ⟨w, hw, rfl⟩ := docAt_view hv hD
    refine ⟨w, hw, (importsOf w.doc)[imp.line], List.getElem_mem _, Or.inl ?_⟩
    simp only [impErrPos, hD]
    simp [hlt]
  | missing hreach himp hlook hmiss =>
    rename_i q imp f id
    obtain ⟨D, hD, himpD⟩ := specImportsOf_docAt E P v q imp himp
    have hok := fileOf_imports_ok E.code D imp himpD
    have hid : IdOk (rawLines E.code D) id := by
      have hm := hok.2
      cases ht : imp.targets with
      | wildcard => rw [ht] at hmiss; simp [Imports.missingTarget] at hmiss
      | specific ids =>
        rw [ht] at hmiss hm
        simp only [Imports.missingTarget] at hmiss
        exact hm id (List.mem_of_find?_eq_some hmiss)
    obtain ⟨raw, hraw, hcol⟩ := hid
    obtain ⟨i, hi, rfl⟩ := rawLines_get E.code D id.line raw hraw
    simp only [rawImport] at hcol
    rw [List.getElem?_map] at hcol
    cases htg : i.targets[id.col]? with
    | none => rw [htg] at hcol; cases hcol
    | some tg =>
      rw [htg] at hcol
      simp only [Option.map_some, Option.some.injEq] at hcol
      cases tg with
      | none => simp [rawTarget] at hcol
      | some np =>
        obtain ⟨n, p⟩ := np
        obtain ⟨w, hw, rfl⟩ := docAt_view hv hD
        refine ⟨w, hw, i, List.mem_of_getElem? hi, Or.inr ?_⟩
        simp only [impErrPos, hD, hi, htg]
        unfold ImportDef.positions
        refine List.mem_cons_of_mem _ (List.mem_flatMap.mpr ⟨some (n, p), List.mem_of_getElem? htg, ?_⟩)
        simp [optNamePos]

end docs

end NitroVerif.CliComposed
