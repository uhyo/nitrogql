import NitroVerif.Model.Loader
import NitroVerif.Lemmas.Collects
/-!
The loader's calls as a state machine (`Model/Loader.step`), for C19.

A step is described twice, and everything else is read off these two classifications: `step_effect` says what it does to
the next id, the task table and the ghost heap (five classes; ids, `KeysLt`, `RootOk`, `ParsedOk` and the heap invariant of
`Lemmas/LoaderHeap.lean` follow from it), `callQuiet` what the caller observes (alive, no trap, RESULT kept or filled).
The equations `step_*` are `step` branch by branch.  Isolation is a simulation: `Sim t σ τ` relates an instance to the
instance that was given only the calls addressed to task `t` (`proj`, `respsOf`); `step_frame` is the frame property,
`sim_step` the step, `sim_run` the run.  No property statements here.
-/
namespace NitroVerif.Loader

section Assoc
variable {K V : Type} [DecidableEq K]

@[simp] theorem lookup_nil (k : K) : lookup ([] : List (K × V)) k = none := rfl

theorem lookup_cons (k' : K) (v : V) (r : List (K × V)) (k : K) :
    lookup ((k', v) :: r) k = if k' = k then some v else lookup r k := rfl

theorem mem_erase {l : List (K × V)} {k : K} {e : K × V} : e ∈ erase l k ↔ e ∈ l ∧ e.1 ≠ k := by
  simp [erase]

theorem lookup_erase (l : List (K × V)) (k k' : K) :
    lookup (erase l k) k' = if k' = k then none else lookup l k' := by
  induction l with
  | nil => simp [erase]
  | cons e r ih =>
    obtain ⟨a, v⟩ := e
    by_cases h : a = k
    · subst h
      have : erase ((a, v) :: r) a = erase r a := by simp [erase]
      rw [this, ih, lookup_cons]
      by_cases h2 : k' = a
      · simp [h2]
      · have : ¬ a = k' := fun h => h2 h.symm
        simp [h2, this]
    · have : erase ((a, v) :: r) k = (a, v) :: erase r k := by simp [erase, h]
      rw [this, lookup_cons, lookup_cons, ih]
      by_cases h2 : a = k'
      · subst h2; simp [h]
      · simp [h2]

theorem lookup_insert (k : K) (v : V) (l : List (K × V)) (k' : K) :
    lookup (insert k v l) k' = if k = k' then some v else lookup l k' := by
  unfold insert
  rw [lookup_cons, lookup_erase]
  by_cases h : k = k'
  · simp [h]
  · have : ¬ k' = k := fun h' => h h'.symm
    simp [h, this]

theorem lookup_mem {l : List (K × V)} {k : K} {v : V} (h : lookup l k = some v) : (k, v) ∈ l := by
  induction l with
  | nil => simp at h
  | cons e r ih =>
    obtain ⟨a, w⟩ := e
    rw [lookup_cons] at h
    by_cases h2 : a = k
    · subst h2; simp at h; subst h; simp
    · simp [h2] at h; exact List.mem_cons_of_mem _ (ih h)

theorem lookup_none_of_not_mem {l : List (K × V)} {k : K} (h : ∀ e ∈ l, e.1 ≠ k) : lookup l k = none := by
  induction l with
  | nil => rfl
  | cons e r ih =>
    obtain ⟨a, w⟩ := e
    rw [lookup_cons]
    have : a ≠ k := h (a, w) (by simp)
    simp [this]
    exact ih fun e he => h e (List.mem_cons_of_mem _ he)

theorem lookup_isSome_of_mem {l : List (K × V)} {e : K × V} (h : e ∈ l) : (lookup l e.1).isSome := by
  induction l with
  | nil => simp at h
  | cons x r ih =>
    obtain ⟨a, w⟩ := x
    rw [lookup_cons]
    by_cases h2 : a = e.1
    · simp [h2]
    · simp [h2]
      rcases List.mem_cons.mp h with rfl | h
      · exact absurd rfl h2
      · exact ih h

theorem mem_insert {k : K} {v : V} {l : List (K × V)} {e : K × V} :
    e ∈ insert k v l ↔ e = (k, v) ∨ (e ∈ l ∧ e.1 ≠ k) := by
  simp [insert, mem_erase]

end Assoc


section AddNew
variable {P : Type} [DecidableEq P]

theorem collects_addNew : Collects id (fun _ => False) (addNew (P := P)) := fun acc x => by
  unfold addNew
  split
  · next h => exact .inl ⟨rfl, .inr h⟩
  · next h => exact .inr ⟨rfl, not_false, h⟩

theorem mem_addNew (acc : List P) (x p : P) : p ∈ addNew acc x ↔ p ∈ acc ∨ p = x := by
  simpa [eq_comm] using collects_addNew.mem_step acc x p

theorem mem_foldl_addNew (l acc : List P) (p : P) : p ∈ l.foldl addNew acc ↔ p ∈ acc ∨ p ∈ l := by
  simpa using collects_addNew.mem l acc

theorem nodup_foldl_addNew (l acc : List P) (h : acc.Nodup) : (l.foldl addNew acc).Nodup :=
  collects_addNew.nodup l acc h

end AddNew

section Steps
variable {P S J : Type} [DecidableEq P]


/-- the task `initiate_task` starts from, before the root file is registered -/
abbrev newTask (f : P) : Task P S := { root := f, files := [], borrows := [], drops := [] }

theorem step_dead (env : Env P S J) (σ : St P S J) (op : Op P S) (hd : σ.dead = true) : step env σ op = (σ, .trap) := by
  simp [step, hd]

theorem step_initiate_err (env : Env P S J) {σ : St P S J} (hd : σ.dead = false) {s : S} {c : Nat}
    (hp : env.parse s = .error c) (f : P) :
    step env σ (.call (.initiate f s)) =
      ({ σ with heap := dropTask none (register env none σ.heap (newTask f) f s).heap
                          (register env none σ.heap (newTask f) f s).task,
                result := some (.msg (.source c)) }, .failed (.source c)) := by
  simp [step, stepCall, hd, hp]

theorem step_initiate_ok (env : Env P S J) {σ : St P S J} (hd : σ.dead = false) {s : S} {imps : List P}
    (hp : env.parse s = .ok imps) (f : P) :
    step env σ (.call (.initiate f s)) =
      ({ σ with next := σ.next + 1,
                tasks := (σ.next, (register env (some σ.next) σ.heap (newTask f) f s).task) :: σ.tasks,
                heap := (register env (some σ.next) σ.heap (newTask f) f s).heap },
       .taskId σ.next) := by
  simp [step, stepCall, hd, hp]

theorem step_required_none (env : Env P S J) {σ : St P S J} (hd : σ.dead = false) {t : Nat} (hl : lookup σ.tasks t = none) :
    step env σ (.call (.required t)) = ({ σ with result := some (.msg .taskNotFound) }, .failed .taskNotFound) := by
  simp [step, stepCall, hd, hl]

theorem step_required_some (env : Env P S J) {σ : St P S J} (hd : σ.dead = false) {t : Nat} {T : Task P S}
    (hl : lookup σ.tasks t = some T) :
    step env σ (.call (.required t)) =
      ({ σ with result := some (.files (requiredOf env T.files)) }, .files (requiredOf env T.files)) := by
  simp [step, stepCall, hd, hl]

theorem step_load_none (env : Env P S J) {σ : St P S J} (hd : σ.dead = false) {t : Nat} (hl : lookup σ.tasks t = none) (f : P) (s : S) :
    step env σ (.call (.load t f s)) = ({ σ with result := some (.msg .taskNotFound) }, .failed .taskNotFound) := by
  simp [step, stepCall, hd, hl]

theorem register_err (env : Env P S J) (who : Option Nat) (heap : List Buf) (T : Task P S) (f : P) {s : S} {c : Nat}
    (hp : env.parse s = .error c) :
    register env who heap T f s =
      { task := { T with drops := T.drops ++ [heap.length] }
        heap := heap ++ [{ id := heap.length, owner := who, freed := 0, borrowed := false, bad := false }]
        err := some c } := by
  simp [register, hp]

theorem register_ok (env : Env P S J) (who : Option Nat) (heap : List Buf) (T : Task P S) (f : P) {s : S} {imps : List P}
    (hp : env.parse s = .ok imps) :
    register env who heap T f s =
      { task := { T with drops := T.drops ++ [heap.length],
                         files := insert f { imports := imps, src := s } T.files,
                         borrows := insert f heap.length T.borrows }
        heap := unborrow ((T.borrows.filter fun e => decide (e.1 = f)).map (·.2)) heap
                ++ [{ id := heap.length, owner := who, freed := 0, borrowed := true, bad := false }]
        err := none } := by
  simp [register, hp]

theorem step_load_err (env : Env P S J) {σ : St P S J} (hd : σ.dead = false) {t : Nat} {T : Task P S}
    (hl : lookup σ.tasks t = some T) (f : P) {s : S} {c : Nat} (hp : env.parse s = .error c) :
    step env σ (.call (.load t f s)) =
      ({ σ with tasks := insert t (register env (some t) σ.heap T f s).task σ.tasks,
                heap := (register env (some t) σ.heap T f s).heap,
                result := some (.msg (.source c)) }, .failed (.source c)) := by
  simp [step, stepCall, hd, hl, register_err env _ _ _ _ hp]

theorem step_load_ok (env : Env P S J) {σ : St P S J} (hd : σ.dead = false) {t : Nat} {T : Task P S}
    (hl : lookup σ.tasks t = some T) (f : P) {s : S} {imps : List P} (hp : env.parse s = .ok imps) :
    step env σ (.call (.load t f s)) =
      ({ σ with tasks := insert t (register env (some t) σ.heap T f s).task σ.tasks,
                heap := (register env (some t) σ.heap T f s).heap }, .loaded) := by
  simp [step, stepCall, hd, hl, register_ok env _ _ _ _ hp]

theorem step_emit_none (env : Env P S J) {σ : St P S J} (hd : σ.dead = false) {t : Nat} (hl : lookup σ.tasks t = none) :
    step env σ (.call (.emit t)) = ({ σ with result := some (.msg .taskNotFound) }, .failed .taskNotFound) := by
  simp [step, stepCall, hd, hl]

theorem step_emit_some (env : Env P S J) {σ : St P S J} (hd : σ.dead = false) {t : Nat} {T : Task P S}
    (hl : lookup σ.tasks t = some T) {d : Doc P S} (hr : lookup T.files T.root = some d) :
    step env σ (.call (.emit t)) =
      (match env.emit T.root (lookup T.files) with
       | .js j => ({ σ with result := some (.js j) }, .js j)
       | .err c => ({ σ with result := some (.msg (.source c)) }, .failed (.source c))
       | .trap => ({ σ with dead := true }, .trap)) := by
  simp only [step, stepCall, hd, hl, hr]
  cases env.emit T.root (lookup T.files) <;> simp

theorem step_free_none (env : Env P S J) {σ : St P S J} (hd : σ.dead = false) {t : Nat} (hl : lookup σ.tasks t = none) :
    step env σ (.call (.free t)) = (σ, .freed) := by
  simp [step, stepCall, hd, hl]

theorem step_free_some (env : Env P S J) {σ : St P S J} (hd : σ.dead = false) {t : Nat} {T : Task P S}
    (hl : lookup σ.tasks t = some T) :
    step env σ (.call (.free t)) =
      ({ σ with tasks := erase σ.tasks t, heap := dropTask (some t) σ.heap T }, .freed) := by
  simp [step, stepCall, hd, hl]


/-- The four ways a step changes `next`, `tasks` or `heap`.  Every other step — on a dead instance, `get_result`,
    `get_required_files`, `emit_js`, a call on an id that is not live — changes none of the three (`quiet`). -/
inductive Effect (env : Env P S J) (σ : St P S J) (op : Op P S) (σ' : St P S J) : Prop where
  | quiet (hn : σ'.next = σ.next) (ht : σ'.tasks = σ.tasks) (hh : σ'.heap = σ.heap)
  | initErr (f : P) (s : S) (c : Nat) (hop : op = .call (.initiate f s)) (hp : env.parse s = .error c)
      (hn : σ'.next = σ.next) (ht : σ'.tasks = σ.tasks)
      (hh : σ'.heap =
        dropTask none (register env none σ.heap (newTask f) f s).heap
          (register env none σ.heap (newTask f) f s).task)
  | initOk (f : P) (s : S) (imps : List P) (hop : op = .call (.initiate f s)) (hp : env.parse s = .ok imps)
      (hn : σ'.next = σ.next + 1)
      (ht : σ'.tasks =
        (σ.next, (register env (some σ.next) σ.heap (newTask f) f s).task)
          :: σ.tasks)
      (hh : σ'.heap = (register env (some σ.next) σ.heap (newTask f) f s).heap)
  | load (t : Nat) (T : Task P S) (f : P) (s : S) (hop : op = .call (.load t f s)) (hl : lookup σ.tasks t = some T)
      (hn : σ'.next = σ.next) (ht : σ'.tasks = insert t (register env (some t) σ.heap T f s).task σ.tasks)
      (hh : σ'.heap = (register env (some t) σ.heap T f s).heap)
  | free (t : Nat) (T : Task P S) (hop : op = .call (.free t)) (hl : lookup σ.tasks t = some T) (hn : σ'.next = σ.next)
      (ht : σ'.tasks = erase σ.tasks t) (hh : σ'.heap = dropTask (some t) σ.heap T)

theorem step_effect (env : Env P S J) (σ : St P S J) (op : Op P S) : Effect env σ op (step env σ op).1 := by
  cases hd : σ.dead with
  | true => rw [step_dead env σ op hd]; exact .quiet rfl rfl rfl
  | false =>
  cases op with
  | getResult => simp only [step, hd, Bool.false_eq_true, if_false]; split <;> exact .quiet rfl rfl rfl
  | call c =>
    cases c with
    | initiate f s =>
      cases hp : env.parse s with
      | error c => rw [step_initiate_err env hd hp]; exact .initErr f s c rfl hp rfl rfl rfl
      | ok imps => rw [step_initiate_ok env hd hp]; exact .initOk f s imps rfl hp rfl rfl rfl
    | required t =>
      cases hl : lookup σ.tasks t with
      | none => rw [step_required_none env hd hl]; exact .quiet rfl rfl rfl
      | some T => rw [step_required_some env hd hl]; exact .quiet rfl rfl rfl
    | load t f s =>
      cases hl : lookup σ.tasks t with
      | none => rw [step_load_none env hd hl]; exact .quiet rfl rfl rfl
      | some T =>
        cases hp : env.parse s with
        | error c => rw [step_load_err env hd hl f hp]; exact .load t T f s rfl hl rfl rfl rfl
        | ok imps => rw [step_load_ok env hd hl f hp]; exact .load t T f s rfl hl rfl rfl rfl
    | emit t =>
      cases hl : lookup σ.tasks t with
      | none => rw [step_emit_none env hd hl]; exact .quiet rfl rfl rfl
      | some T =>
        cases hr : lookup T.files T.root with
        | none => simp only [step, stepCall, hd, hl, hr, Bool.false_eq_true, if_false]; exact .quiet rfl rfl rfl
        | some d => rw [step_emit_some env hd hl hr]; split <;> exact .quiet rfl rfl rfl
    | free t =>
      cases hl : lookup σ.tasks t with
      | none => rw [step_free_none env hd hl]; exact .quiet rfl rfl rfl
      | some T => rw [step_free_some env hd hl]; exact .free t T rfl hl rfl rfl rfl

theorem step_next_le (env : Env P S J) (σ : St P S J) (op : Op P S) : σ.next ≤ (step env σ op).1.next := by
  cases step_effect env σ op <;> omega


theorem register_root (env : Env P S J) (who : Option Nat) (heap : List Buf) (T : Task P S) (f : P) (s : S) :
    (register env who heap T f s).task.root = T.root := by
  unfold register; split <;> rfl

theorem register_files (env : Env P S J) (who : Option Nat) (heap : List Buf) (T : Task P S) (f : P) (s : S) (q : P) :
    lookup (register env who heap T f s).task.files q =
      match env.parse s with
      | .ok imps => if f = q then some ⟨imps, s⟩ else lookup T.files q
      | .error _ => lookup T.files q := by
  cases hp : env.parse s with
  | error c => rw [register_err env _ _ _ _ hp]
  | ok imps => rw [register_ok env _ _ _ _ hp]; exact lookup_insert _ _ _ _

theorem mem_register_files {env : Env P S J} {who : Option Nat} {heap : List Buf} {T : Task P S} {f : P} {s : S}
    {e : P × Doc P S} (h : e ∈ (register env who heap T f s).task.files) :
    e ∈ T.files ∨ ∃ imps, env.parse s = .ok imps ∧ e = (f, ⟨imps, s⟩) := by
  cases hp : env.parse s with
  | error c => rw [register_err env _ _ _ _ hp] at h; exact Or.inl h
  | ok imps =>
    rw [register_ok env _ _ _ _ hp] at h
    rcases mem_insert.mp h with rfl | ⟨h, _⟩
    · exact Or.inr ⟨imps, rfl, rfl⟩
    · exact Or.inl h

theorem step_task (env : Env P S J) (σ : St P S J) (op : Op P S) {t : Nat} {T' : Task P S}
    (h : lookup (step env σ op).1.tasks t = some T') :
    lookup σ.tasks t = some T' ∨
    (∃ T f s, lookup σ.tasks t = some T ∧ T' = (register env (some t) σ.heap T f s).task) ∨
    (∃ f s imps, env.parse s = .ok imps ∧ t = σ.next ∧ (step env σ op).1.next = σ.next + 1 ∧
      T' = (register env (some σ.next) σ.heap (newTask f) f s).task) := by
  cases step_effect env σ op with
  | quiet _ ht _ => exact Or.inl (ht ▸ h)
  | initErr _ _ _ _ _ _ ht _ => exact Or.inl (ht ▸ h)
  | initOk f s imps _ hp hn ht _ =>
    rw [ht, lookup_cons] at h
    split at h
    · next e => exact Or.inr (Or.inr ⟨f, s, imps, hp, e.symm, hn, (Option.some.inj h).symm⟩)
    · exact Or.inl h
  | load t₀ T f s _ hl _ ht _ =>
    rw [ht, lookup_insert] at h
    split at h
    · next e => subst e; exact Or.inr (Or.inl ⟨T, f, s, hl, (Option.some.inj h).symm⟩)
    · exact Or.inl h
  | free t₀ T _ _ _ ht _ =>
    rw [ht, lookup_erase] at h
    split at h
    · cases h
    · exact Or.inl h


/-- every live id is below `next` -/
def KeysLt (σ : St P S J) : Prop := ∀ t, σ.next ≤ t → lookup σ.tasks t = none

omit [DecidableEq P] in
theorem keysLt_init : KeysLt (init : St P S J) := by intro t _; rfl

theorem step_keysLt (env : Env P S J) (σ : St P S J) (op : Op P S) (hk : KeysLt σ) : KeysLt (step env σ op).1 := by
  intro t ht
  have hle := step_next_le env σ op
  cases h : lookup (step env σ op).1.tasks t with
  | none => rfl
  | some T' =>
    rcases step_task env σ op h with h1 | ⟨T, _, _, h1, _⟩ | ⟨_, _, _, _, rfl, hn, _⟩
    · rw [hk t (by omega)] at h1; cases h1
    · rw [hk t (by omega)] at h1; cases h1
    · omega

theorem step_not_live (env : Env P S J) (σ : St P S J) (op : Op P S) (t : Nat) (hlt : t < σ.next)
    (hn : lookup σ.tasks t = none) : lookup (step env σ op).1.tasks t = none := by
  cases h : lookup (step env σ op).1.tasks t with
  | none => rfl
  | some T' =>
    rcases step_task env σ op h with h1 | ⟨T, _, _, h1, _⟩ | ⟨_, _, _, _, rfl, _, _⟩
    · rw [hn] at h1; cases h1
    · rw [hn] at h1; cases h1
    · omega


def issued : List (Resp P J) → List Nat
  | [] => []
  | .taskId n :: r => n :: issued r
  | _ :: r => issued r

theorem step_taskId (env : Env P S J) (σ : St P S J) (op : Op P S) (n : Nat)
    (h : (step env σ op).2 = .taskId n) : n = σ.next ∧ (step env σ op).1.next = σ.next + 1 := by
  unfold step at h ⊢
  split at h
  · simp at h
  · rename_i hd
    simp only [hd]
    cases op with
    | getResult => dsimp only at h; split at h <;> simp at h
    | call c =>
      cases c <;> simp only [stepCall] at h ⊢ <;> (repeat' split at h) <;> simp_all

theorem issued_ge (env : Env P S J) (σ : St P S J) (h : List (Op P S)) :
    ∀ n ∈ issued (runResps env σ h), σ.next ≤ n := by
  induction h generalizing σ with
  | nil => simp [runResps, issued]
  | cons op h ih =>
    intro n hn
    simp only [runResps] at hn
    have hle := step_next_le env σ op
    cases hr : (step env σ op).2 with
    | taskId m =>
      rw [hr] at hn
      simp only [issued, List.mem_cons] at hn
      have ⟨e1, e2⟩ := step_taskId env σ op m hr
      rcases hn with rfl | hn
      · omega
      · have := ih _ n hn; omega
    | _ =>
      rw [hr] at hn
      simp only [issued] at hn
      have := ih _ n hn; omega

theorem issued_pairwise (env : Env P S J) (σ : St P S J) (h : List (Op P S)) :
    (issued (runResps env σ h)).Pairwise (· < ·) := by
  induction h generalizing σ with
  | nil => simp [runResps, issued]
  | cons op h ih =>
    simp only [runResps]
    cases hr : (step env σ op).2 with
    | taskId m =>
      simp only [issued, List.pairwise_cons]
      have ⟨e1, e2⟩ := step_taskId env σ op m hr
      refine ⟨?_, ih _⟩
      intro n hn
      have := issued_ge env _ h n hn
      omega
    | _ => simp only [issued]; exact ih _

/-- the emitter never panics (C08's claim for import resolution + the JS printer; searched by the harness's O stream) -/
def EmitTotal (env : Env P S J) : Prop := ∀ root look, env.emit root look ≠ .trap

/-- every live task still holds its root document.  (Not C13's `Imports.Spec.RootOK` / `RootOKp`, which say that the file
    map has nothing but the root document under the root's key.) -/
def RootOk (σ : St P S J) : Prop := ∀ t T, lookup σ.tasks t = some T → lookup T.files T.root ≠ none

theorem rootOk_init : RootOk (init : St P S J) := by intro t T h; simp [init] at h

theorem step_rootOk (env : Env P S J) (σ : St P S J) (op : Op P S) (hk : RootOk σ) : RootOk (step env σ op).1 := by
  intro t T' h
  rcases step_task env σ op h with h1 | ⟨T, f, s, h1, rfl⟩ | ⟨f, s, imps, hp, _, _, rfl⟩
  · exact hk t T' h1
  · rw [register_root, register_files]
    have := hk t T h1
    split
    · split <;> simp [*]
    · exact this
  · rw [register_root, register_files, hp]
    simp


/-- the responses of the calls that leave the RESULT cell alone -/
def Resp.silent : Resp P J → Bool
  | .taskId _ => true
  | .loaded => true
  | .freed => true
  | _ => false

/-- Beside `step_effect` (next / tasks / heap) the second classification of a step, for what the caller observes: with a
    total emitter a call keeps the instance alive and does not trap, and it either answers silently and leaves RESULT
    alone or leaves a value in RESULT. -/
theorem callQuiet (env : Env P S J) (he : EmitTotal env) (σ : St P S J) (hd : σ.dead = false) (hr : RootOk σ)
    (c : Call P S) :
    (step env σ (.call c)).1.dead = false ∧ (step env σ (.call c)).2 ≠ .trap ∧
    (((step env σ (.call c)).2.silent = true ∧ (step env σ (.call c)).1.result = σ.result) ∨
     ((step env σ (.call c)).2.silent = false ∧ (step env σ (.call c)).1.result ≠ none)) := by
  cases c with
  | initiate f s =>
    cases hp : env.parse s with
    | error c => rw [step_initiate_err env hd hp]; simp [hd, Resp.silent]
    | ok imps => rw [step_initiate_ok env hd hp]; simp [hd, Resp.silent]
  | required t =>
    cases hl : lookup σ.tasks t with
    | none => rw [step_required_none env hd hl]; simp [hd, Resp.silent]
    | some T => rw [step_required_some env hd hl]; simp [hd, Resp.silent]
  | load t f s =>
    cases hl : lookup σ.tasks t with
    | none => rw [step_load_none env hd hl]; simp [hd, Resp.silent]
    | some T =>
      cases hp : env.parse s with
      | error c => rw [step_load_err env hd hl f hp]; simp [hd, Resp.silent]
      | ok imps => rw [step_load_ok env hd hl f hp]; simp [hd, Resp.silent]
  | emit t =>
    cases hl : lookup σ.tasks t with
    | none => rw [step_emit_none env hd hl]; simp [hd, Resp.silent]
    | some T =>
      cases hroot : lookup T.files T.root with
      | none => exact absurd hroot (hr t T hl)
      | some d =>
        rw [step_emit_some env hd hl hroot]
        cases hem : env.emit T.root (lookup T.files) with
        | js j => simp [hd, Resp.silent]
        | err c => simp [hd, Resp.silent]
        | trap => exact absurd hem (he _ _)
  | free t =>
    cases hl : lookup σ.tasks t with
    | none => rw [step_free_none env hd hl]; simp [hd, Resp.silent]
    | some T => rw [step_free_some env hd hl]; simp [hd, Resp.silent]

theorem step_getResult (env : Env P S J) (σ : St P S J) (hd : σ.dead = false) :
    step env σ .getResult = (match σ.result with
      | none => ({ σ with dead := true }, .trap)
      | some r => (σ, .result r)) := by
  simp only [step, hd, Bool.false_eq_true, if_false]
  cases σ.result <;> rfl


/-- the task a call is addressed to (for `initiate`: the id it is about to issue) -/
def owner (env : Env P S J) (σ : St P S J) : Call P S → Option Nat
  | .initiate _ s => match env.parse s with
    | .ok _ => some σ.next
    | .error _ => none
  | .required t => some t
  | .load t _ _ => some t
  | .emit t => some t
  | .free t => some t

/-- id renaming: the projected task is the first (and only) task of the projected history -/
def renameCall : Call P S → Call P S
  | .initiate f s => .initiate f s
  | .required _ => .required 1
  | .load _ f s => .load 1 f s
  | .emit _ => .emit 1
  | .free _ => .free 1

def renameResp : Resp P J → Resp P J
  | .taskId _ => .taskId 1
  | r => r

/-- the calls of `h` addressed to task `t`, ids renamed -/
def proj (env : Env P S J) (t : Nat) : St P S J → List (Call P S) → List (Call P S)
  | _, [] => []
  | σ, c :: h =>
    if owner env σ c = some t then renameCall c :: proj env t (step env σ (.call c)).1 h
    else proj env t (step env σ (.call c)).1 h

/-- the responses of `h` to the calls addressed to task `t`, ids renamed -/
def respsOf (env : Env P S J) (t : Nat) : St P S J → List (Call P S) → List (Resp P J)
  | _, [] => []
  | σ, c :: h =>
    if owner env σ c = some t then renameResp (step env σ (.call c)).2 :: respsOf env t (step env σ (.call c)).1 h
    else respsOf env t (step env σ (.call c)).1 h

/-- the slot of the projected task against the slot of task 1 of the projected history: both empty, or tasks
    with the same root and files (buffer ids are not compared: the two heaps differ) -/
def TaskRel : Option (Task P S) → Option (Task P S) → Prop
  | none, none => True
  | some T, some U => T.root = U.root ∧ T.files = U.files
  | _, _ => False

omit [DecidableEq P] in
theorem TaskRel.cases {a b : Option (Task P S)} (h : TaskRel a b) :
    (a = none ∧ b = none) ∨ ∃ T U, a = some T ∧ b = some U ∧ T.root = U.root ∧ T.files = U.files := by
  cases a <;> cases b <;> simp only [TaskRel] at h
  · exact Or.inl ⟨rfl, rfl⟩
  · exact Or.inr ⟨_, _, rfl, rfl, h⟩

/-- `τ` has been given the calls of `σ`'s history that were addressed to task `t`, renamed to task 1: both instances
    are alive and task `t` of `σ` looks like task 1 of `τ` -/
structure Sim (t : Nat) (σ τ : St P S J) : Prop where
  sd : σ.dead = false
  td : τ.dead = false
  keys : KeysLt σ
  root : RootOk σ
  rel : TaskRel (lookup σ.tasks t) (lookup τ.tasks 1)
  /-- until `σ` issues the id `t`, `τ` has issued none: the `initiate` that gets `t` in `σ` gets 1 in `τ` -/
  phase : σ.next ≤ t → τ.next = 1

theorem Sim.answer {t : Nat} {σ τ : St P S J} (hs : Sim t σ τ) (r r' : Option (Res P J)) :
    Sim t { σ with result := r } { τ with result := r' } :=
  ⟨hs.sd, hs.td, hs.keys, hs.root, hs.rel, hs.phase⟩

theorem step_call_alive (env : Env P S J) (he : EmitTotal env) (σ : St P S J) (hd : σ.dead = false) (hr : RootOk σ)
    (c : Call P S) : (step env σ (.call c)).1.dead = false ∧ (step env σ (.call c)).2 ≠ .trap :=
  ⟨(callQuiet env he σ hd hr c).1, (callQuiet env he σ hd hr c).2.1⟩

theorem run_calls_alive (env : Env P S J) (he : EmitTotal env) (h : List (Call P S)) :
    ∀ σ : St P S J, σ.dead = false → RootOk σ → ∀ r ∈ runResps env σ (h.map .call), r ≠ .trap := by
  induction h with
  | nil => intro σ _ _ r hr; simp [runResps] at hr
  | cons c h ih =>
    intro σ hd hro r hr
    simp only [List.map_cons, runResps, List.mem_cons] at hr
    have ⟨h1, h2⟩ := step_call_alive env he σ hd hro c
    rcases hr with rfl | hr
    · exact h2
    · exact ih _ h1 (step_rootOk env σ _ hro) r hr

theorem step_frame (env : Env P S J) (σ : St P S J) (c : Call P S) (t : Nat) (ho : owner env σ c ≠ some t) :
    lookup (step env σ (.call c)).1.tasks t = lookup σ.tasks t := by
  cases step_effect env σ (.call c) with
  | quiet _ ht _ => rw [ht]
  | initErr _ _ _ _ _ _ ht _ => rw [ht]
  | initOk f s imps hop hp _ ht _ =>
    cases hop
    rw [ht, lookup_cons, if_neg]
    intro e; exact ho (by simp [owner, hp, e])
  | load t₀ T f s hop _ _ ht _ =>
    cases hop
    rw [ht, lookup_insert, if_neg]
    intro e; exact ho (by simp [owner, e])
  | free t₀ T hop _ _ ht _ =>
    cases hop
    rw [ht, lookup_erase, if_neg]
    intro e; exact ho (by simp [owner, e])

theorem sim_step (env : Env P S J) (he : EmitTotal env) (t : Nat) (σ τ : St P S J) (hs : Sim t σ τ) (c : Call P S) :
    (owner env σ c = some t →
      Sim t (step env σ (.call c)).1 (step env τ (.call (renameCall c))).1 ∧
      renameResp (step env σ (.call c)).2 = (step env τ (.call (renameCall c))).2) ∧
    (owner env σ c ≠ some t → Sim t (step env σ (.call c)).1 τ) := by
  have hk' := step_keysLt env σ (.call c) hs.keys
  have hr' := step_rootOk env σ (.call c) hs.root
  refine ⟨fun h => ?_, fun ho => ⟨(step_call_alive env he σ hs.sd hs.root c).1, hs.td, hk', hr',
    by rw [step_frame env σ c t ho]; exact hs.rel, fun h => hs.phase (Nat.le_trans (step_next_le env σ _) h)⟩⟩
  cases c with
  | initiate f s =>
    simp only [renameCall]
    cases hp : env.parse s with
    | error e => simp [owner, hp] at h
    | ok imps =>
      simp [owner, hp] at h
      have hτ := hs.phase (by omega)
      rw [step_initiate_ok env hs.sd hp] at hk' hr' ⊢
      rw [step_initiate_ok env hs.td hp]
      refine ⟨⟨hs.sd, hs.td, hk', hr', ?_, ?_⟩, ?_⟩
      · simp only; rw [lookup_cons, lookup_cons]
        simp [h, hτ, TaskRel, register_ok env _ _ _ _ hp]
      · simp only; omega
      · simp [renameResp, hτ]
  | required t' =>
    simp only [renameCall]
    simp [owner] at h; subst h
    rcases hs.rel.cases with ⟨h1, h2⟩ | ⟨T, U, h1, h2, r1, r2⟩
    · rw [step_required_none env hs.sd h1, step_required_none env hs.td h2]
      exact ⟨hs.answer _ _, rfl⟩
    · rw [step_required_some env hs.sd h1, step_required_some env hs.td h2]
      exact ⟨hs.answer _ _, by simp [renameResp, r2]⟩
  | load t' f s =>
    simp only [renameCall]
    simp [owner] at h; subst h
    rcases hs.rel.cases with ⟨h1, h2⟩ | ⟨T, U, h1, h2, r1, r2⟩
    · rw [step_load_none env hs.sd h1, step_load_none env hs.td h2]
      exact ⟨hs.answer _ _, rfl⟩
    · cases hp : env.parse s with
      | error c =>
        rw [step_load_err env hs.sd h1 f hp] at hk' hr' ⊢; rw [step_load_err env hs.td h2 f hp]
        refine ⟨⟨hs.sd, hs.td, hk', hr', ?_, hs.phase⟩, rfl⟩
        simp only; rw [lookup_insert, lookup_insert]
        simp [TaskRel, register_err env _ _ _ _ hp, r1, r2]
      | ok imps =>
        rw [step_load_ok env hs.sd h1 f hp] at hk' hr' ⊢; rw [step_load_ok env hs.td h2 f hp]
        refine ⟨⟨hs.sd, hs.td, hk', hr', ?_, hs.phase⟩, rfl⟩
        simp only; rw [lookup_insert, lookup_insert]
        simp [TaskRel, register_ok env _ _ _ _ hp, r1, r2]
  | emit t' =>
    simp only [renameCall]
    simp [owner] at h; subst h
    rcases hs.rel.cases with ⟨h1, h2⟩ | ⟨T, U, h1, h2, r1, r2⟩
    · rw [step_emit_none env hs.sd h1, step_emit_none env hs.td h2]
      exact ⟨hs.answer _ _, rfl⟩
    · cases h3 : lookup T.files T.root with
      | none => exact absurd h3 (hs.root t' T h1)
      | some d =>
        have h3' : lookup U.files U.root = some d := by rw [← r1, ← r2]; exact h3
        rw [step_emit_some env hs.sd h1 h3, step_emit_some env hs.td h2 h3', ← r1, ← r2]
        cases h4 : env.emit T.root (lookup T.files) with
        | trap => exact absurd h4 (he T.root (lookup T.files))
        | js j => exact ⟨hs.answer _ _, rfl⟩
        | err e => exact ⟨hs.answer _ _, rfl⟩
  | free t' =>
    simp only [renameCall]
    simp [owner] at h; subst h
    rcases hs.rel.cases with ⟨h1, h2⟩ | ⟨T, U, h1, h2, r1, r2⟩
    · rw [step_free_none env hs.sd h1, step_free_none env hs.td h2]
      exact ⟨hs, rfl⟩
    · rw [step_free_some env hs.sd h1] at hk' hr' ⊢; rw [step_free_some env hs.td h2]
      refine ⟨⟨hs.sd, hs.td, hk', hr', ?_, hs.phase⟩, rfl⟩
      simp [lookup_erase, TaskRel]

theorem sim_run (env : Env P S J) (he : EmitTotal env) (t : Nat) (h : List (Call P S)) :
    ∀ σ τ : St P S J, Sim t σ τ → respsOf env t σ h = runResps env τ ((proj env t σ h).map .call) := by
  induction h with
  | nil => intro σ τ _; simp [respsOf, proj, runResps]
  | cons c h ih =>
    intro σ τ hs
    have ⟨h1, h2⟩ := sim_step env he t σ τ hs c
    simp only [respsOf, proj]
    by_cases ho : owner env σ c = some t
    · have ⟨hs', hr⟩ := h1 ho
      simp only [ho, if_true, List.map_cons, runResps]
      rw [hr, ih _ _ hs']
    · simp only [ho, if_false]
      exact ih _ _ (h2 ho)

theorem sim_init (t : Nat) : Sim t (init : St P S J) init :=
  ⟨rfl, rfl, keysLt_init, rootOk_init, by simp [init, TaskRel], fun _ => rfl⟩


theorem runSt_append (env : Env P S J) (σ : St P S J) (h1 h2 : List (Op P S)) :
    runSt env σ (h1 ++ h2) = runSt env (runSt env σ h1) h2 := by
  induction h1 generalizing σ with
  | nil => rfl
  | cons op h ih => simp only [List.cons_append, runSt]; exact ih _

theorem runSt_induct (env : Env P S J) {I : St P S J → Prop} (hstep : ∀ σ op, I σ → I (step env σ op).1) :
    ∀ (h : List (Op P S)) (σ : St P S J), I σ → I (runSt env σ h)
  | [], _, hi => hi
  | op :: h, σ, hi => runSt_induct env hstep h _ (hstep σ op hi)

/-- every loaded document is the parse of the source it was built from -/
def ParsedOk (env : Env P S J) (σ : St P S J) : Prop :=
  ∀ t T, lookup σ.tasks t = some T → ∀ e ∈ T.files, env.parse e.2.src = .ok e.2.imports

omit [DecidableEq P] in
theorem parsedOk_init (env : Env P S J) : ParsedOk env (init : St P S J) := by intro t T h; simp [init] at h

theorem step_parsedOk (env : Env P S J) (σ : St P S J) (op : Op P S) (hk : ParsedOk env σ) : ParsedOk env (step env σ op).1 := by
  intro t T' h e he
  rcases step_task env σ op h with h1 | ⟨T, f, s, h1, rfl⟩ | ⟨f, s, imps, _, _, _, rfl⟩
  · exact hk t T' h1 e he
  · rcases mem_register_files he with he | ⟨imps, hp, rfl⟩
    · exact hk t T h1 e he
    · exact hp
  · rcases mem_register_files he with he | ⟨imps, hp, rfl⟩
    · cases he
    · exact hp

theorem run_inv (env : Env P S J) (h : List (Op P S)) (σ : St P S J) :
    KeysLt σ → RootOk σ → ParsedOk env σ →
    KeysLt (runSt env σ h) ∧ RootOk (runSt env σ h) ∧ ParsedOk env (runSt env σ h) := fun a b c =>
  runSt_induct env (I := fun σ => KeysLt σ ∧ RootOk σ ∧ ParsedOk env σ)
    (fun σ op ⟨a, b, c⟩ => ⟨step_keysLt env σ op a, step_rootOk env σ op b, step_parsedOk env σ op c⟩) h σ ⟨a, b, c⟩

/-- supplying the files `fs` (last entry first) to live task `n` -/
def supplyAll (n : Nat) (fs : List (P × Doc P S)) : List (Op P S) :=
  fs.reverse.map fun e => .call (.load n e.1 e.2.src)

theorem run_supplyAll (env : Env P S J) (n : Nat) (fs : List (P × Doc P S))
    (hfs : ∀ e ∈ fs, env.parse e.2.src = .ok e.2.imports) :
    ∀ (σ : St P S J) (T : Task P S), σ.dead = false → lookup σ.tasks n = some T →
      ∃ T', (runSt env σ (supplyAll n fs)).dead = false ∧ lookup (runSt env σ (supplyAll n fs)).tasks n = some T' ∧
        T'.root = T.root ∧
        ∀ q, lookup T'.files q = (match lookup fs q with | some d => some d | none => lookup T.files q) := by
  induction fs with
  | nil => intro σ T hd hl; exact ⟨T, by simpa [supplyAll, runSt] using hd, by simpa [supplyAll, runSt] using hl, rfl, by simp⟩
  | cons e fs ih =>
    intro σ T hd hl
    obtain ⟨T1, hd1, hl1, hr1, hq1⟩ := ih (fun e he => hfs e (List.mem_cons_of_mem _ he)) σ T hd hl
    have hp := hfs e (by simp)
    have : supplyAll n (e :: fs) = supplyAll n fs ++ [.call (.load n e.1 e.2.src)] := by
      simp [supplyAll]
    rw [this, runSt_append]
    simp only [runSt]
    rw [step_load_ok env hd1 hl1 e.1 hp, register_ok env _ _ _ _ hp]
    refine ⟨{ T1 with drops := T1.drops ++ [(runSt env σ (supplyAll n fs)).heap.length],
                       files := insert e.1 { imports := e.2.imports, src := e.2.src } T1.files,
                       borrows := insert e.1 (runSt env σ (supplyAll n fs)).heap.length T1.borrows },
      hd1, by simp only; rw [lookup_insert]; simp, hr1, ?_⟩
    intro q
    simp only
    rw [lookup_insert]
    obtain ⟨p, d⟩ := e
    rw [lookup_cons]
    by_cases hpq : p = q
    · simp [hpq]
    · simp [hpq]; exact hq1 q


theorem run_not_live (env : Env P S J) (t : Nat) (h : List (Op P S)) (σ : St P S J) (h1 : t < σ.next)
    (h0 : lookup σ.tasks t = none) : lookup (runSt env σ h).tasks t = none :=
  (runSt_induct env (I := fun σ => t < σ.next ∧ lookup σ.tasks t = none)
    (fun σ op ⟨h1, h0⟩ => ⟨Nat.lt_of_lt_of_le h1 (step_next_le env σ op), step_not_live env σ op t h1 h0⟩) h σ ⟨h1, h0⟩).2


/-- the history that gives a fresh task (which gets id `n`) the files of `T`: initiate with the root's
    source, then supply every file -/
def freshHist (n : Nat) (T : Task P S) (rootSrc : S) : List (Op P S) :=
  .call (.initiate T.root rootSrc) :: supplyAll n T.files

/-- an emitter that panics on one particular root document (source 1), as the printer did on `query Q { ...Missing }`
    before /repo commit 08fd7e5 -/
def trapEnv : Env Nat Nat Nat :=
  ⟨fun _ => .ok [], fun a _ => a, fun _ look => match look 0 with
    | some d => if d.src = 1 then .trap else .js 0
    | none => .js 0⟩


end Steps

end NitroVerif.Loader
