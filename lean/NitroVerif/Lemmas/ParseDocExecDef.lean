/-
Executable definitions followed by a `Tail`: the last token of an operation / fragment definition is the `}` of its
selection set, and what follows its trailing gap may be a token, an `#import` statement or a final unterminated comment.
Everything inside the braces is followed by a real token; only the closing `}` carries the `Tail` (`PartT.str`).
-/
import NitroVerif.Lemmas.ParseDocExec
namespace NitroVerif.DocParse
open NitroVerif.Peg NitroVerif.Gen NitroVerif.Gen.Parts NitroVerif.Build NitroVerif.TypeParse NitroVerif.StringParse
open NitroVerif.Gql NitroVerif.ValueParse NitroVerif.Spec.Lex NitroVerif.ParseText

variable {inp : List Char}

theorem selSet_all' (τ : Trivia) (hτ : ∀ q, Ws (τ q)) (ss : List Selection) (hne : ss ≠ []) (hwf : WFSels ss) :
    SelSetOk' τ inp ss :=
  selSetT' τ hτ ss hne ((sel_all_sels τ hτ).2 ss hwf)

/-- the round-trip statement for one executable definition written at `p` with the text `t`, followed by a `Tail` -/
def DefOk' (inp : List Char) (p : Nat) (t : List Char) (n : Nat) (c' : Cur) (d : ExecDef) : Prop :=
  ∃ pr, ReadsT inp 40 n R.ExecutableDefinition p t c' (buildExecutableDefinition (Ctx.spec inp)) d pr

/-- a written name is followed by a non-empty gap, so nothing is asked of the next token -/
theorem Nxt.optName {τ : Trivia} {bad : Char → Prop} {q : Nat} (nm : Option (Name × Pos))
    (hv : ∀ a ∈ nm, validName a.1.toList) (g : HasAt inp q (rOptName τ q nm))
    (hn : Nxt inp bad false (q + (rOptName τ q nm).length)) : Nxt inp (fun _ => False) nm.isSome q := by
  cases nm with
  | none => exact ⟨hn.tok, fun _ _ _ h => h, hn.glue⟩
  | some a => exact Nxt.of_name g (hd_tk (hd_of_validName (hv a rfl)))

theorem opT' (τ : Trivia) (hτ : ∀ q, Ws (τ q)) (o : OperationDef) (hwf : WFOp o) {sep : Bool} {p : Nat} {n : Nat} {c' : Cur}
    (h : HasAt inp p (rOp τ sep p o)) (ht : Tail inp n (p + (rOp τ sep p o).length) c') :
    DefOk' inp p (rOp τ sep p o) n c' (.op (wpOp τ inp p o)) := by
  obtain ⟨hname, hvars, hdirs, hne, hsel⟩ := hwf
  simp only [rOp, wpOp] at h ht ⊢
  generalize hsK : o.name.isSome = sK at h ht ⊢
  have g1 := h.right.left
  have g2 := h.right.right.left
  have g3 := h.right.right.right.left
  have g4 := h.right.right.right.right
  -- what follows the directives, the variable definitions, the name, the keyword
  have n4 : Nxt inp (fun c => c = '(' ∨ c = '@' ∨ nameStart c) false _ :=
    Nxt.of_hd g4 (hd_rSelSet τ sep _ o.sel) (by rintro c rfl; decide)
  obtain ⟨oD, D, n3⟩ := optDirsT τ hτ o.dirs hdirs (by decide) (by decide) g3 n4
  obtain ⟨oV, V, n2⟩ := optVarsT τ hτ o.vars hvars (by decide) g2 n3
  obtain ⟨prK, K⟩ := opTypeT hτ o.kind h.left (hsK ▸ Nxt.optName o.name hname g1 n2)
  obtain ⟨oN, N⟩ := optNameT hτ o.name hname
    (fun d hd => ⟨⟨Or.inr (Or.inr hd), nameStart_ne hd (by decide)⟩, nameStart_ne hd (by decide)⟩) g1 n2
  obtain ⟨prS, S⟩ := selSet_all' τ hτ o.sel hne hsel sep _ n c' g4 ht.app.app.app.app
  obtain ⟨e, rO⟩ := PartT.rule (r := R.OperationDefinition) rfl (PartT.choice_l (b := .call R.SelectionSet)
    (K.part.seqT (N.part.seqT (V.part.seqT (D.part.seqT S.part)))))
  obtain ⟨e', rE⟩ := PartT.rule look_ExecutableDefinition
    (PartT.choice_l (b := .choice (.call R.FragmentDefinition) (.call R.ext_ImportStatement)) rO)
  refine ⟨_, rE.mono (by decide), rfl, rfl, fun fuel hf => ?_⟩
  have hm := matchParts_slots P_OperationDefinition [some prK, oN, oV, oD, some prS] (by decide)
    ⟨fun x hx => by cases hx; exact K.rule, N.rule, V.rule, D.rule, ⟨_, rfl, S.rule⟩, trivial⟩
  rw [show [prK] ++ (oN.toList ++ (oV.toList ++ (oD.toList ++ [prS]))) = slotPairs [some prK, oN, oV, oD, some prS] from rfl]
  have hkw := K.build _ (Nat.le_refl _)
  have hfV := V.build fuel (fuel_left (fuel_right (fuel_right hf)))
  have hfD := D.build fuel (fuel_left (fuel_right (fuel_right (fuel_right hf))))
  have hfS := S.build fuel (fuel_right (fuel_right (fuel_right (fuel_right hf))))
  have hnm : Option.map (ident (Ctx.spec inp)) oN =
      o.name.map fun n => (n.1, posAt inp (p + (tk τ sK p (opKw o.kind)).length)) :=
    Except.ok.inj (N.build _ (Nat.le_refl _))
  cases oV with
  | none =>
    simp [buildExecutableDefinition, onlyChildOf, onlyChild, Pair.children, OC_ExecutableDefinition, Pair.rule, hm,
      Pair.start, hkw, ← Except.ok.inj hfV, hfD, hfS, hnm, toPos_spec', bind, Except.bind, pure, Except.pure,
      R.OperationDefinition]
  | some v =>
    simp only [optVarsB] at hfV
    simp [buildExecutableDefinition, onlyChildOf, onlyChild, Pair.children, OC_ExecutableDefinition, Pair.rule, hm,
      Pair.start, hkw, hfV, hfD, hfS, hnm, toPos_spec', bind, Except.bind, R.OperationDefinition]

theorem opShortT' (τ : Trivia) (hτ : ∀ q, Ws (τ q)) (o : OperationDef) (hne : o.sel ≠ []) (hsel : WFSels o.sel)
    {sep : Bool} {p : Nat} {n : Nat} {c' : Cur} (h : HasAt inp p (rSelSet τ sep p o.sel))
    (ht : Tail inp n (p + (rSelSet τ sep p o.sel).length) c') :
    DefOk' inp p (rSelSet τ sep p o.sel) n c' (.op (wpOpShort τ inp p o)) := by
  obtain ⟨prS, S⟩ := selSet_all' τ hτ o.sel hne hsel sep p n c' h ht
  have f1 := Fails.mono (m := B (rSelSet τ sep p o.sel).length + 5) (fails_seq_1 (b := .seq (.opt (.call R.Name))
    (.seq (.opt (.call R.VariablesDefinition)) (.seq (.opt (.call R.Directives)) (.call R.SelectionSet))))
    (opType_fails (headNot_of_hd h (hd_rSelSet τ sep p o.sel) (by rintro c rfl; decide)))) (le_B (by decide))
  obtain ⟨e, rO⟩ := PartT.rule (r := R.OperationDefinition) rfl (PartT.choice_r f1 S.part (Nat.le_refl _))
  obtain ⟨e', rE⟩ := PartT.rule look_ExecutableDefinition
    (PartT.choice_l (b := .choice (.call R.FragmentDefinition) (.call R.ext_ImportStatement)) rO)
  refine ⟨_, rE.mono (by decide), rfl, rfl, fun fuel hf => ?_⟩
  have hm := matchParts_slots P_OperationDefinition [none, none, none, none, some prS] (by decide)
    ⟨(fun x hx => by cases hx), (fun x hx => by cases hx), (fun x hx => by cases hx), (fun x hx => by cases hx),
      ⟨_, rfl, S.rule⟩, trivial⟩
  rw [show [prS] = slotPairs [none, none, none, none, some prS] from rfl]
  simp [buildExecutableDefinition, onlyChildOf, onlyChild, Pair.children, OC_ExecutableDefinition, Pair.rule, hm,
    optDirs, S.build fuel hf, toPos_spec', Pair.start, bind, Except.bind, pure, Except.pure, R.OperationDefinition, wpOpShort]

theorem matchParts_frag {kp fnp tcp prS : Pair} {oD : Option Pair} (h4 : ∀ x ∈ oD, x.rule = R.Directives)
    (h5 : prS.rule = R.SelectionSet) (h1 : kp.rule = R.KEYWORD_fragment) (h2 : fnp.rule = R.FragmentName)
    (h3 : tcp.rule = R.TypeCondition) :
    matchParts P_FragmentDefinition (kp :: fnp :: tcp :: (oD.toList ++ [prS])) =
      .ok [some kp, some fnp, some tcp, oD, some prS] :=
  matchParts_slots P_FragmentDefinition [some kp, some fnp, some tcp, oD, some prS] (by decide)
    ⟨⟨_, rfl, h1⟩, ⟨_, rfl, h2⟩, ⟨_, rfl, h3⟩, h4, ⟨_, rfl, h5⟩, trivial⟩

theorem fragT' (τ : Trivia) (hτ : ∀ q, Ws (τ q)) (f : FragmentDef) (hwf : WFFrag f) {sep : Bool} {p : Nat} {n : Nat} {c' : Cur}
    (h : HasAt inp p (rFrag τ sep p f)) (ht : Tail inp n (p + (rFrag τ sep p f).length) c') :
    DefOk' inp p (rFrag τ sep p f) n c' (.frag (wpFrag τ inp p f)) := by
  obtain ⟨hname, hne, hcond, hdirs, hsne, hsel⟩ := hwf
  simp only [rFrag, wpFrag] at h ht ⊢
  have g1 := h.right.left
  have g2 := h.right.right.left
  have g3 := h.right.right.right.left
  have g4 := h.right.right.right.right
  have hdK : Hd (· = 'f') (tk τ true p kwFragment) := hd_tk (hd_cons _ rfl)
  have hdC : Hd (· = 'o') (rCond τ false (p + (tk τ true p kwFragment).length +
      (tk τ true (p + (tk τ true p kwFragment).length) f.name.toList).length) (some (f.cond, f.condPos))) :=
    (hd_rCond τ false _ (some (f.cond, f.condPos))).resolve_left (Hd.append (hd_tk (P := (· = 'o')) (hd_cons ['n'] rfl)) _).ne_nil
  -- what follows the directives, the type condition, the name
  have n4 : Nxt inp (fun c => c = '(' ∨ c = '@' ∨ nameStart c) false _ :=
    Nxt.of_hd g4 (hd_rSelSet τ sep _ f.sel) (by rintro c rfl; decide)
  obtain ⟨oD, D, n3⟩ := optDirsT τ hτ f.dirs hdirs (by decide) (by decide) g3 n4
  have n2 : Nxt inp (fun _ => False) true _ := Nxt.of_hd_sep g2 hdC (by rintro c rfl; decide)
  have rK := kwP hτ (r := R.KEYWORD_fragment) rfl h.left (bad := fun _ => False)
    (Nxt.of_name g1 (hd_tk (hd_of_validName hname)))
  have pFN := fragNameP hτ hname hne g1 n2
  obtain ⟨prC, C⟩ := condT τ hτ f.cond f.condPos hcond g2 n3
  obtain ⟨prS, S⟩ := selSet_all' τ hτ f.sel hsne hsel sep _ n c' g4 ht.app.app.app.app
  obtain ⟨e, rF⟩ := PartT.rule (r := R.FragmentDefinition) rfl (rK.seqT (pFN.seqT (C.part.seqT (D.part.seqT S.part))))
  obtain ⟨e', rE⟩ := PartT.rule look_ExecutableDefinition (PartT.choice_r
    (opDef_fails (headNot_of_hd h.left hdK (by rintro c rfl; decide)))
    (PartT.choice_l (b := .call R.ext_ImportStatement) rF) (le_B (by decide)))
  refine ⟨_, rE.mono (by decide), rfl, rfl, fun fuel hf => ?_⟩
  simp [buildExecutableDefinition, onlyChildOf, onlyChild, Pair.children, OC_ExecutableDefinition, Pair.rule,
    matchParts_frag (kp := .mk R.KEYWORD_fragment _ _ _) (fnp := .mk R.FragmentName _ _ _) D.rule S.rule rfl rfl C.rule,
    C.build _ (Nat.le_refl _), asString_spec', g1.left.slice, D.build fuel (fuel_left (fuel_right (fuel_right (fuel_right hf)))),
    S.build fuel (fuel_right (fuel_right (fuel_right (fuel_right hf)))), toPos_spec', Pair.start, Pair.stop, bind,
    Except.bind, R.OperationDefinition, R.FragmentDefinition]

theorem defT' (τ : Trivia) (hτ : ∀ q, Ws (τ q)) (sh : Nat → Bool) (d : ExecDef) (hwf : WFDef d) {sep : Bool} {p n : Nat}
    {c' : Cur} (h : HasAt inp p (rDef τ sh sep p d)) (ht : Tail inp n (p + (rDef τ sh sep p d).length) c') :
    DefOk' inp p (rDef τ sh sep p d) n c' (wpDef τ inp sh sep p d) := by
  cases d with
  | op o =>
    simp only [rDef, wpDef] at h ht ⊢
    split
    · rename_i hc
      rw [if_pos hc] at h ht
      exact opShortT' τ hτ o hwf.2.2.2.1 hwf.2.2.2.2 h ht
    · rename_i hc
      rw [if_neg hc] at h ht
      exact opT' τ hτ o hwf h ht
  | frag f => exact fragT' τ hτ f hwf h ht
  | imp i => exact absurd hwf id

end NitroVerif.DocParse
