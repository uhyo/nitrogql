/-
C10 ∘ C05 — helper lemmas: which parts of the side conditions of the closed forms (`DocOK`, the argument condition of
`C10_resolver_args_closed`, `ResolversOK`) follow from the RULES OF THE TYPE-SYSTEM SPECIFICATION (`Spec/ValidTs.lean`:
the executable rule predicates the schema check is proved sound for), and which remain conditions on the configuration.
Nothing here mentions the checker model; `Props/C10ComposedChecked.lean` plugs C05's soundness theorems in.
-/
import NitroVerif.Lemmas.DeclsComposed
import NitroVerif.Lemmas.DeclsClosedResolvers
import NitroVerif.Spec.ValidTs
import NitroVerif.Lemmas.CheckTs
namespace NitroVerif.DeclsComposed
open NitroVerif.Gql NitroVerif.Ts NitroVerif.DeclCfg NitroVerif.SchemaDecls NitroVerif.RefTypes NitroVerif.ValidTs

theorem typeDefs_eq' (T : TsDoc) : ValidTs.typeDefs T = typeDefsOf T := typeDefs_eq T

theorem known_def {T : TsDoc} {n : Name} (h : known ⟨T⟩ n = true) :
    ∃ td ∈ typeDefsOf T, td.name = n ∧ (Schema.mk T).kindOf? n = some td.kind := by
  unfold known at h
  cases hq : (Schema.mk T).typeDef? n with
  | none => rw [hq] at h; cases h
  | some td =>
    exact ⟨td, Schema.typeDef?_mem hq, Schema.typeDef?_name hq, by simp [Schema.kindOf?, hq]⟩

/-- **The configuration part of `DocOK`** — what no schema check can establish: `bagOK`, no identifier of a configured
    scalar text starts with `__tmp_` (open finding, `C10_rename_counterexample`) or is one of the printer's seven own
    identifiers (`C10_namespace_capture_counterexample`); `parses`, the supplied parse of a text mentions only
    identifiers of the text and no internal absolute reference. -/
structure CfgOK (c : Cfg) (R : TsDoc) : Prop where
  bagOK : ∀ i ∈ bag (scalarTypes c R), hasTmpPrefix i = false ∧ i ∉ SchemaDecls.reservedNames
  parses : ∀ p ∈ scalarTypes c R, ∀ t ∈ Target.all,
    (c.parseOf (p.2.getType t)).noAbs = true ∧
      ∀ i ∈ (c.parseOf (p.2.getType t)).freeNames, i ∈ bag (scalarTypes c R)

theorem cfgOK_of_docOK {c : Cfg} {R : TsDoc} (ok : DocOK c R) : CfgOK c R := ⟨ok.bagOK, ok.parses⟩

section rules
variable {c : Cfg} {R : TsDoc}

theorem docOK_of_rules (hu : uniqueTypeNames R = true) (hr : reservedNames R = true) (hk : knownTypeRefs R = true)
    (ho : outputPositions R = true) (hi : inputPositions R = true) (hm : unionMembersObjects R = true)
    (hbag : ∀ i ∈ bag (scalarTypes c R), hasTmpPrefix i = false ∧ i ∉ SchemaDecls.reservedNames)
    (hparses : ∀ p ∈ scalarTypes c R, ∀ t ∈ Target.all,
      (c.parseOf (p.2.getType t)).noAbs = true ∧
        ∀ i ∈ (c.parseOf (p.2.getType t)).freeNames, i ∈ bag (scalarTypes c R)) : DocOK c R := by
  have hname : ∀ a ∈ typeDefsOf R, startsWithUU a.name = false := by
    intro a ha
    simp only [ValidTs.reservedNames, Bool.and_eq_true, List.all_eq_true, typeDefs_eq'] at hr
    have := (hr.1 a ha).1.1.1
    simpa using this
  simp only [knownTypeRefs, Bool.and_eq_true, List.all_eq_true, typeDefs_eq'] at hk
  obtain ⟨hkt, hkv⟩ := hk
  refine ⟨?_, ?_, ?_, ?_, ?_, ?_, hbag, hparses⟩
  · rw [← typeDefs_eq']; exact (CheckTs.noDup_iff_nodup _).mp hu
  · exact (names_of_noUU hname).1
  · exact (names_of_noUU hname).2
  · intro td htd hkind f hf
    have hf' : f ∈ fieldsOfT td := CheckTs.mem_fieldsOfT.2 ⟨.inl hkind, hf⟩
    obtain ⟨td', h1, h2, h3⟩ := known_def ((hkt td htd).1.1 f hf')
    refine ⟨td', h1, h2, ?_⟩
    simp only [outputPositions, List.all_eq_true, typeDefs_eq'] at ho
    have := ho td htd f hf'
    rw [h3] at this
    intro e; rw [e] at this; exact absurd this (by decide)
  · intro td htd hkind f hf
    have hf' : f ∈ inputValues R :=
      CheckTs.mem_inputValues.2 (.inr ⟨td, typeDefs_eq' R ▸ htd, CheckTs.mem_inputsOfT.2 ⟨hkind, hf⟩⟩)
    obtain ⟨td', h1, h2, h3⟩ := known_def (hkv f hf')
    refine ⟨td', h1, h2, ?_⟩
    simp only [inputPositions, List.all_eq_true] at hi
    have := hi f hf'
    rw [h3] at this
    revert this
    cases td'.kind <;> decide
  · intro td htd hkind m hmm
    have hm' : m ∈ membersOfT td := CheckTs.mem_membersOfT.2 ⟨hkind, hmm⟩
    obtain ⟨td', h1, h2, h3⟩ := known_def ((hkt td htd).2 m hm')
    refine ⟨td', h1, h2, ?_⟩
    simp only [unionMembersObjects, List.all_eq_true, typeDefs_eq'] at hm
    have := hm td htd m hm'
    rw [h3] at this
    revert this
    cases td'.kind <;> decide

theorem argsOK_of_rules (hk : knownTypeRefs R = true) (hi : inputPositions R = true) (td : TypeDef)
    (htd : td ∈ typeDefsOf R) (hkind : td.kind = .object ∨ td.kind = .interface) (f : FieldDef) (hf : f ∈ td.fields) :
    ∀ a ∈ f.args, ∃ td' ∈ typeDefsOf R, td'.name = a.ty.unwrapped ∧ kindFits td'.kind .resolverInput = true := by
  intro a ha
  simp only [knownTypeRefs, Bool.and_eq_true, List.all_eq_true] at hk
  have hf' : f ∈ fieldsOfT td := CheckTs.mem_fieldsOfT.2 ⟨hkind, hf⟩
  have ha' : a ∈ inputValues R :=
    CheckTs.mem_inputValues.2 (.inl ⟨f.args, CheckTs.mem_argLists.2 (.inl ⟨td, typeDefs_eq' R ▸ htd, f, hf', rfl⟩), ha⟩)
  obtain ⟨td', h1, h2, h3⟩ := known_def (hk.2 a ha')
  refine ⟨td', h1, h2, ?_⟩
  simp only [inputPositions, List.all_eq_true] at hi
  have := hi a ha'
  rw [h3] at this
  revert this
  cases td'.kind <;> decide

/-- `hfields`: kinds other than object / interface carry no field list — true of every parsed document. What the rules do
    not give: no type is called `Omit` (an ordinary GraphQL name the resolvers file would shadow) and no configured
    scalar text applies `Omit<…>`. -/
theorem resolversOK_of_rules (hr : ValidTs.reservedNames R = true)
    (hfields : ∀ td ∈ typeDefsOf R, td.kind ≠ .object → td.kind ≠ .interface → td.fields = [])
    (homit : ∀ td ∈ typeDefsOf R, td.name ≠ "Omit")
    (hno : ∀ p ∈ scalarTypes c R, ∀ t ∈ Target.all, (c.parseOf (p.2.getType t)).noOmit = true) :
    ResolverDecls.ResolversOK c R := by
  simp only [ValidTs.reservedNames, Bool.and_eq_true, List.all_eq_true, typeDefs_eq'] at hr
  refine ⟨hno, ?_, ?_⟩
  · intro td htd hmem
    have h1 : startsWithUU td.name = false := by simpa using (hr.1 td htd).1.1.1
    simp only [List.mem_cons, List.not_mem_nil, or_false] at hmem
    rcases hmem with h | h | h
    · rw [h] at h1; exact absurd h1 (by decide +kernel)
    · rw [h] at h1; exact absurd h1 (by decide +kernel)
    · exact homit td htd h
  · intro td htd f hf hn
    by_cases hk : td.kind = .object ∨ td.kind = .interface
    · have hf' : f ∈ fieldsOfT td := CheckTs.mem_fieldsOfT.2 ⟨hk, hf⟩
      have h1 : startsWithUU f.name = false := by simpa using ((hr.1 td htd).1.1.2 f hf').1
      rw [hn] at h1; exact absurd h1 (by decide +kernel)
    · have := hfields td htd (fun h => hk (Or.inl h)) (fun h => hk (Or.inr h))
      rw [this] at hf; cases hf

end rules

end NitroVerif.DeclsComposed
