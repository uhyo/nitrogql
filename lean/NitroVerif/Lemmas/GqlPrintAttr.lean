import Lean.Meta.Tactic.Simp.RegisterCommand
/-! The simp sets of the two walks over the printing functions of `Model/GqlPrint.lean`: every printing function has one
statement in each, proved by unfolding it and rewriting with the rules of its parts. -/

/-- `Lemmas/GqlPrintLexWalk.lean`: equations of `okK` / `headSep` on the printer's fixed tokens and on lists -/
register_simp_attr lxw

/-- `Lemmas/GqlPrintOwnFits*.lean`: what `FitsD` is on the printer's tokens, and the Boolean identities of its states -/
register_simp_attr fitw
