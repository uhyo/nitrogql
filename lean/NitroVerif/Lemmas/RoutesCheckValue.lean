/-
C15: the shared part of the checker (`Model/CheckCommon.lean`: `check_value`, `check_arguments`, `check_directives`)
gives the same diagnostics on two document views that agree on the lookups (`Agree`), the first of which is closed
(`Closed`: every type a definition refers to in an input position is defined — otherwise the checker reports a
`TypeSystemError` at a position INSIDE the schema source, which the two routes cannot share).
-/
import NitroVerif.Lemmas.RoutesBridge
namespace NitroVerif.Bridge
open NitroVerif NitroVerif.Gql NitroVerif.SchemaIR NitroVerif.AstSchema NitroVerif.CheckCommon NitroVerif.CheckOp

/-- the test of the interface × interface arm of `check_fragment_spread_core`: some object type implements both -/
def ifaceBoth (S : Gql.Schema) (a b : Name) : Bool :=
  S.typeNames.any (fun n => match S.typeDef? n with
    | some o => o.kind == .object && implementsIface o a && implementsIface o b
    | none => false)

/-- two document views answer the lookups of the operation checker alike (after erasure).  The guards are the two
    exemptions: only the JSON route lists the `__*` types (`C15_checkOp_introspection_name_counterexample`), only the
    SDL route knows `@nitrogql_ts_type` (`C15_checkOp_nitrogql_directive_counterexample`) -/
structure Agree (S₁ S₂ : Gql.Schema) : Prop where
  types : ∀ n, isIntrospectionName n = false → (S₁.typeDef? n).map tv = (S₂.typeDef? n).map tv
  directives : ∀ n, isNitrogqlDirective n = false → (S₁.directiveDef? n).map dv = (S₂.directiveDef? n).map dv
  ifaceBoth : ∀ a b, ifaceBoth S₁ a b = ifaceBoth S₂ a b

/-- a type name a definition may refer to: not reserved for introspection, and defined -/
def RefOk (S : Gql.Schema) (n : Name) : Prop := isIntrospectionName n = false ∧ (S.typeDef? n).isSome = true

/-- references inside the definitions of a document view are resolvable; without it the positions differ
    (`C15_checkOp_unresolved_reference_counterexample`).  A hypothesis: that an accepted schema satisfies it is not derived -/
structure Closed (S : Gql.Schema) : Prop where
  fields : ∀ n td, S.typeDef? n = some td → ∀ f ∈ td.fields,
    isIntrospectionName f.ty.unwrapped = false ∧ ∀ a ∈ f.args, RefOk S a.ty.unwrapped
  inputs : ∀ n td, S.typeDef? n = some td → ∀ f ∈ td.inputs, RefOk S f.ty.unwrapped
  members : ∀ n td, S.typeDef? n = some td → ∀ m ∈ td.members,
    isIntrospectionName m.1 = false ∧ ∃ o, S.typeDef? m.1 = some o ∧ o.kind = .object
  directives : ∀ n dd, S.directiveDef? n = some dd → ∀ a ∈ dd.args, RefOk S a.ty.unwrapped
  typeNames : ∀ n td, S.typeDef? n = some td → isIntrospectionName n = false

theorem typeCompat_congr (d : GType) {t₁ t₂ : GType} (h : convType t₁ = convType t₂) :
    typeCompat d t₁ = typeCompat d t₂ := by
  induction d generalizing t₁ t₂ with
  | named n p => induction t₁, t₂, h using convType_induction <;> rfl
  | list d p ih =>
    induction t₁, t₂, h using convType_induction with
    | named => rfl
    | list a b _ _ h _ => exact ih h
    | nonNull => rfl
  | nonNull d ih =>
    -- a non-null variable type is compared through its inner type, whatever the expected type is
    induction t₁, t₂, h using convType_induction with
    | named n p q => exact ih (t₁ := .named n p) (t₂ := .named n q) rfl
    | list a b p q h _ => exact ih (congrArg IType.list h)
    | nonNull a b h _ => exact ih h

theorem varCheck_congr (vars : Option (List VarDef)) (n : Name) (p : Pos) {t₁ t₂ : GType}
    (h : convType t₁ = convType t₂) (ld : Bool) : varCheck vars n p t₁ ld = varCheck vars n p t₂ ld := by
  unfold varCheck
  cases varDef? (vars.getD []) n with
  | none => rfl
  | some d =>
    have hc := typeCompat_congr d.ty h
    induction t₁, t₂, h using convType_induction with
    | named => simp only [hc]
    | list => simp only [hc]
    | nonNull a b h _ => simp only [hc, typeCompat_congr d.ty h]

theorem stripNonNull_rel {t₁ t₂ : GType} (h : convType t₁ = convType t₂) :
    (∃ i₁ p₁ i₂ p₂, stripNonNull t₁ = .list i₁ p₁ ∧ stripNonNull t₂ = .list i₂ p₂ ∧ convType i₁ = convType i₂ ∧
      i₁.unwrapped = t₁.unwrapped) ∨
    (∃ p₁ p₂, stripNonNull t₁ = .named t₁.unwrapped p₁ ∧ stripNonNull t₂ = .named t₁.unwrapped p₂) := by
  induction t₁, t₂, h using convType_induction with
  | named n p q => exact Or.inr ⟨p, q, rfl, rfl⟩
  | list a b p q h _ => exact Or.inl ⟨a, p, b, q, rfl, rfl, h, rfl⟩
  | nonNull a b h ih => exact ih

theorem leafCompat_congr (v : Value) {td₁ td₂ : TypeDef} (h : tv td₁ = tv td₂) :
    leafCompat v td₁ = leafCompat v td₂ := by
  have hk := tv_kind h
  have hn := tv_name h
  unfold leafCompat
  rw [← hk, ← hn]
  cases hk1 : td₁.kind <;> simp only
  have hv := tv_values h hk1
  cases v <;> simp only
  rename_i m p
  have : td₁.values.all (·.name != m) = td₂.values.all (·.name != m) :=
    all_congr_view (v := (·.name)) hv (fun a _ b _ hab => by simp only [hab])
  rw [this]

variable {S₁ S₂ : Gql.Schema}

theorem agree_ref (hA : Agree S₁ S₂) {n : Name} (hr : RefOk S₁ n) :
    ∃ td₁ td₂, S₁.typeDef? n = some td₁ ∧ S₂.typeDef? n = some td₂ ∧ tv td₁ = tv td₂ := by
  rcases option_map_eq_cases (hA.types n hr.1) with ⟨h1, _⟩ | ⟨x, y, hx, hy, hxy⟩
  · have := hr.2; simp [h1] at this
  · exact ⟨x, y, hx, hy, hxy⟩

theorem namedLeaf_congr (hA : Agree S₁ S₂) (v : Value) {n : Name} (hr : RefOk S₁ n) (p₁ p₂ : Pos) :
    namedLeaf S₁ v n p₁ = namedLeaf S₂ v n p₂ := by
  obtain ⟨td₁, td₂, h1, h2, ht⟩ := agree_ref hA hr
  simp only [namedLeaf, h1, h2, leafCompat_congr v ht]

theorem fieldOutcome_congr (r : Option (List Diag)) {a b : InputValueDef} (h : av a = av b) :
    fieldOutcome r a = fieldOutcome r b := by
  have h1 := convType_isNonNull (av_ty h)
  have h2 := av_default h
  have h3 : a.default.isNone = b.default.isNone := by
    cases ha : a.default <;> cases hb : b.default <;> simp_all
  simp only [fieldOutcome, h1, h3]

mutual
theorem checkValue_congr (hA : Agree S₁ S₂) (hC : Closed S₁) (vars : Option (List VarDef)) (v : Value) (t₁ t₂ : GType)
    (ld : Bool) (h : convType t₁ = convType t₂) (hr : RefOk S₁ t₁.unwrapped) :
    checkValue S₁ vars v t₁ ld = checkValue S₂ vars v t₂ ld := by
  -- a value that is no variable, list, object or `null` is checked against the innermost named type
  have leaf : ∀ w : Value, namedLeaf S₁ w (baseNamed t₁).1 (baseNamed t₁).2 = namedLeaf S₂ w (baseNamed t₂).1 (baseNamed t₂).2 :=
    fun w => by rw [baseNamed_fst, baseNamed_fst, ← convType_unwrapped h]; exact namedLeaf_congr hA w hr _ _
  match v with
  | .var n p => simp only [checkValue]; exact varCheck_congr vars n p h ld
  | .list vs p =>
    simp only [checkValue]
    rcases stripNonNull_rel h with ⟨i₁, p₁, i₂, p₂, e1, e2, hi, hu⟩ | ⟨p₁, p₂, e1, e2⟩
    · rw [e1, e2]
      exact checkValueList_congr hA hC vars vs i₁ i₂ hi (hu ▸ hr)
    · rw [e1, e2]
      exact namedLeaf_congr hA _ hr p₁ p₂
  | .obj fs p =>
    simp only [checkValue, baseNamed_fst]
    rw [← convType_unwrapped h]
    obtain ⟨td₁, td₂, h1, h2, ht⟩ := agree_ref hA hr
    simp only [h1, h2]
    have hk := tv_kind ht
    rw [← hk]
    have hm : ∀ hki : td₁.kind = .input,
        td₁.inputs.map (fun f => fieldOutcome (lookupField S₁ vars fs f.name f.ty f.default.isSome) f)
          = td₂.inputs.map (fun f => fieldOutcome (lookupField S₂ vars fs f.name f.ty f.default.isSome) f) := by
      intro hki
      apply map_congr_view (tv_inputs ht hki)
      intro a ha b _ hab
      rw [lookupField_congr hA hC vars fs a.name a.ty b.ty a.default.isSome (av_ty hab) (hC.inputs _ _ h1 a ha),
        av_name hab, av_default hab, fieldOutcome_congr _ hab]
    cases hk1 : td₁.kind with
    | input => rw [hm hk1]; rfl
    | _ => simp only [leafCompat_congr _ ht]; rfl
  | .int s p => simp only [checkValue, Value.isNull, Bool.false_eq_true, if_false]; exact leaf _
  | .float s p => simp only [checkValue, Value.isNull, Bool.false_eq_true, if_false]; exact leaf _
  | .str s p => simp only [checkValue, Value.isNull, Bool.false_eq_true, if_false]; exact leaf _
  | .bool s p => simp only [checkValue, Value.isNull, Bool.false_eq_true, if_false]; exact leaf _
  | .enum s p => simp only [checkValue, Value.isNull, Bool.false_eq_true, if_false]; exact leaf _
  | .null p =>
    simp only [checkValue, Value.isNull, if_true, convType_isNonNull h]
    split
    · rfl
    · rcases stripNonNull_rel h with ⟨i₁, p₁, i₂, p₂, e1, e2, _, _⟩ | ⟨p₁, p₂, e1, e2⟩
      · rw [e1, e2]
      · rw [e1, e2]; exact namedLeaf_congr hA _ hr _ _
theorem checkValueList_congr (hA : Agree S₁ S₂) (hC : Closed S₁) (vars : Option (List VarDef)) :
    ∀ (vs : List Value) (t₁ t₂ : GType), convType t₁ = convType t₂ → RefOk S₁ t₁.unwrapped →
      checkValueList S₁ vars vs t₁ = checkValueList S₂ vars vs t₂ := by
  intro vs t₁ t₂ h hr
  match vs with
  | [] => simp only [checkValueList]
  | v :: vs =>
    simp only [checkValueList]
    rw [checkValue_congr hA hC vars v t₁ t₂ false h hr, checkValueList_congr hA hC vars vs t₁ t₂ h hr]
theorem lookupField_congr (hA : Agree S₁ S₂) (hC : Closed S₁) (vars : Option (List VarDef)) :
    ∀ (fs : List (Name × Pos × Value)) (n : Name) (t₁ t₂ : GType) (ld : Bool), convType t₁ = convType t₂ →
      RefOk S₁ t₁.unwrapped → lookupField S₁ vars fs n t₁ ld = lookupField S₂ vars fs n t₂ ld := by
  intro fs n t₁ t₂ ld h hr
  match fs with
  | [] => simp only [lookupField]
  | (k, _, v) :: rest =>
    simp only [lookupField]
    rw [checkValue_congr hA hC vars v t₁ t₂ ld h hr, lookupField_congr hA hC vars rest n t₁ t₂ ld h hr]
end

/-! ### `check_arguments`, `check_directives` -/

/-- argument definitions whose types are resolvable -/
def ArgsOk (S : Gql.Schema) (defs : List InputValueDef) : Prop := ∀ a ∈ defs, RefOk S a.ty.unwrapped

theorem checkArguments_congr (hA : Agree S₁ S₂) (hC : Closed S₁) (vars : Option (List VarDef)) (pos : Pos)
    (args : List Arg) {defs₁ defs₂ : List InputValueDef} (h : defs₁.map av = defs₂.map av) (hok : ArgsOk S₁ defs₁) :
    checkArguments S₁ vars pos args defs₁ = checkArguments S₂ vars pos args defs₂ := by
  have hempty : defs₁.isEmpty = defs₂.isEmpty := by
    cases defs₁ <;> cases defs₂ <;> simp_all
  have hout : argOutcomes S₁ vars pos args defs₁ = argOutcomes S₂ vars pos args defs₂ := by
    unfold argOutcomes
    apply map_congr_view h
    intro a ha b _ hab
    simp only [av_name hab, convType_isNonNull (av_ty hab), av_default hab]
    cases args.find? (fun x => b.name == x.1) with
    | none => rfl
    | some x => simp only [checkValue_congr hA hC vars x.2.2 a.ty b.ty _ (av_ty hab) (hok a ha)]
  have hunk : ∀ x : Arg, defs₁.all (fun d => d.name != x.1) = defs₂.all (fun d => d.name != x.1) := fun x =>
    all_congr_view h (fun a _ b _ hab => by simp only [av_name hab])
  unfold checkArguments
  simp only [hempty, hout, hunk]

theorem checkDirectivesAux_congr (hA : Agree S₁ S₂) (hC : Closed S₁) (vars : Option (List VarDef)) (loc : String) :
    ∀ (ds : List Directive) (seen : List Name), (∀ d ∈ ds, isNitrogqlDirective d.name = false) →
      checkDirectivesAux S₁ vars loc seen ds = checkDirectivesAux S₂ vars loc seen ds
  | [], _, _ => by simp only [checkDirectivesAux]
  | d :: ds, seen, hd => by
    have hrest := fun seen' => checkDirectivesAux_congr hA hC vars loc ds seen' (fun x hx => hd x (by simp [hx]))
    simp only [checkDirectivesAux]
    rcases option_map_eq_cases (hA.directives d.name (hd d (by simp))) with ⟨h1, h2⟩ | ⟨x, y, hx, hy, hxy⟩
    · simp only [h1, h2, hrest]
    · simp only [hx, hy, hrest, dv_locations hxy, dv_repeatable hxy,
        checkArguments_congr hA hC vars d.pos d.args (dv_args hxy) (hC.directives _ _ hx)]

/-- the directives of a list are not the nitrogql-only `@nitrogql_ts_type` -/
def dirsOk (ds : List Directive) : Bool := ds.all fun d => !isNitrogqlDirective d.name

theorem checkDirectives_congr (hA : Agree S₁ S₂) (hC : Closed S₁) (vars : Option (List VarDef)) (ds : List Directive)
    (loc : String) (hd : dirsOk ds = true) : checkDirectives S₁ vars ds loc = checkDirectives S₂ vars ds loc := by
  unfold checkDirectives
  apply checkDirectivesAux_congr hA hC
  intro d hdm
  have := List.all_eq_true.mp hd d hdm
  simpa using this

end NitroVerif.Bridge
