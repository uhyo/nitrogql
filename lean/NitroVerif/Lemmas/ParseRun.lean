/-
Alternatives of string terminals (`"a" | "b" | …`): `strAlts` reads such an expression as the list of its strings, and the
forward combinators, extending `Lemmas/PegRun.lean`, say that an ordered choice of strings of which at most one matches behaves
like a set (the backward direction, `strAlts_inv`, is in `Lemmas/ParseText.lean`).
-/
import NitroVerif.Lemmas.PegRun
namespace NitroVerif.Peg

/-- `"a" | "b" | …` as the list of its strings -/
def strAlts : Expr → Option (List (List Char))
  | .str s => some [s]
  | .choice (.str s) b => (strAlts b).map (s :: ·)
  | _ => none

theorem strAlts_choice {a b : Expr} {ws : List (List Char)} (h : strAlts (.choice a b) = some ws) :
    ∃ s wb, a = .str s ∧ strAlts b = some wb ∧ ws = s :: wb := by
  cases a with
  | str s =>
    cases hb : strAlts b with
    | none => simp [strAlts, hb] at h
    | some wb => exact ⟨s, wb, rfl, rfl, by simpa [strAlts, hb] using h.symm⟩
  | _ => cases h

variable {g : G}

theorem failsL_alts {la : Look} {sk : Bool} {at_ : Atomicity} {c : Cur} : ∀ (e : Expr) (ws : List (List Char)),
    strAlts e = some ws → (∀ w ∈ ws, matchStr w c.rest = none) → FailsL g la (ws.length + 1) sk e at_ c := by
  intro e
  induction e with
  | str s =>
    intro ws hws hno
    cases hws
    exact (failsL_str (hno s (List.mem_singleton.mpr rfl))).mono (by simp)
  | choice a b _ ihb =>
    intro ws hws hno
    obtain ⟨s, wb, rfl, hb, rfl⟩ := strAlts_choice hws
    exact failsL_choice ((failsL_str (hno s (List.mem_cons_self ..))).mono (by simp))
      (ihb wb hb fun w hw => hno w (List.mem_cons_of_mem _ hw))
  | _ => intro ws hws; cases hws

theorem runsL_alts {la : Look} {sk : Bool} {at_ : Atomicity} {c : Cur} {w r : List Char} (hm : matchStr w c.rest = some r) :
    ∀ (e : Expr) (ws : List (List Char)), strAlts e = some ws → w ∈ ws →
      (∀ v ∈ ws, v ≠ w → matchStr v c.rest = none) → RunsL g la (ws.length + 1) sk e at_ c ⟨c.pos + w.length, r⟩ [] := by
  intro e
  induction e with
  | str s =>
    intro ws hws hw _
    cases hws
    cases List.mem_singleton.mp hw
    exact (runsL_str hm).mono (by simp)
  | choice a b _ ihb =>
    intro ws hws hw huniq
    obtain ⟨s, wb, rfl, hb, rfl⟩ := strAlts_choice hws
    by_cases hs : s = w
    · subst hs
      exact (runsL_choice_l (runsL_str hm)).mono (by simp)
    · have hw' : w ∈ wb := (List.mem_cons.mp hw).resolve_left (Ne.symm hs)
      exact runsL_choice_r ((failsL_str (huniq s (List.mem_cons_self ..) hs)).mono (by simp))
        (ihb wb hb hw' fun v hv => huniq v (List.mem_cons_of_mem _ hv))
  | _ => intro ws hws; cases hws

theorem matchStr_single (x d : Char) (r : List Char) : matchStr [x] (d :: r) = if x = d then some r else none := by
  simp [matchStr]

theorem matchStr_one_ne {v : List Char} {d : Char} {r : List Char} (hv : v.length = 1) (hne : v ≠ [d]) :
    matchStr v (d :: r) = none := by
  match v, hv with
  | [x], _ =>
    rw [matchStr_single, if_neg]
    rintro rfl
    exact hne rfl

theorem oneChar_alts {la : Look} {sk : Bool} {at_ : Atomicity} : ∀ (e : Expr) (ws : List (List Char)),
    strAlts e = some ws → (∀ w ∈ ws, w.length = 1) → ∀ (p : Nat) (d : Char) (r : List Char),
      ([d] ∈ ws → RunsL g la (ws.length + 1) sk e at_ ⟨p, d :: r⟩ ⟨p + 1, r⟩ []) ∧
      ([d] ∉ ws → FailsL g la (ws.length + 1) sk e at_ ⟨p, d :: r⟩) := by
  intro e ws hws hlen p d r
  constructor
  · intro hm
    exact runsL_alts (c := ⟨p, d :: r⟩) (w := [d]) (by simp [matchStr]) e ws hws hm
      fun v hv hne => matchStr_one_ne (hlen v hv) hne
  · intro hm
    exact failsL_alts e ws hws fun v hv => matchStr_one_ne (hlen v hv) fun h => hm (h ▸ hv)

theorem oneChar_alts_nil {la : Look} {sk : Bool} {at_ : Atomicity} : ∀ (e : Expr) (ws : List (List Char)),
    strAlts e = some ws → (∀ w ∈ ws, w.length = 1) → ∀ (p : Nat),
      FailsL g la (ws.length + 1) sk e at_ ⟨p, []⟩ := by
  intro e ws hws hlen p
  refine failsL_alts e ws hws fun v hv => ?_
  match v, hlen v hv with
  | [x], _ => rfl

end NitroVerif.Peg
