import NitroVerif.Lemmas.JsonTextRound
import NitroVerif.Lemmas.JsonTextCases
/-!
# C12, text level — JSON ⊂ ECMAScript (ES2019), for ALL texts

`js_of_rfc_fuel`: whenever the RFC 8259 reader reads a value at the head of a text — ANY text, not only the writer's — as the tree `t`
leaving `r`, and no member of `t` is named `__proto__`, the ECMAScript literal reader (ES2019 lexical grammar) reads the same text
as the same tree leaving the same `r`, with the same fuel. This is the "JSON superset" fact of ES2019, proved between the two
transcriptions of `Spec/JsonText.lean` (it also cross-checks them against each other).
-/
namespace NitroVerif.JsonText
open NitroVerif

/-- the characters that begin a token of a JSON text -/
def isTok (c : Char) : Bool := isStart c || c = ']' || c = '}' || c = ',' || c = ':'

theorem js_ws_tok {c : Char} (h : isTok c = true) : JsLit.ws c = false := by
  simp only [isTok, Bool.or_eq_true, decide_eq_true_eq] at h
  rcases h with (((h | h) | h) | h) | h
  · exact jsLit_ok.ws_start c h
  · subst h; decide
  · subst h; decide
  · subst h; decide
  · subst h; decide

theorem js_ws_of_rfc {c : Char} (h : rfc8259.ws c = true) : JsLit.ws c = true := by
  simp only [rfc8259, decide_eq_true_eq] at h
  rcases h with h | h | h | h <;> (subst h; decide)

theorem skipWs_js_of_rfc : ∀ (s : List Char) (c : Char) (r : List Char), skipWs rfc8259.ws s = c :: r → isTok c = true →
    skipWs JsLit.ws s = c :: r
  | [], _, _, h, _ => by simp [skipWs] at h
  | d :: ds, c, r, h, ht => by
    by_cases hd : rfc8259.ws d = true
    · simp only [skipWs, hd, if_true] at h
      simp only [skipWs, js_ws_of_rfc hd, if_true]
      exact skipWs_js_of_rfc ds c r h ht
    · simp only [skipWs, hd] at h
      simp only [Bool.false_eq_true, if_false, List.cons.injEq] at h
      obtain ⟨rfl, rfl⟩ := h
      simp [skipWs, js_ws_tok ht]

mutual
/-- no member name, at any depth, that the ECMAScript reader refuses (`__proto__`) -/
def protoFree : Json → Bool
  | .arr xs => protoFreeList xs
  | .obj kvs => protoFreeFields kvs
  | _ => true
def protoFreeList : List Json → Bool
  | [] => true
  | x :: xs => protoFree x && protoFreeList xs
def protoFreeFields : List (String × Json) → Bool
  | [] => true
  | (k, v) :: r => JsLit.lex.key k.toList && protoFree v && protoFreeFields r
end

theorem isTok_of_start {c : Char} (h : isStart c = true) : isTok c = true := by simp [isTok, h]

theorem rfc_quote_iff {c : Char} : rfc8259.quote c = true ↔ c = '"' := by simp [rfc8259]

theorem leaf_start {c : Char} {r0 : List Char} {t : Json} {r : List Char} (h : leaf c r0 = some (t, r)) :
    isStart c = true := by
  rcases leaf_some h with ⟨rfl | rfl | rfl, _⟩ | ⟨raw, hn⟩
  · decide
  · decide
  · decide
  · obtain ⟨_, _, he, hc, _⟩ := number_start hn
    cases he; exact hc

theorem value_start {f : Nat} {s : List Char} {t : Json} {r : List Char} (h : value rfc8259 f s = some (t, r)) :
    ∃ c r0, skipWs rfc8259.ws s = c :: r0 ∧ isStart c = true := by
  cases f with
  | zero => simp [value] at h
  | succ f =>
    cases value_succ_iff.mp h with
    | str c r0 cs hsk hq _ _ => exact ⟨c, r0, hsk, by rw [rfc_quote_iff.mp hq]; decide⟩
    | arrNil r0 hsk _ _ _ => exact ⟨_, r0, hsk, by decide⟩
    | arr r0 _ _ _ hsk _ _ _ _ _ => exact ⟨_, r0, hsk, by decide⟩
    | objNil r0 hsk _ _ _ => exact ⟨_, r0, hsk, by decide⟩
    | obj r0 _ _ _ hsk _ _ _ _ _ => exact ⟨_, r0, hsk, by decide⟩
    | leaf c r0 hsk _ _ _ hl => exact ⟨c, r0, hsk, leaf_start hl⟩

theorem skipWs_idem (ws : Char → Bool) : ∀ s, skipWs ws (skipWs ws s) = skipWs ws s
  | [] => rfl
  | c :: cs => by
    by_cases h : ws c = true
    · simp only [skipWs, h, if_true]; exact skipWs_idem ws cs
    · simp [skipWs, h]

theorem skipWs_of_eq {ws : Char → Bool} {s : List Char} {c : Char} {r : List Char} (h : skipWs ws s = c :: r) :
    skipWs ws (c :: r) = c :: r := by rw [← h, skipWs_idem]

theorem elements_head {f : Nat} {s : List Char} {c : Char} {r0 : List Char} {xs : List Json} {r : List Char}
    (hsk : skipWs rfc8259.ws s = c :: r0) (h : elements rfc8259 f (c :: r0) = some (xs, r)) : isStart c = true := by
  cases f with
  | zero => simp [elements] at h
  | succ f =>
    have hv : ∃ x r1, value rfc8259 f (c :: r0) = some (x, r1) := by
      cases elements_succ_iff.mp h with
      | last x r1 hv _ _ => exact ⟨x, r1, hv⟩
      | more x r1 _ _ hv _ _ _ => exact ⟨x, r1, hv⟩
    obtain ⟨x, r1, hv⟩ := hv
    obtain ⟨c', r0', hsk', hst⟩ := value_start hv
    rw [skipWs_of_eq hsk] at hsk'
    cases hsk'; exact hst

theorem members_head {f : Nat} {s : List Char} {c : Char} {r0 : List Char} {kvs : List (String × Json)} {r : List Char}
    (hsk : skipWs rfc8259.ws s = c :: r0) (h : members rfc8259 f (c :: r0) = some (kvs, r)) : c = '"' := by
  cases f with
  | zero => simp [members] at h
  | succ f =>
    obtain ⟨q, r0', _, _, _, _, _, _, _, hsk', hq, _⟩ := members_succ_iff.mp h
    rw [skipWs_of_eq hsk] at hsk'
    cases hsk'; exact rfc_quote_iff.mp hq

theorem js_of_rfc_fuel : ∀ (f : Nat),
    (∀ s t r, value rfc8259 f s = some (t, r) → protoFree t = true → value JsLit.lex f s = some (t, r)) ∧
    (∀ s xs r, elements rfc8259 f s = some (xs, r) → protoFreeList xs = true → elements JsLit.lex f s = some (xs, r)) ∧
    (∀ s kvs r, members rfc8259 f s = some (kvs, r) → protoFreeFields kvs = true →
      members JsLit.lex f s = some (kvs, r))
  | 0 => by simp [value, elements, members]
  | f + 1 => by
    obtain ⟨ihv, ihe, ihm⟩ := js_of_rfc_fuel f
    -- the same case applies: white space in front of a token character is skipped alike, strings are read alike
    have ws : ∀ {s c r}, skipWs rfc8259.ws s = c :: r → isTok c = true → skipWs JsLit.lex.ws s = c :: r :=
      fun h ht => skipWs_js_of_rfc _ _ _ h ht
    refine ⟨?_, ?_, ?_⟩
    · intro s t r h hp
      cases value_succ_iff.mp h with
      | str c r0 cs hsk hq hstr ht =>
        cases rfc_quote_iff.mp hq
        exact value_succ_iff.mpr (.str '"' r0 cs (ws hsk (by decide)) jsLit_ok.quote_dq (js_of_rfc_str _ r0 _ hstr) ht)
      | arrNil r0 hsk _ hsk1 ht =>
        exact value_succ_iff.mpr (.arrNil r0 (ws hsk (by decide)) (by decide) (ws hsk1 (by decide)) ht)
      | arr r0 c1 r1 xs hsk _ hsk1 hc1 he ht =>
        subst ht
        exact value_succ_iff.mpr (.arr r0 c1 r1 xs (ws hsk (by decide)) (by decide)
          (ws hsk1 (isTok_of_start (elements_head hsk1 he))) hc1 (ihe _ _ _ he hp) rfl)
      | objNil r0 hsk _ hsk1 ht =>
        exact value_succ_iff.mpr (.objNil r0 (ws hsk (by decide)) (by decide) (ws hsk1 (by decide)) ht)
      | obj r0 c1 r1 kvs hsk _ hsk1 hc1 hm ht =>
        subst ht
        cases members_head hsk1 hm
        exact value_succ_iff.mpr (.obj r0 '"' r1 kvs (ws hsk (by decide)) (by decide) (ws hsk1 (by decide)) hc1
          (ihm _ _ _ hm hp) rfl)
      | leaf c r0 hsk hq h1 h2 hl =>
        have hst := leaf_start hl
        have hne : c ≠ '"' := fun e => by simp [rfc_quote_iff.mpr e] at hq
        exact value_succ_iff.mpr (.leaf c r0 (ws hsk (isTok_of_start hst)) (jsLit_ok.quote_start c hst hne) h1 h2 hl)
    · intro s xs r h hp
      cases elements_succ_iff.mp h with
      | last x r1 hv hsk hxs =>
        subst hxs
        simp only [protoFreeList, Bool.and_eq_true] at hp
        exact elements_succ_iff.mpr (.last x r1 (ihv _ _ _ hv hp.1) (ws hsk (by decide)) rfl)
      | more x r1 r2 ys hv hsk he hxs =>
        subst hxs
        simp only [protoFreeList, Bool.and_eq_true] at hp
        exact elements_succ_iff.mpr (.more x r1 r2 ys (ihv _ _ _ hv hp.1) (ws hsk (by decide)) (ihe _ _ _ he hp.2) rfl)
    · intro s kvs r h hp
      obtain ⟨q, r0, k, r1, r2, v, r3, d, r4, hsk, hq, hstr, hk, hsk1, hv, hsk3, hd⟩ := members_succ_iff.mp h
      cases rfc_quote_iff.mp hq
      have hstr' : JsLit.lex.str '"' r0 = some (k, r1) := js_of_rfc_str _ r0 _ hstr
      rcases hd with ⟨rfl, rfl, rfl⟩ | ⟨rfl, rest, hm, rfl⟩
      · simp only [protoFreeFields, Bool.and_eq_true, String.toList_ofList] at hp
        exact members_succ_iff.mpr (.mk '"' r0 k r1 r2 v r3 _ _ (ws hsk (by decide)) jsLit_ok.quote_dq hstr' hp.1.1
          (ws hsk1 (by decide)) (ihv _ _ _ hv hp.1.2) (ws hsk3 (by decide)) (.inl ⟨rfl, rfl, rfl⟩))
      · simp only [protoFreeFields, Bool.and_eq_true, String.toList_ofList] at hp
        exact members_succ_iff.mpr (.mk '"' r0 k r1 r2 v r3 _ r4 (ws hsk (by decide)) jsLit_ok.quote_dq hstr' hp.1.1
          (ws hsk1 (by decide)) (ihv _ _ _ hv hp.1.2) (ws hsk3 (by decide)) (.inr ⟨rfl, rest, ihm _ _ _ hm hp.2, rfl⟩))

end NitroVerif.JsonText
