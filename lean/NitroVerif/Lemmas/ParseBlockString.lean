/-
Block strings (helper lemmas for Props/C07 `parse_render_block_string_raw`): the GENERATED grammar's `StringValue` rule on
`"""` ++ body ++ `"""` and `build_string_value` on the pair it yields. The builder returns the text between the delimiters
RAW (open finding t); here that is PROVED for every body the scan of `BlockStringCharacter*` reads to its end.

`BlockStringCharacter = @{ !"\"\"\"" ~ ("\\\"\"\"" | ANY) }`: at each position the scan stops at `"""`, takes the four
characters `\"""` as one step, any other character as one step. `BlockBody body` says that this scan, run on
body ++ `"""`, arrives exactly at the end of `body`; `blockBody_of` derives it from the readable condition
"no `"""` that is not part of a `\"""`, and the last character is neither `"` nor `\`".
-/
import NitroVerif.Lemmas.ParseStringBase
namespace NitroVerif.StringParse
open NitroVerif.Peg NitroVerif.Gen NitroVerif.Gen.Parts NitroVerif.Build NitroVerif.Spec.Lex NitroVerif.TypeParse
open NitroVerif.ParseText

abbrev q3 : List Char := ['"', '"', '"']
abbrev eq3 : List Char := ['\\', '"', '"', '"']

theorem look_BlockStringCharacter : gList.look R.BlockStringCharacter =
    some (.atomic, .seq (.not (.str q3)) (.choice (.str eq3) .any)) := rfl

/-- the scan of `BlockStringCharacter*` over `body ++ """` ends exactly after `body` -/
inductive BlockBody : List Char → Prop where
  | nil : BlockBody []
  | esc {r : List Char} : BlockBody r → BlockBody ('\\' :: '"' :: '"' :: '"' :: r)
  | char {c : Char} {r : List Char} : BlockBody r → matchStr q3 (c :: (r ++ q3)) = none →
      matchStr eq3 (c :: (r ++ q3)) = none → BlockBody (c :: r)

/-- no `"""` in the text other than as the tail of a `\"""` (scanned left to right) -/
def noBareTriple : List Char → Bool
  | [] => true
  | '\\' :: '"' :: '"' :: '"' :: r => noBareTriple r
  | '"' :: '"' :: '"' :: _ => false
  | _ :: r => noBareTriple r

/-- the last character is neither `"` nor `\` -/
def endsPlain (b : List Char) : Bool :=
  match b.getLast? with
  | some c => c != '"' && c != '\\'
  | none => true

theorem endsPlain_cons {c d : Char} {r : List Char} : endsPlain (c :: d :: r) = endsPlain (d :: r) := by
  simp [endsPlain, List.getLast?_cons_cons]

theorem endsPlain_tail4 {a b c d : Char} {r : List Char} (h : endsPlain (a :: b :: c :: d :: r) = true) (hd : d = '"') :
    endsPlain r = true := by
  cases r with
  | nil => subst hd; simp [endsPlain] at h
  | cons x xs => simpa [endsPlain_cons] using h

theorem blockBody_of : ∀ (b : List Char), noBareTriple b = true → endsPlain b = true → BlockBody b := by
  intro b
  induction b using noBareTriple.induct with
  | case1 => intro _ _; exact .nil
  | case2 r ih =>
    intro h1 h2
    simp only [noBareTriple] at h1
    exact .esc (ih h1 (endsPlain_tail4 h2 rfl))
  | case3 r => intro h1; simp [noBareTriple] at h1
  | case4 c r hn1 hn2 ih =>
    intro h1 h2
    have hnb : noBareTriple (c :: r) = noBareTriple r := by
      rw [noBareTriple]
      · intro r' he; exact hn1 r' he
      · intro r' he; exact hn2 r' he
    rw [hnb] at h1
    have he : endsPlain r = true := by
      cases r with
      | nil => rfl
      | cons x xs => simpa [endsPlain_cons] using h2
    refine .char (ih h1 he) ?_ ?_
    · -- the text does not begin with `"""`
      cases hm : matchStr q3 (c :: (r ++ q3)) with
      | none => rfl
      | some x =>
        exfalso
        have e := matchStr_eq hm
        -- c = '"' and r ++ q3 begins with `""`
        match r, e, hn2, h2 with
        | [], e, _, h2 => simp at e; obtain ⟨rfl, _⟩ := e; simp [endsPlain] at h2
        | [y], e, _, h2 => simp at e; obtain ⟨_, rfl, _⟩ := e; simp [endsPlain] at h2
        | y :: z :: w, e, hn2, _ =>
          simp at e
          obtain ⟨rfl, rfl, rfl, _⟩ := e
          exact hn2 w rfl rfl
    · cases hm : matchStr eq3 (c :: (r ++ q3)) with
      | none => rfl
      | some x =>
        exfalso
        have e := matchStr_eq hm
        match r, e, hn1, h2 with
        | [], e, _, h2 => simp at e; obtain ⟨rfl, _⟩ := e; simp [endsPlain] at h2
        | [y], e, _, h2 => simp at e; obtain ⟨_, rfl, _⟩ := e; simp [endsPlain] at h2
        | [y, z], e, _, h2 => simp at e; obtain ⟨_, _, rfl, _⟩ := e; simp [endsPlain] at h2
        | y :: z :: w :: v, e, hn1, _ =>
          simp at e
          obtain ⟨rfl, rfl, rfl, rfl, _⟩ := e
          exact hn1 v rfl rfl

theorem matchStr_none_append : ∀ (s t x : List Char), matchStr s t = none → s.length ≤ t.length →
    matchStr s (t ++ x) = none := by
  intro s
  induction s with
  | nil => intro t x h; simp [matchStr] at h
  | cons c cs ih =>
    intro t x h hl
    cases t with
    | nil => simp at hl
    | cons d ds =>
      simp only [matchStr, List.cons_append] at h ⊢
      split
      · rename_i hcd
        rw [if_pos hcd] at h
        exact ih ds x h (by simpa using hl)
      · rfl

theorem bsc_fails_q3 {p : Nat} {x : List Char} :
    FailsRule gList 6 R.BlockStringCharacter .atomic ⟨p, q3 ++ x⟩ := by
  have hr : RunsL gList .neg 1 false (.str q3) .atomic ⟨p, q3 ++ x⟩ ⟨p + 3, x⟩ [] :=
    runsL_str (c := ⟨p, q3 ++ x⟩) (by simp [matchStr])
  have g1 : Fails gList 2 false (.not (.str q3)) .atomic ⟨p, q3 ++ x⟩ := failsL_not (la := .none) hr
  exact (failsRule_atomic look_BlockStringCharacter (fails_seq_first g1)).mono (by omega)

theorem bsc_runs_esc {p : Nat} {x : List Char} : RunT gList .none 6 false (.call R.BlockStringCharacter) .atomic p eq3 x [] :=
  RunT.atomicIn look_BlockStringCharacter (RunT.nil_seq (t := eq3) (Or.inl rfl)
    (runsL_not (la := .none) (failsL_str (c := ⟨p, eq3 ++ x⟩) (by simp [matchStr]))) (RunT.choice_l (RunT.str eq3)))

theorem bsc_runs_any {p : Nat} {c : Char} {x : List Char} (h1 : matchStr q3 (c :: x) = none)
    (h2 : matchStr eq3 (c :: x) = none) : RunT gList .none 6 false (.call R.BlockStringCharacter) .atomic p [c] x [] :=
  RunT.atomicIn look_BlockStringCharacter (RunT.nil_seq (t := [c]) (Or.inl rfl)
    (runsL_not (la := .none) (failsL_str (c := ⟨p, c :: x⟩) h1))
    (RunT.choice_r (fails_str (c := ⟨p, c :: x⟩) h2) (RunT.one (runsL_any (c := ⟨p, c :: x⟩) rfl)) rfl))

theorem bsc_star {b : List Char} (hb : BlockBody b) : ∀ (p : Nat) (x : List Char),
    RunT gList .none (b.length + 10) false (.star (.call R.BlockStringCharacter)) .atomic p b (q3 ++ x) [] := by
  induction hb with
  | nil => exact fun p x => (RunT.star_nil (fails_call (sk := false) bsc_fails_q3)).mono (by decide)
  | @esc r _ ih =>
    exact fun p x => (RunT.star_cons (ta := eq3) (bsc_runs_esc.mono (by omega)) (ih _ x)).mono (by simp)
  | @char c r _ hq he ih =>
    intro p x
    have e : c :: (r ++ (q3 ++ x)) = (c :: (r ++ q3)) ++ x := by simp
    exact (RunT.star_cons (ta := [c]) ((bsc_runs_any (e ▸ matchStr_none_append _ _ x hq (by simp))
      (e ▸ matchStr_none_append _ _ x he (by simp))).mono (by omega)) (ih _ x)).mono (by simp)

/-- the `StringValue` pair of a block string with body of length `n` written at offset `p` -/
def blockPair (n p : Nat) : Pair :=
  .mk R.StringValue p (p + (n + 6)) [.mk R.BlockStringValue p (p + (n + 6)) []]

theorem blockString_runs {b : List Char} (hb : BlockBody b) (p : Nat) (x : List Char) {at_ : Atomicity} :
    RunsRule gList (b.length + 30) R.StringValue at_ ⟨p, q3 ++ (b ++ (q3 ++ x))⟩ ⟨p + (b.length + 6), x⟩
      [blockPair b.length p] := by
  -- EmptyStringValue: `""` then `!"\""` fails on the third quote
  have hempty : FailsRule gList 5 R.EmptyStringValue .compound ⟨p, q3 ++ (b ++ (q3 ++ x))⟩ :=
    (failsRule_atomic look_EmptyStringValue (RunT.fails_seq (t := ['"', '"']) (Or.inl rfl) ((RunT.str _).mono (by decide))
      (failsL_not (la := .none) (runsL_str (la := .neg) (c := ⟨_, '"' :: (b ++ (q3 ++ x))⟩) (r := b ++ (q3 ++ x))
        (by simp [matchStr]))))).mono (by decide)
  -- NormalStringValue: `"` then `StringCharacter+` fails on the second quote
  have hnormal : FailsRule gList 20 R.NormalStringValue .compound ⟨p, q3 ++ (b ++ (q3 ++ x))⟩ :=
    (failsRule_compound look_NormalStringValue (RunT.fails_seq (t := ['"']) (Or.inl rfl) ((RunT.str _).mono (by decide))
      (fails_seq_first (failsL_plus (la := .none) (fails_seq_first (fails_call sc_fails_quote)))))).mono (by decide)
  -- BlockStringValue: the delimiter, the body, the delimiter
  have hblock := RunT.atomicRule (sk := false) (at_ := .compound) look_BlockStringValue
    (RunT.seq (p := p) (Or.inl rfl) ((RunT.str q3).mono (Nat.le_add_left 1 (b.length + 11)))
      (RunT.seq (tb := q3) (rest := x) (Or.inl rfl) (bsc_star hb _ x) ((RunT.str q3).mono (Nat.le_add_left 1 _)))) (by decide)
  -- `StringValue`: the third alternative
  have body := RunT.choice_r ((fails_call (sk := false) hempty).mono (by omega))
    (RunT.choice_r ((fails_call (sk := false) hnormal).mono (by omega : 21 ≤ b.length + 21)) (hblock.mono (by omega)) (by simp))
    (by simp)
  exact RunsRule.cast ((RunT.compound look_StringValue body at_).mono (by omega)) (by simp) (by simp)
    (by simp [blockPair])

theorem stringValueChars_blockPair {inp : List Char} (b : List Char) (p : Nat) (x : List Char)
    (h : inp.drop p = q3 ++ (b ++ (q3 ++ x))) :
    stringValueChars (Ctx.spec inp) (blockPair b.length p) =
      .ok (b, { line := (lineCol inp p).1, col := (lineCol inp p).2 }) := by
  have hs : slice inp p (p + (b.length + 6)) = q3 ++ (b ++ q3) := by
    have := slice_of_drop (inp := inp) (a := p) (t := q3 ++ (b ++ q3)) (r := x) (by simpa using h)
    simpa [Nat.add_comm, Nat.add_left_comm] using this
  have hlen : ¬ (q3 ++ (b ++ q3)).length < 6 := by simp
  have hmid : ((q3 ++ (b ++ q3)).drop 3).take ((q3 ++ (b ++ q3)).length - 6) = b := by
    simp
  simp [stringValueChars, blockPair, onlyChildOf, onlyChild, Pair.children, Pair.rule, OC_StringValue, toPos, Ctx.spec,
    Pair.start, Pair.stop, asStr, bind, Except.bind, R.NormalStringValue, R.EmptyStringValue, R.BlockStringValue, hs]

end NitroVerif.StringParse
