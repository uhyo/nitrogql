import NitroVerif.Lemmas.GqlPrintOwnFlatExec
import NitroVerif.Lemmas.ParseDocTsDoc
/-!
C16 over nitrogql's own parser: the flat lists `c…` of type-system documents, and the flat forms of the parts that C07's
renderings and those with leading separators share (descriptions, input value / field / enum value definitions, bracketed
lists, name lists, heads, schema definition and extension). The flat forms of the items themselves are in
`GqlPrintOwnFlatLead`.
-/
namespace NitroVerif.C16Own
open NitroVerif.Gql NitroVerif.ValueParse NitroVerif.DocParse NitroVerif.TypeParse NitroVerif.StringParse

/-! ### descriptions, input value definitions, bracketed lists -/

def cOptDesc : Option String → List (List Char × Bool)
  | none => []
  | some s => [(quoted s.toList, false)]

theorem flat_optDesc (τ : Trivia) (p : Nat) (d : Option String) : rOptDesc τ p d = rToks τ p (cOptDesc d) := by
  cases d with
  | none => rfl
  | some s => simp only [rOptDesc, cOptDesc, rToks_cons, rToks_nil, List.append_nil]

def cIVD (sep : Bool) (v : InputValueDef) : List (List Char × Bool) :=
  cOptDesc v.desc ++ ((v.name.toList, false) :: ([':'], false) ::
    (cType (sep && v.dirs.isEmpty && v.default.isNone) v.ty ++
      (cOptDefault (sep && v.dirs.isEmpty) v.default ++ cDirs sep v.dirs)))

theorem flat_ivd (τ : Trivia) (sep : Bool) (p : Nat) (v : InputValueDef) : rIVD τ sep p v = rToks τ p (cIVD sep v) := by
  simp only [rIVD, cIVD, flat_optDesc, flat_type, flat_optDefault, flat_dirs, rToks_cons, rToks_append]

section Braced
variable {α : Type} (ci : Bool → α → List (List Char × Bool)) (sepMid : Bool)

def cBraced (o c : Char) (sep : Bool) (items : List α) : List (List Char × Bool) :=
  ([o], false) :: (cList ci sepMid false items ++ [([c], sep)])

theorem flat_braced (τ : Trivia) (ri : Bool → Nat → α → List Char) (h : ∀ s q a, ri s q a = rToks τ q (ci s a))
    (o c : Char) (sep : Bool) (p : Nat) (items : List α) :
    rBraced ri sepMid τ o c sep p items = rToks τ p (cBraced ci sepMid o c sep items) := by
  simp only [rBraced, cBraced, flat_list ci sepMid false τ ri h, rToks_cons, rToks_append, rToks_nil, List.append_nil]

end Braced

def cOptArgsDef (sep : Bool) : List InputValueDef → List (List Char × Bool)
  | [] => []
  | v :: vs => cBraced cIVD true '(' ')' sep (v :: vs)

theorem flat_optArgsDef (τ : Trivia) (sep : Bool) (p : Nat) (vs : List InputValueDef) :
    rOptArgsDef τ sep p vs = rToks τ p (cOptArgsDef sep vs) := by
  cases vs with
  | nil => rfl
  | cons v vs => exact flat_braced cIVD true τ (rIVD τ) (fun s q a => flat_ivd τ s q a) _ _ _ _ _

def cOptInputs (sep : Bool) : List InputValueDef → List (List Char × Bool)
  | [] => []
  | v :: vs => cBraced cIVD true '{' '}' sep (v :: vs)

theorem flat_optInputs (τ : Trivia) (sep : Bool) (p : Nat) (vs : List InputValueDef) :
    rOptInputs τ sep p vs = rToks τ p (cOptInputs sep vs) := by
  cases vs with
  | nil => rfl
  | cons v vs => exact flat_braced cIVD true τ (rIVD τ) (fun s q a => flat_ivd τ s q a) _ _ _ _ _

/-! ### field definitions, enum values -/

def cFieldDef (sep : Bool) (f : FieldDef) : List (List Char × Bool) :=
  cOptDesc f.desc ++ ((f.name.toList, false) :: (cOptArgsDef false f.args ++
    (([':'], false) :: (cType (sep && f.dirs.isEmpty) f.ty ++ cDirs sep f.dirs))))

theorem flat_fieldDef (τ : Trivia) (sep : Bool) (p : Nat) (f : FieldDef) :
    rFieldDef τ sep p f = rToks τ p (cFieldDef sep f) := by
  simp only [rFieldDef, cFieldDef, flat_optDesc, flat_optArgsDef, flat_type, flat_dirs, rToks_cons, rToks_append]

def cOptFields (sep : Bool) : List FieldDef → List (List Char × Bool)
  | [] => []
  | v :: vs => cBraced cFieldDef true '{' '}' sep (v :: vs)

theorem flat_optFields (τ : Trivia) (sep : Bool) (p : Nat) (vs : List FieldDef) :
    rOptFields τ sep p vs = rToks τ p (cOptFields sep vs) := by
  cases vs with
  | nil => rfl
  | cons v vs => exact flat_braced cFieldDef true τ (rFieldDef τ) (fun s q a => flat_fieldDef τ s q a) _ _ _ _ _

def cEnumVal (sep : Bool) (v : EnumValueDef) : List (List Char × Bool) :=
  cOptDesc v.desc ++ ((v.name.toList, sep && v.dirs.isEmpty) :: cDirs sep v.dirs)

theorem flat_enumVal (τ : Trivia) (sep : Bool) (p : Nat) (v : EnumValueDef) :
    rEnumVal τ sep p v = rToks τ p (cEnumVal sep v) := by
  simp only [rEnumVal, cEnumVal, flat_optDesc, flat_dirs, rToks_cons, rToks_append]

def cOptEnumVals (sep : Bool) : List EnumValueDef → List (List Char × Bool)
  | [] => []
  | v :: vs => cBraced cEnumVal true '{' '}' sep (v :: vs)

theorem flat_optEnumVals (τ : Trivia) (sep : Bool) (p : Nat) (vs : List EnumValueDef) :
    rOptEnumVals τ sep p vs = rToks τ p (cOptEnumVals sep vs) := by
  cases vs with
  | nil => rfl
  | cons v vs => exact flat_braced cEnumVal true τ (rEnumVal τ) (fun s q a => flat_enumVal τ s q a) _ _ _ _ _

/-! ### name lists, root operation types -/

def ciSepName (c : Char) : Bool → (Name × Pos) → List (List Char × Bool) := fun s n => [([c], false), (n.1.toList, s)]

theorem flat_sepName (τ : Trivia) (c : Char) (s : Bool) (q : Nat) (n : Name × Pos) :
    riSepName τ c s q n = rToks τ q (ciSepName c s n) := by
  simp only [riSepName, ciSepName, rToks_cons, rToks_nil, List.append_nil]

/-- names separated by `c`, no leading separator (C07's rendering) -/
def cNames (c : Char) (sep : Bool) : List (Name × Pos) → List (List Char × Bool)
  | [] => []
  | n :: rest => (n.1.toList, sep && rest.isEmpty) :: cList (ciSepName c) false sep rest

theorem flat_names (τ : Trivia) (c : Char) (sep : Bool) (p : Nat) (ns : List (Name × Pos)) :
    rNames τ c sep p ns = rToks τ p (cNames c sep ns) := by
  cases ns with
  | nil => rfl
  | cons n rest =>
    simp only [rNames, cNames, flat_list (ciSepName c) false sep τ (riSepName τ c) (fun s q a => flat_sepName τ c s q a),
      rToks_cons]

/-- … with the optional leading separator when `lead` (the printer always writes it; C07's renderings never do) -/
def cNamesLd (lead : Bool) (c : Char) (sep : Bool) : List (Name × Pos) → List (List Char × Bool)
  | [] => []
  | n :: rest => (if lead then [([c], false)] else []) ++ cNames c sep (n :: rest)

def cOptImpl (sep : Bool) : List (Name × Pos) → List (List Char × Bool)
  | [] => []
  | n :: rest => (kwImplements, true) :: cNamesLd true '&' sep (n :: rest)

def cRoot (sep : Bool) (r : OpKind × Name × Pos) : List (List Char × Bool) :=
  [(opKw r.1, false), ([':'], false), (r.2.1.toList, sep)]

theorem flat_root (τ : Trivia) (sep : Bool) (p : Nat) (r : OpKind × Name × Pos) : rRoot τ sep p r = rToks τ p (cRoot sep r) := by
  simp only [rRoot, cRoot, rToks_cons, rToks_nil, List.append_nil]

def cRoots (sep : Bool) (rs : List (OpKind × Name × Pos)) : List (List Char × Bool) := cBraced cRoot true '{' '}' sep rs

theorem flat_roots (τ : Trivia) (sep : Bool) (p : Nat) (rs : List (OpKind × Name × Pos)) :
    rRoots τ sep p rs = rToks τ p (cRoots sep rs) :=
  flat_braced cRoot true τ (rRoot τ) (fun s q a => flat_root τ s q a) _ _ _ _ _

def cOptRoots (sep : Bool) : List (OpKind × Name × Pos) → List (List Char × Bool)
  | [] => []
  | a :: r => cRoots sep (a :: r)

theorem flat_optRoots (τ : Trivia) (sep : Bool) (p : Nat) (rs : List (OpKind × Name × Pos)) :
    rOptRoots τ sep p rs = rToks τ p (cOptRoots sep rs) := by
  cases rs with
  | nil => rfl
  | cons a r => simp only [rOptRoots, cOptRoots, flat_roots]

/-! ### heads -/

def cDefHead (sN : Bool) (desc : Option String) (kw : List Char) (name : Name) : List (List Char × Bool) :=
  cOptDesc desc ++ [(kw, true), (name.toList, sN)]

theorem flat_defHead (τ : Trivia) (sN : Bool) (p : Nat) (desc : Option String) (kw : List Char) (name : Name) :
    rDefHead τ sN p desc kw name = rToks τ p (cDefHead sN desc kw name) := by
  simp only [rDefHead, cDefHead, flat_optDesc, rToks_cons, rToks_append, rToks_nil, List.append_nil]

def cExtHead (sN : Bool) (kw : List Char) (name : Name) : List (List Char × Bool) :=
  [(kwExtend, true), (kw, true), (name.toList, sN)]

theorem flat_extHead (τ : Trivia) (sN : Bool) (p : Nat) (kw : List Char) (name : Name) :
    rExtHead τ sN p kw name = rToks τ p (cExtHead sN kw name) := by
  simp only [rExtHead, cExtHead, rToks_cons, rToks_nil, List.append_nil]

/-! ### type definitions and extensions: a head (`Description? keyword Name` / `extend keyword Name`) and what follows the name -/

/-- the gap after the name must be non-empty (only where nothing of the kind's own follows, or `implements` does) -/
def headGap (sep : Bool) (t : TypeDef) : Bool :=
  match t.kind with
  | .scalar => sep && t.dirs.isEmpty
  | .object | .interface => !t.implements.isEmpty || (sep && t.fields.isEmpty && t.dirs.isEmpty)
  | .union => false
  | .enum => sep && t.values.isEmpty && t.dirs.isEmpty
  | .input => sep && t.inputs.isEmpty && t.dirs.isEmpty

/-- what follows the name, the same in a definition and in an extension -/
def cTypeBody (sep : Bool) (t : TypeDef) : List (List Char × Bool) :=
  match t.kind with
  | .scalar => cDirs sep t.dirs
  | .object | .interface =>
    cOptImpl (sep && t.fields.isEmpty && t.dirs.isEmpty) t.implements ++
      (cDirs (sep && t.fields.isEmpty) t.dirs ++ cOptFields sep t.fields)
  | .union => cDirs false t.dirs ++ ((['='], false) :: cNamesLd true '|' sep t.members)
  | .enum => cDirs (sep && t.values.isEmpty) t.dirs ++ cOptEnumVals sep t.values
  | .input => cDirs (sep && t.inputs.isEmpty) t.dirs ++ cOptInputs sep t.inputs

def cTypeDefAny (sep : Bool) (t : TypeDef) : List (List Char × Bool) :=
  cDefHead (headGap sep t) t.desc (kindKw t.kind) t.name ++ cTypeBody sep t

/-- a union extension without members has no `=` -/
def cTypeExtAny (sep : Bool) (t : TypeDef) : List (List Char × Bool) :=
  if t.kind = .union ∧ t.members.isEmpty then cExtHead false (kindKw .union) t.name ++ cDirs sep t.dirs
  else cExtHead (headGap sep t) (kindKw t.kind) t.name ++ cTypeBody sep t

/-! ### schema definition / extension, directive definition -/

def cSchemaDef (sep : Bool) (s : SchemaDef) : List (List Char × Bool) :=
  cOptDesc s.desc ++ ((kwSchema, false) :: (cDirs false s.dirs ++ cRoots sep s.roots))

theorem flat_schemaDef (τ : Trivia) (sep : Bool) (p : Nat) (s : SchemaDef) :
    rSchemaDef τ sep p s = rToks τ p (cSchemaDef sep s) := by
  simp only [rSchemaDef, cSchemaDef, flat_optDesc, flat_dirs, flat_roots, rToks_append, rToks_cons]

def cSchemaExt (sep : Bool) (s : SchemaDef) : List (List Char × Bool) :=
  (kwExtend, true) :: (kwSchema, false) :: (cDirs (sep && s.roots.isEmpty) s.dirs ++ cOptRoots sep s.roots)

theorem flat_schemaExt (τ : Trivia) (sep : Bool) (p : Nat) (s : SchemaDef) :
    rSchemaExt τ sep p s = rToks τ p (cSchemaExt sep s) := by
  simp only [rSchemaExt, cSchemaExt, flat_dirs, flat_optRoots, rToks_append, rToks_cons]

def cOptRep : Bool → List (List Char × Bool)
  | true => [(kwRepeatable, true)]
  | false => []

theorem flat_optRep (τ : Trivia) (p : Nat) (b : Bool) : rOptRep τ p b = rToks τ p (cOptRep b) := by
  cases b with
  | false => rfl
  | true => simp only [rOptRep, cOptRep, rToks_cons, rToks_nil, List.append_nil]

def cDirectiveDef (sep : Bool) (d : DirectiveDef) : List (List Char × Bool) :=
  cOptDesc d.desc ++ ((kwDirective, false) :: (['@'], false) :: (d.name.toList, d.args.isEmpty) ::
    (cOptArgsDef false d.args ++ (cOptRep d.repeatable ++ ((kwOn, true) :: cNamesLd true '|' sep (locNames d)))))

/-! ### items, documents -/

def cTsItem (sep : Bool) : TsItem → List (List Char × Bool)
  | .typeDef t => cTypeDefAny sep t
  | .schemaDef s => cSchemaDef sep s
  | .directiveDef d => cDirectiveDef sep d
  | .schemaExt s => cSchemaExt sep s
  | .typeExt t => cTypeExtAny sep t

def cTsDoc (doc : List TsItem) : List (List Char × Bool) := cList cTsItem true false doc

end NitroVerif.C16Own
