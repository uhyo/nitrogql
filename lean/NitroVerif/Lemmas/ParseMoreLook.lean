/-
Lookahead transparency of the PEG interpreter, for ANY grammar table (helper lemmas for Props/C07): under lookahead a successful
evaluation returns no pairs (`noPairs`, an instance of `okInv`); a result that is not "out of depth" is the result for every
larger depth bound (`eval_mono_le`); success, failure and the end cursor depend neither on the lookahead state nor on the trace
(`eval_look`) — the last two are instances of `twoRuns` (Lemmas/PegTwoRuns.lean). So every forward lemma proved outside lookahead
holds under any lookahead state, with the empty pair list (`RunsL.look`, `FailsL.look`, …). This is what makes `COMMENT`'s negative
lookahead `!ext_ImportStatementContent` tractable: the import statement is parsed once outside lookahead and transferred.
-/
import NitroVerif.Lemmas.ParseRun
import NitroVerif.Lemmas.PegTwoRuns
namespace NitroVerif.Peg

variable (g : G)

theorem lookNot_ne (la : Look) : lookNot la ≠ .none := by cases la <;> simp [lookNot]
theorem lookAnd_ne (la : Look) : lookAnd la ≠ .none := by cases la <;> simp [lookAnd]

/-- an instance of the induction over successful runs (`okInv`): "no pairs" is closed under nothing consumed / terminal /
    append, and under lookahead no pair is wrapped around the result of a rule body -/
theorem noPairs {la : Look} (hla : la ≠ .none) (fuel : Nat) : OkInv g la (fun _ _ ps => ps = []) fuel :=
  okInv g la (fun _ _ ps => ps = []) (fun _ => rfl) (fun _ => rfl) (fun h1 h2 => by subst h1 h2; rfl)
    (fun _ _ _ h => absurd h hla) fuel

/-! ### the result does not change when the depth bound grows

Two runs (`Lemmas/PegTwoRuns.lean`) that differ in nothing but the depth bound. -/

/-- same lookahead state, same trace going in; then the same trace and the same pairs coming out -/
def TwoRuns.same : TwoRuns := ⟨Eq, Eq, Eq⟩

theorem TwoRuns.same_refl (r : Tr × Out) : TwoRuns.same.Rel r r := by
  rcases r with ⟨t, o⟩
  cases o with
  | ok c p => exact ⟨t, p, rfl, rfl, rfl⟩
  | fail => exact ⟨t, rfl, rfl⟩
  | oof => trivial

theorem TwoRuns.same_rel {r r' : Tr × Out} (h : TwoRuns.same.Rel r r') (ho : r.2 ≠ .oof) : r' = r := by
  rcases r with ⟨t, o⟩
  cases o with
  | ok c p => obtain ⟨_, _, e, rfl, rfl⟩ := h; exact e
  | fail => obtain ⟨_, e, rfl⟩ := h; exact e
  | oof => exact absurd rfl ho

theorem ruleWrap_oof {r seen la c res tr'} (h : ruleWrap r seen la c res = (tr', .oof)) : res.2 = .oof := by
  rcases res with ⟨t, o⟩
  cases o <;> simp [ruleWrap] at h ⊢

theorem ruleWrap_ne_oof {r seen la c} {res : Tr × Out} (h : res.2 ≠ .oof) : (ruleWrap r seen la c res).2 ≠ .oof := by
  rcases res with ⟨t, o⟩
  cases o <;> simp [ruleWrap] at h ⊢

theorem TwoRuns.same_closed : TwoRuns.same.Closed where
  not := congrArg lookNot
  and := congrArg lookAnd
  step := fun h => by subst h; rfl
  nil := rfl
  app := fun h1 h2 => by subst h1 h2; rfl
  wrap := fun {r seen la la' c x x'} hL h => by
    subst hL
    by_cases ho : x.2 = .oof
    · rcases x with ⟨t, o⟩; subst ho; trivial
    · rw [TwoRuns.same_rel h ho]; exact TwoRuns.same_refl _

variable {g}

theorem eval_mono_le {f sk e at_ la tr c tr' o} (h : eval g f sk e at_ la tr c = (tr', o)) (ho : o ≠ .oof) :
    ∀ f', f ≤ f' → eval g f' sk e at_ la tr c = (tr', o) := fun f' hf =>
  TwoRuns.same_rel (h ▸ (TwoRuns.twoRuns g TwoRuns.same_closed f f' hf).ev sk e at_ la la tr tr c rfl rfl) ho

theorem callRule_mono_le {f r at_ la tr c tr' o} (h : callRule g f r at_ la tr c = (tr', o)) (ho : o ≠ .oof) :
    ∀ f', f ≤ f' → callRule g f' r at_ la tr c = (tr', o) := fun f' hf =>
  TwoRuns.same_rel (h ▸ (TwoRuns.twoRuns g TwoRuns.same_closed f f' hf).cr r at_ la la tr tr c rfl rfl) ho

theorem doSkip_mono_le {f sk at_ la tr c tr' o} (h : doSkip g f sk at_ la tr c = (tr', o)) (ho : o ≠ .oof) :
    ∀ f', f ≤ f' → doSkip g f' sk at_ la tr c = (tr', o) := fun f' hf =>
  TwoRuns.same_rel (h ▸ (TwoRuns.twoRuns g TwoRuns.same_closed f f' hf).sk sk at_ la la tr tr c rfl rfl) ho

/-! ### success / failure and the end cursor do not depend on the lookahead state or the trace

Two runs about whose lookahead states, traces and pairs nothing is asked. -/

def TwoRuns.any : TwoRuns := ⟨fun _ _ => True, fun _ _ => True, fun _ _ => True⟩

theorem TwoRuns.any_closed : TwoRuns.any.Closed where
  not := fun _ => trivial
  and := fun _ => trivial
  step := fun _ => trivial
  nil := trivial
  app := fun _ _ => trivial
  wrap := fun {r seen la la' c x x'} _ h => by
    rcases x with ⟨t, o⟩
    cases o with
    | ok c1 p => obtain ⟨t', p', rfl, _, _⟩ := h; exact ⟨_, _, rfl, trivial, trivial⟩
    | fail => obtain ⟨t', rfl, _⟩ := h; exact ⟨_, rfl, trivial⟩
    | oof => trivial

theorem eval_look (n sk e at_ la la' tr c) :
    TwoRuns.any.Rel (eval g n sk e at_ la tr c) (eval g n sk e at_ la' tr c) :=
  (TwoRuns.twoRuns g TwoRuns.any_closed n n (Nat.le_refl n)).ev sk e at_ la la' tr tr c trivial trivial

theorem callRule_look (n r at_ la la' tr c) :
    TwoRuns.any.Rel (callRule g n r at_ la tr c) (callRule g n r at_ la' tr c) :=
  (TwoRuns.twoRuns g TwoRuns.any_closed n n (Nat.le_refl n)).cr r at_ la la' tr tr c trivial trivial

/-- the transfer, for any of the interpreter's functions `F` (as a function of lookahead state, trace and depth): a
    success under `la` is a success under `la'`, with the pairs `F` yields there -/
theorem ok_look {F : Look → Tr → Nat → Tr × Out} {n : Nat} {la la' : Look} {c' : Cur} {ps : List Pair}
    (hs : ∀ tr, TwoRuns.any.Rel (F la tr n) (F la' tr n))
    (hm : ∀ tr tr' o, F la' tr n = (tr', o) → o ≠ .oof → ∀ f, n ≤ f → F la' tr f = (tr', o))
    (hp : ∀ tr tr' c1 p1, F la' tr n = (tr', .ok c1 p1) → p1 = [])
    (h : ∀ tr, ∃ tr', ∀ f, n ≤ f → F la tr f = (tr', .ok c' ps)) :
    ∀ tr, ∃ tr', ∀ f, n ≤ f → F la' tr f = (tr', .ok c' []) := by
  intro tr
  obtain ⟨t0, h0⟩ := h tr
  obtain ⟨t1, p1, e1, _, _⟩ := h0 n (Nat.le_refl _) ▸ hs tr
  obtain rfl := hp _ _ _ _ e1
  exact ⟨t1, hm _ _ _ e1 (by simp)⟩

theorem fail_look {F : Look → Tr → Nat → Tr × Out} {n : Nat} {la la' : Look}
    (hs : ∀ tr, TwoRuns.any.Rel (F la tr n) (F la' tr n))
    (hm : ∀ tr tr' o, F la' tr n = (tr', o) → o ≠ .oof → ∀ f, n ≤ f → F la' tr f = (tr', o))
    (h : ∀ tr, ∃ tr', ∀ f, n ≤ f → F la tr f = (tr', .fail)) :
    ∀ tr, ∃ tr', ∀ f, n ≤ f → F la' tr f = (tr', .fail) := by
  intro tr
  obtain ⟨t0, h0⟩ := h tr
  obtain ⟨t1, e1, _⟩ := h0 n (Nat.le_refl _) ▸ hs tr
  exact ⟨t1, hm _ _ _ e1 (by simp)⟩

theorem RunsL.look {la la' n sk e at_ c c' ps} (h : RunsL g la n sk e at_ c c' ps) (hla : la' ≠ .none) :
    RunsL g la' n sk e at_ c c' [] :=
  ok_look (F := fun la tr f => eval g f sk e at_ la tr c) (fun tr => eval_look n sk e at_ la la' tr c)
    (fun _ _ _ h ho => eval_mono_le h ho) (fun _ _ _ _ h => (noPairs g hla n).ev _ _ _ _ _ _ _ _ h) h

theorem FailsL.look {la n sk e at_ c} (h : FailsL g la n sk e at_ c) (la' : Look) : FailsL g la' n sk e at_ c :=
  fail_look (F := fun la tr f => eval g f sk e at_ la tr c) (fun tr => eval_look n sk e at_ la la' tr c)
    (fun _ _ _ h ho => eval_mono_le h ho) h

theorem RunsRuleL.look {la la' n r at_ c c' ps} (h : RunsRuleL g la n r at_ c c' ps) (hla : la' ≠ .none) :
    RunsRuleL g la' n r at_ c c' [] :=
  ok_look (F := fun la tr f => callRule g f r at_ la tr c) (fun tr => callRule_look n r at_ la la' tr c)
    (fun _ _ _ h ho => callRule_mono_le h ho) (fun _ _ _ _ h => (noPairs g hla n).cr _ _ _ _ _ _ _ h) h

theorem FailsRuleL.look {la n r at_ c} (h : FailsRuleL g la n r at_ c) (la' : Look) : FailsRuleL g la' n r at_ c :=
  fail_look (F := fun la tr f => callRule g f r at_ la tr c) (fun tr => callRule_look n r at_ la la' tr c)
    (fun _ _ _ h ho => callRule_mono_le h ho) h

theorem Runs.look {la' n sk e at_ c c' ps} (h : Runs g n sk e at_ c c' ps) (hla : la' ≠ .none) :
    RunsL g la' n sk e at_ c c' [] := RunsL.look (la := .none) h hla
theorem Fails.look {n sk e at_ c} (h : Fails g n sk e at_ c) (la' : Look) : FailsL g la' n sk e at_ c :=
  FailsL.look (la := .none) h la'
theorem RunsRule.look {la' n r at_ c c' ps} (h : RunsRule g n r at_ c c' ps) (hla : la' ≠ .none) :
    RunsRuleL g la' n r at_ c c' [] := RunsRuleL.look (la := .none) h hla
theorem FailsRule.look {n r at_ c} (h : FailsRule g n r at_ c) (la' : Look) : FailsRuleL g la' n r at_ c :=
  FailsRuleL.look (la := .none) h la'

end NitroVerif.Peg
