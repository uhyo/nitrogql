/-
The walk through the builders (helper lemmas for Props/C08), part 2: selection sets, executable definitions and
`build_operation_document` (builder/selection_set.rs, builder/operation.rs, builder.rs), for any `Walk`
(Lemmas/BuildWalkValue.lean): on pairs of the class the builders fail only inside the error set. A matcher site is discharged
because its pattern is in the extracted table (`InTable`).
-/
import NitroVerif.Lemmas.BuildWalkValue
namespace NitroVerif.Shape
open NitroVerif.Peg NitroVerif.Gen NitroVerif.Gen.Parts NitroVerif.Build

section
variable {ctx : Ctx} {S : Panic → Prop} {G : Pair → Prop} (W : Walk ctx S G)
include W

theorem errIn_typeConditionIdent {tc : Pair} (h : In G R.TypeCondition tc) : ErrIn S (typeConditionIdent ctx tc) := by
  obtain ⟨a, -, b, -, hl⟩ := W.parts h P_TypeCondition
  rw [typeConditionIdent, hl]
  exact ErrIn.ok _

theorem errIn_buildSelectionSet : ∀ fuel {p : Pair}, In G R.SelectionSet p → ErrIn S (buildSelectionSet ctx fuel p) := by
  intro fuel
  induction fuel with
  | zero => intro p _; rw [buildSelectionSet]; exact ErrIn.err W.fuel
  | succ fuel ih =>
    intro p h
    obtain ⟨hall, hcs⟩ := W.all h AC_SelectionSet
    rw [buildSelectionSet, hall, ok_bind]
    refine ErrIn.mapM fun s hs => ?_
    obtain ⟨c, oc⟩ := W.only (hcs s hs) "Selection" OC_Selection
    rw [oc.of, ok_bind]
    refine ErrIn.ite (fun h1 => ?_) fun h1 => ErrIn.ite (fun h2 => ?_) fun h2 => ErrIn.ite (fun h3 => ?_) fun h3 => ?_
    · obtain ⟨al, hal, name, -, args, hargs, dirs, hdirs, sel, hsel, hl⟩ := W.parts ⟨oc.mem, h1⟩ P_Field
      rw [hl, ok_bind]
      -- the do-notation makes what follows `let alias ← match alias with …` a local function of `alias`: `jp`
      dsimp -zeta only
      extract_lets jp
      have hjp : ∀ alias, ErrIn S (jp alias) := fun _ =>
        (errIn_optArgs W fuel hargs).bind fun _ _ => (errIn_optDirs W fuel hdirs).bind fun _ _ =>
          hsel.elim ((ErrIn.pure _).bind fun _ _ => ErrIn.ok _) fun ss hss =>
            (ih hss).bind fun _ _ => (ErrIn.pure _).bind fun _ _ => ErrIn.ok _
      exact hal.elim ((ErrIn.pure _).bind fun _ _ => hjp _) fun a ha =>
        let ⟨_, ox⟩ := W.only ha "Alias" OC_Alias
        (ErrIn.of_eq ox.of).bind fun _ _ => (ErrIn.pure _).bind fun _ _ => hjp _
    · obtain ⟨name, -, dirs, hdirs, hl⟩ := W.parts ⟨oc.mem, h2⟩ P_FragmentSpread
      rw [hl, ok_bind]
      exact (errIn_optDirs W fuel hdirs).bind fun _ _ => ErrIn.ok _
    · obtain ⟨tc, htc, dirs, hdirs, ss, hss, hl⟩ := W.parts ⟨oc.mem, h3⟩ P_InlineFragment
      rw [hl, ok_bind]
      dsimp -zeta only
      extract_lets jp
      have hjp : ∀ cond, ErrIn S (jp cond) := fun _ =>
        (errIn_optDirs W fuel hdirs).bind fun _ _ => (ih hss).bind fun _ _ => ErrIn.ok _
      exact htc.elim ((ErrIn.pure _).bind fun _ _ => hjp _) fun t ht =>
        (errIn_typeConditionIdent W ht).bind fun _ _ => (ErrIn.pure _).bind fun _ _ => hjp _
    · exact absurd oc.arm (by simp [OC_Selection, h1, h2, h3])

theorem errIn_buildVariableDefinition (fuel : Nat) {p : Pair} (h : In G R.VariableDefinition p) :
    ErrIn S (buildVariableDefinition ctx fuel p) := by
  obtain ⟨v, hv, ty, hty, dv, hdv, dirs, hdirs, hl⟩ := W.parts h P_VariableDefinition
  rw [buildVariableDefinition, hl, ok_bind]
  exact (errIn_buildVariable W hv).bind fun _ _ => (errIn_buildType W fuel hty).bind fun _ _ =>
    (errIn_optDefault W fuel hdv).bind fun _ _ => (errIn_optDirs W fuel hdirs).bind fun _ _ => ErrIn.ok _

theorem errIn_buildVariablesDefinition (fuel : Nat) {p : Pair} (h : In G R.VariablesDefinition p) :
    ErrIn S (buildVariablesDefinition ctx fuel p) := by
  obtain ⟨hall, hcs⟩ := W.all h AC_VariablesDefinition
  rw [buildVariablesDefinition, hall, ok_bind]
  exact ErrIn.mapM fun v hv => errIn_buildVariableDefinition W fuel (hcs v hv)

theorem errIn_buildExecutableDefinition (fuel : Nat) {p : Pair} (h : In G R.ExecutableDefinition p) :
    ErrIn S (buildExecutableDefinition ctx fuel p) := by
  obtain ⟨c, oc⟩ := W.only h "ExecutableDefinition" OC_ExecutableDefinition
  rw [buildExecutableDefinition, oc.of, ok_bind]
  refine ErrIn.ite (fun h1 => ?_) fun h1 => ErrIn.ite (fun h2 => ?_) fun h2 => ErrIn.ite (fun h3 => ?_) fun h3 => ?_
  · obtain ⟨opTy, hop, name, -, vars, hvars, dirs, hdirs, ss, hss, hl⟩ := W.parts ⟨oc.mem, h1⟩ P_OperationDefinition
    rw [hl, ok_bind]
    dsimp -zeta only
    extract_lets jp
    have hjp : ∀ kind, ErrIn S (jp kind) := by
      intro kind
      dsimp -zeta only [jp]
      extract_lets jp'
      have hjp' : ∀ vs, ErrIn S (jp' vs) := fun _ => (errIn_optDirs W fuel hdirs).bind fun _ _ =>
        (errIn_buildSelectionSet W fuel hss).bind fun _ _ => ErrIn.ok _
      exact hvars.elim ((ErrIn.pure _).bind fun _ _ => hjp' _) fun v hv =>
        (errIn_buildVariablesDefinition W fuel hv).bind fun _ _ => hjp' _
    exact hop.elim ((ErrIn.pure _).bind fun _ _ => hjp _) fun t ht => (W.opType ht).bind fun _ _ => hjp _
  · obtain ⟨kw, -, name, -, tc, htc, dirs, hdirs, ss, hss, hl⟩ := W.parts ⟨oc.mem, h2⟩ P_FragmentDefinition
    rw [hl, ok_bind]
    exact (errIn_typeConditionIdent W htc).bind fun ⟨_, _⟩ _ => (errIn_optDirs W fuel hdirs).bind
      fun _ _ => (errIn_buildSelectionSet W fuel hss).bind fun _ _ => ErrIn.ok _
  · obtain ⟨inner, oinner⟩ := W.only ⟨oc.mem, h3⟩ "ext_ImportStatement" OC_ext_ImportStatement
    have hinr : inner.rule = R.ext_ImportStatementContent := by simpa [OC_ext_ImportStatement] using oinner.arm
    obtain ⟨kw, -, targets, -, kf, -, path, hpath, hl⟩ := W.parts ⟨oinner.mem, hinr⟩ P_ext_ImportStatementContent
    rw [oinner.plain, ok_bind, hl, ok_bind]
    exact (errIn_buildStringValue W hpath).bind fun ⟨_, _⟩ _ => ErrIn.ok _
  · exact absurd oc.arm (by simp [OC_ExecutableDefinition, h1, h2, h3])

theorem errIn_buildOperationDocument (fuel : Nat) {p : Pair} (h : In G R.ExecutableDocument p) :
    ErrIn S (buildOperationDocument ctx fuel [p]) := by
  simp only [buildOperationDocument, h.rule, if_true]
  refine ErrIn.mapM fun d hd => ?_
  obtain ⟨hdm, hdr⟩ := List.mem_filter.mp hd
  exact errIn_buildExecutableDefinition W fuel ⟨W.child h.mem hdm, by simpa using hdr⟩

end

end NitroVerif.Shape
