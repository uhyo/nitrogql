import NitroVerif.Props.C19
import NitroVerif.Props.C14
import NitroVerif.Props.C12Composed
import NitroVerif.Lemmas.LoaderComposed
/-!
# C19 composed with C13, C12 and C14: the loader with its CONCRETE emitter

Property theorems only.  `Props/C19.lean` quantifies over every emitter; here `Loader.Env.emit` is instantiated
(`LoaderC.concreteEnv π`, `Lemmas/LoaderComposed.lean`) with the composition the code performs in `emit_js`:

  import resolution   `resolve_operation_imports((root, ..), TaskOperationResolver(task))` = C13's model on the task's files
  undefined spreads   `find_undefined_fragment_spread` (fix 08fd7e5)                        = `Composed.findUndefined`
  printing            `print_js`: statements of C14's loader module + per definition the JSON of C12's runtime document

`π : Params P S` keeps abstract what C19 is not about: the parser (any function from sources to parsed files), the path
resolver (any function), the `Nat`-coding of fragment names, the configuration, the numbering of error messages.
-/
namespace NitroVerif.Loader
open NitroVerif NitroVerif.Gql NitroVerif.Composed NitroVerif.LoaderC NitroVerif.FragClosure NitroVerif.C12
open NitroVerif.Imports (Res ImpErr)

variable {P S : Type} [DecidableEq P]

/-- The concrete emitter never traps — for EVERY root and EVERY set of files: import resolution terminates
    (`C13_terminates`) with a document or an error result; a spread of a fragment that no definition of the
    import-resolved document carries is answered with the `FragmentNotDefined` error BEFORE printing (fix 08fd7e5); and
    once every written spread is defined the printer's only panic site, `expect("fragment not found")`, is unreachable
    for every definition of the document (`C12_panic_only_on_undefined` lifted over the check).
    This discharges the hypothesis `EmitTotal` of `C19_isolation` and `C19_no_trap` for the concrete emitter. -/
theorem C19_emit_total (π : Params P S) : EmitTotal (concreteEnv π) :=
  emitTotal_concrete π

/-- Isolation with the concrete emitter, no hypothesis left: the responses to the calls addressed to a task are those
    of running only these calls in a fresh instance — whatever parser, path resolver and configuration. -/
theorem C19_isolation_concrete (π : Params P S) (t : Nat) (h : List (Call P S)) :
    respsOf (concreteEnv π) t init h = runResps (concreteEnv π) init ((proj (concreteEnv π) t init h).map .call) :=
  C19_isolation (concreteEnv π) (C19_emit_total π) t h

/-- No call of any history traps with the concrete emitter. -/
theorem C19_no_trap_concrete (π : Params P S) (h : List (Call P S)) :
    ∀ r ∈ runResps (concreteEnv π) init (h.map .call), r ≠ .trap :=
  C19_no_trap (concreteEnv π) (C19_emit_total π) h

/-- `emit_js` IS the printer applied to the import-resolved root document.  For every history and every live task
    `t` holding files `T.files`: every held file is the parse of its source, the root file is held, and the answer of
    `emit_js(t)` is decided by `resolveDoc` (C13's resolver run on exactly the task's files, root's definitions followed
    by the imported ones; the root document is the one held under the root name AS SUPPLIED, the resolver knows it by
    the NORMALISED name `norm T.root`, as `resolve_operation_imports` does):
    * import resolution fails with `e` → the error result numbered `eImp e`;
    * it yields `R` but some written spread names no fragment definition of `R` → the `FragmentNotDefined` error for
      the first such spread (never a trap);
    * otherwise → the module `m` with `moduleOf cfg R = ok m`: its statements are C14's loader module of the resolved
      document (`Exports.loaderJs`), it has one document literal per definition of `R`, and literal `i` is the JSON
      (`DocJson.toJson`) of C12's runtime document of definition `i` (`FragClosure.runtimeDefs R`).
    One of the three cases applies (they exclude each other by their first conjuncts).
    In the statement: the witness is the root file; then "the root file is held", "every held file is the parse of its
    source", and the three cases as disjuncts in the order above, each ending in the answer of the call. -/
theorem C19_emit_is_printer (π : Params P S) (h : List (Op P S)) (t : Nat) (T : Task P S)
    (hd : (runSt (concreteEnv π) init h).dead = false)
    (hl : lookup (runSt (concreteEnv π) init h).tasks t = some T) :
    ∃ rootFile, (projOf π T.files).lookup T.root = some rootFile ∧
      (∀ e ∈ T.files, π.parseSrc e.2.src = .ok (parsedOf π e.2) ∧
        e.2.imports = (parsedOf π e.2).imports.map (·.rel)) ∧
      ((∃ e, resolveDoc π.code π.res (projOf π T.files) (π.norm T.root) rootFile = .err e ∧
          (step (concreteEnv π) (runSt (concreteEnv π) init h) (.call (.emit t))).2 = .failed (.source (π.eImp e))) ∨
       (∃ R n, resolveDoc π.code π.res (projOf π T.files) (π.norm T.root) rootFile = .ok R ∧ findUndefined R = some n ∧
          (∃ d ∈ R, n ∈ ReadDoc.spreads (selOf d)) ∧ getFrag R n = none ∧
          (step (concreteEnv π) (runSt (concreteEnv π) init h) (.call (.emit t))).2 = .failed (.source (π.eUndef n))) ∨
       (∃ R m, resolveDoc π.code π.res (projOf π T.files) (π.norm T.root) rootFile = .ok R ∧ findUndefined R = none ∧
          moduleOf π.cfg R = .ok m ∧
          (step (concreteEnv π) (runSt (concreteEnv π) init h) (.call (.emit t))).2 = .js m ∧
          m.stmts = Exports.loaderJs π.cfg (cliFile rootFile.defs.length R) ∧
          m.docs.length = R.length ∧
          ∀ (i : Nat) (d : ExecDef), R[i]? = some d →
            ∃ ds, runtimeDefs R d = .ok ds ∧ m.docs[i]? = some (DocJson.toJson ds))) := by
  obtain ⟨_, hroot, hparsed⟩ := run_inv (concreteEnv π) h init keysLt_init rootOk_init (parsedOk_init _)
  generalize runSt (concreteEnv π) init h = σ at hd hl hroot hparsed
  cases hr : lookup T.files T.root with
  | none => exact absurd hr (hroot t T hl)
  | some d =>
    have hlk : (projOf π T.files).lookup T.root = some (parsedOf π d) := by rw [lookup_projOf, hr]; rfl
    refine ⟨parsedOf π d, hlk, fun e he => parsedOf_spec π (hparsed t T hl e he), ?_⟩
    rw [step_emit_concrete π hd hl hr]
    cases hres : resolveDoc π.code π.res (projOf π T.files) (π.norm T.root) (parsedOf π d) with
    | err e => exact Or.inl ⟨e, rfl, by rw [emitFiles_importErr hlk hres]⟩
    | outOfFuel => exact absurd hres (resolveDoc_ne_outOfFuel _ _ _ _ _)
    | ok R =>
      cases hu : findUndefined R with
      | some n =>
        obtain ⟨h1, h2⟩ := findUndefined_some hu
        exact Or.inr (Or.inl ⟨R, n, rfl, hu, h1, h2, by rw [emitFiles_undefined hlk hres hu]⟩)
      | none =>
        obtain ⟨m, hm, hs, hlen, hidx⟩ := moduleOf_ok π.cfg ((findUndefined_none_iff R).mp hu)
        refine Or.inr (Or.inr ⟨R, m, rfl, hu, hm, by rw [emitFiles_module hlk hres hu hm], ?_, hlen, hidx⟩)
        rw [hs, Exports.loaderJs, cliFile_asLocal]

/-- The module `emit_js` answers exports what the declaration file declares (C14) and its constants hold C12's runtime
    documents: with `F` = the resolved document as the CLI's declaration printer sees it (`cliFile`: the root's
    definitions local, the appended ones imported),
    * every value export of the declaration file `dts cfg F` is an export of the emitted module, in the same order, and
      the two have the same default export;
    * the emitted module declares exactly the constants `constsFrom … F`: the constant of definition `i` is named after
      definition `i` (`C14_names`), and its value `docs[i]` is the JSON of `runtimeDefs R R[i]`;
    * for an operation `X = R[i]` of the ROOT file whose transitive spreads are all defined among the root's fragments
      and the reference import set, with pairwise distinct fragment names in `R`, with every held file as the parser
      produces it (`ReadDoc.Resolved rootFile.defs`, `ProjectOk`), and when no OTHER document is held
      under the root's normalised name (`RootOKp … (norm root) rootFile`; `C19_rootOK_of_normalised`: automatic when
      the root name is normalised): `docs[i]` reads back, with the
      independent graphql-js reader, as `[X] ++` the reference closure of X's spreads over the reference document, each
      fragment once (`C12_from_files`).
    Four conjuncts: the two halves of the first point, the second point, the third; the conclusion of the third gives,
    in this order, the closure `names`, `docs[i]` as the JSON of `[X] ++` their definitions, its reading back, and that
    the appended definitions are named `names`. -/
theorem C19_emit_exports (π : Params P S) (root : P) (files : List (P × Doc P S)) (rootFile : SrcFile P)
    {R : List ExecDef} (hR : resolveDoc π.code π.res (projOf π files) (π.norm root) rootFile = .ok R)
    (hu : findUndefined R = none) {m : JsModule} (hm : moduleOf π.cfg R = .ok m) :
    (Exports.valueExports (Exports.dts π.cfg (cliFile rootFile.defs.length R))).Sublist (Exports.exports m.stmts) ∧
    Exports.defaultOf (Exports.dts π.cfg (cliFile rootFile.defs.length R)) = Exports.defaultOf m.stmts ∧
    Exports.consts m.stmts =
      Exports.constsFrom (Exports.BaseOptions.fromConfig π.cfg) 0 (cliFile rootFile.defs.length R) ∧
    (∀ (i : Nat) (o : OperationDef), rootFile.defs[i]? = some (.op o) →
      RootOKp (projOf π files) (π.norm root) rootFile → ReadDoc.Resolved rootFile.defs →
      (C12.fragNamesOf R).Nodup → ProjectOk (projOf π files) →
      (∀ n, ReadDoc.Reach (envOf (refDoc π.code π.res (projOf π files) (π.norm root) rootFile)) o.sel n →
        (getFrag (refDoc π.code π.res (projOf π files) (π.norm root) rootFile) n).isSome) →
      ∃ names, ReadDoc.closure (envOf (refDoc π.code π.res (projOf π files) (π.norm root) rootFile))
          (refDoc π.code π.res (projOf π files) (π.norm root) rootFile).length o.sel = some names ∧
        m.docs[i]? = some (DocJson.toJson (.op o :: fragDefs (refDoc π.code π.res (projOf π files) (π.norm root) rootFile) names)) ∧
        ReadDoc.readDoc (DocJson.toJson (.op o :: fragDefs (refDoc π.code π.res (projOf π files) (π.norm root) rootFile) names)) =
          some (ReadDoc.erasePos (.op o :: fragDefs (refDoc π.code π.res (projOf π files) (π.norm root) rootFile) names)) ∧
        C12.fragNamesOf (fragDefs (refDoc π.code π.res (projOf π files) (π.norm root) rootFile) names) = names) := by
  obtain ⟨m', hm', hs, _, hidx⟩ := moduleOf_ok π.cfg ((findUndefined_none_iff R).mp hu)
  rw [hm] at hm'
  injection hm' with hm'
  subst hm'
  have hst : m.stmts = Exports.loaderJs π.cfg (cliFile rootFile.defs.length R) := by
    rw [hs, Exports.loaderJs, cliFile_asLocal]
  refine ⟨?_, ?_, ?_, ?_⟩
  · rw [hst]; exact Exports.C14_value_exports_loader _ _
  · rw [hst]; exact (Exports.C14_default_same _ _).2
  · rw [hst]; exact (Exports.C14_names _ _).2.2
  · intro i o hi hroot hrootOk hnd hok hdef
    have hX : ExecDef.op o ∈ rootFile.defs := List.mem_of_getElem? hi
    obtain ⟨names, h1, _, _, h4, h5, h6, _⟩ :=
      C12_from_files π.code π.res (projOf π files) (π.norm root) rootFile hroot hok hrootOk hR hnd o hX hdef
    obtain ⟨out, _, hRe⟩ := resolveDoc_ok _ _ _ _ _ hR
    have hRi : R[i]? = some (.op o) := by
      rw [hRe, List.getElem?_append_left (List.getElem?_eq_some_iff.mp hi).1]; exact hi
    obtain ⟨ds, hds, hdoc⟩ := hidx i _ hRi
    rw [h4] at hds
    injection hds with hds
    subst hds
    exact ⟨names, h1, hdoc, h5, h6⟩

/-- "A task whose required files are all loaded": when `get_required_files` answers the empty list (every resolved
    import target of every held file is itself held), import resolution inside `emit_js` cannot fail with `FileNotFound`;
    the only import error left is `FragmentNotFound` (an import line names a fragment its target file does not
    define).  So such a task's `emit_js` answers the module, `FragmentNotFound`, or `FragmentNotDefined`.
    `hnorm` (resolving against the normalised name of a file is resolving against its name) holds of
    `resolve_relative_path`, which normalises its base. -/
theorem C19_emit_all_loaded (π : Params P S) (h : List (Op P S)) (t : Nat) (T : Task P S)
    (hl : lookup (runSt (concreteEnv π) init h).tasks t = some T)
    (hnorm : ∀ p r, π.res (π.norm p) r = π.res p r)
    (hreq : requiredOf (concreteEnv π) T.files = []) (rootFile : SrcFile P)
    (hlk : (projOf π T.files).lookup T.root = some rootFile) (e : ImpErr P P)
    (he : resolveDoc π.code π.res (projOf π T.files) (π.norm T.root) rootFile = .err e) :
    ∃ q rel id, e = .fragmentNotFound q rel id := by
  obtain ⟨_, _, hparsed⟩ := run_inv (concreteEnv π) h init keysLt_init rootOk_init (parsedOk_init _)
  generalize runSt (concreteEnv π) init h = σ at hl hparsed
  -- every resolved import target of a held file is held
  have hall : ∀ p ∈ targets (concreteEnv π) T.files, lookup T.files p ≠ none := by
    intro p hp hn
    have : p ∈ requiredOf (concreteEnv π) T.files := by
      unfold requiredOf
      rw [mem_foldl_addNew]
      exact Or.inr (List.mem_filter.mpr ⟨hp, by simp [hn]⟩)
    rw [hreq] at this; cases this
  -- the import lines of a held file, as the resolver sees them
  have himps : ∀ q d, lookup T.files q = some d → d.imports = (parsedOf π d).imports.map (·.rel) :=
    fun q d hq => (parsedOf_spec π (hparsed t T hl (q, d) (lookup_mem hq))).2
  cases Imports.resolve_err _ _ _ _ ((resolveDoc_eq_err _ _ _ _ _).mp he) with
  | missing _ _ _ _ => exact ⟨_, _, _, rfl⟩
  | @dangling q imp hreach himp hnone =>
    exfalso
    -- some held file `q'` has the line `imp`, and its target is the one that was not found
    have hheld : ∃ q' d, lookup T.files q' = some d ∧ imp ∈ (parsedOf π d).imports ∧
        π.res q' imp.rel = π.res q imp.rel := by
      unfold Imports.Spec.importsOf at himp
      by_cases hqr : q = π.norm T.root
      · rw [if_pos hqr] at himp
        rw [lookup_projOf] at hlk
        cases hd : lookup T.files T.root with
        | none => rw [hd] at hlk; cases hlk
        | some d =>
          rw [hd] at hlk
          simp only [Option.map_some, Option.some.injEq] at hlk
          exact ⟨T.root, d, hd, by rw [hlk]; exact himp, by rw [hqr, hnorm]⟩
      · rw [if_neg hqr, lookup_absFS, lookup_projOf] at himp
        cases hd : lookup T.files q with
        | none => rw [hd] at himp; simp at himp
        | some d => rw [hd] at himp; exact ⟨q, d, hd, by simpa [absFile] using himp, rfl⟩
    obtain ⟨q', d, hdq, hmem, hsame⟩ := hheld
    have htar : π.res q imp.rel ∈ targets (concreteEnv π) T.files := by
      unfold targets
      rw [List.mem_flatMap]
      refine ⟨(q', d), lookup_mem hdq, ?_⟩
      rw [List.mem_map]
      refine ⟨imp.rel, ?_, hsame⟩
      rw [himps q' d hdq, List.mem_map]
      exact ⟨imp, hmem, rfl⟩
    apply hall _ htar
    rw [lookup_absFS, lookup_projOf] at hnone
    cases hx : lookup T.files (π.res q imp.rel) with
    | none => rfl
    | some d' => rw [hx] at hnone; simp at hnone

/-- When the root file name is normalised (what the JavaScript side passes: bundlers hand over absolute resolved
    ids) the resolver's name of the root is the name the task holds it under, so the side condition "no other
    document is held under the root's normalised name" of `C19_emit_exports` is automatic. -/
theorem C19_rootOK_of_normalised (π : Params P S) (root : P) (files : List (P × Doc P S)) (rootFile : SrcFile P)
    (hn : π.norm root = root) (hlk : (projOf π files).lookup root = some rootFile) :
    RootOKp (projOf π files) (π.norm root) rootFile := by
  intro f hf
  rw [hn, hlk] at hf
  injection hf with hf
  exact hf.symm

/-- The C20 model of `resolve_relative_path` / `normalize_path` meets the side condition `hnorm` of
    `C19_emit_all_loaded` (and makes the model's "resolve the root's literals against the normalised root name" the
    code's "resolve them against the name as supplied"): the base is normalised before anything else. -/
theorem C19_norm_ok_paths (p r : Paths.P) : Paths.resolve (Paths.normalize p) r = Paths.resolve p r :=
  Paths.resolve_normalize_base p r

/-! ### non-vacuity: the 3-file diamond project of `Props/C12Composed.lean` through the loader

Paths are component lists (C20 model, `res = Paths.resolve`), sources are numbered (`0 ↦ main`, `1 ↦ x`, `2 ↦ sub/y`,
`3 ↦ query Q { ...Missing }`, anything else does not parse). -/
namespace ExL
open NitroVerif.C12.Ex

def mainL : SrcFile Paths.P :=
  ⟨[⟨Paths.components "./sub/y.graphql", 0, .specific [⟨exCode "Y", 0, 0⟩]⟩,
    ⟨Paths.components "x.graphql", 1, .specific [⟨exCode "X0", 1, 0⟩]⟩],
   [.op opQ, .frag fragL]⟩
def xL : SrcFile Paths.P := ⟨[], [.frag fragX0, .frag fragX1]⟩
def yL : SrcFile Paths.P := ⟨[⟨Paths.components "../sub/../x.graphql", 0, .specific [⟨exCode "X1", 0, 0⟩]⟩], [.frag fragY]⟩

def πEx : Params Paths.P Nat where
  parseSrc s := if s = 0 then .ok mainL else if s = 1 then .ok xL else if s = 2 then .ok yL else .error 7
  res := Paths.resolve
  norm := Paths.normalize
  code := exCode
  cfg := Exports.Config.parse {}
  eImp _ := 1
  eUndef _ := 2

def hist : List (Op Paths.P Nat) :=
  [.call (.initiate pMain 0), .call (.required 1), .call (.load 1 pY 2), .call (.load 1 pX 1), .call (.required 1)]

/-- The paths of the diamond project as component lists.  The evaluations below rewrite with these first: the kernel
    shares no work between the comparisons of two paths and would split the path texts again at each of them. -/
theorem ex_paths :
    pMain = [.root, .normal "p", .normal "main.graphql"] ∧ pX = [.root, .normal "p", .normal "x.graphql"] ∧
    pY = [.root, .normal "p", .normal "sub", .normal "y.graphql"] ∧
    Paths.components "./sub/y.graphql" = [.cur, .normal "sub", .normal "y.graphql"] ∧
    Paths.components "x.graphql" = [.normal "x.graphql"] ∧
    Paths.components "../sub/../x.graphql" = [.parent, .normal "sub", .parent, .normal "x.graphql"] := by
  decide +kernel

theorem ex_dead : (runSt (concreteEnv πEx) init hist).dead = false := by decide

def exFiles : List (Paths.P × Doc Paths.P Nat) :=
  [(pX, ⟨[], 1⟩), (pY, ⟨[Paths.components "../sub/../x.graphql"], 2⟩),
   (pMain, ⟨[Paths.components "./sub/y.graphql", Paths.components "x.graphql"], 0⟩)]

theorem ex_task : ∃ T, lookup (runSt (concreteEnv πEx) init hist).tasks 1 = some T ∧ T.root = pMain ∧ T.files = exFiles := by
  refine ⟨⟨pMain, exFiles, [(pX, 2), (pY, 1), (pMain, 0)], [0, 1, 2]⟩, ?_, rfl, rfl⟩
  simp only [hist, exFiles, πEx, mainL, yL, ex_paths]
  decide +kernel

theorem ex_req : requiredOf (concreteEnv πEx) exFiles = [] := by
  simp only [exFiles, πEx, mainL, yL, ex_paths]
  decide +kernel

theorem ex_held : lookup exFiles pX = some ⟨[], 1⟩ ∧
    lookup exFiles pY = some ⟨[Paths.components "../sub/../x.graphql"], 2⟩ ∧
    lookup exFiles pMain = some ⟨[Paths.components "./sub/y.graphql", Paths.components "x.graphql"], 0⟩ := by
  simp only [exFiles, ex_paths]
  decide +kernel

theorem ex_proj_root : (projOf πEx exFiles).lookup pMain = some mainL := by
  simp only [exFiles, ex_paths]
  rfl

theorem ex_resolve : Imports.resolve Paths.resolve (absFS exCode (projOf πEx exFiles)) pMain (absFile exCode mainL) = .ok [(pX, 0), (pX, 1), (pY, 0)] := by
  simp only [exFiles, πEx, mainL, yL, ex_paths]
  decide +kernel

theorem ex_norm : Paths.normalize pMain = pMain := by
  simp only [ex_paths]
  decide +kernel

theorem ex_resolveDoc : resolveDoc exCode Paths.resolve (projOf πEx exFiles) pMain mainL = .ok exR := by
  rw [resolveDoc_of_resolve _ _ _ _ _ ex_resolve]
  simp only [materialise, List.filterMap_cons, List.filterMap_nil, defAt, lookup_projOf, ex_held]
  rfl

theorem ex_defined : findUndefined exR = none := by decide +kernel

/-- the diamond project through the loader: after `initiate(main)`, `get_required_files` (answers `sub/y`, `x`), two
    `load_file`s and an empty `get_required_files`, `emit_js` answers a module — the third case of
    `C19_emit_is_printer` — with one document literal per definition of the resolved document `Q, L, X0, X1, Y` and the
    exports `default, L, X0, X1, Y` (the loader also exports the imported fragments, cf. `C14_loader_exports_imported_fragment`) -/
example : ∃ m, (step (concreteEnv πEx) (runSt (concreteEnv πEx) init hist) (.call (.emit 1))).2 = .js m ∧
    m.docs.length = 5 ∧
    Exports.exports m.stmts = ["default".toList, "L".toList, "X0".toList, "X1".toList, "Y".toList] := by
  obtain ⟨T, hT, hroot, hfiles⟩ := ex_task
  obtain ⟨m, hm, hst, hlen, _⟩ := moduleOf_ok πEx.cfg ((findUndefined_none_iff exR).mp ex_defined)
  have hres : resolveDoc πEx.code πEx.res (projOf πEx exFiles) (πEx.norm pMain) mainL = .ok exR := by
    rw [show πEx.norm = Paths.normalize from rfl, ex_norm]
    exact ex_resolveDoc
  have hr := ex_held.2.2
  rw [← hfiles, ← hroot] at hr
  rw [step_emit_concrete πEx ex_dead hT hr, hroot, hfiles,
    emitFiles_module (by rw [lookup_projOf, ex_held.2.2]; rfl) hres ex_defined hm]
  refine ⟨m, rfl, hlen, ?_⟩
  rw [hst]
  decide +kernel

/-- the hypotheses of `C19_emit_exports` (outer and inner) hold of the diamond project -/
example : (projOf πEx exFiles).lookup pMain = some mainL ∧
    resolveDoc πEx.code πEx.res (projOf πEx exFiles) (πEx.norm pMain) mainL = .ok exR ∧ findUndefined exR = none ∧
    RootOKp (projOf πEx exFiles) (πEx.norm pMain) mainL ∧
    (∃ m, moduleOf πEx.cfg exR = .ok m) ∧ (C12.fragNamesOf exR).Nodup ∧ ProjectOk (projOf πEx exFiles) ∧
    SpreadsDefined (refDoc πEx.code πEx.res (projOf πEx exFiles) (πEx.norm pMain) mainL) := by
  obtain ⟨m, hm, _⟩ := moduleOf_ok πEx.cfg ((findUndefined_none_iff exR).mp ex_defined)
  have hN : πEx.norm pMain = pMain := by rw [show πEx.norm = Paths.normalize from rfl]; exact ex_norm
  rw [hN]
  refine ⟨ex_proj_root, ex_resolveDoc, ex_defined, ?_, ⟨m, hm⟩, by decide +kernel, ?_, ?_⟩
  · have := C19_rootOK_of_normalised πEx pMain exFiles mainL hN (by rw [lookup_projOf, ex_held.2.2]; rfl)
    rw [hN] at this; exact this
  · apply projectOk_of_forall
    intro e he
    simp only [projOf, exFiles, List.map_cons, List.map_nil, List.mem_cons, List.not_mem_nil, or_false] at he
    rcases he with rfl | rfl | rfl <;> decide +kernel
  · have hr : Imports.Spec.refImports Paths.resolve (absFS exCode (projOf πEx exFiles)) pMain (absFile exCode mainL) =
        [(pY, 0), (pX, 0), (pX, 1)] := by
      simp only [exFiles, πEx, mainL, yL, ex_paths]
      decide +kernel
    have : refDoc πEx.code πEx.res (projOf πEx exFiles) pMain mainL =
        [.op opQ, .frag fragL, .frag fragY, .frag fragX0, .frag fragX1] := by
      show refDoc exCode Paths.resolve _ pMain mainL = _
      rw [refDoc, hr]
      simp only [materialise, List.filterMap_cons, List.filterMap_nil, defAt, lookup_projOf, ex_held]
      rfl
    rw [this]
    decide +kernel


/-- `main` importing a fragment `Nope` that `x.graphql` does not define -/
def nopeL : SrcFile Paths.P :=
  ⟨[⟨Paths.components "x.graphql", 0, .specific [⟨exCode "Nope", 0, 0⟩]⟩], [.op opQ]⟩

def πNope : Params Paths.P Nat := { πEx with parseSrc := fun s => if s = 4 then .ok nopeL else πEx.parseSrc s }

/-- the hypotheses of `C19_emit_all_loaded` are satisfiable: every required file is loaded
    (`get_required_files` answers `[]`), and import resolution fails — with `FragmentNotFound`, as the theorem says -/
example : requiredOf (concreteEnv πNope) [(pX, ⟨[], 1⟩), (pMain, ⟨[Paths.components "x.graphql"], 4⟩)] = [] ∧
    (projOf πNope [(pX, ⟨[], 1⟩), (pMain, ⟨[Paths.components "x.graphql"], 4⟩)]).lookup pMain = some nopeL ∧
    resolveDoc πNope.code πNope.res (projOf πNope [(pX, ⟨[], 1⟩), (pMain, ⟨[Paths.components "x.graphql"], 4⟩)])
        (πNope.norm pMain) nopeL =
      .err (.fragmentNotFound pMain (Paths.components "x.graphql") ⟨exCode "Nope", 0, 0⟩) ∧
    (lookup (runSt (concreteEnv πNope) init [.call (.initiate pMain 4), .call (.load 1 pX 1)]).tasks 1).map
      (fun T => (T.root, T.files)) = some (pMain, [(pX, ⟨[], 1⟩), (pMain, ⟨[Paths.components "x.graphql"], 4⟩)]) := by
  refine ⟨?_, ?_, ?_, ?_⟩
  · simp only [πNope, πEx, nopeL, ex_paths]
    decide +kernel
  · simp only [ex_paths]
    rfl
  · rw [show πNope.norm = Paths.normalize from rfl, ex_norm, resolveDoc_eq_err]
    simp only [πNope, πEx, nopeL, ex_paths]
    decide +kernel
  · simp only [πNope, πEx, nopeL, ex_paths]
    decide +kernel

/-- `query Q { ...Missing }` -/
def badL : SrcFile Paths.P := ⟨[], [.op { kind := .query, name := some ("Q", {}), sel := [spr "Missing"] }]⟩

def πBad : Params Paths.P Nat := { πEx with parseSrc := fun s => if s = 3 then .ok badL else πEx.parseSrc s }

/-- the defect repaired by 08fd7e5, on the concrete emitter: `emit_js` of `query Q { ...Missing }` answers the
    `FragmentNotDefined` error (second case of `C19_emit_is_printer`), it does not trap -/
example : (step (concreteEnv πBad) (runSt (concreteEnv πBad) init [.call (.initiate pMain 3)]) (.call (.emit 1))).2 =
    .failed (.source 2) := by
  have hd : (runSt (concreteEnv πBad) init [.call (.initiate pMain 3)]).dead = false := by decide
  have hT : lookup (runSt (concreteEnv πBad) init [.call (.initiate pMain 3)]).tasks 1 =
      some ⟨pMain, [(pMain, ⟨[], 3⟩)], [(pMain, 0)], [0]⟩ := by
    decide +kernel
  have hr : lookup [(pMain, (⟨[], 3⟩ : Doc Paths.P Nat))] pMain = some ⟨[], 3⟩ := by rw [lookup_cons, if_pos rfl]
  have hres : resolveDoc πBad.code πBad.res (projOf πBad [(pMain, ⟨[], 3⟩)]) (πBad.norm pMain) badL = .ok badL.defs := by
    rw [show πBad.norm = Paths.normalize from rfl, ex_norm]
    exact resolveDoc_of_resolve (out := []) _ _ _ _ _ (by decide +kernel)
  have hu : findUndefined badL.defs = some "Missing" := by decide +kernel
  rw [step_emit_concrete πBad hd hT hr, emitFiles_undefined (by rw [lookup_projOf, hr]; rfl) hres hu]
  rfl

/-! the root is known to the import resolver by its NORMALISED name (observed on the code by the K stream `emit-concrete`,
probe `unnormalised-root-name`): root supplied as `/p/sub/../main.graphql` (`#import F from "./f.graphql"  query Q { ...F }`),
`/p/f.graphql` = `#import M from "./main.graphql"  fragment F { a ...M }`, and ANOTHER file held as `/p/main.graphql`
(`fragment M { m }`) -/

def pRootU : Paths.P := Paths.components "/p/sub/../main.graphql"
def pF : Paths.P := Paths.components "/p/f.graphql"
def fragM : FragmentDef := { name := "M", cond := "Query", sel := [fld "m"] }
def fragF : FragmentDef := { name := "F", cond := "Query", sel := [fld "a", spr "M"] }
def rootU : SrcFile Paths.P :=
  ⟨[⟨Paths.components "./f.graphql", 0, .specific [⟨exCode "F", 0, 0⟩]⟩],
   [.op { kind := .query, name := some ("Q", {}), sel := [spr "F"] }]⟩
def fU : SrcFile Paths.P := ⟨[⟨Paths.components "./main.graphql", 0, .specific [⟨exCode "M", 0, 0⟩]⟩], [.frag fragF]⟩
def mU : SrcFile Paths.P := ⟨[], [.frag fragM]⟩
def projU : Project Paths.P Paths.P := [(pMain, mU), (pF, fU), (pRootU, rootU)]

theorem exU_paths :
    pRootU = [.root, .normal "p", .normal "sub", .parent, .normal "main.graphql"] ∧
    pF = [.root, .normal "p", .normal "f.graphql"] ∧
    Paths.components "./f.graphql" = [.cur, .normal "f.graphql"] ∧
    Paths.components "./main.graphql" = [.cur, .normal "main.graphql"] := by
  decide +kernel

/-- Starting from the normalised root name (what the code does, and `emitFiles` with it) the file held as
    `/p/main.graphql` IS the root for the resolver: it is never finished, `M` is not appended, and the loader answers
    `FragmentNotDefined M`.  Starting from the name as supplied, which the code does not do, `M` would be appended and a
    module printed. -/
theorem C19_emit_unnormalised_root_witness :
    Paths.normalize pRootU = pMain ∧
    (match resolveDoc exCode Paths.resolve projU (Paths.normalize pRootU) rootU with
      | .ok R => C12.fragNamesOf R = ["F"] ∧ findUndefined R = some "M"
      | _ => False) ∧
    (match resolveDoc exCode Paths.resolve projU pRootU rootU with
      | .ok R => C12.fragNamesOf R = ["M", "F"] ∧ findUndefined R = none
      | _ => False) := by
  have h1 : Imports.resolve Paths.resolve (absFS exCode projU) (Paths.normalize pRootU) (absFile exCode rootU) =
      .ok [(pF, 0)] := by
    simp only [projU, rootU, fU, exU_paths, ex_paths]
    decide +kernel
  have h2 : Imports.resolve Paths.resolve (absFS exCode projU) pRootU (absFile exCode rootU) =
      .ok [(pMain, 0), (pF, 0)] := by
    simp only [projU, rootU, fU, exU_paths, ex_paths]
    decide +kernel
  refine ⟨?_, ?_, ?_⟩
  · simp only [exU_paths, ex_paths]
    decide +kernel
  · rw [resolveDoc_of_resolve _ _ _ _ _ h1]
    simp only [projU, fU, exU_paths, ex_paths]
    exact ⟨by decide +kernel, by decide +kernel⟩
  · rw [resolveDoc_of_resolve _ _ _ _ _ h2]
    simp only [projU, fU, exU_paths, ex_paths]
    exact ⟨by decide +kernel, by decide +kernel⟩

end ExL

end NitroVerif.Loader
