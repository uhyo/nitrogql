import NitroVerif.Lemmas.CheckTsValue
import NitroVerif.Lemmas.CheckTsRec
import NitroVerif.Lemmas.CheckTsUnique
import NitroVerif.Lemmas.CheckTsRecSpec
import NitroVerif.Lemmas.CheckTsPreE3584a3
/-!
# C05 — schema `check` verdict is exact on the implemented type-system rules

Property theorems, and beside them the facts about an accepted document that several of them share (`implPairs_facts`,
`directive_application_facts`, `application_args`, `inputsNodup_of_accepted`, `inputTypesOk_of_accepted`).
Model: `NitroVerif/Model/CheckTs.lean` + `CheckTsCommon.lean` (tied to `crates/checker/src/type_system_checker/*`,
`common.rs`, `types.rs`, `definition_map.rs` by the correspondence stream of `harness/src/bin/c05.rs`);
specification: `NitroVerif/Spec/ValidTs.lean`.

`checkSchema T = []` is "the real check accepts the resolved document `T`" (built-ins are part of `T`).
Each `C05_sound_<rule>` says: an accepted document satisfies the rule as the GraphQL specification states
it. Rules whose statement needs "the type named n" to be unambiguous need `uniqueTypeNames T` (the checker
consults the LAST definition of a name where the schema view has the FIRST; they agree when type names are
unique). Since fix 8cdbacf the checker itself reports a repeated type name (`check_unique_names`, section
"unique names" below), so `uniqueTypeNames T` FOLLOWS from acceptance; what remains as a hypothesis of those rules
is `builtinTypeNamesDistinct T` — the built-in-position definitions, which are data of `T`, do not repeat a name
among themselves (true of the constant list `generate_builtins()`; the checker never reports a clash between two
built-in positions).
-/
namespace NitroVerif.CheckTs
open NitroVerif.Gql NitroVerif.ValidTs

/-! ## the rule predicates -/

def Holds_reservedNames (T : TsDoc) : Prop := reservedNames T = true
def Holds_uniqueFields (T : TsDoc) : Prop := uniqueFields T = true
def Holds_uniqueArgs (T : TsDoc) : Prop := uniqueArgs T = true
def Holds_uniqueEnumValues (T : TsDoc) : Prop := uniqueEnumValues T = true
def Holds_uniqueUnionMembers (T : TsDoc) : Prop := uniqueUnionMembers T = true
def Holds_uniqueTypeDefs (T : TsDoc) : Prop := uniqueTypeDefs T = true
def Holds_knownTypes (T : TsDoc) : Prop := knownTypes T = true
def Holds_outputPositions (T : TsDoc) : Prop := outputPositions T = true
def Holds_inputPositions (T : TsDoc) : Prop := inputPositions T = true
def Holds_implementsInterfaces (T : TsDoc) : Prop := implementsInterfaces T = true
def Holds_noSelfImplements (T : TsDoc) : Prop := noSelfImplements T = true
def Holds_transitiveInterfaces (T : TsDoc) : Prop := transitiveInterfaces T = true
def Holds_ifaceFieldsPresent (T : TsDoc) : Prop := ifaceFieldsPresent T = true
def Holds_ifaceFieldsCovariant (T : TsDoc) : Prop := ifaceFieldsCovariant T = true
def Holds_ifaceFieldArgs (T : TsDoc) : Prop := ifaceFieldArgs T = true
def Holds_unionMembersObjects (T : TsDoc) : Prop := unionMembersObjects T = true
def Holds_directivesDefined (T : TsDoc) : Prop := directivesDefined T = true
def Holds_directivesLocated (T : TsDoc) : Prop := directivesLocated T = true
def Holds_directivesUnique (T : TsDoc) : Prop := directivesUnique T = true
def Holds_directiveArgs (T : TsDoc) : Prop := directiveArgs T = true
def Holds_noRecursiveDirectives (T : TsDoc) : Prop := noRecursiveDirectives T = true
def TsSpecValid (T : TsDoc) : Prop := tsSpecValid T = true

/-- a small valid schema used as the non-vacuity witness of the hypotheses below -/
def sampleSchema : TsDoc :=
  [.typeDef { kind := .scalar, name := "Int" },
   .directiveDef { name := "flag", locations := ["OBJECT", "FIELD_DEFINITION"] },
   .typeDef { kind := .interface, name := "Node", fields := [{ name := "id", ty := .named "Int" {} }] },
   .typeDef { kind := .object, name := "Query", implements := [("Node", {})],
              dirs := [{ name := "flag" }],
              fields := [{ name := "id", ty := .nonNull (.named "Int" {}),
                           args := [{ name := "x", ty := .named "Int" {} }] }] }]

theorem sampleSchema_accepted : checkSchema sampleSchema = [] := by decide +kernel
example : checkSchema sampleSchema = [] := sampleSchema_accepted
example : tsSpecValid sampleSchema = true := by decide +kernel

/-! ## reserved names -/

/-- An accepted document has no type, field, argument, input field, enum value, directive or directive
    argument whose name starts with `__`. -/
theorem C05_sound_reservedNames (T : TsDoc) (h : checkSchema T = []) : Holds_reservedNames T := by
  have hargs : ∀ as, checkArgsDef ⟨T⟩ as = [] → (as.all fun a => !startsWithUU a.name) = true := by
    intro as has
    simp only [List.all_eq_true, Bool.not_eq_true']
    intro a ha
    exact ((checkArgsDef_nil_iff.mp has).1 a ha).1
  simp only [Holds_reservedNames, reservedNames, Bool.and_eq_true, List.all_eq_true, Bool.not_eq_true']
  refine ⟨?_, ?_⟩
  · intro t ht
    refine ⟨⟨⟨(typeQuiet_of_accepted h ht).name, ?_⟩, ?_⟩, ?_⟩
    · intro f hf
      have := (fieldsOfT_facts h ht).1 f hf
      refine ⟨this.1, ?_⟩
      have := hargs f.args this.2.2.2
      simpa only [List.all_eq_true, Bool.not_eq_true'] using this
    · intro v hv; exact ((valuesOfT_facts h ht).1 v hv).1
    · intro f hf; exact ((inputsOfT_facts h ht).1 f hf).1
  · intro d hd
    have := directiveDef_parts h hd
    refine ⟨this.2.1, ?_⟩
    have := hargs d.args this.2.2
    simpa only [List.all_eq_true, Bool.not_eq_true'] using this

/-! ## duplicates -/

/-- An accepted document has no object / interface type with two fields of one name and no input object
    with two input fields of one name. -/
theorem C05_sound_uniqueFields (T : TsDoc) (h : checkSchema T = []) : Holds_uniqueFields T := by
  simp only [Holds_uniqueFields, uniqueFields, List.all_eq_true, Bool.and_eq_true]
  intro t ht
  exact ⟨(fieldsOfT_facts h ht).2, (inputsOfT_facts h ht).2⟩

/-- In an accepted document no field and no directive definition has two arguments of one name. -/
theorem C05_sound_uniqueArgs (T : TsDoc) (h : checkSchema T = []) : Holds_uniqueArgs T := by
  simp only [Holds_uniqueArgs, uniqueArgs, List.all_eq_true]
  intro as has
  exact (checkArgsDef_nil_iff.mp (argLists_facts h has)).2

/-- In an accepted document no enum type has two values of one name. -/
theorem C05_sound_uniqueEnumValues (T : TsDoc) (h : checkSchema T = []) : Holds_uniqueEnumValues T := by
  simp only [Holds_uniqueEnumValues, uniqueEnumValues, List.all_eq_true]
  intro t ht
  exact (valuesOfT_facts h ht).2

/-- In an accepted document no union type lists a member twice. -/
theorem C05_sound_uniqueUnionMembers (T : TsDoc) (h : checkSchema T = []) : Holds_uniqueUnionMembers T := by
  simp only [Holds_uniqueUnionMembers, uniqueUnionMembers, List.all_eq_true]
  intro t ht
  exact (membersOfT_facts h ht).2

/-- The one rule whose hypothesis is not `checkSchema T = []`: it is enforced by the extension resolver (`dupOriginal?`,
    on the unresolved document), not by the checker, and does not follow from `checkSchema T = []`. If the extension
    resolver raises no `DuplicateOriginal`, then no two type definitions of the same kind have the same name and there is
    at most one schema definition. -/
theorem C05_sound_uniqueTypeDefs (T : TsDoc) (h : dupOriginal? T = none) : Holds_uniqueTypeDefs T := by
  obtain ⟨_, h2, _, h4⟩ := dupOriginalAux_none T [] h
  simp only [Holds_uniqueTypeDefs, uniqueTypeDefs, Bool.and_eq_true, decide_eq_true_eq]
  exact ⟨h2, h4⟩

example : dupOriginal? sampleSchema = none := by decide +kernel

/-! ## unique names (`check_unique_names`, fix 8cdbacf) -/

/-- **Type names are unique across kinds.** In an accepted document (1) no two type definitions written by the
    user — of whatever kinds: `type A {…}  input A {…}` — share a name, (2) no user type definition takes the
    name of a built-in-position type definition (`enum Int {…}` next to the built-in scalar `Int`), and hence
    (3) when the built-in-position definitions do not repeat a name among themselves, ALL type names of the document
    are pairwise distinct (`uniqueTypeNames`, the specification's §3.3 rule). -/
theorem C05_unique_type_names (T : TsDoc) (h : checkSchema T = []) :
    userTypeNamesUnique T = true ∧ builtinTypeNamesNotTaken T = true ∧
    (builtinTypeNamesDistinct T = true → uniqueTypeNames T = true) := by
  obtain ⟨h1, h2⟩ := typeIdentsOk_of_unique (checkSchema_nil_unique h)
  exact ⟨(noDup_iff_nodup _).mpr h1, all_of_disjoint h2, uniqueTypeNames_of_accepted h⟩

/-- a document with built-in-position scalars, a user type and a re-declared built-in directive: accepted, the
    side conditions used below hold -/
def sampleWithBuiltins : TsDoc :=
  [.directiveDef { name := "deprecated", locations := ["FIELD_DEFINITION"] },
   .typeDef { kind := .object, name := "Query", fields := [{ name := "a", ty := .named "Int" {}, dirs := [{ name := "deprecated" }] }] },
   .typeDef { kind := .scalar, name := "Int", namePos := { builtin := true } },
   .typeDef { kind := .scalar, name := "String", namePos := { builtin := true } },
   .directiveDef { name := "deprecated", namePos := { builtin := true }, locations := ["FIELD_DEFINITION", "ENUM_VALUE"] }]

example : checkSchema sampleWithBuiltins = [] ∧ builtinTypeNamesDistinct sampleWithBuiltins = true ∧
    builtinDirectivesLast sampleWithBuiltins = true ∧ uniqueTypeNames sampleWithBuiltins = true := by decide +kernel

/-- **The user's directive names are unique** — in an accepted document in which no built-in-position directive
    definition precedes a user definition of the same directive (`builtinDirectivesLast`: the CLI appends the
    built-ins after the user's definitions and the extension resolver keeps directive definitions in order).
    Re-declaring a built-in directive is allowed by the code and is not excluded here. -/
theorem C05_unique_directive_names_partial (T : TsDoc) (h : checkSchema T = [])
    (hl : builtinDirectivesLast T = true) : userDirectiveNamesUnique T = true :=
  userDirectiveNamesUnique_of_unique (checkSchema_nil_unique h) hl

/-- … and with built-in directives that are pairwise distinct and not re-declared, ALL directive names are pairwise
    distinct (`uniqueDirectiveNames`, the specification's §3.13 rule). -/
theorem C05_unique_directive_names_all (T : TsDoc) (h : checkSchema T = [])
    (hb : builtinDirectiveNamesDistinct T = true) (hr : builtinDirectivesNotRedeclared T = true) :
    uniqueDirectiveNames T = true :=
  uniqueDirectiveNames_of_accepted h hb hr

example : builtinDirectiveNamesDistinct sampleSchema = true ∧ builtinDirectivesNotRedeclared sampleSchema = true ∧
    builtinDirectiveNamesDistinct sampleWithBuiltins = true ∧ builtinDirectivesNotRedeclared sampleWithBuiltins = false := by
  decide +kernel

/-- The full statement `checkSchema T = [] → userDirectiveNamesUnique T` is FALSE of the code (as a function of an
    arbitrary document): `check_unique_names` compares a definition with the FIRST earlier identifier of its name
    only, and a (built-in, user) pair of directives is not reported — so behind a built-in-position `@d` two user
    definitions of `@d` pass. Not reachable through the CLI (built-ins come last). -/
theorem C05_unique_directive_names_counterexample :
    let T : TsDoc := [.directiveDef { name := "d", namePos := { builtin := true }, locations := ["OBJECT"] },
                      .directiveDef { name := "d", namePos := { line := 1 }, locations := ["OBJECT"] },
                      .directiveDef { name := "d", namePos := { line := 2 }, locations := ["OBJECT"] }]
    checkSchema T = [] ∧ userDirectiveNamesUnique T = false ∧ builtinDirectivesLast T = false := by decide +kernel

/-- **`check_unique_names` is exact on the user's side** (completeness of this rule alone): if the user's type
    names are pairwise distinct and none is the name of a built-in-position type, and the user's directive names are
    pairwise distinct, `check_unique_names` reports nothing — whatever the built-ins are; in particular a user
    re-declaration of a built-in directive gets no diagnostic. -/
theorem C05_unique_names_complete (T : TsDoc) (h1 : userTypeNamesUnique T = true)
    (h2 : builtinTypeNamesNotTaken T = true) (h3 : userDirectiveNamesUnique T = true) : checkUniqueNames T = [] :=
  checkUniqueNames_nil_of_user h1 h2 h3

example : userTypeNamesUnique sampleWithBuiltins = true ∧ builtinTypeNamesNotTaken sampleWithBuiltins = true ∧
    userDirectiveNamesUnique sampleWithBuiltins = true := by decide +kernel

/-- the three fault classes are reported, at the user's identifier: the later of two user types of different kinds;
    the user type that takes a built-in scalar's name, whether it comes before or after the built-in; the later of
    two user directives -/
theorem C05_duplicate_names_reported :
    checkUniqueNames [.typeDef { kind := .object, name := "A", namePos := { line := 1 } },
                      .typeDef { kind := .input, name := "A", namePos := { line := 2 } }] =
      [(.DuplicatedName, { line := 2 })] ∧
    checkUniqueNames [.typeDef { kind := .enum, name := "Int", namePos := { line := 1 } },
                      .typeDef { kind := .scalar, name := "Int", namePos := { builtin := true } }] =
      [(.DuplicatedName, { line := 1 })] ∧
    checkUniqueNames [.typeDef { kind := .scalar, name := "Int", namePos := { builtin := true } },
                      .typeDef { kind := .enum, name := "Int", namePos := { line := 1 } }] =
      [(.DuplicatedName, { line := 1 })] ∧
    checkUniqueNames [.directiveDef { name := "d", namePos := { line := 1 } },
                      .directiveDef { name := "d", namePos := { line := 2 } }] =
      [(.DuplicatedName, { line := 2 })] := by decide +kernel

/-! ## input / output positions -/

/-- In an accepted document no field of an object or interface type has an input object type. -/
theorem C05_sound_outputPositions (T : TsDoc) (h : checkSchema T = []) : Holds_outputPositions T := by
  simp only [Holds_outputPositions, outputPositions, List.all_eq_true]
  intro t ht f hf
  obtain ⟨k, hk, ho⟩ := outputFieldType_nil ((fieldsOfT_facts h ht).1 f hf).2.2.1
  rw [hk]
  cases k <;> first | rfl | (exact absurd ho (by decide))

/-- In an accepted document every argument (of a field or of a directive) and every input-object field
    has a scalar, enum or input object type. -/
theorem C05_sound_inputPositions (T : TsDoc) (h : checkSchema T = []) : Holds_inputPositions T := by
  simp only [Holds_inputPositions, inputPositions, List.all_eq_true]
  intro v hv
  obtain ⟨k, hk, ho⟩ := inputValueType_nil (inputValues_facts h hv)
  rw [hk]
  cases k <;> first | rfl | (exact absurd ho (by decide))

/-! ## unknown types -/

/-- In an accepted document every type named inside a type or directive definition (field, argument and
    input-field types, implemented interfaces, union members) is defined. -/
theorem C05_sound_knownTypeRefs (T : TsDoc) (h : checkSchema T = []) : knownTypeRefs T = true :=
  knownTypeRefs_of_accepted h

/-- The rule "every referenced type is defined" for an accepted document, under the side condition that
    the root operation types named by `schema { … }` are defined (the checker does not look at them:
    `C05_sound_knownTypes_counterexample`, open finding `sound:unknown-types@root-operation-type`). -/
theorem C05_sound_knownTypes_partial (T : TsDoc) (h : checkSchema T = []) (hr : knownRootTypes T = true) :
    Holds_knownTypes T := by
  simp only [Holds_knownTypes, knownTypes, Bool.and_eq_true]
  exact ⟨C05_sound_knownTypeRefs T h, hr⟩

example : checkSchema sampleSchema = [] ∧ knownRootTypes sampleSchema = true := ⟨sampleSchema_accepted, by decide +kernel⟩

/-- `schema { query: Query subscription: Nope }` with `Nope` undefined is accepted. -/
def unknownRootSchema : TsDoc :=
  [.typeDef { kind := .scalar, name := "Int" },
   .schemaDef { roots := [(.query, "Query", {}), (.subscription, "Nope", {})] },
   .typeDef { kind := .object, name := "Query", fields := [{ name := "a", ty := .named "Int" {} }] }]

/-- The full statement `checkSchema T = [] → Holds_knownTypes T` is FALSE of the code. -/
theorem C05_sound_knownTypes_counterexample :
    checkSchema unknownRootSchema = [] ∧ ¬ Holds_knownTypes unknownRootSchema := by
  unfold Holds_knownTypes; decide +kernel

/-! ## `implements` -/

/-- In an accepted document no interface lists itself among the interfaces it implements. -/
theorem C05_sound_noSelfImplements (T : TsDoc) (h : checkSchema T = []) : Holds_noSelfImplements T := by
  simp only [Holds_noSelfImplements, noSelfImplements, List.all_eq_true, Bool.or_eq_true, bne_iff_ne, ne_eq]
  intro t ht
  by_cases hk : t.kind = .interface
  · right
    intro i hi
    have hi' : i ∈ implementsOfT t := by simp [implementsOfT, isObjOrIface, hk, hi]
    exact fun hc => (implementsOfT_facts h ht i hi').1 hk hc.symm
  · left; exact hk

/-- In an accepted document (built-in-position type definitions pairwise distinct), everything a type says it implements is an
    interface type. -/
theorem C05_sound_implementsInterfaces (T : TsDoc) (hb : builtinTypeNamesDistinct T = true)
    (h : checkSchema T = []) : Holds_implementsInterfaces T := by
  have hu := uniqueTypeNames_of_accepted h hb
  simp only [Holds_implementsInterfaces, implementsInterfaces, List.all_eq_true]
  intro t ht i hi
  obtain ⟨_, idef, hl, hk, _⟩ := implementsOfT_facts h ht i hi
  rw [lastTypeDef_eq_typeDef hu] at hl
  rw [Schema.kindOf_of_typeDef hl, hk]
  rfl

/-- In an accepted document (built-in-position type definitions pairwise distinct), every member of a union is an object type. -/
theorem C05_sound_unionMembersObjects (T : TsDoc) (hb : builtinTypeNamesDistinct T = true)
    (h : checkSchema T = []) : Holds_unionMembersObjects T :=
  unionMembersObjects_of_accepted h hb

example : builtinTypeNamesDistinct sampleSchema = true ∧ checkSchema sampleSchema = [] ∧
    builtinTypeNamesDistinct sampleWithBuiltins = true ∧ checkSchema sampleWithBuiltins = [] :=
  ⟨by decide +kernel, sampleSchema_accepted, by decide +kernel⟩

/-- In an accepted document (built-in-position type definitions pairwise distinct), a type that implements an interface also declares
    every interface that interface implements. -/
theorem C05_sound_transitiveInterfaces (T : TsDoc) (hb : builtinTypeNamesDistinct T = true)
    (h : checkSchema T = []) : Holds_transitiveInterfaces T := by
  have hu := uniqueTypeNames_of_accepted h hb
  simp only [Holds_transitiveInterfaces, transitiveInterfaces, List.all_eq_true]
  intro t ht idef hidef j hj
  obtain ⟨hobj, _, _, hv⟩ := implementedIfaces_facts hu h ht idef hidef
  have := (checkValidImpl_nil_iff.mp hv).1 j hj
  simpa [implementsOfT, hobj] using this

/-! ## interface fields -/

/-- In an accepted document (built-in-position type definitions pairwise distinct), a type has a field for every field of every
    interface it implements. -/
theorem C05_sound_ifaceFieldsPresent (T : TsDoc) (hb : builtinTypeNamesDistinct T = true)
    (h : checkSchema T = []) : Holds_ifaceFieldsPresent T := by
  have hu := uniqueTypeNames_of_accepted h hb
  simp only [Holds_ifaceFieldsPresent, ifaceFieldsPresent, List.all_eq_true]
  intro t ht idef hidef impF hF
  obtain ⟨hobj, _, _, hv⟩ := implementedIfaces_facts hu h ht idef hidef
  obtain ⟨f, hfind, _⟩ := (checkValidImpl_nil_iff.mp hv).2 impF hF
  simp only [fieldsOfT, hobj, if_true, List.any_eq_true]
  exact ⟨f, List.mem_of_find?_eq_some hfind, by simpa using List.find?_some hfind⟩

theorem implPairs_facts (T : TsDoc) (hu : uniqueTypeNames T = true) (h : checkSchema T = [])
    {t : TypeDef} (ht : t ∈ ValidTs.typeDefs T) :
    ∀ p ∈ implPairs ⟨T⟩ t, p.1 ∈ fieldsOfT t ∧
      (∃ idef ∈ ValidTs.typeDefs T, p.2 ∈ fieldsOfT idef) ∧
      (∀ ia ∈ p.2.args, ∃ fa, p.1.args.find? (·.name == ia.name) = some fa ∧ sameType fa.ty ia.ty = true) ∧
      (∀ fa ∈ p.1.args, p.2.args.any (·.name == fa.name) = true ∨ requiredArg fa = false) ∧
      isSubtype ⟨T⟩ p.1.ty p.2.ty ≠ some false := by
  intro p hp
  simp only [implPairs, List.mem_flatMap, List.mem_filterMap, Option.map_eq_some_iff] at hp
  obtain ⟨idef, hidef, impF, hF, f, hfind, rfl⟩ := hp
  obtain ⟨hobj, hmem, hkind, hv⟩ := implementedIfaces_facts hu h ht idef hidef
  obtain ⟨f', hfind', h1, h2, h3⟩ := (checkValidImpl_nil_iff.mp hv).2 impF hF
  simp only [fieldsOfT, hobj, if_true] at hfind
  rw [hfind] at hfind'
  cases hfind'
  refine ⟨?_, ⟨idef, hmem, ?_⟩, h1, h2, h3⟩
  · simp only [fieldsOfT, hobj, if_true]
    exact List.mem_of_find?_eq_some hfind
  · simp [fieldsOfT, isObjOrIface, hkind, hF]

/-- In an accepted document (built-in-position type definitions pairwise distinct), the field implementing an interface field accepts
    every argument of the interface field with the same type, and its additional arguments are not
    required. -/
theorem C05_sound_ifaceFieldArgs (T : TsDoc) (hb : builtinTypeNamesDistinct T = true)
    (h : checkSchema T = []) : Holds_ifaceFieldArgs T := by
  have hu := uniqueTypeNames_of_accepted h hb
  simp only [Holds_ifaceFieldArgs, ifaceFieldArgs, List.all_eq_true, Bool.and_eq_true, Bool.or_eq_true,
    Bool.not_eq_true']
  intro t ht p hp
  obtain ⟨_, _, h1, h2, _⟩ := implPairs_facts T hu h ht p hp
  refine ⟨?_, h2⟩
  intro ia hia
  obtain ⟨fa, hfa, hs⟩ := h1 ia hia
  rw [hfa]; exact hs

/-- (`isSubtype_spec` of Lemmas/CheckTs.lean with explicit arguments; an equation, not an equivalence.)
    `is_subtype` is the spec's covariance (IsValidImplementationFieldType, with IsSubType): for two types
    whose innermost names are defined, in a schema where `implements` lists only name defined interface
    types, the model of `is_subtype` returns exactly the spec's verdict. -/
theorem isSubtype_iff (S : Schema) (hI : ImplementsOk S) (a b : GType)
    (ha : known S a.unwrapped = true) (hb : known S b.unwrapped = true) :
    isSubtype S a b = some (validImplFieldType S a b) :=
  isSubtype_spec hI a b ha hb

example : ImplementsOk ⟨sampleSchema⟩ ∧ known ⟨sampleSchema⟩ "Query" = true :=
  ⟨implementsOk_of_accepted (by decide +kernel) (by decide +kernel), by decide +kernel⟩

/-- In an accepted document (built-in-position type definitions pairwise distinct), the type of a field implementing an interface field
    is equal to or a sub-type of (covariant with) the interface field's type. -/
theorem C05_sound_ifaceFieldsCovariant (T : TsDoc) (hb : builtinTypeNamesDistinct T = true)
    (h : checkSchema T = []) : Holds_ifaceFieldsCovariant T := by
  have hu := uniqueTypeNames_of_accepted h hb
  simp only [Holds_ifaceFieldsCovariant, ifaceFieldsCovariant, List.all_eq_true]
  intro t ht p hp
  obtain ⟨hf, ⟨idef, hidef, hF⟩, _, _, hsub⟩ := implPairs_facts T hu h ht p hp
  have hk1 : known ⟨T⟩ p.1.ty.unwrapped = true := by
    obtain ⟨k, hk, _⟩ := outputFieldType_nil ((fieldsOfT_facts h ht).1 p.1 hf).2.2.1
    exact known_of_kindOf hk
  have hk2 : known ⟨T⟩ p.2.ty.unwrapped = true := by
    obtain ⟨k, hk, _⟩ := outputFieldType_nil ((fieldsOfT_facts h hidef).1 p.2 hF).2.2.1
    exact known_of_kindOf hk
  have := isSubtype_spec (implementsOk_of_accepted hu h) p.1.ty p.2.ty hk1 hk2
  rw [this] at hsub
  cases hv : validImplFieldType ⟨T⟩ p.1.ty p.2.ty with
  | true => rfl
  | false => rw [hv] at hsub; exact absurd rfl hsub

/-! ## directive applications -/

theorem directive_application_facts (T : TsDoc) (h : checkSchema T = []) :
    ∀ s ∈ dirSites T, ∀ d ∈ s.2, ∃ df, (Schema.mk T).directiveDef? d.name = some df ∧
      df.locations.contains s.1 = true ∧ checkArguments ⟨T⟩ d.pos d.args df.args = [] ∧
      (df.repeatable = true ∨ (s.2.filter (·.name == d.name)).length ≤ 1) :=
  fun s hs => checkDirectives_nil_iff.mp (dirSites_facts h s hs)

/-- In an accepted document every applied directive is defined. -/
theorem C05_sound_directivesDefined (T : TsDoc) (h : checkSchema T = []) : Holds_directivesDefined T := by
  simp only [Holds_directivesDefined, directivesDefined, List.all_eq_true]
  intro s hs d hd
  obtain ⟨df, h1, _⟩ := directive_application_facts T h s hs d hd
  rw [h1]; rfl

/-- In an accepted document every directive is applied at a location its definition allows (all eleven
    type-system locations, including arguments of directive definitions). -/
theorem C05_sound_directivesLocated (T : TsDoc) (h : checkSchema T = []) : Holds_directivesLocated T := by
  simp only [Holds_directivesLocated, directivesLocated, List.all_eq_true]
  intro s hs d hd
  obtain ⟨df, h1, h2, _⟩ := directive_application_facts T h s hs d hd
  rw [h1]; exact h2

/-- In an accepted document a directive that is not `repeatable` is applied at most once per location. -/
theorem C05_sound_directivesUnique (T : TsDoc) (h : checkSchema T = []) : Holds_directivesUnique T := by
  simp only [Holds_directivesUnique, directivesUnique, List.all_eq_true]
  intro s hs d hd
  obtain ⟨df, h1, _, _, h4⟩ := directive_application_facts T h s hs d hd
  rw [h1]
  rcases h4 with hr | hc
  · simp [hr]
  · simp [hc]

theorem inputsNodup_of_accepted (T : TsDoc) (h : checkSchema T = []) : InputsNodup ⟨T⟩ := by
  intro n td htd hk
  have hmem := Schema.typeDef?_mem htd
  have := (inputsOfT_facts h hmem).2
  have hin : inputsOfT td = td.inputs := by simp [inputsOfT, hk]
  rw [hin] at this
  exact (noDup_iff_nodup _).mp this

theorem inputTypesOk_of_accepted (T : TsDoc) (h : checkSchema T = []) : InputTypesOk ⟨T⟩ := by
  intro n td htd hk ef hef
  exact inputValueType_nil (inputValues_facts h
    (mem_inputValues.mpr (Or.inr ⟨td, Schema.typeDef?_mem htd, mem_inputsOfT.mpr ⟨hk, hef⟩⟩)))

theorem application_args (T : TsDoc) (h : checkSchema T = []) {s : String × List Directive} (hs : s ∈ dirSites T)
    {d : Directive} (hd : d ∈ s.2) {df : DirectiveDef} (hdf : (Schema.mk T).directiveDef? d.name = some df) :
    noDup (d.args.map (·.1)) = true ∧ directiveArgsOk ⟨T⟩ df d = true := by
  obtain ⟨df', hdf', _, hargs, _⟩ := directive_application_facts T h s hs d hd
  rw [hdf] at hdf'
  cases hdf'
  have hdfmem : df ∈ ValidTs.directiveDefs T := by
    unfold Schema.directiveDef? at hdf
    exact List.mem_of_find?_eq_some hdf
  have hargsDef := checkArgsDef_nil_iff.mp (directiveDef_parts h hdfmem).2.2
  exact (checkArguments_nil_iff (inputsNodup_of_accepted T h) (inputTypesOk_of_accepted T h)
    ((noDup_iff_nodup _).mp hargsDef.2) fun ad had => inputValueType_nil (hargsDef.1 ad had).2.1).mp hargs

/-- In an accepted document no directive application gives an argument twice (§5.4.2). -/
theorem C05_sound_directiveArgNamesUnique (T : TsDoc) (h : checkSchema T = []) :
    directiveArgNamesUnique T = true := by
  simp only [directiveArgNamesUnique, List.all_eq_true]
  intro s hs d hd
  obtain ⟨df, hdf, _⟩ := directive_application_facts T h s hs d hd
  exact (application_args T h hs hd hdf).1

/-- In an accepted document every directive application uses only arguments its definition declares, gives
    every required argument, and gives each argument a constant of the right type (spec input coercion:
    null only for nullable types, Int for Float / ID, one item for a list, enum members, input objects with
    only declared fields, none twice, all required ones). -/
theorem C05_sound_directiveArgs (T : TsDoc) (h : checkSchema T = []) : Holds_directiveArgs T := by
  simp only [Holds_directiveArgs, directiveArgs, List.all_eq_true]
  intro s hs d hd
  obtain ⟨df, hdf, _⟩ := directive_application_facts T h s hs d hd
  rw [hdf]
  exact (application_args T h hs hd hdf).2

/-- `directive @d(a: Int) on OBJECT   type Query @d(a: 1, a: "x") { f: Int }` -/
def duplicateArgSchema : TsDoc :=
  [.typeDef { kind := .scalar, name := "Int" },
   .directiveDef { name := "d", args := [{ name := "a", ty := .named "Int" {} }], locations := ["OBJECT"] },
   .typeDef { kind := .object, name := "Query",
              dirs := [{ name := "d", args := [("a", {}, .int "1" {}), ("a", { line := 1 }, .str "x" {})] }],
              fields := [{ name := "f", ty := .named "Int" {} }] }]

/-- a repeated argument is reported (since the repair a341d33; before it, the ill-typed second value was
    accepted unseen) -/
theorem C05_duplicate_argument_reported :
    checkSchema duplicateArgSchema = [(.DuplicatedName, { line := 1 })] := by decide +kernel

/-! ### Int arguments of directive applications are 32-bit values (spec §3.5.1; fix e3584a3) -/

/-- In an accepted document an integer literal given (at the top level of the argument value) for a directive argument
    whose innermost named type is `Int` denotes a value in `[-2^31, 2^31)` (spec §3.5.1 "Input Coercion" of `Int`; the
    checker tests `parse::<i32>` since fix e3584a3). Nested positions (list items, input-object fields) are covered by
    `C05_sound_directiveArgs`, whose `valueOk` recurses with the same leaf test. -/
theorem C05_directive_int_args_in_range (T : TsDoc) (h : checkSchema T = []) :
    ∀ s ∈ dirSites T, ∀ d ∈ s.2, ∀ df, (Schema.mk T).directiveDef? d.name = some df →
      ∀ a ∈ d.args, ∀ ad, df.args.find? (·.name == a.1) = some ad → ad.ty.unwrapped = "Int" →
        ∀ t p, a.2.2 = .int t p →
          ∃ i : Int, SpecInt.intValue? t.toList = some i ∧ -2147483648 ≤ i ∧ i ≤ 2147483647 := by
  intro s hs d hd df hdf a ha ad had hty t p hv
  have H := C05_sound_directiveArgs T h
  simp only [Holds_directiveArgs, directiveArgs, List.all_eq_true] at H
  have := H s hs d hd
  rw [hdf] at this
  simp only [directiveArgsOk, Bool.and_eq_true, List.all_eq_true] at this
  have hva := this.1 a ha
  rw [had, hv] at hva
  simp only [valueOk, leafOk, hty] at hva
  have hr : SpecInt.intTextInRange t = true := by
    cases ht : (Schema.mk T).typeDef? "Int" with
    | none => simp [ht] at hva
    | some td =>
      simp only [ht] at hva
      cases hk : td.kind <;> simp [hk, scalarLeafOk] at hva
      exact hva
  exact (IntLit.intLiteralFitsI32_iff t).mp (by rw [IntLit.intLiteralFitsI32_eq]; exact hr)

/-- `directive @d(n: Int, l: [Int], fl: Float, id: ID) on OBJECT   type Query @d(n: <n>, l: [<l>], fl: 4294967296, id: 12345678901234567890) { f: Int }`
    (the literal for `n` at line 1, column 5; the one inside `l` at line 2, column 7) -/
def intRangeSchema (n l : String) : TsDoc :=
  [.typeDef { kind := .scalar, name := "Int" }, .typeDef { kind := .scalar, name := "Float" },
   .typeDef { kind := .scalar, name := "ID" },
   .directiveDef { name := "d", locations := ["OBJECT"],
                   args := [{ name := "n", ty := .named "Int" {} }, { name := "l", ty := .list (.named "Int" {}) {} },
                            { name := "fl", ty := .named "Float" {} }, { name := "id", ty := .named "ID" {} }] },
   .typeDef { kind := .object, name := "Query",
              dirs := [{ name := "d", args := [("n", {}, .int n { line := 1, col := 5 }),
                                               ("l", {}, .list [.int l { line := 2, col := 7 }] {}),
                                               ("fl", {}, .int "4294967296" {}), ("id", {}, .int "12345678901234567890" {})] }],
              fields := [{ name := "f", ty := .named "Int" {} }] }]

/-- non-vacuity of `C05_directive_int_args_in_range`: an accepted schema with the boundary values at Int positions and
    integers beyond 32 bits at Float / ID positions -/
example : checkSchema (intRangeSchema "2147483647" "-2147483648") = [] ∧
    directiveArgs (intRangeSchema "2147483647" "-2147483648") = true := by decide +kernel

/-- an out-of-range Int argument of a directive application is reported (`TypeMismatch` at the literal), at the top
    level of the argument and inside a list; the specification's rule agrees -/
theorem C05_int_range_reported :
    checkSchema (intRangeSchema "4294967296" "0") = [(.TypeMismatch, { line := 1, col := 5 })] ∧
    checkSchema (intRangeSchema "-0" "-2147483649") = [(.TypeMismatch, { line := 2, col := 7 })] ∧
    checkSchema (intRangeSchema "2147483648" "0") = [(.TypeMismatch, { line := 1, col := 5 })] ∧
    directiveArgs (intRangeSchema "4294967296" "0") = false ∧ directiveArgs (intRangeSchema "-0" "-2147483649") = false := by
  decide +kernel

/-- PRE-REPAIR witness (before fix e3584a3): the checker as it was (`PreE3584a3.CheckTs.checkSchema`, Int arm
    `matches!(value, IntValue(_) | NullValue(_))`) accepted `@d(n: 4294967296)` with `n: Int` although the
    specification's rule for directive arguments (`directiveArgs`: values coercible to the argument's type, §3.5.1) is
    violated — `accepted → Holds_directiveArgs` was FALSE of that code against the specification as it is now written. -/
theorem C05_int_range_prerepair_witness :
    PreE3584a3.CheckTs.checkSchema (intRangeSchema "4294967296" "0") = [] ∧
    PreE3584a3.CheckTs.checkSchema (intRangeSchema "-0" "-2147483649") = [] ∧
    ¬ Holds_directiveArgs (intRangeSchema "4294967296" "0") ∧ ¬ Holds_directiveArgs (intRangeSchema "-0" "-2147483649") := by
  unfold Holds_directiveArgs; decide +kernel

/-! ## recursive directive definitions -/

/-- `directive @r(x: In) on INPUT_FIELD_DEFINITION  input In { n: In2 }  input In2 { a: Int @r }` -/
def nestedRecursionSchema : TsDoc :=
  [.typeDef { kind := .scalar, name := "Int" },
   .directiveDef { name := "r", args := [{ name := "x", ty := .named "In" {} }],
                   locations := ["INPUT_FIELD_DEFINITION"] },
   .typeDef { kind := .input, name := "In", inputs := [{ name := "n", ty := .named "In2" {} }] },
   .typeDef { kind := .input, name := "In2",
              inputs := [{ name := "a", ty := .named "Int" {}, dirs := [{ name := "r" }] }] }]

/-- PRE-REPAIR witness (before fix 2e4a65e): the statement `accepted → Holds_noRecursiveDirectives` was FALSE of the
    code. `checkSchemaOldRec` is the checker with `directives_in_type` as it was (only the directives inside the
    argument's OWN type were followed): it accepts the schema above, in which `@r` references itself through the
    input fields of its argument's type (former open finding
    `sound:directive-recursion@through-nested-input-field`). -/
theorem C05_sound_noRecursiveDirectives_prerepair_witness :
    checkSchemaOldRec nestedRecursionSchema = [] ∧ ¬ Holds_noRecursiveDirectives nestedRecursionSchema := by
  unfold Holds_noRecursiveDirectives; decide +kernel

/-- … and the repaired checker (fix 2e4a65e: `directives_in_type` follows the types of input-object fields
    transitively) reports it, at the directive definition. -/
theorem C05_nested_recursion_reported :
    checkSchema nestedRecursionSchema = [(.RecursingDirective, {})] := by decide +kernel

/-- A directive definition that applies itself to one of its own arguments is reported
    (the simplest instance of the recursion rule). -/
theorem C05_directive_self_reference_reported :
    checkSchema
      [.typeDef { kind := .scalar, name := "Int" },
       .directiveDef { name := "r", args := [{ name := "x", ty := .named "Int" {}, dirs := [{ name := "r" }] }],
                       locations := ["ARGUMENT_DEFINITION"] }] =
      [(.RecursingDirective, {})] := by decide +kernel

/-- What `directives_in_type` returns since fix 2e4a65e, for the definition `t` the checker's hash map holds for the
    type of an argument: exactly the directives applied inside `t` (type level, fields, enum values, input fields —
    `directivesInTypeOld`, all the function returned before the fix) and inside every type reached from `t` by following
    the types of input-object fields any number of steps (`InReach`). The `seen_types` set makes every input object
    contribute once; it never cuts off a type that is reached. -/
theorem C05_directivesInType_exact (T : TsDoc) (t : TypeDef) (hc : TCanonical T t) (d : Directive) :
    d ∈ directivesInType T t ↔
      ∃ m u, InReach T t.name m ∧ lastTypeDef? T m = some u ∧ d ∈ directivesInTypeOld u :=
  mem_directivesInType_iff T t hc d

example : TCanonical nestedRecursionSchema { kind := .input, name := "In", inputs := [{ name := "n", ty := .named "In2" {} }] } :=
  tcanonical_of_lookup (n := "In") (by rfl)

/-- The walk through nested input objects never exhausts the `|T| + 1` nesting levels of fuel of its model: run with
    any fuel `n ≥ |T| + 1` and ANY behaviour `Z` of the out-of-fuel branch it returns what `directivesInType` returns
    (every nested call that does not return at once has put a new input-object name of the document into
    `seen_types`). -/
theorem C05_directivesInType_fuel (T : TsDoc) (Z : TypeDef → List Name → List Directive × List Name)
    (n : Nat) (hn : T.length + 1 ≤ n) (t : TypeDef) (hc : TCanonical T t) :
    (ditWalkX T Z n t []).1 = directivesInType T t :=
  directivesInType_fuel T Z n hn t hc

/-- `check_directive_recursion` is exact on the graph it explores. The graph (`succNames`, on directive
    names): `a → b` when `@b` is applied to an argument of the definition of `@a`, or anywhere inside the
    definition of the TYPE of such an argument (type-level, its fields, enum values or input fields) or — since fix
    2e4a65e — inside the definition of a type reached from it through the types of input-object fields, transitively
    (`C05_directivesInType_exact`). `RecursingDirective` is reported for `d` exactly when `d` reaches itself along at
    least one edge; the search never runs out of its `|T| + 2` rounds of fuel. Stated for the definition the checker's
    hash map holds for its name … -/
theorem directiveRec_iff_canonical (T : TsDoc) (d : DirectiveDef) (hc : Canonical T d) :
    checkDirectiveRecursion T d ≠ [] ↔ Reaches T d.name d.name :=
  checkDirectiveRecursion_iff T d hc

/-- … which is every directive definition of a document with unique directive names. -/
theorem directiveRec_iff (T : TsDoc) (d : DirectiveDef) (hd : d ∈ ValidTs.directiveDefs T)
    (hu : uniqueDirectiveNames T = true) :
    checkDirectiveRecursion T d ≠ [] ↔ Reaches T d.name d.name :=
  checkDirectiveRecursion_iff T d (canonical_of_unique hu hd)

example : uniqueDirectiveNames nestedRecursionSchema = true ∧
    (nestedRecursionSchema.filterMap fun | .directiveDef d => some d.name | _ => none) = ["r"] := by decide +kernel

/-- The recursion rule is EXACT (since fix 2e4a65e). On a document with unique type and directive names whose
    arguments and input fields have input types (the specification's `inputPositions` rule; an accepted document has
    the third, the first when its built-in-position type names are distinct, the second when its built-in directive
    names are distinct and none is re-declared — `C05_sound_noRecursiveDirectives`; `sampleWithBuiltins` is accepted
    without the second), `RecursingDirective` is reported for the directive definition `d`
    if and only if `d` transitively references itself in the reference graph of the SPECIFICATION (`refs`: a directive
    definition references the directives applied to its arguments and the types of its arguments; a type references the
    directives applied inside it and the types of its input fields). -/
theorem C05_recursion_exact (T : TsDoc) (hut : uniqueTypeNames T = true) (hud : uniqueDirectiveNames T = true)
    (hin : inputPositions T = true) (d : DirectiveDef) (hd : d ∈ ValidTs.directiveDefs T) :
    checkDirectiveRecursion T d ≠ [] ↔ SpecReaches ⟨T⟩ (.dir d.name) (.dir d.name) :=
  (directiveRec_iff T d hd hud).trans (reaches_iff_specReaches hut hud hin hd)

example : uniqueTypeNames nestedRecursionSchema = true ∧ uniqueDirectiveNames nestedRecursionSchema = true ∧
    inputPositions nestedRecursionSchema = true := by decide +kernel

/-- `directive @r(x: Obj) on ARGUMENT_DEFINITION   type Obj { f(a: Int @r): Int }` -/
def objectArgRecursionSchema : TsDoc :=
  [.typeDef { kind := .scalar, name := "Int" },
   .directiveDef { name := "r", args := [{ name := "x", ty := .named "Obj" {} }],
                   locations := ["ARGUMENT_DEFINITION"] },
   .typeDef { kind := .object, name := "Obj",
              fields := [{ name := "f", ty := .named "Int" {},
                           args := [{ name := "a", ty := .named "Int" {}, dirs := [{ name := "r" }] }] }] }]

/-- Why `C05_recursion_exact` needs `inputPositions`: when an OBJECT type stands in argument position, the
    specification's graph also counts the directives on the arguments of its fields, which `directives_in_type` does
    not collect — the recursion rule is violated, `RecursingDirective` is not reported. The document is rejected all
    the same (`NoOutputType` for the argument), so soundness of the verdict is not affected
    (`C05_sound_noRecursiveDirectives`). -/
theorem C05_recursion_exact_needs_inputPositions :
    uniqueTypeNames objectArgRecursionSchema = true ∧ uniqueDirectiveNames objectArgRecursionSchema = true ∧
    inputPositions objectArgRecursionSchema = false ∧ noRecursiveDirectives objectArgRecursionSchema = false ∧
    checkSchema objectArgRecursionSchema = [(.NoOutputType, {})] := by decide +kernel

/-- In an accepted document (built-in-position directive definitions pairwise distinct and not re-declared, so
    that directive names are unique: `C05_unique_directive_names_all`) no directive definition reaches itself in the
    reference graph the code explores (which, since fix 2e4a65e, follows the types of input-object fields
    transitively). -/
theorem C05_sound_noRecursiveDirectives_partial (T : TsDoc) (hb : builtinDirectiveNamesDistinct T = true)
    (hr : builtinDirectivesNotRedeclared T = true)
    (h : checkSchema T = []) : ∀ d ∈ ValidTs.directiveDefs T, ¬ Reaches T d.name d.name := by
  have hu := uniqueDirectiveNames_of_accepted h hb hr
  intro d hd hreach
  have := (directiveDef_parts h hd).1
  exact (directiveRec_iff T d hd hu).mpr hreach this

example : builtinDirectiveNamesDistinct sampleSchema = true ∧ builtinDirectivesNotRedeclared sampleSchema = true ∧
    checkSchema sampleSchema = [] := ⟨by decide +kernel, by decide +kernel, sampleSchema_accepted⟩

/-- SOUNDNESS of the recursion rule, full statement (since fix 2e4a65e): an accepted document — its built-in-position
    type and directive definitions pairwise distinct and no built-in directive re-declared, so that names are unique
    (`C05_unique_type_names`, `C05_unique_directive_names_all`) — satisfies the specification's rule "a directive
    definition must not reference itself directly or indirectly", both as the relation `NoSpecRecursion` and as the
    executable closure the oracle stream evaluates (`noRecursiveDirectives`). -/
theorem C05_sound_noRecursiveDirectives (T : TsDoc) (hbt : builtinTypeNamesDistinct T = true)
    (hb : builtinDirectiveNamesDistinct T = true) (hr : builtinDirectivesNotRedeclared T = true)
    (h : checkSchema T = []) : NoSpecRecursion T ∧ Holds_noRecursiveDirectives T := by
  have hud := uniqueDirectiveNames_of_accepted h hb hr
  have hut := (C05_unique_type_names T h).2.2 hbt
  have hin : inputPositions T = true := C05_sound_inputPositions T h
  have hrel : NoSpecRecursion T := by
    intro d hd hreach
    exact (C05_recursion_exact T hut hud hin d hd).mpr hreach (directiveDef_parts h hd).1
  exact ⟨hrel, exec_of_noSpecRecursion hrel⟩

example : builtinTypeNamesDistinct sampleSchema = true ∧ builtinDirectiveNamesDistinct sampleSchema = true ∧
    builtinDirectivesNotRedeclared sampleSchema = true ∧ checkSchema sampleSchema = [] :=
  ⟨by decide +kernel, by decide +kernel, by decide +kernel, sampleSchema_accepted⟩

/-
Status of the C05 statement. Completeness (`C05_complete : TsSpecValid T → checkSchema T = []`, no side condition) is in
Props/C05Complete.lean. Soundness is proved rule by rule; every rule has a theorem, but several theorems carry
hypotheses that no theorem of this property discharges:

* `builtinTypeNamesDistinct T` — `C05_sound_implementsInterfaces`, `_unionMembersObjects`, `_transitiveInterfaces`,
  `_ifaceFieldsPresent`, `_ifaceFieldsCovariant`, `_ifaceFieldArgs`, third part of `C05_unique_type_names`,
  `C05_sound_noRecursiveDirectives`. A fact about the constant list `generate_builtins()`: for the document the CLI
  checks (the resolved `user ++ CliSchema.builtins`, no user definition at a built-in position) it is
  `ExtResolve.builtinTypeNamesDistinct_cli` (Lemmas/ExtResolve.lean), of the model of that list (`Model/CliSchema.lean`).
* `builtinDirectiveNamesDistinct T` (a fact about the same list, by reading: not proved about it, not evaluated by the
  harness) and `builtinDirectivesNotRedeclared T` — `C05_unique_directive_names_all`,
  `C05_sound_noRecursiveDirectives_partial`, `C05_sound_noRecursiveDirectives`. The second is a property of the USER's
  document that the code does not enforce (`sampleWithBuiltins` is accepted and re-declares `@deprecated`;
  `C05_unique_names_complete`). So the recursion clause is proved "in full" only in the sense that the conclusion is the
  specification's rule (not the code's own graph); for documents that re-declare a built-in directive it is OPEN, as
  is `uniqueDirectiveNames` (violated there by construction: the specification's rule counts the built-ins). What holds
  for every document is `directiveRec_iff_canonical`.
* `builtinDirectivesLast T` — `C05_unique_directive_names_partial` (false without it: `C05_unique_directive_names_counterexample`).
* `dupOriginal? T = none` (on the unresolved document) — `C05_sound_uniqueTypeDefs`; it does not follow from
  `checkSchema T = []`, and no theorem states the converse (`uniqueTypeDefs T → dupOriginal? T = none`).
* `uniqueTypeNames`, `uniqueDirectiveNames`, `inputPositions` — `C05_recursion_exact` (the last one shown necessary by
  `C05_recursion_exact_needs_inputPositions`); `Canonical` / `TCanonical` — `directiveRec_iff_canonical`,
  `C05_directivesInType_exact`, `C05_directivesInType_fuel`.

One clause of the statement is FALSE of the code and therefore proved only in restricted form:
* `checkSchema T = [] → Holds_knownTypes T`: counterexample `C05_sound_knownTypes_counterexample` (root
  operation types; open finding); what holds is `C05_sound_knownTypes_partial` (hypothesis `knownRootTypes T`).
The recursion clause `checkSchema T = [] → Holds_noRecursiveDirectives T` was the second one until fix 2e4a65e
(`C05_sound_noRecursiveDirectives_prerepair_witness`); since the fix it is proved under the three built-in side
conditions above (`C05_sound_noRecursiveDirectives`), and the rule is exact (`C05_recursion_exact`). The executable
closure of the specification and its relational form are proved equivalent (`noRecursiveDirectives_iff`,
Lemmas/ValidTsClosure.lean).

OPEN — carried by K/O only:
* that `checkSchema` / `dupOriginal?` (hand-written models, incl. `intLiteralFitsI32` for `parse::<i32>` and the
  hand-written `ErrKind`) compute what the Rust code computes — K stream of harness/src/bin/c05.rs;
* that `Spec/ValidTs.lean` says what the GraphQL specification says — trusted transcription, exercised by the O stream;
* the specification-level recursion rule for accepted documents that re-declare a built-in directive (K only; the
  specification's `uniqueDirectiveNames` is violated by such a document, the user-side statement is
  `C05_unique_directive_names_partial`), and the no-false-alarm direction for them (O mode `valid-redeclare`;
  `C05_complete` does not cover it because `TsSpecValid` contains `uniqueDirectiveNames`);
* the parser and the merging part of `resolve_schema_extensions` (not modelled; the theorems speak of the resolved document).
-/

end NitroVerif.CheckTs
