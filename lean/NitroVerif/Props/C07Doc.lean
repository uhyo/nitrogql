import NitroVerif.Lemmas.ParseDocErase
import NitroVerif.Lemmas.ParseDocTsErase
import NitroVerif.Lemmas.ParseDocExecDoc
import NitroVerif.Lemmas.ParseDocTsBareIface
/-!
# C07 — render ∘ parse for selections, selection sets, … up to whole documents

Model as in `Props/C07.lean`: the GENERATED grammar run by the generic PEG interpreter, the builders of `Model/Build.lean`.
Texts: every token of a construct is followed by the trivia `τ` assigns to the offset where the token ends (`DocParse.tk`;
`τ : offset ↦ trivia`, every value of `τ` is `Ws`: spaces, tabs, line terminators, commas, BOM, `# …` comments that are
visibly not import statements, also those whose text begins with `import`); where two tokens could otherwise run together
(between two selections, after a keyword that is followed by a name, …) an empty gap is replaced by one space
(`gapS true`). A construct is rendered with a flag `sep`: "the gap after its LAST token is made non-empty" (chosen by
whatever contains the construct).

Because pest's optional trailing items (`Arguments?`, `Directives?`, `SelectionSet?`) are tried AFTER the implicit skip, the
END of a pair is not a function of the construct alone (it may include the trivia that follows); the theorems therefore say
where the rule call ends only up to `≤` (the builders never read those ends), and give every START position exactly:
`wpSel`, `wpSels`, … are the constructs with each `Pos` replaced by the line/column of the first character of the
corresponding token in the input.
-/
namespace NitroVerif.C07
open NitroVerif.Peg NitroVerif.Build NitroVerif.Gen NitroVerif.Gql NitroVerif.ValueParse NitroVerif.TypeParse
open NitroVerif.DocParse

/-- `render_parse_selection` (Field with alias / arguments / directives / nested selection set, FragmentSpread,
    InlineFragment): wherever the rendering of a well-formed selection `s` — any nesting depth, any trivia `τ` at every gap —
    occurs in an input, followed by a token that begins with none of `(`, `@`, `{`, `:` (and not with a name character unless
    the rendering ends with a non-empty gap), the GENERATED grammar's `Selection` rule succeeds there with one pair, ends at
    or before the end of the rendering, and the builder's per-selection function (`selFn`: what `build_selection_set` maps
    over the children of a selection set, i.e. `build_field` / `build_fragment_spread` / `build_inline_fragment`) returns
    `s` with the true position of every token; parser depth bound linear in the text, builder depth bound = text length. -/
theorem render_parse_selection (τ : Trivia) (hτ : ∀ q, Ws (τ q)) (s : Selection) (hwf : WFSel s) (sep : Bool)
    (inp : List Char) (off : Nat) (X : List Char) (h : inp.drop off = rSel τ sep off s ++ X)
    (hX : HeadNot (fun d => trivia d ∨ selBad d) X) (hglue : sep = false → HeadNot nameCont X) (fuel bfuel : Nat)
    (hf : B (rSel τ sep off s).length + 40 ≤ fuel) (hb : (rSel τ sep off s).length ≤ bfuel) :
    ∃ e pair, Peg.run gList fuel R.Selection inp off .nonAtomic = some (e, [pair]) ∧
      e ≤ off + (rSel τ sep off s).length ∧
      selFn (Ctx.spec inp) bfuel pair = .ok (wpSel τ inp sep off s) := by
  exact run_build_of_reads (sel_all τ hτ s hwf sep off (hasAt_of_drop h) (nxt_of_drop h hX hglue))
    (by omega) hb

/-- `render_parse_selection_set`: wherever the rendering `{ selections }` of a non-empty list of well-formed selections
    occurs in an input (followed by a token or by the end of the input, i.e. not by further trivia), the `SelectionSet`
    rule succeeds with one pair and `build_selection_set` returns the selections with the true position of every token. -/
theorem render_parse_selection_set (τ : Trivia) (hτ : ∀ q, Ws (τ q)) (ss : List Selection) (hne : ss ≠ [])
    (hwf : WFSels ss) (sep : Bool) (inp : List Char) (off : Nat) (X : List Char)
    (h : inp.drop off = rSelSet τ sep off ss ++ X) (hX : HeadNot trivia X) (fuel bfuel : Nat)
    (hf : B (rSelSet τ sep off ss).length + 5 ≤ fuel) (hb : (rSelSet τ sep off ss).length ≤ bfuel) :
    ∃ e pair, Peg.run gList fuel R.SelectionSet inp off .nonAtomic = some (e, [pair]) ∧
      e ≤ off + (rSelSet τ sep off ss).length ∧
      buildSelectionSet (Ctx.spec inp) bfuel pair = .ok (wpSels τ inp (off + (tk τ false off ['{']).length) ss) := by
  have ht : Tok (At inp (off + (rSelSet τ sep off ss).length)) := by
    simp only [Tok, At]; rw [drop_after h]; exact hX
  exact run_build_of_reads (selSet_all' τ hτ ss hne hwf sep off 0 _ (hasAt_of_drop h) (tail_of_tok ht)) (by omega) hb

/-- `{ a: b(x: 1) @d { c } ...F ... on T { e } }` in canonical trivia is such a rendering -/
example : rSelSet (fun _ => []) false 0 [.field (some ("a", {})) "b" {} [("x", {}, .int "1" {})] [{ name := "d" }]
      (some [.field none "c" {} [] [] none]), .spread "F" {} [] {}, .inline (some ("T", {})) [] [.field none "e" {} [] [] none] {}] =
    "{a:b(x:1)@d{c} ...F ...on T{e}}".toList := by
  rw [String.toList_ofList]
  decide +kernel

/-- `render_parse_type_trivia`: `render_parse_type` with ARBITRARY trivia between the tokens of a type (`[ Int ! ] !`):
    wherever the rendering of a well-formed type occurs in an input, followed by a token that does not begin with `!`, the
    `Type` rule succeeds with one pair and `build_type` returns the type with the true position of every name and `[`. -/
theorem render_parse_type_trivia (τ : Trivia) (hτ : ∀ q, Ws (τ q)) (t : GType) (hwf : WF t) (sep : Bool)
    (inp : List Char) (off : Nat) (X : List Char) (h : inp.drop off = rType τ sep off t ++ X)
    (hX : HeadNot (fun d => trivia d ∨ d = '!') X) (hglue : sep = false → HeadNot nameCont X) (fuel bfuel : Nat)
    (hf : B (rType τ sep off t).length + 20 ≤ fuel) (hb : (rType τ sep off t).length + 1 ≤ bfuel) :
    ∃ e pair, Peg.run gList fuel R.«Type» inp off .nonAtomic = some (e, [pair]) ∧
      e ≤ off + (rType τ sep off t).length ∧ buildType (Ctx.spec inp) bfuel pair = .ok (wpType τ inp off t) := by
  obtain ⟨f, rfl⟩ : ∃ f, bfuel = f + 1 := ⟨bfuel - 1, by omega⟩
  exact run_build_of_reads ((type_all τ hτ t hwf).2 sep off (· = '!') rfl (hasAt_of_drop h) (nxt_of_drop h hX hglue))
    (by omega) (by omega)

/-- `render_parse_variable_definition`: `$name: Type = default @directives` with arbitrary trivia after every token;
    what follows must begin with none of `!`, `=`, `@`, `(`, `.`, `"` (in a `VariablesDefinition`: `$` or `)`). -/
theorem render_parse_variable_definition (τ : Trivia) (hτ : ∀ q, Ws (τ q)) (v : VarDef) (hwf : WFVarDef v) (sep : Bool)
    (inp : List Char) (off : Nat) (X : List Char) (h : inp.drop off = rVarDef τ sep off v ++ X)
    (hX : HeadNot (fun d => trivia d ∨ varBad d) X) (hglue : sep = false → HeadNot nameCont X) (fuel bfuel : Nat)
    (hf : B (rVarDef τ sep off v).length + 30 ≤ fuel) (hb : (rVarDef τ sep off v).length ≤ bfuel) :
    ∃ e pair, Peg.run gList fuel R.VariableDefinition inp off .nonAtomic = some (e, [pair]) ∧
      e ≤ off + (rVarDef τ sep off v).length ∧
      buildVariableDefinition (Ctx.spec inp) bfuel pair = .ok (wpVarDef τ inp sep off v) := by
  exact run_build_of_reads (varDefT τ hτ v hwf (bad := varBad) (by decide) (by rintro _ c (rfl | rfl) <;> decide)
    (hasAt_of_drop h) (nxt_of_drop h hX hglue))
    (by omega) hb

/-- `render_parse_executable_definition` (OperationDefinition — with its keyword, name, variable definitions, directives,
    or as the `{ … }` shorthand when `sh off` says so and the operation is a plain anonymous query — and
    FragmentDefinition): wherever the rendering of a well-formed definition occurs in an input, followed by a token or by
    the end of the input, the `ExecutableDefinition` rule succeeds with one pair on which `build_executable_definition`
    returns the definition with the true position of every token. (`WFDef` excludes `#import` statements; they are
    `render_parse_import_statement` and `parse_render_operation_document_full` below.) -/
theorem render_parse_executable_definition (τ : Trivia) (hτ : ∀ q, Ws (τ q)) (sh : Nat → Bool) (d : ExecDef)
    (hwf : WFDef d) (sep : Bool) (inp : List Char) (off : Nat) (X : List Char)
    (h : inp.drop off = rDef τ sh sep off d ++ X) (hX : HeadNot trivia X) (fuel bfuel : Nat)
    (hf : B (rDef τ sh sep off d).length + 40 ≤ fuel) (hb : (rDef τ sh sep off d).length ≤ bfuel) :
    ∃ e pair, Peg.run gList fuel R.ExecutableDefinition inp off .nonAtomic = some (e, [pair]) ∧
      e ≤ off + (rDef τ sh sep off d).length ∧
      buildExecutableDefinition (Ctx.spec inp) bfuel pair = .ok (wpDef τ inp sh sep off d) := by
  have ht : Tok (At inp (off + (rDef τ sh sep off d).length)) := by
    simp only [Tok, At]; rw [drop_after h]; exact hX
  exact run_build_of_reads (defT' τ hτ sh d hwf (hasAt_of_drop h) (tail_of_tok ht))
    (by omega) hb

/-- **`parse_render_operation_document`**: for EVERY non-empty list `doc` of well-formed operations and fragments, every
    trivia assignment `τ` (arbitrary whitespace, commas, BOM, comments at the start of the text and after every token) and
    every choice `sh` of where the `{ … }` shorthand is used, the model of `parse_operation_document` — the generated grammar's
    `ExecutableDocument` rule with the model's own depth bounds, `validate_unicode_escapes`, `build_operation_document` —
    applied to the rendering returns exactly the document, every position being the line/column of the first character of
    the corresponding token (`wpDoc`). -/
theorem parse_render_operation_document (τ : Trivia) (hτ : ∀ q, Ws (τ q)) (sh : Nat → Bool) (doc : List ExecDef)
    (hne : doc ≠ []) (hwf : ∀ d ∈ doc, WFDef d) :
    parseOp (rDoc τ sh doc) = .ok (wpDoc τ sh (rDoc τ sh doc) doc) := by
  have h := parseOp_rDocF τ hτ sh (fun _ => 0) doc hne (fun d hd => wfDefF_of (hwf d hd)) none (fun _ h => by cases h)
  obtain ⟨h1, h2⟩ := rDocF_none τ sh (fun _ => 0) doc hwf (rDoc τ sh doc)
  rwa [h1, h2] at h

/-- … in the terms of the property: `parseModel (render A τ) = A` — the document returned differs from `doc` only in
    positions (`ReadDoc.erasePos`: every `Pos` of every node erased), and the positions are the true ones (above). -/
theorem parse_render_operation_document_erase (τ : Trivia) (hτ : ∀ q, Ws (τ q)) (sh : Nat → Bool) (doc : List ExecDef)
    (hne : doc ≠ []) (hwf : ∀ d ∈ doc, WFDef d) :
    ∃ A, parseOp (rDoc τ sh doc) = .ok A ∧ ReadDoc.erasePos A = ReadDoc.erasePos doc :=
  ⟨_, parse_render_operation_document τ hτ sh doc hne hwf, erase_wpDoc τ sh _ doc⟩

/-- the rendering of a query with a variable, a fragment and the shorthand, in canonical trivia -/
example : rDoc (fun _ => []) (fun _ => true)
    [.op { kind := .query, name := some ("Q", {}), vars := [{ name := "v", ty := .nonNull (.named "Int" {}), default := some (.int "1" {}) }],
           sel := [.field none "a" {} [("x", {}, .var "v" {})] [] none] },
     .frag { name := "F", cond := "T", sel := [.field none "b" {} [] [] none] },
     .op { kind := .query, sel := [.spread "F" {} [] {}] }] =
    "query Q($v:Int!=1){a(x:$v)}fragment F on T{b}{...F}".toList := by
  rw [String.toList_ofList]
  decide +kernel

/-- `render_parse_import_statement`: wherever the rendering `#` spaces `import` gap targets `from` gap "path" gap of a
    well-formed import statement (`WFImp`: at least one target, each `*` or a valid name other than `from`; `sp off` spaces
    after the `#`; arbitrary trivia `τ` after every token, a non-empty gap after `import` and after every name) occurs in an
    input, followed by a token that does not begin with `"`:
    * the `ExecutableDefinition` rule — `OperationDefinition` and `FragmentDefinition` are tried first and fail — succeeds
      with one pair on which `build_executable_definition` returns the import definition: the targets with the true
      position of every name, the path, the position of the `#`;
    * the `COMMENT` rule FAILS there, i.e. the implicit skip stops in front of the statement instead of swallowing the line
      as a comment: `COMMENT`'s negative lookahead `!ext_ImportStatementContent` finds the whole statement (the run proved
      outside lookahead is transferred under the lookahead, `Peg.RunsRule.look`). -/
theorem render_parse_import_statement (τ : Trivia) (hτ : ∀ q, Ws (τ q)) (sp : Nat → Nat) (i : ImportDef) (hwf : WFImp i)
    (sep : Bool) (inp : List Char) (off : Nat) (X : List Char) (h : inp.drop off = rImp τ sp sep off i ++ X)
    (hX : HeadNot (fun d => trivia d ∨ d = '"') X) (fuel bfuel : Nat)
    (hf : B (rImp τ sp sep off i).length + 60 ≤ fuel) (hb : (rImp τ sp sep off i).length ≤ bfuel) :
    (∃ e pair, Peg.run gList fuel R.ExecutableDefinition inp off .nonAtomic = some (e, [pair]) ∧
      e ≤ off + (rImp τ sp sep off i).length ∧
      buildExecutableDefinition (Ctx.spec inp) bfuel pair = .ok (.imp (wpImp τ sp inp off i))) ∧
    Peg.run gList fuel R.COMMENT inp off .nonAtomic = none := by
  have hd : inp.drop (off + (rImp τ sp sep off i).length) = X := drop_after h
  have ht : Tok (At inp (off + (rImp τ sp sep off i).length)) := by
    simp only [Tok, At]; rw [hd]; exact headNot_mono (fun _ h => Or.inl h) hX
  obtain ⟨hR, hcm⟩ := impT' τ hτ sp i hwf (hasAt_of_drop h) (tail_of_tok ht)
    (by rw [hd]; exact headNot_mono (fun _ h => Or.inr h) hX)
  refine ⟨run_build_of_reads hR (by omega) hb, ?_⟩
  obtain ⟨tr', h'⟩ := hcm {}
  have := h' fuel (by omega)
  simp only [At] at this
  unfold Peg.run
  rw [this]

/-- the rendering of `#import A, * from "./f.graphql"` with a comma after `A` -/
example : rImp (fun q => if q = 9 then [','] else []) (fun _ => 0) false 0
      { targets := [some ("A", {}), none], path := "./f.graphql" } = "#import A,*from\"./f.graphql\"".toList := by
  rw [String.toList_ofList]
  decide +kernel

/-- `skip_over_final_comment` (`COMMENT = "#" … (NEWLINE | EOI)`): the implicit skip of a non-atomic rule,
    started in front of ARBITRARY trivia `t` (`Ws`) that is followed by a final comment `#text` WITHOUT line terminator at the
    very end of the input (`EofComment`: no line break in the text, visibly not an import statement), consumes all of it and
    ends at the end of the input — for every depth bound linear in the text. -/
theorem skip_over_final_comment (t : List Char) (hws : Ws t) (body : List Char) (hb : EofComment body) (p : Nat)
    (fuel : Nat) (hf : t.length + body.length + 120 ≤ fuel) (tr : Tr) :
    ∃ tr', doSkip gList fuel true .nonAtomic .none tr ⟨p, t ++ '#' :: body⟩ =
      (tr', .ok ⟨p + t.length + 1 + body.length, []⟩ []) := by
  let inp := List.replicate p 'x' ++ (t ++ '#' :: body)
  have hdrop : inp.drop p = t ++ '#' :: body := by simp [inp]
  have hg : HasAt inp p t := ⟨'#' :: body, hdrop⟩
  have hE : inp.drop (p + t.length) = '#' :: body := by rw [← List.drop_drop, hdrop]; simp
  have hT := tail_of_eofComment hE hb
  have hs := hT.skip hg hws rfl
  obtain ⟨tr', h'⟩ := hs tr
  refine ⟨tr', ?_⟩
  have := h' fuel (by omega)
  have hend : inp.drop (p + t.length + 1 + body.length) = [] := by
    have : inp.drop (p + t.length + ('#' :: body).length) = [] := by rw [← List.drop_drop, hE]; simp
    have e : p + t.length + 1 + body.length = p + t.length + ('#' :: body).length := by simp; omega
    rw [e]; exact this
  simpa [At, hdrop, hend] using this

/-- **`parse_render_operation_document_full`**: for EVERY non-empty list `doc` of well-formed operations, fragments AND
    `#import` statements, in any order (`WFDefF`), every trivia assignment `τ` (`Ws`: whitespace, commas, BOM and comments,
    including comments whose text begins with `import` without being an import statement, `NotImportHead`), every choice
    `sh` of the `{ … }` shorthand, every number `sp` of spaces after the `#` of an import statement, and optionally a FINAL
    comment `#text` that is not terminated by a line break (`eof`; `EofComment`): the model of `parse_operation_document`
    applied to the rendering returns exactly the document — import statements parse to the import definitions — every
    position being the line/column of the first character of the corresponding token (`wpDocF`). (How: the implicit skip
    stops in front of every import statement, `render_parse_import_statement`, and runs over the final comment to the end
    of the input, `skip_over_final_comment`.) `parse_render_operation_document` is the case `sp := 0`, `eof := none`
    without import statements. -/
theorem parse_render_operation_document_full (τ : Trivia) (hτ : ∀ q, Ws (τ q)) (sh : Nat → Bool) (sp : Nat → Nat)
    (doc : List ExecDef) (hne : doc ≠ []) (hwf : ∀ d ∈ doc, WFDefF d) (eof : Option (List Char))
    (heof : ∀ b ∈ eof, EofComment b) :
    parseOp (rDocF τ sh sp doc eof) = .ok (wpDocF τ sh sp (rDocF τ sh sp doc eof) doc) :=
  parseOp_rDocF τ hτ sh sp doc hne hwf eof heof

/-- … in the terms of the property: the document returned differs from `doc` only in positions -/
theorem parse_render_operation_document_full_erase (τ : Trivia) (hτ : ∀ q, Ws (τ q)) (sh : Nat → Bool) (sp : Nat → Nat)
    (doc : List ExecDef) (hne : doc ≠ []) (hwf : ∀ d ∈ doc, WFDefF d) (eof : Option (List Char))
    (heof : ∀ b ∈ eof, EofComment b) :
    ∃ A, parseOp (rDocF τ sh sp doc eof) = .ok A ∧ ReadDoc.erasePos A = ReadDoc.erasePos doc :=
  ⟨_, parseOp_rDocF τ hτ sh sp doc hne hwf eof heof, erase_wpDocF τ sh sp _ doc⟩

/-- a rendering with an import first, one between two definitions, and a final comment without line break -/
example : rDocF (fun _ => []) (fun _ => true) (fun _ => 1)
    [.imp { targets := [some ("F", {})], path := "f" },
     .op { kind := .query, sel := [.spread "F" {} [] {}] },
     .imp { targets := [none], path := "g" },
     .frag { name := "G", cond := "T", sel := [.field none "b" {} [] [] none] }] (some " done".toList) =
    "# import F from\"f\"{...F}# import *from\"g\"fragment G on T{b}# done".toList := by
  rw [String.toList_ofList, String.toList_ofList]
  decide +kernel

/-- … and comments that begin with `import` without being import statements are trivia (`Ws`): `#important`, `# import: …` -/
example : Ws "#important\n".toList ∧ Ws "#  import: see below\n  ".toList ∧ EofComment " imports are resolved".toList := by
  have nl : ∀ (b : List Char), (∀ x ∈ b, x ≠ '\n' ∧ x ≠ '\r') → NotImportHead (b.dropWhile (· = ' ')) → ∀ (w : List Char),
      WsRun w → Ws ('#' :: (b ++ (['\n'] ++ (w ++ [])))) := fun b h1 h2 w hw =>
    ⟨[], _, rfl, (fun _ h => by cases h), Cms.cons ⟨h1, h2, Or.inl rfl⟩ hw (fun h => by cases h) Cms.nil⟩
  rw [String.toList_ofList, String.toList_ofList, String.toList_ofList]
  refine ⟨?_, ?_, ?_⟩
  · exact nl ['i', 'm', 'p', 'o', 'r', 't', 'a', 'n', 't'] (by decide) (Or.inr (Or.inl ⟨'a', _, rfl, by decide⟩)) []
      (fun _ h => by cases h)
  · exact nl [' ', ' ', 'i', 'm', 'p', 'o', 'r', 't', ':', ' ', 's', 'e', 'e', ' ', 'b', 'e', 'l', 'o', 'w'] (by decide)
      (Or.inr (Or.inr ⟨[], ':', _, rfl, (fun _ h => by cases h), (fun _ => by decide), by decide,
        by decide, by decide, by decide⟩)) [' ', ' '] (by decide : ∀ x ∈ [' ', ' '], wsChar x)
  · exact ⟨by decide, Or.inr (Or.inl ⟨'s', _, rfl, by decide⟩)⟩

/-! Descriptions are rendered as ordinary (non-block) string values; `implements` lists and union member lists without the
optional leading `&` / `|`. -/

/-- `render_parse_input_value_definition`: `"description" name: Type = default @directives` (an argument definition or an
    input field) with arbitrary trivia after every token; what follows must begin with none of `!`, `=`, `@`, `(` (and, when
    the rendering does not end with a non-empty gap, neither with `.` nor `"`). -/
theorem render_parse_input_value_definition (τ : Trivia) (hτ : ∀ q, Ws (τ q)) (v : InputValueDef) (hwf : WFIVD v)
    (sep : Bool) (inp : List Char) (off : Nat) (X : List Char) (h : inp.drop off = rIVD τ sep off v ++ X)
    (hX : HeadNot (fun d => trivia d ∨ ivdBad sep d) X) (hglue : sep = false → HeadNot nameCont X) (fuel bfuel : Nat)
    (hf : B (rIVD τ sep off v).length + 30 ≤ fuel) (hb : (rIVD τ sep off v).length ≤ bfuel) :
    ∃ e pair, Peg.run gList fuel R.InputValueDefinition inp off .nonAtomic = some (e, [pair]) ∧
      e ≤ off + (rIVD τ sep off v).length ∧
      buildInputValueDefinition (Ctx.spec inp) bfuel pair = .ok (wpIVD τ inp sep off v) := by
  exact run_build_of_reads (ivdT τ hτ v hwf (hasAt_of_drop h) (nxt_of_drop h hX hglue))
    (by omega) hb

/-- `render_parse_field_definition`: `"description" name(argument definitions): Type @directives`; `fieldDefFn` is what
    `build_fields_definition` maps over the children of a `FieldsDefinition`. -/
theorem render_parse_field_definition (τ : Trivia) (hτ : ∀ q, Ws (τ q)) (f : FieldDef) (hwf : WFFieldDef f)
    (sep : Bool) (inp : List Char) (off : Nat) (X : List Char) (h : inp.drop off = rFieldDef τ sep off f ++ X)
    (hX : HeadNot (fun d => trivia d ∨ fdBad d) X) (hglue : sep = false → HeadNot nameCont X) (fuel bfuel : Nat)
    (hf : B (rFieldDef τ sep off f).length + 30 ≤ fuel) (hb : (rFieldDef τ sep off f).length ≤ bfuel) :
    ∃ e pair, Peg.run gList fuel R.FieldDefinition inp off .nonAtomic = some (e, [pair]) ∧
      e ≤ off + (rFieldDef τ sep off f).length ∧
      fieldDefFn (Ctx.spec inp) bfuel pair = .ok (wpFieldDef τ inp sep off f) := by
  exact run_build_of_reads (fieldDefT τ hτ f hwf (hasAt_of_drop h) (nxt_of_drop h hX hglue))
    (by omega) hb

/-- `render_parse_enum_value_definition`: `"description" VALUE @directives` (the value's name is none of `true`, `false`,
    `null`). -/
theorem render_parse_enum_value_definition (τ : Trivia) (hτ : ∀ q, Ws (τ q)) (v : EnumValueDef) (hwf : WFEnumVal v)
    (sep : Bool) (inp : List Char) (off : Nat) (X : List Char) (h : inp.drop off = rEnumVal τ sep off v ++ X)
    (hX : HeadNot (fun d => trivia d ∨ evBad d) X) (hglue : sep = false → HeadNot nameCont X) (fuel bfuel : Nat)
    (hf : B (rEnumVal τ sep off v).length + 30 ≤ fuel) (hb : (rEnumVal τ sep off v).length ≤ bfuel) :
    ∃ e pair, Peg.run gList fuel R.EnumValueDefinition inp off .nonAtomic = some (e, [pair]) ∧
      e ≤ off + (rEnumVal τ sep off v).length ∧
      buildEnumValueDefinition (Ctx.spec inp) bfuel pair = .ok (wpEnumVal τ inp sep off v) := by
  exact run_build_of_reads (enumValDefT τ hτ v hwf (hasAt_of_drop h) (nxt_of_drop h hX hglue))
    (by omega) hb

/-- `render_parse_type_system_definition`: wherever the rendering of a well-formed item of a type-system document —
    SchemaDefinition, the six TypeDefinitions, DirectiveDefinition, SchemaExtension, the six TypeExtensions, each with
    description / directives / all its optional parts (`WFTsItem`: valid names, well-formed components, and the emptiness
    conditions without which the GRAMMAR has no alternative, e.g. an object type without fields needs a directive) — occurs
    in an input, followed by a token that begins with none of `@ ( { & | =` (and not with a name character unless the
    rendering ends with a non-empty gap), the `TypeSystemDefinitionOrExtension` rule succeeds with one pair — every
    EARLIER alternative of the grammar's ordered choices is shown to fail — on which
    `build_type_system_definition_or_extension` returns the item with the true position of every token. -/
theorem render_parse_type_system_definition (τ : Trivia) (hτ : ∀ q, Ws (τ q)) (it : TsItem) (hwf : WFTsItem it)
    (sep : Bool) (inp : List Char) (off : Nat) (X : List Char) (h : inp.drop off = rTsItem τ sep off it ++ X)
    (hX : HeadNot (fun d => trivia d ∨ tdBad d) X) (hglue : sep = false → HeadNot nameCont X) (fuel bfuel : Nat)
    (hf : B (rTsItem τ sep off it).length + 130 ≤ fuel) (hb : (rTsItem τ sep off it).length ≤ bfuel) :
    ∃ e pair, Peg.run gList fuel R.TypeSystemDefinitionOrExtension inp off .nonAtomic = some (e, [pair]) ∧
      e ≤ off + (rTsItem τ sep off it).length ∧
      buildTypeSystemDefinitionOrExtension (Ctx.spec inp) bfuel pair = .ok (wpTsItem τ inp sep off it) := by
  exact run_build_of_reads (tsItemT τ hτ it hwf sep off (hasAt_of_drop h) (nxt_of_drop h hX hglue))
    (by omega) hb

/-- **`parse_render_type_system_document`**: for EVERY non-empty list `doc` of well-formed type-system items (`WFTsItem`:
    schema definition, type definitions, directive definitions, schema extensions, type extensions)
    and every trivia assignment `τ` (arbitrary whitespace, commas, BOM, comments at the start of the text and after every
    token), the model of `parse_type_system_document` — the generated grammar's `TypeSystemExtensionDocument` rule with the
    model's own depth bounds, `validate_unicode_escapes`, `build_type_system_or_extension_document` — applied to the rendering returns
    exactly the document, every position being the line/column of the first character of the corresponding token
    (`wpTsDoc`). -/
theorem parse_render_type_system_document (τ : Trivia) (hτ : ∀ q, Ws (τ q)) (doc : List TsItem) (hne : doc ≠ [])
    (hwf : ∀ d ∈ doc, WFTsItem d) :
    parseTs (rTsDoc τ doc) = .ok (wpTsDoc τ (rTsDoc τ doc) doc) :=
  parseTs_rTsDocF τ hτ doc hne fun d hd => Or.inl (hwf d hd)

/-- … in the terms of the property: the document returned differs from `doc` only in positions (`GqlTokens.eraseTsDoc`),
    provided every item of `doc` carries only what its rendering shows (`NormalItem`: a type definition or extension only
    the components of its kind — a scalar has no fields, … —, an extension no description). -/
theorem parse_render_type_system_document_erase (τ : Trivia) (hτ : ∀ q, Ws (τ q)) (doc : List TsItem) (hne : doc ≠ [])
    (hwf : ∀ d ∈ doc, WFTsItem d) (hn : ∀ d ∈ doc, NormalItem d) :
    ∃ A, parseTs (rTsDoc τ doc) = .ok A ∧ GqlTokens.eraseTsDoc A = GqlTokens.eraseTsDoc doc :=
  ⟨_, parseTs_rTsDocF τ hτ doc hne fun d hd => Or.inl (hwf d hd), tsErase_wpTsDoc τ _ doc hn⟩

/-- **`parse_render_type_system_document_full`**: `parse_render_type_system_document` with the bare `interface I` /
    `extend interface I` (no interfaces, no directives, no fields; `BareIface`) as a well-formed item too (`WFTsItemF`),
    wherever it stands, also directly in front of an item that begins with the letter `i` (`interface J`, `input X`):
    `ImplementsInterfaces?` after the name is shown to fail because the text that follows does not begin with the WORD
    `implements` (every item of a type-system document begins with a description or with one of the nine keywords scalar,
    type, interface, union, enum, input, schema, directive, extend). -/
theorem parse_render_type_system_document_full (τ : Trivia) (hτ : ∀ q, Ws (τ q)) (doc : List TsItem) (hne : doc ≠ [])
    (hwf : ∀ d ∈ doc, WFTsItemF d) :
    parseTs (rTsDoc τ doc) = .ok (wpTsDoc τ (rTsDoc τ doc) doc) :=
  parseTs_rTsDocF τ hτ doc hne hwf

/-- … in the terms of the property: the document returned differs from `doc` only in positions -/
theorem parse_render_type_system_document_full_erase (τ : Trivia) (hτ : ∀ q, Ws (τ q)) (doc : List TsItem) (hne : doc ≠ [])
    (hwf : ∀ d ∈ doc, WFTsItemF d) (hn : ∀ d ∈ doc, NormalItem d) :
    ∃ A, parseTs (rTsDoc τ doc) = .ok A ∧ GqlTokens.eraseTsDoc A = GqlTokens.eraseTsDoc doc :=
  ⟨_, parseTs_rTsDocF τ hτ doc hne hwf, tsErase_wpTsDoc τ _ doc hn⟩

/-- the rendering of bare interface forms in front of `interface`, `input` and at the end -/
example : rTsDoc (fun _ => [])
    [.typeDef { kind := .interface, name := "I" }, .typeDef { kind := .interface, name := "J" },
     .typeDef { kind := .input, name := "X" }, .typeExt { kind := .interface, name := "I" }] =
    "interface I interface J input X extend interface I".toList := by
  rw [String.toList_ofList]
  decide +kernel

example : BareIface (.typeDef { kind := .interface, name := "I" }) := by
  refine ⟨rfl, ?_, rfl, rfl, rfl⟩
  show validName "I".toList
  have : "I".toList = ['I'] := String.toList_ofList
  rw [this]; exact ⟨by decide, fun x hx => by cases hx⟩

/-- the rendering of one type definition of each kind, in canonical trivia -/
example : rTsDoc (fun _ => [])
    [.typeDef { kind := .scalar, name := "S", dirs := [{ name := "d" }] },
     .typeDef { kind := .object, desc := some "doc", name := "T", implements := [("I", {}), ("J", {})],
                fields := [{ name := "f", args := [{ name := "x", ty := .named "Int" {}, default := some (.int "1" {}) }],
                             ty := .nonNull (.named "S" {}) }] },
     .typeDef { kind := .interface, name := "I", fields := [{ name := "g", ty := .list (.named "T" {}) {} }] },
     .typeDef { kind := .union, name := "U", members := [("T", {}), ("V", {})] },
     .typeDef { kind := .enum, name := "E", values := [{ name := "A" }, { name := "B", dirs := [{ name := "d" }] }] },
     .typeDef { kind := .input, name := "In", inputs := [{ name := "y", ty := .named "E" {} }] }] =
    "scalar S@d \"doc\"type T implements I&J{f(x:Int=1):S!} interface I{g:[T]} union U=T|V enum E{A B@d} input In{y:E}".toList := by
  rw [String.toList_ofList]
  decide +kernel

/-- … a schema definition and a directive definition -/
example : rTsDoc (fun _ => [])
    [.schemaDef { roots := [(.query, "Q", {}), (.mutation, "M", {})] },
     .directiveDef { desc := some "d", name := "d", args := [{ name := "x", ty := .named "Int" {} }], repeatable := true,
                     locations := ["FIELD", "ENUM_VALUE"] }] =
    "schema{query:Q mutation:M} \"d\"directive@d(x:Int)repeatable on FIELD|ENUM_VALUE".toList := by
  rw [String.toList_ofList]
  decide +kernel

/-- … a schema extension and three type extensions -/
example : rTsDoc (fun _ => [])
    [.schemaExt { dirs := [{ name := "d" }] },
     .typeExt { kind := .object, name := "T", implements := [("K", {})] },
     .typeExt { kind := .union, name := "U", dirs := [{ name := "d" }] },
     .typeExt { kind := .enum, name := "E", values := [{ name := "C" }] }] =
    "extend schema@d extend type T implements K extend union U@d extend enum E{C}".toList := by
  rw [String.toList_ofList]
  decide +kernel

/-- each of the 19 directive-location words of the grammar is taken by the `DirectiveLocation` rule -/
example : ∀ w ∈ locWords, (locKind w).isSome = true := fun w hw => (locWords_ok w hw).2

end NitroVerif.C07
