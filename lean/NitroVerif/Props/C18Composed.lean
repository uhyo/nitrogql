import NitroVerif.Lemmas.CliComposedChecked
import NitroVerif.Lemmas.CliComposedWitness
import NitroVerif.Lemmas.CliComposedCode
import NitroVerif.Props.C18
import NitroVerif.Props.C03
import NitroVerif.Props.C04
import NitroVerif.Props.C05
/-!
# C18 — the CLI driver composed with the models of the stages it drives

`Props/C18.lean` proves the driver model correct for ALL stage results (they are its input).
Here the stage results are COMPUTED from the input texts of a project by the stage models (`CliComposed.stagesOf`,
`Lemmas/CliComposed.lean`): parser → merge + built-ins → `ExtResolve.resolve` → `CheckTs.checkSchema`; parser →
`Imports.resolveExt` → `Imports.resolve` (all files) → `CheckOp.checkOp` (all files), composed the way `run_cli_impl`
and `check_impl` compose the real stages.  Every theorem is for ALL projects (any number of files, any texts, any
command list) and ALL environments `E` — in particular for every pair of parsers (functions `file index → text →
document | error`): the parsers' own correctness is C07 / C08 and is not used.

CONCRETE in `stagesOf`: `ExtResolve.resolve`, `CheckTs.checkSchema`, `Imports.resolveExt`, `Imports.resolve`,
`CheckOp.checkOp`, the built-in definitions and the glue.  ABSTRACT (`Env`): the two parsers, `resolve_relative_path`
(`res`), the name coding, `pathPos`, the tag tables.  INPUTS no stage model computes (`Project`): command list, generate
options, `ScalarTypeNotProvided`, the results of the writes.  Hypotheses that are nowhere discharged for the real code:
`ParserStamps`, "no empty selection set" of the parsers, C03's `SchemaValid`, `TsSpecValid` and C04's decidable side
conditions.  What stays OPEN (carried by K/O only) is listed in the OPEN block at the end of `Props/C18.lean`.
-/
namespace NitroVerif.CliComposed
open NitroVerif NitroVerif.Gql NitroVerif.Cli

variable {Text κ : Type} [DecidableEq κ]

/-- which operation files the composition looks at: the `j`-th operation file of the project gets the global file
    index `#schema files + j` and is parsed with that index set -/
theorem views_spec (E : Env Text κ) (P : Project Text κ) (v : OpView Text κ) :
    v ∈ views E P ↔ ∃ j f, P.ops[j]? = some f ∧
      v = ⟨P.schemaTexts.length + j, f, E.parseOp (P.schemaTexts.length + j) f.text⟩ :=
  mem_views E P v

/-- … and the `i`-th schema file is parsed with file index `i` -/
theorem schemaParses_spec (E : Env Text κ) (P : Project Text κ) (r : PRes TsDoc) :
    r ∈ schemaParses E P ↔ ∃ i t, P.schemaTexts[i]? = some t ∧ r = E.parseTs i t :=
  mem_schemaParses E P r

/-- **exit = 0 ⇔ clean, at the level of the stage models applied to the input texts.**  For every project and
    environment: the exit code of the modelled run is 0 if and only if the command list is usable (`check` or
    `generate` first, then only `generate`), every schema file parses, every operation file parses,
    `resolve_schema_extensions` succeeds on the merged schema document (built-ins appended),
    `check_type_system_document` reports nothing on the resolved document, `resolve_operation_extensions` succeeds
    for every operation file, `resolve_operation_imports` succeeds for every operation file (against the map of ALL
    operation files) and `check_operation_document` reports nothing for every operation file (against the resolved
    schema, on the file's definitions followed by the imported ones) — and, if `generate` is requested, the options
    are usable, the schema printer does not fail and every write succeeds. -/
theorem C18_exit_iff_clean (E : Env Text κ) (P : Project Text κ) (o : Outcome)
    (h : runCli (stagesOf E P) = some o) : o.exit = 0 ↔ StagesClean E P :=
  (C18_exit_iff_faults _ o h).trans (clean_stagesOf_iff E P)

/-- the hypothesis is satisfiable, both sides of the equivalence occur: the clean witness exits 0, the witness with an
    unknown field exits 1 -/
example : (∃ o, runCli (stagesOf wEnv wProject) = some o ∧ o.exit = 0 ∧ o.written.length = 6) ∧
    (∃ o, runCli (stagesOf wEnv wBadProject) = some o ∧ o.exit = 1 ∧ o.diags.length = 2) := by
  rw [stagesOf_wProject, stagesOf_wBadProject]
  exact ⟨⟨_, rfl, by decide, by decide⟩, ⟨_, rfl, by decide, by decide⟩⟩

/-- the composition is stated for EVERY coding `E.code` of fragment names into the numbers `Model/Imports.lean` works
    with; a faithful (injective) one exists, so instantiating `E.code := nameCode` identifies exactly the fragment
    names of the documents -/
theorem C18_name_coding_injective : ∀ a b : Name, nameCode a = nameCode b → a = b := nameCode_inj

/-- every run of the composed model has an outcome -/
theorem C18_composed_total (E : Env Text κ) (P : Project Text κ) : ∃ o, runCli (stagesOf E P) = some o := by
  obtain ⟨o, h, _⟩ := runCli_shape (stagesOf E P)
  exact ⟨o, h⟩

/-- the property's first sentence for the `check` command: `nitrogql check` exits 0 exactly when every file parses,
    both resolvers succeed and both checkers report nothing (`CheckClean`: the seven conditions, each about a stage
    model applied to the texts / documents of the project) -/
theorem C18_check_exit_iff_clean (E : Env Text κ) (P : Project Text κ) (hc : P.cmds = [.check]) (o : Outcome)
    (h : runCli (stagesOf E P) = some o) : o.exit = 0 ↔ CheckClean E P := by
  rw [C18_exit_iff_clean E P o h]
  constructor
  · intro c; exact c.check
  · intro c; exact ⟨by rw [hc]; rfl, c, by rw [hc]; intro hg; simp at hg⟩

example : ({ wProject with cmds := [.check] } : Project WText Nat).cmds = [.check] := rfl

/-- whatever commands are requested (`generate`, `check generate`, …): if ANY of the seven conditions of `CheckClean`
    fails — a file does not parse, a resolver fails, a checker model reports something — no file is written and none
    is listed -/
theorem C18_generate_gated_concrete (E : Env Text κ) (P : Project Text κ) (o : Outcome)
    (h : runCli (stagesOf E P) = some o) (hf : ¬ CheckClean E P) : o.written = [] ∧ o.listed = [] :=
  C18_generate_gated _ o h
    (Classical.byContradiction fun hn => hf ((checkClean_iff E P).mpr ((not_checkFails_iff _).mp hn)))

/-- the witness with the unknown field requests `check generate` and writes nothing -/
example : ¬ CheckClean wEnv wBadProject ∧ Cmd.generate ∈ wBadProject.cmds := by
  refine ⟨fun c => ?_, by decide⟩
  have := ((checkClean_iff _ _).mp c).2.2
  rw [stagesOf_wBadProject] at this
  exact absurd this (by decide)

section
open NitroVerif.Valid NitroVerif.ValidTs NitroVerif.CheckTs NitroVerif.CheckOp

/-- **exit 0 ⇒ the type-system rules hold of the project's schema.**  When the run exits 0, the resolved schema
    document (all schema files merged, built-ins appended, extensions applied) satisfies every rule of the reference
    validator of C05 whose soundness is proved from `checkSchema T = []` alone: reserved names, unique fields /
    arguments / enum values / union members, every type reference known, output and input positions, no interface
    implements itself, directives defined / at allowed locations / not repeated / with unique and well-typed
    arguments. -/
theorem C18_exit_zero_implies_schema_rules (E : Env Text κ) (P : Project Text κ) (o : Outcome)
    (h : runCli (stagesOf E P) = some o) (h0 : o.exit = 0) :
    Holds_reservedNames (resolvedSchema E P) ∧ Holds_uniqueFields (resolvedSchema E P) ∧
    Holds_uniqueArgs (resolvedSchema E P) ∧ Holds_uniqueEnumValues (resolvedSchema E P) ∧
    Holds_uniqueUnionMembers (resolvedSchema E P) ∧ knownTypeRefs (resolvedSchema E P) = true ∧
    Holds_outputPositions (resolvedSchema E P) ∧ Holds_inputPositions (resolvedSchema E P) ∧
    Holds_noSelfImplements (resolvedSchema E P) ∧ Holds_directivesDefined (resolvedSchema E P) ∧
    Holds_directivesLocated (resolvedSchema E P) ∧ Holds_directivesUnique (resolvedSchema E P) ∧
    directiveArgNamesUnique (resolvedSchema E P) = true ∧ Holds_directiveArgs (resolvedSchema E P) := by
  have hc := ((C18_exit_iff_clean E P o h).mp h0).check.schemaCheck
  exact ⟨C05_sound_reservedNames _ hc, C05_sound_uniqueFields _ hc, C05_sound_uniqueArgs _ hc,
    C05_sound_uniqueEnumValues _ hc, C05_sound_uniqueUnionMembers _ hc, C05_sound_knownTypeRefs _ hc,
    C05_sound_outputPositions _ hc, C05_sound_inputPositions _ hc, C05_sound_noSelfImplements _ hc,
    C05_sound_directivesDefined _ hc, C05_sound_directivesLocated _ hc, C05_sound_directivesUnique _ hc,
    C05_sound_directiveArgNamesUnique _ hc, C05_sound_directiveArgs _ hc⟩

/-- **exit 0 ⇒ type names are unique and the interface / union rules hold** (the C05 rules whose soundness needs the
    built-in-position type definitions to be pairwise distinct).  In the composed model that side condition is a
    theorem under `ParserStamps` (`resolvedSchema_builtinsDistinct`: the parser never stamps a position built-in, so
    the built-in-position type definitions of the resolved schema are the five scalars of `generate_builtins()`).  Hence, when the run
    exits 0: all type names of the resolved schema are pairwise distinct (across kinds, built-ins included), what a
    type implements is an interface, interfaces are implemented transitively, every interface field is present with
    its arguments and at a covariant type, and union members are object types. -/
theorem C18_exit_zero_implies_interface_rules (E : Env Text κ) (P : Project Text κ) (o : Outcome)
    (h : runCli (stagesOf E P) = some o) (h0 : o.exit = 0) (hp : ParserStamps E) :
    uniqueTypeNames (resolvedSchema E P) = true ∧ Holds_implementsInterfaces (resolvedSchema E P) ∧
    Holds_transitiveInterfaces (resolvedSchema E P) ∧ Holds_ifaceFieldsPresent (resolvedSchema E P) ∧
    Holds_ifaceFieldArgs (resolvedSchema E P) ∧ Holds_ifaceFieldsCovariant (resolvedSchema E P) ∧
    Holds_unionMembersObjects (resolvedSchema E P) := by
  have hc := ((C18_exit_iff_clean E P o h).mp h0).check.schemaCheck
  have hb := resolvedSchema_builtinsDistinct (P := P) hp
  exact ⟨(C05_unique_type_names _ hc).2.2 hb, C05_sound_implementsInterfaces _ hb hc,
    C05_sound_transitiveInterfaces _ hb hc, C05_sound_ifaceFieldsPresent _ hb hc, C05_sound_ifaceFieldArgs _ hb hc,
    C05_sound_ifaceFieldsCovariant _ hb hc, C05_sound_unionMembersObjects _ hb hc⟩

/-- **exit 0 ⇒ the operation rules hold of every operation document of the project.**  When the run exits 0, every
    document the operation checker was given — the definitions of an operation file followed by the fragments its
    `#import` lines bring in — satisfies all 25 validation rules nitrogql implements (`C03_accepts_only_valid`),
    against the resolved schema.  Hypotheses: the resolved schema is valid in the sense of C03's `SchemaValid` (the
    schema check establishes most but not all of it — e.g. not that the root types exist), and the parser only
    produces documents without empty selection sets (the grammar: `SelectionSet = "{" Selection+ "}"`). -/
theorem C18_exit_zero_implies_operation_rules (E : Env Text κ) (P : Project Text κ) (o : Outcome)
    (h : runCli (stagesOf E P) = some o) (h0 : o.exit = 0)
    (hS : SchemaValid ⟨resolvedSchema E P⟩)
    (hp : ∀ i t D, E.parseOp i t = .ok D → Doc.NonEmptySelections D) :
    ∀ v ∈ views E P, ∀ r ∈ ImplementedRules, Holds r ⟨resolvedSchema E P⟩ (resolvedDoc E P v) := by
  intro v hv
  have hc := ((C18_exit_iff_clean E P o h).mp h0).check.opCheck v hv
  exact C03_accepts_only_valid _ _ hS (nonEmpty_resolvedDoc hp hv) hc

/-- **exit 0 ⇒ rules** (both halves) -/
theorem C18_exit_zero_implies_rules (E : Env Text κ) (P : Project Text κ) (o : Outcome)
    (h : runCli (stagesOf E P) = some o) (h0 : o.exit = 0)
    (hS : SchemaValid ⟨resolvedSchema E P⟩)
    (hp : ∀ i t D, E.parseOp i t = .ok D → Doc.NonEmptySelections D) :
    (Holds_reservedNames (resolvedSchema E P) ∧ Holds_uniqueFields (resolvedSchema E P) ∧
     Holds_uniqueArgs (resolvedSchema E P) ∧ Holds_uniqueEnumValues (resolvedSchema E P) ∧
     Holds_uniqueUnionMembers (resolvedSchema E P) ∧ knownTypeRefs (resolvedSchema E P) = true ∧
     Holds_outputPositions (resolvedSchema E P) ∧ Holds_inputPositions (resolvedSchema E P) ∧
     Holds_noSelfImplements (resolvedSchema E P) ∧ Holds_directivesDefined (resolvedSchema E P) ∧
     Holds_directivesLocated (resolvedSchema E P) ∧ Holds_directivesUnique (resolvedSchema E P) ∧
     directiveArgNamesUnique (resolvedSchema E P) = true ∧ Holds_directiveArgs (resolvedSchema E P)) ∧
    ∀ v ∈ views E P, ∀ r ∈ ImplementedRules, Holds r ⟨resolvedSchema E P⟩ (resolvedDoc E P v) :=
  ⟨C18_exit_zero_implies_schema_rules E P o h h0, C18_exit_zero_implies_operation_rules E P o h h0 hS hp⟩

/-- the witness parser rejects documents with an empty selection set -/
theorem wEnv_nonEmpty : ∀ i t D, wEnv.parseOp i t = .ok D → Doc.NonEmptySelections D := by
  intro i t D h
  simp only [wEnv] at h
  split at h
  · cases h
  · rename_i hc
    cases h
    simp only [Bool.or_eq_true, Bool.not_eq_true', not_or, Bool.not_eq_false] at hc
    exact hc.1.2

/-- the hypotheses are satisfiable together: the witness project exits 0, its resolved schema is `SchemaValid`, its
    parser rejects empty selection sets -/
example : (∃ o, runCli (stagesOf wEnv wProject) = some o ∧ o.exit = 0) ∧ SchemaValid ⟨resolvedSchema wEnv wProject⟩ ∧
    (∀ i t D, wEnv.parseOp i t = .ok D → Doc.NonEmptySelections D) :=
  ⟨by rw [stagesOf_wProject]; exact ⟨_, rfl, by decide⟩, wSchemaValid, wEnv_nonEmpty⟩

/-- **a project whose operation documents satisfy the implemented rules exits 0** (the converse, C04): if the command
    list is usable, every file parses, schema extension resolution succeeds and the schema check reports nothing,
    operation extension / import resolution succeed for every file, and every document handed to the operation
    checker satisfies the 25 implemented rules — then, under C04's three decidable side conditions (no empty union
    in the schema; a root type for the kind of every operation; constant variable definitions) and `SchemaValid`,
    the run exits 0 (and, if `generate` is requested, under `projGenOk`).  The schema-check hypothesis can in turn
    be discharged from spec-validity of the resolved schema by C05's completeness theorem
    (`C18_valid_project_exits_zero`, Props/C18ComposedTs.lean). -/
theorem C18_valid_operations_exit_zero (E : Env Text κ) (P : Project Text κ) (o : Outcome)
    (h : runCli (stagesOf E P) = some o)
    (hcmds : cmdsOk P.cmds = true)
    (hsp : ∀ r ∈ schemaParses E P, ∃ T, r = .ok T) (hop : ∀ v ∈ views E P, ∃ D, v.parse = .ok D)
    (hres : ∃ T, ExtResolve.resolve (mergedSchema E P) = .ok T)
    (hts : checkSchema (resolvedSchema E P) = [])
    (hext : ∀ v ∈ views E P, ∃ imps, extOf E.code v.doc = .ok imps)
    (himp : ∀ v ∈ views E P, ∃ out, impOf E P v = .ok out)
    (hS : SchemaValid ⟨resolvedSchema E P⟩) (hNE : noEmptyUnionB ⟨resolvedSchema E P⟩ = true)
    (hrules : ∀ v ∈ views E P, (∀ r ∈ ImplementedRules, Holds r ⟨resolvedSchema E P⟩ (resolvedDoc E P v)) ∧
      rootsDefinedB ⟨resolvedSchema E P⟩ (resolvedDoc E P v) = true ∧ constVarDefsB (resolvedDoc E P v) = true)
    (hgen : Cmd.generate ∈ P.cmds → projGenOk P = true) : o.exit = 0 := by
  rw [C18_exit_iff_clean E P o h]
  refine ⟨hcmds, ⟨hsp, hop, hres, hts, hext, himp, ?_⟩, hgen⟩
  intro v hv
  obtain ⟨h1, h2, h3⟩ := hrules v hv
  exact C04_no_false_alarm_implemented_rules _ _ hS h1 hNE h2 h3

/-- the hypotheses are satisfiable by the witness project (the rules hold of it by `C18_exit_zero_implies_rules`) -/
example : cmdsOk wProject.cmds = true ∧ noEmptyUnionB ⟨resolvedSchema wEnv wProject⟩ = true ∧
    (∀ v ∈ views wEnv wProject, (∀ r ∈ ImplementedRules, Holds r ⟨resolvedSchema wEnv wProject⟩ (resolvedDoc wEnv wProject v)) ∧
      rootsDefinedB ⟨resolvedSchema wEnv wProject⟩ (resolvedDoc wEnv wProject v) = true ∧
      constVarDefsB (resolvedDoc wEnv wProject v) = true) := by
  refine ⟨by decide, by decide +kernel, ?_⟩
  obtain ⟨o, h, h0⟩ : ∃ o, runCli (stagesOf wEnv wProject) = some o ∧ o.exit = 0 := by
    rw [stagesOf_wProject]; exact ⟨_, rfl, by decide⟩
  intro v hv
  refine ⟨C18_exit_zero_implies_operation_rules wEnv wProject o h h0 wSchemaValid wEnv_nonEmpty v hv, ?_⟩
  have : ∀ v ∈ views wEnv wProject, rootsDefinedB ⟨resolvedSchema wEnv wProject⟩ (resolvedDoc wEnv wProject v) = true ∧
      constVarDefsB (resolvedDoc wEnv wProject v) = true := by decide +kernel
  exact this v hv

end

/-- **the operation checker invents no position**: for every schema and document, every position
    `check_operation_document` reports is a position carried by a node of the document it was given, or of the schema
    document (`Doc.positions` / `TsDoc.positions` list every position of every node, at any depth) -/
theorem C18_checkOp_positions_from_ast (S : Schema) (D : Doc) :
    ∀ d ∈ CheckOp.checkOp S D, d.2 ∈ Doc.positions D ∨ d.2 ∈ TsDoc.positions S.items :=
  checkOp_positions S D

/-- … and against a schema in which argument / input-field types are defined and union members are object types
    (`schemaRefsOkB`, implied by C03's `SchemaValid`), always a position of a node of the OPERATION document -/
theorem C18_checkOp_positions_from_own_ast (S : Schema) (hS : schemaRefsOkB S = true) (D : Doc) :
    ∀ d ∈ CheckOp.checkOp S D, d.2 ∈ Doc.positions D :=
  checkOp_Q (Q := fun p => p ∈ Doc.positions D) (schemaQ_of_refsOk hS _) (fun _ hp => hp)

example : schemaRefsOkB ⟨resolvedSchema wEnv wProject⟩ = true ∧ Valid.SchemaValid ⟨resolvedSchema wEnv wProject⟩ :=
  ⟨by decide +kernel, wSchemaValid⟩

/-- `type Query { f(x: Missing): Int }` (file 0; `Missing` is not defined) and `{ f(x: 1) }` (file 1) -/
def danglingSchema : Schema := ⟨[
  .typeDef { kind := .scalar, name := "Int" },
  .typeDef { kind := .object, name := "Query", namePos := ⟨0, 5, 0, false⟩,
             fields := [{ name := "f", pos := ⟨0, 13, 0, false⟩, ty := .named "Int" ⟨0, 27, 0, false⟩,
                          args := [{ name := "x", pos := ⟨0, 15, 0, false⟩, ty := .named "Missing" ⟨0, 18, 0, false⟩ }] }] }]⟩
def danglingDoc : Doc := [
  .op { kind := .query, pos := ⟨0, 0, 1, false⟩,
        sel := [.field none "f" ⟨0, 2, 1, false⟩ [("x", ⟨0, 4, 1, false⟩, .int "1" ⟨0, 7, 1, false⟩)] [] none] }]

/-- the side condition `schemaRefsOkB` of the "own AST" / "located" theorems cannot be dropped at the level of the stage
    models: against a schema with an undefined argument type the operation-checker model reports `TypeSystemError`
    at the position of the type name IN THE SCHEMA (file 0) for an operation file (file 1).  In the real pipeline the
    schema check rejects this schema first (`UnknownType`), which is what the side condition expresses. -/
theorem C18_checkOp_schema_position_witness :
    CheckOp.checkOp danglingSchema danglingDoc = [(ErrKind.TypeSystemError, ⟨0, 18, 0, false⟩)] ∧
    (∀ p ∈ Doc.positions danglingDoc, p ≠ (⟨0, 18, 0, false⟩ : Gql.Pos)) ∧ schemaRefsOkB danglingSchema = false ∧
    CheckTs.checkSchema danglingSchema.items ≠ [] := by
  refine ⟨by decide +kernel, by decide +kernel, by decide +kernel, by decide +kernel⟩

/-- **the schema checker invents no position**: every position `check_type_system_document` reports is a position
    of a node of the document it was given -/
theorem C18_checkSchema_positions_from_ast (T : TsDoc) :
    ∀ d ∈ CheckTs.checkSchema T, d.2 ∈ TsDoc.positions T :=
  Ts.checkSchema_positions T

/-- **the extension resolver invents no position**: every position of the resolved document is a position of the
    document it was given; so are the main position and the note of its error -/
theorem C18_resolve_positions_from_ast (T : TsDoc) :
    (∀ out, ExtResolve.resolve T = .ok out → ∀ p ∈ TsDoc.positions out, p ∈ TsDoc.positions T) ∧
    (∀ e, ExtResolve.resolve T = .error e → e.position ∈ TsDoc.positions T ∧ ∀ p ∈ e.additional, p ∈ TsDoc.positions T) :=
  ⟨fun _ h => Ext.resolve_PQ (Q := fun p => p ∈ TsDoc.positions T) (fun _ hp => hp) h,
   fun _ h => Ext.resolve_err_PQ (Q := fun p => p ∈ TsDoc.positions T) (fun _ hp => hp) h⟩

/-- **no stage invents a position, for the whole run.**  When the check ran, the position of EVERY diagnostic is a
    position of a node of an input document: a schema diagnostic (extension resolution, schema check) lies at a
    position of the merged schema document — a node of a parsed schema file or of a built-in definition; an
    operation diagnostic (extension / import resolution, operation check) lies at a position of a node of a parsed
    operation file of the project, at the path literal of one of its `#import` lines, or — only for a fault of the
    schema itself, see the next theorem — at a position of the resolved schema. -/
theorem C18_diag_positions_from_ast (E : Env Text κ) (P : Project Text κ) (o : Outcome)
    (h : runCli (stagesOf E P) = some o) (hc : Cmd.check ∈ o.commandsRun) :
    ∀ e ∈ o.diags, ∃ p : Gql.Pos, e.diag.pos = toCli p ∧
      ((e.kind = .schema ∧ p ∈ TsDoc.positions (mergedSchema E P)) ∨
       (e.kind = .operation ∧
         ((∃ v ∈ views E P, p ∈ Doc.positions v.doc ∨ ∃ i ∈ importsOf v.doc, p = E.pathPos i) ∨
          p ∈ TsDoc.positions (resolvedSchema E P)))) := by
  rw [C18_diags_are_check_result _ o h hc]
  exact checkImpl_QQ (QS := fun p => p ∈ TsDoc.positions (mergedSchema E P))
    (QO := fun p => (∃ v ∈ views E P, p ∈ Doc.positions v.doc ∨ ∃ i ∈ importsOf v.doc, p = E.pathPos i) ∨
      p ∈ TsDoc.positions (resolvedSchema E P))
    (fun _ hp => hp) (fun v hv p hp => Or.inl ⟨v, hv, Or.inl hp⟩) (fun v hv i hi => Or.inl ⟨v, hv, Or.inr ⟨i, hi, rfl⟩⟩)
    (fun _ => schemaQ_of_positions (fun p hp => Or.inr hp))

/-- … and an operation diagnostic NEVER lies at a schema position — always at a node (or path literal) of an operation
    file: the schema check has accepted the schema before any operation stage runs, and an accepted schema has no
    undefined argument / input-field type and no non-object union member (C05 soundness; the built-in-position
    type definitions of the resolved schema are the five distinct scalars because the parser never stamps a position
    built-in, `ParserStamps`) -/
theorem C18_diag_positions_from_own_ast (E : Env Text κ) (P : Project Text κ) (o : Outcome)
    (h : runCli (stagesOf E P) = some o) (hc : Cmd.check ∈ o.commandsRun) (hp : ParserStamps E) :
    ∀ e ∈ o.diags, e.kind = .operation → ∃ p : Gql.Pos, e.diag.pos = toCli p ∧
      ∃ v ∈ views E P, p ∈ Doc.positions v.doc ∨ ∃ i ∈ importsOf v.doc, p = E.pathPos i := by
  rw [C18_diags_are_check_result _ o h hc]
  intro e he hk
  obtain ⟨p, hpe, hq⟩ := checkImpl_QQ (QS := fun _ => True)
    (QO := fun p => ∃ v ∈ views E P, p ∈ Doc.positions v.doc ∨ ∃ i ∈ importsOf v.doc, p = E.pathPos i)
    (fun _ _ => trivial) (fun v hv p hp => ⟨v, hv, Or.inl hp⟩) (fun v hv i hi => ⟨v, hv, Or.inr ⟨i, hi, rfl⟩⟩)
    (fun hh => schemaQ_of_checked_composed hp hh _) e he
  rcases hq with ⟨hk', _⟩ | ⟨_, hq⟩
  · rw [hk] at hk'; cases hk'
  · exact ⟨p, hpe, hq⟩

/-- the hypothesis "the check ran with diagnostics" is satisfiable: the witness with the unknown field runs the check
    and reports two operation diagnostics (`ParserStamps wEnv` is `wEnv_stamps` below) -/
example : ∃ o, runCli (stagesOf wEnv wBadProject) = some o ∧ Cmd.check ∈ o.commandsRun ∧ o.diags.length = 2 := by
  rw [stagesOf_wBadProject]; exact ⟨_, rfl, by decide, by decide⟩

/-- the witness parsers reject documents whose positions do not carry the file index they were given -/
theorem wEnv_stamps : ParserStamps wEnv := by
  refine ⟨?_, ?_, fun i => ⟨rfl, rfl⟩⟩
  all_goals
    intro i t T h p hp
    simp only [wEnv] at h
    split at h
    · cases h
    · rename_i hc
      cases h
      simp only [Bool.or_eq_true, Bool.not_eq_true', not_or, Bool.not_eq_false, List.all_eq_true,
        Bool.and_eq_true, beq_iff_eq] at hc
      exact hc.2 p hp

/-- the hypotheses of `C18_exit_zero_implies_interface_rules` are satisfiable: the witness project exits 0 under the
    stamping witness parsers -/
example : ParserStamps wEnv ∧ ∃ o, runCli (stagesOf wEnv wProject) = some o ∧ o.exit = 0 := by
  rw [stagesOf_wProject]; exact ⟨wEnv_stamps, _, rfl, by decide⟩

/-- **`C18_located` without the hypothesis `WF`.**  For the stage results COMPUTED by the stage models, "a stage
    reports positions of the documents it was given" is a theorem, not an assumption: if the parsers stamp every
    position of a parsed document with the file index set before the parse and never mark it built-in
    (`ParserStamps` — what `set_current_file_of_pos` + `Pos::new` do), then every diagnostic that is not about a
    built-in definition has a file index inside the file store, the file there is of the kind the diagnostic
    announces, and the JSON `file` member carries exactly that index, line and column.  No other hypothesis: that an
    operation diagnostic never sits at a schema position follows from the schema check having accepted the schema
    (C05 soundness, `schemaQ_of_checked_composed`). -/
theorem C18_located_composed (E : Env Text κ) (P : Project Text κ) (o : Outcome)
    (h : runCli (stagesOf E P) = some o) (hp : ParserStamps E) :
    ∀ e ∈ o.diags, e.diag.pos.builtin = false →
      (∃ i, o.store.getFile e.diag.pos.file = some (e.kind, i)) ∧
      jsonFile o.store e.diag.pos = some (e.diag.pos.file, e.diag.pos.line, e.diag.pos.col) :=
  located_of_inRange _ o h (checkImpl_inRange hp (fun hh => schemaQ_of_checked_composed hp hh _))

/-- the hypothesis is satisfiable by the witness environment (its parsers reject documents whose positions do not
    carry the file index), on a project with a fault -/
example : ParserStamps wEnv ∧ ∃ o, runCli (stagesOf wEnv wBadProject) = some o ∧ o.diags.length = 2 := by
  rw [stagesOf_wBadProject]; exact ⟨wEnv_stamps, _, rfl, by decide⟩

/-- **the human format never panics on the composed model**: `print_positioned_error` indexes the file store with the
    file index of the main position and of every note of every diagnostic; all of them are built-in or inside the
    store, so `humanView` is defined (same hypothesis as `C18_located_composed`) -/
theorem C18_human_total_composed (E : Env Text κ) (P : Project Text κ) (o : Outcome)
    (h : runCli (stagesOf E P) = some o) (hp : ParserStamps E) : (humanView o).isSome = true := by
  have hmain : ∀ e ∈ o.diags, renderable o.store e.diag.pos = true := by
    intro e he
    unfold renderable
    cases hb : e.diag.pos.builtin with
    | true => rfl
    | false =>
      obtain ⟨⟨i, hi⟩, _⟩ := C18_located_composed E P o h hp e he hb
      simp [hi]
  have hall : o.diags.all (fun e => renderableDiag o.store e.diag) = true := by
    rw [List.all_eq_true]
    intro e he
    unfold renderableDiag
    rw [hmain e he, Bool.true_and]
    cases hb : e.diag.pos.builtin with
    | true => rfl
    | false =>
      rw [Bool.false_or, List.all_eq_true]
      intro q hq
      rcases outcome_cases _ o h with h0 | ⟨h1, _⟩ | ⟨h2, _⟩ | ⟨hc, h3, hst⟩
      · rw [h0] at he; cases he
      · rw [h1] at he; rw [parseErrs_extra _ _ _ _ e he] at hq; cases hq
      · rw [h2] at he; rw [parseErrs_extra _ _ _ _ e he] at hq; cases hq
      · rw [h3] at he
        rw [schemaFiles_length, opFiles_length] at hst
        unfold renderable
        rcases checkImpl_extras hp e he q hq with hb' | hlt
        · simp [hb']
        · rw [hst]
          simp [FileStore.getFile, hlt]
  unfold humanView
  rw [if_pos hall]
  rfl

/-- **every offending file is named — extension stage, exactly.**  When the check ran and the schema was accepted:
    every operation file whose `resolve_operation_extensions` fails contributes its diagnostic, located in that
    very file (its file index); and conversely, if any file fails at this stage, every diagnostic of the run is
    such a diagnostic of such a file — the set of files named = the set of files the stage model faults. -/
theorem C18_ext_stage_files_named (E : Env Text κ) (P : Project Text κ) (o : Outcome)
    (h : runCli (stagesOf E P) = some o) (hc : Cmd.check ∈ o.commandsRun) (hp : ParserStamps E)
    (hres : ∃ T, ExtResolve.resolve (mergedSchema E P) = .ok T)
    (hts : CheckTs.checkSchema (resolvedSchema E P) = []) :
    (∀ v ∈ views E P, ∀ x, extOf E.code v.doc = .error x →
      (⟨.operation, .opExt, opExtDiag E v.doc x⟩ : CheckErr) ∈ o.diags ∧
      (opExtDiag E v.doc x).pos.file = v.idx ∧ (opExtDiag E v.doc x).pos.builtin = false) ∧
    ((∃ v ∈ views E P, ∃ x, extOf E.code v.doc = .error x) →
      ∀ e ∈ o.diags, ∃ v ∈ views E P, ∃ x, extOf E.code v.doc = .error x ∧
        e = ⟨.operation, .opExt, opExtDiag E v.doc x⟩) := by
  have hse := (schemaExt_none_iff E P).mpr hres
  have hsc := (schemaCheck_nil_iff E P).mpr hts
  have hext : ∀ v ∈ views E P, ∀ x, extOf E.code v.doc = .error x →
      (opFileOf E P v).ext = some (opExtDiag E v.doc x) := by
    intro v _ x hx; simp [opFileOf, hx]
  rw [C18_diags_are_check_result _ o h hc]
  constructor
  · intro v hv x hx
    refine ⟨(checkImpl_first_stage _ hse hsc).1 (opFileOf E P v) (mem_opFiles.mpr ⟨v, hv, rfl⟩)
      _ (hext v hv x hx), ?_⟩
    have := view_doc_file hp hv _ (extErrPos_mem hx)
    simp only [opExtDiag, toCli]
    exact this
  · rintro ⟨v0, hv0, x0, hx0⟩ e he
    have hcase := checkImpl_case (stagesOf E P)
    generalize checkImpl (stagesOf E P) = l at hcase he
    -- a stage after the extension stage would mean every file passed it
    have passed : (stagesOf E P).opFiles.filterMap (·.ext) = [] → False := fun hnil => by
      have := List.filterMap_eq_nil_iff.mp hnil _ (mem_opFiles.mpr ⟨v0, hv0, rfl⟩)
      rw [hext v0 hv0 x0 hx0] at this
      cases this
    cases hcase with
    | schemaExt hd => rw [hse] at hd; cases hd
    | schemaCheck _ hne => exact absurd hsc hne
    | opExt =>
      obtain ⟨d, hd, rfl⟩ := mem_tagged.mp he
      obtain ⟨_, hf, hfe⟩ := List.mem_filterMap.mp hd
      obtain ⟨v, hv, rfl⟩ := mem_opFiles.mp hf
      obtain ⟨x, hx, rfl⟩ := opFileOf_ext_eq_some.mp hfe
      exact ⟨v, hv, x, hx, rfl⟩
    | opImport _ _ hnil => exact (passed hnil).elim
    | opCheck _ _ hnil => exact (passed hnil).elim

/-- **every offending file is named — import stage.**  When the check ran, the schema was accepted and extension
    resolution succeeded for every file: every operation file whose `resolve_operation_imports` fails contributes
    its diagnostic, and that diagnostic lies in an operation file of the project — the file in which the import
    chain broke (the file itself, or a file it imports: the one error `resolve_operation_imports` returns is the
    first met along the chain; open finding `unnamed:op-import:masked-by:op-import`). -/
theorem C18_import_stage_files_named (E : Env Text κ) (P : Project Text κ) (o : Outcome)
    (h : runCli (stagesOf E P) = some o) (hc : Cmd.check ∈ o.commandsRun) (hp : ParserStamps E)
    (hres : ∃ T, ExtResolve.resolve (mergedSchema E P) = .ok T)
    (hts : CheckTs.checkSchema (resolvedSchema E P) = [])
    (hext : ∀ v ∈ views E P, ∃ imps, extOf E.code v.doc = .ok imps) :
    ∀ v ∈ views E P, ∀ x, impOf E P v = .err x →
      (⟨.operation, .opImport, opImportDiag E P v x⟩ : CheckErr) ∈ o.diags ∧
      ∃ w ∈ views E P, (opImportDiag E P v x).pos.file = w.idx ∧ (opImportDiag E P v x).pos.builtin = false := by
  have hse := (schemaExt_none_iff E P).mpr hres
  have hsc := (schemaCheck_nil_iff E P).mpr hts
  have hnone : ∀ g ∈ (stagesOf E P).opFiles, g.ext = none := by
    intro g hg
    obtain ⟨v, hv, rfl⟩ := mem_opFiles.mp hg
    exact (opFileOf_ext_none E P v).mpr (hext v hv)
  rw [C18_diags_are_check_result _ o h hc]
  intro v hv x hx
  constructor
  · refine (checkImpl_first_stage _ hse hsc).2.1 hnone (opFileOf E P v)
      (mem_opFiles.mpr ⟨v, hv, rfl⟩) _ ?_
    simp [opFileOf, hx]
  · obtain ⟨w, hw, i, hi, hpos⟩ := impErr_place hv hx
    refine ⟨w, hw, ?_⟩
    simp only [opImportDiag, toCli]
    rcases hpos with hpos | hpos
    · rw [hpos]
      have h1 := view_doc_file hp hw _ (import_positions_sub hi i.pos (by simp [ImportDef.positions]))
      have h2 := hp.path i
      exact ⟨by rw [h2.1]; exact h1.1, by rw [h2.2]; exact h1.2⟩
    · exact view_doc_file hp hw _ (import_positions_sub hi _ hpos)

/-- the hypotheses are satisfiable: in the witness both files fail at the import stage (file 1 through its import of
    file 2), and both diagnostics lie in file 2 -/
example : ∃ o, runCli (stagesOf wEnv wDanglingProject) = some o ∧ Cmd.check ∈ o.commandsRun ∧
    o.diags.map (fun e => (e.cls, e.diag.pos.file)) = [(.opImport, 2), (.opImport, 2)] := by
  rw [stagesOf_wDanglingProject]; exact ⟨_, rfl, by decide, by decide⟩

/-- **every offending file is named — check stage.**  When the check ran, the schema was accepted and both
    resolvers succeeded for every file: every diagnostic the operation-checker model reports for ANY operation file
    appears among the diagnostics of the run (none is dropped, for no file), and each lies in the operation file
    whose AST contains the faulty node — the file itself, or the file an imported fragment was fetched from. -/
theorem C18_check_stage_files_named (E : Env Text κ) (P : Project Text κ) (o : Outcome)
    (h : runCli (stagesOf E P) = some o) (hc : Cmd.check ∈ o.commandsRun) (hp : ParserStamps E)
    (hres : ∃ T, ExtResolve.resolve (mergedSchema E P) = .ok T)
    (hts : CheckTs.checkSchema (resolvedSchema E P) = [])
    (hext : ∀ v ∈ views E P, ∃ imps, extOf E.code v.doc = .ok imps)
    (himp : ∀ v ∈ views E P, ∃ out, impOf E P v = .ok out) :
    ∀ v ∈ views E P, ∀ d ∈ CheckOp.checkOp ⟨resolvedSchema E P⟩ (resolvedDoc E P v),
      (⟨.operation, .opCheck, opCheckDiag E d⟩ : CheckErr) ∈ o.diags ∧
      ∃ w ∈ views E P, d.2 ∈ Doc.positions w.doc ∧ (opCheckDiag E d).pos.file = w.idx ∧
        (opCheckDiag E d).pos.builtin = false := by
  have hse := (schemaExt_none_iff E P).mpr hres
  have hsc := (schemaCheck_nil_iff E P).mpr hts
  have hnone : ∀ g ∈ (stagesOf E P).opFiles, g.ext = none ∧ g.imp = none := by
    intro g hg
    obtain ⟨v, hv, rfl⟩ := mem_opFiles.mp hg
    exact ⟨(opFileOf_ext_none E P v).mpr (hext v hv), (opFileOf_imp_none E P v).mpr (himp v hv)⟩
  rw [C18_diags_are_check_result _ o h hc]
  intro v hv d hd
  constructor
  · refine (checkImpl_first_stage _ hse hsc).2.2 hnone (opFileOf E P v)
      (mem_opFiles.mpr ⟨v, hv, rfl⟩) _ ?_
    simp only [opFileOf]
    exact List.mem_map.mpr ⟨d, hd, rfl⟩
  · have hpos : d.2 ∈ Doc.positions (resolvedDoc E P v) :=
      checkOp_Q (Q := fun p => p ∈ Doc.positions (resolvedDoc E P v)) (schemaQ_of_checked_composed hp hts _)
        (fun _ hp' => hp') d hd
    unfold Doc.positions at hpos
    obtain ⟨x, hx, hpx⟩ := List.mem_flatMap.mp hpos
    obtain ⟨w, hw, hxw⟩ := mem_resolvedDoc hv hx
    have hin : d.2 ∈ Doc.positions w.doc := List.mem_flatMap.mpr ⟨x, (mem_defsOf hxw).1, hpx⟩
    have := view_doc_file hp hw _ hin
    exact ⟨w, hw, hin, by simp only [opCheckDiag, toCli]; exact this.1, by simp only [opCheckDiag, toCli]; exact this.2⟩

/-- the hypotheses `hres`, `hts`, `hext`, `himp` of `C18_check_stage_files_named` are satisfiable by the witness with a
    fault at the check stage -/
example : (∃ T, ExtResolve.resolve (mergedSchema wEnv wBadProject) = .ok T) ∧
    CheckTs.checkSchema (resolvedSchema wEnv wBadProject) = [] ∧
    (views wEnv wBadProject).all (fun v => match extOf wEnv.code v.doc, impOf wEnv wBadProject v with
      | .ok _, .ok _ => true | _, _ => false) = true := by
  exact ⟨(schemaExt_none_iff _ _).mp (by rw [stagesOf_wBadProject]),
    (schemaCheck_nil_iff _ _).mp (by rw [stagesOf_wBadProject]), by decide +kernel⟩

end NitroVerif.CliComposed
