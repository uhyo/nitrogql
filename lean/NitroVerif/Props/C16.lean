import NitroVerif.Lemmas.JsTemplate
import NitroVerif.Lemmas.GqlString
import NitroVerif.Lemmas.Strip
import NitroVerif.Lemmas.GqlPrintParse
import NitroVerif.Lemmas.GqlPrintLexWalk
import NitroVerif.Lemmas.BlockString
/-!
# C16 — the emitted server schema string re-parses to the schema that was checked; parse ∘ print = id

Property theorems only. Models: `Model/JsTemplate.lean` (`JsStringWriter`, `JustWriter`, the module wrapper of
generate.rs), `Model/GqlPrint.lean` (graphql_printer, `remove_builtins`, the model plugin's server transform),
tied to the Rust code by the correspondence check `harness/src/bin/c16.rs`. Specifications: `Spec/Cook.lean`
(ECMAScript template cooking), `Spec/GqlString.lean` (GraphQL StringValue semantics), `Spec/StripDirective.lean`,
`Spec/GqlTokens.lean`.

The property is the composition   parse (cook (between-back-ticks (module))) = strip (checked document).
Here, for ALL inputs that satisfy the hypotheses stated with each theorem: the template layer, the string-literal layer, the
stripping layer and the token level of types, values, directives and executable definitions. Whole documents at token level
are in `Props/C16Tokens.lean`, the character level in `Props/C16Text.lean` — both over the SPECIFICATION's lexer and parser;
the composition over the model of nitrogql's OWN parser is in `Props/C16Own.lean`. What is NOT proved is listed in the OPEN
blocks and is carried by K/O only.

The `*_counterexample` theorems are of two kinds. Open findings of the CODE (known-findings.txt): the double quote
(`print_string_roundtrip_counterexample`), the block form of a string with `BlockStringValue s ≠ s`
(`print_string_block_counterexample`), the member-less union (`print_tokens_union_counterexample` in C16Tokens). Inherent side
conditions, NOT defects: `template_cr_counterexample` (ECMAScript cooking turns a raw CR into LF; the printer never hands a CR
to the writer — string literals by `printQuoted_no_cr` / `canBlock`, names by `nameOK`), `template_chunks_counterexample`
(a chunk sequence the printer does not produce when names are `nameOK`: `printer_chunks_safe_*`),
`C16_roundtrip_counterexample` and `C16_roundtrip_value_counterexample` (trees
of the AST that no GraphQL text denotes: non-null of non-null, an enum value named `true`).
-/
namespace NitroVerif.C16
open NitroVerif.Gql NitroVerif.JsTemplate NitroVerif.Cook NitroVerif.GqlPrint NitroVerif.GqlString

/-! ## 1. template literal layer -/

/-- the text holds no carriage return (a raw CR, alone or before LF, is cooked to LF — see `template_cr_counterexample`) -/
def NoCR (s : List Char) : Prop := ∀ c ∈ s, c ≠ '\r'

/-- For EVERY text without a carriage return (any length; back-ticks, backslashes, `$`, `{`, `${`, line feeds,
    U+2028/2029, any other character): evaluating the template literal that `JsStringWriter` writes for it
    gives back exactly the text. -/
theorem template_roundtrip (s : List Char) (h : NoCR s) : cook (jsStringBody s) = some s :=
  run_jsGo s false h

example : NoCR "a`b${c}\\d\n$\\{".toList := by unfold NoCR; rw [String.toList_ofList]; decide +kernel

/-- For EVERY text (no hypothesis): what `JsStringWriter` writes between the back-ticks contains no unescaped
    back-tick, no unescaped `${`, and does not end inside an escape — the literal ends where the writer ends it. -/
theorem template_no_break (s : List Char) : unbroken false false (jsStringBody s) = true :=
  unbroken_jsGo s false

/-- The `NoCR` hypothesis is necessary: a carriage return is written raw and cooks to a line feed. -/
theorem template_cr_counterexample : cook (jsStringBody ['a', '\r', 'b']) = some ['a', '\n', 'b'] := by decide

/-- Bridge to the GraphQL printer: the quoted form of a string literal never contains a carriage return
    (it is written `\r`), and the block form is only chosen for strings without one (`canBlock`), so string
    literals never hand a CR to the template writer. -/
theorem printQuoted_no_cr (s : List Char) : NoCR (printQuoted s) :=
  printQuoted_ne_cr s

/-! ### 1b. the writer's real chunking

`JsStringWriter` keeps its `dollar_flag` per `write` call. `safeOps` (Lemmas/JsChunks.lean) is the exact condition on a
sequence of writer operations: no chunk starts with `{` directly after a `$` written by an EARLIER chunk, no chunk holds
a CR. Indentation, newlines and any split of the text into chunks are covered. -/

/-- For EVERY safe sequence of writer operations (any chunking, any indentation): cooking everything
    `JsStringWriter` wrote gives exactly the text `JustWriter` writes for the same operations. -/
theorem template_roundtrip_chunks (ops : List WOp) (h : safeOps false ops = true) :
    cook (runOps true {} ops) = some (justText ops) :=
  run_runOps ops {} false (by simp) h

example : safeOps false [.write "a$".toList, .indent, .write "b{\n${`".toList, .write "{".toList] = true := by
  repeat rw [String.toList_ofList]
  decide +kernel

/-- The condition is necessary: `$` at the end of one chunk and `{` at the start of the next are written `${`. -/
theorem template_chunks_counterexample : cook (runOps true {} [.write ['$'], .write ['{']]) = none := by decide

/-- The GraphQL printer only produces safe chunk sequences: for EVERY type-system document whose printed names,
    numbers and variable names hold no CR, do not end in `$` (variable names: are non-empty and do not start with
    `{`) — true of every GraphQL Name — the operations handed to the writer are safe. The printer's own texts
    (punctuators, layout) and its string literals are covered unconditionally by a walk over all printing functions. -/
theorem printer_chunks_safe_ts (d : TsDoc) (hn : ∀ t ∈ printTsDoc d, t.nameOK = true) :
    safeOps false (ops (printTsDoc d)) = true :=
  safe_of_names _ (fixed_tsDoc d) hn

/-- the same for every executable document (operations, fragments, `#import` lines) -/
theorem printer_chunks_safe_op (d : Doc) (hn : ∀ t ∈ printDoc d, t.nameOK = true) :
    safeOps false (ops (printDoc d)) = true :=
  safe_of_names _ (fixed_doc d) hn

/-- End to end for the template layer: for EVERY type-system document with such names, the cooked value of the
    characters between the back-ticks of the `serverGraphqlOutput` module is a line feed followed by exactly the
    GraphQL text the printer writes (into a `JustWriter`) for the document. -/
theorem server_template_cooks (d : TsDoc) (hn : ∀ t ∈ printTsDoc d, t.nameOK = true) :
    cook ('\n' :: runOps true {} (ops (printTsDoc d))) = some ('\n' :: text (printTsDoc d)) :=
  cook_cons_lf (template_roundtrip_chunks _ (printer_chunks_safe_ts d hn))

/-- a small document with a variable, used to show the hypotheses are satisfiable -/
def exampleDoc : TsDoc :=
  [.typeDef { kind := .object, name := "Q", fields := [{ name := "f", ty := .named "Int" {}, dirs := [{ name := "d", args := [("a", {}, .var "v" {})] }] }] }]

example : (printTsDoc exampleDoc).all Tok.nameOK = true := by decide +kernel

/-! ## 2. string literal layer -/

/-
FULL STATEMENT (false of the code — see the two counterexamples and known-findings.txt):

  theorem print_string_roundtrip (s : List Char) : decodeStringLiteral (printString s) = some s

It fails (a) for a string with a double quote printed in the quoted form (the quote is written unescaped;
escaping it changes the `read_introspection` snapshot of the repository's tests), and (b) for a string printed in
the block form whose `BlockStringValue` differs from itself (leading / trailing blank line, common indentation): the AST
cannot tell a decoded value from raw block-string content, and the printer's snapshot tests fix the block form.
-/

/-- For EVERY string that is printed in the quoted form and holds no double quote (any other character:
    backslashes, CR, LF, every control character, astral characters …): the literal `print_string` writes is
    exactly one GraphQL string token whose value is the string. -/
theorem print_string_roundtrip_partial (s : List Char) (hform : useBlock s = false) (hq : ∀ c ∈ s, c ≠ dquote) :
    decodeStringLiteral (printString s) = some s := by
  unfold printString
  simp only [hform, Bool.false_eq_true, if_false]
  exact decode_printQuoted s hq

example : useBlock "say 'hi' \\ there\r\n\\u0041 \x01".toList = false ∧ ∀ c ∈ "say 'hi' \\ there\r\n\\u0041 \x01".toList, c ≠ dquote := by
  rw [String.toList_ofList]
  decide +kernel

/-- (a) a double quote is not escaped: the literal written for `a"b` is not a string token -/
theorem print_string_roundtrip_counterexample :
    decodeStringLiteral (printString ['a', dquote, 'b']) = none := by decide

/-- (b) a leading blank line is lost: the literal written for "\na" (block form) denotes "a" -/
theorem print_string_block_counterexample :
    decodeStringLiteral (printString ['\n', 'a']) = some ['a'] := by decide

/-! ### 2b. the block form -/

/-- For EVERY string the code prints in the block form: the printed text is exactly one block-string token, and its
    value is `BlockStringValue` of the string itself (every `"""` inside is escaped and read back, the token ends
    exactly at the closing `"""`). -/
theorem print_block_lexes (s : List Char) (h : useBlock s = true) :
    decodeStringLiteral (printString s) = some (blockStringValue s) := by
  obtain ⟨hend, hsrc⟩ := canBlock_spec (useBlock_canBlock h)
  have hraw := blockRaw_escTriple s 0 (by omega) hend hsrc
  simp only [List.replicate, List.nil_append] at hraw
  unfold printString printBlock
  simp only [h, if_true]
  show decodeStringLiteral (dquote :: dquote :: dquote :: (escTriple 0 s ++ close3)) = _
  simp [decodeStringLiteral, hraw]

/-- The EXACT side condition for the block form: the printed literal denotes the string if and only if
    `BlockStringValue` leaves the string unchanged. -/
theorem print_block_roundtrip_iff (s : List Char) (h : useBlock s = true) :
    decodeStringLiteral (printString s) = some s ↔ blockStringValue s = s := by
  rw [print_block_lexes s h]
  exact ⟨fun e => Option.some.inj e, fun e => by rw [e]⟩

/-- A structural sufficient condition: first and last line not blank, no common indentation of the continuation
    lines (`blockFaithful`, e.g. "multi\nline", "a\n\nb  c\n\tq\nz"). -/
theorem print_block_roundtrip (s : List Char) (h : useBlock s = true) (hf : blockFaithful s = true) :
    decodeStringLiteral (printString s) = some s :=
  (print_block_roundtrip_iff s h).mpr (blockStringValue_faithful s (canBlock_no_cr s (useBlock_canBlock h)) hf)

example : useBlock "multi\nline \"q\" \\ \"\"\" x".toList = true ∧ blockFaithful "multi\nline \"q\" \\ \"\"\" x".toList = true := by
  rw [String.toList_ofList]
  decide +kernel

/-- `print_string` as a whole, with the exact side conditions of its two forms -/
theorem print_string_roundtrip_exact (s : List Char)
    (h1 : useBlock s = false → ∀ c ∈ s, c ≠ dquote) (h2 : useBlock s = true → blockStringValue s = s) :
    decodeStringLiteral (printString s) = some s := by
  by_cases h : useBlock s = true
  · exact (print_block_roundtrip_iff s h).mpr (h2 h)
  · have h' : useBlock s = false := by simpa using h
    exact print_string_roundtrip_partial s h' (h1 h')

/-! ## 3. stripping layer -/

/-- `remove_builtins` removes exactly the nitrogql-only directive: on every document in which
    `@nitrogql_ts_type` is applied on scalars only, its result is the document without the definition of the
    directive and without any application of it — every other item, and every other part of every item, is
    kept, in order. -/
theorem strip_exact (d : TsDoc) (h : OnlyOnScalars nitroName d) :
    removeBuiltins d = Strip.stripDirective nitroName d :=
  removeBuiltins_strip d h

example : OnlyOnScalars nitroName
    [.typeDef { kind := .scalar, name := "Date", dirs := [{ name := "nitrogql_ts_type" }, { name := "specifiedBy" }] },
     .directiveDef { name := "nitrogql_ts_type", locations := ["SCALAR"] },
     .typeDef { kind := .object, name := "Q", fields := [{ name := "f", ty := .named "Date" {}, dirs := [{ name := "deprecated" }] }] }] := by
  intro i hi
  simp only [List.mem_cons, List.mem_nil_iff, or_false] at hi
  rcases hi with rfl | rfl | rfl <;> decide +kernel

/-- The model plugin's `transform_document_for_runtime_server` removes exactly `@model`: on every document in which
    `@model` is applied on object types and object fields only, its result is the document without the definition
    of the directive and without any application of it; everything else is kept, in order. -/
theorem strip_model_exact (d : TsDoc) (h : OnlyOnObjects modelName d) :
    removeModel d = Strip.stripDirective modelName d :=
  removeModel_strip d h

example : OnlyOnObjects modelName
    [.typeDef { kind := .object, name := "User", dirs := [{ name := "model" }], fields := [{ name := "id", ty := .named "ID" {}, dirs := [{ name := "model" }, { name := "deprecated" }] }] },
     .directiveDef { name := "model", locations := ["OBJECT", "FIELD_DEFINITION"] },
     .typeDef { kind := .scalar, name := "Date" }] := by
  intro i hi
  simp only [List.mem_cons, List.mem_nil_iff, or_false] at hi
  rcases hi with rfl | rfl | rfl <;> decide +kernel

/-- composition as in generate.rs: `remove_builtins`, then the plugin -/
theorem strip_both_exact (d : TsDoc) (h1 : OnlyOnScalars nitroName d)
    (h2 : OnlyOnObjects modelName (Strip.stripDirective nitroName d)) :
    removeModel (removeBuiltins d) = Strip.stripDirective modelName (Strip.stripDirective nitroName d) := by
  rw [strip_exact d h1, strip_model_exact _ h2]

/-! ## 4. token level: the Type sub-language -/

/-- For EVERY type: the significant tokens the printer writes are the canonical token stream of the type. -/
theorem print_tokens_type (t : GType) : (printType t).flatMap lex = GqlTokens.typeToks t :=
  toks_type t

/-- parse ∘ print = id on the Type sub-language, for EVERY type the grammar can produce (arbitrary nesting of
    lists and non-null markers, arbitrary names): reading the printer's significant tokens with the
    specification's token parser gives back the type (positions erased), and consumes exactly its tokens — whatever
    follows them, provided it does not begin with `!` (which the parser would read as this type's non-null marker). -/
theorem C16_roundtrip_partial (t : GType) (hwf : GqlTokens.wfType t = true) (rest : List GqlTokens.LTok)
    (hrest : rest.head? ≠ some (.p "!")) :
    GqlTokens.parseType (GqlTokens.depth t + 1) ((printType t).flatMap lex ++ rest) = some (t.erasePos, rest) := by
  rw [print_tokens_type]
  exact parse_type t hwf rest _ (Nat.le_refl _) (startsP_of_head hrest)

example : GqlTokens.wfType (.nonNull (.list (.nonNull (.named "Int" {})) {})) = true := by decide

/-- the well-formedness hypothesis is necessary: `Int!!` is printed for the (unparsable-from-text) tree
    non-null of non-null, and does not read back -/
theorem C16_roundtrip_counterexample :
    GqlTokens.parseType 3 ((printType (.nonNull (.nonNull (.named "Int" {})))).flatMap lex) ≠
      some ((GType.nonNull (.nonNull (.named "Int" {}))).erasePos, []) := by decide

/-! ## 5. token level: Value and Directive -/

/-- For EVERY value (arbitrarily nested lists and input objects): the significant tokens the printer writes
    (commas, spaces, newlines and indentation dropped) are the canonical token stream of the value. -/
theorem print_tokens_value (v : Value) : (printValue v).flatMap lex = GqlTokens.valueToks v :=
  toks_value v

/-- For EVERY directive application: the significant tokens printed are `@`, the name and the canonical stream of
    its arguments (one argument on one line, two or more one per line — layout only). -/
theorem print_tokens_directive (d : Directive) : (printDirective d).flatMap lex = GqlTokens.directiveToks d :=
  toks_directive d

/-- parse ∘ print = id on the Value sub-language, for EVERY value the grammar can produce (enum values other than
    `true` / `false` / `null`; arbitrary strings, numbers, names, nesting) and every continuation: the specification's
    token parser reads the printer's significant tokens back to the value (positions erased) and consumes exactly them. -/
theorem C16_roundtrip_value (v : Value) (hwf : GqlTokens.wfValue v = true) (rest : List GqlTokens.LTok) :
    GqlTokens.parseValue (2 * v.size) ((printValue v).flatMap lex ++ rest) = some (v.erasePos, rest) := by
  rw [print_tokens_value]
  exact parse_value v hwf rest _ (Nat.le_refl _)

example : GqlTokens.wfValue (.obj [("a", {}, .list [.int "1" {}, .str "s\"\n" {}, .enum "E" {}, .var "v" {}] {}), ("b", {}, .obj [] {})] {}) = true := by
  decide

/-- the hypothesis is necessary: the tree "enum value named true" is printed `true`, which reads back as a Boolean -/
theorem C16_roundtrip_value_counterexample :
    GqlTokens.parseValue 2 ((printValue (.enum "true" {})).flatMap lex) = some (.bool true Pos.none, []) := by
  simp [printValue, lex, GqlTokens.parseValue, GqlTokens.nameValue]

/-- parse ∘ print = id for directive applications: for EVERY directive whose argument values the grammar can produce,
    followed by anything that is not `(`. -/
theorem C16_roundtrip_directive (d : Directive) (hwf : GqlTokens.wfFields d.args = true) (rest : List GqlTokens.LTok)
    (hrest : rest.head? ≠ some (.p "(")) :
    GqlTokens.parseDirective (2 * Value.sizeFields d.args + 1) ((printDirective d).flatMap lex ++ rest) =
      some (GqlTokens.eraseDirective d, rest) := by
  rw [print_tokens_directive]
  exact parse_directive d hwf rest _ (Nat.le_refl _) (startsP_of_head hrest)

/-! ## 6. token level: executable definitions (token streams here; parse-back: `C16_parse_*` in `Props/C16Tokens.lean`) -/

/-- For EVERY selection (fields with aliases, arguments, directives and nested selection sets; fragment spreads;
    inline fragments — arbitrary nesting): the significant tokens printed are the canonical token stream. -/
theorem print_tokens_selection (s : Selection) : (printSelection s).flatMap lex = GqlTokens.selectionToks s :=
  toks_selection s

/-- For EVERY variable definition: `$name : Type`, then `= default` if there is one, then the directives — nothing
    is dropped (fixed finding c5a9c50 of known-findings.txt: the last two were). -/
theorem print_tokens_var_def (v : VarDef) : (printVarDef v).flatMap lex = GqlTokens.varDefToks v :=
  toks_varDef v

/-- For EVERY operation definition: kind, name, variable definitions, directives, selection set. -/
theorem print_tokens_operation (o : OperationDef) : (printOperation o).flatMap lex = GqlTokens.operationToks o :=
  toks_operation o

/-- For EVERY fragment definition. -/
theorem print_tokens_fragment (f : FragmentDef) : (printFragment f).flatMap lex = GqlTokens.fragmentToks f :=
  toks_fragment f

/-
OPEN — carried by K/O only (never claimed as proved)
  * over nitrogql's own parser, the documents OUTSIDE the explicit (decidable) side conditions of `Props/C16Own.lean`:
      - strings that are not written as C07's `specEscape` literal (`strQ`): a string with a line feed that the printer
        writes as a BLOCK string (C07's renderings have no block strings; finding t of C07: returned raw — for a
        description inside a definition the round trip is FALSE over the own parser, the writer's indentation comes
        back: `C16_roundtrip_own_parser_block_counterexample`), a string with a
        control character other than CR / LF (the printer writes `\u{…}`, which C07's renderings never contain — the
        parser model does read it back, evaluated on witnesses), a string with a double quote (written unescaped: open
        finding, the text is rejected — `C16_roundtrip_own_parser_ts_counterexample`);
      - a union extension without members (`extend union U @d =`, open finding; rejected — same counterexample);
      - what C07's `WFDef` / `WFTsItem` / `NormalItem` exclude (invalid names, empty selection sets, the bare `interface I`,
        an object type without fields and directives, …: see the OPEN block of `Props/C07.lean`);
      - `#import` lines of executable documents (comments for GraphQL; not covered by C07 either).
    For those O evaluates the property on the real parser for generated schemas and operations; K ties every model in
    these files to the code. Over the SPECIFICATION's lexer and parser the block form (when `BlockStringValue s = s`) and
    all control characters are covered (`C16_roundtrip_text_*`).
  * over the specification's lexer and parser (`C16_roundtrip_tokens_*`, `C16_roundtrip_text_*`,
    `server_module_roundtrip_tokens` / `_text`), the documents OUTSIDE the hypotheses: `strsOK` (a double quote in the quoted
    form; a block-printed string with `BlockStringValue s ≠ s` — the two open string findings), `itemUnionOK` (a union
    without members — open finding for extensions), `lexemesOK` (names / numbers that are not GraphQL Names / numbers),
    `wfDoc` / `wfTsDoc` (trees no text denotes; `#import` lines). The specification's lexer and parser are never run against
    the real parser: O reads with the real parser after re-quoting block strings by their specification value.
  * that a checked schema satisfies `OnlyOnScalars` / `OnlyOnObjects` (hypotheses of `strip_exact`, `strip_model_exact` and
    of every `server_module_roundtrip_*`): not proved of the checker; O's `server` stream runs accepted projects.
  * the ORDERED plugin list of generate.rs (fold over the plugins): `serverGraphqlOutput` takes one Boolean for the model
    plugin; the fold is in `Driver/C16.lean` (`runtimeServerSchema`) and compared by K only.
  * ECMAScript: `Spec/Cook.lean` is a hand-written model of template-literal cooking; no JavaScript engine is run.
-/

end NitroVerif.C16
