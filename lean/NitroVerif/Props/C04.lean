import NitroVerif.Lemmas.CheckOpCompleteDefs
/-!
# C04 — `check` raises no diagnostic on spec-valid operation documents

The property theorems with the witnesses of their non-vacuity examples (`c04Schema`, `c04Doc`) and of the three
counterexamples (`cex*`). Model and reference validator as for C03 (`Model/CheckOp.lean`, `Spec/Valid.lean`).
Proved here, for all schemas and documents: completeness of every component of the checker model, and their assembly
`C04_no_false_alarm_partial`: `checkOp S D = []` for every spec-valid document against a valid schema, under three
decidable side conditions. The statement without the side conditions is FALSE of the model; each side condition is
shown necessary by a concrete witness (`C04_no_false_alarm_counterexample_*`). Helper lemmas: the component
equivalences of C03's files read from right to left, and `Lemmas/CheckOpComplete*.lean`.

Every theorem here uses `SpecValid S D` through its 25 implemented rules only (`rules_of_valid : SpecValid S D → Rules S D`,
`Lemmas/CheckOpCompleteSites.lean`); `C04_no_false_alarm_implemented_rules` states the assembled theorem with exactly that
hypothesis. This matters because `SpecValid` takes a SUFFICIENT document-wide check for 5.3.2 (field merging): some documents
valid under the specification — `mergeOk` of `Props/C03FieldMerge.lean` — are not `SpecValid`, and only the theorem from
the implemented rules speaks of them.
-/
namespace NitroVerif.CheckOp
open NitroVerif.Gql NitroVerif.CheckCommon NitroVerif.Valid

/-- the hypothesis is satisfiable by a non-trivial document (operation with a variable, nested selection,
    fragment spread) and the model accepts that document -/
example : SpecValid ⟨[
    .typeDef { kind := .scalar, name := "Int" }, .typeDef { kind := .scalar, name := "String" },
    .typeDef { kind := .object, name := "Query",
               fields := [{ name := "a", ty := .named "Int" {} },
                          { name := "f", args := [{ name := "x", ty := .nonNull (.named "Int" {}) }], ty := .named "Query" {} }] }]⟩
    [.op { kind := .query, name := some ("Q", {}), vars := [{ name := "v", ty := .nonNull (.named "Int" {}) }],
           sel := [.field none "a" {} [] [] none,
                   .field none "f" {} [("x", {}, .var "v" {})] [] (some [.field none "a" {} [] [] none, .spread "F" {} [] {}])] },
     .frag { name := "F", cond := "Query", sel := [.field none "a" {} [] [] none] }] := by decide +kernel

/-- C04, document level: on a spec-valid document the main loop of `check_operation_document` raises neither
    `DuplicateOperationName`, `UnNamedOperationMustBeSingle` nor `DuplicateFragmentName` — for every
    definition `d` of the document, with `pre` the definitions before it, the header diagnostics are empty. -/
theorem C04_no_false_alarm_document_level (S : Schema) (D : Doc) (hv : SpecValid S D) :
    ∀ pre d post, D = pre ++ d :: post → defHeader (opsOf D).length pre d = [] :=
  have R := rules_of_valid hv
  defHeader_complete R.r2_1_1 R.r2_2_1 R.r5_1_1

/-- C04, names and types of variable definitions (no side condition): on a spec-valid document
    `check_variables_definition` raises no
    `DuplicatedVariableName`, `UnknownType` or `NoOutputType` — what it reports for an operation is exactly what
    the checks of the variables' directives and default values report. -/
theorem C04_no_false_alarm_variable_definitions (S : Schema) (D : Doc) (hv : SpecValid S D) :
    ∀ o ∈ opsOf D, checkVariablesAux S [] o.vars = o.vars.flatMap (varDefRest S) :=
  fun _ ho => checkVariablesAux_eq_rest (rules_of_valid hv) ho

/-- C04, fragment targets: on a spec-valid document `check_fragment_definition` raises neither `UnknownType` nor
    `InvalidFragmentTarget` — the type condition of every fragment definition is found and is composite. -/
theorem C04_no_false_alarm_fragment_targets (S : Schema) (D : Doc) (hv : SpecValid S D) :
    ∀ f ∈ fragsOf D, ∃ t, S.typeDef? f.cond = some t ∧ (directFields t).isSome = true := by
  intro f hf
  have hc : f.cond ∈ typeConditions S D :=
    List.mem_append_left _ (List.mem_map.mpr ⟨f, by rw [frags_eq]; exact hf, rfl⟩)
  obtain ⟨t, ht, hk⟩ := typeCondition_ok (rules_of_valid hv) hc
  exact ⟨t, ht, isComposite_directFields hk⟩

/-- the five built-in scalars, `@skip`-like directive `@when(if: Boolean!)`, an input object, an enum, a union,
    `Query` and `Subscription` -/
def c04Schema : Schema := ⟨[
  .typeDef { kind := .scalar, name := "Int" }, .typeDef { kind := .scalar, name := "Float" },
  .typeDef { kind := .scalar, name := "String" }, .typeDef { kind := .scalar, name := "Boolean" },
  .typeDef { kind := .scalar, name := "ID" },
  .directiveDef { name := "when", args := [{ name := "if", ty := .nonNull (.named "Boolean" {}) }],
                  locations := ["FIELD", "FRAGMENT_SPREAD", "INLINE_FRAGMENT"] },
  .typeDef { kind := .enum, name := "Color", values := [{ name := "RED" }, { name := "GREEN" }] },
  .typeDef { kind := .input, name := "Filter",
             inputs := [{ name := "color", ty := .named "Color" {} },
                        { name := "ids", ty := .list (.nonNull (.named "ID" {})) {} }] },
  .typeDef { kind := .object, name := "A", fields := [{ name := "x", ty := .named "Int" {} }] },
  .typeDef { kind := .union, name := "U", members := [("A", {}), ("Query", {})] },
  .typeDef { kind := .object, name := "Query",
             fields := [{ name := "a", ty := .named "Int" {} },
                        { name := "u", ty := .named "U" {} },
                        { name := "f", args := [{ name := "x", ty := .nonNull (.named "Int" {}) },
                                                { name := "w", ty := .named "Filter" {} }],
                          ty := .named "Query" {} }] },
  .typeDef { kind := .object, name := "Subscription", fields := [{ name := "tick", ty := .named "Int" {} }] }]⟩

/-- `query Q($v: Int!, $b: Boolean! = true, $c: Color) { a @when(if: $b)  f(x: $v, w: {color: $c, ids: [1, "z"]}) { a ...F }
      u { ... on A { x } } }   subscription S { ...T }   fragment F on Query { a u { __typename } }
    fragment T on Subscription { tick }` -/
def c04Doc : Doc := [
  .op { kind := .query, name := some ("Q", {}),
        vars := [{ name := "v", ty := .nonNull (.named "Int" {}) },
                 { name := "b", ty := .nonNull (.named "Boolean" {}), default := some (.bool true {}) },
                 { name := "c", ty := .named "Color" {} }],
        sel := [.field none "a" {} [] [{ name := "when", args := [("if", {}, .var "b" {})] }] none,
                .field none "f" {} [("x", {}, .var "v" {}),
                                    ("w", {}, .obj [("color", {}, .var "c" {}),
                                                    ("ids", {}, .list [.int "1" {}, .str "z" {}] {})] {})] []
                  (some [.field none "a" {} [] [] none, .spread "F" {} [] {}]),
                .field none "u" {} [] [] (some [.inline (some ("A", {})) [] [.field none "x" {} [] [] none] {}])] },
  .op { kind := .subscription, name := some ("S", {}), sel := [.spread "T" {} [] {}] },
  .frag { name := "F", cond := "Query",
          sel := [.field none "a" {} [] [] none,
                  .field none "u" {} [] [] (some [.field none "__typename" {} [] [] none])] },
  .frag { name := "T", cond := "Subscription", sel := [.field none "tick" {} [] [] none] }]

/-- the hypotheses of the theorems below are satisfiable by a non-trivial schema and document (variables with and
    without defaults, a directive with a variable argument, an input-object literal with a nested list, an enum
    variable, named and inline fragments, a union, a subscription through a fragment) -/
example : SchemaValid c04Schema ∧ SpecValid c04Schema c04Doc ∧ noEmptyUnionB c04Schema = true ∧
    rootsDefinedB c04Schema c04Doc = true ∧ constVarDefsB c04Doc = true := by decide +kernel

/-- C04, directives: on a spec-valid document `check_directives` reports nothing at any location — for every
    directive list in the scope of an operation (the operation, its variable definitions, and the fields, fragment
    spreads, inline fragments and fragment definitions it reaches) checked with the operation's variables; and for
    every directive list of the document checked without variables in scope, nothing but `UnknownVariable`
    (the `without_variable_checks` mode of fragment definitions): no `UnknownDirective`,
    `DirectiveLocationNotAllowed`, `RepeatedDirective`, nor any diagnostic about the directives' arguments. -/
theorem C04_directives_complete (S : Schema) (D : Doc) (hS : SchemaValid S) (hv : SpecValid S D) :
    (∀ o ∈ opsOf D, ∀ site ∈ opDirSites S D o, checkDirectives S (some o.vars) site.2 site.1 = []) ∧
    (∀ site ∈ dirSites S D, withoutVariableChecks (checkDirectives S none site.2 site.1) = []) := by
  have R := rules_of_valid hv
  refine ⟨?_, ?_⟩
  · intro o ho site hs
    apply quiet_none_iff.mp
    apply dirSite_quiet hS R admissible_none (opDirSites_sub ho site hs)
    -- the variable usages in the directives' arguments are those of the operation's scope (5.8.3, 5.8.5)
    apply usesOK_mono _ (op_usesOK R ho)
    intro s hs'
    exact List.mem_append_right _ (dirArgSites_mono (fun x hx => by simp at hx; subst hx; exact hs) s hs')
  · intro site hs
    exact quiet_uv_iff.mpr (dirSite_quiet hS R admissible_uv hs (usesOK_uv S _))

example : ∃ o ∈ opsOf c04Doc, ∃ site ∈ opDirSites c04Schema c04Doc o, site.2 ≠ [] := by decide +kernel

/-- C04, values: `check_value` accepts every value the specification's input coercion accepts. For every value `v`
    (nested lists and input objects at any depth) expected at a position of type `t` whose named type is an input
    type of a valid schema: if the specification's value rules 5.6.1 – 5.6.4 find no issue in `v`
    (`valueIssues S v t = []`) and every variable usage inside `v` is accepted, `check_value` reports nothing. -/
theorem C04_values_complete (S : Schema) (hS : SchemaValid S) (vars : Option (List VarDef)) (v : Value) (t : GType)
    (ld : Bool) (ht : ∃ td, S.typeDef? t.unwrapped = some td ∧ Schema.isInputKind td.kind = true)
    (hvi : valueIssues S v t = [])
    (hu : ∀ u ∈ varUses S v t ld, varCheck vars u.name u.pos u.locTy u.locDefault = []) :
    checkValue S vars v t ld = [] := by
  apply quiet_none_iff.mp
  refine (checkValue_iff admissible_none (inputs_ok (schemaValid_uniqueArgs hS) (schemaFacts_of_valid hS).inputTy) ht).mpr ⟨hvi, ?_⟩
  intro u huu
  unfold UseQuiet
  rw [hu u huu]; exact quiet_nil

example : (∃ td, c04Schema.typeDef? (GType.named "Filter" {}).unwrapped = some td ∧ Schema.isInputKind td.kind = true) ∧
    valueIssues c04Schema (.obj [("color", {}, .enum "RED" {}), ("ids", {}, .list [.int "1" {}, .str "z" {}] {})] {})
      (.named "Filter" {}) = [] := by decide +kernel

/-- C04, numeric boundaries (fix e3584a3 made the `Int` arm of `is_value_compatible_type_def` stricter — it must not have
    become stricter than the specification): against a valid schema `check_value` accepts an integer literal
    * at every position whose innermost named type is `Int` when its text denotes an integer in `[-2^31, 2^31)`
      (`-2147483648`, `2147483647`, `-0` included), and
    * at every position whose innermost named type is `Float` or `ID`, whatever its size (§3.5.2, §3.5.5).
    The position may be a list type at any depth (a single value is coerced to a list of one item). -/
theorem C04_int_literal_complete (S : Schema) (hS : SchemaValid S) (vars : Option (List VarDef)) (s : String) (p : Pos)
    (t : GType) (ld : Bool)
    (h : (t.unwrapped = "Int" ∧ ∃ i : Int, SpecInt.intValue? s.toList = some i ∧ -2147483648 ≤ i ∧ i ≤ 2147483647) ∨
         t.unwrapped = "Float" ∨ t.unwrapped = "ID") :
    checkValue S vars (.int s p) t ld = [] := by
  have hn : t.unwrapped ∈ ["Int", "Float", "String", "Boolean", "ID"] := by
    rcases h with ⟨hn, _⟩ | hn | hn <;> simp [hn]
  obtain ⟨td, ht, hk⟩ := builtin_scalar_defined hS hn
  apply C04_values_complete S hS vars (.int s p) t ld ⟨td, ht, by simp [hk, Schema.isInputKind]⟩
  · apply int_valueIssues_nil hS
    rcases h with ⟨hn, hi⟩ | hn | hn
    · exact Or.inl ⟨hn, by rw [← IntLit.intLiteralFitsI32_eq]; exact (IntLit.intLiteralFitsI32_iff s).mpr hi⟩
    · exact Or.inr (Or.inl hn)
    · exact Or.inr (Or.inr hn)
  · intro u hu; simp [varUses] at hu

/-- non-vacuity of the `Int` case: the texts `2147483647`, `-2147483648`, `-0` denote integers in the range (the hypothesis
    holds of them); one step beyond the boundary the hypothesis fails and so does the check at `[Int!]` -/
example : SchemaValid c04Schema ∧
    (∀ s ∈ ["2147483647", "-2147483648", "-0"], ∃ i : Int, SpecInt.intValue? s.toList = some i ∧ -2147483648 ≤ i ∧ i ≤ 2147483647) ∧
    (∀ s ∈ ["2147483648", "-2147483649"], SpecInt.intTextInRange s = false ∧
      checkValue c04Schema none (.int s {}) (.list (.nonNull (.named "Int" {})) {}) false ≠ []) := by
  refine ⟨by decide +kernel, ?_, by decide +kernel⟩
  intro s hs
  simp only [List.mem_cons, List.not_mem_nil, or_false] at hs
  rcases hs with rfl | rfl | rfl
  · exact ⟨2147483647, by rw [String.toList_ofList]; decide +kernel, by decide, by decide⟩
  · exact ⟨-2147483648, by rw [String.toList_ofList]; decide +kernel, by decide, by decide⟩
  · exact ⟨0, by rw [String.toList_ofList]; decide +kernel, by decide, by decide⟩

/-- C04, variable usages (5.8.5, with the default-value exceptions): a usage of a defined variable that the
    specification's `IsVariableUsageAllowed` allows is accepted by the variable case of `check_value_at`. -/
theorem C04_variable_usage_complete (vars : List VarDef) (u : VarUse) (vd : VarDef)
    (hf : vars.find? (·.name == u.name) = some vd) (h : usageAllowed vd u = true) :
    varCheck (some vars) u.name u.pos u.locTy u.locDefault = [] :=
  varCheck_of_allowed hf h

example : ([{ name := "b", ty := .named "Boolean" {}, default := some (.bool true {}) }] : List VarDef).find?
      (·.name == (⟨"b", {}, .nonNull (.named "Boolean" {}), false⟩ : VarUse).name)
        = some { name := "b", ty := .named "Boolean" {}, default := some (.bool true {}) } ∧
    usageAllowed { name := "b", ty := .named "Boolean" {}, default := some (.bool true {}) }
      ⟨"b", {}, .nonNull (.named "Boolean" {}), false⟩ = true := ⟨rfl, rfl⟩

/-- C04, arguments (5.4.1, 5.4.2, 5.4.2.1 and the values): on a spec-valid document `check_arguments` reports
    nothing for any argument list in the scope of an operation (fields and directives, also inside the fragments the
    operation reaches) checked with the operation's variables; and for every argument list of the document checked
    without variables in scope, nothing but `UnknownVariable`. -/
theorem C04_arguments_complete (S : Schema) (D : Doc) (hS : SchemaValid S) (hv : SpecValid S D) :
    (∀ o ∈ opsOf D, ∀ site ∈ fieldArgSites S (opCtxs S D o) ++ dirArgSites S (opDirSites S D o), ∀ pos,
      checkArguments S (some o.vars) pos site.args site.defs = []) ∧
    (∀ site ∈ argSites S D, ∀ pos, withoutVariableChecks (checkArguments S none pos site.args site.defs) = []) := by
  have R := rules_of_valid hv
  refine ⟨?_, ?_⟩
  · intro o ho site hs pos
    apply quiet_none_iff.mp
    have hmem := opArgSites_sub ho site hs
    apply argSite_quiet hS R admissible_none hmem (argSites_args_nodup R site hmem) _ pos
    exact usesOK_mono (fun s hs' => by simp at hs'; subst hs'; exact hs) (op_usesOK R ho)
  · intro site hs pos
    exact quiet_uv_iff.mpr (argSite_quiet hS R admissible_uv hs (argSites_args_nodup R site hs) (usesOK_uv S _) pos)

example : ∃ o ∈ opsOf c04Doc, ∃ site ∈ fieldArgSites c04Schema (opCtxs c04Schema c04Doc o), site.args.length = 2 := by
  decide +kernel

/-- C04, field lookup (5.3.1, 5.3.3): on a spec-valid document every field selected anywhere with the type `t` in
    scope is found among `direct_fields_of_output_type(t)` (no `FieldNotFound`), its type is defined (no
    `TypeSystemError`), and it has a sub-selection exactly when its type is composite (no `MustSpecifySelectionSet`,
    no `SelectionOnInvalidType`). -/
theorem C04_field_lookup_complete (S : Schema) (D : Doc) (hS : SchemaValid S) (hv : SpecValid S D) :
    ∀ t al name namePos args dirs sel, (some t, Selection.field al name namePos args dirs sel) ∈ allSels (allCtxs S D) →
      ∀ root fields, S.typeDef? t = some root → directFields root = some fields →
        ∃ fd, fields.find? (·.name == name) = some fd ∧ ∃ ft, S.typeDef? fd.ty.unwrapped = some ft ∧
          sel.isSome = (directFields ft).isSome := by
  intro t al name namePos args dirs sel hps root fields hroot hdf
  obtain ⟨fd, hfd, hrest⟩ := field_lookup_ok hS (rules_of_valid hv) hps
  exact ⟨fd, by rw [← fieldDef?_eq_find (schemaValid_noReserved hS) hroot hdf]; exact hfd, hrest⟩

/-- C04, the walk: on a spec-valid document (valid schema without empty unions) the walk `check_selection_set` of
    every operation — through fields, inline fragments and, by fuel, fragment spreads, with the operation's
    variables in scope — reports nothing. In particular the fuel is adequate: by 5.5.2.1 and 5.5.2.2 a spread
    fragment is defined and never on the stack, every push makes the number of fragments not on the stack strictly
    smaller, and the initial fuel exceeds that number, so neither the stack check nor the "fuel exhausted" branch
    (both `RecursingFragmentSpread`) is ever taken. -/
theorem C04_walk_complete (S : Schema) (D : Doc) (hS : SchemaValid S) (hNE : noEmptyUnionB S = true)
    (hv : SpecValid S D) :
    ∀ o ∈ opsOf D, ∀ root, S.typeDef? (S.rootName o.kind) = some root →
      checkSelectionSet S (spreadHandler S D (fuelFor D)) [] (some o.vars) root o.sel o.pos = [] :=
  fun _ ho _ hroot => op_walk_complete hS hNE (rules_of_valid hv) ho hroot

/-- C04, subscriptions (5.2.3.1): on a spec-valid document `selection_set_has_more_than_one_fields` is false for
    every subscription — the response keys it collects (through inline fragments and fragment spreads) are among
    those of the specification's `CollectFields`, of which there is exactly one. -/
theorem C04_subscription_complete (S : Schema) (D : Doc) (hv : SpecValid S D) :
    ∀ o ∈ opsOf D, o.kind = .subscription → hasMoreThanOneField D o.sel = false := by
  intro o ho hk
  have := op_subscription_complete (rules_of_valid hv) ho
  rw [hk] at this
  exact this

example : ∃ o ∈ opsOf c04Doc, o.kind = .subscription := by decide +kernel

/-- C04, variable definitions in full, under side condition (c): on a spec-valid document whose variable definitions
    are constant (no variable inside
    a default value or inside a directive of a variable definition — the grammar's `Value[Const]`,
    `Directives[Const]`), `check_variables_definition` reports nothing: names, types, directives and default
    values. -/
theorem C04_variable_definitions_complete (S : Schema) (D : Doc) (hS : SchemaValid S) (hNE : noEmptyUnionB S = true)
    (hv : SpecValid S D) (hconst : constVarDefsB D = true) :
    ∀ o ∈ opsOf D, checkVariablesAux S [] o.vars = [] :=
  fun _ ho => checkVariablesAux_complete hS (rules_of_valid hv) ho hconst

/-- C04, fragment definitions: on a spec-valid document `check_fragment_definition` reports nothing, whether or not
    `fragments_used_by_operations` contains the fragment — in particular the direct walk of a fragment no operation
    spreads (its own name on the stack, no variables in scope, `UnknownVariable` filtered) is silent. -/
theorem C04_fragment_definitions_complete (S : Schema) (D : Doc) (hS : SchemaValid S) (hNE : noEmptyUnionB S = true)
    (hv : SpecValid S D) :
    ∀ f ∈ fragsOf D, ∀ used, checkFragmentDefinition S D used f = [] :=
  fun _ hf used => checkFragmentDefinition_complete hS hNE (rules_of_valid hv) hf used

/-- C04, every definition: under the three side conditions the body of every definition (`check_operation` /
    `check_fragment_definition`) reports nothing. -/
theorem C04_no_false_alarm_bodies (S : Schema) (D : Doc) (hS : SchemaValid S) (hv : SpecValid S D)
    (hNE : noEmptyUnionB S = true) (hroots : rootsDefinedB S D = true) (hconst : constVarDefsB D = true) :
    ∀ d ∈ D, defBody S D d = [] :=
  defBody_complete hS hNE (rules_of_valid hv) hroots hconst

/-- **C04 (partial: three decidable side conditions).** `check` raises no diagnostic on a spec-valid document:
    for every valid schema `S` and every document `D` that is `SpecValid` (which takes a sufficient check for 5.3.2, so
    some documents valid under the specification — `mergeOk` of `Props/C03FieldMerge.lean` — are outside it;
    `C04_no_false_alarm_implemented_rules` below covers them), `checkOp S D = []` — provided
    (a) no union type of the schema is empty, (b) the schema has a root type for the kind of every operation of the
    document, (c) default values and directives of variable definitions contain no variables. Each of (a), (b), (c)
    is necessary (`C04_no_false_alarm_counterexample_*` below): `SchemaValid` / `SpecValid` as transcribed do not
    imply them, and the checker is (rightly) stricter. -/
theorem C04_no_false_alarm_partial (S : Schema) (D : Doc) (hS : SchemaValid S) (hv : SpecValid S D)
    (hNE : noEmptyUnionB S = true) (hroots : rootsDefinedB S D = true) (hconst : constVarDefsB D = true) :
    checkOp S D = [] :=
  checkOp_nil_of_implemented hS (fun r _ => holds_of_specValid hv r) hNE hroots hconst

/-- **C04, from the implemented rules alone.** The checker is silent on every document that satisfies the 25 rules
    nitrogql implements (`ImplementedRules`) — the four further rules of `SpecValid` (5.2.3.1b no introspection root
    field in a subscription, 5.3.2 field merging, 5.5.1.4 fragments must be used, 5.8.4 variables must be used) are
    not needed; same three side conditions. Together with C03 this characterises acceptance exactly
    (`Props/C04Exact.lean`). -/
theorem C04_no_false_alarm_implemented_rules (S : Schema) (D : Doc) (hS : SchemaValid S)
    (h : ∀ r ∈ ImplementedRules, Holds r S D)
    (hNE : noEmptyUnionB S = true) (hroots : rootsDefinedB S D = true) (hconst : constVarDefsB D = true) :
    checkOp S D = [] :=
  checkOp_nil_of_implemented hS h hNE hroots hconst

/-- a spec-valid document satisfies the implemented rules, so the hypothesis above is satisfiable by the witness -/
example (S : Schema) (D : Doc) (hv : SpecValid S D) : ∀ r ∈ ImplementedRules, Holds r S D :=
  fun r _ => holds_of_specValid hv r

/-- the model accepts the witness document (as the theorem says) -/
example : checkOp c04Schema c04Doc = [] := by decide +kernel

/-! ### the statement without side conditions is false of the model -/

def cexScalars : List TsItem := [
  .typeDef { kind := .scalar, name := "Int" }, .typeDef { kind := .scalar, name := "Float" },
  .typeDef { kind := .scalar, name := "String" }, .typeDef { kind := .scalar, name := "Boolean" },
  .typeDef { kind := .scalar, name := "ID" }]

/-- `union U =` (no members; the nitrogql grammar and schema check accept it), `type Query { u: U }` -/
def cexSchemaEmptyUnion : Schema := ⟨cexScalars ++ [
  .typeDef { kind := .union, name := "U" },
  .typeDef { kind := .object, name := "Query", fields := [{ name := "u", ty := .named "U" {} }] }]⟩
/-- `{ u { ... on U { __typename } } }` -/
def cexDocEmptyUnion : Doc := [
  .op { kind := .query,
        sel := [.field none "u" {} [] [] (some [.inline (some ("U", {})) [] [.field none "__typename" {} [] [] none] {}])] }]

/-- (a) is necessary: narrowing an EMPTY union to itself is accepted by the reference validator ("a type always
    overlaps itself") but reported by the checker (`FragmentConditionNeverMatches`: no common member). -/
theorem C04_no_false_alarm_counterexample_empty_union :
    SchemaValid cexSchemaEmptyUnion ∧ SpecValid cexSchemaEmptyUnion cexDocEmptyUnion ∧
    rootsDefinedB cexSchemaEmptyUnion cexDocEmptyUnion = true ∧ constVarDefsB cexDocEmptyUnion = true ∧
    checkOp cexSchemaEmptyUnion cexDocEmptyUnion = [(ErrKind.FragmentConditionNeverMatches, {})] := by decide +kernel

/-- `schema { query: Query }  type Query { a: Int }  type Mutation { a: Int }` -/
def cexSchemaNoRoot : Schema := ⟨cexScalars ++ [
  .schemaDef { roots := [(.query, "Query", {})] },
  .typeDef { kind := .object, name := "Query", fields := [{ name := "a", ty := .named "Int" {} }] },
  .typeDef { kind := .object, name := "Mutation", fields := [{ name := "a", ty := .named "Int" {} }] }]⟩
/-- `mutation { a }` -/
def cexDocNoRoot : Doc := [.op { kind := .mutation, sel := [.field none "a" {} [] [] none] }]

/-- (b) is necessary: an explicit `schema { query: Query }` declares no mutation root; the reference validator
    (October 2021 rules: no "operation type existence" rule, root type names defaulted) validates `mutation { a }`
    against the type named `Mutation`, the checker reports `NoRootType`. -/
theorem C04_no_false_alarm_counterexample_no_root :
    SchemaValid cexSchemaNoRoot ∧ SpecValid cexSchemaNoRoot cexDocNoRoot ∧
    noEmptyUnionB cexSchemaNoRoot = true ∧ constVarDefsB cexDocNoRoot = true ∧
    checkOp cexSchemaNoRoot cexDocNoRoot = [(ErrKind.NoRootType, {})] := by decide +kernel

/-- `type Query { f(x: Int): Int }` -/
def cexSchemaConst : Schema := ⟨cexScalars ++ [
  .typeDef { kind := .object, name := "Query",
             fields := [{ name := "f", args := [{ name := "x", ty := .named "Int" {} }], ty := .named "Int" {} }] }]⟩
/-- `query ($a: Int = $a) { f(x: $a) }` -/
def cexDocConst : Doc := [
  .op { kind := .query, vars := [{ name := "a", ty := .named "Int" {}, default := some (.var "a" {}) }],
        sel := [.field none "f" {} [("x", {}, .var "a" {})] [] none] }]

/-- (c) is necessary: a variable as a default value is excluded by the grammar (`Value[Const]`), not by a validation
    rule, and the abstract syntax (like the nitrogql parser) admits it; the checker reports `UnknownVariable`. -/
theorem C04_no_false_alarm_counterexample_nonconst_default :
    SchemaValid cexSchemaConst ∧ SpecValid cexSchemaConst cexDocConst ∧
    noEmptyUnionB cexSchemaConst = true ∧ rootsDefinedB cexSchemaConst cexDocConst = true ∧
    checkOp cexSchemaConst cexDocConst = [(ErrKind.UnknownVariable, {})] := by decide +kernel

/-- the unconditional statement `SchemaValid S → SpecValid S D → checkOp S D = []` is false of the model -/
theorem C04_no_false_alarm_unconditional_false :
    ¬ ∀ (S : Schema) (D : Doc), SchemaValid S → SpecValid S D → checkOp S D = [] := by
  intro h
  have h1 := C04_no_false_alarm_counterexample_no_root
  have := h cexSchemaNoRoot cexDocNoRoot h1.1 h1.2.1
  rw [h1.2.2.2.2] at this
  cases this

/-
Status of the statement `C04_no_false_alarm` of DESIGN.md §4 and MANIFEST.json

  theorem C04_no_false_alarm : SchemaValid S → SpecValid S D → checkOp S D = []

It is FALSE of the model as stated (`C04_no_false_alarm_unconditional_false`). What is proved, for all schemas and
documents, is `C04_no_false_alarm_partial` (and `C04_no_false_alarm_implemented_rules`; with C03,
`C04_C03_exact` in Props/C04Exact.lean, which additionally assumes `Doc.NonEmptySelections D`): the same conclusion
under the decidable side conditions (a) `noEmptyUnionB S`, (b) `rootsDefinedB S D`, (c) `constVarDefsB D`, each shown
necessary by a witness. Apart from these side conditions no part of the completeness direction of the MODEL is left
to K/O: every component of `checkOp` has its completeness theorem above (`checkValue` never meets an output-kind type:
`SchemaValid` makes argument and input-field types input types, 5.8.2 the variable types — `C04_values_complete`).

OPEN — carried by K/O only (not by proof):
* the model is the Rust code (K), `Model/IntLit.lean` = Rust's `str::parse::<i32>` included;
* (a): schemas accepted by the real schema check need not satisfy it (`union U =` is accepted by grammar and
  `check_union`), so it is an assumption on the schema (design-notes/C04.md);
* (b): an assumption on schema + document (the October-2021 rules transcribed in `SpecValid` have no "operation
  type existence" rule); the real checker's `NoRootType` on inputs violating it is taken as intended;
* (c): the nitrogql parser does NOT enforce it (it parses `query ($a: Int = $a)`); the real checker's
  `UnknownVariable` on such documents is taken as intended;
* `SpecValid` is the trusted transcription; its 5.3.2 member is a sufficient check, stronger than the specification;
* `#import` resolution and the `nitrogql check` command are not modelled (import stream and CLI leg of K/O; the open
  finding `O:cli:import-file-not-found@dotdot-globs` of known-findings.txt lives there).
-/

end NitroVerif.CheckOp
