import NitroVerif.Lemmas.AstSchema
import NitroVerif.Lemmas.SchemaIR
import NitroVerif.Lemmas.Introspect
import NitroVerif.Lemmas.Routes
import NitroVerif.Model.CliSchema
import NitroVerif.Spec.IntrospectSpec
/-!
# C15 — introspection JSON and SDL descriptions of a schema give the same results

Property theorems only. Models: `Model/Introspect.lean` (introspection.rs), `Model/AstSchema.lean`
(ast_to_type_system.rs, type_system_to_ast.rs), `Model/CliSchema.lean` (the two routes of crates/cli), tied to the
code by `harness/src/bin/c15.rs`. Specification: `Spec/IntrospectSpec.lean`.
`≃` (`SchemaIR.Equiv`) is defined in `Model/SchemaIR.lean`.  What is not proved, for this module and for
`Props/C15Concrete.lean` and `Props/C15Resolvers.lean`, is listed once in the OPEN block at the end of this file.
-/
namespace NitroVerif.C15
open NitroVerif NitroVerif.SchemaIR NitroVerif.AstSchema

/-! `≃` is an equivalence relation. -/

theorem equiv_refl (a : Schema) : a ≃ a := Equiv.refl a
theorem equiv_symm {a b : Schema} (h : a ≃ b) : b ≃ a := h.symm
theorem equiv_trans {a b c : Schema} (h₁ : a ≃ b) (h₂ : b ≃ c) : a ≃ c := h₁.trans h₂

/-- `≃` is exactly "the lookup interface (type by name, directive by name, root type of an operation kind, is-implementer)
    answers the same after erasing descriptions, deprecation reasons and default-value texts" -/
theorem equiv_is_lookup_equality (a b : Schema) : a ≃ b ↔ lookupOf a = lookupOf b := equiv_iff_lookup a b

/-- A congruence: `checkOp` is an ARBITRARY function of the lookup interface, so the content is in `C15_schema_eq` (the two
    routes build `≃` schemas) and, for the models of the real checker and printers, in `Props/C15Concrete.lean`.
    Any checker that reads the schema only through the lookup interface returns the same diagnostics for two `≃`
    schemas — in particular it accepts (`= []`) the same operation documents. -/
theorem C15_check_eq {Doc Err : Type} (checkOp : Lookup → Doc → List Err) {s₁ s₂ : Schema} (h : s₁ ≃ s₂) (D : Doc) :
    checkOp (lookupOf s₁) D = checkOp (lookupOf s₂) D := by
  rw [(equiv_iff_lookup s₁ s₂).1 h]

/-- consequence for the verdict (a congruence like `C15_check_eq`) -/
theorem C15_check_verdict_eq {Doc Err : Type} (checkOp : Lookup → Doc → List Err) {s₁ s₂ : Schema} (h : s₁ ≃ s₂)
    (D : Doc) : checkOp (lookupOf s₁) D = [] ↔ checkOp (lookupOf s₂) D = [] := by
  rw [C15_check_eq checkOp h D]

/-- A congruence like `C15_check_eq`: `decls` is an arbitrary function of the lookup interface.
    Any declaration generator (schema, resolver or operation types) that reads the schema only through the lookup
    interface emits, for every alias name `a`, the same declaration for two `≃` schemas. -/
theorem C15_types_eq {Cfg Doc Decl : Type} (decls : Cfg → Lookup → Doc → String → Option Decl) {s₁ s₂ : Schema}
    (h : s₁ ≃ s₂) (c : Cfg) (D : Doc) (a : String) : decls c (lookupOf s₁) D a = decls c (lookupOf s₂) D a := by
  rw [(equiv_iff_lookup s₁ s₂).1 h]

/-- `ast_to_type_system ∘ type_system_to_ast` keeps a well-formed schema up to `≃`, EXCEPT that the directive
    definitions are gone (`type_system_to_ast` emits none) and the root-types node is no longer a parsed position.
    (What `≃` already ignores and the round trip also loses: deprecations, default-value literals — replaced by
    `null` —, positions.) -/
theorem C15_ast_roundtrip (s : Schema) (h : WellFormed s) :
    astToSchema (schemaToAst s) ≃ { s with directives := [], explicitRoots := false } :=
  astToSchema_schemaToAst_equiv s h

/-- the hypothesis of `C15_ast_roundtrip` is satisfiable by a non-trivial schema -/
example : WellFormed
    { types := [{ kind := .object, name := "Query", fields := [{ name := "a", ty := .named "Int", deprecation := some "x" }] },
                { kind := .scalar, name := "Int" }],
      roots := { query := some "Query" } } :=
  ⟨by decide, by decide⟩

/-- The reader inverts the specification's renderer: for EVERY schema value with a query root (arbitrary names,
    descriptions, nesting depth of list / non-null types, arguments, deprecations, directive definitions), reading its
    introspection result (spec §4 encoding, every optional key present) succeeds and returns `Introspect.readBack s` —
    the schema itself with the components outside a definition's kind emptied (`cleanType`), the first definition of a
    repeated type / directive name kept and the position bit `explicitRoots` false (`= s` up to that bit when `s` is
    well-formed with distinct directive names: `C15_reader_identity`): no field, argument, interface, enum value, input
    field, `ofType` level, `isDeprecated`/`deprecationReason`, `isRepeatable`, default-value string or root name is lost
    or invented.  Nothing is stated about JSON that is not such a rendering (K only). -/
theorem C15_reader_inverts_renderer (s : Schema) (url : String → Option String) (q : String)
    (hq : s.roots.query = some q) :
    Introspect.fromIntrospection (IntrospectSpec.encode s url) = .ok (Introspect.readBack s) :=
  Introspect.fromIntrospection_encode s url q hq

/-- … in particular on the introspection result of a type-system document `M` whose query root exists -/
theorem C15_schema_eq_reader (M : Gql.TsDoc) (q : String) (hq : (IntrospectSpec.specRoots M).query = some q) :
    Introspect.fromIntrospection (IntrospectSpec.introspectSpec M) = .ok (Introspect.readBack (IntrospectSpec.specSchema M)) :=
  Introspect.fromIntrospection_encode _ _ q hq

/-- the hypothesis is satisfiable: a document with a `Query` object type and no schema definition -/
example : (IntrospectSpec.specRoots
    [.typeDef { kind := .object, name := "Query", fields := [{ name := "a", ty := .named "Int" {} }] }]).query = some "Query" := by
  decide

/-- On a well-formed schema value the reader returns it unchanged up to the position bit. -/
theorem C15_reader_identity (s : Schema) (url : String → Option String) (q : String) (hq : s.roots.query = some q)
    (h : WellFormed s) (hd : (s.directives.map (·.name)).Nodup) :
    Introspect.fromIntrospection (IntrospectSpec.encode s url) = .ok { s with explicitRoots := false } := by
  rw [C15_reader_inverts_renderer s url q hq]
  have hc : s.types.map cleanType = s.types := by
    conv => rhs; rw [← List.map_id s.types]
    exact List.map_congr_left fun t ht => by simpa using h.clean t ht
  simp only [Introspect.readBack, hc, extendTypes_nil_nodup _ h.nodup, extendDirectives_nil_nodup _ hd]

/-- Root operation types that an introspection result declares are not replaced by the default names: with
    `mutationType: null` a mutation has NO root type even if a type named `Mutation` exists (repaired behaviour;
    `fix: root operation types declared by an introspection result are explicit`). -/
theorem C15_declared_roots_no_default (s : Schema) (h : s.roots.query.isSome = true) (k : OpK) :
    s.rootName k = s.roots.get k := by
  simp [Schema.rootName, Schema.rootsDeclared, h]

/-- After the repair of `extend_loaded_schema`, every built-in scalar is defined on the JSON route, whether or not the
    introspection result lists it. -/
theorem C15_builtin_scalars_defined (s : Schema) (n : String) (hn : n ∈ ["Int", "Float", "String", "Boolean", "ID"]) :
    ((CliSchema.addBuiltinScalars s).typeDef? n).isSome = true := by
  unfold Schema.typeDef? CliSchema.addBuiltinScalars
  rw [find?_extendTypes, List.find?_append, Routes.builtin_find n hn]
  cases s.types.find? (·.name == n) <;> rfl

/-- The executable check the driver uses (`equivB`: compares the lookups on the names occurring in either schema)
    decides `≃`. -/
theorem equivB_iff (a b : Schema) : equivB a b = true ↔ a ≃ b := SchemaIR.equivB_iff a b

/-! ### the two routes, lookup by lookup (`Routes.jsonSide M` = the JSON route's schema for `introspectSpec M`) -/

/-- `typeDef?`: for every name that does not start with `__`, both routes find a definition or both find none, of the
    same kind, with the same fields (names, types, arguments with their types and "has a default"), enum values, input
    fields, union members and interface list — up to descriptions / deprecation reasons / default texts. No hypothesis
    on `M`. -/
theorem C15_schema_eq_typeDef (M : Gql.TsDoc) (n : String) (hn : isIntrospectionName n = false) :
    ((Routes.jsonSide M).typeDef? n).map eraseType = ((CliSchema.routeSdl M).typeDef? n).map eraseType := by
  have := Routes.viewType_routes M n
  simpa [viewType, hn] using this

/-- `fieldsOf` (fields with their arguments) of a type name, on both routes -/
theorem C15_schema_eq_fieldsOf (M : Gql.TsDoc) (n : String) (hn : isIntrospectionName n = false) :
    ((Routes.jsonSide M).fieldsOf n).map eraseField = ((CliSchema.routeSdl M).fieldsOf n).map eraseField := by
  have h := C15_schema_eq_typeDef M n hn
  simp only [Schema.fieldsOf]
  cases hj : (Routes.jsonSide M).typeDef? n <;> cases hs : (CliSchema.routeSdl M).typeDef? n <;>
    simp [hj, hs] at h ⊢
  exact congrArg ITypeDef.fields h

/-- enum values and input fields of a type name, on both routes -/
theorem C15_schema_eq_members_inputs (M : Gql.TsDoc) (n : String) (hn : isIntrospectionName n = false) :
    ((Routes.jsonSide M).typeDef? n).map (fun t => (t.members.map eraseMember, t.inputs.map eraseIV))
      = ((CliSchema.routeSdl M).typeDef? n).map (fun t => (t.members.map eraseMember, t.inputs.map eraseIV)) := by
  have h := C15_schema_eq_typeDef M n hn
  cases hj : (Routes.jsonSide M).typeDef? n <;> cases hs : (CliSchema.routeSdl M).typeDef? n <;>
    simp [hj, hs] at h ⊢
  exact ⟨congrArg ITypeDef.members h, congrArg ITypeDef.inputs h⟩

/-- implementers of an interface: the same list, in the same order, when type names are distinct -/
theorem C15_schema_eq_implementers (M : Gql.TsDoc) (h : ((IntrospectSpec.userTypes M).map (·.name)).Nodup) (i : String) :
    (Routes.jsonSide M).objectImplementers i = (CliSchema.routeSdl M).objectImplementers i :=
  Routes.objectImplementers_routes M h i

/-- `possibleTypes` of a composite type name, on both routes -/
theorem C15_schema_eq_possibleTypes (M : Gql.TsDoc) (h : ((IntrospectSpec.userTypes M).map (·.name)).Nodup) (n : String)
    (hn : isIntrospectionName n = false) :
    (Routes.jsonSide M).possibleTypes n = (CliSchema.routeSdl M).possibleTypes n := by
  have ht := C15_schema_eq_typeDef M n hn
  simp only [Schema.possibleTypes, C15_schema_eq_implementers M h]
  cases hj : (Routes.jsonSide M).typeDef? n <;> cases hs : (CliSchema.routeSdl M).typeDef? n <;>
    simp [hj, hs] at ht ⊢
  rename_i a b
  have hk0 : (eraseType a).kind = (eraseType b).kind := congrArg ITypeDef.kind ht
  have hn0 : (eraseType a).name = (eraseType b).name := congrArg ITypeDef.name ht
  have hp0 : (eraseType a).possible = (eraseType b).possible := congrArg ITypeDef.possible ht
  have hk : a.kind = b.kind := hk0
  have hname : a.name = b.name := hn0
  have hp : a.possible = b.possible := hp0
  rw [hk, hname, hp]

/-- `directiveDef?`: the same definition (locations, arguments, repeatability) on both routes for every directive name
    except the nitrogql-only `@nitrogql_ts_type`, provided `M` does not redefine a built-in directive -/
theorem C15_schema_eq_directiveDef (M : Gql.TsDoc)
    (hd : ∀ d ∈ IntrospectSpec.userDirectives M, d.name ∉ Routes.builtinDirectiveNames) (n : String) :
    viewDirective (Routes.jsonSide M) n = viewDirective (CliSchema.routeSdl M) n :=
  Routes.viewDirective_routes M hd n

/-- `rootName`: an operation kind is checked against the same root type definition on both routes, or rejected on both -/
theorem C15_schema_eq_rootName (M : Gql.TsDoc) (h : Routes.ValidResolved M) (k : OpK) :
    viewRoot (Routes.jsonSide M) k = viewRoot (CliSchema.routeSdl M) k :=
  (Routes.routes_equiv M h).roots k

/-- **The whole JSON route equals the SDL route on the lookup interface.** For every valid resolved type-system
    document `M`: reading the spec's introspection result of `M` the way the CLI does (reader + the five built-in
    scalars) succeeds, and the schema obtained is `≃` the schema the CLI builds from the SDL (`M` + built-ins through
    `ast_to_type_system`). -/
theorem C15_schema_eq (M : Gql.TsDoc) (h : Routes.ValidResolved M) :
    ∃ s, CliSchema.routeJson (IntrospectSpec.introspectSpec M) = .ok s ∧ s ≃ CliSchema.routeSdl M := by
  obtain ⟨q, hq⟩ := Option.isSome_iff_exists.mp h.query
  exact ⟨Routes.jsonSide M, Routes.routeJson_spec M q hq, Routes.routes_equiv M h⟩

/-- the hypotheses are satisfiable by a non-trivial document: explicit schema definition without mutation, a decoy
    type `Mutation`, an interface chain, a union, an enum with a deprecated value, an input object, a custom directive -/
example : Routes.ValidResolved
    [ .schemaDef { roots := [(.query, "Q", {})] },
      .typeDef { kind := .interface, name := "Node", fields := [{ name := "id", ty := .nonNull (.named "ID" {}) }] },
      .typeDef { kind := .interface, name := "Ent", implements := [("Node", {})],
                 fields := [{ name := "id", ty := .nonNull (.named "ID" {}) }] },
      .typeDef { kind := .object, name := "U", implements := [("Ent", {}), ("Node", {})],
                 fields := [{ name := "id", ty := .nonNull (.named "ID" {}) }] },
      .typeDef { kind := .object, name := "Q",
                 fields := [{ name := "n", ty := .named "Node" {},
                              args := [{ name := "f", ty := .named "In" {}, default := some (.null {}) }] }] },
      .typeDef { kind := .object, name := "Mutation", fields := [{ name := "x", ty := .named "Int" {} }] },
      .typeDef { kind := .union, name := "S", members := [("U", {}), ("Q", {})] },
      .typeDef { kind := .enum, name := "E", values := [{ name := "A", dirs := [{ name := "deprecated" }] }, { name := "B" }] },
      .typeDef { kind := .input, name := "In", inputs := [{ name := "e", ty := .list (.named "E" {}) {} }] },
      .directiveDef { name := "tag", repeatable := true, locations := ["FIELD"] } ] :=
  ⟨by decide +kernel, by decide +kernel, by decide +kernel, by decide +kernel, by decide +kernel⟩

/-- **Corollary (check)** of `C15_schema_eq` by the congruence `C15_check_eq`; for the model of the real checker see
    `C15_checkOp_routes_eq` (`Props/C15Concrete.lean`). Any checker that reads the schema only through the lookup interface returns the same
    diagnostics — hence the same verdict — for every operation document on the two routes of a valid `M`. -/
theorem C15_routes_agree_check {Doc Err : Type} (checkOp : Lookup → Doc → List Err) (M : Gql.TsDoc)
    (h : Routes.ValidResolved M) :
    ∃ s, CliSchema.routeJson (IntrospectSpec.introspectSpec M) = .ok s ∧
      ∀ D, checkOp (lookupOf s) D = checkOp (lookupOf (CliSchema.routeSdl M)) D := by
  obtain ⟨s, hs, he⟩ := C15_schema_eq M h
  exact ⟨s, hs, fun D => C15_check_eq checkOp he D⟩

/-- **Corollary (generate)** of `C15_schema_eq` by the congruence `C15_types_eq`; for the models of the real printers see
    `C15_opDecls_routes_eq`, `C15_schemaDecls_routes_eq` (`Props/C15Concrete.lean`). Any declaration generator that reads the schema only through the lookup interface emits the
    same declaration for every alias name, configuration and operation document on the two routes of a valid `M`. -/
theorem C15_routes_agree_types {Cfg Doc Decl : Type} (decls : Cfg → Lookup → Doc → String → Option Decl) (M : Gql.TsDoc)
    (h : Routes.ValidResolved M) :
    ∃ s, CliSchema.routeJson (IntrospectSpec.introspectSpec M) = .ok s ∧
      ∀ c D a, decls c (lookupOf s) D a = decls c (lookupOf (CliSchema.routeSdl M)) D a := by
  obtain ⟨s, hs, he⟩ := C15_schema_eq M h
  exact ⟨s, hs, fun c D a => C15_types_eq decls he c D a⟩

/-- `C15_routes_agree`: both corollaries together -/
theorem C15_routes_agree {Cfg Doc Err Decl : Type} (checkOp : Lookup → Doc → List Err)
    (decls : Cfg → Lookup → Doc → String → Option Decl) (M : Gql.TsDoc) (h : Routes.ValidResolved M) :
    ∃ s, CliSchema.routeJson (IntrospectSpec.introspectSpec M) = .ok s ∧
      (∀ D, checkOp (lookupOf s) D = [] ↔ checkOp (lookupOf (CliSchema.routeSdl M)) D = []) ∧
      (∀ c D a, decls c (lookupOf s) D a = decls c (lookupOf (CliSchema.routeSdl M)) D a) := by
  obtain ⟨s, hs, he⟩ := C15_schema_eq M h
  exact ⟨s, hs, fun D => C15_check_verdict_eq checkOp he D, fun c D a => C15_types_eq decls he c D a⟩

/-!
## The concrete consumers: `Props/C15Concrete.lean` and `Props/C15Resolvers.lean`

The theorems above keep the checker and the generator ABSTRACT (any function `Lookup → …`).  Their hypothesis ("reads the
schema only through the lookup interface") is PROVED for the executable models of the real consumers, which read a schema
through the document view `Gql.Schema`, and the route equality is stated for them directly: operation checker, operation
type printer and schema declaration printer in `Props/C15Concrete.lean`, the resolvers file and the whole-file statements
of the schema declaration file in `Props/C15Resolvers.lean`.  The documented exemptions and the conditions `docOk`, closed
references, `ScalarsConfigured`, `RootKindsDistinct` are each shown necessary by a kernel-checked witness
(`…_counterexample`); the conditions of `ValidResolved`, the parsed position, "no `__*` root / type names" and
`UserNotBuiltin` are hypotheses that are NOT shown necessary.  The closed forms take the SDL route's document as
`M ++ builtins`; the pipeline's regrouping of it by `resolve_schema_extensions` is a permutation, and for EVERY
permutation the two files are equivalent up to order (`C15_sdl_route_any_order`, via `C17_resolvers_perm` /
`C17_decls_perm`).

## OPEN — carried by K/O only

* That the MODELS `CheckOp` / `OpTypes` / `SchemaDecls` / `ResolverDecls` are the real `check_operation_document` /
  printers is the K evidence of C03/C04, C01/C02 and C10 (on SDL inputs only); on the JSON route C15's own O stream
  compares the real CLI on the two routes.  In particular `CheckOp.checkOperation` tests "the schema definition has a
  parsed position" where the real code (since 4dcb71b) tests "parsed position OR some root type is set"; the two coincide
  on parsed documents, and `Bridge.ofIR` (not literally `type_system_to_ast`) marks the schema definition of a schema
  VALUE as parsed exactly when root types are declared (`Bridge.sees_ofIR`).
* Argument-description JSDoc inside the resolvers file (the model is the print→parse normal form, comments dropped),
  diagnostic MESSAGE texts (the checker model yields kind + position), exit codes and the set of files written: O only.
* WHICH permutation `resolve_schema_extensions` applies to the SDL route's definitions is C11's model (every permutation
  is covered by `C15_sdl_route_any_order`).
* The reader model `Introspect.fromIntrospection` on JSON that is NOT `IntrospectSpec.encode` of a schema value with a
  query root (optional keys absent, other key orders, unknown / repeated keys, omitted built-in scalars or `__*` types,
  damaged JSON), and the JSON text → tree step: no theorem; K streams `read`, `read-damaged`,
  `route-json-omitted-builtins`, `route-json-order-cli`.
* That a document accepted by the type-system checker satisfies `ValidResolved` / `ValidParsed` / `UserNotBuiltin` /
  `RootKindsDistinct`: not derived anywhere (hypotheses; `RootKindsDistinct` is in fact not enforced by the checker model).
* Diagnostics of documents outside the exemptions (`docOk`) and of schemas with unresolved references
  (`TypeSystemError` positions point into the schema source on the SDL route only — witness
  `C15_checkOp_unresolved_reference_counterexample`): the routes really differ there.

`routeSdl M = astToSchema (M ++ builtins)` places the built-ins after `M`, as `extend_loaded_schema` does; the real
pipeline then regroups the definitions in `resolve_schema_extensions` (C11). `≃` does not depend on that order; the K
stream `route-sdl` compares modulo it.
-/

end NitroVerif.C15
