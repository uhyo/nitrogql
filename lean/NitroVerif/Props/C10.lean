/-
C10 — schema and resolver declaration files describe exactly the schema.

Theorems about the models `Model/SchemaDecls.lean`, `Model/ResolverDecls.lean`, `Model/JsDoc.lean`,
`Model/DeclCfg.lean` (tied to the Rust printers by the K stream of `harness/src/bin/c10.rs`), under the
TypeScript-subset semantics `Ts/Sem.lean` + `Lemmas/TsSem.lean` (`Mem`; trusted base).
-/
import NitroVerif.Model.SchemaDecls
import NitroVerif.Model.ResolverDecls
import NitroVerif.Spec.RefTypes
import NitroVerif.Lemmas.TsSem
import NitroVerif.Lemmas.TsSemSound
import NitroVerif.Lemmas.JsDoc
import NitroVerif.Lemmas.DeclsClosedTable
import NitroVerif.Lemmas.DeclsClosedExact
namespace NitroVerif.Props.C10
open NitroVerif.ResolverDecls
open NitroVerif.Gql NitroVerif.Ts NitroVerif.DeclCfg NitroVerif.SchemaDecls NitroVerif.RefTypes

variable {e : Env}

/-- The membership procedure the O streams evaluate (`ts.mem`, `ts.table`) is sound for the relation the theorems
    are stated in: if it accepts `v` for the type `t` written in namespace `scope`, then `v` is a member. -/
theorem membership_procedure_sound (scope : Scope) (n : Nat) (v : J) (t : Ty)
    (h : memFuel e scope n v t = true) : Mem e v (globalise e.decls scope [] t) :=
  memFuel_sound scope n v t h

/-- non-null part: a value belongs to the TypeScript type emitted for the non-null part of a GraphQL type
    position iff it has the list / element structure of that position (all nesting depths). -/
theorem ts_core_conf (leaf : Name → Ty) (ro : Bool) (ty : GType) :
    ∀ v, Mem e v (tsCore leaf ro ty) ↔ ConfCore (fun n x => Mem e x (leaf n)) ty v :=
  mem_tsCore_iff leaf ro ty

/-- THE WRAPPER LEMMA. For every GraphQL type position (any nesting of `[…]` and `!`), the values of the emitted
    TypeScript type `get_ts_type_of_type(ty)` are exactly: `null` iff the position is nullable, otherwise arrays
    of conforming elements / the named type's values — whatever the named types denote (`leaf`), for mutable and
    readonly arrays alike. -/
theorem ts_conf (leaf : Name → Ty) (ro : Bool) (ty : GType) (v : J) :
    Mem e v (tsOf leaf ro ty) ↔ Conf (fun n x => Mem e x (leaf n)) ty v :=
  mem_tsOf_iff leaf ro ty v


/-! ### alias exactness, per kind

The alias bodies refer to other schema types through a leaf function `L` (the model uses `Ctx.leaf`: a reference
to the type's LOCAL name). Exactness of a body is proved for EVERY interpretation of those references: if the
reference to each named type `n` denotes the set `R n` (hypothesis `hL`), then the body of an enum / object / input
object / interface / union alias denotes exactly what the statement says, with `R` at the leaves. The closed forms
(`Props/C10Closed.lean`) discharge `hL` on the generated file itself. -/

/-- `ts_union` / the printed form of `TSType::Union`: membership is membership in some member. -/
theorem tsUnion_mem (ts : List Ty) (v : J) : Mem e v (tsUnion ts) ↔ ∃ t ∈ ts, Mem e v t :=
  mem_tsUnion_iff ts v

/-- ENUMS: the alias of an enum type admits exactly the string literals of its values. -/
theorem C10_alias_exact_enum (td : TypeDef) (v : J) :
    Mem e v (enumBody td) ↔ ∃ x ∈ td.values, v = .str x.name :=
  mem_enumBody_iff td v

/-- INTERFACES and UNIONS: the alias admits exactly the union of what the references to the listed possible
    object types admit (`names` = `interface_implementers` resp. the union's members). -/
theorem C10_alias_exact_members (L : Name → Ty) (R : Name → J → Prop) (hL : ∀ n v, Mem e v (L n) ↔ R n v)
    (names : List Name) (v : J) :
    Mem e v (membersBodyL L names) ↔ ∃ n ∈ names, R n v :=
  mem_membersBodyL_iff L R names v fun n _ => hL n v

/-- `hL` as an equation of functions: the sets the references denote are `R` -/
theorem leaf_ext (L : Name → Ty) (R : Name → J → Prop) (hL : ∀ n v, Mem e v (L n) ↔ R n v) :
    (fun n x => Mem e x (L n)) = R :=
  leaf_ext_iff L R hL

/-- OBJECTS: the alias admits exactly the records with `__typename` = the type's name and, for EVERY field, a
    value conforming wrapper-exactly to the field's type; no other key; no field may be omitted. -/
theorem C10_alias_exact_object (L : Name → Ty) (R : Name → J → Prop) (hL : ∀ n v, Mem e v (L n) ↔ R n v)
    (td : TypeDef) (v : J) :
    Mem e v (objectBodyL L td) ↔
      ∃ kvs, v = .obj kvs ∧
        RecordSpec (("__typename", false, fun x => x = .str td.name)
          :: td.fields.map fun f => (f.name, false, Conf R f.ty)) kvs :=
  mem_objectBodyL_iff L R hL td v

/-- a possibly-optional input position: (optional and omitted) or a member of the emitted type ⇔
    (optional and omitted) or conforming -/
theorem optField_exact (L : Name → Ty) (R : Name → J → Prop) (hL : ∀ n v, Mem e v (L n) ↔ R n v)
    (ro o : Bool) (ty : GType) (ho : o = true → ty.isNonNull = false) (x : J) :
    (¬ (o = true ∧ x = .absent) → Mem e x (optFieldTy L ro o ty)) ↔ ((o = true ∧ x = .absent) ∨ Conf R ty x) :=
  mem_optField_iff L R hL ro o ty ho x

/-- one field of an input object: `(inputFieldL L opt f).2.2.1` says whether the key may be omitted, `.2.2.2` is its type;
    the field may be omitted iff the option is on and its type is nullable, and a present value conforms to the type -/
theorem inputField_exact (L : Name → Ty) (R : Name → J → Prop) (hL : ∀ n v, Mem e v (L n) ↔ R n v)
    (opt : Bool) (f : InputValueDef) (x : J) :
    (¬ ((inputFieldL L opt f).2.2.1 = true ∧ x = .absent) → Mem e x (inputFieldL L opt f).2.2.2) ↔
      (((opt && !f.ty.isNonNull) = true ∧ x = .absent) ∨ Conf R f.ty x) :=
  mem_inputField_iff L R hL opt f x

/-- INPUT OBJECTS: the alias admits exactly the records with a conforming value for every field, where a field
    may be omitted iff its type is nullable AND `allowUndefinedAsOptionalInput` is on; no other key. -/
theorem C10_alias_exact_input (L : Name → Ty) (R : Name → J → Prop) (hL : ∀ n v, Mem e v (L n) ↔ R n v)
    (opt : Bool) (td : TypeDef) (v : J) :
    Mem e v (inputBodyL L opt td) ↔
      ∃ kvs, v = .obj kvs ∧
        RecordSpec (td.inputs.map fun f => (f.name, opt && !f.ty.isNonNull, Conf R f.ty)) kvs :=
  mem_inputBodyL_iff L R hL opt td v

example : ∃ v, Mem Env.empty v (inputBodyL (fun n => .ref n) true
    { kind := .input, name := "In", inputs := [{ name := "x", ty := .list (.named "Int" {}) {} }] }) :=
  ⟨.obj [], (C10_alias_exact_input (e := Env.empty) (fun n => .ref n) (fun n v => v = .atom n)
      (fun _ _ => mem_unresolved_ref_iff) true _ _).2 ⟨[], rfl, by simp [RecordSpec, J.get, GType.isNonNull]⟩⟩

/-- SCALARS: the alias body of a scalar is the configured TypeScript text for the namespace's target
    (`ScalarTypeConfig::get_type`), whatever put the entry into `x.scalarTypes`. -/
theorem C10_alias_exact_scalar (x : Ctx) (td : TypeDef) (sc : ScalarCfg) (hk : td.kind = .scalar)
    (hs : x.scalarTypes.find? (·.1 == td.name) = some (td.name, sc)) :
    body x td = .ok (some (x.cfg.parseOf (sc.getType x.target))) := by
  simp [body, hk, hs]

/-- FULL STATEMENT (false of the code in one corner — see `C10_rename_counterexample`; a second corner, shown on the model
    only, is `C10_namespace_capture_counterexample` in `Props/C10Closed.lean`):
      every identifier of every scalar TypeScript text resolves GLOBALLY in every namespace, and every generated
      reference to schema type U resolves to U's declaration.
    What makes it false: the fresh names `__tmp_<Name>` are not checked against the bag of identifiers, so a scalar
    text that itself mentions `__tmp_Foo` (next to `Foo`) is captured by the renamed declaration of `Foo`.
    PROVED PART (side condition: no identifier of a scalar text starts with `__tmp_`): the local name of a schema
    type is never an identifier of a scalar text, so no scalar-text identifier is bound by a generated declaration. -/
theorem C10_rename_sound_partial (bagIds : List String) (hbag : ∀ id ∈ bagIds, hasTmpPrefix id = false)
    (n : Name) : ¬ (localName bagIds n ∈ bagIds) :=
  localName_not_mem_bag bagIds hbag n

example : ∀ id ∈ ["Date", "string", "Foo"], hasTmpPrefix id = false := by decide +kernel

/-- the corner in which the full statement fails: text `Foo | __tmp_Foo` and a schema type `Foo` —
    the local name chosen for `Foo` is an identifier of the scalar text -/
theorem C10_rename_counterexample :
    localName (bag [("S", .single "Foo | __tmp_Foo")]) "Foo" ∈ bag [("S", .single "Foo | __tmp_Foo")] := by
  decide +kernel

/-- distinct schema types get distinct local names, provided no schema type name starts with `__tmp_`
    (GraphQL reserves names beginning with `__`; the schema check rejects them) -/
theorem localName_injective (bagIds : List String) (a b : Name)
    (ha : hasTmpPrefix a = false) (hb : hasTmpPrefix b = false)
    (h : localName bagIds a = localName bagIds b) : a = b :=
  localName_inj bagIds a b ha hb h

/-! ### closed form on the generated file: identifiers of scalar texts are global

The names bound by `type` statements, piece by piece of the printer (`names_exportType` … `names_namespaces`), and for the
whole file (`schemaFile_names`, which reads them off the file's declaration table). -/

theorem names_exportType (sn ln : String) (ty : Ty) (n : String)
    (h : n ∈ Stmt.typeNamesList (exportType sn ln ty)) : n = ln := by
  rw [typeNamesList_eq_decls _ [], decls_exportType] at h
  simpa using h

theorem names_exportRepresentative (sn ln : String) (t : Target) (n : String)
    (h : n ∈ Stmt.typeNamesList (exportRepresentative sn ln t)) : n = ln := by
  rw [typeNamesList_eq_decls _ [], decls_exportRepresentative] at h
  simpa using h

theorem names_descStmts (d : Option String) : Stmt.typeNamesList (descStmts d) = [] := by
  cases d <;> rfl

theorem names_printType (x : Ctx) (td : TypeDef) (ss : List Stmt) (h : printType x td = .ok ss) (n : String)
    (hn : n ∈ Stmt.typeNamesList ss) : n = x.local td.name := by
  have e : ss = okStmts (printType x td) := by rw [h]; rfl
  rw [e, typeNamesList_eq_decls _ [], decls_printType] at hn
  split at hn
  · simpa using hn
  · cases hn

theorem names_namespaceBody (x : Ctx) : ∀ (tds : List TypeDef) (ss : List Stmt), namespaceBody x tds = .ok ss →
    ∀ n, n ∈ Stmt.typeNamesList ss → ∃ td ∈ tds, n = x.local td.name := by
  intro tds ss h n hn
  rw [(namespaceBody_spec.1 h).2] at hn
  obtain ⟨td, htd, hn⟩ := typeNamesList_flatMap _ _ n hn
  obtain ⟨s1, h1⟩ := (namespaceBody_spec.1 h).1 td htd
  rw [h1] at hn
  exact ⟨td, htd, names_printType x td s1 h1 n hn⟩

theorem names_namespaces (c : Cfg) (doc : TsDoc) : ∀ (ts : List Target) (ss : List Stmt),
    namespaces c doc ts = .ok ss → ∀ n, n ∈ Stmt.typeNamesList ss →
      ∃ td ∈ typeDefsOf doc, n = localName (bag (scalarTypes c doc)) td.name := by
  intro ts ss h n hn
  rw [(namespaces_spec.1 h).2, List.map_eq_flatMap] at hn
  obtain ⟨t, ht, hn⟩ := typeNamesList_flatMap _ _ n hn
  obtain ⟨b, hb⟩ := (namespaces_spec.1 h).1 t ht
  simp only [Stmt.typeNamesList, Stmt.typeNames, List.append_nil, nsBody, ← (namespaceBody_spec.1 hb).2] at hn
  exact names_namespaceBody _ _ _ hb n hn

/-- Every `type` statement of the generated schema declaration file binds one of the three prelude names or the
    LOCAL name of a schema type. -/
theorem schemaFile_names (c : Cfg) (doc : TsDoc) (F : File) (hF : schemaFile c doc = .ok F) (n : String)
    (hn : n ∈ Stmt.typeNamesList F) :
    n ∈ ["__nitrogql_schema", "__Beautify", "__SelectionSet"] ∨
      ∃ td ∈ typeDefsOf doc, n = localName (bag (scalarTypes c doc)) td.name := by
  rw [typeNamesList_eq_decls F []] at hn
  obtain ⟨d, hd, rfl⟩ := List.mem_map.1 hn
  exact decl_name_cases hF d hd

/-- CLOSED FORM, first half of rename soundness, on the generated file itself: in the schema declaration file the
    model emits for ANY configuration and document, an identifier of a configured scalar TypeScript text is bound by
    NO declaration — from every namespace it resolves to nothing, i.e. it keeps its global TypeScript meaning and
    (in the semantics) denotes exactly its own atom. Side conditions: no scalar-text identifier starts with `__tmp_`
    (otherwise false: `C10_rename_counterexample`, open finding) and it is not one of the three prelude helper names. -/
theorem C10_scalar_idents_global (c : Cfg) (doc : TsDoc) (F : File) (hF : schemaFile c doc = .ok F)
    (hbag : ∀ i ∈ bag (scalarTypes c doc), hasTmpPrefix i = false)
    (id : String) (hid : id ∈ bag (scalarTypes c doc))
    (hpre : id ∉ ["__nitrogql_schema", "__Beautify", "__SelectionSet"]) (scope : Scope) (v : J) :
    (Decls.ofFile F).resolveRef scope id = none ∧
    (Mem (Env.ofFile F) v (globalise (Decls.ofFile F) scope [] (.ref id)) ↔ v = .atom id) := by
  have hnone : (Decls.ofFile F).resolveRef scope id = none := by
    apply resolveRef_none_of_unbound
    intro hn
    rcases schemaFile_names c doc F hF id hn with h | ⟨td, _, h⟩
    · exact hpre h
    · exact C10_rename_sound_partial _ hbag td.name (h ▸ hid)
  refine ⟨hnone, ?_⟩
  rw [globalise_ref_unbound hnone]
  exact mem_unresolved_ref_iff

/-- CLOSED FORM, second half of rename soundness, on the generated file itself: in the schema declaration file the
    model emits, inside the namespace of target `t` the LOCAL name of a schema type `td` that is printed for that
    target resolves to exactly the alias emitted for `td` in that namespace (its body is `td`'s body for `t`), and the
    generated reference `Ctx.leaf td.name` becomes the absolute reference to it. Hypotheses (guaranteed by the schema
    check): type names are distinct and none starts with `__tmp_`. -/
theorem C10_type_refs_resolve (c : Cfg) (doc : TsDoc) (F : File) (hF : schemaFile c doc = .ok F)
    (t : Target) (td : TypeDef) (ty : Ty) (hm : td ∈ typeDefsOf doc)
    (hb : body (Ctx.new c doc t) td = .ok (some ty))
    (hdistinct : ∀ a ∈ typeDefsOf doc, a.name = td.name → a = td)
    (hnames : ∀ a ∈ typeDefsOf doc, hasTmpPrefix a.name = false) :
    (Decls.ofFile F).findLocal [t.name] ((Ctx.new c doc t).local td.name)
      = some ⟨[t.name], (Ctx.new c doc t).local td.name, td.name == (Ctx.new c doc t).local td.name, [], ty⟩ ∧
    (Decls.ofFile F).resolveRef [t.name] ((Ctx.new c doc t).local td.name)
      = some ⟨[t.name], (Ctx.new c doc t).local td.name, td.name == (Ctx.new c doc t).local td.name, [], ty⟩ ∧
    globalise (Decls.ofFile F) [t.name] [] ((Ctx.new c doc t).leaf td.name)
      = Ty.abs [t.name] ((Ctx.new c doc t).local td.name) := by
  have hinj : ∀ a ∈ typeDefsOf doc,
      (Ctx.new c doc t).local a.name = (Ctx.new c doc t).local td.name → a = td := by
    intro a ha e
    exact hdistinct a ha (localName_injective _ _ _ (hnames a ha) (hnames td hm) e)
  have hfl : (Decls.ofFile F).findLocal [t.name] ((Ctx.new c doc t).local td.name)
      = some ⟨[t.name], (Ctx.new c doc t).local td.name, td.name == (Ctx.new c doc t).local td.name, [], ty⟩ := by
    rw [findLocal_eq, ofFile_types]
    exact find?_of_unique (alias_mem hF [] t hm hb) (by simp [isDeclAt, local_eq]) fun x hx hp => by
      simp only [isDeclAt, Bool.and_eq_true, beq_iff_eq] at hp
      exact alias_unique hF [] t hb hinj x hx hp.1 hp.2
  exact ⟨hfl, resolveRef_of_findLocal hfl, globalise_of_resolveRef (resolveRef_of_findLocal hfl)⟩

/-- END-TO-END for ENUMS on the generated file: inside the namespace of any target, the generated reference to an enum
    type of the document denotes exactly the string literals of its values (name resolution through the namespace,
    local renaming and the alias body included). It needs only distinct type names and no type name starting with
    `__tmp_`, not all of `DocOK`. -/
theorem C10_alias_exact_enum_closed (c : Cfg) (doc : TsDoc) (F : File) (hF : schemaFile c doc = .ok F)
    (t : Target) (td : TypeDef) (hm : td ∈ typeDefsOf doc) (hk : td.kind = .enum)
    (hdistinct : ∀ a ∈ typeDefsOf doc, a.name = td.name → a = td)
    (hnames : ∀ a ∈ typeDefsOf doc, hasTmpPrefix a.name = false) (v : J) :
    Mem (Env.ofFile F) v (globalise (Decls.ofFile F) [t.name] [] ((Ctx.new c doc t).leaf td.name))
      ↔ ∃ x ∈ td.values, v = .str x.name := by
  have hb : body (Ctx.new c doc t) td = .ok (some (enumBody td)) := by simp [body, hk]
  obtain ⟨hfl, _, hg⟩ := C10_type_refs_resolve c doc F hF t td _ hm hb hdistinct hnames
  rw [hg, Ty.abs, mem_alias_iff (body?_of_findLocal (Env.ofFile_decls F ▸ hfl)), globalise_enumBody]
  exact C10_alias_exact_enum td v

def rootFields : Ty → List Field
  | .obj fs => fs
  | _ => []

theorem mem_rootResolvers {s : Schema} {tds : List TypeDef} {f : Field} :
    f ∈ rootFields (rootResolvers s tds) ↔
      ∃ td ∈ tds, ∃ t, resolverType s td = some t ∧ f = (td.name, false, isEmptyObject t, t) := by
  refine List.mem_filterMap.trans (exists_congr fun td => and_congr_right fun _ => ?_)
  cases resolverType s td with
  | none => exact ⟨nofun, fun ⟨_, h, _⟩ => nomatch h⟩
  | some t => exact ⟨fun h => ⟨t, rfl, (Option.some.inj h).symm⟩, fun ⟨_, h, e⟩ => by cases h; rw [e]⟩

/-- RESOLVERS. In the `Resolvers<Context>` record (the resolvers file declares `Resolvers<Context>` as
    `rootResolvers ⟨doc⟩ (typeDefsOf doc)`: `ResolverDecls.decls_resolversFile`):
    (1) every object type `O` of the document has the entry `O: { f: __Resolver<O, Args, Context, Result>; … }` with one
        REQUIRED member per field `f`, where `Args` is the readonly record of `f`'s arguments typed through
        `Schema.__ResolverInput.*` and `Result` is `f`'s type through the file's local aliases — both built by the same
        `get_ts_type_of_type` wrapper construction as the schema declarations (so `ts_conf` applies to them);
    (2) every interface / union has the entry `{ __resolveType: __TypeResolver<P1 | … | Pn, Context, "P1" | … | "Pn"> }`
        over exactly `interface_implementers` resp. the union's members;
    (3) there is no other entry: every entry stems from an object, interface or union definition. -/
theorem C10_resolvers_exact (s : Schema) (tds : List TypeDef) :
    (∀ td ∈ tds, td.kind = .object →
      (td.name, false, isEmptyObject (.obj (td.fields.map fun f => (f.name, false, false, fieldResolver td.name f))),
        Ty.obj (td.fields.map fun f => (f.name, false, false,
          .app (.ref "__Resolver") [.ref td.name, argsType f.args, .ref "Context", tsOf .ref false f.ty])))
        ∈ rootFields (rootResolvers s tds)) ∧
    (∀ td ∈ tds, td.kind = .interface →
      (td.name, false, false, typeResolver (s.objectImplementers td.name)) ∈ rootFields (rootResolvers s tds)) ∧
    (∀ td ∈ tds, td.kind = .union →
      (td.name, false, false, typeResolver (td.members.map (·.1))) ∈ rootFields (rootResolvers s tds)) ∧
    (∀ f ∈ rootFields (rootResolvers s tds), ∃ td ∈ tds, f.1 = td.name ∧
      (td.kind = .object ∨ td.kind = .interface ∨ td.kind = .union)) := by
  refine ⟨fun td htd hk => mem_rootResolvers.2 ⟨td, htd, _, by simp only [resolverType, hk], rfl⟩,
    fun td htd hk => mem_rootResolvers.2 ⟨td, htd, typeResolver _, by simp only [resolverType, hk], rfl⟩,
    fun td htd hk => mem_rootResolvers.2 ⟨td, htd, typeResolver _, by simp only [resolverType, hk], rfl⟩, fun f hf => ?_⟩
  obtain ⟨td, htd, t, ht, rfl⟩ := mem_rootResolvers.1 hf
  refine ⟨td, htd, rfl, ?_⟩
  cases hk : td.kind <;> simp [resolverType, hk] at ht ⊢

/-- the result type of a field resolver denotes the field's GraphQL type wrapper-exactly over the file's aliases,
    and an argument's type does so over `Schema.__ResolverInput.*` (instances of the wrapper lemma) -/
theorem resolver_result_conf (f : FieldDef) (v : J) :
    Mem e v (tsOf .ref false f.ty) ↔ Conf (fun n x => Mem e x (.ref n)) f.ty v :=
  ts_conf _ _ _ _

theorem resolver_arg_conf (a : InputValueDef) (v : J) :
    Mem e v (tsOf (fun n => .qref [ResolverDecls.schemaNs, Target.resolverInput.name, n]) false a.ty) ↔
      Conf (fun n x => Mem e x (.qref [ResolverDecls.schemaNs, Target.resolverInput.name, n])) a.ty v :=
  ts_conf _ _ _ _

/-- Whatever the description contains, the text the printer writes between the opening `/**` and the closing
    `*/` of a JSDoc comment contains no `*/` (every `*/` of the description is written `*\/`), so the comment
    ends where the printer ends it and the rest of the file is lexed as intended. -/
theorem jsdoc_wellformed (d : List Char) : JsDoc.hasClose ('*' :: JsDoc.commentBody d) = false := by
  have hp : (fun l : List Char => [' ', '*', ' '] ++ l ++ ['\n']) = JsDoc.piece := by
    funext l; simp [JsDoc.piece]
  have hl : ∀ l ∈ JsDoc.docLinesC d, JsDoc.hasClose l = false := by
    intro l hl
    obtain ⟨l0, _, rfl⟩ := List.mem_map.1 hl
    exact JsDoc.hasClose_escape l0
  have := JsDoc.hasClose_pieces (JsDoc.docLinesC d) [' '] hl (by decide) (by decide)
  simp only [JsDoc.commentBody, hp]
  show JsDoc.hasClose ('*' :: '\n' :: (List.flatMap JsDoc.piece (JsDoc.docLinesC d) ++ [' '])) = false
  simp [JsDoc.hasClose, JsDoc.startsSlash, this]

/-- the escape is needed: written with its lines unescaped, the body for the description `*/` contains `*/` -/
theorem jsdoc_unescaped_counterexample :
    JsDoc.hasClose ('\n' :: ((JsDoc.lines (JsDoc.dedent ['*', '/'])).flatMap fun l => [' ', '*', ' '] ++ l ++ ['\n'])
      ++ [' ']) = true := by decide

/-- A key printed WITHOUT quotes (`is_raw_ident`) consists of ASCII letters, digits and `_` only and does not start
    with a digit — it is a TypeScript identifier name and contains nothing that would need escaping. Every other
    key is printed between double quotes. GraphQL names are always of the first kind (next theorem). -/
theorem key_quoting_sound (key : String) (h : isRawIdent key = true) :
    ∃ c r, key.toList = c :: r ∧ (c.isAlpha = true ∨ c = '_') ∧ ∀ d ∈ r, d.isAlphanum = true ∨ d = '_' := by
  unfold isRawIdent at h
  split at h
  · cases h
  · rename_i c r heq
    refine ⟨c, r, heq, ?_, ?_⟩
    · simp only [Bool.and_eq_true, Bool.or_eq_true, beq_iff_eq] at h; exact h.1
    · intro d hd
      simp only [Bool.and_eq_true, Bool.or_eq_true, beq_iff_eq, List.all_eq_true] at h
      exact h.2 d hd

/-- GraphQL `Name`s (`[_A-Za-z][_0-9A-Za-z]*`, the only keys and string-literal contents the schema printers
    emit: field, argument, type and enum value names) are raw identifiers, hence are printed verbatim and
    need no escape either as a key or inside `"…"`. -/
def isGraphQLName (s : String) : Bool :=
  match s.toList with
  | [] => false
  | c :: r => (c.isAlpha || c == '_') && r.all fun d => d.isAlpha || d.isDigit || d == '_'

theorem string_literal_sound (s : String) (h : isGraphQLName s = true) :
    isRawIdent s = true ∧ ∀ d ∈ s.toList, d ≠ '"' ∧ d ≠ '\\' ∧ d ≠ '\n' := by
  unfold isGraphQLName at h
  unfold isRawIdent
  split at h
  · cases h
  · rename_i c r heq
    rw [heq]
    simp only [Bool.and_eq_true, Bool.or_eq_true, beq_iff_eq, List.all_eq_true] at h
    refine ⟨?_, ?_⟩
    · simp only [Bool.and_eq_true, Bool.or_eq_true, beq_iff_eq, List.all_eq_true, Char.isAlphanum]
      exact ⟨h.1, fun d hd => by rcases h.2 d hd with (h | h) | h <;> simp [h]⟩
    · have key : ∀ d : Char, (d.isAlpha = true ∨ d.isDigit = true ∨ d = '_') → d ≠ '"' ∧ d ≠ '\\' ∧ d ≠ '\n' := by
        intro d hd
        refine ⟨?_, ?_, ?_⟩ <;> (rintro rfl; revert hd; decide)
      intro d hd
      rcases List.mem_cons.1 hd with rfl | hd
      · exact key _ (by rcases h.1 with h | h; exact Or.inl h; exact Or.inr (Or.inr h))
      · exact key _ (by rcases h.2 d hd with (h | h) | h; exact Or.inl h; exact Or.inr (Or.inl h); exact Or.inr (Or.inr h))


/-! ### where the property is proved, and what stays open

The closed forms on the generated file itself (every kind, every route into the file, the file linked as a module, the
resolver `Args` / `Result`) and completeness of `memG` are in `Props/C10Closed.lean`; their hypothesis `DocOK` = checked
schema + the side condition on scalar texts below. The same statements from the SOURCE schema files are in
`Props/C10Composed.lean`, and `Props/C10ComposedChecked.lean` discharges the SCHEMA part of `DocOK` by the schema check: what
remains of `DocOK` is its configuration part (`CfgOK`, `Lemmas/DeclsComposedValid.lean`): the conditions on scalar texts in the
list below.

OPEN — hypotheses no theorem discharges, and what only K/O carry:
* every theorem here is about the printer MODELS (`Model/SchemaDecls`, `ResolverDecls`, `DeclCfg`, `JsDoc`) and the
  hand-written semantics `Ts/Sem.lean`; that the models agree with the Rust printers is the K stream only, and `resolve` /
  `checkSchema` in the composed theorems are the C11 / C05 models.
* the side condition on configured scalar texts (`DocOK.bagOK` = `CfgOK.bagOK`): no identifier of a text starts with
  `__tmp_` (`C10_rename_counterexample`, open finding `findings/C10-fresh-name-captured.json`, seen on the real code) or is
  one of the printer's own seven identifiers (`__nitrogql_schema`, `__Beautify`, `__SelectionSet`, the four namespace
  names — second corner, `C10_namespace_capture_counterexample`: text `__OperationOutput.Foo`; kernel-checked on the MODEL,
  not replayed on the real code). Without it the full statement is false; the corners are contrived (the user's text has
  to mention generated identifiers).
* `DocOK.parses` = `CfgOK.parses`: the parse of a scalar text is supplied by the harness (`tsparse::parse_type`; no
  TypeScript parser in Lean); that it mentions only identifiers of the text and no internal `abs` node is assumed (K
  compares the trees).
* the SCHEMA part of `DocOK` is a plain hypothesis in `Props/C10Closed.lean` and `Props/C10Composed.lean`; only
  `Props/C10ComposedChecked.lean` derives it (from `checkSchema R = []`, for user items without built-in positions ++ the
  CLI's built-ins). That the items are what the schema files say (the parser) is assumed throughout.
* the top-level representative is characterised for `repTarget` only. (`kindFits` in the in-namespace forms is no
  restriction: a definition whose kind does not fit the direction of a target has no alias in that namespace —
  `SchemaDecls.unfit_body`, the converse of `fits_body`.)
* the RESOLVERS file (closed forms in `Props/C10Closed.lean`: `C10_resolver_args_closed` / `_std`: `Args` =
  `Ref_ResolverInput(args f)`; `C10_resolver_result_closed`: `Result` = the resolver result reference, `Omit<…,
  "__typename">` through `stdHook` included). Open there: (i) `ResolversOK` is only partly derived from the schema check
  (`ResolversOK_of_checked`, `C10_cli_resolversOK`): "no type named `Omit`", "only `type` / `interface` definitions carry
  fields" and "no scalar text applies `Omit<…>`" remain hypotheses, also of `C10_resolvers_from_sources_checked`;
  (ii) `Args` / `Result` are read at the TOP LEVEL of the resolvers file, and that `Resolvers[O][f]` is
  `__Resolver<O, Args, Context, Result>` with these `Args` / `Result` is the separate STRUCTURAL theorem
  `C10_resolvers_exact` / `C10_resolvers_from_sources`: the two are not joined under the binder of `Resolvers<Context>`,
  and schema types named like the file's other identifiers (`Context`, `Resolvers`, `ResolverOutput`, `Schema`,
  `GraphQLResolveInfo`) are not excluded by `ResolversOK`; (iii) the generic helper types `__Resolver` / `__TypeResolver`
  themselves (function types, kept as raw text) have no meaning in the value semantics.
* the model-plugin transforms of the resolvers file ("minus plugin-excluded") are not modelled and not exercised: the
  harness calls the printer with an empty plugin list.
-/

end NitroVerif.Props.C10
