/-
C10 ∘ C11 ∘ C05 — the end-to-end statement with the schema check in place of the side condition.

`DocOK c R`, the hypothesis of every closed form of `Props/C10Closed.lean` / `Props/C10Composed.lean`, splits into
* a SCHEMA part — type names distinct, none starting with `__tmp_` or named like a prelude helper; object field types
  defined and not input objects; input field types defined scalars / enums / input objects; union members defined
  object types — which FOLLOWS from `checkSchema R = []` (C05's soundness theorems for these rules), given that the
  built-in-position definitions do not repeat a name (a fact about the constant list `generate_builtins()`:
  `builtinTypeNamesDistinct_cli`);
* a CONFIGURATION part `CfgOK` (`bagOK`, `parses`) which no schema check can establish.
So the end-to-end statement reads: the sources resolve, the resolved document passes the schema check, the
configuration satisfies `CfgOK` ⇒ every alias denotes `Ref` over the merged schema.

OPEN — carried by K/O only (full list: the OPEN block of `Props/C10.lean`): `CfgOK` is discharged nowhere; `hpos` (no user
definition carries a built-in position) is a fact about the parser, assumed; `ResolversOK` stays a hypothesis of
`C10_resolvers_from_sources_checked` — `ResolversOK_of_checked` / `C10_cli_resolversOK` derive only its reserved-name part
and keep "no type named `Omit`", "only `type` / `interface` definitions carry fields", "no scalar text applies `Omit<…>`";
`resolve` and `checkSchema` are the C11 / C05 MODELS (tied to the Rust code by those properties' K streams).
-/
import NitroVerif.Props.C10Composed
import NitroVerif.Lemmas.DeclsComposedValid
import NitroVerif.Props.C05
namespace NitroVerif.Props.C10
open NitroVerif.Gql NitroVerif.Ts NitroVerif.DeclCfg NitroVerif.SchemaDecls NitroVerif.RefTypes
open NitroVerif.ExtMerge NitroVerif.ExtResolve NitroVerif.DeclsComposed NitroVerif.CheckTs

/-- **`DocOK` FROM THE SCHEMA CHECK.** A document the schema check accepts (`checkSchema R = []`), whose
    built-in-position type definitions do not repeat a name, satisfies every SCHEMA part of `DocOK`; with the
    configuration conditions `CfgOK` (scalar texts clear of the printer's own identifiers; faithful-looking parses)
    it satisfies `DocOK`. -/
theorem DocOK_of_checked (c : Cfg) (R : TsDoc) (hchk : checkSchema R = [])
    (hb : ValidTs.builtinTypeNamesDistinct R = true) (cfg : CfgOK c R) : DocOK c R :=
  docOK_of_rules ((C05_unique_type_names R hchk).2.2 hb) (C05_sound_reservedNames R hchk)
    (C05_sound_knownTypeRefs R hchk) (C05_sound_outputPositions R hchk) (C05_sound_inputPositions R hchk)
    (C05_sound_unionMembersObjects R hb hchk) cfg.bagOK cfg.parses

/-- conversely the configuration part is literally the last two fields of `DocOK`: nothing else is assumed -/
theorem CfgOK_of_DocOK (c : Cfg) (R : TsDoc) (ok : DocOK c R) : CfgOK c R := cfgOK_of_docOK ok

/-- **`ResolversOK` FROM THE SCHEMA CHECK.** Reserved names (`__…`) give "no type is called `__Resolver` /
    `__TypeResolver`" and "no field is called `__typename`"; what remains: only object / interface definitions carry
    a field list (true of every parsed document), no type is called `Omit`, no scalar text applies `Omit<…>`. -/
theorem ResolversOK_of_checked (c : Cfg) (R : TsDoc) (hchk : checkSchema R = [])
    (hfields : ∀ td ∈ typeDefsOf R, td.kind ≠ .object → td.kind ≠ .interface → td.fields = [])
    (homit : ∀ td ∈ typeDefsOf R, td.name ≠ "Omit")
    (hno : ∀ p ∈ scalarTypes c R, ∀ t ∈ Target.all, (c.parseOf (p.2.getType t)).noOmit = true) :
    ResolverDecls.ResolversOK c R :=
  resolversOK_of_rules (C05_sound_reservedNames R hchk) hfields homit hno

section checked
variable (c : Cfg) (user R : TsDoc) (F : File)
  (hres : resolve (user ++ CliSchema.builtins) = .ok R)
  (hpos : ∀ td, TsItem.typeDef td ∈ user → td.namePos.builtin = false)
  (hchk : checkSchema R = []) (cfg : CfgOK c R) (hF : schemaFile c R = .ok F)

include hres hpos hchk cfg in
/-- the side condition of the closed forms holds of what the CLI resolves, checks and prints -/
theorem C10_cli_docOK : DocOK c R :=
  DocOK_of_checked c R hchk (ExtResolve.builtinTypeNamesDistinct_cli hres hpos) cfg

include hres hchk in
/-- `ResolversOK` for what the CLI resolves, from conditions on the USER's items: only `type` / `interface` definitions
    carry a field list (true of every parsed document), no type is called `Omit`; and on the configuration: no scalar
    text applies `Omit<…>`. The rest follows from the schema check. -/
theorem C10_cli_resolversOK
    (hfields : ∀ td, TsItem.typeDef td ∈ user → td.kind ≠ .object → td.kind ≠ .interface → td.fields = [])
    (homit : ∀ td, TsItem.typeDef td ∈ user → td.name ≠ "Omit")
    (hno : ∀ p ∈ scalarTypes c R, ∀ t ∈ Target.all, (c.parseOf (p.2.getType t)).noOmit = true) :
    ResolverDecls.ResolversOK c R := by
  refine ResolversOK_of_checked c R hchk ?_ ?_ hno
  · intro td' htd' h1 h2
    obtain ⟨td, htd, rfl⟩ := (mem_typeDefsOf_resolved hres).mp htd'
    have h0 : td.fields = [] := by
      rcases (mem_cli_defs user td).mp htd with h | ⟨n, _, rfl⟩
      · exact hfields td h h1 h2
      · rfl
    have hk : hasFields td.kind = false := by
      revert h1 h2; rw [refType_kind]; cases td.kind <;> simp [hasFields]
    simp [refType, refTypeWith, h0, hk]
  · intro td' htd'
    obtain ⟨td, htd, rfl⟩ := (mem_typeDefsOf_resolved hres).mp htd'
    rcases (mem_cli_defs user td).mp htd with h | ⟨n, hn, rfl⟩
    · exact homit td h
    · simp only [srcDefs, List.mem_cons, List.not_mem_nil, or_false] at hn
      rcases hn with rfl | rfl | rfl | rfl | rfl <;> simp [refType_name]

include hres hpos hchk cfg hF in
/-- **C10 END TO END.** The user's schema files `user` (definitions and extensions of all kinds, any order; no
    definition stamped with a built-in position — the parser never does), the built-ins appended as the CLI does,
    resolve to `R`; `R` passes the schema check; the configuration satisfies `CfgOK`; `F` is the schema declaration
    file printed for `R`. Then for every type `T` defined by the user or built in, and every target `t` fitting its
    kind, the alias of `T` in the namespace of `t` denotes EXACTLY `Ref_t(T)` over the merged schema (each definition
    followed by the components of its extensions in document order). -/
theorem C10_from_sources_checked (t : Target) (td : TypeDef)
    (hm : TsItem.typeDef td ∈ user ++ CliSchema.builtins) (hfit : kindFits td.kind t = true) (v : J) :
    Mem (Env.ofFile F) v (globalise (Decls.ofFile F) [t.name] [] ((Ctx.new c R t).leaf td.name))
      ↔ Ref c ⟨refMerge (user ++ CliSchema.builtins)⟩ t td.name v :=
  C10_from_sources c _ R F hres hF (C10_cli_docOK c user R hres hpos hchk cfg) t td hm hfit v

include hres hpos hchk cfg hF in
/-- **THE RESOLVERS FILE END TO END.** Under the same hypotheses (+ `ResolversOK`, see `ResolversOK_of_checked`): for
    every object type `O` the user defines and every field `f` of the MERGED type — declared by `type O {…}` or by an
    `extend type O {…}` — the `Args` type of `f`'s resolver admits exactly `Ref_ResolverInput(args f)` and its `Result`
    type exactly the resolver result reference. (That `Resolvers<Context>` has the member `O.f` with these two types is
    `C10_resolvers_from_sources`, not part of this statement.) The
    argument condition of `C10_resolver_args_closed` is DISCHARGED by the schema check (arguments have defined
    scalar / enum / input-object types). -/
theorem C10_resolvers_from_sources_checked (rok : ResolverDecls.ResolversOK c R) (od : TypeDef)
    (hod : TsItem.typeDef od ∈ user ++ CliSchema.builtins) (hk : od.kind = .object) (f : FieldDef)
    (hf : f ∈ mergedFields user od) (v : J) :
    (Mem (Env.ofFiles (ResolverDecls.resolversFile c R) [(ResolverDecls.schemaSource, F)]).withStd v
      (globalise (Decls.ofFiles (ResolverDecls.resolversFile c R) [(ResolverDecls.schemaSource, F)]) [] []
        (ResolverDecls.argsType f.args))
      ↔ ∃ n, refArgs c ⟨refMerge (user ++ CliSchema.builtins)⟩ n f.args v = true) ∧
    (Mem (Env.ofFiles (ResolverDecls.resolversFile c R) [(ResolverDecls.schemaSource, F)]).withStd v
      (globalise (Decls.ofFiles (ResolverDecls.resolversFile c R) [(ResolverDecls.schemaSource, F)]) [] []
        (tsOf .ref false f.ty))
      ↔ ∃ k, conf (refResolverOut c ⟨refMerge (user ++ CliSchema.builtins)⟩ k) f.ty v = true) := by
  have ok := C10_cli_docOK c user R hres hpos hchk cfg
  have hf' : f ∈ mergedFields (user ++ CliSchema.builtins) od := by rw [mergedFields_cli]; exact hf
  refine ⟨?_, C10_resolver_result_from_sources c _ R F hres hF ok rok od hod hk f hf' v⟩
  have hmR := refType_mem_resolved hres hod
  have hfR : f ∈ (refType (user ++ CliSchema.builtins) od).fields := by
    rw [refType_fields _ od (Or.inl hk)]; exact hf'
  have hargs := argsOK_of_rules (C05_sound_knownTypeRefs R hchk) (C05_sound_inputPositions R hchk) _ hmR
    (Or.inl hk) f hfR
  simp only [refArgs_resolved_eq c hres ok.distinct]
  exact C10_resolver_args_closed_std c R F hF ok rok f hargs v

end checked

theorem srcR_checked : checkSchema srcR = [] := by decide +kernel

theorem srcUser_positions : ∀ td, TsItem.typeDef td ∈ srcFile1 ++ srcFile0 → td.namePos.builtin = false := by
  intro td h
  have h := srcUser_defs h
  simp only [srcDefs, List.mem_cons, List.not_mem_nil, or_false] at h
  rcases h with rfl | rfl | rfl | rfl | rfl | rfl | rfl | rfl | rfl <;> rfl

/-- the derived side condition is the one `Props/C10Composed.lean` checked by evaluation -/
example : DocOK exCfg srcR :=
  C10_cli_docOK exCfg (srcFile1 ++ srcFile0) srcR srcR_ok srcUser_positions srcR_checked (CfgOK_of_DocOK _ _ srcR_docOK)

/-- … and so is `ResolversOK`, from conditions on the user's items -/
example : ResolverDecls.ResolversOK exCfg srcR :=
  C10_cli_resolversOK exCfg (srcFile1 ++ srcFile0) srcR srcR_ok srcR_checked
    (by
      intro td h
      have h := srcUser_defs h
      simp only [srcDefs, List.mem_cons, List.not_mem_nil, or_false] at h
      rcases h with rfl | rfl | rfl | rfl | rfl | rfl | rfl | rfl | rfl <;> intro h1 h2 <;>
        first | rfl | exact absurd rfl h1 | exact absurd rfl h2)
    (by
      intro td h
      have h := srcUser_defs h
      simp only [srcDefs, List.mem_cons, List.not_mem_nil, or_false] at h
      rcases h with rfl | rfl | rfl | rfl | rfl | rfl | rfl | rfl | rfl <;> decide)
    srcR_resolversOK.noOmit

/-- end to end on the example: the interface `Node`, whose implementer `Post` implements it through an extension -/
example : ∀ v, Mem (Env.ofFile srcF) v (globalise (Decls.ofFile srcF) [Target.operationOutput.name] []
      ((Ctx.new exCfg srcR .operationOutput).leaf "Node")) ↔ Ref exCfg ⟨refMerge srcAll⟩ .operationOutput "Node" v :=
  C10_from_sources_checked exCfg (srcFile1 ++ srcFile0) srcR srcF srcR_ok srcUser_positions srcR_checked
    (CfgOK_of_DocOK _ _ srcR_docOK) srcF_ok .operationOutput srcNodeT (by simp [srcFile0]) rfl

/-- … and `C10_resolvers_from_sources_checked` at the resolver of `Query.search`, a field only `extend type Query` declares -/
example := C10_resolvers_from_sources_checked exCfg (srcFile1 ++ srcFile0) srcR srcF srcR_ok srcUser_positions
  srcR_checked (CfgOK_of_DocOK _ _ srcR_docOK) srcF_ok srcR_resolversOK srcQueryT (by simp [srcFile0]) rfl srcSearchF
  (by rw [← mergedFields_cli]; exact (srcQuery_fields ▸ by simp : srcSearchF ∈ mergedFields srcAll srcQueryT))

end NitroVerif.Props.C10
