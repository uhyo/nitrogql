import NitroVerif.Props.C18Composed
import NitroVerif.Props.C05Complete
/-!
# C18 — a spec-valid project exits 0 (C04 + C05 completeness through the CLI driver)

Kept apart from `Props/C18Composed.lean` because it is the one statement that depends on the
completeness theorem of the type-system checker (`C05_complete`, Props/C05Complete.lean).
-/
namespace NitroVerif.CliComposed
open NitroVerif NitroVerif.Gql NitroVerif.Cli NitroVerif.Valid NitroVerif.ValidTs NitroVerif.CheckTs NitroVerif.CheckOp

variable {Text κ : Type} [DecidableEq κ]

/-- **a project whose documents are valid exits 0.**  If the command list is usable, every file parses, both
    extension resolvers and the import resolver succeed, the RESOLVED schema document satisfies every rule of the
    reference validator of C05 (`TsSpecValid`) and every document handed to the operation checker satisfies the 25
    implemented operation rules against it — then the run exits 0: no stage of the composed pipeline raises a false
    alarm.  Side conditions are exactly those of the two completeness theorems (`C05_complete`: none beyond
    `TsSpecValid`; `C04_no_false_alarm_implemented_rules`: `SchemaValid`, no empty union, a root type for the kind of
    every operation, constant variable definitions) and, when `generate` is requested, `projGenOk` (usable options,
    no printer / file-system failure). -/
theorem C18_valid_project_exits_zero (E : Env Text κ) (P : Project Text κ) (o : Outcome)
    (h : runCli (stagesOf E P) = some o)
    (hcmds : cmdsOk P.cmds = true)
    (hsp : ∀ r ∈ schemaParses E P, ∃ T, r = .ok T) (hop : ∀ v ∈ views E P, ∃ D, v.parse = .ok D)
    (hres : ∃ T, ExtResolve.resolve (mergedSchema E P) = .ok T)
    (hts : TsSpecValid (resolvedSchema E P))
    (hext : ∀ v ∈ views E P, ∃ imps, extOf E.code v.doc = .ok imps)
    (himp : ∀ v ∈ views E P, ∃ out, impOf E P v = .ok out)
    (hS : SchemaValid ⟨resolvedSchema E P⟩) (hNE : noEmptyUnionB ⟨resolvedSchema E P⟩ = true)
    (hrules : ∀ v ∈ views E P, (∀ r ∈ ImplementedRules, Holds r ⟨resolvedSchema E P⟩ (resolvedDoc E P v)) ∧
      rootsDefinedB ⟨resolvedSchema E P⟩ (resolvedDoc E P v) = true ∧ constVarDefsB (resolvedDoc E P v) = true)
    (hgen : Cmd.generate ∈ P.cmds → projGenOk P = true) : o.exit = 0 :=
  C18_valid_operations_exit_zero E P o h hcmds hsp hop hres (C05_complete _ hts) hext himp hS hNE hrules hgen

/-- the schema hypotheses are satisfiable by the witness project: its resolved schema (one user type and the
    built-in definitions) is valid under both reference validators -/
example : TsSpecValid (resolvedSchema wEnv wProject) ∧ SchemaValid ⟨resolvedSchema wEnv wProject⟩ ∧
    noEmptyUnionB ⟨resolvedSchema wEnv wProject⟩ = true := by
  exact ⟨by unfold TsSpecValid; decide +kernel, wSchemaValid, by decide +kernel⟩

end NitroVerif.CliComposed
