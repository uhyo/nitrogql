import NitroVerif.Lemmas.Exports
/-!
# C14 — declared exports match what the bundler loader exports at runtime

Property theorems only. Model: `NitroVerif/Model/Exports.lean` (tied to the operation printers, the config parser and
the loader by the correspondence check `harness/src/bin/c14.rs`).

`c : Config` ranges over ALL configurations (every Boolean, every mode, arbitrary suffix strings, absent keys);
`F : File` over ALL import-resolved documents (any number of operations of any kind, named or anonymous, fragments,
imported fragments).  `dts c F` is the declaration file, `js c F` the JavaScript module printed from the same
document, `loaderJs c F` the module the loader prints (it does not tell imported fragments from local ones).
-/
namespace NitroVerif.Exports


/-- Every name under which the declaration file exports a value is exported by the JavaScript module printed from the
    same document with the same configuration, in the same order, and the JavaScript module exports nothing else
    (`export type` statements are not value exports; the JavaScript module has none). -/
theorem C14_value_exports (c : Config) (F : File) : valueExports (dts c F) = exports (js c F) :=
  printDefs_congr valueExports_append exports_append rfl _ _ _ (fun _ _ e _ _ => by cases e <;> rfl)
    (fun _ _ e => by cases e <;> rfl) (fun _ => rfl) _ 0 F

/-- The loader's module exports every value the declaration file declares (the property's `⊆`), in the same order.
    It may export more: fragments imported with `#import` are exported by the loader but not declared. -/
theorem C14_value_exports_loader (c : Config) (F : File) :
    (valueExports (dts c F)).Sublist (exports (loaderJs c F)) := by
  rw [loaderJs, ← C14_value_exports c (F.map Def.asLocal), valueExports_eq_map_exportRefs,
    valueExports_eq_map_exportRefs, exportRefs_dts, exportRefs_dts, operationCount_map_asLocal]
  exact (refsFrom_sublist_asLocal _ _ F).map _

/-- `⊆` as membership (the wording of the property) -/
theorem C14_value_exports_loader_mem (c : Config) (F : File) (e : Str) (h : e ∈ valueExports (dts c F)) :
    e ∈ exports (loaderJs c F) :=
  (C14_value_exports_loader c F).subset h

/-- With no `#import`ed fragment in the document the loader's exports are exactly the declared value exports. -/
theorem C14_value_exports_loader_eq (c : Config) (F : File) (h : ∀ d ∈ F, d.isImported = false) :
    valueExports (dts c F) = exports (loaderJs c F) := by
  rw [loaderJs, map_asLocal_of_no_import F h]; exact C14_value_exports c F

example : ∀ d ∈ [Def.op .query (some "q".toList), .frag "A".toList false], d.isImported = false := by decide

/-- The inclusion is strict as soon as a fragment is imported: the loader exports it, the declaration file does not. -/
theorem C14_loader_exports_imported_fragment :
    ∃ c F, "Frag".toList ∈ exports (loaderJs c F) ∧ "Frag".toList ∉ valueExports (dts c F) :=
  ⟨Config.parse {}, [.op .query (some "q".toList), .frag "Frag".toList true], by decide, by decide⟩


/-- Both files name the same local constant in their default export (or neither has one). -/
theorem C14_default_same (c : Config) (F : File) :
    defaultOf (dts c F) = defaultOf (js c F) ∧ defaultOf (dts c F) = defaultOf (loaderJs c F) := by
  simp [defaultOf, defaults_dts, defaults_js, defaults_loaderJs]

/-- There is a default export exactly when `export.defaultExportForOperation` is on (the default) and the document has
    exactly one operation; it then names the constant of that single operation. -/
theorem C14_default_iff (c : Config) (F : File) (n : Str) :
    defaultOf (dts c F) = some n ↔
      c.defaultExportForOperation = true ∧
        ∃ k nm, ops F = [(k, nm)] ∧ n = (operationVariableName (BaseOptions.fromConfig c) k nm).operationVariableName := by
  rw [defaultOf, defaults_dts]
  rcases defaultsFrom_cases (BaseOptions.fromConfig c) F with ⟨hc, k, nm, hops, hd⟩ | ⟨hne, hd⟩ <;> rw [hd]
  · simp only [List.head?_cons, Option.some.injEq, hops, List.cons.injEq, Prod.mk.injEq, and_true]
    exact ⟨fun h => ⟨hc, k, nm, ⟨rfl, rfl⟩, h.symm⟩, fun ⟨_, _, _, ⟨hk, hn⟩, h⟩ => by rw [h, ← hk, ← hn]⟩
  · exact ⟨nofun, fun ⟨hc, _, _, hops, _⟩ => absurd (by rw [hops]; rfl) (hne hc)⟩

/-- A module never has two default-export statements. -/
theorem C14_default_unique (c : Config) (F : File) :
    (defaults (dts c F)).length ≤ 1 ∧ (defaults (loaderJs c F)).length ≤ 1 := by
  rw [defaults_dts, defaults_loaderJs]
  rcases defaultsFrom_cases (BaseOptions.fromConfig c) F with ⟨_, _, _, _, hd⟩ | ⟨_, hd⟩ <;> rw [hd] <;> simp


/-- `operation_variable_name` as a function of the configuration keys: the operation's name (empty for an anonymous
    operation), first character upper-cased unless `name.capitalizeOperationNames` is `false`, followed by the suffix
    configured for the operation's kind (defaults `Query` / `Mutation` / `Subscription`). -/
theorem C14_operation_variable_name (c : Config) (k : Kind) (nm : Option Str) :
    (operationVariableName (BaseOptions.fromConfig c) k nm).operationVariableName =
      (if c.capitalizeOperationNames.getD true then capitalize (nm.getD []) else nm.getD []) ++
        (match k with
          | .query => c.queryVariableSuffix.getD "Query".toList
          | .mutation => c.mutationVariableSuffix.getD "Mutation".toList
          | .subscription => c.subscriptionVariableSuffix.getD "Subscription".toList) := by
  cases k <;> cases nm <;> cases hcap : c.capitalizeOperationNames.getD true <;>
    simp [operationVariableName, BaseOptions.fromConfig, cloneInto, suffixOf, hcap, capitalize]

/-- The declaration file, the JavaScript module and the loader's module declare the same constants: the constant of
    the `i`-th definition is named `varName` of that definition (operation: `operation_variable_name`; fragment: its name
    followed by `name.fragmentVariableSuffix`) and carries the index `i` of that definition (the model's stand-in for the
    document printed from it). -/
theorem C14_names (c : Config) (F : File) :
    consts (dts c F) = constsFrom (BaseOptions.fromConfig c) 0 F ∧
    consts (js c F) = constsFrom (BaseOptions.fromConfig c) 0 F ∧
    consts (loaderJs c F) = constsFrom (BaseOptions.fromConfig c) 0 F := by
  refine ⟨consts_printDefs_type (TypeOptions.fromConfig c) _ 0 F, consts_printDefs_js _ _ 0 F, ?_⟩
  have := consts_printDefs_js (BaseOptions.fromConfig c) (operationCount (F.map Def.asLocal)) 0 (F.map Def.asLocal)
  simpa [loaderJs, js, printDocument] using this

/-- `constsFrom` read by index: the constant recorded for index `i` is named after the `i`-th definition. -/
theorem C14_names_index (c : Config) (F : File) (i : Nat) (d : Def) (h : F[i]? = some d) :
    (varName (BaseOptions.fromConfig c) d, i) ∈ consts (dts c F) ∧
    (varName (BaseOptions.fromConfig c) d, i) ∈ consts (loaderJs c F) := by
  have := constsFrom_getElem (BaseOptions.fromConfig c) 0 F i d h
  obtain ⟨h1, _, h3⟩ := C14_names c F
  rw [h1, h3]; simpa using this


/-- What an export carries is decided identically in all three modules: scope lookup only depends on the declared
    constants, and these coincide. So every (exported name ↦ document) pair of the declaration file is one of the
    loader's module — whether or not names collide. -/
theorem C14_carried_subset (c : Config) (F : File) :
    carried (dts c F) = carried (js c F) ∧ ∀ p ∈ carried (dts c F), p ∈ carried (loaderJs c F) := by
  obtain ⟨h1, h2, h3⟩ := C14_names c F
  have r2 : resolve (dts c F) = resolve (js c F) := resolve_congr _ _ (h1.trans h2.symm)
  have r3 : resolve (dts c F) = resolve (loaderJs c F) := resolve_congr _ _ (h1.trans h3.symm)
  refine ⟨by simp [carried, exportRefs_dts, exportRefs_js, r2], ?_⟩
  intro p hp
  simp only [carried, List.mem_map] at hp ⊢
  obtain ⟨q, hq, rfl⟩ := hp
  refine ⟨q, ?_, by rw [r3]⟩
  rw [exportRefs_loaderJs]; rw [exportRefs_dts] at hq
  exact (refsFrom_sublist_asLocal _ _ F).subset hq

/-
FULL STATEMENT (false of the code — see `C14_same_document_counterexample_*`):

  theorem C14_same_document (c : Config) (F : File) :
      ∀ e ∈ valueExports (dts c F), ∃ i d,
        (e, some i) ∈ carried (dts c F) ∧ (e, some i) ∈ carried (loaderJs c F) ∧
        F[i]? = some d ∧ (e = varName (BaseOptions.fromConfig c) d ∨
                          (e = defaultName ∧ isOp d = true ∧ operationCount F = 1))

  i.e. every declared value export resolves, in the loader's module, to exactly one constant, which holds the document
  of the definition the declaration was printed for.  It fails when two definitions of the file get the same constant
  name (both printers then declare `const N` twice: the JavaScript module has an early SyntaxError and exports nothing,
  and `N` is ambiguous).  The checker does not exclude this: `query a`/`query A` under capitalisation, or
  `query X` + `fragment XQuery` under the DEFAULT configuration.
-/

/-- Under the decidable side condition `NoCollision c F` (no two definitions get the same constant name): every value
    export declared in the declaration file resolves — in the declaration file, in the JavaScript module and in the
    loader's module — to the one constant holding the document of the same definition `F[i]`, which is the
    definition the export is named after (or, for `default`, the single operation of the file). -/
theorem C14_same_document_partial (c : Config) (F : File) (hnc : NoCollision c F) :
    ∀ e ∈ valueExports (dts c F), ∃ i d,
      (e, some i) ∈ carried (dts c F) ∧ (e, some i) ∈ carried (js c F) ∧ (e, some i) ∈ carried (loaderJs c F) ∧
      F[i]? = some d ∧
      (e = varName (BaseOptions.fromConfig c) d ∨ (e = defaultName ∧ isOp d = true ∧ operationCount F = 1)) := by
  intro e he
  obtain ⟨h1, _, _⟩ := C14_names c F
  rw [valueExports_eq_map_exportRefs, List.mem_map] at he
  obtain ⟨⟨e', l⟩, hmem, rfl⟩ := he
  have hmem' := hmem
  rw [exportRefs_dts] at hmem'
  obtain ⟨d, hd, hl, hcase⟩ := refsFrom_mem _ _ F e' l hmem'
  obtain ⟨i, hi⟩ := List.mem_iff_getElem?.mp hd
  have hc : (l, i) ∈ consts (dts c F) := by
    rw [h1, hl]; simpa using constsFrom_getElem (BaseOptions.fromConfig c) 0 F i d hi
  have hres : resolve (dts c F) l = some i :=
    resolve_of_nodup _ _ _ (by rw [h1]; exact hnc) hc
  have hcar : (e', some i) ∈ carried (dts c F) := by
    simp only [carried, List.mem_map]
    exact ⟨(e', l), hmem, by simp [hres]⟩
  obtain ⟨hjs, hld⟩ := C14_carried_subset c F
  refine ⟨i, d, hcar, hjs ▸ hcar, hld _ hcar, hi, ?_⟩
  rcases hcase with h | h
  · left; simpa [h] using hl
  · right; exact h

/-- non-vacuity: a file with two operations, a fragment and an imported fragment meets `NoCollision` under the
    default configuration and under named exports with unusual suffixes -/
example : NoCollision (Config.parse {})
    [.op .query (some "getUser".toList), .op .mutation (some "getUser".toList), .frag "User".toList false,
     .frag "Other".toList true] := by decide
example : NoCollision
    (Config.parse { defaultExportForOperation := some false, queryVariableSuffix := some [], fragmentVariableSuffix := some "_F".toList, capitalizeOperationNames := some false })
    [.op .query (some "a".toList), .op .query (some "A".toList), .frag "a".toList false] := by decide

/-- Counterexample to the full statement under the DEFAULT configuration: `query X {…}` and `fragment XQuery on …`
    in one file. Both `default` and `XQuery` are declared value exports, and neither resolves to a single constant in
    the loader's module (two `const XQuery`). The checker accepts the file (operation and fragment names are distinct). -/
theorem C14_same_document_counterexample_default_config :
    ∃ c F, c = Config.parse {} ∧ ¬ NoCollision c F ∧
      ∃ e ∈ valueExports (dts c F), (e, none) ∈ carried (loaderJs c F) ∧ ∀ p ∈ carried (loaderJs c F), p.1 = e → p.2 = none :=
  ⟨Config.parse {}, [.op .query (some "X".toList), .frag "XQuery".toList false], rfl, by decide,
    defaultName, by decide, by decide, by decide⟩

/-- Counterexample with two operations: `query a {…} query A {…}` with named exports; capitalisation maps both to
    `AQuery`. The checker accepts the file (the operation names differ). -/
theorem C14_same_document_counterexample_capitalize :
    ∃ c F, ¬ NoCollision c F ∧
      ∃ e ∈ valueExports (dts c F), (e, none) ∈ carried (loaderJs c F) ∧ ∀ p ∈ carried (loaderJs c F), p.1 = e → p.2 = none :=
  ⟨Config.parse { defaultExportForOperation := some false },
    [.op .query (some "a".toList), .op .query (some "A".toList)], by decide,
    "AQuery".toList, by decide, by decide, by decide⟩


/-
FULL STATEMENT (false of the code): every constant both printers declare has a name that can be a `const` binding
(`validBinding`).  An anonymous operation with an empty suffix gets the empty name (`const  = …`), and a definition
whose generated name is a reserved word (`fragment class on T {…}`, default configuration) gives `const class = …`;
both make the loader's module (and the declaration file) unparsable.
-/

/-- If every definition is named by a non-empty name, no declared constant has the empty name. -/
theorem C14_binding_nonempty_partial (c : Config) (F : File)
    (hnamed : ∀ d ∈ F, match d with | .op _ nm => ∃ s, nm = some s ∧ s ≠ [] | .frag s _ => s ≠ []) :
    ∀ p ∈ consts (loaderJs c F), p.1 ≠ [] := by
  rw [(C14_names c F).2.2]
  exact constsFrom_ne_nil _ F hnamed 0

example : ∀ d ∈ [Def.op .query (some "q".toList), .frag "A".toList true],
    match d with | .op _ nm => ∃ s, nm = some s ∧ s ≠ [] | .frag s _ => s ≠ [] := by
  intro d hd
  simp only [List.mem_cons, List.not_mem_nil, or_false] at hd
  rcases hd with rfl | rfl
  · exact ⟨_, rfl, by decide⟩
  · decide

/-- Counterexample: an anonymous query with `name.queryVariableSuffix: ""` is declared and default-exported under the
    empty name. -/
theorem C14_binding_counterexample_empty :
    ∃ c F, NoCollision c F ∧ ∃ p ∈ consts (loaderJs c F), validBinding p.1 = false ∧ p.1 = [] :=
  ⟨Config.parse { queryVariableSuffix := some [] }, [.op .query none], by decide, ([], 0), by decide, by decide, rfl⟩

/-- Counterexample under the DEFAULT configuration: `fragment class on T {…}` is declared as `export const class`. -/
theorem C14_binding_counterexample_reserved :
    ∃ c F, c = Config.parse {} ∧ NoCollision c F ∧
      ∃ p ∈ consts (loaderJs c F), validBinding p.1 = false ∧ p.1 ∈ valueExports (dts c F) :=
  ⟨Config.parse {}, [.frag "class".toList false], rfl, by decide, ("class".toList, 0), by decide, by decide, by decide⟩


/-- cli/generate.rs: the declaration file of `x.graphql` is `x.d.graphql.ts` (default mode), `x.graphql.d.ts` or, in
    standalone mode, the module `x.graphql.ts` that holds the values itself; only the standalone module carries
    values (`printValues`).  The three extension equations hold by `rfl` on `declExtension`, which restates
    `generate.rs` (compared with the real CLI on the CLI sample of the correspondence check).  That a constant is
    `declare`d exactly when it is neither exported nor given a value is how `typeVisitor` is DEFINED (compared by
    the correspondence check), not a conclusion of this theorem. -/
theorem C14_mode_extension (c : Config) :
    ((TypeOptions.fromConfig c).printValues = true ↔ c.mode = .standaloneTs4) ∧
    declExtension .withLoaderTs5 = "d.graphql.ts".toList ∧
    declExtension .withLoaderTs4 = "graphql.d.ts".toList ∧
    declExtension .standaloneTs4 = "graphql.ts".toList := by
  refine ⟨?_, rfl, rfl, rfl⟩
  cases hm : c.mode <;> simp [TypeOptions.fromConfig, hm]

end NitroVerif.Exports
