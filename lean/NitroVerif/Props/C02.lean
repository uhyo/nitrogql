/-
C02 — generated result types admit nothing no execution could return.

The statement about the generated files is `C02_pipeline_end_to_end` (Props/C02Closed.lean); this file is the ⊇ direction of
the refinement theorem it rests on, under the hypotheses of `C01.impl_eq_refLocal` and `JWf` of the value.

Besides `C02_admits_only_local_executions` (every value without repeated record keys that the emitted type admits is a
`RefLocal` response on a possible object type of the root): soundness of the executable decider of `RefLocal` the O stream
uses, the local facts about leaves, `__typename` and keys, and kernel-checked witnesses — the defect of the pinned code that
made C02 false (`aliased_typename_counterexample`: §9-b, repaired in /repo 72cec20) with the proof that the repaired model
excludes the value, and `repeated_key_counterexample` (why the value hypothesis is there).
-/
import NitroVerif.Lemmas.OpTypes
import NitroVerif.Lemmas.TsSemSound
import NitroVerif.Props.C01
namespace NitroVerif.Props.C02
open NitroVerif.Gql NitroVerif.Ts NitroVerif.OpTypes NitroVerif.Exec NitroVerif.Props

/-- The executable decider of the O stream only accepts members of `RefLocal`. -/
theorem refLocalMem_sound (c : Ctx) :
    ∀ n obj ss v, refLocalMem c n obj ss v = true → RefLocalN c n obj ss v := by
  intro n
  induction n with
  | zero => intro _ _ _ h; simp [refLocalMem] at h
  | succ n ih =>
    intro obj ss v h
    simp only [refLocalMem, List.any_eq_true] at h
    obtain ⟨a, _, ha⟩ := h
    split at ha
    · rename_i g hg
      exact ⟨sigmaOf a, g, hg, refLocalMem c n, ih, ha⟩
    · simp at ha

/-- non-vacuity: `{ a { x } a { y @skip(if: $v) } }` admits `a: { x: 1 }` in `RefLocal` -/
example : RefLocal W.ctx "Query" W.selA (.obj [("a", .obj [("x", .num)])]) :=
  ⟨3, refLocalMem_sound _ 3 _ _ _ (by decide +kernel)⟩

/-- **Wrapper-exactness.** With the named type printed as `q n` (not itself a union), the type printed for a leaf of
    GraphQL type `ty` admits exactly: `null` iff the position is nullable, lists of admitted elements at list
    positions, and the values of `q n` at the named position. -/
theorem leafTs_exact {e : Env} (q : Name → Ty) (hq : ∀ n ts, q n ≠ .union ts) (ty : GType) :
    (∀ v, Mem e v (leafTs q ty) ↔ WrapConf (fun n v => Mem e v (q n)) ty v) ∧
    (∀ v, Mem e v (leafCore q ty) ↔ WrapConfNN (fun n v => Mem e v (q n)) ty v) :=
  leafTs_den q hq ty

/-- non-vacuity of `hq`: the mapper of the printer (`Schema.__OperationOutput.<n>`, closed or not) is never a union -/
example : ∀ n ts, (fun n => Ty.qref ["Schema", "__OperationOutput", n]) n ≠ .union ts := by
  intro n ts h; cases h

/-- **A selected, unconditionally included leaf is required, with exactly its schema type.** If the selection
    `key: name` (no sub-selection, not skipped, `name ≠ __typename`) yields a tree field, then the object type declares
    `name` with some type `ty`, the field is the leaf `key : ty`, and it is printed as the REQUIRED, non-optional
    field `key: leafTs ty` — whose denotation is wrapper-exact by `leafTs_exact`. -/
theorem C02_leaf_exact {obj : TypeDef} {key name : Name} {rec : GType → List Selection → Except Panic SelTree}
    {f : SField} (hn : (name == "__typename") = false) (h : fieldTree obj key name false none rec = .ok f)
    (ns : String) (parent : Name) :
    ∃ ty, directField? obj name = some ty ∧ f = .leaf key ty false ∧
      fieldTs (Refs.ofNs ns) parent f = (key, false, false, leafTs (Refs.ofNs ns).out ty) := by
  unfold fieldTree at h
  simp only [Bool.false_eq_true, ↓reduceIte, hn] at h
  split at h
  · cases h
  · rename_i ty hty
    cases h
    exact ⟨ty, hty, rfl, by simp [fieldTs]⟩

/-- the hypotheses are satisfiable: `x` on the witness type `A` -/
example : ∃ f, fieldTree (W.S.typeDef? "A").get! "x" "x" false none (fun _ _ => .error .outOfFuel) = .ok f :=
  ⟨_, rfl⟩

/-- **`__typename` is the literal of the matching object type**, whatever its response key (`parent` is the name `fieldTs`
    is called with; that it is the branch's object type is `treeTs`'s doing, Lemmas/OpTypesDen.lean): the tree field of a
    selected `__typename` is the typename leaf, it is printed as the required field `key: "<Parent>"`, and that type
    admits exactly the string `<Parent>`. -/
theorem C02_typename_literal {e : Env} (obj : TypeDef) (key : Name) (sub : Option (List Selection))
    (rec : GType → List Selection → Except Panic SelTree) (ns : String) (parent : Name) :
    fieldTree obj key "__typename" false sub rec = .ok (.leaf key (.named "String" { builtin := true }) true) ∧
    fieldTs (Refs.ofNs ns) parent (.leaf key (.named "String" { builtin := true }) true) = (key, false, false, .strLit parent) ∧
    (∀ v, Mem e v (.strLit parent) ↔ v = .str parent) := by
  refine ⟨by simp [fieldTree], by simp [fieldTs], fun v => mem_strLit_iff⟩

/-- **Keys survive `Extract<keyof Orig, keyof Obj>` exactly when the schema declaration declares them.** Under the
    reading of `__SelectionSet` (Ts/SelSem.lean) a key of `Obj` is kept iff `Orig` declares it; so if the object
    declaration lists every selected key (it lists `__typename` and every field — compared on the real schema file by
    the O stream), no selected key is silently dropped. -/
theorem C02_keys_survive_extract (orig obj : List Field) :
    (SelSem.picked orig obj).map (·.1) = (obj.filter fun f => orig.any (·.1 == f.1)).map (·.1) ∧
    ((∀ f ∈ obj, orig.any (·.1 == f.1) = true) → (SelSem.picked orig obj).map (·.1) = obj.map (·.1)) := by
  constructor
  · simp [SelSem.picked, List.map_map, Function.comp_def]
  · intro h
    simp only [SelSem.picked, List.map_map, Function.comp_def]
    rw [List.filter_eq_self.2 h]

/-! ### §9-b: aliased `__typename` (pre-repair `field_to_type`) -/

/-- no execution of `{ t: __typename }` on `Query` returns `t: null`, even per selection set -/
theorem typename_null_not_refLocal : ¬ RefLocal W.ctx "Query" W.selT (.obj [("t", .null)]) := by
  rintro ⟨n, hn⟩
  cases n with
  | zero => exact hn
  | succ n =>
    obtain ⟨σ, g, hg, Rb, _, hs⟩ := hn
    have : collectFields W.ctx σ "Query" W.selT = some [("t", [⟨"__typename", none⟩])] := by rfl
    rw [this] at hg
    cases hg
    have hf : fieldOk W.ctx Rb "Query" [⟨"__typename", none⟩] (J.get [("t", J.null)] "t") = false := by rfl
    simp [setOkB, hf] at hs

/-- **Counterexample to C02 on the pinned code (§9-b).** `{ t: __typename }`: the tree field is the typename leaf under
    the key `t`; the pre-repair printer typed it `Schema.__OperationOutput.String | null`, which admits `null` (and any
    string) — values no execution returns; the repaired printer types it as the literal `"Query"`, which excludes them. -/
theorem aliased_typename_counterexample :
    (fieldTsByKey "Schema" "Query" (.leaf "t" (.named "String" { builtin := true }) true)).2.2.2
      = .union [.qref ["Schema", "__OperationOutput", "String"], .prim "null"] ∧
    Mem W.env .null (W.close (.union [.qref ["Schema", "__OperationOutput", "String"], .prim "null"])) ∧
    ¬ RefLocal W.ctx "Query" W.selT (.obj [("t", .null)]) ∧
    (fieldTs (Refs.ofNs "Schema") "Query" (.leaf "t" (.named "String" { builtin := true }) true)).2.2.2 = .strLit "Query" ∧
    ¬ Mem W.env .null (.strLit "Query") := by
  refine ⟨rfl, ?_, typename_null_not_refLocal, rfl, ?_⟩
  · apply memG_sound 4; decide +kernel
  · rw [mem_strLit_iff]; intro h; cases h

/-- the whole repaired pipeline on `{ t: __typename }`: the emitted type excludes `t: null` and admits `t: "Query"` -/
theorem aliased_typename_repaired :
    ∃ t, implTree W.S W.noFrags 16 16 (.nonNull (.named "Query" {})) W.selT = .ok t ∧
      Mem W.env (.obj [("t", .str "Query")]) (W.close (toTs "Schema" t)) ∧
      memG W.env 16 (.obj [("t", .null)]) (W.close (toTs "Schema" t)) = false :=
  ⟨_, rfl, (W.mem_selSet W.origQuery).2 (mem_obj_single (.strLit _)),
    (memG_app_some (n := 15) _ (W.hook_app W.origQuery)).trans (by decide +kernel)⟩

open NitroVerif.OpTypes.Ref in
/-- **C02.** Every value (without repeated record keys) that the emitted type admits is a response some execution
    could return when the Boolean variables are re-chosen per selection set (`RefLocal`), on some possible object type of
    the root: no missing key, no extra key, `null` only at nullable positions, `__typename` only the matching object
    type's name, lists element-wise, merged same-key object fields exactly the merged selection set.  Hypotheses as in
    `C01.impl_eq_refLocal` (declaration file faithful to the schema — `Hyp` —, unique type names, coherent document,
    fuel of the executable specification sufficient). -/
theorem C02_admits_only_local_executions {c : Ctx} {e : Env} {r : Refs} {orig : Name → Option (List Field)}
    (H : Hyp c e r orig) (hnd : TypeNamesNodup c.S) {mfuel fuel D : Nat} {root : Name} {p : Pos} {ss : List Selection}
    {T : SelTree} (h : implTree c.S c.F mfuel fuel (.nonNull (.named root p)) ss = .ok T)
    (hC : ∀ d, Coh c d (Sb1 ss) root) (hf : FuelOk c D ss) {v : J} (hv : JWf v)
    (hm : Mem e v (treeTs r T false)) : ∃ o ∈ c.S.possibleTypes root, RefLocal c o ss v :=
  (C01.impl_eq_refLocal_root H hnd h hC hf v hv).1 hm

open NitroVerif.OpTypes.Ref in
/-- … for the type as emitted (references closed against the linked declaration table, real `__SelectionSet` hook) -/
theorem C02_admits_only_local_executions_emitted {c : Ctx} (d : Decls) (ns : String)
    {orig : Name → Option (List Field)}
    (H : Hyp c { decls := d, appHook := SelSem.hook } ((Refs.ofNs ns).close d) orig)
    (hnd : TypeNamesNodup c.S) {mfuel fuel D : Nat} {root : Name} {p : Pos} {ss : List Selection} {T : SelTree}
    (h : implTree c.S c.F mfuel fuel (.nonNull (.named root p)) ss = .ok T) (hC : ∀ d, Coh c d (Sb1 ss) root)
    (hf : FuelOk c D ss) {v : J} (hv : JWf v)
    (hm : Mem { decls := d, appHook := SelSem.hook } v (globalise d [] [] (toTs ns T))) :
    ∃ o ∈ c.S.possibleTypes root, RefLocal c o ss v :=
  (C01.impl_eq_refLocal_emitted d ns H hnd h hC hf v hv).1 hm

set_option maxRecDepth 16384 in
open NitroVerif.OpTypes.Ref in
/-- the hypotheses are satisfiable by a non-trivial input (witness schema + declaration file, the document
    `{ a { x } a { y @skip(if: $v) } }`), and the theorem applies to a value the emitted type admits -/
example : ∃ T, implTree W.ctx.S W.ctx.F 16 16 (.nonNull (.named "Query" {})) W.selA = .ok T ∧
    Mem W.env (.obj [("a", W.respX)]) (treeTs Ref.W.r T false) ∧
    ∃ o ∈ W.ctx.S.possibleTypes "Query", RefLocal W.ctx o W.selA (.obj [("a", W.respX)]) := by
  obtain ⟨T, hT, hm⟩ := C01.merge_repaired_document
  rw [W.close, C01.toTs_closed] at hm
  exact ⟨T, hT, hm, C02_admits_only_local_executions Ref.W.hyp Ref.W.typeNamesNodup hT Ref.W.coh_selA Ref.W.fuelOk_selA
    (by simp [JWf, JWfFields, W.respX]) hm⟩

open NitroVerif.OpTypes.Ref in
/-- **Why ⊇ is stated for values without repeated record keys.** The value domain `J` of the TypeScript semantics allows a
    record to list a key twice; the exact-key reading looks a key up by its FIRST entry.  The type emitted for
    `{ x  y @skip(if: $v) }` on `A` admits `{ x: 1, y: <absent>, y: "s" }` (through the `y?: never` branch: the first `y` is
    absent, and `y` is a declared key), which no execution returns.  No JSON parser produces such a value; the hypothesis
    `JWf` of `C02_admits_only_local_executions` excludes exactly these. -/
theorem repeated_key_counterexample :
    (W.newTree.toOption.map fun t => W.close (toTs "Schema" t)) = some W.newTy ∧ Mem W.env Cex.dup W.newTy ∧
    ¬ RefLocal W.ctx "A" (W.selX ++ W.selYskip) Cex.dup ∧ ¬ JWf Cex.dup :=
  ⟨W.newTree_ty, Cex.dup_mem, Cex.dup_not_refLocal, Cex.dup_not_wf⟩

/-
OPEN — carried by K/O only: nothing of C02's statement except what `Props/C01.lean` lists (model = code (K); the trusted
reading of TypeScript).  The hypotheses `Hyp` are PROVED for the schema declaration file the model of the schema printer
emits and the absence of panics with the model's own fuels is proved (`Props/C01Closed.lean`); `Props/C02Closed.lean` has
the end-to-end forms (`C02_end_to_end`, `C02_pipeline_end_to_end`) and what is left after them: the hypotheses no check
establishes, listed in the block at the end of `Props/C01Closed.lean` (`skipIncludeB`, `CfgOk`, `noKeyClashB`, the
scalar-text clauses of `DocOK`, the wrapper bound, `schemaOkB` / `ifaceOkB` kept as hypotheses), the value hypothesis
`JWf`, and the fuel of the executable specification, which is covered from the expanded size upwards, not at the
driver's `docSize D + 8` (`fuelOk_not_tight_witness`).  `RefLocal` is a superset of `Exec` (`C01.exec_sub_refLocal`):
exclusion is proved relative to `RefLocal`.  The inclusion is strict, and the gap is the type system's, not the printer's:
on the witness schema, `{ a { x @skip(if: $v) }  b: a { x @skip(if: $v) } }` has the `RefLocal` response `a: { x: 1 }, b: {}`
($v re-chosen per selection set), which no single assignment of $v returns; the emitted type, a product over the response keys of per-field unions, admits it — a type without
dependencies between sibling fields cannot exclude it.  The O stream keeps testing the REAL emitted files.
-/

end NitroVerif.Props.C02
