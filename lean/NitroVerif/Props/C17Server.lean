import NitroVerif.Lemmas.DeterminismServerBlocks
import NitroVerif.Lemmas.DeterminismServerParse
import NitroVerif.Props.C11
import NitroVerif.Props.C16Text
/-!
# C17 (server schema file) — `serverGraphqlOutput` under reordering of the schema's definitions

`Props/C17Concrete.lean` covers the checkers and the TypeScript declaration files; here: the
module written to `serverGraphqlOutput` (generate.rs: `remove_builtins`, the plugins' `transform_document_for_runtime_server`,
`TypeSystemDocument::print_graphql` into a `JsStringWriter`, wrapped by `export const schema = \`…\`;`). Its model is C16's
(`Model/GqlPrint.lean` `serverGraphqlOutput`, tied to the code by C16's K stream, byte for byte).

In this file the PERMUTED document comes first in the hypothesis (`h : T'.Perm T`; `Props/C17Concrete.lean` writes
`T.Perm T'`). The round-trip statements at the end keep C16's side conditions (`OnlyOnScalars`, `OnlyOnObjects`,
`wfTsDoc`, `itemUnionOK`, `strsOK`, `lexemesOK`) as hypotheses.

OPEN — carried by K/O only (see also the block at the end of `Props/C17.lean`): that the model is the code (K of C16); the
real server schema files of permuted projects are compared as multisets of LINES by harness/src/bin/c17.rs (O); byte
equality of the file across fresh processes (O).
-/
namespace NitroVerif.Determinism
open NitroVerif.Gql NitroVerif.GqlPrint NitroVerif.JsTemplate NitroVerif.DeterminismServer

/-- the definitions that reach the server schema file: `remove_builtins`, then the model plugin's transform if the
    plugin is configured (both work definition by definition) -/
def serverItems (T : TsDoc) (modelPlugin : Bool) : TsDoc :=
  if modelPlugin then removeModel (removeBuiltins T) else removeBuiltins T

/-- generate.rs around the template literal: the fixed first line, `export const schema = `, the opening back-tick and
    the line feed `JsStringWriter::new` writes, the body, the closing back-tick, `;` and a line feed -/
def serverWrap (body : List Char) : List Char :=
  "// generated by nitrogql\n".toList ++ "export const schema = ".toList ++ (['`', '\n'] ++ body ++ ['`']) ++ ";\n".toList

/-- two server schema modules that consist of the same blocks in a different order -/
def ServerSchemaEquiv (a b : List Char) : Prop :=
  ∃ bs bs' : List (List Char), bs.Perm bs' ∧ a = serverWrap bs.flatten ∧ b = serverWrap bs'.flatten

/-- **A printed type-system document is the concatenation of its definitions' texts.** For EVERY type-system
    document and both writers (`js = false`: `JustWriter`, the plain SDL text; `js = true`: `JsStringWriter`, the
    characters between the back-ticks): what `TypeSystemDocument::print_graphql` leaves in the writer is, definition by
    definition, exactly what printing that definition ALONE into a fresh writer gives (`itemBlock`). So the text of a
    definition depends on nothing but the definition: not on its neighbours, not on its place in the document
    (indentation is balanced inside a definition; the writer's other state cannot be observed at column 0). -/
theorem C17_server_doc_is_blocks (js : Bool) (T : TsDoc) :
    runOps js {} (ops (printTsDoc T)) = (T.map (itemBlock js)).flatten :=
  runOps_tsDoc js T false

/-- the same for the SDL text (`GqlPrint.text`, what C16 lexes and parses) -/
theorem C17_server_text_is_blocks (T : TsDoc) : text (printTsDoc T) = (T.map (itemBlock false)).flatten :=
  runOps_tsDoc false T false

/-- **The `serverGraphqlOutput` module is the wrapper around the blocks of the surviving definitions**, for every
    checked document and both settings of the model plugin. -/
theorem C17_server_module_is_blocks (T : TsDoc) (modelPlugin : Bool) :
    serverGraphqlOutput T modelPlugin = serverWrap ((serverItems T modelPlugin).map (itemBlock true)).flatten := by
  unfold serverGraphqlOutput serverModule jsLiteral serverWrap serverItems
  cases modelPlugin <;> simp only [Bool.false_eq_true, if_false, if_true] <;> rw [C17_server_doc_is_blocks]

/-- **The server schema file of a reordered schema is the same file with its blocks reordered the same way.** For
    EVERY type-system document `T` and EVERY permutation `T'` of its definitions (no side condition: names may even
    repeat), and both settings of the model plugin:
    * the definitions that survive `remove_builtins` / the plugin are a permutation of each other, each one stripped
      exactly as in the other order (the stripping is per definition);
    * each module is `serverWrap` of the concatenation of its definitions' blocks, in the order of its document;
    * hence the blocks of `T'` are the blocks of `T` permuted (`List.Perm` of the block lists: the block of a given
      definition is byte for byte the same in both files), and the two modules are `ServerSchemaEquiv`. -/
theorem C17_server_schema_perm {T T' : TsDoc} (h : T'.Perm T) (modelPlugin : Bool) :
    (serverItems T' modelPlugin).Perm (serverItems T modelPlugin) ∧
    serverGraphqlOutput T modelPlugin = serverWrap ((serverItems T modelPlugin).map (itemBlock true)).flatten ∧
    serverGraphqlOutput T' modelPlugin = serverWrap ((serverItems T' modelPlugin).map (itemBlock true)).flatten ∧
    ((serverItems T' modelPlugin).map (itemBlock true)).Perm ((serverItems T modelPlugin).map (itemBlock true)) ∧
    ServerSchemaEquiv (serverGraphqlOutput T modelPlugin) (serverGraphqlOutput T' modelPlugin) := by
  have hp : (serverItems T' modelPlugin).Perm (serverItems T modelPlugin) := by
    unfold serverItems removeModel removeBuiltins
    cases modelPlugin
    · exact h.filterMap _
    · exact (h.filterMap _).filterMap _
  exact ⟨hp, C17_server_module_is_blocks T _, C17_server_module_is_blocks T' _, hp.map _,
    _, _, (hp.map _).symm, C17_server_module_is_blocks T _, C17_server_module_is_blocks T' _⟩

/-- …and for the plain SDL text of any document (no stripping): the text of `T'` is the concatenation of the texts of
    its definitions, which are the texts of the definitions of `T`, permuted. -/
theorem C17_server_text_perm {T T' : TsDoc} (h : T'.Perm T) :
    text (printTsDoc T') = (T'.map (itemBlock false)).flatten ∧
    (T'.map (itemBlock false)).Perm (T.map (itemBlock false)) ∧
    (text (printTsDoc T')).Perm (text (printTsDoc T)) := by
  refine ⟨C17_server_text_is_blocks T', h.map _, ?_⟩
  rw [C17_server_text_is_blocks, C17_server_text_is_blocks]
  exact (h.map _).flatten

/-- two modules of the same blocks have the same characters with the same multiplicities (in particular the same
    length) -/
theorem C17_server_schema_equiv_chars {a b : List Char} (h : ServerSchemaEquiv a b) : a.Perm b := by
  obtain ⟨bs, bs', hp, rfl, rfl⟩ := h
  unfold serverWrap
  exact ((List.Perm.refl _).append (((List.Perm.refl _).append hp.flatten).append (List.Perm.refl _))).append
    (List.Perm.refl _)

/-- a two-file schema (`schema.graphql`: a scalar with the nitrogql-only directive and the `Query` type;
    `user.graphql`: an object type with a description and the directive definition) -/
def serverSample : TsDoc :=
  [.typeDef { kind := .scalar, name := "Date", dirs := [{ name := "nitrogql_ts_type", args := [("resolverInput", {}, .str "string" {})] }] },
   .typeDef { kind := .object, name := "Query", fields := [{ name := "me", ty := .nonNull (.named "User" {}) }] },
   .typeDef { kind := .object, name := "User", desc := some "a user\nof the system",
              fields := [{ name := "born", ty := .named "Date" {}, args := [{ name := "tz", ty := .named "String" {}, default := some (.str "UTC" {}) }] }] },
   .directiveDef { name := "nitrogql_ts_type", args := [{ name := "resolverInput", ty := .nonNull (.named "String" {}) }], locations := ["SCALAR"] }]

/-- the files read in the other order -/
def serverSample' : TsDoc := serverSample.drop 2 ++ serverSample.take 2

/-- non-vacuity: the two orders are a permutation of each other, three definitions survive, the block of the `Date`
    scalar is `scalar Date` + line feed (directive stripped) in both -/
example : serverSample'.Perm serverSample ∧ (serverItems serverSample false).length = 3 ∧
    (serverItems serverSample false).head?.map (itemBlock true) = some "scalar Date\n".toList ∧
    (serverItems serverSample' false).getLast?.map (itemBlock true) = some
      "type Query {\n  me: User!\n}\n".toList := by
  rw [String.toList_ofList, String.toList_ofList]
  exact ⟨List.perm_append_comm, by decide +kernel, by decide +kernel, by decide +kernel⟩

/-- **"Up to the order of the blocks" cannot be dropped**: the two orders of the sample give different module texts —
    the order of the schema's definitions is visible in the server schema file (not in what it parses to, see below). -/
theorem C17_server_schema_order_leaks_into_text :
    serverSample'.Perm serverSample ∧
    serverGraphqlOutput serverSample false ≠ serverGraphqlOutput serverSample' false := by
  exact ⟨List.perm_append_comm, by decide +kernel⟩

/-- **From source order to the server schema file.** Let `doc'` be any permutation of the raw schema items `doc`
    (definitions AND extensions, moved inside or across files) that keeps, per kind and name, the relative order of the
    extensions. If `doc` resolves (to `out`), `doc'` resolves too (to `out'`), and the two server schema modules consist
    of the same per-definition blocks — byte for byte — in a possibly different order. -/
theorem C17_server_schema_from_sources (doc doc' out : TsDoc) (hp : doc'.Perm doc)
    (hk : ExtMerge.KeepsExtOrder doc' doc) (h : ExtResolve.resolve doc = .ok out) (modelPlugin : Bool) :
    ∃ out', ExtResolve.resolve doc' = .ok out' ∧
      ((serverItems out' modelPlugin).map (itemBlock true)).Perm ((serverItems out modelPlugin).map (itemBlock true)) ∧
      ServerSchemaEquiv (serverGraphqlOutput out modelPlugin) (serverGraphqlOutput out' modelPlugin) := by
  obtain ⟨out', h'⟩ := ((ExtResolve.C11_perm doc doc' hp hk).1).mpr ⟨out, h⟩
  have hperm : out'.Perm out := (ExtResolve.C11_perm doc doc' hp hk).2 out out' h h'
  obtain ⟨_, _, _, h4, h5⟩ := C17_server_schema_perm hperm modelPlugin
  exact ⟨out', h', h4, h5⟩

/-- the hypotheses are satisfiable: C11's sample (an `extend scalar S @d` BEFORE `scalar S`, a directive definition, a
    second scalar in another file) and its reverse -/
example : ∃ out, ExtResolve.resolve ExtResolve.sampleOk = .ok out ∧ ExtResolve.sampleOk.reverse.Perm ExtResolve.sampleOk ∧
    ExtMerge.KeepsExtOrder ExtResolve.sampleOk.reverse ExtResolve.sampleOk :=
  ⟨_, rfl, List.reverse_perm _, rfl, fun k n => by
    simp only [ExtResolve.sampleOk, List.reverse_cons, List.reverse_nil, List.nil_append, List.cons_append,
      ExtMerge.typeExts, List.filterMap_cons, List.filterMap_nil]⟩

open NitroVerif.C16 NitroVerif.GqlTokens NitroVerif.GqlLexer NitroVerif.Cook in
/-- **Both orders parse back to the same document up to the order of definitions.** Let `T` satisfy the hypotheses of
    C16's round-trip theorem `server_module_roundtrip_text` (the two nitrogql-only directives applied where the checker
    allows; the stripped document derivable from the grammar, no member-less union, strings for which `print_string` is
    exact, GraphQL Names and numbers) and let `T'` be any permutation of `T`. Then `T'` satisfies them too; for both, the
    template literal of the module evaluates (ECMAScript cooking) to a text that the GraphQL lexer and parser read as a
    document — `P` resp. `P'` — and `P'` is a permutation of `P` (`P` being the checked schema without the stripped
    directives, positions erased). -/
theorem C17_server_schema_parse_perm {T T' : TsDoc} (h : T'.Perm T) (modelPlugin : Bool)
    (h1 : OnlyOnScalars nitroName T)
    (h2 : modelPlugin = true → OnlyOnObjects modelName (Strip.stripDirective nitroName T))
    (hwf : wfTsDoc (serverDoc T modelPlugin) = true) (hu : (serverDoc T modelPlugin).all itemUnionOK = true)
    (hs : strsOK (tsDocToks (serverDoc T modelPlugin)) = true)
    (hn : lexemesOK (tsDocToks (serverDoc T modelPlugin)) = true) :
    ∃ v v' P P',
      serverGraphqlOutput T modelPlugin = serverModule (ops (printTsDoc (serverDoc T modelPlugin))) ∧
      cook ('\n' :: runOps true {} (ops (printTsDoc (serverDoc T modelPlugin)))) = some v ∧
      (lexDocument v).bind parseTsDocument = some P ∧
      serverGraphqlOutput T' modelPlugin = serverModule (ops (printTsDoc (serverDoc T' modelPlugin))) ∧
      cook ('\n' :: runOps true {} (ops (printTsDoc (serverDoc T' modelPlugin)))) = some v' ∧
      (lexDocument v').bind parseTsDocument = some P' ∧
      P = eraseTsDoc (serverDoc T modelPlugin) ∧ P'.Perm P := by
  have hsd := serverDoc_perm h modelPlugin
  obtain ⟨m, v, c, p⟩ := server_module_roundtrip_text T modelPlugin h1 h2 hwf hu hs hn
  obtain ⟨m', v', c', p'⟩ := server_module_roundtrip_text T' modelPlugin (onlyOnScalars_perm h h1)
    (fun e => onlyOnObjects_perm (stripDirective_perm _ h) (h2 e))
    (by rw [wfTsDoc_perm hsd]; exact hwf) (by rw [hsd.all_eq]; exact hu)
    (by rw [strsOK_perm (tsDocToks_perm hsd)]; exact hs) (by rw [lexemesOK_perm (tsDocToks_perm hsd)]; exact hn)
  exact ⟨v, v', _, _, m, c, p, m', c', p', rfl, hsd.map _⟩

open NitroVerif.C16 NitroVerif.GqlTokens in
/-- the hypotheses are satisfiable: C16's checked sample (both nitrogql-only directives, a block-string description)
    and its reverse -/
example : sampleChecked.reverse.Perm sampleChecked ∧
    wfTsDoc (serverDoc sampleChecked true) = true ∧ (serverDoc sampleChecked true).all itemUnionOK = true ∧
    strsOK (tsDocToks (serverDoc sampleChecked true)) = true ∧
    lexemesOK (tsDocToks (serverDoc sampleChecked true)) = true := by
  exact ⟨List.reverse_perm _, by decide +kernel⟩

open NitroVerif.C16 NitroVerif.GqlTokens NitroVerif.GqlLexer NitroVerif.Cook in
/-- **From source order to the parsed server schema.** `doc'` a permutation of the raw items `doc` that keeps each
    name's extensions in order, `doc` resolving to `out`, and `out` within C16's side conditions: then `doc'` resolves to
    some `out'`, both server schema modules evaluate, lex and parse, and the parsed documents are the same up to the
    order of their definitions. -/
theorem C17_server_schema_pipeline (doc doc' out : TsDoc) (hp : doc'.Perm doc)
    (hk : ExtMerge.KeepsExtOrder doc' doc) (h : ExtResolve.resolve doc = .ok out) (modelPlugin : Bool)
    (h1 : OnlyOnScalars nitroName out)
    (h2 : modelPlugin = true → OnlyOnObjects modelName (Strip.stripDirective nitroName out))
    (hwf : wfTsDoc (serverDoc out modelPlugin) = true) (hu : (serverDoc out modelPlugin).all itemUnionOK = true)
    (hs : strsOK (tsDocToks (serverDoc out modelPlugin)) = true)
    (hn : lexemesOK (tsDocToks (serverDoc out modelPlugin)) = true) :
    ∃ out' v v' P P', ExtResolve.resolve doc' = .ok out' ∧
      cook ('\n' :: runOps true {} (ops (printTsDoc (serverDoc out modelPlugin)))) = some v ∧
      (lexDocument v).bind parseTsDocument = some P ∧
      cook ('\n' :: runOps true {} (ops (printTsDoc (serverDoc out' modelPlugin)))) = some v' ∧
      (lexDocument v').bind parseTsDocument = some P' ∧ P'.Perm P := by
  obtain ⟨out', h'⟩ := ((ExtResolve.C11_perm doc doc' hp hk).1).mpr ⟨out, h⟩
  have hperm : out'.Perm out := (ExtResolve.C11_perm doc doc' hp hk).2 out out' h h'
  obtain ⟨v, v', P, P', _, c, p, _, c', p', _, hP⟩ :=
    C17_server_schema_parse_perm hperm modelPlugin h1 h2 hwf hu hs hn
  exact ⟨out', v, v', P, P', h', c, p, c', p', hP⟩

end NitroVerif.Determinism
