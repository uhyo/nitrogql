import NitroVerif.Props.C12Composed
import NitroVerif.Lemmas.JsonTextFrame
import NitroVerif.Lemmas.JsonTextSubset
import NitroVerif.Lemmas.JsonTextFuel
/-!
# C12 at TEXT level: the emitted literal, read as text, is the source operation plus exactly the fragments it needs

Property theorems only. `Props/C12.lean` and `Props/C12Composed.lean` speak about the JSON TREE the printer model builds
(`DocJson.toJson`). What nitrogql emits is TEXT: `print_to_json_string` (json-writer 0.4's compact writers with its escape
table — `Model/PrintMap.lean` `jsonText` / `jsonStr` / `jsonEscChar`, K-compared call by call with the real printers by C06)
written by ONE `writer.write` between `const <Name> = ` and `;` (JavaScript module, bundler loaders:
`operation_js_printer/visitor.rs`) or between `const <Name>: T = ` and ` as unknown as T;` (`.graphql.ts`:
`operation_type_printer/visitor.rs`). So the literal is embedded as a JavaScript OBJECT LITERAL — there is no `JSON.parse('…')`
and no second escaping layer.

Readers (`Spec/JsonText.lean`, written from the standards): `JsonText.parse` = RFC 8259 / ECMA-404 (`JSON.parse`);
`JsonText.JsLit.expr` = the literal subset of ECMA-262's `PrimaryExpression` with ECMAScript's lexical layer, reading the
expression at the head of a text and returning the text behind it. `readText` / `readJsExpr` (`Lemmas/JsonTextFrame.lean`)
compose them with C12's reference `DocumentNode` reader `ReadDoc.readDoc`.

What is ASSUMED about ECMAScript (not provable here, stated once):
  (E1) `JsLit` transcribes ECMA-262 for the subset: §12.2/§12.3 white space and line terminators, §12.9.4 string literals and
       their `SV`, §13.2.4/§13.2.5 array and object initialisers evaluate their elements / `PropertyName : AssignmentExpression`
       pairs in order into elements / own properties, EXCEPT the name `__proto__` (Annex B.3.1), for which the reader answers
       `none`; `C12_text_member_names` shows the printer never writes that name, nor a number, nor a repeated name.
       That the JSON grammar is INCLUDED in this grammar is not assumed: `json_subset_of_ecmascript` proves it for all texts.
  (E2) the engine implements ES2019 or later: U+2028 / U+2029 may stand raw in a string literal. json-writer does not escape
       them; `C12_text_needs_es2019` shows the literal of a document with such a string is NOT an ES2018 expression.
  (E3) TypeScript's `e as unknown as T` erases to `e`.

OPEN — carried by K/O only (K: correspondence check, O: oracle — see `Props/C12.lean`): that the real printers write these
characters (C06's call-by-call comparison and C12's tree comparison through serde_json; `JsonText.parse` / `JsLit.expr` are applied to the MODEL's text only, no stream runs them on
real output); the parser's reading of the source text (C07). The lifted theorems keep the hypotheses of the theorems they
lift (`Resolved`, `RootOKp`, `ProjectOk`, distinct fragment names, every reachable spread defined); the module theorems hold
"whenever the printer model returns"; `C12_text_needs_es2019` is one witness (U+2028).
-/
namespace NitroVerif.C12
open NitroVerif NitroVerif.Gql NitroVerif.DocJson NitroVerif.ReadDoc NitroVerif.FragClosure NitroVerif.Composed
open NitroVerif.PrintMap NitroVerif.JsonText
open NitroVerif.Imports (Res DefId Import File FS resolve)
open NitroVerif.Imports.Spec (InRef refImports RootOK)

/-- STRING LEMMA. For EVERY string `s` (quotes, backslashes, `/`, control characters, non-ASCII, astral — any sequence of
    Unicode scalar values) and every text `rest`: reading json-writer's escaped characters of `s`, the closing quotation mark
    and `rest` with the RFC 8259 string scanner gives back exactly `s` and leaves exactly `rest`; the ECMA-262 string-literal
    scanner does the same. Hence `write_string s` is read back as the string `s` by both whole-text readers. -/
theorem json_string_roundtrip (s : String) (rest : List Char) :
    strBody (escChars s.toList ++ '"' :: rest) = some (s.toList, rest) ∧
    JsLit.strBody true '"' (escChars s.toList ++ '"' :: rest) = some (s.toList, rest) ∧
    JsonText.parse (jsonStr s).toList = some (.str s) ∧
    JsLit.expr ((jsonStr s).toList ++ rest) = some (.str s, rest) := by
  refine ⟨strBody_esc _ _, js_strBody_esc _ _, ?_, ?_⟩
  · exact parse_jsonText (.str s) rfl
  · have := value_str jsLit_ok s (fuelFor ((jsonStr s).toList ++ rest) - 1) rest
    rw [jsonStr_toList]
    have e : fuelFor (strChars s ++ rest) = (fuelFor (strChars s ++ rest) - 1) + 1 := by simp [fuelFor]
    rw [jsonStr_toList] at this
    unfold JsLit.expr
    rw [e]
    exact this

/-- every escape class of json-writer's table in one string — `"` `\` `/` BS FF LF CR HT, two other C0 controls (U+0000,
    U+001F), DEL, a non-ASCII letter, U+2028, U+2029, an astral character: the escaped text, and both scanners evaluated on it -/
example :
    escChars ['"', '\\', '/', Char.ofNat 8, Char.ofNat 12, '\n', '\r', '\t', Char.ofNat 0, Char.ofNat 31,
      Char.ofNat 127, 'é', Char.ofNat 0x2028, Char.ofNat 0x2029, Char.ofNat 0x1F600, 'a']
      = "\\\"\\\\\\/\\b\\f\\n\\r\\t\\u0000\\u001F\x7fé\u2028\u2029😀a".toList ∧
    strBody ("\\\"\\\\\\/\\b\\f\\n\\r\\t\\u0000\\u001F\x7fé\u2028\u2029😀a\";".toList) =
      some (['"', '\\', '/', Char.ofNat 8, Char.ofNat 12, '\n', '\r', '\t', Char.ofNat 0, Char.ofNat 31,
        Char.ofNat 127, 'é', Char.ofNat 0x2028, Char.ofNat 0x2029, Char.ofNat 0x1F600, 'a'], [';']) ∧
    JsLit.strBody true '"' ("\\\"\\\\\\/\\b\\f\\n\\r\\t\\u0000\\u001F\x7fé\u2028\u2029😀a\";".toList) =
      some (['"', '\\', '/', Char.ofNat 8, Char.ofNat 12, '\n', '\r', '\t', Char.ofNat 0, Char.ofNat 31,
        Char.ofNat 127, 'é', Char.ofNat 0x2028, Char.ofNat 0x2029, Char.ofNat 0x1F600, 'a'], [';']) := by
  rw [String.toList_ofList, String.toList_ofList]
  decide +kernel

/-- the reader is not the writer's inverse by construction: it reads what RFC 8259 allows and the writer never produces
    (lower-case hexadecimal digits, `\u` escapes of printable characters, surrogate pairs, white space), and rejects what
    RFC 8259 forbids (a raw control character, a lone surrogate, an unknown escape, a trailing comma, a leading zero) -/
example :
    (JsonText.parse " [ \"\\u00e9\\uD83D\\uDE00\\u002f\" ,\t1.5e+3 , { \"a\" : null } ]\n".toList).map chars =
      some "[\"é😀\\/\",1.5e+3,{\"a\":null}]".toList ∧
    JsonText.parse ['"', '\n', '"'] = none ∧ JsonText.parse "\"\\uD83D\"".toList = none ∧
    JsonText.parse "\"\\q\"".toList = none ∧ JsonText.parse "[1,]".toList = none ∧ JsonText.parse "01".toList = none := by
  rw [String.toList_ofList, String.toList_ofList, String.toList_ofList, String.toList_ofList, String.toList_ofList,
    String.toList_ofList]
  decide +kernel

/-- THE ANSWERS OF `value` DO NOT DEPEND ON ITS FUEL (the readers recurse on explicit fuel to be total). For EVERY text: if some
    fuel makes `value` read a tree at the head of the text, every larger fuel and the standard fuel `fuelFor` (what `parse` and
    `JsLit.expr` use) give the same tree and the same rest; and if `JsonText.parse s = none`, whatever `value` reads at the head of
    `s` with any fuel is followed by more than white space. The fuel meant is that of `value` / `elements` / `members`; the
    string scanners run on a fuel of their own, `length + 1`, which `Spec/JsonText.lean` fixes and which is not varied here. -/
theorem json_reader_fuel_independent (s : List Char) (t : Json) (r : List Char) (f : Nat) :
    (value rfc8259 f s = some (t, r) →
      (∀ g, f ≤ g → value rfc8259 g s = some (t, r)) ∧ value rfc8259 (fuelFor s) s = some (t, r)) ∧
    (value JsLit.lex f s = some (t, r) →
      (∀ g, f ≤ g → value JsLit.lex g s = some (t, r)) ∧ JsLit.expr s = some (t, r)) ∧
    (JsonText.parse s = none → value rfc8259 f s = some (t, r) → skipWs rfc8259.ws r ≠ []) := by
  refine ⟨fun h => value_fuelFor rfc8259_consumes h, fun h => value_fuelFor (jsLit_consumes true) h, fun hn h he => ?_⟩
  have hp := parseWith_eq_some.mpr ⟨r, (value_fuelFor rfc8259_consumes h).2, he⟩
  rw [show parseWith rfc8259 s = JsonText.parse s from rfl, hn] at hp
  cases hp

/-- a text read with little fuel (5 is enough for `[[1],2]`, 4 is not), hence with every larger fuel -/
example : (value rfc8259 5 "[[1],2] x".toList).map (fun p => (chars p.1, p.2)) = some ("[[1],2]".toList, " x".toList) ∧
    value rfc8259 4 "[[1],2] x".toList = none := by
  rw [String.toList_ofList, String.toList_ofList, String.toList_ofList]
  decide +kernel

/-- JSON TEXT ROUND TRIP. For EVERY JSON tree `t` whose numbers are number tokens of RFC 8259 §6 (`good rfc8259.key t`: the
    only condition; strings and member names are arbitrary, nesting and sizes unbounded, member order and repeated names kept)
    the reference reader reads json-writer's compact text of `t` back as exactly `t`; and read as a prefix of any text that
    cannot continue a number, it stops exactly behind the tree. -/
theorem json_text_roundtrip (t : Json) (h : good rfc8259.key t = true) :
    JsonText.parse (jsonText t).toList = some t ∧
    ∀ rest, Delim rest →
      value rfc8259 (fuelFor ((jsonText t).toList ++ rest)) ((jsonText t).toList ++ rest) = some (t, rest) := by
  refine ⟨parse_jsonText t h, fun rest hd => ?_⟩
  rw [jsonText_toList]
  exact value_chars_fuelFor rfc8259_ok t h rest hd

/-- a tree satisfying the hypothesis: nested arrays and objects, empty ones, a repeated member name, every escape class in a
    member name and in a string, `true false null`, numbers with sign, fraction and exponent -/
example : good rfc8259.key
    (.obj [("a\"\\/\n\u0001é\u2028😀", .arr [.str "\"\\/\u0008\u000c\n\r\t\u0000é\u2029😀", .null, .bool true, .bool false, .obj [], .arr []]),
           ("k", .num "-1.5e+10"), ("k", .num "0"), ("", .arr [.arr [.num "12E-3"]])]) = true := by
  decide +kernel

/-- Why the hypothesis on numbers: `Json.num` keeps a raw text; a raw text that is not a number token is not read back. -/
theorem json_text_roundtrip_needs_number_tokens :
    JsonText.parse (jsonText (.num "01")).toList = none ∧ JsonText.parse (jsonText (.num "")).toList = none ∧
    (JsonText.parse (jsonText (.arr [.num "1,2"])).toList).map chars = some "[1,2]".toList := by
  refine ⟨?_, ?_, ?_⟩ <;> decide +kernel

/-- The document printer writes NO JSON number (graphql-js keeps `IntValue` / `FloatValue` literals as strings), only the
    seventeen member names of `JsonText.vocab` (`__proto__` is not one of them), and never the same name twice in one object —
    for every list of definitions. So the round trip holds unconditionally for its trees, for both readers; and a consumer
    that keeps the LAST occurrence of a repeated name (`JSON.parse`, an object literal) finds under every name what
    `Json.lookup` (first occurrence, used by the reference `DocumentNode` reader) finds. -/
theorem C12_text_member_names (defs : List ExecDef) :
    shape (toJson defs) = true ∧
    good rfc8259.key (toJson defs) = true ∧ good JsLit.lex.key (toJson defs) = true ∧
    "__proto__" ∉ vocab ∧
    ∀ (kvs : List (String × Json)) (k : String), keysOk (kvs.map (·.1)) = true → Json.lookup k kvs = lookupLast k kvs := by
  refine ⟨shape_toJson defs, good_doc_rfc defs, good_doc_js defs, by decide, fun kvs k h => ?_⟩
  simp only [keysOk, Bool.and_eq_true, decide_eq_true_eq] at h
  exact lookup_eq_lookupLast k kvs h.2

/-- C12, TEXT LEVEL. For every `Resolved` document (operations and fragments only, no empty selection set — what parser and
    import resolver are expected to produce, not proved here): parsing the TEXT json-writer writes for it with
    the RFC 8259 reader and reading the result with the independent graphql-js `DocumentNode` reader returns exactly the source
    definitions with positions erased. (`C12_roundtrip` lifted from trees to text.) -/
theorem C12_text_level (defs : List ExecDef) (h : Resolved defs) :
    JsonText.parse (jsonText (toJson defs)).toList = some (toJson defs) ∧
    readText (jsonText (toJson defs)).toList = some (erasePos defs) := by
  refine ⟨parse_doc defs, ?_⟩
  simp [readText, parse_doc, C12_roundtrip defs h]

/-- Runtime document of an OPERATION X of an import-resolved document, as TEXT: the printer's single `write` carries a text
    that, parsed as JSON and read as a `DocumentNode`, is `[X] ++` the definitions of the reference closure of X's spreads
    (each once, first-visit order), positions erased; the same text standing at the head of ANY text that cannot continue a
    number (the `;` of the module, the ` as unknown as` of the `.graphql.ts` file), read as an ECMAScript expression, gives
    the same definitions and leaves exactly that text. (`C12_closure` lifted to text.) -/
theorem C12_text_closure (defs : List ExecDef) (hres : Resolved defs) (o : OperationDef) (ho : ExecDef.op o ∈ defs)
    (hdef : ∀ n, Reach (envOf defs) o.sel n → (getFrag defs n).isSome) :
    ∃ names txt, closure (envOf defs) defs.length o.sel = some names ∧ names.Nodup ∧
      runtimeText defs (.op o) = .ok txt ∧
      readText txt.toList = some (erasePos (.op o :: fragDefs defs names)) ∧
      ∀ rest, Delim rest → readJsExpr (txt.toList ++ rest) = some (erasePos (.op o :: fragDefs defs names), rest) := by
  obtain ⟨names, hc, hnd, hrun, _, _⟩ := C12_closure defs o hdef
  have hread := C12_roundtrip _ (resolved_fragDefs hres (.op o) ho names)
  obtain ⟨h1, h2, h3⟩ := text_lift hrun hread
  exact ⟨names, _, hc, hnd, h1, h2, h3⟩

/-- The same for the runtime document of a FRAGMENT X: `[X] ++` the closure of its spreads minus its own name.
    (`C12_closure_frag` lifted to text.) -/
theorem C12_text_closure_frag (defs : List ExecDef) (hres : Resolved defs) (f : FragmentDef) (hf : ExecDef.frag f ∈ defs)
    (hdef : ∀ n, Reach (envOf defs) f.sel n → (getFrag defs n).isSome) :
    ∃ names txt, closure (envOf defs) defs.length f.sel = some names ∧ names.Nodup ∧
      runtimeText defs (.frag f) = .ok txt ∧
      readText txt.toList = some (erasePos (.frag f :: fragDefs defs (names.filter fun n => n != f.name))) ∧
      ∀ rest, Delim rest →
        readJsExpr (txt.toList ++ rest) = some (erasePos (.frag f :: fragDefs defs (names.filter fun n => n != f.name)), rest) := by
  obtain ⟨names, hc, hnd, hrun, _, _⟩ := C12_closure_frag defs f hdef
  have hread := C12_roundtrip _ (resolved_fragDefs hres (.frag f) hf (names.filter fun n => n != f.name))
  obtain ⟨h1, h2, h3⟩ := text_lift hrun hread
  exact ⟨names, _, hc, hnd, h1, h2, h3⟩

/-- a document satisfying the hypotheses of `C12_text_closure` whose runtime document has a non-empty tail and a string with
    every escape class; here, and only here, the kernel EVALUATES the whole chain text → JSON → `DocumentNode`, so that one sees
    without any theorem that the models compute what they should (the definitions read are compared through their own text
    because `ExecDef` has no decidable equality) -/
example :
    let F : FragmentDef := { name := "F", cond := "T", sel := [.field none "c" {} [("s", {}, .str "\"\\/\u0008\u000c\n\r\t\u0001é\u2028😀" {})] [] none] }
    let Q : OperationDef := { kind := .query, name := some ("Q", {}), sel := [.spread "F" {} [] {}] }
    Resolved [.op Q, .frag F] ∧ ExecDef.op Q ∈ [ExecDef.op Q, .frag F] ∧
    (match runtimeDefs [.op Q, .frag F] (.op Q) with
     | .ok ds => (readText (chars (toJson ds))).map fun r => chars (toJson r)
     | .error _ => none) = some (chars (toJson (erasePos [.op Q, .frag F]))) := by
  intro F Q
  refine ⟨testDoc_run.1, by simp, ?_⟩
  decide +kernel +revert

variable {κ ρ : Type} [DecidableEq κ] [DecidableEq ρ]
variable (code : Name → Nat) (res : κ → ρ → κ) (fs : Project κ ρ) (root : κ) (rootFile : SrcFile ρ)

/-- FROM FILES, as text (`C12_from_files` lifted): under its hypotheses the TEXT the printer writes for an operation X of the
    root file, parsed as JSON (or evaluated as the ECMAScript expression at the head of a text that cannot continue a number)
    and read as a `DocumentNode`, is `[X] ++` the definitions of the textbook closure of X's spreads over the REFERENCE import
    set, each once, positions erased. -/
theorem C12_text_from_files (hroot : RootOKp fs root rootFile) (hfiles : ProjectOk fs) (hrootOk : Resolved rootFile.defs)
    {R : List ExecDef} (h : resolveDoc code res fs root rootFile = .ok R) (hu : (fragNamesOf R).Nodup)
    (o : OperationDef) (hX : ExecDef.op o ∈ rootFile.defs)
    (hdef : ∀ n, Reach (envOf (refDoc code res fs root rootFile)) o.sel n →
      (getFrag (refDoc code res fs root rootFile) n).isSome) :
    ∃ names txt,
      closure (envOf (refDoc code res fs root rootFile)) (refDoc code res fs root rootFile).length o.sel = some names ∧
      names.Nodup ∧ (∀ n, n ∈ names ↔ Reach (envOf (refDoc code res fs root rootFile)) o.sel n) ∧
      runtimeText R (.op o) = .ok txt ∧
      readText txt.toList = some (erasePos (.op o :: fragDefs (refDoc code res fs root rootFile) names)) ∧
      ∀ rest, Delim rest →
        readJsExpr (txt.toList ++ rest) = some (erasePos (.op o :: fragDefs (refDoc code res fs root rootFile) names), rest) := by
  obtain ⟨names, hc, hnd, hreach, hrun, hread, _, _⟩ :=
    C12_from_files code res fs root rootFile hroot hfiles hrootOk h hu o hX hdef
  obtain ⟨h1, h2, h3⟩ := text_lift hrun hread
  exact ⟨names, _, hc, hnd, hreach, h1, h2, h3⟩

/-- the same for a FRAGMENT of the root file (`C12_from_files_frag` lifted) -/
theorem C12_text_from_files_frag (hroot : RootOKp fs root rootFile) (hfiles : ProjectOk fs)
    (hrootOk : Resolved rootFile.defs)
    {R : List ExecDef} (h : resolveDoc code res fs root rootFile = .ok R) (hu : (fragNamesOf R).Nodup)
    (f : FragmentDef) (hX : ExecDef.frag f ∈ rootFile.defs)
    (hdef : ∀ n, Reach (envOf (refDoc code res fs root rootFile)) f.sel n →
      (getFrag (refDoc code res fs root rootFile) n).isSome) :
    ∃ names txt,
      closure (envOf (refDoc code res fs root rootFile)) (refDoc code res fs root rootFile).length f.sel = some names ∧
      names.Nodup ∧
      runtimeText R (.frag f) = .ok txt ∧
      readText txt.toList =
        some (erasePos (.frag f :: fragDefs (refDoc code res fs root rootFile) (names.filter fun n => n != f.name))) ∧
      ∀ rest, Delim rest →
        readJsExpr (txt.toList ++ rest) =
          some (erasePos (.frag f :: fragDefs (refDoc code res fs root rootFile) (names.filter fun n => n != f.name)), rest) := by
  obtain ⟨names, hc, hnd, _, hrun, hread, _, _⟩ :=
    C12_from_files_frag code res fs root rootFile hroot hfiles hrootOk h hu f hX hdef
  obtain ⟨h1, h2, h3⟩ := text_lift hrun hread
  exact ⟨names, _, hc, hnd, h1, h2, h3⟩

/-- the hypotheses of `C12_text_from_files` hold of the diamond project of `Props/C12Composed.lean`, so its conclusion does:
    `Q, Y, X1, X0`. Evaluated: `Q`'s runtime document in the resolved document `exR`, and that it is `Resolved`; that its text is
    read back as these definitions is `C12_text_level` at it (`readText_chars`) -/
example : (match runtimeDefs Ex.exR (.op Ex.opQ) with
     | .ok ds => (readText (chars (toJson ds))).map fragNamesOf
     | .error _ => none) = some ["Y", "X1", "X0"] := by
  rw [show runtimeDefs Ex.exR (.op Ex.opQ) = .ok [.op Ex.opQ, .frag Ex.fragY, .frag Ex.fragX1, .frag Ex.fragX0] from rfl]
  show (readText (chars (toJson _))).map _ = _
  rw [readText_chars (by decide +kernel)]; rfl

/-- ECMASCRIPT LITERAL. For every JSON tree `t` whose numbers are number tokens and none of whose member names is
    `__proto__` (`good JsLit.lex.key t`), and every text `rest` that cannot continue a number: the ECMAScript expression reader
    (ES2019 lexical grammar, literal subset) applied to json-writer's text of `t` followed by `rest` evaluates to exactly `t`
    and leaves exactly `rest`. I.e. the compact JSON text IS an ECMAScript literal expression with the same value — under
    (E1), (E2) of the header. -/
theorem js_literal_roundtrip (t : Json) (h : good JsLit.lex.key t = true) (rest : List Char) (hd : Delim rest) :
    JsLit.expr ((jsonText t).toList ++ rest) = some (t, rest) :=
  expr_jsonText t h rest hd

/-- the hypotheses are satisfiable by a tree with every escape class, followed by the `;` of a module -/
example : good JsLit.lex.key
    (.obj [("a\"\\/\n\u0001é\u2028😀", .arr [.str "\"\\/\u0008\u000c\n\r\t\u0000é\u2029😀", .null, .bool true, .obj [], .arr []]),
           ("k", .num "-1.5e+10")]) = true ∧ Delim ";\n\nexport { X as default };\n".toList := by
  exact ⟨by decide +kernel, delim_semicolon _⟩

/-- the side condition on member names is needed: `{"__proto__": …}` as an object LITERAL sets the prototype (Annex B.3.1)
    while `JSON.parse` creates a member — the ECMAScript reader refuses it, the JSON reader reads it -/
example : JsLit.expr (jsonText (.obj [("__proto__", .null)])).toList = none ∧
    (JsonText.parse (jsonText (.obj [("__proto__", .null)])).toList).map chars = some "{\"__proto__\":null}".toList := by
  rw [jsonText_toList, String.toList_ofList]
  decide +kernel

/-- JSON ⊂ ECMASCRIPT (ES2019), for ALL texts — not only the writer's. Whenever the RFC 8259 reader reads a value at the head of a
    text as the tree `t` leaving `r` (any fuel), and no member of `t` is named `__proto__`, the ECMAScript literal reader reads
    the same text as the same tree leaving the same `r`; in particular a whole JSON text is an ECMAScript literal expression
    with the same value, followed by nothing but JSON white space. This is the "JSON superset" fact, proved between the two
    transcriptions of `Spec/JsonText.lean` (so what remains assumed under (E1) is that `JsLit` transcribes ECMA-262, not that
    the two grammars are compatible). The two side conditions are sharp: `__proto__` (example above) and ES2019
    (`C12_text_needs_es2019`). -/
theorem json_subset_of_ecmascript (s : List Char) (t : Json) (hp : protoFree t = true) :
    (∀ f r, value rfc8259 f s = some (t, r) → value JsLit.lex f s = some (t, r)) ∧
    (JsonText.parse s = some t → ∃ r, JsLit.expr s = some (t, r) ∧ skipWs rfc8259.ws r = []) := by
  refine ⟨fun f r h => (js_of_rfc_fuel f).1 s t r h hp, fun h => ?_⟩
  obtain ⟨r, hv, he⟩ := parseWith_eq_some.mp h
  exact ⟨r, (js_of_rfc_fuel _).1 s _ r hv hp, he⟩

/-- the hypotheses are satisfiable by a text the writer would never produce (white space everywhere, `\u` escapes of
    printable characters, lower-case hexadecimal digits, a surrogate pair, an exponent) -/
example : (JsonText.parse " [ \"\\u00e9\\uD83D\\uDE00\\u002f\" ,\t1.5e+3 , { \"a\" : null } ]\n".toList).map protoFree = some true := by
  rw [String.toList_ofList]
  decide +kernel

/-- The two readers agree on every document the printer writes: `JSON.parse` of the text and evaluation of the text as an
    ECMAScript literal give the same tree. -/
theorem C12_text_readers_agree (defs : List ExecDef) :
    (JsLit.expr (jsonText (toJson defs)).toList).map (·.1) = JsonText.parse (jsonText (toJson defs)).toList := by
  have := expr_doc defs [] delim_nil
  simp only [List.append_nil] at this
  rw [this, parse_doc]
  rfl

/-- JAVASCRIPT MODULE / LOADER OUTPUT (`operation_js_printer`): the statement of a definition whose runtime document is `ds` is,
    character for character, `[export ]const <Name> = ` followed by the literal followed by `;` and two newlines; what stands
    behind `const <Name> = ` — with whatever follows the statement in the module — is read by the ECMAScript expression reader
    as exactly the tree of `ds`, stopping at the `;`; for a resolved `ds`, read as a `DocumentNode`, it is `ds` with positions
    erased. There is no `JSON.parse` call and no second escaping layer. -/
theorem C12_text_embedded_js (D : Doc) (x : ExecDef) (ds : List ExecDef) (h : runtimeDefs D x = .ok ds)
    (name : String) (i : Nat) (exported : Bool) (after : List Char) :
    (RStmt.text (.jsConst name i exported (runtimeModelText D x))).toList ++ after =
      (jsConstPrefix name exported).toList ++ ((jsonText (toJson ds)).toList ++ ';' :: '\n' :: '\n' :: after) ∧
    JsLit.expr ((jsonText (toJson ds)).toList ++ ';' :: '\n' :: '\n' :: after) =
      some (toJson ds, ';' :: '\n' :: '\n' :: after) ∧
    (Resolved ds →
      readJsExpr ((jsonText (toJson ds)).toList ++ ';' :: '\n' :: '\n' :: after) =
        some (erasePos ds, ';' :: '\n' :: '\n' :: after)) := by
  refine ⟨?_, expr_doc ds _ (delim_semicolon after), fun hr => ?_⟩
  · rw [runtimeModelText_ok h]; exact jsConst_toList _ _ _ _ _
  · exact readJsExpr_doc hr (delim_semicolon after)

/-- STANDALONE `.graphql.ts` (`operation_type_printer` with `print_values`): the statement is
    `[export ]const <Name>: T = ` literal ` as unknown as T;`; what stands behind ` = ` is read by the ECMAScript expression
    reader as exactly the tree of `ds`, stopping at the space before `as` (under (E3) the assertion does not change the value). -/
theorem C12_text_embedded_ts (D : Doc) (x : ExecDef) (ds : List ExecDef) (h : runtimeDefs D x = .ok ds)
    (name : String) (i : Nat) (exported ambient : Bool) (ty : NitroVerif.Ts.Ty) (after : List Char) :
    (RStmt.text (.const name i exported ambient ty (optValue true D x))).toList ++ after =
      (tsConstPrefix name exported ambient ty).toList ++
        ((jsonText (toJson ds)).toList ++ ' ' :: ((tsConstSuffix ty).toList ++ after)) ∧
    JsLit.expr ((jsonText (toJson ds)).toList ++ ' ' :: ((tsConstSuffix ty).toList ++ after)) =
      some (toJson ds, ' ' :: ((tsConstSuffix ty).toList ++ after)) ∧
    (Resolved ds →
      readJsExpr ((jsonText (toJson ds)).toList ++ ' ' :: ((tsConstSuffix ty).toList ++ after)) =
        some (erasePos ds, ' ' :: ((tsConstSuffix ty).toList ++ after))) := by
  refine ⟨?_, expr_doc ds _ (delim_space _), fun hr => ?_⟩
  · simp only [optValue, if_true]; rw [runtimeModelText_ok h]; exact tsConst_toList _ _ _ _ _ _ _
  · exact readJsExpr_doc hr (delim_space _)

/-- THE WHOLE JAVASCRIPT MODULE: whenever `print_js_for_operation_document` returns, the concatenated text of its calls is the
    text of the statements `jsStmts` (C06, `opJsOps_text`), and every statement is `export { … as default };` or a constant
    `[export ]const <Name> = <literal>;` whose literal is the text of the runtime document of a definition of the document — to
    which `C12_text_embedded_js` applies. -/
theorem C12_text_module_js {fo : FullOpts} {D : Doc} {docFile : Nat} {ops : List POp} (h : opJsOps fo D docFile = .ok ops) :
    rawText ops = stmtsText (jsStmts fo D docFile (operationCount D) 0 D) ∧
    ∀ s ∈ jsStmts fo D docFile (operationCount D) 0 D, JsStmtOk D D s :=
  ⟨opJsOps_text h, jsStmts_values fo D docFile _ D ops 0 h⟩

/-- THE WHOLE `.graphql.ts` FILE (`print_types_for_operation_document`): whenever the printer returns, the concatenated text of its
    calls is the two import lines followed by the statements `typeStmts` (C06, `opTypeOps_text`), and every statement is a type
    alias, the default export, a constant without a value (`print_values` off: nothing of C12 is emitted) or a constant
    `[export ]const <Name>: T = <literal> as unknown as T;` whose literal is the text of the runtime document of a definition of the
    document — to which `C12_text_embedded_ts` applies. -/
theorem C12_text_module_ts {fo : FullOpts} {S : Schema} {D : Doc} {docFile : Nat} {sps : List Pos} {ops : List POp}
    (h : opTypeOps fo S D docFile sps = .ok ops) :
    rawText ops = opHeaderText fo ++ stmtsText (typeStmts fo S D docFile (operationCount D) 0 D) ∧
    ∀ s ∈ typeStmts fo S D docFile (operationCount D) 0 D, TsStmtOk D D s := by
  refine ⟨opTypeOps_text h, ?_⟩
  unfold opTypeOps at h
  split at h
  · cases h
  · rename_i r hr
    exact typeStmts_values fo S D docFile _ D sps r 0 hr

/-- the hypothesis of `C12_text_module_ts` holds in standalone mode (`print_values`) for `query q { a(s: "<escapes>") }` over
    `type Query { a: Int }` -/
example : ∃ ops, opTypeOps { names := { printValues := true } }
    ⟨[.typeDef { kind := .object, name := "Query", fields := [{ name := "a", ty := .named "Int" {} }] }]⟩
    [.op { kind := .query, name := some ("q", {}),
           sel := [.field none "a" {} [("s", {}, .str "\"\\/\n\u0001\u2028😀" {})] [] none] }] 0 [{}] = .ok ops :=
  ⟨_, rfl⟩

/-- non-vacuity of the module theorems: `print_js_for_operation_document` returns for the module of
    `query Q { ...F }  fragment F on T { c(s: "<every escape class>") }`, and the expression that stands behind `const QQuery = `
    is read up to the `;`. Evaluated: that the printer returns and that `Q`'s runtime document is `Q, F` (`JsonText.testDoc_run`);
    that its text is read back is `C12_text_embedded_js` at this document (`readJsExpr_chars`) -/
example :
    let F : FragmentDef := { name := "F", cond := "T", sel := [.field none "c" {} [("s", {}, .str "\"\\/\u0008\u000c\n\r\t\u0001é\u2028😀" {})] [] none] }
    let Q : OperationDef := { kind := .query, name := some ("Q", {}), sel := [.spread "F" {} [] {}] }
    (opJsOps {} [.op Q, .frag F] 0).toOption.isSome = true ∧
    (match runtimeDefs [.op Q, .frag F] (.op Q) with
     | .ok ds =>
       (readJsExpr (chars (toJson ds) ++ ";\n\nexport { QQuery as default };\n\n".toList)).map fun p =>
         (chars (toJson p.1), p.2)
     | .error _ => none) =
      some (chars (toJson (erasePos [.op Q, .frag F])), ";\n\nexport { QQuery as default };\n\n".toList) := by
  intro F Q
  refine ⟨testDoc_run.2.2, ?_⟩
  rw [show runtimeDefs [ExecDef.op Q, .frag F] (.op Q) = _ from testDoc_run.2.1, String.toList_ofList]
  show (readJsExpr (chars (toJson _) ++ _)).map _ = _
  rw [readJsExpr_chars testDoc_run.1 (delim_semicolon _)]; rfl

/-- The literal of every document contains no character below U+0020 — json-writer escapes every C0 control and the structural
    characters are printable — so in particular no LF and no CR (U+2028 / U+2029 are above U+0020 and are written raw): the
    literal stays on the line of its `const` as the harness's line-based extraction splits lines, and the indentation
    `SourceWriter` inserts behind a line feed never falls inside it (which is why `rawText`, the concatenation of the written
    chunks, is the module text around and inside the literal). -/
theorem C12_text_single_line (defs : List ExecDef) :
    ∀ c ∈ (jsonText (toJson defs)).toList, 32 ≤ c.toNat ∧ c ≠ '\n' ∧ c ≠ '\r' := by
  intro c hc
  rw [jsonText_toList] at hc
  have := chars_printable _ (shape_toJson defs) c hc
  refine ⟨this, ?_, ?_⟩ <;> (intro e; subst e; simp at this)

/-- What (E2) buys. json-writer escapes only `"` `\` `/` and the C0 controls; U+2028 / U+2029 are written raw. A GraphQL string
    may contain them (they are `SourceCharacter`s, not GraphQL line terminators), so the literal of such a document is an
    ECMAScript expression only from ES2019 on ("JSON superset"): the reader with the ES2018 lexical grammar answers `none` at the
    standard fuel `fuelFor` (hence at every fuel: `value_fuelFor (jsLit_consumes false)`), the ES2019 one and RFC 8259 read it. -/
theorem C12_text_needs_es2019 :
    let d : List ExecDef :=
      [.op { kind := .query, sel := [.field none "a" {} [("s", {}, .str (String.ofList [Char.ofNat 0x2028]) {})] [] none] }]
    Resolved d ∧
    value JsLit.lex2018 (fuelFor (jsonText (toJson d)).toList) (jsonText (toJson d)).toList = none ∧
    (JsLit.expr (jsonText (toJson d)).toList).map (·.2) = some [] ∧
    readText (jsonText (toJson d)).toList = some (erasePos d) := by
  intro d
  have hr : Resolved d := by decide +kernel +revert
  refine ⟨hr, ?_, ?_, (C12_text_level _ hr).2⟩
  · rw [jsonText_toList]; decide +kernel +revert
  · have := expr_doc d [] delim_nil
    simp only [List.append_nil] at this
    rw [this]; rfl

end NitroVerif.C12
