/-
C10 — closed forms on the generated schema declaration file itself, and completeness of the membership procedure.

`C10_alias_exact` of the property statement, for every kind: inside the namespace of target `t` of the file the model
emits (and through the qualified route `<namespace>.T`), the alias of a schema type `T` admits exactly `Ref_t(T)`.
-/
import NitroVerif.Props.C10
import NitroVerif.Lemmas.DeclsClosedInduct
import NitroVerif.Lemmas.DeclsClosedResolvers
namespace NitroVerif.Props.C10
open NitroVerif.Gql NitroVerif.Ts NitroVerif.DeclCfg NitroVerif.SchemaDecls NitroVerif.RefTypes

/-- COMPLETENESS of the executable membership procedure the O streams evaluate: every member of a closed type (in the
    sense of the relation `Mem` the theorems are stated in) is accepted by `memG` once the fuel is large enough. -/
theorem membership_procedure_complete {e : Env} {v : J} {t : Ty} (h : Mem e v t) : ∃ n, memG e n v t = true :=
  memG_complete h

/-- more fuel never turns an accepted value into a rejected one -/
theorem membership_procedure_monotone {e : Env} {n m : Nat} {v : J} {t : Ty} (h : memG e n v t = true) (hle : n ≤ m) :
    memG e m v t = true :=
  memG_le h hle

/-- the relation of the theorems and the procedure of the O streams coincide (soundness + completeness) -/
theorem membership_procedure_exact {e : Env} {v : J} {t : Ty} : Mem e v t ↔ ∃ n, memG e n v t = true :=
  mem_iff_memG

/-! ### what the closed forms assume

`DocOK c doc` (`Lemmas/DeclsClosedExact.lean`): the document is a checked schema — type names distinct, none starting
with `__tmp_` or named like one of the three prelude helpers; every field type of an object names a defined non-input
type, every field type of an input object a defined scalar / enum / input object, every union member a defined object
type — and the configured scalar texts stay clear of the printer's own identifiers (no identifier of a text starts with
`__tmp_` — the open finding — or is one of `__nitrogql_schema`, `__Beautify`, `__SelectionSet`, `__OperationInput`,
`__OperationOutput`, `__ResolverInput`, `__ResolverOutput`), the supplied parse of a text mentions only identifiers of
that text and no internal absolute reference.

OPEN — carried by K/O only: `DocOK` is a HYPOTHESIS of every closed form of this file (its schema part is derived from the
schema check only in `Props/C10ComposedChecked.lean`; its configuration part `bagOK` / `parses` nowhere); the resolver forms
additionally assume `ResolversOK`
(`_std`, `_result_`) and arguments of defined scalar / enum / input-object type (`_args_`), and read `Args` / `Result` at the
top level of the resolvers file; the linked forms assume a flat importing file with exactly one star import. The full
list is the block at the end of `Props/C10.lean`. (`kindFits td.kind t` in the in-namespace statements says that an alias
of `T` is printed in the namespace of `t`: `SchemaDecls.fits_body`, `unfit_body`.) -/

/-- a small schema for the non-vacuity examples: two scalars (one configured with an opaque global text), an enum, an
    input object, a self-referential object, an interface and a union -/
def exQuery : TypeDef :=
  { kind := .object, name := "Query", implements := [("Node", {})],
    fields := [{ name := "n", ty := .named "Int" {} }, { name := "d", ty := .nonNull (.named "Date" {}) },
               { name := "self", ty := .list (.named "Query" {}) {} }, { name := "u", ty := .named "U" {} }] }

def exDoc : TsDoc :=
  [.typeDef { kind := .scalar, name := "Int" },
   .typeDef { kind := .scalar, name := "Date" },
   .typeDef { kind := .enum, name := "Color", values := [{ name := "RED" }, { name := "GREEN" }] },
   .typeDef { kind := .input, name := "In",
              inputs := [{ name := "x", ty := .list (.named "Int" {}) {} },
                         { name := "c", ty := .nonNull (.named "Color" {}) }, { name := "self", ty := .named "In" {} }] },
   .typeDef exQuery,
   .typeDef { kind := .interface, name := "Node" },
   .typeDef { kind := .union, name := "U", members := [("Query", {})] }]

def exCfg : Cfg :=
  { scalars := [("Date", .sendReceive "Date | string" "string")],
    parses := ("Date | string", .union [.ref "Date", .prim "string"]) :: builtinParses }

def exFile : File := match schemaFile exCfg exDoc with | .ok f => f | .error _ => []

theorem exFile_ok : schemaFile exCfg exDoc = .ok exFile :=
  eq_ok_of_isOk (by decide +kernel) fun _ e => by rw [exFile, e]

theorem exDoc_ok : DocOK exCfg exDoc := by decide +kernel

section closed
variable (c : Cfg) (doc : TsDoc) (F : File) (hF : schemaFile c doc = .ok F) (ok : DocOK c doc)

include hF ok in
/-- `C10_alias_exact`, CLOSED FORM, all kinds. In the schema declaration file the model emits for a checked schema, the
    reference to a schema type `T` written inside the namespace of target `t` (the way the generated bodies refer to it:
    by its local name) denotes EXACTLY `Ref_t(T)` — for scalars, enums, objects, input objects, interfaces and unions,
    provided `T`'s kind is usable in the direction of `t` (objects / interfaces / unions in output namespaces, input
    objects in input namespaces, scalars and enums everywhere). Name resolution through the namespace, local renaming,
    binding of the stored body, the configured scalar text read globally and the recursion through fields are all
    included. -/
theorem C10_alias_exact_closed (t : Target) (td : TypeDef) (hm : td ∈ typeDefsOf doc)
    (hfit : kindFits td.kind t = true) (v : J) :
    Mem (Env.ofFile F) v (globalise (Decls.ofFile F) [t.name] [] ((Ctx.new c doc t).leaf td.name))
      ↔ Ref c ⟨doc⟩ t td.name v := by
  have X : Hosting c doc F (Env.ofFile F).decls [] := .ofFile hF ok
  have hl := leaf_abs X t hm hfit
  have hx := hosted_alias_exact X (scalarsGlobal_of_nohook ok fun _ _ _ => rfl) t hm hfit v
  rw [show (Decls.ofFile F) = (Env.ofFile F).decls from rfl, show [t.name] = [] ++ [t.name] from rfl, hl]
  exact hx

include hF ok in
/-- THE QUALIFIED ROUTE. From the top level of the file, `<namespace of t>.T` — `T` being the SCHEMA name, which the
    namespace exports directly when the type keeps its name and through `export type { __tmp_T as T }` when it was
    renamed — denotes exactly `Ref_t(T)`. -/
theorem C10_alias_exact_qualified (t : Target) (td : TypeDef) (hm : td ∈ typeDefsOf doc)
    (hfit : kindFits td.kind t = true) (v : J) :
    Mem (Env.ofFile F) v (globalise (Decls.ofFile F) [] [] (.qref [t.name, td.name]))
      ↔ Ref c ⟨doc⟩ t td.name v := by
  rw [← Env.ofFile_decls]
  exact hosted_inner_exact (.ofFile hF ok) (scalarsGlobal_of_nohook ok fun _ _ _ => rfl) t hm hfit v

include hF ok in
/-- THE TOP-LEVEL REPRESENTATIVE. At the top level of the file, the alias of a schema type `T` (bound under `T`'s local
    name) admits exactly `Ref` of `T` for the target its representative points into — `__ResolverInput` for input
    objects, `__OperationOutput` for every other kind (`repTarget`). -/
theorem C10_alias_exact_toplevel (td : TypeDef) (hm : td ∈ typeDefsOf doc) (v : J) :
    Mem (Env.ofFile F) v (globalise (Decls.ofFile F) [] [] (.ref (localName (bag (scalarTypes c doc)) td.name)))
      ↔ Ref c ⟨doc⟩ (repTarget td) td.name v := by
  rw [← Env.ofFile_decls]
  exact hosted_top_exact (.ofFile hF ok) (scalarsGlobal_of_nohook ok fun _ _ _ => rfl) hm v

/-! ### the file linked as a module (the form the O stream queries: `M.<ns>.<T>` and `M.<T>`)

`main` is any flat file (no namespace statement) whose only star import is `import type * as A from m`; the schema file
is supplied as module `m`. -/

section linked
variable (main : File) (m A : String) (hflat : main.all (fun s => !s.isNamespace) = true)
  (himp : starImports main = [(m, A)])

include hF ok hflat himp in
/-- `A.<namespace of t>.T` in a file that links the schema file as `A` denotes exactly `Ref_t(T)`. -/
theorem C10_alias_exact_module (t : Target) (td : TypeDef) (hm : td ∈ typeDefsOf doc)
    (hfit : kindFits td.kind t = true) (v : J) :
    Mem (Env.ofFiles main [(m, F)]) v (globalise (Decls.ofFiles main [(m, F)]) [] [] (.qref [A, t.name, td.name]))
      ↔ Ref c ⟨doc⟩ t td.name v := by
  rw [← Env.ofFiles_decls]
  exact hosted_qualified_exact (.ofFiles hF ok hflat himp) (scalarsGlobal_of_nohook ok fun _ _ _ => rfl)
    t (ofFiles_resolveNs main m A F himp) hm hfit v

include hF ok hflat himp in
/-- `A.T` (the top-level export of the schema file, `T` = SCHEMA name; exported directly or through
    `export type { __tmp_T as T }`) denotes exactly `Ref` of `T` for its representative target. -/
theorem C10_alias_exact_module_toplevel (td : TypeDef) (hm : td ∈ typeDefsOf doc) (v : J) :
    Mem (Env.ofFiles main [(m, F)]) v (globalise (Decls.ofFiles main [(m, F)]) [] [] (.qref [A, td.name]))
      ↔ Ref c ⟨doc⟩ (repTarget td) td.name v := by
  rw [← Env.ofFiles_decls]
  exact hosted_qualified_top_exact (.ofFiles hF ok hflat himp) (scalarsGlobal_of_nohook ok fun _ _ _ => rfl)
    (ofFiles_resolveNs main m A F himp) hm v

include hF ok hflat himp in
/-- `A.<namespace of t>.T` with the standard helper type `Omit` interpreted (`Env.withStd`, the environment the driver of
    the O stream uses), provided no configured scalar text applies `Omit<…>` on its spine: the same set. -/
theorem C10_alias_exact_module_std
    (hno : ∀ p ∈ scalarTypes c doc, ∀ t ∈ Target.all, (c.parseOf (p.2.getType t)).noOmit = true)
    (t : Target) (td : TypeDef) (hm : td ∈ typeDefsOf doc) (hfit : kindFits td.kind t = true) (v : J) :
    Mem (Env.ofFiles main [(m, F)]).withStd v
        (globalise (Decls.ofFiles main [(m, F)]) [] [] (.qref [A, t.name, td.name]))
      ↔ Ref c ⟨doc⟩ t td.name v := by
  have X : Hosting c doc F (Env.ofFiles main [(m, F)]).withStd.decls [A] := .ofFiles hF ok hflat himp
  rw [← Env.ofFiles_decls, ← Env.withStd_decls]
  exact hosted_qualified_exact X (fun p hp t' ht' _ => mem_indep_std (fun _ _ _ => rfl) (hno p hp t' ht'))
    t (ofFiles_resolveNs main m A F himp) hm hfit v

end linked

include hF ok in
/-- RESOLVER ARGUMENTS, closed form. In the resolvers declaration file the model emits, linked with the generated schema
    file through its `import type * as Schema`, the `Args` type of the resolver of a field `f` (whose arguments have
    defined scalar / enum / input-object types) admits exactly `Ref_ResolverInput(args f)` — the executable reference
    `RefTypes.refArgs` of the O stream: a record with every argument a REQUIRED key, each value wrapper-exact over
    `Ref_ResolverInput`, no other key. -/
theorem C10_resolver_args_closed (f : FieldDef)
    (hargs : ∀ a ∈ f.args, ∃ td ∈ typeDefsOf doc, td.name = a.ty.unwrapped ∧ kindFits td.kind .resolverInput = true)
    (v : J) :
    Mem (Env.ofFiles (ResolverDecls.resolversFile c doc) [(ResolverDecls.schemaSource, F)]) v
      (globalise (Decls.ofFiles (ResolverDecls.resolversFile c doc) [(ResolverDecls.schemaSource, F)]) [] []
        (ResolverDecls.argsType f.args))
      ↔ ∃ n, refArgs c ⟨doc⟩ n f.args v = true := by
  rw [← Env.ofFiles_decls]
  exact ResolverDecls.args_exact hF ok (Env.ofFiles_decls _ _) (scalarsGlobal_of_nohook ok (fun _ _ _ => rfl)) f.args hargs v

include hF ok in
/-- the same in the environment the O stream uses (the standard helper type `Omit` interpreted), provided no configured
    scalar text applies `Omit<…>` on its spine -/
theorem C10_resolver_args_closed_std (rok : ResolverDecls.ResolversOK c doc) (f : FieldDef)
    (hargs : ∀ a ∈ f.args, ∃ td ∈ typeDefsOf doc, td.name = a.ty.unwrapped ∧ kindFits td.kind .resolverInput = true)
    (v : J) :
    Mem (Env.ofFiles (ResolverDecls.resolversFile c doc) [(ResolverDecls.schemaSource, F)]).withStd v
      (globalise (Decls.ofFiles (ResolverDecls.resolversFile c doc) [(ResolverDecls.schemaSource, F)]) [] []
        (ResolverDecls.argsType f.args))
      ↔ ∃ n, refArgs c ⟨doc⟩ n f.args v = true := by
  rw [← ResolverDecls.RE_decls]
  exact ResolverDecls.args_exact hF ok (ResolverDecls.RE_decls c doc F) (ResolverDecls.RE_scalars rok) f.args hargs v

include hF ok in
/-- RESOLVER RESULT, closed form. In the resolvers declaration file linked with the generated schema file (standard
    helper `Omit` interpreted, as in the O stream), the `Result` type of the resolver of a field `f` — `f`'s type over
    the file's LOCAL aliases: `Omit<Schema.__ResolverOutput.O, "__typename">` for objects, the union of those for
    interfaces / unions, `Schema.__ResolverOutput.T` for scalars / enums — admits exactly the resolver result reference
    (`RefTypes.refResolverOut`, the executable of the O stream): an object's record WITHOUT the `__typename` key at the
    top, nested values full `Ref_ResolverOutput`, wrapper-exact at every list / non-null depth. Side conditions
    `ResolversOK`: no scalar text applies `Omit<…>`, no type is named `__Resolver` / `__TypeResolver` / `Omit`, no field
    is called `__typename`; and `hm hki hn`: the named type of `f` is a type `td` the document defines, not an input
    object. -/
theorem C10_resolver_result_closed (rok : ResolverDecls.ResolversOK c doc) (f : FieldDef) (td : TypeDef)
    (hm : td ∈ typeDefsOf doc) (hki : td.kind ≠ .input) (hn : td.name = f.ty.unwrapped) (v : J) :
    Mem (Env.ofFiles (ResolverDecls.resolversFile c doc) [(ResolverDecls.schemaSource, F)]).withStd v
      (globalise (Decls.ofFiles (ResolverDecls.resolversFile c doc) [(ResolverDecls.schemaSource, F)]) [] []
        (tsOf .ref false f.ty))
      ↔ ∃ k, conf (refResolverOut c ⟨doc⟩ k) f.ty v = true := by
  rw [← ResolverDecls.RE_decls]
  exact ResolverDecls.RE_result_exact hF ok rok f.ty hm hki hn v

include hF ok in
/-- SCALARS, closed form: the alias admits exactly the values of the configured TypeScript text for the target, read
    GLOBALLY (in the empty declaration environment) — the namespace the alias stands in adds nothing to the text
    (`C10_scalar_idents_global`, the first half of rename soundness, is what makes it so). -/
theorem C10_alias_exact_scalar_closed (t : Target) (td : TypeDef) (hm : td ∈ typeDefsOf doc) (hk : td.kind = .scalar)
    (v : J) :
    Mem (Env.ofFile F) v (globalise (Decls.ofFile F) [t.name] [] ((Ctx.new c doc t).leaf td.name)) ↔
      ∃ sc, scalarType? c doc td.name = some sc ∧ Mem Env.empty v (c.parseOf (sc.getType t)) := by
  rw [C10_alias_exact_closed c doc F hF ok t td hm (by simp [hk, kindFits]) v,
    Ref_scalar c ⟨doc⟩ t (typeDef?_of_mem ok hm) hk]

include hF ok in
/-- OBJECTS, closed form: exactly the records with `__typename` = the type's name and, for every field, a value
    conforming wrapper-exactly to the field's type over `Ref`; no other key; no field omitted. -/
theorem C10_alias_exact_object_closed (t : Target) (td : TypeDef) (hm : td ∈ typeDefsOf doc) (hk : td.kind = .object)
    (ht : t.isOutput = true) (v : J) :
    Mem (Env.ofFile F) v (globalise (Decls.ofFile F) [t.name] [] ((Ctx.new c doc t).leaf td.name)) ↔
      ∃ kvs, v = .obj kvs ∧
        RecordSpec (("__typename", false, fun x => x = .str td.name)
          :: td.fields.map fun f => (f.name, false, Conf (Ref c ⟨doc⟩ t) f.ty)) kvs := by
  rw [C10_alias_exact_closed c doc F hF ok t td hm (by simp [hk, kindFits, ht]) v,
    Ref_object c ⟨doc⟩ t (typeDef?_of_mem ok hm) hk ht]

include hF ok in
/-- INPUT OBJECTS, closed form: exactly the records with a conforming value (over `Ref`) for every field, a field being
    omissible iff it is nullable and `allowUndefinedAsOptionalInput` is on; no other key. -/
theorem C10_alias_exact_input_closed (t : Target) (td : TypeDef) (hm : td ∈ typeDefsOf doc) (hk : td.kind = .input)
    (ht : t.isInput = true) (v : J) :
    Mem (Env.ofFile F) v (globalise (Decls.ofFile F) [t.name] [] ((Ctx.new c doc t).leaf td.name)) ↔
      ∃ kvs, v = .obj kvs ∧
        RecordSpec (td.inputs.map fun f => (f.name, c.optionalInput && !f.ty.isNonNull, Conf (Ref c ⟨doc⟩ t) f.ty)) kvs := by
  rw [C10_alias_exact_closed c doc F hF ok t td hm (by simp [hk, kindFits, ht]) v,
    Ref_input c ⟨doc⟩ t (typeDef?_of_mem ok hm) hk ht]

include hF ok in
/-- INTERFACES and UNIONS, closed form: exactly the union of `Ref` over the possible object types (the object types
    implementing the interface, in definition order / the union's members). -/
theorem C10_alias_exact_members_closed (t : Target) (td : TypeDef) (hm : td ∈ typeDefsOf doc)
    (hk : td.kind = .interface ∨ td.kind = .union) (ht : t.isOutput = true) (v : J) :
    Mem (Env.ofFile F) v (globalise (Decls.ofFile F) [t.name] [] ((Ctx.new c doc t).leaf td.name)) ↔
      ∃ o ∈ (Schema.mk doc).possibleTypes td.name, Ref c ⟨doc⟩ t o v := by
  rw [C10_alias_exact_closed c doc F hF ok t td hm (by rcases hk with hk | hk <;> simp [hk, kindFits, ht]) v,
    Ref_abstract c ⟨doc⟩ t (typeDef?_of_mem ok hm) hk ht]

end closed

/-- non-vacuity: the hypotheses hold for the example schema, for the object type `Query` in an output namespace -/
example : ∀ v, Mem (Env.ofFile exFile) v (globalise (Decls.ofFile exFile) [Target.operationOutput.name] []
      ((Ctx.new exCfg exDoc .operationOutput).leaf "Query")) ↔ Ref exCfg ⟨exDoc⟩ .operationOutput "Query" v :=
  C10_alias_exact_closed exCfg exDoc exFile exFile_ok exDoc_ok .operationOutput exQuery (by simp [exDoc, typeDefsOf]) rfl

/-! ### why the side condition on scalar texts is needed (second corner, besides `C10_rename_counterexample`)

FULL STATEMENT (no side condition on the configured texts): false. A scalar text may mention one of the printer's own
NAMESPACE names as the head of a qualified name; inside the generated file that head is bound (to the sibling
namespace), so the text is not read globally. Witness: scalar `S` configured as `__OperationOutput.Foo`, enum `Foo`. -/

def cxDoc : TsDoc :=
  [.typeDef { kind := .scalar, name := "S" },
   .typeDef { kind := .enum, name := "Foo", values := [{ name := "A" }] }]

def cxCfg : Cfg :=
  { scalars := [("S", .single "__OperationOutput.Foo")],
    parses := [("__OperationOutput.Foo", .qref ["__OperationOutput", "Foo"])] }

def cxFile : File := match schemaFile cxCfg cxDoc with | .ok f => f | .error _ => []

/-- in the file emitted for `cxCfg`/`cxDoc` the alias of scalar `S` (input namespace) admits the enum value `"A"` of the
    schema type `Foo`, which `Ref` (the text read globally: an opaque name) does not -/
theorem C10_namespace_capture_counterexample :
    Mem (Env.ofFile cxFile) (.str "A") (globalise (Decls.ofFile cxFile) [Target.operationInput.name] []
      ((Ctx.new cxCfg cxDoc .operationInput).leaf "S")) ∧
    ¬ Ref cxCfg ⟨cxDoc⟩ .operationInput "S" (.str "A") := by
  constructor
  · rw [← Env.ofFile_decls]
    exact memFuel_sound [Target.operationInput.name] 5 (.str "A") ((Ctx.new cxCfg cxDoc .operationInput).leaf "S")
      (by decide +kernel)
  · rw [Ref_scalar cxCfg ⟨cxDoc⟩ .operationInput (td := { kind := .scalar, name := "S" })
      (by simp [Schema.typeDef?, Schema.typeDefs, cxDoc]) rfl]
    rintro ⟨sc, hsc, hm⟩
    have : sc = .single "__OperationOutput.Foo" := by
      have h2 : scalarType? cxCfg cxDoc "S" = some (.single "__OperationOutput.Foo") := by decide +kernel
      rw [show (Schema.mk cxDoc).items = cxDoc from rfl, h2] at hsc
      cases hsc; rfl
    subst this
    have hp : cxCfg.parseOf ((ScalarCfg.single "__OperationOutput.Foo").getType .operationInput)
        = .qref ["__OperationOutput", "Foo"] := by simp [Cfg.parseOf, cxCfg, ScalarCfg.getType]
    rw [hp, mem_opaque_iff (by rfl)] at hm
    cases hm

/-- the side conditions of the resolver `Result` closed form hold for the example schema -/
theorem exDoc_resolversOK : ResolverDecls.ResolversOK exCfg exDoc := by decide +kernel

/-- non-vacuity of the resolver closed forms: field `self: [Query]` of the example's object type `Query` -/
example : ∀ v, Mem (Env.ofFiles (ResolverDecls.resolversFile exCfg exDoc) [(ResolverDecls.schemaSource, exFile)]).withStd v
      (globalise (Decls.ofFiles (ResolverDecls.resolversFile exCfg exDoc) [(ResolverDecls.schemaSource, exFile)]) [] []
        (tsOf .ref false (.list (.named "Query" {}) {})))
    ↔ ∃ k, conf (refResolverOut exCfg ⟨exDoc⟩ k) (.list (.named "Query" {}) {}) v = true :=
  C10_resolver_result_closed exCfg exDoc exFile exFile_ok exDoc_ok exDoc_resolversOK
    { name := "self", ty := .list (.named "Query" {}) {} } exQuery (by simp [exDoc, typeDefsOf]) (by decide) rfl

/-- non-vacuity of the linked form: a one-line file importing the example schema file as `M` -/
example : ∀ v, Mem (Env.ofFiles [.import "./schema" true (.star "M")] [("./schema", exFile)]) v
      (globalise (Decls.ofFiles [.import "./schema" true (.star "M")] [("./schema", exFile)]) [] [] (.qref ["M", "Query"]))
    ↔ Ref exCfg ⟨exDoc⟩ .operationOutput "Query" v :=
  C10_alias_exact_module_toplevel exCfg exDoc exFile exFile_ok exDoc_ok _ "./schema" "M" (by decide) (by decide)
    exQuery (by simp [exDoc, typeDefsOf])

end NitroVerif.Props.C10
