import NitroVerif.Lemmas.DocJson
import NitroVerif.Lemmas.FragClosureRuntime
/-!
# C12 — runtime documents are the source operation plus exactly the fragments it needs

Property theorems only.
Models: `Model/DocJson.lean` (`json_printer/to_json.rs`, `helpers.rs`) and `Model/FragClosure.lean`
(`utils.rs fragment_names_in_selection_set`, `operation_js_printer/printers.rs`, the `fragments` map of
`operation_base_printer/mod.rs`), tied to the code by `harness/src/bin/c12.rs`.
Specification: `Spec/ReadDoc.lean` — the independent reader `readDoc` of graphql-js `DocumentNode` JSON, the
textbook depth-first `closure` over the spread graph, and the inductive relation `Reach` ("transitively spread from").

`Resolved defs` = what the parser + import resolver can produce: operations and fragments only, no empty selection set.
`envOf defs` = name ↦ body of the fragment definition of that name (`getFrag_unique`: THE definition when names are unique).

The theorems here start from an already import-resolved document and speak about the JSON TREE. `Props/C12Composed.lean` states
the same FROM FILES (composed with C13's import resolver, against the reference import set); `Props/C12Text.lean` lifts the
statements to the TEXT json-writer writes for the tree, read by two reference readers written from the standards (RFC 8259,
the literal subset of ECMA-262), also in place inside the module text.
OPEN — carried by K/O only (K: the correspondence check, the model run against the real code; O: the oracle, the executable
specification run against the real code — DESIGN.md, table P / K / O): that the models are the code (`harness/src/bin/c12.rs`: JSON trees of three real output
paths and of interleaved loader sessions against `toJson`); that the real printers write the characters the text model
(`PrintMap.jsonText`, the statements of `Lemmas/PrintMapBodyFile.lean`) says — C06's call-by-call comparison and this
property's tree comparison through serde_json (the readers of `Spec/JsonText.lean` are never run on real output); that an
ECMAScript engine reads a literal as `Spec/JsonText.lean JsLit` transcribes ECMA-262 (ES2019+); the parser's reading of the
source text (C07) and that its output is `Resolved`; the glue of `Props/C12Composed.lean` (`materialise`, `findUndefined`: hand
transcriptions) and the operation-checker model `CheckOp.checkOp` its theorems refer to (tied to the code by C03/C08's K).
`C12_panic_only_on_undefined` is stated for operations; for a fragment `C12_terminates` excludes `outOfFuel`, which leaves
`fragmentNotFound` as the only error, and `C12_from_files_missing_frag` shows the reachable undefined name in its setting.
-/
namespace NitroVerif.C12
open NitroVerif NitroVerif.Gql NitroVerif.DocJson NitroVerif.ReadDoc NitroVerif.FragClosure

/-- Reading the emitted JSON back with the independent graphql-js reader gives exactly the source definitions with
    positions erased: operation type, name, variable definitions (type, default value, directives), directives and the
    whole selection tree (aliases, arguments, values of every kind verbatim, nested lists/objects, directives on
    fields / spreads / inline fragments, type conditions) survive, for every `Resolved` document: operations and fragments
    only, no empty selection set (what the parser and the import resolver are expected to produce; that they do is not proved
    here). -/
theorem C12_roundtrip (defs : List ExecDef) (h : Resolved defs) :
    readDoc (toJson defs) = some (erasePos defs) :=
  readDoc_toJson defs h

/-- the hypothesis of `C12_roundtrip` is satisfiable by a non-trivial document -/
example : Resolved
    [.op { kind := .query, name := some ("Q", {}),
           vars := [{ name := "v", ty := .nonNull (.list (.named "Int" {}) {}), default := some (.list [.int "1" {}] {}),
                      dirs := [{ name := "d", args := [("x", {}, .obj [("k", {}, .str "s" {})] {})] }] }],
           dirs := [{ name := "live" }],
           sel := [.field (some ("z", {})) "a" {} [("x", {}, .var "v" {})] [] (some [.spread "F" {} [] {}]),
                   .inline (some ("T", {})) [] [.field none "b" {} [] [] none] {}] },
     .frag { name := "F", cond := "T", sel := [.field none "c" {} [] [] none] }] := by
  decide

/-- Why `Resolved` asks for non-empty selection sets: `write_selection_set` prints nothing for an empty selection
    list, so a field with an EMPTY selection set (not producible by the grammar) prints like a leaf field. -/
theorem C12_roundtrip_needs_nonempty :
    toJson [.op { kind := .query, sel := [.field none "a" {} [] [] (some [])] }] =
    toJson [.op { kind := .query, sel := [.field none "a" {} [] [] none] }] := by
  rfl

/-- The fragment names the code appends to a runtime document are the reference closure of the spreads of the
    definition's selection set, in first-visit order (model = textbook depth-first search over the spread graph). -/
theorem C12_closure_names (defs : List ExecDef) (ss : List Selection) :
    fragmentNames defs ss = closure (envOf defs) defs.length ss :=
  fragmentNames_eq_closure defs ss

/-- The collection terminates on every fragment graph, cyclic ones included: the depth bound the model supplies
    (number of definitions + 1; measure = defined names not yet seen) is never exhausted, so the runtime document of
    every definition is either produced or the code panics on an undefined fragment name — never "out of fuel". -/
theorem C12_terminates (defs : List ExecDef) (x : ExecDef) :
    (∀ ss, ∃ ns, fragmentNames defs ss = some ns) ∧ runtimeDefs defs x ≠ .error .outOfFuel := by
  refine ⟨fragmentNames_total defs, ?_⟩
  by_cases hx : ∀ i, x ≠ .imp i
  · obtain ⟨_, _, _, _, ⟨_, h⟩ | ⟨_, _, _, h⟩⟩ := runtimeDefs_cases defs x hx <;> simp [h]
  · cases x with
    | imp i => simp [runtimeDefs]
    | op _ | frag _ => simp at hx

/-- a cyclic fragment graph (A spreads B, B spreads A, A also spreads itself): the collection still terminates,
    with each name once -/
example :
    fragmentNames
      [.op { kind := .query, sel := [.spread "A" {} [] {}] },
       .frag { name := "A", cond := "T", sel := [.spread "B" {} [] {}, .spread "A" {} [] {}] },
       .frag { name := "B", cond := "T", sel := [.field none "x" {} [] [] (some [.spread "A" {} [] {}])] }]
      [.spread "A" {} [] {}] = some ["A", "B"] := by
  decide

/-- Runtime document of an operation: the operation itself followed by the definitions of the reference closure of
    its spreads, each exactly once (no duplicate names) — whenever every transitively spread fragment is defined (the hypothesis `hdef`; derived from the checker model's verdict
    in `C12_from_files_checked`, `Props/C12Composed.lean`). The last conjunct holds of any tail: `fragDefs` yields fragments only. -/
theorem C12_closure (defs : List ExecDef) (o : OperationDef)
    (hdef : ∀ n, Reach (envOf defs) o.sel n → (getFrag defs n).isSome) :
    ∃ names, closure (envOf defs) defs.length o.sel = some names ∧ names.Nodup ∧
      runtimeDefs defs (.op o) = .ok (.op o :: fragDefs defs names) ∧
      (fragDefs defs names).length = names.length ∧ ExecDef.op o ∉ fragDefs defs names := by
  obtain ⟨names, hc, hnd, hreach, ⟨hall, hrun⟩ | ⟨n, hn, hg, _⟩⟩ := runtimeDefs_cases defs (.op o) (by simp)
  · refine ⟨names, hc, hnd, hrun, fragDefs_length defs names hall, fun hmem => ?_⟩
    obtain ⟨_, _, _, _, he⟩ := (mem_fragDefs defs names _).mp hmem
    cases he
  · have := hdef n ((hreach n).mp hn)
    rw [hg] at this; cases this

/-- a document satisfying the hypothesis of `C12_closure`, with a non-empty closure -/
example : ∀ n, Reach
    (envOf [.op { kind := .query, sel := [.spread "A" {} [] {}] }, .frag { name := "A", cond := "T", sel := [.field none "x" {} [] [] none] }])
    [.spread "A" {} [] {}] n →
    (getFrag [.op { kind := .query, sel := [.spread "A" {} [] {}] }, .frag { name := "A", cond := "T", sel := [.field none "x" {} [] [] none] }] n).isSome := by
  intro n h
  have hc : closure (envOf [.op { kind := .query, sel := [.spread "A" {} [] {}] }, .frag { name := "A", cond := "T", sel := [.field none "x" {} [] [] none] }]) 2
      [.spread "A" {} [] {}] = some ["A"] := by decide
  have := ((closure_good _ _ _ _ hc).2 n).mpr h
  simp only [List.mem_singleton] at this
  subst this
  decide

/-- Runtime document of a fragment: the fragment itself followed by the definitions of the reference closure of its
    spreads minus its own name (a fragment that is reachable from itself is not repeated), each exactly once; no
    definition of the tail has the fragment's own name. -/
theorem C12_closure_frag (defs : List ExecDef) (f : FragmentDef)
    (hdef : ∀ n, Reach (envOf defs) f.sel n → (getFrag defs n).isSome) :
    ∃ names, closure (envOf defs) defs.length f.sel = some names ∧ names.Nodup ∧
      runtimeDefs defs (.frag f) = .ok (.frag f :: fragDefs defs (names.filter fun n => n != f.name)) ∧
      (names.filter fun n => n != f.name).Nodup ∧
      ∀ g, ExecDef.frag g ∈ fragDefs defs (names.filter fun n => n != f.name) → g.name ≠ f.name := by
  obtain ⟨names, hc, hnd, hreach, ⟨_, hrun⟩ | ⟨n, hn, hg, _⟩⟩ := runtimeDefs_cases defs (.frag f) (by simp)
  · refine ⟨names, hc, hnd, hrun, hnd.filter _, fun g hg => ?_⟩
    obtain ⟨n, g', hn, hget, he⟩ := (mem_fragDefs defs _ _).mp hg
    cases he
    rw [(getFrag_some defs n g hget).1]
    simpa using (List.mem_filter.mp hn).2
  · have := hdef n ((hreach n).mp (mem_tailNames.mp hn).1)
    rw [hg] at this; cases this

/-- Completeness and minimality, stated on the emitted definitions: whenever the code produces a runtime document for
    an operation, it is the operation followed by fragment definitions such that a definition is in the tail iff it
    is THE definition of a name transitively spread from the operation (through fields, inline fragments and other
    fragments) — every needed fragment is included, nothing unreachable is, no name twice. -/
theorem C12_closure_complete (defs : List ExecDef) (o : OperationDef) (ds : List ExecDef)
    (h : runtimeDefs defs (.op o) = .ok ds) :
    ∃ names, ds = .op o :: fragDefs defs names ∧ names.Nodup ∧
      (∀ n, n ∈ names ↔ Reach (envOf defs) o.sel n) ∧
      (∀ d, d ∈ fragDefs defs names ↔ ∃ n g, Reach (envOf defs) o.sel n ∧ getFrag defs n = some g ∧ d = .frag g) := by
  obtain ⟨names, _, hnd, hreach, ⟨_, hrun⟩ | ⟨_, _, _, he⟩⟩ := runtimeDefs_cases defs (.op o) (by simp)
  · rw [hrun] at h
    refine ⟨names, (Except.ok.inj h).symm, hnd, hreach, fun d => ?_⟩
    simp only [mem_fragDefs, hreach]
    exact ⟨fun ⟨n, g, hn', hg, e⟩ => ⟨n, g, hn', hg, e⟩, fun ⟨n, g, hr, hg, e⟩ => ⟨n, g, hr, hg, e⟩⟩
  · rw [he] at h; cases h

/-- For the runtime document of a fragment: it is the fragment followed by the definitions of `names`, each name once, and a name
    is in `names` iff it is transitively spread from the fragment and is not the fragment's own. (Which definitions stand in the
    tail is not restated here.) -/
theorem C12_closure_complete_frag (defs : List ExecDef) (f : FragmentDef) (ds : List ExecDef)
    (h : runtimeDefs defs (.frag f) = .ok ds) :
    ∃ names, ds = .frag f :: fragDefs defs names ∧ names.Nodup ∧
      (∀ n, n ∈ names ↔ (Reach (envOf defs) f.sel n ∧ n ≠ f.name)) := by
  obtain ⟨names, _, hnd, hreach, ⟨_, hrun⟩ | ⟨_, _, _, he⟩⟩ := runtimeDefs_cases defs (.frag f) (by simp)
  · rw [hrun] at h
    refine ⟨_, (Except.ok.inj h).symm, hnd.filter _, fun n => ?_⟩
    simp only [tailNames, Composed.selOf, List.mem_filter, hreach, bne_iff_ne, ne_eq]
  · rw [he] at h; cases h

/-- The only way the code fails to produce a runtime document: a transitively spread name has no definition
    (`expect("fragment not found")`). (For documents the checker model accepts there is none: `C12_from_files_checked`.) -/
theorem C12_panic_only_on_undefined (defs : List ExecDef) (o : OperationDef) (e : RtErr)
    (h : runtimeDefs defs (.op o) = .error e) :
    ∃ n, e = .fragmentNotFound n ∧ Reach (envOf defs) o.sel n ∧ getFrag defs n = none := by
  obtain ⟨names, _, _, hreach, ⟨_, hrun⟩ | ⟨n, hn, hg, he⟩⟩ := runtimeDefs_cases defs (.op o) (by simp)
  · rw [hrun] at h; cases h
  · rw [he] at h
    exact ⟨n, (Except.error.inj h).symm, (hreach n).mp hn, hg⟩

/-- When fragment names are unique (accepted documents), the environment maps a name to THE fragment definition of that
    name in the document — local or imported. -/
theorem C12_env_is_the_definition (defs : List ExecDef) (hu : (fragNamesOf defs).Nodup) (f : FragmentDef)
    (hf : ExecDef.frag f ∈ defs) : getFrag defs f.name = some f ∧ envOf defs f.name = some f.sel := by
  have := getFrag_unique defs hu f hf
  exact ⟨this, by simp [envOf, envOfGet, this]⟩

end NitroVerif.C12
