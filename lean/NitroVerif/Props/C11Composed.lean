import NitroVerif.Props.C11
import NitroVerif.Props.C17Concrete
/-!
# C11 composed with the declaration printers (C10) and their order-independence (C17)

`C11_perm` says the resolved document of a permuted source is a permutation of the resolved document. Here this is
carried through the printers: the schema declaration file and the resolvers declaration file generated from a
multi-file schema do not depend on the order of the source items (extension before or after its definition, which
file holds what) beyond the order of blocks / union members / record fields (`DeclFileEquiv`, `ResolversFileEquiv` of
`Lemmas/DeterminismConcrete{Decls,Resolvers}.lean`). The MEANING of every alias is literally the same
(`C10_from_sources_perm`, `Props/C10Composed.lean`).
-/
namespace NitroVerif.ExtResolve
open NitroVerif.Gql NitroVerif.ExtMerge NitroVerif.Determinism

/-- A successfully resolved document has at most one `schema { … }` definition (two originals are a
    `DuplicateOriginal`; extensions are merged away). -/
theorem C11_one_schema_definition (doc out : TsDoc) (h : resolve doc = .ok out) :
    (Schema.mk out).schemaDefs.length ≤ 1 := by
  have := (schemaDefs_resolved h).length_eq
  rw [List.length_map] at this
  exact this ▸ ((C11_ok_iff doc).mp ⟨out, h⟩).1.1

/-- **The generated declaration files do not depend on the order of the source items.** Let `doc'` be any permutation
    of the raw schema items `doc` (definitions AND extensions, moved inside or across files) that keeps, per kind and
    name, the relative order of the extensions. If `doc` resolves to a document with pairwise distinct type names,
    then `doc'` resolves too, and for every configuration: the schema declaration file printed for `doc'` exists iff
    the one for `doc` does and the two are the same file up to the order of the per-definition blocks, the order of
    the members of interface unions and the order of the metadata fields (`DeclFileEquiv`); the resolvers files are the
    same up to the order of aliases, record fields and union members (`ResolversFileEquiv`). -/
theorem C11_decls_perm_from_sources (c : DeclCfg.Cfg) (doc doc' out : TsDoc) (hp : doc'.Perm doc)
    (hk : KeepsExtOrder doc' doc) (h : resolve doc = .ok out) (nd : NoDupTypeNames out) :
    ∃ out', resolve doc' = .ok out' ∧
      (∀ f, SchemaDecls.schemaFile c out = .ok f →
        ∃ f', SchemaDecls.schemaFile c out' = .ok f' ∧ DeterminismDecls.DeclFileEquiv f f') ∧
      (∀ e, SchemaDecls.schemaFile c out = .error e → ∃ e', SchemaDecls.schemaFile c out' = .error e') ∧
      DeterminismResolvers.ResolversFileEquiv (ResolverDecls.resolversFile c out) (ResolverDecls.resolversFile c out') := by
  obtain ⟨out', h'⟩ := ((C11_perm doc doc' hp hk).1).mpr ⟨out, h⟩
  have hperm : out.Perm out' := ((C11_perm doc doc' hp hk).2 out out' h h').symm
  obtain ⟨h1, h2⟩ := C17_decls_perm c hperm nd (C11_one_schema_definition doc out h)
  exact ⟨out', h', h1, h2, C17_resolvers_perm c hperm⟩

/-- the hypotheses are satisfiable: `sampleOk` (an `extend scalar S @d` BEFORE `scalar S`, a directive definition, a
    second scalar in another file) and its reverse -/
example : ∃ out, resolve sampleOk = .ok out ∧ NoDupTypeNames out ∧ sampleOk.reverse.Perm sampleOk ∧
    KeepsExtOrder sampleOk.reverse sampleOk :=
  ⟨_, rfl, by unfold NoDupTypeNames; decide, List.reverse_perm _, sampleOk_reverse_keeps⟩

end NitroVerif.ExtResolve
