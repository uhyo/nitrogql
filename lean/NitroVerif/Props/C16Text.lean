import NitroVerif.Props.C16Tokens
import NitroVerif.Lemmas.GqlPrintLexWalk
/-!
# C16 (continued) — parse ∘ print = id at the CHARACTER level

Property theorems only. Specification added: `Spec/GqlLexer.lean` — the lexical grammar of GraphQL (§2.1: Ignored,
Punctuator, Name, IntValue / FloatValue with their lookahead restrictions, StringValue in context, comments).

Lexing the text `JustWriter` writes for a separated, lexically valid token sequence gives its lexical tokens; the printer only
produces such sequences, whatever the document is; hence parse (lex (text (print A))) = A, and all layers for the
`serverGraphqlOutput` module: cook the template literal, lex, parse.
-/
namespace NitroVerif.C16
open NitroVerif.Gql NitroVerif.GqlPrint NitroVerif.GqlTokens NitroVerif.GqlString NitroVerif.JsTemplate NitroVerif.Cook
open NitroVerif.GqlLexer

/-! ## 11. lexing the written text -/

/-- For EVERY sequence of printer tokens in which punctuator tokens are punctuators and layout tokens are `Ignored`
    characters, every name / number / string token is followed by a character that ends it (`LexableK`), names are
    GraphQL Names and numbers GraphQL numbers (`dataOK`), and strings satisfy the side condition of `print_string`
    (`tokStrOK`): the character-level lexer of the specification, run on the text `JustWriter` writes for the sequence
    (indentation and continuation lines of block strings included), finds exactly the lexical tokens the printer
    tokens stand for. -/
theorem lex_written_text (ts : List Tok) (hl : LexableK none ts = true) (hd : ∀ t ∈ ts, dataOK t = true)
    (hs : ∀ t ∈ ts, tokStrOK t = true) : lexDocument (text ts) = some (ts.flatMap lex) :=
  lexDocument_text ts hl hd hs

example : LexableK none [.name "type", sp, .name "Q", sp, .p "{", nl, .ind, .str "d\ne", nl, .name "f", .p ":", sp,
      .name "Int", nl, .ded, .p "}", nl] = true ∧
    (∀ t ∈ [Tok.name "type", sp, .name "Q", sp, .p "{", nl, .ind, .str "d\ne", nl, .name "f", .p ":", sp,
      .name "Int", nl, .ded, .p "}", nl], dataOK t = true ∧ tokStrOK t = true) := by decide +kernel

/-- `LexableK` is necessary: two names without layout between them are one name for the lexer. -/
theorem lex_written_text_counterexample :
    lexDocument (text [.name "type", .name "Q"]) = some [.name "typeQ"] := by decide

/-! ## 12. the printer only produces lexable sequences -/

/-- For EVERY type-system document (no hypothesis): in what `TypeSystemDocument::print_graphql` writes, every
    punctuator and layout token is lexically valid and every name, number and string token is followed by a blank, a
    line feed, a comma or a punctuator. -/
theorem printer_lexable_ts (d : TsDoc) : LexableK none (printTsDoc d) = true := lx_tsDoc d none

/-- the same for `TypeSystemOrExtensionDocument::print_graphql` -/
theorem printer_lexable_tsext (d : TsDoc) : LexableK none (printTsExtDoc d) = true := lx_tsExtDoc d none

/-- the same for EVERY executable document without `#import` lines -/
theorem printer_lexable_doc (d : Doc) (h : noImports d = true) : LexableK none (printDoc d) = true := lx_doc d h none

/-- Valid names and numbers are also safe chunks for the template writer: the hypothesis of the template layer
    (`printer_chunks_safe_ts`, `server_template_cooks`) follows from "names are GraphQL Names, numbers are numbers". -/
theorem names_chunk_safe (ts : List Tok) (h : lexemesOK (ts.flatMap lex) = true) : ∀ t ∈ ts, t.nameOK = true :=
  fun t ht => nameOK_of_dataOK t (dataOK_of_lexemesOK ts h t ht)

theorem sampleTs_lexemes : lexemesOK (tsDocToks sampleTs) = true := by decide +kernel

example : lexemesOK ((printTsDoc sampleTs).flatMap lex) = true := by
  rw [toks_tsDoc sampleTs sampleTs_ok.2.1]
  exact sampleTs_lexemes

/-! ## 13. parse ∘ lex ∘ print = id on texts -/

/-- For EVERY type-system document the grammar can produce, in which no union is without members, every string
    satisfies the side condition of `print_string`, and every name / number is a GraphQL Name / number (`lexemesOK`
    of the canonical token stream): lexing the printed TEXT with the specification's character-level lexer and parsing
    the tokens with the specification's parser gives the document back (positions erased). -/
theorem C16_roundtrip_text_ts (d : TsDoc) (hwf : wfTsDoc d = true) (hu : d.all itemUnionOK = true)
    (hs : strsOK (tsDocToks d) = true) (hn : lexemesOK (tsDocToks d) = true) :
    (lexDocument (text (printTsDoc d))).bind parseTsDocument = some (eraseTsDoc d) :=
  roundtrip_text _ (toks_tsDoc d hu) (printer_lexable_ts d) hs hn (parse_tsDocument d hwf)

/-- the same for `TypeSystemOrExtensionDocument::print_graphql` -/
theorem C16_roundtrip_text_tsext (d : TsDoc) (hwf : wfTsDoc d = true) (hu : d.all itemUnionOK = true)
    (hs : strsOK (tsDocToks d) = true) (hn : lexemesOK (tsDocToks d) = true) :
    (lexDocument (text (printTsExtDoc d))).bind parseTsDocument = some (eraseTsDoc d) :=
  roundtrip_text _ (toks_tsExtDoc d hu) (printer_lexable_tsext d) hs hn (parse_tsDocument d hwf)

example : wfTsDoc sampleTs = true ∧ sampleTs.all itemUnionOK = true ∧ strsOK (tsDocToks sampleTs) = true ∧
    lexemesOK (tsDocToks sampleTs) = true :=
  ⟨sampleTs_ok.1, sampleTs_ok.2.1, sampleTs_ok.2.2, sampleTs_lexemes⟩

/-- For EVERY executable document of operations and fragments the grammar can produce, with exact strings and valid
    names / numbers. -/
theorem C16_roundtrip_text_exec (d : Doc) (hwf : wfDoc d = true) (hs : strsOK (docToks d) = true)
    (hn : lexemesOK (docToks d) = true) :
    (lexDocument (text (printDoc d))).bind parseExecDocument = some (eraseDoc d) :=
  roundtrip_text _ (toks_doc d (noImports_of_wfDoc d hwf)) (printer_lexable_doc d (noImports_of_wfDoc d hwf)) hs hn
    (parse_execDocument d hwf)

example : wfDoc sampleDoc = true ∧ strsOK (docToks sampleDoc) = true ∧ lexemesOK (docToks sampleDoc) = true :=
  ⟨sampleDoc_ok.1, sampleDoc_ok.2, by decide +kernel⟩

/-- `lexemesOK` is necessary: a type "named" `A B` is printed as two names, and a "number" `1x` is not a number. -/
theorem C16_roundtrip_text_counterexample :
    lexDocument (text (printTsDoc [.typeDef { kind := .scalar, name := "A B" }])) =
      some [.name "scalar", .name "A", .name "B"] ∧
    lexDocument (text (printValue (.int "1x" {}))) = none := by
  refine ⟨by decide +kernel, by decide +kernel⟩

/-- Printing is injective on such documents: two type-system documents with the same printed text are equal up to
    positions (nothing of the document is lost or blurred by the printer). -/
theorem print_text_injective_ts (d1 d2 : TsDoc)
    (hwf1 : wfTsDoc d1 = true) (hu1 : d1.all itemUnionOK = true) (hs1 : strsOK (tsDocToks d1) = true)
    (hn1 : lexemesOK (tsDocToks d1) = true)
    (hwf2 : wfTsDoc d2 = true) (hu2 : d2.all itemUnionOK = true) (hs2 : strsOK (tsDocToks d2) = true)
    (hn2 : lexemesOK (tsDocToks d2) = true)
    (e : text (printTsDoc d1) = text (printTsDoc d2)) : eraseTsDoc d1 = eraseTsDoc d2 := by
  have h1 := C16_roundtrip_text_ts d1 hwf1 hu1 hs1 hn1
  have h2 := C16_roundtrip_text_ts d2 hwf2 hu2 hs2 hn2
  rw [e, h2] at h1
  exact (Option.some.inj h1).symm

/-- the same for executable documents -/
theorem print_text_injective_exec (d1 d2 : Doc)
    (hwf1 : wfDoc d1 = true) (hs1 : strsOK (docToks d1) = true) (hn1 : lexemesOK (docToks d1) = true)
    (hwf2 : wfDoc d2 = true) (hs2 : strsOK (docToks d2) = true) (hn2 : lexemesOK (docToks d2) = true)
    (e : text (printDoc d1) = text (printDoc d2)) : eraseDoc d1 = eraseDoc d2 := by
  have h1 := C16_roundtrip_text_exec d1 hwf1 hs1 hn1
  have h2 := C16_roundtrip_text_exec d2 hwf2 hs2 hn2
  rw [e, h2] at h1
  exact (Option.some.inj h1).symm

/-! ## 14. all layers -/

/-- All layers together, for the `serverGraphqlOutput` module of EVERY checked document `d` that applies the two
    nitrogql-only directives where the checker allows, and whose stripped form `d' = serverDoc d …` is derivable from the
    grammar, has no member-less union, only strings for which `print_string` is exact, and only GraphQL Names / numbers:
    (1) the module text is the wrapper around the template literal of the printed `d'`;
    (2) evaluating the template literal (ECMAScript cooking) succeeds, and lexing its value with the GraphQL lexer
        and parsing the tokens with the GraphQL grammar gives `d'` — the checked schema without the stripped
        directives, positions erased. -/
theorem server_module_roundtrip_text (d : TsDoc) (modelPlugin : Bool) (h1 : OnlyOnScalars nitroName d)
    (h2 : modelPlugin = true → OnlyOnObjects modelName (Strip.stripDirective nitroName d))
    (hwf : wfTsDoc (serverDoc d modelPlugin) = true) (hu : (serverDoc d modelPlugin).all itemUnionOK = true)
    (hs : strsOK (tsDocToks (serverDoc d modelPlugin)) = true)
    (hn : lexemesOK (tsDocToks (serverDoc d modelPlugin)) = true) :
    serverGraphqlOutput d modelPlugin = serverModule (ops (printTsDoc (serverDoc d modelPlugin))) ∧
    ∃ v, cook ('\n' :: runOps true {} (ops (printTsDoc (serverDoc d modelPlugin)))) = some v ∧
      (lexDocument v).bind parseTsDocument = some (eraseTsDoc (serverDoc d modelPlugin)) := by
  have hnames : ∀ t ∈ printTsDoc (serverDoc d modelPlugin), t.nameOK = true :=
    names_chunk_safe _ (by rw [toks_tsDoc _ hu]; exact hn)
  obtain ⟨hmod, hcook, _⟩ := server_module_roundtrip_tokens d modelPlugin h1 h2 hnames hwf hu hs
  refine ⟨hmod, _, hcook, ?_⟩
  have h := C16_roundtrip_text_ts _ hwf hu hs hn
  have hskip : lexDocument ('\n' :: text (printTsDoc (serverDoc d modelPlugin))) =
      lexDocument (text (printTsDoc (serverDoc d modelPlugin))) := by
    simp [lexDocument, lexText, isIgnored]
  rw [hskip]
  exact h

example : wfTsDoc (serverDoc sampleChecked true) = true ∧ (serverDoc sampleChecked true).all itemUnionOK = true ∧
    strsOK (tsDocToks (serverDoc sampleChecked true)) = true ∧
    lexemesOK (tsDocToks (serverDoc sampleChecked true)) = true := by decide +kernel

/-
OPEN — carried by K/O only (never claimed as proved)
  * over the specification's lexer and parser (this file): the documents outside the hypotheses `wfDoc` / `wfTsDoc`,
    `itemUnionOK` (member-less union), `strsOK` (double quote in the quoted form; block-printed string with
    `BlockStringValue s ≠ s` — the open string findings) and `lexemesOK`; that a checked schema satisfies `OnlyOnScalars` /
    `OnlyOnObjects` (hypotheses of `server_module_roundtrip_text`);
  * over the model of nitrogql's own parser: the documents outside the side conditions of `Props/C16Own.lean` (block strings
    — the round trip is FALSE there for an indented description, `C16_roundtrip_own_parser_block_counterexample` —, `\u{…}`
    escapes, a double quote, a member-less union extension, …: see the OPEN block of `Props/C16.lean`);
  * the `#import` lines of executable documents (comments for GraphQL, read by nitrogql's own import syntax).
-/

end NitroVerif.C16
