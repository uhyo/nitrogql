import NitroVerif.Props.C16
import NitroVerif.Lemmas.GqlPrintToks
import NitroVerif.Lemmas.GqlPrintParseTsDoc
import NitroVerif.Lemmas.GqlPrintWritten
/-!
# C16 (continued) — parse ∘ print = id at the token level, for whole documents

Property theorems only. Model: `Model/GqlPrint.lean` (`print_graphql`, `print_string`) and the writer machine of
`Model/JsTemplate.lean`. Specification: `Spec/GqlTokens.lean` + `Spec/GqlDocTokens.lean` (canonical token streams of every
definition, the recursive-descent token parser written from the grammar of the GraphQL specification, "positions
erased", "what the grammar can produce") and `Spec/GqlString.lean` (the value of a string token).

Token streams of the type-system definitions, parse-back of every definition and document by the specification's token
parser, `print_string` under the writer's indentation, and the composition: lexing what the writer wrote (string tokens DECODED
from their written, indented literals) and parsing gives the document back, under explicit decidable conditions.
-/
namespace NitroVerif.C16
open NitroVerif.Gql NitroVerif.GqlPrint NitroVerif.GqlTokens NitroVerif.GqlString NitroVerif.JsTemplate NitroVerif.Cook

/-! ## 7. token streams of type-system definitions -/

/-- For EVERY input value definition (argument definitions, input fields): description, name, `:`, type, default
    value, directives — nothing dropped, nothing added. -/
theorem print_tokens_input_value_def (v : InputValueDef) :
    (printInputValueDef v).flatMap lex = inputValueDefToks v := toks_inputValueDef v

/-- For EVERY field definition (description, arguments definition `( … )` iff there is an argument, type, directives). -/
theorem print_tokens_field_def (f : FieldDef) : (printFieldDef f).flatMap lex = fieldDefToks f := toks_fieldDef f

/-- For EVERY enum value definition. -/
theorem print_tokens_enum_value_def (v : EnumValueDef) : (printEnumValueDef v).flatMap lex = enumValueDefToks v :=
  toks_enumValueDef v

/-
FULL STATEMENT (false of the code — `print_tokens_union_counterexample`):

  theorem print_tokens_type_def (t : TypeDef) : (printTypeDef t).flatMap lex = typeDefToks t
  theorem print_tokens_type_ext (t : TypeDef) : (printTypeExt t).flatMap lex = typeExtToks t

The code writes ` =` after the name and directives of EVERY union definition and extension, also when there is no
member type: `union U =`, `extend union U @d =`. The grammar has `UnionMemberTypes? : = |? NamedType …` — no `=` without
a member. (nitrogql's own grammar accepts `union U =` for definitions, not for extensions: the extension half is the
known open finding `extend union U @d =`.)
-/

/-- For EVERY type definition of the six kinds (scalar, object, interface, union, enum, input object) except a union
    without members: the significant tokens printed are the canonical stream — description, keyword, name,
    `implements & A & B`, directives, `{ fields }` / `= | A | B` / `{ values }` / `{ input fields }`, each optional part
    present iff its list is non-empty. -/
theorem print_tokens_type_def_partial (t : TypeDef) (h : unionOK t = true) :
    (printTypeDef t).flatMap lex = typeDefToks t := toks_typeDef t h

/-- The same for EVERY type extension (`extend …`). -/
theorem print_tokens_type_ext_partial (t : TypeDef) (h : unionOK t = true) :
    (printTypeExt t).flatMap lex = typeExtToks t := toks_typeExt t h

example : unionOK { kind := .union, name := "U", members := [("A", {}), ("B", {})] } = true ∧
    unionOK { kind := .object, name := "Q", fields := [{ name := "f", ty := .named "Int" {} }] } = true := by decide

/-- The side condition is necessary: for the union definition without members the code writes `union U =`; the
    canonical stream is `union U`, and the specification's parser rejects what was written. -/
theorem print_tokens_union_counterexample :
    (printTypeDef { kind := .union, name := "U" }).flatMap lex = [.name "union", .name "U", .p "="] ∧
    typeDefToks { kind := .union, name := "U" } = [.name "union", .name "U"] ∧
    parseTsDocument ((printTypeDef { kind := .union, name := "U" }).flatMap lex) = none := by
  refine ⟨by decide, by decide, by decide⟩

/-- For EVERY schema definition (`schema @a @b { query: Q … }`; the code writes the directives without separating
    blanks — layout only). -/
theorem print_tokens_schema_def (s : SchemaDef) : (printSchemaDef s).flatMap lex = schemaDefToks s := toks_schemaDef s

/-- For EVERY schema extension (no `{ }` when there is no root operation type). -/
theorem print_tokens_schema_ext (s : SchemaDef) : (printSchemaExt s).flatMap lex = schemaExtToks s := toks_schemaExt s

/-- For EVERY directive definition (description, `directive @name`, arguments definition, `repeatable`, `on | A | B`). -/
theorem print_tokens_directive_def (d : DirectiveDef) : (printDirectiveDef d).flatMap lex = directiveDefToks d :=
  toks_directiveDef d

/-- For EVERY type-system document (definitions and extensions, in order) none of whose unions is without members:
    what `TypeSystemDocument::print_graphql` writes — the text of the `serverGraphqlOutput` module — has the canonical
    token stream of the document. -/
theorem print_tokens_ts_doc_partial (d : TsDoc) (h : d.all itemUnionOK = true) :
    (printTsDoc d).flatMap lex = tsDocToks d := toks_tsDoc d h

/-- The same for `TypeSystemOrExtensionDocument::print_graphql` (an extra blank line after every item — layout only). -/
theorem print_tokens_ts_ext_doc_partial (d : TsDoc) (h : d.all itemUnionOK = true) :
    (printTsExtDoc d).flatMap lex = tsDocToks d := toks_tsExtDoc d h

/-- For EVERY executable document without `#import` lines (those are comments for GraphQL). -/
theorem print_tokens_doc (d : Doc) (h : noImports d = true) : (printDoc d).flatMap lex = docToks d := toks_doc d h

/-- a type-system document with every kind of item, used below to show that hypotheses are satisfiable -/
def sampleTs : TsDoc := [
  .schemaDef { desc := some "s", dirs := [{ name := "a" }, { name := "b", args := [("x", {}, .int "1" {})] }],
               roots := [(.query, "Q", {}), (.mutation, "M", {})] },
  .typeDef { kind := .object, name := "Q", desc := some "multi\nline", implements := [("A", {}), ("B", {})],
             dirs := [{ name := "d" }],
             fields := [{ desc := some "fd", name := "f",
                          args := [{ name := "a", ty := .nonNull (.list (.named "Int" {}) {}),
                                     default := some (.list [.int "1" {}] {}), dirs := [{ name := "x" }] },
                                   { desc := some "q", name := "b", ty := .named "S" {} }],
                          ty := .named "Int" {},
                          dirs := [{ name := "deprecated", args := [("reason", {}, .str "r" {}), ("b", {}, .enum "E" {})] }] },
                        { name := "g", ty := .named "T" {} }] },
  .typeDef { kind := .scalar, name := "Date" },
  .typeDef { kind := .union, name := "U", members := [("A", {}), ("B", {})] },
  .typeDef { kind := .enum, name := "E", values := [{ name := "A", desc := some "x" }, { name := "B", dirs := [{ name := "d" }] }] },
  .typeDef { kind := .input, name := "I", inputs := [{ name := "A", ty := .named "Int" {}, desc := some "x" },
                                                      { name := "B", ty := .named "Int" {}, default := some (.obj [] {}) }] },
  .typeDef { kind := .interface, name := "If" },
  .directiveDef { name := "dd", desc := some "x", args := [{ name := "A", ty := .named "Int" {} }], repeatable := true,
                  locations := ["OBJECT", "FIELD"] },
  .schemaExt { dirs := [{ name := "x" }] },
  .schemaExt { roots := [(.subscription, "S", {})] },
  .typeExt { kind := .object, name := "Q", implements := [("A", {})] },
  .typeExt { kind := .union, name := "U", members := [("A", {})] },
  .typeExt { kind := .enum, name := "U", dirs := [{ name := "x" }] }]

/-- an executable document with every kind of selection -/
def sampleDoc : Doc := [
  .op { kind := .query, name := some ("N", {}),
        vars := [{ name := "v", ty := .named "Int" {}, default := some (.int "1" {}), dirs := [{ name := "d" }] },
                 { name := "w", ty := .nonNull (.named "Int" {}) }],
        dirs := [{ name := "d" }],
        sel := [.field (some ("a", {})) "b" {} [("x", {}, .var "v" {}), ("y", {}, .str "s\nt" {})] [{ name := "d" }]
                  (some [.field none "c" {} [] [] none, .spread "F" {} [{ name := "d" }] {},
                         .inline (some ("T", {})) [] [.field none "c" {} [] [] none] {},
                         .inline none [{ name := "d" }] [.field none "c" {} [] [] none] {}]),
                .field none "z" {} [] [] none] },
  .frag { name := "F", cond := "T", sel := [.field none "c" {} [] [] none] },
  .op { kind := .mutation, sel := [.field none "c" {} [] [] none] }]

theorem sampleTs_ok : wfTsDoc sampleTs = true ∧ sampleTs.all itemUnionOK = true ∧ strsOK (tsDocToks sampleTs) = true := by
  decide +kernel

theorem sampleDoc_ok : wfDoc sampleDoc = true ∧ strsOK (docToks sampleDoc) = true := by decide +kernel

example : sampleTs.all itemUnionOK = true := sampleTs_ok.2.1
example : noImports sampleDoc = true := by decide +kernel

/-! ## 8. parse-back: the specification's token parser on canonical streams -/

/-- For EVERY selection the grammar can produce (fields with alias, arguments, directives, nested selection sets;
    fragment spreads not named `on`; inline fragments with and without type condition — arbitrary nesting), followed by
    anything that does not continue it (`Stops`: not `! ( @ : { = & |`): the token parser reads the canonical stream
    back to the selection (positions erased) and consumes exactly its tokens. -/
theorem C16_parse_selection (s : Selection) (hwf : wfSel s = true) (rest : List LTok) (hr : Stops rest) :
    parseSelection (2 * (selectionToks s).length + 2) (selectionToks s ++ rest) = some (eraseSel s, rest) :=
  parse_selection s hwf rest _ hr (Nat.le_refl _)

example : wfSel (.field (some ("a", {})) "b" {} [("x", {}, .var "v" {})] [{ name := "d" }]
    (some [.spread "F" {} [] {}, .inline none [] [.field none "c" {} [] [] none] {}])) = true ∧
    Stops [LTok.name "next"] ∧ Stops [LTok.p "}"] ∧ Stops [] :=
  ⟨by decide, Stops.name _ _, Stops.close_brace _, Stops.nil⟩

/-- For EVERY non-empty selection set `{ … }` and every continuation. -/
theorem C16_parse_selection_set (ss : List Selection) (hne : ss.isEmpty = false) (hwf : wfSels ss = true)
    (rest : List LTok) :
    parseSelSet (2 * (selectionSetToks ss).length + 2) (selectionSetToks ss ++ rest) = some (eraseSels ss, rest) :=
  parse_selSet ss hne hwf rest _ (Nat.le_refl _)

example : [Selection.field none "c" {} [] [] none].isEmpty = false ∧ wfSels [.field none "c" {} [] [] none] = true := by
  decide

/-- For EVERY variable definition `$v : Type = default @dirs` followed by something that does not continue it. -/
theorem C16_parse_var_def (v : VarDef) (hwf : wfVarDef v = true) (rest : List LTok) (hr : Stops rest) :
    parseVarDef (2 * (varDefToks v).length + 2) (varDefToks v ++ rest) = some (eraseVarDef v, rest) :=
  parse_varDef v hwf rest _ hr (Nat.le_refl _)

example : wfVarDef { name := "v", ty := .nonNull (.list (.named "Int" {}) {}), default := some (.list [.int "1" {}] {}), dirs := [{ name := "d", args := [("a", {}, .enum "E" {})] }] } = true ∧
    Stops [LTok.p "$"] ∧ Stops [LTok.p ")"] :=
  ⟨by decide, Stops.dollar _, Stops.close_paren _⟩

/-- For EVERY operation definition the grammar can produce (kind, optional name, variable definitions, directives,
    non-empty selection set) and every continuation. -/
theorem C16_parse_operation (o : OperationDef) (hwf : wfOp o = true) (rest : List LTok) :
    parseExecDef (2 * (operationToks o).length + 2) (operationToks o ++ rest) = some (.op (eraseOp o), rest) :=
  parse_operation o hwf rest _ (Nat.le_refl _)

example : wfOp { kind := .query, name := some ("N", {}), vars := [{ name := "v", ty := .named "Int" {} }], dirs := [{ name := "d" }], sel := [.field none "c" {} [] [] none] } = true := by
  decide

/-- For EVERY fragment definition (not named `on`) and every continuation. -/
theorem C16_parse_fragment (f : FragmentDef) (hwf : wfFrag f = true) (rest : List LTok) :
    parseExecDef (2 * (fragmentToks f).length + 2) (fragmentToks f ++ rest) = some (.frag (eraseFrag f), rest) :=
  parse_fragment f hwf rest _ (Nat.le_refl _)

example : wfFrag { name := "F", cond := "T", sel := [.spread "G" {} [] {}] } = true := by decide

/-- For EVERY executable document of operations and fragments the grammar can produce: parsing its canonical token
    stream gives the document back (positions erased) — the whole input is consumed. -/
theorem C16_parse_exec_document (d : Doc) (hwf : wfDoc d = true) : parseExecDocument (docToks d) = some (eraseDoc d) :=
  parse_execDocument d hwf

example : wfDoc sampleDoc = true := sampleDoc_ok.1

/-- For EVERY type definition the grammar can produce (components of other kinds empty; enum values not `true` /
    `false` / `null`; derivable types and values), followed by the end of the input, a description or a keyword
    (`ItemFollow`). -/
theorem C16_parse_type_def (t : TypeDef) (hwf : wfTypeDef t = true) (rest : List LTok) (hr : ItemFollow rest) :
    parseTsItem (2 * (typeDefToks t).length + 4) (typeDefToks t ++ rest) = some (.typeDef (eraseTypeDef t), rest) :=
  parse_typeDef t hwf rest _ hr (Nat.le_refl _)

example : wfTypeDef { kind := .enum, name := "E", values := [{ name := "A", desc := some "x" }, { name := "B" }] } = true ∧
    ItemFollow [] ∧ ItemFollow (typeDefToks { kind := .scalar, name := "Date" }) :=
  ⟨by decide, ItemFollow.nil, by simpa [tsItemToks] using tsItemToks_follow (.typeDef { kind := .scalar, name := "Date" }) []⟩

example : ItemFollow [] ∧ ItemFollow (typeDefToks { kind := .scalar, name := "Date" }) :=
  ⟨ItemFollow.nil, by simpa [tsItemToks] using tsItemToks_follow (.typeDef { kind := .scalar, name := "Date" }) []⟩

/-- For EVERY type extension the grammar can produce (no description; extends by something). -/
theorem C16_parse_type_ext (t : TypeDef) (hwf : wfTypeExt t = true) (rest : List LTok) (hr : ItemFollow rest) :
    parseTsItem (2 * (typeExtToks t).length + 4) (typeExtToks t ++ rest) = some (.typeExt (eraseTypeDef t), rest) :=
  parse_typeExt t hwf rest _ hr (Nat.le_refl _)

example : wfTypeExt { kind := .object, name := "Q", implements := [("A", {})] } = true := by decide

/-- For EVERY schema definition with at least one root operation type, and every continuation. -/
theorem C16_parse_schema_def (s : SchemaDef) (hwf : wfSchemaDef s = true) (rest : List LTok) :
    parseTsItem (2 * (schemaDefToks s).length + 4) (schemaDefToks s ++ rest) = some (.schemaDef (eraseSchemaDef s), rest) :=
  parse_schemaDef s hwf rest _ (Nat.le_refl _)

example : wfSchemaDef { desc := some "s", dirs := [{ name := "a" }], roots := [(.query, "Q", {})] } = true := by decide

/-- For EVERY schema extension (directives, or root operation types, or both). -/
theorem C16_parse_schema_ext (s : SchemaDef) (hwf : wfSchemaExt s = true) (rest : List LTok) (hr : ItemFollow rest) :
    parseTsItem (2 * (schemaExtToks s).length + 4) (schemaExtToks s ++ rest) = some (.schemaExt (eraseSchemaDef s), rest) :=
  parse_schemaExt s hwf rest _ hr (Nat.le_refl _)

example : wfSchemaExt { dirs := [{ name := "a" }] } = true ∧ wfSchemaExt { roots := [(.mutation, "M", {})] } = true := by
  decide

/-- For EVERY directive definition with at least one location, all locations being DirectiveLocation names. -/
theorem C16_parse_directive_def (d : DirectiveDef) (hwf : wfDirectiveDef d = true) (rest : List LTok)
    (hr : ItemFollow rest) :
    parseTsItem (2 * (directiveDefToks d).length + 4) (directiveDefToks d ++ rest) =
      some (.directiveDef (eraseDirectiveDef d), rest) :=
  parse_directiveDef d hwf rest _ hr (Nat.le_refl _)

example : wfDirectiveDef { name := "dd", args := [{ name := "a", ty := .named "Int" {} }], repeatable := true, locations := ["OBJECT", "FIELD_DEFINITION"] } = true := by
  decide +kernel

/-- For EVERY type-system document (definitions and extensions) the grammar can produce: parsing its canonical token
    stream gives the document back (positions erased). -/
theorem C16_parse_ts_document (d : TsDoc) (hwf : wfTsDoc d = true) : parseTsDocument (tsDocToks d) = some (eraseTsDoc d) :=
  parse_tsDocument d hwf

example : wfTsDoc sampleTs = true := sampleTs_ok.1

/-- `wf` is necessary, e.g.: a schema definition without root operation type is printed `schema { }`, which the
    grammar (`{ RootOperationTypeDefinition+ }`) does not derive. -/
theorem C16_parse_ts_document_counterexample :
    parseTsDocument (tsDocToks [.schemaDef {}]) = none := by decide

/-! ## 9. `print_string` under the writer's indentation -/

/-- The writer indents the continuation lines of a block string, and its closing `"""` when the string ends with a
    line feed. For EVERY string the code prints in the block form and EVERY indentation `k`: what the writer leaves in
    the output is exactly one block-string token, and its value is `BlockStringValue` of the string itself — the
    added indentation is common indentation and is removed again (also when every continuation line is blank: those
    lines are then removed as trailing blank lines). So the indentation never changes what the literal denotes. -/
theorem print_block_lexes_indented (s : List Char) (h : useBlock s = true) (k : Nat) :
    decodeStringLiteral (writeChars false { indent := k, flag := false } false (printString s)).1 =
      some (blockStringValue s) :=
  decode_written_block k s h

example : useBlock "a\n  b\n\n c\n".toList = true := by
  repeat rw [String.toList_ofList]
  decide +kernel

/-- `print_string` as the writer leaves it, with the exact side conditions of its two forms (`strExact`: no double
    quote in the quoted form, `BlockStringValue s = s` in the block form): at EVERY indentation the written literal is
    one string token whose value is the string. -/
theorem print_string_written_exact (s : List Char) (h : strExact s = true) (k : Nat) :
    decodeStringLiteral (writeChars false { indent := k, flag := false } false (printString s)).1 = some s :=
  decode_written k s h

example : strExact "multi\nline \"q\" \\ x".toList = true ∧ strExact "say 'hi' \\ \r there".toList = true := by
  repeat rw [String.toList_ofList]
  decide +kernel

/-- When the writer's indent flag is set (the literal starts a line), it writes the indentation — white space
    outside the token — and then exactly what it writes without the flag. -/
theorem print_string_written_flag (s : List Char) (k : Nat) :
    (writeChars false { indent := k, flag := true } false (printString s)).1 =
      List.replicate k ' ' ++ (writeChars false { indent := k, flag := false } false (printString s)).1 :=
  written_printString_flag k s

/-- In the text `JustWriter` writes for a token sequence, a string token stands as: pending indentation, the literal
    written at the CURRENT indentation level without flag, then the remaining tokens written at the same level
    (this is what `lexW` decodes). -/
theorem str_token_text (st : WSt) (v : String) (ts : List Tok) :
    ∃ st' : WSt, st'.indent = st.indent ∧
      runOps false st (ops (Tok.str v :: ts)) =
        (if st.flag then List.replicate st.indent ' ' else []) ++
          (writeChars false { indent := st.indent, flag := false } false (printString v.toList)).1 ++
          runOps false st' (ops ts) :=
  runOps_str st v ts

/-! ## 10. the composition: lex what was written, parse, get the document back -/

/-- parse ∘ lex ∘ print = id for executable documents: for EVERY document of operations and fragments the grammar can
    produce, all of whose string values satisfy the side condition of `print_string` (`strsOK`): the tokens a GraphQL
    lexer finds in what the writer wrote (string tokens decoded from their written, indented literals) parse back to
    the document (positions erased). -/
theorem C16_roundtrip_tokens_exec (d : Doc) (hwf : wfDoc d = true) (hs : strsOK (docToks d) = true) :
    (lexW 0 (printDoc d)).bind parseExecDocument = some (eraseDoc d) :=
  roundtrip_tokens _ (toks_doc d (noImports_of_wfDoc d hwf)) hs (parse_execDocument d hwf)

example : wfDoc sampleDoc = true ∧ strsOK (docToks sampleDoc) = true := sampleDoc_ok

/-- parse ∘ lex ∘ print = id for type-system documents (the text of the `serverGraphqlOutput` module): for EVERY
    document of definitions and extensions the grammar can produce, in which no union is without members and every
    description and string value satisfies the side condition of `print_string`. -/
theorem C16_roundtrip_tokens_ts (d : TsDoc) (hwf : wfTsDoc d = true) (hu : d.all itemUnionOK = true)
    (hs : strsOK (tsDocToks d) = true) :
    (lexW 0 (printTsDoc d)).bind parseTsDocument = some (eraseTsDoc d) :=
  roundtrip_tokens _ (toks_tsDoc d hu) hs (parse_tsDocument d hwf)

/-- the same for `TypeSystemOrExtensionDocument::print_graphql` -/
theorem C16_roundtrip_tokens_tsext (d : TsDoc) (hwf : wfTsDoc d = true) (hu : d.all itemUnionOK = true)
    (hs : strsOK (tsDocToks d) = true) :
    (lexW 0 (printTsExtDoc d)).bind parseTsDocument = some (eraseTsDoc d) :=
  roundtrip_tokens _ (toks_tsExtDoc d hu) hs (parse_tsDocument d hwf)

example : wfTsDoc sampleTs = true ∧ sampleTs.all itemUnionOK = true ∧ strsOK (tsDocToks sampleTs) = true := sampleTs_ok

/-- The string condition is necessary (the two open findings at document level): a description with a double quote
    is not one string token in the output; a description with a leading blank line is read back without it. -/
theorem C16_roundtrip_tokens_counterexample :
    lexW 0 (printTsDoc [.typeDef { kind := .scalar, name := "S", desc := some "a\"b" }]) = none ∧
    lexW 0 (printTsDoc [.typeDef { kind := .scalar, name := "S", desc := some "\na" }]) =
      some [.str "a", .name "scalar", .name "S"] := by
  refine ⟨by decide, by decide⟩

/-- All layers together, for the `serverGraphqlOutput` module of EVERY checked document `d` that applies the two
    nitrogql-only directives where the checker allows, and whose stripped form `d' = serverDoc d …` has GraphQL-Name-like
    names, is derivable from the grammar, has no member-less union and only strings for which `print_string` is exact:
    (1) the module text is the wrapper around the template literal of the printed `d'`;
    (2) evaluating the template literal (ECMAScript cooking) gives a line feed and exactly the printed SDL text;
    (3) the token sequence of that text (string tokens decoded from the written literals) parses, with the
        specification's parser, to `d'` — the checked schema without the stripped directives, positions erased. -/
theorem server_module_roundtrip_tokens (d : TsDoc) (modelPlugin : Bool) (h1 : OnlyOnScalars nitroName d)
    (h2 : modelPlugin = true → OnlyOnObjects modelName (Strip.stripDirective nitroName d))
    (hn : ∀ t ∈ printTsDoc (serverDoc d modelPlugin), t.nameOK = true)
    (hwf : wfTsDoc (serverDoc d modelPlugin) = true) (hu : (serverDoc d modelPlugin).all itemUnionOK = true)
    (hs : strsOK (tsDocToks (serverDoc d modelPlugin)) = true) :
    serverGraphqlOutput d modelPlugin = serverModule (ops (printTsDoc (serverDoc d modelPlugin))) ∧
    cook ('\n' :: runOps true {} (ops (printTsDoc (serverDoc d modelPlugin)))) =
      some ('\n' :: text (printTsDoc (serverDoc d modelPlugin))) ∧
    (lexW 0 (printTsDoc (serverDoc d modelPlugin))).bind parseTsDocument = some (eraseTsDoc (serverDoc d modelPlugin)) := by
  refine ⟨?_, server_template_cooks _ hn, C16_roundtrip_tokens_ts _ hwf hu hs⟩
  unfold serverGraphqlOutput serverDoc
  cases modelPlugin with
  | false => simp [strip_exact d h1]
  | true => simp [strip_exact d h1, strip_model_exact _ (h2 rfl)]

/-- a checked document with both nitrogql-only directives, for the satisfiability of the hypotheses -/
def sampleChecked : TsDoc := [
  .typeDef { kind := .scalar, name := "Date", desc := some "a date\nISO", dirs := [{ name := "nitrogql_ts_type", args := [("resolverInput", {}, .str "string" {})] }, { name := "specifiedBy" }] },
  .directiveDef { name := "nitrogql_ts_type", args := [{ name := "resolverInput", ty := .nonNull (.named "String" {}) }], locations := ["SCALAR"] },
  .directiveDef { name := "model", locations := ["OBJECT", "FIELD_DEFINITION"] },
  .typeDef { kind := .object, name := "User", dirs := [{ name := "model" }],
             fields := [{ name := "id", ty := .nonNull (.named "ID" {}), dirs := [{ name := "model" }, { name := "deprecated" }] },
                        { name := "born", ty := .named "Date" {} }] }]

example : (∀ t ∈ printTsDoc (serverDoc sampleChecked true), t.nameOK = true) ∧
    wfTsDoc (serverDoc sampleChecked true) = true ∧ (serverDoc sampleChecked true).all itemUnionOK = true ∧
    strsOK (tsDocToks (serverDoc sampleChecked true)) = true := by decide +kernel

example : OnlyOnScalars nitroName sampleChecked := by
  intro i hi
  simp only [sampleChecked, List.mem_cons, List.mem_nil_iff, or_false] at hi
  rcases hi with rfl | rfl | rfl | rfl <;> decide +kernel

example : OnlyOnObjects modelName (Strip.stripDirective nitroName sampleChecked) := by
  have e : Strip.stripDirective nitroName sampleChecked = [
      .typeDef { kind := .scalar, name := "Date", desc := some "a date\nISO", dirs := [{ name := "specifiedBy" }] },
      .directiveDef { name := "model", locations := ["OBJECT", "FIELD_DEFINITION"] },
      .typeDef { kind := .object, name := "User", dirs := [{ name := "model" }],
                 fields := [{ name := "id", ty := .nonNull (.named "ID" {}), dirs := [{ name := "model" }, { name := "deprecated" }] },
                            { name := "born", ty := .named "Date" {} }] }] := by rfl
  rw [e]
  intro i hi
  simp only [List.mem_cons, List.mem_nil_iff, or_false] at hi
  rcases hi with rfl | rfl | rfl <;> decide +kernel

/-
The parser of this file is the SPECIFICATION's (`Spec/GqlDocTokens.lean`), not nitrogql's, and `lexW` takes names, numbers and
punctuators as the printer tokens they are: the written TEXT is lexed in `Props/C16Text.lean`, nitrogql's OWN parser is the
reader in `Props/C16Own.lean`.

OPEN — carried by K/O only: everything outside the hypotheses of the theorems above (`wf…`, `unionOK` / `itemUnionOK`,
`strExact` / `strsOK`, `noImports`, `OnlyOnScalars` / `OnlyOnObjects`, `nameOK`); see the OPEN block of `Props/C16.lean`.
-/

end NitroVerif.C16
