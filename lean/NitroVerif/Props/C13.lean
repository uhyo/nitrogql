import NitroVerif.Lemmas.Imports
import NitroVerif.Model.Paths
/-!
# C13 — `#import` resolution brings in every requested fragment, transitively, once

Property theorems only. Model: `NitroVerif/Model/Imports.lean` (the import resolver after the `fix:` commit 7cb51d3,
tied to `operation_import_resolver/mod.rs` and `operation_extension_resolver/mod.rs` by `harness/src/bin/c13.rs`);
specification: `NitroVerif/Spec/Imports.lean`.

The theorems hold for EVERY path type `κ`, path-literal type `ρ` and resolution function `res : κ → ρ → κ`
(so in particular for `κ = Paths.P`, `res doc rel = Paths.resolve doc (Paths.components rel)`, see the last section):
a file is identified by its resolved path, however the literal was spelled.

`RootOK fs root rootFile` (the resolver does not know the root's path, or maps it to the root document) is the only
side condition (of `C13_result`, `C13_scope`, `C13_result_exec` and, on both sides, of `C13_order_indep`; `C13_err_iff`,
`C13_terminates`, `C13_total` need none).  It is a hypothesis, not proved of the two resolvers of the code base; of the
loader's, the same condition over a `Project` (`RootOKp`, `Lemmas/DocJsonComposed.lean`; `RootOK` of the abstracted file
map follows from it, `rootOK_abs`) holds when the root name is normalised (`C19_rootOK_of_normalised` in `Props/C19Composed.lean`) and
can fail otherwise (`C19_emit_unnormalised_root_witness`: another file is held under the root's normalised name).
Two other names are close and mean other things: `Loader.RootOk`
(C19: every live task holds a file under its root name) and `Bridge.RootsOk` (C15: no root operation type is named `__*`).

Instances and compositions proved elsewhere (`Props/C12Composed.lean`, `Props/C19Composed.lean`):
`C13_with_paths` / `C13_respelled` / `C13_literal_of_relative_path` — `res` := the C20 model of `resolve_relative_path`
(files identified by normalised resolved path, respelled literals identified, literals written by `relative_path` land
on the intended file); `C12_from_files*` — the result document feeds the runtime-document printer;
`C19_emit_is_printer` — the resolver inside the loader's `emit_js`, on exactly the files a task holds (`resolve` reads
its file map only through lookups and is independent of the recursion budget: `resolve_lookup_congr`, `Lemmas/Imports.lean`).

OPEN — carried by K/O only (`harness/src/bin/c13.rs`): that the model is the code (the model recurses on explicit fuel,
`C13_terminates` shows it is never exhausted; that the real recursion terminates is observed only; `HashMap`/`HashSet`
are lists here; the parser is used as is, the model starts from parsed import lines); `resolveExt` succeeds ↔ the wildcard
rules hold (`Spec.WellFormed`) — `C13_merge` speaks about successful merges only; `RootOK` of the two real
`OperationResolver`s; the CLI's use of the resolver (every configured document a root; CLI leg, process level).
The `legacy_*_counterexample` theorems are about `Legacy.resolve`, the algorithm BEFORE commit 7cb51d3 (the three defects
are `fixed:` in known-findings.txt), not about the current code; each also evaluates the repaired model `resolve` on the same input.
-/
namespace NitroVerif.Imports
open NitroVerif.Imports.Spec

variable {κ ρ : Type} [DecidableEq κ] [DecidableEq ρ]
variable (res : κ → ρ → κ) (fs : FS κ ρ) (root : κ) (rootFile : File ρ)
-- only the merging of import lines (`C13_merge`) compares literals; the statements about the resolver carry
-- `[DecidableEq ρ]` all the same, hence the linter option in front of six of them

set_option linter.unusedSectionVars false in
/-- Success ⇒ the appended definitions are exactly the reference set — every (file, definition) requested by an
    import line of a file reachable from the root, except the root's own definitions — and each appears once.
    (The result document is the root's own definitions followed by this list.) -/
theorem C13_result (hroot : RootOK fs root rootFile) {out : List (DefId κ)}
    (h : resolve res fs root rootFile = .ok out) :
    (∀ x, x ∈ out ↔ InRef res fs root rootFile x) ∧ out.Nodup :=
  resolve_result res fs root rootFile hroot h

set_option linter.unusedSectionVars false in
/-- An error is reported exactly when some import line of a file reachable from the root points to a file that is
    not among the configured documents, or names a fragment its target file does not define. -/
theorem C13_err_iff :
    (resolve res fs root rootFile).isErr = true ↔ Dangling res fs root rootFile ∨ MissingName res fs root rootFile :=
  resolve_isErr_iff res fs root rootFile

set_option linter.unusedSectionVars false in
/-- Resolution always terminates: the recursion budget `number of configured files + 1` of the model is never
    exhausted, whatever the import graph looks like (cycles, self-imports, diamonds). -/
theorem C13_terminates : resolve res fs root rootFile ≠ .outOfFuel :=
  resolve_fuel res fs root rootFile

/-- so the result is always a success or an error -/
theorem C13_total : (∃ out, resolve res fs root rootFile = .ok out) ∨ (∃ e, resolve res fs root rootFile = .err e) := by
  cases hr : resolve res fs root rootFile with
  | ok out => exact Or.inl ⟨out, rfl⟩
  | err e => exact Or.inr ⟨e, rfl⟩
  | outOfFuel => exact absurd hr (C13_terminates res fs root rootFile)

/-- Scope: on success, whenever a reachable file `q` (the root or a transitively imported file) has an import line
    that brings fragment `n` of file `res q imp.rel` into `q`'s scope, that fragment definition is in the result
    document (among the root's own definitions or among the appended ones). -/
theorem C13_scope (hroot : RootOK fs root rootFile) {out : List (DefId κ)}
    (h : resolve res fs root rootFile = .ok out) {q : κ} {imp : Import ρ} {ds : List Def} {i n : Nat}
    (hq : Reach res fs root rootFile q) (himp : imp ∈ importsOf fs root rootFile q)
    (hds : defsAt fs (res q imp.rel) = some ds) (hi : ds[i]? = some (Def.frag n)) (hreq : Requests imp.targets n) :
    (res q imp.rel, i) ∈ rootIds root rootFile ++ out := by
  rw [List.mem_append]
  by_cases hin : (res q imp.rel, i) ∈ rootIds root rootFile
  · exact Or.inl hin
  · right
    rw [(C13_result res fs root rootFile hroot h).1]
    exact ⟨⟨q, imp, ds, n, hq, himp, rfl, hds, hi, hreq⟩, hin⟩


/-- When the import lines of a document pass `resolve_operation_extensions`, the merged import list has the same
    path literals as the raw lines, requests a fragment name from a literal iff some raw line with that literal does
    (`*` requests every name), and names a fragment explicitly iff some raw line does. -/
theorem C13_merge {lines : List (RawImport ρ)} {imps : List (Import ρ)} (h : resolveExt lines = .ok imps) :
    (∀ r, (∃ e ∈ imps, e.rel = r) ↔ ∃ l ∈ lines, l.rel = r) ∧
    (∀ r n, (∃ e ∈ imps, e.rel = r ∧ Requests e.targets n) ↔
      ∃ l ∈ lines, l.rel = r ∧ (RawTarget.wildcard ∈ l.targets ∨ RawTarget.name n ∈ l.targets)) ∧
    (∀ r n, (∃ e ∈ imps, e.rel = r ∧ n ∈ namesOf e.targets) ↔ ∃ l ∈ lines, l.rel = r ∧ RawTarget.name n ∈ l.targets) := by
  refine ⟨fun r => ?_, fun r n => ?_, fun r n => ?_⟩
  · simpa using extLoop_view (Φ := fun _ => True) (Ψ := fun _ => True) (fun _ _ _ _ _ _ => by simp) (fun _ _ => trivial)
      lines [] 0 imps h r
  · simpa [RawRequests] using extLoop_view (Φ := (Requests · n)) (Ψ := (RawRequests · n))
      (fun line ts t i t' h => (foldTargets_sem line ts t i t' h).1 n) (fun _ h => by simp [Requests] at h) lines [] 0 imps h r
  · simpa using extLoop_view (Φ := (n ∈ namesOf ·)) (Ψ := (RawTarget.name n ∈ ·))
      (fun line ts t i t' h => (foldTargets_sem line ts t i t' h).2 n) (fun _ h => by simp [namesOf] at h) lines [] 0 imps h r

set_option linter.unusedSectionVars false in
/-- The reference (reachability, selected definitions, the two error conditions) depends on the import list of each
    document only through the three views preserved by `C13_merge`: so it is the same whether it is read off the raw
    `#import` lines or off the merged import lists the resolver works on. -/
theorem C13_spec_views {fs' : FS κ ρ} {rootFile' : File ρ}
    (hd : ∀ p, defsAt fs p = defsAt fs' p) (hrid : rootFile.defs.length = rootFile'.defs.length)
    (h1 : ∀ q r, (∃ imp ∈ importsOf fs root rootFile q, imp.rel = r) ↔
      ∃ imp ∈ importsOf fs' root rootFile' q, imp.rel = r)
    (h2 : ∀ q r n, (∃ imp ∈ importsOf fs root rootFile q, imp.rel = r ∧ Requests imp.targets n) ↔
      ∃ imp ∈ importsOf fs' root rootFile' q, imp.rel = r ∧ Requests imp.targets n)
    (h3 : ∀ q r n, (∃ imp ∈ importsOf fs root rootFile q, imp.rel = r ∧ n ∈ namesOf imp.targets) ↔
      ∃ imp ∈ importsOf fs' root rootFile' q, imp.rel = r ∧ n ∈ namesOf imp.targets) :
    (∀ x, InRef res fs root rootFile x ↔ InRef res fs' root rootFile' x) ∧
    (Dangling res fs root rootFile ↔ Dangling res fs' root rootFile') ∧
    (MissingName res fs root rootFile ↔ MissingName res fs' root rootFile') := by
  have hd' := fun p => (hd p).symm
  have hr : rootIds root rootFile = rootIds root rootFile' := by simp [rootIds, hrid]
  refine ⟨fun x => ⟨?_, ?_⟩, ⟨?_, ?_⟩, ⟨?_, ?_⟩⟩
  · rintro ⟨hs, hn⟩
    exact ⟨selected_views res root hd (fun q r => (h1 q r).mp) (fun q r n => (h2 q r n).mp) hs, by rw [← hr]; exact hn⟩
  · rintro ⟨hs, hn⟩
    exact ⟨selected_views res root hd' (fun q r => (h1 q r).mpr) (fun q r n => (h2 q r n).mpr) hs, by rw [hr]; exact hn⟩
  · exact dangling_views res root hd (fun q r => (h1 q r).mp)
  · exact dangling_views res root hd' (fun q r => (h1 q r).mpr)
  · exact missing_views res root hd (fun q r => (h1 q r).mp) (fun q r n => (h3 q r n).mp)
  · exact missing_views res root hd' (fun q r => (h1 q r).mpr) (fun q r n => (h3 q r n).mpr)

/-- Permuting the import lines of any of the files (root included) permutes the result: the same definitions are
    appended, and an error is reported for the one input iff it is reported for the other. -/
theorem C13_order_indep {fs' : FS κ ρ} {rootFile' : File ρ} (hfs : FSPerm fs fs') (hr : FilePerm rootFile rootFile')
    (hroot : RootOK fs root rootFile) (hroot' : RootOK fs' root rootFile') :
    match resolve res fs root rootFile, resolve res fs' root rootFile' with
    | .ok out, .ok out' => out.Perm out'
    | .err _, .err _ => True
    | _, _ => False := by
  have hv : ∀ (Q : Import ρ → Prop) q, (∃ imp ∈ importsOf fs root rootFile q, Q imp) ↔
      ∃ imp ∈ importsOf fs' root rootFile' q, Q imp :=
    fun Q q => exists_congr fun imp => and_congr_left' (hfs.importsOf root hr q imp)
  obtain ⟨href, hdang, hmiss⟩ := C13_spec_views res fs root rootFile hfs.defsAt (congrArg List.length hr.1)
    (fun q _ => hv _ q) (fun q _ _ => hv _ q) (fun q _ _ => hv _ q)
  have herr : (resolve res fs root rootFile).isErr = true ↔ (resolve res fs' root rootFile').isErr = true := by
    rw [C13_err_iff, C13_err_iff, hdang, hmiss]
  cases h1 : resolve res fs root rootFile with
  | outOfFuel => exact absurd h1 (C13_terminates res fs root rootFile)
  | err e =>
    cases h2 : resolve res fs' root rootFile' with
    | outOfFuel => exact absurd h2 (C13_terminates res fs' root rootFile')
    | err e' => trivial
    | ok out' => rw [h1, h2] at herr; simp [Res.isErr] at herr
  | ok out =>
    cases h2 : resolve res fs' root rootFile' with
    | outOfFuel => exact absurd h2 (C13_terminates res fs' root rootFile')
    | err e' => rw [h1, h2] at herr; simp [Res.isErr] at herr
    | ok out' =>
      obtain ⟨m1, n1⟩ := C13_result res fs root rootFile hroot h1
      obtain ⟨m2, n2⟩ := C13_result res fs' root rootFile' hroot' h2
      show out.Perm out'
      rw [List.perm_ext_iff_of_nodup n1 n2]
      intro x
      rw [m1, m2]
      exact href x


set_option linter.unusedSectionVars false in
/-- `refImports` (plain fixed-point iteration + selection, what the driver answers as "the spec's answer") lists
    exactly the reference set, each element once, and `refError` decides the two error conditions. -/
theorem C13_spec_exec :
    (∀ x, x ∈ refImports res fs root rootFile ↔ InRef res fs root rootFile x) ∧
    (refImports res fs root rootFile).Nodup ∧
    (refError res fs root rootFile = true ↔ Dangling res fs root rootFile ∨ MissingName res fs root rootFile) :=
  ⟨mem_refImports res fs root rootFile, nodup_refImports res fs root rootFile, refError_iff res fs root rootFile⟩

set_option linter.unusedSectionVars false in
/-- model against executable reference: success ⇒ the result is a permutation of `refImports`;
    an error is reported iff `refError` says so -/
theorem C13_result_exec (hroot : RootOK fs root rootFile) :
    (resolve res fs root rootFile).isErr = refError res fs root rootFile ∧
    ∀ out, resolve res fs root rootFile = .ok out → out.Perm (refImports res fs root rootFile) :=
  resolve_exec res fs root rootFile hroot

/-! ### the algorithm before the repair violated the property (kernel-checked witnesses)

Files are numbered (`κ = ρ = Nat`, a path literal is the number of its target). These are the inputs of
DESIGN §9-ad/ae/af, reproduced on the real code before commit 7cb51d3 (replays `findings/C13-fixed-*.json`). -/

def natRes : Nat → Nat → Nat := fun _ rel => rel

/-- main(0) imports N2 from y(2) and N0 from x(1); y imports N1 from x -/
def diamondRoot : File Nat := ⟨[⟨2, 0, .specific [⟨2, 0, 0⟩]⟩, ⟨1, 1, .specific [⟨0, 1, 0⟩]⟩], [.other]⟩
def diamondFs : FS Nat Nat :=
  [(0, diamondRoot), (1, ⟨[], [.frag 0, .frag 1]⟩), (2, ⟨[⟨1, 0, .specific [⟨1, 0, 0⟩]⟩], [.frag 2]⟩)]

/-- §9-ad: the traversal before 7cb51d3 marked x visited while importing N1 for y, then skipped main's own import of N0 -/
theorem legacy_diamond_counterexample :
    Legacy.resolve natRes diamondFs 0 diamondRoot = .ok [(1, 1), (2, 0)] ∧
    (1, 0) ∈ refImports natRes diamondFs 0 diamondRoot ∧
    resolve natRes diamondFs 0 diamondRoot = .ok [(1, 0), (1, 1), (2, 0)] := by decide

/-- main(0) imports N1 from x(1); x imports N0 from main -/
def cycleRoot : File Nat := ⟨[⟨1, 0, .specific [⟨1, 0, 0⟩]⟩], [.other, .frag 0]⟩
def cycleFs : FS Nat Nat := [(0, cycleRoot), (1, ⟨[⟨0, 0, .specific [⟨0, 0, 0⟩]⟩], [.frag 1]⟩)]

/-- §9-ae: the traversal before 7cb51d3 appended the root's own fragment N0 a second time -/
theorem legacy_root_cycle_counterexample :
    Legacy.resolve natRes cycleFs 0 cycleRoot = .ok [(0, 1), (1, 0)] ∧
    (0, 1) ∈ rootIds 0 cycleRoot ∧
    resolve natRes cycleFs 0 cycleRoot = .ok [(1, 0)] := by decide

/-- `#import N0, N0 from x`, as merged by `resolve_operation_extensions` -/
def repeatRoot : File Nat := ⟨[⟨1, 0, .specific [⟨0, 0, 0⟩, ⟨0, 0, 1⟩]⟩], [.other]⟩
def repeatFs : FS Nat Nat := [(0, repeatRoot), (1, ⟨[], [.frag 0]⟩)]

/-- §9-af: one fragment found for two requested names made the code before 7cb51d3 look for a missing name that does not
    exist — `expect("missing target not found")` -/
theorem legacy_repeated_name_counterexample :
    Legacy.resolve natRes repeatFs 0 repeatRoot = .panic ∧
    resolve natRes repeatFs 0 repeatRoot = .ok [(1, 0)] ∧
    (resolveExt [(⟨1, [.name 0, .name 0]⟩ : RawImport Nat)]).toOption = some repeatRoot.imports := by decide

/-- non-vacuity of `RootOK` (and of the success hypothesis): the three graphs above satisfy it -/
example : RootOK diamondFs 0 diamondRoot ∧ RootOK cycleFs 0 cycleRoot ∧ RootOK repeatFs 0 repeatRoot := by
  refine ⟨?_, ?_, ?_⟩ <;> intro f h <;> simp [diamondFs, cycleFs, repeatFs] at h <;> exact h.symm

/-- non-vacuity of `C13_order_indep`: the diamond with main's two lines swapped -/
example : FSPerm diamondFs [(0, ⟨diamondRoot.imports.reverse, diamondRoot.defs⟩), (1, ⟨[], [.frag 0, .frag 1]⟩),
      (2, ⟨[⟨1, 0, .specific [⟨1, 0, 0⟩]⟩], [.frag 2]⟩)] ∧
    FilePerm diamondRoot ⟨diamondRoot.imports.reverse, diamondRoot.defs⟩ := by
  have hp : FilePerm diamondRoot ⟨diamondRoot.imports.reverse, diamondRoot.defs⟩ :=
    ⟨rfl, (List.reverse_perm _).symm⟩
  exact ⟨FSPerm.cons hp (FSPerm.cons ⟨rfl, List.Perm.refl _⟩ (FSPerm.cons ⟨rfl, List.Perm.refl _⟩ FSPerm.nil)), hp⟩


/-- `resolve_relative_path(doc, Path::new(rel))` -/
def pathRes (doc : Paths.P) (rel : String) : Paths.P := Paths.resolve doc (Paths.components rel)

/-- `C13_result` at the resolver the code runs (that respelled literals denote the same file is `C13_respelled` /
    `C13_with_paths` in `Props/C12Composed.lean`) -/
example (fs : FS Paths.P String) (root : Paths.P) (rootFile : File String) (hroot : RootOK fs root rootFile)
    (out : List (DefId Paths.P)) (h : resolve pathRes fs root rootFile = .ok out) :
    (∀ x, x ∈ out ↔ InRef pathRes fs root rootFile x) ∧ out.Nodup :=
  C13_result pathRes fs root rootFile hroot h

end NitroVerif.Imports
