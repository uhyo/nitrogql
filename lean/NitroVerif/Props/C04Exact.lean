import NitroVerif.Props.C03
import NitroVerif.Props.C04
/-!
# C03 + C04 — the checker accepts exactly the documents that satisfy the implemented rules

Property theorem only: the conjunction of the soundness direction (`C03_accepts_only_valid`, Props/C03.lean) and the
completeness direction (`C04_no_false_alarm_implemented_rules`, Props/C04.lean).
-/
namespace NitroVerif.CheckOp
open NitroVerif.Gql NitroVerif.CheckCommon NitroVerif.Valid

/-- the hypotheses are satisfiable by the non-trivial witness of Props/C04.lean -/
example : SchemaValid c04Schema ∧ Doc.NonEmptySelections c04Doc ∧ noEmptyUnionB c04Schema = true ∧
    rootsDefinedB c04Schema c04Doc = true ∧ constVarDefsB c04Doc = true := by decide +kernel

/-- **Exact characterisation.** For a valid schema (without empty unions) and a document without empty selection sets
    (as the parser's grammar guarantees — assumed, not proved here) and with constant variable definitions (the
    grammar of the specification; NOT enforced by the nitrogql parser) whose operation kinds the schema supports:
    `check_operation_document` reports NO diagnostic if and only if the document satisfies every one of the 25
    validation rules nitrogql implements. Only the direction from left to right uses `Doc.NonEmptySelections D`
    (for the "at least one" of 5.2.3.1); only the direction from right to left uses the three side conditions on
    unions, root types and variable definitions. -/
theorem C04_C03_exact (S : Schema) (D : Doc) (hS : SchemaValid S) (hD : Doc.NonEmptySelections D)
    (hNE : noEmptyUnionB S = true) (hroots : rootsDefinedB S D = true) (hconst : constVarDefsB D = true) :
    checkOp S D = [] ↔ ∀ r ∈ ImplementedRules, Holds r S D :=
  ⟨C03_accepts_only_valid S D hS hD, fun h => C04_no_false_alarm_implemented_rules S D hS h hNE hroots hconst⟩

end NitroVerif.CheckOp
