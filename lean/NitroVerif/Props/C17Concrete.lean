import NitroVerif.Lemmas.DeterminismConcreteTs
import NitroVerif.Lemmas.DeterminismConcreteTsUnique
import NitroVerif.Lemmas.DeterminismConcreteOp
import NitroVerif.Lemmas.DeterminismConcreteDoc
import NitroVerif.Lemmas.DeterminismConcreteDecls
import NitroVerif.Lemmas.DeterminismConcreteTyRel
import NitroVerif.Lemmas.DeterminismConcreteResolvers
import NitroVerif.Props.C11
/-!
# C17 (concrete part) — the CONCRETE checker / printer models are independent of the order of definitions

`Props/C17.lean` proves permutation invariance for an abstract checker of the shape "per-definition rules over a
lookup view". Here the same is proved of the concrete executable models that the K streams of C03/C04/C05/C09/C10/C01
compare with the real code:

* `CheckTs.checkSchema`     (`check_type_system_document`, Model/CheckTs.lean + CheckTsCommon.lean)
* `CheckOp.checkOp`         (`check_operation_document`, Model/CheckOp.lean + CheckCommon.lean)
* `SchemaDecls.schemaFile`  (schema declaration file, Model/SchemaDecls.lean)
* `ResolverDecls.resolversFile` (resolvers declaration file; K stream of C10)
* `OpTypes.implTree`/`toTs`/`opDecls` (operation result types, Model/OpTypes.lean; K streams of C01/C02)

Hypotheses (`NoDupTypeNames`, `NoDupDirectiveNames`, at most one schema definition, `BuiltinsApart`,
`KeepsDirectiveOrder`, `KeepsImplOrder`, `NoDupOpNames`, `NoDupFragNames`, `KeepsExtOrder`) are stated per theorem and are
not discharged here. A permutation is a permutation of the LIST of definitions, each carrying its recorded positions.
OPEN — carried by K/O only: see the block at the end of `Props/C17.lean` (model = code, the real CLI under permuted
source files, re-positioning of moved definitions, `additional_info` / message text of diagnostics).
-/
namespace NitroVerif.Determinism
open NitroVerif.Gql

/-- **The concrete type-system checker is order-independent.** For a (resolved) type-system document whose type
    names are pairwise distinct and whose directive names are pairwise distinct, every permutation of the definitions
    yields the same MULTISET of diagnostics (kind and position), each definition's diagnostics staying in their
    relative order; in particular the verdict is the same. No rule is order-sensitive under these hypotheses: the
    checker reads the rest of the document only through by-name lookups (first-wins `Schema`, last-wins
    `DefinitionMap`) and the number of definitions. -/
theorem C17_checkTs_perm {T T' : TsDoc} (h : T.Perm T') (ndt : NoDupTypeNames T) (ndd : NoDupDirectiveNames T) :
    (CheckTs.checkSchema T).Perm (CheckTs.checkSchema T') ∧
    (CheckTs.checkSchema T).isEmpty = (CheckTs.checkSchema T').isEmpty := by
  have hp : (CheckTs.checkSchema T).Perm (CheckTs.checkSchema T') := checkSchema_perm h ndt ndd
  exact ⟨hp, hp.isEmpty_eq⟩

/-- **The VERDICT of the type-system checker does not depend on the order of the definitions — no hypothesis on the
    user's names** (since fix 8cdbacf, `check_unique_names`). For every permutation `T'` of a resolved document `T`:
    `T` is accepted iff `T'` is. If a type name is defined twice (across kinds, or a user type takes the name of a
    built-in type) or a directive name is defined twice by the user, BOTH orders are rejected (`DuplicatedName`, at
    whichever user definition comes later / clashes with the built-in); otherwise all names are distinct and
    `C17_checkTs_perm` applies. The only hypothesis (`BuiltinsApart`, decidable, invariant under permutation) is about
    the part of the document the CLI adds: the built-in-position definitions do not repeat a name among themselves,
    and no user directive definition re-declares a built-in directive — that re-declaration is allowed by the code,
    and with it the statement is false (`C17_checkTs_redeclared_builtin_counterexample`). -/
theorem C17_checkTs_verdict {T T' : TsDoc} (h : T.Perm T') (hb : BuiltinsApart T) :
    CheckTs.checkSchema T = [] ↔ CheckTs.checkSchema T' = [] :=
  ⟨checkSchema_nil_perm h hb, checkSchema_nil_perm h.symm (hb.perm h)⟩

/-- the hypothesis of `C17_checkTs_verdict` holds of documents with repeated user names (both orders rejected) and
    with built-in-position definitions -/
example :
    let T : TsDoc := [.typeDef { kind := .object, name := "A", namePos := { line := 1 } },
                      .typeDef { kind := .input, name := "A", namePos := { line := 2 } },
                      .directiveDef { name := "d", namePos := { line := 3 } },
                      .directiveDef { name := "d", namePos := { line := 4 } },
                      .typeDef { kind := .scalar, name := "Int", namePos := { builtin := true } },
                      .directiveDef { name := "skip", namePos := { builtin := true } }]
    BuiltinsApart T ∧ CheckTs.checkSchema T ≠ [] ∧ CheckTs.checkSchema T.reverse ≠ [] := by
  refine ⟨by decide +kernel, by decide +kernel, by decide +kernel⟩

/-- **Re-declared built-in directives: the verdict depends on whether the built-in definition comes first.**
    `directive @deprecated on OBJECT` (user) next to the built-in `@deprecated on FIELD_DEFINITION | …` and
    `type Q @deprecated { f: Int }`: `check_unique_names` reports nothing in either order (re-declaring a built-in
    directive is allowed); with the user's definition first the `Schema` (first definition wins) has the user's and
    the application at OBJECT is fine, with the built-in first it is `DirectiveLocationNotAllowed`. In the pipeline the
    built-ins are appended after the user's definitions and the resolver keeps directive definitions in order, so
    reordering SOURCE text never produces the second order. -/
theorem C17_checkTs_redeclared_builtin_counterexample :
    ∃ T T' : TsDoc, T.Perm T' ∧ NoDupTypeNames T ∧ CheckTs.checkUniqueNames T = [] ∧ CheckTs.checkUniqueNames T' = [] ∧
      CheckTs.checkSchema T = [] ∧ CheckTs.checkSchema T' = [(.DirectiveLocationNotAllowed, { line := 3, col := 8 })] ∧
      ¬ BuiltinsApart T :=
  ⟨[.directiveDef { name := "deprecated", namePos := { line := 1 }, locations := ["OBJECT"] },
    .directiveDef { name := "deprecated", namePos := { builtin := true }, locations := ["FIELD_DEFINITION"] },
    .typeDef { kind := .object, name := "Q", dirs := [{ name := "deprecated", pos := { line := 3, col := 8 } }] }],
   [.directiveDef { name := "deprecated", namePos := { builtin := true }, locations := ["FIELD_DEFINITION"] },
    .directiveDef { name := "deprecated", namePos := { line := 1 }, locations := ["OBJECT"] },
    .typeDef { kind := .object, name := "Q", dirs := [{ name := "deprecated", pos := { line := 3, col := 8 } }] }],
   List.Perm.swap _ _ _, by unfold NoDupTypeNames; decide +kernel, by decide +kernel, by decide +kernel, by decide +kernel, by decide +kernel, by decide +kernel⟩

/-- …and the diagnostics of each single definition are literally the same list in both orders (so only the
    interleaving of the per-definition groups changes). -/
theorem C17_checkTs_item_perm {T T' : TsDoc} (h : T.Perm T') (ndt : NoDupTypeNames T) (ndd : NoDupDirectiveNames T)
    (x : TsItem) : CheckTs.checkItem T ⟨T⟩ x = CheckTs.checkItem T' ⟨T'⟩ x :=
  congrFun (checkItem_perm h ndt ndd) x

/-- the hypotheses are satisfiable by a document that has diagnostics: `type Q implements Node { id: Missing }`
    next to `interface Node { id: ID }` and a directive definition, in two orders -/
example :
    let node : TypeDef := { kind := .interface, name := "Node", fields := [{ name := "id", ty := .named "ID" {} }] }
    let q : TypeDef := { kind := .object, name := "Q", implements := [("Node", {})],
                         fields := [{ name := "id", ty := .named "Missing" { line := 3 } }] }
    let d : DirectiveDef := { name := "d", locations := ["OBJECT"] }
    let T : TsDoc := [.typeDef node, .typeDef q, .directiveDef d]
    let T' : TsDoc := [.directiveDef d, .typeDef q, .typeDef node]
    T.Perm T' ∧ NoDupTypeNames T ∧ NoDupDirectiveNames T ∧ CheckTs.checkSchema T ≠ [] := by
  refine ⟨?_, by unfold NoDupTypeNames; decide +kernel, by unfold NoDupDirectiveNames; decide +kernel, by decide +kernel⟩
  exact (List.Perm.swap _ _ _).trans ((List.Perm.cons _ (List.Perm.swap _ _ _)).trans (List.Perm.swap _ _ _))

/-- **… and WITH re-declared built-in directives the verdict is the same for every permutation that keeps, for each
    directive name, the relative order of its definitions** (`KeepsDirectiveOrder`; any movement of type and schema
    definitions, of directive definitions of different names, across each other). This is what reordering source
    text does to a schema that re-declares `@deprecated`: the CLI appends the built-ins after all user files and the
    extension resolver emits directive definitions in that order, so the user's definition stays in front. Only
    hypothesis besides: the built-in-position TYPE definitions are pairwise distinct. (Two USER definitions of one
    directive swapped are covered by `C17_checkTs_verdict`: rejected in both orders.) -/
theorem C17_checkTs_verdict_keepsDirectiveOrder {T T' : TsDoc} (h : T.Perm T') (hk : KeepsDirectiveOrder T T')
    (hb : ValidTs.builtinTypeNamesDistinct T = true) :
    CheckTs.checkSchema T = [] ↔ CheckTs.checkSchema T' = [] :=
  ⟨checkSchema_nil_keeps h hk hb, checkSchema_nil_keeps h.symm hk.symm (builtinTypeNamesDistinct_perm h hb)⟩

/-- the hypotheses hold of the re-declaration witness above with its other definitions moved around (accepted) -/
example :
    let u : TsItem := .directiveDef { name := "deprecated", namePos := { line := 1 }, locations := ["OBJECT"] }
    let b : TsItem := .directiveDef { name := "deprecated", namePos := { builtin := true }, locations := ["FIELD_DEFINITION"] }
    let q : TsItem := .typeDef { kind := .object, name := "Q", dirs := [{ name := "deprecated" }] }
    let i : TsItem := .typeDef { kind := .scalar, name := "Int", namePos := { builtin := true } }
    let T : TsDoc := [u, b, q, i]
    let T' : TsDoc := [q, u, i, b]
    T.Perm T' ∧ KeepsDirectiveOrder T T' ∧ ValidTs.builtinTypeNamesDistinct T = true ∧ ¬ BuiltinsApart T ∧
      CheckTs.checkSchema T = [] := by
  refine ⟨?_, fun _ => rfl, by decide +kernel, by decide +kernel, by decide +kernel⟩
  exact ((List.Perm.cons _ (List.Perm.swap _ _ _)).trans (List.Perm.swap _ _ _)).trans
    (List.Perm.cons _ (List.Perm.cons _ (List.Perm.swap _ _ _)))

/-- **Pre-repair witness (directives), the defect fix 8cdbacf repairs.** `resolve_schema_extensions` lets two
    definitions of the same directive through (`dupOriginal? = none`); the `Schema` the checker consults keeps the
    FIRST one, so for the per-definition rules ALONE (`checkSchemaItems` = all that `check_type_system_document` did
    before the fix) swapping them changes the verdict: `directive @d on SCALAR  directive @d on OBJECT  scalar X @d`
    passes, the same document with the two directive definitions swapped gets `DirectiveLocationNotAllowed`.
    (Replayed on the pre-fix CLI: `check` exited 0 for the first order and reported 3:10 "Directive 'd' is not
    allowed for this location" for the second; seeded/C17/prefix-8cdbacf re-creates it.) With `check_unique_names`
    BOTH orders are rejected: `DuplicatedName` at the second definition (`C17_checkTs_verdict`). -/
theorem C17_checkTs_duplicate_directive_prerepair :
    ∃ T T' : TsDoc, T.Perm T' ∧ NoDupTypeNames T ∧ CheckTs.dupOriginal? T = none ∧ CheckTs.dupOriginal? T' = none ∧
      CheckTs.checkSchemaItems T = [] ∧
      CheckTs.checkSchemaItems T' = [(.DirectiveLocationNotAllowed, { line := 3, col := 10 })] ∧
      CheckTs.checkSchema T = [(.DuplicatedName, { line := 2, col := 11 })] ∧
      CheckTs.checkSchema T' = [(.DuplicatedName, { line := 1, col := 11 }),
                                (.DirectiveLocationNotAllowed, { line := 3, col := 10 })] :=
  ⟨[.directiveDef { name := "d", namePos := { line := 1, col := 11 }, locations := ["SCALAR"], pos := { line := 1 } },
    .directiveDef { name := "d", namePos := { line := 2, col := 11 }, locations := ["OBJECT"], pos := { line := 2 } },
    .typeDef { kind := .scalar, name := "X", dirs := [{ name := "d", pos := { line := 3, col := 10 } }] }],
   [.directiveDef { name := "d", namePos := { line := 2, col := 11 }, locations := ["OBJECT"], pos := { line := 2 } },
    .directiveDef { name := "d", namePos := { line := 1, col := 11 }, locations := ["SCALAR"], pos := { line := 1 } },
    .typeDef { kind := .scalar, name := "X", dirs := [{ name := "d", pos := { line := 3, col := 10 } }] }],
   List.Perm.swap _ _ _, by unfold NoDupTypeNames; decide +kernel, by decide +kernel, by decide +kernel, by decide +kernel, by decide +kernel, by decide +kernel,
   by decide +kernel⟩

/-- **Pre-repair witness (types) — for the per-definition rules taken in isolation.** Two definitions of DIFFERENT
    kinds may share a name after `resolve_schema_extensions` (`dupOriginal?` keys on (kind, name)); the first one wins
    in the `Schema`: `scalar A  type A { f: B }  scalar B  input I { x: A }` passes `checkSchemaItems`, with the first
    two swapped `I.x` gets `NoOutputType`. (In the pipeline the checker only sees the resolver's output, which lists
    the definitions grouped by kind — scalars before objects — whatever the source order; so THIS dependence could not
    be triggered by reordering source text, unlike the directive one above.) With `check_unique_names` both orders are
    rejected with `DuplicatedName` at the second definition of `A`. -/
theorem C17_checkTs_duplicate_type_prerepair :
    ∃ T T' : TsDoc, T.Perm T' ∧ NoDupDirectiveNames T ∧ CheckTs.dupOriginal? T = none ∧
      CheckTs.dupOriginal? T' = none ∧
      CheckTs.checkSchemaItems T = [] ∧ CheckTs.checkSchemaItems T' = [(.NoOutputType, { line := 4, col := 14 })] ∧
      CheckTs.checkSchema T = [(.DuplicatedName, { line := 2 })] ∧
      CheckTs.checkSchema T' = [(.DuplicatedName, { line := 1 }), (.NoOutputType, { line := 4, col := 14 })] :=
  ⟨[.typeDef { kind := .scalar, name := "A", namePos := { line := 1 } },
    .typeDef { kind := .object, name := "A", namePos := { line := 2 }, fields := [{ name := "f", ty := .named "B" {} }] },
    .typeDef { kind := .scalar, name := "B" },
    .typeDef { kind := .input, name := "I", inputs := [{ name := "x", ty := .named "A" { line := 4, col := 14 } }] }],
   [.typeDef { kind := .object, name := "A", namePos := { line := 2 }, fields := [{ name := "f", ty := .named "B" {} }] },
    .typeDef { kind := .scalar, name := "A", namePos := { line := 1 } },
    .typeDef { kind := .scalar, name := "B" },
    .typeDef { kind := .input, name := "I", inputs := [{ name := "x", ty := .named "A" { line := 4, col := 14 } }] }],
   List.Perm.swap _ _ _, by unfold NoDupDirectiveNames; decide +kernel, by decide +kernel, by decide +kernel, by decide +kernel, by decide +kernel, by decide +kernel,
   by decide +kernel⟩

/-- **The concrete operation checker does not see the order of the schema's definitions.** For a resolved schema
    with pairwise distinct type names, pairwise distinct directive names and at most one `schema { … }` definition,
    `check_operation_document` returns literally the same list of diagnostics (same kinds, positions, order) for
    every permutation of the schema's definitions and every executable document `D`. In particular the
    interface-inside-interface applicability test (`type_names.any(...)`: SOME object type implements both) is a set
    question; `possibleTypes`/implementer ORDER never reaches a diagnostic. -/
theorem C17_checkOp_schema_perm {T T' : TsDoc} (h : T.Perm T') (ndt : NoDupTypeNames T) (ndd : NoDupDirectiveNames T)
    (one : (Schema.mk T).schemaDefs.length ≤ 1) (D : Doc) :
    CheckOp.checkOp ⟨T⟩ D = CheckOp.checkOp ⟨T'⟩ D :=
  checkOp_schema_congr (sameSchema_of_perm h ndt ndd one) D

/-- the hypotheses are satisfiable on a case that exercises the interface × interface rule: `... on J` inside an
    `I`-typed selection where only the LATER implementer `B` of `I` implements `J` (accepted in both orders) -/
example :
    let q : TypeDef := { kind := .object, name := "Query", fields := [{ name := "i", ty := .named "I" {} }] }
    let i : TypeDef := { kind := .interface, name := "I" }
    let j : TypeDef := { kind := .interface, name := "J" }
    let a : TypeDef := { kind := .object, name := "A", implements := [("I", {})] }
    let b : TypeDef := { kind := .object, name := "B", implements := [("I", {}), ("J", {})] }
    let T : TsDoc := [.typeDef q, .typeDef i, .typeDef j, .typeDef a, .typeDef b]
    let T' : TsDoc := [.typeDef b, .typeDef q, .typeDef i, .typeDef j, .typeDef a]
    let D : Doc := [.op { kind := .query, sel := [.field none "i" {} [] [] (some
      [.inline (some ("J", {})) [] [.field none "__typename" {} [] [] none] {}])] }]
    NoDupTypeNames T ∧ NoDupDirectiveNames T ∧ (Schema.mk T).schemaDefs.length ≤ 1 ∧ T ≠ T' ∧
      CheckOp.checkOp ⟨T⟩ D = CheckOp.checkOp ⟨T'⟩ D := by
  refine ⟨by unfold NoDupTypeNames; decide +kernel, by unfold NoDupDirectiveNames; decide +kernel, by decide +kernel, ?_, by decide +kernel⟩
  intro h
  have := congrArg (fun l => l.head?.map fun | TsItem.typeDef t => t.name | _ => "") h
  simp at this

/-- **"At most one schema definition" is needed** (a second one is rejected by `resolve_schema_extensions`, so this
    is not reachable through the pipeline): the LAST `query:` entry over all schema definitions sets the root type,
    so swapping two schema definitions changes the root type the operation is checked against. -/
theorem C17_checkOp_two_schema_defs_counterexample :
    ∃ (T T' : TsDoc) (D : Doc), T.Perm T' ∧ NoDupTypeNames T ∧ NoDupDirectiveNames T ∧
      CheckOp.checkOp ⟨T⟩ D = [] ∧ CheckOp.checkOp ⟨T'⟩ D = [(.FieldNotFound, { line := 1, col := 3 })] :=
  ⟨[.schemaDef { roots := [(.query, "A", {})] }, .schemaDef { roots := [(.query, "B", {})] },
    .typeDef { kind := .object, name := "A" },
    .typeDef { kind := .object, name := "B", fields := [{ name := "x", ty := .named "X" {} }] },
    .typeDef { kind := .scalar, name := "X" }],
   [.schemaDef { roots := [(.query, "B", {})] }, .schemaDef { roots := [(.query, "A", {})] },
    .typeDef { kind := .object, name := "A" },
    .typeDef { kind := .object, name := "B", fields := [{ name := "x", ty := .named "X" {} }] },
    .typeDef { kind := .scalar, name := "X" }],
   [.op { kind := .query, sel := [.field none "x" { line := 1, col := 3 } [] [] none] }],
   List.Perm.swap _ _ _, by unfold NoDupTypeNames; decide +kernel, by unfold NoDupDirectiveNames; decide +kernel,
   by decide +kernel, by decide +kernel⟩

/-- **Reordering the definitions of an executable document permutes its diagnostics.** For a document whose
    fragment names are pairwise distinct and whose NAMED operations have pairwise distinct names (any number of
    anonymous operations, any imports), every permutation of the definitions yields the same multiset of diagnostics
    (each definition's diagnostics staying together and in order); fragments are found by name, the "used by an
    operation" test is a set question, and the lone-anonymous-operation rule counts operations. Any schema `S`. -/
theorem C17_checkOp_doc_perm (S : Schema) {D D' : Doc} (h : D.Perm D') (ndo : NoDupOpNames D)
    (ndf : NoDupFragNames D) : (CheckOp.checkOp S D).Perm (CheckOp.checkOp S D') := by
  unfold CheckOp.checkOp
  rw [checkDefs_eq_flatMap S D _ [] D (by simpa using ndo) (by simpa using ndf),
    checkDefs_eq_flatMap S D' _ [] D' (by simpa using ndo.perm h) (by simpa using ndf.perm h),
    (opsOf_perm h).length_eq,
    show (fun d => CheckOp.defHeader (CheckOp.opsOf D').length [] d ++ CheckOp.defBody S D d) =
      (fun d => CheckOp.defHeader (CheckOp.opsOf D').length [] d ++ CheckOp.defBody S D' d) from
      funext fun d => by rw [defBody_doc_congr (sameDoc_of_perm h ndf)]]
  exact h.flatMap_right _

/-- **The verdict of the operation checker never depends on the order of the document's definitions** — no side
    condition: if names repeat, BOTH orders are rejected (the duplicate-name rule fires on whichever comes second);
    otherwise the diagnostics are permuted. -/
theorem C17_checkOp_doc_verdict (S : Schema) {D D' : Doc} (h : D.Perm D') :
    (CheckOp.checkOp S D).isEmpty = (CheckOp.checkOp S D').isEmpty := by
  by_cases hn : NoDupOpNames D ∧ NoDupFragNames D
  · exact (C17_checkOp_doc_perm S h hn.1 hn.2).isEmpty_eq
  · rw [Bool.eq_iff_iff, List.isEmpty_iff, List.isEmpty_iff]
    have hn' : ¬ (NoDupOpNames D' ∧ NoDupFragNames D') := fun hh => hn ⟨hh.1.perm h.symm, hh.2.perm h.symm⟩
    exact ⟨fun e => absurd e (checkOp_ne_nil_of_dup S D hn), fun e => absurd e (checkOp_ne_nil_of_dup S D' hn')⟩

/-- the hypotheses of `C17_checkOp_doc_perm` are satisfiable by a document with an operation that spreads a
    fragment defined AFTER it, a second fragment nobody uses, and diagnostics (no schema at all: unknown types) -/
example :
    let o : ExecDef := .op { kind := .query, name := some ("Q", {}), sel := [.spread "F" {} [] {}] }
    let f : ExecDef := .frag { name := "F", cond := "Query", sel := [.field none "x" {} [] [] none] }
    let g : ExecDef := .frag { name := "G", cond := "Query", sel := [.spread "F" {} [] {}] }
    let D : Doc := [o, f, g]
    let D' : Doc := [g, f, o]
    D.Perm D' ∧ NoDupOpNames D ∧ NoDupFragNames D ∧ CheckOp.checkOp ⟨[]⟩ D ≠ [] := by
  refine ⟨?_, by unfold NoDupOpNames; decide +kernel, by unfold NoDupFragNames; decide +kernel, by decide +kernel⟩
  exact (List.Perm.swap _ _ _).trans ((List.Perm.cons _ (List.Perm.swap _ _ _)).trans (List.Perm.swap _ _ _))

/-- **Distinct names are needed for the multiset statement**: with a repeated fragment name the duplicate-name
    diagnostic is anchored at whichever definition comes second, so the two orders report different positions
    (both are rejected, `C17_checkOp_doc_verdict`). -/
theorem C17_checkOp_doc_duplicate_counterexample :
    ∃ (S : Schema) (D D' : Doc), D.Perm D' ∧ NoDupOpNames D ∧
      ¬ (CheckOp.checkOp S D).Perm (CheckOp.checkOp S D') :=
  ⟨⟨[.typeDef { kind := .object, name := "A" }]⟩,
   [.frag { name := "F", namePos := { line := 1 }, cond := "A", sel := [] },
    .frag { name := "F", namePos := { line := 2 }, cond := "A", sel := [] }],
   [.frag { name := "F", namePos := { line := 2 }, cond := "A", sel := [] },
    .frag { name := "F", namePos := { line := 1 }, cond := "A", sel := [] }],
   List.Perm.swap _ _ _, by unfold NoDupOpNames; decide +kernel, by decide +kernel⟩

open NitroVerif.DeterminismDecls in
/-- **The schema declaration file of a reordered schema is the same file up to order.** For a resolved schema with
    pairwise distinct type names and at most one `schema { … }` definition, and any configuration `c`: if the
    printer succeeds on `T` it succeeds on every permutation `T'`, and the two files are `DeclFileEquiv`
    (`Lemmas/DeterminismConcreteDecls.lean`): the same prelude with the `__nitrogql_schema` metadata object up to the
    order of its fields; the same four namespaces in the same order, each consisting of the same per-definition blocks
    (doc comment + alias + `export type {…}`) up to the order of the blocks and — for interface aliases — the order of
    the union members; the same representative blocks up to their order. Local names (`__tmp_X` renaming), scalar
    mappings and every other alias body are literally equal. If the printer fails on `T` (a scalar without a
    TypeScript type) it fails on `T'`. -/
theorem C17_decls_perm {T T' : TsDoc} (c : DeclCfg.Cfg) (h : T.Perm T') (nd : NoDupTypeNames T)
    (one : (Schema.mk T).schemaDefs.length ≤ 1) :
    (∀ f, SchemaDecls.schemaFile c T = .ok f → ∃ f', SchemaDecls.schemaFile c T' = .ok f' ∧ DeclFileEquiv f f') ∧
    (∀ e, SchemaDecls.schemaFile c T = .error e → ∃ e', SchemaDecls.schemaFile c T' = .error e') := by
  by_cases hok : AllOk c T DeclCfg.Target.all
  · obtain ⟨f, f', h1, h2, he⟩ := schemaFile_perm_ok c h nd one hok
    refine ⟨fun g hg => ?_, fun e he' => ?_⟩
    · rw [h1] at hg
      cases hg
      exact ⟨f', h2, he⟩
    · rw [h1] at he'
      cases he'
  · have hok' : ¬ AllOk c T' DeclCfg.Target.all := fun hh => hok fun t ht =>
      okAt_perm c h.symm (nd.perm h) t (hh t ht)
    obtain ⟨e1, h1⟩ := schemaFile_err c T hok
    obtain ⟨e2, h2⟩ := schemaFile_err c T' hok'
    refine ⟨fun g hg => ?_, fun _ _ => ⟨e2, h2⟩⟩
    rw [h1] at hg
    cases hg

open NitroVerif.DeterminismDecls in
/-- the per-definition content behind `C17_decls_perm`: in every namespace, the block printed for one definition is
    the same in both orders up to the order of the members of an interface's union (`PrintRel`), and the
    representative block is literally the same -/
theorem C17_decls_block_perm {T T' : TsDoc} (c : DeclCfg.Cfg) (h : T.Perm T') (nd : NoDupTypeNames T)
    (t : DeclCfg.Target) (td : TypeDef) :
    PrintRel (SchemaDecls.printType (SchemaDecls.Ctx.new c T t) td)
      (SchemaDecls.printType (SchemaDecls.Ctx.new c T' t) td) ∧
    SchemaDecls.representative (SchemaDecls.Ctx.new c T .operationOutput) td =
      SchemaDecls.representative (SchemaDecls.Ctx.new c T' .operationOutput) td :=
  ⟨printType_perm c h nd t td, representative_perm c h td⟩

/-- the hypotheses of `C17_decls_perm` are satisfiable with a successful print: an interface with two implementers
    (so the union really is reordered) -/
example :
    let n : TypeDef := { kind := .interface, name := "Node" }
    let u : TypeDef := { kind := .object, name := "User", implements := [("Node", {})] }
    let p : TypeDef := { kind := .object, name := "Post", implements := [("Node", {})] }
    let T : TsDoc := [.typeDef n, .typeDef u, .typeDef p]
    let T' : TsDoc := [.typeDef p, .typeDef u, .typeDef n]
    T.Perm T' ∧ NoDupTypeNames T ∧ (Schema.mk T).schemaDefs.length ≤ 1 ∧
      (SchemaDecls.schemaFile {} T).toOption.isSome ∧
      ((Schema.mk T).objectImplementers "Node" ≠ (Schema.mk T').objectImplementers "Node") := by
  refine ⟨?_, by unfold NoDupTypeNames; decide +kernel, by decide +kernel, by decide +kernel, by decide +kernel⟩
  exact (List.Perm.swap _ _ _).trans ((List.Perm.cons _ (List.Perm.swap _ _ _)).trans (List.Perm.swap _ _ _))

/-- **Order dependence of the failure message (model).** When two scalars have no TypeScript type, the printer's
    error names the FIRST one in the order of the (resolved) document: `scalar A  scalar B` fails with `A`, the
    swapped document with `B`. Both orders fail (`C17_decls_perm`); only the payload differs. -/
theorem C17_decls_error_order_counterexample :
    ∃ T T' : TsDoc, T.Perm T' ∧ NoDupTypeNames T ∧
      (match SchemaDecls.schemaFile {} T with | .error e => e | .ok _ => "") = "A" ∧
      (match SchemaDecls.schemaFile {} T' with | .error e => e | .ok _ => "") = "B" :=
  ⟨[.typeDef { kind := .scalar, name := "A" }, .typeDef { kind := .scalar, name := "B" }],
   [.typeDef { kind := .scalar, name := "B" }, .typeDef { kind := .scalar, name := "A" }],
   List.Perm.swap _ _ _, by unfold NoDupTypeNames; decide +kernel, by decide +kernel, by decide +kernel⟩

open NitroVerif.DeterminismResolvers in
/-- **The resolvers declaration file of a reordered schema is the same file up to order** — no side condition at
    all (the printer only walks the definitions and asks for the implementers of an interface). `ResolversFileEquiv`
    (`Lemmas/DeterminismConcreteResolvers.lean`): same header; the same `type X = …` aliases up to their order and, for
    interfaces, the order of the union members; the `Resolvers<Context>` record has the same fields up to their order
    and up to the order of the `__TypeResolver<A | B, Context, "A" | "B">` unions inside; `ResolverOutput`'s bound and
    object list the same names up to order. -/
theorem C17_resolvers_perm {T T' : TsDoc} (c : DeclCfg.Cfg) (h : T.Perm T') :
    ResolversFileEquiv (ResolverDecls.resolversFile c T) (ResolverDecls.resolversFile c T') :=
  resolversFile_perm c h

open NitroVerif.DeterminismOpTypes NitroVerif.DeterminismRel in
/-- **The selection tree of a reordered schema is the same tree up to the order of branches.** For a resolved schema
    with pairwise distinct type names and directive names, every permutation `T'` of the definitions, every fragment
    table, fuel, parent type and selection set: `get_type_for_selection_set` either panics for both orders or returns
    two trees related by `TreeRel` (`Lemmas/DeterminismConcreteTreeRel.lean`): at every object node, at every depth
    — including the trees produced by `deep_merge` of same-key fields — the branches of one are a permutation of the
    branches of the other, each branch having the same type name, the same variable assignment and the same fields
    in the same order. (Which panic is hit first may differ, since the branches are built in a different order.) -/
theorem C17_implTree_perm {T T' : TsDoc} (h : T.Perm T') (ndt : NoDupTypeNames T) (ndd : NoDupDirectiveNames T)
    (F : OpTypes.Frags) (mfuel fuel : Nat) (parent : GType) (ss : List Selection) :
    ExRel TreeRel (OpTypes.implTree ⟨T⟩ F mfuel fuel parent ss) (OpTypes.implTree ⟨T'⟩ F mfuel fuel parent ss) :=
  (implTree_fieldsFor_rel (schemaRel_of_perm h ndt ndd) F mfuel fuel).1 parent ss

open NitroVerif.DeterminismOpTypes in
/-- **`toTs` turns related trees into the same type up to the order of union members** (`TyRel`: at every union
    reachable through unions, arrays, `__SelectionSet<…>` applications and object types the members are permuted;
    keys, flags and everything else are equal). -/
theorem C17_toTs_rel (ns : String) {t t' : OpTypes.SelTree} (h : TreeRel t t') :
    TyRel (OpTypes.toTs ns t) (OpTypes.toTs ns t') :=
  toTs_rel ns h

open NitroVerif.DeterminismOpTypes NitroVerif.DeterminismDecls in
/-- **The result-type declarations of an operation file do not depend on the order of the schema's definitions**, up
    to the order of union members: for every executable document `D` and printer options `o`, `opDecls` yields the
    same statements in the same order (document order of `D`) with the same names and export flags, and each type is a
    panic in both orders or `TyRel`-related. Hypotheses: distinct type / directive names, at most one schema
    definition (root type names). -/
theorem C17_opTypes_perm {T T' : TsDoc} (h : T.Perm T') (ndt : NoDupTypeNames T) (ndd : NoDupDirectiveNames T)
    (one : (Schema.mk T).schemaDefs.length ≤ 1) (o : OpTypes.Opts) (D : Doc) :
    RelList OpDeclRel (OpTypes.opDecls ⟨T⟩ o D) (OpTypes.opDecls ⟨T'⟩ o D) :=
  opDecls_rel (schemaRel_of_perm h ndt ndd) (fun k => rootName_congr (sameSchema_of_perm h ndt ndd one) k) o D

open NitroVerif.DeterminismOpTypes in
/-- **Permutations that keep the relative order of the implementers of every interface change nothing at all**:
    the selection tree (hence the emitted type) is literally equal. (Moving scalars, enums, input objects, interfaces,
    unions, directive definitions anywhere, and reordering object types that share no interface.) -/
theorem C17_implTree_keepsImplOrder {T T' : TsDoc} (h : T.Perm T') (ndt : NoDupTypeNames T)
    (ndd : NoDupDirectiveNames T) (hk : KeepsImplOrder T T')
    (F : OpTypes.Frags) (mfuel fuel : Nat) (parent : GType) (ss : List Selection) :
    OpTypes.implTree ⟨T⟩ F mfuel fuel parent ss = OpTypes.implTree ⟨T'⟩ F mfuel fuel parent ss :=
  implTree_congr (sameImpl_of_perm h ndt ndd hk) F mfuel fuel parent ss

/-- the schemas and the query of the witness below: `type Query { i: I }  interface I  type A implements I` and
    `type B implements I` placed last / first, and the selection set `{ i { __typename } }` -/
def witnessBase : TsDoc :=
  [.typeDef { kind := .object, name := "Query", fields := [{ name := "i", ty := .named "I" {} }] },
   .typeDef { kind := .interface, name := "I" },
   .typeDef { kind := .object, name := "A", implements := [("I", {})] }]
def witnessB : TsItem := .typeDef { kind := .object, name := "B", implements := [("I", {})] }
def witnessT : TsDoc := witnessBase ++ [witnessB]
def witnessT' : TsDoc := witnessB :: witnessBase
def witnessSel : List Selection := [.field none "i" {} [] [] (some [.field none "__typename" {} [] [] none])]

/-- both trees exist and their emitted types are syntactically different -/
def typesDiffer (a b : Except OpTypes.Panic OpTypes.SelTree) : Bool :=
  match a, b with
  | .ok t, .ok t' => !(OpTypes.toTs "Schema" t == OpTypes.toTs "Schema" t')
  | _, _ => false

/-- **"Up to the order of union members" cannot be dropped**: the hypotheses of `C17_implTree_perm` hold for the
    witness, both orders produce a tree, and the emitted TYPES differ syntactically (the union for `i` lists the
    `A` branch and the `B` branch in the order of the schema's definitions) — the order of the schema's definitions
    leaks into the text of the operation declaration file, not into its meaning. -/
theorem C17_opTypes_order_leaks_into_text :
    witnessT.Perm witnessT' ∧ NoDupTypeNames witnessT ∧ NoDupDirectiveNames witnessT ∧
    typesDiffer
      (OpTypes.implTree ⟨witnessT⟩ (fun _ => none) 8 8 (.nonNull (.named "Query" {})) witnessSel)
      (OpTypes.implTree ⟨witnessT'⟩ (fun _ => none) 8 8 (.nonNull (.named "Query" {})) witnessSel) = true :=
  ⟨List.perm_append_singleton _ _, by unfold NoDupTypeNames; decide +kernel, by unfold NoDupDirectiveNames; decide +kernel, by decide +kernel⟩

/-- the remaining hypothesis of `C17_opTypes_perm` holds for the witness as well -/
example : (Schema.mk witnessT).schemaDefs.length ≤ 1 := by decide +kernel

open NitroVerif.DeterminismOpTypes in
/-- `KeepsImplOrder` is satisfiable by a permutation that is not the identity: moving a scalar from the end to the
    front of the witness schema -/
example :
    let x : TsItem := .typeDef { kind := .scalar, name := "X" }
    (witnessT ++ [x]).Perm (x :: witnessT) ∧ KeepsImplOrder (witnessT ++ [x]) (x :: witnessT) ∧
      NoDupTypeNames (witnessT ++ [x]) := by
  refine ⟨List.perm_append_singleton _ _, fun i => ?_, by unfold NoDupTypeNames; decide +kernel⟩
  simp [Schema.objectImplementers, Schema.typeDefs, witnessT, witnessBase, witnessB, List.filter_cons]

open NitroVerif.DeterminismOpTypes in
/-- `TreeRel` relates trees that really differ: two branches swapped -/
example : TreeRel (.object [.mk "A" [] [] [], .mk "B" [] [] []]) (.object [.mk "B" [] [] [], .mk "A" [] [] []]) :=
  treeRel_object.mpr ⟨_, List.Perm.swap _ _ _, branchesRefl _⟩

/-- **Reordering the definitions of an executable document permutes its result-type declarations and changes none
    of them.** For a document with pairwise distinct fragment names, every permutation of the definitions yields the
    same `type <Name>Result = …` / `export type <fragment> = …` statements — literally the same names, export flags
    and types (or the same panic) — in the order of the definitions. (The fragment table is by name; the fuel is a
    sum over the definitions.) Any schema, any options. -/
theorem C17_opTypes_doc_perm (S : Schema) (o : OpTypes.Opts) {D D' : Doc} (h : D.Perm D') (ndf : NoDupFragNames D) :
    (OpTypes.opDecls S o D).Perm (OpTypes.opDecls S o D') :=
  opDecls_doc_perm S o h ndf

/-- …and per definition the tree is the same -/
theorem C17_resultTree_doc_perm (S : Schema) {D D' : Doc} (h : D.Perm D') (ndf : NoDupFragNames D) (x : ExecDef) :
    OpTypes.resultTree S D x = OpTypes.resultTree S D' x :=
  resultTree_doc_perm S h ndf x

example :
    let o : ExecDef := .op { kind := .query, name := some ("Q", {}), sel := [.spread "F" {} [] {}] }
    let f : ExecDef := .frag { name := "F", cond := "Query", sel := [.field none "x" {} [] [] none] }
    ([o, f] : Doc).Perm [f, o] ∧ NoDupFragNames [o, f] :=
  ⟨List.Perm.swap _ _ _, by unfold NoDupFragNames; decide +kernel⟩

/-- **From source order to verdict.** Let `doc'` be any permutation of the raw schema items `doc` (definitions AND
    extensions, e.g. moved inside or across files) that keeps, per kind and name, the relative order of the
    extensions. If both resolve (`C11_perm`: one does iff the other does) and the resolved schema has distinct type
    and directive names, then the type-system checker reports the same multiset of diagnostics for both, and — with at
    most one schema definition in the resolved schema — the operation checker reports the same list of diagnostics
    for every executable document. -/
theorem C17_pipeline_perm (doc doc' out out' : TsDoc) (hp : doc'.Perm doc) (hk : ExtMerge.KeepsExtOrder doc' doc)
    (h : ExtResolve.resolve doc = .ok out) (h' : ExtResolve.resolve doc' = .ok out')
    (ndt : NoDupTypeNames out) (ndd : NoDupDirectiveNames out) :
    (CheckTs.checkSchema out).Perm (CheckTs.checkSchema out') ∧
    (CheckTs.checkSchema out).isEmpty = (CheckTs.checkSchema out').isEmpty ∧
    ((Schema.mk out).schemaDefs.length ≤ 1 → ∀ D, CheckOp.checkOp ⟨out⟩ D = CheckOp.checkOp ⟨out'⟩ D) := by
  have hperm : out.Perm out' := ((ExtResolve.C11_perm doc doc' hp hk).2 out out' h h').symm
  exact ⟨(C17_checkTs_perm hperm ndt ndd).1, (C17_checkTs_perm hperm ndt ndd).2,
    fun one D => C17_checkOp_schema_perm hperm ndt ndd one D⟩

/-- **From source order to verdict, no hypothesis on the user's names.** With `doc`, `doc'` as above: if both
    resolve and the built-in part of the resolved schema is apart (`BuiltinsApart`), the type-system checker accepts
    both or rejects both. -/
theorem C17_pipeline_verdict (doc doc' out out' : TsDoc) (hp : doc'.Perm doc) (hk : ExtMerge.KeepsExtOrder doc' doc)
    (h : ExtResolve.resolve doc = .ok out) (h' : ExtResolve.resolve doc' = .ok out') (hb : BuiltinsApart out) :
    CheckTs.checkSchema out = [] ↔ CheckTs.checkSchema out' = [] :=
  C17_checkTs_verdict ((ExtResolve.C11_perm doc doc' hp hk).2 out out' h h').symm hb

/-- the hypotheses are satisfiable: C11's sample (an `extend scalar S @d` BEFORE `scalar S`, a directive definition,
    a second scalar) and its reverse -/
example : ∃ out out', ExtResolve.resolve ExtResolve.sampleOk = .ok out ∧
    ExtResolve.resolve ExtResolve.sampleOk.reverse = .ok out' ∧ NoDupTypeNames out ∧ NoDupDirectiveNames out ∧
    ExtResolve.sampleOk.reverse.Perm ExtResolve.sampleOk :=
  ⟨_, _, rfl, rfl, by unfold NoDupTypeNames; decide +kernel, by unfold NoDupDirectiveNames; decide +kernel, List.reverse_perm _⟩

example : ∃ out, ExtResolve.resolve ExtResolve.sampleOk = .ok out ∧ BuiltinsApart out := ⟨_, rfl, by decide +kernel⟩

end NitroVerif.Determinism
