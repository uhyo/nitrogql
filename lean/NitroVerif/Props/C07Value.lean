import NitroVerif.Lemmas.ParseValueBuild
import NitroVerif.Lemmas.ParseArgs
import NitroVerif.Lemmas.ParseDocDirs
import NitroVerif.Lemmas.ParseStringCtx
/-!
# C07 — render ∘ parse for the `Value`, `Arguments`, `Directives` sub-languages, with arbitrary trivia

Property theorems only. For EVERY value the lexical grammar can express (`WFV`: nested lists and objects of any depth,
all scalar kinds — variables, integers, floats, strings of arbitrary characters, booleans, null, enum values) and for
EVERY placement of trivia between its tokens (`τ`, `Ws`: spaces, tabs, line terminators incl. CR LF, commas, BOM, and
`# …` comments ending in a line terminator whose text is visibly not the beginning of an `#import` statement — `NotImportHead`,
Lemmas/ParseComment.lean), the GENERATED grammar's `Value` rule (generic PEG interpreter, rule bodies read from
`Gen.grammar` by `rfl`) run on the rendering, followed by the builder `build_value`, gives the value back with every
position equal to the line/column of the corresponding token.

Definitions (Lemmas/ParseValueDefs.lean, ParseComment.lean): `Ws t` — `t` is a run of whitespace characters followed by
any number of (comment, run of whitespace characters); `renderV τ p v` — the text of `v` written at offset `p`, where `τ q`
is the trivia written at the gap that begins at offset `q` (between two list items / object fields an empty gap becomes one
space); `WFV`; `withPosV τ inp p v` — `v` with the positions of its tokens; `B L = 60·L + 100` — parser depth bound.
-/
namespace NitroVerif.C07
open NitroVerif.Peg NitroVerif.Build NitroVerif.Gen NitroVerif.Gql NitroVerif.ValueParse NitroVerif.TypeParse

/-- `render_parse_value`, embedded form: wherever the rendering of a well-formed value `v` (with trivia `τ`)
    occurs in an input — at offset `off`, followed by anything that cannot continue a token (`ValEnd`: not a name
    character, `.` or `"`) — the `Value` rule consumes exactly that rendering and yields one pair, on which
    `build_value` returns `v` with the true token positions; for every parser depth bound ≥ `B |text|` and builder depth
    bound ≥ `v.size`. (This is the form that composes into arguments, directives, default values.) -/
theorem render_parse_value_at (τ : Trivia) (hτ : ∀ q, Ws (τ q)) (v : Value) (hwf : WFV v) (inp : List Char) (off : Nat)
    (rest : List Char) (h : inp.drop off = renderV τ off v ++ rest) (hend : ValEnd rest) (fuel bfuel : Nat)
    (hf : B (renderV τ off v).length ≤ fuel) (hb : v.size ≤ bfuel) :
    ∃ pair, Peg.run gList fuel R.Value inp off .nonAtomic = some (off + (renderV τ off v).length, [pair]) ∧
      buildValue (Ctx.spec inp) bfuel pair = .ok (withPosV τ inp off v) := by
  refine ⟨valuePair τ off v, ?_, value_builds τ inp v.size v (Nat.le_refl _) off rest bfuel h hb⟩
  exact (value_runs τ hτ v.size v (Nat.le_refl _) hwf off rest hend).run h hf

/-- `render_parse_value`: for every well-formed value and every placement of trivia (whitespace, commas, comments), parsing the rendering
    with the generated grammar's `Value` rule and building gives the value back with the TRUE position of every token
    (`withPosV`): `build_value (parse (render v τ)) = withPosV … v`. -/
theorem render_parse_value (τ : Trivia) (hτ : ∀ q, Ws (τ q)) (v : Value) (hwf : WFV v) (fuel bfuel : Nat)
    (hf : B (renderV τ 0 v).length ≤ fuel) (hb : v.size ≤ bfuel) :
    ∃ pair, Peg.parse gList fuel R.Value (renderV τ 0 v) = .pairs [pair] ∧
      buildValue (Ctx.spec (renderV τ 0 v)) bfuel pair = .ok (withPosV τ (renderV τ 0 v) 0 v) := by
  obtain ⟨pair, hr, hbv⟩ := render_parse_value_at τ hτ v hwf (renderV τ 0 v) 0 [] (by simp) (headNot_nil _) fuel bfuel hf hb
  exact ⟨pair, Peg.parse_of_run hr, hbv⟩

/-- … with the depth bounds the parser model actually uses (`defaultFuel`, `4·|input| + 64`): the result equals `v` up to
    positions. -/
theorem render_parse_value_default (τ : Trivia) (hτ : ∀ q, Ws (τ q)) (v : Value) (hwf : WFV v) :
    let inp := renderV τ 0 v
    ∃ pair v', Peg.parse gList (defaultFuel inp) R.Value inp = .pairs [pair] ∧
      buildValue (Ctx.spec inp) (4 * inp.length + 64) pair = .ok v' ∧ v'.erasePos = v.erasePos := by
  intro inp
  have hsz := size_le_length τ v.size v (Nat.le_refl _) hwf 0
  obtain ⟨pair, h1, h2⟩ := render_parse_value τ hτ v hwf (defaultFuel inp) (4 * inp.length + 64)
    (by simp only [B, defaultFuel, inp]; omega) (by simp only [inp]; omega)
  exact ⟨pair, _, h1, h2, withPosV_erase τ inp v 0⟩

/-- the canonical rendering (no trivia: `[1 2]`, `{a:1 b:2}`) -/
theorem render_parse_value_canonical (v : Value) (hwf : WFV v) :
    let inp := renderV (fun _ => []) 0 v
    ∃ pair v', Peg.parse gList (defaultFuel inp) R.Value inp = .pairs [pair] ∧
      buildValue (Ctx.spec inp) (4 * inp.length + 64) pair = .ok v' ∧ v'.erasePos = v.erasePos :=
  render_parse_value_default (fun _ => []) (fun _ => Ws.nil) v hwf

/-- well-formed argument list: non-empty, valid names, well-formed values -/
def WFArgs (args : List Arg) : Prop := args ≠ [] ∧ WFFs args

/-- `render_parse_arguments`: wherever the rendering `( name: value … )` of a non-empty argument list (valid names,
    well-formed values, arbitrary trivia `τ` — whitespace, commas, comments — at every gap) occurs in an input, the GENERATED
    grammar's `Arguments` rule consumes exactly that text and yields one pair, on which `build_arguments` returns the arguments
    — names, values, and the true position of every name and every value token; for every parser depth bound ≥ `B |text|` and
    builder depth bound ≥ the total size of the values. -/
theorem render_parse_arguments (τ : Trivia) (hτ : ∀ q, Ws (τ q)) (args : List Arg) (hwf : WFArgs args) (inp : List Char)
    (off : Nat) (rest : List Char) (h : inp.drop off = renderArgs τ off args ++ rest) (fuel bfuel : Nat)
    (hf : B (renderArgs τ off args).length ≤ fuel) (hb : Value.sizeFields args ≤ bfuel) :
    ∃ pair, Peg.run gList fuel R.Arguments inp off .nonAtomic = some (off + (renderArgs τ off args).length, [pair]) ∧
      buildArguments (Ctx.spec inp) bfuel pair = .ok (withPosFs τ inp (off + 1) true args) := by
  refine ⟨argsPair τ off args, ?_, buildArguments_argsPair τ inp args off rest bfuel h hb⟩
  have hok : FieldsOk τ args := fun f hf' =>
    ⟨(wffs_mem hwf.2 hf').1, (wffs_mem hwf.2 hf').2, value_runs τ hτ f.2.2.size f.2.2 (Nat.le_refl _) (wffs_mem hwf.2 hf').2⟩
  exact (arguments_runs τ hτ args hwf.1 hok off rest).run h hf

/-- … the result equals the argument list up to positions -/
theorem render_parse_arguments_erase (τ : Trivia) (inp : List Char) (args : List Arg) (q : Nat) :
    Value.erasePosFields (withPosFs τ inp q true args) = Value.erasePosFields args :=
  withPosFs_erase τ inp args q true

example : renderArgs (fun _ => []) 0 [("a", {}, .int "1" {}), ("b", {}, .list [.var "v" {}] {})] = "(a:1 b:[$v])".toList := by
  rw [String.toList_ofList]
  decide +kernel

/-- the hypotheses of `render_parse_arguments` are satisfiable -/
example : WFArgs [("a", {}, .int "1" {})] ∧
    ("(a:1) @d".toList).drop 0 = renderArgs (fun _ => []) 0 [("a", {}, .int "1" {})] ++ " @d".toList := by
  refine ⟨⟨by simp, ?_, ?_, trivial⟩, by rw [String.toList_ofList, String.toList_ofList]; decide +kernel⟩
  · have : "a".toList = ['a'] := String.toList_ofList
    rw [this]; exact ⟨by decide, fun x hx => by cases hx⟩
  · have : "1".toList = sign false ++ '1' :: [] := String.toList_ofList
    show IntText "1".toList
    rw [this]; exact .nz false '1' [] (by decide) (fun x hx => by cases hx)

/-- `render_parse_directives`: wherever the rendering `@name(args) @name …` of a non-empty directive list (valid names,
    well-formed arguments, arbitrary trivia `τ` — whitespace, commas, comments — at every gap: after `@`, between name and `(`,
    inside the arguments, between the directives and after the last one) occurs in an input, followed by something that is
    neither trivia nor `@`, `(`, a name character — the GENERATED grammar's `Directives` rule succeeds with one pair, ending at
    or before the end of the rendering (pest includes the trivia after an argument-less directive in its span), and
    `build_directives` returns the directives: names, arguments, and the true position of every `@`, name, argument name and
    value token. -/
theorem render_parse_directives (τ : Trivia) (hτ : ∀ q, Ws (τ q)) (ds : List Directive) (hne : ds ≠ [])
    (hwf : WFDirs ds) (inp : List Char) (off : Nat) (X : List Char) (h : inp.drop off = dirsFrom τ off ds ++ X)
    (hX : DirEnd X) (fuel bfuel : Nat) (hf : B (dirsFrom τ off ds).length + 80 ≤ fuel)
    (hb : ∀ d ∈ ds, Value.sizeFields d.args ≤ bfuel) :
    ∃ e pair, Peg.run gList fuel R.Directives inp off .nonAtomic = some (e, [pair]) ∧
      e ≤ off + (dirsFrom τ off ds).length ∧
      buildDirectives (Ctx.spec inp) bfuel pair = .ok (withPosDs τ inp off ds) := by
  -- the text is the document-level directive list with free gaps, followed by a token that begins with neither `(` nor `@`
  rw [DocParse.dirsFrom_eq] at h hf ⊢
  have hnx : DocParse.Nxt inp (fun c => c = '(' ∨ c = '@') false (off + (DocParse.rDirs τ false off ds).length) :=
    DocParse.nxt_of_drop h (headNot_mono (fun _ h => h.elim Or.inl fun h => Or.inr (Or.inr h)) hX)
      (fun _ => headNot_mono (fun _ h => Or.inr (Or.inl h)) hX)
  obtain ⟨e, pss, hpart, hgood⟩ := DocParse.dirsG τ hτ ds hne hwf (Or.inl rfl) (Or.inr rfl) (DocParse.hasAt_of_drop h) hnx
  obtain ⟨e', hr, hle⟩ := DocParse.run_of_runsK hpart.run (fuel := fuel) (by omega)
  exact ⟨e', _, hr, hle, DocParse.withPosDs_eq τ inp ds off ▸
    DocParse.buildDirectives_good τ inp hgood (fun d hd _ _ _ => hb d hd) (Nat.le_refl _)⟩

/-- the directives returned differ from the given ones only in positions: same names, same arguments up to positions -/
theorem render_parse_directives_erase (τ : Trivia) (inp : List Char) : ∀ (ds : List Directive) (q : Nat),
    (withPosDs τ inp q ds).map (fun d => (d.name, Value.erasePosFields d.args)) =
      ds.map (fun d => (d.name, Value.erasePosFields d.args)) := by
  intro ds
  induction ds with
  | nil => intro q; rfl
  | cons d ds ih =>
    intro q
    simp [withPosDs, withPosD, withPosFs_erase, ih]

example : dirsFrom (fun _ => []) 0 [{ name := "a", args := [("x", {}, .int "1" {})] }, { name := "b" }] = "@a(x:1)@b".toList := by
  rw [String.toList_ofList]
  decide +kernel

/-- the hypotheses of `render_parse_directives` are satisfiable -/
example : WFDirs [{ name := "b" }] ∧ DirEnd "{ x }".toList := by
  refine ⟨⟨⟨?_, trivial⟩, trivial⟩, ?_⟩
  · have : ("b" : String).toList = ['b'] := String.toList_ofList
    show validName ("b" : String).toList
    rw [this]; exact ⟨by decide, fun x hx => by cases hx⟩
  · have : "{ x }".toList = ['{', ' ', 'x', ' ', '}'] := String.toList_ofList
    rw [this]
    exact headNot_cons (by decide) _

/-- the hypotheses are satisfiable by a non-trivial value and non-trivial trivia (a comma, a comment, indentation) -/
example : WFV (.list [.int "1" {}, .obj [("k", {}, .str "a\"b" {})] {}, .bool true {}] {}) ∧
    Ws (',' :: '#' :: ([' ', 'c'] ++ (['\n'] ++ ([' ', ' '] ++ [])))) ∧
    renderV (fun _ => []) 0 (.list [.int "1" {}, .obj [("k", {}, .null {})] {}] {}) = "[1 {k:null}]".toList := by
  refine ⟨?_, ?_, by rw [String.toList_ofList]; decide +kernel⟩
  · have hk : validName "k".toList := by
      have : "k".toList = ['k'] := String.toList_ofList
      rw [this]; exact ⟨by decide, fun x hx => by cases hx⟩
    have h1 : IntText "1".toList := by
      have : "1".toList = sign false ++ '1' :: [] := String.toList_ofList
      rw [this]; exact .nz false '1' [] (by decide) (fun x hx => by cases hx)
    exact ⟨h1, ⟨hk, trivial, trivial⟩, trivial, trivial⟩
  · refine ⟨[','], _, rfl, ?_, ?_⟩
    · intro x hx
      simp only [List.mem_singleton] at hx
      subst hx; decide
    · refine Cms.cons ⟨?_, Or.inl (by decide), Or.inl rfl⟩ ?_ (fun h => by cases h) Cms.nil
      · intro x hx
        simp only [List.mem_cons, List.not_mem_nil, or_false] at hx
        rcases hx with rfl | rfl <;> decide
      · intro x hx
        simp only [List.mem_cons, List.not_mem_nil, or_false] at hx
        rcases hx with rfl | rfl <;> decide

open NitroVerif.StringParse in
/-- `render_parse_string_value_general`: ANY legal normal string literal (`SItem`s: plain characters, simple escapes, `\uXXXX`,
    `\u{X…}`; see `string_decode_general` in `Props/C07.lean`) that the builder's loop decodes to `s` (`decodeItems`: surrogate
    pairs `\uHHHH\uLLLL` combined, fix fff8e9c; by `string_decode_general_spec` exactly the literals the specification gives a
    value), wherever it occurs in an
    input, is parsed by the `Value` rule (the earlier alternatives `Variable`, `IntValue`, `FloatValue` fail on `"`) into one
    pair on which `build_value` returns the string value with the decoded characters `s` and the position of the opening
    quote — and by the `Description` rule into one pair on which the description builder returns `s`. -/
theorem render_parse_string_value_general (it : SItem) (its : List SItem) (hok : AllOk (it :: its)) (s : List Char)
    (hs : decodeItems false (it :: its) = .ok s) (inp : List Char) (off : Nat) (rest : List Char)
    (h : inp.drop off = '"' :: (litText (it :: its) ++ '"' :: rest)) (fuel bfuel : Nat)
    (hf : (litText (it :: its)).length + 70 ≤ fuel) (hb : 1 ≤ bfuel) :
    (∃ pair, Peg.run gList fuel R.Value inp off .nonAtomic = some (off + ((litText (it :: its)).length + 2), [pair]) ∧
      buildValue (Ctx.spec inp) bfuel pair = .ok (.str (String.ofList s) (posAt inp off))) ∧
    (∃ pair, Peg.run gList fuel R.Description inp off .nonAtomic = some (off + ((litText (it :: its)).length + 2), [pair]) ∧
      buildDescription (Ctx.spec inp) pair = .ok (String.ofList s)) := by
  have hrun := litValue_runs it its hok off rest (at_ := .nonAtomic)
  have hsv : stringValueChars (Ctx.spec inp) (litPair (it :: its) off) = .ok (s, posAt inp off) := by
    rw [stringValueChars_litPair it its hok off rest h, hs]; rfl
  obtain ⟨bf, rfl⟩ : ∃ bf, bfuel = bf + 1 := ⟨bfuel - 1, by omega⟩
  constructor
  · exact ⟨.mk R.Value off (off + ((litText (it :: its)).length + 2)) [litPair (it :: its) off],
      (value_of_string hrun).run h (by omega), buildValue_string (litPair_rule _ _) hsv bf _ _⟩
  · exact ⟨.mk R.Description off (off + ((litText (it :: its)).length + 2)) [litPair (it :: its) off],
      (description_of_string hrun).run h (by omega), buildDescription_string (litPair_rule _ _) hsv _ _⟩

open NitroVerif.StringParse in
/-- `render_parse_block_string_value_raw`: a block string `"""body"""` (every body the grammar reads to its end, see
    `parse_render_block_string_raw`) wherever it occurs in an input is parsed by the `Value` rule and by the `Description` rule
    into one pair each, on which `build_value` returns the string value `body` — the RAW text (open finding t) — with the
    position of the opening delimiter, and the description builder returns `body`. -/
theorem render_parse_block_string_value_raw (body : List Char) (h3 : noBareTriple body = true)
    (hend : endsPlain body = true) (inp : List Char) (off : Nat) (rest : List Char)
    (h : inp.drop off = ['"', '"', '"'] ++ (body ++ (['"', '"', '"'] ++ rest))) (fuel bfuel : Nat)
    (hf : body.length + 40 ≤ fuel) (hb : 1 ≤ bfuel) :
    (∃ pair, Peg.run gList fuel R.Value inp off .nonAtomic = some (off + (body.length + 6), [pair]) ∧
      buildValue (Ctx.spec inp) bfuel pair = .ok (.str (String.ofList body) (posAt inp off))) ∧
    (∃ pair, Peg.run gList fuel R.Description inp off .nonAtomic = some (off + (body.length + 6), [pair]) ∧
      buildDescription (Ctx.spec inp) pair = .ok (String.ofList body)) := by
  have hrun := blockString_runs (blockBody_of body h3 hend) off rest (at_ := .nonAtomic)
  have hsv := stringValueChars_blockPair (inp := inp) body off rest h
  have h' : inp.drop off = '"' :: ('"' :: '"' :: (body ++ (['"', '"', '"'] ++ rest))) := by simpa using h
  have hrun' : RunsRule gList (body.length + 30) R.StringValue .nonAtomic
      ⟨off, '"' :: ('"' :: '"' :: (body ++ (['"', '"', '"'] ++ rest)))⟩ ⟨off + (body.length + 6), rest⟩
      [blockPair body.length off] := by simpa using hrun
  obtain ⟨bf, rfl⟩ : ∃ bf, bfuel = bf + 1 := ⟨bfuel - 1, by omega⟩
  constructor
  · exact ⟨.mk R.Value off (off + (body.length + 6)) [blockPair body.length off],
      (value_of_string hrun').run h' (by omega), buildValue_string (blockPair_rule _ _) hsv bf _ _⟩
  · exact ⟨.mk R.Description off (off + (body.length + 6)) [blockPair body.length off],
      (description_of_string hrun').run h' (by omega), buildDescription_string (blockPair_rule _ _) hsv _ _⟩

/-- the hypotheses are satisfiable: `"\u00e9t\u{e9}"` and `"""été"""` both denote `été` -/
example : (StringParse.decodeItems false [StringParse.SItem.u4 '0' '0' 'e' '9', .plain 't', .ubrace ['e', '9']]).toOption =
      some ['é', 't', 'é'] ∧
    StringParse.noBareTriple "été".toList = true ∧ StringParse.endsPlain "été".toList = true := by
  rw [String.toList_ofList]
  decide +kernel

end NitroVerif.C07
