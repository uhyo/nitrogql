import NitroVerif.Props.C05
import NitroVerif.Lemmas.ValidTsClosure
/-!
# C05, completeness direction: a document that is valid under the rules of `Spec/ValidTs.lean` gets no
diagnostic from (the model of) `check_type_system_document`

Family by family ("this kind of diagnostic is never pushed"), then `C05_complete`.
-/
namespace NitroVerif.CheckTs
open NitroVerif.Gql NitroVerif.ValidTs

/-! ## UnknownType / NoInputType / NoOutputType at type positions -/

/-- With all referenced types defined and only input types in input positions, no argument (of a field or a
    directive definition) and no input-object field gets `UnknownType` or `NoOutputType`. -/
theorem C05_complete_inputValueTypes (T : TsDoc) (hk : knownTypeRefs T = true) (hi : inputPositions T = true) :
    ∀ v ∈ inputValues T, ∃ k, (Schema.mk T).kindOf? v.ty.unwrapped = some k ∧ Schema.isInputKind k = true ∧
      checkInputValueType ⟨T⟩ v.ty = [] := by
  intro v hv
  simp only [knownTypeRefs, Bool.and_eq_true, List.all_eq_true] at hk
  simp only [inputPositions, List.all_eq_true] at hi
  obtain ⟨k, hkk⟩ := kindOf_of_known (hk.2 v hv)
  have := hi v hv
  rw [hkk] at this
  have hik : Schema.isInputKind k = true := by
    cases k <;> first | rfl | (simp at this)
  exact ⟨k, hkk, hik, inputValueType_eq_nil hkk hik⟩

/-- With all referenced types defined and no input object in an output position, no field of an object or
    interface type gets `UnknownType` or `NoInputType`. -/
theorem C05_complete_outputFieldTypes (T : TsDoc) (hk : knownTypeRefs T = true) (ho : outputPositions T = true) :
    ∀ t ∈ ValidTs.typeDefs T, ∀ f ∈ fieldsOfT t, checkOutputFieldType ⟨T⟩ f.ty = [] := by
  intro t ht f hf
  simp only [knownTypeRefs, Bool.and_eq_true, List.all_eq_true] at hk
  simp only [outputPositions, List.all_eq_true] at ho
  obtain ⟨k, hkk⟩ := kindOf_of_known ((hk.1 t ht).1.1 f hf)
  have := ho t ht f hf
  rw [hkk] at this
  exact outputFieldType_eq_nil hkk (by simpa using this)

theorem mem_inputValues_of_argList {T : TsDoc} {as : List InputValueDef} (h : as ∈ argLists T) :
    ∀ a ∈ as, a ∈ inputValues T :=
  fun _ ha => mem_inputValues.mpr (Or.inl ⟨as, h, ha⟩)

theorem inputTypesOk_of (T : TsDoc) (hk : knownTypeRefs T = true) (hi : inputPositions T = true) :
    InputTypesOk ⟨T⟩ := by
  intro n td htd hkind ef hef
  obtain ⟨k, h1, h2, _⟩ := C05_complete_inputValueTypes T hk hi ef
    (mem_inputValues.mpr (Or.inr ⟨td, Schema.typeDef?_mem htd, mem_inputsOfT.mpr ⟨hkind, hef⟩⟩))
  exact ⟨k, h1, h2⟩

theorem inputsNodup_of_spec (T : TsDoc) (hu : uniqueFields T = true) : InputsNodup ⟨T⟩ := by
  intro n td htd hkind
  simp only [uniqueFields, List.all_eq_true, Bool.and_eq_true] at hu
  have := (hu td (Schema.typeDef?_mem htd)).2
  have hin : inputsOfT td = td.inputs := by simp [inputsOfT, hkind]
  rw [hin] at this
  exact (noDup_iff_nodup _).mp this

/-! ## directive applications: UnknownDirective, DirectiveLocationNotAllowed, RepeatedDirective,
    ArgumentsNotNeeded, RequiredArgumentNotSpecified, UnknownArgument, TypeMismatch, UnknownEnumMember,
    UnknownVariable, TypeSystemError -/

/-- Under the directive rules of the specification (defined, located, unique, arguments declared / given /
    of the right type / not repeated) plus the rules that make argument types meaningful, no directive
    application at any type-system location gets a diagnostic. -/
theorem C05_complete_directiveSites (T : TsDoc)
    (hdef : directivesDefined T = true) (hloc : directivesLocated T = true) (huniq : directivesUnique T = true)
    (hargs : directiveArgs T = true) (hnames : directiveArgNamesUnique T = true)
    (huargs : uniqueArgs T = true) (huf : uniqueFields T = true)
    (hk : knownTypeRefs T = true) (hi : inputPositions T = true) :
    ∀ s ∈ dirSites T, checkDirectives ⟨T⟩ s.1 s.2 = [] := by
  intro s hs
  refine checkDirectives_nil_iff.mpr fun d hd => ?_
  simp only [directivesDefined, List.all_eq_true] at hdef
  simp only [directivesLocated, List.all_eq_true] at hloc
  simp only [directivesUnique, List.all_eq_true] at huniq
  simp only [directiveArgs, List.all_eq_true] at hargs
  simp only [directiveArgNamesUnique, List.all_eq_true] at hnames
  have h1 := hdef s hs d hd
  cases hdf : (Schema.mk T).directiveDef? d.name with
  | none => rw [hdf] at h1; simp at h1
  | some df =>
    have h2 := hloc s hs d hd
    have h3 := huniq s hs d hd
    have h4 := hargs s hs d hd
    rw [hdf] at h2 h3 h4
    dsimp only at h2 h3 h4
    have hdfmem : df ∈ ValidTs.directiveDefs T := by
      unfold Schema.directiveDef? at hdf
      exact List.mem_of_find?_eq_some hdf
    have hal : df.args ∈ argLists T := mem_argLists.mpr (Or.inr ⟨df, hdfmem, rfl⟩)
    have hnd : (df.args.map (·.name)).Nodup := by
      simp only [uniqueArgs, List.all_eq_true] at huargs
      exact (noDup_iff_nodup _).mp (huargs _ hal)
    refine ⟨df, rfl, h2, ?_, by simpa using h3⟩
    refine (checkArguments_nil_iff (inputsNodup_of_spec T huf) (inputTypesOk_of T hk hi) hnd fun ad had => ?_).mpr
      ⟨hnames s hs d hd, h4⟩
    obtain ⟨k, hkk, hik, _⟩ := C05_complete_inputValueTypes T hk hi ad (mem_inputValues_of_argList hal ad had)
    exact ⟨k, hkk, hik⟩

/-! ## the directive sites of a definition -/

theorem site_type {T : TsDoc} {t : TypeDef} (ht : t ∈ ValidTs.typeDefs T) :
    (specLocation t.kind, t.dirs) ∈ dirSites T := by
  simp only [dirSites, List.mem_flatMap]
  exact ⟨.typeDef t, mem_typeDefs.mp ht, by simp⟩

theorem site_field {T : TsDoc} {t : TypeDef} (ht : t ∈ ValidTs.typeDefs T) {f : FieldDef} (hf : f ∈ fieldsOfT t) :
    ("FIELD_DEFINITION", f.dirs) ∈ dirSites T := by
  simp only [dirSites, List.mem_flatMap]
  refine ⟨.typeDef t, mem_typeDefs.mp ht, ?_⟩
  simp only [List.mem_cons, List.mem_append, List.mem_flatMap, List.mem_map]
  exact Or.inl (Or.inl (Or.inr ⟨f, hf, Or.inl rfl⟩))

theorem site_fieldArg {T : TsDoc} {t : TypeDef} (ht : t ∈ ValidTs.typeDefs T) {f : FieldDef} (hf : f ∈ fieldsOfT t)
    {a : InputValueDef} (ha : a ∈ f.args) : ("ARGUMENT_DEFINITION", a.dirs) ∈ dirSites T := by
  simp only [dirSites, List.mem_flatMap]
  refine ⟨.typeDef t, mem_typeDefs.mp ht, ?_⟩
  simp only [List.mem_cons, List.mem_append, List.mem_flatMap, List.mem_map]
  exact Or.inl (Or.inl (Or.inr ⟨f, hf, Or.inr ⟨a, ha, rfl⟩⟩))

theorem site_value {T : TsDoc} {t : TypeDef} (ht : t ∈ ValidTs.typeDefs T) {v : EnumValueDef} (hv : v ∈ valuesOfT t) :
    ("ENUM_VALUE", v.dirs) ∈ dirSites T := by
  simp only [dirSites, List.mem_flatMap]
  refine ⟨.typeDef t, mem_typeDefs.mp ht, ?_⟩
  simp only [List.mem_cons, List.mem_append, List.mem_flatMap, List.mem_map]
  exact Or.inl (Or.inr ⟨v, hv, rfl⟩)

theorem site_input {T : TsDoc} {t : TypeDef} (ht : t ∈ ValidTs.typeDefs T) {f : InputValueDef} (hf : f ∈ inputsOfT t) :
    ("INPUT_FIELD_DEFINITION", f.dirs) ∈ dirSites T := by
  simp only [dirSites, List.mem_flatMap]
  refine ⟨.typeDef t, mem_typeDefs.mp ht, ?_⟩
  simp only [List.mem_cons, List.mem_append, List.mem_flatMap, List.mem_map]
  exact Or.inr ⟨f, hf, rfl⟩

theorem site_dirArg {T : TsDoc} {d : DirectiveDef} (hd : d ∈ ValidTs.directiveDefs T) {a : InputValueDef}
    (ha : a ∈ d.args) : ("ARGUMENT_DEFINITION", a.dirs) ∈ dirSites T := by
  simp only [dirSites, List.mem_flatMap]
  exact ⟨.directiveDef d, mem_directiveDefs.mp hd, by simp only [List.mem_map]; exact ⟨a, ha, rfl⟩⟩

theorem site_schema {T : TsDoc} {sd : SchemaDef} (hd : sd ∈ ValidTs.schemaDefs T) :
    ("SCHEMA", sd.dirs) ∈ dirSites T := by
  simp only [dirSites, List.mem_flatMap]
  exact ⟨.schemaDef sd, mem_schemaDefs.mp hd, by simp⟩

/-! ## the rules as a bundle -/

/-- all the rules of `Spec/ValidTs.lean` (= `tsSpecValid T = true`, field by field); `CheckOp.Rules` is the same for the
    operation checker's rule table -/
structure Rules (T : TsDoc) : Prop where
  reservedNames : ValidTs.reservedNames T = true
  uniqueFields : ValidTs.uniqueFields T = true
  uniqueArgs : ValidTs.uniqueArgs T = true
  uniqueEnumValues : ValidTs.uniqueEnumValues T = true
  uniqueUnionMembers : ValidTs.uniqueUnionMembers T = true
  uniqueTypeDefs : ValidTs.uniqueTypeDefs T = true
  knownTypes : ValidTs.knownTypes T = true
  outputPositions : ValidTs.outputPositions T = true
  inputPositions : ValidTs.inputPositions T = true
  implementsInterfaces : ValidTs.implementsInterfaces T = true
  noSelfImplements : ValidTs.noSelfImplements T = true
  transitiveInterfaces : ValidTs.transitiveInterfaces T = true
  ifaceFieldsPresent : ValidTs.ifaceFieldsPresent T = true
  ifaceFieldsCovariant : ValidTs.ifaceFieldsCovariant T = true
  ifaceFieldArgs : ValidTs.ifaceFieldArgs T = true
  unionMembersObjects : ValidTs.unionMembersObjects T = true
  directivesDefined : ValidTs.directivesDefined T = true
  directivesLocated : ValidTs.directivesLocated T = true
  directivesUnique : ValidTs.directivesUnique T = true
  directiveArgs : ValidTs.directiveArgs T = true
  noRecursiveDirectives : ValidTs.noRecursiveDirectives T = true
  uniqueTypeNames : ValidTs.uniqueTypeNames T = true
  uniqueDirectiveNames : ValidTs.uniqueDirectiveNames T = true
  directiveArgNamesUnique : ValidTs.directiveArgNamesUnique T = true

theorem rules_of_valid {T : TsDoc} (h : tsSpecValid T = true) : Rules T := by
  simp only [tsSpecValid, Bool.and_eq_true] at h
  obtain ⟨⟨⟨⟨⟨⟨⟨⟨⟨⟨⟨⟨⟨⟨⟨⟨⟨⟨⟨⟨⟨⟨⟨h_reservedNames, h_uniqueFields⟩, h_uniqueArgs⟩, h_uniqueEnumValues⟩, h_uniqueUnionMembers⟩, h_uniqueTypeDefs⟩, h_knownTypes⟩, h_outputPositions⟩, h_inputPositions⟩, h_implementsInterfaces⟩, h_noSelfImplements⟩, h_transitiveInterfaces⟩, h_ifaceFieldsPresent⟩, h_ifaceFieldsCovariant⟩, h_ifaceFieldArgs⟩, h_unionMembersObjects⟩, h_directivesDefined⟩, h_directivesLocated⟩, h_directivesUnique⟩, h_directiveArgs⟩, h_noRecursiveDirectives⟩, h_uniqueTypeNames⟩, h_uniqueDirectiveNames⟩, h_directiveArgNamesUnique⟩ := h
  exact ⟨h_reservedNames, h_uniqueFields, h_uniqueArgs, h_uniqueEnumValues, h_uniqueUnionMembers, h_uniqueTypeDefs, h_knownTypes, h_outputPositions, h_inputPositions, h_implementsInterfaces, h_noSelfImplements, h_transitiveInterfaces, h_ifaceFieldsPresent, h_ifaceFieldsCovariant, h_ifaceFieldArgs, h_unionMembersObjects, h_directivesDefined, h_directivesLocated, h_directivesUnique, h_directiveArgs, h_noRecursiveDirectives, h_uniqueTypeNames, h_uniqueDirectiveNames, h_directiveArgNamesUnique⟩

theorem Rules.knownTypeRefs {T : TsDoc} (R : Rules T) : ValidTs.knownTypeRefs T = true := by
  have := R.knownTypes
  simp only [ValidTs.knownTypes, Bool.and_eq_true] at this
  exact this.1

theorem Rules.sites {T : TsDoc} (R : Rules T) : ∀ s ∈ dirSites T, checkDirectives ⟨T⟩ s.1 s.2 = [] :=
  C05_complete_directiveSites T R.directivesDefined R.directivesLocated R.directivesUnique R.directiveArgs
    R.directiveArgNamesUnique R.uniqueArgs R.uniqueFields R.knownTypeRefs R.inputPositions

/-! ## implements / interface fields: UnknownType, NotInterface, NoImplementSelf, InterfaceNotImplemented,
    InterfaceFieldNotImplemented, InterfaceArgumentNotImplemented, ArgumentTypeMisMatchWithInterface,
    ArgumentTypeNonNullAgainstInterface, FieldTypeMisMatchWithInterface -/

theorem Rules.implementsOk {T : TsDoc} (R : Rules T) : ImplementsOk ⟨T⟩ := by
  intro tn td htd hkind i hi
  have hmem := Schema.typeDef?_mem htd
  have hi' : i ∈ implementsOfT td := by
    unfold implementsOfT isObjOrIface
    rcases hkind with hk | hk <;> simp [hk, hi]
  have hk := R.knownTypeRefs
  simp only [ValidTs.knownTypeRefs, Bool.and_eq_true, List.all_eq_true] at hk
  have hkn := (hk.1 td hmem).1.2 i hi'
  unfold known at hkn
  cases hpd : (Schema.mk T).typeDef? i.1 with
  | none => rw [hpd] at hkn; simp at hkn
  | some pd =>
    refine ⟨pd, rfl, ?_⟩
    have := R.implementsInterfaces
    simp only [ValidTs.implementsInterfaces, List.all_eq_true] at this
    have := this td hmem i hi'
    rw [Schema.kindOf_of_typeDef hpd] at this
    simpa using this

theorem Rules.implementsEntry {T : TsDoc} (R : Rules T) {t : TypeDef} (ht : t ∈ ValidTs.typeDefs T)
    (hobj : isObjOrIface t = true) {i : Name × Pos} (hi : i ∈ t.implements) :
    ∃ idef, lastTypeDef? T i.1 = some idef ∧ idef.kind = .interface ∧ idef ∈ implementedIfaces ⟨T⟩ t ∧
      idef ∈ ValidTs.typeDefs T := by
  have hkind : t.kind = .object ∨ t.kind = .interface := by
    unfold isObjOrIface at hobj
    simpa using hobj
  obtain ⟨tn, htd⟩ : ∃ tn, (Schema.mk T).typeDef? tn = some t := by
    refine ⟨t.name, ?_⟩
    have hu := R.uniqueTypeNames
    unfold Schema.typeDef?
    have hnd : ((Schema.typeDefs ⟨T⟩).map (·.name)).Nodup := (noDup_iff_nodup _).mp hu
    exact find?_key_of_nodup (fun (x : TypeDef) => x.name) hnd ht
  obtain ⟨pd, hpd, hpk⟩ := R.implementsOk tn t htd hkind i hi
  refine ⟨pd, ?_, hpk, ?_, Schema.typeDef?_mem hpd⟩
  · rw [lastTypeDef_eq_typeDef R.uniqueTypeNames]; exact hpd
  · simp only [implementedIfaces, List.mem_filterMap]
    refine ⟨i, by simp [implementsOfT, hobj, hi], ?_⟩
    rw [hpd]; simp [hpk]

theorem Rules.validImpl {T : TsDoc} (R : Rules T) {t : TypeDef} (ht : t ∈ ValidTs.typeDefs T)
    (hobj : isObjOrIface t = true) {idef : TypeDef} (hidef : idef ∈ implementedIfaces ⟨T⟩ t)
    (hmem : idef ∈ ValidTs.typeDefs T) (hik : idef.kind = .interface) :
    checkValidImpl ⟨T⟩ t.namePos t.fields t.implements idef = [] := by
  have hfo : fieldsOfT t = t.fields := by simp [fieldsOfT, hobj]
  have hio : implementsOfT t = t.implements := by simp [implementsOfT, hobj]
  refine checkValidImpl_nil_iff.mpr ⟨?_, ?_⟩
  · have := R.transitiveInterfaces
    simp only [ValidTs.transitiveInterfaces, List.all_eq_true] at this
    intro imp himp
    have := this t ht idef hidef imp himp
    rwa [hio] at this
  · intro impF hF
    have hp := R.ifaceFieldsPresent
    simp only [ValidTs.ifaceFieldsPresent, List.all_eq_true] at hp
    have hany := hp t ht idef hidef impF hF
    rw [hfo] at hany
    obtain ⟨f0, hf0, hf0e⟩ := List.any_eq_true.mp hany
    cases hfind : t.fields.find? (·.name == impF.name) with
    | none => exact absurd hf0e (List.find?_eq_none.mp hfind f0 hf0)
    | some f =>
      have hpair : (f, impF) ∈ implPairs ⟨T⟩ t := by
        simp only [implPairs, List.mem_flatMap, List.mem_filterMap, Option.map_eq_some_iff]
        exact ⟨idef, hidef, impF, hF, f, by rw [hfo]; exact hfind, rfl⟩
      have ha := R.ifaceFieldArgs
      simp only [ValidTs.ifaceFieldArgs, List.all_eq_true, Bool.and_eq_true, Bool.or_eq_true,
        Bool.not_eq_true'] at ha
      obtain ⟨ha1, ha2⟩ := ha t ht (f, impF) hpair
      have hc := R.ifaceFieldsCovariant
      simp only [ValidTs.ifaceFieldsCovariant, List.all_eq_true] at hc
      have hcov := hc t ht (f, impF) hpair
      refine ⟨f, rfl, ?_, ha2, ?_⟩
      · intro ia hia
        have := ha1 ia hia
        cases hfa : f.args.find? (·.name == ia.name) with
        | none => rw [hfa] at this; simp at this
        | some fa => rw [hfa] at this; exact ⟨fa, rfl, this⟩
      · have hfm : f ∈ fieldsOfT t := by rw [hfo]; exact List.mem_of_find?_eq_some hfind
        have hFm : impF ∈ fieldsOfT idef := by simp [fieldsOfT, isObjOrIface, hik, hF]
        have hk := R.knownTypeRefs
        simp only [ValidTs.knownTypeRefs, Bool.and_eq_true, List.all_eq_true] at hk
        have hk1 := (hk.1 t ht).1.1 f hfm
        have hk2 := (hk.1 idef hmem).1.1 impF hFm
        rw [isSubtype_spec R.implementsOk f.ty impF.ty hk1 hk2]
        simp only at hcov
        rw [hcov]
        intro hcontra; cases hcontra

/-! ## RecursingDirective -/

/-- If no directive definition transitively references itself (the specification's relation),
    `RecursingDirective` is never pushed: an edge of the graph the code explores is a path of the specification's
    graph (`specReaches_of_edge`, Lemmas/CheckTsRecSpec.lean — since fix 2e4a65e along the types of input-object
    fields). The converse holds too: `C05_recursion_exact` (Props/C05.lean). -/
theorem C05_complete_recursion (T : TsDoc) (hut : uniqueTypeNames T = true) (hud : uniqueDirectiveNames T = true)
    (hrec : NoSpecRecursion T) : ∀ d ∈ ValidTs.directiveDefs T, checkDirectiveRecursion T d = [] := by
  intro d hd
  cases hc : checkDirectiveRecursion T d with
  | nil => rfl
  | cons e es =>
    exfalso
    have hne : checkDirectiveRecursion T d ≠ [] := by rw [hc]; simp
    exact hrec d hd (specReaches_of_reaches hut hud ((directiveRec_iff T d hd hud).mp hne))

/-! ## definitions -/

theorem Rules.argsDef {T : TsDoc} (R : Rules T) {as : List InputValueDef} (hal : as ∈ argLists T)
    (hsite : ∀ a ∈ as, ("ARGUMENT_DEFINITION", a.dirs) ∈ dirSites T) : checkArgsDef ⟨T⟩ as = [] := by
  have hu := R.uniqueArgs
  simp only [ValidTs.uniqueArgs, List.all_eq_true] at hu
  refine checkArgsDef_nil_iff.mpr ⟨?_, hu as hal⟩
  intro a ha
  obtain ⟨_, _, _, hty⟩ := C05_complete_inputValueTypes T R.knownTypeRefs R.inputPositions a
    (mem_inputValues_of_argList hal a ha)
  refine ⟨?_, hty, R.sites _ (hsite a ha)⟩
  have hr := R.reservedNames
  simp only [ValidTs.reservedNames, Bool.and_eq_true, List.all_eq_true] at hr
  rcases mem_argLists.mp hal with ⟨t, ht, f, hf, rfl⟩ | ⟨d, hd, rfl⟩
  · exact reserved_false_of (((hr.1 t ht).1.1.2 f hf).2 a ha)
  · exact reserved_false_of ((hr.2 d hd).2 a ha)

/-- A type definition of a document that satisfies the rules gets no diagnostic (UnscoUnsco, DuplicatedName,
    UnknownType, NoInputType, NoOutputType, NotInterface, NoImplementSelf, InterfaceNotImplemented, the
    interface-field kinds, NonObjectTypeUnionMember and the directive kinds). -/
theorem C05_complete_typeDef (T : TsDoc) (R : Rules T) :
    ∀ t ∈ ValidTs.typeDefs T, checkTypeDef T ⟨T⟩ t = [] := by
  intro t ht
  have hr := R.reservedNames
  simp only [ValidTs.reservedNames, Bool.and_eq_true, List.all_eq_true] at hr
  obtain ⟨⟨⟨hrn, hrf⟩, hrv⟩, hri⟩ := hr.1 t ht
  have huf := R.uniqueFields
  simp only [ValidTs.uniqueFields, List.all_eq_true, Bool.and_eq_true] at huf
  have hk1 := R.knownTypeRefs
  simp only [ValidTs.knownTypeRefs, Bool.and_eq_true, List.all_eq_true] at hk1
  refine checkTypeDef_nil_iff.mpr ⟨reserved_false_of hrn, R.sites _ (site_type ht), ?_, ?_, ?_, ?_, ?_⟩
  · refine checkFields_nil_iff.mpr ⟨fun f hf => ⟨reserved_false_of (hrf f hf).1, R.sites _ (site_field ht hf),
      C05_complete_outputFieldTypes T R.knownTypeRefs R.outputPositions t ht f hf,
      R.argsDef (mem_argLists.mpr (Or.inl ⟨t, ht, f, hf, rfl⟩)) fun a ha => site_fieldArg ht hf ha⟩, (huf t ht).1⟩
  · have hue := R.uniqueEnumValues
    simp only [ValidTs.uniqueEnumValues, List.all_eq_true] at hue
    exact checkEnumValues_nil_iff.mpr
      ⟨fun v hv => ⟨reserved_false_of (hrv v hv), R.sites _ (site_value ht hv)⟩, hue t ht⟩
  · refine checkInputFields_nil_iff.mpr ⟨fun a ha => ?_, (huf t ht).2⟩
    obtain ⟨_, _, _, hty⟩ := C05_complete_inputValueTypes T R.knownTypeRefs R.inputPositions a
      (mem_inputValues.mpr (Or.inr ⟨t, ht, ha⟩))
    exact ⟨reserved_false_of (hri a ha), hty, R.sites _ (site_input ht ha)⟩
  · have hum := R.uniqueUnionMembers
    simp only [ValidTs.uniqueUnionMembers, List.all_eq_true] at hum
    refine checkUnionMembers_nil_iff.mpr ⟨fun m hm => ?_, hum t ht⟩
    have hkn := (hk1.1 t ht).2 m hm
    unfold known at hkn
    cases hd : (Schema.mk T).typeDef? m.1 with
    | none => rw [hd] at hkn; simp at hkn
    | some d =>
      refine ⟨d, by rw [lastTypeDef_eq_typeDef R.uniqueTypeNames]; exact hd, ?_⟩
      have huo := R.unionMembersObjects
      simp only [ValidTs.unionMembersObjects, List.all_eq_true] at huo
      have := huo t ht m hm
      rw [Schema.kindOf_of_typeDef hd] at this
      simpa using this
  · intro i hi
    have hobj : isObjOrIface t = true := by
      unfold implementsOfT at hi
      cases hk : isObjOrIface t with
      | true => rfl
      | false => rw [hk] at hi; cases hi
    have hi' : i ∈ t.implements := by simpa [implementsOfT, hobj] using hi
    obtain ⟨idef, hl, hik, hmem, hmemT⟩ := R.implementsEntry ht hobj hi'
    refine ⟨fun hk hc => ?_, idef, hl, hik, R.validImpl ht hobj hmem hmemT hik⟩
    have hs := R.noSelfImplements
    simp only [ValidTs.noSelfImplements, List.all_eq_true, Bool.or_eq_true, bne_iff_ne, ne_eq] at hs
    rcases hs t ht with h | h
    · exact h hk
    · exact h i hi' hc.symm

/-- A directive definition of a document that satisfies the rules gets no diagnostic. -/
theorem C05_complete_directiveDef (T : TsDoc) (R : Rules T) (hrec : NoSpecRecursion T) :
    ∀ d ∈ ValidTs.directiveDefs T, checkDirectiveDef T ⟨T⟩ d = [] := by
  intro d hd
  have hr := R.reservedNames
  simp only [ValidTs.reservedNames, Bool.and_eq_true, List.all_eq_true] at hr
  refine checkDirectiveDef_nil_iff.mpr ⟨C05_complete_recursion T R.uniqueTypeNames R.uniqueDirectiveNames hrec d hd,
    reserved_false_of (hr.2 d hd).1, R.argsDef (mem_argLists.mpr (Or.inr ⟨d, hd, rfl⟩)) fun a ha => site_dirArg hd ha⟩

/-! ## completeness -/

/-- Completeness with the recursion rule in its relational form (`SpecReaches`) as a separate hypothesis. -/
theorem C05_complete_rel (T : TsDoc) (h : TsSpecValid T) (hrec : NoSpecRecursion T) : checkSchema T = [] := by
  have R := rules_of_valid h
  rw [checkSchema_nil_iff, checkSchemaItems_nil_iff]
  exact ⟨checkUniqueNames_nil_of_spec R.uniqueTypeNames R.uniqueDirectiveNames, fun _ hs => R.sites _ (site_schema hs),
    C05_complete_typeDef T R, C05_complete_directiveDef T R hrec⟩

/-- **C05, completeness.** A resolved type-system document that satisfies every rule of the executable
    specification `Spec/ValidTs.lean` (`tsSpecValid T = true` — exactly what the oracle stream evaluates)
    gets no diagnostic from `check_type_system_document` — neither from `check_unique_names` (fix 8cdbacf: the
    specification's `uniqueTypeNames` / `uniqueDirectiveNames` leave it nothing to report) nor from a definition. The executable recursion rule (a closure computed
    in `|T| + 1` rounds) is proved to imply the relational one (`noSpecRecursion_of_exec`). -/
theorem C05_complete (T : TsDoc) (h : TsSpecValid T) : checkSchema T = [] :=
  C05_complete_rel T h (noSpecRecursion_of_exec (rules_of_valid h).noRecursiveDirectives)

example : TsSpecValid sampleSchema := by unfold TsSpecValid; decide +kernel

/-- the hypotheses of `C05_complete_rel` are satisfiable by a non-trivial document -/
example : TsSpecValid sampleSchema ∧ NoSpecRecursion sampleSchema := by
  refine ⟨by unfold TsSpecValid; decide +kernel, ?_⟩
  intro d hd h
  have hd' : d.name = "flag" := by
    have : ValidTs.directiveDefs sampleSchema = [{ name := "flag", locations := ["OBJECT", "FIELD_DEFINITION"] }] := rfl
    rw [this] at hd
    simp at hd
    rw [hd]
  rw [hd'] at h
  have hrefs : refs ⟨sampleSchema⟩ (.dir "flag") = [] := by decide
  cases h with
  | step h1 | cons h1 _ => rw [hrefs] at h1; cases h1

/-
`C05_complete` has no side condition, but note what it does NOT say (OPEN — carried by K/O only; see also the status
block at the end of Props/C05.lean):
* `TsSpecValid` contains `uniqueDirectiveNames` (built-ins counted), so a document that re-declares a built-in directive —
  accepted by the code — is outside the theorem; for it only `C05_unique_names_complete` (`check_unique_names` alone) is proved,
  the rest is the O mode `valid-redeclare`;
* the conclusion is `checkSchema T = []`: nothing is stated about the resolver model `dupOriginal?` on a valid document;
* `C05_complete_recursion` / `C05_complete_rel` take `uniqueTypeNames`, `uniqueDirectiveNames` resp. `NoSpecRecursion` as
  hypotheses; `C05_complete` discharges them from `TsSpecValid`.
-/

end NitroVerif.CheckTs
