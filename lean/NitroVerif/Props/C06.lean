import NitroVerif.Lemmas.SourceMapWriter
import NitroVerif.Lemmas.SourceMapFiles
/-!
# C06 — emitted source maps are valid and point at the defining GraphQL tokens

Property theorems only. Model: `NitroVerif/Model/SourceMap.lean` (tied to `crates/sourcemap-writer`
and to `FileMap` in `crates/cli/src/generate.rs` by the correspondence check `harness/src/bin/c06.rs`).
Reference decoder: `NitroVerif/Spec/SourceMap.lean` (Source Map v3 / ECMA-426, independent of the model).

Integer ranges. The model's VLQ encoder works on unbounded `Int`; the Rust `base64_vlq` takes an
`isize` and uses `unsigned_abs`, so it computes the same digits for EVERY `isize`, `isize::MIN`
included (|isize::MIN| = 2^63 fits `usize`) — `vlq_roundtrip` therefore covers the real code on
the whole of [-2^63, 2^63). The harness runs the real function at all ±2^k, ±2^k±1 (k ≤ 62),
`isize::MIN`, `isize::MIN+1`, `isize::MAX`. Deltas are computed by the Rust code as
`(a as isize) - (b as isize)`: `toIsize` models the cast exactly; the subtraction is exact in the
model and panics in a debug build when it leaves the `isize` range (`addEntry?`, compared in K).
All theorems below are about the decoded values `toIsize field`, so they hold with no range
hypothesis; for fields < 2^63 (every real file) `toIsize` is the identity (`toIsize_small`).

The printers' CALL SITES (which node a `write_for` passes, with which text) are modelled in `Model/PrintMap.lean` and proved
in `Props/C06Sites.lean` (whole call sequence of the schema and resolver type printers, mapped calls of the two operation
printers; composed there with `writeFor_named` of `Lemmas/SourceMapWriter.lean` and `writer_segments_inside` /
`writer_mappings_decode` of this file).

OPEN — carried by K/O only (no theorem): original positions are at token starts IN THE SOURCE TEXT (the AST positions are
taken as given here; checked on the real output against the real input files — and violated when an astral character precedes
the token on its line, known finding `e2e:original-column-counts-code-points`, still open); the resolver printer's plugins (see the OPEN
block of `Props/C06Sites.lean`; the bodies of the operation printers are modelled and proved in `Props/C06Bodies.lean`);
the exact amount of indentation the writer inserts (modelled in `run`, compared by K `ops`; no theorem states the column of
a line's first token — see the OPEN block of `Props/C06Bodies.lean`); the schema-file mapper of `FileMap`
(`fileIndicesSchema`: modelled, compared by K `e2e:sources-list`; `file_remap_in_range` is about the operation mapper);
the JSON rendering of the map and the relative paths in `sources` (comment at the end of this file).
Every writer theorem below takes the existence of the run (`run … = some st`, i.e. no panic) as a hypothesis; for printer call
sequences it is discharged by `printer_calls_do_not_panic` (`Props/C06Sites.lean`) under `FilesInMapper`.
-/
namespace NitroVerif.SourceMap
open NitroVerif.SourceMapSpec (b64Val vlqDecode decodeMappings Segment strictSegments strictGo)

/-- The extracted `BASE64_CHARS` table is the RFC 4648 alphabet (in order), has 64 distinct
    entries, and the specification's character→value function inverts it on every digit. -/
theorem base64_table :
    base64Chars = "ABCDEFGHIJKLMNOPQRSTUVWXYZabcdefghijklmnopqrstuvwxyz0123456789+/".toList ∧
    base64Chars.length = 64 ∧ base64Chars.Nodup ∧
    (∀ d, d < 64 → b64Val (b64Char d) = some d) ∧
    (∀ d, d < 64 → b64Char d ≠ ';' ∧ b64Char d ≠ ',') := by
  refine ⟨?_, rfl, ?_, b64Val_b64Char, b64Char_ne_sep⟩
  · rw [String.toList_ofList]
    rfl
  · -- the code points are pairwise distinct
    have h : (base64Chars.map Char.toNat).Nodup := by decide +kernel
    exact List.Pairwise.of_map Char.toNat (fun _ _ hne e => hne (congrArg Char.toNat e)) h

/-- For ALL integers n (no range): the reference VLQ decoder reads the encoder's digits for n back
    as n and leaves whatever follows untouched. -/
theorem vlq_roundtrip (n : Int) (rest : List Nat) :
    vlqDecode (vlqEncode n ++ rest) = some (n, rest) :=
  vlqDecode_encode n rest

/-- Every digit the encoder emits is a base64 digit value (< 64, so `BASE64_CHARS[d]` never
    panics); the continuation bit (32) is set on all digits but the last and clear on the last. -/
theorem vlq_wellformed (n : Int) :
    ∃ init last, vlqEncode n = init ++ [last] ∧ last < 32 ∧ ∀ d ∈ init, 32 ≤ d ∧ d < 64 :=
  vlqEncode_shape n

/-- `as isize` is the identity on every value below 2^63 (all real line/column/index values) -/
theorem toIsize_small (n : Nat) (h : n < 2 ^ 63) : toIsize n = (n : Int) := by
  unfold toIsize
  have h1 : n % 2 ^ 64 = n := Nat.mod_eq_of_lt (by omega)
  simp [h1, h]

/-- `usize::MAX as isize = -1`: how an unmapped file index becomes source index −1 -/
theorem toIsize_usizeMax : toIsize usizeMax = -1 := by decide

/-- entries grouped by generated line: one list of segments per line 0 … last line -/
def groupByLine (es : List Entry) : List (List Segment) := groupFrom 0 [] es

/-- For ANY sequence of entries whose generated line never decreases (what `SourceWriter` produces,
    see `writer_mappings_decode`), the reference decoder reads the text `MappingWriter` produced back
    as exactly these entries (each field `as isize`), grouped by generated line: relative fields,
    per-line reset of the generated column, 4- and 5-field segments, runs of `;` for skipped lines. -/
theorem mappings_roundtrip (es : List Entry) (h : Mono 0 es) :
    decodeMappings (encodeAll es) = some (groupByLine es) := by
  unfold encodeAll decodeMappings groupByLine
  rw [foldl_addEntry_buf]
  simp only [MState.init, List.nil_append]
  exact decodeGo_encodeFrom es MState.init _ [] [] [] h (closeSeg_nil _ _)

/-- what "grouped by line" means: reading the decoded lines in order, with their line numbers,
    gives back the entry sequence itself — nothing lost, nothing invented, order kept -/
theorem mappings_roundtrip_flat (es : List Entry) (h : Mono 0 es) :
    (decodeMappings (encodeAll es)).map (flattenFrom 0) = some (es.map fun e => (e.genLine, segOf e)) := by
  rw [mappings_roundtrip es h]
  simp [groupByLine, flatten_groupFrom es 0 [] h]

/-- The emitted text contains an empty segment (a `,` with nothing before it) exactly when the very
    first entry is on generated line 0: `add_entry` writes `,` before every entry that does not start
    a new line, the first one included. ECMA-426's decoding algorithm skips empty segments (so does
    `decodeMappings`, and `mappings_roundtrip` holds regardless); a strict reader of "1, 4 or 5
    fields" would not. Unreachable from the CLI (line 0 of every generated file is an unmapped
    header line; the harness counts it on every emitted map) — recorded as a note, not a violation. -/
theorem mappings_strict_iff (e : Entry) (es : List Entry) (h : Mono 0 (e :: es)) :
    strictSegments (encodeAll (e :: es)) = true ↔ e.genLine ≠ 0 := by
  obtain ⟨hle, hm'⟩ := h
  have hne : ¬ ((';' : Char) = ',') := by decide
  have hbuf : MState.init.buf = [] := rfl
  have hline : MState.init.lastGenLine = 0 := rfl
  rw [encodeAll, strictSegments, foldl_addEntry_buf, hbuf, List.nil_append, encodeFrom]
  rcases emit_cases MState.init e hle with ⟨h0, h⟩ | ⟨k, hk, h⟩ <;> rw [h]
  · simp [show e.genLine = 0 from h0, strictGo]
  · simp only [List.cons_append, List.append_assoc, strictGo, hne, if_false, if_true, strictGo_semis, strictGo_digitsOf]
    have : e.genLine ≠ 0 := by omega
    simpa [this] using strictGo_encodeFrom es _ _ hm'

/-- non-vacuity: a monotone sequence with a skipped line, a name, and the `usize::MAX` file index -/
example : Mono 0 [⟨0, 4, 1, 2, 0, some 0⟩, ⟨0, 9, 1, 3, 0, none⟩, ⟨3, 0, 7, 0, usizeMax, some 1⟩] := by
  simp [Mono]

/-- The monotonicity hypothesis cannot be dropped from the model either: the Rust code computes
    `generated_line - last_generated_line` in `usize` and panics when the line decreases (`addEntry?` returns `none`,
    the model's panic). -/
theorem mappings_decreasing_line_panics :
    addEntry? (addEntry MState.init ⟨2, 0, 0, 0, 0, none⟩) ⟨1, 0, 0, 0, 0, none⟩ = none := by
  decide

/-- Whatever the cache does (any policy that never invents an entry — LRU eviction, no eviction,
    evict everything): the index `map_name` returns is inside the names table and the table holds
    the requested name there; the table only grows at the end, so this stays true for ever. -/
theorem names_sound (p : Policy) (hp : p.Sound) (st : NState) (name : List Char) (hinv : NInv st) :
    let r := mapName p st name
    r.2 < r.1.names.length ∧ r.1.names[r.2]? = some name ∧ NInv r.1 ∧ ∃ suf, r.1.names = st.names ++ suf := by
  obtain ⟨h1, h2, h3⟩ := mapName_spec p hp st name hinv
  refine ⟨?_, h2, h1, h3⟩
  have := h2
  rw [List.getElem?_eq_some_iff] at this
  exact this.1

/-- the same for a whole run from the empty mapper: the i-th returned index points at the i-th
    requested name in the FINAL names table -/
theorem names_sound_run (p : Policy) (hp : p.Sound) (ns : List (List Char)) :
    let r := mapNames p NState.init ns
    r.2.length = ns.length ∧ ∀ x ∈ ns.zip r.2, r.1.names[x.2]? = some x.1 := by
  have h0 : NInv NState.init := by intro x hx; cases hx
  obtain ⟨_, _, h3, h4⟩ := mapNames_spec p hp ns NState.init h0
  exact ⟨h3, h4⟩

/-- the hypotheses are met by the cache the code uses (capacity-10 LRU) -/
example : Policy.Sound lruPolicy := lruPolicy_sound

/-- After ANY sequence of operations (write / write_for / indent / dedent / set mapper) that does
    not panic, the writer's (current_line, current_column) is exactly the cursor of the emitted
    buffer — number of '\n', UTF-16 units since the last one — and an indentation is only ever
    pending at column 0 (the buffer then ends with '\n' or is empty: the pending-indent rule). -/
theorem writer_cursor (p : Policy) (ops : List Op) (st : WState) (h : run p WState.init ops = some st) :
    cursorOf st.buf = (st.line, st.col) ∧ (st.pending = true → st.col = 0) :=
  have hi := inv_run p ops _ _ inv_init h
  ⟨hi.cursor, hi.pending⟩

/-- Every entry the writer recorded has as generated position the cursor of a prefix of the final
    buffer (so every segment lies inside the generated text), and generated lines never decrease. -/
theorem writer_segments_inside (p : Policy) (ops : List Op) (st : WState) (h : run p WState.init ops = some st) :
    Mono 0 st.mapping.log ∧
    ∀ e ∈ st.mapping.log, ∃ pre suf, st.buf = pre ++ suf ∧ cursorOf pre = (e.genLine, e.genCol) :=
  have hi := inv_run p ops _ _ inv_init h
  ⟨hi.mono, hi.inside⟩

/-- The `mappings` text of ANY writer run decodes (reference decoder) to exactly the entries the
    writer recorded, grouped by generated line. -/
theorem writer_mappings_decode (p : Policy) (ops : List Op) (st : WState) (h : run p WState.init ops = some st) :
    decodeMappings st.mapping.buf = some (groupByLine st.mapping.log) := by
  have hi := inv_run p ops _ _ inv_init h
  have := mappings_roundtrip st.mapping.log hi.mono
  unfold encodeAll at this
  rw [← hi.mapping] at this
  exact this

/-- `write_for chunk node` for a named, non-builtin node and a chunk without line break, in any
    state reached by a run: exactly two entries are recorded, (g₁, o, name) and (g₂, o + utf16(name));
    the generated text between g₁ and g₂ is the chunk (g₁ is the cursor just before it — after a
    pending indentation, which consists of spaces only — g₂ the cursor just after it), both on one
    line; the name index points at the node's name; the closing entry carries no name. -/
theorem named_segment_text (p : Policy) (hp : p.Sound) (ops : List Op) (st st' : WState)
    (chunk nm : List Char) (node : Node)
    (h : run p WState.init ops = some st)
    (hb : node.builtin = false) (hname : node.name = some nm) (hnl : '\n' ∉ chunk)
    (hr : writeFor p st chunk node = some st') (hn : NInv st.names) :
    ∃ (fileIndex idx l c : Nat) (pre ind : List Char),
      st'.mapping.log = st.mapping.log ++
        [⟨l, c, node.line, node.col, fileIndex, some idx⟩,
         ⟨l, c + utf16Len chunk, node.line, node.col + utf16Len nm, fileIndex, none⟩] ∧
      st'.buf = pre ++ chunk ∧ pre = st.buf ++ ind ∧ (∀ x ∈ ind, x = ' ') ∧
      cursorOf pre = (l, c) ∧ cursorOf st'.buf = (l, c + utf16Len chunk) ∧
      st'.names.names[idx]? = some nm := by
  obtain ⟨fi, ind, l, c, w, hnm⟩ := writeFor_named_run p hp ops st st' chunk nm node h hb hname hnl hr
  exact ⟨fi, _, l, c, st.buf ++ ind, ind, w.log, w.buf, rfl, w.spaces, w.before, w.buf ▸ w.after, hnm⟩

/-- The generated position of an UNNAMED node's segment is the cursor before a pending indentation
    is flushed (DESIGN §9-ao): first on an indented line it is column 0, not the chunk start.
    Harmless for C06 (the segment is still inside the text and ordered); kept as a kernel-checked fact. -/
theorem unnamed_segment_before_indent :
    (run lruPolicy WState.init
      [.indent, .write ['x', '\n'], .writeFor ['y'] ⟨1, 2, 0, false, none⟩]).map
      (fun st => (st.buf, st.mapping.log)) =
    some (['x', '\n', ' ', ' ', 'y'], [⟨1, 0, 1, 2, 0, none⟩]) := by
  decide

/-! ## FileMap: file-store index → `sources` index (cli/src/generate.rs) -/

/-- For the declaration file of an operation document, with `nSchema` schema files followed by
    `nOps` operation files in the file store and `used` = the operation files the document's
    definitions come from (its own file and the files of `#import`ed fragments): EVERY position in a
    schema file or in one of these files is mapped to an index that is not the `usize::MAX` marker,
    lies inside `sources`, and `sources` holds exactly that file there — for fewer than `usize::MAX / 2` files (`hsmall`:
    no index handed out reaches the marker). (Repaired behaviour, commit
    777cac3; `sources[i]` is then rendered relative to the map by `relative_path` — C20.) -/
theorem file_remap_in_range (nSchema nOps : Nat) (used : List Nat) (f : Nat)
    (hf : f < nSchema + nOps) (hk : keptFile nSchema used f) (hsmall : 2 * nSchema + nOps < usizeMax) :
    ∃ i, (fileIndicesOp nSchema nOps used)[f]? = some i ∧ i ≠ usizeMax ∧
      (sourceFiles (fileIndicesOp nSchema nOps used))[i]? = some f := by
  have hlt : f < (fileIndicesOp nSchema nOps used).length := by rw [fileIndicesOp, length_fileIndicesOpGo]; exact hf
  exact ⟨_, List.getElem?_eq_getElem hlt, fileIndicesOp_lookup nSchema nOps used f _ (List.getElem?_eq_getElem hlt) hk hsmall⟩

/-- non-vacuity: 2 schema files, 3 operation files, the document is file 4 and imports from file 2 -/
example : keptFile 2 [2, 4] 4 ∧ keptFile 2 [2, 4] 2 ∧ keptFile 2 [2, 4] 1 ∧
    fileIndicesOp 2 3 [2, 4] = [0, 1, 2, usizeMax, 3] ∧ sourceFiles (fileIndicesOp 2 3 [2, 4]) = [0, 1, 2, 4] :=
  ⟨Or.inr (by decide), Or.inr (by decide), Or.inl (by decide), by decide, by decide⟩

/-- The pinned behaviour before the repair (DESIGN §9-s), kept as a kernel-checked counterexample:
    with one schema file and the operation files 1 (the document) and 2 (an imported fragment's
    file), a position in file 2 was mapped to `usize::MAX`, which `add_entry` writes as source index −1. -/
theorem file_remap_imported_counterexample :
    (fileIndicesOpOld 1 2 1)[2]? = some usizeMax ∧ toIsize usizeMax = -1 ∧
    sourceFiles (fileIndicesOpOld 1 2 1) = [0, 1] := by
  decide

/-
`sources_resolve` (DESIGN §4-C06): `print_source_map_json` writes
`sources[i] = relative_path(generated file, source file i)` and the map lies in the generated file's
directory, so resolving the entry against that directory gives the source file's normalised location.
This is literally C20's `Paths.resolve_relative` (for all absolute, non-climbing paths): it is cited, not restated
here. On the real code the clause is checked by O: every `sources` entry of every emitted map is resolved against the file system.
-/

end NitroVerif.SourceMap
