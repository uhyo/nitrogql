import NitroVerif.Props.C06
import NitroVerif.Lemmas.PrintMapTokens
import NitroVerif.Lemmas.PrintMapOps
import NitroVerif.Lemmas.PrintMapRun
/-!
# C06 — the printers' call sites: which node goes with which generated text

Property theorems (and `segment_of_site`, the form of `named_site_segment` that `Props/C06Bodies.lean` uses). Model:
`NitroVerif/Model/PrintMap.lean` — the calls the printers make on the `SourceMapWriter`
trait (`write` / `write_for(text, node position, node name)` / `indent` / `dedent`): the WHOLE sequence for the schema type
printer (`schemaOps`) and the resolver type printer without plugins (`resolverOps`), and for the two operation printers the
projection onto the `write_for` calls whose node position is not built in (`opTypeSites`, `opJsSites`; all their other
`write_for` calls pass `Pos::builtin()`, which `SourceWriter::write_for` treats as `write`). The model is tied to the code by
the K stream `sites:*` of `harness/src/bin/c06.rs` (a recording implementation of the trait, no hook).

False of the code, kept as kernel-checked witnesses (`…_counterexample`: the clause one would expect is false of the code on
this input; `…_witness`: an instance of a behaviour one might not expect): enum VALUES are not mapped at all without `emitSchemaRuntime`
(`schema_enum_value_unmapped_counterexample`); a FRAGMENT's name is mapped to the start of its definition (the `fragment`
keyword), not to its name token (`fragment_site_is_definition_start`, `fragment_site_not_name_token_counterexample`).

The bodies of the two operation printers (selection-set types, Variables types, runtime JSON, export statements) are modelled
call by call as `opTypeOps` / `opJsOps`; the theorems about them are in `Props/C06Bodies.lean`.

OPEN — carried by K/O only: plugins of the resolver printer (K `sites:resolvers` runs the printer with an empty plugin list;
the end-to-end O runs projects with the model plugin); that the positions recorded in the AST are token starts in the
source text (C07's parser model / the end-to-end O of `c06.rs`; violated after astral characters, open known finding
`e2e:original-column-counts-code-points`); the selection-set position of each operation is an INPUT of the model (`sps`: the
shared AST does not carry it, K passes the real AST's; for a missing entry the model uses the default position,
`ExecNode.selDefault`); `site_source_index_in_sources` is about the operation mapper of `FileMap` only (the schema-file
mapper `fileIndicesSchema` is compared by K, no theorem); that the CLI's mapper covers the file of every node of the document
it prints (`FilesInMapper`, the hypothesis of `printer_calls_do_not_panic`) is not derived from `file_remap_in_range` here;
the indentation width (OPEN block of `Props/C06Bodies.lean`).
-/
namespace NitroVerif.PrintMap
open NitroVerif.Gql NitroVerif.DeclCfg NitroVerif.SchemaDecls NitroVerif.SourceMap
open NitroVerif.SourceMapSpec (decodeMappings)

/-- For every configuration and every type-system document on which the schema type printer succeeds: the `write_for`
    calls with a non-builtin position, in the order they are made, are EXACTLY
    the root type references of the `__nitrogql_schema` type (from the schema definition, else Query/Mutation/Subscription),
    then, namespace by namespace and definition by definition in document order, for each definition printed in that namespace
    the keyword node + the definition's name node + the body's nodes (field names of an object, kept-name members of a union,
    field names of an input object), then per definition the header again (and with `emitSchemaRuntime` the enum runtime:
    keyword, name, and each value twice). Nothing else is mapped. -/
theorem schema_sites_exact (c : Cfg) (doc : TsDoc) (ops : List POp) (h : schemaOps c doc = .ok ops) :
    mappedOps ops = schemaSites c doc := by
  unfold schemaOps at h
  cases hn : namespacesOps c doc Target.all with
  | error e => simp [hn] at h
  | ok ns =>
    simp only [hn] at h
    cases h
    simp only [mappedOps_append, preludeOps_mapped, namespacesOps_mapped c doc _ ns hn, schemaSites]
    congr 1
    rw [mappedOps_flatMap]
    congr 1
    funext it
    exact itemRepresentativeOps_mapped _ it

/-- non-vacuity: a document on which the printer succeeds (and one on which it stops with `ScalarTypeNotProvided`) -/
example : (∃ ops, schemaOps {} [.typeDef { kind := .object, name := "Query", fields := [{ name := "a", ty := .named "Int" {} }] }] = .ok ops)
    ∧ schemaOps {} [.typeDef { kind := .scalar, name := "Date" }] = .error "Date" := by
  constructor
  · exact ⟨_, rfl⟩
  · rfl

/-- Positions are not invented: every `write_for` of the schema type printer whose position is not built in passes a
    node that has a name, and (position, name) is a token of the document — a definition keyword, a definition name, a
    field / input field / enum value name, a union member or a root type of the schema definition; the generated text is
    that name, its `__tmp_` local name, or (for a keyword) the TypeScript declaration keywords. -/
theorem schema_sites_not_invented (c : Cfg) (doc : TsDoc) (ops : List POp) (h : schemaOps c doc = .ok ops)
    (t : String) (p : Pos) (n : Option String) (hmem : .writeFor t p n ∈ ops) (hb : p.builtin = false) :
    ∃ s, n = some s ∧ TsToken doc p s ∧ SiteText t s := by
  have hm : POp.writeFor t p n ∈ mappedOps ops := mem_mappedOps.mpr ⟨hmem, by simp [POp.mapped, hb]⟩
  rw [schema_sites_exact c doc ops h] at hm
  obtain ⟨t', p', s, e, _, htok, htext⟩ := schemaSites_tokens c doc _ hm
  cases e
  exact ⟨s, rfl, htok, htext⟩

/-- Every type definition of the document (whose tokens have real positions) has its declaration header mapped: a
    `write_for` of the declaration keywords at the position of the definition's keyword, and a `write_for` whose position
    is the position of the definition's NAME token, whose node name is the type's name and whose text is the name as the
    printer writes it (the name itself, or `__tmp_<name>` when a configured scalar type mentions the name). -/
theorem schema_type_name_site (c : Cfg) (doc : TsDoc) (ops : List POp) (h : schemaOps c doc = .ok ops)
    (td : TypeDef) (htd : .typeDef td ∈ doc) :
    (td.namePos.builtin = false →
      POp.writeFor (localName (bag (scalarTypes c doc)) td.name) td.namePos (some td.name) ∈ ops) ∧
    (td.pos.builtin = false →
      POp.writeFor (headerText td (localName (bag (scalarTypes c doc)) td.name)) td.pos (some (keywordOf td.kind)) ∈ ops) := by
  have key : ∀ op, op ∈ headerSites td ((Ctx.new c doc .operationOutput).local td.name) → op ∈ ops := by
    intro op hop
    exact mem_of_mem_sites (schema_sites_exact c doc ops h) (repr_mem_schemaSites c doc htd (List.mem_append_left _ hop))
  constructor
  · intro hb
    exact key _ (List.mem_append_right _ (node_mem hb))
  · intro hb
    exact key _ (List.mem_append_left _ (node_mem hb))

/-- Every field of every object type has a `write_for` whose position is the position of the field's NAME token and
    whose text and node name are the field's name. (`isRawIdent`: the name is `[A-Za-z_][A-Za-z0-9_]*`, which every
    GraphQL name is; another key would be printed quoted, with plain `write`.) -/
theorem schema_field_site (c : Cfg) (doc : TsDoc) (ops : List POp) (h : schemaOps c doc = .ok ops)
    (td : TypeDef) (htd : .typeDef td ∈ doc) (hk : td.kind = .object) (f : FieldDef) (hf : f ∈ td.fields)
    (hraw : isRawIdent f.name = true) (hb : f.pos.builtin = false) :
    POp.writeFor f.name f.pos (some f.name) ∈ ops := by
  refine mem_of_mem_sites (schema_sites_exact c doc ops h)
    (type_mem_schemaSites c doc .operationOutput (by simp [Target.all]) htd ?_)
  have hp : printed (Ctx.new c doc .operationOutput) td = true := by simp [printed, hk, Ctx.new, Target.isInput, Target.isOutput]
  simp only [typeSites, hp, if_true]
  refine List.mem_append_right _ ?_
  simp only [bodySites, hk]
  exact List.mem_flatMap.mpr ⟨f, hf, keySites_mem hraw hb⟩

/-- Every field of every input object type has a `write_for` whose position is the position of the field's NAME token
    and whose text and node name are the field's name. -/
theorem schema_input_field_site (c : Cfg) (doc : TsDoc) (ops : List POp) (h : schemaOps c doc = .ok ops)
    (td : TypeDef) (htd : .typeDef td ∈ doc) (hk : td.kind = .input) (f : InputValueDef) (hf : f ∈ td.inputs)
    (hraw : isRawIdent f.name = true) (hb : f.pos.builtin = false) :
    POp.writeFor f.name f.pos (some f.name) ∈ ops := by
  refine mem_of_mem_sites (schema_sites_exact c doc ops h)
    (type_mem_schemaSites c doc .operationInput (by simp [Target.all]) htd ?_)
  have hp : printed (Ctx.new c doc .operationInput) td = true := by simp [printed, hk, Ctx.new, Target.isOutput]
  simp only [typeSites, hp, if_true]
  refine List.mem_append_right _ ?_
  simp only [bodySites, hk]
  exact List.mem_flatMap.mpr ⟨f, hf, keySites_mem hraw hb⟩

/-- With `emitSchemaRuntime`, every value of every enum type has a `write_for` at the position of the value's name
    token with the value's name as text and node name (the property key and the string content of the runtime object). -/
theorem schema_enum_value_site_runtime (c : Cfg) (doc : TsDoc) (ops : List POp) (h : schemaOps c doc = .ok ops)
    (hrt : c.emitSchemaRuntime = true)
    (td : TypeDef) (htd : .typeDef td ∈ doc) (hk : td.kind = .enum) (v : EnumValueDef) (hv : v ∈ td.values)
    (hb : v.pos.builtin = false) :
    POp.writeFor v.name v.pos (some v.name) ∈ ops := by
  refine mem_of_mem_sites (schema_sites_exact c doc ops h) (repr_mem_schemaSites c doc htd ?_)
  unfold reprSites
  refine List.mem_append_right _ ?_
  have : (td.kind == TypeKind.enum && (Ctx.new c doc .operationOutput).cfg.emitSchemaRuntime) = true := by
    simp [hk, Ctx.new, hrt, typeKind_beq]
  simp only [this, if_true]
  exact List.mem_append_right _ (List.mem_flatMap.mpr ⟨v, hv, List.mem_append_left _ (node_mem hb)⟩)

/-- the hypotheses of the four coverage theorems are satisfiable together: an object with a field, an input object with a
    field and an enum with a value, all at real positions, printed with `emitSchemaRuntime` -/
example : ∃ ops, schemaOps { emitSchemaRuntime := true }
    [.typeDef { kind := .object, name := "Query", namePos := ⟨0, 5, 0, false⟩, pos := ⟨0, 0, 0, false⟩,
                fields := [{ name := "a", pos := ⟨0, 13, 0, false⟩, ty := .named "E" ⟨0, 16, 0, false⟩ }] },
     .typeDef { kind := .input, name := "I", namePos := ⟨1, 6, 0, false⟩, pos := ⟨1, 0, 0, false⟩,
                inputs := [{ name := "x", pos := ⟨1, 10, 0, false⟩, ty := .named "E" ⟨1, 13, 0, false⟩ }] },
     .typeDef { kind := .enum, name := "E", namePos := ⟨2, 5, 0, false⟩, pos := ⟨2, 0, 0, false⟩,
                values := [{ name := "A", pos := ⟨2, 9, 0, false⟩ }] }] = .ok ops
    ∧ isRawIdent "a" = true ∧ isRawIdent "x" = true :=
  ⟨_, rfl, by decide, by decide⟩

/-- FALSE of the code without `emitSchemaRuntime` (the default): "every enum value has a `write_for` at its name token".
    Witness `enum E { A }` (keyword at 0:0, name at 0:5, value at 0:9): the printer succeeds, and its mapped calls are the
    declaration header (keyword + name), five times over (four namespaces + the representative) — the value `A` is written
    as a string literal with plain `write`; no call carries position 0:9. -/
theorem schema_enum_value_unmapped_counterexample :
    let doc : TsDoc :=
      [.typeDef { kind := .enum, name := "E", namePos := ⟨0, 5, 0, false⟩, pos := ⟨0, 0, 0, false⟩,
                  values := [{ name := "A", pos := ⟨0, 9, 0, false⟩ }] }]
    ∃ ops, schemaOps {} doc = .ok ops ∧
      mappedOps ops = (List.replicate 5 [POp.writeFor "export type " ⟨0, 0, 0, false⟩ (some "enum"),
                                          POp.writeFor "E" ⟨0, 5, 0, false⟩ (some "E")]).flatten ∧
      ∀ t n, POp.writeFor t ⟨0, 9, 0, false⟩ n ∉ ops := by
  intro doc
  refine ⟨_, rfl, by decide, ?_⟩
  intro t n hmem
  have hm : POp.writeFor t ⟨0, 9, 0, false⟩ n ∈ mappedOps (match schemaOps {} doc with | .ok ops => ops | .error _ => []) :=
    mem_mappedOps.mpr ⟨hmem, rfl⟩
  have hlist : mappedOps (match schemaOps {} doc with | .ok ops => ops | .error _ => []) =
      (List.replicate 5 [POp.writeFor "export type " ⟨0, 0, 0, false⟩ (some "enum"),
                         POp.writeFor "E" ⟨0, 5, 0, false⟩ (some "E")]).flatten := by decide
  rw [hlist] at hm
  revert hm
  simp [List.replicate]

/-- For every type-system document: the `write_for` calls of the resolver type printer with a non-builtin position, in
    order, are EXACTLY: per non-input definition its name node followed by the references of its resolver output type
    (implementing objects of an interface through their definitions' name nodes, members of a union through the member
    tokens); then per definition its entry in `Resolvers<Context>` (key = definition name node; for an object, per field:
    the field name node, the parent reference = the definition's name node, the argument name nodes, the named type token
    of the field's type; for an interface / union the possible types); then per non-input definition its name node twice
    (key and value of `ResolverOutput`). -/
theorem resolver_sites_exact (doc : TsDoc) : mappedOps (resolverOps doc) = resolverSites doc := by
  unfold resolverOps resolverSites
  simp only [List.cons_append, List.nil_append, mappedOps_write, mappedOps_append, mappedOps_nil, List.append_nil,
    mapped_printTy, tySites_namesUnion, tySites_outputObj, List.append_assoc]
  congr 1
  · exact aliases_mapped _ _
  · congr 1
    exact tySites_rootObj _ _

/-- Positions are not invented by the resolver type printer either: every mapped call passes (position, name) of a token
    of the document, and the generated text is that name. -/
theorem resolver_sites_not_invented (doc : TsDoc) (t : String) (p : Pos) (n : Option String)
    (hmem : .writeFor t p n ∈ resolverOps doc) (hb : p.builtin = false) :
    ∃ s, n = some s ∧ TsToken doc p s ∧ t = s := by
  have hm : POp.writeFor t p n ∈ mappedOps (resolverOps doc) := mem_mappedOps.mpr ⟨hmem, by simp [POp.mapped, hb]⟩
  rw [resolver_sites_exact] at hm
  -- the resolver printer never renames: the text is the token
  obtain ⟨p', s, e, _, htok⟩ := resolverSites_tokens doc _ hm
  cases e
  exact ⟨_, rfl, htok, rfl⟩

/-- Every type definition that can be a resolver output (every kind but input objects) has its alias `type <Name> = …`
    mapped: a `write_for` at the position of the definition's NAME token with the name as text and node name. -/
theorem resolver_type_name_site (doc : TsDoc) (td : TypeDef) (htd : .typeDef td ∈ doc) (hk : td.kind ≠ .input)
    (hb : td.namePos.builtin = false) :
    POp.writeFor td.name td.namePos (some td.name) ∈ resolverOps doc := by
  refine mem_of_mem_sites (resolver_sites_exact doc) ?_
  unfold resolverSites
  refine List.mem_append_left _ (List.mem_append_left _ ?_)
  refine List.mem_flatMap.mpr ⟨td, List.mem_filter.mpr ⟨mem_typeDefsOf.mpr htd, ?_⟩, ?_⟩
  · cases h : td.kind <;> first | rfl | exact absurd h hk
  · exact List.mem_append_left _ (node_mem hb)

/-- Every field of every object type has its resolver entry mapped to the field's NAME token, and every argument of the
    field to the argument's name token. -/
theorem resolver_field_site (doc : TsDoc) (td : TypeDef) (htd : .typeDef td ∈ doc) (hk : td.kind = .object)
    (f : FieldDef) (hf : f ∈ td.fields) :
    (isRawIdent f.name = true → f.pos.builtin = false → POp.writeFor f.name f.pos (some f.name) ∈ resolverOps doc) ∧
    (∀ a ∈ f.args, isRawIdent a.name = true → a.pos.builtin = false →
      POp.writeFor a.name a.pos (some a.name) ∈ resolverOps doc) := by
  have key : ∀ op, op ∈ fieldResolverSites td f → op ∈ resolverOps doc := by
    intro op hop
    refine mem_of_mem_sites (resolver_sites_exact doc) ?_
    unfold resolverSites
    refine List.mem_append_left _ (List.mem_append_right _ ?_)
    refine List.mem_flatMap.mpr ⟨td, mem_typeDefsOf.mpr htd, ?_⟩
    simp only [rootEntrySites, hk]
    exact List.mem_append_right _ (List.mem_flatMap.mpr ⟨f, hf, hop⟩)
  constructor
  · intro hraw hb
    refine key _ ?_
    unfold fieldResolverSites
    exact List.mem_append_left _ (List.mem_append_left _ (List.mem_append_left _ (keySites_mem hraw hb)))
  · intro a ha hraw hb
    refine key _ ?_
    unfold fieldResolverSites
    exact List.mem_append_left _ (List.mem_append_right _ (List.mem_flatMap.mpr ⟨a, ha, keySites_mem hraw hb⟩))

/-- Nothing is invented by the operation type printer: every mapped call passes the name token of a named operation
    (with its name), the definition of an anonymous operation (no name), the definition of a fragment (with the
    fragment's name) or the selection set of an operation (no name). -/
theorem optype_sites_not_invented (o : OpOpts) (doc : Doc) (sps : List Pos) :
    ∀ op ∈ opTypeSites o doc sps, ∃ t p n, op = .writeFor t p n ∧ ExecNode doc sps p n := by
  induction doc generalizing sps with
  | nil => intro op hop; cases hop
  | cons d rest ih =>
    intro op hop
    rw [opTypeSites_cons] at hop
    rcases List.mem_append.mp hop with h | h
    · cases d with
      | op od =>
        refine opTypeOperationSites_nodes (by simp) o _ ?_ op h
        cases sps with
        | nil => exact .selDefault
        | cons sp _ => exact .sel (by simp)
      | frag f => exact opTypeFragmentSites_nodes (by simp) o op h
      | imp _ => cases h
    · obtain ⟨t, p, n, e, hn⟩ := ih _ op h
      refine ⟨t, p, n, e, execNode_mono (fun x hx => List.mem_cons_of_mem _ hx) (fun x hx => ?_) hn⟩
      cases d with
      | op _ => exact List.mem_of_mem_tail hx
      | _ => exact hx

/-- Every NAMED operation of the document has its three declarations mapped to its NAME token: the result type
    `<Name><resultSuffix>`, the variables type `<Name><variablesSuffix>` and the document constant
    `<Name><kind suffix>` are written by `write_for` at the position of the operation's name token with the operation's
    name as node name (`<Name>` = the name, capitalised unless configured otherwise). -/
theorem optype_operation_sites (o : OpOpts) (doc : Doc) (sps : List Pos) (op : OperationDef) (hop : .op op ∈ doc)
    (n : Name) (p : Pos) (hn : op.name = some (n, p)) :
    POp.writeFor (operationName o op ++ o.resultSuffix) p (some n) ∈ opTypeSites o doc sps ∧
    POp.writeFor (operationName o op ++ o.variablesSuffix) p (some n) ∈ opTypeSites o doc sps ∧
    POp.writeFor (operationVariableName o op) p (some n) ∈ opTypeSites o doc sps := by
  obtain ⟨sp, h⟩ := opTypeSites_operation o doc sps op hop
  have e : namePosOf op = (p, some n) := by simp [namePosOf, hn]
  refine ⟨h _ ?_, h _ ?_, h _ ?_⟩ <;> simp [opTypeOperationSites, e]

/-- non-vacuity: a named operation -/
example : (OperationDef.mk .query (some ("getIt", ⟨0, 6, 1, false⟩)) [] [] [] ⟨0, 0, 1, false⟩).name
    = some ("getIt", ⟨0, 6, 1, false⟩) := rfl

/-- Every fragment of the document (own or imported) has its type alias and its document constant mapped — to the
    position of the fragment DEFINITION (`FragmentDefinition::position()`, the `fragment` keyword), with the fragment's
    name as node name. See `fragment_site_not_name_token_counterexample`: this is not the name token. -/
theorem fragment_site_is_definition_start (o : OpOpts) (doc : Doc) (sps : List Pos) (f : FragmentDef)
    (hf : .frag f ∈ doc) :
    POp.writeFor (f.name ++ o.fragmentTypeSuffix) f.pos (some f.name) ∈ opTypeSites o doc sps ∧
    POp.writeFor (f.name ++ o.fragmentVariableSuffix) f.pos (some f.name) ∈ opTypeSites o doc sps ∧
    POp.writeFor (f.name ++ o.fragmentVariableSuffix) f.pos (some f.name) ∈ opJsSites o doc := by
  refine ⟨opTypeSites_fragment o doc sps f hf _ ?_, opTypeSites_fragment o doc sps f hf _ ?_, opJsSites_fragment o doc f hf⟩
    <;> simp [opTypeFragmentSites]

/-- FALSE of the code: "a fragment's name is mapped to its name token". Witness `fragment F on T { a }` (keyword at
    0:0, name at 0:9): all mapped calls of both operation printers for this document carry position 0:0 — the segment
    named `F` points at the `fragment` keyword and its range end at 0:0 + utf16("F") = 0:1, inside the keyword; no call
    carries the position of the name token. -/
theorem fragment_site_not_name_token_counterexample :
    let f : FragmentDef := { name := "F", namePos := ⟨0, 9, 0, false⟩, cond := "T", condPos := ⟨0, 14, 0, false⟩,
                             sel := [.field none "a" ⟨0, 18, 0, false⟩ [] [] none], pos := ⟨0, 0, 0, false⟩ }
    opTypeSites {} [.frag f] [] = List.replicate 3 (POp.writeFor "F" ⟨0, 0, 0, false⟩ (some "F")) ∧
    opJsSites {} [.frag f] = [POp.writeFor "F" ⟨0, 0, 0, false⟩ (some "F")] ∧
    (∀ t n, POp.writeFor t f.namePos n ∉ opTypeSites {} [.frag f] []) := by
  intro f
  refine ⟨by decide, by decide, ?_⟩
  intro t n h
  have : opTypeSites {} [.frag f] [] = List.replicate 3 (POp.writeFor "F" ⟨0, 0, 0, false⟩ (some "F")) := by decide
  rw [this] at h
  simp [List.replicate] at h
  have := h.2.1
  simp [f] at this

/-- The JavaScript module printer maps the document constant of every operation to the operation's name token (or, for
    an anonymous operation, to its definition, without a name), and passes nothing but nodes of the document. -/
theorem opjs_sites (o : OpOpts) (doc : Doc) :
    (∀ op, .op op ∈ doc →
      POp.writeFor (operationVariableName o op) (namePosOf op).1 (namePosOf op).2 ∈ opJsSites o doc) ∧
    (∀ x ∈ opJsSites o doc, ∃ t p n, x = .writeFor t p n ∧ ExecNode doc [] p n) :=
  ⟨fun op h => opJsSites_operation o doc op h, opJsSites_nodes o doc⟩

/-- FALSE of the code: "EXACTLY ONE `write_for` per name". A definition is declared once per namespace in which its kind
    is printed, once more as representative, and a root type once more in `__nitrogql_schema`. Witness
    `type Query { a: E }  input I { x: E }  enum E { A }` with the default configuration: the call for the name `Query`
    occurs 4 times, for `I` 3 times, for `E` 5 times, for the field `a` twice, for the input field `x` twice — each time
    with the same (text, position, name), so the generated file has that many segments into the one defining token. The
    exact multiset for every document is what `schema_sites_exact` gives. -/
theorem schema_name_sites_not_unique_witness :
    let doc : TsDoc :=
      [.typeDef { kind := .object, name := "Query", namePos := ⟨0, 5, 0, false⟩, pos := ⟨0, 0, 0, false⟩,
                  fields := [{ name := "a", pos := ⟨0, 13, 0, false⟩, ty := .named "E" ⟨0, 16, 0, false⟩ }] },
       .typeDef { kind := .input, name := "I", namePos := ⟨1, 6, 0, false⟩, pos := ⟨1, 0, 0, false⟩,
                  inputs := [{ name := "x", pos := ⟨1, 10, 0, false⟩, ty := .named "E" ⟨1, 13, 0, false⟩ }] },
       .typeDef { kind := .enum, name := "E", namePos := ⟨2, 5, 0, false⟩, pos := ⟨2, 0, 0, false⟩,
                  values := [{ name := "A", pos := ⟨2, 9, 0, false⟩ }] }]
    ∃ ops, schemaOps {} doc = .ok ops ∧
      ops.count (.writeFor "Query" ⟨0, 5, 0, false⟩ (some "Query")) = 4 ∧
      ops.count (.writeFor "I" ⟨1, 6, 0, false⟩ (some "I")) = 3 ∧
      ops.count (.writeFor "E" ⟨2, 5, 0, false⟩ (some "E")) = 5 ∧
      ops.count (.writeFor "a" ⟨0, 13, 0, false⟩ (some "a")) = 2 ∧
      ops.count (.writeFor "x" ⟨1, 10, 0, false⟩ (some "x")) = 2 := by
  intro doc
  exact ⟨_, rfl, by decide, by decide, by decide, by decide, by decide⟩

/-- The source index recorded for a mapped call of an operation file is an entry of `sources` that is the call's own
    file: with the file-index mapper the CLI installs for an operation document (`FileMap`, repaired), a position in a
    schema file, in the document's file or in a file one of its fragments is imported from gets an index that is not the
    `usize::MAX` marker and at which `sources` lists exactly that file. (`hsmall` as in
    `file_remap_in_range`: fewer than `usize::MAX / 2` files.) -/
theorem site_source_index_in_sources (nSchema nOps : Nat) (used : List Nat) (p : Pos) (fi : Nat)
    (h : fileIndexOf (some (fileIndicesOp nSchema nOps used)) p.file = some fi)
    (hf : p.file < nSchema + nOps) (hk : keptFile nSchema used p.file) (hsmall : 2 * nSchema + nOps < usizeMax) :
    fi ≠ usizeMax ∧ (sourceFiles (fileIndicesOp nSchema nOps used))[fi]? = some p.file :=
  fileIndicesOp_lookup nSchema nOps used p.file fi h hk hsmall

/-- non-vacuity: 2 schema files, the document is file 4 and imports a fragment from file 2; a position in file 2 -/
example : fileIndexOf (some (fileIndicesOp 2 3 [2, 4])) 2 = some 2 ∧ keptFile 2 [2, 4] 2 :=
  ⟨by decide, Or.inr (by decide)⟩

/-- ANY sequence of trait calls `ops` (run after any prefix `pre` of writer operations, e.g. the CLI's
    `set_file_index_mapper`) that contains a `write_for text node` with a non-builtin position, a name and a one-line text
    leaves a NAMED SEGMENT for it in the final writer state: the entries (g₁, file, node position, name index) and
    (g₂, file, node position + utf16(name)) next to each other in the mapping log and in the decoded `mappings`, with the
    generated text between g₁ and g₂ equal to `text` and the names table holding the node's name. -/
theorem named_site_segment (pol : Policy) (hp : pol.Sound) (pre : List Op) (ops : List POp) (st0 st : WState)
    (hpre : run pol WState.init pre = some st0) (h : run pol st0 (ops.map POp.toOp) = some st)
    (t : String) (p : Pos) (n : String)
    (hmem : POp.writeFor t p (some n) ∈ ops) (hb : p.builtin = false) (hnl : '\n' ∉ t.toList) :
    NamedSegment st st0.mapper t p n := by
  -- the run is cut at the call: up to it the invariants hold, after it everything emitted only grows
  obtain ⟨a, b, rfl⟩ := List.append_of_mem hmem
  have hrun : run pol WState.init (pre ++ (a ++ .writeFor t p (some n) :: b).map POp.toOp) = some st := by
    rw [run_append, hpre]; exact h
  obtain ⟨hmono, _⟩ := writer_segments_inside pol _ st hrun
  have hdec := writer_mappings_decode pol _ st hrun
  rw [List.map_append, List.map_cons, run_append] at h
  obtain ⟨s1, h1, h2⟩ := Option.bind_eq_some_iff.mp h
  simp only [run] at h2
  split at h2
  · cases h2
  · next s2 hs =>
    have hw1 : Inv s1 := inv_run pol _ _ _ (inv_run pol pre _ _ inv_init hpre) h1
    have hn1 : NInv s1.names := ninv_run pol hp _ _ _ (ninv_run pol hp pre _ _ ninv_init hpre) h1
    obtain ⟨fi, ind, l, c, w⟩ :=
      writeFor_named pol s1 s2 t.toList n.toList ⟨p.line, p.col, p.file, p.builtin, some n.toList⟩ hw1
        (by simpa using hb) rfl hnl hs
    obtain ⟨⟨x, hx⟩, ⟨y, hy⟩, ⟨z, hz⟩, _⟩ := grow_run pol (toOp_noMapper b) h2
    refine ⟨fi, (mapName pol s1.names n.toList).2, l, c, s1.mapping.log, y, s1.buf ++ ind, x,
      (grow_run pol (toOp_noMapper a) h1).mapper ▸ w.file, by rw [hy, w.log], by rw [hx, w.buf], w.before, w.after,
      ?_, st.mapping.log.map fun e => (e.genLine, segOf e), ?_, ?_⟩
    · rw [hz]
      exact getElem?_append_some _ _ _ _ (w.names ▸ (mapName_spec pol hp s1.names n.toList hn1).2.1)
    · rw [hdec]; simp [groupByLine, flatten_groupFrom st.mapping.log 0 [] hmono]
    · rw [hy, w.log]
      exact ⟨s1.mapping.log.map fun e => (e.genLine, segOf e), y.map fun e => (e.genLine, segOf e), by simp⟩

/-- The same for a call known from a list `sites` whose mapped calls are those of `ops`. -/
theorem segment_of_site (pol : Policy) (hp : pol.Sound) (pre : List Op) (ops sites : List POp) (st0 st : WState)
    (hproj : mappedOps ops = mappedOps sites)
    (hpre : run pol WState.init pre = some st0) (h : run pol st0 (ops.map POp.toOp) = some st)
    {t : String} {p : Pos} {n : String} (hm : POp.writeFor t p (some n) ∈ sites) (hb : p.builtin = false)
    (hnl : '\n' ∉ t.toList) : NamedSegment st st0.mapper t p n :=
  named_site_segment pol hp pre ops st0 st hpre h _ _ _
    (mem_of_mapped_site hproj hm (by simp [POp.mapped, hb])) hb hnl

/-- the cache policy the code uses satisfies the hypothesis -/
example : Policy.Sound lruPolicy := lruPolicy_sound

/-- The only call of a printer that can panic inside `SourceWriter` is the file-index lookup `map[original_pos.file]`:
    from any writer state, a call sequence runs to completion when there is no file mapper, or when every mapped call's
    file is inside the mapper (`FilesInMapper`: `q.file < m.length` for every mapped call at position `q`; for the mapper
    `FileMap` installs this is `length_fileIndicesOpGo` plus a bound on the node's file — it is not derived here). -/
theorem printer_calls_do_not_panic (pol : Policy) (hp : pol.Sound) (ops : List POp) (st0 : WState)
    (hfiles : FilesInMapper st0.mapper ops) : ∃ st, run pol st0 (ops.map POp.toOp) = some st :=
  run_total pol ops st0 hfiles

/-- the hypothesis is met without a mapper, and e.g. by a one-file mapper for positions in file 0 -/
example : FilesInMapper none [POp.writeFor "a" ⟨3, 4, 7, false⟩ (some "a")] ∧
    FilesInMapper (some [0]) [POp.writeFor "a" ⟨3, 4, 0, false⟩ (some "a")] := by
  constructor
  · intro m hm; cases hm
  · intro m hm t q n hmem _
    cases hm
    simp only [List.mem_cons, List.not_mem_nil, or_false] at hmem
    cases hmem
    decide

/-- END TO END for the schema declaration file: when the schema type printer's calls are run through the writer (after
    any prefix, e.g. the file-index mapper of the CLI), every type definition's name in the generated text — the text
    `<Name>` or `__tmp_<Name>` written by the declaration header — has a named segment whose original position is the
    position of the definition's NAME token, whose name is the type's name, and which delimits exactly that text; and
    so has every field of every object type and every field of every input object type (original position = the field's
    name token). -/
theorem schema_names_have_segments (pol : Policy) (hp : pol.Sound) (pre : List Op) (st0 st : WState)
    (c : Cfg) (doc : TsDoc) (ops : List POp) (hops : schemaOps c doc = .ok ops)
    (hpre : run pol WState.init pre = some st0) (h : run pol st0 (ops.map POp.toOp) = some st) :
    (∀ td, .typeDef td ∈ doc → td.namePos.builtin = false → '\n' ∉ td.name.toList →
      NamedSegment st st0.mapper (localName (bag (scalarTypes c doc)) td.name) td.namePos td.name) ∧
    (∀ td, .typeDef td ∈ doc → td.kind = .object → ∀ f ∈ td.fields, isRawIdent f.name = true → f.pos.builtin = false →
      '\n' ∉ f.name.toList → NamedSegment st st0.mapper f.name f.pos f.name) ∧
    (∀ td, .typeDef td ∈ doc → td.kind = .input → ∀ f ∈ td.inputs, isRawIdent f.name = true → f.pos.builtin = false →
      '\n' ∉ f.name.toList → NamedSegment st st0.mapper f.name f.pos f.name) := by
  refine ⟨?_, ?_, ?_⟩
  · intro td htd hb hnl
    exact named_site_segment pol hp pre ops st0 st hpre h _ _ _
      ((schema_type_name_site c doc ops hops td htd).1 hb) hb (localName_noNl _ _ hnl)
  · intro td htd hk f hf hraw hb hnl
    exact named_site_segment pol hp pre ops st0 st hpre h _ _ _
      (schema_field_site c doc ops hops td htd hk f hf hraw hb) hb hnl
  · intro td htd hk f hf hraw hb hnl
    exact named_site_segment pol hp pre ops st0 st hpre h _ _ _
      (schema_input_field_site c doc ops hops td htd hk f hf hraw hb) hb hnl

/-- non-vacuity of the run hypotheses: without a file mapper the writer never panics on a printer's calls, so the
    premises hold for every document on which the printer succeeds (here: an input object with a field) -/
example : ∃ ops st,
    schemaOps {}
      [.typeDef { kind := .input, name := "I", namePos := ⟨0, 6, 0, false⟩, pos := ⟨0, 0, 0, false⟩,
                  inputs := [{ name := "x", pos := ⟨0, 10, 0, false⟩, ty := .named "I" ⟨0, 13, 0, false⟩ }] }] = .ok ops ∧
    run lruPolicy WState.init [] = some WState.init ∧
    run lruPolicy WState.init (ops.map POp.toOp) = some st := by
  obtain ⟨st, h⟩ := printer_calls_do_not_panic lruPolicy lruPolicy_sound
    (match schemaOps {}
      [.typeDef { kind := .input, name := "I", namePos := ⟨0, 6, 0, false⟩, pos := ⟨0, 0, 0, false⟩,
                  inputs := [{ name := "x", pos := ⟨0, 10, 0, false⟩, ty := .named "I" ⟨0, 13, 0, false⟩ }] }] with
     | .ok ops => ops | .error _ => []) WState.init (by intro m hm; cases hm)
  exact ⟨_, st, rfl, rfl, h⟩

/-- END TO END for the resolvers declaration file (no plugins): every non-input type definition's name and every object
    field's name in the generated text has a named segment whose original position is its name token — under the
    conditions of the coverage theorems (`schema_field_site`): the token's position is not built in, a field name is a raw
    identifier (`isRawIdent`, which every GraphQL name is), and the name contains no line feed. -/
theorem resolver_names_have_segments (pol : Policy) (hp : pol.Sound) (pre : List Op) (st0 st : WState) (doc : TsDoc)
    (hpre : run pol WState.init pre = some st0) (h : run pol st0 ((resolverOps doc).map POp.toOp) = some st) :
    (∀ td, .typeDef td ∈ doc → td.kind ≠ .input → td.namePos.builtin = false → '\n' ∉ td.name.toList →
      NamedSegment st st0.mapper td.name td.namePos td.name) ∧
    (∀ td, .typeDef td ∈ doc → td.kind = .object → ∀ f ∈ td.fields, isRawIdent f.name = true → f.pos.builtin = false →
      '\n' ∉ f.name.toList → NamedSegment st st0.mapper f.name f.pos f.name) := by
  refine ⟨?_, ?_⟩
  · intro td htd hk hb hnl
    exact named_site_segment pol hp pre _ st0 st hpre h _ _ _ (resolver_type_name_site doc td htd hk hb) hb hnl
  · intro td htd hk f hf hraw hb hnl
    exact named_site_segment pol hp pre _ st0 st hpre h _ _ _ ((resolver_field_site doc td htd hk f hf).1 hraw hb) hb hnl

/-- END TO END for an operation declaration file. Let `full` be ANY sequence of trait calls whose projection onto the
    mapped calls is the modelled one (what K `sites:optype` establishes for the real printer). Then every named operation
    has three named segments — result type, variables type, document constant — whose original position is the
    operation's NAME token and whose name is the operation's name, each delimiting exactly the generated identifier; and
    every fragment has named segments for its type alias and its constant whose original position is the start of the
    fragment DEFINITION and whose name is the fragment's name. The generated identifiers are assumed to contain no line feed
    (the `'\n' ∉ …` premises: a segment delimits text on one line). The hypothesis `mappedOps full = opTypeSites o doc sps` says
    that every call of `opTypeSites` is mapped (no built-in position); for the modelled printer itself, whose projection is
    `mappedOps (opTypeSites …)` (`optype_full_projection`), cite `operation_names_have_segments_full` (`Props/C06Bodies.lean`). -/
theorem operation_names_have_segments (pol : Policy) (hp : pol.Sound) (pre : List Op) (st0 st : WState)
    (o : OpOpts) (doc : Doc) (sps : List Pos) (full : List POp) (hproj : mappedOps full = opTypeSites o doc sps)
    (hpre : run pol WState.init pre = some st0) (h : run pol st0 (full.map POp.toOp) = some st) :
    (∀ op n p, .op op ∈ doc → op.name = some (n, p) →
      '\n' ∉ (operationName o op ++ o.resultSuffix).toList → '\n' ∉ (operationName o op ++ o.variablesSuffix).toList →
      '\n' ∉ (operationVariableName o op).toList →
      NamedSegment st st0.mapper (operationName o op ++ o.resultSuffix) p n ∧
      NamedSegment st st0.mapper (operationName o op ++ o.variablesSuffix) p n ∧
      NamedSegment st st0.mapper (operationVariableName o op) p n) ∧
    (∀ f, .frag f ∈ doc → '\n' ∉ (f.name ++ o.fragmentTypeSuffix).toList → '\n' ∉ (f.name ++ o.fragmentVariableSuffix).toList →
      NamedSegment st st0.mapper (f.name ++ o.fragmentTypeSuffix) f.pos f.name ∧
      NamedSegment st st0.mapper (f.name ++ o.fragmentVariableSuffix) f.pos f.name) := by
  have lift : ∀ t p n, POp.writeFor t p (some n) ∈ opTypeSites o doc sps →
      POp.writeFor t p (some n) ∈ full ∧ p.builtin = false := by
    intro t p n hm
    rw [← hproj] at hm
    obtain ⟨h1, h2⟩ := mem_mappedOps.mp hm
    exact ⟨h1, by simpa [POp.mapped] using h2⟩
  constructor
  · intro op n p hop hn h1 h2 h3
    obtain ⟨m1, m2, m3⟩ := optype_operation_sites o doc sps op hop n p hn
    exact ⟨named_site_segment pol hp pre full st0 st hpre h _ _ _ (lift _ _ _ m1).1 (lift _ _ _ m1).2 h1,
      named_site_segment pol hp pre full st0 st hpre h _ _ _ (lift _ _ _ m2).1 (lift _ _ _ m2).2 h2,
      named_site_segment pol hp pre full st0 st hpre h _ _ _ (lift _ _ _ m3).1 (lift _ _ _ m3).2 h3⟩
  · intro f hf h1 h2
    obtain ⟨m1, m2, _⟩ := fragment_site_is_definition_start o doc sps f hf
    exact ⟨named_site_segment pol hp pre full st0 st hpre h _ _ _ (lift _ _ _ m1).1 (lift _ _ _ m1).2 h1,
      named_site_segment pol hp pre full st0 st hpre h _ _ _ (lift _ _ _ m2).1 (lift _ _ _ m2).2 h2⟩

/-- the projection hypothesis is satisfiable: the modelled list itself is such a sequence when its positions are real -/
example : mappedOps (opTypeSites {} [.op { kind := .query, name := some ("q", ⟨0, 6, 1, false⟩), sel := [], pos := ⟨0, 0, 1, false⟩ }]
      [⟨0, 8, 1, false⟩]) =
    opTypeSites {} [.op { kind := .query, name := some ("q", ⟨0, 6, 1, false⟩), sel := [], pos := ⟨0, 0, 1, false⟩ }]
      [⟨0, 8, 1, false⟩] := by decide

end NitroVerif.PrintMap
