import NitroVerif.Props.C12
import NitroVerif.Props.C13
import NitroVerif.Props.C20
import NitroVerif.Lemmas.DocJsonComposed
import NitroVerif.Lemmas.StagesJs
import NitroVerif.Lemmas.DocJsonComposedPaths
/-!
# C12 composed with C13 (and C20): runtime documents FROM FILES

Property theorems only.  `Props/C12.lean` starts from an already import-resolved document; here the statements start
from a finite set of FILES (`Composed.Project`: resolved path ↦ parsed file with real `Gql.ExecDef` definitions and
merged `#import` lines), a root file and ANY path resolver `res`:

  `resolveDoc code res fs root rootFile` = `resolve_operation_imports` at document level — `Imports.resolve`
      (C13's model) run on the abstraction of the files, the (file, index) pairs it returns turned back into
      definitions and appended to the root's own definitions (as the code appends them);
  `refDoc code res fs root rootFile`     = the root's definitions followed by the definitions of the REFERENCE import
      set (`Spec/Imports.lean refImports`, declaratively `InRef`): what the specification says must be in scope.

`code : Name → Nat` is the `Nat`-coding of fragment names the import model works with (DESIGN §2.4); the theorems hold
for every coding; for an injective one — `Composed.nameCode`, `C12_name_coding_injective`, used in the examples —
`#import A from …` selects exactly the fragments named `A`.

An imported fragment SHADOWS a local one of the same name (`C12_from_files_clash`), so the statements that compare with the
reference carry the side condition "fragment names of the resolved document are pairwise distinct".

Hypotheses that stay hypotheses: `RootOKp` (the project does not know the root's path or maps it to the root file),
`ProjectOk` (every file is `Resolved`), `Resolved rootFile.defs`; in `C12_from_files(_frag)` also "fragment names of `R`
pairwise distinct" and "every transitively spread name is defined" — `C12_from_files_checked` derives these two, for
OPERATIONS of the root file, from `checkOp S R = []` of the checker MODEL (`Model/CheckOp.lean`). `C12_from_files_checked` and
the `_missing` theorems also carry `NoReservedFields S` (no declared field `__typename`) in their statements; their proofs do
not use it: the model's verdict alone gives distinct fragment names and defined spreads. `C13_with_paths` needs `RootOK`, `C13_literal_of_relative_path` needs `AbsNoClimb` of both paths.

OPEN — carried by K/O only (correspondence check / oracle, see `Props/C12.lean`): `materialise` (`Lemmas/DocJsonComposed.lean`)
and `findUndefined` (`Lemmas/FragClosureRuntime.lean`) are hand transcriptions of the loop appending the imported definitions and of the loader's `find_undefined_fragment_spread`; their two ends are
K-tied by C12 (printer) and C13 (resolver). That the real checker is `checkOp` is C03/C08's K. The text level is
`Props/C12Text.lean`.
-/
namespace NitroVerif.C12
open NitroVerif NitroVerif.Gql NitroVerif.DocJson NitroVerif.ReadDoc NitroVerif.FragClosure NitroVerif.Composed
open NitroVerif.Imports (Res DefId Import File FS resolve)
open NitroVerif.Imports.Spec (InRef refImports RootOK)

variable {κ ρ : Type} [DecidableEq κ] [DecidableEq ρ]
variable (code : Name → Nat) (res : κ → ρ → κ) (fs : Project κ ρ) (root : κ) (rootFile : SrcFile ρ)

/-- Runtime document of an OPERATION defined in the root file, from files.  If import resolution succeeds with
    document `R` whose fragment names are pairwise distinct, and every fragment transitively spread from the operation
    is defined among the root's fragments and the reference import set, then the printer emits for the operation the
    document `[X] ++ tail` where `tail` lists the definitions of the textbook closure of X's spreads computed over the
    REFERENCE document, in first-visit order, each fragment exactly once; the independent graphql-js reader reads the
    emitted JSON back as exactly these definitions (positions erased); and a definition is in the tail iff it is a
    fragment transitively spread from X that is a local fragment of the root file or a member of the reference
    import set. -/
theorem C12_from_files (hroot : RootOKp fs root rootFile) (hfiles : ProjectOk fs) (hrootOk : Resolved rootFile.defs)
    {R : List ExecDef} (h : resolveDoc code res fs root rootFile = .ok R) (hu : (fragNamesOf R).Nodup)
    (o : OperationDef) (hX : ExecDef.op o ∈ rootFile.defs)
    (hdef : ∀ n, Reach (envOf (refDoc code res fs root rootFile)) o.sel n →
      (getFrag (refDoc code res fs root rootFile) n).isSome) :
    ∃ names, closure (envOf (refDoc code res fs root rootFile)) (refDoc code res fs root rootFile).length o.sel = some names ∧
      names.Nodup ∧
      (∀ n, n ∈ names ↔ Reach (envOf (refDoc code res fs root rootFile)) o.sel n) ∧
      runtimeDefs R (.op o) = .ok (.op o :: fragDefs (refDoc code res fs root rootFile) names) ∧
      readDoc (toJson (.op o :: fragDefs (refDoc code res fs root rootFile) names)) =
        some (erasePos (.op o :: fragDefs (refDoc code res fs root rootFile) names)) ∧
      fragNamesOf (fragDefs (refDoc code res fs root rootFile) names) = names ∧
      (∀ d, d ∈ fragDefs (refDoc code res fs root rootFile) names ↔
        ∃ g, d = .frag g ∧ Reach (envOf (refDoc code res fs root rootFile)) o.sel g.name ∧
          (ExecDef.frag g ∈ rootFile.defs ∨
            ∃ x, InRef res (absFS code fs) root (absFile code rootFile) x ∧ defAt fs x = some (.frag g))) := by
  obtain ⟨hu', _, _, hrt⟩ := resolveDoc_ref code res fs root rootFile hroot h hu
  obtain ⟨names, hc, hnd, hrun, _, _⟩ := C12_closure (refDoc code res fs root rootFile) o hdef
  obtain ⟨_, hreach⟩ := closure_good _ _ _ _ hc
  have hall : ∀ n ∈ names, (getFrag (refDoc code res fs root rootFile) n).isSome = true :=
    fun n hn => hdef n ((hreach n).mp hn)
  have hXref : ExecDef.op o ∈ refDoc code res fs root rootFile :=
    (mem_refDoc code res fs root rootFile _).mpr (Or.inl hX)
  refine ⟨names, hc, hnd, hreach, by rw [hrt]; exact hrun, ?_, fragNamesOf_fragDefs _ _ hall, ?_⟩
  · exact C12_roundtrip _ (resolved_fragDefs (resolved_refDoc code res fs root rootFile hrootOk hfiles) _ hXref names)
  · intro d
    rw [mem_fragDefs_refDoc code res fs root rootFile hu']
    exact ⟨fun ⟨g, hd, hn, hm⟩ => ⟨g, hd, (hreach _).mp hn, hm⟩, fun ⟨g, hd, hr, hm⟩ => ⟨g, hd, (hreach _).mpr hr, hm⟩⟩

/-- The same for a FRAGMENT defined in the root file: `[X] ++` the closure of its spreads over the reference document
    minus its own name (a fragment reachable from itself is not repeated), each fragment once, read back exactly. -/
theorem C12_from_files_frag (hroot : RootOKp fs root rootFile) (hfiles : ProjectOk fs) (hrootOk : Resolved rootFile.defs)
    {R : List ExecDef} (h : resolveDoc code res fs root rootFile = .ok R) (hu : (fragNamesOf R).Nodup)
    (f : FragmentDef) (hX : ExecDef.frag f ∈ rootFile.defs)
    (hdef : ∀ n, Reach (envOf (refDoc code res fs root rootFile)) f.sel n →
      (getFrag (refDoc code res fs root rootFile) n).isSome) :
    ∃ names, closure (envOf (refDoc code res fs root rootFile)) (refDoc code res fs root rootFile).length f.sel = some names ∧
      names.Nodup ∧
      (∀ n, n ∈ names ↔ Reach (envOf (refDoc code res fs root rootFile)) f.sel n) ∧
      runtimeDefs R (.frag f) =
        .ok (.frag f :: fragDefs (refDoc code res fs root rootFile) (names.filter fun n => n != f.name)) ∧
      readDoc (toJson (.frag f :: fragDefs (refDoc code res fs root rootFile) (names.filter fun n => n != f.name))) =
        some (erasePos (.frag f :: fragDefs (refDoc code res fs root rootFile) (names.filter fun n => n != f.name))) ∧
      fragNamesOf (fragDefs (refDoc code res fs root rootFile) (names.filter fun n => n != f.name)) =
        names.filter (fun n => n != f.name) ∧
      (∀ d, d ∈ fragDefs (refDoc code res fs root rootFile) (names.filter fun n => n != f.name) ↔
        ∃ g, d = .frag g ∧ Reach (envOf (refDoc code res fs root rootFile)) f.sel g.name ∧ g.name ≠ f.name ∧
          (ExecDef.frag g ∈ rootFile.defs ∨
            ∃ x, InRef res (absFS code fs) root (absFile code rootFile) x ∧ defAt fs x = some (.frag g))) := by
  obtain ⟨hu', _, _, hrt⟩ := resolveDoc_ref code res fs root rootFile hroot h hu
  obtain ⟨names, hc, hnd, hrun, _, _⟩ := C12_closure_frag (refDoc code res fs root rootFile) f hdef
  obtain ⟨_, hreach⟩ := closure_good _ _ _ _ hc
  have hall : ∀ n ∈ names.filter (fun n => n != f.name), (getFrag (refDoc code res fs root rootFile) n).isSome = true :=
    fun n hn => hdef n ((hreach n).mp (List.mem_filter.mp hn).1)
  have hXref : ExecDef.frag f ∈ refDoc code res fs root rootFile :=
    (mem_refDoc code res fs root rootFile _).mpr (Or.inl hX)
  refine ⟨names, hc, hnd, hreach, by rw [hrt]; exact hrun, ?_, fragNamesOf_fragDefs _ _ hall, ?_⟩
  · exact C12_roundtrip _ (resolved_fragDefs (resolved_refDoc code res fs root rootFile hrootOk hfiles) _ hXref _)
  · intro d
    rw [mem_fragDefs_refDoc code res fs root rootFile hu']
    constructor
    · rintro ⟨g, hd, hn, hm⟩
      obtain ⟨hn1, hn2⟩ := List.mem_filter.mp hn
      exact ⟨g, hd, (hreach _).mp hn1, by simpa using hn2, hm⟩
    · rintro ⟨g, hd, hr, hne, hm⟩
      exact ⟨g, hd, List.mem_filter.mpr ⟨(hreach _).mpr hr, by simpa using hne⟩, hm⟩

/-- When a fragment transitively spread from an operation of the root file is NOT brought in — no fragment of the
    root file and no member of the reference import set carries its name — both documented things happen: the printer hits
    `expect("fragment not found")` on a reachable undefined name (never a wrong document, never non-termination), and the resolved document has a written spread of an undefined name, so the
    loader's own check (`find_undefined_fragment_spread`, fix 08fd7e5) answers an error and the operation checker
    reports a diagnostic (rule 5.5.2.1, `UnknownFragment`) for every schema. -/
theorem C12_from_files_missing (hroot : RootOKp fs root rootFile)
    {R : List ExecDef} (h : resolveDoc code res fs root rootFile = .ok R)
    (o : OperationDef) (hX : ExecDef.op o ∈ rootFile.defs) {n : Name} (hr : Reach (envOf R) o.sel n)
    (hloc : ∀ f, ExecDef.frag f ∈ rootFile.defs → f.name ≠ n)
    (himp : ∀ x f, InRef res (absFS code fs) root (absFile code rootFile) x → defAt fs x = some (.frag f) → f.name ≠ n) :
    (∃ m, runtimeDefs R (.op o) = .error (.fragmentNotFound m) ∧ Reach (envOf R) o.sel m ∧ getFrag R m = none) ∧
    (∃ m, findUndefined R = some m) ∧ ¬ SpreadsDefined R ∧
    ∀ S, CheckOp.NoReservedFields S → CheckOp.checkOp S R ≠ [] :=
  have ⟨h1, h2, h3⟩ := runtimeDefs_missing code res fs root rootFile hroot h (.op o) (by simp) hX hr hloc himp
  ⟨h1, h2, h3, fun _ hS hc => h3 (spreadsDefined_of_checked hc)⟩


/-- The same for a FRAGMENT `X` of the root file: if a fragment transitively spread from `X` is carried neither by a
    fragment of the root file nor by a member of the reference import set, printing `X`'s runtime document hits
    `expect("fragment not found")` on a reachable undefined name, and the document has a written spread of an undefined
    name (loader error / checker diagnostic 5.5.2.1). -/
theorem C12_from_files_missing_frag (hroot : RootOKp fs root rootFile)
    {R : List ExecDef} (h : resolveDoc code res fs root rootFile = .ok R)
    (f : FragmentDef) (hX : ExecDef.frag f ∈ rootFile.defs) {n : Name} (hr : Reach (envOf R) f.sel n)
    (hloc : ∀ g, ExecDef.frag g ∈ rootFile.defs → g.name ≠ n)
    (himp : ∀ x g, InRef res (absFS code fs) root (absFile code rootFile) x → defAt fs x = some (.frag g) → g.name ≠ n) :
    (∃ m, runtimeDefs R (.frag f) = .error (.fragmentNotFound m) ∧ Reach (envOf R) f.sel m ∧ getFrag R m = none) ∧
    (∃ m, findUndefined R = some m) ∧ ¬ SpreadsDefined R ∧
    ∀ S, CheckOp.NoReservedFields S → CheckOp.checkOp S R ≠ [] :=
  have ⟨h1, h2, h3⟩ := runtimeDefs_missing code res fs root rootFile hroot h (.frag f) (by simp) hX hr hloc himp
  ⟨h1, h2, h3, fun _ hS hc => h3 (spreadsDefined_of_checked hc)⟩

/-- For documents the operation checker model accepts (`checkOp S R = []`; the CLI's pipeline: parse, resolve imports, check,
    print) both side conditions are discharged (the hypothesis `NoReservedFields S` is carried and not used):
    the resolved document has pairwise distinct fragment names and every spread is defined, so for EVERY operation of the root file the runtime document is produced and is `[X] ++` the reference
    closure, each fragment once, read back exactly. (Operations only: fragments of the root file are not covered.) -/
theorem C12_from_files_checked (hroot : RootOKp fs root rootFile) (hfiles : ProjectOk fs) (hrootOk : Resolved rootFile.defs)
    {R : List ExecDef} (h : resolveDoc code res fs root rootFile = .ok R)
    (S : Schema) (hS : CheckOp.NoReservedFields S) (hc : CheckOp.checkOp S R = [])
    (o : OperationDef) (hX : ExecDef.op o ∈ rootFile.defs) :
    ∃ names, closure (envOf (refDoc code res fs root rootFile)) (refDoc code res fs root rootFile).length o.sel = some names ∧
      names.Nodup ∧
      (∀ n, n ∈ names ↔ Reach (envOf (refDoc code res fs root rootFile)) o.sel n) ∧
      runtimeDefs R (.op o) = .ok (.op o :: fragDefs (refDoc code res fs root rootFile) names) ∧
      readDoc (toJson (.op o :: fragDefs (refDoc code res fs root rootFile) names)) =
        some (erasePos (.op o :: fragDefs (refDoc code res fs root rootFile) names)) ∧
      fragNamesOf (fragDefs (refDoc code res fs root rootFile) names) = names := by
  have hu := nodup_of_checked hc
  have hs := spreadsDefined_of_checked hc
  obtain ⟨_, _, hg, _⟩ := resolveDoc_ref code res fs root rootFile hroot h hu
  have henv : envOf R = envOf (refDoc code res fs root rootFile) := by
    funext n; simp only [envOf, envOfGet, hg]
  have hdef : ∀ n, Reach (envOf (refDoc code res fs root rootFile)) o.sel n →
      (getFrag (refDoc code res fs root rootFile) n).isSome := by
    intro n hr
    rw [← henv] at hr
    rw [← hg]
    exact reach_defined hs hr ⟨.op o, root_mem_resolveDoc code res fs root rootFile h hX, rfl⟩
  obtain ⟨names, h1, h2, h3, h4, h5, h6, _⟩ :=
    C12_from_files code res fs root rootFile hroot hfiles hrootOk h hu o hX hdef
  exact ⟨names, h1, h2, h3, h4, h5, h6⟩

/-- Name clashes between local and imported fragments.  The printers' `fragments` map is a `HashMap` collected from
    the resolved document in order, and `resolve_operation_imports` appends the imported definitions AFTER the root's
    own: for every name the LAST definition wins, i.e. an imported fragment shadows a local fragment of the same
    name in every runtime document of the module; only names no imported fragment carries fall back to the root's own
    definition.  Such a document has a repeated fragment name, so the operation checker model reports some diagnostic for
    every schema (`checkOp S R ≠ []`; on the witness `Ex.C12_from_files_clash_witness` it is `DuplicateFragmentName`) — the
    loader, which does not run the checker, prints it. -/
theorem C12_from_files_clash {R : List ExecDef} (h : resolveDoc code res fs root rootFile = .ok R) :
    ∃ out, resolve res (absFS code fs) root (absFile code rootFile) = .ok out ∧
      R = rootFile.defs ++ materialise fs out ∧
      (∀ n, getFrag R n = match getFrag (materialise fs out) n with
        | some g => some g
        | none => getFrag rootFile.defs n) ∧
      (∀ n, n ∈ fragNamesOf rootFile.defs → n ∈ fragNamesOf (materialise fs out) →
        ¬ (fragNamesOf R).Nodup ∧ ∀ S, CheckOp.checkOp S R ≠ []) := by
  obtain ⟨out, ho, rfl⟩ := resolveDoc_ok code res fs root rootFile h
  refine ⟨out, ho, rfl, fun n => getFrag_append _ _ n, ?_⟩
  intro n h1 h2
  have hnd : ¬ (fragNamesOf (rootFile.defs ++ materialise fs out)).Nodup := by
    rw [fragNamesOf_append]
    intro hnd
    exact (List.nodup_append.mp hnd).2.2 n h1 n h2 rfl
  exact ⟨hnd, fun S hc => hnd (nodup_of_checked hc)⟩


/-- The runtime documents do not depend on the ORDER of `#import` lines.  Permuting the import lines of any of the
    files (root included) permutes the tail of the resolved document (`C13_order_indep`), an error is reported for one
    input iff for the other, and — with pairwise distinct fragment names — the printer emits, for every definition,
    literally the same runtime document from both. -/
theorem C12_from_files_order_indep {fs' : Project κ ρ} {rootFile' : SrcFile ρ}
    (hfs : ProjPerm fs fs') (hrd : rootFile.defs = rootFile'.defs) (hri : rootFile.imports.Perm rootFile'.imports)
    (hroot : RootOKp fs root rootFile) (hroot' : RootOKp fs' root rootFile') :
    match resolveDoc code res fs root rootFile, resolveDoc code res fs' root rootFile' with
    | .ok R, .ok R' => R.Perm R' ∧ ((fragNamesOf R).Nodup → ∀ x, runtimeDefs R x = runtimeDefs R' x)
    | .err _, .err _ => True
    | _, _ => False := by
  have h13 := Imports.C13_order_indep res (absFS code fs) root (absFile code rootFile)
    (fs' := absFS code fs') (rootFile' := absFile code rootFile') (hfs.abs code)
    ⟨by simp [absFile, hrd], hri⟩ (rootOK_abs code fs root rootFile hroot) (rootOK_abs code fs' root rootFile' hroot')
  unfold resolveDoc
  cases h1 : resolve res (absFS code fs) root (absFile code rootFile) with
  | outOfFuel => exact absurd h1 (Imports.C13_terminates _ _ _ _)
  | err e =>
    cases h2 : resolve res (absFS code fs') root (absFile code rootFile') with
    | outOfFuel => exact absurd h2 (Imports.C13_terminates _ _ _ _)
    | err e' => trivial
    | ok out' => rw [h1, h2] at h13; exact h13
  | ok out =>
    cases h2 : resolve res (absFS code fs') root (absFile code rootFile') with
    | outOfFuel => exact absurd h2 (Imports.C13_terminates _ _ _ _)
    | err e' => rw [h1, h2] at h13; exact h13
    | ok out' =>
      rw [h1, h2] at h13
      have hp : (rootFile.defs ++ materialise fs out).Perm (rootFile'.defs ++ materialise fs' out') := by
        rw [hrd, hfs.materialise out]
        exact (List.Perm.refl _).append (materialise_perm fs' h13)
      exact ⟨hp, fun hu x => runtimeDefs_perm hp hu x⟩

/-- `nameCode` (base-1114113 reading of the characters) is an injective coding of names. (The `Nat`-coded import model is used
    with it in the examples, so that an import line there selects exactly the fragments it names; that consequence is not
    stated.) -/
theorem C12_name_coding_injective (a b : Name) (h : nameCode a = nameCode b) : a = b := nameCode_inj h

/-! ### the instance the code runs: paths as component lists (C20), literals resolved by `resolve_relative_path` -/

open NitroVerif.Imports in
/-- C13 with the C20 path model (`pathRes doc literal = resolve_relative_path(doc, literal)`).  On success:
    (a) the appended definitions are exactly the reference set, each once, a file being identified by its RESOLVED
        path;
    (b) every imported file is known under a normalised path (`normalize_path` is idempotent on it);
    (c) two import lines — of the same or of different reachable files — whose literals resolve to the same
        normalised path denote the same file: a fragment of that file requested by either of them is appended exactly
        once. -/
theorem C13_with_paths (fs : FS Paths.P String) (root : Paths.P) (rootFile : File String)
    (hroot : RootOK fs root rootFile) {out : List (DefId Paths.P)}
    (h : resolve pathRes fs root rootFile = .ok out) :
    ((∀ x, x ∈ out ↔ InRef pathRes fs root rootFile x) ∧ out.Nodup) ∧
    (∀ x ∈ out, Paths.normalize x.1 = x.1) ∧
    (∀ (q q' : Paths.P) (imp imp' : Import String) (ds : List Def) (i n : Nat),
      Spec.Reach pathRes fs root rootFile q → Spec.Reach pathRes fs root rootFile q' →
      imp ∈ Spec.importsOf fs root rootFile q → imp' ∈ Spec.importsOf fs root rootFile q' →
      pathRes q imp.rel = pathRes q' imp'.rel →
      Spec.defsAt fs (pathRes q imp.rel) = some ds → ds[i]? = some (Def.frag n) →
      (Spec.Requests imp.targets n ∨ Spec.Requests imp'.targets n) →
      (pathRes q imp.rel, i) ∉ rootIds root rootFile →
      out.count (pathRes q imp.rel, i) = 1) := by
  obtain ⟨hm, hn⟩ := C13_result pathRes fs root rootFile hroot h
  refine ⟨⟨hm, hn⟩, ?_, ?_⟩
  · intro x hx
    obtain ⟨⟨q, imp, _, _, _, _, hq, _⟩, _⟩ := (hm x).mp hx
    rw [← hq]
    exact Paths.normalize_idem_all _
  · intro q q' imp imp' ds i n hq hq' hi hi' he hds hdi hreq hnot
    rw [hn.count, if_pos]
    rw [hm]
    rcases hreq with hreq | hreq
    · exact ⟨⟨q, imp, ds, n, hq, hi, rfl, hds, hdi, hreq⟩, hnot⟩
    · exact ⟨⟨q', imp', ds, n, hq', hi', he.symm, hds, hdi, hreq⟩, hnot⟩

open NitroVerif.Imports in
/-- Respelled literals are identified: `resolve_relative_path(doc, literal)` applies the literal's components, one
    `normalize_path` step each, to the normalised directory of the importing file; so two literals whose component
    lists move every directory to the same place (`SameTarget`) resolve to the same path from every file — in
    particular a `.` segment and an `x/..` detour anywhere in the literal change nothing. -/
theorem C13_respelled (doc : Paths.P) :
    (∀ r r' : String, Paths.SameTarget (Paths.components r) (Paths.components r') → pathRes doc r = pathRes doc r') ∧
    (∀ pre post : Paths.P, Paths.resolve doc (pre ++ .cur :: post) = Paths.resolve doc (pre ++ post)) ∧
    (∀ (pre post : Paths.P) (x : String),
      Paths.resolve doc (pre ++ .normal x :: .parent :: post) = Paths.resolve doc (pre ++ post)) ∧
    (∀ rel, Paths.normalize (Paths.resolve doc rel) = Paths.resolve doc rel) :=
  ⟨fun _ _ h => Paths.resolve_sameTarget h doc,
   fun pre post => Paths.resolve_sameTarget (Paths.sameTarget_cur pre post) doc,
   fun pre post x => Paths.resolve_sameTarget (Paths.sameTarget_updown pre post x) doc,
   fun _ => Paths.normalize_idem_all _⟩


open NitroVerif.Imports in
/-- Literals written by nitrogql itself: the text `relative_path(from, to)` returns for two absolute non-climbing
    paths, used as an import literal in the file `from`, denotes exactly the file `normalize_path(to)` — and that key
    reads back unchanged (C20's `text_resolve_relative` through `pathRes`). -/
theorem C13_literal_of_relative_path (a b : String)
    (ha : Paths.AbsNoClimb (Paths.components a)) (hb : Paths.AbsNoClimb (Paths.components b)) :
    ∃ r, Paths.relative (Paths.components a) (Paths.components b) = some r ∧
      pathRes (Paths.components a) (Paths.render r) = Paths.normalize (Paths.components b) ∧
      Paths.components (Paths.render (Paths.normalize (Paths.components b))) = Paths.normalize (Paths.components b) := by
  obtain ⟨r, h1, _, h3, h4⟩ := Paths.text_resolve_relative a b ha hb
  exact ⟨r, h1, h3, h4⟩

/-- the hypotheses are satisfiable: `/p/sub/y.graphql` → `/p/x.graphql` -/
example : Paths.AbsNoClimb (Paths.components "/p/sub/y.graphql") ∧ Paths.AbsNoClimb (Paths.components "/p/x.graphql") :=
  ⟨⟨_, rfl, by decide⟩, ⟨_, rfl, by decide⟩⟩

open NitroVerif.Imports in
/-- text level: `./a/../f.graphql`, `f.graphql`, `.//f.graphql` and `a/./../f.graphql` are one file, whoever imports -/
example (doc : Paths.P) :
    pathRes doc "./a/../f.graphql" = pathRes doc "f.graphql" ∧
    pathRes doc ".//f.graphql" = pathRes doc "f.graphql" ∧
    pathRes doc "a/./../f.graphql" = pathRes doc "f.graphql" := by
  have c1 : Paths.components "./a/../f.graphql" = [.cur, .normal "a", .parent, .normal "f.graphql"] := by
    rw [Paths.components_ofList]; decide +kernel
  have c2 : Paths.components "f.graphql" = [.normal "f.graphql"] := by
    rw [Paths.components_ofList]; decide +kernel
  have c3 : Paths.components ".//f.graphql" = [.cur, .normal "f.graphql"] := by
    rw [Paths.components_ofList]; decide +kernel
  have c4 : Paths.components "a/./../f.graphql" = [.normal "a", .parent, .normal "f.graphql"] := by
    rw [Paths.components_ofList]; decide +kernel
  refine ⟨?_, ?_, ?_⟩
  · simp only [pathRes, c1, c2]
    exact ((C13_respelled doc).2.1 [] _).trans ((C13_respelled doc).2.2.1 [] _ "a")
  · simp only [pathRes, c3, c2]
    exact (C13_respelled doc).2.1 [] _
  · simp only [pathRes, c4, c2]
    exact (C13_respelled doc).2.2.1 [] _ "a"


/-! ### non-vacuity: a 3-file project with a diamond import

`/p/main.graphql` (`query Q { ...Y ...X0 }`) imports `Y` from `./sub/y.graphql` and `X0` from `x.graphql`;
`/p/sub/y.graphql` (`fragment Y { c ...X1 }`) imports `X1` from `../sub/../x.graphql` — the same file `/p/x.graphql`
under another spelling; `/p/x.graphql` defines `X0` and `X1`; `main` also defines `fragment L { d ...Y }`.  The code appends
`X0, X1, Y` (post-order of the traversal), the reference set lists `Y, X0, X1`, and the runtime document of `Q` is `Q, Y, X1, X0`. -/
namespace Ex
open NitroVerif.Imports

/-- the injective coding `nameCode` (`nameCode_inj`): an import line selects exactly the fragments it names -/
abbrev exCode : Name → Nat := nameCode

def pMain : Paths.P := Paths.components "/p/main.graphql"
def pX : Paths.P := Paths.components "/p/x.graphql"
def pY : Paths.P := Paths.components "/p/sub/y.graphql"

def fld (n : Name) : Selection := .field none n {} [] [] none
def spr (n : Name) : Selection := .spread n {} [] {}
def fragX0 : FragmentDef := { name := "X0", cond := "Query", sel := [fld "a"] }
def fragX1 : FragmentDef := { name := "X1", cond := "Query", sel := [fld "b"] }
def fragY : FragmentDef := { name := "Y", cond := "Query", sel := [fld "c", spr "X1"] }
def opQ : OperationDef := { kind := .query, name := some ("Q", {}), sel := [spr "Y", spr "X0"] }
/-- a fragment of the root file that spreads an imported fragment -/
def fragL : FragmentDef := { name := "L", cond := "Query", sel := [fld "d", spr "Y"] }

def mainFile : SrcFile String :=
  ⟨[⟨"./sub/y.graphql", 0, .specific [⟨exCode "Y", 0, 0⟩]⟩, ⟨"x.graphql", 1, .specific [⟨exCode "X0", 1, 0⟩]⟩], [.op opQ, .frag fragL]⟩
def xFile : SrcFile String := ⟨[], [.frag fragX0, .frag fragX1]⟩
def yFile : SrcFile String := ⟨[⟨"../sub/../x.graphql", 0, .specific [⟨exCode "X1", 0, 0⟩]⟩], [.frag fragY]⟩
def proj : Project Paths.P String := [(pMain, mainFile), (pX, xFile), (pY, yFile)]

/-- the document the code builds -/
def exR : List ExecDef := [.op opQ, .frag fragL, .frag fragX0, .frag fragX1, .frag fragY]

theorem ex_resolve :
    resolve pathRes (absFS exCode proj) pMain (absFile exCode mainFile) = .ok [(pX, 0), (pX, 1), (pY, 0)] := by
  -- here and below: the three paths in evaluated form first, otherwise every comparison of two paths reads them off
  -- their string literals again (`Paths.components_main`)
  simp only [proj, pMain, pX, pY, Paths.components_main, Paths.components_x, Paths.components_y]
  decide +kernel

theorem ex_resolveDoc : resolveDoc exCode pathRes proj pMain mainFile = .ok exR := by
  rw [resolveDoc, ex_resolve]
  simp only [proj, pMain, pX, pY, Paths.components_main, Paths.components_x, Paths.components_y]
  rfl

/-- the reference set comes in another order: the tail of the code's document is a genuine rearrangement -/
theorem ex_ref :
    Spec.refImports pathRes (absFS exCode proj) pMain (absFile exCode mainFile) = [(pY, 0), (pX, 0), (pX, 1)] := by
  simp only [proj, pMain, pX, pY, Paths.components_main, Paths.components_x, Paths.components_y]
  decide +kernel

theorem ex_refDoc : refDoc exCode pathRes proj pMain mainFile = [.op opQ, .frag fragL, .frag fragY, .frag fragX0, .frag fragX1] := by
  rw [refDoc, ex_ref]
  simp only [proj, pMain, pX, pY, Paths.components_main, Paths.components_x, Paths.components_y]
  rfl

theorem ex_rootOK : RootOKp proj pMain mainFile := rootOKp_head _ _ _

theorem ex_projOk : ProjectOk proj := by
  apply projectOk_of_forall
  intro e he
  simp only [proj, List.mem_cons, List.not_mem_nil, or_false] at he
  rcases he with rfl | rfl | rfl <;> decide +kernel

/-- all hypotheses of `C12_from_files` hold of the diamond project, so its conclusion does -/
example : ∃ names, closure (envOf (refDoc exCode pathRes proj pMain mainFile)) (refDoc exCode pathRes proj pMain mainFile).length opQ.sel = some names ∧
    names.Nodup ∧ runtimeDefs exR (.op opQ) = .ok (.op opQ :: fragDefs (refDoc exCode pathRes proj pMain mainFile) names) ∧
    fragNamesOf (fragDefs (refDoc exCode pathRes proj pMain mainFile) names) = names := by
  have hs : SpreadsDefined (refDoc exCode pathRes proj pMain mainFile) := by rw [ex_refDoc]; decide +kernel
  obtain ⟨names, h1, h2, _, h4, _, h6, _⟩ :=
    C12_from_files exCode pathRes proj pMain mainFile ex_rootOK ex_projOk (by decide +kernel) ex_resolveDoc (by decide +kernel) opQ
      (by simp [mainFile])
      (fun n hr => reach_defined hs hr ⟨.op opQ, by rw [ex_refDoc]; simp, rfl⟩)
  exact ⟨names, h1, h2, h4, h6⟩

/-- … and concretely: `Q` is followed by `Y, X1, X0` (first-visit order of the closure), each once -/
example : (match runtimeDefs exR (.op opQ) with | .ok ds => fragNamesOf ds | .error _ => []) = ["Y", "X1", "X0"] := by
  decide +kernel

/-- the hypotheses of `C12_from_files_frag` hold for the root file's fragment `L` (it spreads the imported `Y`, which
    spreads `X1` of the diamond's shared file): its runtime document is `L, Y, X1` -/
example : ∃ names : List Name, runtimeDefs exR (.frag fragL) =
      .ok (.frag fragL :: fragDefs (refDoc exCode pathRes proj pMain mainFile) (names.filter fun n => n != fragL.name)) ∧
    fragNamesOf (fragDefs (refDoc exCode pathRes proj pMain mainFile) (names.filter fun n => n != fragL.name)) =
      names.filter (fun n => n != fragL.name) := by
  have hs : SpreadsDefined (refDoc exCode pathRes proj pMain mainFile) := by rw [ex_refDoc]; decide +kernel
  obtain ⟨names, _, _, _, h4, _, h6, _⟩ :=
    C12_from_files_frag exCode pathRes proj pMain mainFile ex_rootOK ex_projOk (by decide +kernel) ex_resolveDoc (by decide +kernel) fragL
      (by simp [mainFile])
      (fun n hr => reach_defined hs hr ⟨.frag fragL, by rw [ex_refDoc]; simp, rfl⟩)
  exact ⟨names, h4, h6⟩

example : (match runtimeDefs exR (.frag fragL) with | .ok ds => fragNamesOf ds | .error _ => []) = ["L", "Y", "X1"] := by
  decide +kernel

/-- the two spellings of `/p/x.graphql` (from `main` and from `sub/y`) resolve to the same normalised path: the
    diamond closes, and `C13_with_paths` applies to the project -/
example : pathRes pMain "x.graphql" = pathRes pY "../sub/../x.graphql" ∧ pathRes pMain "x.graphql" = pX ∧
    Spec.RootOK (absFS exCode proj) pMain (absFile exCode mainFile) := by
  have h : pathRes pMain "x.graphql" = pathRes pY "../sub/../x.graphql" ∧ pathRes pMain "x.graphql" = pX := by
    simp only [pMain, pX, pY, Paths.components_main, Paths.components_x, Paths.components_y]
    decide +kernel
  exact ⟨h.1, h.2, rootOK_abs exCode proj pMain mainFile ex_rootOK⟩

/-- `C13_with_paths` applied to the project: `X1` of `/p/x.graphql` — requested only through `sub/y`'s respelled
    literal, while `main` reaches the same file as `x.graphql` — is appended exactly once, under the normalised key -/
example : ([(pX, 0), (pX, 1), (pY, 0)] : List (DefId Paths.P)).count (pX, 1) = 1 ∧ Paths.normalize pX = pX := by
  obtain ⟨_, hnorm, hcount⟩ := C13_with_paths (absFS exCode proj) pMain (absFile exCode mainFile)
    (rootOK_abs exCode proj pMain mainFile ex_rootOK) ex_resolve
  refine ⟨?_, hnorm _ (List.mem_cons_of_mem _ (List.mem_cons_self ..))⟩
  have e : pathRes pMain "./sub/y.graphql" = pY := by
    simp only [pMain, pY, Paths.components_main, Paths.components_y]
    decide +kernel
  have hY : Spec.Reach pathRes (absFS exCode proj) pMain (absFile exCode mainFile) pY := by
    rw [← e]
    refine Spec.Reach.step (imp := ⟨"./sub/y.graphql", 0, .specific [⟨exCode "Y", 0, 0⟩]⟩) Spec.Reach.root ?_ ?_
    all_goals
      simp only [proj, pMain, pX, pY, Paths.components_main, Paths.components_x, Paths.components_y]
      decide +kernel
  have e' : pathRes pY "../sub/../x.graphql" = pX := by
    simp only [pX, pY, Paths.components_x, Paths.components_y]
    decide +kernel
  suffices h : List.count (pathRes pY "../sub/../x.graphql", 1) [(pX, 0), (pX, 1), (pY, 0)] = 1 by rwa [e'] at h
  -- what remains are closed facts about the project: the kernel decides them once the paths are evaluated
  refine hcount pY pMain ⟨"../sub/../x.graphql", 0, .specific [⟨exCode "X1", 0, 0⟩]⟩
    ⟨"x.graphql", 1, .specific [⟨exCode "X0", 1, 0⟩]⟩ [.frag (exCode "X0"), .frag (exCode "X1")] 1 (exCode "X1")
    hY Spec.Reach.root ?_ ?_ ?_ ?_ (by decide) (Or.inl (by decide)) ?_
  all_goals
    simp only [proj, pMain, pX, pY, Paths.components_main, Paths.components_x, Paths.components_y]
    decide +kernel


/-- non-vacuity of `C12_from_files_order_indep`: `main` with its two import lines swapped -/
example : ProjPerm proj [(pMain, ⟨mainFile.imports.reverse, mainFile.defs⟩), (pX, xFile), (pY, yFile)] ∧
    mainFile.imports.Perm mainFile.imports.reverse ∧
    RootOKp [(pMain, ⟨mainFile.imports.reverse, mainFile.defs⟩), (pX, xFile), (pY, yFile)] pMain
      ⟨mainFile.imports.reverse, mainFile.defs⟩ := by
  refine ⟨ProjPerm.cons rfl (List.reverse_perm _).symm (ProjPerm.cons rfl (List.Perm.refl _)
    (ProjPerm.cons rfl (List.Perm.refl _) ProjPerm.nil)), (List.reverse_perm _).symm, ?_⟩
  exact rootOKp_head _ _ _

/-! `C12_from_files_missing`: `main2` also spreads `Z`, which nothing defines or imports -/

def opQ2 : OperationDef := { kind := .query, name := some ("Q", {}), sel := [spr "Y", spr "Z"] }
def fragLZ : FragmentDef := { name := "LZ", cond := "Query", sel := [fld "d", spr "Z"] }
def mainFile2 : SrcFile String := ⟨mainFile.imports, [.op opQ2, .frag fragLZ]⟩
/-- the document the code builds for `main2` -/
def exR2 : List ExecDef := [.op opQ2, .frag fragLZ, .frag fragX0, .frag fragX1, .frag fragY]
def proj2 : Project Paths.P String := [(pMain, mainFile2), (pX, xFile), (pY, yFile)]

theorem ex2_resolveDoc :
    resolveDoc exCode pathRes proj2 pMain mainFile2 = .ok exR2 := by
  have : resolve pathRes (absFS exCode proj2) pMain (absFile exCode mainFile2) = .ok [(pX, 0), (pX, 1), (pY, 0)] := by
    simp only [proj2, pMain, pX, pY, Paths.components_main, Paths.components_x, Paths.components_y]
    decide +kernel
  rw [resolveDoc, this]
  simp only [proj2, pMain, pX, pY, Paths.components_main, Paths.components_x, Paths.components_y]
  rfl

/-- the hypotheses of `C12_from_files_missing` and `C12_from_files_missing_frag` are satisfiable -/
example : RootOKp proj2 pMain mainFile2 ∧
    Reach (envOf exR2) opQ2.sel "Z" ∧ Reach (envOf exR2) fragLZ.sel "Z" ∧
    (∀ f, ExecDef.frag f ∈ mainFile2.defs → f.name ≠ "Z") ∧
    (∀ x f, Spec.InRef pathRes (absFS exCode proj2) pMain (absFile exCode mainFile2) x →
      defAt proj2 x = some (.frag f) → f.name ≠ "Z") := by
  refine ⟨?_, Reach.direct (by decide +kernel), Reach.direct (by decide +kernel), ?_, ?_⟩
  · exact rootOKp_head _ _ _
  · intro f hf
    simp only [mainFile2, List.mem_cons, List.not_mem_nil, or_false, reduceCtorEq, false_or, ExecDef.frag.injEq] at hf
    subst hf; decide +kernel
  · intro x f hx hd
    have hr : Spec.refImports pathRes (absFS exCode proj2) pMain (absFile exCode mainFile2) = [(pY, 0), (pX, 0), (pX, 1)] := by
      simp only [proj2, pMain, pX, pY, Paths.components_main, Paths.components_x, Paths.components_y]
      decide +kernel
    have hdefs : [(pY, 0), (pX, 0), (pX, 1)].map (defAt proj2) =
        [some (.frag fragY), some (.frag fragX0), some (.frag fragX1)] := by
      simp only [proj2, pMain, pX, pY, Paths.components_main, Paths.components_x, Paths.components_y]
      rfl
    have hm := List.mem_map_of_mem (f := defAt proj2) ((mem_refImports pathRes _ pMain _ x).mpr hx)
    rw [hr, hdefs, hd] at hm
    simp only [List.mem_cons, Option.some.injEq, ExecDef.frag.injEq, List.not_mem_nil, or_false] at hm
    rcases hm with rfl | rfl | rfl <;> decide

/-- a schema for the examples: `type Query { a b c d local: Int }` -/
def exS : Schema := ⟨[
  .typeDef { kind := .scalar, name := "Int" },
  .typeDef { kind := .object, name := "Query",
             fields := [{ name := "a", ty := .named "Int" {} }, { name := "b", ty := .named "Int" {} },
                        { name := "c", ty := .named "Int" {} }, { name := "d", ty := .named "Int" {} },
                        { name := "local", ty := .named "Int" {} }] }]⟩

/-- the hypotheses of `C12_from_files_checked` hold of the diamond project: the operation checker accepts the resolved
    document; and it rejects the document with the undefined spread (`UnknownFragment`, twice: in `Q` and in `LZ`) -/
example : CheckOp.NoReservedFields exS ∧ CheckOp.checkOp exS exR = [] ∧
    (CheckOp.checkOp exS exR2).map (·.1) = [.UnknownFragment, .UnknownFragment] := by
  refine ⟨?_, ?_, ?_⟩
  · show Valid.noReservedFieldsB exS = true; decide +kernel
  · decide +kernel
  · decide +kernel

/-! `C12_from_files_clash`: `main3` defines its own `X0` AND imports `X0` from `x.graphql` -/

def fragX0local : FragmentDef := { name := "X0", cond := "Query", sel := [fld "local"] }
def opQ3 : OperationDef := { kind := .query, name := some ("Q", {}), sel := [spr "X0"] }
def mainFile3 : SrcFile String := ⟨[⟨"x.graphql", 0, .specific [⟨exCode "X0", 0, 0⟩]⟩], [.op opQ3, .frag fragX0local]⟩
def proj3 : Project Paths.P String := [(pMain, mainFile3), (pX, xFile)]

/-- the imported `X0` (selecting `a`) is what the runtime document of `Q` embeds — not the local `X0` (selecting
    `local`) that the module exports under that name; the checker rejects the document (`DuplicateFragmentName`) -/
theorem C12_from_files_clash_witness :
    resolveDoc exCode pathRes proj3 pMain mainFile3 = .ok [.op opQ3, .frag fragX0local, .frag fragX0] ∧
    runtimeDefs [.op opQ3, .frag fragX0local, .frag fragX0] (.op opQ3) = .ok [.op opQ3, .frag fragX0] ∧
    runtimeDefs [.op opQ3, .frag fragX0local, .frag fragX0] (.frag fragX0local) = .ok [.frag fragX0local] ∧
    ¬ (fragNamesOf [.op opQ3, .frag fragX0local, .frag fragX0]).Nodup ∧
    (CheckOp.checkOp exS [.op opQ3, .frag fragX0local, .frag fragX0]).map (·.1) = [.DuplicateFragmentName] := by
  have : resolve pathRes (absFS exCode proj3) pMain (absFile exCode mainFile3) = .ok [(pX, 0)] := by
    simp only [proj3, pMain, pX, Paths.components_main, Paths.components_x]
    decide +kernel
  refine ⟨?_, rfl, rfl, by decide +kernel, by decide +kernel⟩
  rw [resolveDoc, this]
  simp only [proj3, pMain, pX, Paths.components_main, Paths.components_x]
  rfl

end Ex

end NitroVerif.C12
