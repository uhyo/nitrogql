/-
C10 ∘ C11 — the declaration files, END TO END FROM THE SOURCE SCHEMA FILES.

The statements start from the list of SOURCE items (definitions and extensions of all kinds, in any order, from any
number of files — a multi-file schema is the concatenation of its files, `Pos.file` rides along) on which the resolver
model `ExtResolve.resolve` succeeds, and speak about the files the printer models emit for the resolver's output `R`:
every type DEFINED in the sources has its aliases, and they denote `Ref` over the specification-level merge
`ExtMerge.refMerge src` (original ++ the components of its extensions in document order — no registries, no sorting),
kind by kind with the merged components spelled out; nothing is invented; the order of the source items is immaterial
as long as the extensions of each kind and name keep their relative order (`KeepsExtOrder`); the resolvers file has one
resolver per field of every object type of the MERGED schema.

Side condition, as in `Props/C10Closed.lean`: `DocOK c R` — a HYPOTHESIS here; which part of it the schema check
discharges is `Props/C10ComposedChecked.lean`. Further hypotheses: `ResolversOK` (resolver `Args` / `Result`), arguments of
defined scalar / enum / input-object type (`C10_resolver_args_from_sources`), distinct type names
(`C10_sources_print_ok_iff`), a `schema {…}` definition among the sources (`C10_sources_schema_metadata`). What only K/O
carry: the end of `Props/C10.lean`.
-/
import NitroVerif.Props.C10Closed
import NitroVerif.Props.C11
import NitroVerif.Lemmas.DeclsComposedPerm
namespace NitroVerif.Props.C10
open NitroVerif.Gql NitroVerif.Ts NitroVerif.DeclCfg NitroVerif.SchemaDecls NitroVerif.RefTypes
open NitroVerif.ExtMerge NitroVerif.ExtResolve NitroVerif.DeclsComposed

section sources
variable (c : Cfg) (src R : TsDoc) (F : File) (hres : resolve src = .ok R) (hF : schemaFile c R = .ok F)
  (ok : DocOK c R)

include hres in
/-- NOTHING LOST, NOTHING INVENTED (types). The type definitions of the resolved document are exactly the type
    definitions of the sources, each merged with its same-kind same-name extensions (`refType`: the original's
    components followed by those of the extensions in document order): every source definition has its merged form in
    `R`, every definition of `R` is the merged form of a source definition, and there are as many as in the sources. -/
theorem C10_sources_types :
    (∀ td, TsItem.typeDef td ∈ src → refType src td ∈ typeDefsOf R) ∧
    (∀ td' ∈ typeDefsOf R, ∃ td, TsItem.typeDef td ∈ src ∧ td' = refType src td) ∧
    (typeDefsOf R).length = (typeDefsOf src).length := by
  refine ⟨fun td hm => refType_mem_resolved hres hm, fun td' h => (mem_typeDefsOf_resolved hres).mp h, ?_⟩
  rw [(typeDefsOf_resolved hres).length_eq, List.length_map]

include hres hF in
/-- NOTHING INVENTED (aliases). Every `type` statement of the schema declaration file emitted for the resolved
    document binds one of the three prelude names or the LOCAL name of a type DEFINED in the sources (an extension
    never creates an alias of its own). -/
theorem C10_sources_no_invented_alias (n : String) (hn : n ∈ Stmt.typeNamesList F) :
    n ∈ ["__nitrogql_schema", "__Beautify", "__SelectionSet"] ∨
      ∃ td, TsItem.typeDef td ∈ src ∧ n = localName (bag (scalarTypes c R)) td.name := by
  rcases schemaFile_names c R F hF n hn with h | ⟨td', hm, rfl⟩
  · exact Or.inl h
  · obtain ⟨td, htd, rfl⟩ := (mem_typeDefsOf_resolved hres).mp hm
    exact Or.inr ⟨td, htd, rfl⟩

include hres ok in
/-- the lookup the printers and `Ref` perform for a source-defined name returns the MERGED definition -/
theorem C10_sources_lookup (td : TypeDef) (hm : TsItem.typeDef td ∈ src) :
    (Schema.mk R).typeDef? td.name = some (refType src td) ∧
    (Schema.mk (refMerge src)).typeDef? td.name = some (refType src td) := by
  refine ⟨typeDef?_resolved hres ok.distinct hm, ?_⟩
  rw [typeDef?_perm (typeDefsOf_resolved_refMerge hres) ok.distinct]
  exact typeDef?_resolved hres ok.distinct hm

include hres hF ok in
/-- **C10 FROM THE SOURCES.** Let `src` be any list of source items — definitions and extensions of all kinds, in any
    order, from any files — on which the extension resolver succeeds with `R`, and `F` the schema declaration file
    emitted for `R`. For every type `T` DEFINED in the sources and every target `t` whose direction fits `T`'s kind,
    the reference to `T` inside the namespace of `t` denotes EXACTLY `Ref_t(T)` taken over the specification-level
    merge `refMerge src`: each definition followed by the components of its extensions in document order
    (`ExtMerge.refMerge`, C11's reference — independent of the resolver's registries, passes and sorting). -/
theorem C10_from_sources (t : Target) (td : TypeDef) (hm : TsItem.typeDef td ∈ src)
    (hfit : kindFits td.kind t = true) (v : J) :
    Mem (Env.ofFile F) v (globalise (Decls.ofFile F) [t.name] [] ((Ctx.new c R t).leaf td.name))
      ↔ Ref c ⟨refMerge src⟩ t td.name v := by
  rw [Ref_resolved_eq c hres ok.distinct t]
  exact C10_alias_exact_closed c R F hF ok t (refType src td) (refType_mem_resolved hres hm) hfit v

include hres hF ok in
/-- the same through the qualified route `<namespace>.T` from the top level of the file (`T` = the schema name) -/
theorem C10_from_sources_qualified (t : Target) (td : TypeDef) (hm : TsItem.typeDef td ∈ src)
    (hfit : kindFits td.kind t = true) (v : J) :
    Mem (Env.ofFile F) v (globalise (Decls.ofFile F) [] [] (.qref [t.name, td.name]))
      ↔ Ref c ⟨refMerge src⟩ t td.name v := by
  rw [Ref_resolved_eq c hres ok.distinct t]
  exact C10_alias_exact_qualified c R F hF ok t (refType src td) (refType_mem_resolved hres hm) hfit v

include hres hF ok in
/-- the same for the file linked as a module `A` into a flat file, standard helper `Omit` interpreted — the form the O
    stream queries (`M.<ns>.T`); further hypothesis `hno`: no configured scalar text applies `Omit<…>` on its spine -/
theorem C10_from_sources_module (main : File) (m A : String) (hflat : main.all (fun s => !s.isNamespace) = true)
    (himp : starImports main = [(m, A)])
    (hno : ∀ p ∈ scalarTypes c R, ∀ t ∈ Target.all, (c.parseOf (p.2.getType t)).noOmit = true)
    (t : Target) (td : TypeDef) (hm : TsItem.typeDef td ∈ src) (hfit : kindFits td.kind t = true) (v : J) :
    Mem (Env.ofFiles main [(m, F)]).withStd v
        (globalise (Decls.ofFiles main [(m, F)]) [] [] (.qref [A, t.name, td.name]))
      ↔ Ref c ⟨refMerge src⟩ t td.name v := by
  rw [Ref_resolved_eq c hres ok.distinct t]
  exact C10_alias_exact_module_std c R F hF ok main m A hflat himp hno t (refType src td)
    (refType_mem_resolved hres hm) hfit v

include hres hF ok in
/-- the same for the top-level representative of `T` (bound under `T`'s local name): `Ref` for `__ResolverInput` if `T`
    is an input object, for `__OperationOutput` otherwise -/
theorem C10_from_sources_toplevel (td : TypeDef) (hm : TsItem.typeDef td ∈ src) (v : J) :
    Mem (Env.ofFile F) v (globalise (Decls.ofFile F) [] [] (.ref (localName (bag (scalarTypes c R)) td.name)))
      ↔ Ref c ⟨refMerge src⟩ (repTarget td) td.name v := by
  rw [Ref_resolved_eq c hres ok.distinct]
  exact C10_alias_exact_toplevel c R F hF ok (refType src td) (refType_mem_resolved hres hm) v

include hres in
/-- **WHEN THE PRINTER SUCCEEDS, from the sources.** The schema declaration file exists (the printer's only failure is
    `ScalarTypeNotProvided`) iff every scalar DEFINED in the sources has a TypeScript type: a configuration entry or
    built-in mapping for its name, or a complete `@nitrogql_ts_type` directive on `scalar T` or on one of its
    `extend scalar T` items. -/
theorem C10_sources_print_ok_iff (hd : ((typeDefsOf R).map (·.name)).Nodup) :
    (∃ F, schemaFile c R = .ok F) ↔
      ∀ td, TsItem.typeDef td ∈ src → td.kind = .scalar →
        ((c.optionScalar? td.name).orElse
          (fun _ => directiveScalar? { td with dirs := mergedDirs src td })).isSome = true := by
  rw [schemaFile_ok_iff]
  constructor
  · intro h td htd hk
    have := h (refType src td) (refType_mem_resolved hres htd) hk
    rwa [show (refType src td).name = td.name from rfl, scalarType?_resolved c hres hd htd hk] at this
  · intro h td' htd' hk
    obtain ⟨td, htd, rfl⟩ := (mem_typeDefsOf_resolved hres).mp htd'
    rw [show (refType src td).name = td.name from rfl, scalarType?_resolved c hres hd htd hk]
    exact h td htd hk

include hres hF in
/-- **`extend schema`.** If the sources have a `schema {…}` definition, the first statement of the file is the metadata
    alias `__nitrogql_schema` listing the root operation types of the definition FOLLOWED BY those of every
    `extend schema {…}`, in document order. -/
theorem C10_sources_schema_metadata (s : SchemaDef) (hs : TsItem.schemaDef s ∈ src) :
    F.head? = some (.type true "__nitrogql_schema" []
      (.obj ((s.roots ++ (schemaExts src).flatMap (·.roots)).map fun (k, n, _) => (k.asStr, false, false, .ref n)))) := by
  rw [schemaFile_head hF, schemaMetadata_resolved hres hs]

include hres hF ok in
/-- OBJECT TYPES. The alias of an object type of the sources admits exactly the records with `__typename` = its name
    and one conforming value for EVERY field of `type T {…}` AND of every `extend type T {…}` (document order), no
    other key, none omitted. -/
theorem C10_from_sources_object (t : Target) (td : TypeDef) (hm : TsItem.typeDef td ∈ src) (hk : td.kind = .object)
    (ht : t.isOutput = true) (v : J) :
    Mem (Env.ofFile F) v (globalise (Decls.ofFile F) [t.name] [] ((Ctx.new c R t).leaf td.name)) ↔
      ∃ kvs, v = .obj kvs ∧
        RecordSpec (("__typename", false, fun x => x = .str td.name)
          :: (mergedFields src td).map fun f => (f.name, false, Conf (Ref c ⟨refMerge src⟩ t) f.ty)) kvs := by
  have h := C10_alias_exact_object_closed c R F hF ok t (refType src td) (refType_mem_resolved hres hm) hk ht v
  rw [refType_fields src td (Or.inl hk)] at h
  rw [Ref_resolved_eq c hres ok.distinct t]
  exact h

include hres hF ok in
/-- INPUT OBJECTS. Exactly the records with a conforming value for every input field of `input T {…}` and of every
    `extend input T {…}`, a field being omissible iff it is nullable and `allowUndefinedAsOptionalInput` is on. -/
theorem C10_from_sources_input (t : Target) (td : TypeDef) (hm : TsItem.typeDef td ∈ src) (hk : td.kind = .input)
    (ht : t.isInput = true) (v : J) :
    Mem (Env.ofFile F) v (globalise (Decls.ofFile F) [t.name] [] ((Ctx.new c R t).leaf td.name)) ↔
      ∃ kvs, v = .obj kvs ∧
        RecordSpec ((mergedInputs src td).map fun f =>
          (f.name, c.optionalInput && !f.ty.isNonNull, Conf (Ref c ⟨refMerge src⟩ t) f.ty)) kvs := by
  have h := C10_alias_exact_input_closed c R F hF ok t (refType src td) (refType_mem_resolved hres hm) hk ht v
  rw [refType_inputs src td hk] at h
  rw [Ref_resolved_eq c hres ok.distinct t]
  exact h

include hres hF ok in
/-- ENUMS. Exactly the string literals of the values of `enum T {…}` and of every `extend enum T {…}`. -/
theorem C10_from_sources_enum (t : Target) (td : TypeDef) (hm : TsItem.typeDef td ∈ src) (hk : td.kind = .enum)
    (v : J) :
    Mem (Env.ofFile F) v (globalise (Decls.ofFile F) [t.name] [] ((Ctx.new c R t).leaf td.name)) ↔
      ∃ x ∈ mergedValues src td, v = .str x.name := by
  have h := C10_alias_exact_closed c R F hF ok t (refType src td) (refType_mem_resolved hres hm)
    (by simp [refType_kind, hk, kindFits]) v
  rw [show (refType src td).name = td.name from rfl,
    Ref_enum c ⟨R⟩ t (typeDef?_resolved hres ok.distinct hm) hk, refType_values src td hk] at h
  exact h

include hres hF ok in
/-- UNIONS. Exactly the union of `Ref` over the members of `union T = …` and of every `extend union T = …`. -/
theorem C10_from_sources_union (t : Target) (td : TypeDef) (hm : TsItem.typeDef td ∈ src) (hk : td.kind = .union)
    (ht : t.isOutput = true) (v : J) :
    Mem (Env.ofFile F) v (globalise (Decls.ofFile F) [t.name] [] ((Ctx.new c R t).leaf td.name)) ↔
      ∃ m ∈ mergedMembers src td, Ref c ⟨refMerge src⟩ t m.1 v := by
  have h := C10_alias_exact_members_closed c R F hF ok t (refType src td) (refType_mem_resolved hres hm)
    (Or.inr hk) ht v
  rw [show (refType src td).name = td.name from rfl, possibleTypes_union_resolved hres ok.distinct hm hk] at h
  rw [Ref_resolved_eq c hres ok.distinct t, h]
  simp only [List.mem_map]
  constructor
  · rintro ⟨o, ⟨m, hmm, rfl⟩, hr⟩; exact ⟨m, hmm, hr⟩
  · rintro ⟨m, hmm, hr⟩; exact ⟨m.1, ⟨m, hmm, rfl⟩, hr⟩

include hres hF ok in
/-- INTERFACES. Exactly the union of `Ref` over the object types `O` of the sources that implement the interface —
    through the `implements` of `type O …` itself OR of an `extend type O implements …`. -/
theorem C10_from_sources_interface (t : Target) (td : TypeDef) (hm : TsItem.typeDef td ∈ src)
    (hk : td.kind = .interface) (ht : t.isOutput = true) (v : J) :
    Mem (Env.ofFile F) v (globalise (Decls.ofFile F) [t.name] [] ((Ctx.new c R t).leaf td.name)) ↔
      ∃ od, TsItem.typeDef od ∈ src ∧ od.kind = .object ∧ (∃ i ∈ mergedImplements src od, i.1 = td.name) ∧
        Ref c ⟨refMerge src⟩ t od.name v := by
  have h := C10_alias_exact_members_closed c R F hF ok t (refType src td) (refType_mem_resolved hres hm)
    (Or.inl hk) ht v
  rw [show (refType src td).name = td.name from rfl, possibleTypes_interface_resolved hres ok.distinct hm hk] at h
  rw [Ref_resolved_eq c hres ok.distinct t, h]
  constructor
  · rintro ⟨o, ho, hr⟩
    obtain ⟨od, hod, hko, rfl, hi⟩ := (mem_objectImplementers_resolved hres td.name o).mp ho
    exact ⟨od, hod, hko, hi, hr⟩
  · rintro ⟨od, hod, hko, hi, hr⟩
    exact ⟨od.name, (mem_objectImplementers_resolved hres td.name od.name).mpr ⟨od, hod, hko, rfl, hi⟩, hr⟩

include hres hF ok in
/-- SCALARS. Exactly the values of the TypeScript text configured for the target, read globally; the text is the
    configuration entry (or built-in mapping) of the scalar's name and, failing that, the `@nitrogql_ts_type`
    directive found among the directives of `scalar T` FOLLOWED BY those of every `extend scalar T`. -/
theorem C10_from_sources_scalar (t : Target) (td : TypeDef) (hm : TsItem.typeDef td ∈ src) (hk : td.kind = .scalar)
    (v : J) :
    Mem (Env.ofFile F) v (globalise (Decls.ofFile F) [t.name] [] ((Ctx.new c R t).leaf td.name)) ↔
      ∃ sc, (c.optionScalar? td.name).orElse (fun _ => directiveScalar? { td with dirs := mergedDirs src td }) = some sc ∧
        Mem Env.empty v (c.parseOf (sc.getType t)) := by
  have h := C10_alias_exact_scalar_closed c R F hF ok t (refType src td) (refType_mem_resolved hres hm) hk v
  rw [show (refType src td).name = td.name from rfl, scalarType?_resolved c hres ok.distinct hm hk] at h
  exact h

include hres hF ok in
/-- **ORDER INDEPENDENCE (meaning).** Let `src'` be any permutation of the source items that keeps, per kind and name,
    the relative order of the extensions (an extension moved before its definition, definitions moved between files, …).
    Then `src'` resolves as well (`C11_perm`), the side condition holds of its resolved document too, and in EVERY file
    `F'` the printer emits for it every alias of every source-defined type admits EXACTLY the same values as in `F`.
    (That the printer succeeds on the permuted sources is not part of this statement; `C10_sources_print_ok_iff` says
    when it does.) -/
theorem C10_from_sources_perm (src' : TsDoc) (hp : src'.Perm src) (hk : KeepsExtOrder src' src) :
    ∃ R', resolve src' = .ok R' ∧ DocOK c R' ∧
      ∀ F', schemaFile c R' = .ok F' →
        ∀ (t : Target) (td : TypeDef), TsItem.typeDef td ∈ src → kindFits td.kind t = true → ∀ v,
          (Mem (Env.ofFile F') v (globalise (Decls.ofFile F') [t.name] [] ((Ctx.new c R' t).leaf td.name)) ↔
           Mem (Env.ofFile F) v (globalise (Decls.ofFile F) [t.name] [] ((Ctx.new c R t).leaf td.name))) := by
  obtain ⟨R', hres'⟩ := ((C11_perm src src' hp hk).1).mpr ⟨R, hres⟩
  have hperm : R'.Perm R := (C11_perm src src' hp hk).2 R R' hres hres'
  have ok' : DocOK c R' := docOK_perm (typeDefsOf_perm hperm.symm) ok
  refine ⟨R', hres', ok', fun F' hF' t td hm hfit v => ?_⟩
  rw [C10_from_sources c src R F hres hF ok t td hm hfit v,
    C10_from_sources c src' R' F' hres' hF' ok' t td (hp.mem_iff.mpr hm) hfit v,
    Ref_resolved_eq c hres ok.distinct t, Ref_resolved_eq c hres' ok'.distinct t]
  exact Ref_perm (typeDefsOf_perm hperm.symm) ok.distinct c t td.name v

include hres in
/-- **THE `Resolvers<Context>` RECORD FROM THE SOURCES.** In the resolvers declaration file emitted for the resolved
    document: (1) every object type `O` DEFINED in the sources has the entry `O: { f: __Resolver<O, Args, Context,
    Result>; … }` with one REQUIRED member per field of `type O {…}` AND of every `extend type O {…}`, in document
    order; (2) every union has `__resolveType` over its own members followed by those added by `extend union`, every
    interface over the object types implementing it (`C10_from_sources_interface` says which those are); (3) there is
    no other entry: each stems from an object, interface or union DEFINED in the sources. -/
theorem C10_resolvers_from_sources :
    (∀ od, TsItem.typeDef od ∈ src → od.kind = .object →
      let entry : Ty := .obj ((mergedFields src od).map fun f => (f.name, false, false,
          .app (.ref "__Resolver") [.ref od.name, ResolverDecls.argsType f.args, .ref "Context", tsOf .ref false f.ty]))
      (od.name, false, ResolverDecls.isEmptyObject entry, entry)
        ∈ rootFields (ResolverDecls.rootResolvers ⟨R⟩ (typeDefsOf R))) ∧
    (∀ td, TsItem.typeDef td ∈ src → td.kind = .union →
      (td.name, false, false, ResolverDecls.typeResolver ((mergedMembers src td).map (·.1)))
        ∈ rootFields (ResolverDecls.rootResolvers ⟨R⟩ (typeDefsOf R))) ∧
    (∀ td, TsItem.typeDef td ∈ src → td.kind = .interface →
      (td.name, false, false, ResolverDecls.typeResolver ((Schema.mk R).objectImplementers td.name))
        ∈ rootFields (ResolverDecls.rootResolvers ⟨R⟩ (typeDefsOf R))) ∧
    (∀ f ∈ rootFields (ResolverDecls.rootResolvers ⟨R⟩ (typeDefsOf R)), ∃ td, TsItem.typeDef td ∈ src ∧
      f.1 = td.name ∧ (td.kind = .object ∨ td.kind = .interface ∨ td.kind = .union)) := by
  obtain ⟨h1, h2, h3, h4⟩ := C10_resolvers_exact ⟨R⟩ (typeDefsOf R)
  refine ⟨?_, ?_, ?_, ?_⟩
  · intro od hod hk
    have := h1 (refType src od) (refType_mem_resolved hres hod) hk
    rw [refType_fields src od (Or.inl hk)] at this
    exact this
  · intro td htd hk
    have := h3 (refType src td) (refType_mem_resolved hres htd) hk
    rw [refType_members src td hk] at this
    exact this
  · intro td htd hk
    exact h2 (refType src td) (refType_mem_resolved hres htd) hk
  · intro f hf
    obtain ⟨td', hm, hn, hk⟩ := h4 f hf
    obtain ⟨td, htd, rfl⟩ := (mem_typeDefsOf_resolved hres).mp hm
    exact ⟨td, htd, hn, hk⟩

include hres hF ok in
/-- **RESOLVER RESULT, from the sources.** For every object type `O` DEFINED in the sources and every field `f` of the
    MERGED type (a field of `type O {…}` or of an `extend type O {…}`): in the resolvers file linked with the schema
    file (`Omit` interpreted), the `Result` type of `f`'s resolver admits exactly the resolver result reference over the
    specification-level merge. -/
theorem C10_resolver_result_from_sources (rok : ResolverDecls.ResolversOK c R) (od : TypeDef)
    (hod : TsItem.typeDef od ∈ src) (hk : od.kind = .object) (f : FieldDef) (hf : f ∈ mergedFields src od) (v : J) :
    Mem (Env.ofFiles (ResolverDecls.resolversFile c R) [(ResolverDecls.schemaSource, F)]).withStd v
      (globalise (Decls.ofFiles (ResolverDecls.resolversFile c R) [(ResolverDecls.schemaSource, F)]) [] []
        (tsOf .ref false f.ty))
      ↔ ∃ k, conf (refResolverOut c ⟨refMerge src⟩ k) f.ty v = true := by
  have hf' : f ∈ (refType src od).fields := by rw [refType_fields src od (Or.inl hk)]; exact hf
  obtain ⟨td', hm', hn', hk'⟩ := ok.fields (refType src od) (refType_mem_resolved hres hod) hk f hf'
  simp only [refResolverOut_resolved_eq c hres ok.distinct]
  exact C10_resolver_result_closed c R F hF ok rok f td' hm' hk' hn' v

include hres hF ok in
/-- **RESOLVER ARGUMENTS, from the sources.** For a field definition `f` whose arguments have defined scalar / enum /
    input-object types: the `Args` type of its resolver admits exactly `Ref_ResolverInput(args f)` over the
    specification-level merge (every argument a required key). The hypotheses `_hod _hk _hf` (`f` is a field of a merged
    object type) give the statement the shape of `C10_resolver_result_from_sources`; the equivalence does not depend on
    them. -/
theorem C10_resolver_args_from_sources (rok : ResolverDecls.ResolversOK c R) (od : TypeDef)
    (_hod : TsItem.typeDef od ∈ src) (_hk : od.kind = .object) (f : FieldDef) (_hf : f ∈ mergedFields src od)
    (hargs : ∀ a ∈ f.args, ∃ td, TsItem.typeDef td ∈ src ∧ td.name = a.ty.unwrapped ∧
      kindFits td.kind .resolverInput = true) (v : J) :
    Mem (Env.ofFiles (ResolverDecls.resolversFile c R) [(ResolverDecls.schemaSource, F)]).withStd v
      (globalise (Decls.ofFiles (ResolverDecls.resolversFile c R) [(ResolverDecls.schemaSource, F)]) [] []
        (ResolverDecls.argsType f.args))
      ↔ ∃ n, refArgs c ⟨refMerge src⟩ n f.args v = true := by
  simp only [refArgs_resolved_eq c hres ok.distinct]
  refine C10_resolver_args_closed_std c R F hF ok rok f ?_ v
  intro a ha
  obtain ⟨td, htd, hn, hkf⟩ := hargs a ha
  exact ⟨refType src td, refType_mem_resolved hres htd, hn, hkf⟩

end sources

/-! ### the document the CLI resolves: the user's files followed by the built-ins

`crates/cli/src/main.rs` concatenates the schema files (`TypeSystemOrExtensionDocument::merge`), appends
`generate_builtins()` and `nitrogql_builtins()` (`CliSchema.builtins`: five scalars and five directive definitions, no
extension) and resolves THAT document. So `src = user ++ CliSchema.builtins` in the theorems above; the extensions of a
definition — hence its merged components — are those the user wrote, and the defined types are the user's plus the
five built-in scalars. -/

/-- the merged components over the document the CLI resolves are the merged components over the user's items -/
theorem C10_sources_cli_components (user : TsDoc) (td : TypeDef) :
    mergedFields (user ++ CliSchema.builtins) td = mergedFields user td ∧
    mergedImplements (user ++ CliSchema.builtins) td = mergedImplements user td ∧
    mergedMembers (user ++ CliSchema.builtins) td = mergedMembers user td ∧
    mergedValues (user ++ CliSchema.builtins) td = mergedValues user td ∧
    mergedInputs (user ++ CliSchema.builtins) td = mergedInputs user td ∧
    mergedDirs (user ++ CliSchema.builtins) td = mergedDirs user td :=
  ⟨mergedFields_cli user td, mergedImplements_cli user td, mergedMembers_cli user td, mergedValues_cli user td,
    mergedInputs_cli user td, mergedDirs_cli user td⟩

/-- the types defined in the document the CLI resolves: the user's definitions and the five built-in scalars -/
theorem C10_sources_cli_defs (user : TsDoc) (td : TypeDef) :
    TsItem.typeDef td ∈ user ++ CliSchema.builtins ↔
      TsItem.typeDef td ∈ user ∨
      ∃ n ∈ ["Int", "Float", "String", "Boolean", "ID"],
        td = { kind := .scalar, name := n, namePos := CliSchema.bp, pos := CliSchema.bp } :=
  mem_cli_defs user td

/-! ### non-vacuity: a two-file schema whose second file consists of extensions only

File 0 defines a scalar with a configured TypeScript type (`Date` ↦ `Date | string` / `string`; the text mentions the
identifier `Date`, so the schema type is renamed `__tmp_Date` in the file), an enum, two interfaces, three object
types, a union and an input object. File 1 has `extend type` (new fields, with arguments), `extend enum`,
`extend union`, `extend interface … implements`, `extend type … implements` and `extend input`. The extension file is
put FIRST (every extension precedes its definition). -/

def srcUserT : TypeDef :=
  { kind := .object, name := "User", implements := [("Node", {})], pos := ⟨4, 0, 0, false⟩,
    fields := [{ name := "id", ty := .nonNull (.named "ID" {}) }] }
def srcPostT : TypeDef :=
  { kind := .object, name := "Post", pos := ⟨5, 0, 0, false⟩,
    fields := [{ name := "id", ty := .nonNull (.named "ID" {}) }, { name := "title", ty := .named "String" {} }] }
def srcQueryT : TypeDef :=
  { kind := .object, name := "Query", pos := ⟨8, 0, 0, false⟩, fields := [{ name := "me", ty := .named "User" {} }] }
def srcColorT : TypeDef := { kind := .enum, name := "Color", values := [{ name := "RED" }], pos := ⟨1, 0, 0, false⟩ }
def srcNodeT : TypeDef :=
  { kind := .interface, name := "Node", pos := ⟨2, 0, 0, false⟩,
    fields := [{ name := "id", ty := .nonNull (.named "ID" {}) }] }
def srcEntityT : TypeDef :=
  { kind := .interface, name := "Entity", pos := ⟨3, 0, 0, false⟩,
    fields := [{ name := "id", ty := .nonNull (.named "ID" {}) }] }
def srcSearchT : TypeDef := { kind := .union, name := "SearchResult", members := [("User", {})], pos := ⟨6, 0, 0, false⟩ }
def srcFilterT : TypeDef :=
  { kind := .input, name := "Filter", inputs := [{ name := "q", ty := .named "String" {} }], pos := ⟨7, 0, 0, false⟩ }
def srcDateT : TypeDef := { kind := .scalar, name := "Date", pos := ⟨0, 0, 0, false⟩ }

/-- the field `search(filter: Filter, first: Int): [SearchResult!]!` that only `extend type Query` declares -/
def srcSearchF : FieldDef :=
  { name := "search", ty := .nonNull (.list (.nonNull (.named "SearchResult" {})) {}),
    args := [{ name := "filter", ty := .named "Filter" {} }, { name := "first", ty := .named "Int" {} }] }

/-- schema file 0: definitions -/
def srcFile0 : TsDoc :=
  [.typeDef srcDateT, .typeDef srcColorT, .typeDef srcNodeT, .typeDef srcEntityT, .typeDef srcUserT, .typeDef srcPostT,
   .typeDef srcSearchT, .typeDef srcFilterT, .typeDef srcQueryT]

/-- schema file 1: extensions only -/
def srcFile1 : TsDoc :=
  [.typeExt { kind := .object, name := "Query", pos := ⟨0, 0, 1, false⟩,
              fields := [srcSearchF, { name := "created", ty := .named "Date" {} },
                         { name := "color", ty := .named "Color" {} }] },
   .typeExt { kind := .enum, name := "Color", values := [{ name := "GREEN" }], pos := ⟨1, 0, 1, false⟩ },
   .typeExt { kind := .union, name := "SearchResult", members := [("Post", {})], pos := ⟨2, 0, 1, false⟩ },
   .typeExt { kind := .interface, name := "Entity", implements := [("Node", {})], pos := ⟨3, 0, 1, false⟩ },
   .typeExt { kind := .object, name := "Post", implements := [("Node", {}), ("Entity", {})], pos := ⟨4, 0, 1, false⟩ },
   .typeExt { kind := .input, name := "Filter", pos := ⟨5, 0, 1, false⟩,
              inputs := [{ name := "color", ty := .named "Color" {} }] }]

/-- what the CLI resolves: file 1, file 0, the built-ins -/
def srcAll : TsDoc := (srcFile1 ++ srcFile0) ++ CliSchema.builtins

/-- the nine type definitions of file 0 -/
def srcDefs : List TypeDef :=
  [srcDateT, srcColorT, srcNodeT, srcEntityT, srcUserT, srcPostT, srcSearchT, srcFilterT, srcQueryT]

/-- they are items of the project … -/
theorem srcAll_defs : ∀ td ∈ srcDefs, TsItem.typeDef td ∈ srcAll :=
  fun _ h => List.mem_append_left _ (List.mem_append_right _ (List.mem_map_of_mem (f := TsItem.typeDef) h))

/-- … and all the type definitions of the user's two files (file 1 holds extensions only) -/
theorem srcUser_defs {td : TypeDef} (h : TsItem.typeDef td ∈ srcFile1 ++ srcFile0) : td ∈ srcDefs := by
  rcases List.mem_append.1 h with h | h
  · simp [srcFile1] at h
  · obtain ⟨a, ha, e⟩ := List.mem_map.1 (show TsItem.typeDef td ∈ srcDefs.map TsItem.typeDef from h)
    cases e; exact ha

def srcR : TsDoc := match resolve srcAll with | .ok R => R | .error _ => []
theorem srcR_ok : resolve srcAll = .ok srcR :=
  eq_ok_of_isOk (by decide +kernel) fun _ e => by rw [srcR, e]

def srcF : File := match schemaFile exCfg srcR with | .ok f => f | .error _ => []
theorem srcF_ok : schemaFile exCfg srcR = .ok srcF :=
  eq_ok_of_isOk (by decide +kernel) fun _ e => by rw [srcF, e]

theorem srcR_docOK : DocOK exCfg srcR := by decide +kernel

theorem srcR_resolversOK : ResolverDecls.ResolversOK exCfg srcR := by decide +kernel

theorem srcQuery_fields : mergedFields srcAll srcQueryT =
    [{ name := "me", ty := .named "User" {} }, srcSearchF, { name := "created", ty := .named "Date" {} },
     { name := "color", ty := .named "Color" {} }] := rfl

/-- `extend type`: the alias of `Query` has the field of `type Query` followed by the three fields of the extension -/
example : mergedFields srcAll srcQueryT =
      [{ name := "me", ty := .named "User" {} }, srcSearchF, { name := "created", ty := .named "Date" {} },
       { name := "color", ty := .named "Color" {} }] ∧
    ∀ v, Mem (Env.ofFile srcF) v (globalise (Decls.ofFile srcF) [Target.operationOutput.name] []
        ((Ctx.new exCfg srcR .operationOutput).leaf "Query")) ↔
      ∃ kvs, v = .obj kvs ∧
        RecordSpec (("__typename", false, fun x => x = .str "Query")
          :: (mergedFields srcAll srcQueryT).map fun f =>
            (f.name, false, Conf (Ref exCfg ⟨refMerge srcAll⟩ .operationOutput) f.ty)) kvs :=
  ⟨srcQuery_fields, C10_from_sources_object exCfg srcAll srcR srcF srcR_ok srcF_ok srcR_docOK .operationOutput srcQueryT
    (srcAll_defs _ (by simp [srcDefs])) rfl rfl⟩

/-- `extend enum`: `Color` admits `"RED"` (definition) and `"GREEN"` (extension), nothing else -/
example : (mergedValues srcAll srcColorT).map (·.name) = ["RED", "GREEN"] ∧
    ∀ v, Mem (Env.ofFile srcF) v (globalise (Decls.ofFile srcF) [Target.operationInput.name] []
        ((Ctx.new exCfg srcR .operationInput).leaf "Color")) ↔ ∃ x ∈ mergedValues srcAll srcColorT, v = .str x.name :=
  ⟨by decide +kernel, C10_from_sources_enum exCfg srcAll srcR srcF srcR_ok srcF_ok srcR_docOK .operationInput srcColorT
    (srcAll_defs _ (by simp [srcDefs])) rfl⟩

/-- `extend union`: `SearchResult` = `User` (definition) | `Post` (extension) -/
example : (mergedMembers srcAll srcSearchT).map (·.1) = ["User", "Post"] ∧
    ∀ v, Mem (Env.ofFile srcF) v (globalise (Decls.ofFile srcF) [Target.resolverOutput.name] []
        ((Ctx.new exCfg srcR .resolverOutput).leaf "SearchResult")) ↔
      ∃ m ∈ mergedMembers srcAll srcSearchT, Ref exCfg ⟨refMerge srcAll⟩ .resolverOutput m.1 v :=
  ⟨by decide +kernel, C10_from_sources_union exCfg srcAll srcR srcF srcR_ok srcF_ok srcR_docOK .resolverOutput srcSearchT
    (srcAll_defs _ (by simp [srcDefs])) rfl rfl⟩

/-- `implements` of extensions: `Post` implements `Node` and `Entity` only through `extend type Post implements …`,
    `Entity` implements `Node` only through `extend interface Entity implements Node`; the alias of the interface
    `Node` is the union over `User` (own `implements`) and `Post` (extension) -/
example : mergedImplements srcAll srcPostT = [("Node", {}), ("Entity", {})] ∧
    mergedImplements srcAll srcEntityT = [("Node", {})] ∧
    ∀ v, Mem (Env.ofFile srcF) v (globalise (Decls.ofFile srcF) [Target.operationOutput.name] []
        ((Ctx.new exCfg srcR .operationOutput).leaf "Node")) ↔
      ∃ od, TsItem.typeDef od ∈ srcAll ∧ od.kind = .object ∧ (∃ i ∈ mergedImplements srcAll od, i.1 = "Node") ∧
        Ref exCfg ⟨refMerge srcAll⟩ .operationOutput od.name v :=
  ⟨by decide +kernel, by decide +kernel, C10_from_sources_interface exCfg srcAll srcR srcF srcR_ok srcF_ok srcR_docOK .operationOutput srcNodeT
    (srcAll_defs _ (by simp [srcDefs])) rfl rfl⟩

/-- `extend input`: `Filter` has the field `q` (definition) and `color` (extension) -/
example : (mergedInputs srcAll srcFilterT).map (·.name) = ["q", "color"] ∧
    ∀ v, Mem (Env.ofFile srcF) v (globalise (Decls.ofFile srcF) [Target.resolverInput.name] []
        ((Ctx.new exCfg srcR .resolverInput).leaf "Filter")) ↔
      ∃ kvs, v = .obj kvs ∧
        RecordSpec ((mergedInputs srcAll srcFilterT).map fun f =>
          (f.name, exCfg.optionalInput && !f.ty.isNonNull, Conf (Ref exCfg ⟨refMerge srcAll⟩ .resolverInput) f.ty)) kvs :=
  ⟨by decide +kernel, C10_from_sources_input exCfg srcAll srcR srcF srcR_ok srcF_ok srcR_docOK .resolverInput srcFilterT
    (srcAll_defs _ (by simp [srcDefs])) rfl rfl⟩

/-- the scalar with a configured type: `Date` is `Date | string` where it is sent … -/
example : ∀ v, Mem (Env.ofFile srcF) v (globalise (Decls.ofFile srcF) [Target.operationInput.name] []
        ((Ctx.new exCfg srcR .operationInput).leaf "Date")) ↔
      ∃ sc, (exCfg.optionScalar? "Date").orElse
          (fun _ => directiveScalar? { srcDateT with dirs := mergedDirs srcAll srcDateT }) = some sc ∧
        Mem Env.empty v (exCfg.parseOf (sc.getType .operationInput)) :=
  C10_from_sources_scalar exCfg srcAll srcR srcF srcR_ok srcF_ok srcR_docOK .operationInput srcDateT
    (srcAll_defs _ (by simp [srcDefs])) rfl

/-- … the schema type `Date` being renamed in the file, because the configured text mentions the identifier `Date` -/
example : (Ctx.new exCfg srcR .operationInput).local "Date" = "__tmp_Date" := by decide +kernel

/-- a built-in scalar the CLI appended is a defined type like any other -/
example : ∀ v, Mem (Env.ofFile srcF) v (globalise (Decls.ofFile srcF) [] [] (.qref [Target.resolverOutput.name, "ID"]))
      ↔ Ref exCfg ⟨refMerge srcAll⟩ .resolverOutput "ID" v :=
  C10_from_sources_qualified exCfg srcAll srcR srcF srcR_ok srcF_ok srcR_docOK .resolverOutput
    { kind := .scalar, name := "ID", namePos := CliSchema.bp, pos := CliSchema.bp }
    (by simp [srcAll, CliSchema.builtins, CliSchema.bScalar]) rfl

/-- the same two files in the other order (definitions first): a permutation of the items that keeps the order of the
    extensions of every name -/
theorem srcSwapped_perm : ((srcFile0 ++ srcFile1) ++ CliSchema.builtins).Perm srcAll ∧
    KeepsExtOrder ((srcFile0 ++ srcFile1) ++ CliSchema.builtins) srcAll :=
  ⟨List.Perm.append_right _ List.perm_append_comm, rfl, fun k n => by
    simp only [srcAll, typeExts_append]
    have h0 : typeExts k n srcFile0 = [] := by
      simp [typeExts, srcFile0]
    rw [h0, List.append_nil, List.nil_append]⟩

/-- order independence, instantiated: the swapped project resolves, satisfies the side condition, and every alias of
    its file means what it means in `srcF` -/
example : ∃ R', resolve ((srcFile0 ++ srcFile1) ++ CliSchema.builtins) = .ok R' ∧ DocOK exCfg R' ∧
      ∀ F', schemaFile exCfg R' = .ok F' →
        ∀ (t : Target) (td : TypeDef), TsItem.typeDef td ∈ srcAll → kindFits td.kind t = true → ∀ v,
          (Mem (Env.ofFile F') v (globalise (Decls.ofFile F') [t.name] [] ((Ctx.new exCfg R' t).leaf td.name)) ↔
           Mem (Env.ofFile srcF) v (globalise (Decls.ofFile srcF) [t.name] [] ((Ctx.new exCfg srcR t).leaf td.name))) :=
  C10_from_sources_perm exCfg srcAll srcR srcF srcR_ok srcF_ok srcR_docOK _ srcSwapped_perm.1 srcSwapped_perm.2

/-- nothing lost / invented, instantiated: 9 user definitions + 5 built-in scalars, the 6 extensions are gone -/
example : (typeDefsOf srcR).length = 14 ∧ srcAll.length = 25 :=
  ⟨(C10_sources_types srcAll srcR srcR_ok).2.2.trans (by decide +kernel), by decide +kernel⟩

/-- the first clause of `C10_resolvers_from_sources` at `Query`: its entry of the `Resolvers` record has one resolver per
    field of `mergedFields srcAll srcQueryT` (four of them: `srcQuery_fields`) -/
example := (C10_resolvers_from_sources srcAll srcR srcR_ok).1 srcQueryT (by simp [srcAll, srcFile0]) rfl

/-- the printer succeeds on the example because every scalar of the sources has a type (here: through the configuration
    and the built-in mappings) -/
example : ∀ td, TsItem.typeDef td ∈ srcAll → td.kind = .scalar →
    ((exCfg.optionScalar? td.name).orElse
      (fun _ => directiveScalar? { td with dirs := mergedDirs srcAll td })).isSome = true :=
  (C10_sources_print_ok_iff exCfg srcAll srcR srcR_ok srcR_docOK.distinct).mp ⟨srcF, srcF_ok⟩

/-- `extend schema` and `extend scalar … @nitrogql_ts_type`: a second small project in which the root operation types
    and the TypeScript type of a scalar come from extensions only -/
def src2 : TsDoc :=
  [.schemaExt { roots := [(.mutation, "M", {})] },
   .typeExt { kind := .scalar, name := "Money",
              dirs := [{ name := "nitrogql_ts_type",
                         args := [("resolverInput", {}, .str "bigint" {}), ("resolverOutput", {}, .str "bigint" {}),
                                  ("operationInput", {}, .str "string" {}), ("operationOutput", {}, .str "string" {})] }] },
   .schemaDef { roots := [(.query, "Q", {})] },
   .typeDef { kind := .scalar, name := "Money" },
   .typeDef { kind := .object, name := "Q", fields := [{ name := "price", ty := .named "Money" {} }] },
   .typeDef { kind := .object, name := "M", fields := [{ name := "pay", ty := .named "Money" {} }] }]
    ++ CliSchema.builtins

def src2R : TsDoc := match resolve src2 with | .ok R => R | .error _ => []
theorem src2R_ok : resolve src2 = .ok src2R :=
  eq_ok_of_isOk (by decide +kernel) fun _ e => by rw [src2R, e]
def src2F : File := match schemaFile {} src2R with | .ok f => f | .error _ => []
theorem src2F_ok : schemaFile {} src2R = .ok src2F :=
  eq_ok_of_isOk (by decide +kernel) fun _ e => by rw [src2F, e]

example : src2F.head? = some (.type true "__nitrogql_schema" []
    (.obj [("query", false, false, .ref "Q"), ("mutation", false, false, .ref "M")])) :=
  C10_sources_schema_metadata {} src2 src2R src2F src2R_ok src2F_ok { roots := [(.query, "Q", {})] } (by simp [src2])

/-- the scalar `Money` has no configuration entry: its type comes from the directive of `extend scalar Money` -/
example : (({} : Cfg).optionScalar? "Money").orElse
      (fun _ => directiveScalar? { ({ kind := .scalar, name := "Money" } : TypeDef) with
        dirs := mergedDirs src2 { kind := .scalar, name := "Money" } })
    = some (.separate "bigint" "bigint" "string" "string") := by decide +kernel

/-- the resolvers file: the field `search`, declared only by `extend type Query`, has its resolver; `Result` … -/
example : ∀ v, Mem (Env.ofFiles (ResolverDecls.resolversFile exCfg srcR) [(ResolverDecls.schemaSource, srcF)]).withStd v
      (globalise (Decls.ofFiles (ResolverDecls.resolversFile exCfg srcR) [(ResolverDecls.schemaSource, srcF)]) [] []
        (tsOf .ref false srcSearchF.ty))
      ↔ ∃ k, conf (refResolverOut exCfg ⟨refMerge srcAll⟩ k) srcSearchF.ty v = true :=
  C10_resolver_result_from_sources exCfg srcAll srcR srcF srcR_ok srcF_ok srcR_docOK srcR_resolversOK srcQueryT
    (srcAll_defs _ (by simp [srcDefs])) rfl srcSearchF (by rw [srcQuery_fields]; simp)

/-- … and `Args` (`filter: Filter` — an input object that itself has an extension — and `first: Int`, a built-in) -/
example : ∀ v, Mem (Env.ofFiles (ResolverDecls.resolversFile exCfg srcR) [(ResolverDecls.schemaSource, srcF)]).withStd v
      (globalise (Decls.ofFiles (ResolverDecls.resolversFile exCfg srcR) [(ResolverDecls.schemaSource, srcF)]) [] []
        (ResolverDecls.argsType srcSearchF.args))
      ↔ ∃ n, refArgs exCfg ⟨refMerge srcAll⟩ n srcSearchF.args v = true :=
  C10_resolver_args_from_sources exCfg srcAll srcR srcF srcR_ok srcF_ok srcR_docOK srcR_resolversOK srcQueryT
    (srcAll_defs _ (by simp [srcDefs])) rfl srcSearchF (by rw [srcQuery_fields]; simp)
    (by
      intro a ha
      simp only [srcSearchF, List.mem_cons, List.not_mem_nil, or_false] at ha
      rcases ha with rfl | rfl
      · exact ⟨srcFilterT, srcAll_defs _ (by simp [srcDefs]), rfl, rfl⟩
      · exact ⟨{ kind := .scalar, name := "Int", namePos := CliSchema.bp, pos := CliSchema.bp },
          by simp [srcAll, CliSchema.builtins, CliSchema.bScalar], rfl, rfl⟩)

end NitroVerif.Props.C10
