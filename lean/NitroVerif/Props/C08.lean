import NitroVerif.Lemmas.Shape
import NitroVerif.Lemmas.ShapeInv
import NitroVerif.Lemmas.BuildWalkValue
import NitroVerif.Lemmas.ParseNoPanic
/-!
# C08 — no input text can make the toolchain panic (parser part: grammar ⇒ builder preconditions)

Property theorems only. The builders of nitrogql-parser take pairs apart with positional matchers that panic on
any child sequence they do not expect (`parts!`, `only_child`, `all_children`, two hand-written loops). The
claim "the grammar guarantees the builders' preconditions" is a claim over all inputs; here it is decided by a
verified reflection over the GENERATED grammar (`Gen/Grammar.lean`) and the GENERATED pattern table
(`Gen/Parts.lean`), so an edit of grammar.pest or of a builder re-opens the obligation on the next run.

Model: `Model/Shape.lean` (shapes, automata, abstract interpretation), `Model/Build.lean` (the builders),
`Model/Peg.lean` (the parser). Tied to the code by translators + the K stream of `harness/src/bin/c07.rs`, `c08.rs`.
-/
namespace NitroVerif.C08
open NitroVerif.Peg NitroVerif.Shape NitroVerif.Gen NitroVerif.Gen.Parts NitroVerif.Build

/-- Soundness of the reflection: if the abstract interpretation accepts, then the matcher of pattern `p` does not
    panic on ANY child sequence in the language of `e`. -/
theorem accepts_sound (p : Pattern) (e : Re) (h : accepts p e = true) :
    ∀ w, Mem e w → p.matches w = true := by
  intro w hw
  cases p with
  | parts items => exact acceptsA_sound _ _ e h w hw
  | onlyChild allowed => exact acceptsA_sound _ _ e h w hw
  | allChildren r => exact acceptsA_sound _ _ e h w hw
  | headThenAll hd r => exact acceptsA_sound _ _ e h w hw
  | anyChildren => rfl

/-- Every builder pattern extracted from the Rust sources accepts every child sequence its subject rule can
    produce according to the generated grammar. Evaluated by the kernel over the 75 pattern sites.
    (On the pinned tree this was false for `OperationDefinition`: see `shorthand_pinned_counterexample`.) -/
theorem builders_total :
    ∀ e ∈ builderTable, accepts e.pat (ruleShape gList e.subject) = true :=
  builderTable_accepts

/-- … hence no extracted matcher panics on any child sequence in the shape of its subject rule. -/
theorem builders_match (e : Entry) (he : e ∈ builderTable) :
    ∀ w, Mem (ruleShape gList e.subject) w → e.pat.matches w = true :=
  accepts_sound e.pat _ (builders_total e he)

/-- For `parts!` sites, in terms of the builder model itself: `matchParts` (what `Model/Build.lean` runs, and
    what K compares with the real macro) succeeds on every list of pairs whose rules are in the shape. -/
theorem parts_no_panic (e : Entry) (he : e ∈ builderTable) (items : List Item) (hp : e.pat = .parts items)
    (cs : List Pair) (hcs : Mem (ruleShape gList e.subject) (cs.map Pair.rule)) :
    (matchParts items cs).isOk = true := by
  have h := builders_match e he _ hcs
  rw [hp] at h
  rw [matchParts_ok items cs items.length]
  exact h

/-- For ANY grammar table, depth bounds, rule, atomicity and cursor — whatever a rule call
    of the interpreter returns (outside lookahead), the rules of the returned top-level pairs are a word of the
    computed shape of the call, and every pair in the returned trees, at any depth, has children in `ruleShape` of
    its own rule. (Induction on the interpreter's depth bound over its four mutually recursive functions.) -/
theorem run_children_in_shape (g : G) (fuel F : Nat) (r : RuleId) (at_ : Atomicity) (tr : Tr) (c : Cur)
    (tr' : Tr) (c' : Cur) (ps : List Pair) (h : callRule g fuel r at_ .none tr c = (tr', .ok c' ps)) :
    Mem (callShape g F r at_) (ps.map Pair.rule) ∧ ∀ p ∈ ps, DeepOk g p :=
  ⟨(memInv g fuel).cr F _ _ _ _ _ _ _ h, (deepInv g fuel).cr _ _ _ _ _ _ _ h⟩

/-- every positional matcher the builders apply to pairs of rule `r` accepts the child-rule word `w` -/
def MatchersAccept (r : RuleId) (w : List RuleId) : Prop :=
  ∀ e ∈ builderTable, e.subject = r → e.pat.matches w = true

/-- The matcher part of `parse_no_panic`, for ALL inputs: in the pair tree of a successful parse of ANY text with the
    generated grammar (any start rule, any depth bound), at every pair of the tree every `parts!` / `only_child` (+
    dispatch arms) / `all_children` / hand-written loop that the builders apply to pairs of that rule succeeds.
    This is the kernel-checked "the builders' matchers never panic on anything the grammar produces":
    `run_children_in_shape` + `accepts_sound` + `builders_total` (the latter re-evaluated over the regenerated
    grammar and patterns on every run). -/
theorem parsed_pairs_match_patterns (fuel : Nat) (r : RuleId) (input : List Char) (ps : List Pair)
    (h : Peg.parse gList fuel r input = .pairs ps) : ∀ p ∈ ps, Deep MatchersAccept p := by
  intro p hp
  refine Deep.mono ?_ (parse_deepOk gList fuel r input ps h p hp)
  intro r w hw e he hr
  exact builders_match e he w (hr ▸ hw)

/-- the same for the `parts!` sites, on the automaton that `matchParts` of the builder model runs (`partsAuto`; `matchParts_ok`
    says that `matchParts` returns `ok` exactly when it accepts, which is how `parts_no_panic` above is stated on `matchParts`
    itself): at every pair of a parse tree it accepts the rules of the pair's children, for any `parts!` pattern extracted for
    the pair's rule -/
theorem parsed_pairs_parts_ok (fuel : Nat) (r : RuleId) (input : List Char) (ps : List Pair)
    (h : Peg.parse gList fuel r input = .pairs ps) :
    ∀ p ∈ ps, Deep (fun r w => ∀ e ∈ builderTable, e.subject = r → ∀ items, e.pat = .parts items →
      (partsAuto items.length).ok items w = true) p := by
  intro p hp
  refine Deep.mono ?_ (parsed_pairs_match_patterns fuel r input ps h p hp)
  intro r w hw e he hr items hpat
  have := hw e he hr
  rw [hpat] at this
  exact this

/-- An instance of the walk through the builders at trees of which only the shapes are known: for ANY input text, any start
    rule and depth bounds, any `ctx`, `build_type`
    (builder/type.rs: four `only_child` sites and two dispatches) applied to ANY `Type` pair anywhere in the parse
    tree returns a type or hits the model's own depth bound — it never reaches one of its panic arms. -/
theorem buildType_no_panic (fuel : Nat) (r : RuleId) (input : List Char) (ps : List Pair)
    (h : Peg.parse gList fuel r input = .pairs ps) (ctx : Ctx) (bfuel : Nat) :
    ∀ q ∈ flatList ps, q.rule = R.«Type» → NoPanic (buildType ctx bfuel q) := by
  intro q hq hr
  obtain ⟨p, hp, hqp⟩ := mem_flatList hq
  exact buildType_noPanic ctx bfuel ((parse_deepOk gList fuel r input ps h p hp).sub q hqp) hr

/-- More instances of that walk (`walk_safe`): for ANY input text, the value, string, argument and directive builders (builder/value.rs,
    base.rs, directives.rs: 14 matcher / dispatch sites, mutually recursive through lists and objects) applied to
    any pair of their rule anywhere in the parse tree cannot end in a matcher or dispatch panic (`Safe`): the only
    error values left in the model are the text-dependent sites `TextPanic` (escape decoding — discharged after
    validation by `validated_escape_decodes` — `split_at`, `chars().next()`) and the model's own depth bound. -/
theorem value_builders_no_matcher_panic (fuel : Nat) (r : RuleId) (input : List Char) (ps : List Pair)
    (h : Peg.parse gList fuel r input = .pairs ps) (ctx : Ctx) (bfuel : Nat) :
    ∀ q ∈ flatList ps,
      (q.rule = R.Value → Safe (buildValue ctx bfuel q)) ∧
      (q.rule = R.StringValue → Safe (buildStringValue ctx q)) ∧
      (q.rule = R.Arguments → Safe (buildArguments ctx bfuel q)) ∧
      (q.rule = R.Directives → Safe (buildDirectives ctx bfuel q)) := by
  intro q hq
  obtain ⟨p, hp, hqp⟩ := mem_flatList hq
  have hd := (parse_deepOk gList fuel r input ps h p hp).sub q hqp
  exact ⟨safe_buildValue ctx bfuel q hd, safe_buildStringValue ctx q hd, safe_buildArguments ctx bfuel q hd,
    safe_buildDirectives ctx bfuel q hd⟩

/-- the hypothesis `hp` of `parts_no_panic` can be met: a `parts!` site, with two items -/
example : ∃ e ∈ builderTable, ∃ items, e.pat = .parts items ∧ items.length = 2 :=
  ⟨builderTable[4], List.getElem_mem _, _, rfl, rfl⟩

/-- the pattern `build_executable_definition` had on the pinned tree (OperationType required) -/
def pinnedOperationDefinitionPattern : List Item :=
  [.req R.OperationType, .opt R.Name, .opt R.VariablesDefinition, .opt R.Directives, .req R.SelectionSet]

/-- Finding v (repaired by fbd660b): with the pinned pattern the reflection FAILS, and the failing child sequence
    is the anonymous-query shorthand: `[SelectionSet]` is a child sequence of `OperationDefinition` and the pinned
    matcher panics on it ("Expected OperationType, actual SelectionSet"). -/
theorem shorthand_pinned_counterexample :
    accepts (.parts pinnedOperationDefinitionPattern) (ruleShape gList R.OperationDefinition) = false ∧
    matchesRe (ruleShape gList R.OperationDefinition) [R.SelectionSet] = true ∧
    Pattern.matches (.parts pinnedOperationDefinitionPattern) [R.SelectionSet] = false := by
  decide +kernel

/-- … while the repaired pattern (`OperationType opt`) accepts the shorthand. -/
theorem shorthand_repaired :
    Pattern.matches (.parts P_OperationDefinition) [R.SelectionSet] = true := by
  decide +kernel

/-! ### value lemmas (builder/value.rs): after `validate_unicode_escapes` the two panics of the `\u` arms are
    unreachable -/

/-- An escape (other than half of a surrogate pair) that passed the validation decodes: `u32::from_str_radix(..).unwrap()` and
    `char::from_u32(..).expect(..)` both succeed on its digits. (Findings w: `"\uD800"`, `"\u{110000}"`,
    more than 8 hex digits — repaired by 668f535.) -/
theorem validated_escape_decodes (digits : List Char) (h : escapeDenotesChar digits = true) :
    ∃ c, (parseHexU32 digits >>= charFromU32) = .ok c :=
  escape_decodes h

example : escapeDenotesChar ['1', 'F', '6', '0', '0'] = true := by decide +kernel

/-- (fix fff8e9c) The pair arm of `build_string_value`: the code `0x10000 + ((lead − 0xD800) << 10) + (trail − 0xDC00)` of a
    leading surrogate `0xD800..=0xDBFF` and a trailing surrogate `0xDC00..=0xDFFF` is ALWAYS a (supplementary) scalar value,
    so `char::from_u32(code).expect("Invalid character code")` in that arm cannot panic. -/
theorem surrogate_pair_decodes (lead trail : Nat) (h1 : isLeadSurrogate lead = true) (h2 : isTrailSurrogate trail = true) :
    charFromU32 (surrogatePairCode lead trail) = .ok (Char.ofNat (surrogatePairCode lead trail)) ∧
      0x10000 ≤ surrogatePairCode lead trail ∧ surrogatePairCode lead trail ≤ 0x10FFFF := by
  obtain ⟨hv, hlo, hhi⟩ := surrogatePair_valid h1 h2
  exact ⟨by simp [charFromU32, hv], hlo, hhi⟩

example : isLeadSurrogate 0xD83D = true ∧ isTrailSurrogate 0xDE00 = true ∧ surrogatePairCode 0xD83D 0xDE00 = 0x1F600 := by
  decide

/-- (fix fff8e9c) A string that passed the loop of `validate_unicode_escapes` decodes: for the `StringCharacter` pairs `l` of a
    `NormalStringValue` of any parse tree (`CharsOk`: pairs of the tree, in the shape of their rule, witnessed by the
    grammar), if the validation loop over their characters finds nothing (`scanEscapes … = none`: every `\u` escape denotes
    a scalar value or is half of a surrogate pair `\uHHHH\uLLLL` inside this string), the loop of `build_string_value` —
    which peeks for a trailing surrogate after every `\uXXXX` — ends in a value: none of its `unwrap` / `expect` sites is
    reached. -/
theorem validated_string_decodes (inp : List Char) (l : List Pair) (hl : CharsOk inp l)
    (hv : scanEscapes (Ctx.spec inp) none (l.flatMap Pair.children) = none) :
    Quiet (decodeChars (Ctx.spec inp) false l) :=
  (quiet_decodeChars l hl).1 hv

/-- the escapes of findings w are exactly what the validation rejects -/
theorem invalid_escapes_rejected :
    escapeDenotesChar ['D', '8', '0', '0'] = false ∧
    escapeDenotesChar ['1', '1', '0', '0', '0', '0'] = false ∧
    escapeDenotesChar ['1', '2', '3', '4', '5', '6', '7', '8', '9'] = false ∧
    escapeDenotesChar ['0', '0', '0', '0', '0', '0', '0', '0', '0', '4', '1'] = true := by
  decide +kernel

/-! ### observation z (DESIGN §9): nested list types parse in exponentially many steps -/

/-- `[`ⁿ `Int` `]`ⁿ -/
def nestedListType (n : Nat) : List Char :=
  List.replicate n '[' ++ ['I', 'n', 't'] ++ List.replicate n ']'

def typeSteps (n : Nat) : Nat :=
  (runTr gList (4096 * 64) R.«Type» (nestedListType n)).1.steps

/-- the number of rule calls of the PEG run on a list type nested `n` deep is at least 2ⁿ (checked for
    n ≤ 6; the cause is `NonNullType = (NamedType "!") | (ListType "!")` tried before `ListType` at every level).
    An observation about cost outside "ordinary limits", not a violation; the harness keeps list types shallow. -/
theorem parse_steps_nested_list : ∀ n ∈ [1, 2, 3, 4, 5, 6], 2 ^ n ≤ typeSteps n := by
  decide +kernel

/-- The text-dependent panic sites of the builders are unreachable — for ANY input, start rule
    and depth bound, at every pair `q` of the parse tree: an `OperationType` pair's text is one of the three keywords
    (`str_to_operation_type` returns), an `EscapedCharacter` pair's text is a known escape ("Unknown escape sequence" is
    not reached), a `BlockStringValue` pair has at least 6 characters and an `EscapedUnicode4` pair at least 2 (the
    `split_at` calls are in range), a `NormalStringCharacter` pair is not empty (`chars().next().unwrap()`), and an
    `EscapedUnicodeBrace` pair has exactly one child whose text is the pair's text without `\u{` and `}` (what
    `validate_unicode_escapes` checked is what the builder decodes). Derived from the witness of each pair (the
    evaluation of its rule's body, `Lemmas/ParseWit.lean`) and the rule bodies of the GENERATED grammar. -/
theorem pair_text_preconditions (fuel : Nat) (r : RuleId) (input : List Char) (ps : List Pair)
    (h : Peg.parse gList fuel r input = .pairs ps) : ∀ q ∈ flatList ps,
      (q.rule = R.OperationType → ∃ k, strToOperationType (asStr (Ctx.spec input) q) = .ok k) ∧
      (q.rule = R.EscapedCharacter → ∃ ch, escapedChar (asStr (Ctx.spec input) q) = .ok ch) ∧
      (q.rule = R.BlockStringValue → 6 ≤ (asStr (Ctx.spec input) q).length) ∧
      (q.rule = R.EscapedUnicode4 → 2 ≤ (asStr (Ctx.spec input) q).length) ∧
      (q.rule = R.NormalStringCharacter → ∃ d, asStr (Ctx.spec input) q = [d]) ∧
      (q.rule = R.EscapedUnicodeBrace → ∃ d, q.children = [d] ∧ asStr (Ctx.spec input) d =
        ((asStr (Ctx.spec input) q).drop 3).take ((asStr (Ctx.spec input) q).length - 4)) := by
  intro q hq
  obtain ⟨p, hp, hqp⟩ := mem_flatList hq
  have hw : Wit gList input q :=
    flat_hered (fun hw hc => hw.children _ hc) p (parse_wit gList fuel r input ps h p hp) q hqp
  exact ⟨ParseText.operationType_ok hw, ParseText.escapedCharacter_ok hw, ParseText.blockString_len hw,
    ParseText.unicode4_len hw, ParseText.normalChar_text hw, ParseText.unicodeBrace_child hw⟩

/-- the hypothesis of `pair_text_preconditions` is satisfiable -/
example : (match Peg.parse gList 64 R.OperationType "query".toList with
    | .pairs [.mk r 0 5 [_]] => r == R.OperationType
    | _ => false) = true := by decide +kernel

/-- NO input text makes the model of `parse_operation_document` or of
    `parse_type_system_document` end in a panic: every result is a document, a `ParseError` with a position, or the
    model's own depth bound (`outOfFuel`, which is not a behaviour of the Rust code) — never `Outcome.panic`.
    The walk goes through ALL builder functions of `Model/Build.lean` (strings, values, arguments, directives, types,
    selection sets, variable definitions, operations, fragments, `#import`, descriptions, input values, fields, enum
    values, implements-lists, the six type definitions and six type extensions, schema definitions / extensions,
    directive definitions, both documents): each is only handed a pair of its subject rule, every matcher succeeds
    (`run_children_in_shape` + the kernel-evaluated `accepts` of every extracted pattern against the shape of the
    GENERATED grammar), every text-dependent site has its precondition (`pair_text_preconditions`), and the `\u` arms
    decode because `validate_unicode_escapes` passed (`validated_string_decodes`; since fix fff8e9c the validation runs per
    string and accepts a surrogate pair `\uHHHH\uLLLL`, which the builder combines — `surrogate_pair_decodes`). -/
theorem parse_no_panic (input : List Char) :
    (parseOp input).isPanic = false ∧ (parseTs input).isPanic = false :=
  ⟨parseWith_noPanic R.ExecutableDocument buildOperationDocument input look_ExecutableDocument (by decide)
      (fun _ n hg hr => quiet_buildOperationDocument n hg hr),
    parseWith_noPanic R.TypeSystemExtensionDocument buildTypeSystemDocument input look_TypeSystemExtensionDocument
      (by decide) (fun _ n hg hr => quiet_buildTypeSystemDocument n hg hr)⟩

/-- The witnesses of findings w and v, a surrogate pair and a lead without its trail in one string: on none of the six texts does the
    model parser end in a panic (instances of `parse_no_panic`; what it returns instead is not part of the statement). -/
theorem witnesses_are_diagnostics :
    (parseOp "query { a(s: \"\\uD800\") }".toList).isPanic = false ∧
    (parseOp "query { a(s: \"\\u{110000}\") }".toList).isPanic = false ∧
    (parseOp "query { a(s: \"\\u{123456789}\") }".toList).isPanic = false ∧
    (parseOp "{ a }".toList).isPanic = false ∧
    (parseOp "query { a(s: \"\\uD83D\\uDE00\") }".toList).isPanic = false ∧
    (parseOp "query { a(s: \"\\uD83D\") b(t: \"\\uDE00\") }".toList).isPanic = false :=
  ⟨(parse_no_panic _).1, (parse_no_panic _).1, (parse_no_panic _).1, (parse_no_panic _).1, (parse_no_panic _).1,
    (parse_no_panic _).1⟩

/-- `parse_no_panic` at a text with a variable definition, a default value, directives, a `\u{…}` escape, an object value,
    a fragment spread and an inline fragment -/
example : (parseOp "query Q($v: [Int!] = [1, 2]) @d(a: \"x\\u{1F600}\") { a: b(x: {k: $v}) { ...F ... on T { c } } }".toList).isPanic
    = false := (parse_no_panic _).1

/-
The later stages are in `Props/C08Stages.lean`: `resolveExt_total`, `resolveImports_total`, `checkOp_total`, `checkTs_total`,
`generate_total_partial` (the unconditional `generate_total` is FALSE: `generate_total_counterexample` — same response key
for a leaf and an object —, `generate_shadowed_skip_counterexample`), `render_error_total`, `loader_total`,
`js_printers_total`, `schemaDecls_lookups_total`, `pipeline_no_panic_partial`; its OPEN block says what is left there.

OPEN — carried by K/O only (stated, not proved), for the parser part:

What `parse_no_panic` does NOT say: (1) it is about the MODEL (`Model/Peg.lean` + `Model/Build.lean`, generated tables);
that the model's outcome — including the panic site — equals the real parser's on every text is the K stream;
(2) `outOfFuel` is excluded from "panic" by definition of `Outcome.isPanic`; that the depth bounds `defaultFuel` /
`4·|input| + 64` are never hit is not proved (never observed on any K text); (3) the compiled driver runs the
array-backed `parseOpFast` / `parseTsFast`, for which nothing is stated here: they use `Ctx.ofInput` and `gArr`, which agree with
`Ctx.spec` / `gList` on every offset of the input (`C07.driver_tables_agree`).
-/

end NitroVerif.C08
