/-
C01 — generated result types admit every spec-conformant response.

The statement about the generated files is `C01_pipeline_end_to_end` (Props/C01Closed.lean).  This file is the refinement
theorem it rests on, under hypotheses: `Hyp` (the schema declaration file), `TypeNamesNodup`, `Coh` (coherence of the
document), the model returned a tree, fuels.

Objects: `Exec` (Spec/Exec.lean: responses of spec execution), `implTree`/`toTs` (Model/OpTypes.lean: the printer),
`Mem` (Lemmas/TsSem.lean over Ts/Sem.lean + Ts/SelSem.lean: the values a TypeScript type admits — trusted reading).

Besides the refinement theorem `impl_eq_refLocal` (the type emitted for a selection set denotes exactly `RefLocal`;
`C01_admits_every_response` is its ⊆ direction composed with `exec_sub_refLocal`, Props/C02.lean takes the ⊇ direction) and
`impl_no_panic`: kernel-checked witnesses of the two defects of the pinned code that made C01 false (§9-a, repaired in /repo
0bbdfa6; §9-c, repaired in 72cec20) and of the one the refinement proof itself found (an alias equal to the field's own name
was typed apart from the unaliased selections of the field; repaired in /repo dda35cd), each paired with the proof that the
repaired model admits the response.  What K/O still carry is listed in the block at the end.
-/
import NitroVerif.Lemmas.OpTypes
import NitroVerif.Lemmas.OpTypesDen
import NitroVerif.Lemmas.TsSemSound
import NitroVerif.Lemmas.OpTypesRefWitness
import NitroVerif.Lemmas.OpTypesRefCex
import NitroVerif.Lemmas.OpTypesRefCheck
import NitroVerif.Lemmas.OpTypesRefNoPanic
namespace NitroVerif.Props.C01
open NitroVerif.Gql NitroVerif.Ts NitroVerif.OpTypes NitroVerif.OpTypes.W NitroVerif.Exec

/-- Every response of a spec execution under one assignment σ of the Boolean variables is also a response when σ may
    be re-chosen at every selection set (C02's reference set contains C01's). -/
theorem execN_sub_refLocalN (c : Ctx) (σ : Sigma) :
    ∀ n obj ss v, ExecN c σ n obj ss v → RefLocalN c n obj ss v := by
  intro n
  induction n with
  | zero => intro _ _ _ h; exact h
  | succ n ih =>
    intro obj ss v h
    obtain ⟨g, hg, Rb, hR, hs⟩ := h
    exact ⟨σ, g, hg, Rb, fun o s x hx => ih o s x (hR o s x hx), hs⟩

/-- `Exec ⊆ RefLocal` -/
theorem exec_sub_refLocal (c : Ctx) (σ : Sigma) (obj : Name) (ss : List Selection) (v : J)
    (h : Exec c σ obj ss v) : RefLocal c obj ss v := by
  obtain ⟨n, hn⟩ := h
  exact ⟨n, execN_sub_refLocalN c σ n obj ss v hn⟩

/-- The executable decider of the O stream only accepts genuine responses: `execMem … = true → Exec …`. -/
theorem execMem_sound (c : Ctx) (σ : Sigma) :
    ∀ n obj ss v, execMem c σ n obj ss v = true → ExecN c σ n obj ss v := by
  intro n
  induction n with
  | zero => intro _ _ _ h; simp [execMem] at h
  | succ n ih =>
    intro obj ss v h
    simp only [execMem] at h
    split at h
    · rename_i g hg
      exact ⟨g, hg, execMem c σ n, ih, h⟩
    · simp at h

/-- non-vacuity: the witness document `{ a { x } a { y @skip(if: $v) } }` has the response `a: { x: 1 }` for v = true -/
example : Exec W.ctx (sigmaOf [("v", true)]) "Query" W.selA (.obj [("a", .obj [("x", .num)])]) :=
  ⟨3, execMem_sound _ _ 3 _ _ _ W.execMem_selA⟩

/-- Branch enumeration (`generate_branching_conditions`) covers every pair (possible object type, total assignment of
    the selection set's Boolean variables) and nothing else. -/
theorem branches_cover {S : Schema} {F : Frags} {fuel : Nat} {ss : List Selection} {p : Name}
    {cs : List Cond} {objs : List TypeDef} {vars : List Name}
    (ho : parentObjects S p = .ok objs) (hv : boolVars F fuel ss = .ok vars)
    (hc : branchConds S F fuel ss p = .ok cs) :
    (∀ c ∈ cs, c.obj ∈ objs ∧ c.vars.map Prod.fst = vars) ∧
    (∀ o ∈ objs, ∀ a : List (Name × Bool), a.map Prod.fst = vars → ∃ c ∈ cs, c.obj = o ∧ c.vars = a) := by
  obtain ⟨objs', vars', ho', hv', hmem⟩ := Ref.branchConds_mem hc
  rw [ho] at ho'; rw [hv] at hv'; cases ho'; cases hv'
  exact ⟨fun c hcm => (hmem c).1 hcm, fun o ho a ha => ⟨⟨o, a⟩, (hmem _).2 ⟨ho, ha⟩, rfl, rfl⟩⟩

/-- the hypotheses of `branches_cover` are satisfiable: the witness selection `{ y @skip(if: $v) }` on `A` has the two
    branches (A, v=false), (A, v=true) -/
example : ∃ cs, branchConds W.S W.noFrags 8 W.selYskip "A" = .ok cs ∧ cs.map (·.vars) = [[("v", false)], [("v", true)]] :=
  ⟨_, rfl, rfl⟩

/-- the parent objects of a branch enumeration are the possible runtime types of the parent (object and union
    parents only: for an interface both sides list the object types that declare it, in schema order, which is compared by
    K only) -/
theorem parentObjects_possibleTypes {S : Schema} {p : Name} {t : TypeDef} {objs : List TypeDef}
    (ht : S.typeDef? p = some t) (hk : t.kind = .object ∨ t.kind = .union)
    (h : parentObjects S p = .ok objs) : objs.map (·.name) = S.possibleTypes p := by
  unfold parentObjects at h
  simp only [ht] at h
  unfold Schema.possibleTypes
  simp only [ht]
  rcases hk with hk | hk
  · simp only [hk] at h ⊢
    cases h; rfl
  · simp only [hk] at h ⊢
    exact mapM_member_names S t.members objs h

/-- the hypotheses are satisfiable: the witness object type `A` -/
example : ∃ objs, parentObjects W.S "A" = .ok objs ∧ objs.map (·.name) = W.S.possibleTypes "A" := ⟨_, rfl, rfl⟩

/-- `check_skip_directive` under a branch's assignment decides exactly the specification's `@skip`/`@include` test under
    that assignment read as σ — whenever the code does not panic, with no further hypothesis. -/
theorem checkSkip_agrees_with_spec (vars : List (Name × Bool)) (ds : List Directive) (b : Bool)
    (h : checkSkip vars ds = .ok b) : b = !included (sigmaOf vars) ds :=
  checkSkip_reads (fun v k b hf => by simp [sigmaOf, hf]) ds b h

/-- `check_fragment_condition` decides exactly DoesFragmentTypeApply (spec §6.3.2) for the branch's object type. -/
theorem fragmentApplies_agrees_with_spec (S : Schema) (obj : TypeDef) (cond : Name) (b : Bool)
    (hobj : S.typeDef? obj.name = some obj) (h : fragmentApplies S obj cond = .ok b) :
    b = fragmentTypeApplies S obj.name cond :=
  fragmentApplies_spec S obj cond b hobj h

/-- the hypotheses are satisfiable: `@skip(if: $v)` under v = true on the witness, and `A` against itself -/
example : checkSkip [("v", true)] [W.skipV] = .ok true ∧
    (W.S.typeDef? "A").isSome = true ∧ ∃ o, W.S.typeDef? "A" = some o ∧ fragmentApplies W.S o "A" = .ok true :=
  ⟨rfl, rfl, _, rfl, rfl⟩

/-- **`toTs` is denotation-preserving.** For a well-formed selection tree (no empty branch list, every branch's type
    declared, aliased keys distinct and different from the unaliased ones) the TypeScript type `treeTs r t nn` admits
    exactly the values `DenTree` describes by recursion on the tree: `null` iff the position is nullable, lists
    element-wise, at an object position a record fitting one branch — for every unaliased field whose key the schema
    declaration declares and every aliased field a fitting value (`k?: never` = absent, `__typename` = the branch's
    type name, other leaves wrapper-exact, object fields recursively) and no other key. -/
theorem toTs_denotation {e : Env} {r : Refs} {orig : Name → Option (List Field)} (h : EnvOk e r orig)
    (t : SelTree) (nn : Bool) (v : J) (hw : WFTree orig t) :
    Mem e v (treeTs r t nn) ↔ DenTree e r orig t nn v :=
  den_tree h t nn v hw

/-- Binding time: resolving the references of the printed type (`globalise`) is the same as printing with resolved
    references — for ALL trees and declaration tables. -/
theorem toTs_closed (d : Decls) (ns : String) (t : SelTree) :
    globalise d [] [] (toTs ns t) = treeTs ((Refs.ofNs ns).close d) t false :=
  glob_tree d (Refs.ofNs ns) t false

/-- **The emitted type, read with the emitted schema declaration file, denotes the tree**: whenever
    `<ns>.__SelectionSet` resolves to a declaration carrying the prelude text, membership in the closed emitted type of
    a well-formed tree is `DenTree` with `keyof Orig` read off the declarations. -/
theorem toTs_denotation_emitted (d : Decls) (ns : String) (path : List String)
    (hsel : globalise d [] [] (.qref [ns, "__SelectionSet"]) = .other "abs" path)
    (hp : SelSem.isSelectionSet d path = true) (t : SelTree) (v : J)
    (hw : WFTree (fun tn => SelSem.origFields d 8 (((Refs.ofNs ns).close d).out tn)) t) :
    Mem { decls := d, appHook := SelSem.hook } v (globalise d [] [] (toTs ns t)) ↔
      DenTree { decls := d, appHook := SelSem.hook } ((Refs.ofNs ns).close d)
        (fun tn => SelSem.origFields d 8 (((Refs.ofNs ns).close d).out tn)) t false v := by
  rw [toTs_closed]
  exact den_tree (envOk_of_hook d ((Refs.ofNs ns).close d) path hsel hp
    (fun n => (globalise_qref_shape d [ns, "__OperationOutput", n]).1)
    (fun n => (globalise_qref_shape d [ns, "__OperationOutput", n]).2)) t false v hw

-- the witness examples of C01 / C02 carry this option in their text; as they are proved here they also check at the
-- default depth (what is deep is the `__SelectionSet` hook, which compares the 150-character prelude text at every
-- evaluation, not the witness)
set_option maxRecDepth 16384 in
/-- the hypotheses are satisfiable: the witness schema declaration file and the tree the repaired model builds -/
example : W.newTree = .ok W.witnessTree ∧
    globalise W.env.decls [] [] (.qref ["Schema", "__SelectionSet"]) = .other "abs" ["Schema", "__SelectionSet"] ∧
    SelSem.isSelectionSet W.env.decls ["Schema", "__SelectionSet"] = true ∧
    WFTree (fun tn => SelSem.origFields W.env.decls 8 (((Refs.ofNs "Schema").close W.env.decls).out tn)) W.witnessTree := by
  refine ⟨W.newTree_eq, rfl, W.isSelSet, ?_⟩
  have h : (SelSem.origFields W.env.decls 8 (((Refs.ofNs "Schema").close W.env.decls).out "A")).isSome = true := rfl
  simp [W.witnessTree, WFTree, WFBranches, WFBranch, WFFields, WFField, h]

/-! ### §9-a: sub-tree branches merged by type name only (pre-repair), and the repaired merge -/

/-- **Counterexample to C01 on the pinned code (§9-a).** For the document `{ a { x } a { y @skip(if: $v) } }` the
    pre-repair merge paired the single branch of `a { x }` with the FIRST branch (v = false) of `a { y @skip }` only, so
    the emitted type of `a` was `__SelectionSet<A, {x, y}, {}> | null`; the response `{ x: 1 }` that every
    spec-conformant server returns for v = true is NOT a member of it. -/
theorem merge_by_typename_counterexample :
    Exec W.ctx (sigmaOf [("v", true)]) "A" (W.selX ++ W.selYskip) respX ∧
    (oldTree.toOption.map fun t => W.close (toTs "Schema" t)) = some oldTy ∧
    ¬ Mem W.env respX oldTy := by
  refine ⟨⟨2, execMem_sound _ _ 2 _ _ _ (by decide +kernel)⟩, oldTree_ty, ?_⟩
  intro h
  simp only [oldTy, selSet, mem_union_iff] at h
  obtain ⟨t, ht, hm⟩ := h
  simp only [List.mem_cons, List.mem_nil_iff, or_false] at ht
  rcases ht with rfl | rfl
  · rw [mem_app_iff hookXY, mem_obj_iff] at hm
    obtain ⟨kvs, hk, h1, _⟩ := hm
    cases hk
    have hy := h1 ("y", false, false, tStr) (by simp [objXY]) (by simp)
    have hget : J.get [("x", J.num)] "y" = .absent := by rfl
    simp only [tStr, mem_union_iff] at hy
    obtain ⟨t, ht, hm⟩ := hy
    simp only [List.mem_cons, List.mem_nil_iff, or_false] at ht
    rcases ht with rfl | rfl
    · rw [mem_alias_iff bodyString, hget] at hm
      cases hm with
      | prim _ _ h => simp [primMem, J.isStr] at h
    · rw [mem_null_iff, hget] at hm; cases hm
  · rw [mem_null_iff] at hm; cases hm

/-- **The repaired merge (0bbdfa6) admits it**: branches are paired by type AND assignment, the type of `a` gets the
    second branch `{x, y?: never}` and `{ x: 1 }` is a member. -/
theorem merge_repaired_admits :
    (newTree.toOption.map fun t => W.close (toTs "Schema" t)) = some newTy ∧ Mem W.env respX newTy :=
  ⟨newTree_ty, respX_mem⟩

/-- the whole repaired pipeline on the witness document: the response for v = true is a member of the emitted type -/
theorem merge_repaired_document :
    ∃ t, implTree W.S W.noFrags 16 16 (.nonNull (.named "Query" {})) W.selA = .ok t ∧
      Mem W.env (.obj [("a", respX)]) (W.close (toTs "Schema" t)) :=
  ⟨_, rfl, (W.mem_selSet W.origQuery).2 (mem_obj_single respX_mem)⟩

/-! ### §9-c: an alias literally named `__typename` on another field (pre-repair `field_to_type`) -/

/-- **Counterexample to C01 on the pinned code (§9-c).** `{ __typename: name }` (`name: String!`): the tree field is the
    leaf `__typename : String!`; the pre-repair printer typed it as the literal `"Query"`, which excludes every real
    response `{ __typename: "<some name>" }`; the repaired printer types it `Schema.__OperationOutput.String`. -/
theorem alias_named_typename_counterexample :
    Exec W.ctx (sigmaOf []) "Query" W.selN (.obj [("__typename", .str "s")]) ∧
    fieldTree (W.S.typeDef? "Query").get! "__typename" "name" false none (fun _ _ => .error .outOfFuel)
      = .ok (.leaf "__typename" (.nonNull (.named "String" {})) false) ∧
    (fieldTsByKey "Schema" "Query" (.leaf "__typename" (.nonNull (.named "String" {})) false)).2.2.2 = .strLit "Query" ∧
    ¬ Mem W.env (.str "s") (.strLit "Query") ∧
    (fieldTs (Refs.ofNs "Schema") "Query" (.leaf "__typename" (.nonNull (.named "String" {})) false)).2.2.2
      = .qref ["Schema", "__OperationOutput", "String"] ∧
    Mem W.env (.str "s") (W.close (.qref ["Schema", "__OperationOutput", "String"])) := by
  refine ⟨⟨2, execMem_sound _ _ 2 _ _ _ (by decide +kernel)⟩, rfl, rfl, ?_, rfl, ?_⟩
  · rw [mem_strLit_iff]; intro h; injection h with h; exact absurd h (by decide)
  · apply memG_sound 4; decide +kernel

open NitroVerif.OpTypes.Ref in
/-- **`impl_eq_refLocal`.** Whenever the printer model returns a tree `T` for the selection set `ss` at the GraphQL type
    `ty`, the TypeScript type printed for `T` admits EXACTLY the values CompleteValue allows for `ty` when nested objects
    are responses of `RefLocal` (spec execution with the Boolean variables re-chosen per selection set): `null` iff
    nullable, lists element-wise, and at the object position the `RefLocal` responses of `ss` on some possible runtime
    object type.  Hypotheses (all about the INPUT, none about the model's run):
    `H` — the schema declaration file declares, for every object type, `__typename` and exactly its fields, a leaf type's
    declaration admits exactly the leaf's values and never `null` (C09/C10's subject), `__SelectionSet` has the prelude's
    reading, every composite type has a possible object type; `hnd` — type names are unique; `hC` — the document is
    coherent at every depth (occurrences collected under one response key for one object type agree on field name /
    having a sub-selection — FieldsInSetCanMerge —, a field without sub-selection has a leaf type — Leaf Field Selections);
    `hf` — the fuel of the executable specification suffices (`FuelOk`: no fragment cycle within depth `D`, expanded size
    ≤ `c.fuel`); `hv` — the value has no repeated record keys (needed for ⊇ only).  Proof: (i) `fieldsFor` lists exactly
    the collected occurrences, (ii) branch cover, (iii) the merge lemma `mergeTrees_rel`, (iv) `toTs_denotation`, by
    induction on the model's fuel and on the tree. -/
theorem impl_eq_refLocal {c : Ctx} {e : Env} {r : Refs} {orig : Name → Option (List Field)} (H : Hyp c e r orig)
    (hnd : TypeNamesNodup c.S) {mfuel fuel D : Nat} {ty : GType} {ss : List Selection} {T : SelTree}
    (h : implTree c.S c.F mfuel fuel ty ss = .ok T) (hC : ∀ d, Coh c d (Sb1 ss) ty.unwrapped)
    (hf : FuelOk c D ss) (v : J) (hv : JWf v) :
    Mem e v (treeTs r T false) ↔ CompP c (RefLocal c) ss ty false v :=
  ⟨(impl_denotes H hnd h hC).2 D hf v hv, (impl_denotes H hnd h hC).1 v⟩

open NitroVerif.OpTypes.Ref in
/-- the refinement theorem at the root of an operation / fragment (`ty` = the non-null root or type-condition type):
    the emitted type admits exactly the `RefLocal` responses of the selection set on the possible object types -/
theorem impl_eq_refLocal_root {c : Ctx} {e : Env} {r : Refs} {orig : Name → Option (List Field)} (H : Hyp c e r orig)
    (hnd : TypeNamesNodup c.S) {mfuel fuel D : Nat} {root : Name} {p : Pos} {ss : List Selection} {T : SelTree}
    (h : implTree c.S c.F mfuel fuel (.nonNull (.named root p)) ss = .ok T) (hC : ∀ d, Coh c d (Sb1 ss) root)
    (hf : FuelOk c D ss) (v : J) (hv : JWf v) :
    Mem e v (treeTs r T false) ↔ ∃ o ∈ c.S.possibleTypes root, RefLocal c o ss v := by
  rw [impl_eq_refLocal H hnd h hC hf v hv]
  exact compP_root (implTree_root_composite h) (fun _ _ _ => refLocal_not_null)

open NitroVerif.OpTypes.Ref in
/-- … and for the type as EMITTED: printed with `NS.…` references and closed against the declaration table `d` of the
    operation file linked with the schema declaration file (`toTs_closed`), read with the real `__SelectionSet` hook -/
theorem impl_eq_refLocal_emitted {c : Ctx} (d : Decls) (ns : String) {orig : Name → Option (List Field)}
    (H : Hyp c { decls := d, appHook := SelSem.hook } ((Refs.ofNs ns).close d) orig)
    (hnd : TypeNamesNodup c.S) {mfuel fuel D : Nat} {root : Name} {p : Pos} {ss : List Selection} {T : SelTree}
    (h : implTree c.S c.F mfuel fuel (.nonNull (.named root p)) ss = .ok T) (hC : ∀ d, Coh c d (Sb1 ss) root)
    (hf : FuelOk c D ss) (v : J) (hv : JWf v) :
    Mem { decls := d, appHook := SelSem.hook } v (globalise d [] [] (toTs ns T)) ↔
      ∃ o ∈ c.S.possibleTypes root, RefLocal c o ss v := by
  rw [toTs_closed]
  exact impl_eq_refLocal_root H hnd h hC hf v hv

open NitroVerif.OpTypes.Ref in
/-- **C01.** Every response of a spec-conformant execution (`Exec`: any σ, any resolver results, any nullable position
    null, any list length) of the selection set on a possible object type of the root is a member of the emitted type.
    (The ⊆ direction: no hypothesis on the specification's fuel or on the value.)  Hypotheses as in `impl_eq_refLocal`:
    `Hyp` about the schema declaration file (discharged for the model's file by `C01Closed.hyp_of_schemaFile`), unique type
    names, the model returned the tree `T` (`impl_no_panic`, `C01Closed.resultTree_ok`), coherence `Coh` of the selection
    set (`coherence_check_sufficient`). -/
theorem C01_admits_every_response {c : Ctx} {e : Env} {r : Refs} {orig : Name → Option (List Field)} (H : Hyp c e r orig)
    (hnd : TypeNamesNodup c.S) {mfuel fuel : Nat} {root : Name} {p : Pos} {ss : List Selection} {T : SelTree}
    (h : implTree c.S c.F mfuel fuel (.nonNull (.named root p)) ss = .ok T) (hC : ∀ d, Coh c d (Sb1 ss) root)
    {σ : Sigma} {o : Name} (ho : o ∈ c.S.possibleTypes root) {v : J} (hx : Exec c σ o ss v) :
    Mem e v (treeTs r T false) := by
  refine (impl_denotes H hnd h hC).1 v ?_
  exact (compP_root (implTree_root_composite h) (fun _ _ _ => refLocal_not_null)).2
    ⟨o, ho, exec_sub_refLocal c σ o ss v hx⟩

set_option maxRecDepth 16384 in
open NitroVerif.OpTypes.Ref in
/-- the hypotheses are satisfiable by a non-trivial input: the witness schema with its declaration file, and the document
    `{ a { x } a { y @skip(if: $v) } }` (two object fields merged under one key, a Boolean variable) — the model returns a
    tree, and the theorem yields membership of the v = true response -/
example : Hyp W.ctx W.env Ref.W.r Ref.W.orig ∧ TypeNamesNodup W.ctx.S ∧
    (∃ T, implTree W.ctx.S W.ctx.F 16 16 (.nonNull (.named "Query" {})) W.selA = .ok T ∧
      Mem W.env (.obj [("a", respX)]) (treeTs Ref.W.r T false)) ∧
    (∀ d, Coh W.ctx d (Sb1 W.selA) "Query") ∧ FuelOk W.ctx 4 W.selA ∧ JWf (.obj [("a", respX)]) := by
  obtain ⟨T, hT, _⟩ := merge_repaired_document
  refine ⟨Ref.W.hyp, Ref.W.typeNamesNodup, ⟨T, hT, ?_⟩, Ref.W.coh_selA, Ref.W.fuelOk_selA, ?_⟩
  · exact C01_admits_every_response Ref.W.hyp Ref.W.typeNamesNodup hT Ref.W.coh_selA
      (σ := sigmaOf [("v", true)]) (o := "Query") (by decide) ⟨3, execMem_sound _ _ 3 _ _ _ W.execMem_selA⟩
  · simp [JWf, JWfFields, respX]

open NitroVerif.OpTypes.Ref in
/-- **The coherence hypothesis is decidable in practice**: the executable check `cohB` (for every possible object type:
    occurrences listed when nothing is skipped agree pairwise per response key on field name / having a sub-selection,
    fields without sub-selection have leaf types, recursively for the sub-selections grouped by response key, down to
    the depth at which no selection is left) implies `∀ d, Coh c d {ss} n` for selection sets without fragment
    cycles (`fits`).  Together with `FuelOk` (a conjunction of two decidable facts) and `TypeNamesNodup`, all hypotheses of
    `impl_eq_refLocal` about the DOCUMENT are decidable; `Hyp` speaks about the schema declaration file. -/
theorem coherence_check_sufficient (c : Ctx) (D d : Nat) (ss : List Selection) (n : Name)
    (hfit : ss.all (fits c.F D) = true) (h : cohB c.S c.F D d [ss] n = true) : ∀ d', Coh c d' (Sb1 ss) n :=
  coh_of_cohB c D d ss n (fun s hs => List.all_eq_true.1 hfit s hs) h

open NitroVerif.OpTypes.Ref in
/-- the check succeeds on the witness document -/
example : W.selA.all (fits W.ctx.F 4) = true ∧ cohB W.ctx.S W.ctx.F 4 4 [W.selA] "Query" = true := by decide

/-! ### the defect the proof found: an alias equal to the field's own name (pre-repair), and the repaired partition -/

open NitroVerif.OpTypes.Ref in
/-- **Counterexample to C01 on the code before dda35cd** (found by the refinement proof: the invariant needed "occurrences
    under one response key are in one alias group", which the code violated).  The spec-valid document
    `query($v: Boolean!) { a: a @skip(if: $v) { x }  a { y } }`: the pre-repair printer (`implTreeOld`) put EVERY aliased field
    — also `a: a` — into `Others` and the unaliased `a` into `Obj` of one `__SelectionSet`, so the sub-selections were never
    merged.  The emitted type was
    `__SelectionSet<Query, {a: {y}|null}, {a: {x}|null}> | __SelectionSet<Query, {a: {y}|null}, {a?: never}>`; the response
    `{ a: { y: "s" } }` that every spec-conformant server returns for v = true is NOT a member of it (the key `a` is typed
    by an intersection with `never`, resp. with `{x} | null`). -/
theorem alias_equals_key_counterexample :
    Exec W.ctx (sigmaOf [("v", true)]) "Query" Cex.selAA Cex.resp ∧
    ((implTreeOld W.S W.noFrags 16 16 (.nonNull (.named "Query" {})) Cex.selAA).toOption.map
      fun t => W.close (toTs "Schema" t)) = some Cex.ty ∧
    ¬ Mem W.env Cex.resp Cex.ty :=
  ⟨⟨3, execMem_sound _ _ 3 _ _ _ (by decide +kernel)⟩, Cex.tree_ty, Cex.resp_not_mem⟩

open NitroVerif.OpTypes.Ref in
/-- **The repaired partition (dda35cd) admits it**: a field is in the aliased group only if its alias differs from its
    name, so `a: a { x }` and `a { y }` are merged under the key `a`; the emitted type is
    `__SelectionSet<Query, {a: {x, y}|null}, {}> | __SelectionSet<Query, {a: {y}|null}, {}>`, the v = true response is a
    member, and the document passes the coherence check of the refinement theorem (which therefore applies to it). -/
theorem alias_equals_key_repaired_admits :
    ((implTree W.S W.noFrags 16 16 (.nonNull (.named "Query" {})) Cex.selAA).toOption.map
      fun t => W.close (toTs "Schema" t)) = some Cex.tyNew ∧
    Mem W.env Cex.resp Cex.tyNew ∧
    (Cex.selAA.all (fits W.ctx.F 4) = true ∧ cohB W.ctx.S W.ctx.F 4 4 [Cex.selAA] "Query" = true) :=
  ⟨Cex.tree_tyNew, Cex.resp_mem_new, by decide⟩

open NitroVerif.OpTypes.Ref in
/-- **`impl_no_panic`.** The model of `get_type_for_selection_set` returns a tree — no `expect`/`panic!` site is reached
    ("Type system error", "Cannot merge fields of different types", "Cannot merge selection trees of different types")
    and neither fuel of the model runs out — for every selection set that passes these DECIDABLE checks:
    type names unique; `selOkB`: for every possible object type of the parent, every (applicable) selection is well formed
    (`@skip`/`@include` carry an `if` argument, a field exists on the object type or is `__typename`, the type of a field
    with a sub-selection is a composite type with defined members and the sub-selection is valid for its possible object
    types, spreads and type conditions are defined); `fitsS`: no fragment cycle within nesting depth `D`; `cohB`: the
    coherence check (FieldsInSetCanMerge + Leaf Field Selections);
    fuels: `fuel ≥ 2·D + 2`, `mfuel ≥` the expanded size of the selection set and `≥ (K + 1)·(G + 1)` where `D ≤ K` and
    `G` bounds the list/non-null wrapper depth of the schema's field types. -/
theorem impl_no_panic (c : Ctx) (mfuel fuel G K D d : Nat) (ty : GType) (ss : List Selection)
    (hnd : TypeNamesNodup c.S) (hG : fieldDepthB c.S G = true) (hmf : (K + 1) * (G + 1) ≤ mfuel) (hDK : D ≤ K)
    (hfuel : 2 * D + 2 ≤ fuel) (hpar : parentsOkB c.S ty.unwrapped = true)
    (hsel : (c.S.possibleTypes ty.unwrapped).all (fun o => ss.all (selOkB c.S c.F D o)) = true)
    (hfit : ss.all (fitsS c.F D) = true) (hesz : eszL c.F D ss ≤ mfuel)
    (hcoh : cohB c.S c.F D d [ss] ty.unwrapped = true) :
    ∃ T, implTree c.S c.F mfuel fuel ty ss = .ok T := by
  have hfit' : ∀ s ∈ ss, fitsS c.F D s = true := fun s hs => List.all_eq_true.1 hfit s hs
  refine implTree_ok ⟨hnd, fieldDepth_of_check hG, hmf⟩ hDK hfuel hpar ?_ hfit' hesz ?_
  · intro o ho s hs
    exact List.all_eq_true.1 (List.all_eq_true.1 hsel o ho) s hs
  · exact coh_of_cohB c D d ss _ (fun s hs => fitsS_fits D s (hfit' s hs)) hcoh

open NitroVerif.OpTypes.Ref in
/-- the checks succeed on the witness document `{ a { x } a { y @skip(if: $v) } }` (fuels 16/16, `G` = 1, `K` = `D` = 4) -/
example : fieldDepthB W.ctx.S 1 = true ∧ parentsOkB W.ctx.S "Query" = true ∧
    (W.ctx.S.possibleTypes "Query").all (fun o => W.selA.all (selOkB W.ctx.S W.ctx.F 4 o)) = true ∧
    W.selA.all (fitsS W.ctx.F 4) = true ∧ eszL W.ctx.F 4 W.selA ≤ 16 ∧ cohB W.ctx.S W.ctx.F 4 4 [W.selA] "Query" = true := by
  decide

/-
OPEN — carried by K/O only (nothing of the refinement statement itself).  `Props/C01Closed.lean` discharges the
hypotheses named below as PROVED; what is left after it is in the block at the end of that file.

  * that the Lean model IS the code (K: tree against tree on the real emitted text, panics included);
  * that the hand-written reading of the emitted TypeScript (Ts/Sem.lean, Ts/SelSem.lean) is TypeScript's;
  * the hypotheses `Hyp` about the schema declaration file: PROVED for the file the MODEL of the schema printer emits
    (`C01Closed.hyp_of_schemaFile`, from C10's closed forms; side conditions `DocOK`, `CfgOk`), so `C01_end_to_end` has no
    hypothesis about the declaration file; that C10's model is the real schema printer is C10's K stream, and the O stream
    here keeps testing membership against the REAL emitted files;
  * `impl_no_panic` for whole documents with the fuels the model is run with (`fuelFor`, `mfuelFor`): PROVED
    (`C01Closed.resultTree_ok`) for every accepted, coherent document under the explicit wrapper bound
    `(Dn + 1)·(G + 1) ≤ docSize D + 64` — `D ≤ docSize` and the `docSize`-step walk of `get_boolean_variables` are
    theorems for all documents (`accepted_document_fits_its_size`, `Lemmas/OpTypesClosedBoolVars.lean`); the wrapper bound
    is sufficient, not necessary, and cannot be dropped (`C01Closed.wrapper_bound_witness`: 70 list markers);
    its decidable checks follow from `checkOp S D = []` (`C01Closed.accepted_document_passes_checks`);
  * ⊇ needs its value hypothesis (`C02.repeated_key_counterexample`: a record that lists a key twice); not kernel-checked:
    an interface without implementing object type (its member type `never` is turned into "key absent" by the reading of
    `__SelectionSet`; excluded by `Hyp.inhabited` / `CfgOk.inhabited`; described in design-notes/C01.md).
-/

end NitroVerif.Props.C01
