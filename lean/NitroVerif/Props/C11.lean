import NitroVerif.Lemmas.ExtResolve
/-!
# C11 — schema extensions merge into their definitions without loss or invention

Model: `NitroVerif/Model/ExtResolve.lean` (`resolve` = `resolve_schema_extensions` of
`crates/semantics/src/schema_extension_resolver`, tied to the code by the correspondence check
`harness/src/bin/c11.rs`); specification: `NitroVerif/Spec/ExtMerge.lean` (`refMerge`, `NoDupOriginal`, `NoOrphan`).
All theorems quantify over ALL type-system documents (any number of items, names, components, files).
Not claimed: the ORDER of the definitions in the output (the stable sort by position within each registry). Every statement
about the output is up to `List.Perm`, except that the directive definitions come first, in document order
(`C11_passthrough`).
-/
namespace NitroVerif.ExtResolve
open NitroVerif.Gql NitroVerif.ExtMerge

/-- Resolution succeeds exactly when no name is defined twice within a kind and every extension has a
    definition of its own kind. -/
theorem C11_ok_iff (doc : TsDoc) : (∃ out, resolve doc = .ok out) ↔ NoDupOriginal doc ∧ NoOrphan doc := by
  constructor
  · rintro ⟨out, h⟩
    have := resolve_ok doc out h
    exact ⟨this.1, this.2.1⟩
  · rintro ⟨h1, h2⟩
    exact resolve_ok_of doc h1 h2

/-- On success the output is, up to the order of definitions, the directive definitions followed by the reference
    merge: one definition per schema/type definition of the input whose component lists are the original's followed
    by those of its same-kind same-name extensions in document order (`refType`, `refSchema`). -/
theorem C11_merge (doc out : TsDoc) (h : resolve doc = .ok out) : out.Perm (directiveDefs doc ++ refMerge doc) :=
  resolve_perm h

/-- Nothing is lost: every type definition of the input has its merged form in the output — same kind, name,
    description and positions, directives = the original's ++ those of each extension in document order, and
    likewise for the other component lists the kind has. -/
theorem C11_merge_components (doc out : TsDoc) (h : resolve doc = .ok out) (t : TypeDef) (ht : .typeDef t ∈ doc) :
    ∃ t', TsItem.typeDef t' ∈ out ∧
      t'.kind = t.kind ∧ t'.name = t.name ∧ t'.desc = t.desc ∧ t'.pos = t.pos ∧ t'.namePos = t.namePos ∧
      t'.dirs = t.dirs ++ (typeExts t.kind t.name doc).flatMap (·.dirs) ∧
      ((t.kind = .object ∨ t.kind = .interface) →
        t'.implements = t.implements ++ (typeExts t.kind t.name doc).flatMap (·.implements) ∧
        t'.fields = t.fields ++ (typeExts t.kind t.name doc).flatMap (·.fields)) ∧
      (t.kind = .union → t'.members = t.members ++ (typeExts t.kind t.name doc).flatMap (·.members)) ∧
      (t.kind = .enum → t'.values = t.values ++ (typeExts t.kind t.name doc).flatMap (·.values)) ∧
      (t.kind = .input → t'.inputs = t.inputs ++ (typeExts t.kind t.name doc).flatMap (·.inputs)) := by
  refine ⟨refType doc t, ?_, rfl, rfl, rfl, rfl, rfl, rfl, ?_, ?_, ?_, ?_⟩
  · exact refType_mem_of_resolve h ht
  · exact fun hk => ⟨refType_implements_eq doc t hk, refType_fields_eq doc t hk⟩
  · exact refType_members_eq doc t
  · exact refType_values_eq doc t
  · exact refType_inputs_eq doc t

/-- The same for the schema definition: directives and root operation types of the original followed by those of
    every `extend schema` in document order. -/
theorem C11_merge_schema (doc out : TsDoc) (h : resolve doc = .ok out) (s : SchemaDef) (hs : .schemaDef s ∈ doc) :
    ∃ s', TsItem.schemaDef s' ∈ out ∧ s'.desc = s.desc ∧ s'.pos = s.pos ∧
      s'.dirs = s.dirs ++ (schemaExts doc).flatMap (·.dirs) ∧
      s'.roots = s.roots ++ (schemaExts doc).flatMap (·.roots) := by
  refine ⟨refSchema doc s, ?_, rfl, rfl, rfl, rfl⟩
  exact refSchema_mem_of_resolve h hs

/-- Nothing is invented: every item of the output is a directive definition of the input, or the merged form of a
    schema/type definition of the input; and there are exactly as many items as definitions. -/
theorem C11_no_invention (doc out : TsDoc) (h : resolve doc = .ok out) :
    (∀ it ∈ out,
      (∃ d, it = .directiveDef d ∧ it ∈ doc) ∨
      (∃ s, .schemaDef s ∈ doc ∧ it = .schemaDef (refSchema doc s)) ∨
      (∃ t, .typeDef t ∈ doc ∧ it = .typeDef (refType doc t))) ∧
    out.length = (doc.filter fun it => !isExt it).length := by
  have hp := C11_merge doc out h
  constructor
  · intro it hit
    rw [hp.mem_iff, List.mem_append] at hit
    rcases hit with hit | hit
    · obtain ⟨x, hx, hxe⟩ := List.mem_filterMap.mp hit
      cases x <;> simp at hxe
      subst hxe
      exact Or.inl ⟨_, rfl, hx⟩
    · obtain ⟨x, hx, hxe⟩ := List.mem_filterMap.mp hit
      cases x <;> simp [refItem?] at hxe
      · subst hxe; exact Or.inr (Or.inl ⟨_, hx, rfl⟩)
      · subst hxe; exact Or.inr (Or.inr ⟨_, hx, rfl⟩)
  · rw [hp.length_eq, List.length_append]
    exact length_defs doc doc

/-- No `extend` item survives. -/
theorem C11_no_extend (doc out : TsDoc) (h : resolve doc = .ok out) : ∀ it ∈ out, isExt it = false := by
  intro it hit
  rcases (C11_no_invention doc out h).1 it hit with ⟨d, rfl, _⟩ | ⟨s, _, rfl⟩ | ⟨t, _, rfl⟩ <;> rfl

/-- Directive definitions pass through unchanged (and in document order, at the front of the output); a schema or
    type definition that has no extension passes through unchanged. -/
theorem C11_passthrough (doc out : TsDoc) (h : resolve doc = .ok out) :
    (∃ rest, out = directiveDefs doc ++ rest ∧ ∀ it ∈ rest, ∀ d, it ≠ .directiveDef d) ∧
    (∀ t, .typeDef t ∈ doc → typeExts t.kind t.name doc = [] → .typeDef t ∈ out) ∧
    (∀ s, .schemaDef s ∈ doc → schemaExts doc = [] → .schemaDef s ∈ out) := by
  refine ⟨?_, ?_, ?_⟩
  · obtain ⟨_, _, ss, ts, rfl, hs, ht⟩ := resolve_ok doc out h
    refine ⟨ss ++ ts, by rw [map_dirsOf, List.append_assoc], ?_⟩
    intro it hit d hd'
    subst hd'
    rcases List.mem_append.mp hit with hm | hm
    · have := hs.mem_iff.mp hm
      simp [schemaRef] at this
    · have := ht.mem_iff.mp hm
      simp [kindRef] at this
  · intro t ht he
    have : refType doc t = t := by
      simp [refType, refTypeWith, he]
    exact this ▸ refType_mem_of_resolve h ht
  · intro s hs he
    have : refSchema doc s = s := by
      simp [refSchema, refSchemaWith, he]
    exact this ▸ refSchema_mem_of_resolve h hs

/-- The outcome does not depend on the order of the items (extension before or after its definition, which file
    holds it): for every permutation `doc'` of `doc` that keeps, per kind and name, the relative order of the
    extensions, either both resolutions fail or both succeed with the same definitions up to their order. -/
theorem C11_perm (doc doc' : TsDoc) (hp : doc'.Perm doc) (hk : KeepsExtOrder doc' doc) :
    ((∃ out', resolve doc' = .ok out') ↔ (∃ out, resolve doc = .ok out)) ∧
    ∀ out out', resolve doc = .ok out → resolve doc' = .ok out' → out'.Perm out := by
  constructor
  · rw [C11_ok_iff, C11_ok_iff, noDupOriginal_perm hp, noOrphan_perm hp hk]
  · intro out out' h h'
    exact (C11_merge doc' out' h').trans
      ((((hp.filterMap _ : (directiveDefs doc').Perm (directiveDefs doc))).append (refMerge_perm_of_keeps hp hk)).trans
        (C11_merge doc out h).symm)

/-- A failure is reported as the code does, at the offending items.
    Duplicate original: `it` is the first item of the document that defines a (kind, name) — or the schema — for the
    second time (the document before it has no duplicate); the diagnostic is positioned at the earlier definition
    `f` of that kind and name, with a note at `it`. Duplicates are detected before orphans.
    Orphan extension (only when no original is duplicated): the diagnostic is positioned at `x`, the first — in
    document order — extension of its kind that has no same-kind definition, where that kind is the first one with
    an orphan in the order schema, scalar, object, interface, union, enum, input object. -/
theorem C11_err_pos (doc : TsDoc) (e : ExtError) (h : resolve doc = .error e) :
    (∃ pre it post, doc = pre ++ it :: post ∧ NoDupOriginal pre ∧ ¬ NoDupOriginal (pre ++ [it]) ∧
      ((∃ s f, it = .schemaDef s ∧ TsItem.schemaDef f ∈ pre ∧
          e = .duplicateOriginal "schema" "" f.pos s.pos) ∨
       (∃ t f, it = .typeDef t ∧ TsItem.typeDef f ∈ pre ∧ f.kind = t.kind ∧ f.name = t.name ∧
          e = .duplicateOriginal (elemName t.kind) t.name f.pos t.pos)) ∧
      e.additional = [itemPos it] ∧ ∃ f ∈ pre, e.position = itemPos f) ∨
    (NoDupOriginal doc ∧ ¬ NoOrphan doc ∧
      ((∃ x, schemaDefs doc = [] ∧ (schemaExts doc).head? = some x ∧ e = .noOriginal "schema" x.pos ∧
          e.position = x.pos) ∨
       ((schemaExts doc ≠ [] → schemaDefs doc ≠ []) ∧
        ∃ a k b x, kindOrder = a ++ k :: b ∧
          (∀ k' ∈ a, ∀ y ∈ typeExtsOfKind k' doc, isOrphan k' doc y = false) ∧
          (typeExtsOfKind k doc).find? (isOrphan k doc) = some x ∧
          e = .noOriginal (elemName k) x.pos ∧ e.position = x.pos))) := by
  have hc := resolve_case doc
  rw [h] at hc
  cases hc with
  | @dup _ pre post it hd hnd hcase =>
    refine Or.inl ⟨pre, it, post, hd, hnd, hcase.not_noDup (post := []), ?_⟩
    rcases hcase with ⟨s, f, rfl, hf, rfl⟩ | ⟨t, f, rfl, hf, rfl⟩
    · have hfm : TsItem.schemaDef f ∈ pre := by
        obtain ⟨x, hx, hxe⟩ := List.mem_filterMap.mp (show f ∈ schemaDefs pre by rw [hf]; exact List.mem_cons_self)
        cases x <;> cases hxe
        exact hx
      exact ⟨Or.inl ⟨s, f, rfl, hfm, rfl⟩, rfl, _, hfm, rfl⟩
    · have hfm := mem_typeDefs.mp (List.mem_of_find?_eq_some hf)
      exact ⟨Or.inr ⟨t, f, rfl, hfm.1, hfm.2, by simpa using List.find?_some hf, rfl⟩, rfl, _, hfm.1, rfl⟩
  | orphan hnd hcase =>
    refine Or.inr ⟨hnd, hcase.not_noOrphan, ?_⟩
    rcases hcase with ⟨x, h1, h2, rfl⟩ | ⟨h0, a, k, b, x, hko, ha, hx, rfl⟩
    · exact Or.inl ⟨x, h1, h2, rfl, rfl⟩
    · exact Or.inr ⟨h0, a, k, b, x, hko, fun k' hk' y hy => by simpa [isOrphan] using ha k' hk' y hy, hx, rfl, rfl⟩

/-! Non-vacuity: the hypotheses of the theorems above are met by concrete documents (kernel-evaluated). -/

/-- `extend scalar S @d` before `"x" scalar S`, and `scalar A` in a second file at the same (line, column) -/
def sampleOk : TsDoc :=
  [ .typeExt { kind := .scalar, name := "S", dirs := [{ name := "d", pos := ⟨0, 16, 0, false⟩ }], pos := ⟨0, 0, 0, false⟩ },
    .directiveDef { name := "d", locations := ["SCALAR"], pos := ⟨1, 0, 0, false⟩ },
    .typeDef { kind := .scalar, desc := some "x", name := "S", pos := ⟨2, 0, 0, false⟩ },
    .typeDef { kind := .scalar, name := "A", pos := ⟨2, 0, 1, false⟩ } ]

example : ∃ out, resolve sampleOk = .ok out ∧ out.length = 3 := ⟨_, rfl, rfl⟩

/-- a second `scalar S` fails at the first one, with a note at the second -/
example : resolve (sampleOk ++ [.typeDef { kind := .scalar, name := "S", pos := ⟨9, 0, 0, false⟩ }]) =
    .error (.duplicateOriginal "scalar" "S" ⟨2, 0, 0, false⟩ ⟨9, 0, 0, false⟩) := rfl

/-- `extend type S` is an orphan although a scalar `S` exists -/
example : resolve (sampleOk ++ [.typeExt { kind := .object, name := "S", pos := ⟨9, 0, 0, false⟩ }]) =
    .error (.noOriginal "type" ⟨9, 0, 0, false⟩) := rfl

theorem sampleOk_reverse_keeps : KeepsExtOrder sampleOk.reverse sampleOk :=
  ⟨rfl, fun k n => by
    simp only [sampleOk, List.reverse_cons, List.reverse_nil, List.nil_append, List.cons_append, typeExts,
      List.filterMap_cons, List.filterMap_nil]⟩

/-- a permutation of `sampleOk` that keeps the order of the extensions of each name -/
example : (sampleOk.reverse).Perm sampleOk ∧ KeepsExtOrder sampleOk.reverse sampleOk :=
  ⟨List.reverse_perm _, sampleOk_reverse_keeps⟩

end NitroVerif.ExtResolve
