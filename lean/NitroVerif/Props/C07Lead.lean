import NitroVerif.Lemmas.GqlPrintOwnLeadErase
/-!
# C07 — type-system documents written WITH the optional leading separators

Property theorems only. `Props/C07Doc.lean` proves `parse_render_type_system_document` for the renderings `DocParse.rTsDoc`,
which never write the optional leading `&` of an `implements` list, `|` of a union member list and `|` of a directive-location
list. The renderings that DO write them (`DocParseL.rTsDoc`, namespace `NitroVerif.DocParseL`, `Lemmas/GqlPrintOwnLead*.lean`:
there `"&"?` / `"|"?` of the grammar succeed) are a second instance of the same chain (the document: `tsDoc_parseG` of
`Lemmas/ParseDocTsDoc.lean` at another item renderer; the definitions: `unionDefG` … `directiveDefG`, stated over any text for
the name list); this file states the result as a C07 theorem. Everything else (well-formedness `WFTsItem`, trivia `Ws`,
positions) is as in `Props/C07Doc.lean`; `WFTsItem`, not `WFTsItemF`: the bare `interface I` of
`parse_render_type_system_document_full` is not covered here. A document that writes the leading separator in some lists and not
in others is covered by neither theorem (OPEN block of `Props/C07.lean`).
-/
namespace NitroVerif.C07
open NitroVerif.Peg NitroVerif.Build NitroVerif.Gen NitroVerif.Gql NitroVerif.ValueParse NitroVerif.TypeParse
open NitroVerif.DocParse

/-- **`parse_render_type_system_document_lead`**: for EVERY non-empty list `doc` of well-formed type-system items and every
    trivia assignment `τ`, the model of `parse_type_system_document` applied to the rendering that writes the optional
    leading separator of EVERY non-empty `implements` list (`implements & A & B`), union member list (`= | A | B`) and
    directive-location list (`on | A | B`), with arbitrary trivia after the separator too, returns exactly the document,
    every position being the line/column of the first character of the corresponding token (`DocParseL.wpTsDoc`). Together
    with `parse_render_type_system_document` (no leading separator anywhere) both spellings the grammar admits are covered,
    each used uniformly throughout a document (not mixed). -/
theorem parse_render_type_system_document_lead (τ : Trivia) (hτ : ∀ q, Ws (τ q)) (doc : List TsItem) (hne : doc ≠ [])
    (hwf : ∀ d ∈ doc, WFTsItem d) :
    parseTs (DocParseL.rTsDoc τ doc) = .ok (DocParseL.wpTsDoc τ (DocParseL.rTsDoc τ doc) doc) :=
  DocParseL.parseTs_rTsDoc τ hτ doc hne hwf

/-- … in the terms of the property: the document returned differs from `doc` only in positions, provided every item carries
    only what its rendering shows (`NormalItem`, as for `parse_render_type_system_document_erase`). -/
theorem parse_render_type_system_document_lead_erase (τ : Trivia) (hτ : ∀ q, Ws (τ q)) (doc : List TsItem) (hne : doc ≠ [])
    (hwf : ∀ d ∈ doc, WFTsItem d) (hn : ∀ d ∈ doc, NormalItem d) :
    ∃ A, parseTs (DocParseL.rTsDoc τ doc) = .ok A ∧ GqlTokens.eraseTsDoc A = GqlTokens.eraseTsDoc doc :=
  ⟨_, DocParseL.parseTs_rTsDoc τ hτ doc hne hwf, DocParseL.tsErase_wpTsDoc τ _ doc hn⟩

/-- this is the text: leading separators in all three places, canonical trivia (the three items are `WFTsItem`: unfolding
    leaves `validName` of one-letter names, `WFDir {name := "d"}` and two memberships in `locWords`) -/
example : DocParseL.rTsDoc (fun _ => [])
    [.typeDef { kind := .object, name := "T", implements := [("I", {}), ("J", {})], dirs := [{ name := "d" }] },
     .typeDef { kind := .union, name := "U", members := [("T", {}), ("V", {})] },
     .directiveDef { name := "d", locations := ["OBJECT", "FIELD"] }] =
    "type T implements &I&J@d union U=|T|V directive@d on |OBJECT|FIELD".toList := by
  rw [String.toList_ofList]
  decide +kernel

example : ∀ q : Nat, Ws ((fun _ => [] : Trivia) q) := fun _ => Ws.nil

end NitroVerif.C07
