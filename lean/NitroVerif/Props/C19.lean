import NitroVerif.Lemmas.Loader
import NitroVerif.Lemmas.LoaderHeap
/-!
# C19 — loader tasks are isolated and safe under any sequence of loader calls

Property theorems only. Model: `NitroVerif/Model/Loader.lean` (tied to
`crates/graphql-loader/src/{main,tasks,loader}.rs` by the correspondence check `harness/src/bin/c19.rs`,
which drives the real `extern "C"` functions call by call).
All theorems quantify over every parser / path resolver / emitter (`env`) and every history
(`C19_isolation` / `C19_no_trap`: histories of the five task calls, without a stand-alone `get_result`, which traps on an
empty RESULT cell; the theorems about the answer of one call assume the instance has not trapped, `dead = false`).
The heap of the model is a ghost record of the leak / free protocol: the allocator, pointers and the wasm ABI are not
modelled, on the real code they are only observed by the harness (checking allocator, child processes).

CONCRETE EMITTER (`Props/C19Composed.lean`): `env.emit` instantiated with import resolution (C13's model)
+ `find_undefined_fragment_spread` (fix 08fd7e5) + the JavaScript-module model (C14's statements, C12's document
literals).  `C19_emit_total` proves `EmitTotal` for it, so `C19_isolation_concrete` / `C19_no_trap_concrete` have no
hypothesis left; `C19_emit_is_printer` says what `emit_js` answers.  The parser stays a parameter there.
-/
namespace NitroVerif.Loader
variable {P S J : Type} [DecidableEq P]

/-- Ids strictly increase along any history (so an id is never issued twice, in particular never
    re-used after `free_task`), and every issued id is ≥ 1 (0 is the failure return value). -/
theorem C19_ids_fresh (env : Env P S J) (h : List (Op P S)) :
    (issued (runResps env init h)).Pairwise (· < ·) ∧ (issued (runResps env init h)).Nodup ∧
    ∀ n ∈ issued (runResps env init h), 1 ≤ n := by
  have hp := issued_pairwise env init h
  refine ⟨hp, ?_, fun n hn => issued_ge env init h n hn⟩
  exact hp.imp (fun hlt => Nat.ne_of_lt hlt)

/-- A call on an id that is not live answers the `Task not found` error (stored in RESULT) and changes
    nothing else; `free_task` on such an id is a no-op. Nothing traps. -/
theorem C19_unknown_id (env : Env P S J) (σ : St P S J) (hd : σ.dead = false) (t : Nat)
    (hn : lookup σ.tasks t = none) (f : P) (s : S) :
    step env σ (.call (.required t)) = ({ σ with result := some (.msg .taskNotFound) }, .failed .taskNotFound) ∧
    step env σ (.call (.load t f s)) = ({ σ with result := some (.msg .taskNotFound) }, .failed .taskNotFound) ∧
    step env σ (.call (.emit t)) = ({ σ with result := some (.msg .taskNotFound) }, .failed .taskNotFound) ∧
    step env σ (.call (.free t)) = (σ, .freed) :=
  ⟨step_required_none env hd hn, step_load_none env hd hn f s, step_emit_none env hd hn, step_free_none env hd hn⟩

/-- A never-issued id (≥ the next id, or 0) is not live in any reachable state. -/
theorem C19_unknown_id_never_issued (env : Env P S J) (h : List (Op P S)) (t : Nat)
    (ht : (runSt env init h).next ≤ t ∨ t = 0) : lookup (runSt env init h).tasks t = none := by
  have hk := (run_inv env h init keysLt_init rootOk_init (parsedOk_init env)).1
  rcases ht with ht | rfl
  · exact hk t ht
  · exact run_not_live env 0 h init (by simp [init]) rfl

/-- Once a live task has been freed its id stays not live for ever, whatever is called afterwards
    (ids are never re-used), so every later call on it gets the `Task not found` answer of `C19_unknown_id`. -/
theorem C19_unknown_id_freed (env : Env P S J) (h h' : List (Op P S)) (t : Nat)
    (hd : (runSt env init h).dead = false) (hl : Live (runSt env init h) t) :
    lookup (runSt env init (h ++ .call (.free t) :: h')).tasks t = none := by
  rw [runSt_append]
  simp only [runSt]
  have hk := (run_inv env h init keysLt_init rootOk_init (parsedOk_init env)).1
  generalize runSt env init h = σ at hk hd hl
  cases hT : lookup σ.tasks t with
  | none => exact absurd hT hl
  | some T =>
    apply run_not_live
    · rw [step_free_some env hd hT]; exact live_lt hk hT
    · rw [step_free_some env hd hT]; simp [lookup_erase]

/-- `get_required_files` on a live task answers, without duplicates, exactly the resolved import targets
    of the task's loaded files that are not themselves loaded (supplied) files of the task. -/
theorem C19_required_exact (env : Env P S J) (σ : St P S J) (hd : σ.dead = false) (t : Nat) (T : Task P S)
    (hl : lookup σ.tasks t = some T) :
    ∃ l, (step env σ (.call (.required t))).2 = .files l ∧ l.Nodup ∧
      ∀ p, p ∈ l ↔ (p ∈ targets env T.files ∧ lookup T.files p = none) := by
  refine ⟨requiredOf env T.files, by rw [step_required_some env hd hl], ?_, ?_⟩
  · exact nodup_foldl_addNew _ _ List.nodup_nil
  · intro p
    unfold requiredOf
    rw [mem_foldl_addNew]
    simp [List.mem_filter]

/-- What "the files supplied to a task" means, call by call: `initiate_task(f, s)` that parses creates a
    task whose only file is `f ↦ s`; `load_file(t, f, s)` that parses sets `f ↦ s` and leaves every other
    path alone (re-supplying replaces); one that does not parse leaves all files as they were. -/
theorem C19_files_spec (env : Env P S J) (σ : St P S J) (hd : σ.dead = false) :
    (∀ f s imps, env.parse s = .ok imps →
      ∃ T, lookup (step env σ (.call (.initiate f s))).1.tasks σ.next = some T ∧ T.root = f ∧
        ∀ q, lookup T.files q = if f = q then some ⟨imps, s⟩ else none) ∧
    (∀ t T f s, lookup σ.tasks t = some T →
      ∃ T', lookup (step env σ (.call (.load t f s))).1.tasks t = some T' ∧ T'.root = T.root ∧
        ∀ q, lookup T'.files q =
          match env.parse s with
          | .ok imps => if f = q then some ⟨imps, s⟩ else lookup T.files q
          | .error _ => lookup T.files q) := by
  constructor
  · intro f s imps hp
    rw [step_initiate_ok env hd hp]
    refine ⟨_, by simp only; rw [lookup_cons, if_pos rfl], register_root env _ _ _ f s, fun q => ?_⟩
    rw [register_files, hp]
    rfl
  · intro t T f s hl
    refine ⟨(register env (some t) σ.heap T f s).task, ?_, register_root env _ _ T f s, register_files env _ _ T f s⟩
    cases hp : env.parse s with
    | error c => rw [step_load_err env hd hl f hp]; simp only; rw [lookup_insert, if_pos rfl]
    | ok imps => rw [step_load_ok env hd hl f hp]; simp only; rw [lookup_insert, if_pos rfl]

/-- `emit_js` of a task in any reachable state answers exactly what a FRESH task answers that is created,
    in any live instance `σ0` (other tasks, other results, other ids), from the same root and given the
    same files: the emitted module depends only on the files currently held by the task — not on the order
    they came in, on failed or repeated supplies, or on any other task. -/
theorem C19_emit_fresh (env : Env P S J) (h : List (Op P S)) (t : Nat) (T : Task P S)
    (hd : (runSt env init h).dead = false) (hl : lookup (runSt env init h).tasks t = some T)
    (σ0 : St P S J) (hd0 : σ0.dead = false) :
    ∃ d, lookup T.files T.root = some d ∧
      (step env (runSt env init h) (.call (.emit t))).2 =
        (step env (runSt env σ0 (freshHist σ0.next T d.src)) (.call (.emit σ0.next))).2 := by
  obtain ⟨_, hroot, hparsed⟩ := run_inv env h init keysLt_init rootOk_init (parsedOk_init env)
  generalize runSt env init h = σ at hd hl hroot hparsed
  cases hr : lookup T.files T.root with
  | none => exact absurd hr (hroot t T hl)
  | some d =>
    refine ⟨d, rfl, ?_⟩
    have hpd : env.parse d.src = .ok d.imports := hparsed t T hl (T.root, d) (lookup_mem hr)
    have hpf := hparsed t T hl
    simp only [freshHist, runSt]
    rw [step_initiate_ok env hd0 hpd]
    have hR := register_ok env (some σ0.next) σ0.heap (newTask T.root) T.root hpd
    generalize register env (some σ0.next) σ0.heap (newTask T.root) T.root d.src = R at hR ⊢
    have hd1 : ({ σ0 with next := σ0.next + 1, tasks := (σ0.next, R.task) :: σ0.tasks, heap := R.heap } : St P S J).dead = false := hd0
    have hl1 : lookup ({ σ0 with next := σ0.next + 1, tasks := (σ0.next, R.task) :: σ0.tasks, heap := R.heap } : St P S J).tasks σ0.next
        = some R.task := by simp only; rw [lookup_cons]; simp
    obtain ⟨T', hd', hl', hr', hq'⟩ := run_supplyAll env σ0.next T.files hpf _ _ hd1 hl1
    have hRroot : R.task.root = T.root := by rw [hR]
    have hRfiles : R.task.files = insert T.root { imports := d.imports, src := d.src } [] := by rw [hR]
    have hfiles : lookup T'.files = lookup T.files := by
      funext q
      rw [hq' q]
      cases hq : lookup T.files q with
      | some d' => rfl
      | none =>
        simp only
        rw [hRfiles, lookup_insert]
        split
        · rename_i e; subst e; rw [hr] at hq; simp at hq
        · rfl
    have hr'' : lookup T'.files T'.root = some d := by rw [hfiles, hr', hRroot]; exact hr
    rw [step_emit_some env hd hl hr, step_emit_some env hd' hl' hr'', hfiles, hr', hRroot]
    cases env.emit T.root (lookup T.files) <;> rfl

/-- the emitter never traps is satisfiable (and is what the harness's O stream searches a counterexample for on the real code) -/
example : EmitTotal (⟨fun _ => .ok [], fun a _ => a, fun _ _ => .js 0⟩ : Env Nat Nat Nat) := by
  intro _ _ h; cases h

/-- Isolation. For every history of calls and every task id `t`: the responses to the calls addressed to
    `t` (the `initiate_task` that issued `t` and every call carrying id `t`; each response includes the
    RESULT text read right after the call) are exactly the responses obtained by running only those calls,
    in a fresh instance where the task gets id 1 — whatever the other tasks did in between.
    Hypothesis: the emitter does not trap (a trap kills the whole instance — see the counterexample). -/
theorem C19_isolation (env : Env P S J) (he : EmitTotal env) (t : Nat) (h : List (Call P S)) :
    respsOf env t init h = runResps env init ((proj env t init h).map .call) :=
  sim_run env he t h init init (sim_init t)

/-- `EmitTotal` cannot be dropped: when task 2's emission traps, task 1's next call traps too, although the
    projection onto task 1 (`initiate`, `required`) answers normally. This is the model-level image of the
    defect repaired by /repo commit 08fd7e5 (replayed on the real code by the harness corpus). -/
theorem C19_isolation_needs_emit_total :
    respsOf trapEnv 1 init [.initiate 0 0, .initiate 0 1, .emit 2, .required 1]
      ≠ runResps trapEnv init ((proj trapEnv 1 init [.initiate 0 0, .initiate 0 1, .emit 2, .required 1]).map .call) := by
  decide

/-- No call traps: with a total emitter, every response of every history of calls (any ids, live, freed or
    never issued; any sources) is a value or an error result, never a trap. -/
theorem C19_no_trap (env : Env P S J) (he : EmitTotal env) (h : List (Call P S)) :
    ∀ r ∈ runResps env init (h.map .call), r ≠ .trap :=
  run_calls_alive env he h init rfl rootOk_init

/-- Heap safety in every reachable state (any history incl. `get_result`, any parser / emitter), for every
    source buffer ever leaked by `register_file`:
    1. it has been freed at most once, never while a parsed document still borrowed it and never by a task
       that does not own it (`bad = false`);
    2. it is freed exactly when its owner task has been dropped (the task of a failed `initiate_task`, which is
       dropped within the call, or a task id that is no longer live): freed only at the owner's drop, and
       nothing is leaked when a task is dropped;
    3. a buffer borrowed by a live document is not freed;
    4. the drop list of a live task has no duplicates, is exactly the set of buffers the task owns, and the
       buffers its documents borrow are among them (a task reads and frees only memory it owns). -/
theorem C19_heap_safe (env : Env P S J) (h : List (Op P S)) :
    (∀ b ∈ (runSt env init h).heap, b.freed ≤ 1 ∧ b.bad = false) ∧
    (∀ b ∈ (runSt env init h).heap,
      (b.freed = 1 ↔ (b.owner = none ∨ ∃ t, b.owner = some t ∧ lookup (runSt env init h).tasks t = none))) ∧
    (∀ b ∈ (runSt env init h).heap, b.borrowed = true → b.freed = 0) ∧
    (∀ t T, lookup (runSt env init h).tasks t = some T →
      T.drops.Nodup ∧ (∀ id, id ∈ T.drops ↔ ∃ b ∈ (runSt env init h).heap, b.id = id ∧ b.owner = some t) ∧
      ∀ e ∈ T.borrows, e.2 ∈ T.drops) := by
  have hi := run_heapInv env h init heapInv_init
  generalize runSt env init h = σ at hi
  obtain ⟨a, b, c', d, e, g, l, k⟩ := hi
  refine ⟨fun x hx => ⟨(c' x hx).2, (c' x hx).1⟩, ?_, ?_, ?_⟩
  · intro x hx
    constructor
    · intro hf
      cases ho : x.owner with
      | none => exact Or.inl rfl
      | some t =>
        right
        cases hl : lookup σ.tasks t with
        | none => exact ⟨t, rfl, hl⟩
        | some T => have := (l x hx t T ho hl).1; omega
    · rintro (ho | ⟨t, ho, hl⟩)
      · exact (d x hx ho).1
      · exact (g x hx t ho hl).1
  · intro x hx hb
    cases ho : x.owner with
    | none => have := (d x hx ho).2; rw [hb] at this; cases this
    | some t =>
      cases hl : lookup σ.tasks t with
      | none => have := (g x hx t ho hl).2; rw [hb] at this; cases this
      | some T => exact (l x hx t T ho hl).1
  · intro t T hl
    obtain ⟨k1, k2, k3⟩ := k t T hl
    refine ⟨k1, fun id => ⟨k2 id, ?_⟩, k3⟩
    rintro ⟨x, hx, rfl, ho⟩
    exact (l x hx t T ho hl).2.1

/-- non-vacuity of the heap claims: a concrete history that leaks, re-supplies, fails and frees buffers -/
example : (runSt (⟨fun s => if s = 4 then .error 1 else .ok [], fun a _ => a, fun _ _ => .js 0⟩ : Env Nat Nat Nat) init
    [.call (.initiate 0 0), .call (.load 1 1 2), .call (.load 1 1 3), .call (.load 1 1 4), .call (.initiate 0 4),
     .call (.free 1)]).heap.map (fun b => (b.owner, b.freed, b.borrowed, b.bad))
    = [(some 1, 1, false, false), (some 1, 1, false, false), (some 1, 1, false, false), (some 1, 1, false, false),
       (none, 1, false, false)] := by decide

example : Live (runSt (⟨fun _ => .ok [], fun a _ => a, fun _ _ => .js 0⟩ : Env Nat Nat Nat) init [.call (.initiate 0 0)]) 1 := by
  unfold Live; decide

end NitroVerif.Loader
