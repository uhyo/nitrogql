import NitroVerif.Lemmas.RoutesResolvers
import NitroVerif.Lemmas.RoutesSchemaFile
import NitroVerif.Lemmas.RoutesSchemaMeta
import NitroVerif.Lemmas.RoutesSchemaDocs
import NitroVerif.Props.C15Concrete
import NitroVerif.Props.C17Concrete
/-!
# C15 — the resolvers declaration file on the two routes

Property theorems only.  `Props/C15Concrete.lean` covers the operation checker, the operation types and the schema
declaration file; here the artefact is the file written to `resolversOutput`
(`Model/ResolverDecls.lean` = `ResolverTypePrinter::print_document`, K-tied by C10).  On the SDL route it is given
`docSdl M = M ++ builtins`, on the JSON route `docJson M = type_system_to_ast (schema value read from the introspection
result)` (generate.rs).  Per field and per definition the two routes print EQUAL types (interface implementers come in the
same order on both); both files are given in closed form over the same per-definition pieces, and `C15_sdl_route_any_order`
instantiates C17's permutation theorems (`C17_resolvers_perm`, `C17_decls_perm`).  The second part holds the WHOLE-FILE
facts of the schema declaration file (`Props/C15Concrete.lean` has the per-alias equalities): declaration order, the
`__nitrogql_schema` metadata object, every JSDoc comment.
-/
namespace NitroVerif.C15
open NitroVerif NitroVerif.Gql NitroVerif.SchemaIR NitroVerif.AstSchema NitroVerif.Bridge NitroVerif.ResolverDecls
open NitroVerif.IntrospectSpec

/-! ### per field, per definition -/

/-- **Same `__Resolver<Parent, Args, Context, Result>` per field.** For EVERY field definition `f` (no hypothesis): the
    resolver type printed for the JSON route's copy of `f` (`ast_to_type_system` then `type_system_to_ast`: positions,
    deprecation, directives and the default-value texts of arguments are gone) is the one printed for `f`: the same
    parent, the same readonly argument object (names, nullability and list structure of every argument, scalars through
    `Schema.__ResolverInput`), `Context`, the same result type. -/
theorem C15_resolvers_field_eq (parent : Name) (f : FieldDef) :
    fieldResolver parent (unconvField (convField f)) = fieldResolver parent f :=
  fieldResolver_roundtrip parent f

/-- **Same alias and same `Resolvers<Context>` entry per definition.** For every `M` with pairwise distinct type names
    and every type definition `td`: the type the SDL route prints for `td` — `Omit<Schema.__ResolverOutput.X,
    "__typename">` for an object, the union of the object implementers for an interface, the union of the members for a
    union, `Schema.__ResolverOutput.X` otherwise — EQUALS the one the JSON route prints for its twin, and so does the
    `Resolvers<Context>` entry (the record of field resolvers of an object; `{ __resolveType: __TypeResolver<A | B,
    Context, "A" | "B"> }` of an interface / union).  Equal, not only up to member order: interface implementers are
    listed in the same order on both routes. -/
theorem C15_resolvers_definition_eq (M : TsDoc) (hn : ((userTypes M).map (·.name)).Nodup) (td : TypeDef) :
    resolverOutputType ⟨docSdl M⟩ td = resolverOutputType ⟨docJson M⟩ (twin td) ∧
    resolverType ⟨docSdl M⟩ td = resolverType ⟨docJson M⟩ (twin td) :=
  ⟨resolverOutputType_routes M hn td, resolverType_routes M hn td⟩

example : ((userTypes exampleM).map (·.name)).Nodup := exampleM_valid.resolved.typeNames

/-! ### the order of the definitions -/

/-- **The definitions each route prints, in order.** For every valid `M` whose type names are not those of built-in
    scalars: the SDL route prints the definitions of `M` in the order of `M`, then `Int Float String Boolean ID`; the JSON
    route prints the twins of the definitions of `M` in the SAME order, then the built-in scalars that some definition
    of `M`, some directive definition or some `__*` type refers to (`refNames M`, same relative order — what a
    spec-conforming introspection result lists), then the eight `__*` definitions, then the other built-in scalars
    (`restNames M`, appended by the CLI). -/
theorem C15_resolvers_definitions_order (M : TsDoc) (h : ValidParsed M) (hb : UserNotBuiltin M) :
    SchemaDecls.typeDefsOf (docSdl M) = SchemaDecls.typeDefsOf M ++ builtinScalarNames.map scalarDefS ∧
    SchemaDecls.typeDefsOf (docJson M) =
      (SchemaDecls.typeDefsOf M).map twin ++ (refNames M).map scalarDefJ ++ introDefs ++ (restNames M).map scalarDefJ ∧
    (refNames M ++ restNames M).Perm builtinScalarNames :=
  ⟨typeDefsOf_docSdl_closed M, typeDefsOf_docJson_closed (orderOk_of_valid h hb), ref_rest_perm M⟩

/-- the hypotheses are satisfiable by `exampleM`; there `Float` is the one unreferenced built-in scalar (`String` and
    `Boolean` are always referenced: the `__*` types mention them) -/
example : ValidParsed exampleM ∧ UserNotBuiltin exampleM ∧
    refNames exampleM = ["Int", "String", "Boolean", "ID"] ∧ restNames exampleM = ["Float"] :=
  ⟨exampleM_valid, by decide +kernel, by decide +kernel, by decide +kernel⟩

/-! ### the two files -/

/-- **The resolvers file on the two routes, in closed form over the same pieces.** For every valid `M` (type names not
    those of built-in scalars) and every configuration, with
      `userAliases M`  = the `type X = …` aliases of the non-input definitions of `M`, as the SDL route prints them,
      `userEntries M`  = their `Resolvers<Context>` fields (objects, interfaces, unions), as the SDL route prints them,
      `userNames M`    = their names,
      `scalarAlias n`  = `type n = Schema.__ResolverOutput.n`,
      `introAliases` / `introEntries` / `introNames` = the aliases / fields / names of the eight `__*` definitions — fixed
        lists that do not depend on `M`:
    * SDL route:  header, `userAliases M`, the aliases of Int Float String Boolean ID,
                  `Resolvers<Context> = { userEntries M }`, `ResolverOutput` over `userNames M ++ [Int, …, ID]`;
    * JSON route: header, `userAliases M` (the same statements, same order), the aliases of the referenced built-in
                  scalars, `introAliases`, the aliases of the unreferenced ones,
                  `Resolvers<Context> = { userEntries M ++ introEntries }` (the same fields in the same order, then the
                  `__*` ones), `ResolverOutput` over `userNames M ++ refNames M ++ introNames ++ restNames M`.
    So: every `__Resolver<…>` of every field and every `__resolveType` union is literally the same; the only differences
    are the documented extras (the `__*` block) and the position of the built-in scalar aliases. -/
theorem C15_resolvers_routes_eq (c : DeclCfg.Cfg) (M : TsDoc) (h : ValidParsed M) (hb : UserNotBuiltin M) :
    resolversFile c (docSdl M) =
      assemble (userAliases M ++ builtinScalarNames.map scalarAlias) (userEntries M)
        (userNames M ++ builtinScalarNames) ∧
    resolversFile c (docJson M) =
      assemble (userAliases M ++ (refNames M).map scalarAlias ++ introAliases ++ (restNames M).map scalarAlias)
        (userEntries M ++ introEntries) (userNames M ++ refNames M ++ introNames ++ restNames M) ∧
    (refNames M ++ restNames M).Perm builtinScalarNames :=
  ⟨resolversFile_docSdl c M, resolversFile_docJson c (orderOk_of_valid h hb), ref_rest_perm M⟩

/-- **Summary: the same entries up to order, plus the `__*` extras.** With `aliases`, `names` the alias statements and
    `ResolverOutput` members of the SDL route's file and `aliases'`, `names'` those of the JSON route's: both files have
    the same header, the JSON route's `Resolvers<Context>` record is the SDL route's followed by `introEntries`,
    `aliases'` is a permutation of `aliases ++ introAliases` and `names'` of `names ++ introNames`. -/
theorem C15_resolvers_routes_perm (c : DeclCfg.Cfg) (M : TsDoc) (h : ValidParsed M) (hb : UserNotBuiltin M) :
    ∃ aliases aliases' names names',
      resolversFile c (docSdl M) = assemble aliases (userEntries M) names ∧
      resolversFile c (docJson M) = assemble aliases' (userEntries M ++ introEntries) names' ∧
      aliases'.Perm (aliases ++ introAliases) ∧ names'.Perm (names ++ introNames) := by
  obtain ⟨h1, h2, hp⟩ := C15_resolvers_routes_eq c M h hb
  exact ⟨_, _, _, _, h1, h2, perm_regroup (by rw [← List.map_append]; exact hp.map _), perm_regroup hp⟩

/-- **Composed with the reader.** For every valid `M`: reading the specification's introspection result of `M` the way
    the CLI does succeeds with a schema value `s`, and the resolvers file printed from `type_system_to_ast s` is the
    closed form above — the SDL route's entries, the `__*` block, the built-in scalars. -/
theorem C15_resolvers_routes_agree (c : DeclCfg.Cfg) (M : TsDoc) (h : ValidParsed M) (hb : UserNotBuiltin M) :
    ∃ s, CliSchema.routeJson (IntrospectSpec.introspectSpec M) = .ok s ∧
      resolversFile c (schemaToAst s) =
        assemble (userAliases M ++ (refNames M).map scalarAlias ++ introAliases ++ (restNames M).map scalarAlias)
          (userEntries M ++ introEntries) (userNames M ++ refNames M ++ introNames ++ restNames M) ∧
      resolversFile c (M ++ CliSchema.builtins) =
        assemble (userAliases M ++ builtinScalarNames.map scalarAlias) (userEntries M)
          (userNames M ++ builtinScalarNames) := by
  obtain ⟨q, hq⟩ := Option.isSome_iff_exists.mp h.resolved.query
  obtain ⟨h1, h2, _⟩ := C15_resolvers_routes_eq c M h hb
  exact ⟨Routes.jsonSide M, Routes.routeJson_spec M q hq, h2, h1⟩

/-! ### witnesses -/

/-- **The extras are real and are exactly the `__*` types**: the fixed block has eight aliases (`__Schema`, `__Type`,
    `__TypeKind`, `__Field`, `__InputValue`, `__EnumValue`, `__Directive`, `__DirectiveLocation`) and six
    `Resolvers<Context>` fields (the six object types among them — a user of `resolversOutput` with an introspection
    schema is asked for `__Schema` … resolvers); none of these names is on the SDL route of `exampleM`, whose files
    therefore differ. -/
theorem C15_resolvers_introspection_extras_witness :
    introNames = ["__Schema", "__Type", "__TypeKind", "__Field", "__InputValue", "__EnumValue", "__Directive",
      "__DirectiveLocation"] ∧
    introEntries.map (·.1) = ["__Schema", "__Type", "__Field", "__InputValue", "__EnumValue", "__Directive"] ∧
    (∀ n ∈ introNames, n ∉ userNames exampleM ++ builtinScalarNames) ∧
    resolversFile {} (docJson exampleM) ≠ resolversFile {} (docSdl exampleM) := by
  refine ⟨by decide +kernel, by decide +kernel, by decide +kernel, ?_⟩
  intro e
  have := congrArg List.length e
  revert this
  decide +kernel

/-- **The order difference is real**: on `exampleM` the SDL route lists the built-in scalar aliases as
    `Int Float String Boolean ID` after the user's, the JSON route as `Int String Boolean ID`, the `__*` block, `Float`. -/
theorem C15_resolvers_order_witness :
    (userNames exampleM ++ builtinScalarNames).drop (userNames exampleM).length
      = ["Int", "Float", "String", "Boolean", "ID"] ∧
    (userNames exampleM ++ refNames exampleM ++ introNames ++ restNames exampleM).drop (userNames exampleM).length
      = ["Int", "String", "Boolean", "ID"] ++ introNames ++ ["Float"] := by
  refine ⟨by decide +kernel, by decide +kernel⟩

/-- **What the JSON route loses is not in the file.** `type T { f(a: Int = 5): Int @deprecated(reason: "r") }`: the twin
    has no directive, no deprecation, and `null` instead of the default value `5` — and the same `Resolvers` entry. -/
theorem C15_resolvers_lost_metadata_witness :
    let f : FieldDef := {
      name := "f", ty := .named "Int" {},
      args := [{ name := "a", ty := .named "Int" {}, default := some (.int "5" {}) }],
      dirs := [{ name := "deprecated", args := [("reason", {}, .str "r" {})] }] }
    let td : TypeDef := { kind := .object, name := "T", fields := [f] }
    (twin td).fields.map (·.dirs) = [[]] ∧ td.fields.map (·.dirs.length) = [1] ∧
    (twin td).fields.map (fun g => g.args.map (·.default)) = [[some (.null { builtin := true })]] ∧
    resolverType ⟨[]⟩ (twin td) = resolverType ⟨[]⟩ td := by
  exact ⟨rfl, rfl, rfl, rfl⟩

/-! ## whole-file facts of the schema declaration file -/

open NitroVerif.DeterminismDecls (preludeWith nsStmt) in
/-- **The schema declaration file on the two routes, in closed form over the same blocks.** For every valid `M` and
    configuration within `DeclsOk` (`Props/C15Concrete.lean`) for which the SDL route produces the file: the JSON route
    produces it too, and with
      `userBlocks c M t`  = the blocks (JSDoc + alias + `export type {…}`) of the definitions of `M` in namespace `t`,
      `scalarBlock c M t n` = the block of the built-in scalar `n`, `userReps` / `scalarRep` = the representative aliases
        (all as the SDL route prints them),
      `introBlocks c M t` / `introReps c M` = the blocks of the eight `__*` definitions (JSON route only):
    * both files are: the prelude (with the route's metadata object, see `C15_schemaMetadata_routes`), the four
      namespaces `__OperationInput`, `__OperationOutput`, `__ResolverInput`, `__ResolverOutput` in this order, the
      representative aliases;
    * SDL route, in every namespace and among the representatives: the blocks of `M` in the order of `M`, then Int Float
      String Boolean ID;
    * JSON route: the SAME blocks of `M` in the same order, then the referenced built-in scalars, then the `__*` blocks,
      then the unreferenced built-in scalars.
    So the declaration order differs exactly by the position of the built-in scalars and the inserted `__*` blocks. -/
theorem C15_schemaFile_routes_eq (c : DeclCfg.Cfg) (M : TsDoc) (h : DeclsOk c M)
    (hok : okB (SchemaDecls.schemaFile c (docSdl M)) = true) :
    SchemaDecls.schemaFile c (docSdl M) =
      .ok (preludeWith (SchemaDecls.schemaMetadata (docSdl M)) ++ (DeclCfg.Target.all.map (sdlNs c M)).map nsStmt ++
        (userReps c M ++ builtinScalarNames.map (scalarRep c M)).flatten) ∧
    SchemaDecls.schemaFile c (docJson M) =
      .ok (preludeWith (SchemaDecls.schemaMetadata (docJson M)) ++ (DeclCfg.Target.all.map (jsonNs c M)).map nsStmt ++
        (userReps c M ++ (refNames M).map (scalarRep c M) ++ introReps c M ++ (restNames M).map (scalarRep c M)).flatten) ∧
    (∀ t, sdlNs c M t = (t.name, userBlocks c M t ++ builtinScalarNames.map (scalarBlock c M t))) ∧
    (∀ t, jsonNs c M t = (t.name, userBlocks c M t ++ (refNames M).map (scalarBlock c M t) ++ introBlocks c M t ++
      (restNames M).map (scalarBlock c M t))) := by
  obtain ⟨h1, h2⟩ := schemaFile_routes_closed h (allOk_of_okB c _ hok)
  exact ⟨h1, h2, fun _ => rfl, fun _ => rfl⟩

/-- the hypotheses are satisfiable: `exampleM` with a scalar mapping whose identifier clashes with a type name -/
example : DeclsOk { scalars := [("ID", .single "U | string")] } exampleM ∧
    okB (SchemaDecls.schemaFile { scalars := [("ID", .single "U | string")] } (docSdl exampleM)) = true :=
  ⟨⟨exampleM_valid, by decide +kernel, by decide +kernel⟩, by decide +kernel⟩

/-- **The `__nitrogql_schema` metadata object on the two routes.** For every `M`:
    * the JSON route writes `{ query: Q, mutation: M, subscription: S }` — the root types that are set, ALWAYS in this
      key order (`jsonMetaFields`: `type_system_to_ast` emits a schema definition from the schema value's three options);
    * the SDL route writes the entries of the `schema { … }` definition in the order written, or — without a schema
      definition — one entry per object type named `Query` / `Mutation` / `Subscription`, in the order of their
      definitions (`defaultField`);
    * for a valid `M` whose schema definition lists each operation kind at most once (`RootKindsDistinct`) the JSON
      route's fields are a permutation of the SDL route's: same keys, same types, only the key order may differ. -/
theorem C15_schemaMetadata_routes (M : TsDoc) (h : Routes.ValidResolved M) (hk : RootKindsDistinct M) :
    ∃ fs fs' : List Ts.Field,
      SchemaDecls.schemaMetadata (docSdl M) = .obj fs ∧
      SchemaDecls.schemaMetadata (docJson M) = .obj fs' ∧
      fs' = jsonMetaFields (IntrospectSpec.specRoots M) ∧
      fs = (match (IntrospectSpec.schemaDefs M).head? with
            | some d => d.roots.map fun x => metaField x.1 x.2.1
            | none => (SchemaDecls.typeDefsOf M).filterMap defaultField) ∧
      fs'.Perm fs := by
  refine ⟨_, _, ?_, schemaMetadata_docJson M, rfl, rfl, ?_⟩
  · rw [schemaMetadata_docSdl]
    cases (IntrospectSpec.schemaDefs M).head? <;> rfl
  · cases hs : IntrospectSpec.schemaDefs M with
    | nil =>
      simp only [List.head?_nil]
      rw [jsonMetaFields_default M hs]
      refine default_fields_perm _ ?_
      have := h.typeNames
      rwa [userTypes_eq_map, List.map_map,
        show ((fun t : ITypeDef => t.name) ∘ convTypeDef) = (fun t : TypeDef => t.name) from
          funext fun t => convTypeDef_name t] at this
    | cons d rest =>
      simp only [List.head?_cons]
      have hr : IntrospectSpec.specRoots M = setRoots {} d.roots := by simp [IntrospectSpec.specRoots, hs]
      rw [hr]
      exact jsonMetaFields_setRoots d.roots (hk d (by simp [hs]))

/-- the hypotheses hold of `exampleM` and of a document without schema definition whose `Mutation` comes first — there
    the key order really differs (`mutation, query` on the SDL route, `query, mutation` on the JSON route) -/
example :
    let M : TsDoc := [.typeDef { kind := .object, name := "Mutation", fields := [{ name := "x", ty := .named "Int" {} }] },
                      .typeDef { kind := .object, name := "Query", fields := [{ name := "y", ty := .named "Int" {} }] }]
    Routes.ValidResolved exampleM ∧ RootKindsDistinct exampleM ∧ Routes.ValidResolved M ∧ RootKindsDistinct M ∧
    SchemaDecls.schemaMetadata (docSdl M) =
      .obj [("mutation", false, false, .ref "Mutation"), ("query", false, false, .ref "Query")] ∧
    SchemaDecls.schemaMetadata (docJson M) =
      .obj [("query", false, false, .ref "Query"), ("mutation", false, false, .ref "Mutation")] := by
  exact ⟨exampleM_valid.resolved, by decide +kernel, ⟨by decide +kernel, by decide +kernel, by decide +kernel, by decide +kernel, by decide +kernel⟩, by decide +kernel,
    rfl, rfl⟩

/-- **`RootKindsDistinct` is needed, and the type-system checker does not enforce it** (`check_schema` looks at the
    directives of the schema definition only): for `schema { query: A query: B }  type A { x: Int }  type B { y: Int }`
    — `ValidParsed`, accepted by the checker model — the SDL route writes the key `query` twice
    (`{ query: A, query: B }`), the JSON route once (`{ query: B }`: the last entry wins in `ast_to_type_system`). -/
theorem C15_schemaMetadata_duplicate_root_counterexample :
    let M : TsDoc := [.schemaDef { roots := [(.query, "A", {}), (.query, "B", {})], pos := { line := 1, col := 1 } },
                      .typeDef { kind := .object, name := "A", fields := [{ name := "x", ty := .named "Int" {} }] },
                      .typeDef { kind := .object, name := "B", fields := [{ name := "y", ty := .named "Int" {} }] }]
    ValidParsed M ∧ ¬ RootKindsDistinct M ∧ CheckTs.checkSchema (M ++ CliSchema.builtins) = [] ∧
    SchemaDecls.schemaMetadata (docSdl M) =
      .obj [("query", false, false, .ref "A"), ("query", false, false, .ref "B")] ∧
    SchemaDecls.schemaMetadata (docJson M) = .obj [("query", false, false, .ref "B")] := by
  exact ⟨⟨⟨by decide +kernel, by decide +kernel, by decide +kernel, by decide +kernel, by decide +kernel⟩, by decide +kernel, by decide +kernel, by decide +kernel⟩, by decide +kernel,
    by decide +kernel, rfl, rfl⟩

/-- **Every JSDoc comment of the schema declaration file, in text order.** For every valid `M` (type names not those of
    built-in scalars; each operation kind at most once in the schema definition) and every configuration:
    `allDocs` — the comment of the metadata object's keys (the schema description), then, namespace by namespace, the
    type-level and field-level comments of every definition — is
    * on the SDL route: the metadata comments, then the comments of the definitions of `M` (`userDocs`);
    * on the JSON route: the SAME metadata comments, then the comments of the definitions of `M` WITHOUT their
      `@deprecated` tags (`userPlainDocs`: `type_system_to_ast` writes no directives) — descriptions of types, fields,
      input fields survive, in the same order; built-in scalars and `__*` types carry no comment on either route;
    * hence EQUAL when no field / input field of `M` is deprecated. -/
theorem C15_schemaDocs_routes_eq (c : DeclCfg.Cfg) (M : TsDoc) (h : ValidParsed M) (hb : UserNotBuiltin M)
    (hk : RootKindsDistinct M) :
    SchemaDecls.allDocs c (docSdl M) =
      SchemaDecls.metadataDocs (docSdl M) ++ DeclCfg.Target.all.flatMap (userDocs c M) ∧
    SchemaDecls.allDocs c (docJson M) =
      SchemaDecls.metadataDocs (docSdl M) ++ DeclCfg.Target.all.flatMap (userPlainDocs c M) ∧
    ((∀ td ∈ SchemaDecls.typeDefsOf M, noDeprecation td = true) →
      SchemaDecls.allDocs c (docJson M) = SchemaDecls.allDocs c (docSdl M)) := by
  have h1 := allDocs_docSdl c M
  have h2 : SchemaDecls.allDocs c (docJson M) =
      SchemaDecls.metadataDocs (docSdl M) ++ DeclCfg.Target.all.flatMap (userPlainDocs c M) := by
    rw [allDocs_docJson c (orderOk_of_valid h hb), metadataDocs_routes M hk]
  refine ⟨h1, h2, fun hnd => ?_⟩
  rw [h1, h2]
  congr 1
  exact flatMap_congr_mem fun t _ => userPlainDocs_eq c M t hnd

/-- the hypotheses hold of `exampleM`, whose only deprecation sits on an enum value (not part of `allDocs`) -/
example : ValidParsed exampleM ∧ UserNotBuiltin exampleM ∧ RootKindsDistinct exampleM ∧
    ∀ td ∈ SchemaDecls.typeDefsOf exampleM, noDeprecation td = true :=
  ⟨exampleM_valid, by decide +kernel, by decide +kernel, by decide +kernel⟩

/-- **The `@deprecated` tag IS lost on the JSON route** (exempt by the property's wording: JSDoc): with
    `type Query { "old" f: Int @deprecated(reason: "r") }` the SDL route's comments are the lines `old`, `@deprecated r` (normalised text) in
    each of the two output namespaces, the JSON route's just `old`. -/
theorem C15_schemaDocs_deprecation_witness :
    let f : FieldDef := {
      name := "f", desc := some "old", ty := .named "Int" {},
      dirs := [{ name := "deprecated", args := [("reason", {}, .str "r" {})] }] }
    let M : TsDoc := [.typeDef { kind := .object, name := "Query", fields := [f] }]
    ValidParsed M ∧ UserNotBuiltin M ∧ RootKindsDistinct M ∧
    SchemaDecls.allDocs {} (docSdl M) = ["old\n@deprecated r", "old\n@deprecated r"] ∧
    SchemaDecls.allDocs {} (docJson M) = ["old", "old"] := by
  refine ⟨⟨⟨by decide +kernel, by decide +kernel, by decide +kernel, by decide +kernel, by decide +kernel⟩, by decide +kernel, by decide +kernel, by decide +kernel⟩, by decide +kernel,
    by decide +kernel, by decide +kernel, by decide +kernel⟩

/-! ## the SDL route's document in the order the pipeline really produces -/

open NitroVerif.DeterminismResolvers NitroVerif.DeterminismDecls in
/-- **The order of the SDL route's document does not matter beyond order.** The theorems above take the SDL route's
    document as `M` followed by the built-ins; the real pipeline hands the printers a REGROUPING of it
    (`resolve_schema_extensions` emits the directive definitions, the schema definition and the type definitions kind by
    kind — a permutation, C11). For every valid `M` (type names not those of built-in scalars) and EVERY permutation `D` of
    `M ++ builtins`: the resolvers file printed from `D` is `ResolversFileEquiv` to the one printed from `M ++ builtins`
    (same aliases and `Resolvers` fields up to their order and the order of union members), and the schema declaration
    file is produced for `D` iff it is for `M ++ builtins`, the two being `DeclFileEquiv` (C17: blocks permuted, interface
    unions' members permuted, metadata fields permuted). So the closed forms above describe the real SDL-route files up to
    exactly these reorderings. -/
theorem C15_sdl_route_any_order (c : DeclCfg.Cfg) (M : TsDoc) (h : ValidParsed M) (hb : UserNotBuiltin M) (D : TsDoc)
    (hp : D.Perm (docSdl M)) :
    ResolversFileEquiv (resolversFile c (docSdl M)) (resolversFile c D) ∧
    (∀ f, SchemaDecls.schemaFile c (docSdl M) = .ok f →
      ∃ f', SchemaDecls.schemaFile c D = .ok f' ∧ DeclFileEquiv f f') ∧
    (∀ e, SchemaDecls.schemaFile c (docSdl M) = .error e → ∃ e', SchemaDecls.schemaFile c D = .error e') := by
  have nd := noDupTypeNames_docSdl (orderOk_of_valid h hb)
  have one := oneSchemaDef_docSdl h.resolved
  obtain ⟨h1, h2⟩ := Determinism.C17_decls_perm c hp.symm nd one
  exact ⟨Determinism.C17_resolvers_perm c hp.symm, h1, h2⟩

/-- the hypotheses are satisfiable: `exampleM ++ builtins` with its definitions reversed -/
example : ValidParsed exampleM ∧ UserNotBuiltin exampleM ∧ (docSdl exampleM).reverse.Perm (docSdl exampleM) :=
  ⟨exampleM_valid, by decide +kernel, List.reverse_perm _⟩

/-!
## OPEN — carried by K/O only

See the block at the end of `Props/C15.lean`.  For this module: that `ResolverDecls.resolversFile` /
`SchemaDecls.schemaFile` / `allDocs` are the real printers (K of C10 on SDL inputs, the two-route O stream);
argument-description JSDoc inside the resolvers file (outside the model); WHICH permutation `resolve_schema_extensions`
applies (C11 — `C15_sdl_route_any_order` covers every permutation); `C15_schemaMetadata_duplicate_root_counterexample` is
a statement about the MODELS (`CheckTs.checkSchema`, `SchemaDecls.schemaMetadata`) and has not been replayed on the real
CLI.  Hypotheses not discharged anywhere: `ValidParsed`, `UserNotBuiltin`, `DeclsOk`, `RootKindsDistinct`, and for
`C15_schemaFile_routes_eq` that the SDL route produces the file.
-/

end NitroVerif.C15
