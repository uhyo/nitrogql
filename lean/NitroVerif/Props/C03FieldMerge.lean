import NitroVerif.Lemmas.CheckOpSoundWitnessFacts
import NitroVerif.Lemmas.CheckOpNonEmpty
import NitroVerif.Spec.FieldMerge
/-!
# C03, the rule that is NOT implemented: 5.3.2 Field Selection Merging

Four witness documents and the theorems about them. `FieldMerge.rule_5_3_2` (`Spec/FieldMerge.lean`) is the specification's
`FieldsInSetCanMerge` / `SameResponseShape`, stated for every selection set of the document. nitrogql's
`check_operation_document` has no such check; here that known non-implementation is a theorem about the model
(which K ties to the Rust code), not prose: the model accepts documents that violate the rule.
-/
namespace NitroVerif.CheckOp
open NitroVerif.Gql NitroVerif.CheckCommon NitroVerif.Valid NitroVerif.CheckOp.Witness

/-- `query Q { n: a  n: f(x: 1) { a } }` — one response key, two different fields (`Int` against `Query`) -/
def mergeBadShape : Doc :=
  [q [fld "a" [] [] none (some "n"), fld "f" [arg "x" (vInt "1")] [] (some [fld "a"]) (some "n")]]

/-- `query Q { f(x: 1) { a }  f(x: 2) { a } }` — the same field twice with different arguments -/
def mergeBadArgs : Doc :=
  [q [fld "f" [arg "x" (vInt "1")] [] (some [fld "a"]), fld "f" [arg "x" (vInt "2")] [] (some [fld "a"])]]

/-- `query Q { node(id: "1") { ... on User { x: name } ...DF } }  fragment DF on Dog { x: id }` — the conflict
    (`String` against `ID!`) is between an inline fragment and a fragment spread, on different object types -/
def mergeBadThroughSpread : Doc :=
  [q [fld "node" [arg "id" (vStr "1")] [] (some [inl (some "User") [fld "name" [] [] none (some "x")], spr "DF"])],
   fr "DF" "Dog" [fld "id" [] [] none (some "x")]]

/-- the same with `x: bark` (`String` against `String` on different object types): mergeable -/
def mergeOk : Doc :=
  [q [fld "node" [arg "id" (vStr "1")] [] (some [inl (some "User") [fld "name" [] [] none (some "x")], spr "DF"])],
   fr "DF" "Dog" [fld "bark" [] [] none (some "x")]]

/-- 5.3.2 is not implemented: the checker model accepts, against a valid schema, three parsed-shape documents (all
    selection sets non-empty) that violate Field Selection Merging as the specification states it — two different
    fields under one response key, one field twice with different arguments, and a response-shape conflict between
    an inline fragment and a fragment spread. -/
theorem C03_field_merge_not_implemented_witnesses :
    SchemaValid wSchema ∧
    (∀ D ∈ [mergeBadShape, mergeBadArgs, mergeBadThroughSpread],
      Doc.NonEmptySelections D ∧ checkOp wSchema D = [] ∧ FieldMerge.rule_5_3_2 wSchema D = false) :=
  ⟨wSchema_valid, by decide +kernel⟩

/-- 5.3.2 is not implemented, as the failure of the C03 implication for that rule: it is NOT the case that every
    document the checker accepts (valid schema, non-empty selection sets) satisfies Field Selection Merging. -/
theorem C03_field_merge_not_implemented :
    ¬ (∀ (S : Schema) (D : Doc), SchemaValid S → Doc.NonEmptySelections D → checkOp S D = [] →
        FieldMerge.rule_5_3_2 S D = true) := by
  intro hall
  obtain ⟨hS, hw⟩ := C03_field_merge_not_implemented_witnesses
  obtain ⟨hD, hc, hr⟩ := hw mergeBadShape (List.mem_cons_self ..)
  rw [hall wSchema mergeBadShape hS hD hc] at hr
  cases hr

/-- the reference statement is not trivially false: it holds of the accepted witness document of `Props/C03.lean`
    (on which the document-wide SUFFICIENT check `Valid.rule_5_3_2` fails — `name(upper: true)` and `name` occur in
    different selection sets — so that check is strictly stronger than the rule) and of a document with the same
    response key for different fields on different object types -/
example : FieldMerge.rule_5_3_2 wSchema wDoc = true ∧ Valid.rule_5_3_2 wSchema wDoc = false ∧
    checkOp wSchema mergeOk = [] ∧ FieldMerge.rule_5_3_2 wSchema mergeOk = true := by decide +kernel

/-- on the three violating witnesses the sufficient check of `Spec/Valid.lean` (what the O stream's `valid.spec` uses)
    agrees that they are invalid -/
example : ∀ D ∈ [mergeBadShape, mergeBadArgs, mergeBadThroughSpread], Valid.rule_5_3_2 wSchema D = false := by
  decide +kernel

end NitroVerif.CheckOp
