import NitroVerif.Lemmas.StagesRender
/-!
# C18 — CLI status, diagnostics and written files are consistent and well-located

Model: `NitroVerif/Model/Cli.lean` (tied to `crates/cli/src/{main,check,generate}.rs`,
`output/mod.rs`, `file_store.rs`, `crates/error/src/lib.rs` by the correspondence check `harness/src/bin/c18.rs`,
which runs the real binary).  Every theorem quantifies over ALL stage results `r : Run` (any number of files, any
diagnostics, any command list, any generate options).  Process-level behaviour (how the exit code, stdout/stderr
and the file system are actually driven) is observed on the binary, not proved.
-/
namespace NitroVerif.Cli

/-- the CLI never reaches the `panic!` of `FileStore::add_file` (all schema files are added before the first
    operation file), so every run has an outcome -/
theorem C18_no_store_panic (r : Run) : (runCli r).isSome = true := by
  obtain ⟨o, h, _⟩ := runCli_shape r
  simp [h]

/-- the exit code is 0 or 1 -/
theorem C18_exit_01 (r : Run) (o : Outcome) (h : runCli r = some o) : o.exit = 0 ∨ o.exit = 1 := by
  cases ends_of_run h with
  | early _ _ _ ho _ => subst ho; exact Or.inr rfl
  | commands p _ _ _ _ ho => subst ho; cases p.2 <;> simp [outcomeOf]

/-- exit code 0 exactly when there is no diagnostic and no command error -/
theorem C18_exit_iff (r : Run) (o : Outcome) (h : runCli r = some o) :
    o.exit = 0 ↔ (o.diags = [] ∧ o.error = none) := by
  cases ends_of_run h with
  | early _ _ _ ho _ => subst ho; simp [outcomeOf]
  | commands p hp _ _ _ ho =>
    subst ho
    cases he : p.2 with
    | none => simpa [outcomeOf] using Classical.byContradiction fun hd => hp.fails hd he
    | some e => simp [outcomeOf]

/-- exit code 0 exactly when the stage results contain no fault that the requested commands look at: a usable
    command list (`check` or `generate` first, then only `generate`), every file parses, `check_impl` reports
    nothing, and — if `generate` is requested — usable options, no printer error, no file-system failure -/
theorem C18_exit_iff_faults (r : Run) (o : Outcome) (h : runCli r = some o) : o.exit = 0 ↔ Clean r := by
  cases ends_of_run h with
  | early _ _ _ ho hn => subst ho; simp [outcomeOf, hn]
  | commands p hp hc hs hop ho =>
    subst ho
    have hex : (outcomeOf p.1 p.2 ⟨r.schemaFiles.length, r.opFiles.length⟩).exit = 0 ↔ p.2 = none := by
      cases p.2 <;> simp [outcomeOf]
    rw [hex, hp.ok]
    exact ⟨fun h => (h.resolve_left hc).elim fun h1 h2 => ⟨h1, hs, hop, h2⟩, fun c => Or.inr ⟨c.1, c.2.2.2⟩⟩

example : Clean ⟨[.check, .generate], [.ok], none, [], [⟨.ok, none, none, [], .ok⟩],
    ⟨true, false, false, true, true, .withLoaderTs50⟩, false, .ok, .ok, .ok⟩ :=
  ⟨by decide, by decide, by decide, by decide, by decide⟩

/-- a diagnostic always comes with exit code 1 -/
theorem C18_diag_exit_1 (r : Run) (o : Outcome) (h : runCli r = some o) (hd : o.diags ≠ []) : o.exit = 1 := by
  rcases C18_exit_01 r o h with h0 | h1
  · exact absurd ((C18_exit_iff r o h).mp h0).1 hd
  · exact h1

example : ∃ r o, runCli r = some o ∧ o.diags ≠ [] :=
  ⟨⟨[.check], [.ok], none, [], [⟨.ok, none, none, [⟨⟨0, 0, 1, false⟩, [], 0⟩], .ok⟩], ⟨true, false, false, false, false, .withLoaderTs50⟩,
    false, .ok, .ok, .ok⟩, _, rfl, by decide⟩

/-- when check ran, the diagnostics are exactly the result of `check_impl` (nothing dropped, nothing invented) -/
theorem C18_diags_are_check_result (r : Run) (o : Outcome) (h : runCli r = some o)
    (hc : Cmd.check ∈ o.commandsRun) : o.diags = checkImpl r := by
  cases ends_of_run h with
  | early _ _ _ ho _ => subst ho; cases hc
  | commands p hp _ _ _ ho => subst ho; exact hp.final.ran hc

/-- `check` (any command list without `generate`) writes no file and lists none -/
theorem C18_check_writes_nothing (r : Run) (o : Outcome) (h : runCli r = some o) (hg : Cmd.generate ∉ r.cmds) :
    o.written = [] ∧ o.listed = [] := by
  cases ends_of_run h with
  | early _ _ _ ho _ => subst ho; exact ⟨rfl, rfl⟩
  | commands p hp _ _ _ ho => subst ho; exact hp.idle hg

example : ∃ r : Run, Cmd.generate ∉ r.cmds ∧ r.cmds ≠ [] := ⟨⟨[.check, .check], [], none, [], [], ⟨true, false, false, false, false, .withLoaderTs50⟩, false, .ok, .ok, .ok⟩, by decide, by decide⟩

/-- did the inputs fail to parse or did `check_impl` report anything? -/
def CheckFails (r : Run) : Prop :=
  parseErrs .schema .parseSchema 0 r.schemaFiles ≠ [] ∨
  parseErrs .operation .parseOperation r.schemaFiles.length (r.opFiles.map (·.parse)) ≠ [] ∨
  checkImpl r ≠ []

theorem not_checkFails_iff (r : Run) :
    ¬ CheckFails r ↔ (∀ f ∈ r.schemaFiles, f = .ok) ∧ (∀ f ∈ r.opFiles, f.parse = .ok) ∧ checkImpl r = [] := by
  unfold CheckFails
  rw [not_or, not_or, Classical.not_not, Classical.not_not, Classical.not_not, parseErrs_nil_iff, opParse_ok_iff]

/-- when check fails (or an input does not parse) nothing is written, whatever commands were requested -/
theorem C18_generate_gated (r : Run) (o : Outcome) (h : runCli r = some o) (hf : CheckFails r) :
    o.written = [] ∧ o.listed = [] := by
  cases ends_of_run h with
  | early _ _ _ ho _ => subst ho; exact ⟨rfl, rfl⟩
  | commands p hp _ hs hop ho =>
    subst ho
    have hw := hp.final.gated <| hf.resolve_left (fun h => h ((parseErrs_nil_iff _ _ _ _).mpr hs))
      |>.resolve_left (fun h => h ((opParse_ok_iff r _).mpr hop))
    exact ⟨hw, hp.final.wl.symm.trans hw⟩

example : CheckFails ⟨[.generate], [.ok], none, [], [⟨.ok, none, none, [⟨⟨0, 0, 1, false⟩, [], 0⟩], .ok⟩],
    ⟨true, false, false, true, true, .withLoaderTs50⟩, false, .ok, .ok, .ok⟩ := Or.inr (Or.inr (by decide))

/-- the files written are exactly the files listed (same files, same order), and every listed source map has its
    file listed: the map is the `<file name>.map` sibling of that file -/
theorem C18_written_eq_listed (r : Run) (o : Outcome) (h : runCli r = some o) :
    o.written = o.listed ∧ MapsHaveFiles o.listed := by
  cases ends_of_run h with
  | early _ _ _ ho _ => subst ho; exact ⟨rfl, fun _ ht => nomatch ht⟩
  | commands p hp _ _ _ ho => subst ho; exact ⟨hp.final.wl, hp.final.maps⟩

/-- the JSON document lists under `generate.files` exactly the files written -/
theorem C18_json_lists_written (r : Run) (o : Outcome) (h : runCli r = some o) (fs : List OutFile)
    (hj : (jsonView o).generate = some fs) : fs = o.written := by
  have := (C18_written_eq_listed r o h).1
  unfold jsonView at hj
  simp only [] at hj
  split at hj
  · cases hj; exact this.symm
  · cases hj

/-- every file with a parse error contributes a diagnostic that names it (schema files; operation files when all
    schema files parse) — all of them, not only the first -/
theorem C18_parse_errors_all_reported (r : Run) (o : Outcome) (h : runCli r = some o) (hc : r.cmds ≠ []) :
    (∀ i l c t, r.schemaFiles[i]? = some (.err l c t) →
      (⟨.schema, .parseSchema, ⟨⟨l, c, i, false⟩, [], t⟩⟩ : CheckErr) ∈ o.diags) ∧
    ((∀ f ∈ r.schemaFiles, f = .ok) → ∀ j l c t, (r.opFiles.map (·.parse))[j]? = some (.err l c t) →
      (⟨.operation, .parseOperation, ⟨⟨l, c, r.schemaFiles.length + j, false⟩, [], t⟩⟩ : CheckErr) ∈ o.diags) := by
  have sh := shape_of_run h
  constructor
  · intro i l c t hi
    have hm := parseErrs_complete .schema .parseSchema 0 r.schemaFiles i l c t hi
    simp only [Nat.zero_add] at hm
    cases sh with
    | noCommand h0 _ => exact absurd h0 hc
    | schemaParse _ _ ho => subst ho; simpa [outcomeOf] using hm
    | opParse _ hs _ _ => rw [hs] at hm; cases hm
    | commands _ hs _ _ => rw [hs] at hm; cases hm
  · intro hok j l c t hj
    have hm := parseErrs_complete .operation .parseOperation r.schemaFiles.length (r.opFiles.map (·.parse)) j l c t hj
    cases sh with
    | noCommand h0 _ => exact absurd h0 hc
    | schemaParse _ he _ => exact absurd ((parseErrs_nil_iff _ _ _ _).mpr hok) he
    | opParse _ _ _ ho => subst ho; simpa [outcomeOf] using hm
    | commands _ _ hp _ => rw [hp] at hm; cases hm

/-- `check_impl` reports EVERY operation file that has a fault at the first operation stage that reports anything
    (extension resolution, then import resolution, then the operation check), provided the schema is accepted -/
theorem checkImpl_first_stage (r : Run) (hs1 : r.schemaExt = none) (hs2 : r.schemaCheck = []) :
    (∀ f ∈ r.opFiles, ∀ d, f.ext = some d → (⟨.operation, .opExt, d⟩ : CheckErr) ∈ checkImpl r) ∧
    ((∀ f ∈ r.opFiles, f.ext = none) →
      ∀ f ∈ r.opFiles, ∀ d, f.imp = some d → (⟨.operation, .opImport, d⟩ : CheckErr) ∈ checkImpl r) ∧
    ((∀ f ∈ r.opFiles, f.ext = none ∧ f.imp = none) →
      ∀ f ∈ r.opFiles, ∀ d ∈ f.check, (⟨.operation, .opCheck, d⟩ : CheckErr) ∈ checkImpl r) := by
  have none_ext : ∀ {f d}, r.opFiles.filterMap (·.ext) = [] → f ∈ r.opFiles → f.ext = some d → False :=
    fun h hf hd => nomatch ((List.filterMap_eq_nil_iff.mp h _ hf).symm.trans hd)
  have none_imp : ∀ {f d}, r.opFiles.filterMap (·.imp) = [] → f ∈ r.opFiles → f.imp = some d → False :=
    fun h hf hd => nomatch ((List.filterMap_eq_nil_iff.mp h _ hf).symm.trans hd)
  have hc := checkImpl_case r
  generalize checkImpl r = l at hc ⊢
  cases hc with
  | schemaExt hd => rw [hs1] at hd; cases hd
  | schemaCheck _ h1 => exact absurd hs2 h1
  | opExt _ _ h2 =>
    exact ⟨fun f hf d hd => mem_tagged.mpr ⟨d, List.mem_filterMap.mpr ⟨f, hf, hd⟩, rfl⟩,
      fun hn => absurd (List.filterMap_eq_nil_iff.mpr hn) h2,
      fun hn => absurd (List.filterMap_eq_nil_iff.mpr fun f hf => (hn f hf).1) h2⟩
  | opImport _ _ h2 h3 =>
    exact ⟨fun f hf d hd => (none_ext h2 hf hd).elim,
      fun _ f hf d hd => mem_tagged.mpr ⟨d, List.mem_filterMap.mpr ⟨f, hf, hd⟩, rfl⟩,
      fun hn => absurd (List.filterMap_eq_nil_iff.mpr fun f hf => (hn f hf).2) h3⟩
  | opCheck _ _ h2 h3 =>
    exact ⟨fun f hf d hd => (none_ext h2 hf hd).elim, fun _ f hf d hd => (none_imp h3 hf hd).elim,
      fun _ f hf d hd => mem_tagged.mpr ⟨d, List.mem_flatMap.mpr ⟨f, hf, hd⟩, rfl⟩⟩

/-- does file `f` have a fault `d` at the first operation stage of the run that reports anything? -/
def FirstStageFault (r : Run) (f : OpFile) (d : Diag) : Prop :=
  f.ext = some d ∨
  ((∀ g ∈ r.opFiles, g.ext = none) ∧ f.imp = some d) ∨
  ((∀ g ∈ r.opFiles, g.ext = none ∧ g.imp = none) ∧ d ∈ f.check)

/-
FULL STATEMENT (false of the code, see `C18_all_files_reported_counterexample`; open findings
`unnamed:op-*:masked-by:op-*` with replays under findings/):

  theorem C18_all_files_reported : check ran → schema accepted →
      ∀ f ∈ r.opFiles, ∀ d, (f.ext = some d ∨ f.imp = some d ∨ d ∈ f.check) → ∃ e ∈ o.diags, e.diag = d

The code reports the faults of ONE operation stage only — the first that reports anything — but of every file at
that stage.  Likewise for schema files: `resolve_schema_extensions` returns a single error, which hides the
extension-resolution faults of other schema files and every fault `check_type_system_document` would find
(`C18_schema_stage_counterexample`); and a schema that is not accepted ends the check before operations are looked at.
`resolve_operation_imports` also returns ONE error per root file — the first met along the import chain, so it may be
located in an imported file (`imp : Option Diag` carries an arbitrary position): the theorem below says the fault is
REPORTED; that the report names the file itself needs the position to lie in that file (open finding
`unnamed:op-import:masked-by:op-import`).
-/

/-- every operation file with a fault at the first failing operation stage contributes a diagnostic carrying that
    fault (when the check ran and the schema was accepted) -/
theorem C18_all_files_reported_partial (r : Run) (o : Outcome) (h : runCli r = some o)
    (hc : Cmd.check ∈ o.commandsRun) (hs1 : r.schemaExt = none) (hs2 : r.schemaCheck = [])
    (f : OpFile) (hf : f ∈ r.opFiles) (d : Diag) (hd : FirstStageFault r f d) :
    ∃ e ∈ o.diags, e.kind = .operation ∧ e.diag = d := by
  rw [C18_diags_are_check_result r o h hc]
  obtain ⟨h1, h2, h3⟩ := checkImpl_first_stage r hs1 hs2
  rcases hd with hd | ⟨hn, hd⟩ | ⟨hn, hd⟩
  · exact ⟨_, h1 f hf d hd, rfl, rfl⟩
  · exact ⟨_, h2 hn f hf d hd, rfl, rfl⟩
  · exact ⟨_, h3 hn f hf d hd, rfl, rfl⟩

/-- the check runs whenever the first command is `check` or `generate` and the inputs parse -/
theorem C18_check_runs (r : Run) (o : Outcome) (h : runCli r = some o) (c : Cmd) (cs : List Cmd)
    (hcmds : r.cmds = c :: cs) (hc : c = .check ∨ c = .generate)
    (hs : ∀ f ∈ r.schemaFiles, f = .ok) (hp : ∀ f ∈ r.opFiles, f.parse = .ok) : Cmd.check ∈ o.commandsRun := by
  cases shape_of_run h with
  | noCommand h0 _ => rw [hcmds] at h0; cases h0
  | schemaParse _ he _ => exact absurd ((parseErrs_nil_iff _ _ _ _).mpr hs) he
  | opParse _ _ he _ => exact absurd ((opParse_ok_iff r _).mpr hp) he
  | commands _ _ _ ho => subst ho; exact (runCommands_init r r.cmds).checks c cs hcmds hc

/-- the witness: operation file 0 misuses a wildcard import (extension stage), operation file 1 selects an unknown
    field (check stage); after the one schema file their file indices in positions are 1 and 2 -/
def maskedRun : Run :=
  ⟨[.check], [.ok], none, [],
    [⟨.ok, some ⟨⟨0, 0, 1, false⟩, [], 0⟩, none, [], .ok⟩, ⟨.ok, none, none, [⟨⟨0, 11, 2, false⟩, [], 1⟩], .ok⟩],
    ⟨true, false, false, false, false, .withLoaderTs50⟩, false, .ok, .ok, .ok⟩

/-- the full statement fails: the check-stage fault of file 1 is not reported (only file 0 is named) -/
theorem C18_all_files_reported_counterexample :
    ∃ o, runCli maskedRun = some o ∧ Cmd.check ∈ o.commandsRun ∧
      (⟨⟨0, 11, 2, false⟩, [], 1⟩ : Diag) ∈ (maskedRun.opFiles.flatMap (·.check)) ∧
      ∀ e ∈ o.diags, e.diag.pos.file ≠ 2 := by
  refine ⟨_, rfl, by decide, by decide, by decide⟩

/-- two schema files with faults: only the single extension-resolution error is reported -/
def maskedSchemaRun : Run :=
  ⟨[.check], [.ok, .ok], some ⟨⟨1, 0, 0, false⟩, [], 0⟩, [⟨⟨2, 13, 1, false⟩, [], 1⟩], [],
    ⟨true, false, false, false, false, .withLoaderTs50⟩, false, .ok, .ok, .ok⟩

theorem C18_schema_stage_counterexample :
    ∃ o, runCli maskedSchemaRun = some o ∧ ∀ e ∈ o.diags, e.diag.pos.file ≠ 1 := by
  refine ⟨_, rfl, by decide⟩

/-- the stages report positions of their own inputs: schema stages positions in schema files (or built-in
    definitions), operation stages positions in operation files (main positions only: the notes `extra` are not
    constrained here).  (`Pos::new` copies the file index the CLI set before parsing the file; the checkers copy
    node positions — tied to the real stages by the correspondence check on every case.) -/
structure WF (r : Run) : Prop where
  schemaExt : ∀ d, r.schemaExt = some d → d.pos.builtin = true ∨ d.pos.file < r.schemaFiles.length
  schemaCheck : ∀ d ∈ r.schemaCheck, d.pos.builtin = true ∨ d.pos.file < r.schemaFiles.length
  ops : ∀ f ∈ r.opFiles, ∀ d, (f.ext = some d ∨ f.imp = some d ∨ d ∈ f.check) →
    d.pos.builtin = true ∨ (r.schemaFiles.length ≤ d.pos.file ∧ d.pos.file < r.schemaFiles.length + r.opFiles.length)

example : WF maskedRun := by
  refine ⟨by decide, by decide, ?_⟩
  intro f hf d hd
  simp only [maskedRun, List.mem_cons, List.mem_nil_iff, or_false] at hf
  rcases hf with rfl | rfl
  · simp at hd; subst hd; right; decide
  · simp at hd; subst hd; right; decide

/-- every diagnostic that is not about a built-in definition has a file index inside the file store, and the file
    there is of the kind the diagnostic announces (`fileType`); the JSON `file` member is then not null and
    carries exactly that index, line and column -/
theorem C18_located (r : Run) (o : Outcome) (h : runCli r = some o) (wf : WF r) :
    ∀ e ∈ o.diags, e.diag.pos.builtin = false →
      (∃ i, o.store.getFile e.diag.pos.file = some (e.kind, i)) ∧
      jsonFile o.store e.diag.pos = some (e.diag.pos.file, e.diag.pos.line, e.diag.pos.col) := by
  refine located_of_inRange r o h fun e he => ?_
  rcases checkImpl_mem r e he with ⟨hk, hsrc | hsrc⟩ | ⟨hk, f, hf, hsrc⟩
  · exact (wf.schemaExt _ hsrc).imp id fun hlt => Or.inl ⟨hk, hlt⟩
  · exact (wf.schemaCheck _ hsrc).imp id fun hlt => Or.inl ⟨hk, hlt⟩
  · exact (wf.ops f hf e.diag hsrc).imp id fun hr => Or.inr ⟨hk, hr⟩

/-- the human format lists the same diagnostics as the JSON document (schema group first, then operations) -/
theorem C18_human_same_diags (o : Outcome) (a b : List CheckErr) (h : humanView o = some (a, b)) :
    (a ++ b).Perm o.diags := by
  unfold humanView at h
  split at h
  · cases h
    have := List.filter_append_perm (fun e : CheckErr => decide (e.kind = .schema)) o.diags
    simpa using this
  · cases h

/-- `message_for_line` never panics: `skip_chars` always splits the line at a character boundary inside it
    (byte offset = UTF-8 length of a prefix), `saturating_sub` never underflows, whatever line/column the position
    has — also past the end of the file, in blank surroundings, with multi-byte characters -/
theorem C18_render_total (path src : List Char) (p : Pos) (msg : List Char) (additional : Bool) :
    (messageForLine path src p msg additional).isSome = true ∧
    (∀ (l : List Char) (n : Nat), skipChars l n = some (l.drop n)) :=
  ⟨messageForLine_isSome path src p msg additional, skipChars_eq⟩

/-- `print_positioned_error` does not panic when the main position and the notes are built-in or carry file
    indices inside the file store (for the main position of every diagnostic the CLI renders: `C18_located`; for
    the notes: `C18_human_total_composed`, on the composed model) -/
theorem C18_print_total (files : List (List Char × List Char)) (msg : List Char) (pos : Option Pos)
    (extras : List (Pos × List Char))
    (hp : ∀ p, pos = some p → p.builtin = true ∨ p.file < files.length)
    (he : ∀ q ∈ extras, q.1.builtin = true ∨ q.1.file < files.length) :
    (printPositioned files msg pos extras).isSome = true := by
  cases h : printPositioned files msg pos extras with
  | some _ => rfl
  | none =>
    have inRange : ∀ {p : Pos}, p.builtin = true ∨ p.file < files.length → p.builtin = false → ¬ files.length ≤ p.file :=
      fun h hb hf => h.elim (fun h1 => by rw [hb] at h1; cases h1) (fun h1 => Nat.not_le.mpr h1 hf)
    obtain ⟨p, rfl, hb, hf | ⟨q, hq, hqb, hqf⟩⟩ := (printPositioned_none_iff files msg pos extras).mp h
    · exact absurd hf (inRange (hp p rfl) hb)
    · exact absurd hqf (inRange (he q hq) hqb)

example : ∃ files msg p, (∀ q, some p = some q → q.builtin = true ∨ q.file < files.length) ∧
    (printPositioned files msg (some p) []).isSome = true :=
  ⟨[(['f'], ['q', ' ', '{', '\n'])], ['m'], ⟨0, 2, 0, false⟩, by intro q hq; cases hq; right; decide,
    C18_print_total _ _ _ _ (by intro q hq; cases hq; right; decide) (by intro q hq; cases hq)⟩

/-- when the position is inside the file at a character that is not white space (the start of a token), the line
    is shown, the common indent `m` removed from it is at most the column, and the caret — `column - m` spaces in —
    stands under exactly that character of the shown line -/
theorem C18_caret_under_token (src : List Char) (p : Pos) (l : List Char) (c : Char)
    (hl : (lines src)[p.line]? = some l) (hc : l[p.col]? = some c) (hw : isWs c = false) :
    ∃ m, minIndent (relevantLines (lines src) p.line) = some m ∧ m ≤ p.col ∧
      (p.line, l) ∈ relevantLines (lines src) p.line ∧ (l.drop m)[p.col - m]? = some c := by
  obtain ⟨m, hm, hle⟩ := minIndent_le (lines src) p.line p.col l c hl hc hw
  refine ⟨m, hm, hle, mem_relevantLines _ _ _ hl, ?_⟩
  rw [List.getElem?_drop]
  have : m + (p.col - m) = p.col := by omega
  rw [this]; exact hc

example : ∃ (src : List Char) (p : Pos) (l : List Char) (c : Char),
    (lines src)[p.line]? = some l ∧ l[p.col]? = some c ∧ isWs c = false :=
  ⟨['a', '\n', ' ', ' ', 'x', '\n'], ⟨1, 2, 0, false⟩, [' ', ' ', 'x'], 'x', by decide, by decide, by decide⟩

/-
COMPOSED WITH THE STAGE MODELS (`Props/C18Composed.lean`, `Props/C18ComposedTs.lean`): the stage results are computed
from the project's texts by `CliComposed.stagesOf` (parser [abstract] → merge + built-ins → `ExtResolve.resolve` →
`CheckTs.checkSchema`; parser → `Imports.resolveExt` → `Imports.resolve` → `CheckOp.checkOp`), for all projects; there
the hypothesis `WF` of `C18_located` above is a theorem, given only that the parser stamps positions with the file index.

OPEN — carried by K/O only
* exit = 0 ↔ "no fault was injected" at the level of the INPUT TEXTS: the parsers stay abstract in the composed
  theorems (any functions `file index → text → document | error`); that the real parsers are `Build.parseTs` /
  `Build.parseOp` with positions re-stamped by the file index, produce no empty selection set and stamp every position
  (`ParserStamps`) is C07 / C08 and the K streams, not a theorem here.  The other parameters of `Env` (`res` =
  `resolve_relative_path`, the name coding, `pathPos`, the tag tables) are abstract as well, and the command list, the
  generate options, `ScalarTypeNotProvided` and the results of the writes (`IoRes`) are INPUTS of the project that no
  stage model computes.  The glue of `stagesOf` (merge = concatenation + built-ins, `Operations::new` keeps the last
  file of a path, imported definitions appended) was read off main.rs / check.rs; it is not proved but COMPARED: the
  K stream `composed:*` (harness/src/bin/c18/composed.rs) evaluates `runCli (stagesOf E P)` on whole projects — only
  the parsers are real — against the json run of the binary (the other K stream of C18 feeds the REAL stage results
  to the driver model; each stage model has the K stream of its own property).
* the stage models report `(kind, main position)`: the notes (`additional_info`) of the two checkers' diagnostics are not
  in the models, so the composed diagnostics carry none for them (observed on the binary by K).
* side conditions that stay hypotheses in the composed theorems: C03's `SchemaValid` of the resolved schema in
  `C18_exit_zero_implies_operation_rules` / `C18_valid_*` (the schema check does not establish all of it — e.g. not
  that root types exist: `C05_sound_knownTypes_counterexample`) and `ParserStamps` / "no empty selection set" of the
  abstract parsers.  (`C18_located_composed` needs `ParserStamps` only: the part of `SchemaValid` it uses IS derived
  from the schema check, `Lemmas/CliComposedChecked.lean`.)
* "line/column at the start of a token": inherited from C07 (node positions are token starts); here it is the
  O clause `located:not-token-start` with an independent lexer.  (`C18_diag_positions_from_ast` reduces it to: node
  positions of parsed documents are token starts.)
* one well-formed JSON document on stdout; stdout/stderr separation; what the file system really contains after
  the run: observed on the binary (O clauses `json-wellformed`, `written-neq-listed`, `check-writes-files`, …).
  `written` / `listed` are lists of output-file IDENTITIES (`OutFile` = target + is-it-a-map); the CONTENT of the
  written files is not in this model (the printers are the subject of other properties).
-/

end NitroVerif.Cli
