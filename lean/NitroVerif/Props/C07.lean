import NitroVerif.Lemmas.Peg
import NitroVerif.Lemmas.Build
import NitroVerif.Lemmas.SkipInv
import NitroVerif.Lemmas.TypeBuild
import NitroVerif.Lemmas.ParseString
import NitroVerif.Lemmas.ParseBlockString
import NitroVerif.Lemmas.ParseStringSpec
import NitroVerif.Model.Build
import NitroVerif.Spec.Lex
/-!
# C07 — parsing yields exactly the document the text denotes, with true positions

Property theorems, and the three definitions their statements need (`isOk`, `pinnedComment`, `pinnedGrammar`). Model: the
GENERATED grammar (`Gen/Grammar.lean`, from grammar.pest) run by the PEG interpreter `Model/Peg.lean`, the builders
`Model/Build.lean` driven by the GENERATED patterns (`Gen/Parts.lean`); reference string semantics `Spec/Lex.lean`. The model is
tied to the code by the two translators and by K of `harness/src/bin/c07.rs` (full ASTs with positions, error positions, panic
sites). (K: the model and the code give the same result on generated and corpus inputs; O: the code is compared with the
executable specification, a search for failing inputs — DESIGN §2.1.)

All theorems are about this MODEL (interpreter + translated grammar + builder model), none is about the pest library or the
Rust builders themselves.

What is proved here: positions (the line/column the builders report is an exact, invertible function of the offset of the pair,
and the text of a name/number node is the input slice at that position), the span invariant and the exactness of the implicit
skip for any grammar table (`pair_span`, `skip_exact`), terminal matching, `render_parse_type`, string literals as EMBEDDED
literals (`string_decode*` for the canonical `specEscape` form, `string_decode_general(_spec)` for every escape form,
`parse_render_block_string_raw` for block strings — returned raw, open finding t), and kernel-checked witnesses of the defects
of DESIGN §9 t–v and of the surrogate-pair defect (fff8e9c) on the model. `∀ A τ, parse (render A τ) = A` itself is proved —
under the explicit side conditions listed in the OPEN block at the end — in `Props/C07Doc.lean` for executable documents (with
`#import` statements) and for type-system documents (`Props/C07Lead.lean`: the renderings that write the optional leading
separators everywhere); what is NOT proved is listed in the OPEN block at the end and carried by K+O.
-/
namespace NitroVerif.C07
open NitroVerif.Peg NitroVerif.Build NitroVerif.Gen NitroVerif.Gen.Parts NitroVerif.Spec.Lex NitroVerif

/-- `posOf_inverse`: the (line, column) that pest reports for an offset determines the offset: looking the
    position up in the text again gives the offset back (for every offset up to and including the end). -/
theorem posOf_inverse (input : List Char) (off : Nat) (h : off ≤ input.length) :
    offsetOf input (lineCol input off) = some off := by
  have := (offsetOfFrom_lineColFrom input off 0 0 0 [] h (by simp) rfl).2
  simpa [offsetOf, lineCol] using this

example : lineCol "ab\ncd".toList 4 = (1, 1) ∧ offsetOf "ab\ncd".toList (1, 1) = some 4 := by
  rw [String.toList_ofList]
  decide +kernel

/-- `node_pos_true` for identifier nodes (names, aliases, type names, enum values, directive names, variables):
    the position the builder records for a pair that starts inside the input (`p.start ≤ inp.length`) is the 0-based
    line/column at which the pair's text starts — looking it up gives the pair's start offset, and the input continues
    there with the node's text. -/
theorem node_pos_true (inp : List Char) (p : Pair) (h : p.start ≤ inp.length) :
    let (name, pos) := ident (Ctx.spec inp) p
    offsetOf inp (pos.line, pos.col) = some p.start ∧ name.toList <+: inp.drop p.start := by
  simp only [ident, toPos, asString, asStr, Ctx.spec]
  exact ⟨posOf_inverse inp p.start h, by simpa using slice_prefix inp p.start p.stop⟩

/-- the same for every node kind: `to_pos` of a pair is `lineCol` of its start, whatever the pair is -/
theorem pos_is_lineCol (inp : List Char) (p : Pair) :
    toPos (Ctx.spec inp) p = { line := (lineCol inp p.start).1, col := (lineCol inp p.start).2 } := rfl

/-- `names_verbatim`: an identifier is the input slice its pair spans, character for character -/
theorem names_verbatim (inp : List Char) (p : Pair) :
    (ident (Ctx.spec inp) p).1 = String.ofList (slice inp p.start p.stop) := rfl

/-- `numbers_verbatim`: an `IntValue` / `FloatValue` child of a `Value` pair becomes the literal text of its span,
    unchanged (no normalisation of sign, zeros, exponent) -/
theorem numbers_verbatim (inp : List Char) (fuel : Nat) (vs ve s e : Nat) (cs : List Pair) :
    buildValue (Ctx.spec inp) (fuel + 1) (.mk R.Value vs ve [.mk R.IntValue s e cs]) =
      .ok (.int (String.ofList (slice inp s e)) { line := (lineCol inp s).1, col := (lineCol inp s).2 }) ∧
    buildValue (Ctx.spec inp) (fuel + 1) (.mk R.Value vs ve [.mk R.FloatValue s e cs]) =
      .ok (.float (String.ofList (slice inp s e)) { line := (lineCol inp s).1, col := (lineCol inp s).2 }) := by
  constructor <;> rfl

/-- the compiled driver's O(1) tables are the definitions above: the position table and the array-backed text of
    `Ctx.ofInput` (what K runs) agree with `lineCol` / `slice` (what the theorems are about) at every offset of the
    input; the array-backed grammar table agrees with the list-backed one (`Peg.G.ofArray_look`). -/
theorem driver_tables_agree (inp : List Char) :
    (∀ o, o ≤ inp.length → (Ctx.ofInput inp).pos o = (Ctx.spec inp).pos o) ∧
    (∀ s e, (Ctx.ofInput inp).text s e = (Ctx.spec inp).text s e) ∧
    (∀ r, gArr.look r = gList.look r) :=
  ⟨ofInput_pos inp, ofInput_text inp, fun r => by
    unfold gArr gList
    exact G.ofArray_look _ _ _ r⟩

/-- a string terminal consumes exactly its own characters (base case of `pair_span`) -/
theorem str_consumes_exactly (s rest r : List Char) (h : matchStr s rest = some r) : rest = s ++ r :=
  matchStr_eq h

/-- `pair_span`: for ANY grammar table, rule, atomicity, lookahead state and depth bound — a rule call that starts
    at an offset inside the input and succeeds ends at a consistent cursor (`rest = input.drop pos`, `pos ≤ |input|`)
    and the pairs it returns are well-formed spans (`SpanOk`): listed in input order without overlap, all inside
    [start offset, end offset], each with `start ≤ end` and with its children — recursively — inside it.
    Offsets are code points, so every span is on character boundaries by construction; the text of a pair is the
    slice `input[start, end)` (`Pair::as_str` = `Peg.slice`). -/
theorem pair_span (g : G) (fuel : Nat) (r : RuleId) (at_ : Atomicity) (la : Look) (tr : Tr) (input : List Char)
    (off : Nat) (hoff : off ≤ input.length) (tr' : Tr) (c' : Cur) (ps : List Pair)
    (h : callRule g fuel r at_ la tr ⟨off, input.drop off⟩ = (tr', .ok c' ps)) :
    c'.pos ≤ input.length ∧ c'.rest = input.drop c'.pos ∧ SpanOk off c'.pos ps := by
  obtain ⟨⟨h1, h2⟩, h3⟩ := (spanInv g input fuel).cr r at_ la tr ⟨off, input.drop off⟩ tr' c' ps ⟨hoff, rfl⟩ h
  exact ⟨h1, h2, h3⟩

/-- … in particular for the parser entry point: every pair of a parse result, at any depth, satisfies
    `start ≤ end ≤ |input|`, and the top-level pairs are well-formed spans of the whole input -/
theorem parse_pairs_in_bounds (g : G) (fuel : Nat) (r : RuleId) (input : List Char) (ps : List Pair)
    (h : Peg.parse g fuel r input = .pairs ps) :
    SpanOk 0 input.length ps ∧ ∀ p ∈ flatList ps, p.start ≤ p.stop ∧ p.stop ≤ input.length := by
  obtain ⟨tr, c', hc⟩ := Peg.parse_pairs g h
  obtain ⟨h1, _, h3⟩ := pair_span g fuel r .nonAtomic .none {} input 0 (Nat.zero_le _) tr c' ps (by simpa using hc)
  have hw := h3.widen h1
  exact ⟨hw, fun p hp => (spanOk_flat_bounds hw p hp).2⟩

example : SpanOk 0 5 [.mk 48 0 5 [.mk 49 0 5 [.mk 51 0 5 [.mk 52 0 5 [.mk 53 2 3 []]]]]] :=
  .cons (Nat.le_refl _) (.cons (Nat.le_refl _) (.cons (Nat.le_refl _) (.cons (Nat.le_refl _)
    (.cons (by decide) (.nil (by decide)) (.nil (by decide))) (.nil (Nat.le_refl _))) (.nil (Nat.le_refl _)))
    (.nil (Nat.le_refl _))) (.nil (Nat.le_refl _))

/-- `skip_exact`: in a non-atomic context the implicit skip between sequence items / repetitions consumes exactly a
    maximal run of trivia: the cursor moves from `c` to `c'` by matches of WHITESPACE and COMMENT only
    (`TriviaRun`), and at `c'` neither WHITESPACE nor COMMENT matches (`FailsAt`) — for any grammar table that
    defines both rules, any lookahead state and depth bound. -/
theorem skip_exact (g : G) (w m : RuleId) (hw : g.ws = some w) (hm : g.cm = some m) (fuel : Nat) (la : Look)
    (tr : Tr) (c : Cur) (tr' : Tr) (c' : Cur) (ps : List Pair)
    (h : doSkip g fuel true .nonAtomic la tr c = (tr', .ok c' ps)) :
    TriviaRun g w m .nonAtomic la c c' ∧ FailsAt g (.call w) .nonAtomic la c' ∧ FailsAt g (.call m) .nonAtomic la c' := by
  cases fuel with
  | zero => simp [doSkip_zero] at h
  | succ fuel =>
    simp only [doSkip, and_self, if_true, G.skipExpr, hw, hm] at h
    exact skipExpr_exact g h

/-- … and in an atomic or compound-atomic context nothing is skipped -/
theorem skip_atomic_noop (g : G) (fuel : Nat) (sk : Bool) (at_ : Atomicity) (hat : at_ ≠ .nonAtomic) (la : Look)
    (tr : Tr) (c : Cur) : doSkip g (fuel + 1) sk at_ la tr c = (tr, .ok c []) := by
  simp [doSkip, hat]

example : gList.ws = some R.WHITESPACE ∧ gList.cm = some R.COMMENT := ⟨rfl, rfl⟩

open NitroVerif.TypeParse in
/-- `render_parse_type`: for EVERY type the grammar can express (`WF`: valid names, no `!!`; any nesting depth, any
    names) — running the GENERATED grammar's `Type` rule (generic interpreter, the rule bodies read from
    `Gen.grammar` by `rfl`) on the canonical rendering of `t` and then the builder `build_type` gives `t` back, with
    every position equal to the line/column of the corresponding token; for every parser depth bound ≥ `Kty t` and
    builder depth bound ≥ `Dt t + 1`, both linear in the length of the text. -/
theorem render_parse_type (t : Gql.GType) (hwf : WF t) (fuel bfuel : Nat) (hf : Kty t ≤ fuel) (hb : Dt t + 1 ≤ bfuel) :
    ∃ pair, Peg.parse gList fuel R.«Type» (renderT t) = .pairs [pair] ∧
      buildType (Ctx.spec (renderT t)) bfuel pair = .ok (withPos (renderT t) 0 t) := by
  refine ⟨typePair t 0, parse_type_pairs t hwf fuel hf, ?_⟩
  obtain ⟨k, rfl⟩ : ∃ k, bfuel = Dt t + k + 1 := ⟨bfuel - (Dt t + 1), by omega⟩
  exact buildType_typePair (renderT t) t hwf 0 [] k (by simp)

open NitroVerif.TypeParse in
/-- … in the terms of the shared vocabulary: with the depth bounds the parser model actually uses
    (`defaultFuel`, `4·|input| + 64`), the text is `GType.render t` and the result equals `t` up to positions. -/
theorem render_parse_type_default (t : Gql.GType) (hwf : WF t) :
    let inp := t.render.toList
    ∃ pair t', Peg.parse gList (defaultFuel inp) R.«Type» inp = .pairs [pair] ∧
      buildType (Ctx.spec inp) (4 * inp.length + 64) pair = .ok t' ∧ t'.erasePos = t.erasePos := by
  simp only [render_toList]
  have h1 := kin_linear t
  have h2 := dt_linear t
  obtain ⟨pair, hp, hb⟩ := render_parse_type t hwf (defaultFuel (renderT t)) (4 * (renderT t).length + 64)
    (by simp only [Kty, defaultFuel]; omega) (by omega)
  exact ⟨pair, _, hp, hb, withPos_erase _ t 0⟩

open NitroVerif.TypeParse in
example : WF (.nonNull (.list (.nonNull (.named "Int" {})) {})) := by
  refine ⟨⟨?_, rfl⟩, rfl⟩
  show validName "Int".toList
  have : "Int".toList = ['I', 'n', 't'] := String.toList_ofList
  rw [this]
  refine ⟨by decide, fun x hx => ?_⟩
  simp only [List.mem_cons, List.not_mem_nil, or_false] at hx
  rcases hx with rfl | rfl <;> decide

/-- `string_decode`, escape arm: each two-character escape the reference writer produces is decoded back to the
    character it stands for (`"`, `\`, backspace, form feed, newline, carriage return, tab) -/
theorem string_decode_escape (c e : Char) (h : simpleEscape? c = some e) : escapedChar ['\\', e] = .ok c :=
  StringParse.escapedChar_simple h

/-- the code of any character decodes to that character (`char::from_u32` succeeds on every scalar value) -/
theorem string_decode_code (c : Char) : charFromU32 c.toNat = .ok c := by
  have hv : validScalar c.toNat = true := by
    have := c.valid
    simp only [validScalar, Bool.or_eq_true, decide_eq_true_eq, Bool.and_eq_true]
    rcases this with h | h
    · exact Or.inl h
    · exact Or.inr h
  simp [charFromU32, hv]

/-- `string_decode`, plain arm: a character that needs no escape is written as itself -/
theorem string_decode_plain (c : Char) (h : simpleEscape? c = none) : specEscapeChar c = [c] := by
  simp [specEscapeChar, h]

open NitroVerif.StringParse in
/-- `string_decode`, composed over a whole literal, anywhere in an input: for EVERY list of characters `s`, if the input
    continues at offset `off` with the canonical literal `"` ++ specEscape s ++ `"` (and, for the empty string, the
    literal is not followed by a third `"`, which would open a block string), then the GENERATED grammar's `StringValue`
    rule (generic interpreter, under either atomicity, outside lookahead, every depth bound ≥ |s| + 40) consumes exactly
    the literal and yields one `StringValue` pair, on which `build_string_value` returns exactly `s` and the line/column of
    the opening quote. (`specEscape` writes each character as one item, itself or a two-character escape —
    `string_decode_escape` / `string_decode_plain` above —, and the run is that of `string_decode_general`'s lemma at these
    items; `\uXXXX` escapes are not produced by `specEscape`.) -/
theorem string_decode_at (s : List Char) (inp : List Char) (off : Nat) (rest : List Char)
    (h : inp.drop off = '"' :: (specEscape s ++ ['"']) ++ rest) (hend : s = [] → ∀ d r, rest = d :: r → d ≠ '"')
    (at_ : Atomicity) (fuel : Nat) (hf : s.length + 40 ≤ fuel) :
    ∃ pair, Peg.run gList fuel R.StringValue inp off at_ = some (off + ((specEscape s).length + 2), [pair]) ∧
      stringValueChars (Ctx.spec inp) pair = .ok (s, { line := (lineCol inp off).1, col := (lineCol inp off).2 }) := by
  refine ⟨stringPair s off, ?_, stringValueChars_stringPair s off rest h⟩
  simpa [quoted] using (stringValue_runs s off rest (fun hs d r he hd => hend hs d r he hd) (at_ := at_)).run h hf

/-- the hypotheses of `string_decode_at` are satisfiable -/
example : ("f(s: \"a\\n\")".toList).drop 5 = '"' :: (specEscape ['a', '\n'] ++ ['"']) ++ [')'] := by
  rw [String.toList_ofList]
  decide +kernel

open NitroVerif.StringParse in
/-- `string_decode`: for EVERY list of characters `s`, parsing the canonical literal `"` ++ specEscape s ++ `"` with
    the generated grammar's `StringValue` rule and building it gives `s` back — with the depth bound the parser model
    actually uses. Every `s` is covered: each character is either one of the seven that `specEscape` writes as a
    two-character escape, or it is none of `"`, `\`, LF, CR and is written as itself. -/
theorem string_decode (s : List Char) :
    let inp := '"' :: (specEscape s ++ ['"'])
    ∃ pair, Peg.parse gList (defaultFuel inp) R.StringValue inp = .pairs [pair] ∧
      stringValueChars (Ctx.spec inp) pair = .ok (s, { line := 0, col := 0 }) := by
  intro inp
  obtain ⟨pair, hr, hb⟩ := string_decode_at s inp 0 [] (by simp [inp]) (fun _ d r he => by cases he) .nonAtomic
    (defaultFuel inp) (by have := specEscape_length_ge s; simp [defaultFuel, inp]; omega)
  exact ⟨pair, Peg.parse_of_run hr, by simpa [lineCol, lineColFrom] using hb⟩

example : specEscape ['a', '"', '\n', Char.ofNat 0x1F600] = ['a', '\\', '"', '\\', 'n', Char.ofNat 0x1F600] := by decide

open NitroVerif.StringParse in
/-- `string_decode_general`: for EVERY normal string literal the grammar admits — `"`, then one or more items, each one of
    the four alternatives of `StringCharacter` (`SItem`: a character other than `"` `\\` LF CR; `\\` + one of
    `" \\ / b f n r t`; `\\uXXXX` with four hexadecimal digits; `\\u{X…}` with one or more hexadecimal digits, any number of
    leading zeros), then `"` — embedded anywhere in an input: the GENERATED grammar's `StringValue` rule (generic interpreter, under either
    atomicity, outside lookahead, depth bound linear in the text) consumes exactly the literal and yields one pair, on which
    * `build_string_value` (as repaired by fff8e9c) returns `decodeItems` of the items — a leading surrogate `\\uD800`–`\\uDBFF`
      immediately followed by a trailing surrogate `\\uDC00`–`\\uDFFF`, both written as `\\uXXXX`, is ONE supplementary character
      `0x10000 + ((lead − 0xD800) << 10) + (trail − 0xDC00)`; every other item is decoded on its own (`SItem.decode`: the
      character, the simple escape, `char::from_u32(u32::from_str_radix(digits, 16))`) — with the line/column of the
      opening quote;
    * `validate_unicode_escapes` (`firstBadEscape`, as repaired by fff8e9c) returns `scanItems`: the offset of a leading
      surrogate that is not immediately followed by a trailing one (another kind of character, `\\u{…}`, another lead, the
      end of the literal), of a trailing surrogate without lead, of a `\\u{…}` that denotes no scalar value — that is where
      the parser reports its syntax error — and nothing otherwise.
    (The empty literal `""` is `string_decode_at` with `s = []`; block strings: `parse_render_block_string_raw`.) -/
theorem string_decode_general (it : SItem) (its : List SItem) (hok : AllOk (it :: its)) (inp : List Char) (off : Nat)
    (rest : List Char) (h : inp.drop off = '"' :: (litText (it :: its) ++ '"' :: rest)) (at_ : Atomicity) (fuel : Nat)
    (hf : (litText (it :: its)).length + 60 ≤ fuel) :
    ∃ pair, Peg.run gList fuel R.StringValue inp off at_ = some (off + ((litText (it :: its)).length + 2), [pair]) ∧
      stringValueChars (Ctx.spec inp) pair =
        (decodeItems false (it :: its)).map (fun s => (s, { line := (lineCol inp off).1, col := (lineCol inp off).2 })) ∧
      firstBadEscape (Ctx.spec inp) [pair] = scanItems none (it :: its) (off + 1) := by
  refine ⟨litPair (it :: its) off, ?_, stringValueChars_litPair it its hok off rest h,
    firstBadEscape_litPair (it :: its) off rest h⟩
  exact (litValue_runs it its hok off rest (at_ := at_)).run h hf

open NitroVerif.StringParse in
/-- `string_decode_general_spec` (since fix fff8e9c WITHOUT a side condition on surrogates): for every normal string literal
    the grammar admits whose unescaped characters are SourceCharacters, embedded anywhere in an input —
    `validate_unicode_escapes` accepts the literal IF AND ONLY IF the GraphQL specification assigns it a value
    (`GqlString.decodeStringLiteral`, spec §2.9.4, the reference written independently for C16: every `\\u` escape denotes a
    scalar value or is half of a well-formed surrogate pair), and then `build_string_value` returns exactly that value:
    `decode (parse literal) = specDecode literal`. -/
theorem string_decode_general_spec (it : SItem) (its : List SItem) (hok : AllOk (it :: its))
    (hsrc : ∀ c, SItem.plain c ∈ it :: its → GqlString.sourceChar c = true) (inp : List Char) (off : Nat) (rest : List Char)
    (h : inp.drop off = '"' :: (litText (it :: its) ++ '"' :: rest)) (at_ : Atomicity) (fuel : Nat)
    (hf : (litText (it :: its)).length + 60 ≤ fuel) :
    ∃ pair, Peg.run gList fuel R.StringValue inp off at_ = some (off + ((litText (it :: its)).length + 2), [pair]) ∧
      (firstBadEscape (Ctx.spec inp) [pair] = none ↔
        (GqlString.decodeStringLiteral ('"' :: (litText (it :: its) ++ ['"']))).isSome = true) ∧
      (firstBadEscape (Ctx.spec inp) [pair] = none → ∃ s,
        stringValueChars (Ctx.spec inp) pair = .ok (s, { line := (lineCol inp off).1, col := (lineCol inp off).2 }) ∧
        GqlString.decodeStringLiteral ('"' :: (litText (it :: its) ++ ['"'])) = some s) := by
  obtain ⟨pair, h1, h2, h3⟩ := string_decode_general it its hok inp off rest h at_ fuel hf
  obtain ⟨⟨a1, a2⟩, _⟩ := spec_items (it :: its) hok hsrc (off + 1)
  rw [decodeStringLiteral_lit_eq (it :: its) hok]
  refine ⟨pair, h1, ?_, ?_⟩ <;> rw [h3]
  rotate_left
  · intro hs
    obtain ⟨s, hd, hq⟩ := a1 hs
    exact ⟨s, by rw [h2, hd]; rfl, hq⟩
  refine ⟨fun hs => ?_, fun hs => ?_⟩
  · obtain ⟨s, _, hq⟩ := a1 hs
    rw [hq]; rfl
  · cases hsc : scanItems none (it :: its) (off + 1) with
    | none => rfl
    | some x =>
      rw [a2 (by rw [hsc]; simp)] at hs
      cases hs

open NitroVerif.StringParse in
/-- the hypotheses are satisfiable: `"a\\u0041\\u{1F600}\\/\\uD83D\\uDE00"` is such a literal, all four alternatives and a
    surrogate pair, value `aA😀/😀`; a lone lead is reported at its own offset -/
example : AllOk [.plain 'a', .u4 '0' '0' '4' '1', .ubrace ['1', 'F', '6', '0', '0'], .esc '/', .u4 'D' '8' '3' 'D', .u4 'D' 'E' '0' '0'] ∧
    litText [.plain 'a', .u4 '0' '0' '4' '1', .ubrace ['1', 'F', '6', '0', '0'], .esc '/', .u4 'D' '8' '3' 'D', .u4 'D' 'E' '0' '0'] =
      "a\\u0041\\u{1F600}\\/\\uD83D\\uDE00".toList ∧
    (decodeItems false [SItem.plain 'a', .u4 '0' '0' '4' '1', .ubrace ['1', 'F', '6', '0', '0'], .esc '/', .u4 'D' '8' '3' 'D',
      .u4 'D' 'E' '0' '0']).toOption = some ['a', 'A', Char.ofNat 0x1F600, '/', Char.ofNat 0x1F600] ∧
    scanItems none [SItem.plain 'a', .u4 'D' '8' '3' 'D', .plain 'b', .u4 'D' 'E' '0' '0'] 10 = some 11 := by
  refine ⟨?_, by rw [String.toList_ofList]; decide +kernel, by decide, by decide⟩
  intro it hit
  simp only [List.mem_cons, List.not_mem_nil, or_false] at hit
  rcases hit with rfl | rfl | rfl | rfl | rfl | rfl <;> simp [SItem.Ok, escLetters] <;> decide

/-- BEFORE fix fff8e9c `string_decode_general_spec` did NOT extend to surrogate pairs: the specification reads
    `\\uD83D\\uDE00` (a leading and a trailing surrogate, both written as `\\uXXXX`) as the one character U+1F600, the parser —
    since the repair of the panic (668f535) — rejected the document with a syntax error at the first escape (line 0,
    column 14): witness on the PRE-REPAIR validation `firstBadEscapeOld` (kept in Model/Build.lean), kernel-checked. This is
    the statement that was found false and led to the repair. -/
theorem string_decode_surrogate_pair_counterexample :
    GqlString.decodeStringLiteral "\"\\uD83D\\uDE00\"".toList = some [Char.ofNat 0x1F600] ∧
    rejectsOld R.ExecutableDocument "query { a(s: \"\\uD83D\\uDE00\") }".toList = some (0, 14) := by
  rw [String.toList_ofList, String.toList_ofList]
  decide +kernel

/-- … and AFTER fix fff8e9c the model of `parse_operation_document` (validation and builder as repaired) returns the document
    whose string value is that one character; a lone lead, a reversed pair and a lead followed by `\\u{…}` stay syntax errors
    reported at the lead / at the trailing surrogate that has no lead. -/
theorem string_decode_surrogate_pair_repaired :
    (match parseOp "query { a(s: \"\\uD83D\\uDE00\") }".toList with
      | .ok [.op o] =>
        (match o.sel with
         | [.field none _ _ [(_, _, .str s sp)] [] none] => s.toList == [Char.ofNat 0x1F600] && sp == { line := 0, col := 13 }
         | _ => false)
      | _ => false) = true ∧
    (match parseOp "query { a(s: \"x\\uD83D\") }".toList with | .err 0 15 => true | _ => false) = true ∧
    (match parseOp "query { a(s: \"\\uDE00\\uD83D\") }".toList with | .err 0 14 => true | _ => false) = true ∧
    (match parseOp "query { a(s: \"\\uD83D\\u{DE00}\") }".toList with | .err 0 14 => true | _ => false) = true ∧
    (match parseOp "query { a(s: \"\\uD83D\") b(t: \"\\uDE00\") }".toList with | .err 0 14 => true | _ => false) = true := by
  decide +kernel

open NitroVerif.StringParse in
/-- `parse_render_block_string_raw` — what the model (like the code: open finding t) returns for a block string: for EVERY
    `body` that contains no `"""` other than as the tail of a `\"""` (`noBareTriple`, scanned left to right as the grammar's
    `BlockStringCharacter*` does) and whose last character is neither `"` nor `\` (`endsPlain`: either would be read together
    with the closing delimiter), wherever `"""` ++ body ++ `"""` occurs in an input (as a value or as a description), the
    GENERATED grammar's `StringValue` rule — `EmptyStringValue` and `NormalStringValue` are tried first and fail — consumes
    exactly that text and yields one pair, on which `build_string_value` returns EXACTLY `body`: the raw text between the
    delimiters, with the line/column of the opening delimiter; `validate_unicode_escapes` never objects (nothing inside a
    block string is an escape pair). So the value is the specification's `BlockStringValue` iff `body` is a fixed point of it
    (`block_string_value_spec_iff`). -/
theorem parse_render_block_string_raw (body : List Char) (h3 : noBareTriple body = true) (hend : endsPlain body = true)
    (inp : List Char) (off : Nat) (rest : List Char)
    (h : inp.drop off = ['"', '"', '"'] ++ (body ++ (['"', '"', '"'] ++ rest))) (at_ : Atomicity) (fuel : Nat)
    (hf : body.length + 30 ≤ fuel) :
    ∃ pair, Peg.run gList fuel R.StringValue inp off at_ = some (off + (body.length + 6), [pair]) ∧
      stringValueChars (Ctx.spec inp) pair = .ok (body, { line := (lineCol inp off).1, col := (lineCol inp off).2 }) ∧
      firstBadEscape (Ctx.spec inp) [pair] = none := by
  refine ⟨blockPair body.length off, ?_, stringValueChars_blockPair body off rest h, by
    simp [firstBadEscape, blockPair, flatList, flat, Pair.rule, R.StringValue, R.BlockStringValue,
      R.NormalStringValue]⟩
  exact (blockString_runs (blockBody_of body h3 hend) off rest (at_ := at_)).run h hf

open NitroVerif.StringParse in
/-- the value returned for a block string is the specification's `BlockStringValue(rawValue)` exactly when the body is a
    fixed point of it (for example: no common indentation, no blank first / last line, no `\"""`): finding t, characterised -/
theorem block_string_value_spec_iff (body : List Char) (h3 : noBareTriple body = true) (hend : endsPlain body = true)
    (inp : List Char) (off : Nat) (rest : List Char)
    (h : inp.drop off = ['"', '"', '"'] ++ (body ++ (['"', '"', '"'] ++ rest))) :
    ∃ pair, Peg.run gList (body.length + 30) R.StringValue inp off .nonAtomic = some (off + (body.length + 6), [pair]) ∧
      ((stringValueChars (Ctx.spec inp) pair).toOption.map Prod.fst = some (blockStringValue (blockRaw body)) ↔
        blockStringValue (blockRaw body) = body) := by
  obtain ⟨pair, h1, h2, _⟩ := parse_render_block_string_raw body h3 hend inp off rest h .nonAtomic _ (Nat.le_refl _)
  refine ⟨pair, h1, ?_⟩
  rw [h2]
  simp [Except.toOption, eq_comm]

open NitroVerif.StringParse in
/-- the hypotheses are satisfiable; a body with line breaks, a backslash, a lone quote inside, an escaped delimiter -/
example : noBareTriple "a \\n \" b\n  c \\\"\"\" d".toList = true ∧ endsPlain "a \\n \" b\n  c \\\"\"\" d".toList = true ∧
    noBareTriple "a\"\"\"b".toList = false ∧ endsPlain "a\\".toList = false := by
  rw [String.toList_ofList, String.toList_ofList, String.toList_ofList]
  decide +kernel

/-- Finding t (OPEN, known finding C07-block-string-raw): the model — like the code — returns a block string raw.
    For `query { a(s: """⏎  a⏎""") }` the builder yields `"\n  a\n"` where the spec's BlockStringValue is `"a"`. -/
theorem block_string_counterexample :
    let inp := "query { a(s: \"\"\"\n  a\n\"\"\") }".toList
    (match Peg.parse gList (defaultFuel inp) R.ExecutableDocument inp with
      | .pairs ps =>
        match (flatList ps).find? (fun p => p.rule = R.StringValue) with
        | some p => match stringValueChars (Ctx.spec inp) p with
          | .ok (cs, _) => some cs
          | .error _ => none
        | none => none
      | _ => none) = some ['\n', ' ', ' ', 'a', '\n'] ∧
    blockStringValue (blockRaw ['\n', ' ', ' ', 'a', '\n']) = ['a'] := by
  decide +kernel

/-- the reference algorithm also undoes the `\"""` escape, the builder does not -/
example : blockStringValue (blockRaw "\n    x \\\"\"\" y\n  ".toList) = "x \"\"\" y".toList := by decide +kernel

/-! ### the repaired defects u, v as facts about the regenerated model -/

def isOk {α} : Outcome α → Bool
  | .ok _ => true
  | _ => false

/-- Finding v repaired (fbd660b): the anonymous-query shorthand `{ a }` parses to one anonymous query whose
    position is the `{` and whose only selection is the field `a` at column 2. -/
theorem shorthand_parses :
    (match parseOp "{ a }".toList with
      | .ok [.op o] =>
        o.kind == .query && o.name.isNone && o.vars.isEmpty && o.dirs.isEmpty && o.pos == { line := 0, col := 0 } &&
          (match o.sel with
           | [.field none n np [] [] none] => n.toList == ['a'] && np == { line := 0, col := 2 }
           | _ => false)
      | _ => false) = true := by
  decide +kernel

/-- the body `COMMENT` had on the pinned tree (a final NEWLINE was required) -/
def pinnedComment : Expr :=
  .seq (.str ['#']) (.seq (.star (.str [' '])) (.seq (.not (.call R.ext_ImportStatementContent))
    (.seq (.star (.call R.CommentCharacter)) (.call R.NEWLINE))))

def pinnedGrammar : G :=
  { gList with look := fun r => if r = R.COMMENT then some (.silent, pinnedComment) else gList.look r }

/-- Finding u (repaired by 3af476c): with the pinned `COMMENT` rule, `{a} #x` (comment without final newline) is a
    syntax error reported at offset 5; with the regenerated grammar it parses. -/
theorem comment_eof_counterexample :
    (match Peg.parse pinnedGrammar 8192 R.ExecutableDocument "{a} #x".toList with
      | .error 5 => true
      | _ => false) = true ∧
    isOk (parseOp "{a} #x".toList) = true ∧ isOk (parseTs "scalar S #".toList) = true := by
  decide +kernel

/-- trivia on a witness: a document with commas, comments, a BOM and line breaks between all tokens parses -/
example :
    isOk (parseOp "﻿query,Q # c\n ( $v : Int = 1 ) @d { a ( x : [ 1 , \"s\" ] ) ... on T { b } }".toList) = true := by
  rw [String.toList_ofList]
  decide +kernel

/-
PROVED, and where — all of the MODEL (`parseOp` / `parseTs`: generated grammar + interpreter + builder model), not of pest:
  * this file: positions, spans, the implicit skip, `render_parse_type`; string literals as literals embedded anywhere in an
    input: `string_decode(_at)` (the `specEscape` form), `string_decode_general(_spec)` (every escape form; NON-EMPTY literals
    of `AllOk` items, the empty literal is `string_decode_at`), `parse_render_block_string_raw`, `block_string_value_spec_iff`
    (block strings are returned raw: open finding t, characterised);
  * `Props/C07Value.lean`: `render_parse_value` (+ `_at`, `_default`, `_canonical`), `render_parse_arguments`,
    `render_parse_directives`, with ARBITRARY trivia at every gap and true positions; both literal forms as a `Value` and as a
    `Description` (`render_parse_string_value_general`, `render_parse_block_string_value_raw`);
  * `Props/C07Doc.lean`: whole documents — `parse_render_operation_document_full` (+ `_erase`: operations, fragments AND
    `#import` statements in any order, optionally a final comment without line terminator),
    `parse_render_type_system_document_full` (+ `_erase`: all kinds of item, the bare `interface I` / `extend interface I`
    included) and the levels below them (`render_parse_selection(_set)`, `render_parse_type_trivia`,
    `render_parse_variable_definition`, `render_parse_executable_definition`, `render_parse_import_statement`,
    `render_parse_input_value_definition`, `render_parse_field_definition`, `render_parse_enum_value_definition`,
    `render_parse_type_system_definition`); `Props/C07Lead.lean`: the optional leading `&` / `|` written everywhere;
  * the trivia `Ws` all of them quantify over contains every comment `# text ⏎` whose text is VISIBLY not the beginning of an
    import statement (`NotImportHead`, Lemmas/ParseComment.lean: `#important`, `# import: see below`, `#import "x"`);
  * for ANY grammar: success, failure and the end cursor of an evaluation do not depend on the lookahead state or the trace, a
    result other than "out of depth" is stable under a larger depth bound, no pairs under lookahead
    (`Lemmas/ParseMoreLook.lean`, `Lemmas/PegTwoRuns.lean`) — so every forward lemma proved outside lookahead holds under any
    lookahead state.

FOUND FALSE and repaired in the code (fff8e9c): "every literal the specification assigns a value to is decoded to that value"
  failed on a surrogate pair: `"\uD83D\uDE00"` is U+1F600 by the specification (§2.9.4), the parser answered with a syntax
  error. `string_decode_surrogate_pair_counterexample` is the witness on the pre-repair validation `firstBadEscapeOld`,
  `string_decode_surrogate_pair_repaired` the one on the repaired model (Model/Build.lean mirrors the repair: `decodeChars`,
  `scanEscapes`); `string_decode_general_spec` has no side condition on surrogates.

OPEN — carried by K/O only (stated, not proved):

theorem parse_render with string literals OTHER than the `specEscape` form INSIDE whole documents
  -- `string_decode_general` and `parse_render_block_string_raw` are proved for a literal embedded ANYWHERE in an input (so they
  -- apply to every string value and every description of every document), but they are not COMPOSED with the document
  -- chain: the renderings `renderV` / `rDoc` / `rTsDoc` of `parse_render_*_document*` write every string value and every
  -- description (and the path of an import statement) as `"` ++ specEscape s ++ `"`. A document theorem over renderings
  -- that choose an arbitrary legal literal per string would need the chain re-proved over a rendering with a literal-form
  -- parameter. Block strings inside documents additionally are returned raw (open finding t).
theorem parse_render with a comment `# import …` that is not an import statement for a reason NOT visible in its line
  -- e.g. `#import A` / `#import A from` followed by a line break: whether this is a comment depends on the following lines
  -- (`ext_ImportStatementContent` skips line breaks: `#import A⏎from "x"` IS an import statement). `NotImportHead` covers
  -- the reasons visible up to the first import target; comments of the forms `#import Name…` / `#import *…` / `#import #…` /
  -- `#import` + blanks + end of line are carried by K/O.
theorem parse_render_type_system_document with a final comment that is not terminated by a line break
  -- proved for executable documents (`parse_render_operation_document_full`, `eof`); for type-system documents the last
  -- token of the last item varies with the item kind and the chain states "a token follows" (`Tok`), carried by K/O
  -- (`comment_eof_counterexample` is the kernel-checked witness `scalar S #`).
theorem parse_render_type_system_document with the leading `&` / `|` written in SOME lists of a document and not in others,
  or written (`_lead`) in a document that contains the bare `interface I` / `extend interface I`
  -- `parse_render_type_system_document(_full)` never writes the optional separator, `…_lead` writes it in every non-empty
  -- list and has the condition `WFTsItem`; a per-list choice would need the chain re-proved with that parameter.
theorem parse_render for texts with an EMPTY gap where the renderings force a space although the grammar needs none
  -- between two selections, between two items of a type-system document (even after `}`), between two entries of a
  -- `{ … }` / `( … )` body of a type-system definition, after `import` and after every import target that is a name.
theorem parse_render : ∀ A τ, parseModel (render A τ) = A      -- the full document language
  -- OPEN only in this unrestricted form (the cases above, and `A` / `τ` outside the side conditions below).
  -- PROVED for both entry points at the strength "every well-formed document, every trivia assignment" (list above).
  -- Explicit side conditions of those theorems (all decidable; `WFDefF`, `WFTsItemF`, `Ws`):
  --  - names are valid names; a fragment / spread name is not `on`, an import target not `from`; an enum value is none of
  --    `true false null`; selection sets are non-empty; an import statement has at least one target; values / types are the
  --    well-formed ones of the earlier levels;
  --  - every gap is `Ws` (whitespace, commas, BOM, comments that are visibly not import statements — see above; the final
  --    unterminated comment of an executable document is the separate parameter `eof`);
  --  - string literals, descriptions and import paths are rendered with `specEscape` as ordinary strings (see above);
  --  - the leading `&` / `|` of `implements`, union members, directive locations is written either nowhere
  --    (`parse_render_type_system_document`) or everywhere (`…_lead`), not mixed within one document;
  --  - where two tokens could run together the gap is made non-empty, and CONSERVATIVELY also: between two selections,
  --    between two items of a type-system document (even after `}`), between two entries of a `{ … }` / `( … )` body of a
  --    type-system definition, after `import` and after every import target that is a name;
  --  - emptiness conditions that mirror the GRAMMAR (the rule has no alternative otherwise): an object type definition has
  --    fields or directives (`type T` and `type T implements I` alone are rejected by grammar.pest, unlike the
  --    specification); a union type definition has members (grammar.pest demands `=`); a schema definition has root
  --    operation types; a schema extension directives or root operation types; an object / interface type extension
  --    interfaces, directives or fields; a union type extension members or directives; a directive definition at least one
  --    location, each one of the 19 words; enum / input-object definitions and extensions MAY have no body, scalar
  --    extensions no directives (the grammar accepts them);
  --  - (the bare `interface I` / `extend interface I` is covered by `parse_render_type_system_document_full`; the `_lead`
  --    variant has the condition `WFTsItem`, which excludes it);
  --  - `_erase` for type-system documents: every item carries only what its rendering shows (`NormalItem`: a type definition
  --    or extension only the components of its kind, an extension no description).
  -- These remaining cases stay established by K (model = code, 0 disagreements on every generated text, canonical and
  -- noisy) + O (code = A, structure and positions) in harness/src/bin/c07.rs.
-/

end NitroVerif.C07
