import NitroVerif.Lemmas.Paths
import NitroVerif.Lemmas.PathsText
import NitroVerif.Lemmas.PathToTs
/-!
# C20 — relative and resolved paths: resolving the relative path gives back the target

Property theorems only. Model: `NitroVerif/Model/Paths.lean` (tied to
`crates/utils/src/relative_path.rs` by the correspondence check `harness/src/bin/c20.rs`).

Proved: `resolve a (relative a b) = normalize b` on absolute paths that never climb above the root, at the level of
component lists (`resolve_relative`) and of texts (`text_resolve_relative`); the shape of the relative path
(`relative_head`); normalisation (`normalize_clean`, `normalize_idem_all`); the file-name half of `path_to_ts`
(`path_to_ts_resolves`, `path_to_ts_other`).

OPEN — carried by K/O only (`harness/src/bin/c20.rs`): the other composition, `relative a (resolve a r)`, of which no
theorem speaks; that the three consumers (the import specifier of the generated types, `sources` of the source map, the
target of an import line) land on the intended file — `relative_path` composed with `path_to_ts` is checked through the
real CLI by the layout stream; `tsCandidates` is TypeScript's lookup restated from the handbook (an assumption), and
`pathToTs` is the loop of `path_to_ts`, not compared function-for-function with the code.
-/
namespace NitroVerif.Paths

/-- an absolute path (components view) that never pops at the root while being normalised -/
def AbsNoClimb (p : P) : Prop := ∃ r, p = .root :: r ∧ noClimbAux 0 r = true

/-- normalising an absolute non-climbing path gives root followed by normal components only:
    every `.` and `..` is removed and the root stays at the head -/
theorem normalize_clean (p : P) (h : AbsNoClimb p) : CleanAbs (normalize p) := by
  obtain ⟨r, rfl, hr⟩ := h
  obtain ⟨ns, hns, e⟩ := foldl_normStep_noClimb [] r normals_nil (by simpa using hr)
  exact ⟨ns, hns, by simpa [normalize, List.foldl_cons, normStep] using e⟩

/-- idempotence without any hypothesis, for arbitrary (also relative / climbing) paths -/
theorem normalize_idem_all (p : P) : normalize (normalize p) = normalize p := normalize_normalize p

set_option linter.unusedVariables false in
/-- normalisation is idempotent (on every path the property quantifies over; the hypothesis is not needed) -/
theorem normalize_idem (p : P) (h : AbsNoClimb p) : normalize (normalize p) = normalize p :=
  normalize_idem_all p

/-- shape of the result of `relative_path` on the property's domain: `k` = length of the common
    prefix below the root; the result is the ups-then-downs list, with a leading "." when needed.
    Witnesses: `fs` the directory of `a` and `ts` the path `b`, both normalised and below the root; `k`; `comps` the
    ups-then-downs list.  Conjuncts, in this order: `fs` and `ts` are normal; the two equations that say what `fs` and
    `ts` are; `k ≤ |fs|`; `fs` and `ts` agree on their first `k`; what `comps` is; no root and no `.` in `comps`;
    the result of `relative_path`. -/
theorem relative_shape (a b : P) (ha : AbsNoClimb a) (hb : AbsNoClimb b) :
    ∃ fs ts k comps, Normals fs ∧ Normals ts ∧
      pop (normalize a) = .root :: fs ∧ normalize b = .root :: ts ∧
      k ≤ fs.length ∧ fs.take k = ts.take k ∧
      comps = List.replicate (fs.length - k) Comp.parent ++ ts.drop k ∧
      (∀ c ∈ comps, c ≠ .root ∧ c ≠ .cur) ∧
      relative a b = some (finish comps) := by
  obtain ⟨as, has, ea⟩ := normalize_clean a ha
  obtain ⟨ts, hts, eb⟩ := normalize_clean b hb
  have hpop : pop (normalize a) = .root :: as.dropLast := by rw [ea]; exact pop_cleanAbs has
  have hfs : Normals as.dropLast := normals_dropLast has
  generalize as.dropLast = fs at hpop hfs
  refine ⟨fs, ts, commonPrefix fs ts, _, hfs, hts, hpop, eb, commonPrefix_le_left fs ts,
    commonPrefix_take fs ts, rfl, ?_, ?_⟩
  · intro c hc
    simp only [List.mem_append, List.mem_replicate] at hc
    rcases hc with ⟨_, rfl⟩ | hc
    · simp
    · have := normals_drop _ hts c hc
      cases c <;> simp [IsNormal] at this ⊢
  · have hcp : commonPrefix (Comp.root :: fs) (Comp.root :: ts) = commonPrefix fs ts + 1 := by
      simp [commonPrefix]
    have hups : ups (fs.drop (commonPrefix fs ts)) = some (List.replicate (fs.length - commonPrefix fs ts) .parent) := by
      rw [ups_normals _ (normals_drop _ hfs)]; simp
    simp only [relative, hpop, eb, hcp, List.drop_succ_cons, hups]

theorem finish_cases (comps : P) (h : ∀ c ∈ comps, c ≠ .root ∧ c ≠ .cur) :
    (finish comps = comps ∧ ∃ tl, comps = .parent :: tl) ∨ finish comps = .cur :: comps := by
  cases comps with
  | nil => right; rfl
  | cons c tl =>
    by_cases hrel : isRel c = true
    · left
      have hc := h c (by simp)
      refine ⟨?_, tl, ?_⟩
      · simp only [finish, hrel, if_true]; simpa using foldl_push_noRootCur [] (c :: tl) h
      · cases c <;> simp_all [isRel]
    · right
      simp only [finish, hrel]; simpa using foldl_push_noRootCur [.cur] (c :: tl) h

/-- `relative_path` never reaches its `panic!`, and resolving its result against the source file
    gives the target's normalised location -/
theorem resolve_relative (a b : P) (ha : AbsNoClimb a) (hb : AbsNoClimb b) :
    ∃ r, relative a b = some r ∧ resolve a r = normalize b := by
  obtain ⟨fs, ts, k, comps, hfs, hts, hpop, eb, hk, htake, hcomps, hnr, hrel⟩ := relative_shape a b ha hb
  refine ⟨_, hrel, ?_⟩
  have hpp : pushPath (Comp.root :: fs) (finish comps) = (Comp.root :: fs) ++ comps := by
    rcases finish_cases comps hnr with ⟨e, _⟩ | e <;> rw [e]
    · exact foldl_push_noRootCur _ _ hnr
    · simp only [pushPath, List.foldl_cons, push]
      simpa using foldl_push_noRootCur (Comp.root :: fs) _ hnr
  unfold resolve
  rw [hpop, hpp, eb, hcomps]
  unfold normalize
  rw [List.foldl_append, List.foldl_append]
  have h1 : (Comp.root :: fs).foldl normStep [] = Comp.root :: fs := normalize_cleanAbs hfs
  rw [h1, foldl_normStep_parents, foldl_normStep_normals _ _ (normals_drop k hts)]
  have : (Comp.root :: fs).length - (fs.length - k) = k + 1 := by simp; omega
  rw [this, List.take_succ_cons, htake, List.cons_append, List.take_append_drop]

/-- the relative path is never empty and always starts with `.` or `..` -/
theorem relative_head (a b : P) (ha : AbsNoClimb a) (hb : AbsNoClimb b) :
    ∃ c r, relative a b = some (c :: r) ∧ (c = .cur ∨ c = .parent) := by
  obtain ⟨fs, ts, k, comps, hfs, hts, hpop, eb, hk, htake, hcomps, hnr, hrel⟩ := relative_shape a b ha hb
  rcases finish_cases comps hnr with ⟨e, tl, etl⟩ | e
  · exact ⟨.parent, tl, by rw [hrel, e, etl], Or.inr rfl⟩
  · exact ⟨.cur, comps, by rw [hrel, e], Or.inl rfl⟩

/-- The `AbsNoClimb` hypothesis cannot be dropped: "/../a" normalises to the *relative* path "a"
    (the pop removes the root), and resolving the computed relative path does not come back. -/
theorem climb_needed_counterexample :
    ∃ a b r, relative a b = some r ∧ resolve a r ≠ normalize b ∧ a.head? = some Comp.root ∧ b.head? = some Comp.root := by
  refine ⟨[.root, .normal "x", .normal "f"], [.root, .parent, .normal "a"], [.parent, .normal "a"], ?_, ?_, rfl, rfl⟩ <;> decide

/-- non-vacuity: a concrete pair with `.` and `..` segments meets the hypotheses -/
example : AbsNoClimb [.root, .normal "p", .parent, .normal "q", .cur, .normal "f.graphql"] ∧
    AbsNoClimb [.root, .normal "q", .normal "sub", .parent, .parent, .normal "g.graphql"] :=
  ⟨⟨_, rfl, by decide⟩, ⟨_, rfl, by decide⟩⟩


/-- absolute results (`normalize_path`, `resolve_relative_path`): "/" ++ segments joined by "/" -/
theorem components_render_abs (ns : P) (h : GoodNormals ns) :
    componentsL (renderL (.root :: ns)) = .root :: ns :=
  components_render .root ns (.inl rfl) h.tail

/-- relative results of `relative_path`: "." / "./segs" / "../../segs" -/
theorem components_render_rel (k : Nat) (ns : P) (h : GoodNormals ns) :
    componentsL (renderL (.cur :: ns)) = .cur :: ns ∧
    componentsL (renderL (List.replicate (k + 1) Comp.parent ++ ns)) = List.replicate (k + 1) Comp.parent ++ ns :=
  ⟨components_render .cur ns (.inr (.inl rfl)) h.tail,
   components_render .parent (List.replicate k Comp.parent ++ ns) (.inr (.inr fun _ hc => .inl (List.mem_singleton.mp hc)))
     (tail_append_parents k h.tail)⟩

/-- String-level statement of the property: for path TEXTS `a`, `b` that are absolute and do not climb,
    the text `relative_path` returns, read back as a path, resolves against `a` to `normalize b`;
    and the text of the normalised path reads back as itself. -/
theorem text_resolve_relative (a b : String)
    (ha : AbsNoClimb (components a)) (hb : AbsNoClimb (components b)) :
    ∃ r, relative (components a) (components b) = some r ∧
      components (render r) = r ∧
      resolve (components a) (components (render r)) = normalize (components b) ∧
      components (render (normalize (components b))) = normalize (components b) := by
  obtain ⟨fs, ts, k, comps, hfs, hts, hpop, eb, hk, htake, hcomps, hnr, hrel⟩ := relative_shape _ _ ha hb
  obtain ⟨r, hr, hres⟩ := resolve_relative _ _ ha hb
  obtain rfl : finish comps = r := Option.some.inj (hrel.symm.trans hr)
  have hgoodb : CompsGood (normalize (components b)) := fun c hc s hs =>
    componentsL_good b.toList c (mem_normalize _ c hc) s hs
  have hgts : Tail ts := tail_of_normals hts (fun c hc s hs => hgoodb c (by rw [eb]; simp [hc]) s hs)
  have htail : Tail comps := hcomps ▸ tail_append_parents _ fun c hc => hgts c (List.mem_of_mem_drop hc)
  have hnorm : components (render (normalize (components b))) = normalize (components b) := by
    rw [eb]; simp only [components, render, String.toList_ofList]; exact components_render _ ts (.inl rfl) hgts
  have hround : components (render (finish comps)) = finish comps := by
    simp only [components, render, String.toList_ofList]
    rcases finish_cases comps hnr with ⟨e, tl, etl⟩ | e
    · rw [e, etl]; rw [etl] at htail
      exact components_render _ tl (.inr (.inr (tail_cons.mp htail).1)) (tail_cons.mp htail).2
    · rw [e]; exact components_render _ comps (.inr (.inl rfl)) htail
  exact ⟨_, hr, hround, by rw [hround]; exact hres, hnorm⟩

/-- non-vacuity at the text level -/
example : AbsNoClimb (components "/p/../q/./f.graphql") ∧ AbsNoClimb (components "/q//sub/../../g.graphql") := by
  have ea : components "/p/../q/./f.graphql" = [.root, .normal "p", .parent, .normal "q", .normal "f.graphql"] := by
    decide +kernel
  have eb : components "/q//sub/../../g.graphql" = [.root, .normal "q", .normal "sub", .parent, .parent, .normal "g.graphql"] := by
    decide +kernel
  exact ⟨⟨_, ea, by decide⟩, ⟨_, eb, by decide⟩⟩

end NitroVerif.Paths

namespace NitroVerif.PathToTs

/-- every entry of the TRANSLATED table maps a TypeScript extension to a JavaScript extension under which
    TypeScript looks that very extension up (re-checked by the kernel whenever the source table changes) -/
theorem table_ok : ∀ p ∈ Gen.tsToJs, p.2 ∈ jsExts ∧ p.1 ∈ tsExtsFor p.2 := by decide +kernel

/-- For every file name that ends in one of the table's TypeScript extensions (any stem, any length), the
    name `path_to_ts` writes into the import specifier is one for which TypeScript's module resolution tries
    the original file.  This is a statement about the file NAME and about the models `pathToTs` (the loop of
    `path_to_ts`, not compared function-for-function with the code) and `tsCandidates` (TypeScript's lookup,
    restated from the handbook, an assumption); that the whole specifier — `relative_path` for the directory part
    composed with `path_to_ts` — lands on the schema declaration file is not a theorem and is checked only
    through the real CLI by the layout stream of `harness/src/bin/c20.rs`. -/
theorem path_to_ts_resolves (name : List Char) (h : ∃ p ∈ Gen.tsToJs, ∃ stem, name = stem ++ p.1) :
    name ∈ tsCandidates (pathToTs name) := by
  obtain ⟨p, hp, stem, hn, hr⟩ := pathToTsWith_spec Gen.tsToJs name h
  obtain ⟨hj, ht⟩ := table_ok p hp
  unfold pathToTs tsCandidates
  rw [hr, List.mem_flatMap]
  refine ⟨p.2, hj, ?_⟩
  rw [stripSuffix_append, List.mem_map]
  exact ⟨p.1, ht, hn.symm⟩

/-- a name with none of the extensions is left unchanged (the specifier then names the file itself) -/
theorem path_to_ts_other (name : List Char) (h : ∀ p ∈ Gen.tsToJs, stripSuffix name p.1 = none) :
    pathToTs name = name := by
  unfold pathToTs
  generalize Gen.tsToJs = tbl at h
  induction tbl with
  | nil => rfl
  | cons q rest ih =>
    obtain ⟨ts, js⟩ := q
    unfold pathToTsWith
    rw [h (ts, js) (by simp)]
    exact ih (fun p hp => h p (by simp [hp]))

example : pathToTs "schema.d.ts".toList = "schema.js".toList ∧ pathToTs "types.mts".toList = "types.mjs".toList := by
  rw [String.toList_ofList, String.toList_ofList, String.toList_ofList, String.toList_ofList]
  decide +kernel

end NitroVerif.PathToTs
