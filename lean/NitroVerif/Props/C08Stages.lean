import NitroVerif.Lemmas.StagesCheckTs
import NitroVerif.Lemmas.StagesLoader
import NitroVerif.Lemmas.StagesRender
import NitroVerif.Lemmas.StagesJs
import NitroVerif.Lemmas.StagesDecls
import NitroVerif.Lemmas.OpTypesClosedDoc
import NitroVerif.Lemmas.StagesIface
import NitroVerif.Lemmas.CheckTsUnique
import NitroVerif.Lemmas.CheckOpFuel
import NitroVerif.Lemmas.Imports
import NitroVerif.Model.ExtResolve
import NitroVerif.Props.C08
/-!
# C08 — no input can make the toolchain panic: the stages AFTER parsing

Property theorems only (the parser part, `parse_no_panic`, is in `Props/C08.lean`).  Every model of a later stage is a
total Lean function in which each `panic!` / `unwrap` / `expect` / index of the Rust function it mirrors is an explicit
result (a `Panic` constructor, `none`, a `trap`, an out-of-fuel value); the models are tied to the code by the K streams
of their own properties (C03/C04 operation checker, C05 schema checker, C11 extension resolver, C13 imports, C01 operation
type printer, C12 JSON / JS printer, C18 diagnostics rendering, C19 loader).  Here: for ALL inputs, each stage's panic
results are unreachable — or reachable exactly under the stated condition.  That is what `_total` in the names below says:
every model is a total function anyway, so the name does not mean "returns for every input" but "no panic result and no
out-of-fuel result of this stage's model is reached" (for the two checkers: the result does not depend on the fuels or on what
the out-of-fuel branches do; for `render_error_total` and `loader_total`: an equivalence that says exactly when the one
remaining trap is reached).  design-notes/C08.md ("The stages after parsing") lists, per
theorem, the panic sites of the Rust function that it covers.

Side conditions of the generation theorems (all decidable; `ifaceOkB`, `skipIncludeB` and `noKeyClashB` each have a
kernel-checked necessity witness below, none is given for `schemaOkB`):
`schemaOkB S` (unique type names, no field named `__typename`, union members are object types — a small part of C03's
`SchemaValid`) and `ifaceOkB S` (objects implement their interfaces), both established by the schema checker — which since
fix 8cdbacf also establishes unique type names (`uniqueTypeNames_of_checked`; `schemaOk_of_checked`, `ifaceOk_of_checked`;
all three under `builtinTypeNamesDistinct`, `schemaOk_of_checked` also under `noReservedFieldsB`), `skipIncludeB S` (a user
definition that shadows `@skip` / `@include` still requires `if` — the real code panics otherwise: open finding),
`noKeyClashB` (one response key = one field, with or without sub-selection, recursively — the FieldsInSetCanMerge rule the
checker lacks: open finding).
-/
namespace NitroVerif.C08
open NitroVerif.Gql NitroVerif.Stages

/-! ## 1. `resolve_schema_extensions` -/

/-- The model of `resolve_schema_extensions` is a structural recursion without fuel and without a
    panic result — the Rust function (schema_extension_resolver/{mod,extension_list}.rs) has no panic site at all (no
    `unwrap`/`expect`/`panic!`/index): for every document it returns the resolved document or one `ExtensionError`
    (duplicate original / extension without original), which carries a position. -/
theorem resolveExt_total (doc : TsDoc) :
    (∃ out, ExtResolve.resolve doc = .ok out) ∨ (∃ e, ExtResolve.resolve doc = .error e) := by
  cases h : ExtResolve.resolve doc with
  | ok out => exact Or.inl ⟨out, rfl⟩
  | error e => exact Or.inr ⟨e, rfl⟩

/-! ## 2. `resolve_operation_extensions`, `resolve_operation_imports` -/

section
open NitroVerif.Imports
variable {κ ρ : Type} [DecidableEq κ] [DecidableEq ρ]

/-- For every resolver `fs`, path function, root document and import graph (cycles, self
    imports, diamonds, dangling paths, repeated names), the repaired `resolve_operation_imports` returns the appended
    definitions or one `ImportError`: the recursion budget of the model (`number of files + 1`) is never exhausted and
    the result type of the repaired model has no panic value — the one `expect("missing target not found")` of the
    pre-repair code is gone (its reachability is C13's kernel-checked `legacy_repeated_name_counterexample`).
    `resolve_operation_extensions` (import lines merged by path literal) is a fold returning `Ok` or one error. -/
theorem resolveImports_total (res : κ → ρ → κ) (fs : FS κ ρ) (root : κ) (rootFile : File ρ)
    (lines : List (RawImport ρ)) :
    resolve res fs root rootFile ≠ .outOfFuel ∧
    ((∃ out, resolve res fs root rootFile = .ok out) ∨ (∃ e, resolve res fs root rootFile = .err e)) ∧
    ((∃ imps, resolveExt lines = .ok imps) ∨ (∃ e, resolveExt lines = .error e)) := by
  have hf := resolve_fuel res fs root rootFile
  refine ⟨hf, ?_, ?_⟩
  · cases hr : resolve res fs root rootFile with
    | ok out => exact Or.inl ⟨out, rfl⟩
    | err e => exact Or.inr ⟨e, rfl⟩
    | outOfFuel => exact absurd hr hf
  · cases hr : resolveExt lines with
    | ok imps => exact Or.inl ⟨imps, rfl⟩
    | error e => exact Or.inr ⟨e, rfl⟩

end

/-! ## 3. the two checkers -/

section
open NitroVerif.CheckOp NitroVerif.CheckCommon

/-- `check_operation_document` has three panic sites (common.rs: the slice `arguments[..idx]` with
    `idx` from `enumerate`, and two `unreachable!()` arms for `Value::Variable` after the variable case has returned) —
    none is a result of the model because none is reachable by construction of the function itself.  What the model adds
    are three fuels (walk through fragment spreads, root keys of a subscription, the closure of used fragments) with
    out-of-fuel branches the Rust code does not have.  For every schema and document, every walk fuel `n ≥ #fragments +
    1`, every number `m ≥ #fragments + 1` of closure rounds and ARBITRARY behaviours `Z`, `ZK` of the out-of-fuel
    branches, the diagnostics are exactly those of `checkOp`: no out-of-fuel branch is ever evaluated.
    (C03's `checkOp_all_fuels_irrelevant` is the same lemma, `checkOpXU_eq_checkOp` of Lemmas/CheckOpFuel.lean.) -/
theorem checkOp_total (S : Schema) (D : Doc) (n m : Nat) (Z : SpreadHandler) (ZK : KeysHandler)
    (hn : CheckOp.fuelFor D ≤ n) (hm : (CheckOp.fragsOf D).length + 1 ≤ m) : checkOpXU S D n m Z ZK = checkOp S D :=
  checkOpXU_eq_checkOp S D Z ZK hn hm

example (D : Doc) : CheckOp.fuelFor D ≤ CheckOp.fuelFor D + 1 ∧ (CheckOp.fragsOf D).length + 1 ≤ (CheckOp.fragsOf D).length + 2 :=
  ⟨Nat.le_succ _, Nat.le_succ _⟩

end

section
open NitroVerif.CheckTs

/-- `check_type_system_document` (type_system_checker/*.rs) has no panic site (`check_unique_names`,
    which runs first since fix 8cdbacf, is one bounded pass over the definitions); its only unbounded loops are
    the breadth-first search of `check_directive_recursion`, which the model runs with `|T| + 2` rounds of fuel and a
    SILENT out-of-fuel branch, and — since fix 2e4a65e — the recursion of `directives_in_type` through the types of
    the fields of nested input objects, which the model runs with `|T| + 1` nesting levels of fuel and a silent
    out-of-fuel branch.  For every document, every fuel `n ≥ |T| + 2` and every behaviour `Z` of the first out-of-fuel
    branch, every fuel `m ≥ |T| + 1` and every behaviour `ZT` of the second, the checker run with `(n, Z, m, ZT)` reports
    exactly what `checkSchema` reports: neither branch is ever evaluated — every round that continues puts a new
    directive name of the document into `seen`, whether or not it reports, and every nested call of
    `directives_in_type` that does not return at once puts a new input-object name of the document into `seen_types`.
    (C05 proved the first only for searches that report nothing; here it holds for every directive definition, also one
    that is shadowed by a later definition of its name.) -/
theorem checkTs_total (T : TsDoc) (n : Nat) (Z : List Name → List DirectiveDef → List Err) (m : Nat) (ZT : WalkZ)
    (hn : T.length + 2 ≤ n) (hm : T.length + 1 ≤ m) :
    checkSchemaX T n Z m ZT = checkSchema T :=
  checkSchemaX_eq T n Z m ZT hn hm

/-- … in particular out-of-fuel branches that REPORT / invent a directive (instead of staying silent) change nothing -/
example (T : TsDoc) : checkSchemaX T (T.length + 2) (fun _ _ => [(CheckTs.ErrKind.RecursingDirective, {})])
    (T.length + 1) (fun _ seen => ([{ name := "boom" }], seen)) = checkSchema T :=
  checkTs_total T _ _ _ _ (Nat.le_refl _) (Nat.le_refl _)

end

/-! ## 4. the operation type printer (`print_types_for_operation_document`) -/

section
open NitroVerif.CheckOp NitroVerif.Valid NitroVerif.OpTypes

/-- For every schema and every document the operation checker accepts, under the four
    decidable side conditions (`schemaOkB`, `ifaceOkB`, `skipIncludeB` on the schema; `noKeyClashB` on the document,
    evaluated at any fragment-nesting bound `Dc` at which the document fits and any depth `d`), the model of
    `get_type_for_selection_set` returns a selection tree for EVERY definition of the document and ALL sufficiently
    large fuels of the model: none of the 13 `expect("Type system error")` / `panic!("Type system error")` sites of
    type_printer.rs (12) and selection_set_visitor.rs (1), neither of the two merge panics of deep_merge.rs ("Cannot
    merge fields of different types", "Cannot merge selection trees of different types") is reached (the other 2 of the
    17 sites of operation_type_printer/ are constant), and neither fuel runs out.  (The fuels are artefacts of the model;
    that its own `fuelFor` / `mfuelFor` are among the sufficient ones is NOT claimed here — see the OPEN block.) -/
theorem generate_total_partial (S : Schema) (D : Doc) (hS : schemaOkB S = true) (hI : ifaceOkB S = true)
    (hSI : skipIncludeB S = true) (h : checkOp S D = []) (Dc d : Nat) (hK : noKeyClashB S D Dc d = true) :
    ∃ N M, ∀ fuel, N ≤ fuel → ∀ mfuel, M ≤ mfuel → ∀ x ∈ D, ∀ r, treeOf S D mfuel fuel x = some r → ∃ T, r = .ok T :=
  doc_trees_ok hS hI hSI h hK

/-- `treeOf` at the model's own fuels is `OpTypes.resultTree` (what the K stream of C01 compares with the real printer) -/
theorem treeOf_is_resultTree (S : Schema) (D : Doc) (x : ExecDef) :
    resultTree S D x = treeOf S D (OpTypes.mfuelFor D) (OpTypes.fuelFor D) x :=
  resultTree_eq S D x

/-- … and at EVERY pair of fuels — too small ones included — the result for every definition
    is a tree or the model's own out-of-fuel value: the two fuels of the model can only replace a result by
    `outOfFuel`, they never change it into (or between) the panics of the Rust code (`implTree` is monotone in both
    fuels, `Lemmas/StagesFuel.lean`). -/
theorem generate_no_rust_panic (S : Schema) (D : Doc) (hS : schemaOkB S = true) (hI : ifaceOkB S = true)
    (hSI : skipIncludeB S = true) (h : checkOp S D = []) (Dc d : Nat) (hK : noKeyClashB S D Dc d = true)
    (fuel mfuel : Nat) :
    ∀ x ∈ D, ∀ r, treeOf S D mfuel fuel x = some r → (∃ T, r = .ok T) ∨ r = .error .outOfFuel :=
  doc_trees_any_fuel hS hI hSI h hK fuel mfuel

/-- … in particular at the model's own fuels, i.e. for `OpTypes.resultTree` itself — the function the K stream of C01
    compares with the real printer, panics included: under the side conditions it never returns `typeSystemError`,
    `mergeFieldsDifferentTypes` or `mergeTreesDifferentTypes`. -/
theorem generate_resultTree_no_rust_panic (S : Schema) (D : Doc) (hS : schemaOkB S = true) (hI : ifaceOkB S = true)
    (hSI : skipIncludeB S = true) (h : checkOp S D = []) (Dc d : Nat) (hK : noKeyClashB S D Dc d = true) :
    ∀ x ∈ D, ∀ r, resultTree S D x = some r → (∃ T, r = .ok T) ∨ r = .error .outOfFuel := by
  intro x hx r hr
  rw [treeOf_is_resultTree] at hr
  exact generate_no_rust_panic S D hS hI hSI h Dc d hK _ _ x hx r hr

/-! ### witnesses: the hypotheses are satisfiable, and each side condition is necessary -/

def builtinScalars : List TsItem := [
  .typeDef { kind := .scalar, name := "Int" }, .typeDef { kind := .scalar, name := "Float" },
  .typeDef { kind := .scalar, name := "String" }, .typeDef { kind := .scalar, name := "Boolean" },
  .typeDef { kind := .scalar, name := "ID" }]

def skipDef : TsItem :=
  .directiveDef { name := "skip", args := [{ name := "if", ty := .nonNull (.named "Boolean" {}) }],
                  locations := ["FIELD", "FRAGMENT_SPREAD", "INLINE_FRAGMENT"] }

/-- `interface Node { id: ID }  type A implements Node { id: ID x: Int }  type Query { a: A  f: Int  node: Node }` -/
def wSchema : Schema := ⟨builtinScalars ++ [skipDef,
  .typeDef { kind := .interface, name := "Node", fields := [{ name := "id", ty := .named "ID" {} }] },
  .typeDef { kind := .object, name := "A", implements := [("Node", {})],
             fields := [{ name := "id", ty := .named "ID" {} }, { name := "x", ty := .named "Int" {} }] },
  .typeDef { kind := .object, name := "Query",
             fields := [{ name := "a", ty := .named "A" {} }, { name := "f", ty := .named "Int" {} },
                        { name := "node", ty := .named "Node" {} }] }]⟩

/-- `query Q($v: Boolean!) { n: a { x } a { x @skip(if: $v) ...F } node { id ... on A { x } } }  fragment F on A { id }` -/
def wDoc : Doc := [
  .op { kind := .query, name := some ("Q", {}), vars := [{ name := "v", ty := .nonNull (.named "Boolean" {}) }],
        sel := [.field (some ("n", {})) "a" {} [] [] (some [.field none "x" {} [] [] none]),
                .field none "a" {} [] [] (some [
                  .field none "x" {} [] [{ name := "skip", args := [("if", {}, .var "v" {})] }] none,
                  .spread "F" {} [] {}]),
                .field none "node" {} [] [] (some [.field none "id" {} [] [] none,
                  .inline (some ("A", {})) [] [.field none "x" {} [] [] none] {}])] },
  .frag { name := "F", cond := "A", sel := [.field none "id" {} [] [] none] }]

/-- the hypotheses of `generate_total_partial` hold of a non-trivial pair (alias, `@skip` on a variable, a fragment
    spread, an interface-typed field with an inline fragment), and the model's own fuels are sufficient there -/
example : schemaOkB wSchema = true ∧ SchemaValid wSchema ∧ ifaceOkB wSchema = true ∧ skipIncludeB wSchema = true ∧
    checkOp wSchema wDoc = [] ∧
    noKeyClashB wSchema wDoc 4 4 = true ∧
    wDoc.all (fun x => match resultTree wSchema wDoc x with | some (.ok _) => true | _ => false) = true := by
  decide +kernel

/-- `query Q { n: a { x } n: f }` — the open finding (known-findings: `O:panic:generate:leaf-object-key-clash`; code
    site deep_merge.rs, "Cannot merge fields of different types") -/
def clashDoc : Doc := [
  .op { kind := .query, name := some ("Q", {}),
        sel := [.field (some ("n", {})) "a" {} [] [] (some [.field none "x" {} [] [] none]),
                .field (some ("n", {})) "f" {} [] [] none] }]

/-- **`generate_total` (without the key-clash condition) is FALSE**, of the model and of the real code: the document
    `query Q { n: a { x } n: f }` is accepted by the checker against a schema satisfying all three schema conditions,
    and the printer panics with "Cannot merge fields of different types"; `noKeyClashB` is exactly what fails. -/
theorem generate_total_counterexample :
    schemaOkB wSchema = true ∧ SchemaValid wSchema ∧ ifaceOkB wSchema = true ∧ skipIncludeB wSchema = true ∧
    checkOp wSchema clashDoc = [] ∧
    (clashDoc.all fun x => match resultTree wSchema clashDoc x with
      | some (.error .mergeFieldsDifferentTypes) => true | _ => false) = true ∧
    noKeyClashB wSchema clashDoc 4 4 = false := by
  decide +kernel

/-- a named type under `n` list markers -/
def wrapN : Nat → GType → GType
  | 0, t => t
  | n + 1, t => .list (wrapN n t) {}

/-- `type A { x: Int }  type Query { a: [[…[A]…]] }` with `n` list markers -/
def deepSchema (n : Nat) : Schema := ⟨builtinScalars ++ [skipDef,
  .typeDef { kind := .object, name := "A", fields := [{ name := "x", ty := .named "Int" {} }] },
  .typeDef { kind := .object, name := "Query", fields := [{ name := "a", ty := wrapN n (.named "A" {}) }] }]⟩

/-- `query Q { a { x } a { x } }` -/
def deepDoc : Doc := [
  .op { kind := .query, name := some ("Q", {}),
        sel := [.field none "a" {} [] [] (some [.field none "x" {} [] [] none]),
                .field none "a" {} [] [] (some [.field none "x" {} [] [] none])] }]

/-- `generate_resultTree_no_rust_panic` cannot be strengthened to "a tree" at the model's own fuels: with a field type
    under 70 list markers (more than `mfuelFor = docSize + 64 = 69`) all side conditions hold and the MODEL runs out of
    its merge fuel, while with 66 markers it returns a tree.  A limit of the model (the Rust recursion has no such bound);
    the K stream never generates such types. -/
theorem model_fuels_not_sufficient_witness :
    schemaOkB (deepSchema 70) = true ∧ SchemaValid (deepSchema 70) ∧ ifaceOkB (deepSchema 70) = true ∧
    skipIncludeB (deepSchema 70) = true ∧
    checkOp (deepSchema 70) deepDoc = [] ∧ noKeyClashB (deepSchema 70) deepDoc 4 4 = true ∧
    (deepDoc.all fun x => match resultTree (deepSchema 70) deepDoc x with
      | some (.error .outOfFuel) => true | _ => false) = true ∧
    (deepDoc.all fun x => match resultTree (deepSchema 66) deepDoc x with
      | some (.ok _) => true | _ => false) = true := by
  decide +kernel

/-- `directive @skip on FIELD  type Query { a: Int }` — a user definition that shadows the built-in `@skip` (built-ins
    are appended after the user's definitions and the first definition of a name wins) -/
def shadowSchema : Schema := ⟨[
  .directiveDef { name := "skip", locations := ["FIELD"] }] ++ builtinScalars ++ [skipDef,
  .typeDef { kind := .object, name := "Query", fields := [{ name := "a", ty := .named "Int" {} }] }]⟩

/-- `query Q { a @skip }` -/
def shadowDoc : Doc := [
  .op { kind := .query, name := some ("Q", {}), sel := [.field none "a" {} [] [{ name := "skip" }] none] }]

/-- **Open finding, found by this proof (known-findings: `O:panic:generate:shadowed-builtin-directive:skip` / `:include`;
    real code panics: type_printer.rs `check_skip_directive`, `expect("Type system error")`).**
    A schema that redefines `@skip` without a required `if` argument: `query Q { a @skip }` passes the operation check
    (the shadowing definition takes no arguments) and the printer, which interprets `@skip` by NAME, panics looking for
    `if`.  All other side conditions hold; `skipIncludeB` is exactly what fails.  Nothing reports the repeated directive
    name (`resolve_schema_extensions` collects directive definitions without a uniqueness check; C05's
    `uniqueDirectiveNames` hypothesis). -/
theorem generate_shadowed_skip_counterexample :
    schemaOkB shadowSchema = true ∧ ifaceOkB shadowSchema = true ∧ checkOp shadowSchema shadowDoc = [] ∧
    noKeyClashB shadowSchema shadowDoc 4 4 = true ∧
    (shadowDoc.all fun x => match resultTree shadowSchema shadowDoc x with
      | some (.error .typeSystemError) => true | _ => false) = true ∧
    skipIncludeB shadowSchema = false := by
  decide +kernel

/-- `interface I { x: Int }  type A implements I { y: Int }  type Query { i: I }` — passes `SchemaValid` (which does not look
    at field implementations) but not the schema checker (`InterfaceFieldNotImplemented`) -/
def badImplSchema : Schema := ⟨builtinScalars ++ [skipDef,
  .typeDef { kind := .interface, name := "I", fields := [{ name := "x", ty := .named "Int" {} }] },
  .typeDef { kind := .object, name := "A", implements := [("I", {})], fields := [{ name := "y", ty := .named "Int" {} }] },
  .typeDef { kind := .object, name := "Query", fields := [{ name := "i", ty := .named "I" {} }] }]⟩

def badImplDoc : Doc := [
  .op { kind := .query, name := some ("Q", {}),
        sel := [.field none "i" {} [] [] (some [.field none "x" {} [] [] none])] }]

/-- `ifaceOkB` cannot be dropped either (at the level of the models): the operation checker looks fields up on the STATIC
    type (`I` has `x`), the printer on every possible object type (`A` has no `x`).  In the real pipeline this schema does
    not get that far: the schema checker rejects it, which is what `ifaceOk_of_checked` states in general. -/
theorem generate_needs_ifaceOk :
    schemaOkB badImplSchema = true ∧ SchemaValid badImplSchema ∧ skipIncludeB badImplSchema = true ∧
    checkOp badImplSchema badImplDoc = [] ∧
    noKeyClashB badImplSchema badImplDoc 4 4 = true ∧
    (badImplDoc.all fun x => match resultTree badImplSchema badImplDoc x with
      | some (.error .typeSystemError) => true | _ => false) = true ∧
    ifaceOkB badImplSchema = false ∧ CheckTs.checkSchema badImplSchema.items ≠ [] := by
  decide +kernel

end

/-! ## 5. rendering diagnostics; the loader ABI -/

section
open NitroVerif.Cli

/-- For ALL file stores, source texts, messages and positions — also lines and columns outside
    the text, in blank surroundings, inside multi-byte characters' lines —
    (1) `message_for_line` never panics (`skip_chars`' `split_at` is always at a character boundary inside the line; the
        two `saturating_sub` cannot underflow), and
    (2) `print_positioned_error` panics EXACTLY when the file index of the main position, or of an additional note, of
        an error that is not built-in lies outside the file store (`files[position.file]`, the only other panic site;
        `write!(..).unwrap()` on a `String` cannot fail).  C18 proves the CLI only renders indices inside its store. -/
theorem render_error_total (files : List (List Char × List Char)) (msg : List Char) (pos : Option Cli.Pos)
    (extras : List (Cli.Pos × List Char)) :
    (∀ path src p m additional, (messageForLine path src p m additional).isSome = true) ∧
    (printPositioned files msg pos extras = none ↔
      ∃ p, pos = some p ∧ p.builtin = false ∧
        (files.length ≤ p.file ∨ ∃ q ∈ extras, q.1.builtin = false ∧ files.length ≤ q.1.file)) :=
  ⟨fun path src p m additional => messageForLine_isSome path src p m additional,
   printPositioned_none_iff files msg pos extras⟩

/-- both directions have instances: a position far outside a one-line file renders, an index outside the store does not -/
example : (printPositioned [(['f'], ['q', '\n'])] ['m'] (some ⟨99, 99, 0, false⟩) []).isSome = true ∧
    printPositioned [(['f'], ['q', '\n'])] ['m'] (some ⟨0, 0, 1, false⟩) [] = none := by decide

end

section
open NitroVerif.Loader
variable {P S J : Type} [DecidableEq P]

/-- For every parser, path resolver and emitter that does not trap (`EmitTotal`: import resolution and
    the JS printer — items 2 and 6 here), along EVERY history of calls of the loader's exported functions from a fresh
    instance (any task ids: live, freed, never issued, 0; any file names and sources; `get_result_ptr/size` anywhere):
    some call traps iff the history contains the documented misuse — a `get_result_*` at a moment when no call has
    written RESULT yet (every earlier response was a task id, `true` from `load_file`, or the return of `free_task`).
    In particular `expect("Root file should be present")` (tasks.rs) is unreachable. -/
theorem loader_total (env : Env P S J) (he : EmitTotal env) (h : List (Op P S)) :
    (∃ r ∈ runResps env init h, r = .trap) ↔
      ∃ h1 h2, h = h1 ++ .getResult :: h2 ∧ ∀ r ∈ runResps env init h1, Resp.silent r = true :=
  run_trap_iff env he h

/-- on a reachable live instance, call by call: the only trapping operation is reading the empty RESULT cell -/
theorem loader_step_total (env : Env P S J) (he : EmitTotal env) (h : List (Op P S))
    (hd : (runSt env init h).dead = false) (op : Op P S) :
    (step env (runSt env init h) op).2 = .trap ↔ (op = .getResult ∧ (runSt env init h).result = none) :=
  (step_trap_iff env he _ hd (run_inv env h init keysLt_init rootOk_init (parsedOk_init env)).2.1 op).1

/-- the misuse exists, and a history without it answers every call -/
example :
    let env : Env Nat Nat Nat := ⟨fun _ => .ok [], fun a _ => a, fun _ _ => .js 0⟩
    runResps env init [.call (.initiate 0 0), .getResult] = [.taskId 1, .trap] ∧
    runResps env init [.call (.initiate 0 0), .call (.emit 1), .getResult, .call (.free 7)] =
      [.taskId 1, .js 0, .result (.js 0), .freed] := by decide

end

/-! ## 6. the other printers -/

section
open NitroVerif.CheckOp NitroVerif.Valid NitroVerif.FragClosure

/-- In a document the operation checker accepts (schema without a field named `__typename`), the
    runtime document of EVERY definition is produced: `fragments.get(name).expect("fragment not found")` of
    `print_operation_runtime` / `print_fragment_runtime` is unreachable (C12 showed it is the only failure and is reached
    exactly for an undefined transitively spread name; the checker's rule 5.5.2.1 excludes that), and the depth bound of
    the model's fragment collection is not exhausted.  The JSON tree printer (`to_json.rs`, `Model/DocJson.lean`) and
    the naming / export decisions (`Model/Exports.lean`) are structural recursions without any panic site. -/
theorem js_printers_total (S : Schema) (D : Doc) (hS : noReservedFieldsB S = true) (h : checkOp S D = []) :
    ∀ x ∈ D, ∃ ds, runtimeDefs D x = .ok ds :=
  fun _ hx => runtimeDefs_ok h hx

example : noReservedFieldsB wSchema = true ∧ checkOp wSchema wDoc = [] ∧
    (wDoc.all fun x => match x, runtimeDefs wDoc x with | .op _, .ok ds => ds.length == 2 | .frag _, .ok ds => ds.length == 1 | _, _ => false) = true := by
  decide +kernel

end

section
open NitroVerif.CheckTs NitroVerif.ValidTs

/-- The panic sites of the schema / resolver declaration printers that depend on the input
    (transcribed by hand in `Lemmas/StagesDecls.lean`; `Model/SchemaDecls.lean` does not represent them): in a document
    the schema checker accepts, every name handed to `local_type_names.get(..).expect("Local type name not
    generated")` — object and input field types, union members — is the name of a type definition; and
    `schema.get_type(name)…expect("Type system error")` finds every input object's own definition with all its fields,
    because type names are unique: the checker reports every name that is repeated (fix 8cdbacf), the built-in-position
    definitions being pairwise distinct (`builtinTypeNamesDistinct`, a fact about the constant `generate_builtins()`). -/
theorem schemaDecls_lookups_total (T : TsDoc) (h : checkSchema T = []) :
    (∀ n ∈ declLookups T, n ∈ declKeys T) ∧
    (builtinTypeNamesDistinct T = true → ∀ td ∈ typeDefs T, inputSelfLookupOk T td = true) :=
  ⟨declLookups_known (knownTypeRefs_of_accepted h), fun hb => inputSelfLookup_ok (uniqueTypeNames_of_accepted h hb)⟩

/-- The side condition "unique type names across kinds" of the generation theorems IS
    established by the schema check (fix 8cdbacf, `check_unique_names`): in a document `check_type_system_document`
    accepts, no two user type definitions share a name and none takes a built-in type's name; with pairwise distinct
    built-in-position definitions all type names are pairwise distinct. -/
theorem uniqueTypeNames_of_checked (T : TsDoc) (hb : builtinTypeNamesDistinct T = true) (h : checkSchema T = []) :
    uniqueTypeNames T = true :=
  uniqueTypeNames_of_accepted h hb

/-- the hypotheses of `uniqueTypeNames_of_checked` hold, non-vacuously, of a document whose scalars ARE at built-in
    positions (as the CLI appends them) next to user definitions -/
example :
    let T : TsDoc := [
      .typeDef { kind := .object, name := "Query", fields := [{ name := "a", ty := .named "Int" {} }] },
      .typeDef { kind := .input, name := "In", inputs := [{ name := "s", ty := .named "String" {} }] },
      .typeDef { kind := .scalar, name := "Int", namePos := { builtin := true } },
      .typeDef { kind := .scalar, name := "String", namePos := { builtin := true } }]
    builtinTypeNamesDistinct T = true ∧ checkSchema T = [] ∧ uniqueTypeNames T = true ∧
      builtinNames (typeIdents T) = ["Int", "String"] := by decide

/-- `type A { x: Int }  input A { y: Int }  type Query { a: A }` (with the built-in scalars) -/
def dupKindDoc : TsDoc := builtinScalars ++ [
  .typeDef { kind := .object, name := "A", fields := [{ name := "x", ty := .named "Int" {} }] },
  .typeDef { kind := .input, name := "A", inputs := [{ name := "y", ty := .named "Int" {} }] },
  .typeDef { kind := .object, name := "Query", fields := [{ name := "a", ty := .named "A" {} }] }]

/-- what `resolve_schema_extensions` makes of it (same definitions, grouped by kind) -/
def dupKindResolved : TsDoc := (ExtResolve.resolve dupKindDoc).toOption.getD []

/-- **Pre-repair witness (the defect fix 8cdbacf repairs; the real code panicked: schema_type_printer/type_printer.rs,
    `expect("Type system error")` in the input object printer).** `type A {…}  input A {…}` passes the extension
    resolver (which rejects a repeated name of the SAME kind only) and the per-definition rules of the schema checker
    (`checkSchemaItems` — all that `check_type_system_document` did before the fix), and the printer of `input A` looks
    its fields up in the FIRST definition named `A`, an object type. Now the checker rejects the document
    (`DuplicatedName` at the second `A`), so the printer is never reached: `uniqueTypeNames_of_checked`. -/
theorem schemaDecls_duplicate_kind_prerepair :
    (ExtResolve.resolve dupKindDoc).toOption.isSome = true ∧ checkSchemaItems dupKindResolved = [] ∧
    uniqueTypeNames dupKindResolved = false ∧
    (typeDefs dupKindResolved).any (fun td => !inputSelfLookupOk dupKindResolved td) = true ∧
    checkSchema dupKindResolved = [(.DuplicatedName, {})] ∧ builtinTypeNamesDistinct dupKindResolved = true := by
  decide +kernel

end

/-! ## the schema checker establishes `ifaceOkB` -/

section
open NitroVerif.CheckTs NitroVerif.ValidTs

/-- A resolved schema document (built-in-position type definitions pairwise distinct) that
    `check_type_system_document` accepts satisfies `ifaceOkB` — every object type has every field of every interface it declares, at a type whose possible
    object types are among those of the interface field's type (the checker's `InterfaceFieldNotImplemented`,
    `FieldTypeMisMatchWithInterface` = the spec's covariance, and `InterfaceNotImplemented` for transitivity). So in the
    pipeline this side condition of `generate_total_partial` is discharged by the schema check. -/
theorem ifaceOk_of_checked (T : TsDoc) (hb : builtinTypeNamesDistinct T = true) (h : checkSchema T = []) :
    ifaceOkB ⟨T⟩ = true :=
  ifaceOk_of_accepted (uniqueTypeNames_of_accepted h hb) h

/-- … and `schemaOkB`: unique type names by `check_unique_names`, the members of every union are
    defined object types by the checker's `NonObjectTypeUnionMember` / `UnknownType`; "no type declares a field named
    `__typename`" stays a hypothesis because the abstract `TypeDef` can carry fields on any kind while the checker looks
    at the fields of object and interface types only (for those it reports every name starting with `__`). -/
theorem schemaOk_of_checked (T : TsDoc) (hb : builtinTypeNamesDistinct T = true) (h : checkSchema T = [])
    (hnr : Valid.noReservedFieldsB ⟨T⟩ = true) : schemaOkB ⟨T⟩ = true :=
  schemaOk_of_accepted (uniqueTypeNames_of_accepted h hb) h hnr

/-- C03's `SchemaValid` implies it as well -/
theorem schemaOk_of_schemaValid (S : Schema) (h : Valid.SchemaValid S) : schemaOkB S = true :=
  schemaOk_of_valid h

end

/-! ## composition -/

section
open NitroVerif.CheckOp NitroVerif.Valid NitroVerif.OpTypes NitroVerif.FragClosure NitroVerif.CheckTs NitroVerif.ValidTs
  NitroVerif.Build

/-- For EVERY resolved schema document `T` and operation document `D` (whatever texts
    they were parsed from): if both checks report nothing, then under the explicit decidable side conditions —
    schema: no field named `__typename`, `skipIncludeB`, and the built-in-position type definitions (the constant list
    the CLI appends) pairwise distinct (`schemaOkB`, `ifaceOkB` AND unique type names across kinds follow from the
    schema check: `schemaOk_of_checked`, `ifaceOk_of_checked`, `uniqueTypeNames_of_checked` — the latter since fix
    8cdbacf; nothing else of C03's `SchemaValid` is needed); document:
    `noKeyClashB` (no response key shared
    by different fields / by a leaf and an object, at some bound `Dc` at which the document fits) — no model of a
    generation stage reaches a panic result:
    (1) the operation type printer returns a tree for every definition, for all sufficiently large fuels, and at the
        model's own fuels a tree or the model's out-of-fuel value — never a panic of the Rust code;
    (2) the JavaScript / JSON printer produces the runtime document of every definition;
    (3) the schema and resolver declaration printers find every name they look up.
    Together with `parse_no_panic` (no text makes a parser model panic), `resolveExt_total`, `resolveImports_total`,
    `checkOp_total`, `checkTs_total` (total, fuels never exhausted) and `render_error_total` (diagnostics of a failing
    stage are rendered without panic for positions inside the file store) this covers every stage of `check` and
    `generate` between the parsed texts and the printed files; configuration, plugin hosts, file system and the CLI process
    have no theorem (OPEN block at the end). -/
theorem pipeline_no_panic_partial (T : TsDoc) (D : Doc)
    (hnr : noReservedFieldsB ⟨T⟩ = true) (hSI : skipIncludeB ⟨T⟩ = true) (hb : builtinTypeNamesDistinct T = true)
    (hT : checkSchema T = []) (hD : checkOp ⟨T⟩ D = []) (Dc d : Nat) (hK : noKeyClashB ⟨T⟩ D Dc d = true) :
    (∃ N M, ∀ fuel, N ≤ fuel → ∀ mfuel, M ≤ mfuel → ∀ x ∈ D, ∀ r, treeOf ⟨T⟩ D mfuel fuel x = some r → ∃ t, r = .ok t) ∧
    (∀ x ∈ D, ∀ r, resultTree ⟨T⟩ D x = some r → (∃ t, r = .ok t) ∨ r = .error .outOfFuel) ∧
    (∀ x ∈ D, ∃ ds, runtimeDefs D x = .ok ds) ∧
    (∀ n ∈ declLookups T, n ∈ declKeys T) ∧ (∀ td ∈ typeDefs T, inputSelfLookupOk T td = true) :=
  have hS := schemaOk_of_checked T hb hT hnr
  have hI := ifaceOk_of_checked T hb hT
  have hL := schemaDecls_lookups_total T hT
  ⟨generate_total_partial ⟨T⟩ D hS hI hSI hD Dc d hK, generate_resultTree_no_rust_panic ⟨T⟩ D hS hI hSI hD Dc d hK,
   js_printers_total ⟨T⟩ D hnr hD, hL.1, hL.2 hb⟩

/-- the same, from the TEXTS of a one-file schema and a one-file operation document (`builtins` = the definitions the
    CLI appends): no text makes either parser model panic, and whenever both parse, the extension resolver succeeds and
    both checkers report nothing, the conclusions of `pipeline_no_panic_partial` hold under its side conditions -/
theorem pipeline_no_panic_texts (schemaText opText : List Char) (builtins : TsDoc) :
    (parseTs schemaText).isPanic = false ∧ (parseOp opText).isPanic = false ∧
    ∀ T0 T D, parseTs schemaText = .ok T0 → ExtResolve.resolve (T0 ++ builtins) = .ok T → parseOp opText = .ok D →
      checkSchema T = [] → checkOp ⟨T⟩ D = [] →
      noReservedFieldsB ⟨T⟩ = true → skipIncludeB ⟨T⟩ = true → builtinTypeNamesDistinct T = true →
      ∀ Dc d, noKeyClashB ⟨T⟩ D Dc d = true →
      (∃ N M, ∀ fuel, N ≤ fuel → ∀ mfuel, M ≤ mfuel → ∀ x ∈ D, ∀ r, treeOf ⟨T⟩ D mfuel fuel x = some r → ∃ t, r = .ok t) ∧
      (∀ x ∈ D, ∀ r, resultTree ⟨T⟩ D x = some r → (∃ t, r = .ok t) ∨ r = .error .outOfFuel) ∧
      (∀ x ∈ D, ∃ ds, runtimeDefs D x = .ok ds) ∧
      (∀ n ∈ declLookups T, n ∈ declKeys T) ∧ (∀ td ∈ typeDefs T, inputSelfLookupOk T td = true) := by
  refine ⟨(parse_no_panic schemaText).2, (parse_no_panic opText).1, ?_⟩
  · intro T0 T D _ _ _ hT hD hnr hSI hb Dc d hK
    exact pipeline_no_panic_partial T D hnr hSI hb hT hD Dc d hK

/-- the hypotheses of the composition are satisfiable together: the witness schema (as a resolved document) and document -/
example : schemaOkB ⟨wSchema.items⟩ = true ∧ noReservedFieldsB ⟨wSchema.items⟩ = true ∧ skipIncludeB ⟨wSchema.items⟩ = true ∧
    builtinTypeNamesDistinct wSchema.items = true ∧ uniqueTypeNames wSchema.items = true ∧
    checkSchema wSchema.items = [] ∧ checkOp ⟨wSchema.items⟩ wDoc = [] ∧
    noKeyClashB ⟨wSchema.items⟩ wDoc 4 4 = true := by
  decide +kernel

end

/-
OPEN — carried by K/O only (stated, not proved), after this file:

* model = code for every stage: the K streams of C01, C03/C04, C05, C11, C12, C13, C18, C19 (and the O stream of c08.rs,
  which runs every public entry point under catch_unwind / in a child process).  The panic sites of the schema and
  resolver declaration printers are NOT in `Model/SchemaDecls.lean`; `schemaDecls_lookups_total` speaks about a hand
  transcription of them (`Lemmas/StagesDecls.lean`).
* `generate_total_partial` gives a tree for "all sufficiently large fuels"; `generate_resultTree_no_rust_panic` gives
  "tree or `outOfFuel`" at the model's own `fuelFor d = 2·docSize + 4`, `mfuelFor d = docSize + 64`.  That these are
  SUFFICIENT (no `outOfFuel` at all) is false for the model on extreme inputs (`model_fuels_not_sufficient_witness`: a
  field type wrapped in more than `docSize + 64` list markers merged under one key); under the bound `(Dn + 1)·(fieldDepthBound S + 1) ≤ docSize D + 64` (`Dn` a fragment-nesting
  bound at which the document fits) it is `resultTree_ok` of Props/C01Closed.lean, not restated here.  `outOfFuel` is a limit of the
  model, not a behaviour of the Rust code (whose recursion is bounded by its stack only); K never met it.
* the schema-side hypotheses of `pipeline_no_panic_partial` that no check establishes: no field named `__typename` on a
  type of a kind without fields (vacuous for parsed documents), `skipIncludeB` (a user re-declaration of `@skip` /
  `@include` stays allowed after fix 8cdbacf: `generate_shadowed_skip_counterexample`), and `builtinTypeNamesDistinct`
  (about the constant list `generate_builtins()` = Int, Float, String, Boolean, ID; the K stream of C05 passes it as
  data; for every document the CLI resolves it is proved: `ExtResolve.builtinTypeNamesDistinct_cli` — no user type definition
  carries a built-in position — and `CliComposed.resolvedSchema_builtinsDistinct` under `ParserStamps`). "Unique type names across kinds" is not among them: it is established by `uniqueTypeNames_of_checked`.
* the other hypotheses nothing here discharges: `noKeyClashB` on the document (the checker has no FieldsInSetCanMerge
  rule: `generate_total_counterexample`, open finding); `EmitTotal` in `loader_total` / `loader_step_total` (parser, path
  resolver and emitter are abstract parameters there; the loader does not run the checker); file indices inside the store
  in `render_error_total` (C18).
* `parse_config`, plugin hosts, the file system and the CLI process (C18's assumptions) have no theorem here, and their
  panic sites (cli/src/{main,generate,schema_loader,plugin_host}.rs, config-file/src/{node,execute}.rs, plugin/src,
  async-runtime/src, utils/src/relative_path.rs) are outside `translate/stage_sites.py`: O stream only (c08.rs runs
  `parse_config` in process and the built CLI binary on configuration × file-set × plugin rows, judged by exit status
  and `panicked at`).
-/

end NitroVerif.C08
