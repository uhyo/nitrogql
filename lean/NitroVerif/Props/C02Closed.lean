/-
C02 — the ⊇ direction of the refinement theorem with its hypotheses discharged (see `Props/C01Closed.lean`
for `hyp_of_schemaFile`, `resultTree_ok`, `accepted_document_passes_checks`).

`C02_end_to_end` (one selection set) and `C02_pipeline_end_to_end` (a checked schema, an accepted document): every value
without repeated record keys that THE MODEL'S emitted Result type admits — read with THE MODEL'S emitted schema declaration
file — is a `RefLocal` response.  The fuel hypothesis `FuelOk` of `C02_admits_only_local_executions` is replaced by an
explicit bound on the fuel of the executable specification (`eszL`, the expanded size), and `refLocal_fuel_monotone` shows
that this fuel is an artefact: more of it never removes a response.  `fuelOk_not_tight_witness`: the bound is sufficient,
not necessary — it can exceed the fuel `docSize D + 8` the driver of the O stream uses.
-/
import NitroVerif.Props.C02
import NitroVerif.Props.C01Closed
namespace NitroVerif.Props.C02
open NitroVerif.Gql NitroVerif.Ts NitroVerif.OpTypes NitroVerif.Exec NitroVerif.DeclCfg NitroVerif.SchemaDecls
open NitroVerif.OpTypes.Closed NitroVerif.Stages NitroVerif.CheckOp NitroVerif.Props

open NitroVerif.OpTypes.Ref in
/-- **`C02_end_to_end`** (one selection set).  Whenever the printer model returns a tree `T` for the selection set `ss` at a
    root type, every value without repeated record keys that THE MODEL'S EMITTED RESULT TYPE `toTs ns T` admits — closed
    against the declaration table of the operation file linked with THE MODEL'S EMITTED SCHEMA DECLARATION FILE, read with
    the real `__SelectionSet` hook — is a response of `RefLocal` (spec execution with the Boolean variables re-chosen per
    selection set) on a possible object type of the root.  No hypothesis about the declaration file is left; the fuel of
    the executable specification must cover the expanded size of the selection set (`eszL`, explicit and computable). -/
theorem C02_end_to_end {cfg : Cfg} {c : Exec.Ctx} {F : File} (hF : schemaFile cfg c.S.items = .ok F)
    (ok : DocOK cfg c.S.items) (K : CfgOk cfg c) (main : File) (m ns : String)
    (hflat : main.all (fun s => !s.isNamespace) = true) (himp : starImports main = [(m, ns)])
    {mfuel fuel Dn : Nat} {root : Name} {p : Pos} {ss : List Selection} {T : SelTree}
    (h : implTree c.S c.F mfuel fuel (.nonNull (.named root p)) ss = .ok T) (hC : ∀ d, Coh c d (Sb1 ss) root)
    (hfit : ss.all (fits c.F Dn) = true) (hfuel : eszL c.F Dn ss ≤ c.fuel) {v : J} (hv : JWf v)
    (hm : Mem (SelSem.envOf main m F) v (globalise (Decls.ofFiles main [(m, F)]) [] [] (toTs ns T))) :
    ∃ o ∈ c.S.possibleTypes root, RefLocal c o ss v :=
  C02_admits_only_local_executions_emitted (Decls.ofFiles main [(m, F)]) ns
    (C01.hyp_of_schemaFile hF ok K main m ns hflat himp) (typeNamesNodup_of_docOK ok) h hC
    ((fuelOk_iff c Dn ss).2 ⟨hfit, hfuel⟩) hv hm

/-- **The fuel of the executable specification is an artefact**: a `RefLocal` response stays one when the specification
    is run with more fuel (CollectFields returns the same groups). -/
theorem refLocal_fuel_monotone {c : Exec.Ctx} {f : Nat} (hle : c.fuel ≤ f) {o : Name} {ss : List Selection} {v : J}
    (h : RefLocal c o ss v) : RefLocal (withFuel c f) o ss v :=
  refLocal_withFuel hle h

/-- non-vacuity: the witness response with fuel 16, then with fuel 1000 -/
example : RefLocal (withFuel OpTypes.W.ctx 1000) "Query" W.selA (.obj [("a", .obj [("x", .num)])]) :=
  refLocal_fuel_monotone (c := OpTypes.W.ctx) (by decide) ⟨3, refLocalMem_sound _ 3 _ _ _ (by decide +kernel)⟩

set_option maxRecDepth 16384 in
open NitroVerif.OpTypes.Ref in
/-- non-vacuity of `C02_end_to_end`: the witness `W` (schema, default configuration, THE MODEL'S schema declaration file,
    `{ a { x } a { y @skip(if: $v) } }`): the hypotheses by `decide` / `rfl`; the value `{ a: { x: 1 } }`, which the emitted
    type admits, is a `RefLocal` response -/
example : ∃ T, implTree Closed.W.ctx.S Closed.W.ctx.F 16 16 (.nonNull (.named "Query" {})) W.selA = .ok T ∧
    ∃ o ∈ Closed.W.ctx.S.possibleTypes "Query", RefLocal Closed.W.ctx o W.selA (.obj [("a", W.respX)]) := by
  obtain ⟨T, hT⟩ := Closed.W.selA_tree
  refine ⟨T, hT, C02_end_to_end Closed.W.file_ok Closed.W.docOK Closed.W.cfgOk Closed.W.main "" "Schema" Closed.W.main_flat
    Closed.W.main_imp (Dn := 4) hT Closed.W.coh_selA (by decide +kernel) (by decide +kernel)
    (by simp [JWf, JWfFields, W.respX]) ?_⟩
  exact C01.C01_end_to_end Closed.W.file_ok Closed.W.docOK Closed.W.cfgOk Closed.W.main "" "Schema" Closed.W.main_flat
    Closed.W.main_imp hT Closed.W.coh_selA (σ := sigmaOf [("v", true)]) (o := "Query") (by decide)
    ⟨3, C01.execMem_sound _ _ 3 _ _ _ Closed.W.execMem_selA⟩

open NitroVerif.OpTypes.Ref in
/-- **`C02_pipeline_end_to_end`.** For every schema `S` with `schemaOkB` / `ifaceOkB` / `skipIncludeB`, configuration with
    C10's `DocOK` and `CfgOk` (at any fuel: `CfgOk` does not read it, hence the `0` in `K`), every document that passes the
    operation check and the coherence check `noKeyClashB`, with wrappers not absurdly deep: for every definition, the
    model's printer — run with its own fuels — returns a tree `T`, and every value without repeated record keys that the declared type `toTs ns T` admits (read with
    the model's operation file linked with the model's schema declaration file) is a `RefLocal` response of the
    definition's selection set on a possible object type of its root — for EVERY fuel `f` of the executable specification
    that covers the expanded size of the selection set. -/
theorem C02_pipeline_end_to_end {cfg : Cfg} {S : Schema} {D : Doc} {F : File} (scalar : Name → J → Bool)
    (hS : schemaOkB S = true) (hI : ifaceOkB S = true) (hSI : skipIncludeB S = true)
    (hF : schemaFile cfg S.items = .ok F) (ok : DocOK cfg S.items) (K : CfgOk cfg (specCtx S D scalar 0))
    (h : checkOp S D = []) {Dc d : Nat} (hK : noKeyClashB S D Dc d = true)
    {Dn : Nat} (hfit : fitsDocB D Dn = true) (hG : (Dn + 1) * (fieldDepthBound S + 1) ≤ docSize D + 64)
    (o : Opts) (m : String) {x : ExecDef} (hx : x ∈ D) (hni : ∀ i, x ≠ .imp i) :
    ∃ T, resultTree S D x = some (.ok T) ∧
      ∀ (f : Nat), eszL (OpTypes.fragsOf D) Dn (selOfDef x) ≤ f → ∀ (v : J), JWf v →
        Mem (SelSem.envOf (opFileOf o m S D) m F) v
          (globalise (Decls.ofFiles (opFileOf o m S D) [(m, F)]) [] [] (toTs o.ns T)) →
        ∃ o' ∈ S.possibleTypes (rootNameOf S x), RefLocal (specCtx S D scalar f) o' (selOfDef x) v := by
  obtain ⟨T, hr, _, _⟩ := C01.C01_pipeline_end_to_end scalar 0 hS hI hSI hF ok K h hK hfit hG o m hx hni
  refine ⟨T, hr, ?_⟩
  intro f hf v hv hm
  obtain ⟨p, himpl⟩ := resultTree_implTree hr
  have hC := coh_of_cohDefB (S := S) (D := D) (c := specCtx S D scalar f) rfl rfl (List.all_eq_true.1 hK x hx)
  have Kf : CfgOk cfg (specCtx S D scalar f) := K.of_eq rfl rfl
  have hfits : (selOfDef x).all (fits (OpTypes.fragsOf D) Dn) = true := by
    rw [List.all_eq_true]
    intro s hs
    exact fitsS_fits Dn s (fitsDoc_def (fitsDoc_of_check hfit) hx s hs)
  exact C02_end_to_end (c := specCtx S D scalar f) hF ok Kf (opFileOf o m S D) m o.ns (opFileOf_flat o m S D)
    (opFileOf_imports o m S D) himpl hC hfits hf hv hm

open NitroVerif.OpTypes.Ref in
/-- **`fuelOk_driver_partial`** — `FuelOk` for the fuel the driver of the O stream gives the specification
    (`docSize D + 8`, Driver/C01.lean `specCtx`).  FULL STATEMENT (for every accepted document, no side condition): FALSE
    of the sufficient predicate `FuelOk` — `fuelOk_not_tight_witness` below.  Under the decidable side condition that the
    expanded size of the definition's selection set is within that fuel, it holds. -/
theorem fuelOk_driver_partial {S : Schema} {D : Doc} (scalar : Name → J → Bool) {Dn : Nat} (hfit : fitsDocB D Dn = true)
    {x : ExecDef} (hx : x ∈ D) (hsz : eszL (OpTypes.fragsOf D) Dn (selOfDef x) ≤ docSize D + 8) :
    FuelOk (specCtx S D scalar (docSize D + 8)) Dn (selOfDef x) :=
  ⟨fun s hs => fitsS_fits Dn s (fitsDoc_def (fitsDoc_of_check hfit) hx s hs), hsz⟩

open NitroVerif.OpTypes.Ref in
/-- the side condition holds on the witness document (expanded size 6, fuel 14) -/
example : fitsDocB C01.wDoc 4 = true ∧ C01.wOp ∈ C01.wDoc ∧
    eszL (OpTypes.fragsOf C01.wDoc) 4 (selOfDef C01.wOp) ≤ docSize C01.wDoc + 8 :=
  ⟨by decide +kernel, List.mem_cons_self, by decide +kernel⟩

/-- `query Q { a { ...F }  b: a { ...F }  c: a { ...F }  d: a { ...F } }  fragment F on A { x  y  x1: x  y1: y }` -/
def spreadDoc : Doc := [
  .op { kind := .query, name := some ("Q", {}),
        sel := [.field none "a" {} [] [] (some [.spread "F" {} [] {}]),
                .field (some ("b", {})) "a" {} [] [] (some [.spread "F" {} [] {}]),
                .field (some ("c", {})) "a" {} [] [] (some [.spread "F" {} [] {}]),
                .field (some ("d", {})) "a" {} [] [] (some [.spread "F" {} [] {}])] },
  .frag { name := "F", cond := "A",
          sel := [.field none "x" {} [] [] none, .field none "y" {} [] [] none,
                  .field (some ("x1", {})) "x" {} [] [] none, .field (some ("y1", {})) "y" {} [] [] none] }]

open NitroVerif.OpTypes.Ref in
/-- **The fuel bound of `C02_pipeline_end_to_end` is sufficient, not tight.** `FuelOk` asks for the EXPANDED size of the
    selection set (the body of a fragment counted once per spread, sub-selections included), because it has to hold again
    for every merged sub-selection.  On a document that spreads one fragment four times the expanded size (24) exceeds the
    fuel `docSize D + 8 = 22` the driver of the O stream runs the specification with — so `FuelOk` is FALSE for the
    driver's context — although CollectFields itself succeeds there (it visits 4 selections).  The document passes every
    check of the pipeline theorem.  That `docSize D + 8` always suffices for `RefLocal` is not proved. -/
theorem fuelOk_not_tight_witness :
    checkOp Closed.W.S spreadDoc = [] ∧ noKeyClashB Closed.W.S spreadDoc 4 4 = true ∧ fitsDocB spreadDoc 4 = true ∧
    docSize spreadDoc + 8 = 22 ∧
    eszL (OpTypes.fragsOf spreadDoc) 4 (selOfDef spreadDoc.head!) = 24 ∧
    ¬ FuelOk (specCtx Closed.W.S spreadDoc (fun _ _ => true) (docSize spreadDoc + 8)) 4 (selOfDef spreadDoc.head!) ∧
    (collectFields (specCtx Closed.W.S spreadDoc (fun _ _ => true) (docSize spreadDoc + 8)) (sigmaOf []) "Query"
      (selOfDef spreadDoc.head!)).isSome = true := by
  refine ⟨by decide +kernel, by decide +kernel, by decide +kernel, by decide +kernel, by decide +kernel, ?_,
    by decide +kernel⟩
  rw [fuelOk_iff]
  decide +kernel

/-
OPEN — carried by K/O only: see the block at the end of `Props/C01Closed.lean`; for C02 in addition
  * the fuel of the executable specification: `C02_pipeline_end_to_end` holds for every fuel ≥ the expanded size `eszL`
    (which can be exponential in the size of the document); that the driver's `docSize D + 8` always suffices for
    `RefLocal` is not proved (`fuelOk_not_tight_witness` shows the sufficient condition `FuelOk` can fail there).  The O
    stream's sanity check (`execMem` on a sample of the enumerated values) would report a specification that rejects
    its own responses;
  * the value hypothesis `JWf` (`repeated_key_counterexample`).
-/

end NitroVerif.Props.C02
