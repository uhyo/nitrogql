import NitroVerif.Props.C06Sites
import NitroVerif.Lemmas.PrintMapBodyExports
import NitroVerif.Lemmas.PrintMapBodyIndent
/-!
# C06 — the bodies of the operation printers: the WHOLE call sequence

Property theorems only. Model: `opTypeOps` / `opJsOps` of `NitroVerif/Model/PrintMap.lean` — EVERY call
`print_types_for_operation_document` / `print_js_for_operation_document` make on the `SourceMapWriter` trait, in order: the
import lines, per operation the Result type (the selection-set type of `generate_selection_tree_type`, printed by
`print_type`), the Variables type, the document constant (with the runtime JSON in standalone mode) and the default export,
per fragment its type and constant. Tied to the code by the K streams `sites:optype:calls` / `sites:opjs:calls` of
`harness/src/bin/c06/sites.rs` (recording writer; call-by-call comparison, a panic of the printer = an error of the model).

Every theorem is about option values, schemas and documents on which the printer returns (`… = .ok ops`).

OPEN — carried by K/O only: the exact amount of indentation on each line (two spaces per open object type: K compares the
`indent` / `dedent` calls one by one and the `ops` stream the writer's buffer; no theorem states the column); plugins of the
resolver printer; that AST positions are token starts (C07 / the end-to-end O; violated after astral characters, open known
finding `e2e:original-column-counts-code-points`); the selection-set positions `sps` are an input of the model; the layout
functions `layoutTy` / `RStmt.text` / `opHeaderText` that give "the text of the C01/C09/C12/C14 models" are definitions of this
property (`Lemmas/PrintMapBody*`), tied to the code chunk by chunk by K `sites:optype:calls` / `sites:opjs:calls`. See also the
OPEN blocks of `Props/C06.lean` and `Props/C06Sites.lean`.
-/
namespace NitroVerif.PrintMap
open NitroVerif.Gql NitroVerif.DeclCfg NitroVerif.SourceMap
open NitroVerif.Ts (Ty)

/-- Whenever the operation type printer returns: of ALL its calls, the ones `SourceWriter` maps (a `write_for` with a
    non-builtin position) are exactly the mapped calls of the call-site list `opTypeSites`, in order — per operation the result
    type name, ` = ` (selection set), the variables type name, the constant's name, `: ` (selection set); per fragment its type
    name, constant name and type name again (once more with values). Nothing inside a selection-set type, a Variables type, a
    runtime document or an export statement is mapped. -/
theorem optype_full_projection (fo : FullOpts) (S : Schema) (D : Doc) (docFile : Nat) (sps : List Pos) (ops : List POp)
    (h : opTypeOps fo S D docFile sps = .ok ops) : mappedOps ops = mappedOps (opTypeSites fo.names D sps) := by
  unfold opTypeOps at h
  split at h
  · cases h
  · rename_i r hr
    cases h
    simp [opTypeHeaderOps, opTypeDefsOps_mapped fo S D docFile _ D sps r hr]

/-- the same for the JavaScript module printer -/
theorem opjs_full_projection (fo : FullOpts) (D : Doc) (docFile : Nat) (ops : List POp)
    (h : opJsOps fo D docFile = .ok ops) : mappedOps ops = mappedOps (opJsSites fo.names D) :=
  opJsDefsOps_mapped fo D docFile _ D ops h

/-- Nothing is invented anywhere in the declaration file: EVERY `write_for` of the whole sequence whose position is not built
    in passes a node of the document — the name token of a named operation (with its name), the definition of an anonymous
    operation, the definition of a fragment (with the fragment's name) or an operation's selection set. -/
theorem optype_full_calls_not_invented (fo : FullOpts) (S : Schema) (D : Doc) (docFile : Nat) (sps : List Pos)
    (ops : List POp) (h : opTypeOps fo S D docFile sps = .ok ops) (t : String) (p : Pos) (n : Option String)
    (hmem : .writeFor t p n ∈ ops) (hb : p.builtin = false) : ExecNode D sps p n := by
  have hm : POp.writeFor t p n ∈ mappedOps ops := mem_mappedOps.mpr ⟨hmem, by simp [POp.mapped, hb]⟩
  rw [optype_full_projection fo S D docFile sps ops h] at hm
  obtain ⟨t', p', n', e, hn⟩ := optype_sites_not_invented fo.names D sps _ (mem_mappedOps.mp hm).1
  cases e
  exact hn

/-- The writer does not panic on the type printer's calls when the file-index mapper covers the files of the document's
    nodes (`p.file < m.length` for every node of the document at a position that is not built in; for the mapper `FileMap`
    installs this is `length_fileIndicesOpGo` plus a bound on the node's file — it is not derived here), or when there is no
    mapper: the whole sequence runs. -/
theorem optype_full_calls_run (pol : Policy) (hp : pol.Sound) (fo : FullOpts) (S : Schema) (D : Doc) (docFile : Nat)
    (sps : List Pos) (ops : List POp) (h : opTypeOps fo S D docFile sps = .ok ops) (st0 : WState)
    (hfiles : ∀ m, st0.mapper = some m → ∀ p n, ExecNode D sps p n → p.builtin = false → p.file < m.length) :
    ∃ st, run pol st0 (ops.map POp.toOp) = some st := by
  refine run_total pol ops st0 ?_
  intro m hm t q n hmem hb
  exact hfiles m hm q n (optype_full_calls_not_invented fo S D docFile sps ops h t q n hmem hb) hb

/-- the hypothesis holds without a mapper -/
example (D : Doc) (sps : List Pos) : ∀ m, WState.init.mapper = some m → ∀ p n, ExecNode D sps p n → p.builtin = false →
    p.file < m.length := by
  intro m hm; cases hm

/-- a schema, an operation `query q { x: a }` (name at 0:6, selection set at 0:8, alias at 0:10, field name at 0:13) -/
def exSchema : Schema :=
  ⟨[.typeDef { kind := .object, name := "Query", fields := [{ name := "a", ty := .named "Int" {} }] }]⟩
def exOp : OperationDef :=
  { kind := .query, name := some ("q", ⟨0, 6, 1, false⟩), pos := ⟨0, 0, 1, false⟩,
    sel := [.field (some ("x", ⟨0, 10, 1, false⟩)) "a" ⟨0, 13, 1, false⟩ [] [] none] }

/-- non-vacuity: the printer returns on this document (default options and standalone mode) -/
example : (∃ ops, opTypeOps {} exSchema [.op exOp] 1 [⟨0, 8, 1, false⟩] = .ok ops) ∧
    (∃ ops, opTypeOps { names := { printValues := true } } exSchema [.op exOp] 1 [⟨0, 8, 1, false⟩] = .ok ops) ∧
    (∃ ops, opJsOps {} [.op exOp] 1 = .ok ops) :=
  ⟨⟨_, rfl⟩, ⟨_, rfl⟩, ⟨_, rfl⟩⟩

/-- Inside the TypeScript type of ANY selection tree (`generate_selection_tree_type`, every namespace, nullable or not)
    every call of `print_type` is a plain `write`, `indent`, `dedent`, or a `write_for(key, ObjectKey)` whose node was built from
    the key text: position `Pos::builtin()`, name = the written text. `SourceWriter::write_for` treats such a call as `write`:
    the keys of `__SelectionSet` objects are NOT mapped to the selected fields. -/
theorem selection_type_calls_unmapped (ns : String) (T : OpTypes.SelTree) (nn : Bool) :
    (∀ t p n, POp.writeFor t p n ∈ printTy (treeTy ns T nn) → p = bi ∧ n = some t) ∧
    mappedOps (printTy (treeTy ns T nn)) = [] := by
  constructor
  · intro t p n hmem
    have := List.all_eq_true.mp (simple_calls _ (simple_treeTy ns T nn)) _ hmem
    simpa [POp.unmappedCall] using this
  · exact mappedOps_simple _ (simple_treeTy ns T nn)

/-- The same inside the Variables type (`get_type_for_variable_definitions`): the property keys are built from the variable
    names as strings; no call carries the position of a variable definition. -/
theorem variables_type_calls_unmapped (ns : String) (oi : Bool) (vars : List VarDef) :
    (∀ t p n, POp.writeFor t p n ∈ printTy (varsTy ns oi vars) → p = bi ∧ n = some t) ∧
    mappedOps (printTy (varsTy ns oi vars)) = [] := by
  constructor
  · intro t p n hmem
    have := List.all_eq_true.mp (simple_calls _ (simple_varsTy ns oi vars)) _ hmem
    simpa [POp.unmappedCall] using this
  · exact mappedOps_simple _ (simple_varsTy ns oi vars)

/-- FALSE of the code: "the key of a selected field in the Result type is mapped to the field's name / alias token".
    Witness `query q { x: a }` against `type Query { a: Int }` (alias `x` at 0:10, field name `a` at 0:13): the printer
    returns; the key is written by `write_for("x", node)` with `node.position() = Pos::builtin()`; the mapped calls are the five
    header calls of the operation, and no call carries 0:10 or 0:13. -/
theorem selection_key_not_mapped_counterexample :
    ∃ ops, opTypeOps {} exSchema [.op exOp] 1 [⟨0, 8, 1, false⟩] = .ok ops ∧
      POp.writeFor "x" bi (some "x") ∈ ops ∧
      mappedOps ops = opTypeSites {} [.op exOp] [⟨0, 8, 1, false⟩] ∧
      (∀ t n, POp.writeFor t ⟨0, 10, 1, false⟩ n ∉ ops) ∧ (∀ t n, POp.writeFor t ⟨0, 13, 1, false⟩ n ∉ ops) := by
  have hm : mappedOps (match opTypeOps {} exSchema [.op exOp] 1 [⟨0, 8, 1, false⟩] with | .ok ops => ops | .error _ => [])
      = opTypeSites {} [.op exOp] [⟨0, 8, 1, false⟩] := by decide +kernel
  refine ⟨_, rfl, by decide +kernel, hm, ?_, ?_⟩
  · intro t n hmem
    have h2 : POp.writeFor t ⟨0, 10, 1, false⟩ n ∈ mappedOps
        (match opTypeOps {} exSchema [.op exOp] 1 [⟨0, 8, 1, false⟩] with | .ok ops => ops | .error _ => []) :=
      mem_mappedOps.mpr ⟨hmem, rfl⟩
    rw [hm] at h2
    simp [opTypeSites, opTypeOperationSites, namePosOf, exOp] at h2
  · intro t n hmem
    have h2 : POp.writeFor t ⟨0, 13, 1, false⟩ n ∈ mappedOps
        (match opTypeOps {} exSchema [.op exOp] 1 [⟨0, 8, 1, false⟩] with | .ok ops => ops | .error _ => []) :=
      mem_mappedOps.mpr ⟨hmem, rfl⟩
    rw [hm] at h2
    simp [opTypeSites, opTypeOperationSites, namePosOf, exOp] at h2

/-- The selection-set type the printer builds for a tree (`treeTy`, positions dropped by `erase`) IS the type of the C01 model:
    its print→parse normal form (`norm`: a union inside a union is spliced, as the text reads) equals `OpTypes.toTs`. -/
theorem selection_type_is_c01_model (ns : String) (T : OpTypes.SelTree) :
    norm (erase (treeTy ns T false)) = OpTypes.toTs ns T :=
  norm_erase_toTs ns T

/-- The Variables type the printer builds IS the type of the C09 model (`VarTypes.varsTsL` over `NS.__OperationInput.<name>`;
    with the default namespace: `VarTypes.varsTs`). -/
theorem variables_type_is_c09_model (ns : String) (oi : Bool) (vars : List VarDef) (c : Cfg) :
    norm (erase (varsTy ns oi vars)) = VarTypes.varsTsL (inRef ns) oi vars ∧
    norm (erase (varsTy VarTypes.schemaNs c.optionalInput vars)) = VarTypes.varsTs c vars :=
  ⟨norm_erase_varsTy ns oi vars, norm_erase_varsTy_default c vars⟩

/-- The normal form is only a different reading of the same text: `layoutTy (norm t) = layoutTy t` for every syntax tree, and
    for a type built from strings the concatenated text of `print_type`'s calls is that layout. -/
theorem normal_form_keeps_text :
    (∀ t : Ty, layoutTy (norm t) = layoutTy t) ∧
    (∀ t : TSTy, t.simple = true → rawText (printTy t) = layoutTy (norm (erase t))) :=
  ⟨layout_norm, rawText_printTy_norm⟩

/-- non-vacuity of `simple`: the types of the printer are of this kind -/
example (ns : String) (T : OpTypes.SelTree) (vars : List VarDef) :
    (treeTy ns T false).simple = true ∧ (varsTy ns true vars).simple = true :=
  ⟨simple_treeTy ns T false, simple_varsTy ns true vars⟩

/-- The type the declaration file gives a definition's Result / fragment type (`resultModelTy`) is the one C01's `opDecls`
    declares for it: for every definition of the document whose selection tree exists there is a declaration of `opDecls`
    carrying exactly that type. -/
theorem result_type_is_declared_by_opDecls (S : Schema) (o : OpTypes.Opts) (D : Doc) (x : ExecDef) (hx : x ∈ D)
    (T : OpTypes.SelTree) (h : OpTypes.resultTree S D x = some (.ok T)) :
    resultModelTy o.ns S D x = OpTypes.toTs o.ns T ∧ ∃ d ∈ OpTypes.opDecls S o D, d.ty = .ok (resultModelTy o.ns S D x) := by
  have e : resultModelTy o.ns S D x = OpTypes.toTs o.ns T := by simp [resultModelTy, h]
  refine ⟨e, ?_⟩
  rw [e]
  simp only [OpTypes.opDecls, List.mem_filterMap]
  cases x with
  | op op => exact ⟨_, ⟨.op op, hx, by simp only [h]; rfl⟩, rfl⟩
  | frag f => exact ⟨_, ⟨.frag f, hx, by simp only [h]; rfl⟩, rfl⟩
  | imp i => simp [OpTypes.resultTree] at h

/-- non-vacuity: the operation of the example has a selection tree -/
example : ∃ T, OpTypes.resultTree exSchema [.op exOp] (.op exOp) = some (.ok T) := ⟨_, rfl⟩

/-- THE OPERATION DECLARATION FILE. Whenever the type printer returns, with `stmts` = the statements of
    `typeStmts` (per operation: Result type = C01's `toTs` of its selection tree, Variables type = C09's `varsTsL`, constant
    `: TypedDocumentNode<R, V>` with C12's runtime document as value in standalone mode, default export; per fragment: type and
    constant):
    * the concatenated text of ALL calls of the printer is the two import lines followed by the text of these statements;
    * forgetting the contents, the statements are C14's module `Exports.printDocument` with the type visitor (names, `export` /
      `declare` keywords, which constant holds which definition, default export), for all option values.
    So the call-sequence model (C06), the export model (C14), the type models (C01, C09) and the runtime-document model (C12)
    describe one and the same file. -/
theorem opfile_text_is_model (fo : FullOpts) (S : Schema) (D : Doc) (docFile : Nat) (sps : List Pos) (ops : List POp)
    (h : opTypeOps fo S D docFile sps = .ok ops) :
    rawText ops = opHeaderText fo ++ stmtsText (typeStmts fo S D docFile (operationCount D) 0 D) ∧
    (typeStmts fo S D docFile (operationCount D) 0 D).map RStmt.skel
      = Exports.printDocument (baseOptions fo) (Exports.typeVisitor (typeOptions fo)) (exportsFile docFile D) :=
  ⟨opTypeOps_text h, typeStmts_skel fo S D docFile⟩

/-- The same with the options computed from a configuration (`from_config`): the statements are C14's `Exports.dts`. -/
theorem opfile_text_is_model_config (c : Exports.Config) (schemaSource : String) (optionalInput : Bool) (S : Schema) (D : Doc)
    (docFile : Nat) (sps : List Pos) (ops : List POp)
    (h : opTypeOps (FullOpts.ofConfig c schemaSource optionalInput) S D docFile sps = .ok ops) :
    rawText ops = opHeaderText (FullOpts.ofConfig c schemaSource optionalInput)
      ++ stmtsText (typeStmts (FullOpts.ofConfig c schemaSource optionalInput) S D docFile (operationCount D) 0 D) ∧
    (typeStmts (FullOpts.ofConfig c schemaSource optionalInput) S D docFile (operationCount D) 0 D).map RStmt.skel
      = Exports.dts c (exportsFile docFile D) :=
  ⟨opTypeOps_text h, typeStmts_skel_dts c schemaSource optionalInput S D docFile⟩

/-- non-vacuity: the default configuration on the example document -/
example : ∃ ops, opTypeOps (FullOpts.ofConfig (Exports.Config.parse {}) "./schema" true) exSchema [.op exOp] 1
    [⟨0, 8, 1, false⟩] = .ok ops := ⟨_, rfl⟩

/-- THE JAVASCRIPT MODULE: the concatenated text of all calls of the JavaScript printer is the text of the statements
    `[export ]const <name> = <runtime document>;` (+ the default export), and these statements are C14's module with the
    JavaScript visitor (`Exports.js` for the options of a configuration). -/
theorem opjs_text_is_model (fo : FullOpts) (D : Doc) (docFile : Nat) (ops : List POp) (h : opJsOps fo D docFile = .ok ops) :
    rawText ops = stmtsText (jsStmts fo D docFile (operationCount D) 0 D) ∧
    (jsStmts fo D docFile (operationCount D) 0 D).map RStmt.skel
      = Exports.printDocument (baseOptions fo) Exports.jsVisitor (exportsFile docFile D) ∧
    (∀ (c : Exports.Config) (ss : String) (oi : Bool), fo = FullOpts.ofConfig c ss oi →
      (jsStmts fo D docFile (operationCount D) 0 D).map RStmt.skel = Exports.js c (exportsFile docFile D)) := by
  refine ⟨opJsOps_text h, jsStmts_skel fo D docFile, ?_⟩
  intro c ss oi e
  subst e
  exact jsStmts_skel_js c ss oi D docFile

/-- For ANY sequence of trait calls, run on a `SourceWriter` whose buffer is still empty (a fresh writer, or one that only got
    its file-index mapper): the buffer at the end is the concatenated text of the calls, up to the spaces at the beginning of
    lines (`stripLead`) — the writer adds indentation at line starts and nothing else, and drops nothing. -/
theorem writer_buffer_is_call_text (pol : Policy) (ops : List POp) (st0 st : WState) (hb : st0.buf = [])
    (hp : st0.pending = false) (h : run pol st0 (ops.map POp.toOp) = some st) :
    stripLead true st.buf = stripLead true (rawText ops).toList :=
  run_buffer_text pol ops st0 st hb h

/-- the hypotheses hold for the initial writer state and after `set_file_index_mapper` -/
example : WState.init.buf = [] ∧ WState.init.pending = false ∧
    ∃ st0, run lruPolicy WState.init [.setMapper [0, 1]] = some st0 ∧ st0.buf = [] ∧ st0.pending = false :=
  ⟨rfl, rfl, _, rfl, rfl, rfl⟩

/-- THE GENERATED DECLARATION FILE: the buffer `SourceWriter` holds after the type printer ran is, up to indentation, the
    header followed by the statements of the C14 / C01 / C09 / C12 models (`opfile_text_is_model`). -/
theorem opfile_buffer_is_model (pol : Policy) (st0 st : WState) (fo : FullOpts) (S : Schema) (D : Doc) (docFile : Nat)
    (sps : List Pos) (ops : List POp) (hops : opTypeOps fo S D docFile sps = .ok ops)
    (hb : st0.buf = []) (hp : st0.pending = false) (h : run pol st0 (ops.map POp.toOp) = some st) :
    stripLead true st.buf
      = stripLead true (opHeaderText fo ++ stmtsText (typeStmts fo S D docFile (operationCount D) 0 D)).toList := by
  rw [run_buffer_text pol ops st0 st hb h, opTypeOps_text hops]

/-- THE GENERATED JAVASCRIPT MODULE: the same for the JavaScript printer. -/
theorem opjs_buffer_is_model (pol : Policy) (st0 st : WState) (fo : FullOpts) (D : Doc) (docFile : Nat)
    (ops : List POp) (hops : opJsOps fo D docFile = .ok ops)
    (hb : st0.buf = []) (hp : st0.pending = false) (h : run pol st0 (ops.map POp.toOp) = some st) :
    stripLead true st.buf = stripLead true (stmtsText (jsStmts fo D docFile (operationCount D) 0 D)).toList := by
  rw [run_buffer_text pol ops st0 st hb h, opJsOps_text hops]

/-- END TO END for an operation declaration file, as a statement about the FULL model: when ALL calls of the type printer are
    run through the writer (after any prefix, e.g. the CLI's file-index mapper), every named operation whose name token has a
    real position has three named segments — result type, variables type, document constant — whose original position is the
    operation's NAME token and whose name is the operation's name, each delimiting exactly the generated identifier; and every
    fragment (own or imported) has named segments for its type alias and its constant whose original position is the start of
    the fragment DEFINITION and whose name is the fragment's name. No hypothesis about an unknown call sequence is left. -/
theorem operation_names_have_segments_full (pol : Policy) (hp : pol.Sound) (pre : List Op) (st0 st : WState)
    (fo : FullOpts) (S : Schema) (D : Doc) (docFile : Nat) (sps : List Pos) (ops : List POp)
    (hops : opTypeOps fo S D docFile sps = .ok ops)
    (hpre : run pol WState.init pre = some st0) (h : run pol st0 (ops.map POp.toOp) = some st) :
    (∀ op n p, .op op ∈ D → op.name = some (n, p) → p.builtin = false →
      '\n' ∉ (operationName fo.names op ++ fo.names.resultSuffix).toList →
      '\n' ∉ (operationName fo.names op ++ fo.names.variablesSuffix).toList →
      '\n' ∉ (operationVariableName fo.names op).toList →
      NamedSegment st st0.mapper (operationName fo.names op ++ fo.names.resultSuffix) p n ∧
      NamedSegment st st0.mapper (operationName fo.names op ++ fo.names.variablesSuffix) p n ∧
      NamedSegment st st0.mapper (operationVariableName fo.names op) p n) ∧
    (∀ f, .frag f ∈ D → f.pos.builtin = false →
      '\n' ∉ (f.name ++ fo.names.fragmentTypeSuffix).toList → '\n' ∉ (f.name ++ fo.names.fragmentVariableSuffix).toList →
      NamedSegment st st0.mapper (f.name ++ fo.names.fragmentTypeSuffix) f.pos f.name ∧
      NamedSegment st st0.mapper (f.name ++ fo.names.fragmentVariableSuffix) f.pos f.name) := by
  have seg := @segment_of_site pol hp pre ops _ st0 st (optype_full_projection fo S D docFile sps ops hops) hpre h
  constructor
  · intro op n p hop hn hb h1 h2 h3
    obtain ⟨m1, m2, m3⟩ := optype_operation_sites fo.names D sps op hop n p hn
    exact ⟨seg m1 hb h1, seg m2 hb h2, seg m3 hb h3⟩
  · intro f hf hb h1 h2
    obtain ⟨m1, m2, _⟩ := fragment_site_is_definition_start fo.names D sps f hf
    exact ⟨seg m1 hb h1, seg m2 hb h2⟩

/-- non-vacuity of the hypotheses: the printer returns on the example, and without a file mapper the writer runs every call
    sequence to completion -/
example : ∃ ops st, opTypeOps {} exSchema [.op exOp] 1 [⟨0, 8, 1, false⟩] = .ok ops ∧
    run lruPolicy WState.init [] = some WState.init ∧ run lruPolicy WState.init (ops.map POp.toOp) = some st ∧
    exOp.name = some ("q", ⟨0, 6, 1, false⟩) := by
  obtain ⟨st, h⟩ := printer_calls_do_not_panic lruPolicy lruPolicy_sound
    (match opTypeOps {} exSchema [.op exOp] 1 [⟨0, 8, 1, false⟩] with | .ok ops => ops | .error _ => [])
    WState.init (by intro m hm; cases hm)
  exact ⟨_, st, rfl, rfl, h, rfl⟩

/-- END TO END for the JavaScript module (the `.js` the loaders / standalone mode emit next to a map): every named operation's
    constant has a named segment whose original position is the operation's NAME token, and every fragment's constant one whose
    original position is the start of the fragment definition. -/
theorem opjs_names_have_segments (pol : Policy) (hp : pol.Sound) (pre : List Op) (st0 st : WState)
    (fo : FullOpts) (D : Doc) (docFile : Nat) (ops : List POp) (hops : opJsOps fo D docFile = .ok ops)
    (hpre : run pol WState.init pre = some st0) (h : run pol st0 (ops.map POp.toOp) = some st) :
    (∀ op n p, .op op ∈ D → op.name = some (n, p) → p.builtin = false →
      '\n' ∉ (operationVariableName fo.names op).toList →
      NamedSegment st st0.mapper (operationVariableName fo.names op) p n) ∧
    (∀ f, .frag f ∈ D → f.pos.builtin = false → '\n' ∉ (f.name ++ fo.names.fragmentVariableSuffix).toList →
      NamedSegment st st0.mapper (f.name ++ fo.names.fragmentVariableSuffix) f.pos f.name) := by
  have seg := @segment_of_site pol hp pre ops _ st0 st (opjs_full_projection fo D docFile ops hops) hpre h
  constructor
  · intro op n p hop hn hb h1
    have m := opJsSites_operation fo.names D op hop
    have e : namePosOf op = (p, some n) := by simp [namePosOf, hn]
    rw [e] at m
    exact seg m hb h1
  · intro f hf hb h1
    exact seg (opJsSites_fragment fo.names D f hf) hb h1

end NitroVerif.PrintMap
