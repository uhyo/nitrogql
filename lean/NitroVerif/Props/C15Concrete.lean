import NitroVerif.Lemmas.RoutesConcrete
import NitroVerif.Lemmas.RoutesOpTypesConcrete
import NitroVerif.Lemmas.RoutesSpec
import NitroVerif.Lemmas.RoutesSchemaDecls
/-!
# C15 — the CONCRETE checker / printer models give the same results on the two routes

Property theorems only.  `Props/C15.lean` shows that the two routes build `≃` schema values and that any consumer
of the lookup interface `lookupOf` agrees on them.  Here the consumers are the executable models of the real code
(`Model/CheckOp.lean` = `check_operation_document`, K-tied by C03/C04), which read a schema through the document view
`Gql.Schema`:

* `Bridge.sdlView M`  = the resolved document `M` followed by the built-ins (what `ast_to_type_system` is given on the
  SDL route);
* `Bridge.jsonView M` = `Bridge.ofIR (Routes.jsonSide M)`, the document view of the schema value the JSON route reads
  from the spec's introspection result of `M` (`Bridge.sees_ofIR`: its lookups are the lookups of that value).
-/
namespace NitroVerif.C15
open NitroVerif NitroVerif.Gql NitroVerif.SchemaIR NitroVerif.AstSchema NitroVerif.CheckCommon NitroVerif.CheckOp
open NitroVerif.Bridge NitroVerif.OpTypes

/-! ### the bridge: document views of schema values -/

/-- A type-system document (whose schema definitions are parsed ones) is a faithful view of the schema value
    `ast_to_type_system` builds from it: type lookup, directive lookup, "root types are declared" and the declared
    root names of the view are those of the value. -/
theorem C15_view_of_document (doc : TsDoc) (hp : ParsedSchemaDefs doc) : Sees ⟨doc⟩ (astToSchema doc) :=
  sees_doc doc hp

/-- the hypothesis is satisfiable -/
example : ParsedSchemaDefs [.schemaDef { roots := [(.query, "Q", {})], pos := { line := 1, col := 1 } },
    .typeDef { kind := .object, name := "Q", fields := [{ name := "a", ty := .named "Int" {} }] }] := by
  decide

/-- Every schema value (without components outside a definition's kind — what the `TypeDefinition` enum guarantees)
    has a document view with the same lookups: `ofIR` = `type_system_to_ast` + the directive definitions. -/
theorem C15_view_of_schema_value (s : SchemaIR.Schema) (hclean : ∀ t ∈ s.types, cleanType t = t) :
    Sees (ofIR s) s := sees_ofIR s hclean

/-- the hypothesis is satisfiable -/
example : ∀ t ∈ ({ types := [{ kind := .object, name := "Q", fields := [{ name := "a", ty := .named "Int" }] },
                             { kind := .scalar, name := "Int" }],
                   roots := { query := some "Q" } } : SchemaIR.Schema).types, cleanType t = t := by
  decide

/-- **Every lookup the operation checker model performs is a function of `lookupOf`.** If two document views see two
    schema values that are `≃` (distinct type names, root names not `__*`), then they answer alike — after erasing
    positions, descriptions, deprecations, default-value texts and directive lists — `typeDef?` on every non-`__*` name,
    `directiveDef?` on every name but `nitrogql_ts_type`, the "some object type implements both interfaces" test
    (the only use of `typeNames`), and the root type definition of every operation kind. -/
theorem C15_lookups_factor {G₁ G₂ : Gql.Schema} {s₁ s₂ : SchemaIR.Schema} (h₁ : Sees G₁ s₁) (h₂ : Sees G₂ s₂)
    (he : s₁ ≃ s₂) (n₁ : NamesNodup s₁) (n₂ : NamesNodup s₂) (r₁ : RootsOk s₁) (r₂ : RootsOk s₂) :
    AgreeRoots G₁ G₂ := agreeRoots_of_equiv h₁ h₂ he n₁ n₂ r₁ r₂

/-- the hypotheses of `C15_lookups_factor` are satisfiable by two different views of two different schema values: the two
    routes of every valid `M` — and a valid `M` exists (`exampleM_valid`, below) -/
theorem C15_lookups_factor_hypotheses (M : TsDoc) (h : ValidParsed M) :
    Sees (sdlView M) (CliSchema.routeSdl M) ∧ Sees (jsonView M) (Routes.jsonSide M) ∧
    CliSchema.routeSdl M ≃ Routes.jsonSide M ∧ NamesNodup (CliSchema.routeSdl M) ∧ NamesNodup (Routes.jsonSide M) ∧
    RootsOk (CliSchema.routeSdl M) ∧ RootsOk (Routes.jsonSide M) :=
  ⟨sees_sdl M h.parsed, sees_json M, (Routes.routes_equiv M h.resolved).symm, namesNodup_sdl M, namesNodup_json M,
    rootsOk_sdl M h.rootNames, rootsOk_json M h.rootNames⟩

/-- For every valid `M`, the two routes' views answer the checker's lookups alike. -/
theorem C15_routes_lookups_agree (M : TsDoc) (h : ValidParsed M) : AgreeRoots (sdlView M) (jsonView M) :=
  agreeRoots_routes M h

/-- a non-trivial valid document: explicit schema definition without mutation, a decoy type `Mutation`, an interface
    chain, a union, an enum with a deprecated value, an input object with a default, a custom directive -/
def exampleM : TsDoc :=
  [ .schemaDef { roots := [(.query, "Q", {})], pos := { line := 1, col := 1 } },
    .typeDef { kind := .interface, name := "Node", fields := [{ name := "id", ty := .nonNull (.named "ID" {}) }] },
    .typeDef { kind := .interface, name := "Ent", implements := [("Node", {})],
               fields := [{ name := "id", ty := .nonNull (.named "ID" {}) }] },
    .typeDef { kind := .object, name := "U", implements := [("Ent", {}), ("Node", {})],
               fields := [{ name := "id", ty := .nonNull (.named "ID" {}) }] },
    .typeDef { kind := .object, name := "Q",
               fields := [{ name := "n", ty := .named "Node" {},
                            args := [{ name := "f", ty := .named "In" {}, default := some (.null {}) }] },
                          { name := "s", ty := .named "S" {} }] },
    .typeDef { kind := .object, name := "Mutation", fields := [{ name := "x", ty := .named "Int" {} }] },
    .typeDef { kind := .union, name := "S", members := [("U", {}), ("Q", {})] },
    .typeDef { kind := .enum, name := "E", values := [{ name := "A", dirs := [{ name := "deprecated" }] }, { name := "B" }] },
    .typeDef { kind := .input, name := "In", inputs := [{ name := "e", ty := .list (.named "E" {}) {} }] },
    .directiveDef { name := "tag", repeatable := true, locations := ["FIELD"] } ]

/-- the hypotheses are satisfiable by a non-trivial document -/
theorem exampleM_valid : ValidParsed exampleM :=
  ⟨⟨by decide +kernel, by decide +kernel, by decide +kernel, by decide +kernel, by decide +kernel⟩, by decide +kernel, by decide +kernel, by decide +kernel⟩

/-! ### the operation checker -/

/-- **The operation checker model depends on the lookups only**: on ANY two document views that answer the lookups
    alike (`AgreeRoots`), the first of which has resolvable references (`Closed`), `check_operation_document` returns the
    same diagnostics for every document within the exemptions (`NoRootType` / `UnknownType` of an operation kind without
    root type counted as one).  This is `C15_check_eq` for the concrete checker model. -/
theorem C15_checkOp_views_eq {G₁ G₂ : Gql.Schema} (hA : AgreeRoots G₁ G₂) (hC : Closed G₁) (D : Doc)
    (hD : docOk D = true) : (checkOp G₁ D).map normRoot = (checkOp G₂ D).map normRoot :=
  checkOp_congr_norm hA hC D hD

/-- the hypotheses are satisfiable by two different views -/
example : AgreeRoots (sdlView exampleM) (jsonView exampleM) ∧ Closed (sdlView exampleM) :=
  ⟨agreeRoots_routes _ exampleM_valid, closed_of_closedB exampleM_valid.closed⟩

/-- **The operation checker model returns the same diagnostics on the two routes**, for every valid `M` and every
    operation document `D` that names no `__*` type and uses no `@nitrogql_ts_type` directive (`docOk`, the two
    documented exemptions) — same kinds, same positions, same order — where the two ways an operation kind without
    root type is rejected (`NoRootType` on the route with declared root types, `UnknownType` on the route with default
    names; same position) count as one (`normRoot`). -/
theorem C15_checkOp_routes_eq (M : TsDoc) (h : ValidParsed M) (D : Doc) (hD : docOk D = true) :
    (checkOp (sdlView M) D).map normRoot = (checkOp (jsonView M) D).map normRoot :=
  checkOp_congr_norm (agreeRoots_routes M h) (closed_of_closedB h.closed) D hD

/-- the document hypothesis is satisfiable by a non-trivial document (variables, fragments on an interface and a
    union, `@skip`, a custom directive, an input object literal) -/
example : docOk
    [ .op { kind := .query, name := some ("A", {}), vars := [{ name := "v", ty := .named "In" {} }],
            sel := [.field none "n" {} [("f", {}, .var "v" {})] [{ name := "skip", args := [("if", {}, .bool true {})] }]
                      (some [.field none "id" {} [] [{ name := "tag" }] none, .spread "F" {} [] {}]),
                    .field none "s" {} [] [] (some [.inline (some ("U", {})) [] [.field none "id" {} [] [] none] {}])] },
      .frag { name := "F", cond := "Ent", sel := [.field none "__typename" {} [] [] none] } ] = true := by
  decide

/-- **Same verdict**: the checker accepts a document on one route iff it accepts it on the other. -/
theorem C15_checkOp_routes_verdict (M : TsDoc) (h : ValidParsed M) (D : Doc) (hD : docOk D = true) :
    checkOp (sdlView M) D = [] ↔ checkOp (jsonView M) D = [] := by
  rw [← map_normRoot_eq_nil (checkOp (sdlView M) D), ← map_normRoot_eq_nil (checkOp (jsonView M) D),
    C15_checkOp_routes_eq M h D hD]

/-- **Exactly the same diagnostics** when every operation of `D` has a root type in `M` (side condition on the
    pair, decidable). -/
theorem C15_checkOp_routes_eq_partial (M : TsDoc) (h : ValidParsed M) (D : Doc) (hD : docOk D = true)
    (hroots : ∀ o ∈ opsOf D, (rootDef? (sdlView M) o.kind).isSome = true) :
    checkOp (sdlView M) D = checkOp (jsonView M) D :=
  checkOp_congr_exact (agreeRoots_routes M h) (closed_of_closedB h.closed) D hD hroots

/-- the side condition is satisfiable: a query on `exampleM` -/
example : ∀ o ∈ opsOf [.op { kind := .query, sel := [.field none "s" {} [] [] none] }],
    (rootDef? (sdlView exampleM) o.kind).isSome = true := by
  decide

/-- The unnormalised statement (`checkOp (sdlView M) D = checkOp (jsonView M) D` for every valid `M`) is FALSE: with
    `M = type Query { a: Int }` (no schema definition, no type `Mutation`) the document `mutation { a }` is rejected
    with `UnknownType` on the SDL route (the default name `Mutation` has no definition) and with `NoRootType` on the
    JSON route (`mutationType: null` declares that there is no mutation root) — both at the operation's position. -/
theorem C15_checkOp_routes_eq_counterexample :
    let M : TsDoc := [.typeDef { kind := .object, name := "Query", fields := [{ name := "a", ty := .named "Int" {} }] }]
    let D : Doc := [.op { kind := .mutation, sel := [.field none "a" {} [] [] none] }]
    ValidParsed M ∧ docOk D = true ∧
    checkOp (sdlView M) D = [(ErrKind.UnknownType, {})] ∧ checkOp (jsonView M) D = [(ErrKind.NoRootType, {})] := by
  exact ⟨queryOnly_valid, by decide +kernel, by decide +kernel, by decide +kernel⟩

/-- The exemption "documents that name `__*` types" is necessary: `query ($k: __TypeKind) { a }` is accepted on the
    JSON route (the introspection result lists `__TypeKind`) and rejected on the SDL route. -/
theorem C15_checkOp_introspection_name_counterexample :
    let M : TsDoc := [.typeDef { kind := .object, name := "Query", fields := [{ name := "a", ty := .named "Int" {} }] }]
    let D : Doc := [.op { kind := .query, vars := [{ name := "k", ty := .named "__TypeKind" {} }],
                          sel := [.field none "a" {} [] [] none] }]
    ValidParsed M ∧ docOk D = false ∧
    checkOp (sdlView M) D = [(ErrKind.UnknownType, {})] ∧ checkOp (jsonView M) D = [] := by
  exact ⟨queryOnly_valid, by decide +kernel, by decide +kernel, by decide +kernel⟩

/-- The exemption "`@nitrogql_ts_type`" is necessary: on a field the directive is known on the SDL route only
    (wrong location + missing arguments there, unknown directive on the JSON route); both routes reject. -/
theorem C15_checkOp_nitrogql_directive_counterexample :
    let M : TsDoc := [.typeDef { kind := .object, name := "Query", fields := [{ name := "a", ty := .named "Int" {} }] }]
    let D : Doc := [.op { kind := .query, sel := [.field none "a" {} [] [{ name := "nitrogql_ts_type" }] none] }]
    ValidParsed M ∧ docOk D = false ∧
    (checkOp (sdlView M) D).map (·.1) ≠ (checkOp (jsonView M) D).map (·.1) ∧
    checkOp (jsonView M) D = [(ErrKind.UnknownDirective, {})] := by
  exact ⟨queryOnly_valid, by decide +kernel, by decide +kernel, by decide +kernel⟩

/-- The hypothesis "every type a definition refers to is defined" (`ValidParsed.closed`) is necessary for the
    POSITIONS: with the undefined argument type `Foo` written at line 7 of the schema source, `{ a(x: 1) }` gets a
    `TypeSystemError` located inside the schema source on the SDL route and at the built-in position on the JSON
    route (same kind, both reject). -/
theorem C15_checkOp_unresolved_reference_counterexample :
    let M : TsDoc := [.typeDef {
      kind := .object, name := "Query",
      fields := [{ name := "a", ty := .named "Int" {}, args := [{ name := "x", ty := .named "Foo" { line := 7 } }] }] }]
    let D : Doc := [.op { kind := .query, sel := [.field none "a" {} [("x", {}, .int "1" {})] [] none] }]
    closedB (sdlView M) = false ∧ docOk D = true ∧
    checkOp (sdlView M) D = [(ErrKind.TypeSystemError, { line := 7 })] ∧
    checkOp (jsonView M) D = [(ErrKind.TypeSystemError, { builtin := true })] := by
  refine ⟨by decide +kernel, by decide +kernel, by decide +kernel, by decide +kernel⟩

/-! ### the operation type printer (`Model/OpTypes.lean`) -/

/-- The lookups of the operation type printer model agree on the two routes: those of the checker, and
    `interface_implementers` lists the same object types IN THE SAME ORDER (the order of branches of a printed union). -/
theorem C15_routes_implementers_agree (M : TsDoc) (h : ValidParsed M) : AgreeImpl (sdlView M) (jsonView M) :=
  agreeImpl_routes M h

/-- **`get_type_for_selection_set` builds the same selection tree on the two routes** — same branches (object types of
    an interface in the same order, union members in the same order), same boolean-variable assignments, same
    unaliased / aliased fields after merging, same panics — up to the source positions inside the leaf types
    (`normTree`; the JSON route has no source), for every valid `M`, every document `D` within the exemptions, every
    parent type not named `__*`, every selection set and all fuels. -/
theorem C15_implTree_routes_eq (M : TsDoc) (h : ValidParsed M) (D : Doc) (hD : docOk D = true) (mfuel fuel : Nat)
    (p : GType) (hp : isIntrospectionName p.unwrapped = false) (ss : List Selection) (hss : selsOk ss = true) :
    (implTree (sdlView M) (OpTypes.fragsOf D) mfuel fuel p ss).map normTree
      = (implTree (jsonView M) (OpTypes.fragsOf D) mfuel fuel p ss).map normTree :=
  implTree_routes M h D hD mfuel fuel p hp ss hss

/-- the hypotheses on the parent type and the selection set are satisfiable -/
example : isIntrospectionName (GType.nonNull (.list (.named "Node" {}) {})).unwrapped = false ∧
    selsOk [.field (some ("x", {})) "id" {} [] [{ name := "include", args := [("if", {}, .var "v" {})] }] none,
            .inline (some ("U", {})) [] [.field none "__typename" {} [] [] none] {}] = true := by
  decide

/-- The trees themselves are NOT equal: a leaf keeps the field's type as written in the schema, with its source
    position on the SDL route and the built-in position on the JSON route. -/
theorem C15_implTree_positions_counterexample :
    let M : TsDoc := [.typeDef { kind := .object, name := "Query",
                                 fields := [{ name := "a", ty := .named "Int" { line := 2, col := 6 } }] }]
    let ss : List Selection := [.field none "a" {} [] [] none]
    ValidParsed M ∧
    firstLeafTy (implTree (sdlView M) (fun _ => none) 8 8 (.nonNull (.named "Query" {})) ss)
      = some (.named "Int" { line := 2, col := 6 }) ∧
    firstLeafTy (implTree (jsonView M) (fun _ => none) 8 8 (.nonNull (.named "Query" {})) ss)
      = some (.named "Int" { builtin := true }) := by
  refine ⟨⟨⟨by decide +kernel, by decide +kernel, by decide +kernel, by decide +kernel, by decide +kernel⟩, by decide +kernel, by decide +kernel, by decide +kernel⟩, by decide +kernel,
    by decide +kernel⟩

/-- the result tree of every operation and fragment of `D` (against `root_types().unwrap_or_default()` resp. the
    fragment's type condition, with the fuels the model uses) -/
theorem C15_resultTree_routes_eq (M : TsDoc) (h : ValidParsed M) (D : Doc) (hD : docOk D = true) (x : ExecDef)
    (hx : x ∈ D) :
    (resultTree (sdlView M) D x).map (·.map normTree) = (resultTree (jsonView M) D x).map (·.map normTree) :=
  resultTree_routes M h D hD x hx

/-- **The operation declaration file carries the same result / fragment types on the two routes**: the
    `type <Name>Result = …` / `export type <fragment> = …` statements (`opDecls`: names, export flags and the printed
    TypeScript types, or the same panic) are EQUAL, for every valid `M`, every printer configuration and every document
    within the exemptions. -/
theorem C15_opDecls_routes_eq (M : TsDoc) (h : ValidParsed M) (o : Opts) (D : Doc) (hD : docOk D = true) :
    opDecls (sdlView M) o D = opDecls (jsonView M) o D :=
  opDecls_routes M h o D hD

/-! ### the schema declaration printer (`Model/SchemaDecls.lean`)

On the SDL route `SchemaTypePrinter` is given `docSdl M = M ++ builtins`, on the JSON route
`docJson M = type_system_to_ast (schema value read from the introspection result)`. -/

/-- **Same aliases.** Every type definition of the SDL document has its twin (`twin td` = the definition after
    `ast_to_type_system` and `type_system_to_ast`) among the definitions of the JSON document, and every definition of
    the JSON document whose name does not start with `__` is such a twin: the JSON route declares exactly the aliases
    of the SDL route plus the `__*` introspection types (in a different order). -/
theorem C15_schemaDecls_same_aliases (M : TsDoc) (h : ValidParsed M) (hb : UserNotBuiltin M) :
    (∀ td ∈ SchemaDecls.typeDefsOf (docSdl M), twin td ∈ SchemaDecls.typeDefsOf (docJson M)) ∧
    (∀ td' ∈ SchemaDecls.typeDefsOf (docJson M), isIntrospectionName td'.name = false →
      ∃ td ∈ SchemaDecls.typeDefsOf (docSdl M), td' = twin td) :=
  ⟨twin_mem (orderOk_of_valid h hb), twin_surj (orderOk_of_valid h hb)⟩

/-- **Same declaration per alias.** For every configuration in which no scalar relies on `@nitrogql_ts_type` alone
    (`ScalarsConfigured`; the directive does not survive introspection), every namespace (`__OperationInput`,
    `__OperationOutput`, `__ResolverInput`, `__ResolverOutput`) and every type definition `td` of the SDL document, the
    statements printed for `td` on the SDL route EQUAL those printed for its twin on the JSON route: the type-level
    JSDoc, the local name (`__tmp_` renaming against the same bag of identifiers), the scalar's configured TypeScript
    type, object fields with their nullability / list structure, interface implementers in the same order, union
    members, enum values, input fields with optionality — or the same "scalar without TypeScript type" error. -/
theorem C15_schemaDecls_routes_eq (c : DeclCfg.Cfg) (M : TsDoc) (h : DeclsOk c M) (t : DeclCfg.Target) (td : TypeDef) :
    SchemaDecls.printType (SchemaDecls.Ctx.new c (docSdl M) t) td
      = SchemaDecls.printType (SchemaDecls.Ctx.new c (docJson M) t) (twin td) :=
  printType_routes h t td

/-- the body of each namespace: printing the twins of the SDL document's definitions on the JSON route, in the SDL
    order, gives the namespace body of the SDL route (the JSON route's own body is a reordering of it, interleaved with
    the statements of the `__*` types — `C15_schemaDecls_same_aliases`) -/
theorem C15_schemaDecls_namespace_eq (c : DeclCfg.Cfg) (M : TsDoc) (h : DeclsOk c M) (t : DeclCfg.Target) :
    SchemaDecls.namespaceBody (SchemaDecls.Ctx.new c (docSdl M) t) (SchemaDecls.typeDefsOf (docSdl M))
      = SchemaDecls.namespaceBody (SchemaDecls.Ctx.new c (docJson M) t) ((SchemaDecls.typeDefsOf (docSdl M)).map twin) :=
  namespaceBody_routes h t _

/-- … and so are the top-level representative alias and the enum runtime constant -/
theorem C15_schemaDecls_representative_eq (c : DeclCfg.Cfg) (M : TsDoc) (h : DeclsOk c M) (td : TypeDef) :
    SchemaDecls.representative (SchemaDecls.Ctx.new c (docSdl M) .operationOutput) td
      = SchemaDecls.representative (SchemaDecls.Ctx.new c (docJson M) .operationOutput) (twin td) :=
  representative_routes h td

/-- **The schema declaration file is produced on one route iff it is produced on the other** (`okB` = the printer
    did not stop with "scalar without a TypeScript type"): the two documents define the same scalars, and the extra `__*`
    definitions of the JSON route are objects and enums. -/
theorem C15_schemaFile_produced_iff (c : DeclCfg.Cfg) (M : TsDoc) (h : DeclsOk c M) :
    okB (SchemaDecls.schemaFile c (docSdl M)) = okB (SchemaDecls.schemaFile c (docJson M)) :=
  schemaFile_ok_routes h

/-- the hypotheses are satisfiable: `exampleM` with a scalar mapping whose identifier clashes with a type name -/
example : DeclsOk { scalars := [("ID", .single "U | string")] } exampleM :=
  ⟨exampleM_valid, by decide +kernel, by decide +kernel⟩

/-- The exemption for `@nitrogql_ts_type` is necessary: a scalar whose TypeScript type comes from the directive only
    is printed on the SDL route and is a "scalar without TypeScript type" error on the JSON route. -/
theorem C15_schemaDecls_directive_scalar_counterexample :
    let date : TypeDef := { kind := .scalar, name := "Date", dirs := [{ name := "nitrogql_ts_type", args :=
      [("resolverInput", {}, .str "Date" {}), ("resolverOutput", {}, .str "Date" {}),
       ("operationInput", {}, .str "string" {}), ("operationOutput", {}, .str "string" {})] }] }
    let M : TsDoc := [.typeDef date,
      .typeDef { kind := .object, name := "Query", fields := [{ name := "d", ty := .named "Date" {} }] }]
    ValidParsed M ∧ UserNotBuiltin M ∧ ¬ ScalarsConfigured {} M ∧
    (SchemaDecls.printType (SchemaDecls.Ctx.new {} (docSdl M) .operationOutput) date).toOption.isSome = true ∧
    (match SchemaDecls.printType (SchemaDecls.Ctx.new {} (docJson M) .operationOutput) (twin date) with
      | .error e => e
      | .ok _ => "") = "Date" := by
  refine ⟨⟨⟨by decide +kernel, by decide +kernel, by decide +kernel, by decide +kernel, by decide +kernel⟩, by decide +kernel, by decide +kernel, by decide +kernel⟩, by decide +kernel,
    by decide +kernel, by decide +kernel, by decide +kernel⟩

/-! ### the composition with the reader -/

/-- **`C15_routes_agree` for the concrete models.** For every valid `M`: reading the specification's introspection
    result of `M` the way the CLI does succeeds with a schema value `s`, and against `s` (document view `ofIR s`, AST
    `type_system_to_ast s`) the operation checker model gives the same diagnostics, the operation type printer model
    the same declarations, and the schema declaration printer model the same statements per alias, as against the SDL
    document `M` + built-ins. -/
theorem C15_routes_agree_concrete (M : TsDoc) (h : ValidParsed M) :
    ∃ s, CliSchema.routeJson (IntrospectSpec.introspectSpec M) = .ok s ∧
      (∀ D, docOk D = true → (checkOp (sdlView M) D).map normRoot = (checkOp (ofIR s) D).map normRoot) ∧
      (∀ o D, docOk D = true → opDecls (sdlView M) o D = opDecls (ofIR s) o D) ∧
      (∀ c t td, UserNotBuiltin M → ScalarsConfigured c M →
        SchemaDecls.printType (SchemaDecls.Ctx.new c (M ++ CliSchema.builtins) t) td
          = SchemaDecls.printType (SchemaDecls.Ctx.new c (schemaToAst s) t) (twin td)) := by
  obtain ⟨q, hq⟩ := Option.isSome_iff_exists.mp h.resolved.query
  exact ⟨Routes.jsonSide M, Routes.routeJson_spec M q hq, fun D hD => C15_checkOp_routes_eq M h D hD,
    fun o D hD => C15_opDecls_routes_eq M h o D hD, fun c t td hb hs => printType_routes ⟨h, hb, hs⟩ t td⟩

/-! ### the SDL half against the specification -/

/-- Reading the specification's introspection result of `M` back loses nothing a consumer can see: the JSON route's
    schema is `≃` the type system the specification assigns to `M` (`specSchema M`: the named types of `M`, the
    referenced built-in scalars, the `__*` types, the built-in directives, the §3.3.1 root types) with the five
    built-in scalars added. -/
theorem C15_json_route_is_spec (M : TsDoc) (hn : ((IntrospectSpec.userTypes M).map (·.name)).Nodup) :
    Routes.jsonSide M ≃ Routes.specSide M :=
  Routes.jsonSide_equiv_specSide M hn

/-- **The SDL half**: for every valid resolved `M`, the schema `ast_to_type_system` builds from `M` followed by the
    built-ins is `≃` the specification's type system of `M` (+ the five built-in scalars) — the counterpart of
    `C15_schema_eq_reader` for the SDL route; together with `C15_json_route_is_spec` it is `C15_schema_eq` factored
    through the specification. -/
theorem C15_sdl_route_is_spec (M : TsDoc) (h : Routes.ValidResolved M) : CliSchema.routeSdl M ≃ Routes.specSide M :=
  Routes.routeSdl_equiv_specSide M h

/-- the hypothesis is satisfiable by the non-trivial document of `exampleM_valid` -/
example : Routes.ValidResolved exampleM := exampleM_valid.resolved

/-!
## OPEN — carried by K/O only

Nothing of this module's statements is open; what is NOT proved is listed once, in the block at the end of
`Props/C15.lean`: that `CheckOp` / `OpTypes` / `SchemaDecls` are the real checker / printers (K of C03/C04, C01/C02, C10 on
SDL inputs; the two-route O stream), diagnostic message texts, the reader on JSON other than the specification's
rendering, and that the hypotheses `ValidParsed` / `UserNotBuiltin` / `ScalarsConfigured` / `docOk` hold (they are
assumptions; `docOk`, closed references and `ScalarsConfigured` are shown necessary by the `…_counterexample` theorems, the
others are not).  The checker / operation-type theorems speak about the document view `jsonView M = Bridge.ofIR
(Routes.jsonSide M)`, which is not literally `type_system_to_ast` (`Bridge.sees_ofIR`); the schema declaration theorems use
the literal `docJson M = schemaToAst (Routes.jsonSide M)`.
-/

end NitroVerif.C15
