/-
C01 — the hypotheses of the refinement theorem (`Props/C01.lean`) discharged by composing with the results of the other
properties: `Hyp` for the schema declaration file THE MODEL of the schema printer emits, from C10's closed forms
(`hyp_of_schemaFile`, `C01_end_to_end`); a tree for every definition of an accepted, coherent document with the fuels the
model really uses, `fuelFor D = 2·docSize D + 4` and `mfuelFor D = docSize D + 64`, under an explicit bound on the list /
non-null wrappers of the schema's field types (`resultTree_ok`, `wrapper_bound_witness`); the decidable checks of
`impl_no_panic` from what the REAL pipeline guarantees before generation, `checkOp S D = []`
(`accepted_document_passes_checks`).  `schemaOkB` / `ifaceOkB` are established by the schema check (which since fix
8cdbacf also establishes unique type names: `C08.schemaOk_of_checked` — with `noReservedFieldsB` —,
`C08.ifaceOk_of_checked`, Props/C08Stages.lean, for resolved documents with `builtinTypeNamesDistinct`); that module is
not imported here, they are kept as hypotheses.  `C01_pipeline_end_to_end` composes the three.
-/
import NitroVerif.Props.C01
import NitroVerif.Lemmas.OpTypesClosedWitness
import NitroVerif.Lemmas.OpTypesClosedFile
import NitroVerif.Lemmas.OpTypesClosedSpecFuel
import NitroVerif.Lemmas.OpTypesClosedValid
namespace NitroVerif.Props.C01
open NitroVerif.Gql NitroVerif.Ts NitroVerif.OpTypes NitroVerif.Exec NitroVerif.DeclCfg NitroVerif.SchemaDecls
open NitroVerif.OpTypes.Closed NitroVerif.Stages NitroVerif.CheckOp

open NitroVerif.OpTypes.Ref in
/-- **`hyp_of_schemaFile`.** For every schema `c.S` and configuration `cfg` satisfying C10's side conditions (`DocOK`:
    a checked schema document — type names distinct, field / member types defined and usable — and scalar texts that stay
    clear of the printer's identifiers) and `CfgOk` (the value set of a scalar is what its configured text denotes; no
    scalar text applies an absolute reference or admits `null`; every composite type has a possible object type): the
    environment built from ANY flat operation file `main` whose only star import is `import type * as ns from m` and the
    schema declaration file `F` THE MODEL emits (`schemaFile cfg c.S.items = .ok F`), the way Driver/C01.lean builds it
    (`Decls.ofFiles main [(m, F)]` + `SelSem.hook`), satisfies all of `Hyp`: `__SelectionSet` has the prelude's reading,
    every object type's declaration lists `__typename` and exactly its fields, a leaf type's declaration admits exactly
    the leaf's values and never `null`. -/
theorem hyp_of_schemaFile {cfg : Cfg} {c : Exec.Ctx} {F : File} (hF : schemaFile cfg c.S.items = .ok F)
    (ok : DocOK cfg c.S.items) (K : CfgOk cfg c) (main : File) (m ns : String)
    (hflat : main.all (fun s => !s.isNamespace) = true) (himp : starImports main = [(m, ns)]) :
    Hyp c (SelSem.envOf main m F) ((Refs.ofNs ns).close (Decls.ofFiles main [(m, F)]))
      (fun tn => SelSem.origFields (Decls.ofFiles main [(m, F)]) 8
        (((Refs.ofNs ns).close (Decls.ofFiles main [(m, F)])).out tn)) :=
  hyp_schemaFile hF ok K main m ns hflat himp

/-- the side conditions are satisfiable: the witness schema, the default configuration, the file the model emits for
    them, the operation file `import type * as Schema from ""` -/
example : schemaFile Closed.W.cfg Closed.W.ctx.S.items = .ok Closed.W.file ∧ DocOK Closed.W.cfg Closed.W.ctx.S.items ∧
    CfgOk Closed.W.cfg Closed.W.ctx ∧ Closed.W.main.all (fun s => !s.isNamespace) = true ∧
    starImports Closed.W.main = [("", "Schema")] :=
  ⟨Closed.W.file_ok, Closed.W.docOK, Closed.W.cfgOk, Closed.W.main_flat, Closed.W.main_imp⟩

open NitroVerif.OpTypes.Ref in
/-- **`C01_end_to_end`** (one selection set).  Whenever the printer model returns a tree `T` for the selection set `ss` at
    a root type, every response of a spec-conformant execution (`Exec`: any σ, any resolver results, any nullable position
    null, any list length) of `ss` on a possible object type of the root is a member of THE MODEL'S EMITTED RESULT TYPE
    `toTs ns T` — closed against the declaration table of the operation file linked with THE MODEL'S EMITTED SCHEMA
    DECLARATION FILE and read with the real `__SelectionSet` hook.  No hypothesis about the declaration file is left:
    `Hyp` is `hyp_of_schemaFile`, unique type names are part of `DocOK`; what remains is about the inputs only — `DocOK`,
    `CfgOk` and the coherence of the document (FieldsInSetCanMerge + Leaf Field Selections). -/
theorem C01_end_to_end {cfg : Cfg} {c : Exec.Ctx} {F : File} (hF : schemaFile cfg c.S.items = .ok F)
    (ok : DocOK cfg c.S.items) (K : CfgOk cfg c) (main : File) (m ns : String)
    (hflat : main.all (fun s => !s.isNamespace) = true) (himp : starImports main = [(m, ns)])
    {mfuel fuel : Nat} {root : Name} {p : Pos} {ss : List Selection} {T : SelTree}
    (h : implTree c.S c.F mfuel fuel (.nonNull (.named root p)) ss = .ok T) (hC : ∀ d, Coh c d (Sb1 ss) root)
    {σ : Sigma} {o : Name} (ho : o ∈ c.S.possibleTypes root) {v : J} (hx : Exec c σ o ss v) :
    Mem (SelSem.envOf main m F) v (globalise (Decls.ofFiles main [(m, F)]) [] [] (toTs ns T)) := by
  rw [toTs_closed]
  exact C01_admits_every_response (hyp_of_schemaFile hF ok K main m ns hflat himp) (typeNamesNodup_of_docOK ok) h hC ho hx

set_option maxRecDepth 16384 in
open NitroVerif.OpTypes.Ref in
/-- non-vacuity: the witness `W` — schema `Query { a: A, name: String! }  A { x: Int, y: String }`, default configuration,
    the MODEL's schema declaration file, the document `{ a { x } a { y @skip(if: $v) } }` — satisfies every hypothesis
    (`decide` / `rfl`), and the theorem yields membership of the v = true response `{ a: { x: 1 } }` -/
example : ∃ T, implTree Closed.W.ctx.S Closed.W.ctx.F 16 16 (.nonNull (.named "Query" {})) W.selA = .ok T ∧
    Mem (SelSem.envOf Closed.W.main "" Closed.W.file) (.obj [("a", OpTypes.W.respX)])
      (globalise (Decls.ofFiles Closed.W.main [("", Closed.W.file)]) [] [] (toTs "Schema" T)) := by
  obtain ⟨T, hT⟩ := Closed.W.selA_tree
  exact ⟨T, hT, C01_end_to_end Closed.W.file_ok Closed.W.docOK Closed.W.cfgOk Closed.W.main "" "Schema" Closed.W.main_flat
    Closed.W.main_imp hT Closed.W.coh_selA (σ := sigmaOf [("v", true)]) (o := "Query") (by decide)
    ⟨3, execMem_sound _ _ 3 _ _ _ Closed.W.execMem_selA⟩⟩

open NitroVerif.OpTypes.Ref in
/-- **An accepted document nests at most as deep as it is long.** For every schema satisfying `schemaOkB` / `ifaceOkB` /
    `skipIncludeB` and every document the operation checker accepts, every definition's selection set — fragment spreads
    expanded — fits the nesting bound `docSize D` (`fitsS`: no fragment cycle, every spread defined): along a path
    through the expansion, selections are distinct selections of the document, because no fragment is entered twice. -/
theorem accepted_document_fits_its_size {S : Schema} {D : Doc} (hS : schemaOkB S = true) (hI : ifaceOkB S = true)
    (hSI : skipIncludeB S = true) (h : checkOp S D = []) : FitsDoc D (docSize D) :=
  fitsDoc_docSize_of_checked hS hI hSI h

open NitroVerif.OpTypes.Ref in
/-- **`resultTree_ok`.** `OpTypes.resultTree` — `get_type_for_selection_set` run with THE MODEL'S OWN fuels `fuelFor D`
    and `mfuelFor D`, the function the K stream compares with the real printer — returns a tree for every definition of
    the document (no `expect` / `panic!` site, neither fuel exhausted), for every schema with `schemaOkB` / `ifaceOkB` /
    `skipIncludeB`, every document the operation checker accepts that passes the coherence check `noKeyClashB`
    (the name / sub-selection part of FieldsInSetCanMerge + Leaf Field Selections), provided the type wrappers are not
    absurdly deep:
    `(Dn + 1)·(G + 1) ≤ docSize D + 64`, where `Dn` is any nesting bound the document fits (`fitsDocB`, decidable; such a
    bound exists and `docSize D` is one) and `G = fieldDepthBound S` the deepest list / non-null nesting of a field type.
    Both fuel bounds of `impl_no_panic` are DISCHARGED: `2·Dn + 2 ≤ fuelFor D` because the nesting is at most `docSize D`,
    and the auxiliary fuel suffices for `get_boolean_variables` because its work list visits every selection once. -/
theorem resultTree_ok {S : Schema} {D : Doc} (hS : schemaOkB S = true) (hI : ifaceOkB S = true)
    (hSI : skipIncludeB S = true) (h : checkOp S D = []) {Dc d : Nat} (hK : noKeyClashB S D Dc d = true)
    {Dn : Nat} (hfit : fitsDocB D Dn = true) (hG : (Dn + 1) * (fieldDepthBound S + 1) ≤ docSize D + 64) :
    ∀ x ∈ D, ∀ r, resultTree S D x = some r → ∃ T, r = .ok T :=
  fun x hx => def_tree_model_fuels hS hI hSI h hx (List.all_eq_true.1 hK x hx) (fitsDoc_of_check hfit) hG

/-- `query Q($v: Boolean!) { a { x } a { y @skip(if: $v) } }` -/
def wOp : ExecDef :=
  .op { kind := .query, name := some ("Q", {}), vars := [{ name := "v", ty := .nonNull (.named "Boolean" {}) }],
        sel := W.selA }

def wDoc : Doc := [wOp]

/-- the hypotheses are satisfiable: the witness schema and the document `query Q($v: Boolean!) { a { x } a { y @skip(if: $v) } }`
    (nesting bound 4, wrapper depth 1, `docSize` 6) -/
example : schemaOkB Closed.W.S = true ∧ ifaceOkB Closed.W.S = true ∧ skipIncludeB Closed.W.S = true ∧
    checkOp Closed.W.S wDoc = [] ∧ noKeyClashB Closed.W.S wDoc 4 4 = true ∧ fitsDocB wDoc 4 = true ∧
    (4 + 1) * (fieldDepthBound Closed.W.S + 1) ≤ docSize wDoc + 64 := by
  decide +kernel

/-- a named type under `n` list markers -/
def wrapN : Nat → GType → GType
  | 0, t => t
  | n + 1, t => .list (wrapN n t) {}

/-- `type A { x: Int }  type Query { a: [[…[A]…]] }` with `n` list markers (and the built-in scalars) -/
def deepSchema (n : Nat) : Schema := ⟨[
  .typeDef { kind := .scalar, name := "Int" }, .typeDef { kind := .scalar, name := "String" },
  .typeDef { kind := .scalar, name := "Boolean" },
  .typeDef { kind := .object, name := "A", fields := [{ name := "x", ty := .named "Int" {} }] },
  .typeDef { kind := .object, name := "Query", fields := [{ name := "a", ty := wrapN n (.named "A" {}) }] }]⟩

/-- `query Q { a { x } a { x } }` -/
def deepDoc : Doc := [
  .op { kind := .query, name := some ("Q", {}),
        sel := [.field none "a" {} [] [] (some [.field none "x" {} [] [] none]),
                .field none "a" {} [] [] (some [.field none "x" {} [] [] none])] }]

/-- **The wrapper bound of `resultTree_ok` cannot be dropped** (cf. `C08.model_fuels_not_sufficient_witness`): with a
    field type under 70 list markers every other hypothesis holds, the bound fails (`(2 + 1)·(70 + 1) > 5 + 64`) and the
    model runs out of its merge fuel; the bound is sufficient, not necessary (66 markers: it fails, yet a tree is returned).
    A limit of the MODEL — the Rust recursion has no such bound. -/
theorem wrapper_bound_witness :
    schemaOkB (deepSchema 70) = true ∧ ifaceOkB (deepSchema 70) = true ∧ skipIncludeB (deepSchema 70) = true ∧
    checkOp (deepSchema 70) deepDoc = [] ∧ noKeyClashB (deepSchema 70) deepDoc 2 2 = true ∧ fitsDocB deepDoc 2 = true ∧
    ¬ ((2 + 1) * (fieldDepthBound (deepSchema 70) + 1) ≤ docSize deepDoc + 64) ∧
    (deepDoc.all fun x => match resultTree (deepSchema 70) deepDoc x with
      | some (.error .outOfFuel) => true | _ => false) = true ∧
    (deepDoc.all fun x => match resultTree (deepSchema 66) deepDoc x with
      | some (.ok _) => true | _ => false) = true := by
  decide +kernel

open NitroVerif.OpTypes.Ref in
/-- **`accepted_document_passes_checks`.** What the REAL pipeline guarantees before generation implies the hypotheses of
    `impl_no_panic`: for a schema with `schemaOkB` (which contains the uniqueness of type names), `ifaceOkB` and
    `skipIncludeB`, and a document with `checkOp S D = []`, for every definition of the document: type names are unique,
    the root / type-condition type has parent objects (`parentsOkB`), and every selection passes the validity check `selOkB`
    for EVERY possible object type and has no fragment cycle (`fitsS`) — all at the explicit nesting bound `docSize D`. -/
theorem accepted_document_passes_checks {S : Schema} {D : Doc} (hS : schemaOkB S = true) (hI : ifaceOkB S = true)
    (hSI : skipIncludeB S = true) (h : checkOp S D = []) {x : ExecDef} (hx : x ∈ D) (hni : ∀ i, x ≠ .imp i) :
    TypeNamesNodup S ∧ parentsOkB S (rootNameOf S x) = true ∧
    (S.possibleTypes (rootNameOf S x)).all (fun o => (selOfDef x).all (selOkB S (OpTypes.fragsOf D) (docSize D) o)) = true ∧
    (selOfDef x).all (fitsS (OpTypes.fragsOf D) (docSize D)) = true := by
  obtain ⟨hpar, hat⟩ := def_checked_at hS hI hSI h hx hni (fitsDoc_docSize_of_checked hS hI hSI h)
  exact ⟨typeNamesNodup_of_schemaOk hS, hpar,
    List.all_eq_true.2 fun o ho => List.all_eq_true.2 fun s hs => (hat s hs).2 o ho,
    List.all_eq_true.2 fun s hs => (hat s hs).1⟩

open NitroVerif.OpTypes.Ref in
/-- the hypotheses are satisfiable, and the conclusion can be evaluated: the witness schema and document -/
example : (wOp ∈ wDoc ∧ ∀ i, wOp ≠ .imp i) ∧ parentsOkB Closed.W.S (rootNameOf Closed.W.S wOp) = true ∧
    (Closed.W.S.possibleTypes (rootNameOf Closed.W.S wOp)).all
      (fun o => (selOfDef wOp).all (selOkB Closed.W.S (OpTypes.fragsOf wDoc) (docSize wDoc) o)) = true :=
  ⟨⟨List.mem_cons_self, fun i hi => by cases hi⟩, by decide +kernel, by decide +kernel⟩

/-- **The schema-side hypotheses from C03's `SchemaValid`.** For a schema that is valid in the sense of C03/C04
    (`Valid.SchemaValid`: C03/C04's reference predicate on schemas, not the schema check itself — `C08.badImplSchema` is
    `SchemaValid` and rejected by the check — : unique type names, field / argument / input-field /
    member types defined and of a usable kind, built-in scalars present, root types objects) and has no type name starting
    with `__`, and a configuration whose scalar texts stay clear of the printer's identifiers (`CfgTextsOk` = the last two
    clauses of C10's `DocOK`): `schemaOkB S` (the condition of `resultTree_ok` / `accepted_document_passes_checks`) and
    C10's `DocOK` (the condition of `hyp_of_schemaFile`) hold.  What remains on the schema side of the pipeline theorems
    is `ifaceOkB` (objects implement their interfaces — the schema check's `InterfaceFieldNotImplemented` …, derived in
    `C08.ifaceOk_of_checked`) and `skipIncludeB`. -/
theorem schema_conditions_of_valid {cfg : Cfg} {S : Schema} (hv : Valid.SchemaValid S)
    (hd : noDunderTypeNamesB S = true) (hc : CfgTextsOk cfg S.items) : schemaOkB S = true ∧ DocOK cfg S.items :=
  ⟨schemaOk_of_valid hv, docOK_of_valid hv hd hc⟩

/-- the witness schema completed with the built-in scalars `Float` and `ID` (which `SchemaValid` requires) -/
def validSchema : Schema :=
  ⟨Closed.W.doc ++ [.typeDef { kind := .scalar, name := "Float" }, .typeDef { kind := .scalar, name := "ID" }]⟩

/-- the hypotheses are satisfiable -/
example : Valid.SchemaValid validSchema ∧ noDunderTypeNamesB validSchema = true ∧
    CfgTextsOk Closed.W.cfg validSchema.items ∧ ifaceOkB validSchema = true ∧ skipIncludeB validSchema = true :=
  ⟨by decide +kernel, by decide +kernel, ⟨by decide +kernel, by decide +kernel⟩, by decide +kernel, by decide +kernel⟩

/-- **One fragment map.** The refinement theorem uses one fragment map for the printer model and the specification
    (`c.F`); the printer collects definitions into a `HashMap` (the LAST definition of a name wins), the specification
    (`Exec.fragsOf`, what the driver of the O stream uses) takes the FIRST.  On every document the operation checker
    accepts they are the same function, because the checker reports repeated fragment names. -/
theorem spec_fragment_map_agrees {S : Schema} {D : Doc} (h : checkOp S D = []) : Exec.fragsOf D = OpTypes.fragsOf D :=
  fragMaps_agree (CheckOp.accepted_nodup h)

/-- `query Q { a { ...F } }  fragment F on A { x }` -/
def fragDoc : Doc := [
  .op { kind := .query, name := some ("Q", {}),
        sel := [.field none "a" {} [] [] (some [.spread "F" {} [] {}])] },
  .frag { name := "F", cond := "A", sel := [.field none "x" {} [] [] none] }]

/-- the hypothesis is satisfiable by a document with a fragment -/
example : checkOp Closed.W.S fragDoc = [] := by decide +kernel

open NitroVerif.OpTypes.Ref in
/-- **`C01_pipeline_end_to_end`.** For every schema `S` with `schemaOkB` / `ifaceOkB` (what the schema check
    establishes) and `skipIncludeB` (which nothing establishes: a schema may shadow `@skip` / `@include`), configuration
    `cfg` with C10's `DocOK` and `CfgOk`, and every document `D` that PASSES THE OPERATION CHECK (`checkOp S D = []`) and
    the coherence check `noKeyClashB` (the name / sub-selection part of FieldsInSetCanMerge +
    Leaf Field Selections), whose wrappers are not absurdly deep:
    for every definition of `D`, the model of the operation type printer — run with its own fuels — returns a tree `T`,
    `opDecls` declares the type `toTs ns T` for it, and EVERY response of a spec-conformant execution of the definition's
    selection set on a possible object type of its root is a member of that type, closed against the declaration table
    of THE MODEL'S operation file (`opFileOf`) linked with THE MODEL'S schema declaration file `F` and read with the real
    `__SelectionSet` hook.  (The specification's fuel is arbitrary: the ⊆ direction needs none.  `specCtx` takes the
    printer's fragment map, which on accepted documents is the specification's: `spec_fragment_map_agrees`.) -/
theorem C01_pipeline_end_to_end {cfg : Cfg} {S : Schema} {D : Doc} {F : File} (scalar : Name → J → Bool) (fuel : Nat)
    (hS : schemaOkB S = true) (hI : ifaceOkB S = true) (hSI : skipIncludeB S = true)
    (hF : schemaFile cfg S.items = .ok F) (ok : DocOK cfg S.items) (K : CfgOk cfg (specCtx S D scalar fuel))
    (h : checkOp S D = []) {Dc d : Nat} (hK : noKeyClashB S D Dc d = true)
    {Dn : Nat} (hfit : fitsDocB D Dn = true) (hG : (Dn + 1) * (fieldDepthBound S + 1) ≤ docSize D + 64)
    (o : Opts) (m : String) {x : ExecDef} (hx : x ∈ D) (hni : ∀ i, x ≠ .imp i) :
    ∃ T, resultTree S D x = some (.ok T) ∧ (∃ dcl ∈ opDecls S o D, dcl.ty = .ok (toTs o.ns T)) ∧
      ∀ (σ : Sigma) (o' : Name) (v : J), o' ∈ S.possibleTypes (rootNameOf S x) →
        Exec (specCtx S D scalar fuel) σ o' (selOfDef x) v →
        Mem (SelSem.envOf (opFileOf o m S D) m F) v
          (globalise (Decls.ofFiles (opFileOf o m S D) [(m, F)]) [] [] (toTs o.ns T)) := by
  have hr : ∃ r, resultTree S D x = some r := by
    cases x with
    | op op => exact ⟨_, rfl⟩
    | frag f => exact ⟨_, rfl⟩
    | imp i => exact absurd rfl (hni i)
  obtain ⟨r, hr⟩ := hr
  obtain ⟨T, rfl⟩ := resultTree_ok hS hI hSI h hK hfit hG x hx r hr
  refine ⟨T, hr, opDecls_of_resultTree S o D hx hr, ?_⟩
  intro σ o' v ho' hex
  obtain ⟨p, himpl⟩ := resultTree_implTree hr
  have hC := coh_of_cohDefB (S := S) (D := D) (c := specCtx S D scalar fuel) rfl rfl (List.all_eq_true.1 hK x hx)
  exact C01_end_to_end (c := specCtx S D scalar fuel) hF ok K (opFileOf o m S D) m o.ns (opFileOf_flat o m S D)
    (opFileOf_imports o m S D) himpl hC ho' hex

set_option maxRecDepth 16384 in
/-- non-vacuity of the composition: witness schema (with `@skip` defined), default configuration, the document
    `query Q($v: Boolean!) { a { x } a { y @skip(if: $v) } }` — every hypothesis by `decide` / `rfl`; the theorem gives a
    tree and membership of the v = true response `{ a: { x: 1 } }` in the type declared as `QResult` -/
example : ∃ T, resultTree Closed.W.S wDoc wOp = some (.ok T) ∧
    Mem (SelSem.envOf (opFileOf {} "" Closed.W.S wDoc) "" Closed.W.file) (.obj [("a", OpTypes.W.respX)])
      (globalise (Decls.ofFiles (opFileOf {} "" Closed.W.S wDoc) [("", Closed.W.file)]) [] [] (toTs "Schema" T)) := by
  have K : CfgOk Closed.W.cfg (specCtx Closed.W.S wDoc (Closed.W.scalarOf Closed.W.cfg Closed.W.doc) 16) :=
    Closed.W.cfgOk.of_eq rfl rfl
  obtain ⟨T, h1, _, h3⟩ := C01_pipeline_end_to_end (cfg := Closed.W.cfg) (S := Closed.W.S) (D := wDoc)
    (Closed.W.scalarOf Closed.W.cfg Closed.W.doc) 16 (by decide +kernel) (by decide +kernel) (by decide +kernel)
    Closed.W.file_ok Closed.W.docOK K (by decide +kernel) (Dc := 4) (d := 4) (by decide +kernel) (Dn := 4)
    (by decide +kernel) (by decide +kernel) {} "" (x := wOp) List.mem_cons_self (by intro i hi; cases hi)
  exact ⟨T, h1, h3 (sigmaOf [("v", true)]) "Query" _ (by decide)
    ⟨3, execMem_sound _ _ 3 _ _ _ (by decide +kernel)⟩⟩

/-
The hypotheses of the refinement theorem `C01.impl_eq_refLocal`, and what discharges each for a document the operation
checker accepts (`checkOp S D = []`), as `C01_pipeline_end_to_end` composes them:
  `H : Hyp`             `hyp_of_schemaFile`, for the model's schema declaration file, under `DocOK` and `CfgOk`; the schema
                        part of `DocOK` from `schema_conditions_of_valid` (C03's `SchemaValid`) or from the schema check
                        (`C10.DocOK_of_checked`, Props/C10ComposedChecked.lean); its scalar-text clauses and `CfgOk` stay
                        hypotheses;
  `hnd : TypeNamesNodup`  `accepted_document_passes_checks` (from `schemaOkB`), or `Closed.typeNamesNodup_of_docOK`;
  `h` (a tree is returned)  `resultTree_ok`: its checks `parentsOkB` / `selOkB` / `fitsS` from `accepted_document_passes_checks`
                        (given `schemaOkB` / `ifaceOkB` / `skipIncludeB`), its fuel bounds from
                        `accepted_document_fits_its_size`; `noKeyClashB` and the wrapper bound stay hypotheses;
  `hC : ∀ d, Coh …`     `Closed.coh_of_cohDefB` (Lemmas/OpTypesClosedDoc.lean) from `noKeyClashB`, which stays a hypothesis:
                        the real `check` does not implement it;
  one fragment map      `spec_fragment_map_agrees`;
  `hf : FuelOk` (⊇ only)  stays a hypothesis in the form "the specification's fuel covers the expanded size"
                        (`C02.C02_pipeline_end_to_end`, `C02.fuelOk_driver_partial`); `hv : JWf` (⊇ only) stays.

OPEN after this file — carried by K/O only

  * that the Lean models ARE the code: the operation type printer (K of C01), the schema declaration printer (K of C10),
    the operation checker (K of C03/C04);
  * the reading of the emitted TypeScript (Ts/Sem.lean, Ts/SelSem.lean) — trusted;
  * the schema-side hypotheses `schemaOkB` / `ifaceOkB` (derived from the schema check in `Props/C08Stages.lean`:
    `schemaOk_of_checked` — under `builtinTypeNamesDistinct` and `noReservedFieldsB` —, `ifaceOk_of_checked` — under
    `builtinTypeNamesDistinct`; the schema check establishes unique type names since fix 8cdbacf; that module is not
    imported, they are kept as hypotheses here; `schemaOkB` also follows from C03's `SchemaValid`:
    `schema_conditions_of_valid`), `skipIncludeB` (a schema may shadow `@skip` / `@include`: C08's open finding),
    C10's `DocOK` (unique type names, field / member types defined and usable — what the schema check reports —, scalar
    texts clear of the printer's identifiers; the parse of a scalar text is not modelled: `Cfg.parses` is a supplied
    table, constrained by `DocOK.parses` only) and `CfgOk` (scalar value sets = configured texts — a definition, C09's
    subject —; no scalar text admits `null` / applies an absolute reference; `inhabited`: every composite type has a
    possible object type — an interface without implementing object type is valid GraphQL, its member type `never` is
    read as "key absent" by the trusted reading of `__SelectionSet`);
  * `noKeyClashB` (the name / sub-selection part of FieldsInSetCanMerge + Leaf Field Selections): part of spec validity,
    NOT checked by the real `check`
    (`C03_field_merge_not_implemented`, Props/C03FieldMerge.lean; open finding recorded under C08,
    `O:panic:generate:leaf-object-key-clash`);
  * the wrapper bound of `resultTree_ok` is sufficient, not necessary (`wrapper_bound_witness`);
  * `opFileOf` has only the import and the result-type statements of the operation file (no Variables types, no document
    constants): the theorems hold for EVERY flat file with that one star import (`C01_end_to_end`).
-/

end NitroVerif.Props.C01
