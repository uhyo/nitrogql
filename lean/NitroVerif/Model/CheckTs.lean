/-
Model of `check_type_system_document` (`crates/checker/src/type_system_checker/{mod,interfaces,
check_directive_recursion}.rs`) together with `generate_definition_map`
(`crates/semantics/src/definition_map.rs`), following the Rust control flow: same diagnostics, same
positions, same multiplicity, same order.

`DefinitionMap` has two views of the document:
  * `type_system` — the `Schema` built by `ast_to_type_system` (`entry().or_insert`: FIRST definition of a
    name wins) = `Gql.Schema` (`typeDef?`, `directiveDef?`);
  * `types` / `directives` — `HashMap::insert` in document order: the LAST definition of a name wins
    (`lastTypeDef?`, `lastDirectiveDef?`).
The two only differ on documents that define a name twice (which `resolve_schema_extensions` lets through
for definitions of different kinds and for directive definitions). Since fix 8cdbacf the checker itself starts
with `check_unique_names` (`checkUniqueNames`): a repeated type name (across kinds; also a user type that takes
the name of a built-in-position type) and a repeated user directive name get `DuplicatedName`; re-declaring a
built-in directive stays allowed.

The document is the *resolved* one (no extensions; built-ins included as data). Extension items, which
`TypeSystemDocument` cannot contain, are ignored.

The small part of `resolve_schema_extensions` that implements the rule "no two definitions of the same
kind with the same name" (`ExtensionList::set_original` → `DuplicateOriginal`) is `dupOriginal?`.

Core Lean only; structurally recursive (explicit fuel for the directive-recursion search and for the walk through nested
input objects inside it).
-/
import NitroVerif.Model.CheckTsCommon
namespace NitroVerif.CheckTs
open NitroVerif.Gql

/-- `definition_map.types.get(n)`: the last type definition named `n` -/
def lastTypeDef? (T : TsDoc) (n : Name) : Option TypeDef :=
  (Schema.typeDefs ⟨T⟩).reverse.find? (·.name == n)

/-- `definition_map.directives.get(n)`: the last directive definition named `n` -/
def lastDirectiveDef? (T : TsDoc) (n : Name) : Option DirectiveDef :=
  (Schema.directiveDefs ⟨T⟩).reverse.find? (·.name == n)

/-! ### interfaces.rs -/

/-- `check_valid_implementation(definitions, object_name, fields, implements, interface, result)` -/
def checkValidImpl (S : Schema) (namePos : Pos) (fields : List FieldDef) (implements : List (Name × Pos))
    (iface : TypeDef) : List Err :=
  ((iface.implements.filter fun imp => !(implements.any (·.1 == imp.1))).map
      fun _ => (ErrKind.InterfaceNotImplemented, namePos)) ++
  iface.fields.flatMap fun impF =>
    match fields.find? (·.name == impF.name) with
    | none => [(.InterfaceFieldNotImplemented, namePos)]
    | some f =>
      (impF.args.flatMap fun ia =>
        match f.args.find? (·.name == ia.name) with
        | none => [(.InterfaceArgumentNotImplemented, f.pos)]
        | some fa => if !(fa.ty.same ia.ty) then [(.ArgumentTypeMisMatchWithInterface, fa.pos)] else []) ++
      ((f.args.filter fun fa => impF.args.all (·.name != fa.name) && InputValueDef.required fa).map
        fun fa => (ErrKind.ArgumentTypeNonNullAgainstInterface, fa.pos)) ++
      (if isSubtype S f.ty impF.ty == some false then [(.FieldTypeMisMatchWithInterface, f.pos)] else [])

/-! ### check_directive_recursion.rs -/

/-- `directives_in_type` as it was before fix 2e4a65e, which is still what the repaired function returns for every
    kind but INPUT OBJECT — and, for an input object, the first part of the result (the directives on the type and on
    its fields, not those inside the types of its fields) -/
def directivesInTypeOld (t : TypeDef) : List Directive :=
  match t.kind with
  | .scalar | .union => t.dirs
  | .object | .interface => t.dirs ++ t.fields.flatMap (·.dirs)
  | .enum => t.dirs ++ t.values.flatMap (·.dirs)
  | .input => t.dirs ++ t.inputs.flatMap (·.dirs)

/-- the `for field in def.fields.iter()` loop of `directives_in_type` (input-object arm): the type of each field is looked
    up in `definition_map.types` (fields of an undefined type are skipped) and walked by `go` with the `seen_types` set
    the previous fields left behind; result = (directives appended to `result`, `seen_types` afterwards) -/
def ditFields (T : TsDoc) (go : TypeDef → List Name → List Directive × List Name) :
    List InputValueDef → List Name → List Directive × List Name
  | [], seen => ([], seen)
  | f :: fs, seen =>
    match lastTypeDef? T f.ty.unwrapped with
    | none => ditFields T go fs seen
    | some ft =>
      let r := go ft seen
      let r' := ditFields T go fs r.2
      (r.1 ++ r'.1, r'.2)

/-- `directives_in_type(definition_map, def, seen_types)` (since fix 2e4a65e) with the mutable `seen_types` threaded
    through: (directives returned, `seen_types` afterwards). An input object whose name is already in `seen_types`
    contributes nothing; otherwise its name is inserted, the directives on the type and on its fields come first, then —
    field by field, depth first — the directives inside the types of its fields. The fuel bounds the NESTING depth:
    every nested call that does not return at once has inserted a new input-object name of the document, so `|T| + 1`
    is never exhausted (`Lemmas/CheckTsWalk.lean`: `directivesInType_fuel`); the out-of-fuel branch is silent. -/
def ditWalk (T : TsDoc) : Nat → TypeDef → List Name → List Directive × List Name
  | 0, t, seen => if t.kind == .input then ([], seen) else (directivesInTypeOld t, seen)
  | fuel + 1, t, seen =>
    if t.kind == .input then
      if seen.contains t.name then ([], seen)
      else
        let r := ditFields T (ditWalk T fuel) t.inputs (t.name :: seen)
        (t.dirs ++ t.inputs.flatMap (·.dirs) ++ r.1, r.2)
    else (directivesInTypeOld t, seen)

/-- `directives_in_type(definition_map, def, &mut HashSet::new())`: the call made for the type of ONE argument of the
    directive definition being expanded (`seen_types` is created afresh for each argument) -/
def directivesInType (T : TsDoc) (t : TypeDef) : List Directive :=
  (ditWalk T (T.length + 1) t []).1

/-- the directive definitions pushed to `next_directives` when `d` is expanded -/
def dirSuccessors (T : TsDoc) (d : DirectiveDef) : List DirectiveDef :=
  (d.args.flatMap fun a =>
      a.dirs ++ (match lastTypeDef? T a.ty.unwrapped with
                 | none => []
                 | some t => directivesInType T t)).filterMap fun dir => lastDirectiveDef? T dir.name

/-- `dirSuccessors` before fix 2e4a65e (only the argument's own type was looked into); kept for the pre-repair
    witnesses -/
def dirSuccessorsOld (T : TsDoc) (d : DirectiveDef) : List DirectiveDef :=
  (d.args.flatMap fun a =>
      a.dirs ++ (match lastTypeDef? T a.ty.unwrapped with
                 | none => []
                 | some t => directivesInTypeOld t)).filterMap fun dir => lastDirectiveDef? T dir.name

/-- one `for d in current_directives` pass: (seen afterwards, diagnostics, next_directives) -/
def recRound (T : TsDoc) (start : Name) : List Name → List DirectiveDef → List Name × List Err × List DirectiveDef
  | seen, [] => (seen, [], [])
  | seen, d :: ds =>
    if seen.contains d.name then
      let r := recRound T start seen ds
      (r.1, (if d.name == start then [(ErrKind.RecursingDirective, d.pos)] else []) ++ r.2.1, r.2.2)
    else
      let r := recRound T start (d.name :: seen) ds
      (r.1, r.2.1, dirSuccessors T d ++ r.2.2)

/-- the `loop { … }`; every round that continues has put at least one new directive name into `seen`,
    so `#directive definitions + 2` rounds of fuel are never exhausted -/
def recLoop (T : TsDoc) (start : Name) : Nat → List Name → List DirectiveDef → List Err
  | 0, _, _ => []
  | fuel + 1, seen, cur =>
    let r := recRound T start seen cur
    if r.2.2.isEmpty then r.2.1 else r.2.1 ++ recLoop T start fuel r.1 r.2.2

/-- `check_directive_recursion(definition_map, directive, result)` -/
def checkDirectiveRecursion (T : TsDoc) (d : DirectiveDef) : List Err :=
  recLoop T d.name (T.length + 2) [] [d]

/-! ### mod.rs -/

/-- the type of an output field (object / interface): `NoInputType` for an input object type,
    `UnknownType` for an undefined one -/
def checkOutputFieldType (S : Schema) (ty : GType) : List Err :=
  match S.kindOf? ty.unwrapped with
  | some k => if Schema.isOutputKind k then [] else [(.NoInputType, typePos ty)]
  | none => [(.UnknownType, typePos ty)]

/-- the type of an argument or input field -/
def checkInputValueType (S : Schema) (ty : GType) : List Err :=
  match S.kindOf? ty.unwrapped with
  | none => [(.UnknownType, typePos ty)]
  | some k => if Schema.isInputKind k then [] else [(.NoOutputType, typePos ty)]

/-- `check_arguments_definition` -/
def checkArgsDef (S : Schema) (args : List InputValueDef) : List Err :=
  loopSeen (·.name) (fun dup (v : InputValueDef) =>
    (if reserved v.name then [(ErrKind.UnscoUnsco, v.pos)] else []) ++
    (if dup then [(.DuplicatedName, v.pos)] else []) ++
    checkInputValueType S v.ty ++
    checkDirectives S "ARGUMENT_DEFINITION" v.dirs) [] args

/-- the `for f in fields` loop shared by `check_object` and `check_interface` -/
def checkFields (S : Schema) (fields : List FieldDef) : List Err :=
  loopSeen (·.name) (fun dup (f : FieldDef) =>
    (if dup then [(ErrKind.DuplicatedName, f.pos)] else []) ++
    (if reserved f.name then [(.UnscoUnsco, f.pos)] else []) ++
    checkDirectives S "FIELD_DEFINITION" f.dirs ++
    checkOutputFieldType S f.ty ++
    checkArgsDef S f.args) [] fields

/-- the `for interface in object.implements` loop of `check_object` -/
def checkObjectImplements (T : TsDoc) (S : Schema) (t : TypeDef) : List Err :=
  t.implements.flatMap fun (n, p) =>
    match lastTypeDef? T n with
    | none => [(.UnknownType, p)]
    | some idef =>
      if idef.kind != .interface then [(.NotInterface, p)]
      else checkValidImpl S t.namePos t.fields t.implements idef

/-- the `for other_interface in interface.implements` loop of `check_interface` -/
def checkInterfaceImplements (T : TsDoc) (S : Schema) (t : TypeDef) : List Err :=
  t.implements.flatMap fun (n, p) =>
    if t.name == n then [(.NoImplementSelf, p)] else
    match lastTypeDef? T n with
    | none => [(.UnknownType, p)]
    | some idef =>
      if idef.kind != .interface then [(.NotInterface, p)]
      else checkValidImpl S t.namePos t.fields t.implements idef

def checkUnionMembers (T : TsDoc) (members : List (Name × Pos)) : List Err :=
  loopSeen (·.1) (fun dup (m : Name × Pos) =>
    (if dup then [(ErrKind.DuplicatedName, m.2)] else []) ++
    (match lastTypeDef? T m.1 with
     | none => [(.UnknownType, m.2)]
     | some d => if d.kind != .object then [(.NonObjectTypeUnionMember, m.2)] else [])) [] members

def checkEnumValues (S : Schema) (values : List EnumValueDef) : List Err :=
  loopSeen (·.name) (fun dup (v : EnumValueDef) =>
    (if dup then [(ErrKind.DuplicatedName, v.pos)] else []) ++
    (if reserved v.name then [(.UnscoUnsco, v.pos)] else []) ++
    checkDirectives S "ENUM_VALUE" v.dirs) [] values

def checkInputFields (S : Schema) (inputs : List InputValueDef) : List Err :=
  loopSeen (·.name) (fun dup (f : InputValueDef) =>
    (if dup then [(ErrKind.DuplicatedName, f.pos)] else []) ++
    (if reserved f.name then [(.UnscoUnsco, f.pos)] else []) ++
    checkDirectives S "INPUT_FIELD_DEFINITION" f.dirs ++
    checkInputValueType S f.ty) [] inputs

def locationOfKind : TypeKind → String
  | .scalar => "SCALAR" | .object => "OBJECT" | .interface => "INTERFACE"
  | .union => "UNION" | .enum => "ENUM" | .input => "INPUT_OBJECT"

/-- `check_scalar` / `check_object` / `check_interface` / `check_union` / `check_enum` / `check_input_object` -/
def checkTypeDef (T : TsDoc) (S : Schema) (t : TypeDef) : List Err :=
  (if reserved t.name then [(ErrKind.UnscoUnsco, t.namePos)] else []) ++
  checkDirectives S (locationOfKind t.kind) t.dirs ++
  (match t.kind with
   | .scalar => []
   | .object => checkFields S t.fields ++ checkObjectImplements T S t
   | .interface => checkFields S t.fields ++ checkInterfaceImplements T S t
   | .union => checkUnionMembers T t.members
   | .enum => checkEnumValues S t.values
   | .input => checkInputFields S t.inputs)

/-- `check_directive` -/
def checkDirectiveDef (T : TsDoc) (S : Schema) (d : DirectiveDef) : List Err :=
  checkDirectiveRecursion T d ++
  (if reserved d.name then [(ErrKind.UnscoUnsco, d.namePos)] else []) ++
  checkArgsDef S d.args

/-- `check_schema`: the directives at `SCHEMA` -/
def checkSchemaDef (_T : TsDoc) (S : Schema) (s : SchemaDef) : List Err :=
  checkDirectives S "SCHEMA" s.dirs

def checkItem (T : TsDoc) (S : Schema) : TsItem → List Err
  | .schemaDef s => checkSchemaDef T S s
  | .typeDef t => checkTypeDef T S t
  | .directiveDef d => checkDirectiveDef T S d
  | .schemaExt _ => []
  | .typeExt _ => []

/-! ### `check_unique_names` (fix 8cdbacf) -/

/-- the `match (other.position.builtin, name.position.builtin)` of `check_unique_names`: which of the two
    identifiers of one name is reported, if any. `other` is the identifier seen EARLIER, `cur` the current one. -/
def uniqueReport (isType : Bool) (other cur : Pos) : List Err :=
  match other.builtin, cur.builtin with
  | false, false => [(.DuplicatedName, cur)]
  | false, true => if isType then [(.DuplicatedName, other)] else []
  | true, false => if isType then [(.DuplicatedName, cur)] else []
  | true, true => []

/-- one iteration: `seen.iter().find(|other| other.name == name.name)` — the FIRST identifier pushed with that
    name — then the report -/
def uniqueStep (isType : Bool) (seen : List (Name × Pos)) (name : Name) (pos : Pos) : List Err :=
  match seen.find? (·.1 == name) with
  | none => []
  | some other => uniqueReport isType other.2 pos

/-- the `for def in document.definitions` loop of `check_unique_names` with its two vectors `seen_types`,
    `seen_directives` (in push order); schema definitions are skipped -/
def checkUniqueNamesAux : List (Name × Pos) → List (Name × Pos) → TsDoc → List Err
  | _, _, [] => []
  | st, sd, .typeDef t :: r =>
    uniqueStep true st t.name t.namePos ++ checkUniqueNamesAux (st ++ [(t.name, t.namePos)]) sd r
  | st, sd, .directiveDef d :: r =>
    uniqueStep false sd d.name d.namePos ++ checkUniqueNamesAux st (sd ++ [(d.name, d.namePos)]) r
  | st, sd, _ :: r => checkUniqueNamesAux st sd r

/-- `check_unique_names(document, &mut result)` -/
def checkUniqueNames (T : TsDoc) : List Err := checkUniqueNamesAux [] [] T

/-- the `for def in document.definitions { match def … }` loop of `check_type_system_document`: the
    per-definition diagnostics. This is ALL the function reported before fix 8cdbacf (pre-repair witnesses are
    stated about it). -/
def checkSchemaItems (T : TsDoc) : List Err :=
  T.flatMap (checkItem T ⟨T⟩)

/-- `check_type_system_document(document)`: the name-uniqueness diagnostics first, then the per-definition ones -/
def checkSchema (T : TsDoc) : List Err :=
  checkUniqueNames T ++ checkSchemaItems T

/-! ### the duplicate-definition rule of `resolve_schema_extensions` -/

/-- `ExtensionList::set_original` over the seven lists: the first definition (in document order) whose
    (kind, name) — or "schema" — was already set. `none` = no `DuplicateOriginal` error. -/
def dupOriginalAux : List (Option (TypeKind × Name)) → TsDoc → Option (Option (TypeKind × Name))
  | _, [] => none
  | seen, .schemaDef _ :: r =>
    if seen.contains none then some none else dupOriginalAux (none :: seen) r
  | seen, .typeDef t :: r =>
    if seen.contains (some (t.kind, t.name)) then some (some (t.kind, t.name))
    else dupOriginalAux (some (t.kind, t.name) :: seen) r
  | seen, _ :: r => dupOriginalAux seen r

def dupOriginal? (T : TsDoc) : Option (Option (TypeKind × Name)) := dupOriginalAux [] T

end NitroVerif.CheckTs
